import PqModel.MergeKProof
import PqModel.Dedupe

/-! # C09 — `mergeRowReaders` as a whole: sessions of `ReadRows` calls, and `dedupe` -/
namespace PqModel.Merge

def Reader.Ok : Reader → Prop
  | .empty => True
  | .one b => b.win = []
  | .two s => s.Ok
  | .many s => s.Ok

theorem emits_one (src : List Row) (n : Nat) : Emits [src] (src.take n) [src.drop n] := by
  have := emits_prefix (ins := [src]) (i := 0) (src.take n) (src.drop n) (by simp) (by
    intro x _ j l y hj hl _
    match j, hj, hl with
    | j + 1, _, hl => simp at hl)
  simpa using this

theorem Reader.readRows_spec (r : Reader) (m : Nat) (hok : r.Ok) (hs : ∀ l ∈ r.rem, SortedK l) :
    Emits r.rem (r.readRows m).1 (r.readRows m).2.2.rem ∧ (r.readRows m).2.2.Ok ∧
    ((r.readRows m).2.1 = true → ∀ l ∈ (r.readRows m).2.2.rem, l = []) ∧
    (1 ≤ m → (r.readRows m).2.1 = true ∨ (r.readRows m).1 ≠ []) := by
  cases r with
  | empty =>
    exact ⟨Emits.nil, trivial, fun _ l hl => by simp [Reader.rem, Reader.readRows] at hl, fun _ => Or.inl rfl⟩
  | one b =>
    have hw : b.win = [] := hok
    simp only [Reader.readRows]
    split
    · rename_i hsrc
      refine ⟨Emits.nil, hok, ?_, fun _ => Or.inl rfl⟩
      intro _ l hl
      simp [Reader.rem, Buf.rem, hw, hsrc] at hl; exact hl
    · rename_i x xs hsrc
      refine ⟨?_, hw, by simp, fun hm => Or.inr ?_⟩
      · simp only [Reader.rem, Buf.rem, hw, List.nil_append]
        exact emits_one _ _
      · have : 1 ≤ (match b.sizes with | [] => m | s :: _ => max 1 s) := by split <;> omega
        have hlen : b.src.length = xs.length + 1 := by rw [hsrc]; rfl
        exact fun e => (List.take_eq_nil_iff.mp e).elim
          (Nat.ne_of_gt (Nat.lt_min.mpr ⟨hm, Nat.lt_min.mpr ⟨this, by omega⟩⟩)) (by rw [hsrc]; exact List.cons_ne_nil x xs)
  | two s =>
    obtain ⟨h1, h2, h3, h4⟩ := M2.readRows_spec s m hok hs
    refine ⟨h1, fun hi => ?_, h3, h4⟩
    rw [show (s.readRows m).2.2.initialized = true from h2] at hi; cases hi
  | many s => exact MK.readRows_spec s m hok hs

theorem Reader.session_emits (bs : List Nat) (r : Reader) (hok : r.Ok) (hs : ∀ l ∈ r.rem, SortedK l) :
    Emits r.rem (r.session bs).1.flatten (r.session bs).2.2.rem ∧
    ((r.session bs).2.1 = true → ∀ l ∈ (r.session bs).2.2.rem, l = []) := by
  -- cases: no call left; a call that answers io.EOF; a call, and the session goes on
  fun_induction Reader.session r bs with
  | case1 r => exact ⟨Emits.nil, by simp⟩
  | case2 r m ms heof =>
    obtain ⟨h1, _, h3, _⟩ := Reader.readRows_spec r m hok hs
    simp only [List.flatten_cons, List.flatten_nil, List.append_nil]
    exact ⟨h1, fun _ => h3 heof⟩
  | case3 r m ms heof rec_ ih =>
    obtain ⟨h1, h2, _, _⟩ := Reader.readRows_spec r m hok hs
    have ih := ih h2 (emits_sorted h1 hs).2.2
    simp only [List.flatten_cons]
    exact ⟨Emits.trans h1 ih.1, ih.2⟩

/-- the number of rows not yet emitted: the measure of `session_eof` -/
def Reader.size (r : Reader) : Nat := r.rem.flatten.length

theorem Reader.session_eof (bs : List Nat) (r : Reader) (hok : r.Ok) (hs : ∀ l ∈ r.rem, SortedK l)
    (hpos : ∀ b ∈ bs, 1 ≤ b) (hlen : r.size < bs.length) : (r.session bs).2.1 = true := by
  fun_induction Reader.session r bs with
  | case1 r => simp at hlen
  | case2 r m ms heof => rfl
  | case3 r m ms hne rec_ ih =>
    obtain ⟨h1, h2, _, hprog⟩ := Reader.readRows_spec r m hok hs
    have hout : (r.readRows m).1 ≠ [] := (hprog (hpos m (by simp))).resolve_left hne
    have hperm := (emits_perm h1).length_eq
    simp only [List.length_append] at hperm
    have hpos' : 0 < (r.readRows m).1.length := List.length_pos_iff.mpr hout
    apply ih h2 (emits_sorted h1 hs).2.2 (fun b hb => hpos b (by simp [hb]))
    simp only [Reader.size, List.length_cons] at hlen ⊢
    omega

theorem mkBufs_rem (inputs : List (List Row)) (refills : List (List Nat)) :
    (mkBufs inputs refills).map Buf.rem = inputs := by
  apply List.ext_getElem
  · simp [mkBufs]
  · intro i h1 h2
    simp [mkBufs, Buf.rem, Buf.fresh, List.getD_eq_getElem?_getD, List.getElem?_eq_getElem h2]

theorem Reader.new_rem (inputs : List (List Row)) (refills : List (List Nat)) :
    (Reader.new inputs refills).rem = inputs := by
  unfold Reader.new
  split
  · rfl
  · simp [Reader.rem, Buf.rem, Buf.fresh]
  · simp [Reader.rem, M2.new, Buf.rem, Buf.fresh]
  · simp only [Reader.rem, MK.new]; exact mkBufs_rem inputs refills

theorem Reader.new_ok (inputs : List (List Row)) (refills : List (List Nat)) :
    (Reader.new inputs refills).Ok := by
  unfold Reader.new
  split
  · trivial
  · rfl
  · intro _
    constructor <;> (intro b hb; simp [M2.new] at hb; subst hb; rfl)
  · refine ⟨fun _ b hb => ?_, fun h => by simp [MK.new] at h⟩
    simp only [MK.new, mkBufs, List.mem_map] at hb
    obtain ⟨i, _, rfl⟩ := hb
    rfl

theorem Reader.new_size (inputs : List (List Row)) (refills : List (List Nat)) :
    (Reader.new inputs refills).size = inputs.flatten.length := by
  rw [Reader.size, Reader.new_rem]

theorem Reader.session_isMerge_of_eof (ins : List (List Row)) (refills : List (List Nat)) (batches : List Nat)
    (hs : ∀ l ∈ ins, SortedK l) (hw : WellTagged ins)
    (heof : ((Reader.new ins refills).session batches).2.1 = true) :
    IsMerge ins ((Reader.new ins refills).session batches).1.flatten := by
  obtain ⟨hE, hdone⟩ := Reader.session_emits batches (Reader.new ins refills) (Reader.new_ok _ _)
    (by rw [Reader.new_rem]; exact hs)
  rw [Reader.new_rem] at hE
  exact isMerge_of_emits hE (hdone heof) hs hw

theorem session_isMerge (ins : List (List Row)) (refills : List (List Nat)) (batches : List Nat)
    (hs : ∀ l ∈ ins, SortedK l) (hw : WellTagged ins) (hpos : ∀ b ∈ batches, 1 ≤ b)
    (hlen : ins.flatten.length < batches.length) :
    IsMerge ins ((Reader.new ins refills).session batches).1.flatten := by
  refine Reader.session_isMerge_of_eof ins refills batches hs hw ?_
  apply Reader.session_eof batches _ (Reader.new_ok ins refills) (by rw [Reader.new_rem]; exact hs) hpos
  rw [Reader.new_size]; exact hlen

theorem tagInputs_get {keys : List (List Int)} {i : Nat} {l : List Row} (h : (tagInputs keys)[i]? = some l) :
    ∃ ks, keys[i]? = some ks ∧ l = tagList i ks := by
  obtain ⟨hlt, rfl⟩ := getElem?_map_range _ h
  exact ⟨keys[i], List.getElem?_eq_getElem hlt, by rw [ListFacts.getD_of_lt _ hlt]⟩

theorem tagInputs_wellTagged (keys : List (List Int)) : WellTagged (tagInputs keys) := by
  intro i l hl x hx
  obtain ⟨ks, _, rfl⟩ := tagInputs_get hl
  simp only [tagList, List.mem_map] at hx
  obtain ⟨j, _, rfl⟩ := hx
  rfl

theorem tagList_sorted (i : Nat) (ks : List Int) (h : ks.Pairwise (· ≤ ·)) : SortedK (tagList i ks) := by
  rw [SortedK, List.pairwise_iff_getElem]
  intro a b ha hb hab
  simp only [tagList, List.length_map, List.length_range] at ha hb
  simp only [tagList, List.getElem_map, List.getElem_range, List.getD_eq_getElem?_getD,
    List.getElem?_eq_getElem ha, List.getElem?_eq_getElem hb, Option.getD_some]
  exact List.pairwise_iff_getElem.mp h a b ha hb hab

theorem tagInputs_sorted (keys : List (List Int)) (h : ∀ ks ∈ keys, ks.Pairwise (· ≤ ·)) :
    ∀ l ∈ tagInputs keys, SortedK l := by
  intro l hl
  obtain ⟨i, hi⟩ := List.getElem?_of_mem hl
  obtain ⟨ks, hks, rfl⟩ := tagInputs_get hi
  exact tagList_sorted i ks (h ks (List.mem_of_getElem? hks))

theorem dedupeBatch_append (a b : List Row) (last : Option Row) :
    dedupeBatch last (a ++ b) =
      ((dedupeBatch last a).1 ++ (dedupeBatch (dedupeBatch last a).2.2 b).1,
       (dedupeBatch last a).2.1 ++ (dedupeBatch (dedupeBatch last a).2.2 b).2.1,
       (dedupeBatch (dedupeBatch last a).2.2 b).2.2) := by
  -- cases: no row; the first row ever; a repeat of the last row; a new row
  fun_induction dedupeBatch last a with
  | case1 => simp
  | case2 row rows r ih => simp [dedupeBatch, ih, r]
  | case3 l row rows h r ih => simp [dedupeBatch, h, ih, r]
  | case4 l row rows h r ih => simp [dedupeBatch, h, ih, r]

/-- what the caller of the dedupe reader receives does not depend on how the rows arrive in batches -/
theorem dedupeReader_flatten (bs : List (List Row)) (last : Option Row) :
    dedupeReader last bs = (dedupeBatch last bs.flatten).1 := by
  fun_induction dedupeReader last bs with
  | case1 => simp [dedupeBatch]
  | case2 last b bs r ih => simpa [r, deduplicate, dedupeBatch_append] using ih

/-- both mirror the one `deduplicate` -/
theorem dedupeBatch_fst (last : Option Row) (L : List Row) : (dedupeBatch last L).1 = SortBuf.dedupRun cmp last L := by
  fun_induction dedupeBatch last L <;> simp +zetaDelta [SortBuf.dedupRun, *]

theorem dedupeBatch_sorted (L : List Row) (last : Option Row) (hs : SortedK L)
    (hl : ∀ l ∈ last, ∀ x ∈ L, l.key ≤ x.key) :
    (dedupeBatch last L).1.Sublist L ∧
    (dedupeBatch last L).1.Pairwise (fun a b => a.key < b.key) ∧
    (∀ l ∈ last, ∀ y ∈ (dedupeBatch last L).1, l.key < y.key) ∧
    (∀ x ∈ L, (∃ y ∈ (dedupeBatch last L).1, y.key = x.key) ∨ (∃ l ∈ last, l.key = x.key)) :=
  dedupeBatch_fst last L ▸ SortBuf.dedupRun_spec (rank := fun r : Row => r.key) (fun _ _ => cmp_eq) L last hs hl

end PqModel.Merge
