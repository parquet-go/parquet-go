import PqModel.BloomWriter

/-! # Filters over several segments (C07)

Write side — MIRROR of `writer_reencode.go`:
* `writeSegmentsPacked` (lines 98-150): how the segments of a segmented row group (a `MergeRowGroups`
  view of non-overlapping file row groups) are batched into output row groups (`packBatches`);
* `packSegmentsByColumn` (153-169) + `configureBloomFiltersForSegments` (177-193): the filter of every
  column is sized ONCE for the value total of the batch, then the segments are copied column by column,
  pages being inserted into the filter as they are flushed (`writeDataPage`). `resizeBloomFilter`
  (writer.go) re-allocates AND ZEROES the filter, which is why the place of the call matters: the
  filter under construction is modelled as a fold over events (`FEv`).

Read side — MIRROR of `multi_row_group.go:341-350` `multiBloomFilter.Check`: the filter of a column of
a `MultiRowGroup` asks the member chunks' filters in order; an answer is the Go pair `(bool, error)`.

Not modelled: the value copy itself (`copyColumnValues`; values arrive in order: C11), where the
column buffer cuts pages (any page list is allowed). -/
namespace PqModel.BloomSegments
open PqModel.XxHash PqModel.Bloom PqModel.BloomWriter

/-- what happens to `c.filter` of one column while one output row group is assembled -/
inductive FEv where
  /-- `resizeBloomFilter(numValues)`: `c.filter = make/clear(Size(numValues))` — previous bits are gone -/
  | resize (numValues : Nat)
  /-- `writeDataPage(page)`: inserted iff `page.Dictionary() == nil && len(c.filter) > 0` -/
  | page (p : WPage)

/-- MIRROR of `resizeBloomFilter` / the insertion of `writeDataPage`, one event -/
def fstep (kind : Kind) (bits : Nat) (b : Built) : FEv → Built
  | .resize n => (filterSize bits n, [])
  | .page p => (b.1, b.2 ++ (if !p.indexed && b.1 > 0 then pageHashes kind p.values else []))

def frun (kind : Kind) (bits : Nat) (b : Built) (evs : List FEv) : Built := evs.foldl (fstep kind bits) b

/-- one source segment as `packSegmentsByColumn` sees it for one column -/
structure Segment where
  /-- `chunk.NumValues()` of the source chunk (nulls included) -/
  numValues : Nat
  /-- `chunkNumValuesIsExact(chunk)` -/
  exact : Bool
  /-- the pages the destination column writer FLUSHES while this segment is copied (they may hold values
      of earlier segments that were still in the column buffer); the pages flushed by the final
      `writeRowGroup` belong to the last segment -/
  pages : List WPage

/-- MIRROR `configureBloomFiltersForSegments`, writer_reencode.go:177-193, one column with a filter:
    `some total` = `c.resizeBloomFilter(total)`, `none` = left unallocated -/
def packedTotal (segs : List Segment) : Option Nat :=
  if segs.all (·.exact) then some ((segs.map (·.numValues)).sum) else none

/-- `len(c.filter)` while the pages of the packed row group are written -/
def packedPresize (bits : Nat) (segs : List Segment) : Nat :=
  match packedTotal segs with
  | some t => filterSize bits t
  | none => 0

def allPages (segs : List Segment) : List WPage := segs.flatMap (·.pages)

/-- MIRROR `packSegmentsByColumn`, writer_reencode.go:153-169: configure once, then every segment -/
def packedEvents (segs : List Segment) : List FEv :=
  (match packedTotal segs with | some t => [FEv.resize t] | none => []) ++ (allPages segs).map FEv.page

/-- SLIP (seeded change C07-4a): the filter "configured" inside the segment loop, from each segment's
    own chunk (`configureBloomFilters(seg.ColumnChunks(), seg.NumRows())`) -/
def packedEventsPerSegment (segs : List Segment) : List FEv :=
  segs.flatMap (fun s => (if s.exact then [FEv.resize s.numValues] else []) ++ s.pages.map FEv.page)

/-- the chunk `flushFilterPages` sees at the end of the packed row group -/
def packedChunk (kind : Kind) (bits : Nat) (segs : List Segment) (dictionary : Option (List Value))
    (switched : Bool) (numValues : Nat) : ChunkWrite :=
  { kind := kind, bits := bits, pages := allPages segs, dictionary := dictionary, switched := switched,
    presized := packedPresize bits segs, numValues := numValues }

/-- the hashes the pages insert into a filter of `size` bytes that is never re-allocated -/
def insertedInto (kind : Kind) (size : Nat) (pages : List WPage) : List UInt64 :=
  pages.flatMap (fun p => if !p.indexed && size > 0 then pageHashes kind p.values else [])

theorem incremental_eq_insertedInto (c : ChunkWrite) : incremental c = insertedInto c.kind c.presized c.pages := rfl

theorem frun_pages (kind : Kind) (bits : Nat) (b : Built) (pages : List WPage) :
    frun kind bits b (pages.map FEv.page) = (b.1, b.2 ++ insertedInto kind b.1 pages) := by
  induction pages generalizing b with
  | nil => simp [frun, insertedInto]
  | cons p ps ih =>
    have e : frun kind bits b ((p :: ps).map FEv.page) = frun kind bits (fstep kind bits b (.page p)) (ps.map FEv.page) := rfl
    rw [e, ih]
    simp only [fstep, insertedInto, List.flatMap_cons, List.append_assoc]
    rfl

theorem frun_append (kind : Kind) (bits : Nat) (b : Built) (xs ys : List FEv) :
    frun kind bits b (xs ++ ys) = frun kind bits (frun kind bits b xs) ys := by
  simp [frun, List.foldl_append]

/-- MIRROR of the loop of `writeSegmentsPacked`, writer_reencode.go:124-146, on row counts.
    `segs` = (rows, columnOriented?) per segment; result: batches in output order, a batch being the
    list of segment indexes written together. State: finished batches (reversed), pending (reversed),
    pending rows, next index. A segment that is not column oriented is a batch of its own. -/
def packLoop (maxRows : Nat) : List (Nat × Bool) → List (List Nat) → List Nat → Nat → Nat → List (List Nat)
  | [], done, pending, _, _ => (if pending.isEmpty then done else pending.reverse :: done).reverse
  | (rows, true) :: rest, done, pending, pendingRows, i =>
    if pendingRows > 0 && pendingRows + rows > maxRows then
      packLoop maxRows rest (if pending.isEmpty then done else pending.reverse :: done) [i] rows (i + 1)
    else packLoop maxRows rest done (i :: pending) (pendingRows + rows) (i + 1)
  | (_, false) :: rest, done, pending, _, i =>
    packLoop maxRows rest ([i] :: (if pending.isEmpty then done else pending.reverse :: done)) [] 0 (i + 1)

def packBatches (maxRows : Nat) (segs : List (Nat × Bool)) : List (List Nat) := packLoop maxRows segs [] [] 0 0

/-- the Go pair `(bool, error)` a `BloomFilter.Check` returns: `err = true` ⇔ error non-nil -/
structure Ans where
  ok : Bool
  err : Bool
  deriving DecidableEq, Repr

/-- "absent": `(false, nil)` — the only answer that lets a reader skip the chunk -/
def Ans.absent : Ans := ⟨false, false⟩

/-- MIRROR `multiBloomFilter.Check`, multi_row_group.go:341-350. A member is `none` when its chunk's
    `BloomFilter()` is nil, else the answer of its `Check`. -/
def multiCheck : List (Option Ans) → Ans
  | [] => ⟨false, false⟩
  | none :: ms => multiCheck ms
  | some a :: ms => if a.ok || a.err then a else multiCheck ms

/-- SLIP (seeded change C07-4b): the early return only on `ok` -/
def multiCheckDropErr : List (Option Ans) → Ans
  | [] => ⟨false, false⟩
  | none :: ms => multiCheckDropErr ms
  | some a :: ms => if a.ok then a else multiCheckDropErr ms

/-- what a member filter answers for hash `h`. `io = false`: the storage failed while the filter (its
    header, its gzip stream or the 32-byte block) was fetched: the error is returned, the boolean is
    whatever the (pooled) block held — `junk`. Otherwise the answer of `readCheck`; a gzip stream that
    does not decompress is an error too. -/
def memberAnswer (dec : List UInt8 → Option (List UInt8)) (s : Stored) (io : Bool) (junk : Bool) (h : BitVec 64) : Ans :=
  if !io then ⟨junk, true⟩
  else match readCheck dec s h with
    | some b => ⟨b, false⟩
    | none => ⟨false, true⟩

end PqModel.BloomSegments
