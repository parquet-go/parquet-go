import PqModel.ColWriterLemmas

/-! # C11 — the row path above `ColumnWriter` at the row-group level: `MaxRowsPerRowGroup`

MIRROR of `ConcurrentRowGroupWriter.writeRows` WITH its row limit (writer.go:1046-1079),
`writer.WriteRows` (writer.go:1895-1909: on `ErrTooManyRowGroups` the row group is flushed and the
remaining rows go to the next one) and of what `writeRowGroup` does to a column and to the row
counter (writer.go:1524-1531 the row count from `totalRowCount`, nothing written for 0 rows;
1541-1542 `rg.reset()`; 1569-1572 `Flush` of the column), for ONE column of the row group —
`writeRowGroup` reads the row count off column 0, so the model is the file as seen through a column
under the assumption that every column is given the same rows (true of the row path; the caller's
duty on the column-oriented path, see `colpath_ignores_max_rows` in `Props/C11ColWriterRows.lean`). -/
namespace PqModel.ColWriter

structure RGW where
  /-- `rg.numRows`: rows written through `WriteRows` since the last `reset()` -/
  numRows : Nat
  /-- one of `rg.columns` -/
  col : CW
  /-- the row groups written so far: `NumRows` and the column's data pages -/
  groups : List (Nat × List (List Val))
  deriving DecidableEq, Repr

def RGW.init : RGW := ⟨0, fresh, []⟩

/-- MIRROR writer.go:1524-1531, 1541-1542, 1569-1572 + `ColumnWriter.reset` (writer.go:2085-2143:
    the buffer object is kept and emptied, pages and counters are cleared). -/
def writeRowGroup (k : Kind) (s : RGW) : RGW :=
  let n := totalRowCount k s.col
  if n = 0 then s else
  { numRows := 0, col := { fresh with buf := s.col.buf.map fun _ => [] },
    groups := s.groups ++ [(n, (flush k s.col).pages)] }

/-- MIRROR writer.go:1046-1079 `writeRows` (second component: the rows not written; third:
    `ErrTooManyRowGroups`). One unit of fuel per chunk. -/
def rgWriteRows (k : Kind) (bufferSize maxRows : Nat) :
    Nat → RGW → List (List Val) → RGW × List (List Val) × Bool
  | 0, s, rows => (s, rows, false)
  | fuel + 1, s, rows =>
    if rows.isEmpty then (s, [], false) else
    if maxRows ≤ s.numRows then (s, rows, true) else         -- remain <= 0
    let length := min (min rows.length (maxRows - s.numRows)) 64
    let vs := (rows.take length).flatten
    let col' := if vs.isEmpty then s.col else (writeRowValues k bufferSize s.col vs).1
    rgWriteRows k bufferSize maxRows fuel { s with col := col', numRows := s.numRows + length }
      (rows.drop length)

/-- MIRROR writer.go:1895-1909 `writer.WriteRows`. One unit of fuel per row group started. -/
def writerWriteRows (k : Kind) (bufferSize maxRows : Nat) : Nat → RGW → List (List Val) → RGW
  | 0, s, _ => s
  | fuel + 1, s, rows =>
    if rows.isEmpty then s else
    let r := rgWriteRows k bufferSize maxRows (rows.length + 1) s rows
    if r.2.2 then writerWriteRows k bufferSize maxRows fuel (writeRowGroup k r.1) r.2.1 else r.1

/-- `Writer.ColumnWriters()[i].WriteRowValues(vs)`: the column writer is the row group's, the row
    counter of the row group (`rg.numRows`) is not touched (writer.go:2419-2437 has no access to it). -/
def cwWrite (k : Kind) (bufferSize : Nat) (s : RGW) (vs : List Val) : RGW :=
  { s with col := (writeRowValues k bufferSize s.col vs).1 }

/-- a row of the column: starts at repetition level 0 and is one row for `Len()` -/
def rowOK (k : Kind) (r : List Val) : Prop := headOK k r = true ∧ bufLen k r = 1

/-- the values of the column in the row groups written, in order -/
def RGW.stream (s : RGW) : List Val := (s.groups.map fun g => g.2.flatten).flatten

/-- invariant: `cur` = the values handed to the current row group, `all` = everything so far -/
structure RGood (k : Kind) (maxRows : Nat) (s : RGW) (cur all : List Val) : Prop where
  col : Good k s.col cur
  rows : s.numRows = bufLen k cur
  le : s.numRows ≤ maxRows
  stream : s.stream ++ cur = all
  groups : ∀ g ∈ s.groups, 0 < g.1 ∧ g.1 ≤ maxRows ∧ g.1 = bufLen k g.2.flatten

theorem good_cur_nil {k : Kind} {c : CW} {cur : List Val} (h : Good k c cur) (h0 : bufLen k cur = 0) :
    cur = [] ∧ c.pages = [] := by
  rw [← h.stream, bufLen_append] at h0
  have hv : c.vals = [] := eq_nil_of_len_zero h.head (by omega)
  have hp : c.pages = [] := by
    cases hps : c.pages with
    | nil => rfl
    | cons p ps =>
      have := h.pagesOK p (by simp [hps])
      rw [hps, List.flatten_cons, bufLen_append] at h0
      exact absurd (eq_nil_of_len_zero this.2 (by omega)) this.1
  refine ⟨?_, hp⟩
  rw [← h.stream, hv, hp]; rfl

theorem good_reset (k : Kind) (b : Option (List Val)) :
    Good k { fresh with buf := b.map fun _ => [] } [] := by
  refine ⟨?_, ?_, by simp [fresh], rfl, rfl, rfl⟩
  · cases b <;> simp [fresh, CW.vals]
  · cases b <;> simpa [fresh, CW.vals] using headOK_nil k

theorem rgood_init (k : Kind) (maxRows : Nat) : RGood k maxRows RGW.init [] [] :=
  ⟨good_fresh k, by simp [RGW.init, bufLen_nil], by simp [RGW.init], by simp [RGW.init, RGW.stream],
    by simp [RGW.init]⟩

theorem rgood_writeRowGroup {k : Kind} {maxRows : Nat} {s : RGW} {cur all : List Val}
    (h : RGood k maxRows s cur all) :
    RGood k maxRows (writeRowGroup k s) [] all ∧ (writeRowGroup k s).numRows = 0 ∧
    (writeRowGroup k s).col.pages = [] := by
  have ht := totalRowCount_good h.col
  unfold writeRowGroup
  simp only
  by_cases hn : totalRowCount k s.col = 0
  · simp only [hn, if_true]
    have hc := good_cur_nil h.col (by omega)
    have h0 : s.numRows = 0 := by rw [h.rows, ← ht, hn]
    refine ⟨?_, h0, hc.2⟩
    have := h
    rw [hc.1] at this
    exact this
  · simp only [hn, if_false]
    refine ⟨⟨good_reset k _, by simp [bufLen_nil], by simp, ?_, ?_⟩, by simp, by simp [fresh]⟩
    · simp only [RGW.stream, List.map_append, List.map_cons, List.map_nil, List.flatten_append,
        List.flatten_cons, List.flatten_nil, List.append_nil, show (flush k s.col).pages.flatten = cur from h.col.written]
      exact h.stream
    · intro g hg
      simp only [List.mem_append, List.mem_singleton] at hg
      rcases hg with hg | rfl
      · exact h.groups g hg
      · simp only [show (flush k s.col).pages.flatten = cur from h.col.written]
        refine ⟨by omega, ?_, ht⟩
        rw [ht, ← h.rows]; exact h.le

theorem bufLen_flatten_rows {k : Kind} : ∀ (l : List (List Val)), (∀ r ∈ l, rowOK k r) →
    bufLen k l.flatten = l.length
  | [], _ => by simp [bufLen_nil]
  | r :: l, h => by
    simp only [List.flatten_cons, bufLen_append, List.length_cons,
      bufLen_flatten_rows l (fun r' hr' => h r' (by simp [hr'])), (h r (by simp)).2]
    omega

theorem rgood_chunk {k : Kind} {maxRows : Nat} (bufferSize : Nat) {s : RGW} {cur all : List Val}
    (hg : RGood k maxRows s cur all) {chunk : List (List Val)} (hc : ∀ r ∈ chunk, rowOK k r)
    (hfit : s.numRows + chunk.length ≤ maxRows) :
    RGood k maxRows
      { s with col := if chunk.flatten.isEmpty then s.col else (writeRowValues k bufferSize s.col chunk.flatten).1,
               numRows := s.numRows + chunk.length }
      (cur ++ chunk.flatten) (all ++ chunk.flatten) := by
  refine ⟨?_, by simp only [bufLen_append, bufLen_flatten_rows _ hc, hg.rows], hfit,
    by simp only [RGW.stream, ← List.append_assoc]; rw [← hg.stream]; rfl, hg.groups⟩
  split
  · next hv => rw [List.isEmpty_iff.mp hv, List.append_nil]; exact hg.col
  · exact good_write bufferSize hg.col (headOK_flatten fun r hr => (hc r hr).1)

theorem rgWriteRows_spec (k : Kind) (bufferSize maxRows : Nat) :
    ∀ (fuel : Nat) (s : RGW) (rows : List (List Val)) (cur all : List Val),
      RGood k maxRows s cur all → (∀ r ∈ rows, rowOK k r) → rows.length < fuel →
      ∃ done cur', rows = done ++ (rgWriteRows k bufferSize maxRows fuel s rows).2.1 ∧
        RGood k maxRows (rgWriteRows k bufferSize maxRows fuel s rows).1 cur' (all ++ done.flatten) ∧
        ((rgWriteRows k bufferSize maxRows fuel s rows).2.2 = false →
          (rgWriteRows k bufferSize maxRows fuel s rows).2.1 = []) ∧
        -- progress: what makes one unit of `writerWriteRows`' fuel per row group enough
        (s.numRows < maxRows → rows ≠ [] → done ≠ []) := by
  intro fuel s rows
  -- cases of `rgWriteRows`: no fuel; no rows; row group full; a chunk of at most 64 rows
  fun_induction rgWriteRows k bufferSize maxRows fuel s rows with
  | case1 => intro _ _ _ _ hl; cases hl
  | case2 fuel s rows he =>
    intro cur all hg _ _
    rw [List.isEmpty_iff.mp he]
    exact ⟨[], cur, rfl, by simpa using hg, fun _ => rfl, fun _ h => absurd rfl h⟩
  | case3 fuel s rows he hm =>
    intro cur all hg _ _
    exact ⟨[], cur, by simp, by simpa using hg, by simp, by omega⟩
  | case4 fuel s rows he hm length vs col' ih =>
    intro cur all hg hr hl
    have hpos : 0 < rows.length := List.length_pos_iff.mpr (by simpa [List.isEmpty_iff] using he)
    have hl1 : 0 < length := Nat.lt_min.2 ⟨Nat.lt_min.2 ⟨hpos, Nat.sub_pos_of_lt (Nat.lt_of_not_le hm)⟩, by decide⟩
    have hl2 : length ≤ rows.length := Nat.le_trans (Nat.min_le_left ..) (Nat.min_le_left ..)
    have hl3 : length ≤ maxRows - s.numRows := Nat.le_trans (Nat.min_le_left ..) (Nat.min_le_right ..)
    have e : (rows.take length).length = length := by rw [List.length_take, Nat.min_eq_left hl2]
    have hg' := rgood_chunk bufferSize hg (chunk := rows.take length)
      (fun r hm' => hr r (List.mem_of_mem_take hm')) (by omega)
    rw [e] at hg'
    obtain ⟨done, cur', h1, h2, h3, _⟩ := ih _ _ hg'
      (fun r hm' => hr r (List.mem_of_mem_drop hm')) (by rw [List.length_drop]; omega)
    refine ⟨rows.take length ++ done, cur', ?_, ?_, h3, ?_⟩
    · rw [List.append_assoc, ← h1, List.take_append_drop]
    · simpa [List.flatten_append, List.append_assoc] using h2
    · intro _ _ hd
      have := congrArg List.length (List.append_eq_nil_iff.mp hd).1
      rw [e] at this
      exact absurd this (Nat.ne_of_gt hl1)

theorem writerWriteRows_spec (k : Kind) (bufferSize maxRows : Nat) :
    ∀ (fuel : Nat) (s : RGW) (rows : List (List Val)) (cur all : List Val),
      RGood k maxRows s cur all → (∀ r ∈ rows, rowOK k r) → s.numRows < maxRows → rows.length < fuel →
      ∃ cur', RGood k maxRows (writerWriteRows k bufferSize maxRows fuel s rows) cur' (all ++ rows.flatten) := by
  intro fuel
  induction fuel with
  | zero => intro s rows cur all _ _ _ hl; omega
  | succ fuel ih =>
    intro s rows cur all hg hr hlt hl
    unfold writerWriteRows
    by_cases he : rows.isEmpty = true
    · have : rows = [] := List.isEmpty_iff.mp he
      subst this
      exact ⟨cur, by simpa using hg⟩
    · have hne : rows ≠ [] := by simpa [List.isEmpty_iff] using he
      simp only [he, Bool.false_eq_true, if_false]
      obtain ⟨done, cur', h1, h2, h3, h4⟩ :=
        rgWriteRows_spec k bufferSize maxRows (rows.length + 1) s rows cur all hg hr (Nat.lt_succ_self _)
      generalize rgWriteRows k bufferSize maxRows (rows.length + 1) s rows = r at h1 h2 h3 ⊢
      have hfl : rows.flatten = done.flatten ++ r.2.1.flatten := by rw [← List.flatten_append, ← h1]
      rw [hfl, ← List.append_assoc]
      cases ht : r.2.2 with
      | true =>
        -- the row group is full: it is written and the rest goes to the next one
        obtain ⟨hw, hw0, _⟩ := rgood_writeRowGroup h2
        refine ih _ _ _ _ hw (fun r' hm' => hr r' (h1 ▸ List.mem_append_right _ hm')) (by rw [hw0]; omega) ?_
        have := congrArg List.length h1
        have hd : 0 < done.length := List.length_pos_iff.mpr (h4 hlt hne)
        rw [List.length_append] at this
        omega
      | false =>
        rw [h3 ht, List.flatten_nil, List.append_nil]
        exact ⟨cur', h2⟩

end PqModel.ColWriter
