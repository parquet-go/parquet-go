/-! # C09 C14 — tournament tree of losers (merge.go:807-1022) as an inductive tree, independent of the array mirror.
Nothing builds on the tree results (`valid_min`, `replay_valid`): the array proof MergeLoser.lean re-proves them on the
heap layout and takes only the order `leInf` on optional keys from here. -/
namespace PqModel.MergeTree

abbrev Key := Int
abbrev Player := Option Nat          -- none = -1 (exhausted / phantom)
abbrev Heads := Nat → Option Key     -- current head of each input, none = exhausted

/-- key of a player; none = +∞ -/
def keyOf (hd : Heads) : Player → Option Key
  | some i => hd i
  | none => none

/-- a ≤ b with none = +∞ -/
def leInf : Option Key → Option Key → Prop
  | _, none => True
  | none, some _ => False
  | some a, some b => a ≤ b

/-- strict: head(p) < head(c), as used by playGame / replayGames -/
def ltHead (hd : Heads) (p c : Nat) : Bool :=
  match hd p, hd c with
  | some a, some b => decide (a < b)
  | _, _ => false

inductive T where
  | leaf (id : Player)
  | node (loser : Player) (l r : T)

def T.memb (x : Nat) : T → Bool
  | .leaf id => id == some x
  | .node _ l r => T.memb x l || T.memb x r

def T.mem (x : Nat) (t : T) : Prop := T.memb x t = true

theorem T.mem_leaf {x : Nat} {id : Player} : T.mem x (.leaf id) ↔ id = some x := by
  simp [T.mem, T.memb]

theorem T.mem_node {x : Nat} {p : Player} {l r : T} : T.mem x (.node p l r) ↔ T.mem x l ∨ T.mem x r := by
  simp [T.mem, T.memb]

/-- the live player at a leaf -/
def liveLeaf (hd : Heads) (id : Player) : Player :=
  match id with
  | some i => if (hd i).isSome then some i else none
  | none => none

/-- `Valid hd t w`: the stored losers are consistent with some tournament whose winner is `w` -/
inductive Valid (hd : Heads) : T → Player → Prop where
  | leaf (id : Player) : Valid hd (.leaf id) (liveLeaf hd id)
  | nodeL {l r : T} {wl wr : Player} : Valid hd l wl → Valid hd r wr →
      leInf (keyOf hd wl) (keyOf hd wr) → Valid hd (.node wr l r) wl
  | nodeR {l r : T} {wl wr : Player} : Valid hd l wl → Valid hd r wr →
      leInf (keyOf hd wr) (keyOf hd wl) → Valid hd (.node wl l r) wr

theorem leInf_trans {a b c : Option Key} (h1 : leInf a b) (h2 : leInf b c) : leInf a c := by
  cases a <;> cases b <;> cases c <;> simp [leInf] at *
  exact Int.le_trans h1 h2

theorem leInf_refl (a : Option Key) : leInf a a := by
  cases a <;> simp [leInf]

/-- the winner's head is minimal among all live leaves of the tree -/
theorem valid_min {hd : Heads} {t : T} {w : Player} (h : Valid hd t w) :
    ∀ x, T.mem x t → leInf (keyOf hd w) (hd x) := by
  induction h with
  | leaf id =>
    intro x hx
    have hx := T.mem_leaf.mp hx
    subst hx
    simp only [liveLeaf]
    cases hh : hd x <;> simp [hh, keyOf, leInf]
  | nodeL _ _ hle ihl ihr =>
    intro x hx
    rcases T.mem_node.mp hx with hx | hx
    · exact ihl x hx
    · exact leInf_trans hle (ihr x hx)
  | nodeR _ _ hle ihl ihr =>
    intro x hx
    rcases T.mem_node.mp hx with hx | hx
    · exact leInf_trans hle (ihl x hx)
    · exact ihr x hx

theorem valid_winner_mem {hd : Heads} {t : T} {w : Player} (h : Valid hd t w) :
    ∀ i, w = some i → T.mem i t ∧ (hd i).isSome := by
  induction h with
  | leaf id =>
    intro i hi
    cases id with
    | none => simp [liveLeaf] at hi
    | some j =>
      simp only [liveLeaf] at hi
      split at hi
      · rename_i hs; simp at hi; subst hi; exact ⟨T.mem_leaf.mpr rfl, hs⟩
      · simp at hi
  | nodeL _ _ _ ihl _ => intro i hi; exact ⟨T.mem_node.mpr (Or.inl (ihl i hi).1), (ihl i hi).2⟩
  | nodeR _ _ _ _ ihr => intro i hi; exact ⟨T.mem_node.mpr (Or.inr (ihr i hi).1), (ihr i hi).2⟩

/-- play one game on the way up: stored loser `p` against the candidate `c` coming from below -/
def game (hd : Heads) (p c : Player) : Player × Player :=   -- (new stored loser, new winner)
  match p with
  | some pi =>
    match c with
    | none => (none, some pi)
    | some ci => if ltHead hd pi ci then (some ci, some pi) else (some pi, some ci)
  | none => (none, c)

/-- replayGames, top-down: `target` is the leaf of the previous winner -/
def replay (hd : Heads) (target : Nat) : T → T × Player
  | .leaf id => (.leaf id, liveLeaf hd id)
  | .node p l r =>
    if T.memb target l then
      let (l', c) := replay hd target l
      let (p', w) := game hd p c
      (.node p' l' r, w)
    else
      let (r', c) := replay hd target r
      let (p', w) := game hd p c
      (.node p' l r', w)

theorem keyOf_congr {hd hd' : Heads} {t : T} {w : Player} (h : Valid hd t w)
    (heq : ∀ x, T.mem x t → hd' x = hd x) : keyOf hd' w = keyOf hd w := by
  cases w with
  | none => rfl
  | some i => exact heq i (valid_winner_mem h i rfl).1

/-- validity only depends on the heads of the leaves of the tree -/
theorem valid_congr {hd hd' : Heads} {t : T} {w : Player} (h : Valid hd t w)
    (heq : ∀ x, T.mem x t → hd' x = hd x) : Valid hd' t w := by
  induction h with
  | leaf id =>
    have : liveLeaf hd id = liveLeaf hd' id := by
      cases id with
      | none => rfl
      | some i => simp [liveLeaf, heq i (T.mem_leaf.mpr rfl)]
    rw [this]; exact Valid.leaf id
  | nodeL hl hr hle ihl ihr =>
    have heql := fun x hx => heq x (T.mem_node.mpr (Or.inl hx))
    have heqr := fun x hx => heq x (T.mem_node.mpr (Or.inr hx))
    exact Valid.nodeL (ihl heql) (ihr heqr) (by rw [keyOf_congr hl heql, keyOf_congr hr heqr]; exact hle)
  | nodeR hl hr hle ihl ihr =>
    have heql := fun x hx => heq x (T.mem_node.mpr (Or.inl hx))
    have heqr := fun x hx => heq x (T.mem_node.mpr (Or.inr hx))
    exact Valid.nodeR (ihl heql) (ihr heqr) (by rw [keyOf_congr hl heql, keyOf_congr hr heqr]; exact hle)

def Disj : T → Prop
  | .leaf _ => True
  | .node _ l r => Disj l ∧ Disj r ∧ ∀ x, T.mem x l → ¬ T.mem x r

theorem ltHead_le {hd : Heads} {p c : Nat} (h : ltHead hd p c = true) :
    leInf (keyOf hd (some p)) (keyOf hd (some c)) := by
  unfold ltHead at h
  simp only [keyOf]
  cases hp : hd p <;> cases hc : hd c <;> simp [hp, hc, leInf] at h ⊢
  exact Int.le_of_lt h

theorem not_ltHead_le {hd : Heads} {p c : Nat} (h : ltHead hd p c = false) (hc : (hd c).isSome) :
    leInf (keyOf hd (some c)) (keyOf hd (some p)) := by
  unfold ltHead at h
  simp only [keyOf]
  cases hp : hd p <;> cases hc' : hd c <;> simp [hp, hc', leInf] at h hc ⊢
  omega

theorem game_validL {hd : Heads} {l r : T} {p c : Player} (hl : Valid hd l c) (hr : Valid hd r p) :
    Valid hd (.node (game hd p c).1 l r) (game hd p c).2 := by
  cases p with
  | none => simpa [game] using Valid.nodeL hl hr (by simp [keyOf, leInf])
  | some pi =>
    cases c with
    | none => simpa [game] using Valid.nodeR hl hr (by simp [keyOf, leInf])
    | some ci =>
      simp only [game]
      split
      · rename_i h; exact Valid.nodeR hl hr (ltHead_le h)
      · rename_i h
        exact Valid.nodeL hl hr (not_ltHead_le (by simpa using h) (valid_winner_mem hl ci rfl).2)

theorem Valid.swap {hd : Heads} {x w : Player} {l r : T} (h : Valid hd (.node x l r) w) :
    Valid hd (.node x r l) w := by
  cases h with
  | nodeL hl hr hle => exact Valid.nodeR hr hl hle
  | nodeR hl hr hle => exact Valid.nodeL hr hl hle

theorem game_validR {hd : Heads} {l r : T} {p c : Player} (hl : Valid hd l p) (hr : Valid hd r c) :
    Valid hd (.node (game hd p c).1 l r) (game hd p c).2 := Valid.swap (game_validL hr hl)

/-- replaying the path of the previous winner restores validity under the new heads -/
theorem replay_valid {hd hd' : Heads} {target : Nat} (hagree : ∀ x, x ≠ target → hd' x = hd x) :
    ∀ (t : T), Disj t → T.mem target t → Valid hd t (some target) →
      Valid hd' (replay hd' target t).1 (replay hd' target t).2
  | .leaf id, _, _, _ => by simpa [replay] using Valid.leaf (hd := hd') id
  | .node p l r, hd3, hm, hv => by
    obtain ⟨hdl, hdr, hdisj⟩ := hd3
    simp only [replay]
    by_cases hml : T.memb target l = true
    · simp only [hml, if_true]
      have hnotr : ¬ T.mem target r := hdisj target hml
      cases hv with
      | nodeL hl hr hle =>
        have ihl := replay_valid hagree l hdl hml hl
        have hr' : Valid hd' r p := valid_congr hr (fun x hx => hagree x (by
          intro he; subst he; exact hnotr hx))
        exact game_validL ihl hr'
      | nodeR hl hr hle =>
        exact absurd (valid_winner_mem hr target rfl).1 hnotr
    · simp only [hml]
      have hmr : T.mem target r := by
        rcases T.mem_node.mp hm with h | h
        · exact absurd h hml
        · exact h
      have hnotl : ¬ T.mem target l := hml
      cases hv with
      | nodeL hl hr hle =>
        exact absurd (valid_winner_mem hl target rfl).1 hnotl
      | nodeR hl hr hle =>
        have ihr := replay_valid hagree r hdr hmr hr
        have hl' : Valid hd' l p := valid_congr hl (fun x hx => hagree x (by
          intro he; subst he; exact hnotl hx))
        exact game_validR hl' ihr

#print axioms replay_valid
#print axioms valid_min

end PqModel.MergeTree
