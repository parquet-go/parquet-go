import PqModel.Crc

/-! # Page loading paths of `FilePages` (file.go) — which of them compare checksums

MIRROR: the loader `readPage` (file.go:1506-1543) reads `CompressedPageSize` bytes and compares
`crc32.ChecksumIEEE` with `header.CRC` **iff `header.CRC != 0`**; the unencrypted branch of
`readDictionary` (file.go:1408-1425) loads its body through it; `load` is a page load on one of the
access paths below, `loadPages` / `readAll` / `readAt` are reads of a stored column chunk.

Two implementations are mirrored (`Impl`): `current`, the tree under verification, in which the
unencrypted branch of `readDictionary` loads the body through `readPage` (since `5000be7 fix: verify the
checksum of a dictionary page that is loaded lazily`), and `beforeFix`, in which it read the bytes with
`io.ReadFull` and compared nothing (finding F4); the negation theorems about `beforeFix` carry
`_before_fix` names in `Props/C13.lean`.
Which access path ends where:

* `sequential`        `ReadPage` loop from the chunk start, every page type incl. the dictionary page
                      met in sequence → `readPage` (file.go:1283)
* `afterSeek`         `SeekToRow` repositions the section reader (file.go:1614-1725); the next
                      `ReadPage` loads the target data page → `readPage`
* `lazyDictionary`    a dictionary-encoded data page is decoded while `f.dictionary == nil` (the
                      dictionary page was jumped over by a seek) → `readDictionary`
                      (file.go:1447-1451, 1459-1466) → `readPage` (file.go:1422)
* `readDictionaryAPI` `FilePages.ReadDictionary()` (file.go:1180-1187) → `readDictionary` → `readPage`

SPEC side: `writeHeader` (what a writer of this library stores, writer.go:2566-2568, 2679-2681 and
the thrift rule for `optional` i32), `Burst` (the corruption the property quantifies over), `Intact` /
`Corrupted` (a stored page as written / after such a burst).

Not modelled: decoding/decompression of the loaded body (it happens after the loader returned and
cannot restore the original bytes), encrypted columns (`readEncryptedPage`: authenticity comes from
AES-GCM, not from the CRC), corruption of page *headers*. -/
namespace PqModel.PageLoad
open PqModel.Crc

abbrev Bytes := List UInt8

deriving instance DecidableEq for Except

inductive Err where
  | corrupted   -- wraps `ErrCorrupted` ("crc32 checksum mismatch in page of column …")
  | io          -- short read (`io.ReadFull` failed)
  deriving DecidableEq, Repr

inductive PageKind where
  | dictionary | dataV1 | dataV2
  deriving DecidableEq, Repr

/-- The fields of `format.PageHeader` the loaders look at. `crc` is the Go field `CRC int32`
    (`thrift:"4,optional"`) as a bit pattern: the compact-protocol encoder omits an optional i32 that
    is zero and the decoder leaves an absent field at zero, so `crc = 0` *is* "the file has no CRC
    field for this page" — the two are indistinguishable to the reader. -/
structure Header where
  kind : PageKind
  compressedSize : Nat
  crc : BitVec 32
  /-- `isDictionaryFormat(header.DataPageHeader[V2].V.Encoding)` -/
  dictEncoded : Bool := false
  deriving DecidableEq, Repr

/-- what a loader hands to the decoder: the page body it read from the file -/
structure Page where
  kind : PageKind
  body : Bytes
  deriving DecidableEq, Repr

/-- SPEC: the header a writer of this library stores for a page body (`rep ‖ def ‖ page`, after
    compression): `CompressedPageSize = len`, `CRC = int32(crc32(body))`; a zero CRC is then dropped
    by thrift (see `Header.crc`). -/
def writeHeader (kind : PageKind) (body : Bytes) (dictEncoded : Bool := false) : Header :=
  { kind, compressedSize := body.length, crc := crc32 body, dictEncoded }

/-- `io.ReadFull(reader, page[:n])` on what is left of the column chunk section -/
def readFull (n : Nat) (stream : Bytes) : Except Err Bytes :=
  if stream.length < n then .error .io else .ok (stream.take n)

/-- Which implementation is mirrored: does `readDictionary` load the dictionary body through
    `readPage` (`true`, the code since 5000be7) or with a bare `io.ReadFull` (`false`, the code before
    the repair of F4). `current` is tied to the source by `Props/FactsCheckC13.lean`. -/
structure Impl where
  dictLoaderVerifies : Bool
  deriving DecidableEq, Repr

/-- MIRROR of the tree under verification (5000be7 and later) -/
def current : Impl := { dictLoaderVerifies := true }
/-- MIRROR of the code as it was before the repair of F4 (regression facts only) -/
def beforeFix : Impl := { dictLoaderVerifies := false }

/-- MIRROR `FilePages.readPage` file.go:1506-1543 -/
def readPage (h : Header) (stream : Bytes) : Except Err Bytes :=
  match readFull h.compressedSize stream with
  | .error e => .error e
  | .ok page =>
    if h.crc != 0#32 then                    -- if header.CRC != 0 {
      if h.crc != crc32 page then            --   if headerChecksum != bufferChecksum {
        .error .corrupted                    --     return nil, fmt.Errorf("crc32 checksum mismatch …: %w", ErrCorrupted)
      else .ok page
    else .ok page

/-- MIRROR the body load of `FilePages.readDictionary`, unencrypted branch, file.go:1408-1425 -/
def readDictionaryBody (impl : Impl) (h : Header) (stream : Bytes) : Except Err Bytes :=
  if impl.dictLoaderVerifies then readPage h stream   -- page, err = f.readPage(header, rbuf)
  else readFull h.compressedSize stream     -- before 5000be7: io.ReadFull(rbuf, page.data.Slice()); no comparison

inductive Path where
  | sequential | afterSeek | lazyDictionary | readDictionaryAPI
  deriving DecidableEq, Repr

def Path.all : List Path := [.sequential, .afterSeek, .lazyDictionary, .readDictionaryAPI]

/-- the Go function of file.go through which this path asks for the page body … -/
def Path.entry : Path → String
  | .sequential | .afterSeek => "FilePages.readPageInSequence"
  | .lazyDictionary | .readDictionaryAPI => "FilePages.readDictionary"

/-- … and the function that fills the page buffer from the reader for it (names as extracted by
    factgen: `pageLoaderCalls` lists the (entry, loader) call pairs, `pageLoaders` the loaders) -/
def Path.loader : Path → String
  | _ => "FilePages.readPage"

/-- does the path compare checksums (when `header.CRC != 0`) -/
def verifies (impl : Impl) : Path → Bool
  | .sequential | .afterSeek => true
  | .lazyDictionary | .readDictionaryAPI => impl.dictLoaderVerifies

/-- `load path header stream`: the body handed to the decoder, or the error returned to the caller.
    `stream` starts at the first byte after the page header. -/
def load (impl : Impl) (p : Path) (h : Header) (stream : Bytes) : Except Err Page :=
  let r := match p with
    | .sequential | .afterSeek => readPage h stream
    | .lazyDictionary | .readDictionaryAPI => readDictionaryBody impl h stream
  match r with
  | .ok body => .ok { kind := h.kind, body }
  | .error e => .error e

structure Stored where
  hdr : Header
  body : Bytes
  deriving DecidableEq, Repr

/-- an unencrypted column chunk as stored: optional dictionary page, then data pages -/
structure Chunk where
  dict : Option Stored
  pages : List Stored
  deriving DecidableEq, Repr

def loadStored (impl : Impl) (p : Path) (s : Stored) : Except Err Page := load impl p s.hdr s.body

/-- load the data pages in order through `readPage`, stop at the first error -/
def loadPages (impl : Impl) : List Stored → Except Err (List Page)
  | [] => .ok []
  | s :: rest =>
    match loadStored impl .sequential s with
    | .error e => .error e
    | .ok pg =>
      match loadPages impl rest with
      | .error e => .error e
      | .ok pgs => .ok (pg :: pgs)

/-- MIRROR `ReadPage` called until EOF on a fresh `FilePages` (file.go:1190-1366): the dictionary
    page is met first and goes through `readPage` like every other page. Result: dictionary body
    (if any) and the data page bodies. -/
def readAll (impl : Impl) (c : Chunk) : Except Err (Option Page × List Page) :=
  match c.dict with
  | none => (loadPages impl c.pages).map (fun ps => (none, ps))
  | some d =>
    match loadStored impl .sequential d with
    | .error e => .error e
    | .ok dp => (loadPages impl c.pages).map (fun ps => (some dp, ps))

/-- MIRROR `SeekToRow(first row of data page k)` on a fresh `FilePages` of a chunk that has an offset
    index, then one `ReadPage`: page `k` is loaded by `readPage` (file.go:1283), and when it is
    dictionary-encoded the dictionary is fetched by `readDictionary` because `f.dictionary == nil`
    (file.go:1447-1451, 1459-1466). Result: the dictionary body used (if any) and the page body. -/
def readAt (impl : Impl) (c : Chunk) (k : Nat) : Except Err (Option Page × Page) :=
  match c.pages[k]? with
  | none => .error .io                                  -- ErrSeekOutOfRange / EOF: no page
  | some s =>
    match loadStored impl .afterSeek s with
    | .error e => .error e
    | .ok pg =>
      if s.hdr.dictEncoded then
        match c.dict with
        | none => .ok (none, pg)
        | some d =>
          match loadStored impl .lazyDictionary d with
          | .error e => .error e
          | .ok dp => .ok (some dp, pg)
      else .ok (none, pg)

/-! ## The corruption the property quantifies over (SPEC) -/

/-- `err` is a non-zero xor mask whose set bits all lie within 32 consecutive bit positions
    (bit `k` = byte `k / 8`, bit `k % 8` from the least significant; not byte aligned). -/
structure Burst (err : Bytes) : Prop where
  nonzero : ∃ k, k < 8 * err.length ∧ bitAt err k = true
  window : ∃ lo, ∀ k, k < 8 * err.length → bitAt err k = true → lo ≤ k ∧ k < lo + 32

theorem xorBytes_length : ∀ (a e : Bytes), e.length = a.length → (xorBytes a e).length = a.length
  | [], [], _ => rfl
  | a :: as, b :: bs, h => by
    simp only [xorBytes, List.length_cons]
    rw [xorBytes_length as bs (by simpa using h)]
  | [], _ :: _, h => by simp at h
  | _ :: _, [], h => by simp at h

theorem readFull_exact (body : Bytes) : readFull body.length body = .ok body := by
  simp [readFull]

theorem readPage_eq (h : Header) (s : Bytes) : readPage h s =
    if s.length < h.compressedSize then .error .io
    else if h.crc ≠ 0#32 ∧ h.crc ≠ crc32 (s.take h.compressedSize) then .error .corrupted
    else .ok (s.take h.compressedSize) := by
  unfold readPage readFull
  by_cases hl : s.length < h.compressedSize
  · simp [hl]
  · by_cases h0 : h.crc = 0#32
    · simp [hl, h0]
    · by_cases hc : h.crc = crc32 (s.take h.compressedSize)
      · simp [hl, h0, ← hc]
      · simp [hl, h0, hc]

theorem readPage_rejects (h : Header) (body body' : Bytes) (hsize : h.compressedSize = body'.length)
    (h0 : h.crc ≠ 0#32) (hcrc : h.crc = crc32 body) (hne : crc32 body' ≠ crc32 body) :
    readPage h body' = .error .corrupted := by
  rw [readPage_eq, hsize, if_neg (Nat.lt_irrefl _), List.take_length, if_pos ⟨h0, hcrc ▸ Ne.symm hne⟩]

theorem readPage_detects (h : Header) (body err : Bytes) (hsize : h.compressedSize = body.length)
    (hlen : err.length = body.length) (h0 : h.crc ≠ 0#32) (hcrc : h.crc = crc32 body)
    (hb : Burst err) : readPage h (xorBytes body err) = .error .corrupted :=
  have ⟨lo, hw⟩ := hb.window
  readPage_rejects h body _ (by rw [hsize, xorBytes_length body err hlen]) h0 hcrc
    (crc32_burst body err hlen lo hb.nonzero hw)

theorem load_eq (impl : Impl) (p : Path) (h : Header) (s : Bytes) :
    load impl p h s =
      (if verifies impl p then readPage h s else readFull h.compressedSize s).map fun body => { kind := h.kind, body } := by
  have wrap : ∀ r : Except Err Bytes, (match r with
      | .ok body => Except.ok { kind := h.kind, body }
      | .error e => .error e) = r.map fun body => ({ kind := h.kind, body } : Page) := fun r => by cases r <;> rfl
  cases p <;> exact wrap _

theorem readPage_crc_zero (h : Header) (s : Bytes) (h0 : h.crc = 0#32) : readPage h s = readFull h.compressedSize s := by
  rw [readPage_eq, readFull]; simp [h0]

theorem load_detects_of_verifies (impl : Impl) (p : Path) (hv : verifies impl p = true) (h : Header)
    (body err : Bytes) (hsize : h.compressedSize = body.length) (hlen : err.length = body.length)
    (h0 : h.crc ≠ 0#32) (hcrc : h.crc = crc32 body) (hb : Burst err) :
    load impl p h (xorBytes body err) = .error .corrupted := by
  rw [load_eq, hv, if_pos rfl, readPage_detects h body err hsize hlen h0 hcrc hb]; rfl

theorem load_crc_zero (impl : Impl) (p : Path) (h : Header) (s : Bytes)
    (h0 : h.crc = 0#32) (hs : s.length = h.compressedSize) :
    load impl p h s = .ok { kind := h.kind, body := s } := by
  rw [load_eq, readPage_crc_zero h s h0, ite_self, ← hs, readFull_exact]; rfl

theorem verifies_current (p : Path) : verifies current p = true := by cases p <;> rfl

theorem readPage_intact (h : Header) (body : Bytes) (hsize : h.compressedSize = body.length)
    (hcrc : h.crc = crc32 body) : readPage h body = .ok body := by
  rw [readPage_eq, hsize, if_neg (Nat.lt_irrefl _), List.take_length, if_neg fun hc => hc.2 hcrc]

theorem readPage_ok_bytes (h : Header) (stream b : Bytes) (hr : readPage h stream = .ok b) :
    b = stream.take h.compressedSize ∧ (h.crc ≠ 0#32 → crc32 b = h.crc) := by
  rw [readPage_eq] at hr
  split at hr
  · cases hr
  · split at hr
    · cases hr
    · rename_i hc
      cases hr
      exact ⟨rfl, fun h0 => Decidable.byContradiction fun hne => hc ⟨h0, fun e => hne e.symm⟩⟩

theorem crc32Update_append₃ (a b c : Bytes) :
    crc32Update (crc32Update (crc32Update 0#32 a) b) c = crc32 (a ++ b ++ c) := by
  rw [crc32Update_append, crc32Update_append, List.append_assoc]; rfl

/-- SPEC: a stored page exactly as a writer of this library left it -/
def Intact (s : Stored) : Prop := s.hdr.compressedSize = s.body.length ∧ s.hdr.crc = crc32 s.body

/-- SPEC: a stored page whose body (and only the body) suffered a burst of width ≤ 32 bits, and whose
    header carries a CRC field (`crc ≠ 0`) -/
def Corrupted (s : Stored) : Prop :=
  ∃ body err, s.hdr.compressedSize = body.length ∧ err.length = body.length ∧ s.hdr.crc ≠ 0#32 ∧
    s.hdr.crc = crc32 body ∧ Burst err ∧ s.body = xorBytes body err

theorem loadStored_ok (impl : Impl) (p : Path) (s : Stored) (hs : Intact s) :
    loadStored impl p s = .ok { kind := s.hdr.kind, body := s.body } := by
  rw [loadStored, load_eq, readPage_intact _ _ hs.1 hs.2, hs.1, readFull_exact, ite_self]; rfl

theorem loadPages_intact (impl : Impl) : ∀ (ps : List Stored), (∀ s ∈ ps, Intact s) →
    loadPages impl ps = .ok (ps.map fun s => { kind := s.hdr.kind, body := s.body })
  | [], _ => rfl
  | s :: rest, h => by
    have hs := h s (by simp)
    have hr := loadPages_intact impl rest (fun x hx => h x (by simp [hx]))
    simp [loadPages, loadStored_ok impl .sequential s hs, hr]

theorem corrupted_readPage (s : Stored) (hc : Corrupted s) : readPage s.hdr s.body = .error .corrupted := by
  obtain ⟨body, err, hsize, hlen, h0, hcrc, hb, hbody⟩ := hc
  rw [hbody]
  exact readPage_detects s.hdr body err hsize hlen h0 hcrc hb

theorem loadStored_corrupted (impl : Impl) (p : Path) (hv : verifies impl p = true) (s : Stored)
    (hc : Corrupted s) : loadStored impl p s = .error .corrupted := by
  rw [loadStored, load_eq, hv, if_pos rfl, corrupted_readPage s hc]; rfl

theorem loadPages_corrupted (impl : Impl) (bad : Stored) (post : List Stored) (hc : Corrupted bad) :
    ∀ (pre : List Stored), (∀ s ∈ pre, Intact s) →
    loadPages impl (pre ++ bad :: post) = .error .corrupted
  | [], _ => by
    simp [loadPages, loadStored_corrupted impl .sequential rfl bad hc]
  | s :: pre, h => by
    have hs := h s (by simp)
    have hr := loadPages_corrupted impl bad post hc pre (fun x hx => h x (by simp [hx]))
    simp [loadPages, loadStored_ok impl .sequential s hs, hr]

end PqModel.PageLoad
