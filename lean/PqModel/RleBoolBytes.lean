import PqModel.BitsBytes

/-! # Byte-level MIRROR of the boolean decoder `decodeBits` (rle.go:250-335; C04, part rle)

`Rle.goDecodeBitsLoop` models `dst` as a bit list. Here `dst` is the byte slice the Go code works on
(`appendBitsAt`, `appendBitRun`, `resize`), with the content of the slice's spare capacity as an
explicit argument `stale` (by absolute position; after a `grow` the Go memory is zero there, which
is the instance `stale = []`). -/
namespace PqModel.Rle
open PqModel.Bits

/-- MIRROR rle.go:552-564 `resize` / `grow`: a prefix of `dst` when it shrinks, otherwise `dst`
followed by whatever the spare capacity holds (`stale`, by absolute position; zeros past its end and
after a `grow`). -/
def goResize (stale dst : List Nat) (size : Nat) : List Nat :=
  if size ≤ dst.length then dst.take size
  else dst ++ (List.range (size - dst.length)).map (fun k => stale.getD (dst.length + k) 0)

/-- MIRROR rle.go:310-314, the loop of `appendBitsAt` and the store after it:
`for k, b := range src { dst[i+k] = carry | b<<shift; carry = b >> (8 - shift) }; dst[i+len(src)] = carry`.
Returns the bytes stored at `dst[i:]`. `b<<shift` is a byte (`* 2^s % 256`), its low `s` bits are
zero and `carry < 2^s`: the OR is a sum. -/
def goShiftLoop (s : Nat) : Nat → List Nat → List Nat
  | carry, [] => [carry]
  | carry, b :: bs => (carry + b * 2 ^ s % 256) :: goShiftLoop s (b / 2 ^ (8 - s)) bs

/-- MIRROR rle.go:301-316 `appendBitsAt(dst, nbits, src)`. Every byte of the resized slice from
index `i` on is stored by the loop, so the result is `dst[:i]` followed by the stored bytes.
`dst[i] & (1<<shift - 1)` = `dst[i] % 2^shift`. -/
def goAppendBitsAt (stale dst : List Nat) (nbits : Nat) (src : List Nat) : List Nat :=
  if nbits % 8 = 0 then dst ++ src else
  let i := nbits / 8
  let d := goResize stale dst (i + 1 + src.length)
  d.take i ++ goShiftLoop (nbits % 8) (d.getD i 0 % 2 ^ (nbits % 8)) src

/-- MIRROR rle.go:318-335 `appendBitRun(dst, nbits, bit, count)`. `fill := -bit` (0x00 / 0xFF);
`mask := byte(0xFF) << shift`; `dst[i]&^mask` = `dst[i] % 2^shift`, `fill&mask` = `fill` with its
low `shift` bits cleared (`fill / 2^shift * 2^shift`), the two parts are disjoint (sum);
`bytealg.Broadcast(dst[i:], fill)`; `dst[len(dst)-1] &= 1<<rem - 1` = `% 2^rem` with
`rem = total % 8`. -/
def goAppendBitRun (stale dst : List Nat) (nbits bit count : Nat) : List Nat :=
  let fill := if bit = 1 then 255 else 0
  let total := nbits + count
  let d := goResize stale dst ((total + 7) / 8)
  let i := nbits / 8
  let s := nbits % 8
  let d1 := if s ≠ 0 then d.set i (d.getD i 0 % 2 ^ s + fill / 2 ^ s * 2 ^ s) else d
  let i1 := if s ≠ 0 then i + 1 else i
  let d2 := d1.take i1 ++ List.replicate (d1.length - i1) fill
  if total % 8 ≠ 0 then d2.set (d2.length - 1) (d2.getD (d2.length - 1) 0 % 2 ^ (total % 8)) else d2

/-- MIRROR rle.go:250-299 `decodeBits` (loop), byte level: `dst` is the byte slice, `nbits` the number
of values it holds. Same framing as `goDecodeBitsLoop` (empty run skipped without its value, missing
RLE value byte read as 0, `word & 1` = `% 2`). -/
def goDecodeBitsBytesLoop (stale : List Nat) : Nat → List Nat → Nat → List Nat → Except Err (List Nat)
  | 0, dst, _, src => if src.isEmpty then .ok dst else .error .fuel
  | f + 1, dst, nbits, src =>
    if src.isEmpty then .ok dst else
    match goUvarint 0 src with
    | none => .error .truncHeader
    | some (u, rest) =>
      if u / 2 = 0 then goDecodeBitsBytesLoop stale f dst nbits rest
      else if u / 2 > 2 ^ 31 - 1 then .error .runTooLong
      else if u % 2 = 1 then
        if rest.length < u / 2 then .error .truncBitPacked
        else goDecodeBitsBytesLoop stale f (goAppendBitsAt stale dst nbits (rest.take (u / 2)))
          (nbits + 8 * (u / 2)) (rest.drop (u / 2))
      else
        goDecodeBitsBytesLoop stale f (goAppendBitRun stale dst nbits (rest.headD 0 % 2) (u / 2))
          (nbits + u / 2) (rest.drop 1)

/-- MIRROR `decodeBits(dst[:0], src)` over a buffer whose capacity holds `stale` -/
def goDecodeBitsBytes (stale src : List Nat) : Except Err (List Nat) :=
  goDecodeBitsBytesLoop stale (src.length + 1) [] 0 src

/-- MIRROR rle.go:68-82 `DecodeBoolean`, byte level -/
def goDecodeBooleanBytes (stale src : List Nat) : Except Err (List Nat) :=
  if src.length = 4 then .ok [] else
  if src.length < 4 then .error .truncPrefix else
  if (src.drop 4).length < leNat (src.take 4) then .error .truncPrefix else
  goDecodeBitsBytes stale ((src.drop 4).take (leNat (src.take 4)))

theorem set_at_len {α} (y : α) (P : List α) (x : α) (T : List α) :
    (P ++ x :: T).set P.length y = P ++ y :: T := by simp

theorem getD_at_len {α} (d : α) (P : List α) (x : α) (T : List α) : (P ++ x :: T).getD P.length d = x := by
  simp

theorem take_at_len_succ {α} : ∀ (P : List α) (x : α) (T : List α), (P ++ x :: T).take (P.length + 1) = P ++ [x]
  | [], _, _ => by simp
  | p :: P, x, T => by simp [take_at_len_succ P x T]

theorem goResize_grow (stale dst : List Nat) (size : Nat) (h : dst.length ≤ size) :
    ∃ T, dst.length + T.length = size ∧ goResize stale dst size = dst ++ T := by
  by_cases he : size ≤ dst.length
  · have : size = dst.length := by omega
    subst this
    exact ⟨[], by simp, by simp [goResize]⟩
  · exact ⟨(List.range (size - dst.length)).map (fun k => stale.getD (dst.length + k) 0), by simp; omega,
      by simp only [goResize, he, if_false]⟩

theorem bytes_ext (a b : List Nat) (hl : a.length = b.length) (ha : ∀ x ∈ a, x < 256)
    (hb : ∀ x ∈ b, x < 256) (h : leNat a = leNat b) : a = b := by
  rw [← leBytes_leNat a ha, ← leBytes_leNat b hb, hl, h]

/-- One byte shifted in, with `P = 2^s` and `M = 2^(8-s)`: the byte stored and the next carry are
remainder and quotient by 256 of `carry + 2^s * (b + 256 * rest)`. -/
theorem shift_step (P M c b L : Nat) (hPM : M * P = 256) (hc : c < P) :
    (c + P * (b + 256 * L)) % 256 = c + b * P % 256 ∧ (c + P * (b + 256 * L)) / 256 = b / M + P * L := by
  have hM : 0 < M := by
    cases M with
    | zero => simp at hPM
    | succ _ => omega
  have h1 : b * P % 256 = b % M * P := by rw [← hPM, Nat.mul_mod_mul_right]
  have h2 : b % M * P + P ≤ 256 := by
    have : (b % M + 1) * P ≤ M * P := Nat.mul_le_mul_right P (Nat.mod_lt b hM)
    rw [Nat.add_mul, Nat.one_mul, hPM] at this
    exact this
  have hb : P * b = 256 * (b / M) + b % M * P := by
    conv => lhs; rw [← Nat.div_add_mod b M]
    rw [Nat.mul_add, ← Nat.mul_assoc, Nat.mul_comm P M, hPM, Nat.mul_comm P]
  have hN : c + P * (b + 256 * L) = c + b % M * P + 256 * (b / M + P * L) := by
    rw [Nat.mul_add, Nat.mul_left_comm P 256 L, hb]; omega
  have hlt : c + b % M * P < 256 := by omega
  rw [hN, h1, Nat.add_mul_mod_self_left, Nat.mod_eq_of_lt hlt, Nat.add_mul_div_left _ _ (by decide),
    Nat.div_eq_of_lt hlt, Nat.zero_add]
  exact ⟨rfl, rfl⟩

theorem goShiftLoop_eq (s : Nat) (hs : s ≤ 8) (src : List Nat) (c : Nat) (hc : c < 2 ^ s)
    (hb : ∀ b ∈ src, b < 256) : goShiftLoop s c src = leBytes (src.length + 1) (c + 2 ^ s * leNat src) := by
  fun_induction goShiftLoop s c src with
  | case1 c =>
    have : c < 256 :=
      Nat.lt_of_lt_of_le hc (by rw [← two_pow_8]; exact Nat.pow_le_pow_right (by decide) hs)
    simp only [leNat, List.length_nil, leBytes, Nat.mul_zero, Nat.add_zero]
    rw [Nat.mod_eq_of_lt this]
  | case2 c b bs ih =>
    have hPM : 2 ^ (8 - s) * 2 ^ s = 256 := by
      rw [← Nat.pow_add, ← two_pow_8]; congr 1; omega
    have hcarry : b / 2 ^ (8 - s) < 2 ^ s := Nat.div_lt_of_lt_mul (by rw [hPM]; exact hb b (by simp))
    obtain ⟨e1, e2⟩ := shift_step (2 ^ s) (2 ^ (8 - s)) c b (leNat bs) hPM hc
    rw [List.length_cons, leBytes, leNat, e1, e2, ih hcarry (fun x hx => hb x (by simp [hx]))]

theorem goAppendBitsAt_bytesOf (stale : List Nat) (bits : List Bool) (src : List Nat) (hb : ∀ b ∈ src, b < 256) :
    goAppendBitsAt stale (bytesOf bits) bits.length src = bytesOf (bits ++ bytesToBits src) := by
  by_cases hs : bits.length % 8 = 0
  · rw [bytesOf_append bits _ hs, bytesOf_bytesToBits src hb]
    simp only [goAppendBitsAt, hs, if_true]
  · -- `dst = bytesOf A ++ [fromBits R]`: the source is shifted in above the bits `R` of the last byte
    obtain ⟨A, R, hbits, hA, hP, hR, hsplit⟩ := bytesOf_split bits hs
    obtain ⟨T, _, hres⟩ := goResize_grow stale (bytesOf bits) (bits.length / 8 + 1 + src.length)
      (by rw [hsplit, List.length_append, hP]; simp)
    have hx : fromBits R < 2 ^ (bits.length % 8) := by rw [← hR]; exact fromBits_lt R
    simp only [goAppendBitsAt, hs, if_false]
    rw [hres, hsplit, List.append_assoc, List.singleton_append, ← hP, List.take_left' rfl, getD_at_len,
      Nat.mod_eq_of_lt hx, goShiftLoop_eq _ (by omega) src _ hx hb]
    conv => rhs; rw [hbits, List.append_assoc, bytesOf_append A _ hA, bytesOf_eq_leBytes (R ++ bytesToBits src)]
    have hk : (bits.length % 8 + 8 * src.length + 7) / 8 = src.length + 1 := by omega
    rw [List.length_append, hR, bytesToBits_length, fromBits_append, hR, fromBits_bytesToBits src hb, hk]

theorem fill_eq (b : Bool) : (if b2n b = 1 then 255 else 0) = fromBits (List.replicate 8 b) := by
  cases b <;> rfl

theorem bytesOf_replicate (b : Bool) : ∀ q : Nat,
    bytesOf (List.replicate (8 * q) b) = List.replicate q (fromBits (List.replicate 8 b))
  | 0 => rfl
  | q + 1 => by
    have e : 8 * (q + 1) = 8 + 8 * q := by omega
    rw [e, ← List.replicate_append_replicate, bytesOf_append _ _ (by simp), bytesOf_single _ (by simp) (by simp),
      bytesOf_replicate b q, List.replicate_succ]
    rfl

/-- the byte a run starts in: the bits `R` it holds are kept, the bits above them filled
(`fill / 2^s` is `fill` without its low `s` bits: `fromBits_drop`) -/
theorem first_byte_fill (R : List Bool) (b : Bool) (m : Nat) (hm : R.length + m = 8) :
    fromBits R + fromBits (List.replicate 8 b) / 2 ^ R.length * 2 ^ R.length =
      fromBits (R ++ List.replicate m b) := by
  rw [fromBits_append, ← fromBits_drop, List.drop_replicate, Nat.mul_comm, ← hm, Nat.add_sub_cancel_left]

/-- `dst[len(dst)-1] &= 1<<rem - 1` on a slice of whole bytes truncates the bit list to `t` bits -/
theorem mask_last_bytesOf (X : List Bool) (t : Nat) (hX : X.length = 8 * ((t + 7) / 8)) :
    (if t % 8 ≠ 0 then
        (bytesOf X).set ((bytesOf X).length - 1) ((bytesOf X).getD ((bytesOf X).length - 1) 0 % 2 ^ (t % 8))
      else bytesOf X) = bytesOf (X.take t) := by
  by_cases h0 : t % 8 = 0
  · rw [List.take_of_length_le (by omega)]
    simp [h0]
  · -- `t = 8 * q + r`, `X = A ++ Z` with `Z` the last byte
    have hr := Nat.mod_lt t (show 0 < 8 by decide)
    have hq : (t + 7) / 8 = t / 8 + 1 := by omega
    have ht := Nat.div_add_mod t 8
    rw [hq] at hX
    generalize t / 8 = q at hX ht
    generalize t % 8 = r at h0 hr ht ⊢
    subst ht
    clear hq
    obtain ⟨A, Z, rfl, hA, hZ⟩ : ∃ A Z, X = A ++ Z ∧ A.length = 8 * q ∧ Z.length = 8 :=
      ⟨X.take (8 * q), X.drop (8 * q), (List.take_append_drop _ _).symm,
        by rw [List.length_take]; omega, by rw [List.length_drop]; omega⟩
    have hne : Z ≠ [] := by intro h; rw [h] at hZ; simp at hZ
    have hne' : Z.take r ≠ [] := by
      intro h; have := congrArg List.length h; rw [List.length_take, hZ, List.length_nil] at this; omega
    rw [if_pos h0, List.take_append, List.take_of_length_le (by omega), hA, Nat.add_sub_cancel_left,
      bytesOf_append A _ (by omega), bytesOf_append A _ (by omega), bytesOf_single Z hne (by omega),
      bytesOf_single _ hne' (by rw [List.length_take]; omega), fromBits_take]
    have e : (bytesOf A ++ [fromBits Z]).length - 1 = (bytesOf A).length := by simp
    rw [e, getD_at_len, set_at_len]

/-- The Go code fills with the bit up to the end of the last byte (`X` below), then masks that byte;
this does not depend on whether the run ends in the byte it starts in. -/
theorem goAppendBitRun_bytesOf (stale : List Nat) (bits : List Bool) (b : Bool) (count : Nat) :
    goAppendBitRun stale (bytesOf bits) bits.length (b2n b) count = bytesOf (bits ++ List.replicate count b) := by
  -- `K` bytes in the end, `pad` bits from `bits` to the end of byte `K`
  generalize hK : (bits.length + count + 7) / 8 = K
  obtain ⟨pad, hpad, hcp⟩ : ∃ pad, bits.length + pad = 8 * K ∧ count ≤ pad :=
    ⟨8 * K - bits.length, by omega, by omega⟩
  have hX : (bits ++ List.replicate pad b).length = 8 * ((bits.length + count + 7) / 8) := by
    rw [List.length_append, List.length_replicate, hpad, hK]
  have htake : (bits ++ List.replicate pad b).take (bits.length + count) = bits ++ List.replicate count b := by
    rw [List.take_append, List.take_of_length_le (Nat.le_add_right _ _), List.take_replicate,
      Nat.add_sub_cancel_left, Nat.min_eq_left hcp]
  unfold goAppendBitRun
  extract_lets fill total d i s d1 i1 d2
  suffices hd2 : d2 = bytesOf (bits ++ List.replicate pad b) by
    rw [hd2, ← htake]
    exact mask_last_bytesOf _ _ hX
  have hd : d = goResize stale (bytesOf bits) K := by rw [← hK]
  have hn : bits.length = 8 * i + s := (Nat.div_add_mod bits.length 8).symm
  clear hX htake hK hcp
  by_cases hs : s = 0
  · have h8 : bits.length % 8 = 0 := hs
    have hlen : (bytesOf bits).length = i := by rw [bytesOf_length]; omega
    obtain ⟨T, hT, hres⟩ := goResize_grow stale (bytesOf bits) K (by omega)
    have e : (bytesOf bits ++ T).length - i = T.length := by
      rw [List.length_append, hlen]; exact Nat.add_sub_cancel_left _ _
    have e' : pad = 8 * T.length := by omega
    simp only [d2, d1, i1, hd, fill, hs, fill_eq, ne_eq, not_true_eq_false, if_false]
    rw [hres, ← hlen, List.take_left' rfl, hlen, e, bytesOf_append bits _ h8, e', bytesOf_replicate]
  · -- the run starts inside the last byte of `dst = bytesOf A ++ [fromBits R]`
    obtain ⟨A, R, hbits, hA, (hP : (bytesOf A).length = i), (hR : R.length = s), hsplit⟩ :=
      bytesOf_split bits hs
    have hs8 : s < 8 := Nat.mod_lt _ (by decide)
    have hlen : (bytesOf bits).length = i + 1 := by
      rw [hsplit, List.length_append, hP, List.length_singleton]
    obtain ⟨T, hT, hres⟩ := goResize_grow stale (bytesOf bits) K (by omega)
    obtain ⟨m, hm⟩ : ∃ m, R.length + m = 8 := ⟨8 - R.length, Nat.add_sub_cancel' (by omega)⟩
    have hl : (R ++ List.replicate m b).length = 8 := by rw [List.length_append, List.length_replicate, hm]
    have hX' : bits ++ List.replicate pad b =
        A ++ ((R ++ List.replicate m b) ++ List.replicate (8 * T.length) b) := by
      have e : pad = m + 8 * T.length := by omega
      rw [e, ← List.replicate_append_replicate]
      conv => lhs; arg 1; rw [hbits]
      simp only [List.append_assoc]
    have e : ∀ y, (bytesOf A ++ y :: T).length - (i + 1) = T.length := by
      intro y; rw [List.length_append, List.length_cons, hP, Nat.add_comm T.length, ← Nat.add_assoc]
      exact Nat.add_sub_cancel_left _ _
    simp only [d2, d1, i1, hd, fill, hs, fill_eq, ne_eq, not_false_eq_true, if_true]
    rw [hres, hsplit, List.append_assoc, List.singleton_append, ← hP, getD_at_len, set_at_len,
      take_at_len_succ, hP, e, ← hR, Nat.mod_eq_of_lt (fromBits_lt R), first_byte_fill R b m hm]
    rw [hX', bytesOf_append A _ hA, bytesOf_append _ _ (by rw [hl]),
      bytesOf_single (R ++ List.replicate m b) (by intro h; rw [h] at hl; simp at hl) (Nat.le_of_eq hl),
      bytesOf_replicate, List.append_assoc]

theorem goUvarint_rest_mem (src : List Nat) (i u : Nat) (rest : List Nat)
    (h : goUvarint i src = some (u, rest)) : ∀ b ∈ rest, b ∈ src := by
  -- cases of `goUvarint`: empty; byte 10; last byte overflows; last byte; continuation read; continuation fails
  fun_induction goUvarint i src generalizing u rest with
  | case1 => simp at h
  | case2 => simp at h
  | case3 => simp at h
  | case4 i b bs _ _ _ =>
    simp only [Option.some.injEq, Prod.mk.injEq] at h
    intro x hx; rw [← h.2] at hx; exact List.mem_cons_of_mem _ hx
  | case5 i b bs _ _ v r hr ih =>
    simp only [Option.some.injEq, Prod.mk.injEq] at h
    intro x hx; rw [← h.2] at hx; exact List.mem_cons_of_mem _ (ih v r hr x hx)
  | case6 => simp at h

theorem b2n_mod2 (x : Nat) : b2n (x % 2 == 1) = x % 2 := by
  rcases Nat.mod_two_eq_zero_or_one x with e | e <;> simp [b2n, e]

/-- `n` is the bit count as the Go loop carries it (`nbits += …`): equal to `bits.length`, not
syntactically so after a step, hence a variable with an equation. This loop is not a `runStep` instance (its state is
`(dst, nbits)`): the proof walks the cascade of `runStep` on both loops at once. -/
theorem goDecodeBitsBytesLoop_eq (stale : List Nat) : ∀ (fuel : Nat) (bits : List Bool) (n : Nat) (src : List Nat),
    n = bits.length → (∀ b ∈ src, b < 256) →
    goDecodeBitsBytesLoop stale fuel (bytesOf bits) n src = (goDecodeBitsLoop fuel bits src).map bytesOf
  | 0, bits, n, src, _, _ => by
    rw [goDecodeBitsBytesLoop, goDecodeBitsLoop]
    cases src.isEmpty <;> rfl
  | f + 1, bits, n, src, hn, hb => by
    subst hn
    rw [goDecodeBitsBytesLoop, goDecodeBitsLoop]
    cases src.isEmpty
    case true => rfl
    case false =>
    simp only [Bool.false_eq_true, if_false]
    cases hu : goUvarint 0 src with
    | none => rfl
    | some p =>
      obtain ⟨u, rest⟩ := p
      have hrest : ∀ b ∈ rest, b < 256 := fun b hb' => hb b (goUvarint_rest_mem src 0 u rest hu b hb')
      simp only []
      by_cases h0 : u / 2 = 0
      · rw [if_pos h0, if_pos h0]
        exact goDecodeBitsBytesLoop_eq stale f bits _ rest rfl hrest
      · rw [if_neg h0, if_neg h0]
        by_cases h1 : u / 2 > 2 ^ 31 - 1
        · rw [if_pos h1, if_pos h1]; rfl
        · rw [if_neg h1, if_neg h1]
          by_cases h2 : u % 2 = 1
          · rw [if_pos h2, if_pos h2]
            by_cases h3 : rest.length < u / 2
            · rw [if_pos h3, if_pos h3]; rfl
            · rw [if_neg h3, if_neg h3,
                goAppendBitsAt_bytesOf stale bits _ (fun b hb' => hrest b (List.mem_of_mem_take hb'))]
              exact goDecodeBitsBytesLoop_eq stale f _ _ _
                (by rw [List.length_append, bytesToBits_length, List.length_take]; omega)
                (fun b hb' => hrest b (List.mem_of_mem_drop hb'))
          · have := goAppendBitRun_bytesOf stale bits (rest.headD 0 % 2 == 1) (u / 2)
            rw [b2n_mod2] at this
            rw [if_neg h2, if_neg h2, this]
            exact goDecodeBitsBytesLoop_eq stale f _ _ _
              (by rw [List.length_append, List.length_replicate])
              (fun b hb' => hrest b (List.mem_of_mem_drop hb'))

theorem goDecodeBitsBytes_eq (stale src : List Nat) (hb : ∀ b ∈ src, b < 256) :
    goDecodeBitsBytes stale src = goDecodeBits src :=
  goDecodeBitsBytesLoop_eq stale (src.length + 1) [] 0 src rfl hb

theorem goDecodeBooleanBytes_eq (stale src : List Nat) (hb : ∀ b ∈ src, b < 256) :
    goDecodeBooleanBytes stale src = goDecodeBoolean src := by
  simp only [goDecodeBooleanBytes, goDecodeBoolean]
  rw [goDecodeBitsBytes_eq stale _ (fun b hb' => hb b (List.mem_of_mem_drop (List.mem_of_mem_take hb')))]

end PqModel.Rle
