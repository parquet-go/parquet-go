import PqModel.RowsBuf

/-! # Refinement `RowsBuf` → `RowsState` (C13): definitions

`RowsBuf` mirrors `rowGroupRows.ReadRows` / `SeekToRow` / `Reset` at the granularity of value buffers,
`RowsState` mirrors the same reader with the column readers abstracted to "the row the column stands
on". This file states the ABSTRACTION: what a column reader of `RowsBuf` will still deliver (`cstream`:
the value buffer, the rest of the current page, the pages from the cursor on, up to the end of the
chunk or to the first rejected page) and what it means for a column to stand on row `p` (`ColAt`:
that stream is the rows `p, p+1, …, b-1` and ends either with the chunk, `b = total`, or in front
of a rejected page). Everything here is SPEC-side (no Go counterpart); the well-formedness predicate
`WfPages` is what the Parquet format says about the pages of a column chunk with an offset index
(consecutive row ranges starting at 0, every row starts with a value of repetition level 0). -/
namespace PqModel.RowsRefine
open PqModel.RowsBuf

/-- what the page reader still delivers from a cursor on (`skip` rows into the first page of `ps`):
    the values, and whether the stream is ended by a rejected page (`true`) or by the end of the chunk -/
def pstreamFrom : List Page → Nat → List Val × Bool
  | [], _ => ([], false)
  | p :: ps, skip =>
    if p.bad then ([], true)
    else if skip < p.numRows then
      ((p.vals.filter fun v => decide (p.firstRow + skip ≤ v.row)) ++ (pstreamFrom ps 0).1, (pstreamFrom ps 0).2)
    else pstreamFrom ps (skip - p.numRows)

def pstream (pages : List Page) (c : Cursor) : List Val × Bool := pstreamFrom (pages.drop c.next) c.skip

def rstream (pages : List Page) (r : Reader) : List Val × Bool :=
  (r.values.getD [] ++ (pstream pages r.cur).1, (pstream pages r.cur).2)

/-- everything column `c` will still deliver -/
def cstream (pages : List Page) (c : Col) : List Val × Bool :=
  (c.buf ++ (rstream pages c.reader).1, (rstream pages c.reader).2)

/-- `vs` is the values of the rows `a, a+1, …, b-1`, row after row: each row is one value of
    repetition level 0 followed by values of repetition level ≠ 0, all tagged with the row -/
inductive Groups : Nat → Nat → List Val → Prop
  | nil (a : Nat) : Groups a a []
  | cons {a b : Nat} {v : Val} {g rest : List Val} : v.row = a → v.rep = 0 →
      (∀ w ∈ g, w.row = a ∧ w.rep ≠ 0) → Groups (a + 1) b rest → Groups a b (v :: (g ++ rest))

/-- the pages of a column chunk of `total` rows, from row `f` on: consecutive row ranges, no empty
    page, the values of a page are the rows of its range -/
def WfPages : Nat → List Page → Nat → Prop
  | f, [], total => f = total
  | f, p :: ps, total =>
    p.firstRow = f ∧ 0 < p.numRows ∧ Groups f (f + p.numRows) p.vals ∧ WfPages (f + p.numRows) ps total

/-- a stream that starts with row `k`: the rows `k .. b-1`, ended by the chunk (`b = total`) or by a
    rejected page -/
def Lands (k total : Nat) (t : List Val × Bool) : Prop :=
  ∃ b, Groups k b t.1 ∧ b ≤ total ∧ (t.2 = false → b = total)

/-- column `c` stands on row `p` (`none`: nothing is known about it) -/
def ColAt (pages : List Page) (total : Nat) (c : Col) : Option Nat → Prop
  | none => True
  | some p => Lands p total (cstream pages c)

end PqModel.RowsRefine
