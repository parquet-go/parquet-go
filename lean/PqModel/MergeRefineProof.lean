import PqModel.MergeRefine
import PqModel.Basics
import PqModel.InsertSort

/-! # C09 — the page-granular cuts of merge_refine.go are conservative, and `refineSegment`
    partitions every row group -/
namespace PqModel.Refine
open PqModel.Compare

theorem searchFirst_le {β : Type} (f : β → Bool) (l : List β) : searchFirst f l ≤ l.length := by
  fun_induction searchFirst f l with
  | case1 => exact Nat.le_refl _
  | case2 x xs hx => exact Nat.zero_le _
  | case3 x xs hx ih => simp only [List.length_cons]; omega

theorem searchFirst_hit {β : Type} [Inhabited β] (f : β → Bool) (l : List β) (h : searchFirst f l < l.length) :
    f (l.getD (searchFirst f l) default) = true := by
  fun_induction searchFirst f l with
  | case1 => simp at h
  | case2 x xs hx => simpa using hx
  | case3 x xs hx ih =>
    have := ih (by simp only [List.length_cons] at h; omega)
    simpa [List.getD_eq_getElem?_getD] using this

theorem searchFirst_miss {β : Type} [Inhabited β] (f : β → Bool) (l : List β) (q : Nat) (h : q < searchFirst f l) :
    f (l.getD q default) = false := by
  fun_induction searchFirst f l generalizing q with
  | case1 => omega
  | case2 x xs hx => omega
  | case3 x xs hx ih =>
    cases q with
    | zero => simpa using hx
    | succ q =>
      have := ih q (by omega)
      simpa [List.getD_eq_getElem?_getD] using this

/-- the contract of `sort.Search` the cuts rely on; a binary search on non-monotone page bounds meets it too -/
theorem searchFirst_boundary {β : Type} [Inhabited β] (f : β → Bool) (l : List β) :
    Boundary (fun j => !f (l.getD j default)) l.length (searchFirst f l) :=
  ⟨searchFirst_le f l, fun h => by simpa using searchFirst_miss f l (searchFirst f l - 1) (by omega),
    fun h => by simpa using searchFirst_hit f l h⟩

/-- what the page index of the first sorting column says about the rows of a row group
    (`vals`: first-column keys in sort order, i.e. negated for a descending column) -/
structure PagesOk (desc : Bool) (t : Target) (vals : List Int) : Prop where
  rows : vals.length = t.numRows
  sorted : vals.Pairwise (· ≤ ·)
  cuts : hasCuts false t = true
  first0 : t.firstRows.getD 0 0 = 0
  nonempty : ∀ p, p < t.firstRows.length → t.firstRows.getD p 0 < pageEnd t p
  bounds : ∀ p r, p < t.firstRows.length → t.firstRows.getD p 0 ≤ r → r < pageEnd t p →
    (pageBounds desc ((t.cols.getD 0 []).getD p default)).1 ≤ vals.getD r 0 ∧
    vals.getD r 0 ≤ (pageBounds desc ((t.cols.getD 0 []).getD p default)).2

theorem hasCuts_len {t : Target} (h : hasCuts false t = true) :
    (t.cols.getD 0 []).length = t.firstRows.length ∧ 0 < t.firstRows.length := by
  unfold hasCuts at h
  split at h
  · cases h
  · rename_i pages rest hc
    simp only [Bool.and_eq_true, Bool.not_eq_true', beq_iff_eq] at h
    have hp : t.cols.getD 0 [] = pages := by simp [hc]
    rw [hp]
    refine ⟨h.1.1.1.1.2, ?_⟩
    rw [← h.1.1.1.1.2]
    have := h.1.1.1.1.1
    cases pages with
    | nil => simp at this
    | cons _ _ => simp

theorem pageEnd_le {desc : Bool} {t : Target} {vals : List Int} (h : PagesOk desc t vals) (p : Nat) :
    pageEnd t p ≤ t.numRows := by
  unfold pageEnd
  split
  · rename_i h1
    have h2 := h.nonempty (p + 1) h1
    have : pageEnd t (p + 1) ≤ t.numRows := pageEnd_le h (p + 1)
    omega
  · exact Nat.le_refl _
termination_by t.firstRows.length - p
decreasing_by omega

theorem pageEnd_pred (t : Target) {p : Nat} (hp : 1 ≤ p) :
    pageEnd t (p - 1) = if p < t.firstRows.length then t.firstRows.getD p 0 else t.numRows := by
  unfold pageEnd; rw [Nat.sub_add_cancel hp]

/-- the cut above a key, for any page `p` that a search for "first page that starts after the key" may answer -/
theorem cutAbove_at {desc : Bool} {t : Target} {vals : List Int} (h : PagesOk desc t vals) (kv : Int) (p : Nat)
    (hp : Boundary (fun j => !decide ((pageBounds desc ((t.cols.getD 0 []).getD j default)).1 > ord desc kv))
      (t.cols.getD 0 []).length p) :
    ∀ r, (if p = 0 then 0 else pageEnd t (p - 1)) ≤ r → r < t.numRows → ord desc kv < vals.getD r 0 := by
  intro r hr hlt
  obtain ⟨hlen, hpos⟩ := hasCuts_len h.cuts
  by_cases hpl : p < t.firstRows.length
  · -- the cut is the first row of page `p`, which starts after the key
    have hcut : t.firstRows.getD p 0 ≤ r := by
      by_cases hp0 : p = 0
      · subst hp0; rw [h.first0]; exact Nat.zero_le _
      · rwa [if_neg hp0, pageEnd_pred t (Nat.pos_of_ne_zero hp0), if_pos hpl] at hr
    have hhit := hp.2.2 (by rw [hlen]; exact hpl)
    simp only [Bool.not_eq_false', decide_eq_true_eq] at hhit
    have hb := (h.bounds p (t.firstRows.getD p 0) hpl (Nat.le_refl _) (h.nonempty p hpl)).1
    have hm := ListFacts.getD_mono 0 Int.le_refl h.sorted hcut (by rw [h.rows]; exact hlt)
    omega
  · -- no page starts after the key: the cut is the end of the row group
    have hp0 : p ≠ 0 := by omega
    rw [if_neg hp0, pageEnd_pred t (Nat.pos_of_ne_zero hp0), if_neg hpl] at hr
    omega

/-- `cutAbove` (merge_refine.go:198): every row at or after the cut has a first-column key strictly
    after the key's (the rows of the page containing the key stay below the cut) -/
theorem cutAbove_conservative {desc : Bool} {t : Target} {vals : List Int} (h : PagesOk desc t vals)
    (key : KeyRow) (kv : Int) (hk : key.getD 0 none = some kv) :
    ∀ r, cutAbove desc t key ≤ r → r < t.numRows → ord desc kv < vals.getD r 0 := by
  intro r hr
  simp only [cutAbove, hk] at hr
  exact cutAbove_at h kv _ (searchFirst_boundary _ _) r hr

/-- the cut below a key, for any page `p` that a search for "first page that ends at or after the key" may answer -/
theorem cutBelow_at {desc : Bool} {t : Target} {vals : List Int} (h : PagesOk desc t vals) (kv : Int) (p : Nat)
    (hp : Boundary (fun j => !decide ((pageBounds desc ((t.cols.getD 0 []).getD j default)).2 ≥ ord desc kv))
      (t.cols.getD 0 []).length p) :
    ∀ r, r < (if p = (t.cols.getD 0 []).length then t.numRows else t.firstRows.getD p 0) →
      vals.getD r 0 < ord desc kv := by
  intro r hr
  obtain ⟨hlen, hpos⟩ := hasCuts_len h.cuts
  have hple := hp.1
  rw [hlen] at hple hr
  -- the cut is the end of page `p - 1`, whose latest key is before the key
  have hp1 : 1 ≤ p := by
    by_cases he : p = t.firstRows.length
    · omega
    · rw [if_neg he] at hr
      have hp0 : p ≠ 0 := by intro h0; subst h0; rw [h.first0] at hr; omega
      omega
  have hrend : r < pageEnd t (p - 1) := by
    rw [pageEnd_pred t hp1]
    by_cases he : p = t.firstRows.length
    · rw [if_neg (by omega)]; rwa [if_pos he] at hr
    · rw [if_pos (by omega)]; rwa [if_neg he] at hr
  have hq : p - 1 < t.firstRows.length := by omega
  have hmiss := hp.2.1 hp1
  simp only [Bool.not_eq_true', decide_eq_false_iff_not, ge_iff_le, Int.not_le] at hmiss
  have hne := h.nonempty (p - 1) hq
  have hlast := (h.bounds (p - 1) (pageEnd t (p - 1) - 1) hq (by omega) (by omega)).2
  have hend := pageEnd_le h (p - 1)
  have hm := ListFacts.getD_mono 0 Int.le_refl h.sorted (show r ≤ pageEnd t (p - 1) - 1 by omega)
    (by rw [h.rows]; omega)
  omega

/-- `cutBelow` (merge_refine.go:215): every row before the cut has a first-column key strictly
    before the key's -/
theorem cutBelow_conservative {desc : Bool} {t : Target} {vals : List Int} (h : PagesOk desc t vals)
    (key : KeyRow) (kv : Int) (hk : key.getD 0 none = some kv) :
    ∀ r, r < cutBelow desc t key → vals.getD r 0 < ord desc kv := by
  intro r hr
  simp only [cutBelow, hk] at hr
  exact cutBelow_at h kv _ (searchFirst_boundary _ _) r hr


/-- follow the parts of row group `i` through a list of parts: each must start where the previous
    one ended; the result is the row reached -/
def walk (i : Nat) : Nat → List Part → Option Nat
  | c, [] => some c
  | c, p :: ps => if p.index = i then (if p.off = c then walk i (c + p.len) ps else none) else walk i c ps

def numRowsOf (ts : List RG) (i : Nat) : Nat := (ts.getD i default).t.numRows

theorem walk_append (i : Nat) (a b : List Part) (c : Nat) :
    walk i c (a ++ b) = (walk i c a).bind (fun c' => walk i c' b) := by
  fun_induction walk i c a with
  | case1 c => simp
  | case2 p ps hi ih => simpa only [List.cons_append, walk, if_pos hi, if_true] using ih
  | case3 c p ps hi hoff => simp only [List.cons_append, walk, if_pos hi, if_neg hoff]; rfl
  | case4 c p ps hi ih => simpa only [List.cons_append, walk, if_neg hi] using ih

theorem walk_absent (i : Nat) : ∀ (l : List Part) (c : Nat), (∀ p ∈ l, p.index ≠ i) → walk i c l = some c
  | [], c, _ => rfl
  | p :: ps, c, h => by
    simp only [walk, if_neg (h p (by simp))]
    exact walk_absent i ps c (fun q hq => h q (by simp [hq]))

theorem walk_present (i : Nat) : ∀ (l : List Part) (c : Nat) (p : Part), (l.map (·.index)).Nodup → p ∈ l → p.index = i →
    walk i c l = if p.off = c then some (c + p.len) else none
  | [], _, p, _, hp, _ => by simp at hp
  | q :: qs, c, p, hnd, hp, hi => by
    simp only [List.map_cons, List.nodup_cons] at hnd
    rcases List.mem_cons.mp hp with rfl | hp'
    · simp only [walk, if_pos hi]
      split
      · exact walk_absent i qs _ (fun r hr hri => hnd.1 (by rw [hi, ← hri]; exact List.mem_map.mpr ⟨r, hr, rfl⟩))
      · rfl
    · have hq : q.index ≠ i := by
        intro hqi
        exact hnd.1 (by rw [hqi, ← hi]; exact List.mem_map.mpr ⟨p, hp', rfl⟩)
      simp only [walk, if_neg hq]
      exact walk_present i qs c p hnd.2 hp' hi

theorem walk_perm (i c : Nat) {l l' : List Part} (hp : l.Perm l') (hnd : (l.map (·.index)).Nodup) :
    walk i c l = walk i c l' := by
  have hnd' : (l'.map (·.index)).Nodup := (hp.map _).nodup_iff.mp hnd
  by_cases h : ∃ p ∈ l, p.index = i
  · obtain ⟨p, hpl, hpi⟩ := h
    rw [walk_present i l c p hnd hpl hpi, walk_present i l' c p hnd' (hp.mem_iff.mp hpl) hpi]
  · have h1 : ∀ p ∈ l, p.index ≠ i := fun p hp' hpi => h ⟨p, hp', hpi⟩
    have h2 : ∀ p ∈ l', p.index ≠ i := fun p hp' hpi => h ⟨p, hp.mem_iff.mpr hp', hpi⟩
    rw [walk_absent i l c h1, walk_absent i l' c h2]

theorem insertBy_eq {β : Type} (lt : β → β → Bool) (x : β) (l : List β) :
    insertBy lt x l = InsertSort.insertBy lt x l := by
  induction l with
  | nil => rfl
  | cons y ys ih => rw [insertBy, InsertSort.insertBy, ih]

theorem sortBy_perm {β : Type} (lt : β → β → Bool) (l : List β) : (sortBy lt l).Perm l := by
  rw [sortBy, funext fun acc => funext fun x => insertBy_eq lt x acc]
  exact InsertSort.foldl_insertBy_perm lt l

/-- the invariant of the sweep of `refineSegment` on whole states. Nothing constructs or uses it: the sweep is
    proved on `SInv'` (= `EInv`), which leaves out `active` and `pendingLone` -/
structure SInv (ts : List RG) (s : St) : Prop where
  len : s.cursors.length = ts.length
  le : ∀ i, i < ts.length → s.cursors.getD i 0 ≤ numRowsOf ts i
  walk : ∀ i, i < ts.length → walk i 0 (s.plan.flatten ++ s.region) = some (s.cursors.getD i 0)
  fin : ∀ p ∈ s.region, s.cursors.getD p.index 0 = numRowsOf ts p.index
  distinct : (s.region.map (·.index)).Nodup
  planDistinct : ∀ R ∈ s.plan, (R.map (·.index)).Nodup
  bound : (∀ p ∈ s.region, p.index < ts.length) ∧ (∀ R ∈ s.plan, ∀ p ∈ R, p.index < ts.length)
  act : (∀ a ∈ s.active, a < ts.length) ∧ (∀ i, s.pendingLone = some i → i < ts.length)

theorem closeRegion_eq (s : St) : ∃ R, R.Perm s.region ∧
    closeRegion s = (if s.region = [] then s else { s with plan := s.plan ++ [R], region := [] }) := by
  unfold closeRegion
  split
  · rename_i h; exact ⟨[], by simp [h], by simp [h]⟩
  · rename_i p h; exact ⟨[p], by simp [h], by simp [h]⟩
  · rename_i ps h1 h2
    refine ⟨sortBy (fun a b => decide (a.index < b.index)) s.region, sortBy_perm _ _, ?_⟩
    have : s.region ≠ [] := h1
    simp [this]

theorem walk_snoc (j c : Nat) (l : List Part) (q : Part) :
    Refine.walk j c (l ++ [q]) = (Refine.walk j c l).bind (fun c' =>
      if q.index = j then (if q.off = c' then some (c' + q.len) else none) else some c') := by
  rw [walk_append]
  congr 1

def Good (k : Nat) (R : List Part) : Prop := (R.map (·.index)).Nodup ∧ ∀ p ∈ R, p.index < k

/-- cursors as a function, so that an emission is a pointwise update (`PInv.emit`); `EInv` ties it to the cursor list -/
structure PInv (ts : List RG) (plan : List (List Part)) (region : List Part) (c : Nat → Nat) : Prop where
  le : ∀ i, c i ≤ numRowsOf ts i
  walk : ∀ i, Refine.walk i 0 (plan.flatten ++ region) = some (c i)
  good : Good ts.length region ∧ ∀ R ∈ plan, Good ts.length R

theorem lt_of_numRows_pos {ts : List RG} {i : Nat} (h : 0 < numRowsOf ts i) : i < ts.length := by
  apply Classical.byContradiction
  intro hn
  have : ts.getD i default = default := by simp [List.getD_eq_getElem?_getD, List.getElem?_eq_none (Nat.le_of_not_lt hn)]
  simp only [numRowsOf, this] at h
  exact absurd h (by decide)

theorem PInv.congr {ts plan region} {c c' : Nat → Nat} (h : PInv ts plan region c) (hc : ∀ i, c' i = c i) :
    PInv ts plan region c' :=
  ⟨fun i => hc i ▸ h.le i, fun i => hc i ▸ h.walk i, h.good⟩

theorem PInv.emit {ts plan region c} (h : PInv ts plan region c) (i n : Nat) (hn : 0 < n)
    (hle : c i + n ≤ numRowsOf ts i) (habs : ∀ p ∈ region, p.index ≠ i) :
    PInv ts plan (region ++ [⟨i, c i, n⟩]) (fun j => if j = i then c i + n else c j) := by
  refine ⟨fun j => ?_, fun j => ?_, ⟨?_, fun p hp => ?_⟩, h.good.2⟩
  · split
    · subst_vars; exact hle
    · exact h.le j
  · rw [← List.append_assoc, walk_snoc, h.walk j]
    by_cases hji : j = i
    · subst hji; simp
    · simp [hji, Ne.symm hji]
  · simp only [List.map_append, List.map_cons, List.map_nil]
    refine List.nodup_append.mpr ⟨h.good.1.1, by simp, fun a ha b hb => ?_⟩
    obtain ⟨p, hp, rfl⟩ := List.mem_map.mp ha
    rw [List.mem_singleton.mp hb]; exact habs p hp
  · rcases List.mem_append.mp hp with hp | hp
    · exact h.good.1.2 p hp
    · obtain rfl := List.mem_singleton.mp hp; exact lt_of_numRows_pos (i := i) (by omega)

theorem PInv.close {ts plan region c} (h : PInv ts plan region c) {R : List Part} (hp : R.Perm region) :
    PInv ts (plan ++ [R]) [] c := by
  have hR : Good ts.length R := ⟨(hp.map _).nodup_iff.mpr h.good.1.1, fun p hp' => h.good.1.2 p (hp.mem_iff.mp hp')⟩
  refine ⟨h.le, fun i => ?_, ⟨⟨by simp, by simp⟩, fun R' hR' => ?_⟩⟩
  · have := h.walk i
    simp only [List.flatten_append, List.flatten_cons, List.flatten_nil, List.append_nil] at this ⊢
    rw [walk_append] at this ⊢
    rw [← this]; congr 1; funext c'
    exact walk_perm i c' hp hR.1
  · rcases List.mem_append.mp hR' with hR' | hR'
    · exact h.good.2 R' hR'
    · rw [List.mem_singleton.mp hR']; exact hR

theorem PInv.closeRegion {ts c} (s : St) (h : PInv ts s.plan s.region c) :
    ∃ P, Refine.closeRegion s = { s with plan := P, region := [] } ∧ PInv ts P [] c := by
  obtain ⟨R, hperm, he⟩ := closeRegion_eq s
  by_cases h0 : s.region = []
  · exact ⟨s.plan, by rw [he, if_pos h0, ← h0], h0 ▸ h⟩
  · exact ⟨s.plan ++ [R], by rw [he, if_neg h0], h.close hperm⟩

abbrev cur (s : St) (j : Nat) : Nat := s.cursors.getD j 0

theorem cur_set {l : List Nat} {i : Nat} (v : Nat) (hi : i < l.length) (j : Nat) :
    (l.set i v).getD j 0 = if j = i then v else l.getD j 0 := by
  split
  · subst_vars; exact ListFacts.getD_set_self 0 v hi
  · rename_i h; exact ListFacts.getD_set_ne 0 v h

structure EInv (ts : List RG) (plan : List (List Part)) (region : List Part) (cs : List Nat) : Prop where
  len : cs.length = ts.length
  inv : PInv ts plan region (fun j => cs.getD j 0)
  fin : ∀ p ∈ region, cs.getD p.index 0 = numRowsOf ts p.index

/-- the invariant on a sweep state: a function of `plan`, `region`, `cursors` only, so that a change
    of `active`, `sliced`, `pendingLone`, `pendingLeftK` is invisible (`exact h`) -/
abbrev SInv' (ts : List RG) (s : St) : Prop := EInv ts s.plan s.region s.cursors

def Step (ts : List RG) (s s' : St) : Prop := SInv' ts s' ∧ ∀ j, cur s j ≤ cur s' j

theorem Step.refl {ts s} (h : SInv' ts s) : Step ts s s := ⟨h, fun _ => Nat.le_refl _⟩

theorem Step.trans {ts s s1 s2} (h1 : Step ts s s1) (h2 : Step ts s1 s2) : Step ts s s2 :=
  ⟨h2.1, fun j => Nat.le_trans (h1.2 j) (h2.2 j)⟩

theorem Step.done {ts s s'} (h : Step ts s s') {j : Nat} (hj : cur s j = numRowsOf ts j) :
    cur s' j = numRowsOf ts j := Nat.le_antisymm (h.1.inv.le j) (hj ▸ h.2 j)

/-- the slicing step of `resolveLone`: the rows of `i` before the slice join the region, the region is
    closed, the slice `[off, e)` becomes a region of its own: emit (if any), close, emit, close -/
theorem SInv'.slice {ts : List RG} {s : St} (h : SInv' ts s) (i off e : Nat)
    (h1 : cur s i ≤ off) (h2 : off < e) (h3 : e ≤ numRowsOf ts i) : Step ts s (sliceLone s i off e) := by
  have hcs : cur s i = s.cursors.getD i 0 := rfl
  have hi : i < s.cursors.length := h.len ▸ lt_of_numRows_pos (by omega)
  have habs : ∀ p ∈ s.region, p.index ≠ i := fun p hp hpi => by have := h.fin p hp; rw [hpi] at this; omega
  unfold sliceLone
  generalize hs2 : (if off > s.cursors.getD i 0 then
        ({ s with region := s.region ++ [{ index := i, off := s.cursors.getD i 0, len := off - s.cursors.getD i 0 }] } : St)
      else s) = s2
  have hs2' : PInv ts s2.plan s2.region (fun j => if j = i then off else s.cursors.getD j 0) ∧ s2.cursors = s.cursors := by
    rw [← hs2]; split
    · rename_i hgt
      exact ⟨(h.inv.emit i (off - s.cursors.getD i 0) (by omega) (by omega) habs).congr (fun j => by split <;> omega), rfl⟩
    · refine ⟨h.inv.congr (fun j => ?_), rfl⟩
      split
      · subst_vars; omega
      · rfl
  obtain ⟨P, hP, hinv⟩ := PInv.closeRegion s2 hs2'.1
  have := ((hinv.emit i (e - off) (by omega) (by simp only [if_true]; omega) (fun _ hp => nomatch hp)).close
    (List.Perm.refl _)).congr (c' := fun j => (s.cursors.set i e).getD j 0) (fun j => by
      rw [cur_set e hi]; by_cases hj : j = i
      · subst hj; simp only [if_true]; omega
      · simp only [if_neg hj])
  simp only
  rw [hP]
  simp only [if_true, List.nil_append, hs2'.2] at this ⊢
  refine ⟨⟨by simp [h.len], this, by simp⟩, fun j => ?_⟩
  show s.cursors.getD j 0 ≤ (s.cursors.set i e).getD j 0
  by_cases hj : j = i
  · subst hj; rw [ListFacts.getD_set_self 0 _ hi]; exact Nat.le_trans h1 (Nat.le_of_lt h2)
  · rw [ListFacts.getD_set_ne 0 _ hj]; exact Nat.le_refl _

theorem SInv'.remainder {ts : List RG} {s : St} (h : SInv' ts s) (i : Nat) :
    Step ts s (remainder ts s i) ∧ cur (remainder ts s i) i = numRowsOf ts i := by
  have hle := h.inv.le i
  unfold Refine.remainder
  simp only
  split
  · refine ⟨Step.refl h, ?_⟩
    show s.cursors.getD i 0 = numRowsOf ts i
    simp only [numRowsOf] at hle ⊢; omega
  · rename_i hlt
    have hlt' : s.cursors.getD i 0 < numRowsOf ts i := by simp only [numRowsOf]; omega
    have hi : i < s.cursors.length := h.len ▸ lt_of_numRows_pos (by omega)
    have habs : ∀ p ∈ s.region, p.index ≠ i := fun p hp hpi => by have := h.fin p hp; rw [hpi] at this; omega
    have := (h.inv.emit i (numRowsOf ts i - s.cursors.getD i 0) (by omega) (by omega) habs).congr
      (c' := fun j => (s.cursors.set i (numRowsOf ts i)).getD j 0) (fun j => by
        rw [cur_set _ hi]; split <;> omega)
    refine ⟨⟨⟨by simp [h.len], this, fun p hp => ?_⟩, fun j => ?_⟩, ListFacts.getD_set_self 0 _ hi⟩
    · rcases List.mem_append.mp hp with hp | hp
      · rw [ListFacts.getD_set_ne 0 _ (habs p hp)]; exact h.fin p hp
      · obtain rfl := List.mem_singleton.mp hp; exact ListFacts.getD_set_self 0 _ hi
    · show s.cursors.getD j 0 ≤ (s.cursors.set i (numRowsOf ts i)).getD j 0
      by_cases hj : j = i
      · subst hj; rw [ListFacts.getD_set_self 0 _ hi]; exact hle
      · rw [ListFacts.getD_set_ne 0 _ hj]; exact Nat.le_refl _

theorem SInv'.resolveLone {ts : List RG} {s : St} (h : SInv' ts s) (strict desc : Bool) (rk : Option KeyRow) :
    Step ts s (Refine.resolveLone strict desc ts s rk) := by
  unfold Refine.resolveLone
  split
  · exact Step.refl h
  · rename_i i _
    split
    · exact Step.refl (s := { s with pendingLone := none }) h
    · split
      · exact Step.refl (s := { s with pendingLone := none }) h
      · rename_i hbig
        simp only [minStreamedRegionRows] at hbig
        exact SInv'.slice (s := { s with pendingLone := none }) h i _ _ (Nat.le_max_right _ _)
          (by omega) (Nat.min_le_right _ _)

theorem SInv'.stepEvent {ts : List RG} {s : St} (h : SInv' ts s) (strict desc : Bool) (ev : Event) :
    Step ts s (Refine.stepEvent strict desc ts s ev) ∧
    (ev.start = false → cur (Refine.stepEvent strict desc ts s ev) ev.index = numRowsOf ts ev.index) := by
  unfold Refine.stepEvent
  by_cases hst : ev.start = true
  · simp only [hst, if_true]
    have h1 : Step ts s (if s.pendingLone.isSome = true then Refine.resolveLone strict desc ts s (some ev.key) else s) := by
      split
      · exact h.resolveLone strict desc _
      · exact Step.refl h
    generalize (if s.pendingLone.isSome = true then Refine.resolveLone strict desc ts s (some ev.key) else s) = s1 at h1 ⊢
    refine ⟨?_, fun hh => by cases hh⟩
    split <;> exact h1
  · have hst' : ev.start = false := by simpa using hst
    simp only [hst', Bool.false_eq_true, if_false]
    have h1 : Step ts s (if s.pendingLone = some ev.index then Refine.resolveLone strict desc ts s none else s) := by
      split
      · exact h.resolveLone strict desc _
      · exact Step.refl h
    generalize (if s.pendingLone = some ev.index then Refine.resolveLone strict desc ts s none else s) = s1 at h1 ⊢
    obtain ⟨h3, hc3⟩ := SInv'.remainder (s := { s1 with active := s1.active.erase ev.index }) h1.1 ev.index
    have h4 : Step ts s (Refine.remainder ts { s1 with active := s1.active.erase ev.index } ev.index) := h1.trans h3
    split <;> exact ⟨h4, fun _ => hc3⟩

theorem SInv'.fold {ts : List RG} (strict desc : Bool) : ∀ (evs : List Event) (s : St), SInv' ts s →
    Step ts s (evs.foldl (Refine.stepEvent strict desc ts) s) ∧
    ∀ ev ∈ evs, ev.start = false →
      cur (evs.foldl (Refine.stepEvent strict desc ts) s) ev.index = numRowsOf ts ev.index
  | [], s, h => ⟨Step.refl h, fun _ he => nomatch he⟩
  | ev :: evs, s, h => by
    obtain ⟨h1, he1⟩ := h.stepEvent strict desc ev
    obtain ⟨h2, hk2⟩ := SInv'.fold strict desc evs _ h1.1
    refine ⟨h1.trans h2, fun e he hes => ?_⟩
    rcases List.mem_cons.mp he with rfl | he'
    · exact h2.done (he1 hes)
    · exact hk2 e he' hes

theorem getD_replicate_zero (n i : Nat) : (List.replicate n 0).getD i 0 = 0 := by
  rw [List.getD_eq_getElem?_getD, List.getElem?_replicate]; split <;> rfl

theorem refineSegment_partition (strict : Bool) (specs : List ColSpec) (ts : List RG) (plan : List (List Part))
    (h : refineSegment strict specs ts = some plan) :
    (∀ i, i < ts.length → Refine.walk i 0 plan.flatten = some (numRowsOf ts i)) ∧
    (∀ R ∈ plan, (R.map (·.index)).Nodup ∧ ∀ p ∈ R, p.index < ts.length) := by
  unfold refineSegment at h
  split at h
  · cases h
  simp only at h
  split at h
  · simp only [Option.some.injEq] at h
    have h0 : SInv' ts (St.init ts.length) :=
      ⟨by simp [St.init], ⟨fun i => by simp only [St.init, getD_replicate_zero]; exact Nat.zero_le _,
        fun i => by simp only [St.init, getD_replicate_zero]; rfl,
        ⟨by simp [Good, St.init], by simp [St.init]⟩⟩, by simp [St.init]⟩
    obtain ⟨hf, hdone⟩ := SInv'.fold (ts := ts) strict ((specs.getD 0 { desc := false, nullsFirst := false }).desc)
      (sortBy (eventLt (cmpRows specs)) (eventsOf ts)) _ h0
    obtain ⟨P, hP, hc⟩ := PInv.closeRegion _ hf.1.inv
    rw [hP] at h
    simp only at h
    subst h
    refine ⟨fun i hi => ?_, hc.good.2⟩
    have hw := hc.walk i
    rw [List.append_nil] at hw
    rw [hw]
    congr 1
    refine hdone { key := (ts.getD i default).hi, start := false, index := i } ?_ rfl
    apply (sortBy_perm _ _).mem_iff.mpr
    simp only [eventsOf, List.mem_flatMap, List.mem_range]
    exact ⟨i, hi, by simp⟩
  · cases h

end PqModel.Refine
