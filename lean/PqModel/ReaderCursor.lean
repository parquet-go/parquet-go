import PqModel.ReaderSeek

/-! # The deprecated `Reader`: two row readers behind one cursor (C08)

`parquet.Reader` (reader.go) owns two `reader` values over the same rows — `file`, used by
`ReadRows`, and `read`, used by `Read(&goValue)` (possibly over a converted view of the row group) —
and one `rowIndex` they share: every read first seeks the sub-reader it is going to use to
`rowIndex`, then advances `rowIndex` by what was delivered. `GenericReader[T]` wraps the same
struct (`Read([]T)` is a loop of `ReadRows`).

* MIRROR: `Sub.seek` / `Sub.read` / `Sub.reset` (`reader.SeekToRow` / `ReadRows` / `Reset`,
  reader.go:496-562: the `Rows` are opened lazily by the first read and sought to `rowIndex` then),
  `step` (`Reader.SeekToRow` / `ReadRows` / `Read` / `Reset`, reader.go:383-470), and `stepNoSeek`,
  the same with the `r.file.SeekToRow(r.rowIndex)` of `ReadRows` taken out (refuted below).
* SPEC: `XSpec` — a row counter: the position after a seek is `k`, after Reset `0`, and it advances
  by what each read of either style delivers.

The row readers underneath are any `RowM`: a machine that refines the reference row reader `RSpec`
of `ReaderSeek.lean` and accepts every seek (`rowsM`: `rowGroupRows` over lenient page readers —
`FilePages`, `multiPages`). -/
namespace PqModel.ReaderCursor
open PqModel.SeekLayers (ROut Machine)
open PqModel.ReaderSeek (ROp RSpec)

universe u

/-- the executable part of a row reader (`Rows`); with `RowM`: `SeekLayers.Machine` over `ROp` / `RSpec` -/
structure RowR where
  σ : Type u
  step : σ → ROp → σ × ROut
  init : σ

/-- a row reader that refines the reference row reader over `total` rows and accepts every seek -/
structure RowM extends RowR.{u} where
  inv : σ → Prop
  pos : σ → Option Nat
  total : Nat
  init_inv : inv init
  init_pos : pos init = some 0
  step_inv : ∀ s op, inv s → inv (step s op).1
  step_spec : ∀ s op, inv s → RSpec total (pos s) op (pos (step s op).1) (step s op).2
  lenient : ∀ s k, inv s → (step s (.seek k)).2 = .ok

def count : ROut → Nat
  | .rows _ c => c
  | _ => 0

/-- Go `reader`: `rows` is nil until the first read -/
structure Sub (b : RowR.{u}) where
  rows : Option b.σ
  rowIndex : Nat

namespace Sub
variable {b : RowR.{u}}

/-- MIRROR of `reader.SeekToRow` (reader.go:549-562): nothing to do when the index is the
    current one; the open `Rows` are sought, unopened ones only remember the index -/
def seek (r : Sub b) (k : Nat) : Sub b × ROut :=
  if k ≠ r.rowIndex then
    match r.rows with
    | some st =>
      match (b.step st (.seek k)).2 with
      | .ok => ({ rows := some (b.step st (.seek k)).1, rowIndex := k }, .ok)
      | o => ({ rows := some (b.step st (.seek k)).1, rowIndex := r.rowIndex }, o)
    | none => ({ rows := none, rowIndex := k }, .ok)
  else (r, .ok)

/-- `n, err := r.rows.ReadRows(rows); r.rowIndex += n` -/
def readK (r : Sub b) (st : b.σ) (n : Nat) : Sub b × ROut :=
  ({ rows := some (b.step st (.read n)).1, rowIndex := r.rowIndex + count (b.step st (.read n)).2 },
   (b.step st (.read n)).2)

/-- MIRROR of `reader.ReadRows` (reader.go:532-547): open the `Rows` on the first read and seek
    them to the remembered index -/
def read (r : Sub b) (n : Nat) : Sub b × ROut :=
  match r.rows with
  | none =>
    if 0 < r.rowIndex then
      match (b.step b.init (.seek r.rowIndex)).2 with
      | .ok => readK r (b.step b.init (.seek r.rowIndex)).1 n
      | o => ({ rows := some (b.step b.init (.seek r.rowIndex)).1, rowIndex := r.rowIndex }, o)
    else readK r b.init n
  | some st => readK r st n

/-- MIRROR of `reader.Reset` (reader.go:510-530) for `Rows` that have a `Reset` method -/
def reset (r : Sub b) : Sub b :=
  { rows := r.rows.map fun st => (b.step st .reset).1, rowIndex := 0 }

end Sub

/-- `parquet.Reader` -/
structure St (bf br : RowR.{u}) where
  file : Sub bf
  read : Sub br
  rowIndex : Nat

inductive XOp where
  | seek (k : Nat)      -- SeekToRow(k)
  | readRows (n : Nat)  -- ReadRows(make([]Row, n))
  | read                -- Read(&v)
  | reset
deriving Repr, DecidableEq

variable {bf br : RowR.{u}}

/-- MIRROR of `Reader.SeekToRow` (reader.go:464-470) -/
def xseek (s : St bf br) (k : Nat) : St bf br × ROut :=
  match (s.file.seek k).2 with
  | .ok => ({ s with file := (s.file.seek k).1, rowIndex := k }, .ok)
  | o => ({ s with file := (s.file.seek k).1 }, o)

/-- the body of `Reader.ReadRows` behind the seek -/
def xreadRowsK (s : St bf br) (n : Nat) : St bf br × ROut :=
  ({ s with file := (s.file.read n).1, rowIndex := s.rowIndex + count (s.file.read n).2 }, (s.file.read n).2)

/-- MIRROR of `Reader.ReadRows` (reader.go:448-455): bring `file` to the shared index first -/
def xreadRows (s : St bf br) (n : Nat) : St bf br × ROut :=
  match (s.file.seek s.rowIndex).2 with
  | .ok => xreadRowsK { s with file := (s.file.seek s.rowIndex).1 } n
  | o => ({ s with file := (s.file.seek s.rowIndex).1 }, o)

/-- MIRROR of `Reader.Read` (reader.go:394-423): bring `read` to the shared index, read one row -/
def xread (s : St bf br) : St bf br × ROut :=
  match (s.read.seek s.rowIndex).2 with
  | .ok =>
    ({ s with read := (((s.read.seek s.rowIndex).1).read 1).1,
              rowIndex := s.rowIndex + count (((s.read.seek s.rowIndex).1).read 1).2 },
     (((s.read.seek s.rowIndex).1).read 1).2)
  | o => ({ s with read := (s.read.seek s.rowIndex).1 }, o)

/-- MIRROR of `Reader` -/
def step (s : St bf br) : XOp → St bf br × ROut
  | .seek k => xseek s k
  | .readRows n => xreadRows s n
  | .read => xread s
  | .reset => ({ file := s.file.reset, read := s.read.reset, rowIndex := 0 }, .ok)

/-- `Reader` with the `r.file.SeekToRow(r.rowIndex)` of `ReadRows` removed ("`SeekToRow` already
    positions `r.file`") -/
def stepNoSeek (s : St bf br) : XOp → St bf br × ROut
  | .readRows n => xreadRowsK s n
  | op => step s op

def init (bf br : RowR.{u}) : St bf br :=
  { file := { rows := none, rowIndex := 0 }, read := { rows := none, rowIndex := 0 }, rowIndex := 0 }

def outs (stp : St bf br → XOp → St bf br × ROut) : St bf br → List XOp → List ROut
  | _, [] => []
  | s, op :: ops => (stp s op).2 :: outs stp (stp s op).1 ops

/-- SPEC: the reference reader over `T` rows standing before row `p`; a failed read delivers
    nothing and leaves the position where it was -/
def XSpec (T : Nat) (p : Nat) (op : XOp) (p' : Nat) (out : ROut) : Prop :=
  match op with
  | .seek k => out = .ok ∧ p' = k
  | .reset => out = .ok ∧ p' = 0
  | .readRows n => (out = .rows p (min n (T - p)) ∧ p' = p + min n (T - p)) ∨ (out = .fail ∧ p' = p)
  | .read => (out = .rows p (min 1 (T - p)) ∧ p' = p + min 1 (T - p)) ∨ (out = .fail ∧ p' = p)

inductive XRunOK (T : Nat) : Nat → List XOp → List ROut → Prop where
  | nil (p) : XRunOK T p [] []
  | cons {p op p' out ops os} : XSpec T p op p' out → XRunOK T p' ops os → XRunOK T p (op :: ops) (out :: os)

/-- an open sub-reader stands on its `rowIndex`, or has lost its position in a failed read -/
def SubInv (b : RowM.{u}) (r : Sub b.toRowR) : Prop :=
  ∀ st, r.rows = some st → b.inv st ∧ (b.pos st = none ∨ b.pos st = some r.rowIndex)

theorem subInv_some (b : RowM.{u}) (st : b.σ) (k : Nat) :
    SubInv b { rows := some st, rowIndex := k } ↔ b.inv st ∧ (b.pos st = none ∨ b.pos st = some k) :=
  ⟨fun h => h st rfl, fun h _ e => by cases e; exact h⟩

theorem RowM.seek_pos (b : RowM.{u}) (st : b.σ) (k : Nat) (hi : b.inv st) :
    (b.step st (.seek k)).2 = .ok ∧ b.pos (b.step st (.seek k)).1 = some k := by
  have hok := b.lenient st k hi
  rcases b.step_spec st (.seek k) hi with ⟨_, hp⟩ | ⟨hbad, _⟩
  · exact ⟨hok, hp⟩
  · rw [hok] at hbad; cases hbad

theorem sub_seek_spec (b : RowM.{u}) (r : Sub b.toRowR) (k : Nat) (h : SubInv b r) :
    (r.seek k).2 = .ok ∧ (r.seek k).1.rowIndex = k ∧ SubInv b (r.seek k).1 := by
  unfold Sub.seek
  by_cases hk : k = r.rowIndex
  · rw [if_neg (fun hne => hne hk)]
    exact ⟨rfl, hk.symm, h⟩
  · rw [if_pos hk]
    cases hr : r.rows with
    | none => exact ⟨rfl, rfl, fun st hst => by cases hst⟩
    | some st =>
      obtain ⟨hok, hp⟩ := b.seek_pos st k (h st hr).1
      simp only [hok]
      exact ⟨trivial, trivial, (subInv_some b _ k).mpr ⟨b.step_inv st (.seek k) (h st hr).1, Or.inr hp⟩⟩

theorem readK_spec (b : RowM.{u}) (r : Sub b.toRowR) (st : b.σ) (n : Nat) (hi : b.inv st)
    (hp : b.pos st = none ∨ b.pos st = some r.rowIndex) :
    SubInv b (r.readK st n).1 ∧
    (((r.readK st n).2 = .rows r.rowIndex (min n (b.total - r.rowIndex)) ∧
      (r.readK st n).1.rowIndex = r.rowIndex + min n (b.total - r.rowIndex)) ∨
     ((r.readK st n).2 = .fail ∧ (r.readK st n).1.rowIndex = r.rowIndex)) := by
  have hinv := b.step_inv st (.read n) hi
  -- rows from `rowIndex` on, or a failed read after which the rows have lost their position
  have hspec : ((b.step st (.read n)).2 = .rows r.rowIndex (min n (b.total - r.rowIndex)) ∧
        b.pos (b.step st (.read n)).1 = some (r.rowIndex + min n (b.total - r.rowIndex))) ∨
      ((b.step st (.read n)).2 = .fail ∧ b.pos (b.step st (.read n)).1 = none) := by
    have := b.step_spec st (.read n) hi
    rcases hp with hp | hp
    · rw [hp] at this; exact Or.inr this
    · rw [hp] at this; exact this
  unfold Sub.readK
  rcases hspec with ⟨ho, hn⟩ | ⟨ho, hn⟩
  · have hc : count (b.step st (.read n)).2 = min n (b.total - r.rowIndex) := by rw [ho]; rfl
    exact ⟨(subInv_some b _ _).mpr ⟨hinv, Or.inr (by rw [hc]; exact hn)⟩, Or.inl ⟨ho, by rw [hc]⟩⟩
  · exact ⟨(subInv_some b _ _).mpr ⟨hinv, Or.inl hn⟩, Or.inr ⟨ho, by rw [ho]; rfl⟩⟩

theorem sub_read_spec (b : RowM.{u}) (r : Sub b.toRowR) (n : Nat) (h : SubInv b r) :
    SubInv b (r.read n).1 ∧
    (((r.read n).2 = .rows r.rowIndex (min n (b.total - r.rowIndex)) ∧
      (r.read n).1.rowIndex = r.rowIndex + min n (b.total - r.rowIndex)) ∨
     ((r.read n).2 = .fail ∧ (r.read n).1.rowIndex = r.rowIndex)) := by
  unfold Sub.read
  cases hr : r.rows with
  | some st => exact readK_spec b r st n (h st hr).1 (h st hr).2
  | none =>
    simp only []  -- only reduces the `match` on `none`
    split
    · obtain ⟨hok, hp⟩ := b.seek_pos b.init r.rowIndex b.init_inv
      simp only [hok]
      exact readK_spec b r _ n (b.step_inv _ _ b.init_inv) (Or.inr hp)
    · rename_i h0
      exact readK_spec b r b.init n b.init_inv (Or.inr (by rw [b.init_pos, Nat.eq_zero_of_not_pos h0]))

theorem sub_reset_spec (b : RowM.{u}) (r : Sub b.toRowR) (h : SubInv b r) :
    SubInv b r.reset ∧ r.reset.rowIndex = 0 := by
  refine ⟨?_, rfl⟩
  intro st' hst'
  simp only [Sub.reset, Option.map_eq_some_iff] at hst'
  obtain ⟨st, hst, rfl⟩ := hst'
  obtain ⟨hi, _⟩ := h st hst
  refine ⟨b.step_inv st .reset hi, Or.inr ?_⟩
  exact (b.step_spec st .reset hi).2

/-- invariant of the `Reader`: nothing ties the sub-readers to the shared index — each read
    brings the one it uses there -/
def XInv (mf mr : RowM.{u}) (s : St mf.toRowR mr.toRowR) : Prop := SubInv mf s.file ∧ SubInv mr s.read

theorem step_spec (mf mr : RowM.{u}) (T : Nat) (hf : mf.total = T) (hr : mr.total = T)
    (s : St mf.toRowR mr.toRowR) (op : XOp) (h : XInv mf mr s) :
    XInv mf mr (step s op).1 ∧ XSpec T s.rowIndex op (step s op).1.rowIndex (step s op).2 := by
  obtain ⟨h1, h2⟩ := h
  cases op with
  | seek k =>
    obtain ⟨a, _, c⟩ := sub_seek_spec mf s.file k h1
    simp only [step, xseek, a]
    exact ⟨⟨c, h2⟩, rfl, rfl⟩
  | reset =>
    exact ⟨⟨(sub_reset_spec mf s.file h1).1, (sub_reset_spec mr s.read h2).1⟩, rfl, rfl⟩
  | readRows n =>
    obtain ⟨a, b, c⟩ := sub_seek_spec mf s.file s.rowIndex h1
    obtain ⟨d, e⟩ := sub_read_spec mf (s.file.seek s.rowIndex).1 n c
    simp only [step, xreadRows, a, xreadRowsK]
    refine ⟨⟨d, h2⟩, ?_⟩
    rw [b, hf] at e
    rcases e with ⟨e1, _⟩ | ⟨e1, _⟩
    · exact Or.inl ⟨e1, by rw [e1]; simp [count]⟩
    · exact Or.inr ⟨e1, by rw [e1]; simp [count]⟩
  | read =>
    obtain ⟨a, b, c⟩ := sub_seek_spec mr s.read s.rowIndex h2
    obtain ⟨d, e⟩ := sub_read_spec mr (s.read.seek s.rowIndex).1 1 c
    simp only [step, xread, a]
    refine ⟨⟨h1, d⟩, ?_⟩
    rw [b, hr] at e
    rcases e with ⟨e1, _⟩ | ⟨e1, _⟩
    · exact Or.inl ⟨e1, by rw [e1]; simp [count]⟩
    · exact Or.inr ⟨e1, by rw [e1]; simp [count]⟩

theorem init_inv (mf mr : RowM.{u}) : XInv mf mr (init mf.toRowR mr.toRowR) :=
  ⟨fun _ h => by simp [init] at h, fun _ h => by simp [init] at h⟩

theorem run_refines (mf mr : RowM.{u}) (T : Nat) (hf : mf.total = T) (hr : mr.total = T) :
    ∀ (ops : List XOp) (s : St mf.toRowR mr.toRowR), XInv mf mr s →
    XRunOK T s.rowIndex ops (outs step s ops)
  | [], _, _ => XRunOK.nil _
  | op :: ops, s, h => by
    obtain ⟨a, b⟩ := step_spec mf mr T hf hr s op h
    exact XRunOK.cons b (run_refines mf mr T hf hr ops _ a)

/-- the reference row reader itself (used for the witnesses below) -/
def refR (T : Nat) : RowR where
  σ := Nat
  step p
    | .seek k => (k, .ok)
    | .read n => (p + min n (T - p), .rows p (min n (T - p)))
    | .reset => (0, .ok)
  init := 0

/-- `refR` with its (trivial) refinement proof -/
def refM (T : Nat) : RowM where
  toRowR := refR T
  inv _ := True
  pos p := some p
  total := T
  init_inv := trivial
  init_pos := rfl
  step_inv _ _ _ := trivial
  step_spec p op _ := by
    cases op with
    | seek k => exact Or.inl ⟨rfl, rfl⟩
    | reset => exact ⟨rfl, rfl⟩
    | read n => exact Or.inl ⟨rfl, rfl⟩
  lenient _ _ _ := rfl

open PqModel.ReaderSeek in
/-- `rowGroupRows` over page readers that accept every seek (`FilePages` of chunks with pages,
    `multiPages`) is such a row reader -/
def rowsM (T : Nat) (ms : List Machine.{u}) (hne : ms ≠ []) (hT : ∀ m ∈ ms, m.total = T)
    (hl : ∀ m ∈ ms, m.Lenient) : RowM.{u+1} where
  σ := RSt.{u}
  step := rstep
  init := rinit ms
  inv := RInv T true
  pos := rpos
  total := T
  init_inv := rinit_inv T true ms hne hT hl
  init_pos := by simp [rpos, rinit]
  step_inv s op h := (rstep_spec T true s op h).1
  step_spec s op h := (rstep_spec T true s op h).2
  lenient s k h := (rseek_ok T true s k (Or.inr rfl) h).2.1

/-! ### the variant without the seek in `ReadRows` is wrong -/

/-- `Read(&v)` then `ReadRows(1)` on a fresh reader: the second read must deliver row 1 -/
def mixed : List XOp := [.read, .readRows 1]

example : outs step (init (refR 10) (refR 10)) mixed = [.rows 0 1, .rows 1 1] := by decide
example : outs stepNoSeek (init (refR 10) (refR 10)) mixed = [.rows 0 1, .rows 0 1] := by decide

/-- `SeekToRow(5)`, `Read`, `Read`, `ReadRows(2)`: rows 5, 6, then 7..8 -/
example : outs step (init (refR 10) (refR 10)) [.seek 5, .read, .read, .readRows 2]
    = [.ok, .rows 5 1, .rows 6 1, .rows 7 2] := by decide
example : outs stepNoSeek (init (refR 10) (refR 10)) [.seek 5, .read, .read, .readRows 2]
    = [.ok, .rows 5 1, .rows 6 1, .rows 5 2] := by decide

/-! ### observation: a row reader that refuses seeks beyond the end -/

/-- a reference row reader that refuses seeks beyond its last row (as the rows of a row-range view do) -/
def strictR (T : Nat) : RowR where
  σ := Nat
  step p
    | .seek k => if T < k then (p, .err) else (k, .ok)
    | .read n => (p + min n (T - p), .rows p (min n (T - p)))
    | .reset => (0, .ok)
  init := 0

/-- OBSERVATION (why `RowM.lenient` is a hypothesis; not reachable through the constructors of the
    library, whose file, multi-row-group and buffer row readers all accept such seeks): over a row
    reader that refuses seeks beyond the end, `SeekToRow(11)` on a fresh `Reader` of 10 rows is
    accepted — the `Rows` are not open yet, only the index is remembered —, the first `ReadRows`
    reports the refusal, and the second delivers row 0. -/
example : outs step (init (strictR 10) (strictR 10)) [.seek 11, .readRows 1, .readRows 1]
    = [.ok, .err, .rows 0 1] := by decide

end PqModel.ReaderCursor
