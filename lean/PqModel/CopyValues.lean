/-! # C11 — `copyColumnValues` below the stream level: the batches handed to the column writer

`copyColumnValues` (writer_reencode.go:219-263) reads the values of a source column chunk through
`columnChunkValueReader.ReadValues` (column_chunk.go:123-150) into a buffer of
`reencodeValueBufferSize` = 1024 values and hands them to `ColumnWriter.WriteRowValues`
(writer.go:2419-2437), which may cut a data page at the end of ANY batch it is handed (it flushes
when its buffer exceeds the page buffer size). A data page must start at the beginning of a row, so
for a repeated column the values of the last, possibly unfinished, row of a read are held back and
written with the next batch, and the buffer doubles when one row fills it.

MIRROR: `readValues`, `lastStart`, `copyLoop`. SPEC (parquet format, "a data page starts a new
row": repetition level 0 at its first value): `StartsRow`. The value type is abstract; `isStart v`
is "repetition level of `v` is 0". -/
namespace PqModel.CopyValues

variable {V : Type}

inductive Status where
  | done        -- `io.EOF` from the reader: `return nil`
  | noProgress  -- the reader was offered an empty buffer: `io.ErrNoProgress`
  | fuel        -- the model ran out of fuel (never with `fuel > number of values`, `copy_terminates`)
  deriving DecidableEq, Repr

/-- MIRROR column_chunk.go:123-150 `columnChunkValueReader.ReadValues(values)` with
    `space = len(values)`; the state is the list of pages not yet read, each as the values it still
    holds (an exhausted page answers `0, io.EOF` and the reader moves on to the next one).
    `none` = `0, io.EOF` (no page left); `some ([], _)` = `0, io.ErrNoProgress` (`space = 0`);
    else the first `space` values of the current page. -/
def readValues (space : Nat) : List (List V) → Option (List V × List (List V))
  | [] => none
  | [] :: ps => readValues space ps
  | (v :: p) :: ps => some ((v :: p).take space, (v :: p).drop space :: ps)

/-- the last index at which `p` holds -/
def lastIdx (p : V → Bool) : List V → Option Nat
  | [] => none
  | v :: vs =>
    match lastIdx p vs with
    | some j => some (j + 1)
    | none => if p v then some 0 else none

/-- MIRROR writer_reencode.go:234-241: `end = 0; for i := n-1; i > 0; i-- { if rep(buf[i]) == 0 {
    end = i; break } }` — the last index other than 0 whose value starts a row, 0 when there is none -/
def lastStart (isStart : V → Bool) : List V → Nat
  | [] => 0
  | _ :: vs =>
    match lastIdx isStart vs with
    | some j => j + 1
    | none => 0

/-- MIRROR writer_reencode.go:226-262, the loop of `copyColumnValues`. State: the pages the reader
    has left, `cap = len(buf)`, `pend = buf[:pending]`. Result: the batches handed to
    `dst.WriteRowValues` in order, and how the loop ended. One unit of fuel per iteration. -/
def copyLoop (rep : Bool) (isStart : V → Bool) :
    Nat → List (List V) → Nat → List V → List (List V) × Status
  | 0, _, _, _ => ([], .fuel)
  | fuel + 1, pages, cap, pend =>
    match readValues (cap - pend.length) pages with
    | none => (if pend.isEmpty then [] else [pend], .done)          -- err == io.EOF: end = n
    | some ([], _) => (if pend.isEmpty then [] else [pend], .noProgress) -- err != nil: end = n, return err
    | some (g :: got, pages') =>
      let buf := pend ++ g :: got
      let e := if rep then lastStart isStart buf else buf.length
      let cap' := if rep && e == 0 && buf.length == cap then cap + cap else cap
      let r := copyLoop rep isStart fuel pages' cap' (buf.drop e)
      (if e > 0 then buf.take e :: r.1 else r.1, r.2)

/-- `copyColumnValues(dst, src)`: `buf := make([]Value, 1024)`, `pending := 0` -/
def copyColumnValues (rep : Bool) (isStart : V → Bool) (fuel : Nat) (pages : List (List V)) :
    List (List V) × Status :=
  copyLoop rep isStart fuel pages 1024 []

/-- SPEC: a batch (a page) is not empty and its first value has repetition level 0 -/
def StartsRow (isStart : V → Bool) (b : List V) : Prop :=
  ∃ v, b.head? = some v ∧ isStart v = true

theorem readValues_spec (space : Nat) (pages : List (List V)) :
    match readValues space pages with
    | none => pages.flatten = []
    | some (got, pages') => got ++ pages'.flatten = pages.flatten ∧ got.length ≤ space ∧ (0 < space → got ≠ []) := by
  fun_induction readValues space pages with
  | case1 => rfl
  | case2 ps ih => simpa using ih
  | case3 v p ps =>
    refine ⟨by simp only [List.flatten_cons, ← List.append_assoc, List.take_append_drop],
      by rw [List.length_take]; exact Nat.min_le_left .., fun hs => ?_⟩
    cases space with
    | zero => cases hs
    | succ n => simp

theorem readValues_none {space : Nat} : ∀ {pages : List (List V)},
    readValues space pages = none → pages.flatten = [] := by
  intro pages h
  have := readValues_spec space pages
  rwa [h] at this

theorem readValues_some {space : Nat} : ∀ {pages pages' : List (List V)} {got : List V},
    readValues space pages = some (got, pages') → got ++ pages'.flatten = pages.flatten := by
  intro pages pages' got h
  have := readValues_spec space pages
  rw [h] at this
  exact this.1

theorem readValues_length_le {space : Nat} : ∀ {pages pages' : List (List V)} {got : List V},
    readValues space pages = some (got, pages') → got.length ≤ space := by
  intro pages pages' got h
  have := readValues_spec space pages
  rw [h] at this
  exact this.2.1

theorem readValues_progress {space : Nat} (hs : 0 < space) : ∀ {pages pages' : List (List V)} {got : List V},
    readValues space pages = some (got, pages') → got ≠ [] := by
  intro pages pages' got h
  have := readValues_spec space pages
  rw [h] at this
  exact this.2.2 hs

theorem lastIdx_spec (p : V → Bool) {l : List V} {j : Nat} :
    lastIdx p l = some j → j < l.length ∧ ∃ v, (l.drop j).head? = some v ∧ p v = true := by
  -- cases of `lastIdx`: empty; a later hit; no later hit and `p v`; no hit at all
  fun_induction lastIdx p l generalizing j with
  | case1 => intro h; cases h
  | case2 v vs j' hr ih => intro h; cases h; simpa using ih hr
  | case3 v vs hr hv => intro h; cases h; exact ⟨by simp, v, rfl, hv⟩
  | case4 v vs hr hv => intro h; cases h

theorem lastStart_spec (isStart : V → Bool) {buf : List V} (h : 0 < lastStart isStart buf) :
    lastStart isStart buf < buf.length ∧ StartsRow isStart (buf.drop (lastStart isStart buf)) := by
  cases buf with
  | nil => simp [lastStart] at h
  | cons b vs =>
    simp only [lastStart] at h ⊢
    split
    · next j hj =>
      have := lastIdx_spec isStart hj
      simpa [StartsRow] using this
    · next hn => simp [hn] at h

theorem lastStart_lt (isStart : V → Bool) {buf : List V} (h : buf ≠ []) :
    lastStart isStart buf < buf.length := by
  by_cases h0 : 0 < lastStart isStart buf
  · exact (lastStart_spec isStart h0).1
  · cases buf with
    | nil => exact absurd rfl h
    | cons => simp only [List.length_cons]; omega

/-- what stays after a cut leaves room: a buffer full of one unfinished row doubles -/
theorem room_after_cut (rep : Bool) {n cap e : Nat} (hn : n ≤ cap) (hpos : 0 < n)
    (he : if rep then e < n else e = n) :
    n - e < (if (rep && e == 0 && n == cap) = true then cap + cap else cap) := by
  cases rep
  · simp only [Bool.false_eq_true, if_false] at he
    simp only [Bool.false_and, Bool.false_eq_true, if_false]
    omega
  · simp only [if_true] at he
    simp only [Bool.true_and, Bool.and_eq_true, beq_iff_eq]
    split <;> omega

end PqModel.CopyValues
