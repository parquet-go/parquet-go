import PqModel.BitPackedLemmas
import PqModel.BitsBytes

/-! # MIRROR of the legacy BIT_PACKED level decoder (`encoding/bitpacked`, C04 part rle)

`goBitPackedValue` / `goDecodeBitPacked` transliterate `bitpacked.go:75-118` (`decodeLevels`); the
lemmas prove them equal to the SPEC reading `Rle.unpackMsb` (values and bytes most significant bit
first, Encodings.md "Bit-packed (Deprecated)"). Byte operations are written arithmetically:
`x >> s` = `x / 2^s`, `x & (2^a - 1)` = `x % 2^a`, `(top << r) | bottom` on disjoint ranges = sum. -/
namespace PqModel.Rle
open PqModel.Bits

/-- MIRROR bitpacked.go:96-115, the body of `for k := range dst`: `i, j := bitOffset/8, bitOffset%8`,
`available := 8 - j`; a value inside byte `i` is `(src[i] >> (available - w)) & bitMask`
(`bitMask = byte(1<<w) - 1`, 255 for `w = 8`); otherwise `topBits := src[i] & (1<<available - 1)`,
`bottomBits := src[i+1] >> (8 - remaining)` when byte `i+1` exists (else 0), and the value is
`topBits << remaining | bottomBits`. -/
def goBitPackedValue (w : Nat) (src : List Nat) (k : Nat) : Nat :=
  let i := k * w / 8
  let j := k * w % 8
  let avail := 8 - j
  if w ≤ avail then (src.getD i 0 / 2 ^ (avail - w)) % 2 ^ w
  else
    let remaining := w - avail
    let top := src.getD i 0 % 2 ^ avail
    let bottom := if i + 1 < src.length then src.getD (i + 1) 0 / 2 ^ (8 - remaining) else 0
    top * 2 ^ remaining + bottom

/-- MIRROR bitpacked.go:75-118 `decodeLevels`: `numValues = ceil(8*len(src) / w)`, every element of
`dst` is stored (the former content of `dst` is irrelevant: it is zeroed or freshly made, and then
overwritten). Width 0 or empty input gives the single byte 0. -/
def goDecodeBitPacked (w : Nat) (src : List Nat) : List Nat :=
  if w = 0 ∨ src = [] then [0] else
  let numBits := 8 * src.length
  let numValues := numBits / w + (if numBits % w ≠ 0 then 1 else 0)
  (List.range numValues).map (goBitPackedValue w src)

theorem unpackMsb_eq_map (w n : Nat) (bits : List Bool) :
    unpackMsb w n bits = (List.range n).map (fun k => fromBits ((bits.drop (k * w)).take w).reverse) := by
  fun_induction unpackMsb w n bits with
  | case1 => rfl
  | case2 n bits ih =>
    rw [ih, List.range_succ_eq_map]
    simp only [List.map_cons, List.map_map, Nat.zero_mul, List.drop_zero]
    congr 1
    apply List.map_congr_left
    intro k _
    simp only [Function.comp, List.drop_drop]
    congr 4
    rw [Nat.succ_mul]; omega

theorem bytesToBitsMsb_cons (b : Nat) (p : List Nat) :
    bytesToBitsMsb (b :: p) = toBitsMsb 8 b ++ bytesToBitsMsb p := by
  simp [bytesToBitsMsb]

theorem bytesToBitsMsb_drop (k : Nat) (p : List Nat) : (bytesToBitsMsb p).drop (8 * k) = bytesToBitsMsb (p.drop k) :=
  Pieces.drop_flatMap k (fun b _ => toBitsMsb_length 8 b)

theorem msb_drop (L : List Bool) (hL : L.length = 8) (j : Nat) :
    fromBits ((L.reverse.drop j).reverse) = fromBits L % 2 ^ (8 - j) := by
  rw [List.drop_reverse, List.reverse_reverse, hL, fromBits_take]

theorem msb_take (L : List Bool) (hL : L.length = 8) (r : Nat) :
    fromBits ((L.reverse.take r).reverse) = fromBits L / 2 ^ (8 - r) := by
  rw [List.take_reverse, List.reverse_reverse, hL, fromBits_drop]

theorem msb_window (L : List Bool) (hL : L.length = 8) (j w : Nat) (hfit : w ≤ 8 - j) :
    fromBits (((L.reverse.drop j).take w).reverse) = fromBits L / 2 ^ (8 - j - w) % 2 ^ w := by
  rw [List.drop_reverse, List.take_reverse, List.reverse_reverse, hL, List.length_take, hL,
    Nat.min_eq_left (Nat.sub_le 8 j), List.drop_take, fromBits_take, fromBits_drop, Nat.sub_sub_self hfit]

theorem drop_eq_getD_cons (src : List Nat) (i : Nat) (hi : i < src.length) :
    src.drop i = src.getD i 0 :: src.drop (i + 1) := by
  rw [ListFacts.getD_of_lt 0 hi]
  exact List.drop_eq_getElem_cons hi

theorem getD_lt (src : List Nat) (hb : ∀ b ∈ src, b < 256) (i : Nat) (hi : i < src.length) :
    src.getD i 0 < 256 :=
  hb _ (ListFacts.getD_mem 0 hi)

theorem goBitPackedValue_eq (w : Nat) (hw1 : 1 ≤ w) (hw8 : w ≤ 8) (src : List Nat) (hb : ∀ b ∈ src, b < 256)
    (k : Nat) (hk : (k + 1) * w ≤ 8 * src.length) :
    goBitPackedValue w src k = fromBits (((bytesToBitsMsb src).drop (k * w)).take w).reverse := by
  have hkw : k * w + w ≤ 8 * src.length := by rw [Nat.succ_mul] at hk; exact hk
  have hsplit : k * w = 8 * (k * w / 8) + k * w % 8 := (Nat.div_add_mod _ 8).symm
  have hj : k * w % 8 < 8 := Nat.mod_lt _ (by decide)
  simp only [goBitPackedValue]
  generalize k * w / 8 = i at hsplit ⊢
  generalize k * w % 8 = j at hj hsplit ⊢
  have hi : i < src.length := by omega
  have hb0 := getD_lt src hb i hi
  rw [hsplit, ← List.drop_drop, bytesToBitsMsb_drop, drop_eq_getD_cons src i hi, bytesToBitsMsb_cons,
    List.drop_append_of_le_length (by rw [toBitsMsb_length]; omega)]
  generalize src.getD i 0 = b0 at hb0 ⊢
  have hL : (toBits 8 b0).length = 8 := toBits_length 8 b0
  have hXlen : ((toBitsMsb 8 b0).drop j).length = 8 - j := by rw [List.length_drop, toBitsMsb_length]
  by_cases hfit : w ≤ 8 - j
  · rw [if_pos hfit, List.take_append_of_le_length (by rw [hXlen]; exact hfit), toBitsMsb,
      msb_window _ hL j w hfit, fromBits_toBits8 b0 hb0]
  · -- the value straddles bytes `i` and `i + 1`
    have hi1 : i + 1 < src.length := by omega
    have hb1 := getD_lt src hb (i + 1) hi1
    rw [if_neg hfit, if_pos hi1, drop_eq_getD_cons src (i + 1) hi1, bytesToBitsMsb_cons]
    generalize src.getD (i + 1) 0 = b1 at hb1 ⊢
    have hL1 : (toBits 8 b1).length = 8 := toBits_length 8 b1
    rw [List.take_append, List.take_of_length_le (by rw [hXlen]; omega), hXlen,
      List.take_append_of_le_length (by rw [toBitsMsb_length]; omega), List.reverse_append, fromBits_append,
      List.length_reverse, List.length_take, toBitsMsb_length, Nat.min_eq_left (by omega), toBitsMsb, toBitsMsb,
      msb_take _ hL1, msb_drop _ hL j, fromBits_toBits8 b0 hb0, fromBits_toBits8 b1 hb1, Nat.mul_comm, Nat.add_comm]

theorem goDecodeBitPacked_eq (w n : Nat) (hw1 : 1 ≤ w) (hw8 : w ≤ 8) (src : List Nat) (hb : ∀ b ∈ src, b < 256)
    (hn : n * w ≤ 8 * src.length) :
    (goDecodeBitPacked w src).take n = unpackMsb w n (bytesToBitsMsb src) := by
  cases n with
  | zero => rfl
  | succ n =>
  -- a value needs at least one byte; on an empty input the Go code answers `[0]`
  have hne : src ≠ [] := by
    intro h; subst h
    have : 1 * w ≤ (n + 1) * w := Nat.mul_le_mul_right w (by omega)
    simp at hn; omega
  have hw0 : ¬ w = 0 := by omega
  simp only [goDecodeBitPacked, hw0, hne, or_self, if_false]
  have hnv : n + 1 ≤ 8 * src.length / w := by
    rw [Nat.le_div_iff_mul_le (by omega)]; exact hn
  rw [← List.map_take, List.take_range, Nat.min_eq_left (by omega), unpackMsb_eq_map]
  apply List.map_congr_left
  intro k hk
  have hk' : k < n + 1 := by simpa using hk
  apply goBitPackedValue_eq w hw1 hw8 src hb k
  have : (k + 1) * w ≤ (n + 1) * w := Nat.mul_le_mul_right w (by omega)
  omega

theorem bitsToBytesMsb_lt (f : Nat) (bs : List Bool) : ∀ b ∈ bitsToBytesMsb f bs, b < 256 := by
  fun_induction bitsToBytesMsb f bs with
  | case1 => intro b hb; cases hb
  | case2 => intro b hb; cases hb
  | case3 f bs _ ih =>
    intro b hb
    rcases List.mem_cons.mp hb with rfl | hb
    · have h := fromBits_lt ((bs.take 8 ++ List.replicate (8 - (bs.take 8).length) false).reverse)
      have hl : ((bs.take 8 ++ List.replicate (8 - (bs.take 8).length) false).reverse).length = 8 := by
        simp only [List.length_reverse, List.length_append, List.length_replicate, List.length_take]; omega
      rw [hl] at h
      exact h
    · exact ih b hb

theorem encodeBitPacked_lt (w : Nat) (xs : List Nat) : ∀ b ∈ encodeBitPacked w xs, b < 256 := by
  intro b hb
  simp only [encodeBitPacked] at hb
  split at hb
  · simp at hb; omega
  · exact bitsToBytesMsb_lt _ _ b hb

end PqModel.Rle
