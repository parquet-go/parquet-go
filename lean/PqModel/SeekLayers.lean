import PqModel.Seek

/-! # Readers stacked on `FilePages` as refinement steps (C08)

`Machine` is the interface every `Pages` implementation of the library offers to the layer above:
a state, a step function for `SeekToRow` / `ReadPage`, an invariant and an abstraction map `pos`
to the reference reader (`PSpec`: a row counter over `total` rows whose position is undefined
between a failed read and the next seek). `FilePages` (the repaired mirror of `Seek.lean`) is an
instance (`filePages`); `rangePages` (row_range.go) and `multiPages` (multi_row_group.go) are
functions from machines to machines, so their refinement theorems compose. `Machine.Refines` is the
property on row lists, `Lenient` / `Strict` how a reader answers a seek beyond its end. -/
namespace PqModel.SeekLayers
open PqModel.Seek (Op Chunk St)

universe u

/-- what a layer shows to the layer above: no page numbers -/
inductive ROut where
  | ok
  | err
  | eof
  | rows (start len : Nat)   -- a page holding rows start..start+len-1
  | fail                     -- the read failed (for instance ErrCorrupted)
deriving Repr, DecidableEq

/-- positions at or beyond the last row are all "at the end" -/
def SamePos (T k k' : Nat) : Prop := k' = k ∨ (T ≤ k ∧ T ≤ k')

/-- SPEC: one step of the reference reader over `T` rows standing before row `n` (`none`: a read
    failed and the position is undefined; nothing is required of reads until the next seek). -/
def PSpec (T : Nat) (n : Option Nat) (op : Op) (n' : Option Nat) (out : ROut) : Prop :=
  match op with
  | .seek k => (out = .ok ∧ ∃ k', n' = some k' ∧ SamePos T k k') ∨ (out = .err ∧ n' = n ∧ T < k)
  | .loadIndex => out = .ok ∧ n' = n
  | .readPage =>
    match n with
    | none => n' = none
    | some n =>
      match out with
      | .fail => n' = none
      | .eof => T ≤ n ∧ n' = some n
      | .rows st len => st = n ∧ 0 < len ∧ n + len ≤ T ∧ n' = some (n + len)
      | _ => False

structure Machine where
  σ : Type u
  step : σ → Op → σ × ROut
  inv : σ → Prop
  pos : σ → Option Nat
  total : Nat
  init : σ
  init_inv : inv init
  init_pos : pos init = some 0
  step_inv : ∀ s op, inv s → inv (step s op).1
  step_spec : ∀ s op, inv s → PSpec total (pos s) op (pos (step s op).1) (step s op).2

namespace Machine

def outs (m : Machine.{u}) : m.σ → List Op → List ROut
  | _, [] => []
  | s, op :: ops => (m.step s op).2 :: m.outs (m.step s op).1 ops

/-- SPEC for histories -/
inductive RunOK (T : Nat) : Option Nat → List Op → List ROut → Prop where
  | nil (n) : RunOK T n [] []
  | cons {n op n' out ops os} : PSpec T n op n' out → RunOK T n' ops os → RunOK T n (op :: ops) (out :: os)

theorem run_refines (m : Machine.{u}) : ∀ (ops : List Op) (s : m.σ), m.inv s →
    RunOK m.total (m.pos s) ops (m.outs s ops)
  | [], _, _ => RunOK.nil _
  | op :: ops, s, h => RunOK.cons (m.step_spec s op h) (run_refines m ops _ (m.step_inv s op h))

theorem history_refines (m : Machine.{u}) (ops : List Op) : RunOK m.total (some 0) ops (m.outs m.init ops) := by
  have := run_refines m ops m.init m.init_inv
  rwa [m.init_pos] at this

/-- the rows a reader standing at `pos` will still deliver -/
def abs {α} (m : Machine.{u}) (R : List α) (s : m.σ) : Option (List α) := (m.pos s).map R.drop

/-- the property in terms of row lists, for a reader in state `s` over the rows `R` -/
def Refines {α} (m : Machine.{u}) (R : List α) (s : m.σ) : Prop :=
    (∀ k, ((m.step s (.seek k)).2 = .ok ∧ m.abs R (m.step s (.seek k)).1 = some (R.drop k)) ∨
          ((m.step s (.seek k)).2 = .err ∧ m.abs R (m.step s (.seek k)).1 = m.abs R s ∧ R.length < k)) ∧
    (match m.abs R s, (m.step s .readPage).2 with
      | some rest, .rows st len => 0 < len ∧ st + len ≤ R.length ∧
          m.abs R (m.step s .readPage).1 = some (R.drop (st + len)) ∧ rest = (R.drop st).take len ++ R.drop (st + len)
      | some rest, .eof => rest = [] ∧ m.abs R (m.step s .readPage).1 = some []
      | some _, .fail => m.abs R (m.step s .readPage).1 = none
      | none, _ => m.abs R (m.step s .readPage).1 = none
      | _, _ => False)

inductive Reach (m : Machine.{u}) : m.σ → Prop where
  | init : Reach m m.init
  | step {s : m.σ} (op : Op) : Reach m s → Reach m (m.step s op).1

theorem reach_inv (m : Machine.{u}) (s : m.σ) (h : m.Reach s) : m.inv s := by
  induction h with
  | init => exact m.init_inv
  | step op _ ih => exact m.step_inv _ op ih

theorem seek_le (m : Machine.{u}) (s : m.σ) (h : m.inv s) (k : Nat) (hk : k ≤ m.total) :
    (m.step s (.seek k)).2 = .ok ∧ ∃ k', m.pos (m.step s (.seek k)).1 = some k' ∧ SamePos m.total k k' := by
  rcases m.step_spec s (.seek k) h with ⟨h1, h2⟩ | ⟨_, _, h3⟩
  · exact ⟨h1, h2⟩
  · omega

theorem seek_ok (m : Machine.{u}) (s : m.σ) (h : m.inv s) (k : Nat) (ho : (m.step s (.seek k)).2 = .ok) :
    ∃ k', m.pos (m.step s (.seek k)).1 = some k' ∧ SamePos m.total k k' := by
  rcases m.step_spec s (.seek k) h with ⟨_, h2⟩ | ⟨h1, _⟩
  · exact h2
  · rw [ho] at h1; cases h1

theorem seek_err (m : Machine.{u}) (s : m.σ) (h : m.inv s) (k : Nat) (he : (m.step s (.seek k)).2 = .err) :
    m.pos (m.step s (.seek k)).1 = m.pos s := by
  rcases m.step_spec s (.seek k) h with ⟨h1, _⟩ | ⟨_, h2, _⟩
  · rw [he] at h1; cases h1
  · exact h2

theorem read_none (m : Machine.{u}) (s : m.σ) (h : m.inv s) (hp : m.pos s = none) :
    m.pos (m.step s .readPage).1 = none := by
  have := m.step_spec s .readPage h
  rw [hp] at this
  exact this

theorem read_some (m : Machine.{u}) (s : m.σ) (h : m.inv s) {n : Nat} (hp : m.pos s = some n) :
    ((m.step s .readPage).2 = .fail ∧ m.pos (m.step s .readPage).1 = none) ∨
    ((m.step s .readPage).2 = .eof ∧ m.total ≤ n ∧ m.pos (m.step s .readPage).1 = some n) ∨
    (∃ len, (m.step s .readPage).2 = .rows n len ∧ 0 < len ∧ n + len ≤ m.total ∧
      m.pos (m.step s .readPage).1 = some (n + len)) := by
  have := m.step_spec s .readPage h
  rw [hp] at this
  simp only [PSpec] at this
  cases ho : (m.step s .readPage).2 with
  | ok | err => rw [ho] at this; exact this.elim
  | fail => rw [ho] at this; exact Or.inl ⟨rfl, this⟩
  | eof => rw [ho] at this; exact Or.inr (Or.inl ⟨rfl, this⟩)
  | rows st len =>
    rw [ho] at this
    obtain ⟨rfl, h2, h3, h4⟩ := this
    exact Or.inr (Or.inr ⟨len, rfl, h2, h3, h4⟩)

theorem seek_refines {α} (m : Machine.{u}) (R : List α) (hR : R.length = m.total) (s : m.σ) (h : m.inv s) :
    m.Refines R s := by
  unfold Refines
  constructor
  · intro k
    rcases m.step_spec s (.seek k) h with ⟨h1, k', h2, h3⟩ | ⟨h1, h2, h3⟩
    · refine Or.inl ⟨h1, ?_⟩
      simp only [abs, h2, Option.map_some]
      rcases h3 with rfl | ⟨a, b⟩
      · rfl
      · rw [List.drop_eq_nil_of_le (hR ▸ b), List.drop_eq_nil_of_le (hR ▸ a)]
    · exact Or.inr ⟨h1, by simp only [abs, h2], hR ▸ h3⟩
  · cases hp : m.pos s with
    | none => simp only [abs, hp, m.read_none s h hp, Option.map_none]
    | some n =>
      simp only [abs, hp, Option.map_some]
      rcases m.read_some s h hp with ⟨ho, hp'⟩ | ⟨ho, hT, hp'⟩ | ⟨len, ho, hlen, hle, hp'⟩
      · simp only [ho, hp', Option.map_none]
      · simp only [ho, hp', Option.map_some, List.drop_eq_nil_of_le (hR ▸ hT)]
        exact ⟨trivial, trivial⟩
      · simp only [ho, hp', Option.map_some]
        exact ⟨hlen, hR ▸ hle, trivial, by rw [← List.drop_drop, List.take_append_drop]⟩

/-- a reader that accepts every `SeekToRow`: beyond the last row it simply stands at the end
    (`FilePages` over a chunk with pages, `multiPages`) -/
def Lenient (m : Machine.{u}) : Prop := ∀ s k, m.inv s → (m.step s (.seek k)).2 = .ok

/-- a reader that refuses every `SeekToRow` beyond its last row (`rangePages`) -/
def Strict (m : Machine.{u}) : Prop := ∀ s k, m.inv s → m.total < k → (m.step s (.seek k)).2 = .err

end Machine

def erase : Seek.Out → ROut
  | .ok => .ok
  | .err => .err
  | .eof => .eof
  | .page _ st len => .rows st len
  | .corrupt => .fail

theorem pspec_of_specOK (c : Chunk) (n : Option Nat) (op : Op) (n' : Option Nat) (out : Seek.Out)
    (h : Seek.SpecOK c n op n' out) : PSpec (Seek.total c) n op n' (erase out) := by
  cases op with
  | seek k =>
    rcases h with ⟨rfl, h2⟩ | ⟨rfl, h2, h3⟩
    · exact Or.inl ⟨rfl, k, h2, Or.inl rfl⟩
    · exact Or.inr ⟨rfl, h2, h3⟩
  | loadIndex => obtain ⟨rfl, h2⟩ := h; exact ⟨rfl, h2⟩
  | readPage =>
    simp only [Seek.SpecOK] at h
    simp only [PSpec]
    cases n with
    | none => exact h
    | some n =>
      cases out with
      | ok | err => exact absurd h (by simp)
      | corrupt => exact h.1
      | eof => exact h
      | page p st len =>
        obtain ⟨a, _, _, d, e, f, g, i⟩ := h
        simp only [erase]
        refine ⟨d, by omega, by omega, ?_⟩
        rw [f]; congr 1; omega

/-- the repaired `FilePages` over a chunk whose pages are non-empty -/
def filePages (c : Chunk) (hpos : ∀ r ∈ c.rows, 0 < r) (hi : Bool) : Machine where
  σ := St
  step s op := ((Seek.stepFixed c s op).1, erase (Seek.stepFixed c s op).2)
  inv := Seek.SInv c
  pos := Seek.npos c.rows
  total := Seek.total c
  init := Seek.init hi
  init_inv := Seek.init_inv c hi
  init_pos := Seek.npos_init c.rows hi
  step_inv s op h := Seek.stepFixed_inv c hpos s op h
  step_spec s op h := pspec_of_specOK c _ op _ _ (Seek.stepFixed_spec c hpos s op h)

namespace Range

/-- what `SeekToRow` does with the base's answer: `remaining = length - k` on success -/
def seekK {σ : Type u} (len k rem : Nat) (r1 : σ) : ROut → (σ × Nat) × ROut
  | .ok => ((r1, len - k), .ok)
  | o => ((r1, rem), o)

/-- MIRROR of `rangePages.SeekToRow` (row_range.go:184-193): refuse beyond the window, seek the
    base to `off + k` -/
def seek (b : Machine.{u}) (off len : Nat) (s : b.σ × Nat) (k : Nat) : (b.σ × Nat) × ROut :=
  if len < k then (s, .err) else
  seekK len k s.2 (b.step s.1 (.seek (off + k))).1 (b.step s.1 (.seek (off + k))).2

/-- what `ReadPage` does with the base's answer: count the page, cut the last one with
    `Slice(0, remaining)`; the start is reported in window coordinates -/
def readK {σ : Type u} (off rem : Nat) (r1 : σ) : ROut → (σ × Nat) × ROut
  | .rows st n => if n ≤ rem then ((r1, rem - n), .rows (st - off) n) else ((r1, 0), .rows (st - off) rem)
  | o => ((r1, rem), o)

/-- MIRROR of `rangePages.ReadPage` (row_range.go:160-180): EOF once `remaining` is used up -/
def read (b : Machine.{u}) (off : Nat) (s : b.σ × Nat) : (b.σ × Nat) × ROut :=
  if s.2 = 0 then (s, .eof) else
  readK off s.2 (b.step s.1 .readPage).1 (b.step s.1 .readPage).2

def step (b : Machine.{u}) (off len : Nat) (s : b.σ × Nat) : Op → (b.σ × Nat) × ROut
  | .seek k => seek b off len s k
  | .readPage => read b off s
  | .loadIndex => (((b.step s.1 .loadIndex).1, s.2), .ok)

/-- abstraction: position inside the window (`len - remaining`; the `if` only spells out the end) -/
def pos (b : Machine.{u}) (len : Nat) (s : b.σ × Nat) : Option Nat :=
  match b.pos s.1 with
  | none => none
  | some _ => if s.2 = 0 then some len else some (len - s.2)

def inv (b : Machine.{u}) (off len : Nat) (s : b.σ × Nat) : Prop :=
  b.inv s.1 ∧ s.2 ≤ len ∧ (0 < s.2 → ∀ p, b.pos s.1 = some p → p = off + (len - s.2))

theorem pos_eq (b : Machine.{u}) (len : Nat) (s : b.σ × Nat) {p : Nat} (hp : b.pos s.1 = some p) :
    pos b len s = some (len - s.2) := by
  simp only [pos, hp]
  split
  · rename_i h0; rw [h0, Nat.sub_zero]
  · rfl

theorem base_seek_ok (b : Machine.{u}) (s : b.σ) (h : b.inv s) (k : Nat) (hk : k ≤ b.total) :
    (b.step s (.seek k)).2 = .ok ∧ ∃ k', b.pos (b.step s (.seek k)).1 = some k' ∧ SamePos b.total k k' :=
  b.seek_le s h k hk

theorem seek_spec (b : Machine.{u}) (off len : Nat) (hwin : off + len ≤ b.total) (s : b.σ × Nat) (k : Nat)
    (h : inv b off len s) :
    inv b off len (seek b off len s k).1 ∧
    PSpec len (pos b len s) (.seek k) (pos b len (seek b off len s k).1) (seek b off len s k).2 := by
  obtain ⟨h1, h2, h3⟩ := h
  unfold seek
  split
  · rename_i hk
    exact ⟨⟨h1, h2, h3⟩, Or.inr ⟨rfl, rfl, hk⟩⟩
  · rename_i hk
    obtain ⟨ho, k', hp, hsame⟩ := b.seek_le s.1 h1 (off + k) (by omega)
    have hinv := b.step_inv s.1 (.seek (off + k)) h1
    -- the base stands on `off + k`, or both are at its end and `k = len`
    have hk' : k' = off + k ∨ len - k = 0 := by
      rcases hsame with rfl | ⟨a, _⟩
      · exact Or.inl rfl
      · exact Or.inr (by omega)
    rw [ho]
    simp only [seekK]
    refine ⟨⟨hinv, Nat.sub_le _ _, ?_⟩, Or.inl ⟨rfl, k, ?_, Or.inl rfl⟩⟩
    · intro hr p hp'
      simp only [] at hr hp'  -- only reduces the projections of the pair
      rw [hp] at hp'
      cases hp'
      omega
    · rw [pos_eq b len _ hp]
      congr 1; omega

theorem readK_frame {σ : Type u} (off rem : Nat) (r1 : σ) (o : ROut) :
    (readK off rem r1 o).1.1 = r1 ∧ (readK off rem r1 o).1.2 ≤ rem := by
  unfold readK
  split
  · split
    · exact ⟨rfl, Nat.sub_le _ _⟩
    · exact ⟨rfl, Nat.zero_le _⟩
  · exact ⟨rfl, Nat.le_refl _⟩

theorem read_spec (b : Machine.{u}) (off len : Nat) (hwin : off + len ≤ b.total) (s : b.σ × Nat)
    (h : inv b off len s) :
    inv b off len (read b off s).1 ∧
    PSpec len (pos b len s) .readPage (pos b len (read b off s).1) (read b off s).2 := by
  obtain ⟨h1, h2, h3⟩ := h
  unfold read
  split
  · rename_i h0
    refine ⟨⟨h1, h2, h3⟩, ?_⟩
    simp only [PSpec, pos, h0]
    cases b.pos s.1 with
    | none => rfl
    | some p => simp
  · rename_i h0
    have hrem : 0 < s.2 := by omega
    have hinv := b.step_inv s.1 .readPage h1
    cases hp : b.pos s.1 with
    | none =>
      -- the base has lost its position: whatever comes out, the window position stays undefined
      have hp' := b.read_none s.1 h1 hp
      obtain ⟨e1, e2⟩ := readK_frame off s.2 (b.step s.1 .readPage).1 (b.step s.1 .readPage).2
      refine ⟨⟨by rw [e1]; exact hinv, by omega, fun _ p hq => by rw [e1, hp'] at hq; cases hq⟩, ?_⟩
      simp only [PSpec, pos, hp, e1, hp']
    | some p =>
      have hpw : p = off + (len - s.2) := h3 hrem p hp
      rw [pos_eq b len s hp]
      rcases b.read_some s.1 h1 hp with ⟨ho, hp'⟩ | ⟨_, hT, _⟩ | ⟨n, ho, hn, hle, hp'⟩
      · rw [ho]
        simp only [readK]
        refine ⟨⟨hinv, h2, fun _ q hq => by simp only [] at hq; rw [hp'] at hq; cases hq⟩, ?_⟩
        simp only [PSpec, pos, hp']
      · omega
      · rw [ho]
        simp only [readK]
        split
        · rename_i hfit
          have hadv : len - (s.2 - n) = len - s.2 + n := by omega
          refine ⟨⟨hinv, Nat.le_trans (Nat.sub_le _ _) h2, ?_⟩, ?_⟩
          · intro _ q hq
            simp only [] at hq ⊢
            rw [hp'] at hq
            cases hq
            rw [hadv, hpw, Nat.add_assoc]
          · simp only [PSpec, pos_eq b len ((b.step s.1 .readPage).1, s.2 - n) hp']
            exact ⟨by omega, hn, by omega, by rw [hadv]⟩
        · rename_i hcut
          refine ⟨⟨hinv, Nat.zero_le _, fun hz => absurd hz (Nat.lt_irrefl 0)⟩, ?_⟩
          simp only [PSpec, pos_eq b len ((b.step s.1 .readPage).1, 0) hp']
          exact ⟨by omega, hrem, by omega, by congr 1; omega⟩

end Range

/-- `rangePages` over any base reader: rows `[off, off+len)` of the base -/
def rangeM (b : Machine.{u}) (off len : Nat) (hwin : off + len ≤ b.total) : Machine.{u} where
  σ := b.σ × Nat
  step := Range.step b off len
  inv := Range.inv b off len
  pos := Range.pos b len
  total := len
  init := ((b.step b.init (.seek off)).1, len)
  init_inv := by
    obtain ⟨_, k', hp, hsame⟩ := Range.base_seek_ok b b.init b.init_inv off (by omega)
    refine ⟨b.step_inv _ _ b.init_inv, Nat.le_refl _, ?_⟩
    intro hr p hp'
    simp only [] at hr hp'
    rw [hp] at hp'
    cases hp'
    rcases hsame with rfl | ⟨a, _⟩
    · simp
    · omega
  init_pos := by
    obtain ⟨_, k', hp, _⟩ := Range.base_seek_ok b b.init b.init_inv off (by omega)
    simp only [Range.pos, hp]
    split
    · rename_i h
      have h' : len = 0 := h
      rw [h']
    · simp
  step_inv s op h := by
    cases op with
    | seek k => exact (Range.seek_spec b off len hwin s k h).1
    | readPage => exact (Range.read_spec b off len hwin s h).1
    | loadIndex =>
      obtain ⟨h1, h2, h3⟩ := h
      have hs := b.step_spec s.1 .loadIndex h1
      exact ⟨b.step_inv _ _ h1, h2, fun hr p hp => h3 hr p (by rw [← hs.2]; exact hp)⟩
  step_spec s op h := by
    cases op with
    | seek k => exact (Range.seek_spec b off len hwin s k h).2
    | readPage => exact (Range.read_spec b off len hwin s h).2
    | loadIndex =>
      have hs := b.step_spec s.1 .loadIndex h.1
      refine ⟨rfl, ?_⟩
      show Range.pos b len ((b.step s.1 .loadIndex).1, s.2) = Range.pos b len s
      simp only [Range.pos, hs.2]

namespace Multi

/-- an open `Pages` of one chunk; the machine travels with its state, hence `multiM`, `columnM : Machine.{u+1}` -/
structure Running.{v} where
  m : Machine.{v}
  s : m.σ

structure MSt.{v} where
  index : Nat            -- m.index: the next chunk to open
  cur : Option Running.{v}   -- m.pages
  lost : Bool            -- ghost: a read of a chunk failed since the last seek

/-- first row of chunk `i` (`rowCounts` summed) -/
def offset (ms : List Machine.{u}) (i : Nat) : Nat := ((ms.take i).map (·.total)).sum

def total (ms : List Machine.{u}) : Nat := offset ms ms.length

/-- MIRROR of the chunk scan of `multiPages.SeekToRow` (multi_row_group.go:581-594):
    `(chunk index, row index inside the chunk)`; the index is `len` when `k` is beyond the end -/
def locate : List Machine.{u} → Nat → Nat × Nat
  | [], k => (0, k)
  | m :: rest, k =>
    if k < m.total then (0, k) else ((locate rest (k - m.total)).1 + 1, (locate rest (k - m.total)).2)

/-- MIRROR of `multiPages.SeekToRow`: close, locate the chunk, open it and seek inside it -/
def seek (ms : List Machine.{u}) (k : Nat) : MSt.{u} × ROut :=
  match ms[(locate ms k).1]? with
  | some m =>
    ({ index := (locate ms k).1 + 1, cur := some ⟨m, (m.step m.init (.seek (locate ms k).2)).1⟩, lost := false },
     (m.step m.init (.seek (locate ms k).2)).2)
  | none => ({ index := (locate ms k).1, cur := none, lost := false }, .ok)

/-- what `ReadPage` does with the answer of the open chunk: EOF closes it (`inr`: go on with the
    next chunk), anything else is returned (rows in global coordinates). `lost` is a ghost, computed
    from the chunk reader's abstract position; the Go struct has no such field. -/
def afterRead (ms : List Machine.{u}) (s : MSt.{u}) (m : Machine.{u}) (s1 : m.σ) : ROut → (MSt.{u} × ROut) ⊕ MSt.{u}
  | .eof => .inr { s with cur := none, lost := s.lost || (m.pos s1).isNone }
  | .rows st n => .inl ({ s with cur := some ⟨m, s1⟩, lost := s.lost || (m.pos s1).isNone },
                        .rows (offset ms (s.index - 1) + st) n)
  | o => .inl ({ s with cur := some ⟨m, s1⟩, lost := s.lost || (m.pos s1).isNone }, o)

/-- MIRROR of the loop of `multiPages.ReadPage` (multi_row_group.go:538-558) -/
def readLoop (ms : List Machine.{u}) : Nat → MSt.{u} → MSt.{u} × ROut
  | 0, s => (s, .eof)
  | fuel + 1, s =>
    match s.cur with
    | some r =>
      match afterRead ms s r.m (r.m.step r.s .readPage).1 (r.m.step r.s .readPage).2 with
      | .inl res => res
      | .inr s' => readLoop ms fuel s'
    | none =>
      match ms[s.index]? with
      | none => (s, .eof)
      | some m => readLoop ms fuel { s with index := s.index + 1, cur := some ⟨m, m.init⟩ }

def step (ms : List Machine.{u}) (s : MSt.{u}) : Op → MSt.{u} × ROut
  | .seek k => seek ms k
  | .readPage => readLoop ms (2 * ms.length + 2) s  -- two rounds per chunk: open it, read it to EOF
  | .loadIndex => (s, .ok)  -- not forwarded; `multiColumnChunk.OffsetIndex` (multi_row_group.go:235-250) loads every member's index

/-- abstraction: global row position -/
def pos (ms : List Machine.{u}) (s : MSt.{u}) : Option Nat :=
  if s.lost then none else
  match s.cur with
  | none => some (offset ms s.index)
  | some r => (r.m.pos r.s).map (offset ms (s.index - 1) + ·)

/-- the open chunk is tied to `ms` by its row count only: all that `pos` reads -/
def inv (ms : List Machine.{u}) (s : MSt.{u}) : Prop :=
  s.index ≤ ms.length ∧
  ∀ r, s.cur = some r → 0 < s.index ∧ r.m.inv r.s ∧
    (∃ m, ms[s.index - 1]? = some m ∧ r.m.total = m.total) ∧
    (s.lost = false → ∃ p, r.m.pos r.s = some p ∧ p ≤ r.m.total)

theorem offset_eq (ms : List Machine.{u}) (i : Nat) : offset ms i = Seek.firstRow (ms.map (·.total)) i := by
  simp only [offset, Seek.firstRow, List.map_take]

theorem offset_succ (ms : List Machine.{u}) (i : Nat) (m : Machine.{u}) (h : ms[i]? = some m) :
    offset ms (i + 1) = offset ms i + m.total := by
  rw [offset_eq, offset_eq]
  exact Seek.firstRow_succ _ i m.total (by rw [List.getElem?_map, h]; rfl)

theorem offset_le_total (ms : List Machine.{u}) (i : Nat) : offset ms i ≤ total ms := by
  rw [total, offset_eq, offset_eq, Seek.firstRow_all _ ms.length (by rw [List.length_map]; exact Nat.le_refl _)]
  exact Seek.firstRow_le_sum _ i

theorem offset_of_length_le (ms : List Machine.{u}) (i : Nat) (h : ms.length ≤ i) : offset ms i = total ms := by
  simp only [total, offset, List.take_of_length_le h, List.take_of_length_le (Nat.le_refl _)]

theorem offset_cons (a : Machine.{u}) (rest : List Machine.{u}) (i : Nat) :
    offset (a :: rest) (i + 1) = a.total + offset rest i := by
  simp only [offset, List.take_succ_cons, List.map_cons, List.sum_cons]

theorem locate_spec (ms : List Machine.{u}) (k : Nat) :
    (locate ms k).1 ≤ ms.length ∧
    (∀ m, ms[(locate ms k).1]? = some m → (locate ms k).2 < m.total ∧ offset ms (locate ms k).1 + (locate ms k).2 = k) ∧
    (ms[(locate ms k).1]? = none → total ms ≤ k) := by
  fun_induction locate ms k with
  | case1 k => simp [total, offset]
  | case2 a rest k h =>
    refine ⟨Nat.zero_le _, fun m hm => ?_, fun hm => by simp at hm⟩
    simp only [List.getElem?_cons_zero, Option.some.injEq] at hm
    subst hm
    exact ⟨h, by simp [offset]⟩
  | case3 a rest k h ih =>
    obtain ⟨h1, h2, h3⟩ := ih
    simp only [List.getElem?_cons_succ, List.length_cons, total, offset_cons] at h2 h3 ⊢
    refine ⟨Nat.succ_le_succ h1, fun m hm => ?_, fun hm => ?_⟩
    · obtain ⟨e1, e2⟩ := h2 m hm
      exact ⟨e1, by omega⟩
    · have := h3 hm
      omega

theorem seek_spec (ms : List Machine.{u}) (s : MSt.{u}) (k : Nat) :
    inv ms (seek ms k).1 ∧ PSpec (total ms) (pos ms s) (.seek k) (pos ms (seek ms k).1) (seek ms k).2 := by
  obtain ⟨h1, h2, h3⟩ := locate_spec ms k
  unfold seek
  cases hm : ms[(locate ms k).1]? with
  | none =>
    simp only []
    refine ⟨⟨h1, by intro r hr; cases hr⟩, Or.inl ⟨rfl, total ms, ?_, Or.inr ⟨h3 hm, Nat.le_refl _⟩⟩⟩
    simp only [pos, Bool.false_eq_true, if_false, offset_of_length_le ms _ (List.getElem?_eq_none_iff.mp hm)]
  | some m =>
    simp only []
    obtain ⟨e1, e2⟩ := h2 m hm
    have hinv := m.step_inv m.init (.seek (locate ms k).2) m.init_inv
    obtain ⟨ho, k', hp, hsame⟩ := m.seek_le m.init m.init_inv (locate ms k).2 (Nat.le_of_lt e1)
    -- the row lies inside the chunk, so the chunk reader stands exactly on it
    have hk' : k' = (locate ms k).2 := by
      rcases hsame with a | ⟨a, _⟩
      · exact a
      · exact absurd a (Nat.not_le_of_lt e1)
    subst hk'
    refine ⟨⟨Nat.succ_le_of_lt (ListFacts.lt_of_getElem?_eq_some hm), ?_⟩, Or.inl ⟨ho, k, ?_, Or.inl rfl⟩⟩
    · intro r hr
      simp only [Option.some.injEq] at hr
      subst hr
      exact ⟨Nat.succ_pos _, hinv, ⟨m, by simpa using hm, rfl⟩, fun _ => ⟨_, hp, Nat.le_of_lt e1⟩⟩
    · simp only [pos, Bool.false_eq_true, if_false, hp, Option.map_some, Nat.add_sub_cancel]
      rw [e2]

theorem afterRead_spec (ms : List Machine.{u}) (s : MSt.{u}) (r : Running.{u}) (hc : s.cur = some r) (h : inv ms s) :
    match afterRead ms s r.m (r.m.step r.s .readPage).1 (r.m.step r.s .readPage).2 with
    | .inl res => inv ms res.1 ∧ PSpec (total ms) (pos ms s) .readPage (pos ms res.1) res.2
    | .inr s' => inv ms s' ∧ pos ms s' = pos ms s ∧ s'.cur = none ∧ s'.index = s.index := by
  obtain ⟨hi, hcur⟩ := h
  obtain ⟨hidx, hrinv, ⟨m0, hm0, htot⟩, hpos⟩ := hcur r hc
  have hinv := r.m.step_inv r.s .readPage hrinv
  have keep : ∀ l', (l' = false → ∃ p, r.m.pos (r.m.step r.s .readPage).1 = some p ∧ p ≤ r.m.total) →
      inv ms { s with cur := some ⟨r.m, (r.m.step r.s .readPage).1⟩, lost := l' } := by
    intro l' hl'
    refine ⟨hi, ?_⟩
    intro r' hr'
    simp only [Option.some.injEq] at hr'
    subst hr'
    exact ⟨hidx, hinv, ⟨m0, hm0, htot⟩, hl'⟩
  have closed : ∀ l', inv ms { s with cur := none, lost := l' } :=
    fun l' => ⟨hi, by intro r' hr'; cases hr'⟩
  cases hl : s.lost with
  | true =>
    have hp0 : pos ms s = none := by simp only [pos, hl, if_true]
    rw [hp0]
    cases (r.m.step r.s .readPage).2 with
    | eof => simp only [afterRead, hl, Bool.true_or]; exact ⟨closed true, rfl, trivial, trivial⟩
    | rows _ _ | ok | err | fail =>
      simp only [afterRead, hl, Bool.true_or]; exact ⟨keep true (by intro h; cases h), rfl⟩
  | false =>
    obtain ⟨p, hp, hple⟩ := hpos hl
    have hp0 : pos ms s = some (offset ms (s.index - 1) + p) := by
      simp only [pos, hl, hc, hp, Bool.false_eq_true, if_false, Option.map_some]
    rw [hp0]
    have hoff : offset ms (s.index - 1) + r.m.total = offset ms s.index := by
      have := offset_succ ms (s.index - 1) m0 hm0
      rw [Nat.sub_add_cancel hidx] at this
      rw [this, htot]
    have hoffT := offset_le_total ms s.index
    rcases r.m.read_some r.s hrinv hp with ⟨ho, hp'⟩ | ⟨ho, hT, hp'⟩ | ⟨n, ho, hn, hle, hp'⟩
    · rw [ho]
      simp only [afterRead, hl, hp', Option.isNone_none, Bool.or_true]
      exact ⟨keep true (by intro h; cases h), rfl⟩
    · -- EOF of the chunk: it was read to its end (`p = total`), the next chunk starts there
      rw [ho]
      simp only [afterRead, hl, hp', Option.isNone_some, Bool.or_false]
      refine ⟨closed false, ?_, trivial, trivial⟩
      simp only [pos, Bool.false_eq_true, if_false, ← hoff, Nat.le_antisymm hple hT]
    · rw [ho]
      simp only [afterRead, hl, hp', Option.isNone_some, Bool.or_false]
      refine ⟨keep false (fun _ => ⟨_, hp', hle⟩), ?_⟩
      simp only [PSpec, pos, Bool.false_eq_true, if_false, hp', Option.map_some, Nat.add_assoc]
      exact ⟨trivial, hn, by omega, trivial⟩

theorem readLoop_spec (ms : List Machine.{u}) (fuel : Nat) (s : MSt.{u}) (h : inv ms s)
    (hf : 2 * (ms.length - s.index) + (if s.cur.isSome then 1 else 0) < fuel) :
    inv ms (readLoop ms fuel s).1 ∧
    PSpec (total ms) (pos ms s) .readPage (pos ms (readLoop ms fuel s).1) (readLoop ms fuel s).2 := by
  -- out of fuel; page or failure handed on; chunk at EOF closed; no chunk left; next chunk opened (two rounds per chunk)
  fun_induction readLoop ms fuel s with
  | case1 s => omega
  | case2 fuel s r hc res hres =>
    have ha := afterRead_spec ms s r hc h
    rw [hres] at ha
    exact ha
  | case3 fuel s r hc s' hres ih =>
    have ha := afterRead_spec ms s r hc h
    rw [hres] at ha
    obtain ⟨a1, a2, a3, a4⟩ := ha
    rw [← a2]
    refine ih a1 ?_
    rw [a3, a4]
    rw [hc] at hf
    simp only [Option.isSome_none, Option.isSome_some, Bool.false_eq_true, if_false, if_true] at hf ⊢
    omega
  | case4 fuel s hc hm =>
    refine ⟨h, ?_⟩
    simp only [PSpec, pos, hc]
    cases s.lost with
    | true => rfl
    | false =>
      rw [offset_of_length_le ms _ (List.getElem?_eq_none_iff.mp hm)]
      exact ⟨Nat.le_refl _, rfl⟩
  | case5 fuel s hc m hm ih =>
    have hlt : s.index < ms.length := ListFacts.lt_of_getElem?_eq_some hm
    have hinv' : inv ms { s with index := s.index + 1, cur := some ⟨m, m.init⟩ } := by
      refine ⟨Nat.succ_le_of_lt hlt, ?_⟩
      intro r hr
      simp only [Option.some.injEq] at hr
      subst hr
      exact ⟨Nat.succ_pos _, m.init_inv, ⟨m, by simpa using hm, rfl⟩, fun _ => ⟨0, m.init_pos, Nat.zero_le _⟩⟩
    have hpos' : pos ms { s with index := s.index + 1, cur := some ⟨m, m.init⟩ } = pos ms s := by
      simp only [pos, hc, m.init_pos, Option.map_some, Nat.add_sub_cancel, Nat.add_zero]
    rw [← hpos']
    refine ih hinv' ?_
    rw [hc] at hf
    simp only [Option.isSome_none, Option.isSome_some, Bool.false_eq_true, if_false, if_true] at hf ⊢
    omega

end Multi

/-- `multiPages` over the chunk readers of several row groups -/
def multiM (ms : List Machine.{u}) : Machine.{u+1} where
  σ := Multi.MSt.{u}
  step := Multi.step ms
  inv := Multi.inv ms
  pos := Multi.pos ms
  total := Multi.total ms
  init := { index := 0, cur := none, lost := false }
  init_inv := ⟨Nat.zero_le _, by intro r hr; cases hr⟩
  init_pos := by simp [Multi.pos, Multi.offset]
  step_inv s op h := by
    cases op with
    | seek k => exact (Multi.seek_spec ms s k).1
    | readPage =>
      refine (Multi.readLoop_spec ms _ s h ?_).1
      have := h.1
      split <;> omega
    | loadIndex => exact h
  step_spec s op h := by
    cases op with
    | seek k => exact (Multi.seek_spec ms s k).2
    | readPage =>
      refine (Multi.readLoop_spec ms _ s h ?_).2
      have := h.1
      split <;> omega
    | loadIndex => exact ⟨rfl, rfl⟩

theorem filePages_lenient (c : Chunk) (hpos : ∀ r ∈ c.rows, 0 < r) (hi : Bool) (hne : c.rows ≠ []) :
    (filePages c hpos hi).Lenient := by
  intro s k _
  show erase (Seek.stepFixed c s (.seek k)).2 = .ok
  simp only [Seek.stepFixed, Seek.seekFixed_ok c s k hne, erase]

theorem rangeM_strict (b : Machine.{u}) (off len : Nat) (hwin : off + len ≤ b.total) :
    (rangeM b off len hwin).Strict := by
  intro s k _ hk
  have hk' : len < k := hk
  show (Range.seek b off len s k).2 = .err
  simp only [Range.seek, hk', if_true]

theorem multiM_lenient (ms : List Machine.{u}) : (multiM ms).Lenient := by
  intro s k _
  show (Multi.seek ms k).2 = .ok
  obtain ⟨_, h2, _⟩ := Multi.locate_spec ms k
  unfold Multi.seek
  cases hm : ms[(Multi.locate ms k).1]? with
  | none => rfl
  | some m =>
    simp only []
    exact (m.seek_le m.init m.init_inv _ (Nat.le_of_lt (h2 m hm).1)).1

end PqModel.SeekLayers
