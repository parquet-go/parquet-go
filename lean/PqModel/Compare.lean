/-! # C09 — MIRROR of the comparator chain of compare.go used by merges, and the order laws

`compareRowsFuncOf` (compare.go:182) builds, for the sorting columns of a merge, the function
`compare(Row, Row) int`: per column the type's `Compare`, wrapped by `CompareDescending`
(compare.go:14) and by `CompareNullsFirst` / `CompareNullsLast` (compare.go:22, 42), and the rows are
compared column by column, the first non-zero result deciding (compare.go:217-226, 478-503).
`Lawful c`: `c` is a total preorder given as a three-way comparison. All wrappers preserve
lawfulness, so `cmpRows` is lawful; every theorem of C09 is stated for an arbitrary lawful comparator.
The other order interfaces hang on this one: `Stats.Lawful` (C05) gives `Lawful` of its three-way reading (`lawful_cmp_on`,
CompareTypes.lean); `SortBuf.CmpOk` (C10) is `Lawful` plus exact antisymmetry (`SortBuf.cmpOk_iff`); `SortBuf.Ranked` gives `CmpOk`.

The wrappers of compare.go:429-503 are defined here over any comparator; SortCmp.lean defines them a second time over a
value order `VOrd` (tied by `cmpNullsFirst_eq_compare`, `cmpNullsLast_eq_compare`), SortRow.lean `cmpRowsL` over repeated
keys; CompareRows.lean applies the ones of this file to `typeCompare`. `armCmp32` is ONE positional arm (accessor, minus
sign), kept for the witnesses of the two seeded arm slips: the arms of every leaf type are `armAscending` /
`armDescending` of CompareTypes.lean, and those are the ones to extend. -/
namespace PqModel.Compare

structure Lawful {α : Type} (c : α → α → Int) : Prop where
  refl : ∀ a, c a a = 0
  flip : ∀ a b, c a b < 0 ↔ 0 < c b a
  trans : ∀ a b d, c a b ≤ 0 → c b d ≤ 0 → c a d ≤ 0

section laws
variable {α : Type} {c : α → α → Int}

theorem Lawful.ge_iff (h : Lawful c) (a b : α) : 0 ≤ c a b ↔ c b a ≤ 0 := by
  have := h.flip a b
  constructor <;> intro h' <;> omega

theorem Lawful.eq_comm (h : Lawful c) (a b : α) : c a b = 0 ↔ c b a = 0 := by
  have h1 := h.flip a b
  have h2 := h.flip b a
  constructor <;> intro h' <;> omega

theorem Lawful.total (h : Lawful c) (a b : α) : c a b ≤ 0 ∨ c b a ≤ 0 := by
  by_cases h' : c a b ≤ 0
  · exact Or.inl h'
  · exact Or.inr (by have := h.flip b a; omega)

theorem Lawful.lt_of_lt_of_le (h : Lawful c) {a b d : α} (h1 : c a b < 0) (h2 : c b d ≤ 0) : c a d < 0 := by
  by_cases h3 : c a d < 0
  · exact h3
  · have h4 := (h.ge_iff a d).mp (by omega)
    have h5 := h.trans b d a h2 h4
    have := h.flip a b
    omega

theorem Lawful.lt_of_le_of_lt (h : Lawful c) {a b d : α} (h1 : c a b ≤ 0) (h2 : c b d < 0) : c a d < 0 := by
  by_cases h3 : c a d < 0
  · exact h3
  · have h4 := (h.ge_iff a d).mp (by omega)
    have h5 := h.trans d a b h4 h1
    have := h.flip b d
    omega

theorem lex_trans (hc : Lawful c) (a b d : α) {r12 r23 r13 : Int} (ih : r12 ≤ 0 → r23 ≤ 0 → r13 ≤ 0) :
    (if c a b ≠ 0 then c a b else r12) ≤ 0 → (if c b d ≠ 0 then c b d else r23) ≤ 0 →
      (if c a d ≠ 0 then c a d else r13) ≤ 0 := by
  have t1 := hc.trans a b d
  -- the rotated instances: a tie of `c a d` is a tie at both steps
  have t2 := hc.trans d a b
  have t3 := hc.trans b d a
  have f1 := hc.ge_iff a b
  have f2 := hc.ge_iff b d
  have f3 := hc.ge_iff a d
  omega

theorem lex_flip (hc : Lawful c) (a b : α) {r12 r21 : Int} (ih : r12 < 0 ↔ 0 < r21) :
    (if c a b ≠ 0 then c a b else r12) < 0 ↔ 0 < (if c b a ≠ 0 then c b a else r21) := by
  have f1 := hc.flip a b
  have f1' := hc.flip b a
  omega

end laws

/-- `Type.Compare` of an integer column -/
def cmpInt (a b : Int) : Int := if a < b then -1 else if b < a then 1 else 0

/-- compare.go:14-16 -/
def descending {α : Type} (c : α → α → Int) : α → α → Int := fun a b => - c a b

/-- compare.go:22-37 (`none` = null) -/
def nullsFirst {α : Type} (c : α → α → Int) : Option α → Option α → Int
  | none, none => 0
  | none, some _ => -1
  | some _, none => 1
  | some a, some b => c a b

/-- compare.go:42-57 -/
def nullsLast {α : Type} (c : α → α → Int) : Option α → Option α → Int
  | none, none => 0
  | none, some _ => 1
  | some _, none => -1
  | some a, some b => c a b

def onCol {ρ α : Type} (get : ρ → α) (c : α → α → Int) : ρ → ρ → Int := fun a b => c (get a) (get b)

/-- compare.go:217-226 / 478-503: the first non-zero column comparison decides -/
def cmpLex {ρ : Type} : List (ρ → ρ → Int) → ρ → ρ → Int
  | [], _, _ => 0
  | c :: cs, a, b => if c a b ≠ 0 then c a b else cmpLex cs a b

theorem cmpInt_lt (a b : Int) : cmpInt a b < 0 ↔ a < b := by
  unfold cmpInt; split
  · omega
  · split <;> omega

theorem cmpInt_gt (a b : Int) : 0 < cmpInt a b ↔ b < a := by
  unfold cmpInt; split
  · omega
  · split <;> omega

theorem cmpInt_le (a b : Int) : cmpInt a b ≤ 0 ↔ a ≤ b := by
  have := cmpInt_gt a b; omega

theorem cmpInt_eq (a b : Int) : cmpInt a b = 0 ↔ a = b := by
  have := cmpInt_lt a b; have := cmpInt_gt a b; omega

theorem cmpInt_anti (a b : Int) : cmpInt b a = - cmpInt a b := by
  unfold cmpInt; split <;> split <;> omega

theorem cmpInt_lawful : Lawful cmpInt where
  refl a := by simp [cmpInt]
  flip a b := by rw [cmpInt_lt, cmpInt_gt]
  trans a b d := by rw [cmpInt_le, cmpInt_le, cmpInt_le]; exact Int.le_trans

theorem descending_lawful {α : Type} {c : α → α → Int} (h : Lawful c) : Lawful (descending c) := by
  refine ⟨fun a => by simp [descending, h.refl], ?_, ?_⟩
  · intro a b
    simp only [descending]
    have := h.flip b a
    omega
  · intro a b d h1 h2
    simp only [descending] at *
    have := h.trans d b a ((h.ge_iff b d).mp (by omega)) ((h.ge_iff a b).mp (by omega))
    have := (h.ge_iff a d).mpr this
    omega

theorem nullsFirst_lawful {α : Type} {c : α → α → Int} (h : Lawful c) : Lawful (nullsFirst c) := by
  refine ⟨?_, ?_, ?_⟩
  · intro a; cases a <;> simp [nullsFirst, h.refl]
  · intro a b; cases a <;> cases b <;> simp [nullsFirst]; exact h.flip _ _
  · intro a b d; cases a <;> cases b <;> cases d <;> simp [nullsFirst]; exact h.trans _ _ _

theorem nullsLast_eq {α : Type} (c : α → α → Int) : nullsLast c = descending (nullsFirst (descending c)) := by
  funext a b
  match a, b with
  | none, none => rfl
  | none, some _ => rfl
  | some _, none => rfl
  | some a, some b => exact (Int.neg_neg (c a b)).symm

theorem nullsLast_lawful {α : Type} {c : α → α → Int} (h : Lawful c) : Lawful (nullsLast c) :=
  nullsLast_eq c ▸ descending_lawful (nullsFirst_lawful (descending_lawful h))

theorem onCol_lawful {ρ α : Type} (get : ρ → α) {c : α → α → Int} (h : Lawful c) : Lawful (onCol get c) :=
  ⟨fun _ => h.refl _, fun _ _ => h.flip _ _, fun _ _ _ => h.trans _ _ _⟩

theorem cmpLex_le {ρ : Type} (c : ρ → ρ → Int) (cs : List (ρ → ρ → Int)) (a b : ρ) :
    cmpLex (c :: cs) a b ≤ 0 ↔ c a b < 0 ∨ (c a b = 0 ∧ cmpLex cs a b ≤ 0) := by
  simp only [cmpLex]; split <;> omega

theorem cmpLex_lt {ρ : Type} (c : ρ → ρ → Int) (cs : List (ρ → ρ → Int)) (a b : ρ) :
    cmpLex (c :: cs) a b < 0 ↔ c a b < 0 ∨ (c a b = 0 ∧ cmpLex cs a b < 0) := by
  simp only [cmpLex]; split <;> omega

theorem cmpLex_gt {ρ : Type} (c : ρ → ρ → Int) (cs : List (ρ → ρ → Int)) (a b : ρ) :
    0 < cmpLex (c :: cs) a b ↔ 0 < c a b ∨ (c a b = 0 ∧ 0 < cmpLex cs a b) := by
  simp only [cmpLex]; split <;> omega

theorem cmpLex_lawful {ρ : Type} : ∀ (cs : List (ρ → ρ → Int)), (∀ c ∈ cs, Lawful c) → Lawful (cmpLex cs)
  | [], _ => ⟨fun _ => rfl, fun _ _ => by simp [cmpLex], fun _ _ _ _ _ => by simp [cmpLex]⟩
  | c :: cs, h =>
    have hc : Lawful c := h c (by simp)
    have ih : Lawful (cmpLex cs) := cmpLex_lawful cs (fun c' hc' => h c' (by simp [hc']))
    ⟨fun a => by simp [cmpLex, hc.refl, ih.refl], fun a b => lex_flip hc a b (ih.flip a b),
      fun a b d => lex_trans hc a b d (ih.trans a b d)⟩

structure ColSpec where
  desc : Bool
  nullsFirst : Bool
deriving DecidableEq

/-- compare.go:429-447: `Compare`, then `CompareDescending`, then the null wrapper -/
def colCmp (s : ColSpec) : Option Int → Option Int → Int :=
  let base := if s.desc then descending cmpInt else cmpInt
  if s.nullsFirst then nullsFirst base else nullsLast base

theorem colCmp_lawful (s : ColSpec) : Lawful (colCmp s) := by
  unfold colCmp
  have hb : Lawful (if s.desc then descending cmpInt else cmpInt) := by
    split
    · exact descending_lawful cmpInt_lawful
    · exact cmpInt_lawful
  simp only
  split
  · exact nullsFirst_lawful hb
  · exact nullsLast_lawful hb

abbrev KeyRow := List (Option Int)

def colComparators : List ColSpec → Nat → List (KeyRow → KeyRow → Int)
  | [], _ => []
  | s :: ss, i => onCol (fun r : KeyRow => r.getD i none) (colCmp s) :: colComparators ss (i + 1)

/-- `compareRowsFuncOf(schema, sortingColumns)` on the key columns of a row -/
def cmpRows (specs : List ColSpec) : KeyRow → KeyRow → Int := cmpLex (colComparators specs 0)

theorem colComparators_lawful : ∀ (specs : List ColSpec) (i : Nat), ∀ c ∈ colComparators specs i, Lawful c
  | [], _, c, hc => by simp [colComparators] at hc
  | s :: ss, i, c, hc => by
    simp only [colComparators, List.mem_cons] at hc
    rcases hc with rfl | hc
    · exact onCol_lawful _ (colCmp_lawful s)
    · exact colComparators_lawful ss (i + 1) c hc

theorem cmpRows_lawful (specs : List ColSpec) : Lawful (cmpRows specs) :=
  cmpLex_lawful _ (colComparators_lawful specs 0)

/-! ## the per-type arms of the positional row comparator

`compareRowsFuncOfIndexAscending` / `compareRowsFuncOfIndexDescending` (compare.go:229-395) have one
arm per physical / logical type and direction. An arm decides two things: how it reads the bits of the
key (`int32()` or `uint32()`, `int64()` or `uint64()`) and whether it negates the result. The mirror
below is the 32-bit arm with both decisions as parameters (the 64-bit arms are the same with 64). The
spec side is the sort order the format defines for the logical type (LogicalTypes.md: signed for
INT_8..INT_64, DATE, TIME, TIMESTAMP and DECIMAL, unsigned for UINT_8..UINT_64) on the numbers the
bits denote. -/

/-- mirror: one arm, `signed` = the accessor it reads the key with, `negate` = the leading minus -/
def armCmp32 (signed negate : Bool) (a b : BitVec 32) : Int :=
  let c := if signed then cmpInt a.toInt b.toInt else cmpInt (a.toNat : Int) (b.toNat : Int)
  if negate then - c else c

/-- spec: the number a 32-bit key denotes under its logical type -/
def denote32 (unsignedType : Bool) (a : BitVec 32) : Int := if unsignedType then (a.toNat : Int) else a.toInt

/-- the arms of compare.go as written: accessor by signedness of the type, minus sign in the descending twin -/
theorem armCmp32_is_declared_order (unsignedType desc : Bool) (a b : BitVec 32) :
    armCmp32 (!unsignedType) desc a b =
      (if desc then descending cmpInt else cmpInt) (denote32 unsignedType a) (denote32 unsignedType b) := by
  cases unsignedType <;> cases desc <;> simp [armCmp32, denote32, descending]

/-- an arm that reads a signed type (DATE) with the unsigned accessor puts every negative key after
    every non-negative one -/
theorem arm_read_unsigned_misorders_negative_keys :
    armCmp32 false false (BitVec.ofInt 32 (-1)) (BitVec.ofInt 32 1) = 1 ∧
    cmpInt (denote32 false (BitVec.ofInt 32 (-1))) (denote32 false (BitVec.ofInt 32 1)) = -1 := by decide

theorem descending_arm_without_negation_is_ascending (signed : Bool) (a b : BitVec 32) :
    armCmp32 signed false a b = - armCmp32 signed true a b := by
  simp [armCmp32]

theorem descending_arm_without_negation_misorders :
    armCmp32 true false (BitVec.ofInt 32 1) (BitVec.ofInt 32 2) = -1 ∧
    descending cmpInt (denote32 false (BitVec.ofInt 32 1)) (denote32 false (BitVec.ofInt 32 2)) = 1 := by decide

/-- On the members of `L` a lawful comparator has the sign of the difference of ranks (`rank_sign`): so the reader
    models, which run on integer keys, stand for any lawful comparator, and `Ranked` holds on the rows written (Props/C10Compare.lean). -/
def rankIn {α : Type} (c : α → α → Int) (L : List α) (x : α) : Nat := L.countP (fun y => decide (c y x < 0))

theorem countP_lt_of {α : Type} {p q : α → Bool} : ∀ (L : List α), (∀ y ∈ L, p y = true → q y = true) →
    (∃ y ∈ L, q y = true ∧ p y = false) → L.countP p < L.countP q
  | [], _, h => by obtain ⟨y, hy, _⟩ := h; simp at hy
  | a :: t, hpq, hex => by
    have hmono : t.countP p ≤ t.countP q :=
      List.countP_mono_left (fun y hy hp => hpq y (by simp [hy]) hp)
    obtain ⟨y, hy, hq, hp⟩ := hex
    simp only [List.countP_cons]
    rcases List.mem_cons.mp hy with rfl | hy'
    · simp only [hq, hp]; simp; omega
    · have ih := countP_lt_of t (fun y hy hp => hpq y (by simp [hy]) hp) ⟨y, hy', hq, hp⟩
      cases hpa : p a with
      | true => simp only [hpq a (by simp) hpa, if_true]; omega
      | false => simp only [Bool.false_eq_true, if_false]; split <;> omega

section rank
variable {α : Type} {c : α → α → Int}

theorem rank_le (h : Lawful c) (L : List α) {a b : α} (hab : c a b ≤ 0) : rankIn c L a ≤ rankIn c L b := by
  apply List.countP_mono_left
  intro y _ hy
  simp only [decide_eq_true_eq] at hy ⊢
  exact h.lt_of_lt_of_le hy hab

theorem rank_lt (h : Lawful c) {L : List α} {a b : α} (ha : a ∈ L) (hab : c a b < 0) :
    rankIn c L a < rankIn c L b := by
  apply countP_lt_of
  · intro y _ hy
    simp only [decide_eq_true_eq] at hy ⊢
    exact h.lt_of_lt_of_le hy (by omega)
  · exact ⟨a, ha, by simpa using hab, by simp [h.refl]⟩

theorem rank_sign (h : Lawful c) {L : List α} {a b : α} (ha : a ∈ L) (hb : b ∈ L) :
    (c a b < 0 ↔ rankIn c L a < rankIn c L b) ∧ (c a b = 0 ↔ rankIn c L a = rankIn c L b) ∧
    (0 < c a b ↔ rankIn c L b < rankIn c L a) := by
  rcases Int.lt_trichotomy (c a b) 0 with hh | hh | hh
  · have := rank_lt h ha hh
    omega
  · have := rank_le h L (a := a) (b := b) (by omega)
    have := rank_le h L (a := b) (b := a) (by have := (h.eq_comm a b).mp hh; omega)
    omega
  · have := rank_lt h hb ((h.flip b a).mpr hh)
    omega

end rank

end PqModel.Compare
