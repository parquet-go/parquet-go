import PqModel.PageSlice

/-! # The `ReadValues` loops of optional and repeated pages (C08)

`PageSlice.weave` says what a page's value reader delivers in total. Here is the loop that does it,
call by call, for any sizes of the caller's buffer and any short reads of the base page's reader
(page_optional.go:72-117 `optionalPageValues.ReadValues`, page_repeated.go:120-178
`repeatedPageValues.ReadValues`; the two differ only in the repetition level they store, 0 for the
optional page).

* MIRROR: `nullRun` (the inner `for … definitionLevels[r.offset] != maxDefinitionLevel`), `defRun`
  (the `for i < len(values) && j < len(definitionLevels) && definitionLevels[j] == max…`), `emit`
  (the `for ; j > 0; j--` that stamps the levels on the values the base reader delivered), `rvLoop`
  (the outer `for n < len(values) && r.offset < len(definitionLevels)`), `readValues` (one call),
  `readAll` (a caller that calls until `io.EOF`).
* The base reader (`r.values.ReadValues(values[n:i])`) is a list of remaining values and a schedule of
  caps: a call for `m` slots delivers `min m cap remaining` values (`capOf`: cap ≥ 1, none when the schedule is used up). Its error only matters
  when it delivers nothing (`j == 0 && err == io.EOF`), which happens exactly when nothing remains.

Not modelled: a base reader failing with an error other than `io.EOF`, a base reader that returns
`(0, nil)` (the loop would spin; no page reader of the library does). -/
namespace PqModel.PageSlice

/-- the reader: `lv` = levels from `r.offset` on, `base` = what `r.values` still holds -/
structure RV where
  lv : List (Nat × Nat)
  base : List Nat
deriving DecidableEq, Repr

/-- MIRROR of the null run (page_repeated.go:134-142); `room` = `len(values) - n` -/
def nullRun (md : Nat) : Nat → List (Nat × Nat) → List Triple × List (Nat × Nat)
  | 0, lv => ([], lv)
  | _ + 1, [] => ([], [])
  | room + 1, (r, d) :: lv =>
    if d ≠ md then ((r, d, none) :: (nullRun md room lv).1, (nullRun md room lv).2)
    else ([], (r, d) :: lv)

/-- MIRROR of the count of the run of defined slots (page_repeated.go:144-150): `i - n` -/
def defRun (md : Nat) : Nat → List (Nat × Nat) → Nat
  | 0, _ => 0
  | _ + 1, [] => 0
  | room + 1, (_, d) :: lv => if d = md then defRun md room lv + 1 else 0

/-- MIRROR of the stamping loop (page_repeated.go:159-164) -/
def emit (md : Nat) : List (Nat × Nat) → List Nat → List Triple
  | (r, _) :: lv, v :: bs => (r, md, some v) :: emit md lv bs
  | [], _ => []
  | _ :: _, [] => []

/-- the base reader's short-read cap for a request of `m` slots: the head of the schedule (at least
    1: a reader returning `(0, nil)` would make the loop spin), no cap once the schedule is used up -/
def capOf (caps : List Nat) (m : Nat) : Nat :=
  match caps with
  | [] => m
  | c :: _ => max c 1

theorem capOf_pos (caps : List Nat) (m : Nat) (hm : m ≠ 0) : 1 ≤ capOf caps m := by
  unfold capOf; split <;> omega

/-- MIRROR of the outer loop; `acc` = `values[:n]`; result: (`values[:n]`, reader, caps left,
    `err == io.EOF`); `none` = out of fuel -/
def rvLoop (md : Nat) : Nat → Nat → RV → List Nat → List Triple →
    Option (List Triple × RV × List Nat × Bool)
  | 0, _, _, _, _ => none
  | fuel + 1, room, st, caps, acc =>
    if room = 0 then some (acc, st, caps, st.lv.isEmpty)
    else if st.lv.isEmpty then some (acc, st, caps, true)
    else
      let nr := nullRun md room st.lv
      let room1 := room - nr.1.length
      let m := defRun md room1 nr.2
      if m = 0 then rvLoop md fuel room1 ⟨nr.2, st.base⟩ caps (acc ++ nr.1)
      else
        let k := min m (min (capOf caps m) st.base.length)
        if k = 0 then some (acc ++ nr.1, ⟨nr.2, st.base⟩, caps.tail, true)
        else rvLoop md fuel (room1 - k) ⟨nr.2.drop k, st.base.drop k⟩ caps.tail
          (acc ++ nr.1 ++ emit md (nr.2.take k) (st.base.take k))

/-- MIRROR of one `ReadValues(values)` call with `len(values) = room` -/
def readValues (md room : Nat) (st : RV) (caps : List Nat) : Option (List Triple × RV × List Nat × Bool) :=
  rvLoop md (room + 1) room st caps []

/-- a caller that reads with buffers of the given sizes until `io.EOF`: (values, saw EOF) -/
def readAll (md : Nat) : List Nat → RV → List Nat → List Triple → Option (List Triple × Bool)
  | [], _, _, acc => some (acc, false)
  | sz :: szs, st, caps, acc =>
    match readValues md sz st caps with
    | none => none
    | some (out, st', caps', eof) =>
      if eof then some (acc ++ out, true) else readAll md szs st' caps' (acc ++ out)

theorem nullRun_spec (md room : Nat) (lv : List (Nat × Nat)) (base : List Nat) :
    (nullRun md room lv).1 ++ weave md (nullRun md room lv).2 base = weave md lv base ∧
      (nullRun md room lv).1.length ≤ room := by
  fun_induction nullRun md room lv with
  | case1 lv => exact ⟨rfl, Nat.le_refl _⟩
  | case2 n => exact ⟨rfl, Nat.zero_le _⟩
  | case3 room r d lv hd ih =>
    simp only [List.cons_append, weave, if_neg hd, ih.1, List.length_cons]
    exact ⟨trivial, Nat.succ_le_succ ih.2⟩
  | case4 room r d lv hd => exact ⟨rfl, Nat.zero_le _⟩

theorem defRun_le (md room : Nat) (lv : List (Nat × Nat)) :
    defRun md room lv ≤ room ∧ defRun md room lv ≤ lv.length := by
  fun_induction defRun md room lv with
  | case1 lv => exact ⟨Nat.le_refl _, Nat.zero_le _⟩
  | case2 n => exact ⟨Nat.zero_le _, Nat.le_refl _⟩
  | case3 room r lv ih => exact ⟨Nat.succ_le_succ ih.1, Nat.succ_le_succ ih.2⟩
  | case4 room r d lv hd => exact ⟨Nat.zero_le _, Nat.zero_le _⟩

theorem defRun_weave (md : Nat) : ∀ (room : Nat) (lv : List (Nat × Nat)) (k : Nat) (base : List Nat),
    k ≤ defRun md room lv → k ≤ base.length →
    emit md (lv.take k) (base.take k) ++ weave md (lv.drop k) (base.drop k) = weave md lv base ∧
      (emit md (lv.take k) (base.take k)).length = k
  | _, lv, 0, base, _, _ => by
    cases lv <;> simp [emit]
  | 0, lv, k + 1, base, h, _ => by simp [defRun] at h
  | _ + 1, [], k + 1, base, h, _ => by simp [defRun] at h
  | room + 1, (r, d) :: lv, k + 1, base, h, hb => by
    by_cases hd : d = md
    · subst hd
      cases base with
      | nil => simp at hb
      | cons v bs =>
        simp only [defRun, if_true] at h
        obtain ⟨h1, h2⟩ := defRun_weave d room lv k bs (by omega) (by simpa using hb)
        simp only [List.take_succ_cons, emit, List.drop_succ_cons, List.cons_append, weave, if_true,
          h1, List.length_cons, h2]
        exact ⟨trivial, trivial⟩
    · simp [defRun, hd] at h

theorem defRun_pos_weave_nil (md : Nat) (room : Nat) (lv : List (Nat × Nat))
    (h : defRun md room lv ≠ 0) : weave md lv [] = [] := by
  fun_cases defRun md room lv with
  | case1 lv => exact absurd rfl h
  | case2 n => rfl
  | case3 room r lv => simp [weave]
  | case4 room r d lv hd => simp [defRun, hd] at h

theorem nullRun_progress (md : Nat) (room : Nat) (lv : List (Nat × Nat)) (hr : room ≠ 0)
    (hl : lv ≠ []) (h : defRun md (room - (nullRun md room lv).1.length) (nullRun md room lv).2 = 0) :
    1 ≤ (nullRun md room lv).1.length := by
  fun_cases nullRun md room lv with
  | case1 lv => exact absurd rfl hr
  | case2 n => exact absurd rfl hl
  | case3 room r d lv hd => exact Nat.succ_pos _
  | case4 room r d lv hd =>
    have hd' : d = md := Decidable.not_not.mp hd
    simp [nullRun, defRun, hd'] at h

theorem rvLoop_spec (md : Nat) : ∀ (fuel room : Nat) (st : RV) (caps : List Nat) (acc : List Triple),
    room < fuel →
    ∃ out st' caps' eof, rvLoop md fuel room st caps acc = some (out, st', caps', eof) ∧
      out ++ weave md st'.lv st'.base = acc ++ weave md st.lv st.base ∧
      (eof = true → weave md st'.lv st'.base = []) ∧
      out.length ≤ acc.length + room ∧ (eof = false → out.length = acc.length + room)
  | 0, _, _, _, _, hf => by omega
  | fuel + 1, room, st, caps, acc, hf => by
    unfold rvLoop
    by_cases hroom : room = 0
    · refine ⟨acc, st, caps, st.lv.isEmpty, by rw [if_pos hroom], rfl, fun he => ?_, by omega, fun _ => by omega⟩
      rw [List.isEmpty_iff.mp he]; rfl
    · rw [if_neg hroom]
      by_cases hlv : st.lv.isEmpty = true
      · refine ⟨acc, st, caps, true, by rw [if_pos hlv], rfl, fun _ => ?_, by omega, fun h => by cases h⟩
        rw [List.isEmpty_iff.mp hlv]; rfl
      · rw [if_neg hlv]
        simp only []  -- unfolds the `let`s of `rvLoop`
        have hprog := nullRun_progress md room st.lv hroom (by simpa using hlv)
        obtain ⟨n1, n2⟩ := nullRun_spec md room st.lv st.base
        generalize nullRun md room st.lv = nr at hprog n1 n2 ⊢
        obtain ⟨dl1, dl2⟩ := defRun_le md (room - nr.1.length) nr.2
        by_cases hm : defRun md (room - nr.1.length) nr.2 = 0
        · -- only nulls were written: at least one, so the fuel suffices
          rw [if_pos hm]
          have := hprog hm
          obtain ⟨out, st', caps', eof, he, i1, i2, i3, i4⟩ :=
            rvLoop_spec md fuel (room - nr.1.length) ⟨nr.2, st.base⟩ caps (acc ++ nr.1) (by omega)
          rw [List.length_append] at i3 i4
          exact ⟨out, st', caps', eof, he, by rw [i1, List.append_assoc, n1], i2, by omega,
            fun h => by have := i4 h; omega⟩
        · rw [if_neg hm]
          have hc := capOf_pos caps _ hm
          generalize hkk : min (defRun md (room - nr.1.length) nr.2)
            (min (capOf caps (defRun md (room - nr.1.length) nr.2)) st.base.length) = k
          have hk1 : k ≤ defRun md (room - nr.1.length) nr.2 := hkk ▸ Nat.min_le_left _ _
          have hk2 : k ≤ st.base.length :=
            hkk ▸ Nat.le_trans (Nat.min_le_right _ _) (Nat.min_le_right _ _)
          by_cases hk : k = 0
          · -- the base reader delivered nothing: it is exhausted
            rw [if_pos hk]
            have hb : st.base = [] := List.eq_nil_of_length_eq_zero (by omega)
            refine ⟨_, _, _, true, rfl, by rw [List.append_assoc, n1], fun _ => ?_, ?_, fun h => by cases h⟩
            · rw [hb]; exact defRun_pos_weave_nil md _ _ hm
            · rw [List.length_append]; omega
          · rw [if_neg hk]
            clear hkk
            obtain ⟨w1, w2⟩ := defRun_weave md (room - nr.1.length) nr.2 k st.base hk1 hk2
            obtain ⟨out, st', caps', eof, he, i1, i2, i3, i4⟩ :=
              rvLoop_spec md fuel (room - nr.1.length - k) ⟨nr.2.drop k, st.base.drop k⟩ caps.tail
                (acc ++ nr.1 ++ emit md (nr.2.take k) (st.base.take k)) (by omega)
            rw [List.length_append, List.length_append, w2] at i3 i4
            exact ⟨out, st', caps', eof, he, by rw [i1, List.append_assoc, List.append_assoc, w1, n1], i2,
              by omega, fun h => by have := i4 h; omega⟩

theorem readValues_spec (md room : Nat) (st : RV) (caps : List Nat) :
    ∃ out st' caps' eof, readValues md room st caps = some (out, st', caps', eof) ∧
      out ++ weave md st'.lv st'.base = weave md st.lv st.base ∧
      (eof = true → weave md st'.lv st'.base = []) ∧
      out.length ≤ room ∧ (eof = false → out.length = room) := by
  obtain ⟨out, st', caps', eof, he, i1, i2, i3, i4⟩ := rvLoop_spec md (room + 1) room st caps [] (Nat.lt_succ_self _)
  exact ⟨out, st', caps', eof, he, i1, i2, by simpa using i3, by simpa using i4⟩

theorem readAll_spec (md : Nat) : ∀ (szs : List Nat) (st : RV) (caps : List Nat) (acc : List Triple),
    ∃ res eof, readAll md szs st caps acc = some (res, eof) ∧
      (eof = true → res = acc ++ weave md st.lv st.base) ∧
      (eof = false → res.length = acc.length + szs.sum ∧
        ∃ rest, res ++ rest = acc ++ weave md st.lv st.base)
  | [], st, caps, acc => ⟨acc, false, rfl, by simp, fun _ => ⟨by simp, _, rfl⟩⟩
  | sz :: szs, st, caps, acc => by
    obtain ⟨out, st', caps', eof, h, h1, h2, h3, h4⟩ := readValues_spec md sz st caps
    simp only [readAll, h]
    cases eof with
    | true =>
      refine ⟨acc ++ out, true, by simp, ?_, by simp⟩
      intro _
      rw [← h1, h2 rfl, List.append_nil]
    | false =>
      obtain ⟨res, eof, g, g1, g2⟩ := readAll_spec md szs st' caps' (acc ++ out)
      refine ⟨res, eof, by simpa using g, ?_, ?_⟩
      · intro he
        rw [g1 he, List.append_assoc, h1]
      · intro he
        obtain ⟨l, rest, hr⟩ := g2 he
        refine ⟨?_, rest, by rw [hr, List.append_assoc, h1]⟩
        simp only [List.length_append, h4 rfl] at l
        simp only [List.sum_cons]
        omega

end PqModel.PageSlice
