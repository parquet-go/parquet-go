import PqModel.Plain

/-! # Dictionary `Reset` / reuse across row groups (property C04, part "plain")

A column writer keeps ONE dictionary object for the whole life of the writer: every row group (and,
after `Writer.Reset`, every file) ends with `writerColumn.reset` (writer.go:2102-2104), which calls
`Dictionary.Reset`, and the next row group inserts into the same object. Each dictionary type keeps
a lookup accelerator next to its page (a `hashprobe` table, a Go map, two cached indexes), and each
`Reset` has to bring BOTH back to the empty state.

* SPEC session (`specRun`): the dictionary is the list of its entries; `Reset` makes it empty;
  `Insert` is the first-occurrence insert of `Plain.insertAll`.
* MIRRORS of the Go state machines, as written, one per family:
  `ProbeDict`  int32/int64/float/double/uint32/uint64/be128 — `hashprobe` table, nil until the first
               insert, chunked `Probe` + append loop, `Reset` = `values.Reset(); table.Reset()`;
  `MapDict`    fixed-len byte array (sizes other than 16), int96 — Go map numbered by page position,
               nil until the first insert, `Reset` sets it to nil; byte array — Go map numbered by
               its own size, `Reset` deletes every key;
  `BoolDict`   boolean — two cached indexes, `Reset` sets both to -1. -/
namespace PqModel.DictReset
open PqModel.Plain

/-- one call on a dictionary: `Insert` of a batch (given as the chunks the Go loop cuts it into;
    families without chunking read the concatenation) or `Reset` -/
inductive Op (α : Type) where
  | insert (chunks : List (List α))
  | reset
  deriving Repr

section Spec
variable {α : Type} [DecidableEq α]

/-- SPEC: `ensure` is what an insert guarantees to be present before looking at the batch (the
    identity, except for the boolean dictionary: `Plain.ensureBools`) -/
def specStep (ensure : List α → List α) (d : List α) : Op α → List α × List Nat
  | .insert cs => insertAll (ensure d) cs.flatten
  | .reset => ([], [])

/-- SPEC session: the final page and, per call, the indexes handed out -/
def specRun (ensure : List α → List α) (d : List α) : List (Op α) → List α × List (List Nat)
  | [] => (d, [])
  | op :: ops =>
    let r := specStep ensure d op
    let r2 := specRun ensure r.1 ops
    (r2.1, r.2 :: r2.2)

/-- a dictionary implementation: state `σ`, the two calls, and the page it would write -/
structure Machine (σ α : Type) where
  insert : σ → List (List α) → σ × List Nat
  reset : σ → σ
  values : σ → List α

def Machine.step {σ : Type} (m : Machine σ α) (s : σ) : Op α → σ × List Nat
  | .insert cs => m.insert s cs
  | .reset => (m.reset s, [])

def Machine.run {σ : Type} (m : Machine σ α) (s : σ) : List (Op α) → σ × List (List Nat)
  | [] => (s, [])
  | op :: ops =>
    let r := m.step s op
    let r2 := m.run r.1 ops
    (r2.1, r.2 :: r2.2)

/-- `m` refines the SPEC on the states satisfying `I` -/
structure Machine.Refines {σ : Type} (m : Machine σ α) (ensure : List α → List α) (I : σ → Prop) : Prop where
  insert_ok : ∀ s cs, I s →
    I (m.insert s cs).1 ∧
    m.values (m.insert s cs).1 = (insertAll (ensure (m.values s)) cs.flatten).1 ∧
    (m.insert s cs).2 = (insertAll (ensure (m.values s)) cs.flatten).2
  reset_ok : ∀ s, I s → I (m.reset s) ∧ m.values (m.reset s) = []

theorem run_refines {σ : Type} {m : Machine σ α} {ensure : List α → List α} {I : σ → Prop}
    (h : m.Refines ensure I) : ∀ (ops : List (Op α)) (s : σ), I s →
    I (m.run s ops).1 ∧
    m.values (m.run s ops).1 = (specRun ensure (m.values s) ops).1 ∧
    (m.run s ops).2 = (specRun ensure (m.values s) ops).2
  | [], s, hs => ⟨hs, rfl, rfl⟩
  | .insert cs :: ops, s, hs => by
    obtain ⟨i1, i2, i3⟩ := h.insert_ok s cs hs
    obtain ⟨r1, r2, r3⟩ := run_refines h ops (m.insert s cs).1 i1
    simp only [Machine.run, Machine.step, specRun, specStep]
    rw [← i2, ← i3]
    exact ⟨r1, r2, by rw [r3]⟩
  | .reset :: ops, s, hs => by
    obtain ⟨i1, i2⟩ := h.reset_ok s hs
    obtain ⟨r1, r2, r3⟩ := run_refines h ops (m.reset s) i1
    simp only [Machine.run, Machine.step, specRun, specStep]
    rw [i2] at r2 r3
    exact ⟨r1, r2, by rw [r3]⟩

theorem specRun_append (ensure : List α → List α) : ∀ (pre post : List (Op α)) (d : List α),
    specRun ensure d (pre ++ post) =
      ((specRun ensure (specRun ensure d pre).1 post).1,
       (specRun ensure d pre).2 ++ (specRun ensure (specRun ensure d pre).1 post).2)
  | [], _, _ => rfl
  | op :: pre, post, d => by
    simp only [List.cons_append, specRun]
    rw [specRun_append ensure pre post]

/-- the batches of a reset-free session -/
def batchesOf : List (Op α) → List α
  | [] => []
  | .insert cs :: ops => cs.flatten ++ batchesOf ops
  | .reset :: ops => batchesOf ops

def noReset : List (Op α) → Bool
  | [] => true
  | .insert _ :: ops => noReset ops
  | .reset :: _ => false

theorem specRun_noReset : ∀ (ops : List (Op α)) (d : List α), noReset ops = true →
    (specRun id d ops).1 = (insertAll d (batchesOf ops)).1 ∧
    (specRun id d ops).2.flatten = (insertAll d (batchesOf ops)).2
  | [], d, _ => by simp [specRun, batchesOf, insertAll]
  | .insert cs :: ops, d, h => by
    simp only [noReset] at h
    obtain ⟨h1, h2⟩ := specRun_noReset ops (insertAll d cs.flatten).1 h
    simp only [specRun, specStep, batchesOf, id, List.flatten_cons]
    rw [insertAll_append d cs.flatten (batchesOf ops), h1, h2]
    exact ⟨rfl, rfl⟩
  | .reset :: _, _, h => by simp [noReset] at h

end Spec

section Probe
variable {α : Type} [DecidableEq α]

/-- the page `values` and the `table` (`none` = the nil pointer of a dictionary that has not
    inserted yet; `some keys` = the keys in the order the table numbered them) -/
structure ProbeDict (α : Type) where
  values : List α
  table : Option (List α)
  deriving Repr

/-- `newInt32Dictionary` (dictionary_int32.go:18-28): the page as read, no table -/
def probeNew (page : List α) : ProbeDict α := { values := page, table := none }

/-- MIRROR of `if d.table == nil { d.init(indexes) }` (dictionary_int32.go:42-52, :70-72): `init`
    probes the page's values in order into a fresh table -/
def probeTable (g : ProbeDict α) : List α :=
  match g.table with
  | some t => t
  | none => (insertAll ([] : List α) g.values).1

/-- MIRROR of the loop `for k, index := range indexes[i:j] { if index == int32(d.values.Len()) {
    d.values.Append(values.Index(i + k)) } }` (dictionary_int32.go:80-84) -/
def appendLoop (values : List α) : List α → List Nat → List α
  | x :: xs, i :: is => appendLoop (if i = values.length then values ++ [x] else values) xs is
  | _, _ => values

/-- MIRROR of the chunk loop of `int32Dictionary.insert` (dictionary_int32.go:76-86; the same code
    in dictionary_{int64,float,double,uint32,uint64}.go and twice in dictionary_be128.go:59-73,
    :96-106): `ProbeArray` numbers every key of the chunk (a known key keeps its number, a new one
    gets the table's size) and returns how many were new; only then the append loop runs -/
def probeChunks (values table : List α) : List (List α) → (List α × List α) × List Nat
  | [] => ((values, table), [])
  | c :: cs =>
    let p := insertAll table c
    let v := if table.length < p.1.length then appendLoop values c p.2 else values
    let r := probeChunks v p.1 cs
    (r.1, p.2 ++ r.2)

def probeInsert (g : ProbeDict α) (chunks : List (List α)) : ProbeDict α × List Nat :=
  let r := probeChunks g.values (probeTable g) chunks
  ({ values := r.1.1, table := some r.1.2 }, r.2)

/-- MIRROR of `int32Dictionary.Reset` (dictionary_int32.go:104-109): `d.values.Reset(); if d.table
    != nil { d.table.Reset() }` -/
def probeReset (g : ProbeDict α) : ProbeDict α := { values := [], table := g.table.map (fun _ => []) }

/-- a `Reset` that forgets `d.table.Reset()` -/
def probeResetKeepingTable (g : ProbeDict α) : ProbeDict α := { values := [], table := g.table }

def probeMachine : Machine (ProbeDict α) α :=
  { insert := probeInsert, reset := probeReset, values := ProbeDict.values }

def probeMachineKeepingTable : Machine (ProbeDict α) α :=
  { insert := probeInsert, reset := probeResetKeepingTable, values := ProbeDict.values }

/-- the table numbers exactly the page's positions -/
def ProbeInv (g : ProbeDict α) : Prop := g.values.Nodup ∧ (g.table = none ∨ g.table = some g.values)

theorem appendLoop_insertAll : ∀ (xs : List α) (d : List α),
    appendLoop d xs (insertAll d xs).2 = (insertAll d xs).1
  | [], d => by simp [appendLoop, insertAll]
  | x :: xs, d => by
    simp only [insertAll, appendLoop]
    have : (if (dictInsert1 d x).2 = d.length then d ++ [x] else d) = (dictInsert1 d x).1 := by
      unfold dictInsert1
      split
      · rename_i i hi
        have := (List.getElem?_eq_some_iff.mp (dictFind_some d x i hi)).1
        simp only
        split
        · exfalso; omega
        · rfl
      · simp
    rw [this]
    exact appendLoop_insertAll xs _

theorem insertAll_same_length (d xs : List α) (h : (insertAll d xs).1.length ≤ d.length) :
    (insertAll d xs).1 = d := by
  obtain ⟨e, he⟩ := insertAll_prefix d xs
  rw [← he] at h ⊢
  simp only [List.length_append] at h
  have : e = [] := List.eq_nil_of_length_eq_zero (by omega)
  simp [this]

theorem probeChunks_refines : ∀ (cs : List (List α)) (d : List α),
    probeChunks d d cs = (((insertAll d cs.flatten).1, (insertAll d cs.flatten).1), (insertAll d cs.flatten).2)
  | [], d => by simp [probeChunks, insertAll]
  | c :: cs, d => by
    simp only [probeChunks, List.flatten_cons]
    have hv : (if d.length < (insertAll d c).1.length then appendLoop d c (insertAll d c).2 else d)
        = (insertAll d c).1 := by
      split
      · exact appendLoop_insertAll c d
      · rename_i h
        exact (insertAll_same_length d c (by omega)).symm
    rw [hv, probeChunks_refines cs, insertAll_append d c cs.flatten]

theorem probeTable_of_inv (g : ProbeDict α) (h : ProbeInv g) : probeTable g = g.values := by
  obtain ⟨hn, ht | ht⟩ := h
  · unfold probeTable
    rw [ht]
    simp only
    rw [insertAll_eraseDups [] g.values (by simp), List.nil_append, eraseDups_of_nodup g.values hn]
  · unfold probeTable
    rw [ht]

theorem probe_refines : (probeMachine (α := α)).Refines id ProbeInv where
  insert_ok := by
    intro s cs hs
    simp only [probeMachine, probeInsert, id]
    rw [probeTable_of_inv s hs, probeChunks_refines]
    refine ⟨⟨insertAll_nodup _ _ hs.1, Or.inr rfl⟩, rfl, rfl⟩
  reset_ok := by
    intro s _
    simp only [probeMachine, probeReset]
    refine ⟨⟨by simp, ?_⟩, by simp⟩
    cases s.table <;> simp

omit [DecidableEq α] in
theorem probeNew_inv (page : List α) (h : page.Nodup) : ProbeInv (probeNew page) := ⟨h, Or.inl rfl⟩

end Probe

section GoMap
variable {α : Type} [DecidableEq α]

/-- a Go `map[K]int32`: association list with unique keys -/
def mapGet : List (α × Nat) → α → Option Nat
  | [], _ => none
  | (k, v) :: m, x => if k = x then some v else mapGet m x

/-- `m[x] = v` -/
def mapSet : List (α × Nat) → α → Nat → List (α × Nat)
  | [], x, v => [(x, v)]
  | (k, w) :: m, x, v => if k = x then (k, v) :: m else (k, w) :: mapSet m x v

structure MapDict (α : Type) where
  values : List α
  hashmap : Option (List (α × Nat))
  deriving Repr

def mapNew (page : List α) : MapDict α := { values := page, hashmap := none }

/-- MIRROR of `for i, v := range d.values { d.hashmap[v] = int32(i) }` (dictionary_int96.go:51-56;
    dictionary_fixed_len_byte_array.go:66-73) -/
def mapInitPos (m : List (α × Nat)) (j : Nat) : List α → List (α × Nat)
  | [] => m
  | v :: vs => mapInitPos (mapSet m v j) (j + 1) vs

/-- MIRROR of `byteArrayDictionary.init` (dictionary_byte_array.go:55-62):
    `d.table[string(d.index(i))] = int32(len(d.table))` -/
def mapInitLen (m : List (α × Nat)) : List α → List (α × Nat)
  | [] => m
  | v :: vs => mapInitLen (mapSet m v m.length) vs

/-- `byLen` = the byte-array dictionary (numbers by the map's size, keeps an emptied map on Reset);
    otherwise fixed-len byte array / int96 (number by the page length, drop the map on Reset) -/
def mapEnsure (byLen : Bool) (g : MapDict α) : List (α × Nat) :=
  match g.hashmap with
  | some m => m
  | none => if byLen then mapInitLen [] g.values else mapInitPos [] 0 g.values

/-- MIRROR of the loop body of `insertValues` (dictionary_fixed_len_byte_array.go:75-88,
    dictionary_int96.go:58-69) and of `byteArrayDictionary.insert` (dictionary_byte_array.go:71-91) -/
def mapInsert1 (byLen : Bool) (s : List α × List (α × Nat)) (x : α) : (List α × List (α × Nat)) × Nat :=
  match mapGet s.2 x with
  | some i => (s, i)
  | none =>
    let i := if byLen then s.2.length else s.1.length
    ((s.1 ++ [x], mapSet s.2 x i), i)

def mapInsertAll (byLen : Bool) (s : List α × List (α × Nat)) : List α → (List α × List (α × Nat)) × List Nat
  | [] => (s, [])
  | x :: xs =>
    let r := mapInsert1 byLen s x
    let r2 := mapInsertAll byLen r.1 xs
    (r2.1, r.2 :: r2.2)

def mapInsert (byLen : Bool) (g : MapDict α) (chunks : List (List α)) : MapDict α × List Nat :=
  let r := mapInsertAll byLen (g.values, mapEnsure byLen g) chunks.flatten
  ({ values := r.1.1, hashmap := some r.1.2 }, r.2)

/-- MIRROR of `fixedLenByteArrayDictionary.Reset` (dictionary_fixed_len_byte_array.go:127-130:
    `d.data.Resize(0); d.hashmap = nil`), `int96Dictionary.Reset` (dictionary_int96.go:99-102) and
    `byteArrayDictionary.Reset` (dictionary_byte_array.go:131-138: every key deleted) -/
def mapReset (byLen : Bool) (g : MapDict α) : MapDict α :=
  if byLen then { values := [], hashmap := g.hashmap.map (fun _ => []) }
  else { values := [], hashmap := none }

/-- a `Reset` that keeps the map (the mechanism of seeded change C04-4b) -/
def mapResetKeepingMap (g : MapDict α) : MapDict α := { values := [], hashmap := g.hashmap }

def mapMachine (byLen : Bool) : Machine (MapDict α) α :=
  { insert := mapInsert byLen, reset := mapReset byLen, values := MapDict.values }

def mapMachineKeepingMap (byLen : Bool) : Machine (MapDict α) α :=
  { insert := mapInsert byLen, reset := mapResetKeepingMap, values := MapDict.values }

/-- the map answers exactly the linear search of the page -/
def MapAgrees (m : List (α × Nat)) (d : List α) : Prop :=
  (∀ x, mapGet m x = dictFind d x) ∧ m.length = d.length

def MapInv (g : MapDict α) : Prop :=
  g.values.Nodup ∧ ∀ m, g.hashmap = some m → MapAgrees m g.values

theorem mapGet_mapSet : ∀ (m : List (α × Nat)) (x : α) (v : Nat) (y : α),
    mapGet (mapSet m x v) y = if x = y then some v else mapGet m y
  | [], x, v, y => by simp [mapSet, mapGet]
  | (k, w) :: m, x, v, y => by
    simp only [mapSet]
    split
    · rename_i hk
      subst hk
      simp only [mapGet]
      split <;> rfl
    · rename_i hk
      simp only [mapGet]
      split
      · rename_i hy
        subst hy
        simp [Ne.symm hk]
      · exact mapGet_mapSet m x v y

theorem mapSet_length_absent : ∀ (m : List (α × Nat)) (x : α) (v : Nat), mapGet m x = none →
    (mapSet m x v).length = m.length + 1
  | [], _, _, _ => by simp [mapSet]
  | (k, w) :: m, x, v, h => by
    simp only [mapGet] at h
    simp only [mapSet]
    split
    · rename_i hk; simp [hk] at h
    · rename_i hk
      simp only [hk, if_false] at h
      simp [mapSet_length_absent m x v h]

theorem dictFind_append_ne : ∀ (d : List α) (x y : α), x ≠ y → dictFind (d ++ [x]) y = dictFind d y
  | [], x, y, h => by simp [dictFind, h]
  | z :: zs, x, y, h => by
    simp only [List.cons_append, dictFind]
    rw [dictFind_append_ne zs x y h]

theorem mapAgrees_insert_absent (m : List (α × Nat)) (d : List α) (x : α) (i : Nat)
    (h : MapAgrees m d) (hx : dictFind d x = none) (hi : i = d.length) :
    MapAgrees (mapSet m x i) (d ++ [x]) := by
  subst hi
  refine ⟨?_, ?_⟩
  · intro y
    rw [mapGet_mapSet]
    split
    · rename_i e; subst e; exact (dictFind_append_new d x hx).symm
    · rename_i e; rw [dictFind_append_ne d x y e]; exact h.1 y
  · rw [mapSet_length_absent m x _ (by rw [h.1 x]; exact hx), h.2]; simp

theorem dictFind_none_of_nodup {pre vs : List α} {v : α} (hn : (pre ++ v :: vs).Nodup) : dictFind pre v = none := by
  rw [dictFind_none]
  intro hm
  rw [List.nodup_append] at hn
  exact hn.2.2 v hm v (by simp) rfl

theorem mapInitPos_agrees : ∀ (vs pre : List α) (m : List (α × Nat)), MapAgrees m pre →
    (pre ++ vs).Nodup → MapAgrees (mapInitPos m pre.length vs) (pre ++ vs)
  | [], pre, m, h, _ => by simpa [mapInitPos] using h
  | v :: vs, pre, m, h, hn => by
    simp only [mapInitPos]
    have hv := dictFind_none_of_nodup hn
    have h2 := mapAgrees_insert_absent m pre v pre.length h hv rfl
    have := mapInitPos_agrees vs (pre ++ [v]) (mapSet m v pre.length) h2 (by simpa using hn)
    simpa using this

theorem mapInitLen_agrees : ∀ (vs pre : List α) (m : List (α × Nat)), MapAgrees m pre →
    (pre ++ vs).Nodup → MapAgrees (mapInitLen m vs) (pre ++ vs)
  | [], pre, m, h, _ => by simpa [mapInitLen] using h
  | v :: vs, pre, m, h, hn => by
    simp only [mapInitLen]
    have hv := dictFind_none_of_nodup hn
    have h2 := mapAgrees_insert_absent m pre v m.length h hv h.2
    have := mapInitLen_agrees vs (pre ++ [v]) (mapSet m v m.length) h2 (by simpa using hn)
    simpa using this

theorem mapAgrees_nil : MapAgrees ([] : List (α × Nat)) ([] : List α) := ⟨fun _ => rfl, rfl⟩

theorem mapEnsure_agrees (byLen : Bool) (g : MapDict α) (h : MapInv g) :
    MapAgrees (mapEnsure byLen g) g.values := by
  unfold mapEnsure
  cases hm : g.hashmap with
  | some m => exact h.2 m hm
  | none =>
    simp only
    split
    · simpa using mapInitLen_agrees g.values [] [] mapAgrees_nil (by simpa using h.1)
    · simpa using mapInitPos_agrees g.values [] [] mapAgrees_nil (by simpa using h.1)

theorem mapInsertAll_refines (byLen : Bool) : ∀ (xs : List α) (d : List α) (m : List (α × Nat)),
    MapAgrees m d →
    (mapInsertAll byLen (d, m) xs).1.1 = (insertAll d xs).1 ∧
    MapAgrees (mapInsertAll byLen (d, m) xs).1.2 (insertAll d xs).1 ∧
    (mapInsertAll byLen (d, m) xs).2 = (insertAll d xs).2
  | [], d, m, h => by simp [mapInsertAll, insertAll, h]
  | x :: xs, d, m, h => by
    have key : ∃ m', mapInsert1 byLen (d, m) x = (((dictInsert1 d x).1, m'), (dictInsert1 d x).2) ∧
        MapAgrees m' (dictInsert1 d x).1 := by
      unfold mapInsert1 dictInsert1
      simp only
      rw [h.1 x]
      cases hf : dictFind d x with
      | some i => exact ⟨m, rfl, h⟩
      | none =>
        simp only
        have hi : (if byLen = true then m.length else d.length) = d.length := by
          split
          · exact h.2
          · rfl
        rw [hi]
        exact ⟨_, rfl, mapAgrees_insert_absent m d x d.length h hf rfl⟩
    obtain ⟨m', e, hm'⟩ := key
    obtain ⟨i1, i2, i3⟩ := mapInsertAll_refines byLen xs (dictInsert1 d x).1 m' hm'
    simp only [mapInsertAll, insertAll, e]
    exact ⟨i1, i2, by rw [i3]⟩

theorem map_refines (byLen : Bool) : (mapMachine (α := α) byLen).Refines id MapInv where
  insert_ok := by
    intro s cs hs
    simp only [mapMachine, mapInsert, id]
    obtain ⟨i1, i2, i3⟩ := mapInsertAll_refines byLen cs.flatten s.values (mapEnsure byLen s)
      (mapEnsure_agrees byLen s hs)
    refine ⟨⟨?_, ?_⟩, i1, i3⟩
    · simp only; rw [i1]; exact insertAll_nodup _ _ hs.1
    · intro m hm
      simp only [Option.some.injEq] at hm
      subst hm
      simp only
      rw [i1]
      exact i2
  reset_ok := by
    intro s _
    simp only [mapMachine, mapReset]
    split
    · refine ⟨⟨by simp, ?_⟩, rfl⟩
      intro m hm
      cases hh : s.hashmap with
      | none => simp [hh] at hm
      | some m0 =>
        simp only [hh, Option.map_some, Option.some.injEq] at hm
        subst hm
        exact mapAgrees_nil
    · refine ⟨⟨by simp, ?_⟩, rfl⟩
      intro m hm
      simp at hm

theorem mapNew_inv (page : List α) (h : page.Nodup) : MapInv (mapNew page) :=
  ⟨h, by intro m hm; simp [mapNew] at hm⟩

end GoMap

section BoolD

/-- the page and the cached indexes `table[0]` (of false) and `table[1]` (of true); `none` = -1 -/
structure BoolDict where
  values : List Bool
  idxFalse : Option Nat
  idxTrue : Option Nat
  deriving Repr

/-- a boolean dictionary created empty (`newBooleanDictionary` with no values: both indexes -1) -/
def boolNew : BoolDict := { values := [], idxFalse := none, idxTrue := none }

/-- MIRROR of `booleanDictionary.insert` (dictionary_boolean.go:67-92) -/
def boolInsert (g : BoolDict) (chunks : List (List Bool)) : BoolDict × List Nat :=
  let g1 : BoolDict := match g.idxFalse with
    | some _ => g
    | none => { g with values := g.values ++ [false], idxFalse := some g.values.length }
  let g2 : BoolDict := match g1.idxTrue with
    | some _ => g1
    | none => { g1 with values := g1.values ++ [true], idxTrue := some g1.values.length }
  (g2, chunks.flatten.map (fun b => if b then g2.idxTrue.getD 0 else g2.idxFalse.getD 0))

/-- MIRROR of `booleanDictionary.Reset` (dictionary_boolean.go:128-133) -/
def boolReset (_ : BoolDict) : BoolDict := boolNew

/-- a `Reset` that keeps the cached indexes -/
def boolResetKeepingTable (g : BoolDict) : BoolDict := { g with values := [] }

def boolMachine : Machine BoolDict Bool :=
  { insert := boolInsert, reset := boolReset, values := BoolDict.values }

def boolMachineKeepingTable : Machine BoolDict Bool :=
  { insert := boolInsert, reset := boolResetKeepingTable, values := BoolDict.values }

/-- the cached indexes are the linear-search positions -/
def BoolInv (g : BoolDict) : Prop :=
  g.idxFalse = dictFind g.values false ∧ g.idxTrue = dictFind g.values true

theorem insertAll_all_present : ∀ (xs d : List α') [DecidableEq α'], (∀ x ∈ xs, x ∈ d) →
    insertAll d xs = (d, xs.map (fun x => (dictFind d x).getD 0))
  | [], _, _, _ => rfl
  | x :: xs, d, _, h => by
    have hx : x ∈ d := h x (by simp)
    cases hf : dictFind d x with
    | none => exact absurd hx ((dictFind_none d x).mp hf)
    | some i =>
      have h1 : dictInsert1 d x = (d, i) := by unfold dictInsert1; rw [hf]
      simp only [insertAll, h1, List.map_cons, hf, Option.getD_some]
      rw [insertAll_all_present xs d (fun y hy => h y (by simp [hy]))]

theorem mem_ensureBools (d : List Bool) (b : Bool) : b ∈ ensureBools d := by
  unfold ensureBools
  cases b <;> (simp only; split <;> split <;> simp_all)

theorem mem_of_dictFind {α' : Type} [DecidableEq α'] (d : List α') (x : α') (i : Nat)
    (h : dictFind d x = some i) : x ∈ d :=
  List.mem_of_getElem? (dictFind_some d x i h)

/-- the two "ensure" steps of `booleanDictionary.insert` compute `ensureBools`, and the cached
    indexes stay the linear-search positions -/
theorem boolInsert_ensures (g : BoolDict) (cs : List (List Bool)) (h : BoolInv g) :
    (boolInsert g cs).1.values = ensureBools g.values ∧ BoolInv (boolInsert g cs).1 := by
  obtain ⟨hF, hT⟩ := h
  unfold boolInsert ensureBools BoolInv
  cases hf : dictFind g.values false with
  | some i =>
    have mf : false ∈ g.values := mem_of_dictFind _ _ _ hf
    cases ht : dictFind g.values true with
    | some j =>
      have mt : true ∈ g.values := mem_of_dictFind _ _ _ ht
      simp [hF, hT, hf, ht, mf, mt]
    | none =>
      have mt : true ∉ g.values := (dictFind_none _ _).mp ht
      simp only [hF, hT, hf, ht, mf, mt, if_true, if_false]
      refine ⟨trivial, ?_, ?_⟩
      · exact (dictFind_append_left g.values [true] false i hf).symm
      · exact (dictFind_append_new g.values true ht).symm
  | none =>
    have mf : false ∉ g.values := (dictFind_none _ _).mp hf
    cases ht : dictFind g.values true with
    | some j =>
      have mt : true ∈ g.values := mem_of_dictFind _ _ _ ht
      have mt' : true ∈ g.values ++ [false] := by simp [mt]
      simp only [hF, hT, hf, ht, mf, mt', if_true, if_false]
      refine ⟨trivial, ?_, ?_⟩
      · exact (dictFind_append_new g.values false hf).symm
      · exact (dictFind_append_left g.values [false] true j ht).symm
    | none =>
      have mt : true ∉ g.values := (dictFind_none _ _).mp ht
      have mt' : true ∉ g.values ++ [false] := by simp [mt]
      have ht' : dictFind (g.values ++ [false]) true = none := (dictFind_none _ _).mpr mt'
      simp only [hF, hT, hf, ht, mf, mt', if_false]
      refine ⟨trivial, ?_, ?_⟩
      · exact (dictFind_append_left (g.values ++ [false]) [true] false _
          (dictFind_append_new g.values false hf)).symm
      · exact (dictFind_append_new (g.values ++ [false]) true ht').symm

theorem bool_refines : boolMachine.Refines ensureBools BoolInv where
  insert_ok := by
    intro s cs hs
    obtain ⟨e1, e2⟩ := boolInsert_ensures s cs hs
    have hall : ∀ x ∈ cs.flatten, x ∈ ensureBools s.values := fun x _ => mem_ensureBools _ x
    simp only [boolMachine] at e1 e2 ⊢
    rw [insertAll_all_present cs.flatten (ensureBools s.values) hall]
    refine ⟨e2, e1, ?_⟩
    have : (boolInsert s cs).2 = cs.flatten.map (fun b =>
        if b then (boolInsert s cs).1.idxTrue.getD 0 else (boolInsert s cs).1.idxFalse.getD 0) := rfl
    rw [this, e2.1, e2.2, e1]
    apply List.map_congr_left
    intro b _
    cases b <;> simp
  reset_ok := by
    intro s _
    exact ⟨⟨rfl, rfl⟩, rfl⟩

theorem boolNew_inv : BoolInv boolNew := ⟨rfl, rfl⟩

end BoolD

end PqModel.DictReset
