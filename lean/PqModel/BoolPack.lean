import PqModel.PageDataBuf

/-! # The bytes the boolean column buffer writes

Every byte operation of `PageDataBuf` (`setBit`, `packLow`, the masks of `clearTrailing` and of the
merge in `alignPhase`) is described by what it does to bit `i`; equalities between bytes then follow by
`ByteBits.ext`, for lists and positions that are variables. -/
namespace PqModel.PageDataBuf
open PqModel.Bloom PqModel.ByteBits

/-- the bits below `e` (`clearTrailingBits`) -/
def maskOf (e : Nat) : UInt8 := ((1 : UInt8) <<< UInt8.ofNat e) - 1

/-- what `tailLoop` does to the one byte it writes when the values stay inside it -/
def foldSet (w : UInt8) (y : Nat) : List Bool → UInt8
  | [] => w
  | b :: rest => foldSet (setBit w y b) (y + 1) rest

theorem and_maskOf_zero (w : UInt8) : w &&& maskOf 0 = 0 :=
  UInt8.and_zero

theorem byteCount_add (k r : Nat) : byteCount (8 * k + r) = k + byteCount r := by
  unfold byteCount; omega

theorem byteCount_of_le {r : Nat} (h1 : 1 ≤ r) (h8 : r ≤ 8) : byteCount r = 1 := by
  unfold byteCount; omega

theorem resize_of_le (A : List UInt8) (L : Nat) (junk : UInt8) (h : A.length ≤ L) :
    resize A L junk = A ++ List.replicate (L - A.length) junk := by
  unfold resize; rw [List.take_of_length_le h]

theorem clearTrailing_concat (Q : List UInt8) (w : UInt8) (nv : Nat) :
    clearTrailing (Q ++ [w]) nv = Q ++ [if nv % 8 = 0 then w else w &&& maskOf (nv % 8)] := by
  unfold clearTrailing
  split
  · rfl
  · have : (Q ++ [w]).length - 1 = Q.length := by simp
    rw [this, setAt_append]; rfl

theorem testBit_maskOf (e i : Nat) (he : e < 8) : (maskOf e).toNat.testBit i = decide (i < e) := by
  rw [maskOf, toNat_lowMask ⟨e, he⟩, Nat.testBit_two_pow_sub_one]

theorem bit_testBit (b : Bool) (y i : Nat) (hy : y < 8) :
    (bit b <<< UInt8.ofNat y).toNat.testBit i = (decide (y = i) && b) :=
  ByteBits.testBit_bit_shl b y i hy

theorem setBit_testBit (w : UInt8) (y i : Nat) (b : Bool) (hy : y < 8) (hi : i < 8) :
    (setBit w y b).toNat.testBit i = if y = i then b else w.toNat.testBit i := by
  rw [setBit, UInt8.or_comm]
  exact ByteBits.testBit_setBit w y i b hy hi

/-- entry `i - k` of `v :: vs`, split on `k = i`, `k < i`, `i < k`: the step of `packLowFrom` and of `foldSet` -/
theorem getD_cons_from {α} (v : α) (vs : List α) (k i : Nat) (d : α) :
    (if k ≤ i then (v :: vs)[i - k]?.getD d else d) =
      if k = i then v else if k + 1 ≤ i then vs[i - (k + 1)]?.getD d else d := by
  by_cases hk : k = i
  · subst hk; simp
  · by_cases hlt : k + 1 ≤ i
    · have e : i - k = (i - (k + 1)) + 1 := by omega
      have hle : k ≤ i := by omega
      simp [hk, hlt, hle, e]
    · have hle : ¬ k ≤ i := by omega
      simp [hk, hlt, hle]

theorem testBit_packLowFrom (vs : List Bool) (k i : Nat) (h : k + vs.length ≤ 8) :
    (packLowFrom k vs).toNat.testBit i = if k ≤ i then vs[i - k]?.getD false else false := by
  fun_induction packLowFrom k vs with
  | case1 => simp
  | case2 k v vs ih =>
    simp only [List.length_cons] at h
    rw [testBit_or, bit_testBit v k i (by omega), ih (by omega), getD_cons_from]
    by_cases hk : k = i
    · subst hk; simp [Nat.not_succ_le_self]
    · simp [hk]

/-- `sparse.GatherBits` on at most 8 rows = the LSB-first byte -/
theorem packLow_eq (l : List Bool) (h : l.length ≤ 8) : packLow l = UInt8.ofNat (bitsByte l) := by
  apply ByteBits.ext
  intro i hi
  rw [packLow, testBit_packLowFrom l 0 i (by omega), testBit_ofNat, testBit_bitsByte]
  simp [hi]

theorem testBit_foldSet (rem : List Bool) (w : UInt8) (y i : Nat) (h : y + rem.length ≤ 8) (hi : i < 8) :
    (foldSet w y rem).toNat.testBit i = if y ≤ i then rem[i - y]?.getD (w.toNat.testBit i) else w.toNat.testBit i := by
  fun_induction foldSet w y rem with
  | case1 => simp
  | case2 w y b rest ih =>
    simp only [List.length_cons] at h
    rw [ih (by omega), setBit_testBit w y i b (by omega) hi, getD_cons_from]
    by_cases hk : y = i
    · subst hk; simp [Nat.not_succ_le_self]
    · simp [hk]

theorem bitsByte_and_maskOf (tail : List Bool) (h : tail.length ≤ 7) :
    UInt8.ofNat (bitsByte tail) &&& maskOf tail.length = UInt8.ofNat (bitsByte tail) := by
  apply ByteBits.ext
  intro i hi
  rw [testBit_and, testBit_maskOf _ _ (by omega), testBit_ofNat, testBit_bitsByte]
  by_cases hl : i < tail.length
  · simp [hl]
  · simp [List.getElem?_eq_none (Nat.le_of_not_lt hl)]

theorem gatherBits_chunk (a rest : List Bool) (h : a.length = 8) :
    gatherBits (a ++ rest) = packLow a :: gatherBits rest := by
  obtain ⟨a0, a1, a2, a3, a4, a5, a6, a7, rfl⟩ := ListFacts.exists_of_length_eq_8 a h
  rfl

/-- the merge of `alignPhase`: the bits of `tail` kept, the new rows above them -/
theorem merge_byte_eq (tail new : List Bool) (ht : tail.length < 8) (hn : tail.length + new.length ≤ 8) :
    (packLow new <<< UInt8.ofNat tail.length) |||
        (UInt8.ofNat (bitsByte tail) &&& ~~~((0xFF : UInt8) <<< UInt8.ofNat tail.length))
      = UInt8.ofNat (bitsByte (tail ++ new)) := by
  apply ByteBits.ext
  intro i hi
  rw [testBit_or, testBit_and, testBit_shl _ _ i ht, testBit_not_shl_ff _ i ht hi, packLow_eq new (by omega)]
  simp only [testBit_ofNat, testBit_bitsByte, List.getElem?_append]
  by_cases h : i < tail.length
  · have h2 : ¬ tail.length ≤ i := by omega
    simp [h, h2, hi]
  · have h2 : tail.length ≤ i := by omega
    have h3 : i - tail.length < 8 := by omega
    simp [h, h2, h3, hi]

theorem testBit_of_masked {w : UInt8} {n : Nat} {l : List Bool} (hw : w &&& maskOf n = UInt8.ofNat (bitsByte l))
    (hn : n < 8) {i : Nat} (hi : i < n) : w.toNat.testBit i = l[i]?.getD false := by
  have h := congrArg (fun v => v.toNat.testBit i) hw
  simp only [testBit_and, testBit_maskOf n i hn, testBit_ofNat, testBit_bitsByte] at h
  have h8 : i < 8 := by omega
  simpa [hi, h8] using h

/-- the tail loop keeps "the bits below the cursor are the packed values" -/
theorem foldSet_masked (rem : List Bool) (w : UInt8) (tail : List Bool) (hl : tail.length + rem.length ≤ 7)
    (hw : w &&& maskOf tail.length = UInt8.ofNat (bitsByte tail)) :
    foldSet w tail.length rem &&& maskOf (tail.length + rem.length) = UInt8.ofNat (bitsByte (tail ++ rem)) := by
  apply ByteBits.ext
  intro i hi
  rw [testBit_and, testBit_maskOf _ _ (by omega), testBit_foldSet rem w _ i (by omega) hi, testBit_ofNat,
    testBit_bitsByte, List.getElem?_append]
  by_cases h : i < tail.length
  · have h2 : ¬ tail.length ≤ i := by omega
    have h3 : i < tail.length + rem.length := by omega
    simp [h, h2, h3, hi, testBit_of_masked hw (by omega) h]
  · have h2 : tail.length ≤ i := by omega
    by_cases h3 : i - tail.length < rem.length
    · have h4 : i < tail.length + rem.length := by omega
      simp [h, h2, h3, h4, hi]
    · have h4 : ¬ i < tail.length + rem.length := by omega
      simp [h, h2, h4, hi, List.getElem?_eq_none (Nat.le_of_not_lt h3)]

/-- what `writeBoolean` does to the byte that receives the value: set bit `y`, then clear the bits
    above it unless the byte is full -/
def stepByte (y : Nat) (w : UInt8) (b : Bool) : UInt8 :=
  let w' := setBit w y b
  if (y + 1) % 8 = 0 then w' else w' &&& maskOf ((y + 1) % 8)

theorem stepByte_masked (w : UInt8) (tail : List Bool) (b : Bool) (ht : tail.length ≤ 7)
    (hw : w &&& maskOf tail.length = UInt8.ofNat (bitsByte tail)) :
    stepByte tail.length w b = UInt8.ofNat (bitsByte (tail ++ [b])) := by
  by_cases h7 : tail.length = 7
  · apply ByteBits.ext
    intro i hi
    have hs : stepByte tail.length w b = setBit w tail.length b := by simp [stepByte, h7]
    rw [hs, setBit_testBit w _ i b (by omega) hi, testBit_ofNat, testBit_bitsByte, List.getElem?_append]
    by_cases h : i < tail.length
    · have h2 : ¬ tail.length = i := by omega
      simp [h, h2, hi, testBit_of_masked hw (by omega) h]
    · have h2 : tail.length = i := by omega
      simp [h2, hi]
  · have hm : (tail.length + 1) % 8 = tail.length + 1 := by omega
    have hs : stepByte tail.length w b = foldSet w tail.length [b] &&& maskOf (tail.length + [b].length) := by
      simp [stepByte, hm, foldSet]
    rw [hs, foldSet_masked [b] w tail (by simp; omega) hw]

theorem mem_foldl_specStep {v : Value} : ∀ (ops : List BufOp) (vs : List Value), v ∈ ops.foldl specStep vs →
    v ∈ vs ∨ ∃ ws, BufOp.write ws ∈ ops ∧ v ∈ ws
  | [], _, h => Or.inl h
  | op :: ops, vs, h => by
    rcases mem_foldl_specStep ops _ h with h1 | ⟨ws, hw, hv⟩
    · cases op with
      | reset => cases h1
      | write ws =>
        rcases List.mem_append.mp h1 with h2 | h2
        · exact Or.inl h2
        · exact Or.inr ⟨ws, List.mem_cons_self .., h2⟩
    · exact Or.inr ⟨ws, List.mem_cons_of_mem _ hw, hv⟩

end PqModel.PageDataBuf
