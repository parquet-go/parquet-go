/-! # Page-index section of the file tail (C02)

MIRROR of the two loops of `writeFileFooter` (`writer.go:1362-1416`): every column index that
exists is written (row groups in order, columns in order) and its `ColumnIndexOffset` /
`ColumnIndexLength` recorded from the running file offset; then every offset index likewise.
The mirror works with the running offset exactly like the Go code (`w.writer.offset`); the SPEC
side is positional ("where the bytes really are": prefix sums of the encoded lengths). The theorems
say the two agree for every sequence of chunks, that the section is gap-free and that no two
indexes overlap. What is encoded (thrift) is the business of `ThriftWrite`; here an index is its
encoded length. -/
namespace PqModel.FooterLayout

/-- one column chunk as the page-index loops see it: the encoded length of its column index
    (`none`: `len(NullPages) == 0`, no column index is written) and of its offset index -/
structure IdxOp where
  ci : Option Nat
  oi : Nat
deriving Repr, DecidableEq

/-- the four footer numbers of one chunk (`0, 0` = absent, as in the thrift struct) -/
structure IdxLoc where
  ciOff : Nat := 0
  ciLen : Nat := 0
  oiOff : Nat := 0
  oiLen : Nat := 0
deriving Repr, DecidableEq

/-- MIRROR writer.go:1362-1390: first loop -/
def writeColumnIndexes (off : Nat) : List IdxOp → List IdxLoc × Nat
  | [] => ([], off)
  | op :: ops =>
    match op.ci with
    | none =>
      let (ls, e) := writeColumnIndexes off ops
      ({} :: ls, e)
    | some n =>
      -- column.ColumnIndexOffset = w.writer.offset; encode; ColumnIndexLength = offset - ColumnIndexOffset
      -- (narrowed to int32 in Go; the narrowing is not modelled)
      let off' := off + n
      let (ls, e) := writeColumnIndexes off' ops
      ({ ciOff := off, ciLen := off' - off } :: ls, e)

/-- MIRROR writer.go:1392-1416: second loop, filling the offset index part -/
def writeOffsetIndexes (off : Nat) : List IdxOp → List IdxLoc → List IdxLoc × Nat
  | op :: ops, l :: ls =>
    let off' := off + op.oi
    let (rs, e) := writeOffsetIndexes off' ops ls
    ({ l with oiOff := off, oiLen := off' - off } :: rs, e)
  | _, _ => ([], off)

/-- the page-index section written at file offset `start` -/
def indexLayout (start : Nat) (ops : List IdxOp) : List IdxLoc × Nat :=
  let (ls, mid) := writeColumnIndexes start ops
  writeOffsetIndexes mid ops ls

def ciBytes (ops : List IdxOp) : Nat := (ops.map fun op => op.ci.getD 0).sum
def oiBytes (ops : List IdxOp) : Nat := (ops.map (·.oi)).sum

structure Region where
  off : Nat
  len : Nat
deriving Repr, DecidableEq

/-- the regions the section consists of, in file order: the column indexes that exist, then the
    offset indexes — computed positionally -/
def specCi (start : Nat) : List IdxOp → List Region
  | [] => []
  | op :: ops =>
    match op.ci with
    | none => specCi start ops
    | some n => ⟨start, n⟩ :: specCi (start + n) ops

def specOi (start : Nat) : List IdxOp → List Region
  | [] => []
  | op :: ops => ⟨start, op.oi⟩ :: specOi (start + op.oi) ops

/-- the regions the recorded footer numbers name -/
def ciRegions (ls : List IdxLoc) (ops : List IdxOp) : List Region :=
  (List.zip ls ops).filterMap fun (l, op) => if op.ci.isSome then some ⟨l.ciOff, l.ciLen⟩ else none

def oiRegions (ls : List IdxLoc) : List Region := ls.map fun l => ⟨l.oiOff, l.oiLen⟩

/-- `rs` tile `[start, stop)`: each region starts where the previous one ends -/
def Tiles : Nat → List Region → Nat → Prop
  | start, [], stop => start = stop
  | start, r :: rs, stop => r.off = start ∧ Tiles (start + r.len) rs stop

theorem writeColumnIndexes_cons (off : Nat) (op : IdxOp) (ops : List IdxOp) :
    writeColumnIndexes off (op :: ops) =
      ((match op.ci with | none => {} | some n => { ciOff := off, ciLen := n }) ::
        (writeColumnIndexes (off + op.ci.getD 0) ops).1, (writeColumnIndexes (off + op.ci.getD 0) ops).2) := by
  cases h : op.ci with
  | none => simp only [writeColumnIndexes, h, Option.getD_none, Nat.add_zero]
  | some n => simp only [writeColumnIndexes, h, Option.getD_some, Nat.add_sub_cancel_left]

theorem writeColumnIndexes_spec (off : Nat) (ops : List IdxOp) :
    (writeColumnIndexes off ops).2 = off + ciBytes ops ∧
    (writeColumnIndexes off ops).1.length = ops.length ∧
    ciRegions (writeColumnIndexes off ops).1 ops = specCi off ops ∧
    (∀ l ∈ (writeColumnIndexes off ops).1, l.oiOff = 0 ∧ l.oiLen = 0) ∧
    (List.zip (writeColumnIndexes off ops).1 ops).all (fun (l, op) => op.ci.isSome || (l.ciOff == 0 && l.ciLen == 0)) = true := by
  induction ops generalizing off with
  | nil => simp [writeColumnIndexes, ciBytes, ciRegions, specCi]
  | cons op ops ih =>
    obtain ⟨i1, i2, i3, i4, i5⟩ := ih (off + op.ci.getD 0)
    rw [writeColumnIndexes_cons]
    refine ⟨?_, ?_, ?_, ?_, ?_⟩
    · simp only [i1, ciBytes, List.map_cons, List.sum_cons, Nat.add_assoc]
    · simp only [List.length_cons, i2]
    · cases h : op.ci <;> simpa [ciRegions, specCi, h] using i3
    · intro l hl
      rcases List.mem_cons.mp hl with rfl | hl
      · cases op.ci <;> exact ⟨rfl, rfl⟩
      · exact i4 l hl
    · cases h : op.ci <;> simpa [h] using i5

theorem writeOffsetIndexes_spec (off : Nat) (ops : List IdxOp) (ls : List IdxLoc) (hl : ls.length = ops.length) :
    (writeOffsetIndexes off ops ls).2 = off + oiBytes ops ∧
    (writeOffsetIndexes off ops ls).1.length = ops.length ∧
    oiRegions (writeOffsetIndexes off ops ls).1 = specOi off ops ∧
    ciRegions (writeOffsetIndexes off ops ls).1 ops = ciRegions ls ops := by
  induction ops generalizing off ls with
  | nil =>
    cases ls <;> simp [writeOffsetIndexes, oiBytes, oiRegions, specOi, ciRegions]
  | cons op ops ih =>
    cases ls with
    | nil => simp at hl
    | cons l ls =>
      have hl' : ls.length = ops.length := by simpa using hl
      have := ih (off + op.oi) ls hl'
      simp only [writeOffsetIndexes, oiBytes, List.map_cons, List.sum_cons, List.length_cons, oiRegions, specOi,
        ciRegions, List.zip_cons_cons, List.filterMap_cons] at this ⊢
      refine ⟨by omega, by omega, ?_, ?_⟩
      · rw [this.2.2.1]
        congr 2
        omega
      · rw [this.2.2.2]

theorem specCi_tiles (start : Nat) (ops : List IdxOp) : Tiles start (specCi start ops) (start + ciBytes ops) := by
  -- cases of `specCi`: no chunk; a chunk without column index (no region); a chunk with one of `n` bytes
  fun_induction specCi start ops with
  | case1 => rfl
  | case2 start op ops h ih =>
    simpa only [ciBytes, List.map_cons, List.sum_cons, h, Option.getD_none, Nat.zero_add] using ih
  | case3 start op ops n h ih =>
    exact ⟨rfl, by simpa only [ciBytes, List.map_cons, List.sum_cons, h, Option.getD_some, Nat.add_assoc] using ih⟩

theorem specOi_tiles (start : Nat) (ops : List IdxOp) : Tiles start (specOi start ops) (start + oiBytes ops) := by
  fun_induction specOi start ops with
  | case1 => rfl
  | case2 start op ops ih =>
    exact ⟨rfl, by simpa only [oiBytes, List.map_cons, List.sum_cons, Nat.add_assoc] using ih⟩

theorem Tiles.append {a b c : Nat} {rs ss : List Region} (h1 : Tiles a rs b) (h2 : Tiles b ss c) :
    Tiles a (rs ++ ss) c := by
  induction rs generalizing a with
  | nil => simp only [Tiles] at h1; subst h1; simpa using h2
  | cons r rs ih => exact ⟨h1.1, ih h1.2⟩

theorem Tiles.le {a c : Nat} {rs : List Region} (h : Tiles a rs c) : a ≤ c := by
  induction rs generalizing a with
  | nil => exact Nat.le_of_eq h
  | cons r rs ih => have := ih h.2; omega

theorem Tiles.sorted {a c : Nat} {rs : List Region} (h : Tiles a rs c) :
    (∀ r ∈ rs, a ≤ r.off ∧ r.off + r.len ≤ c) ∧
    rs.Pairwise (fun r s => r.off + r.len ≤ s.off) := by
  induction rs generalizing a with
  | nil => simp
  | cons r rs ih =>
    obtain ⟨hin, hp⟩ := ih h.2
    have hr := h.1
    have hle := h.2.le
    refine ⟨fun x hx => ?_, List.pairwise_cons.mpr ⟨fun s hs => ?_, hp⟩⟩
    · rcases List.mem_cons.mp hx with rfl | hx
      · omega
      · have := hin x hx; omega
    · have := hin s hs; omega

end PqModel.FooterLayout
