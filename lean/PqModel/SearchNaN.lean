import PqModel.Search

/-! # FLOAT / DOUBLE column indexes: NaN bounds

`compareFloat32/64` (compare.go:103-123) answer 0 whenever an operand is NaN (`v1 < v2` and `v1 > v2` are both
false), so `Type.Compare` is NOT a linear order on a float column whose index holds a NaN bound (a page of NaN
values only). This file repeats the search mirrors of `Search.lean` over bounds that may be NaN, shows that
they coincide with the `Int`-rank mirrors when no bound is NaN, and carries the "never misses" theorem over:
with a NaN bound the writer claims no order (column_index.go:457-470, 495-509 after repair 2854665), `Find`
takes the linear search, and the linear search is correct for every comparison whatsoever.

The `…F` searches, `hasNullF`, `findF`, `writerOrderF` are MIRRORS (same Go lines as their namesakes in
`Search.lean`), written a second time over `FB` because each is a transliteration the driver runs (`find`, `find.f`);
`isFirst_linear` serves both, `findF_toF` carries the rest. `hasNaN` is SPEC; `ofF`, `toF`, `FIndex.ranks`, `Index.toF`
only carry proofs between the models. -/
namespace PqModel.Search

/-- a bound of a float column index: the null `Value{}` of a null page, NaN, or a number (by rank) -/
inductive FB where
  | null
  | nan
  | val (x : Int)
  deriving DecidableEq, Repr

/-- `cmp(a, b) < 0` for `cmp = CompareNullsLast/First(typ.Compare)` (compare.go:20-57) over a float type -/
def ltF (nf : Bool) : FB → FB → Bool
  | .null, .null => false
  | .null, _ => nf
  | _, .null => !nf
  | .val x, .val y => decide (x < y)
  | _, _ => false

structure FIndex where
  mins : List FB
  maxs : List FB

def FIndex.n (ix : FIndex) : Nat := ix.mins.length
def minAtF (ix : FIndex) (i : Nat) : FB := ix.mins.getD i .null
def maxAtF (ix : FIndex) (i : Nat) : FB := ix.maxs.getD i .null

def containsF (nf : Bool) (ix : FIndex) (i : Nat) (v : Int) : Bool :=
  !(ltF nf (.val v) (minAtF ix i)) && !(ltF nf (maxAtF ix i) (.val v))

def bloopF (nf : Bool) (ix : FIndex) (v : Int) : Nat → Nat → Nat → Nat
  | 0, cur, _ => cur
  | fuel + 1, cur, top =>
    if cur < top then
      let next := (top - cur) / 2 + cur
      if ltF nf (.val v) (minAtF ix next) then bloopF nf ix v fuel cur next
      else if ltF nf (maxAtF ix next) (.val v) then bloopF nf ix v fuel (next + 1) top
      else bloopF nf ix v fuel cur next
    else cur

def binarySearchF (nf : Bool) (ix : FIndex) (v : Int) : Nat :=
  let c := bloopF nf ix v ix.n 0 ix.n
  if c < ix.n then
    if ltF nf (.val v) (minAtF ix c) || ltF nf (maxAtF ix c) (.val v) then ix.n else c
  else c

def lloopF (nf : Bool) (ix : FIndex) (v : Int) : Nat → Nat → Nat
  | 0, i => i
  | fuel + 1, i =>
    if i < ix.n then
      if !(ltF nf (.val v) (minAtF ix i)) && !(ltF nf (maxAtF ix i) (.val v)) then i else lloopF nf ix v fuel (i + 1)
    else i

def linearSearchF (nf : Bool) (ix : FIndex) (v : Int) : Nat := lloopF nf ix v ix.n 0

def hasNullF (ix : FIndex) : Bool := ix.mins.any (· == .null) || ix.maxs.any (· == .null)

def findF (nf asc : Bool) (ix : FIndex) (v : Int) : Nat :=
  if asc && !hasNullF ix then binarySearchF nf ix v else linearSearchF nf ix v

def hasNaN (ix : FIndex) : Bool := ix.mins.any (· == .nan) || ix.maxs.any (· == .nan)

def ofF : FB → Bound
  | .val x => some x
  | _ => none

def toF : Bound → FB
  | some x => .val x
  | none => .null

def FIndex.ranks (ix : FIndex) : Index := { mins := ix.mins.map ofF, maxs := ix.maxs.map ofF }
def Index.toF (ix : Index) : FIndex := { mins := ix.mins.map Search.toF, maxs := ix.maxs.map Search.toF }

/-- floatColumnIndexer/doubleColumnIndexer.ColumnIndex (column_index.go:457-470, 495-509): no boundary order
    when a min or max is NaN, else `orderOfFloat32/64` on the stored values as for every other type -/
def writerOrderF (z : Int) (ix : FIndex) : Nat :=
  if hasNaN ix then 0 else writerOrder z ix.ranks

theorem linearSearchF_first (nf : Bool) (ix : FIndex) (v : Int) :
    IsFirst ix.n (fun i => containsF nf ix i v) (linearSearchF nf ix v) :=
  isFirst_linear (f := lloopF nf ix v) (fun _ => rfl) (fun _ _ => rfl) ix.n 0 (Nat.le_of_eq (Nat.sub_zero _))
    (Nat.zero_le _) (fun _ h => absurd h (Nat.not_lt_zero _))

theorem ltF_toF (nf : Bool) (a b : Bound) : ltF nf (toF a) (toF b) = ltNL nf a b := by
  cases a <;> cases b <;> simp [ltF, ltNL, toF]

theorem minAtF_toF (ix : Index) (i : Nat) : minAtF ix.toF i = toF (minAt ix i) := ListFacts.getD_map toF none
theorem maxAtF_toF (ix : Index) (i : Nat) : maxAtF ix.toF i = toF (maxAt ix i) := ListFacts.getD_map toF none

theorem ltF_minAtF_toF (nf : Bool) (ix : Index) (v : Int) (i : Nat) :
    ltF nf (.val v) (minAtF ix.toF i) = ltNL nf (some v) (minAt ix i) := by
  rw [minAtF_toF]; exact ltF_toF nf (some v) _

theorem ltF_maxAtF_toF (nf : Bool) (ix : Index) (v : Int) (i : Nat) :
    ltF nf (maxAtF ix.toF i) (.val v) = ltNL nf (maxAt ix i) (some v) := by
  rw [maxAtF_toF]; exact ltF_toF nf _ (some v)

theorem toF_n (ix : Index) : ix.toF.n = ix.n := by simp [FIndex.n, Index.toF, Index.n]

theorem containsF_toF (nf : Bool) (ix : Index) (i : Nat) (v : Int) :
    containsF nf ix.toF i v = contains nf ix i v := by
  rw [containsF, contains, ltF_minAtF_toF, ltF_maxAtF_toF]

theorem bloopF_toF (nf : Bool) (ix : Index) (v : Int) : ∀ (fuel cur top : Nat),
    bloopF nf ix.toF v fuel cur top = bloop nf ix v fuel cur top
  | 0, _, _ => rfl
  | fuel + 1, cur, top => by
    simp only [bloopF, bloop, ltF_minAtF_toF, ltF_maxAtF_toF, bloopF_toF nf ix v fuel]

theorem binarySearchF_toF (nf : Bool) (ix : Index) (v : Int) :
    binarySearchF nf ix.toF v = binarySearch nf ix v := by
  simp only [binarySearchF, binarySearch, toF_n, bloopF_toF, ltF_minAtF_toF, ltF_maxAtF_toF]

theorem lloopF_toF (nf : Bool) (ix : Index) (v : Int) : ∀ (fuel i : Nat),
    lloopF nf ix.toF v fuel i = lloop nf ix v fuel i
  | 0, _ => rfl
  | fuel + 1, i => by
    simp only [lloopF, lloop, leNL, toF_n, ltF_minAtF_toF, ltF_maxAtF_toF, lloopF_toF nf ix v fuel]
    rfl

theorem any_null_toF (l : List Bound) : (l.map toF).any (· == FB.null) = l.any Option.isNone := by
  rw [List.any_map]
  exact congrArg (l.any ·) (funext fun a => by cases a <;> rfl)

theorem hasNullF_toF (ix : Index) : hasNullF ix.toF = hasNull ix := by
  simp only [hasNullF, hasNull, Index.toF, any_null_toF]

theorem findF_toF (nf asc : Bool) (ix : Index) (v : Int) : findF nf asc ix.toF v = find nf asc ix v := by
  simp only [findF, find, hasNullF_toF, binarySearchF_toF, linearSearchF, linearSearch, lloopF_toF, toF_n]

theorem toF_ofF_of_not_nan (l : List FB) (h : l.any (· == FB.nan) = false) : (l.map ofF).map toF = l :=
  ListFacts.map_map_cancel fun a ha => by
    cases a with
    | nan => exact absurd rfl (List.any_eq_false.mp h _ ha)
    | null => rfl
    | val x => rfl

theorem ranks_toF (ix : FIndex) (h : hasNaN ix = false) : ix.ranks.toF = ix := by
  simp only [hasNaN, Bool.or_eq_false_iff] at h
  cases ix with
  | mk mins maxs =>
    simp only [FIndex.ranks, Index.toF, toF_ofF_of_not_nan mins h.1, toF_ofF_of_not_nan maxs h.2]

theorem ofF_toF_map (l : List Bound) : (l.map toF).map ofF = l :=
  ListFacts.map_map_cancel fun a _ => by cases a <;> rfl

theorem toF_ranks (ix : Index) : ix.toF.ranks = ix := by
  cases ix with
  | mk mins maxs => simp only [Index.toF, FIndex.ranks, ofF_toF_map]

theorem hasNaN_toF (ix : Index) : hasNaN ix.toF = false := by
  have h : ∀ (l : List Bound), (l.map toF).any (· == FB.nan) = false := fun l =>
    List.any_eq_false.mpr fun x hx => by
      obtain ⟨a, _, rfl⟩ := List.mem_map.mp hx
      cases a <;> simp [toF]
  simp only [hasNaN, Index.toF, h, Bool.or_self]

theorem writerOrderF_of_no_nan (z : Int) (ix : FIndex) (h : hasNaN ix = false) :
    writerOrderF z ix = writerOrder2 z z ix.ranks := by
  rw [writerOrderF, h]; rfl

theorem le_ranks (ix : FIndex) (h : hasNaN ix = false)
    (hle : ∀ i a b, i < ix.n → minAtF ix i = .val a → maxAtF ix i = .val b → a ≤ b) :
    ∀ i a b, i < ix.ranks.n → minAt ix.ranks i = some a → maxAt ix.ranks i = some b → a ≤ b := by
  -- an index without NaN bound is the image of its ranks: argue about `jx.toF` and use the `…_toF` lemmas
  obtain ⟨jx, rfl⟩ : ∃ jx : Index, ix = jx.toF := ⟨ix.ranks, (ranks_toF ix h).symm⟩
  rw [toF_ranks]
  intro i a b hi ha hb
  apply hle i a b (by rw [toF_n]; exact hi)
  · rw [minAtF_toF, ha]; rfl
  · rw [maxAtF_toF, hb]; rfl

/-- C06 for FLOAT/DOUBLE indexes, NaN bounds included: `Find` with the flag the float indexers compute never
    misses. With a NaN bound no order is claimed and the linear search runs; without, this is `find` on ranks. -/
theorem findF_first_writer (nf : Bool) (z : Int) (ix : FIndex) (v : Int)
    (hlen : ix.maxs.length = ix.mins.length)
    (hle : ∀ i a b, i < ix.n → minAtF ix i = .val a → maxAtF ix i = .val b → a ≤ b) :
    IsFirst ix.n (fun i => containsF nf ix i v) (findF nf (writerOrderF z ix == 1) ix v) := by
  cases hn : hasNaN ix with
  | true =>
    have : findF nf (writerOrderF z ix == 1) ix v = linearSearchF nf ix v := by
      rw [findF, writerOrderF, hn]; rfl
    rw [this]
    exact linearSearchF_first nf ix v
  | false =>
    have hr := find_first_writer nf z z ix.ranks v (by simpa [FIndex.ranks] using hlen) (le_ranks ix hn hle)
    rw [← writerOrderF_of_no_nan z ix hn, ← findF_toF, ← toF_n] at hr
    simp only [← containsF_toF, ranks_toF ix hn] at hr
    exact hr

end PqModel.Search
