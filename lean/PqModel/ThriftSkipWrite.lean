import PqModel.ThriftSkipAcc
import PqModel.ThriftWriteProofs

/-! The MIRROR of the decoder's structure walk (`PqModel.ThriftSkip`) accepts what the MIRROR of the
    encoder (`PqModel.ThriftWrite`) emits, and ends exactly at its end;
    the induction over the value tree goes case by case as `rdVal_write` of ThriftWriteProofs. -/
namespace PqModel.ThriftSkipWrite
open PqModel.IoFault (Bytes)
open PqModel.ThriftSkip PqModel.ThriftWrite

/-- the bytes `bs` sit in `d` at offset `pos` -/
def Sits (d : Bytes) (pos : Nat) (bs : List UInt8) : Prop :=
  ∃ pre rest, d = pre ++ (bs ++ rest) ∧ pre.length = pos

-- `Sits d` unfolds to `ThriftWrite.At ⟨d.toArray⟩`
theorem Sits.append {d : Bytes} {pos : Nat} {a b : List UInt8} (h : Sits d pos (a ++ b)) :
    Sits d pos a ∧ Sits d (pos + a.length) b :=
  At.append (d := ⟨d.toArray⟩) h

theorem Sits.bound {d : Bytes} {pos : Nat} {bs : List UInt8} (h : Sits d pos bs) :
    pos + bs.length ≤ d.length := by
  have := At.bound (d := ⟨d.toArray⟩) h
  rwa [ByteArray.size, List.size_toArray] at this

theorem Sits.cons {d : Bytes} {pos : Nat} {b : UInt8} {bs : List UInt8} (h : Sits d pos (b :: bs)) :
    d[pos]? = some b ∧ Sits d (pos + 1) bs := by
  refine ⟨?_, (Sits.append (a := [b]) (b := bs) h).2⟩
  obtain ⟨pre, rest, hr, hp⟩ := h
  subst hp
  rw [hr, List.getElem?_append_right (Nat.le_refl _)]
  simp

theorem readByte_sits {d : Bytes} {pos : Nat} {b : UInt8} {bs : List UInt8} (h : Sits d pos (b :: bs)) :
    readByte d pos = .ok (b, pos + 1) := by
  simp only [readByte, h.cons.1]

theorem shl_or_split (x s : Nat) : ((x % 128) <<< s) ||| ((x / 128) <<< (s + 7)) = x <<< s := by
  rw [Nat.add_comm s 7, Nat.shiftLeft_add, ← Nat.shiftLeft_or_distrib, Nat.or_comm,
    ← Nat.shiftLeft_add_eq_or_of_lt (by omega : x % 128 < 2 ^ 7)]
  congr 1
  rw [Nat.shiftLeft_eq]; omega

theorem contByte_and_127 (x : Nat) : (x % 128 + 128) &&& 127 = x % 128 := by
  have := Nat.and_two_pow_sub_one_eq_mod (x % 128 + 128) 7
  simp only [Nat.reducePow, Nat.reduceSub] at this
  rw [this]; omega

/-- `binary.Uvarint` on the output of `binary.PutUvarint`: the rounds `i` already done and the
    bytes `f + 1` still allowed add up to the 10 bytes of a 64-bit value, and the value left fits
    the bits left (`x·128^i < 2^64`), so the overflow test of the 10th byte does not fire. -/
theorem uvLoop_put (d : Bytes) : ∀ (f x k pos i acc s : Nat), i + f = 9 → f < k → x < 128 ^ (f + 1) →
    x * 128 ^ i < 2 ^ 64 → Sits d pos (putUvarint f x) →
    uvLoop d k pos i acc s = .val (acc ||| (x <<< s)) (i + (putUvarint f x).length) := by
  intro f
  induction f with
  | zero =>
    intro x k pos i acc s hi hk hx hb h
    obtain ⟨k, rfl⟩ : ∃ j, k = j + 1 := ⟨k - 1, by omega⟩
    have hi9 : i = 9 := by omega
    subst hi9
    simp only [Nat.reducePow] at hb
    simp only [putUvarint] at h ⊢
    have hx' : x < 128 := by simpa using hx
    have hn : x.toUInt8.toNat = x := toUInt8_toNat x (by omega)
    have h1 : ¬ (x > 1) := by omega
    simp [uvLoop, h.cons.1, hn, hx', h1]
  | succ f ih =>
    intro x k pos i acc s hi hk hx hb h
    obtain ⟨k, rfl⟩ : ∃ j, k = j + 1 := ⟨k - 1, by omega⟩
    simp only [putUvarint] at h ⊢
    by_cases hx' : x < 128
    · rw [if_pos hx'] at h ⊢
      have hn : x.toUInt8.toNat = x := toUInt8_toNat x (by omega)
      have hi9 : (i == 9) = false := by simp; omega
      simp [uvLoop, h.cons.1, hn, hx', hi9]
    · rw [if_neg hx'] at h ⊢
      have hn : (x % 128 + 128).toUInt8.toNat = x % 128 + 128 := toUInt8_toNat _ (by omega)
      have hnot : ¬ (x % 128 + 128 < 128) := by omega
      have hx2 : x / 128 < 128 ^ (f + 1) := by
        rw [Nat.div_lt_iff_lt_mul (by omega)]
        rw [Nat.pow_succ] at hx; exact hx
      have hb2 : x / 128 * 128 ^ (i + 1) < 2 ^ 64 := by
        have e : x / 128 * 128 ^ (i + 1) = (x / 128 * 128) * 128 ^ i := by
          rw [Nat.pow_succ, Nat.mul_comm (128 ^ i) 128, Nat.mul_assoc]
        rw [e]
        exact Nat.lt_of_le_of_lt (Nat.mul_le_mul_right _ (Nat.div_mul_le_self x 128)) hb
      have := ih (x / 128) k (pos + 1) (i + 1) (acc ||| ((x % 128) <<< s)) (s + 7) (by omega) (by omega) hx2 hb2 h.cons.2
      unfold uvLoop
      simp only [h.cons.1, hn, hnot, if_false, contByte_and_127]
      rw [this, Nat.or_assoc, shl_or_split]
      simp only [List.length_cons, Nat.add_assoc, Nat.add_comm 1]

theorem readUvarint_put (d : Bytes) (mx x pos : Nat) (hx : x < 2 ^ 64) (hm : x ≤ mx)
    (h : Sits d pos (uvarintBytes x)) :
    readUvarint mx d pos = .ok (x, pos + (uvarintBytes x).length) := by
  have := uvLoop_put d 9 x 10 pos 0 0 0 (by omega) (by omega) (by omega) (by omega) h
  simp only [Nat.zero_or, Nat.shiftLeft_zero, Nat.zero_add] at this
  have hg : ¬ (x > mx) := by omega
  simp only [readUvarint, goUvarint, this, uvarintBytes, hg, if_false]

/-- `unzig` is `Delta.unzigzag` letter for letter -/
theorem unzig_eq_zigzag (n : Nat) : unzig n = PqModel.Spec.zigzag n := (zigzag_eq_unzigzag n).symm

theorem readVarint_put (d : Bytes) (lo hi i : Int) (pos : Nat)
    (h1 : -9223372036854775808 ≤ i) (h2 : i < 9223372036854775808) (hlo : lo ≤ i) (hhi : i ≤ hi)
    (h : Sits d pos (varintBytes i)) :
    readVarint lo hi d pos = .ok (i, pos + (varintBytes i).length) := by
  have hz := PqModel.Delta.zigzag64_lt (BitVec.ofInt 64 i)
  have := uvLoop_put d 9 (PqModel.Delta.zigzag64 (BitVec.ofInt 64 i)) 10 pos 0 0 0 (by omega) (by omega)
    (by omega) (by omega) h
  simp only [Nat.zero_or, Nat.shiftLeft_zero, Nat.zero_add] at this
  have hu : unzig (PqModel.Delta.zigzag64 (BitVec.ofInt 64 i)) = i := by
    rw [unzig_eq_zigzag]; exact zigzag_zigzag64 i h1 h2
  have hg : (decide (i < lo) || decide (i > hi)) = false := by simp; omega
  simp only [readVarint, goUvarint, this, hu, hg, varintBytes, uvarintBytes, Bool.false_eq_true, if_false]

theorem readField_put (d : Bytes) (last id ty pos : Nat) (h1 : last < id) (h2 : id ≤ 32767)
    (ht0 : 0 < ty) (ht : ty < 16) (h : Sits d pos (fieldHeader last id ty)) :
    readField d pos = .ok (some ty, pos + (fieldHeader last id ty).length) := by
  rcases fieldHeader_cases last id ty h1 ht with ⟨b, hk, hb, hn⟩ | ⟨hk, hb, hn⟩ <;> rw [hb] at h ⊢
  · have hz := uint8_ne_zero b (by omega)
    have e1 : (b.toNat / 16 != 0) = true := by simp; omega
    have e2 : (ty == 0) = false := by simp; omega
    have e3 : b.toNat % 16 = ty := by omega
    simp only [readField, readByte_sits h, seq, hz, e1, e2, e3, Bool.false_eq_true, if_false, if_true,
      List.length_singleton]
  · have hz := uint8_ne_zero ty.toUInt8 (by omega)
    have e1 : (ty / 16 != 0) = false := by simp; omega
    have hv := readVarint_put d (-32768) 32767 (id : Int) (pos + 1) (by omega) (by omega) (by omega) (by omega) h.cons.2
    simp only [readField, readByte_sits h, seq, hz, hn, e1, Bool.false_eq_true, if_false, readInt16, hv,
      List.length_cons, Nat.add_assoc, Nat.add_comm 1]

theorem readList_put (d : Bytes) (ety n pos : Nat) (he : ety < 16) (hn : n < 2147483648)
    (h : Sits d pos (listHeader ety n)) :
    readList d pos = .ok ((ety, n), pos + (listHeader ety n).length) := by
  rcases listHeader_cases ety n he with ⟨b, hs, hb, hv⟩ | ⟨b, hs, hb, hv⟩ <;> rw [hb] at h ⊢
  · have e1 : (n != 15) = true := by simp; omega
    have e2 : b.toNat % 16 = ety := by omega
    have e3 : b.toNat / 16 = n := by omega
    simp only [readList, readByte_sits h, seq, e1, e2, e3, if_true, List.length_singleton]
  · have e1 : (b.toNat / 16 != 15) = false := by simp; omega
    have e2 : b.toNat % 16 = ety := by omega
    have hu := readUvarint_put d maxInt32 n (pos + 1) (by omega) (by unfold maxInt32; omega) h.cons.2
    simp only [readList, readByte_sits h, seq, e1, e2, Bool.false_eq_true, if_false, hu, List.length_cons,
      Nat.add_assoc, Nat.add_comm 1]

theorem skipBinary_put (d : Bytes) (b : List UInt8) (pos : Nat) (hb : b.length < 2147483648)
    (h : Sits d pos (uvarintBytes b.length ++ b)) :
    skipBinary d pos = .ok ((), pos + (uvarintBytes b.length ++ b).length) := by
  have hu := readUvarint_put d maxInt32 b.length pos (by omega) (by unfold maxInt32; omega) h.append.1
  have hbd := h.append.2.bound
  simp only [skipBinary, hu, seq, List.length_append]
  by_cases h0 : b.length = 0
  · simp [h0]
  · have e : (b.length == 0) = false := by simp [h0]
    have hd : ¬ (d.length - (pos + (uvarintBytes b.length).length) < b.length) := by omega
    simp only [e, Bool.false_eq_true, if_false, ThriftSkip.discard, hd, Nat.add_assoc]

theorem readFloat_put (d : Bytes) (x : UInt64) (pos : Nat) (h : Sits d pos (le64 x)) :
    readFloat d pos = .ok ((), pos + (le64 x).length) := by
  have hb := h.bound
  rw [le64_length] at hb ⊢
  have : ¬ (pos + 8 > d.length) := by omega
  simp only [readFloat, this, if_false]

mutual
theorem val_write (d : Bytes) : ∀ (v : WVal) (pos : Nat), WfT v = true → Sits d pos (writeVal v) →
    Acc d (.val (fcode v)) pos (pos + (writeVal v).length)
  | .bool b, pos, _, _ => by
    refine ⟨1, ?_⟩
    cases b <;> simp [fcode, skipT, writeVal]
  | .i8 i, pos, _, h => by
    refine ⟨1, ?_⟩
    simp only [writeVal] at h ⊢
    simp only [fcode, skipT, readByte_sits h, seq, List.length_singleton]
  | .i16 i, pos, hw, h | .i32 i, pos, hw, h | .i64 i, pos, hw, h => by
    refine ⟨1, ?_⟩
    simp only [WfT, decide_eq_true_eq] at hw
    simp only [writeVal] at h ⊢
    simp only [fcode, skipT, readInt16, readInt32, readInt64]
    -- the range the reader checks is the width `WfT` asks for
    rw [readVarint_put d _ _ i pos ?_ ?_ ?_ ?_ h, seq] <;> omega
  | .double b, pos, _, h => by
    refine ⟨1, ?_⟩
    simp only [writeVal] at h ⊢
    simp only [fcode, skipT, readFloat_put d b pos h]
  | .bin b, pos, hw, h => by
    refine ⟨1, ?_⟩
    simp only [WfT, decide_eq_true_eq] at hw
    simp only [writeVal] at h ⊢
    simp only [fcode, skipT, skipBinary_put d b pos hw h]
  | .list ety xs, pos, hw, h => by
    simp only [WfT, Bool.and_eq_true, decide_eq_true_eq] at hw
    simp only [writeVal] at h ⊢
    have hl := readList_put d ety xs.length pos hw.1.1 hw.1.2 h.append.1
    have ih := items_write d xs ety (pos + (listHeader ety xs.length).length) hw.2 h.append.2
    rw [List.length_append, ← Nat.add_assoc]
    exact acc_val_list hl ih
  | .struct fs, pos, hw, h => by
    simp only [WfT] at hw
    simp only [writeVal] at h ⊢
    exact acc_val_struct (fields_write d fs 0 true pos hw h)
theorem items_write (d : Bytes) : ∀ (xs : List WVal) (ety pos : Nat), WfL ety xs = true →
    Sits d pos (writeElems xs) → Acc d (.items ety xs.length) pos (pos + (writeElems xs).length)
  | [], ety, pos, _, _ => by
    simp only [writeElems, List.length_nil, Nat.add_zero]
    exact acc_items_nil d ety pos
  | x :: xs, ety, pos, hw, h => by
    simp only [WfL, Bool.and_eq_true, decide_eq_true_eq] at hw
    obtain ⟨⟨hc, hwx⟩, hwl⟩ := hw
    cases hb : isBool x with
    | true =>
      cases x <;> simp [isBool] at hb
      rename_i b
      simp only [lcode] at hc
      subst hc
      simp only [writeElems] at h ⊢
      have ih := items_write d xs 2 (pos + 1) hwl h.cons.2
      simp only [List.length_cons, List.length_append, List.length_nil, Nat.zero_add, ← Nat.add_assoc]
      exact acc_items_cons (acc_item_bool (readByte_sits h)) ih
    | false =>
      obtain ⟨hlc, hnb, _, he⟩ := nonbool_facts x hb
      rw [he xs] at h ⊢
      have hx := val_write d x pos hwx h.append.1
      have ih := items_write d xs ety (pos + (writeVal x).length) hwl h.append.2
      simp only [Bool.or_eq_false_iff, beq_eq_false_iff_ne, ne_eq] at hnb
      rw [← hc, hlc] at ih ⊢
      simp only [List.length_cons, List.length_append, ← Nat.add_assoc]
      exact acc_items_cons (acc_item_of_val hnb.1 hnb.2 hx) ih
/-- `first` only selects the error mapping -/
theorem fields_write (d : Bytes) : ∀ (fs : List (FMeta × WVal)) (last : Nat) (first : Bool) (pos : Nat),
    WfF last fs = true → Sits d pos (writeFields last fs) →
    Acc d (.fields first) pos (pos + (writeFields last fs).length)
  | [], last, first, pos, _, h => by
    simp only [writeFields, List.length_singleton] at h ⊢
    apply acc_fields_stop
    simp [readField, readByte_sits h, seq]
  | (m, v) :: fs, last, first, pos, hw, h => by
    simp only [WfF] at hw
    simp only [writeFields] at h ⊢
    by_cases hom : m.omitted = true
    · simp only [hom, if_true] at hw h ⊢
      exact fields_write d fs last first pos hw h
    · simp only [hom, if_false, Bool.false_eq_true] at hw h ⊢
      simp only [Bool.and_eq_true, decide_eq_true_eq] at hw
      obtain ⟨⟨⟨hlt, hmax⟩, hwv⟩, hwf⟩ := hw
      have hty := fcode_range v
      have hr := readField_put d last m.id (fcode v) pos hlt hmax hty.1 hty.2 h.append.1.append.1
      have hv := val_write d v (pos + (fieldHeader last m.id (fcode v)).length) hwv h.append.1.append.2
      have ih := fields_write d fs m.id false
        (pos + (fieldHeader last m.id (fcode v)).length + (writeVal v).length) hwf
        (by simpa [Nat.add_assoc] using h.append.2)
      simp only [List.length_append, ← Nat.add_assoc]
      exact acc_fields_cons hr hv ih
end

theorem fields_writeStruct (fs : List (FMeta × WVal)) (pre rest : List UInt8) (hw : WfF 0 fs = true) :
    Acc (pre ++ (writeStruct fs ++ rest)) (.fields true) pre.length (pre.length + (writeStruct fs).length) :=
  fields_write _ fs 0 true pre.length hw ⟨pre, rest, rfl, rfl⟩

theorem skipStruct_writeStruct (fs : List (FMeta × WVal)) (rest : List UInt8) (hw : WfF 0 fs = true) :
    skipStruct (writeStruct fs ++ rest) = .ok (writeStruct fs).length := by
  simpa using (fields_writeStruct fs [] rest hw).skipStruct

end PqModel.ThriftSkipWrite
