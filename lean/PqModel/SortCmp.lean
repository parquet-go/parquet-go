import PqModel.SortBuf
import PqModel.Compare

/-! # C10 model — the order interfaces of the sort theorems (`VOrd`, `CmpOk`), `Buffer` (columns swapped in lock-step),
    the column-wise `Less` chain and the row comparator of `compare.go`. The descending wrapper as found
    (`reversedColumnBuffer` around a nullable column) is kept as `Col.lessF13`. -/
namespace PqModel.SortBuf

/-- the value order of the column type: `lt` is the base column buffer's `Less` on values, `cmp` is `Type.Compare`;
    both laws are proved of the mirrors for every leaf type, NaN included (`Props.C10.typeOrd`). -/
structure VOrd (V : Type) where
  lt : V → V → Bool
  cmp : V → V → Int
  lt_iff : ∀ a b, lt a b = true ↔ cmp a b < 0
  anti : ∀ a b, cmp b a = - cmp a b

/-- transitivity of the value order (needed only to pass from adjacent to pairwise order) -/
def VOrd.Trans {V : Type} (o : VOrd V) : Prop := ∀ a b c, o.cmp a b ≤ 0 → o.cmp b c ≤ 0 → o.cmp a c ≤ 0

structure CmpOk {α : Type} (c : α → α → Int) : Prop where
  anti : ∀ a b, c b a = - c a b
  trans : ∀ a b d, c a b ≤ 0 → c b d ≤ 0 → c a d ≤ 0

theorem VOrd.cmpOk {V : Type} (o : VOrd V) (ht : o.Trans) : CmpOk o.cmp := ⟨o.anti, ht⟩

inductive Col (V : Type) where
  | req (vals : List V)            -- required leaf: a plain typed column buffer
  | opt (m : Nat) (c : OptCol V)   -- optional leaf (max definition level `m`)

/-- `ColumnBuffer.Swap` -/
def Col.swap {V : Type} : Col V → Nat → Nat → Col V
  | .req vals, i, j => .req (swapL vals i j)
  | .opt m c, i, j => .opt m (c.swap i j)

def Col.view {V : Type} : Col V → List (Cell V)
  | .req vals => vals.map (fun v => (0, some v))
  | .opt _ c => c.view

def Col.CInv {V : Type} : Col V → Prop
  | .req _ => True
  | .opt m c => c.Inv m

def Col.val {V : Type} (c : Col V) (k : Nat) : Option V := (c.view[k]?).bind (·.2)

theorem Col.view_swap {V : Type} {c : Col V} (h : c.CInv) (i j : Nat) : (c.swap i j).view = swapL c.view i j := by
  cases c with
  | req vals => simp only [Col.swap, Col.view]; rw [map_swapL]
  | opt m c => exact OptCol.view_swap h i j

theorem Col.CInv.swap {V : Type} {c : Col V} (h : c.CInv) (i j : Nat) : (c.swap i j).CInv := by
  cases c with
  | req vals => trivial
  | opt m c => exact OptCol.Inv.swap h i j

/-- MIRROR `column_buffer.go:115-121` `nullsGoFirst` (`less i j` = `column.Less(i, j)`) -/
def nullsGoFirst (less : Int → Int → Bool) (m d1 d2 : Nat) (i j : Int) : Bool :=
  if d1 ≠ m then d2 == m else (d2 == m && less i j)

/-- MIRROR `column_buffer.go:123-125` `nullsGoLast` -/
def nullsGoLast (less : Int → Int → Bool) (m d1 d2 : Nat) (i j : Int) : Bool :=
  d1 == m && (d2 != m || less i j)

/-- `column.Less(i, j)` of the base column on two base indexes (Go panics out of range) -/
def baseLess {V : Type} (lt : V → V → Bool) (base : List V) (i j : Int) : Bool :=
  match base[i.toNat]?, base[j.toNat]? with
  | some a, some b => lt a b
  | _, _ => false

/-- MIRROR of `optionalColumnBuffer.Less` (`column_buffer_optional.go:144-155`) with the null
    ordering chosen by `Buffer.configure` (`buffer.go:243-280`): nulls first/last as the
    sorting column declares; for a descending column the *values* are compared the other way round
    (`nullsGoFirstDescending/nullsGoLastDescending` call `column.Less(j, i)`); a required column is
    wrapped in `reversedColumnBuffer` (`column_buffer.go:148-150`). -/
def Col.less {V : Type} (lt : V → V → Bool) (desc nullsFirst : Bool) : Col V → Nat → Nat → Bool
  | .req vals, i, j =>
    match vals[i]?, vals[j]? with
    | some a, some b => if desc then lt b a else lt a b
    | _, _ => false
  | .opt m c, i, j =>
    match c.rows[i]?, c.rows[j]?, c.defs[i]?, c.defs[j]? with
    | some ri, some rj, some di, some dj =>
      let less := fun x y => if desc then baseLess lt c.base y x else baseLess lt c.base x y
      if nullsFirst then nullsGoFirst less m di dj ri rj else nullsGoLast less m di dj ri rj
    | _, _, _, _ => false

/-- MIRROR as found (F13): `reversedColumnBuffer{column}.Less(i, j) = column.Less(j, i)` around the
    whole optional column, null ordering included. -/
def Col.lessF13 {V : Type} (lt : V → V → Bool) (desc nullsFirst : Bool) (c : Col V) (i j : Nat) : Bool :=
  if desc then Col.less lt false nullsFirst c j i else Col.less lt false nullsFirst c i j

structure SortCol where
  col : Nat
  desc : Bool
  nullsFirst : Bool
deriving DecidableEq, Repr

structure Buffer (V : Type) where
  cols : List (Col V)
  sorting : List SortCol

/-- MIRROR `buffer.go:357-368` `Buffer.Less`: the first sorting column that orders the two rows decides -/
def lessChain {V : Type} (cl : SortCol → Col V → Nat → Nat → Bool) (cols : List (Col V)) : List SortCol → Nat → Nat → Bool
  | [], _, _ => false
  | sc :: rest, i, j =>
    match cols[sc.col]? with
    | none => lessChain cl cols rest i j
    | some c => if cl sc c i j then true else if cl sc c j i then false else lessChain cl cols rest i j

def Buffer.less {V : Type} (lt : V → V → Bool) (b : Buffer V) (i j : Nat) : Bool :=
  lessChain (fun sc c => Col.less lt sc.desc sc.nullsFirst c) b.cols b.sorting i j

def Buffer.lessF13 {V : Type} (lt : V → V → Bool) (b : Buffer V) (i j : Nat) : Bool :=
  lessChain (fun sc c => Col.lessF13 lt sc.desc sc.nullsFirst c) b.cols b.sorting i j

/-- MIRROR `buffer.go:370-374` `Buffer.Swap`: every column swaps rows i and j -/
def Buffer.swap {V : Type} (b : Buffer V) (i j : Nat) : Buffer V :=
  { b with cols := b.cols.map (fun c => c.swap i j) }

def Buffer.row {V : Type} (b : Buffer V) (k : Nat) : Nat → Option V :=
  fun col => (b.cols[col]?).bind (fun c => c.val k)

/-- row `k` across all columns, with definition levels (`none` beyond the end) -/
def Buffer.fullRow {V : Type} (b : Buffer V) (k : Nat) : List (Option (Cell V)) :=
  b.cols.map (fun c => c.view[k]?)

def Buffer.rows {V : Type} (b : Buffer V) (n : Nat) : List (List (Option (Cell V))) :=
  (List.range n).map b.fullRow

def Buffer.BInv {V : Type} (b : Buffer V) (n : Nat) : Prop :=
  ∀ c ∈ b.cols, c.CInv ∧ c.view.length = n

/-- a history of `Swap` calls (the `Less` calls of `sort.Sort` do not change the state) -/
def Buffer.run {V : Type} (b : Buffer V) (ops : List (Nat × Nat)) : Buffer V :=
  ops.foldl (fun b p => b.swap p.1 p.2) b

/-- MIRROR `compare.go:15-17` `CompareDescending` -/
def cmpDesc {V : Type} (cmp : V → V → Int) : V → V → Int := fun a b => - cmp a b

/-- MIRROR `compare.go:23-38` `CompareNullsFirst` -/
def cmpNullsFirst {V : Type} (cmp : V → V → Int) : Option V → Option V → Int
  | none, none => 0
  | none, some _ => -1
  | some _, none => 1
  | some a, some b => cmp a b

/-- MIRROR `compare.go:43-57` `CompareNullsLast` -/
def cmpNullsLast {V : Type} (cmp : V → V → Int) : Option V → Option V → Int
  | none, none => 0
  | none, some _ => 1
  | some _, none => -1
  | some a, some b => cmp a b

/-- MIRROR `compare.go:430-442`: `Type.Compare`, wrapped by `CompareDescending` if the sorting column
    is descending, then by `CompareNullsFirst/Last`. (For a required column the library omits the
    null wrapper; its values are never null, so the wrapper is the identity there.) -/
def cmpCell {V : Type} (cmp : V → V → Int) (sc : SortCol) : Option V → Option V → Int :=
  let c := if sc.desc then cmpDesc cmp else cmp
  if sc.nullsFirst then cmpNullsFirst c else cmpNullsLast c

/-- MIRROR `compare.go:478-499` for non-repeated columns (one value per row and column): the first
    sorting column whose comparison is non-zero decides -/
def cmpRows {V : Type} (cmp : V → V → Int) : List SortCol → (Nat → Option V) → (Nat → Option V) → Int
  | [], _, _ => 0
  | sc :: rest, r1, r2 =>
    let c := cmpCell cmp sc (r1 sc.col) (r2 sc.col)
    if c ≠ 0 then c else cmpRows cmp rest r1 r2

theorem lex_anti {c12 c21 r12 r21 : Int} (a : c21 = -c12) (ih : r21 = -r12) :
    (if c21 ≠ 0 then c21 else r21) = - (if c12 ≠ 0 then c12 else r12) := by
  by_cases e : c12 = 0
  · rw [if_neg (by omega), if_neg (by omega)]; exact ih
  · rw [if_pos (by omega), if_pos e]; exact a

theorem lex_lt_iff {l12 l21 rest : Bool} {c r : Int} (h1 : l12 = true ↔ c < 0) (h2 : l21 = true ↔ -c < 0)
    (ih : rest = true ↔ r < 0) :
    (if l12 then true else if l21 then false else rest) = true ↔ (if c ≠ 0 then c else r) < 0 := by
  by_cases e1 : l12 = true
  · have : c < 0 := h1.mp e1
    rw [if_pos e1, if_pos (by omega)]
    exact ⟨fun _ => this, fun _ => rfl⟩
  · rw [if_neg e1]
    by_cases e2 : l21 = true
    · have : 0 < c := by have := h2.mp e2; omega
      rw [if_pos e2, if_pos (by omega)]
      exact ⟨fun h => absurd h (by decide), fun h => by omega⟩
    · have : c = 0 := by
        have := mt h1.mpr e1
        have := mt h2.mpr e2
        omega
      rw [if_neg e2, if_neg (by omega)]
      exact ih

theorem cmpOk_iff {α : Type} (c : α → α → Int) : CmpOk c ↔ (∀ a b, c b a = - c a b) ∧ Compare.Lawful c :=
  ⟨fun h => ⟨h.anti, fun a => by have := h.anti a a; omega, fun a b => by have := h.anti a b; omega, h.trans⟩,
    fun h => ⟨h.1, h.2.trans⟩⟩

theorem CmpOk.lawful {α : Type} {c : α → α → Int} (h : CmpOk c) : Compare.Lawful c := ((cmpOk_iff c).mp h).2

theorem CmpOk.lex_trans {α : Type} {c : α → α → Int} (hc : CmpOk c) (a b d : α) {r12 r23 r13 : Int}
    (ih : r12 ≤ 0 → r23 ≤ 0 → r13 ≤ 0) :
    (if c a b ≠ 0 then c a b else r12) ≤ 0 → (if c b d ≠ 0 then c b d else r23) ≤ 0 →
      (if c a d ≠ 0 then c a d else r13) ≤ 0 :=
  Compare.lex_trans hc.lawful a b d ih

theorem cmpDesc_anti {V : Type} {c : V → V → Int} (h : ∀ a b, c b a = - c a b) (a b : V) :
    cmpDesc c b a = - cmpDesc c a b := by
  simp only [cmpDesc, h a b]

theorem cmpNullsFirst_anti {V : Type} {c : V → V → Int} (h : ∀ a b, c b a = - c a b) :
    ∀ x y, cmpNullsFirst c y x = - cmpNullsFirst c x y
  | none, none => rfl
  | none, some _ => rfl
  | some _, none => rfl
  | some a, some b => h a b

theorem cmpNullsLast_eq {V : Type} (c : V → V → Int) : cmpNullsLast c = cmpDesc (cmpNullsFirst (cmpDesc c)) := by
  funext x y
  cases x <;> cases y <;> simp [cmpNullsLast, cmpNullsFirst, cmpDesc]

theorem cmpNullsLast_anti {V : Type} {c : V → V → Int} (h : ∀ a b, c b a = - c a b) (x y : Option V) :
    cmpNullsLast c y x = - cmpNullsLast c x y := by
  rw [cmpNullsLast_eq]
  exact cmpDesc_anti (cmpNullsFirst_anti (cmpDesc_anti h)) x y

theorem cmpNullsFirst_eq_compare {V : Type} (c : V → V → Int) : cmpNullsFirst c = Compare.nullsFirst c := by
  funext x y; cases x <;> cases y <;> rfl

theorem cmpNullsLast_eq_compare {V : Type} (c : V → V → Int) : cmpNullsLast c = Compare.nullsLast c := by
  funext x y; cases x <;> cases y <;> rfl

theorem CmpOk.desc {V : Type} {c : V → V → Int} (h : CmpOk c) : CmpOk (cmpDesc c) :=
  ⟨cmpDesc_anti h.anti, (Compare.descending_lawful h.lawful).trans⟩

theorem CmpOk.nullsFirst {V : Type} {c : V → V → Int} (h : CmpOk c) : CmpOk (cmpNullsFirst c) :=
  ⟨cmpNullsFirst_anti h.anti, cmpNullsFirst_eq_compare c ▸ (Compare.nullsFirst_lawful h.lawful).trans⟩

theorem CmpOk.nullsLast {V : Type} {c : V → V → Int} (h : CmpOk c) : CmpOk (cmpNullsLast c) :=
  cmpNullsLast_eq c ▸ h.desc.nullsFirst.desc

theorem cmpCell_eq {V : Type} (cmp : V → V → Int) (sc : SortCol) :
    cmpCell cmp sc = if sc.nullsFirst then cmpNullsFirst (if sc.desc then cmpDesc cmp else cmp)
      else cmpNullsLast (if sc.desc then cmpDesc cmp else cmp) := rfl

/-- needs no transitivity: holds of FLOAT / DOUBLE with NaN too -/
theorem cmpCell_anti {V : Type} {cmp : V → V → Int} (h : ∀ a b, cmp b a = - cmp a b) (sc : SortCol) (x y : Option V) :
    cmpCell cmp sc y x = - cmpCell cmp sc x y := by
  have hc : ∀ a b, (if sc.desc then cmpDesc cmp else cmp) b a = - (if sc.desc then cmpDesc cmp else cmp) a b := by
    split
    · exact cmpDesc_anti h
    · exact h
  rw [cmpCell_eq]
  split
  · exact cmpNullsFirst_anti hc x y
  · exact cmpNullsLast_anti hc x y

theorem CmpOk.cell {V : Type} {cmp : V → V → Int} (h : CmpOk cmp) (sc : SortCol) : CmpOk (cmpCell cmp sc) := by
  have hc : CmpOk (if sc.desc then cmpDesc cmp else cmp) := by
    split
    · exact h.desc
    · exact h
  rw [cmpCell_eq]
  split
  · exact hc.nullsFirst
  · exact hc.nullsLast

theorem cmpRows_anti {V : Type} {cmp : V → V → Int} (h : ∀ a b, cmp b a = - cmp a b) :
    ∀ (s : List SortCol) (r1 r2 : Nat → Option V), cmpRows cmp s r2 r1 = - cmpRows cmp s r1 r2
  | [], _, _ => rfl
  | sc :: rest, r1, r2 => lex_anti (cmpCell_anti h sc (r1 sc.col) (r2 sc.col)) (cmpRows_anti h rest r1 r2)

theorem cmpRows_ok {V : Type} {cmp : V → V → Int} (h : CmpOk cmp) : ∀ (s : List SortCol), CmpOk (cmpRows cmp s)
  | [] => ⟨fun _ _ => rfl, fun _ _ _ _ _ => Int.le_refl 0⟩
  | sc :: rest =>
    ⟨cmpRows_anti h.anti (sc :: rest), fun r1 r2 r3 =>
      (h.cell sc).lex_trans (r1 sc.col) (r2 sc.col) (r3 sc.col) ((cmpRows_ok h rest).trans r1 r2 r3)⟩

theorem VOrd.less_iff {V : Type} (o : VOrd V) (desc : Bool) (a b : V) :
    (if desc then o.lt b a else o.lt a b) = true ↔ (if desc then cmpDesc o.cmp else o.cmp) a b < 0 := by
  cases desc
  · exact o.lt_iff a b
  · simp only [if_true, cmpDesc]
    rw [o.lt_iff b a, o.anti a b]

theorem nullsGoFirst_iff {V : Type} {less : Int → Int → Bool} {c : V → V → Int} {m d1 d2 : Nat} {i j : Int}
    {v1 v2 : Option V} (h1 : d1 = m ↔ v1.isSome) (h2 : d2 = m ↔ v2.isSome)
    (hl : ∀ a b, v1 = some a → v2 = some b → (less i j = true ↔ c a b < 0)) :
    nullsGoFirst less m d1 d2 i j = true ↔ cmpNullsFirst c v1 v2 < 0 := by
  cases v1 <;> cases v2
  · simp [nullsGoFirst, cmpNullsFirst, h1, h2]
  · simp [nullsGoFirst, cmpNullsFirst, h1, h2]
  · simp [nullsGoFirst, cmpNullsFirst, h1, h2]
  · simpa [nullsGoFirst, cmpNullsFirst, h1, h2] using hl _ _ rfl rfl

theorem nullsGoLast_iff {V : Type} {less : Int → Int → Bool} {c : V → V → Int} {m d1 d2 : Nat} {i j : Int}
    {v1 v2 : Option V} (h1 : d1 = m ↔ v1.isSome) (h2 : d2 = m ↔ v2.isSome)
    (hl : ∀ a b, v1 = some a → v2 = some b → (less i j = true ↔ c a b < 0)) :
    nullsGoLast less m d1 d2 i j = true ↔ cmpNullsLast c v1 v2 < 0 := by
  cases v1 <;> cases v2
  · simp [nullsGoLast, cmpNullsLast, h1]
  · simp [nullsGoLast, cmpNullsLast, h1]
  · simp [nullsGoLast, cmpNullsLast, h1, h2]
  · simpa [nullsGoLast, cmpNullsLast, h1, h2] using hl _ _ rfl rfl

/-- one slot (`v1`, `v2` sit at the base indexes `i`, `j` when not null): optional columns have one slot per row,
    repeated ones are walked slot by slot -/
theorem nullsGo_agrees {V : Type} (o : VOrd V) (sc : SortCol) (base : List V) {m d1 d2 : Nat} {i j : Int}
    {v1 v2 : Option V} (h1 : d1 = m ↔ v1.isSome) (h2 : d2 = m ↔ v2.isSome)
    (b1 : d1 = m → base[i.toNat]? = v1) (b2 : d2 = m → base[j.toNat]? = v2) :
    (if sc.nullsFirst then
        nullsGoFirst (fun x y => if sc.desc then baseLess o.lt base y x else baseLess o.lt base x y) m d1 d2 i j
      else nullsGoLast (fun x y => if sc.desc then baseLess o.lt base y x else baseLess o.lt base x y) m d1 d2 i j)
      = true ↔ cmpCell o.cmp sc v1 v2 < 0 := by
  have hl : ∀ a b, v1 = some a → v2 = some b →
      ((if sc.desc then baseLess o.lt base j i else baseLess o.lt base i j) = true ↔
        (if sc.desc then cmpDesc o.cmp else o.cmp) a b < 0) := by
    intro a b e1 e2
    have ea := b1 (h1.mpr (by rw [e1]; rfl))
    have eb := b2 (h2.mpr (by rw [e2]; rfl))
    rw [e1] at ea; rw [e2] at eb
    simp only [baseLess, ea, eb]
    exact o.less_iff sc.desc a b
  rw [cmpCell_eq]
  split
  · exact nullsGoFirst_iff h1 h2 hl
  · exact nullsGoLast_iff h1 h2 hl

theorem OptCol.cell_cases {V : Type} {m : Nat} {c : OptCol V} (h : c.Inv m) {i : Nat} (hi : i < c.rows.length) :
    ∃ ri di, c.rows[i]? = some ri ∧ c.defs[i]? = some di ∧
      (di = m ↔ ((Col.opt m c).val i).isSome) ∧ (di = m → c.base[ri.toNat]? = (Col.opt m c).val i) := by
  have hd : i < c.defs.length := by rw [← h.len]; exact hi
  have hl := h.lvl_getElem hi
  have hz : (c.rows.zip c.defs)[i]? = some (c.rows[i], c.defs[i]) :=
    List.getElem?_zip_eq_some.mpr ⟨List.getElem?_eq_getElem hi, List.getElem?_eq_getElem hd⟩
  have hval : (Col.opt m c).val i = if 0 ≤ c.rows[i] then c.base[c.rows[i].toNat]? else none := by
    simp only [Col.val, Col.view, OptCol.view, List.getElem?_map, hz, Option.map_some, Option.bind_some, cellOf]
  refine ⟨c.rows[i], c.defs[i], List.getElem?_eq_getElem hi, List.getElem?_eq_getElem hd, ?_, ?_⟩
  · rw [hl, hval]
    by_cases h0 : 0 ≤ c.rows[i]
    · simp [h0, List.getElem?_eq_getElem (h.row_lt (List.getElem_mem hi) h0)]
    · simp [h0]
  · intro e
    rw [hval, if_pos (hl.mp e)]

theorem Col.less_agrees {V : Type} (o : VOrd V) {c : Col V} (h : c.CInv) (sc : SortCol) {i j : Nat}
    (hi : i < c.view.length) (hj : j < c.view.length) :
    Col.less o.lt sc.desc sc.nullsFirst c i j = true ↔ cmpCell o.cmp sc (c.val i) (c.val j) < 0 := by
  cases c with
  | req vals =>
    simp only [Col.view, List.length_map] at hi hj
    have vi : (Col.req vals).val i = some vals[i] := by simp [Col.val, Col.view, List.getElem?_eq_getElem hi]
    have vj : (Col.req vals).val j = some vals[j] := by simp [Col.val, Col.view, List.getElem?_eq_getElem hj]
    rw [vi, vj, cmpCell_eq]
    simp only [Col.less, List.getElem?_eq_getElem hi, List.getElem?_eq_getElem hj]
    cases sc.nullsFirst <;> exact o.less_iff sc.desc vals[i] vals[j]
  | opt m c =>
    have hinv : c.Inv m := h
    have hl : (Col.opt m c).view.length = c.rows.length := OptCol.length_view hinv
    rw [hl] at hi hj
    obtain ⟨ri, di, e1, e2, hi1, hi2⟩ := OptCol.cell_cases hinv hi
    obtain ⟨rj, dj, e3, e4, hj1, hj2⟩ := OptCol.cell_cases hinv hj
    simp only [Col.less, e1, e2, e3, e4]
    exact nullsGo_agrees o sc c.base hi1 hj1 hi2 hj2

theorem cmpCell_none {V : Type} (cmp : V → V → Int) (sc : SortCol) : cmpCell cmp sc none none = 0 := by
  rw [cmpCell_eq]
  split <;> rfl

/-- a sorting column that names no column of the buffer is skipped by both sides -/
theorem lessChain_agrees {V : Type} (o : VOrd V) (cols : List (Col V)) {n : Nat}
    (hinv : ∀ c ∈ cols, c.CInv ∧ c.view.length = n) {i j : Nat} (hi : i < n) (hj : j < n) :
    ∀ (s : List SortCol),
    (lessChain (fun sc c => Col.less o.lt sc.desc sc.nullsFirst c) cols s i j = true ↔
      cmpRows o.cmp s (fun col => (cols[col]?).bind (fun c => c.val i)) (fun col => (cols[col]?).bind (fun c => c.val j)) < 0)
  | [] => by simp [lessChain, cmpRows]
  | sc :: rest => by
    have ih := lessChain_agrees o cols hinv hi hj rest
    by_cases hc : sc.col < cols.length
    · obtain ⟨ci, cl⟩ := hinv _ (List.getElem_mem hc)
      have a1 := Col.less_agrees o ci sc (i := i) (j := j) (by omega) (by omega)
      have a2 := Col.less_agrees o ci sc (i := j) (j := i) (by omega) (by omega)
      rw [cmpCell_anti o.anti sc] at a2
      simp only [lessChain, cmpRows, List.getElem?_eq_getElem hc, Option.bind_some]
      exact lex_lt_iff a1 a2 ih
    · simp only [lessChain, cmpRows, List.getElem?_eq_none (Nat.le_of_not_lt hc), Option.bind_none, cmpCell_none,
        ne_eq, not_true_eq_false, if_false]
      exact ih


theorem Buffer.BInv.swap {V : Type} {b : Buffer V} {n : Nat} (h : b.BInv n) (i j : Nat) : (b.swap i j).BInv n := by
  intro c hc
  simp only [Buffer.swap, List.mem_map] at hc
  obtain ⟨c0, hc0, rfl⟩ := hc
  obtain ⟨h1, h2⟩ := h c0 hc0
  exact ⟨h1.swap i j, by rw [Col.view_swap h1, length_swapL, h2]⟩

theorem Buffer.run_inv {V : Type} {P : Buffer V → Prop} (h : ∀ b i j, P b → P (b.swap i j)) (ops : List (Nat × Nat))
    {b : Buffer V} (h0 : P b) : P (b.run ops) :=
  List.foldlRecOn ops _ h0 fun b hb p _ => h b p.1 p.2 hb

theorem Buffer.BInv.run {V : Type} {n : Nat} : ∀ (ops : List (Nat × Nat)) {b : Buffer V}, b.BInv n → (b.run ops).BInv n :=
  fun ops _ => Buffer.run_inv (P := fun b' : Buffer V => b'.BInv n) (fun _ i j hb => hb.swap i j) ops

theorem Buffer.run_sorting {V : Type} (ops : List (Nat × Nat)) (b : Buffer V) : (b.run ops).sorting = b.sorting :=
  Buffer.run_inv (P := fun b' : Buffer V => b'.sorting = b.sorting) (fun _ _ _ hb => hb) ops rfl

theorem Buffer.run_cols_length {V : Type} (ops : List (Nat × Nat)) (b : Buffer V) : (b.run ops).cols.length = b.cols.length :=
  Buffer.run_inv (P := fun b' : Buffer V => b'.cols.length = b.cols.length)
    (fun _ _ _ hb => by rw [← hb]; exact List.length_map _) ops rfl

theorem Buffer.fullRow_swap_total {V : Type} {b : Buffer V} {n : Nat} (h : b.BInv n) (i j k : Nat) :
    (b.swap i j).fullRow k = b.fullRow (if i < n ∧ j < n then tr i j k else k) := by
  simp only [Buffer.fullRow, Buffer.swap, List.map_map]
  apply List.map_congr_left
  intro c hc
  obtain ⟨h1, h2⟩ := h c hc
  simp only [Function.comp]
  rw [Col.view_swap h1, getElem?_swapL_total, h2]

theorem Buffer.fullRow_swap {V : Type} {b : Buffer V} {n : Nat} (h : b.BInv n) {i j : Nat} (hi : i < n) (hj : j < n) (k : Nat) :
    (b.swap i j).fullRow k = b.fullRow (tr i j k) := by
  rw [Buffer.fullRow_swap_total h, if_pos ⟨hi, hj⟩]

theorem Buffer.rows_swap {V : Type} {b : Buffer V} {n : Nat} (h : b.BInv n) (i j : Nat) :
    (b.swap i j).rows n = swapL (b.rows n) i j := by
  apply List.ext_getElem?
  intro k
  rw [getElem?_swapL_total]
  simp only [Buffer.rows, List.getElem?_map, List.length_map, List.length_range]
  have ht : (if i < n ∧ j < n then tr i j k else k) < n ↔ k < n := by
    split
    · next hr => exact ⟨fun h => tr_tr i j k ▸ tr_lt hr.1 hr.2 h, tr_lt hr.1 hr.2⟩
    · exact Iff.rfl
  by_cases hk : k < n
  · rw [List.getElem?_range hk, List.getElem?_range (ht.mpr hk), Option.map_some, Option.map_some,
      Buffer.fullRow_swap_total h]
  · rw [List.getElem?_eq_none (by simpa using hk), List.getElem?_eq_none (by simpa using mt ht.mp hk)]; rfl

theorem Buffer.rows_run_perm {V : Type} {n : Nat} (ops : List (Nat × Nat)) {b : Buffer V} (h : b.BInv n) :
    ((b.run ops).rows n).Perm (b.rows n) :=
  (Buffer.run_inv (P := fun b' : Buffer V => b'.BInv n ∧ (b'.rows n).Perm (b.rows n))
    (fun _ i j hb => ⟨hb.1.swap i j, by rw [Buffer.rows_swap hb.1]; exact (swapL_perm _ _ _).trans hb.2⟩) ops
    ⟨h, List.Perm.refl _⟩).2

theorem Buffer.less_agrees {V : Type} (o : VOrd V) {b : Buffer V} {n : Nat} (h : b.BInv n)
    (hs : ∀ sc ∈ b.sorting, sc.col < b.cols.length) {i j : Nat} (hi : i < n) (hj : j < n) :
    b.less o.lt i j = true ↔ cmpRows o.cmp b.sorting (b.row i) (b.row j) < 0 :=
  lessChain_agrees o b.cols h hi hj b.sorting

theorem sorted_of_adjacent {α : Type} (le : α → α → Prop) (htr : ∀ a b c, le a b → le b c → le a c)
    (n : Nat) (f : (k : Nat) → k < n → α) (hadj : ∀ i (h : i + 1 < n), le (f i (by omega)) (f (i + 1) h)) :
    ∀ i j (hij : i < j) (hj : j < n), le (f i (by omega)) (f j hj) := by
  intro i j hij hj
  induction j with
  | zero => omega
  | succ j ih =>
    by_cases e : i = j
    · subst e; exact hadj i hj
    · exact htr _ _ _ (ih (by omega) (by omega)) (hadj j hj)

end PqModel.SortBuf
