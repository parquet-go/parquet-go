import PqModel.RowsRefine
import PqModel.Basics

/-! Refinement `RowsBuf` → `RowsState`, part 3: the hypothesis `WfFile` of the refinement theorems is
    DECIDABLE: `wfFileB` is an executable checker (one pass over the values of every page), proved
    sound. The driver op `c13.rowsrefine` runs it on the model of every file the L2 sub-check
    C13/rowsbuf compares the real reader on, so the hypothesis is checked on the layouts the real
    writer produces (SPEC side, no Go counterpart). -/
namespace PqModel.RowsRefine
open PqModel.RowsBuf

/-- `started = false`: `vs` is the rows `a .. b-1`; `started = true`: `vs` is the rest of row `a`
    followed by the rows `a+1 .. b-1` -/
def chkGroups (b : Nat) : Nat → Bool → List Val → Bool
  | a, false, [] => a == b
  | a, true, [] => a + 1 == b
  | a, false, v :: vs => v.row == a && v.rep == 0 && chkGroups b a true vs
  | a, true, v :: vs =>
    if v.rep == 0 then v.row == a + 1 && chkGroups b (a + 1) true vs
    else v.row == a && chkGroups b a true vs

theorem chkGroups_started (b : Nat) (vs : List Val) (a : Nat) : chkGroups b a true vs = true →
    ∃ g rest, vs = g ++ rest ∧ (∀ w ∈ g, w.row = a ∧ w.rep ≠ 0) ∧ Groups (a + 1) b rest := by
  induction vs generalizing a with
  | nil =>
    intro h
    exact ⟨[], [], rfl, nofun, (beq_iff_eq.mp h) ▸ Groups.nil _⟩
  | cons v vs ih =>
    intro h
    simp only [chkGroups] at h
    split at h
    · rename_i hrep
      simp only [Bool.and_eq_true, beq_iff_eq] at h hrep
      obtain ⟨g, rest, rfl, hg, hr⟩ := ih (a + 1) h.2
      exact ⟨[], v :: (g ++ rest), rfl, nofun, Groups.cons h.1 hrep hg hr⟩
    · rename_i hrep
      simp only [Bool.and_eq_true, beq_iff_eq] at h hrep
      obtain ⟨g, rest, rfl, hg, hr⟩ := ih a h.2
      exact ⟨v :: g, rest, rfl, List.forall_mem_cons.mpr ⟨⟨h.1, hrep⟩, hg⟩, hr⟩

theorem chkGroups_sound (b a : Nat) (vs : List Val) (h : chkGroups b a false vs = true) : Groups a b vs := by
  cases vs with
  | nil =>
    simp only [chkGroups, beq_iff_eq] at h
    exact h ▸ Groups.nil _
  | cons v vs =>
    simp only [chkGroups, Bool.and_eq_true, beq_iff_eq] at h
    obtain ⟨g, rest, rfl, hg, hr⟩ := chkGroups_started b vs a h.2
    exact Groups.cons h.1.1 h.1.2 hg hr

def wfPagesB : Nat → List Page → Nat → Bool
  | f, [], total => f == total
  | f, p :: ps, total =>
    p.firstRow == f && decide (0 < p.numRows) && chkGroups (f + p.numRows) f false p.vals &&
      wfPagesB (f + p.numRows) ps total

theorem wfPagesB_sound : ∀ (ps : List Page) (f total : Nat), wfPagesB f ps total = true → WfPages f ps total
  | [], f, total, h => by simpa [wfPagesB, WfPages] using h
  | p :: ps, f, total, h => by
    simp only [wfPagesB, Bool.and_eq_true, beq_iff_eq, decide_eq_true_eq] at h
    exact ⟨h.1.1.1, h.1.1.2, chkGroups_sound _ _ _ h.1.2, wfPagesB_sound ps _ total h.2⟩

def wfFileB (file : List (List Page)) (total : Nat) : Bool := file.all fun pages => wfPagesB 0 pages total

theorem wfFileB_sound (file : List (List Page)) (total : Nat) (h : wfFileB file total = true) : WfFile file total := by
  intro pages hp
  simp only [wfFileB, List.all_eq_true] at h
  exact wfPagesB_sound pages 0 total (h pages hp)

def opOkB (total : Nat) : Op → Bool
  | .seek k => decide (k ≤ total)
  | _ => true

theorem opOkB_sound (total : Nat) (ops : List Op) (h : ops.all (opOkB total) = true) : ∀ op ∈ ops, OpOk total op := by
  intro op hop
  have := List.all_eq_true.mp h op hop
  cases op with
  | seek k => exact (of_decide_eq_true this : k ≤ total)
  | _ => trivial

/-- the conclusion of `rows_are_aligned_buf`, evaluated on a run: every `ReadRows` that returns rows
    returns `min n (total - rowIndex)` of them and row `i` holds values of row `rowIndex + i` only -/
def alignedRun (file : List (List Page)) (B total : Nat) : St → List Op → Bool
  | _, [] => true
  | st, op :: ops =>
    (match op, (step file B st op).2 with
     | .read n, .rows rs _ =>
       rs.length == min n (total - st.rowIndex.toNat) &&
       (List.range rs.length).all fun i => (rs.getD i []).all fun v => v.row == st.rowIndex.toNat + i
     | _, _ => true) && alignedRun file B total (step file B st op).1 ops

theorem alignedRun_of_rel (file : List (List Page)) (total B : Nat) (hw : WfFile file total) (hne : file ≠ [])
    (hB : 0 < B) : ∀ (ops : List Op) (st : St) (a : RowsState.St), Rel file total st a → RowsState.Aligned a →
      (∀ op ∈ ops, OpOk total op) → alignedRun file B total st ops = true
  | [], _, _, _, _, _ => rfl
  | op :: ops, st, a, hR, hA, ho => by
    obtain ⟨fails, h1, _⟩ := step_refines file total B hw hne hB st a hR hA op (ho op (by simp))
    have ih := alignedRun_of_rel file total B hw hne hB ops _ _ h1
      (RowsState.step_aligned fails total a (mapOp op) hA) (fun o h => ho o (by simp [h]))
    simp only [alignedRun, ih, Bool.and_true]
    split
    · rename_i n rs eof hop hout
      simp only [step] at hout
      obtain ⟨g1, g2⟩ := read_rows_aligned file total B hw hne hB st a hR hA n rs eof hout
      simp only [Bool.and_eq_true, beq_iff_eq, List.all_eq_true, List.mem_range]
      refine ⟨g1, fun i hi v hv => ?_⟩
      exact g2 i _ (ListFacts.getElem?_getD [] hi) v hv
    · rfl

theorem alignedRun_true (file : List (List Page)) (total B : Nat) (ops : List Op)
    (hw : wfFileB file total = true) (hne : file ≠ []) (hB : 0 < B) (ho : ops.all (opOkB total) = true) :
    alignedRun file B total (init file) ops = true :=
  alignedRun_of_rel file total B (wfFileB_sound file total hw) hne hB ops _ _
    (init_rel file total (wfFileB_sound file total hw)) (RowsState.init_aligned _) (opOkB_sound total ops ho)

end PqModel.RowsRefine
