import PqModel.FileCodecsTyped
import PqModel.PlainDict
import PqModel.DeltaGo
import PqModel.RleDecode

/-! # The Go DECODERS on the read path of the C01 file model

`FileCodecsTyped.lean` reads pages with the SPEC decoders. This file builds the same columns with
the MIRRORS of the Go decoders of C04 on the read side (the write side — MIRROR encoders, page
framing — is unchanged, field by field):

* values: `PlainDict.goDecFixed` (PLAIN INT32/INT64/INT96/FLOAT/DOUBLE), `PlainDict.goDecFLBA`,
  `Plain.goDecByteArray`, the PLAIN boolean page (`DecodeBoolean` is a copy, `newBooleanPage`
  slices `ByteCount(numValues)` bytes), `PlainDict.goBssDecFixed` / `goBssDecFLBA` (with the stale
  content of the recycled destination as a parameter), `Delta.goDecode32/64`,
  `Delta.goDecodeDLBA` (flat buffer + offsets, cut back into values by `sliceOffs`),
  `Delta.goDecodeDBA` (portable loop; FIXED_LEN_BYTE_ARRAY: the concatenation, re-cut into
  `n`-byte values), `Rle.goDecodeBoolean`;
* levels: `Rle.goDecodeLevels` (`decodeBytes`), the first `num_values` levels are kept;
* dictionary indexes: `Rle.goDecodeDict` + `PlainDict.goNewIndexedPage` with the stale content of
  the pooled index buffer as a parameter;
* dictionary page: the Go PLAIN decoder of the type.

Everything here is MIRROR glue (definitions only); `Props/C01Go.lean` proves the round-trip
hypotheses of the composition theorem for these columns from the C04 theorems about the Go
decoders. What is the model's and not Go's: the comparison of the number of decoded values with
the page header's value count (`exactly`) — parquet-go cuts the decoded buffer to the header's count
(`values[:numValues]` in the page constructors, up to the buffer's capacity) without comparing the
two; for the pages the writer produces the two agree. A Go panic and a Go error are both
`none` here. -/
namespace PqModel.FileModel
open PqModel PqModel.Bits

def goOk {α : Type} : Plain.GoRes α → Option α
  | .ok a => some a
  | _ => none

/-- what a page may hold: the page header's `num_values` is an `int32`, and the Go RLE / DELTA
    decoders refuse streams announcing more than `math.MaxInt32` values -/
def okCount (k : Nat) : Bool := decide (k < 2 ^ 31)

/-- the values of a FIXED_LEN_BYTE_ARRAY page: the `n`-byte chunks of the flat buffer
    (`fixedLenByteArrayPageValues.ReadValues`, page_fixed_len_byte_array.go: `data[offset : offset+size]`) as
    little-endian numerals -/
def flatValues (n : Nat) (flat : Plain.Bytes) : List Nat :=
  (Plain.chunks n (flat.length / n) flat).map Plain.leVal

/-- PLAIN INT32/INT64/INT96/FLOAT/DOUBLE read by `goDecFixed` -/
def goPlainFixed (k : Nat) : ValCodec :=
  { plainFixed k with dec := fun cnt bs => exactly cnt (goOk (PlainDict.goDecFixed k (toB bs))) }

/-- PLAIN FIXED_LEN_BYTE_ARRAY(n) read by `goDecFLBA` -/
def goPlainFLBA (n : Nat) : ValCodec :=
  { plainFixed n with
    dec := fun cnt bs => exactly cnt ((goOk (PlainDict.goDecFLBA n (toB bs))).map (flatValues n)) }

/-- BYTE_STREAM_SPLIT numeric types read by `goBssDecFixed` -/
def goBssFixed (k : Nat) : ValCodec :=
  { bssFixed k with dec := fun cnt bs => exactly cnt (goOk (PlainDict.goBssDecFixed k (toB bs))) }

/-- BYTE_STREAM_SPLIT FIXED_LEN_BYTE_ARRAY(n) read by `goBssDecFLBA` into a destination that held
    `stale` -/
def goBssFLBA (n : Nat) (stale : Plain.Bytes) : ValCodec :=
  { bssFixed n with
    dec := fun cnt bs => exactly cnt ((goOk (PlainDict.goBssDecFLBA n stale (toB bs))).map (flatValues n)) }

/-- DELTA_BINARY_PACKED INT32 read by `goDecode32` (`DecodeInt32` drops the unread rest) -/
def goDelta32 : ValCodec :=
  { delta32 with
    okP := fun xs => okCount xs.length
    dec := fun cnt bs =>
      match Delta.goDecode32 bs with
      | .ok (ys, _) => if ys.length = cnt then some (ys.map BitVec.toNat) else none
      | .error _ => none }

def goDelta64 : ValCodec :=
  { delta64 with
    okP := fun xs => okCount xs.length
    dec := fun cnt bs =>
      match Delta.goDecode64 bs with
      | .ok (ys, _) => if ys.length = cnt then some (ys.map BitVec.toNat) else none
      | .error _ => none }

/-- MIRROR of the boolean page over decoded bytes: `newBooleanPage` (page_boolean.go:19-26) keeps
    `values[:bitpack.ByteCount(numValues)]` (a slice-bounds panic when the buffer is shorter), value
    `i` is bit `i % 8` of byte `i / 8` -/
def goBoolPage (cnt : Nat) (bytes : Plain.Bytes) : Option (List Nat) :=
  if bytes.length < (cnt + 7) / 8 then none
  else some ((List.range cnt).map fun i => Rle.b2n (Plain.bitAt (bytes.take ((cnt + 7) / 8)) i))

/-- PLAIN BOOLEAN: `plain.DecodeBoolean` (plain.go:65-67) is `append(dst[:0], src...)` -/
def goPlainBool : ValCodec :=
  { plainBool with dec := fun cnt bs => goBoolPage cnt (toB bs) }

/-- `goBoolPage` over bytes given as naturals (the output of the RLE mirror): bit `i % 8` of byte
    `i / 8` is entry `i` of `bytesToBits` (LSB first) -/
def goBoolPageN (cnt : Nat) (bytes : List Nat) : Option (List Nat) :=
  if bytes.length < (cnt + 7) / 8 then none
  else some (((bytesToBits (bytes.take ((cnt + 7) / 8))).map Rle.b2n).take cnt)

/-- RLE BOOLEAN read by `Rle.goDecodeBoolean` (bytes, 8 values each), then the boolean page.
    Admissible pages: the body fits the `uint32` prefix and the bit count fits `MaxInt32`. -/
def goRleBool : ValCodec :=
  { rleBool with
    okP := fun xs => rleBool.okP xs && decide (8 * (boolPack xs).length ≤ 2 ^ 31 - 1)
    dec := fun cnt bs =>
      match Rle.goDecodeBoolean bs with
      | .ok bytes => goBoolPageN cnt bytes
      | .error _ => none }

/-- PLAIN BYTE_ARRAY read by `goDecByteArray` -/
def goPlainBA : ValCodec :=
  { plainBA with
    dec := fun cnt bs =>
      exactly cnt ((goOk (Plain.goDecByteArray (toB bs))).map (·.map fun v => natOfBytes (toN v))) }

/-- the values of a byte array page: `flat[offs[i] : offs[i+1]]` (`byteArrayPage.index`) -/
def sliceFrom (flat : List Nat) : Nat → List Nat → List (List Nat)
  | _, [] => []
  | o, o' :: rest => (flat.drop o).take (o' - o) :: sliceFrom flat o' rest

def sliceOffs (flat : List Nat) : List Nat → List (List Nat)
  | [] => []
  | o :: rest => sliceFrom flat o rest

/-- DELTA_LENGTH_BYTE_ARRAY read by `goDecodeDLBA`. Admissible pages: fewer than 2^31 values, less
    than 4 GiB of value bytes (Go's offsets are `uint32`). -/
def goDlba : ValCodec :=
  { dlba with
    okP := fun xs => okCount xs.length && decide ((xs.map bytesOfNat).flatten.length < 2 ^ 32)
    dec := fun cnt bs =>
      match Delta.goDecodeDLBA bs with
      | .ok (flat, offs) =>
        if (sliceOffs flat offs).length = cnt then some ((sliceOffs flat offs).map natOfBytes) else none
      | .error _ => none }

/-- DELTA_BYTE_ARRAY read by the portable `goDecodeDBA` (the assembly build's wrapper returns the
    same values on streams that end with their suffix bytes: C04 `conformant_dba_go_amd64`) -/
def goDba : ValCodec :=
  { dba with
    okP := fun xs => okCount xs.length
    dec := fun cnt bs =>
      match Delta.goDecodeDBA bs with
      | .ok vs => if vs.length = cnt then some (vs.map natOfBytes) else none
      | .error _ => none }

/-- DELTA_BYTE_ARRAY of FIXED_LEN_BYTE_ARRAY(n): `DecodeFixedLenByteArray` runs the same loop and
    returns the concatenation, which the page cuts into `n`-byte values -/
def goDbaFixed (n : Nat) : ValCodec :=
  { dbaFixed n with
    okP := fun xs => okCount xs.length
    dec := fun cnt bs =>
      match Delta.goDecodeDBA bs with
      | .ok vs =>
        let ws := Delta.chunksOf n vs.flatten.length vs.flatten
        if ws.length = cnt ∧ vs.flatten.length % n = 0 then some (ws.map Rle.leNat) else none
      | .error _ => none }

/-- PLAIN of every type with the Go decoder: also its dictionary page -/
def goPlainOf : PType → ValCodec
  | .boolean => goPlainBool
  | .int32 => goPlainFixed 4
  | .int64 => goPlainFixed 8
  | .int96 => goPlainFixed 12
  | .float => goPlainFixed 4
  | .double => goPlainFixed 8
  | .byteArray => goPlainBA
  | .flba n => goPlainFLBA n

/-- the table of `valCodecOf` with the Go decoders; `stale` = former content of the destination
    the BYTE_STREAM_SPLIT FIXED_LEN_BYTE_ARRAY decoder writes into by index -/
def goValCodecOf (stale : Plain.Bytes) : PType → VEnc → Option ValCodec
  | t, .plain => some (goPlainOf t)
  | .boolean, .rle => some goRleBool
  | .int32, .deltaBinaryPacked => some goDelta32
  | .int64, .deltaBinaryPacked => some goDelta64
  | .int32, .byteStreamSplit => some (goBssFixed 4)
  | .int64, .byteStreamSplit => some (goBssFixed 8)
  | .float, .byteStreamSplit => some (goBssFixed 4)
  | .double, .byteStreamSplit => some (goBssFixed 8)
  | .flba n, .byteStreamSplit => some (goBssFLBA n stale)
  | .byteArray, .deltaLengthByteArray => some goDlba
  | .byteArray, .deltaByteArray => some goDba
  | .flba n, .deltaByteArray => some (goDbaFixed n)
  | _, _ => none

def ColSpec.goVal (c : ColSpec) (stale : Plain.Bytes) : ValCodec :=
  (goValCodecOf stale c.t c.e).getD (goPlainOf c.t)

/-! ## levels and dictionary indexes -/

/-- MIRROR of the level read path: `decodeBytes` at width `bits.Len(m)` returns every value of
    every run (the padding of a last bit-packed group included); `decodeLevels` (column.go:938-955):
    fewer than `num_values` levels is an error ("decoding level expected %d values but got only
    %d"), more are cut off (`Resize(numValues)`). Nothing is stored at maximum level 0. -/
def goLvDec (m cnt : Nat) (bs : List Nat) : Option (List Nat) :=
  if m = 0 then some (List.replicate cnt 0)
  else
    match Rle.goDecodeLevels (Rle.maxLen [m]) bs with
    | .ok ys => if ys.length < cnt then none else some (ys.take cnt)
    | .error _ => none

/-- MIRROR of the index read path: `RLEDictionary.DecodeInt32` into the pooled buffer, then
    `newIndexedPage` with the page's value count -/
def goIdxDec (stale : List Nat) (cnt : Nat) (bs : List Nat) : Option (List Nat) :=
  match Rle.goDecodeDict bs with
  | .ok ys => some (PlainDict.goNewIndexedPage ys stale cnt)
  | .error _ => none

/-- `mkCodec` with the Go decoders on the read side; the write side is `mkCodec`'s -/
def mkCodecGo (v d : ValCodec) (staleIdx : List Nat) (v1 : Bool) (lv : Nat × Nat) (comp : List Nat → List Nat)
    (decomp : List Nat → Option (List Nat)) : ColCodec (List Nat) (Page (List Nat)) :=
  { mkCodec v d v1 lv comp decomp with
    decL := goLvDec
    decI := goIdxDec staleIdx }

/-- column `j` of schema `n` with spec `cols j`, read by the Go decoders -/
def typedCodecGo (n : Dremel.Node) (cols : Nat → ColSpec) (stale : Plain.Bytes) (staleIdx : List Nat) (v1 : Bool)
    (comp : List Nat → List Nat) (decomp : List Nat → Option (List Nat)) (j : Nat) :
    ColCodec (List Nat) (Page (List Nat)) :=
  mkCodecGo ((cols j).goVal stale) (goPlainOf (cols j).t) staleIdx v1 ((levelsN n 0 0).getD j (0, 0)) comp decomp

end PqModel.FileModel
