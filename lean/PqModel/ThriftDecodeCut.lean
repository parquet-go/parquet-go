import PqModel.ThriftDecodeProofs

/-! Lemmas: the typed decoder mirror on a cut input `d.take m` against its run on `d` (the analogue of
    `ThriftSkip.Rel` / `skipT_rel`): up to the cut the two runs agree, at the cut the cut run fails with
    io.EOF or io.ErrUnexpectedEOF, never with MissingField or a range error. -/
namespace PqModel.ThriftDecode
open PqModel.IoFault (Bytes)
open PqModel.ThriftSkip

def RelT (pos m : Nat) (r r' : TR) : Prop :=
  ∀ q, r = .ok q →
    pos ≤ q ∧ (pos ≤ m → (q ≤ m → r' = .ok q) ∧
      (m < q → ∃ e, r' = .error (.sk e) ∧ (e = .eof ∨ e = .ueof)))

theorem RelT.ok {pos m : Nat} : RelT pos m (.ok pos) (.ok pos) := by
  intro q e
  cases e
  exact ⟨Nat.le_refl _, fun _ => ⟨fun _ => rfl, fun h' => by omega⟩⟩

theorem RelT.error (pos m : Nat) (e : TErr) (r' : TR) : RelT pos m (.error e) r' := by
  intro q h; cases h

theorem lift_rel {α} {pos m : Nat} {r r' : PR α} (fe : SkErr → SkErr) [hfe : EofPres fe] {k k' : α → Nat → TR}
    (hr : Rel pos m r r') (hk : ∀ a p, pos ≤ p → RelT p m (k a p) (k' a p)) :
    RelT pos m (lift r fe k) (lift r' fe k') := by
  intro q h
  cases r with
  | error e => simp [lift] at h
  | ok ap =>
    obtain ⟨a, p⟩ := ap
    simp only [lift] at h
    obtain ⟨h1, h2⟩ := hr a p rfl
    have hpq := (hk a p h1 q h).1
    refine ⟨by omega, fun hpm => ?_⟩
    obtain ⟨h3, h4⟩ := h2 hpm
    by_cases hp : p ≤ m
    · rw [h3 hp]
      simp only [lift]
      exact (hk a p h1 q h).2 hp
    · obtain ⟨e, he, hc⟩ := h4 (by omega)
      rw [he]
      exact ⟨fun _ => by omega, fun _ => ⟨_, rfl, hfe.pres e hc⟩⟩

theorem seqT_rel {pos m : Nat} {r r' : TR} (fe : SkErr → SkErr) [hfe : EofPres fe] {k k' : Nat → TR}
    (hr : RelT pos m r r') (hk : ∀ p, pos ≤ p → RelT p m (k p) (k' p)) :
    RelT pos m (seqT r fe k) (seqT r' fe k') := by
  intro q h
  cases r with
  | error e => simp [seqT] at h
  | ok p =>
    simp only [seqT] at h
    obtain ⟨h1, h2⟩ := hr p rfl
    have hpq := (hk p h1 q h).1
    refine ⟨by omega, fun hpm => ?_⟩
    obtain ⟨h3, h4⟩ := h2 hpm
    by_cases hp : p ≤ m
    · rw [h3 hp]
      simp only [seqT]
      exact (hk p h1 q h).2 hp
    · obtain ⟨e, he, hc⟩ := h4 (by omega)
      rw [he]
      exact ⟨fun _ => by omega, fun _ => ⟨_, rfl, hfe.pres e hc⟩⟩

theorem readBinary_rel (d : Bytes) (pos m : Nat) : Rel pos m (readBinary d pos) (readBinary (d.take m) pos) := by
  unfold readBinary
  refine seq_rel _ (readUvarint_rel _ d pos m) fun n p _ => ?_
  intro u q h
  rw [List.length_take]
  split at h
  · cases h
  · cases h
    refine ⟨by omega, fun _ => ⟨fun h' => ?_, fun h' => ?_⟩⟩
    · rw [if_neg (by omega)]
    · rw [if_pos (by omega)]; exact ⟨_, rfl, Or.inr rfl⟩

theorem readFieldT_rel (d : Bytes) (pos m : Nat) : Rel pos m (readFieldT d pos) (readFieldT (d.take m) pos) := by
  unfold readFieldT
  refine seq_rel _ (readByte_rel d pos m) fun b p _ => ?_
  refine Rel.ite _ (Rel.ok _) (Rel.ite _ (Rel.ok _) ?_)
  exact seq_rel _ (readVarint_rel _ _ d p m) fun _ q _ => Rel.ok _

theorem decT_rel (mem : Option Nat) (d : Bytes) (m : Nat) : ∀ (f : Nat) (t : DTask) (pos : Nat),
    RelT pos m (decT mem d f t pos) (decT mem (d.take m) f t pos) := by
  intro f t pos
  fun_induction decT mem d f t pos
  all_goals simp only [decT]
  -- cases, in the order of `decT`'s text: fuel 0; `val` bool, i8, i16, i32, i64, double, binary, list, struct, union; `elems` 0 / n+1; `fields` (`ihs ihb ihv ihd`: see `decT_walk`)
  · exact RelT.error _ _ _ _
  · exact lift_rel _ (readByte_rel d _ m) fun _ p _ => RelT.ok
  · exact lift_rel _ (readByte_rel d _ m) fun _ p _ => RelT.ok
  · exact lift_rel _ (readVarint_rel _ _ d _ m) fun _ p _ => RelT.ok
  · exact lift_rel _ (readVarint_rel _ _ d _ m) fun _ p _ => RelT.ok
  · exact lift_rel _ (readVarint_rel _ _ d _ m) fun _ p _ => RelT.ok
  · exact lift_rel _ (readFloat_rel d _ m) fun _ p _ => RelT.ok
  · exact lift_rel _ (readBinary_rel d _ m) fun _ p _ => RelT.ok
  · rename_i f pos e ih
    refine lift_rel _ (readList_rel d pos m) fun l p _ => ?_
    generalize (if l.1 = 1 then 2 else l.1) = ty'
    by_cases hw : wire e ≠ ty'
    · simp only [if_pos hw]
      exact lift_rel _ (skipT_rel d m f (.items ty' l.2) p) fun _ q _ => RelT.ok
    · simp only [if_neg hw]
      split
      · exact RelT.error _ _ _ _
      · exact ih l p
  · rename_i ih; exact ih
  · rename_i ih; exact ih
  · exact RelT.ok
  · rename_i ih1 ih2; exact seqT_rel _ ih1 fun p _ => ih2 p
  · rename_i f fs first last seen pos ihs ihb ihv ihd
    refine lift_rel _ (readFieldT_rel d pos m) fun h p _ => ?_
    cases h with
    | none =>
      simp only
      split
      · exact RelT.error _ _ _ _
      · exact RelT.ok
    | some x =>
      obtain ⟨ty, raw, delta⟩ := x
      exact fields_cases₂ (lift_rel _ (skipT_rel d m f (.val ty) p) fun _ q _ => ihs raw delta q) (fun _ => ihb p raw delta)
        fun fd _ _ => seqT_rel _ (ihv p fd) fun q _ => ihd raw delta q

end PqModel.ThriftDecode
