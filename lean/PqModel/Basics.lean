/-! # Facts that are not about the model

Induction principles and list lemmas that core Lean does not have and several properties need: both branches of an `if`,
two runs of `foldl` in lock step, all indexes after a point update, pieces of equal length laid end to end, column-wise
append, the index a binary search returns, `List.getD` inside the bounds, `map`/`flatMap` of functions that agree on the
members, the one set bit of `1 <<< k`. No imports. -/

namespace PqModel

theorem ite_ind {α : Type} {P : α → Prop} {c : Prop} [Decidable c] {a b : α} (ha : c → P a) (hb : P b) :
    P (if c then a else b) := by
  split
  · exact ha ‹_›
  · exact hb

/-- the shape of every fact about a point update `fun j => if j = i then v else f j` -/
theorem forall_of_point {P : Nat → Prop} (i : Nat) (hi : P i) (ho : ∀ j, j ≠ i → P j) (j : Nat) : P j :=
  if h : j = i then h ▸ hi else ho j h

/-- with `R s t := Inv s ∧ view s = t`: the machine `f` refines the machine `g` under `view` -/
theorem foldl_sim {σ τ α : Type} {f : σ → α → σ} {g : τ → α → τ} {R : σ → τ → Prop} : ∀ {l : List α} {s : σ} {t : τ},
    (∀ s t, ∀ a ∈ l, R s t → R (f s a) (g t a)) → R s t → R (l.foldl f s) (l.foldl g t)
  | [], _, _, _, h0 => h0
  | a :: l, s, t, h, h0 =>
    foldl_sim (l := l) (fun s t b hb => h s t b (List.mem_cons_of_mem a hb)) (h s t a List.mem_cons_self h0)

end PqModel

/-! # Pieces of equal length laid end to end

`l.flatMap g` (equally `(l.map g).flatten`) where every `g a` has `k` elements: the bits of a byte string, the bytes
of a word list, the blocks of a filter. -/
namespace PqModel.Pieces

universe u v
variable {α : Type u} {β : Type v} {g : α → List β} {k : Nat}

theorem length_flatMap {l : List α} (h : ∀ a ∈ l, (g a).length = k) : (l.flatMap g).length = k * l.length := by
  rw [List.length_flatMap, List.map_congr_left (g := fun _ => k) h, List.map_const', List.sum_replicate_nat,
    Nat.mul_comm]

theorem drop_flatMap : ∀ (n : Nat) {l : List α}, (∀ a ∈ l, (g a).length = k) →
    (l.flatMap g).drop (k * n) = (l.drop n).flatMap g
  | 0, _, _ => rfl
  | _ + 1, [], _ => by simp
  | n + 1, a :: l, h => by
    rw [List.flatMap_cons, Nat.mul_succ, Nat.add_comm, ← h a List.mem_cons_self, List.drop_length_add_append,
      h a List.mem_cons_self, drop_flatMap n (fun b hb => h b (List.mem_cons_of_mem a hb)), List.drop_succ_cons]

theorem take_flatMap : ∀ (n : Nat) {l : List α}, (∀ a ∈ l, (g a).length = k) →
    (l.flatMap g).take (k * n) = (l.take n).flatMap g
  | 0, _, _ => by simp
  | _ + 1, [], _ => by simp
  | n + 1, a :: l, h => by
    rw [List.flatMap_cons, Nat.mul_succ, Nat.add_comm, ← h a List.mem_cons_self, List.take_length_add_append,
      h a List.mem_cons_self, take_flatMap n (fun b hb => h b (List.mem_cons_of_mem a hb)), List.take_succ_cons,
      List.flatMap_cons]

theorem slice_flatMap {l : List α} {i : Nat} (hi : i < l.length) (h : ∀ a ∈ l, (g a).length = k) :
    ((l.flatMap g).drop (k * i)).take k = g l[i] := by
  rw [drop_flatMap i h, List.drop_eq_getElem_cons hi, List.flatMap_cons, ← h l[i] (List.getElem_mem hi)]
  exact List.take_left' rfl

theorem getElem?_flatMap {l : List α} (h : ∀ a ∈ l, (g a).length = k) (j : Nat) {i : Nat} (hi : i < k) :
    (l.flatMap g)[k * j + i]? = (l[j]?).bind (fun a => (g a)[i]?) := by
  rw [← List.getElem?_drop, drop_flatMap j h]
  by_cases hj : j < l.length
  · rw [List.drop_eq_getElem_cons hj, List.flatMap_cons, List.getElem?_eq_getElem hj, Option.bind_some,
      List.getElem?_append_left (by rw [h _ (List.getElem_mem hj)]; exact hi)]
  · rw [List.drop_of_length_le (Nat.le_of_not_lt hj), List.getElem?_eq_none (Nat.le_of_not_lt hj)]
    rfl

theorem getElem?_flatMap_div {l : List α} (h : ∀ a ∈ l, (g a).length = k) (hk : 0 < k) (n : Nat) :
    (l.flatMap g)[n]? = (l[n / k]?).bind (fun a => (g a)[n % k]?) := by
  rw [← getElem?_flatMap h (n / k) (Nat.mod_lt n hk), Nat.div_add_mod]

end PqModel.Pieces

/-! Column-wise append `List.zipWith (· ++ ·)`, at any cell type: what core does not say about it.
`Dremel.zipApp` and `Variant.zipApp` are this function (`zipApp_eq_zipWith` in either namespace);
length, `take`, `drop` and `++` of the operands are core's `List.length_zipWith`, `take_zipWith`,
`drop_zipWith`, `zipWith_append`. -/
namespace PqModel

theorem zipWith_append_assoc {α : Type} : ∀ (a b c : List (List α)),
    List.zipWith (· ++ ·) (List.zipWith (· ++ ·) a b) c = List.zipWith (· ++ ·) a (List.zipWith (· ++ ·) b c)
  | [], _, _ => rfl
  | _ :: _, [], _ => rfl
  | _ :: _, _ :: _, [] => rfl
  | x :: a, y :: b, z :: c => by
    simp only [List.zipWith_cons_cons, List.append_assoc, zipWith_append_assoc a b c]

theorem zipWith_append_replicate_left {α : Type} (x : List α) : ∀ (l : List (List α)),
    List.zipWith (· ++ ·) (List.replicate l.length x) l = l.map (x ++ ·)
  | [] => rfl
  | y :: l => by
    rw [List.length_cons, List.replicate_succ, List.zipWith_cons_cons, zipWith_append_replicate_left x l, List.map_cons]

theorem zipWith_append_replicate_right {α : Type} (x : List α) : ∀ (l : List (List α)),
    List.zipWith (· ++ ·) l (List.replicate l.length x) = l.map (· ++ x)
  | [] => rfl
  | y :: l => by
    rw [List.length_cons, List.replicate_succ, List.zipWith_cons_cons, zipWith_append_replicate_right x l, List.map_cons]

end PqModel

/-! # The contract of a search for the end of a qualifying prefix

`Boundary P n p` is what a binary search returns for ANY predicate (`sort.Search`; the gallop + binary search of merge.go
`runLength`); for a downward closed predicate the boundary is the length of the qualifying prefix. -/
namespace PqModel

def Boundary (P : Nat → Bool) (n p : Nat) : Prop :=
  p ≤ n ∧ (0 < p → P (p - 1) = true) ∧ (p < n → P p = false)

theorem Boundary.least {P : Nat → Bool} {n p : Nat} (h : Boundary P n p)
    (hdown : ∀ i j, i ≤ j → j < n → P j = true → P i = true) :
    (∀ j, j < p → P j = true) ∧ (∀ j, p ≤ j → j < n → P j = false) := by
  obtain ⟨hle, hbefore, hat⟩ := h
  refine ⟨fun j hj => hdown j (p - 1) (by omega) (by omega) (hbefore (by omega)), fun j hj hjn => ?_⟩
  rw [← Bool.not_eq_true]
  intro hq
  have := hdown p j hj hjn hq
  rw [hat (by omega)] at this
  cases this

end PqModel

/-! A table that lists, per class, what its members share (`(shared, members)`)
    can be filtered on the members before or after every member is paired with what it shares
    (`Props/FactsCheckC13Chains.lean`). -/
namespace PqModel.ListFacts

theorem length_filter_pairs {α β : Type} (p : β → Bool) (L : List (α × List β)) :
    ((L.flatMap fun c => c.2.map fun e => (e, c.1)).filter fun ec => p ec.1).length =
      ((L.flatMap (·.2)).filter p).length := by
  induction L with
  | nil => rfl
  | cons c L ih =>
    simp only [List.flatMap_cons, List.filter_append, List.length_append, ih, List.filter_map,
      List.length_map]
    rfl

theorem exists_of_length_eq_8 {α} : ∀ (l : List α), l.length = 8 →
    ∃ a0 a1 a2 a3 a4 a5 a6 a7, l = [a0, a1, a2, a3, a4, a5, a6, a7]
  | [a0, a1, a2, a3, a4, a5, a6, a7], _ => ⟨a0, a1, a2, a3, a4, a5, a6, a7, rfl⟩
  | [], h | [_], h | [_, _], h | [_, _, _], h | [_, _, _, _], h | [_, _, _, _, _], h | [_, _, _, _, _, _], h
  | [_, _, _, _, _, _, _], h => by cases h
  | _ :: _ :: _ :: _ :: _ :: _ :: _ :: _ :: _ :: _, h => by simp only [List.length_cons] at h; omega

/-! `l.getD i d` for `i` inside the bounds (core states these facts for `l[i]?`), at any element type and default;
    then `map`/`flatMap` of functions that agree on the members (core has the congruence for `map` only),
    `drop` at the length of `takeWhile` -/
universe u v
variable {α : Type u} {β : Type v} {l l₂ : List α} {i j : Nat}

theorem lt_of_getElem?_eq_some {x : α} (h : l[i]? = some x) : i < l.length :=
  (List.getElem?_eq_some_iff.mp h).1

theorem getD_of_lt (d : α) (h : i < l.length) : l.getD i d = l[i] := by
  rw [List.getD_eq_getElem?_getD, List.getElem?_eq_getElem h, Option.getD_some]

theorem getElem?_getD (d : α) (h : i < l.length) : l[i]? = some (l.getD i d) := by
  rw [getD_of_lt d h, List.getElem?_eq_getElem h]

theorem getD_mem (d : α) (h : i < l.length) : l.getD i d ∈ l :=
  getD_of_lt d h ▸ List.getElem_mem h

theorem getD_set_self (d v : α) (h : i < l.length) : (l.set i v).getD i d = v := by
  rw [List.getD_eq_getElem?_getD, List.getElem?_set_self h, Option.getD_some]

theorem getD_set_ne (d v : α) (h : j ≠ i) : (l.set i v).getD j d = l.getD j d := by
  rw [List.getD_eq_getElem?_getD, List.getElem?_set_ne (Ne.symm h), List.getD_eq_getElem?_getD]

theorem getD_append_left (d : α) (h : i < l.length) : (l ++ l₂).getD i d = l.getD i d := by
  rw [List.getD_eq_getElem?_getD, List.getElem?_append_left h, List.getD_eq_getElem?_getD]

theorem getD_append_right (d : α) (h : l.length ≤ i) : (l ++ l₂).getD i d = l₂.getD (i - l.length) d := by
  rw [List.getD_eq_getElem?_getD, List.getElem?_append_right h, List.getD_eq_getElem?_getD]

theorem getD_map (f : α → β) (d : α) : (l.map f).getD i (f d) = f (l.getD i d) := by
  rw [List.getD_eq_getElem?_getD, List.getD_eq_getElem?_getD, List.getElem?_map]
  cases l[i]? <;> rfl

theorem getD_mono {R : α → α → Prop} (d : α) (refl : ∀ a, R a a) (hs : l.Pairwise R) (hij : i ≤ j)
    (hj : j < l.length) : R (l.getD i d) (l.getD j d) := by
  rw [getD_of_lt d hj, getD_of_lt d (Nat.lt_of_le_of_lt hij hj)]
  rcases Nat.eq_or_lt_of_le hij with rfl | h
  · exact refl _
  · exact List.pairwise_iff_getElem.mp hs i j _ hj h

theorem map_id_of {f : α → α} (h : ∀ x ∈ l, f x = x) : l.map f = l :=
  (List.map_congr_left h).trans (List.map_id l)

theorem map_map_cancel {f : α → β} {g : β → α} (h : ∀ x ∈ l, g (f x) = x) : (l.map f).map g = l := by
  rw [List.map_map]
  exact map_id_of h

theorem flatMap_congr {f g : α → List β} (h : ∀ x ∈ l, f x = g x) : l.flatMap f = l.flatMap g := by
  rw [List.flatMap_def, List.flatMap_def, List.map_congr_left h]

theorem drop_length_takeWhile (p : α → Bool) (l : List α) : l.drop (l.takeWhile p).length = l.dropWhile p := by
  have := List.drop_left (l₁ := l.takeWhile p) (l₂ := l.dropWhile p)
  rwa [List.takeWhile_append_dropWhile] at this

end PqModel.ListFacts

namespace PqModel

theorem getLsbD_one_shl {w i : Nat} (k : Nat) (hi : i < w) : (1#w <<< k).getLsbD i = decide (i = k) := by
  rw [← BitVec.twoPow_eq, BitVec.getLsbD_twoPow]
  by_cases h : i = k
  · subst h; simp [hi]
  · simp [h, Ne.symm h]

end PqModel
