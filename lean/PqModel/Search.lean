import PqModel.Stats

/-! # search.go on a single column index: `binarySearch`, `linearSearch`, `Find`, and the writer's order flag

Values are ranks in the column order (`Int`); a bound is `none` for the null `Value{}` of a null page. The mirrors
test `cmp(a, b) < 0` only (`ltNL`): search.go's `cmp(b, a) > 0` and `cmp(a, b) <= 0` are read as `cmp(a, b) < 0`
and `!(cmp(b, a) < 0)`, the same for an antisymmetric `cmp` (`CompareNullsLast/First(typ.Compare)` is one, NaN
included: it answers 0 both ways). -/
namespace PqModel.Search

abbrev Bound := Option Int   -- none = null page bound

/-- `cmp(a, b) < 0` where `cmp` is `CompareNullsLast(typ.Compare)` (`nf = false`, what `Search` uses) or
    `CompareNullsFirst(typ.Compare)` (`nf = true`, the example of `Find`'s doc comment), compare.go:20-57;
    the probe is never null -/
def ltNL (nf : Bool) (a b : Bound) : Bool :=
  match a, b with
  | some x, some y => decide (x < y)
  | some _, none => !nf
  | none, some _ => nf
  | none, none => false

structure Index where
  mins : List Bound
  maxs : List Bound

def Index.n (ix : Index) : Nat := ix.mins.length
def minAt (ix : Index) (i : Nat) : Bound := ix.mins.getD i none
def maxAt (ix : Index) (i : Nat) : Bound := ix.maxs.getD i none

def contains (nf : Bool) (ix : Index) (i : Nat) (v : Int) : Bool :=
  !(ltNL nf (some v) (minAt ix i)) && !(ltNL nf (maxAt ix i) (some v))

/-- search.go `binarySearch`, the loop; every turn shrinks `top - cur`, so `ix.n` turns of fuel are enough -/
def bloop (nf : Bool) (ix : Index) (v : Int) : Nat → Nat → Nat → Nat
  | 0, cur, _ => cur
  | fuel + 1, cur, top =>
    if cur < top then
      let next := (top - cur) / 2 + cur
      if ltNL nf (some v) (minAt ix next) then bloop nf ix v fuel cur next
      else if ltNL nf (maxAt ix next) (some v) then bloop nf ix v fuel (next + 1) top
      else bloop nf ix v fuel cur next
    else cur

def binarySearch (nf : Bool) (ix : Index) (v : Int) : Nat :=
  let c := bloop nf ix v ix.n 0 ix.n
  if c < ix.n then
    if ltNL nf (some v) (minAt ix c) || ltNL nf (maxAt ix c) (some v) then ix.n else c
  else c

-- finding F1: over a null page in the middle of an ascending index the binary search discards the wrong half
def f1 : Index := { mins := [some (-5), none, some 7], maxs := [some (-3), none, some 9] }
example : contains false f1 2 8 = true := by decide +kernel
example : binarySearch false f1 8 = 3 := by decide +kernel

/-! The two loops of search.go are correct whatever bounds they compare: the theorems up to `isFirst_binary` are
about any function that obeys a loop's equations, over Boolean tests (`isFirst_linear` serves `lloop` and
`SearchNaN.lloopF`; `bsearch_inv` is written alike, for `bloop` only). -/

/-- `r` is the first of the pages `0 .. n-1` that passes `test`, or `n` when none does -/
def IsFirst (n : Nat) (test : Nat → Bool) (r : Nat) : Prop :=
  r ≤ n ∧ (r < n → test r = true) ∧ ∀ p, p < n → test p = true → r ≤ p

theorem IsFirst.of_hit {n test r p} (h : IsFirst n test r) (hp : p < n) (ht : test p = true) :
    r ≤ p ∧ r < n ∧ test r = true :=
  have hrp := h.2.2 p hp ht
  have hrn : r < n := Nat.lt_of_le_of_lt hrp hp
  ⟨hrp, hrn, h.2.1 hrn⟩

theorem isFirst_of_none_before {n test i} (hi : i ≤ n) (hit : i < n → test i = true)
    (hprev : ∀ j, j < i → test j = false) : IsFirst n test i :=
  ⟨hi, hit, fun p _ hp => Nat.le_of_not_lt fun hpi => by rw [hprev p hpi] at hp; cases hp⟩

/-- search.go `linearSearch`, as any loop `f` with its two equations -/
theorem isFirst_linear {n : Nat} {test : Nat → Bool} {f : Nat → Nat → Nat} (h0 : ∀ i, f 0 i = i)
    (hs : ∀ fuel i, f (fuel + 1) i = if i < n then (if test i then i else f fuel (i + 1)) else i) :
    ∀ fuel i, n - i ≤ fuel → i ≤ n → (∀ j, j < i → test j = false) → IsFirst n test (f fuel i)
  | 0, i, hf, hi, hprev => by
    rw [h0]
    exact isFirst_of_none_before hi (fun h => by omega) hprev
  | fuel + 1, i, hf, hi, hprev => by
    rw [hs]
    by_cases hlt : i < n
    · rw [if_pos hlt]
      by_cases ht : test i = true
      · rw [if_pos ht]
        exact isFirst_of_none_before hi (fun _ => ht) hprev
      · rw [if_neg ht]
        refine isFirst_linear h0 hs fuel (i + 1) (by omega) hlt fun j hj => ?_
        cases Nat.lt_succ_iff_lt_or_eq.mp hj with
        | inl h => exact hprev j h
        | inr h => rw [h]; exact Bool.eq_false_iff.mpr ht
    · rw [if_neg hlt]
      exact isFirst_of_none_before hi (fun h => absurd h hlt) hprev

/-- search.go `binarySearch`, the loop: `lo i` = "the probe is below the min of page `i`", `hi i` = "the max of page
    `i` is below the probe". Invariant: `hi` holds left of `cur` and fails at `top`. It needs the maxes sorted
    (`hdown`) and `min ≤ max` per page (`hex`), nothing of the mins. -/
theorem bsearch_inv {n : Nat} {lo hi : Nat → Bool} {f : Nat → Nat → Nat → Nat} (h0 : ∀ cur top, f 0 cur top = cur)
    (hs : ∀ fuel cur top, f (fuel + 1) cur top =
      if cur < top then
        if lo ((top - cur) / 2 + cur) then f fuel cur ((top - cur) / 2 + cur)
        else if hi ((top - cur) / 2 + cur) then f fuel ((top - cur) / 2 + cur + 1) top
        else f fuel cur ((top - cur) / 2 + cur)
      else cur)
    (hdown : ∀ i j, i ≤ j → j < n → hi j = true → hi i = true)
    (hex : ∀ i, i < n → lo i = true → hi i = false) :
    ∀ fuel cur top, top ≤ cur + fuel → cur ≤ top → top ≤ n →
      (∀ i, i < cur → hi i = true) → (top < n → hi top = false) →
      f fuel cur top ≤ n ∧ (∀ i, i < f fuel cur top → hi i = true) ∧
        (f fuel cur top < n → hi (f fuel cur top) = false)
  | 0, cur, top, hf, hct, htn, hl, hr => by
    rw [h0]
    cases Nat.le_antisymm hct hf
    exact ⟨htn, hl, hr⟩
  | fuel + 1, cur, top, hf, hct, htn, hl, hr => by
    rw [hs]
    by_cases hlt : cur < top
    · rw [if_pos hlt]
      have hnext : (top - cur) / 2 + cur < top :=
        Nat.add_lt_of_lt_sub (Nat.div_lt_self (Nat.sub_pos_of_lt hlt) (by decide))
      have hge : cur ≤ (top - cur) / 2 + cur := Nat.le_add_left ..
      generalize (top - cur) / 2 + cur = next at hnext hge ⊢
      have hnf : next ≤ cur + fuel := Nat.le_of_lt_succ (Nat.lt_of_lt_of_le hnext hf)
      have hnn : next < n := Nat.lt_of_lt_of_le hnext htn
      have ih := bsearch_inv h0 hs hdown hex fuel
      by_cases hlo : lo next = true
      · rw [if_pos hlo]
        exact ih cur next hnf hge (Nat.le_of_lt hnn) hl (fun _ => hex next hnn hlo)
      · rw [if_neg hlo]
        by_cases hhi : hi next = true
        · rw [if_pos hhi]
          exact ih (next + 1) top (by omega) hnext htn
            (fun i hi' => hdown i next (Nat.le_of_lt_succ hi') hnn hhi) hr
        · rw [if_neg hhi]
          exact ih cur next hnf hge (Nat.le_of_lt hnn) hl (fun _ => Bool.eq_false_iff.mpr hhi)
    · rw [if_neg hlt]
      cases Nat.le_antisymm hct (Nat.le_of_not_lt hlt)
      exact ⟨htn, hl, hr⟩

/-- the final check of `binarySearch`; the mins sorted (`hup`) is what lets it answer "no page" when the probe is
    below the min of page `c` -/
theorem isFirst_binary {n : Nat} {lo hi : Nat → Bool} {c : Nat}
    (hup : ∀ i j, i ≤ j → j < n → lo i = true → lo j = true)
    (hcn : c ≤ n) (hleft : ∀ i, i < c → hi i = true) (hright : c < n → hi c = false) :
    IsFirst n (fun i => !lo i && !hi i) (if c < n then (if lo c || hi c then n else c) else c) := by
  have hprev : ∀ j, j < c → (!lo j && !hi j) = false := fun j hj => by
    rw [hleft j hj, Bool.not_true, Bool.and_false]
  by_cases hlt : c < n
  · rw [if_pos hlt, hright hlt, Bool.or_false]
    by_cases hc : lo c = true
    · rw [if_pos hc]
      refine isFirst_of_none_before (Nat.le_refl n) (fun h => absurd h (Nat.lt_irrefl n)) fun j hj => ?_
      cases Nat.lt_or_ge j c with
      | inl h => exact hprev j h
      | inr h => rw [hup c j h hj hc, Bool.not_true, Bool.false_and]
    · rw [if_neg hc]
      exact isFirst_of_none_before hcn
        (fun _ => by rw [Bool.eq_false_iff.mpr hc, hright hlt]; rfl) hprev
  · rw [if_neg hlt]
    exact isFirst_of_none_before hcn (fun h => absurd h hlt) hprev

/-- What the binary search needs of an index; `mn i`, `mx i` are the ranks page `i` shows (no null bound), witnesses
    only: users state `∃ mn mx, Ascending ix mn mx`. -/
structure Ascending (ix : Index) (mn mx : Nat → Int) : Prop where
  len : ix.maxs.length = ix.mins.length
  mins : ∀ i, i < ix.n → minAt ix i = some (mn i)
  maxs : ∀ i, i < ix.n → maxAt ix i = some (mx i)
  smin : ∀ i j, i ≤ j → j < ix.n → mn i ≤ mn j
  smax : ∀ i j, i ≤ j → j < ix.n → mx i ≤ mx j
  le : ∀ i, i < ix.n → mn i ≤ mx i

theorem contains_iff (nf : Bool) {ix mn mx} (h : Ascending ix mn mx) {i : Nat} (hi : i < ix.n) (v : Int) :
    contains nf ix i v = true ↔ mn i ≤ v ∧ v ≤ mx i := by
  simp [contains, h.mins i hi, h.maxs i hi, ltNL]

/-- C06 core (no null pages): binarySearch returns the first page whose bounds contain `v`, or `n`. -/
theorem binarySearch_first (nf : Bool) {ix mn mx} (h : Ascending ix mn mx) (v : Int) :
    binarySearch nf ix v ≤ ix.n ∧
    (binarySearch nf ix v < ix.n → contains nf ix (binarySearch nf ix v) v = true) ∧
    (∀ i, i < ix.n → contains nf ix i v = true → binarySearch nf ix v ≤ i) := by
  have hlo : ∀ i, i < ix.n → ltNL nf (some v) (minAt ix i) = decide (v < mn i) := fun i hi => by
    rw [h.mins i hi]; rfl
  have hhi : ∀ i, i < ix.n → ltNL nf (maxAt ix i) (some v) = decide (mx i < v) := fun i hi => by
    rw [h.maxs i hi]; rfl
  obtain ⟨hcn, hleft, hright⟩ :=
    bsearch_inv (n := ix.n) (lo := fun i => ltNL nf (some v) (minAt ix i)) (hi := fun i => ltNL nf (maxAt ix i) (some v))
      (f := bloop nf ix v) (fun _ _ => rfl) (fun _ _ _ => rfl)
      (fun i j hij hj hhj => by
        rw [hhi j hj, decide_eq_true_eq] at hhj
        rw [hhi i (Nat.lt_of_le_of_lt hij hj), decide_eq_true_eq]
        exact Int.lt_of_le_of_lt (h.smax i j hij hj) hhj)
      (fun i hi hli => by
        rw [hlo i hi, decide_eq_true_eq] at hli
        rw [hhi i hi, decide_eq_false_iff_not]
        exact Int.not_lt.mpr (Int.le_of_lt (Int.lt_of_lt_of_le hli (h.le i hi))))
      ix.n 0 ix.n (Nat.le_of_eq (Nat.zero_add _).symm) (Nat.zero_le _) (Nat.le_refl _)
      (fun _ h0 => absurd h0 (Nat.not_lt_zero _)) (fun hn => absurd hn (Nat.lt_irrefl _))
  exact isFirst_binary (lo := fun i => ltNL nf (some v) (minAt ix i))
    (fun i j hij hj hli => by
      rw [hlo i (Nat.lt_of_le_of_lt hij hj), decide_eq_true_eq] at hli
      rw [hlo j hj, decide_eq_true_eq]
      exact Int.lt_of_lt_of_le hli (h.smin i j hij hj))
    hcn hleft hright

#print axioms binarySearch_first


/-- `cmp(a, b) <= 0`, read as `!(cmp(b, a) < 0)`, for either null ordering -/
def leNL (nf : Bool) (a b : Bound) : Bool := !(ltNL nf b a)

/-- search.go `linearSearch` -/
def lloop (nf : Bool) (ix : Index) (v : Int) : Nat → Nat → Nat
  | 0, i => i
  | fuel + 1, i =>
    if i < ix.n then
      if leNL nf (minAt ix i) (some v) && leNL nf (some v) (maxAt ix i) then i else lloop nf ix v fuel (i + 1)
    else i

def linearSearch (nf : Bool) (ix : Index) (v : Int) : Nat := lloop nf ix v ix.n 0

/-- search.go `hasNullPage`. Go reads `NullPage(i)`; `Index` has no such list: a single index is modelled with
    "null page ⇔ null bounds", as the writer produces it (`findView` of `SearchMulti.lean` takes the list). -/
def hasNull (ix : Index) : Bool := ix.mins.any Option.isNone || ix.maxs.any Option.isNone

/-- search.go `Find`: binary search only for an index flagged ascending that has no null page (repair of F1) -/
def find (nf : Bool) (asc : Bool) (ix : Index) (v : Int) : Nat :=
  if asc && !hasNull ix then binarySearch nf ix v else linearSearch nf ix v

/-- `Find` before the F1 repair: binary search whenever the index claims ascending order -/
def findUnguarded (nf : Bool) (asc : Bool) (ix : Index) (v : Int) : Nat :=
  if asc then binarySearch nf ix v else linearSearch nf ix v

/-- order_purego.go: the adjacent-pair loops of `orderOfXxx` -/
def isAsc : List Int → Bool
  | a :: b :: rest => decide (a ≤ b) && isAsc (b :: rest)
  | _ => true

def isDesc : List Int → Bool
  | a :: b :: rest => decide (a ≥ b) && isDesc (b :: rest)
  | _ => true

/-- order_purego.go `orderOf`: +1 ascending, -1 descending, 0 otherwise (length ≤ 1 gives 0) -/
def orderOf (xs : List Int) : Int :=
  if xs.length > 1 then (if isAsc xs then 1 else if isDesc xs then -1 else 0) else 0

/-- boundaryOrderOf: 1 ascending, 2 descending, 0 unordered (format.BoundaryOrder values); the same text as C05's
    `Stats.boundaryOrderOf (orderOf mins) (orderOf maxs)` -/
def boundaryOrder (mins maxs : List Int) : Nat :=
  let a := orderOf mins
  let b := orderOf maxs
  if a = b then (if a > 0 then 1 else if a < 0 then 2 else 0) else 0

/-- what the typed column indexers store: null pages contribute the zero value -/
def stored (z : Int) (b : Bound) : Int := b.getD z

/-- `z` is the rank of the type's zero value (0 for numeric columns, below every rank for byte arrays: the empty string) -/
def writerOrder (z : Int) (ix : Index) : Nat := boundaryOrder (ix.mins.map (stored z)) (ix.maxs.map (stored z))

/-- the same with separate placeholders for the two lists: the byte-array indexers TRUNCATE the placeholder of
    a null page with the bounds (column_index.go:534-551, 590-607), and truncating a max increments it, so a null
    page of a FIXED_LEN_BYTE_ARRAY(n) column with a size limit below n stores 00..00 as min and 00..01 as max -/
def writerOrder2 (zn zx : Int) (ix : Index) : Nat := boundaryOrder (ix.mins.map (stored zn)) (ix.maxs.map (stored zx))

theorem writerOrder_eq (z : Int) (ix : Index) : writerOrder z ix = writerOrder2 z z ix := rfl

theorem linearSearch_first (nf : Bool) (ix : Index) (v : Int) :
    IsFirst ix.n (fun i => contains nf ix i v) (linearSearch nf ix v) :=
  isFirst_linear (f := lloop nf ix v) (fun _ => rfl) (fun _ _ => rfl) ix.n 0 (Nat.le_of_eq (Nat.sub_zero _))
    (Nat.zero_le _) (fun _ h => absurd h (Nat.not_lt_zero _))

theorem dispatch_first (nf flag : Bool) (ix : Index) (v : Int) (h : flag = true → ∃ mn mx, Ascending ix mn mx) :
    IsFirst ix.n (fun i => contains nf ix i v) (if flag then binarySearch nf ix v else linearSearch nf ix v) := by
  cases flag with
  | true => obtain ⟨mn, mx, ha⟩ := h rfl; exact binarySearch_first nf ha v
  | false => exact linearSearch_first nf ix v

theorem find_first (nf asc : Bool) (ix : Index) (v : Int)
    (htruth : asc = true → hasNull ix = false → ∃ mn mx, Ascending ix mn mx) :
    IsFirst ix.n (fun i => contains nf ix i v) (find nf asc ix v) :=
  dispatch_first nf _ ix v fun hc => by
    rw [Bool.and_eq_true, Bool.not_eq_true'] at hc
    exact htruth hc.1 hc.2

theorem mem_map_getD {α β} {f : α → β} {l : List α} {y : β} (d : α) (h : y ∈ l.map f) :
    ∃ i, i < l.length ∧ y = f (l.getD i d) := by
  obtain ⟨i, hi, rfl⟩ := List.getElem_of_mem h
  rw [List.length_map] at hi
  exact ⟨i, hi, by rw [List.getElem_map, ListFacts.getD_of_lt d hi]⟩

theorem isAsc_iff_pairwise : ∀ l : List Int, isAsc l = true ↔ l.Pairwise (· ≤ ·)
  | [] => ⟨fun _ => .nil, fun _ => rfl⟩
  | [_] => ⟨fun _ => List.pairwise_singleton .., fun _ => rfl⟩
  | a :: b :: t => by
    rw [isAsc, Bool.and_eq_true, decide_eq_true_eq, isAsc_iff_pairwise (b :: t), List.pairwise_cons (a := a)]
    refine ⟨fun ⟨hab, hp⟩ => ⟨fun x hx => ?_, hp⟩, fun ⟨ha, hp⟩ => ⟨ha b (List.mem_cons_self ..), hp⟩⟩
    cases List.mem_cons.mp hx with
    | inl h => exact h ▸ hab
    | inr h => exact Int.le_trans hab ((List.pairwise_cons.mp hp).1 x h)

theorem isAsc_getD {xs : List Int} (d : Int) (h : isAsc xs = true) {i j : Nat} (hij : i ≤ j) (hj : j < xs.length) :
    xs.getD i d ≤ xs.getD j d :=
  ListFacts.getD_mono d Int.le_refl ((isAsc_iff_pairwise xs).mp h) hij hj

theorem isAsc_append_of_le {l1 l2 : List Int} (h1 : isAsc l1 = true) (h2 : isAsc l2 = true)
    (h : ∀ x ∈ l1, ∀ y ∈ l2, x ≤ y) : isAsc (l1 ++ l2) = true := by
  rw [isAsc_iff_pairwise] at *
  exact List.pairwise_append.mpr ⟨h1, h2, h⟩

theorem isAsc_append {l1 l2 : List Int} (h1 : isAsc l1 = true) (h2 : isAsc l2 = true)
    (h : 0 < l1.length → 0 < l2.length → l1.getD (l1.length - 1) 0 ≤ l2.getD 0 0) : isAsc (l1 ++ l2) = true := by
  refine isAsc_append_of_le h1 h2 fun x hx y hy => ?_
  obtain ⟨i, hi, rfl⟩ := List.getElem_of_mem hx
  obtain ⟨j, hj, rfl⟩ := List.getElem_of_mem hy
  have a := isAsc_getD 0 h1 (Nat.le_sub_one_of_lt hi) (Nat.sub_one_lt_of_lt hi)
  have b := isAsc_getD 0 h2 (Nat.zero_le j) hj
  rw [ListFacts.getD_of_lt 0 hi] at a
  rw [ListFacts.getD_of_lt 0 hj] at b
  exact Int.le_trans a (Int.le_trans (h (Nat.zero_lt_of_lt hi) (Nat.zero_lt_of_lt hj)) b)

theorem isAsc_map_add {l : List Int} (c : Int) (h : isAsc l = true) : isAsc (l.map (c + ·)) = true := by
  rw [isAsc_iff_pairwise] at *
  exact List.pairwise_map.mpr (h.imp fun hab => Int.add_le_add_left hab c)

theorem isDesc_eq_isAsc_neg : ∀ l : List Int, isDesc l = isAsc (l.map (- ·))
  | [] => rfl
  | [_] => rfl
  | a :: b :: t => by
    show (decide (a ≥ b) && isDesc (b :: t)) = (decide (-a ≤ -b) && isAsc ((b :: t).map (- ·)))
    rw [isDesc_eq_isAsc_neg (b :: t), decide_eq_decide.mpr (show a ≥ b ↔ -a ≤ -b by omega)]

theorem isDesc_append : ∀ (l1 l2 : List Int), isDesc l1 = true → isDesc l2 = true →
    (0 < l1.length → 0 < l2.length → l1.getD (l1.length - 1) 0 ≥ l2.getD 0 0) → isDesc (l1 ++ l2) = true := by
  intro l1 l2 h1 h2 h
  rw [isDesc_eq_isAsc_neg] at *
  rw [List.map_append]
  refine isAsc_append h1 h2 fun p1 p2 => ?_
  rw [List.length_map] at *
  rw [show (0 : Int) = -0 from rfl, ListFacts.getD_map (- ·) 0, ListFacts.getD_map (- ·) 0]
  exact Int.neg_le_neg (h p1 p2)

theorem any_isNone_false_getD {l : List Bound} {i : Nat} (h : l.any Option.isNone = false) (hi : i < l.length) :
    ∃ x, l.getD i none = some x := by
  rw [ListFacts.getD_of_lt none hi]
  have := List.any_eq_false.mp h l[i] (List.getElem_mem hi)
  cases hx : l[i] with
  | none => rw [hx] at this; exact absurd rfl this
  | some x => exact ⟨x, rfl⟩

theorem bounds_of_hasNull {ix : Index} (hlen : ix.maxs.length = ix.mins.length) (h : hasNull ix = false) {i : Nat}
    (hi : i < ix.n) : (∃ a, minAt ix i = some a) ∧ ∃ b, maxAt ix i = some b := by
  rw [hasNull, Bool.or_eq_false_iff] at h
  exact ⟨any_isNone_false_getD h.1 hi, any_isNone_false_getD h.2 (by rw [hlen]; exact hi)⟩

theorem orderOf_pos {xs : List Int} (h : orderOf xs > 0) : isAsc xs = true ∧ 1 < xs.length := by
  unfold orderOf at h
  by_cases hl : xs.length > 1
  · rw [if_pos hl] at h
    by_cases ha : isAsc xs = true
    · exact ⟨ha, hl⟩
    · rw [if_neg ha] at h
      by_cases hd : isDesc xs = true
      · rw [if_pos hd] at h; exact absurd h (by decide)
      · rw [if_neg hd] at h; exact absurd h (by decide)
  · rw [if_neg hl] at h; exact absurd h (by decide)

theorem boundaryOrder_one {mins maxs : List Int} (h : boundaryOrder mins maxs = 1) :
    orderOf mins > 0 ∧ orderOf maxs > 0 := by
  obtain ⟨e, hp⟩ := Stats.boundaryOrderOf_one (a := orderOf mins) (b := orderOf maxs) h
  exact ⟨hp, e ▸ hp⟩

theorem ascending_of_isAsc (zn zx : Int) (ix : Index) (hlen : ix.maxs.length = ix.mins.length)
    (hmn : isAsc (ix.mins.map (stored zn)) = true) (hmx : isAsc (ix.maxs.map (stored zx)) = true)
    (hnn : hasNull ix = false)
    (hle : ∀ i a b, i < ix.n → minAt ix i = some a → maxAt ix i = some b → a ≤ b) :
    ∃ mn mx, Ascending ix mn mx := by
  have mono : ∀ (z : Int) (l : List Bound), isAsc (l.map (stored z)) = true → ∀ i j, i ≤ j → j < l.length →
      stored z (l.getD i none) ≤ stored z (l.getD j none) := fun z l h i j hij hj => by
    have := isAsc_getD (stored z none) h hij (by rw [List.length_map]; exact hj)
    rwa [ListFacts.getD_map, ListFacts.getD_map] at this
  exact ⟨fun i => stored zn (minAt ix i), fun i => stored zx (maxAt ix i),
    { len := hlen
      mins := fun i hi => by obtain ⟨⟨x, hx⟩, _⟩ := bounds_of_hasNull hlen hnn hi; rw [hx]; rfl
      maxs := fun i hi => by obtain ⟨_, x, hx⟩ := bounds_of_hasNull hlen hnn hi; rw [hx]; rfl
      smin := fun i j hij hj => mono zn ix.mins hmn i j hij hj
      smax := fun i j hij hj => mono zx ix.maxs hmx i j hij (by rw [hlen]; exact hj)
      le := fun i hi => by
        obtain ⟨⟨x, hx⟩, y, hy⟩ := bounds_of_hasNull hlen hnn hi
        rw [hx, hy]
        exact hle i x y hi hx hy }⟩

theorem writerOrder2_one (zn zx : Int) (ix : Index) (hw : writerOrder2 zn zx ix = 1) :
    isAsc (ix.mins.map (stored zn)) = true ∧ isAsc (ix.maxs.map (stored zx)) = true ∧ 1 < ix.n := by
  obtain ⟨hmn, hmx⟩ := boundaryOrder_one hw
  have hn := (orderOf_pos hmn).2
  rw [List.length_map] at hn
  exact ⟨(orderOf_pos hmn).1, (orderOf_pos hmx).1, hn⟩

theorem writerOrder2_ascending (zn zx : Int) (ix : Index) (hlen : ix.maxs.length = ix.mins.length)
    (hw : writerOrder2 zn zx ix = 1) (hnn : hasNull ix = false)
    (hle : ∀ i a b, i < ix.n → minAt ix i = some a → maxAt ix i = some b → a ≤ b) :
    ∃ mn mx, Ascending ix mn mx :=
  ascending_of_isAsc zn zx ix hlen (writerOrder2_one zn zx ix hw).1 (writerOrder2_one zn zx ix hw).2.1 hnn hle

/-- `Find` with the writer's flag never misses: no hypothesis on null pages, truncation or duplicates -/
theorem find_first_writer (nf : Bool) (zn zx : Int) (ix : Index) (v : Int)
    (hlen : ix.maxs.length = ix.mins.length)
    (hle : ∀ i a b, i < ix.n → minAt ix i = some a → maxAt ix i = some b → a ≤ b) :
    IsFirst ix.n (fun i => contains nf ix i v) (find nf (writerOrder2 zn zx ix == 1) ix v) :=
  find_first nf _ ix v fun hasc hnn => writerOrder2_ascending zn zx ix hlen (beq_iff_eq.mp hasc) hnn hle

end PqModel.Search
