import PqModel.SortCmp
import PqModel.Basics

/-! # C10 model — `repeatedColumnBuffer` (`column_buffer_repeated.go`)

MIRROR: rows are `(offset, baseOffset)` pairs into the level arrays and the base column
(`offsetMapping`), a row's extent is found by scanning the repetition levels
(`repeatedRowLength`), `Swap` exchanges the pairs only, `Less` (as repaired, F23) walks the two rows
value by value, `Page()` rewrites the rows in row order into a fresh buffer.
The two parallel level arrays (`repetitionLevels`, `definitionLevels`, always appended in lock
step) are one list of pairs `lv`. SPEC: `view`, `cmpList`. -/
namespace PqModel.SortBuf

/-- a value of a repeated column inside a row: repetition level, definition level, value -/
abbrev RCell (V : Type) := Nat × Nat × Option V

structure RepCol (V : Type) where
  base : List V                 -- the non-null values
  rows : List (Nat × Nat)       -- `offsetMapping{offset, baseOffset}`
  lv : List (Nat × Nat)         -- (repetition level, definition level) per value slot
  reordered : Bool := false
deriving DecidableEq

def RepCol.empty {V : Type} : RepCol V := { base := [], rows := [], lv := [] }

/-- MIRROR `column_buffer_repeated.go:449-460` `repeatedRowLength(levels[off:])` together with the
    slice `levels[off : off+length]`: the slot at `off` and the following slots up to (excluding)
    the next repetition level 0 -/
def seg (lv : List (Nat × Nat)) (off : Nat) : List (Nat × Nat) :=
  match lv.drop off with
  | [] => []
  | hd :: tl => hd :: tl.takeWhile (fun p => p.1 != 0)

/-- the cells of a row: walk its level slots, taking the next base value for every slot whose
    definition level is the maximum (`column_buffer_repeated.go:122-147`, `185-204`) -/
def cells {V : Type} (m : Nat) (base : List V) : List (Nat × Nat) → Nat → List (RCell V)
  | [], _ => []
  | (r, d) :: tl, x => if d = m then (r, d, base[x]?) :: cells m base tl (x + 1) else (r, d, none) :: cells m base tl x

/-- SPEC: the rows the buffer holds, in row order -/
def RepCol.rowView {V : Type} (m : Nat) (c : RepCol V) (p : Nat × Nat) : List (RCell V) :=
  cells m c.base (seg c.lv p.1) p.2

def RepCol.view {V : Type} (m : Nat) (c : RepCol V) : List (List (RCell V)) := c.rows.map (c.rowView m)

/-- a row as the writer receives it: non-empty, starts a record (repetition level 0), continues it
    (levels ≠ 0), and a slot holds a value iff its definition level is the maximum -/
def RowWF {V : Type} (m : Nat) : List (RCell V) → Prop
  | [] => False
  | (r, d, v) :: tl => r = 0 ∧ (d = m ↔ v.isSome) ∧ ∀ c ∈ tl, c.1 ≠ 0 ∧ (c.2.1 = m ↔ c.2.2.isSome)

/-- MIRROR `column_buffer_repeated.go:264-293` `writeRow` (and `writeValues`/`writeLevel` 295-333):
    a new `offsetMapping{len(levels), base.NumValues()}`, the levels of every slot, the non-null
    values to the base column -/
def RepCol.writeRow {V : Type} (c : RepCol V) (row : List (RCell V)) : RepCol V :=
  { c with rows := c.rows ++ [(c.lv.length, c.base.length)],
           lv := c.lv ++ row.map (fun x => (x.1, x.2.1)),
           base := c.base ++ row.filterMap (fun x => x.2.2) }

/-- MIRROR `column_buffer_repeated.go:221-230` `Swap` -/
def RepCol.swap {V : Type} (c : RepCol V) (i j : Nat) : RepCol V :=
  { c with rows := swapL c.rows i j, reordered := true }

/-- MIRROR `column_buffer_repeated.go:101-153` `Page()`: when reordered, every row in row order is
    read (`ReadValuesAt(buffer[:numValues], baseOffset)`) and written to the spare buffer, which then
    replaces the column's arrays -/
def RepCol.page {V : Type} (m : Nat) (c : RepCol V) : RepCol V :=
  if c.reordered then
    c.rows.foldl (fun (acc : RepCol V) p =>
      let s := seg c.lv p.1
      let numValues := (s.filter (fun q => q.2 == m)).length
      { acc with rows := acc.rows ++ [(acc.lv.length, acc.base.length)],
                 lv := acc.lv ++ s,
                 base := acc.base ++ (c.base.drop p.2).take numValues })
      { base := [], rows := [], lv := [], reordered := false }
  else c

/-- the invariant: every row mapping points at a well-formed row -/
def RepCol.RInv {V : Type} (m : Nat) (c : RepCol V) : Prop :=
  ∀ p ∈ c.rows, p.1 < c.lv.length ∧ RowWF m (c.rowView m p)

theorem takeWhile_append_stop {α : Type} (p : α → Bool) (tl nw : List α) (hn : ∀ hd ∈ nw.head?, p hd = false) :
    (tl ++ nw).takeWhile p = tl.takeWhile p := by
  induction tl with
  | nil =>
    cases nw with
    | nil => rfl
    | cons b bs => simp [hn b (by simp)]
  | cons a as ih =>
    simp only [List.cons_append, List.takeWhile_cons]
    split
    · rw [ih]
    · rfl

theorem takeWhile_all {α : Type} (p : α → Bool) : ∀ (l : List α), (∀ x ∈ l, p x = true) → l.takeWhile p = l :=
  fun _ h => by simpa using List.takeWhile_append_of_pos (l₂ := []) h

theorem seg_append_old (lv nw : List (Nat × Nat)) {off : Nat} (h : off < lv.length)
    (hn : ∀ hd ∈ nw.head?, hd.1 = 0) : seg (lv ++ nw) off = seg lv off := by
  unfold seg
  rw [List.drop_append_of_le_length (by omega)]
  cases hl : lv.drop off with
  | nil =>
    have := congrArg List.length hl
    simp at this; omega
  | cons a tl =>
    simp only [List.cons_append]
    congr 1
    exact takeWhile_append_stop _ tl nw (by intro hd hh; simp [hn hd hh])

theorem seg_append_new (lv : List (Nat × Nat)) (a : Nat × Nat) (tl : List (Nat × Nat)) (ht : ∀ q ∈ tl, q.1 ≠ 0) :
    seg (lv ++ a :: tl) lv.length = a :: tl := by
  unfold seg
  rw [List.drop_left]
  simp only
  congr 1
  exact takeWhile_all _ tl (by intro q hq; simpa using ht q hq)

theorem cells_cons {V : Type} (m : Nat) (base : List V) (r d : Nat) (tl : List (Nat × Nat)) (x : Nat) :
    cells m base ((r, d) :: tl) x =
      (r, d, if d = m then base[x]? else none) :: cells m base tl (if d = m then x + 1 else x) := by
  simp only [cells]
  split <;> rfl

theorem slot_lt {V : Type} {m d x : Nat} {base : List V}
    (h : d = m → (if d = m then base[x]? else none).isSome) (hd : d = m) : x < base.length := by
  have := h hd
  rwa [if_pos hd, isSome_getElem?] at this

theorem cells_append_base {V : Type} (m : Nat) (base ext : List V) : ∀ (s : List (Nat × Nat)) (x : Nat),
    (∀ c ∈ cells m base s x, c.2.1 = m → c.2.2.isSome) → cells m (base ++ ext) s x = cells m base s x
  | [], _, _ => rfl
  | (r, d) :: tl, x, h => by
    simp only [cells_cons, List.forall_mem_cons] at h ⊢
    obtain ⟨h0, ht⟩ := h
    rw [cells_append_base m base ext tl _ ht]
    by_cases hd : d = m
    · simp only [if_pos hd, List.getElem?_append_left (slot_lt h0 hd)]
    · simp only [if_neg hd]

theorem cells_written {V : Type} (m : Nat) : ∀ (row : List (RCell V)) (pre : List V),
    (∀ c ∈ row, (c.2.1 = m ↔ c.2.2.isSome)) →
    cells m (pre ++ row.filterMap (fun x => x.2.2)) (row.map (fun x => (x.1, x.2.1))) pre.length = row
  | [], _, _ => rfl
  | (r, d, v) :: tl, pre, h => by
    have h0 := h (r, d, v) (by simp)
    simp only at h0
    simp only [List.map_cons, cells, List.filterMap_cons]
    by_cases hd : d = m
    · obtain ⟨w, rfl⟩ := Option.isSome_iff_exists.mp (h0.mp hd)
      simp only [hd, if_true]
      have ih := cells_written m tl (pre ++ [w]) (fun c hc => h c (by simp [hc]))
      simp only [List.append_assoc, List.singleton_append, List.length_append, List.length_singleton] at ih
      rw [ih]
      simp
    · have hv : v = none := by
        cases v with
        | none => rfl
        | some w => exact absurd (h0.mpr rfl) hd
      subst hv
      simp only [hd, if_false]
      rw [cells_written m tl pre (fun c hc => h c (by simp [hc]))]

theorem RowWF.cells_ok {V : Type} {m : Nat} : ∀ {row : List (RCell V)}, RowWF m row → ∀ c ∈ row, (c.2.1 = m ↔ c.2.2.isSome)
  | (r, d, v) :: tl, h, c, hc => by
    rcases List.mem_cons.mp hc with rfl | hc
    · exact h.2.1
    · exact (h.2.2 c hc).2

theorem RowWF.some_of_max {V : Type} {m : Nat} {row : List (RCell V)} (h : RowWF m row) :
    ∀ c ∈ row, c.2.1 = m → c.2.2.isSome :=
  fun c hc => (h.cells_ok c hc).mp

theorem RepCol.view_writeRow {V : Type} {m : Nat} {c : RepCol V} (h : c.RInv m) {row : List (RCell V)} (hw : RowWF m row) :
    (c.writeRow row).view m = c.view m ++ [row] ∧ (c.writeRow row).RInv m := by
  obtain ⟨⟨r, d, v⟩, tl, rfl⟩ : ∃ a tl, row = a :: tl := by
    cases row with
    | nil => exact absurd hw (by simp [RowWF])
    | cons a tl => exact ⟨a, tl, rfl⟩
  have hr : r = 0 := hw.1
  have hnew : ∀ hd ∈ (List.map (fun x : RCell V => (x.1, x.2.1)) ((r, d, v) :: tl)).head?, hd.1 = 0 := by
    intro hd hh; simp at hh; subst hh; exact hr
  have hold : ∀ p ∈ c.rows, (c.writeRow ((r, d, v) :: tl)).rowView m p = c.rowView m p := by
    intro p hp
    obtain ⟨hlt, hwf⟩ := h p hp
    simp only [RepCol.rowView, RepCol.writeRow]
    rw [seg_append_old _ _ hlt hnew]
    exact cells_append_base m _ _ _ _ hwf.some_of_max
  have hlast : (c.writeRow ((r, d, v) :: tl)).rowView m (c.lv.length, c.base.length) = (r, d, v) :: tl := by
    simp only [RepCol.rowView, RepCol.writeRow, List.map_cons]
    rw [seg_append_new _ _ _ (by
      intro q hq
      obtain ⟨x, hx, rfl⟩ := List.mem_map.mp hq
      exact (hw.2.2 x hx).1)]
    have := cells_written m ((r, d, v) :: tl) c.base (RowWF.cells_ok hw)
    simpa using this
  constructor
  · show (c.rows ++ [(c.lv.length, c.base.length)]).map _ = c.rows.map (c.rowView m) ++ [_]
    rw [List.map_append, List.map_cons, List.map_nil, hlast, List.map_congr_left hold]
  · intro p hp
    have hlen : (c.writeRow ((r, d, v) :: tl)).lv.length = c.lv.length + (tl.length + 1) := by
      simp [RepCol.writeRow]
    rcases List.mem_append.mp (show p ∈ c.rows ++ [(c.lv.length, c.base.length)] from hp) with hp | hp
    · rw [hold p hp]
      exact ⟨by rw [hlen]; have := (h p hp).1; omega, (h p hp).2⟩
    · cases List.mem_singleton.mp hp
      rw [hlast]
      exact ⟨by rw [hlen]; omega, hw⟩

theorem RepCol.RInv.empty {V : Type} (m : Nat) : (RepCol.empty : RepCol V).RInv m := by
  intro p hp; simp [RepCol.empty] at hp

theorem RepCol.view_swap {V : Type} (m : Nat) (c : RepCol V) (i j : Nat) : (c.swap i j).view m = swapL (c.view m) i j := by
  simp only [RepCol.view, RepCol.swap]
  rw [← map_swapL]
  rfl

theorem RepCol.RInv.swap {V : Type} {m : Nat} {c : RepCol V} (h : c.RInv m) (i j : Nat) : (c.swap i j).RInv m := by
  intro p hp
  have hp' : p ∈ c.rows := (swapL_perm c.rows i j).mem_iff.mp hp
  exact h p hp'

theorem cells_levels {V : Type} (m : Nat) (base : List V) : ∀ (s : List (Nat × Nat)) (x : Nat),
    (cells m base s x).map (fun c => (c.1, c.2.1)) = s
  | [], _ => rfl
  | (r, d) :: tl, x => by
    simp only [cells]
    split <;> simp [cells_levels m base tl]

theorem cells_values {V : Type} (m : Nat) (base : List V) (s : List (Nat × Nat)) (x : Nat)
    (h : ∀ c ∈ cells m base s x, c.2.1 = m → c.2.2.isSome) :
    (cells m base s x).filterMap (fun c => c.2.2) = (base.drop x).take (s.filter (fun q => q.2 == m)).length := by
  fun_induction cells m base s x with
  | case1 => simp
  | case2 r tl x ih =>
    obtain ⟨h0, ht⟩ := List.forall_mem_cons.mp h
    have hx : x < base.length := by simpa [isSome_getElem?] using h0 rfl
    rw [List.filterMap_cons, List.filter_cons, ih ht]
    simp only [beq_self_eq_true, if_true, List.length_cons, List.getElem?_eq_getElem hx]
    rw [List.drop_eq_getElem_cons hx, List.take_succ_cons]
  | case3 r d tl x hd ih =>
    have : (d == m) = false := by simpa using hd
    rw [List.filterMap_cons, List.filter_cons, ih (List.forall_mem_cons.mp h).2]
    simp only [this, Bool.false_eq_true, if_false]

/-- one step of `Page()` is `writeRow` of the row's view -/
theorem page_step {V : Type} {m : Nat} {c : RepCol V} (acc : RepCol V) {p : Nat × Nat} (hw : RowWF m (c.rowView m p)) :
    ({ acc with rows := acc.rows ++ [(acc.lv.length, acc.base.length)],
                lv := acc.lv ++ seg c.lv p.1,
                base := acc.base ++ (c.base.drop p.2).take ((seg c.lv p.1).filter (fun q => q.2 == m)).length } : RepCol V)
      = acc.writeRow (c.rowView m p) := by
  simp only [RepCol.writeRow, RepCol.rowView]
  rw [cells_levels, cells_values m c.base _ _ hw.some_of_max]

theorem foldl_writeRow {V : Type} {m : Nat} : ∀ (rows : List (List (RCell V))) (acc : RepCol V), acc.RInv m →
    (∀ r ∈ rows, RowWF m r) →
    let c' := rows.foldl (fun a r => a.writeRow r) acc
    c'.RInv m ∧ c'.view m = acc.view m ++ rows ∧ c'.reordered = acc.reordered ∧
    c'.lv = acc.lv ++ rows.flatten.map (fun x => (x.1, x.2.1)) ∧
    c'.base = acc.base ++ rows.flatten.filterMap (fun x => x.2.2)
  | [], acc, h, _ => by simp [h]
  | r :: rs, acc, h, hw => by
    obtain ⟨v1, i1⟩ := RepCol.view_writeRow h (hw r (by simp))
    obtain ⟨a, b, c, d, e⟩ := foldl_writeRow rs (acc.writeRow r) i1 (fun x hx => hw x (by simp [hx]))
    simp only [List.foldl_cons]
    refine ⟨a, ?_, ?_, ?_, ?_⟩
    · rw [b, v1]; simp
    · rw [c]; rfl
    · rw [d]; simp [RepCol.writeRow]
    · rw [e]; simp [RepCol.writeRow]

theorem RepCol.page_spec {V : Type} {m : Nat} {c : RepCol V} (h : c.RInv m) :
    (c.page m).RInv m ∧ (c.page m).view m = c.view m ∧ (c.page m).reordered = false ∧
    (c.reordered = true →
      (c.page m).lv = (c.view m).flatten.map (fun x => (x.1, x.2.1)) ∧
      (c.page m).base = (c.view m).flatten.filterMap (fun x => x.2.2)) := by
  by_cases hr : c.reordered = true
  · have hpage : c.page m = (c.rows.map (c.rowView m)).foldl (fun a r => a.writeRow r)
        { base := [], rows := [], lv := [], reordered := false } := by
      simp only [RepCol.page, hr, if_true, List.foldl_map]
      exact foldl_sim (R := fun (a b : RepCol V) => a = b) (fun a _ p hp e => e ▸ page_step a (h p hp).2) rfl
    have hwf : ∀ r ∈ c.rows.map (c.rowView m), RowWF m r := by
      intro r hr'
      obtain ⟨p, hp, rfl⟩ := List.mem_map.mp hr'
      exact (h p hp).2
    obtain ⟨a, b, c', d, e⟩ := foldl_writeRow (m := m) (c.rows.map (c.rowView m))
      { base := [], rows := [], lv := [], reordered := false } (by intro p hp; simp at hp) hwf
    rw [hpage]
    refine ⟨a, ?_, c', fun _ => ⟨?_, ?_⟩⟩
    · rw [b]; simp [RepCol.view]
    · rw [d]; simp [RepCol.view]
    · rw [e]; simp [RepCol.view]
  · have hr' : c.reordered = false := by simpa using hr
    have hpage : c.page m = c := by simp [RepCol.page, hr']
    rw [hpage]
    exact ⟨h, rfl, hr', fun e => absurd e hr⟩


/-- the null ordering `Buffer.configure` gives the column (see `Col.less`), on base indexes -/
def nullOrd {V : Type} (lt : V → V → Bool) (desc nullsFirst : Bool) (base : List V) (m d1 d2 : Nat) (x y : Nat) : Bool :=
  let less := fun (i j : Int) => if desc then baseLess lt base j i else baseLess lt base i j
  if nullsFirst then nullsGoFirst less m d1 d2 x y else nullsGoLast less m d1 d2 x y

/-- MIRROR `column_buffer_repeated.go:187-219` `Less` (as repaired, F23): slot by slot over the
    common length, `x`/`y` advancing past every non-null value; then the shorter row first -/
def lessWalk {V : Type} (lt : V → V → Bool) (desc nullsFirst : Bool) (base : List V) (m : Nat) :
    List (Nat × Nat) → List (Nat × Nat) → Nat → Nat → Bool
  | [], l2, _, _ => decide (0 < l2.length)
  | _ :: _, [], _, _ => false
  | (_, d1) :: t1, (_, d2) :: t2, x, y =>
    if nullOrd lt desc nullsFirst base m d1 d2 x y then true
    else if nullOrd lt desc nullsFirst base m d2 d1 y x then false
    else lessWalk lt desc nullsFirst base m t1 t2 (if d1 = m then x + 1 else x) (if d2 = m then y + 1 else y)

/-- MIRROR as found (F23): `x := int(row1.baseOffset); y := int(row2.baseOffset)` inside the loop -/
def lessWalkF23 {V : Type} (lt : V → V → Bool) (desc nullsFirst : Bool) (base : List V) (m : Nat) :
    List (Nat × Nat) → List (Nat × Nat) → Nat → Nat → Bool
  | [], l2, _, _ => decide (0 < l2.length)
  | _ :: _, [], _, _ => false
  | (_, d1) :: t1, (_, d2) :: t2, x, y =>
    if nullOrd lt desc nullsFirst base m d1 d2 x y then true
    else if nullOrd lt desc nullsFirst base m d2 d1 y x then false
    else lessWalkF23 lt desc nullsFirst base m t1 t2 x y

def RepCol.less {V : Type} (lt : V → V → Bool) (desc nullsFirst : Bool) (m : Nat) (c : RepCol V) (i j : Nat) : Bool :=
  match c.rows[i]?, c.rows[j]? with
  | some p, some q => lessWalk lt desc nullsFirst c.base m (seg c.lv p.1) (seg c.lv q.1) p.2 q.2
  | _, _ => false

def RepCol.lessF23 {V : Type} (lt : V → V → Bool) (desc nullsFirst : Bool) (m : Nat) (c : RepCol V) (i j : Nat) : Bool :=
  match c.rows[i]?, c.rows[j]? with
  | some p, some q => lessWalkF23 lt desc nullsFirst c.base m (seg c.lv p.1) (seg c.lv q.1) p.2 q.2
  | _, _ => false

/-- MIRROR `compare.go:478-499`: the values of one sorting column in two rows are compared
    position by position; if one list is a proper prefix of the other it sorts first -/
def cmpList {V : Type} (c : Option V → Option V → Int) : List (Option V) → List (Option V) → Int
  | [], [] => 0
  | [], _ :: _ => -1
  | _ :: _, [] => 1
  | a :: as, b :: bs => if c a b ≠ 0 then c a b else cmpList c as bs

/-- the key of row `k`: the values (null = `none`) of its slots -/
def RepCol.key {V : Type} (m : Nat) (c : RepCol V) (k : Nat) : List (Option V) :=
  match c.rows[k]? with
  | some p => (c.rowView m p).map (fun x => x.2.2)
  | none => []

/-- one slot of the walk: `nullsGo_agrees` with the base indexes of the repeated buffer (naturals) -/
theorem nullOrd_agrees {V : Type} (o : VOrd V) (sc : SortCol) (base : List V) (m d1 d2 x y : Nat)
    (h1 : d1 = m → (if d1 = m then base[x]? else none).isSome) (h2 : d2 = m → (if d2 = m then base[y]? else none).isSome) :
    nullOrd o.lt sc.desc sc.nullsFirst base m d1 d2 x y = true ↔
      cmpCell o.cmp sc (if d1 = m then base[x]? else none) (if d2 = m then base[y]? else none) < 0 := by
  have hs : ∀ {d x : Nat}, (d = m → (if d = m then base[x]? else none).isSome) →
      (d = m ↔ (if d = m then base[x]? else none).isSome) :=
    fun h => ⟨h, fun hv => Decidable.byContradiction fun hd => by rw [if_neg hd] at hv; exact absurd hv Bool.false_ne_true⟩
  exact nullsGo_agrees o sc base (hs h1) (hs h2) (fun e => by rw [if_pos e, Int.toNat_natCast])
    (fun e => by rw [if_pos e, Int.toNat_natCast])

theorem lessWalk_agrees {V : Type} (o : VOrd V) (sc : SortCol) (base : List V) (m : Nat) :
    ∀ (s1 s2 : List (Nat × Nat)) (x y : Nat),
    (∀ c ∈ cells m base s1 x, c.2.1 = m → c.2.2.isSome) → (∀ c ∈ cells m base s2 y, c.2.1 = m → c.2.2.isSome) →
    (lessWalk o.lt sc.desc sc.nullsFirst base m s1 s2 x y = true ↔
      cmpList (cmpCell o.cmp sc) ((cells m base s1 x).map (fun c => c.2.2)) ((cells m base s2 y).map (fun c => c.2.2)) < 0)
  | [], [], _, _, _, _ => by simp [lessWalk, cells, cmpList]
  | [], (r, d) :: t, _, _, _, _ => by
    rw [cells_cons]
    simp [lessWalk, cells, cmpList]
  | (r, d) :: t, [], _, _, _, _ => by
    rw [cells_cons]
    simp [lessWalk, cells, cmpList]
  | (r1, d1) :: t1, (r2, d2) :: t2, x, y, h1, h2 => by
    simp only [cells_cons, List.forall_mem_cons] at h1 h2 ⊢
    obtain ⟨hv1, ht1⟩ := h1
    obtain ⟨hv2, ht2⟩ := h2
    have a1 := nullOrd_agrees o sc base m d1 d2 x y hv1 hv2
    have a2 := nullOrd_agrees o sc base m d2 d1 y x hv2 hv1
    rw [cmpCell_anti o.anti sc] at a2
    simp only [lessWalk, List.map_cons, cmpList]
    exact lex_lt_iff a1 a2 (lessWalk_agrees o sc base m t1 t2 _ _ ht1 ht2)

theorem RepCol.less_agrees {V : Type} (o : VOrd V) (sc : SortCol) {m : Nat} {c : RepCol V} (h : c.RInv m)
    {i j : Nat} (hi : i < c.rows.length) (hj : j < c.rows.length) :
    c.less o.lt sc.desc sc.nullsFirst m i j = true ↔ cmpList (cmpCell o.cmp sc) (c.key m i) (c.key m j) < 0 := by
  have wi := (h _ (List.getElem_mem hi)).2
  have wj := (h _ (List.getElem_mem hj)).2
  simp only [RepCol.less, RepCol.key, List.getElem?_eq_getElem hi, List.getElem?_eq_getElem hj]
  exact lessWalk_agrees o sc c.base m _ _ _ _ wi.some_of_max wj.some_of_max


end PqModel.SortBuf
