import PqModel.Basics

namespace PqModel.Dremel

/-! # Dremel shredding and assembly (C03/C01 core)

`shredN n r k d v` (after `deconstructFuncOf*` of `row.go`; `asmN` after `reconstructFuncOf*`): `r` is the
repetition level the first triple of every column gets, `k` the number of repeated nodes above `n`, `d` the
definition level reached. The round trip rests on `Good m r k d` (per column: first levels `r` and `≥ d`, later
repetition levels `> k`): an element of a list starts exactly at a repetition level `≤ k + 1`, and since every
element leaves a triple in EVERY column, the starts in column 0 count the elements (`countElems`,
`joinSegs_col0`) — which is why `wfN` wants a leaf below every group. -/

structure Triple where
  val : Option Nat
  rep : Nat
  dfn : Nat
deriving Repr, DecidableEq

inductive Val where
  | prim (x : Nat)
  | struct (vs : List Val)
  | none
  | some (v : Val)
  | list (vs : List Val)
deriving Repr

mutual
inductive Node where
  | leaf
  | group (fs : Fields)
  | opt (n : Node)
  | rpt (n : Node)
inductive Fields where
  | nil
  | cons (n : Node) (fs : Fields)
end

abbrev Cols := List (List Triple)

def zipApp : Cols → Cols → Cols
  | a :: as, b :: bs => (a ++ b) :: zipApp as bs
  | _, _ => []

mutual
def leavesN : Node → Nat
  | .leaf => 1
  | .group fs => leavesF fs
  | .opt n => leavesN n
  | .rpt n => leavesN n
def leavesF : Fields → Nat
  | .nil => 0
  | .cons n fs => leavesN n + leavesF fs
end

mutual
def wfN : Node → Bool
  | .leaf => true
  | .group fs => wfF fs && decide (0 < leavesF fs)
  | .opt n => wfN n
  | .rpt n => wfN n
def wfF : Fields → Bool
  | .nil => true
  | .cons n fs => wfN n && wfF fs
end

mutual
def confN : Node → Val → Bool
  | .leaf, v => match v with | .prim _ => true | _ => false
  | .group fs, v => match v with | .struct vs => confF fs vs | _ => false
  | .opt n, v => match v with | .none => true | .some w => confN n w | _ => false
  | .rpt n, v => match v with | .list ws => ws.all (confN n) | _ => false
def confF : Fields → List Val → Bool
  | .nil, vs => vs.isEmpty
  | .cons n fs, vs => match vs with | v :: vs' => confN n v && confF fs vs' | [] => false
end

mutual
def absentN : Node → Nat → Nat → Cols
  | .leaf, r, d => [[⟨Option.none, r, d⟩]]
  | .group fs, r, d => absentF fs r d
  | .opt n, r, d => absentN n r d
  | .rpt n, r, d => absentN n r d
def absentF : Fields → Nat → Nat → Cols
  | .nil, _, _ => []
  | .cons n fs, r, d => absentN n r d ++ absentF fs r d
end

mutual
def shredN : Node → (rep depth dfn : Nat) → Val → Cols
  | .leaf, r, _, d, v =>
    match v with
    | .prim x => [[⟨Option.some x, r, d⟩]]
    | _ => [[⟨Option.none, r, d⟩]]
  | .group fs, r, k, d, v =>
    match v with
    | .struct vs => shredF fs r k d vs
    | _ => absentF fs r d
  | .opt n, r, k, d, v =>
    match v with
    | .some w => shredN n r k (d + 1) w
    | _ => absentN n r d
  | .rpt n, r, k, d, v =>
    match v with
    | .list (w :: ws) =>
      zipApp (shredN n r (k + 1) (d + 1) w)
        (ws.foldr (fun w acc => zipApp (shredN n (k + 1) (k + 1) (d + 1) w) acc)
          (List.replicate (leavesN n) []))
    | _ => absentN n r d
def shredF : Fields → (rep depth dfn : Nat) → List Val → Cols
  | .nil, _, _, _, _ => []
  | .cons n fs, r, k, d, vs =>
    match vs with
    | v :: vs' => shredN n r k d v ++ shredF fs r k d vs'
    | [] => absentN n r d ++ absentF fs r d
end

def firstDef : Cols → Nat
  | (t :: _) :: _ => t.dfn
  | _ => 0

def segLen (k : Nat) : List Triple → Nat
  | [] => 0
  | _ :: ts => 1 + (ts.takeWhile (fun t => decide (t.rep > k))).length

def splitHead (k : Nat) (cols : Cols) : Cols × Cols :=
  (cols.map (fun c => c.take (segLen k c)), cols.map (fun c => c.drop (segLen k c)))

def countElems (k : Nat) : Cols → Nat
  | (_ :: ts) :: _ => 1 + (ts.filter (fun t => !decide (t.rep > k))).length
  | _ => 0

def splitAll (k : Nat) : Nat → Cols → List Cols
  | 0, _ => []
  | m + 1, cols => (splitHead k cols).1 :: splitAll k m (splitHead k cols).2

mutual
def asmN : Node → (depth dfn : Nat) → Cols → Val
  | .leaf, _, _, cols =>
    match cols with
    | (t :: _) :: _ => (match t.val with | Option.some x => .prim x | Option.none => .none)
    | _ => .none
  | .group fs, k, d, cols => .struct (asmF fs k d cols)
  | .opt n, k, d, cols =>
    if firstDef cols < d + 1 then .none
    else .some (asmN n k (d + 1) cols)
  | .rpt n, k, d, cols =>
    if firstDef cols < d + 1 then .list []
    else .list ((splitAll (k + 1) (countElems (k + 1) cols) cols).map (asmN n (k + 1) (d + 1)))
def asmF : Fields → (depth dfn : Nat) → Cols → List Val
  | .nil, _, _, _ => []
  | .cons n fs, k, d, cols =>
    asmN n k d (cols.take (leavesN n)) :: asmF fs k d (cols.drop (leavesN n))
end

def GoodCol (r k d : Nat) (c : List Triple) : Prop :=
  ∃ t ts, c = t :: ts ∧ t.rep = r ∧ d ≤ t.dfn ∧ ∀ u ∈ ts, u.rep > k

def Good (m r k d : Nat) (cols : Cols) : Prop :=
  cols.length = m ∧ ∀ c ∈ cols, GoodCol r k d c

theorem good_append {m1 m2 r k d : Nat} {a b : Cols} (ha : Good m1 r k d a) (hb : Good m2 r k d b) :
    Good (m1 + m2) r k d (a ++ b) := by
  refine ⟨by simp [ha.1, hb.1], ?_⟩
  intro c hc
  rcases List.mem_append.mp hc with h | h
  · exact ha.2 c h
  · exact hb.2 c h

mutual
theorem absentN_eq (n : Node) (r d : Nat) : absentN n r d = List.replicate (leavesN n) [⟨none, r, d⟩] := by
  cases n with
  | leaf => rfl
  | group fs => simpa only [absentN, leavesN] using absentF_eq fs r d
  | opt n => simpa only [absentN, leavesN] using absentN_eq n r d
  | rpt n => simpa only [absentN, leavesN] using absentN_eq n r d
theorem absentF_eq (fs : Fields) (r d : Nat) : absentF fs r d = List.replicate (leavesF fs) [⟨none, r, d⟩] := by
  cases fs with
  | nil => rfl
  | cons n fs => rw [absentF, leavesF, absentN_eq n r d, absentF_eq fs r d, List.replicate_append_replicate]
end

theorem good_replicate (m : Nat) (o : Option Nat) (r k d : Nat) : Good m r k d (List.replicate m [⟨o, r, d⟩]) :=
  ⟨List.length_replicate, fun c hc => by
    rw [(List.mem_replicate.mp hc).2]
    exact ⟨_, [], rfl, rfl, Nat.le_refl _, fun _ h => nomatch h⟩⟩

theorem absentN_good (n : Node) (r k d : Nat) : Good (leavesN n) r k d (absentN n r d) := by
  rw [absentN_eq]; exact good_replicate ..

theorem absentF_good (fs : Fields) (r k d : Nat) : Good (leavesF fs) r k d (absentF fs r d) := by
  rw [absentF_eq]; exact good_replicate ..

theorem absentN_length (n : Node) (r d : Nat) : (absentN n r d).length = leavesN n := by
  rw [absentN_eq, List.length_replicate]

theorem absentF_length (fs : Fields) (r d : Nat) : (absentF fs r d).length = leavesF fs := by
  rw [absentF_eq, List.length_replicate]

theorem absentN_cols (n : Node) (r d : Nat) : ∀ c ∈ absentN n r d, c = [⟨Option.none, r, d⟩] := by
  rw [absentN_eq]; exact fun c hc => (List.mem_replicate.mp hc).2

theorem absentF_cols (fs : Fields) (r d : Nat) : ∀ c ∈ absentF fs r d, c = [⟨Option.none, r, d⟩] := by
  rw [absentF_eq]; exact fun c hc => (List.mem_replicate.mp hc).2

def GoodSeg (k : Nat) (a : List Triple) : Prop :=
  ∃ t ts, a = t :: ts ∧ ∀ u ∈ ts, u.rep > k

def StartsLow (k : Nat) (b : List Triple) : Prop :=
  b = [] ∨ ∃ t ts, b = t :: ts ∧ ¬ t.rep > k

theorem takeWhile_append_all {p : Triple → Bool} {ts b : List Triple}
    (h : ∀ u ∈ ts, p u = true) (hb : b = [] ∨ ∃ t r, b = t :: r ∧ p t = false) :
    (ts ++ b).takeWhile p = ts := by
  rw [List.takeWhile_append_of_pos h]
  rcases hb with rfl | ⟨t, r, rfl, ht⟩
  · simp
  · simp [ht]

theorem segLen_append {k : Nat} {a b : List Triple} (ha : GoodSeg k a) (hb : StartsLow k b) :
    segLen k (a ++ b) = a.length := by
  rcases ha with ⟨t, ts, rfl, hts⟩
  simp only [List.cons_append, segLen, List.length_cons]
  have : (ts ++ b).takeWhile (fun t => decide (t.rep > k)) = ts := by
    apply takeWhile_append_all
    · intro u hu; simpa using hts u hu
    · rcases hb with rfl | ⟨t', r, rfl, ht'⟩
      · exact Or.inl rfl
      · exact Or.inr ⟨t', r, rfl, by simpa using ht'⟩
  rw [this]; omega

inductive Pairs {α β : Type} (R : α → β → Prop) : List α → List β → Prop where
  | nil : Pairs R [] []
  | cons {a b as bs} : R a b → Pairs R as bs → Pairs R (a :: as) (b :: bs)

theorem pairs_append {α β : Type} {R : α → β → Prop} : ∀ {A A' : List α} {B B' : List β},
    Pairs R A B → Pairs R A' B' → Pairs R (A ++ A') (B ++ B')
  | _, _, _, _, .nil, h => h
  | _, _, _, _, .cons h1 h2, h => .cons h1 (pairs_append h2 h)

theorem pairs_mono {α β : Type} {R S : α → β → Prop} (hRS : ∀ a b, R a b → S a b) :
    ∀ {A : List α} {B : List β}, Pairs R A B → Pairs S A B
  | _, _, .nil => .nil
  | _, _, .cons h1 h2 => .cons (hRS _ _ h1) (pairs_mono hRS h2)

theorem pairs_length {α β : Type} {R : α → β → Prop} : ∀ {A : List α} {B : List β},
    Pairs R A B → A.length = B.length
  | _, _, .nil => rfl
  | _, _, .cons _ h2 => by simp [pairs_length h2]

theorem pairs_left {α β : Type} {R : α → β → Prop} {P : α → Prop} (h : ∀ a b, R a b → P a) :
    ∀ {A : List α} {B : List β}, Pairs R A B → ∀ a ∈ A, P a
  | _, _, .cons h1 h2, a, ha => by
    rcases List.mem_cons.mp ha with rfl | ha
    · exact h _ _ h1
    · exact pairs_left h h2 a ha

theorem splitHead_zipApp {k : Nat} {A B : Cols}
    (h : Pairs (fun a b => GoodSeg k a ∧ StartsLow k b) A B) :
    splitHead k (zipApp A B) = (A, B) := by
  induction h with
  | nil => simp [splitHead, zipApp]
  | cons hab _ ih =>
    rename_i a b as bs
    simp only [splitHead, zipApp, List.map_cons] at ih ⊢
    have hl := segLen_append hab.1 hab.2
    rw [hl]
    simp only [List.take_left', List.drop_left', Prod.mk.injEq, List.cons.injEq, true_and]
    simp only [Prod.mk.injEq] at ih
    exact ⟨by simp [ih.1], by simp [ih.2]⟩

theorem pairs_of_forall {α β : Type} {P : α → Prop} {Q : β → Prop} :
    ∀ {A : List α} {B : List β}, A.length = B.length → (∀ a ∈ A, P a) → (∀ b ∈ B, Q b) →
      Pairs (fun a b => P a ∧ Q b) A B
  | [], [], _, _, _ => Pairs.nil
  | a :: as, b :: bs, hl, ha, hb =>
    Pairs.cons ⟨ha a (by simp), hb b (by simp)⟩
      (pairs_of_forall (by simpa using hl) (fun x hx => ha x (by simp [hx])) (fun x hx => hb x (by simp [hx])))
  | [], _ :: _, hl, _, _ => by simp at hl
  | _ :: _, [], hl, _, _ => by simp at hl

def joinSegs (m : Nat) (segs : List Cols) : Cols := segs.foldr zipApp (List.replicate m [])

theorem shredN_rpt_cons (n : Node) (r k d : Nat) (w : Val) (ws : List Val) :
    shredN (.rpt n) r k d (.list (w :: ws)) =
      zipApp (shredN n r (k + 1) (d + 1) w)
        (joinSegs (leavesN n) (ws.map (shredN n (k + 1) (k + 1) (d + 1)))) := by
  simp only [shredN, joinSegs, List.foldr_map]

/-- By definition `Good m k k d`; `GoodSeg k` above keeps of `GoodCol r k d` only what the splitter reads. -/
def SegCols (m k d : Nat) (seg : Cols) : Prop :=
  seg.length = m ∧ ∀ c ∈ seg, GoodCol k k d c

theorem zipApp_eq_zipWith : ∀ (A B : Cols), zipApp A B = List.zipWith (· ++ ·) A B
  | [], _ => rfl
  | _ :: _, [] => rfl
  | a :: A, b :: B => by rw [zipApp, List.zipWith_cons_cons, zipApp_eq_zipWith A B]

theorem zipApp_length {A B : Cols} (h : A.length = B.length) : (zipApp A B).length = A.length := by
  rw [zipApp_eq_zipWith, List.length_zipWith, h, Nat.min_self]

theorem zipApp_assoc (A B C : Cols) : zipApp (zipApp A B) C = zipApp A (zipApp B C) := by
  simp only [zipApp_eq_zipWith, zipWith_append_assoc]

theorem zipApp_append {a a' b b' : Cols} (h : a.length = a'.length) :
    zipApp (a ++ b) (a' ++ b') = zipApp a a' ++ zipApp b b' := by
  simp only [zipApp_eq_zipWith, List.zipWith_append h]

theorem zipApp_take (n : Nat) (A B : Cols) : (zipApp A B).take n = zipApp (A.take n) (B.take n) := by
  simp only [zipApp_eq_zipWith, List.take_zipWith]

theorem zipApp_drop (n : Nat) (A B : Cols) : (zipApp A B).drop n = zipApp (A.drop n) (B.drop n) := by
  simp only [zipApp_eq_zipWith, List.drop_zipWith]

theorem zipApp_replicate_left (X : Cols) : zipApp (List.replicate X.length []) X = X := by
  rw [zipApp_eq_zipWith, zipWith_append_replicate_left]
  exact List.map_id' X

theorem zipApp_replicate_nil (A : Cols) : zipApp A (List.replicate A.length []) = A := by
  rw [zipApp_eq_zipWith, zipWith_append_replicate_right]
  simp only [List.append_nil, List.map_id']

theorem joinSegs_length {m : Nat} : ∀ {segs : List Cols}, (∀ s ∈ segs, s.length = m) →
    (joinSegs m segs).length = m
  | [], _ => List.length_replicate
  | s :: rest, h => by
    have hs := h s List.mem_cons_self
    have ih := joinSegs_length (segs := rest) (fun x hx => h x (List.mem_cons_of_mem _ hx))
    show (zipApp s (joinSegs m rest)).length = m
    rw [zipApp_length (by rw [hs, ih]), hs]

theorem joinSegs_append {m : Nat} : ∀ (xs ys : List Cols), (∀ s ∈ ys, s.length = m) →
    joinSegs m (xs ++ ys) = zipApp (joinSegs m xs) (joinSegs m ys)
  | [], ys, hy => by
    have h := zipApp_replicate_left (joinSegs m ys)
    rw [joinSegs_length hy] at h
    exact h.symm
  | x :: xs, ys, hy => by
    show zipApp x (joinSegs m (xs ++ ys)) = zipApp (zipApp x (joinSegs m xs)) (joinSegs m ys)
    rw [joinSegs_append xs ys hy, zipApp_assoc]

theorem joinSegs_cons (m : Nat) (s : Cols) (rest : List Cols) :
    joinSegs m (s :: rest) = zipApp s (joinSegs m rest) := rfl

theorem joinSegs_singleton {m : Nat} {A : Cols} (h : A.length = m) : joinSegs m [A] = A := by
  subst h; exact zipApp_replicate_nil A

theorem joinSegs_append_cols {α : Type} {m1 m2 : Nat} (A B : α → Cols) : ∀ (xs : List α),
    (∀ x ∈ xs, (A x).length = m1) → (∀ x ∈ xs, (B x).length = m2) →
    joinSegs (m1 + m2) (xs.map fun x => A x ++ B x) = joinSegs m1 (xs.map A) ++ joinSegs m2 (xs.map B)
  | [], _, _ => by simp [joinSegs, List.replicate_append_replicate]
  | x :: xs, hA, hB => by
    have ih := joinSegs_append_cols A B xs (fun y hy => hA y (by simp [hy])) (fun y hy => hB y (by simp [hy]))
    have hl : (joinSegs m1 (xs.map A)).length = m1 :=
      joinSegs_length (by intro s hs; rcases List.mem_map.mp hs with ⟨y, hy, rfl⟩; exact hA y (by simp [hy]))
    simp only [List.map_cons, joinSegs_cons]
    rw [ih, zipApp_append (by rw [hA x (by simp), hl])]

theorem joinSegs_one_col {α : Type} (f : α → List Triple) : ∀ (xs : List α),
    joinSegs 1 (xs.map fun x => [f x]) = [xs.flatMap f]
  | [] => by simp [joinSegs]
  | x :: xs => by
    simp only [List.map_cons, joinSegs_cons, joinSegs_one_col f xs, zipApp, List.flatMap_cons]

mutual
theorem shredN_length (n : Node) (r k d : Nat) (v : Val) : (shredN n r k d v).length = leavesN n := by
  cases n with
  | leaf => cases v <;> simp [shredN, leavesN]
  | group fs =>
    cases v with
    | struct vs => simpa [shredN, leavesN] using shredF_length fs r k d vs
    | _ => simpa [shredN, leavesN] using absentF_length fs r d
  | opt n =>
    cases v with
    | some w => simpa [shredN, leavesN] using shredN_length n r k (d + 1) w
    | _ => simpa [shredN, leavesN] using absentN_length n r d
  | rpt n =>
    cases v with
    | list ws =>
      cases ws with
      | nil => simpa [shredN, leavesN] using absentN_length n r d
      | cons w ws =>
        have hjoin : (joinSegs (leavesN n) (ws.map (shredN n (k + 1) (k + 1) (d + 1)))).length = leavesN n :=
          joinSegs_length fun s hs => by
            obtain ⟨w', _, rfl⟩ := List.mem_map.mp hs
            exact shredN_length n (k + 1) (k + 1) (d + 1) w'
        rw [shredN_rpt_cons, leavesN, zipApp_length (by rw [shredN_length n r (k + 1) (d + 1) w, hjoin]),
          shredN_length n r (k + 1) (d + 1) w]
    | _ => simpa [shredN, leavesN] using absentN_length n r d
theorem shredF_length (fs : Fields) (r k d : Nat) (vs : List Val) :
    (shredF fs r k d vs).length = leavesF fs := by
  cases fs with
  | nil => simp [shredF, leavesF]
  | cons n fs =>
    cases vs with
    | nil => simp [shredF, leavesF, absentN_length, absentF_length]
    | cons v vs' => simp [shredF, leavesF, shredN_length n r k d v, shredF_length fs r k d vs']
end

theorem shredN_none (n : Node) (r k d : Nat) : shredN n r k d .none = absentN n r d := by
  cases n <;> simp [shredN, absentN]

theorem shredF_nil (fs : Fields) (r k d : Nat) : shredF fs r k d [] = absentF fs r d := by
  cases fs <;> simp [shredF, absentF]

/-! `Pairs R cols B`: column `i` is `R`-related to entry `i` of `B`; what `++` keeps, `zipApp` and `joinSegs` keep -/

theorem pairs_zipApp_of {β : Type} {R S T : List Triple → β → Prop}
    (happ : ∀ a a' b, R a b → S a' b → T (a ++ a') b) : ∀ {A A' : Cols} {B : List β},
    Pairs R A B → Pairs S A' B → Pairs T (zipApp A A') B
  | _, _, _, .nil, .nil => .nil
  | _, _, _, .cons h1 h2, .cons g1 g2 => .cons (happ _ _ _ h1 g1) (pairs_zipApp_of happ h2 g2)

theorem pairs_replicate_nil_of {β : Type} {R : List Triple → β → Prop} (hnil : ∀ b, R [] b) :
    ∀ (B : List β), Pairs R (List.replicate B.length []) B
  | [] => .nil
  | b :: bs => .cons (hnil b) (pairs_replicate_nil_of hnil bs)

theorem pairs_joinSegs_of {β : Type} {R : List Triple → β → Prop} (hnil : ∀ b, R [] b)
    (happ : ∀ a a' b, R a b → R a' b → R (a ++ a') b) {B : List β} :
    ∀ (segs : List Cols), (∀ s ∈ segs, Pairs R s B) → Pairs R (joinSegs B.length segs) B
  | [], _ => pairs_replicate_nil_of hnil B
  | s :: segs, h =>
    pairs_zipApp_of happ (h s List.mem_cons_self) (pairs_joinSegs_of hnil happ segs fun x hx => h x (List.mem_cons_of_mem _ hx))

theorem mem_zipApp : ∀ {A B : Cols} {c}, c ∈ zipApp A B → ∃ a ∈ A, ∃ b ∈ B, c = a ++ b
  | a :: as, b :: bs, c, h => by
    simp only [zipApp, List.mem_cons] at h
    rcases h with rfl | h
    · exact ⟨a, by simp, b, by simp, rfl⟩
    · rcases mem_zipApp h with ⟨a', ha', b', hb', rfl⟩
      exact ⟨a', by simp [ha'], b', by simp [hb'], rfl⟩
  | [], _, _, h => by simp [zipApp] at h
  | _ :: _, [], _, h => by simp [zipApp] at h

theorem ne_zipApp {A B : Cols} (ha : ∀ c ∈ A, c ≠ []) : ∀ c ∈ zipApp A B, c ≠ [] := by
  intro c hc
  obtain ⟨a, ha', b, _, rfl⟩ := mem_zipApp hc
  exact fun h => ha a ha' (List.append_eq_nil_iff.mp h).1

/-- `shredN` lays out a repeated field as this fold; `C` converts blocks of `m` columns into blocks of `m'`
    (`f w`, `f' w`: the block of element `w` before and after). -/
theorem conv_fold (C : Cols → Cols) (m m' : Nat) (f f' : Val → Cols)
    (hlin : ∀ X Y, X.length = m → Y.length = m → (∀ c ∈ X, c ≠ []) → (∀ c ∈ Y, c ≠ []) →
      C (zipApp X Y) = zipApp (C X) (C Y))
    (hlen : ∀ X, (C X).length = m') :
    ∀ (ws : List Val), (∀ w ∈ ws, (f w).length = m ∧ (∀ c ∈ f w, c ≠ []) ∧ C (f w) = f' w) →
      ∀ (A : Cols), A.length = m → (∀ c ∈ A, c ≠ []) →
      C (zipApp A (ws.foldr (fun w acc => zipApp (f w) acc) (List.replicate m []))) =
        zipApp (C A) (ws.foldr (fun w acc => zipApp (f' w) acc) (List.replicate m' []))
  | [], _, A, hA, _ => by
    subst hA
    have h := hlen A
    subst h
    simp only [List.foldr_nil, zipApp_replicate_nil]
  | w :: ws, hf, A, hA, nA => by
    obtain ⟨hwl, hwn, hwc⟩ := hf w (by simp)
    simp only [List.foldr_cons]
    rw [← zipApp_assoc, conv_fold C m m' f f' hlin hlen ws (fun x hx => hf x (by simp [hx])) (zipApp A (f w))
      (by rw [zipApp_length (by rw [hA, hwl]), hA]) (ne_zipApp nA),
      hlin A (f w) hA hwl nA hwn, hwc, zipApp_assoc]

theorem goodCol_goodSeg {r k d c} (h : GoodCol r k d c) : GoodSeg k c := by
  rcases h with ⟨t, ts, rfl, _, _, hts⟩; exact ⟨t, ts, rfl, hts⟩

theorem joinSegs_startsLow {m k d : Nat} : ∀ {segs : List Cols}, (∀ s ∈ segs, SegCols m k d s) →
    ∀ c ∈ joinSegs m segs, StartsLow k c
  | [], _ => by
    intro c hc
    simp [joinSegs] at hc
    exact Or.inl hc.2
  | s :: rest, h => by
    intro c hc
    have hc' : c ∈ zipApp s (joinSegs m rest) := hc
    rcases mem_zipApp hc' with ⟨a, ha, b, _, rfl⟩
    rcases (h s (by simp)).2 a ha with ⟨t, ts, rfl, hr, _, _⟩
    exact Or.inr ⟨t, ts ++ b, rfl, by omega⟩

theorem splitAll_join {m k d : Nat} : ∀ {segs : List Cols} {A : Cols}, A.length = m →
    (∀ c ∈ A, GoodSeg k c) → (∀ s ∈ segs, SegCols m k d s) →
    splitAll k (segs.length + 1) (zipApp A (joinSegs m segs)) = A :: segs
  | [], A, hA, hg, _ => by
    have := splitHead_zipApp (pairs_of_forall (by rw [hA, joinSegs_length (segs := []) (by simp)]) hg
      (joinSegs_startsLow (m := m) (k := k) (d := d) (segs := []) (by simp)))
    simp [splitAll, this]
  | s :: rest, A, hA, hg, h => by
    have := splitHead_zipApp (pairs_of_forall (by rw [hA, joinSegs_length fun x hx => (h x hx).1]) hg
      (joinSegs_startsLow h))
    have hs := h s (by simp)
    have ih := splitAll_join (segs := rest) (A := s) hs.1
      (fun c hc => goodCol_goodSeg (hs.2 c hc)) (fun x hx => h x (by simp [hx]))
    have hj : joinSegs m (s :: rest) = zipApp s (joinSegs m rest) := rfl
    rw [List.length_cons]
    show (splitHead k (zipApp A (joinSegs m (s :: rest)))).1 ::
      splitAll k (rest.length + 1) (splitHead k (zipApp A (joinSegs m (s :: rest)))).2 = A :: s :: rest
    rw [this]
    show A :: splitAll k (rest.length + 1) (joinSegs m (s :: rest)) = _
    rw [hj, ih]

def lowCount (k : Nat) (c : List Triple) : Nat := (c.filter (fun t => !decide (t.rep > k))).length

theorem lowCount_append (k : Nat) (a b : List Triple) : lowCount k (a ++ b) = lowCount k a + lowCount k b := by
  simp [lowCount, List.filter_append]

theorem lowCount_high {k : Nat} {ts : List Triple} (h : ∀ u ∈ ts, u.rep > k) : lowCount k ts = 0 := by
  rw [lowCount, List.length_eq_zero_iff, List.filter_eq_nil_iff]
  intro u hu
  simpa using h u hu

theorem joinSegs_col0 {m k d : Nat} (hm : 0 < m) : ∀ {segs : List Cols}, (∀ s ∈ segs, SegCols m k d s) →
    ∃ j0 J, joinSegs m segs = j0 :: J ∧ lowCount k j0 = segs.length
  | [], _ => by
    cases m with
    | zero => omega
    | succ m' => exact ⟨[], List.replicate m' [], by simp [joinSegs, List.replicate_succ], rfl⟩
  | s :: rest, h => by
    have hs := h s (by simp)
    rcases joinSegs_col0 hm (segs := rest) (fun x hx => h x (by simp [hx])) with ⟨j0, J, hj, hc⟩
    cases s with
    | nil => have := hs.1; simp at this; omega
    | cons s0 s' =>
      rcases hs.2 s0 (by simp) with ⟨t, ts, rfl, hr, _, hts⟩
      refine ⟨(t :: ts) ++ j0, zipApp s' J, ?_, ?_⟩
      · show zipApp ((t :: ts) :: s') (joinSegs m rest) = _
        rw [hj]; rfl
      · -- a segment adds exactly one low repetition level to column 0: its head
        rw [lowCount_append, hc]
        have h1 : lowCount k (t :: ts) = 1 := by
          have h0 := lowCount_high hts
          have : lowCount k (t :: ts) = lowCount k [t] + lowCount k ts := lowCount_append k [t] ts
          rw [this, h0]; simp [lowCount, hr]
        rw [h1]; simp; omega

theorem countElems_join {m k d : Nat} (hm : 0 < m) {segs : List Cols} {A : Cols} (hA : A.length = m)
    (hg : ∀ c ∈ A, GoodSeg k c) (h : ∀ s ∈ segs, SegCols m k d s) :
    countElems k (zipApp A (joinSegs m segs)) = segs.length + 1 := by
  rcases joinSegs_col0 hm h with ⟨j0, J, hj, hc⟩
  cases A with
  | nil => simp at hA; omega
  | cons a0 A' =>
    rcases hg a0 (by simp) with ⟨t, ts, rfl, hts⟩
    rw [hj]
    show 1 + lowCount k (ts ++ j0) = _
    rw [lowCount_append, lowCount_high hts, hc]; omega

theorem wf_leaves_posN (n : Node) (h : wfN n = true) : 0 < leavesN n := by
  cases n with
  | leaf => simp [leavesN]
  | group fs => simp [wfN] at h; simpa [leavesN] using h.2
  | opt n => simp [wfN] at h; simpa [leavesN] using wf_leaves_posN n h
  | rpt n => simp [wfN] at h; simpa [leavesN] using wf_leaves_posN n h

theorem confN_leaf {v : Val} (h : confN .leaf v = true) : ∃ x, v = .prim x := by
  cases v <;> simp [confN] at h
  exact ⟨_, rfl⟩

theorem confN_group {fs : Fields} {v : Val} (h : confN (.group fs) v = true) :
    ∃ vs, v = .struct vs ∧ confF fs vs = true := by
  cases v <;> simp [confN] at h
  exact ⟨_, rfl, h⟩

theorem confN_opt {n : Node} {v : Val} (h : confN (.opt n) v = true) :
    v = .none ∨ ∃ w, v = .some w ∧ confN n w = true := by
  cases v <;> simp [confN] at h
  · exact Or.inl rfl
  · exact Or.inr ⟨_, rfl, h⟩

theorem confN_rpt {n : Node} {v : Val} (h : confN (.rpt n) v = true) :
    ∃ ws, v = .list ws ∧ ∀ w ∈ ws, confN n w = true := by
  cases v <;> simp [confN] at h
  exact ⟨_, rfl, h⟩

theorem confF_cons {n : Node} {fs : Fields} {vs : List Val} (h : confF (.cons n fs) vs = true) :
    ∃ v vs', vs = v :: vs' ∧ confN n v = true ∧ confF fs vs' = true := by
  cases vs <;> simp [confF] at h
  exact ⟨_, _, rfl, h⟩

theorem firstDef_ge {m r k d : Nat} {cols : Cols} (h : Good m r k d cols) (hm : 0 < m) : d ≤ firstDef cols := by
  cases cols with
  | nil => have := h.1; simp at this; omega
  | cons c cs =>
    rcases h.2 c (by simp) with ⟨t, ts, rfl, _, hd, _⟩
    simpa [firstDef] using hd

theorem firstDef_absent (n : Node) (r d : Nat) (hm : 0 < leavesN n) : firstDef (absentN n r d) = d := by
  rw [absentN_eq]
  cases h : leavesN n with
  | zero => omega
  | succ m => rfl

theorem joinSegs_high {m k d : Nat} : ∀ {segs : List Cols}, (∀ s ∈ segs, SegCols m (k + 1) d s) →
    ∀ c ∈ joinSegs m segs, ∀ u ∈ c, u.rep > k
  | [], _ => by
    intro c hc u hu
    simp [joinSegs] at hc
    rw [hc.2] at hu; simp at hu
  | s :: rest, h => by
    intro c hc u hu
    have hc' : c ∈ zipApp s (joinSegs m rest) := hc
    rcases mem_zipApp hc' with ⟨a, ha, b, hb, rfl⟩
    rcases List.mem_append.mp hu with hu | hu
    · rcases (h s (by simp)).2 a ha with ⟨t, ts, rfl, hr, _, hts⟩
      rcases List.mem_cons.mp hu with rfl | hu
      · omega
      · have := hts u hu; omega
    · exact joinSegs_high (segs := rest) (fun x hx => h x (by simp [hx])) b hb u hu

theorem good_mono {m r k d d' : Nat} {cols : Cols} (h : Good m r k d cols) (hd : d' ≤ d) : Good m r k d' cols :=
  ⟨h.1, fun c hc => by
    rcases h.2 c hc with ⟨t, ts, rfl, h1, h2, h3⟩
    exact ⟨t, ts, rfl, h1, by omega, h3⟩⟩

theorem good_rpt {m r k d : Nat} {A : Cols} {segs : List Cols} (hA : Good m r (k + 1) (d + 1) A)
    (hs : ∀ s ∈ segs, SegCols m (k + 1) (d + 1) s) :
    Good m r k (d + 1) (zipApp A (joinSegs m segs)) := by
  have hh := joinSegs_high hs
  refine ⟨by rw [zipApp_length (by rw [hA.1, joinSegs_length fun x hx => (hs x hx).1]), hA.1], ?_⟩
  intro c hc
  rcases mem_zipApp hc with ⟨a, ha, b, hb, rfl⟩
  rcases hA.2 a ha with ⟨t, ts, rfl, hr, hd, hts⟩
  refine ⟨t, ts ++ b, rfl, hr, hd, ?_⟩
  intro u hu
  rcases List.mem_append.mp hu with hu | hu
  · have := hts u hu; omega
  · exact hh b hb u hu

/- The two sides of the reader's test `firstDef cols < d + 1` at an optional or repeated node. -/
theorem firstDef_absent_lt (n : Node) (r d : Nat) (hm : 0 < leavesN n) : firstDef (absentN n r d) < d + 1 := by
  rw [firstDef_absent n r d hm]; exact Nat.lt_succ_self d

theorem firstDef_good_not_lt {m r k d : Nat} {cols : Cols} (h : Good m r k (d + 1) cols) (hm : 0 < m) :
    ¬ firstDef cols < d + 1 :=
  Nat.not_lt.mpr (firstDef_ge h hm)

/- `Good` and the round trip are proved together: a repeated node is cut back at boundaries only the invariant locates. -/
mutual
theorem shredN_spec (n : Node) (r k d : Nat) (v : Val) (hw : wfN n = true) (hr : r ≤ k) :
    Good (leavesN n) r k d (shredN n r k d v) ∧
      (confN n v = true → asmN n k d (shredN n r k d v) = v) := by
  cases n with
  | leaf =>
    cases v <;> exact ⟨good_replicate 1 _ r k d, by simp [confN, shredN, asmN]⟩
  | group fs =>
    have hwf : wfF fs = true := by simp [wfN] at hw; exact hw.1
    cases v with
    | struct vs =>
      have := shredF_spec fs r k d vs hwf hr
      refine ⟨by simpa only [shredN, leavesN] using this.1, ?_⟩
      intro hc
      simp only [confN] at hc
      simp [shredN, asmN, this.2 hc]
    | _ => exact ⟨by simpa only [shredN, leavesN] using absentF_good fs r k d, by simp [confN]⟩
  | opt n =>
    have hwn : wfN n = true := by simpa [wfN] using hw
    have hpos := wf_leaves_posN n hwn
    cases v with
    | some w =>
      have := shredN_spec n r k (d + 1) w hwn hr
      have e : shredN (.opt n) r k d (.some w) = shredN n r k (d + 1) w := by simp [shredN]
      refine ⟨by simpa only [e, leavesN] using good_mono this.1 (Nat.le_succ d), fun hc => ?_⟩
      rw [e, asmN, if_neg (firstDef_good_not_lt this.1 hpos), this.2 (by simpa only [confN] using hc)]
    | none =>
      have e : shredN (.opt n) r k d .none = absentN n r d := by simp [shredN]
      exact ⟨by simpa only [e, leavesN] using absentN_good n r k d, fun _ => by rw [e, asmN, if_pos (firstDef_absent_lt n r d hpos)]⟩
    | _ => exact ⟨by simpa only [shredN, leavesN] using absentN_good n r k d, by simp [confN]⟩
  | rpt n =>
    have hwn : wfN n = true := by simpa [wfN] using hw
    have hpos := wf_leaves_posN n hwn
    cases v with
    | list ws =>
      cases ws with
      | nil =>
        have e : shredN (.rpt n) r k d (.list []) = absentN n r d := by simp [shredN]
        exact ⟨by simpa only [e, leavesN] using absentN_good n r k d, fun _ => by rw [e, asmN, if_pos (firstDef_absent_lt n r d hpos)]⟩
      | cons w ws =>
        have hA := shredN_spec n r (k + 1) (d + 1) w hwn (by omega)
        have hS : ∀ s ∈ ws.map (shredN n (k + 1) (k + 1) (d + 1)), SegCols (leavesN n) (k + 1) (d + 1) s := by
          intro s hs
          rcases List.mem_map.mp hs with ⟨w', _, rfl⟩
          exact (shredN_spec n (k + 1) (k + 1) (d + 1) w' hwn (Nat.le_refl _)).1
        have hgood := good_rpt hA.1 hS
        refine ⟨by simpa only [shredN_rpt_cons, leavesN] using good_mono hgood (Nat.le_succ d), ?_⟩
        intro hc
        simp only [confN, List.all_cons, Bool.and_eq_true] at hc
        have hgs : ∀ c ∈ shredN n r (k + 1) (d + 1) w, GoodSeg (k + 1) c :=
          fun c hc => goodCol_goodSeg (hA.1.2 c hc)
        rw [shredN_rpt_cons, asmN, if_neg (firstDef_good_not_lt hgood hpos), countElems_join hpos hA.1.1 hgs hS,
          splitAll_join hA.1.1 hgs hS, List.map_cons, List.map_map, hA.2 hc.1]
        have hm : List.map (asmN n (k + 1) (d + 1) ∘ shredN n (k + 1) (k + 1) (d + 1)) ws = ws :=
          ListFacts.map_id_of fun w' hw' =>
            (shredN_spec n (k + 1) (k + 1) (d + 1) w' hwn (Nat.le_refl _)).2 (List.all_eq_true.mp hc.2 w' hw')
        rw [hm]
    | _ => exact ⟨by simpa only [shredN, leavesN] using absentN_good n r k d, by simp [confN]⟩
theorem shredF_spec (fs : Fields) (r k d : Nat) (vs : List Val) (hw : wfF fs = true) (hr : r ≤ k) :
    Good (leavesF fs) r k d (shredF fs r k d vs) ∧
      (confF fs vs = true → asmF fs k d (shredF fs r k d vs) = vs) := by
  cases fs with
  | nil =>
    refine ⟨⟨by simp [shredF, leavesF], by intro c hc; simp [shredF] at hc⟩, ?_⟩
    intro hc
    simp [confF] at hc
    simp [asmF, hc]
  | cons n fs =>
    simp only [wfF, Bool.and_eq_true] at hw
    cases vs with
    | nil =>
      refine ⟨by simpa [shredF, leavesF] using good_append (absentN_good n r k d) (absentF_good fs r k d), ?_⟩
      intro hc; simp [confF] at hc
    | cons v vs' =>
      have h1 := shredN_spec n r k d v hw.1 hr
      have h2 := shredF_spec fs r k d vs' hw.2 hr
      refine ⟨by simpa [shredF, leavesF] using good_append h1.1 h2.1, ?_⟩
      intro hc
      simp only [confF, Bool.and_eq_true] at hc
      simp only [shredF, asmF]
      rw [List.take_left' h1.1.1, List.drop_left' h1.1.1, h1.2 hc.1, h2.2 hc.2]
end

/-- C03/C01 core: re-assembling a shredded row yields the original value. -/
theorem assemble_shred (n : Node) (v : Val) (hw : wfN n = true) (hc : confN n v = true) :
    asmN n 0 0 (shredN n 0 0 0 v) = v :=
  (shredN_spec n 0 0 0 v hw (Nat.le_refl _)).2 hc

#print axioms assemble_shred

end PqModel.Dremel
