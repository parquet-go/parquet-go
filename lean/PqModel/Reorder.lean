/-! # The cyclic reorder of `optionalColumnBuffer.Page()` on index functions (C10)

`Page()` (`column_buffer_optional.go:83-128`) puts the base values in row order in place: `sortIndex[x]` says where the
value at `x` has to go, and every position is swapped with its target until it is a fixed point. Here the two loops run on
functions `Nat → _` (only indices below `n` matter); `SortBuf.lean` refines the list loops to them. The idea: a swap keeps
the (target, value) pairs together, keeps the index a permutation, makes one more fixed point and destroys none, so fuel `n`
suffices. `tr` is in namespace `SortBuf`: `swapL` of `SortBuf.lean` shares it. -/
namespace PqModel.SortBuf

def tr (i j k : Nat) : Nat := if k = i then j else if k = j then i else k

theorem tr_lt {n i j k : Nat} (hi : i < n) (hj : j < n) (hk : k < n) : tr i j k < n := by
  unfold tr
  split
  · exact hj
  · split
    · exact hi
    · exact hk

theorem tr_tr (i j k : Nat) : tr i j (tr i j k) = k := by
  unfold tr
  by_cases h1 : k = i
  · rw [if_pos h1]
    by_cases h : j = i
    · rw [if_pos h, h1, h]
    · rw [if_neg h, if_pos rfl, h1]
  · by_cases h2 : k = j
    · rw [if_neg h1, if_pos h2, if_pos rfl, h2]
    · rw [if_neg h1, if_neg h2, if_neg h1, if_neg h2]

end PqModel.SortBuf

namespace PqModel.Reorder

def swapF {α : Type} (f : Nat → α) (i j : Nat) : Nat → α :=
  fun x => if x = i then f j else if x = j then f i else f x

theorem swapF_eq {α : Type} (f : Nat → α) (i j x : Nat) : swapF f i j x = f (SortBuf.tr i j x) := by
  simp only [swapF, SortBuf.tr, apply_ite f]

structure S (V : Type) where
  key : Nat → Nat     -- sortIndex: where the value currently at x has to go
  val : Nat → V       -- base column values

def S.swap {V} (s : S V) (i j : Nat) : S V := ⟨swapF s.key i j, swapF s.val i j⟩

/-- `for j := sortIndex[i]; i != j; j = sortIndex[i] { Swap(i, j); swap sortIndex }` at position `i` (last argument);
    the first argument is fuel: swaps still allowed -/
def inner {V} : Nat → S V → Nat → S V
  | 0, s, _ => s
  | f + 1, s, i => if s.key i = i then s else inner f (s.swap i (s.key i)) i

/-- `for i := range sortIndex { … }` over `n` positions: `outer n k` runs the LAST `k` iterations, `i = n-k, …, n-1`
    (so `outer n n` is the whole loop), each inner loop with fuel `n` -/
def outer {V} (n : Nat) : Nat → S V → S V
  | 0, s => s
  | k + 1, s => outer n k (inner n s (n - (k + 1)))

def PermN (n : Nat) (key : Nat → Nat) : Prop :=
  (∀ i, i < n → key i < n) ∧ (∀ i j, i < n → j < n → key i = key j → i = j)

/-- `R` is the arrangement the (key, val) pairs describe: value at x belongs at key x -/
def Arr {V} (n : Nat) (s : S V) (R : Nat → V) : Prop := ∀ x, x < n → R (s.key x) = s.val x

theorem swap_repr {V} {n : Nat} {s : S V} {R : Nat → V} {i j : Nat} (h : Arr n s R) (hi : i < n) (hj : j < n) :
    Arr n (s.swap i j) R := by
  intro x hx
  show R (swapF s.key i j x) = swapF s.val i j x
  rw [swapF_eq, swapF_eq]
  exact h _ (SortBuf.tr_lt hi hj hx)

/-- `swapF key i j` is `key` after the transposition, an involution of `[0, n)` -/
theorem swap_perm {n : Nat} {key : Nat → Nat} {i j : Nat} (h : PermN n key) (hi : i < n) (hj : j < n) :
    PermN n (swapF key i j) := by
  refine ⟨fun x hx => by rw [swapF_eq]; exact h.1 _ (SortBuf.tr_lt hi hj hx), fun x y hx hy he => ?_⟩
  rw [swapF_eq, swapF_eq] at he
  have := congrArg (SortBuf.tr i j) (h.2 _ _ (SortBuf.tr_lt hi hj hx) (SortBuf.tr_lt hi hj hy) he)
  rwa [SortBuf.tr_tr, SortBuf.tr_tr] at this

theorem inner_perm {V : Type} {n : Nat} (f : Nat) (s : S V) (i : Nat) (hi : i < n) (hp : PermN n s.key) :
    PermN n (inner f s i).key := by
  fun_induction inner f s i with
  | case1 => exact hp
  | case2 => exact hp
  | case3 f s i he ih => exact ih hi (swap_perm hp hi (hp.1 i hi))

/-- the number of positions below `n` that are not fixed points: the variant of the inner loop -/
def nf (n : Nat) (key : Nat → Nat) : Nat := ((List.range n).filter (fun x => key x != x)).length

theorem filter_lt {p q : Nat → Bool} (l : List Nat) (hsub : ∀ x ∈ l, q x = true → p x = true)
    (hex : ∃ j ∈ l, p j = true ∧ q j = false) : (l.filter q).length < (l.filter p).length := by
  -- `filter q l` is a sublist of `filter p l`; of the same length it would be equal to it, yet `j` is in one only
  have e : l.filter q = (l.filter p).filter q := by
    rw [List.filter_filter]
    refine List.filter_congr fun x hx => ?_
    cases hq : q x
    · rfl
    · rw [hsub x hx hq]; rfl
  have hs : (l.filter q).Sublist (l.filter p) := e ▸ List.filter_sublist
  obtain ⟨j, hj, hpj, hqj⟩ := hex
  refine Nat.lt_of_le_of_ne hs.length_le fun hlen => ?_
  have hmem : j ∈ l.filter q := hs.eq_of_length hlen ▸ List.mem_filter.mpr ⟨hj, hpj⟩
  rw [List.mem_filter, hqj] at hmem
  exact absurd hmem.2 Bool.false_ne_true

theorem swap_fixed {n : Nat} {key : Nat → Nat} {i x : Nat} (h : PermN n key) (hi : i < n) (hx : x < n)
    (hne : key i ≠ i) (hfx : key x = x) : swapF key i (key i) x = x := by
  have h1 : x ≠ i := fun e => hne (e ▸ hfx)
  have h2 : x ≠ key i := fun e => h1 (h.2 x i hx hi (hfx.trans e))
  unfold swapF
  rw [if_neg h1, if_neg h2]
  exact hfx

/-- one swap fixes position `key i` and breaks no fixed point -/
theorem swap_decreases {n : Nat} {key : Nat → Nat} {i : Nat} (h : PermN n key) (hi : i < n) (hne : key i ≠ i) :
    nf n (swapF key i (key i)) < nf n key := by
  have hj := h.1 i hi
  apply filter_lt
  · intro x hx hq
    simp only [bne_iff_ne, ne_eq] at hq ⊢
    exact fun hfx => hq (swap_fixed h hi (List.mem_range.mp hx) hne hfx)
  · refine ⟨key i, List.mem_range.mpr hj, ?_, ?_⟩
    · simp only [bne_iff_ne, ne_eq]
      exact fun he => hne (h.2 (key i) i hj hi he)
    · unfold swapF
      rw [if_neg hne, if_pos rfl]
      exact bne_self_eq_false _

theorem nf_pos {n : Nat} {key : Nat → Nat} {i : Nat} (hi : i < n) (he : key i ≠ i) : 0 < nf n key :=
  List.length_pos_of_mem (a := i) (by simp [List.mem_filter, hi, he])

theorem inner_spec {V} {n : Nat} {R : Nat → V} : ∀ (f : Nat) (s : S V) (i : Nat), i < n → PermN n s.key → Arr n s R →
    nf n s.key ≤ f →
    let s' := inner f s i
    PermN n s'.key ∧ Arr n s' R ∧ s'.key i = i ∧ (∀ x, x < n → s.key x = x → s'.key x = x) ∧ nf n s'.key ≤ nf n s.key
  | f, s, i, hi, hp, hr, hf => by
    fun_induction inner f s i with
    | case1 s i =>
      have he : s.key i = i := Decidable.byContradiction fun he => by have := nf_pos hi he; omega
      exact ⟨hp, hr, he, fun _ _ h => h, Nat.le_refl _⟩
    | case2 f s i he => exact ⟨hp, hr, he, fun _ _ h => h, Nat.le_refl _⟩
    | case3 f s i he ih =>
      have hj := hp.1 i hi
      have hdec := swap_decreases hp hi he
      obtain ⟨h1, h2, h3, h4, h5⟩ := ih hi (swap_perm hp hi hj) (swap_repr hr hi hj)
        (show nf n (swapF s.key i (s.key i)) ≤ f by omega)
      exact ⟨h1, h2, h3, fun x hx hfx => h4 x hx (swap_fixed hp hi hx he hfx),
        Nat.le_trans h5 (Nat.le_of_lt hdec)⟩

#print axioms inner_spec

theorem nf_le (n : Nat) (key : Nat → Nat) : nf n key ≤ n := by
  unfold nf
  calc ((List.range n).filter _).length ≤ (List.range n).length := List.length_filter_le _ _
    _ = n := List.length_range

theorem outer_spec {V} {n : Nat} {R : Nat → V} : ∀ (k : Nat) (s : S V), k ≤ n → PermN n s.key → Arr n s R →
    (∀ x, x < n - k → s.key x = x) →
    let s' := outer n k s
    PermN n s'.key ∧ Arr n s' R ∧ ∀ x, x < n → s'.key x = x
  | 0, s, _, hp, hr, hfix => ⟨hp, hr, fun x hx => hfix x (Nat.sub_zero n ▸ hx)⟩
  | k + 1, s, hk, hp, hr, hfix => by
    have hi : n - (k + 1) < n := by omega
    have hm : n - k = n - (k + 1) + 1 := by omega
    obtain ⟨h1, h2, h3, h4, _⟩ := inner_spec (R := R) n s (n - (k + 1)) hi hp hr (nf_le n s.key)
    refine outer_spec k _ (Nat.le_of_succ_le hk) h1 h2 fun x hx => ?_
    rw [hm] at hx
    by_cases hxe : x = n - (k + 1)
    · rw [hxe]; exact h3
    · exact h4 x (Nat.lt_of_lt_of_le hx hi) (hfix x (Nat.lt_of_le_of_ne (Nat.le_of_lt_succ hx) hxe))

/-- C10 core: after the cyclic reorder the base column lists the values in row order
    (`R` is the arrangement described by the row→value index before the reorder). -/
theorem reorder_correct {V} {n : Nat} {R : Nat → V} (s : S V) (hp : PermN n s.key) (hr : Arr n s R) :
    ∀ x, x < n → (outer n n s).val x = R x := by
  obtain ⟨_, h2, h3⟩ := outer_spec (R := R) n s (Nat.le_refl n) hp hr (by intro x hx; omega)
  intro x hx
  have := h2 x hx
  rw [h3 x hx] at this
  exact this.symm

#print axioms reorder_correct

end PqModel.Reorder
