import PqModel.Plain
import PqModel.RleDecode

/-! # Go decoders of PLAIN / BYTE_STREAM_SPLIT and the dictionary-encoded column (C04, part "plain")

`PqModel/Plain.lean` holds the SPEC decoders and the MIRRORS of the Go *encoders*. This file adds

* MIRRORS of the Go *decoders* of the fixed-width PLAIN types, of PLAIN FIXED_LEN_BYTE_ARRAY and of
  BYTE_STREAM_SPLIT (the portable code), with the destination buffer as an explicit argument where
  the Go code writes into it by index;
* the read path of a dictionary-encoded column: dictionary page (PLAIN), RLE_DICTIONARY index page
  (bit-width byte + hybrid stream, `PqModel/Rle*.lean`), `newIndexedPage` (MIRROR, with the stale
  content of the recycled index buffer as an argument) and the lookup; SPEC reader of the same.

SPEC = written from Encodings.md only; MIRROR = transliteration of the Go code with `file:line`. -/
namespace PqModel.PlainDict
open PqModel.Plain

def ofOption {α : Type} : Option α → GoRes α
  | some a => .ok a
  | none => .err

/-- a Go slice index that may be out of range: the values, or a run-time panic -/
def okOrPanic {α : Type} : Option α → GoRes α
  | some a => .ok a
  | none => .panic

/-- MIRROR of `plain.Encoding.DecodeInt32/Int64/Float/Double` (encoding/plain/plain_le.go:26-52) and
    `DecodeInt96` (plain.go:69-74): `len(src) % k != 0` is an error; otherwise
    `append(dst[:0], unsafecast.Slice[T](src)...)`, i.e. element `i` is the value whose in-memory
    bytes are `src[k*i : k*i+k]` (little-endian machine). The destination is overwritten from
    index 0 by `append`, nothing of its former content can survive. `k` is 4, 8 or 12. -/
def goDecFixed (k : Nat) (src : Bytes) : GoRes (List Nat) :=
  if src.length % k ≠ 0 then .err
  else .ok ((List.range (src.length / k)).map (fun i => leVal ((src.drop (k * i)).take k)))

theorem goDecFixed_eq_spec (k : Nat) (hk : 0 < k) (src : Bytes) :
    goDecFixed k src = ofOption (specDecFixed k src) := by
  unfold goDecFixed specDecFixed specDecFixedBytes
  split
  · rename_i h
    have hk0 : ¬ k = 0 := by omega
    simp [hk0, ofOption]
  · rename_i h
    have hk0 : ¬ k = 0 := by omega
    simp [hk0, ofOption, chunks_eq_range, List.map_map, Function.comp_def]

/-- MIRROR of `plain.Encoding.DecodeFixedLenByteArray` (plain.go:96-104): a negative or too large
    size is an error (not modelled: sizes are naturals below the limit), `len(src) % size` is
    evaluated next — with `size = 0` that is an integer division by zero, a run-time panic — then the
    bytes are copied. The result is the flat buffer (values are its `size`-byte chunks). -/
def goDecFLBA (size : Nat) (src : Bytes) : GoRes Bytes :=
  if size = 0 then .panic
  else if src.length % size ≠ 0 then .err
  else .ok src

/-- MIRROR of `bytestreamsplit.Encoding.DecodeFloat/Double/Int32/Int64` (bytestreamsplit.go:35-81)
    with `decodeFloat`/`decodeDouble` (bytestreamsplit_purego.go:47-83): size check, `resize` of the
    destination to `len(src)` bytes, then for every `i < n = len(src)/k` the `k` bytes at `dst[k*i:]`
    are written with `b_0[i] | b_1[i]<<8 | …` (`b_j = src[j*n:(j+1)*n]`; disjoint shifted bytes: the
    little-endian value of `[b_0[i], …, b_{k-1}[i]]`), and the buffer is returned reinterpreted as
    `k`-byte little-endian elements. Every byte of the resized destination is written (`k*n =
    len(src)`), so the former content of `dst` does not appear. -/
def goBssDecFixed (k : Nat) (src : Bytes) : GoRes (List Nat) :=
  if src.length % k ≠ 0 then .err
  else
    let n := src.length / k
    .ok ((List.range n).map (fun i => leVal ((List.range k).map (fun j => src.getD (j * n + i) 0))))

theorem goBssDecFixed_eq_spec (k : Nat) (hk : 0 < k) (src : Bytes) :
    goBssDecFixed k src = ofOption (bssSpecDecFixed k src) := by
  unfold goBssDecFixed bssSpecDecFixed
  rw [← bssSpecDecIdx_eq_bssSpecDec]
  unfold bssSpecDecIdx
  have hk0 : ¬ k = 0 := by omega
  split
  · simp [ofOption]
  · simp [ofOption, List.map_map, Function.comp_def]

/-! ### FIXED_LEN_BYTE_ARRAY: the destination written by index -/

/-- a sequence of `dst[p] = v` assignments, in program order -/
def setAll (dst : Bytes) (ws : List (Nat × UInt8)) : Bytes := ws.foldl (fun d w => d.set w.1 w.2) dst

theorem setAll_length : ∀ (ws : List (Nat × UInt8)) (dst : Bytes), (setAll dst ws).length = dst.length
  | [], _ => rfl
  | w :: ws, dst => by
    have := setAll_length ws (dst.set w.1 w.2)
    simpa [setAll] using this

theorem setAll_untouched : ∀ (ws : List (Nat × UInt8)) (dst : Bytes) (q : Nat),
    (∀ w ∈ ws, w.1 ≠ q) → (setAll dst ws)[q]? = dst[q]?
  | [], _, _, _ => rfl
  | w :: ws, dst, q, h => by
    have ih := setAll_untouched ws (dst.set w.1 w.2) q (fun w' hw' => h w' (by simp [hw']))
    have hne : w.1 ≠ q := h w (by simp)
    simp only [setAll, List.foldl_cons] at ih ⊢
    rw [ih, List.getElem?_set_ne hne]

theorem setAll_written : ∀ (ws : List (Nat × UInt8)) (dst : Bytes) (q : Nat) (v : UInt8),
    q < dst.length → (∃ w ∈ ws, w.1 = q) → (∀ w ∈ ws, w.1 = q → w.2 = v) →
    (setAll dst ws)[q]? = some v
  | [], _, _, _, _, hex, _ => by obtain ⟨w, hw, _⟩ := hex; simp at hw
  | w :: ws, dst, q, v, hq, hex, hall => by
    by_cases hlater : ∃ w' ∈ ws, w'.1 = q
    · have := setAll_written ws (dst.set w.1 w.2) q v (by simpa using hq) hlater
        (fun w' hw' => hall w' (by simp [hw']))
      simpa [setAll] using this
    · have hno : ∀ w' ∈ ws, w'.1 ≠ q := fun w' hw' e => hlater ⟨w', hw', e⟩
      have hw : w.1 = q := by
        obtain ⟨w', hw', e⟩ := hex
        simp only [List.mem_cons] at hw'
        rcases hw' with rfl | hw'
        · exact e
        · exact absurd e (hno w' hw')
      have hv : w.2 = v := hall w (by simp) hw
      have := setAll_untouched ws (dst.set w.1 w.2) q hno
      simp only [setAll, List.foldl_cons] at this ⊢
      rw [this, hw, hv, List.getElem?_set_self hq]

/-- the assignments of `decodeFixedLenByteArray` (bytestreamsplit_fixedlen.go:13-21), in program
    order: `for s in range size { stream := src[s*n:(s+1)*n]; for i in range n { dst[i*size+s] =
    stream[i] } }` -/
def bssFLBAWrites (size n : Nat) (src : Bytes) : List (Nat × UInt8) :=
  (List.range size).flatMap (fun s => (List.range n).map (fun i => (i * size + s, src.getD (s * n + i) 0)))

/-- MIRROR of `bytestreamsplit.Encoding.DecodeFixedLenByteArray` (bytestreamsplit.go:95-105) with
    `resize` (:107-114) and `decodeFixedLenByteArray`: `size <= 0` and `len(src) % size != 0` are
    errors; the destination is re-sliced to `len(src)` bytes when its capacity allows (keeping what
    the capacity region holds: `stale`, zero beyond it, which is also what the `make` of the other
    branch gives) and written by index. -/
def goBssDecFLBA (size : Nat) (stale : Bytes) (src : Bytes) : GoRes Bytes :=
  if size = 0 then .err
  else if src.length % size ≠ 0 then .err
  else
    let dst := (List.range src.length).map (fun p => stale.getD p 0)
    .ok (setAll dst (bssFLBAWrites size (src.length / size) src))

theorem mem_bssFLBAWrites (size n : Nat) (src : Bytes) (w : Nat × UInt8) :
    w ∈ bssFLBAWrites size n src ↔
      ∃ s, s < size ∧ ∃ i, i < n ∧ w = (i * size + s, src.getD (s * n + i) 0) := by
  simp only [bssFLBAWrites, List.mem_flatMap, List.mem_range, List.mem_map]
  constructor
  · rintro ⟨s, hs, i, hi, rfl⟩; exact ⟨s, hs, i, hi, rfl⟩
  · rintro ⟨s, hs, i, hi, rfl⟩; exact ⟨s, hs, i, hi, rfl⟩

theorem goBssDecFLBA_eq_spec (size : Nat) (stale src : Bytes) :
    goBssDecFLBA size stale src = ofOption ((bssSpecDecIdx size src).map List.flatten) := by
  unfold goBssDecFLBA bssSpecDecIdx
  split
  · simp [ofOption]
  · rename_i hs0
    have hs : 0 < size := by omega
    split
    · simp [ofOption]
    · rename_i h
      have h' : src.length % size = 0 := by omega
      have hl : src.length = (src.length / size) * size := by
        have := Nat.div_add_mod src.length size
        rw [Nat.mul_comm]; omega
      simp only [ofOption, Option.map_some, GoRes.ok.injEq]
      generalize hn : src.length / size = n at hl
      have hall : ∀ l ∈ (List.range n).map (fun i => (List.range size).map (fun j => src.getD (j * n + i) 0)),
          l.length = size := by
        intro l hl'; simp only [List.mem_map] at hl'; obtain ⟨i, _, rfl⟩ := hl'; simp
      have hflen : ((List.range n).map (fun i => (List.range size).map (fun j => src.getD (j * n + i) 0))).flatten.length
          = src.length := by
        rw [flatten_length_const size _ hall]; simp [hl, Nat.mul_comm]
      apply List.ext_getElem?
      intro q
      by_cases hq : q < src.length
      · -- q = i*size + s with s = q % size < size, i = q / size < n
        have hi : q / size < n := by
          rw [Nat.div_lt_iff_lt_mul hs]; omega
        have hsm : q % size < size := Nat.mod_lt _ hs
        rw [setAll_written _ _ q (src.getD ((q % size) * n + q / size) 0) (by simpa using hq)]
        · rw [← List.flatMap_id, Pieces.getElem?_flatMap_div (g := id) hall hs q]
          simp [hi, hsm]
        · exact ⟨(q, src.getD ((q % size) * n + q / size) 0),
            (mem_bssFLBAWrites size n src _).2 ⟨q % size, hsm, q / size, hi, by rw [Nat.div_add_mod']⟩, rfl⟩
        · intro w hw hw1
          obtain ⟨s, hs', i, hi', rfl⟩ := (mem_bssFLBAWrites size n src w).1 hw
          simp only at hw1 ⊢
          have e1 : q % size = s := by
            rw [← hw1, Nat.add_comm, Nat.add_mul_mod_self_right, Nat.mod_eq_of_lt hs']
          have e2 : q / size = i := by
            rw [← hw1, Nat.add_comm, Nat.add_mul_div_right _ _ hs, Nat.div_eq_of_lt hs']; omega
          rw [e1, e2]
      · rw [List.getElem?_eq_none (by rw [setAll_length]; simpa using Nat.le_of_not_lt hq),
          List.getElem?_eq_none (by rw [hflen]; omega)]

/-! ## The dictionary-encoded column -/

/-- MIRROR of `newIndexedPage` (dictionary.go:136-163). `values` are the indexes the RLE_DICTIONARY
    decoder produced (its slice length), `stale` is what the rest of the decode buffer's capacity
    holds (capacity = `values.length + stale.length`; the buffer is recycled through a pool), `size`
    is the page's `num_values`. When fewer indexes than `size` were decoded the slice is extended:
    into a fresh zeroed buffer when the capacity is too small, otherwise in place after zeroing
    `values[len:size]`; finally `values[:size]` (which also drops the padding of a last bit-packed
    group). -/
def goNewIndexedPage (values stale : List Nat) (size : Nat) : List Nat :=
  if values.length < size then
    if values.length + stale.length < size then
      (values ++ List.replicate (size - values.length) 0).take size
    else
      (values ++ (List.replicate (size - values.length) 0 ++ stale.drop (size - values.length))).take size
  else values.take size

theorem goNewIndexedPage_eq (values stale : List Nat) (size : Nat) :
    goNewIndexedPage values stale size = values.take size ++ List.replicate (size - values.length) 0 := by
  unfold goNewIndexedPage
  split
  · rename_i h
    have ht : values.take size = values := List.take_of_length_le (by omega)
    split
    · rw [ht, List.take_of_length_le (by simp; omega)]
    · rw [ht, List.take_append, List.take_of_length_le (Nat.le_of_lt h)]
      congr 1
      rw [List.take_append]
      simp
  · rename_i h
    have : size - values.length = 0 := by omega
    simp [this]

/-- all entries named by the ids, `none` when an id is outside the dictionary -/
def lookupAll {α : Type} (d : List α) : List Nat → Option (List α)
  | [] => some []
  | i :: is =>
    match d[i]?, lookupAll d is with
    | some v, some vs => some (v :: vs)
    | _, _ => none

theorem lookupAll_of_map {α : Type} (d : List α) : ∀ (idx : List Nat) (xs : List α),
    idx.map (d[·]?) = xs.map some → lookupAll d idx = some xs
  | [], xs, h => by
    cases xs with
    | nil => rfl
    | cons _ _ => simp at h
  | i :: is, xs, h => by
    cases xs with
    | nil => simp at h
    | cons x xs =>
      simp only [List.map_cons, List.cons.injEq] at h
      simp [lookupAll, h.1, lookupAll_of_map d is xs h.2]

/-- SPEC (Encodings.md, "Dictionary Encoding (PLAIN_DICTIONARY = 2 and RLE_DICTIONARY = 8)"): the
    dictionary page holds `numDict` values in PLAIN encoding (`dec` = the PLAIN SPEC decoder of the
    column type); the data page holds the bit width in one byte followed by the RLE/bit-packed
    hybrid stream of `n` entry ids (`Rle.specDecodeDict`); value `i` is the entry with id `i`. An id
    outside the dictionary, a dictionary page with another number of values, or an index stream
    that ends before `n` ids are malformed. -/
def specDictColumn {α : Type} (dec : Bytes → Option (List α)) (numDict : Nat) (dictPage : Bytes) (n : Nat)
    (dataPage : List Nat) : Option (List α) :=
  match dec dictPage with
  | none => none
  | some d =>
    if d.length ≠ numDict then none
    else match Rle.specDecodeDict n dataPage with
      | .error _ => none
      | .ok idx => lookupAll d idx

/-- MIRROR of the read path of a dictionary-encoded column: `Column.decodeDictionary`
    (column.go:974-1004: PLAIN decode `dec` = the Go decoder, `checkPageDataCapacity` refuses fewer
    than `numDict` values, `NewDictionary` keeps the first `numDict`), `decodeDataPage`
    (column.go:856-922: `RLEDictionary.DecodeInt32` into a pooled buffer, `newIndexedPage`), and
    `indexedPageValues.ReadValues` → `Dictionary.Lookup` (dictionary.go:230-243; an index outside the
    dictionary is a run-time panic: slice index out of range). -/
def goDictColumn {α : Type} (dec : Bytes → GoRes (List α)) (numDict : Nat) (dictPage : Bytes) (n : Nat)
    (dataPage : List Nat) (stale : List Nat) : GoRes (List α) :=
  match dec dictPage with
  | .err => .err
  | .panic => .panic
  | .ok d =>
    if d.length < numDict then .err
    else match Rle.goDecodeDict dataPage with
      | .error _ => .err
      | .ok idx =>
        okOrPanic (lookupAll (d.take numDict) (goNewIndexedPage idx stale n))

section
variable {α : Type} [DecidableEq α]

theorem lookupAll_insertAll (xs d : List α) : lookupAll (insertAll d xs).1 (insertAll d xs).2 = some xs :=
  lookupAll_of_map _ _ _ (insertAll_lookup d xs)

end

end PqModel.PlainDict
