import PqModel.Async

/-! Invariants of the asyncPages transition system (all interleavings): version discipline,
    channel/close discipline, versions and serial numbers of the items in flight. -/
namespace PqModel.Async

theorem body_none {U l l'} (h : body U l = (l', none)) :
    l.ferr = none ∧ ∃ k, l.row = some k ∧ U.sk k = .ok ∧ l' = ⟨k, none, none⟩ := by
  revert h
  fun_cases body U l <;> intro h <;> cases h
  exact ⟨‹_›, _, ‹_›, ‹_›, rfl⟩

theorem body_none_then_some {U l l'} (h : body U l = (l', none)) : ∃ l2 r, body U l' = (l2, some r) := by
  obtain ⟨_, k, _, _, rfl⟩ := body_none h
  unfold body
  simp only
  split <;> exact ⟨_, _, rfl⟩

theorem body_fatal {U l l' r} (h : body U l = (l', some r)) (e : Nat) : r = .fatal e ↔ l'.ferr = some e := by
  revert h
  fun_cases body U l <;> intro h <;> cases h <;> simp_all

theorem body_ferr_mono {U l l' o e} (h : body U l = (l', o)) (hf : l.ferr = some e) : l'.ferr = some e := by
  unfold body at h
  rw [hf] at h
  simp at h
  rw [← h.1]; exact hf

theorem lsRead_ferr_mono {U l e} (hf : l.ferr = some e) : (lsRead U l).1.ferr = some e := by
  unfold lsRead
  split
  · rename_i h; exact body_ferr_mono h hf
  · rename_i l1 h
    have h1 := body_ferr_mono h hf
    split
    · rename_i h2; exact body_ferr_mono h2 h1
    · rename_i h2; exact body_ferr_mono h2 h1

theorem ferr_none_of_mono {l l' : Loc} (h : ∀ e, l.ferr = some e → l'.ferr = some e) (hf : l'.ferr = none) :
    l.ferr = none := by
  rcases hl : l.ferr with _ | e
  · rfl
  · rw [h e hl] at hf; cases hf

/-- a seek in the channel carries the consumer's version and the producer is behind, also between the
    flush and the send of `SeekToRow`; otherwise the producer is current -/
structure Ver (g : G) : Prop where
  ver_le : g.pver ≤ g.cver
  ch : ∀ k v, g.seekCh = some (k, v) → v = g.cver ∧ g.pver < g.cver ∧ g.cpc ≠ .seekMid
  mid : g.cpc = .seekMid → g.seekCh = none ∧ g.pver < g.cver
  cur : g.seekCh = none → g.cpc ≠ .seekMid → g.pver = g.cver

theorem Ver.frame {g g' : G} (h : Ver g) (e1 : g'.pver = g.pver) (e2 : g'.cver = g.cver)
    (e3 : g'.seekCh = g.seekCh) (e4 : g'.cpc = .seekMid ↔ g.cpc = .seekMid) : Ver g' := by
  constructor
  · rw [e1, e2]; exact h.ver_le
  · rw [e1, e2, e3, ne_eq, e4]; exact h.ch
  · rw [e1, e2, e3, e4]; exact h.mid
  · rw [e1, e2, e3, ne_eq, e4]; exact h.cur

theorem ver_step {U g e g'} (hv : Ver g) (h : Step U g e g') : Ver g' := by
  cases h
  case seekPollDrain kv h1 hs =>
    exact ⟨hv.ver_le, nofun, fun _ => ⟨rfl, (hv.ch _ _ hs).2.1⟩, fun _ h => absurd rfl h⟩
  case seekPollBump h1 hs =>
    have := hv.ver_le
    exact ⟨Nat.le_succ_of_le this, fun k v h => (nomatch hs.symm.trans h),
      fun _ => ⟨hs, Nat.lt_succ_of_le this⟩, fun _ h => absurd rfl h⟩
  case seekSend k h1 =>
    have := (hv.mid h1).2
    exact ⟨hv.ver_le, fun k v h => ⟨by cases h; rfl, this, nofun⟩, nofun, nofun⟩
  case pollTake k v _ hs | selTake _ k v _ hs =>
    obtain ⟨rfl, _, hm⟩ := hv.ch k v hs
    exact ⟨Nat.le_refl _, nofun, fun h => absurd h hm, fun _ _ => rfl⟩
  all_goals exact hv.frame rfl rfl rfl (by simp [*])

structure Items (g : G) : Prop where
  send_ver : ∀ it, g.ppc = .send it → it.ver = g.pver
  got_ver : ∀ it, g.cpc = .got it → it.ver ≤ g.pver
  send_id : ∀ it, g.ppc = .send it → it.id < g.nprod

theorem Items.frame {g g' : G} (h : Items g) (e1 : g'.pver = g.pver) (e2 : g'.nprod = g.nprod)
    (hs : ∀ it, g'.ppc = .send it → g.ppc = .send it)
    (hg : ∀ it, g'.cpc = .got it → g.cpc = .got it) : Items g' :=
  ⟨fun it p => e1 ▸ h.send_ver it (hs it p), fun it c => e1 ▸ h.got_ver it (hg it c),
    fun it p => e2 ▸ h.send_id it (hs it p)⟩

theorem items_step {U g e g'} (hv : Ver g) (hi : Items g) (h : Step U g e g') : Items g' := by
  -- a taken seek carries the consumer's version, which nothing received is ahead of
  have take : ∀ k v it, g.seekCh = some (k, v) → g.cpc = .got it → it.ver ≤ v := by
    intro k v it hs hc
    have := hi.got_ver it hc; have := hv.ver_le; have := (hv.ch k v hs).1; omega
  cases h
  case handoff it h1 h2 =>
    exact ⟨nofun, fun it' c => by cases c; exact Nat.le_of_eq (hi.send_ver it h2), nofun⟩
  case bodyOffer l r h1 h2 =>
    exact ⟨fun it p => by cases p; rfl, hi.got_ver, fun it p => by cases p; exact Nat.lt_succ_self _⟩
  case pollTake k v _ hs | selTake _ k v _ hs => exact ⟨nofun, fun it c => take k v it hs c, nofun⟩
  all_goals exact hi.frame rfl rfl (by simp) (by simp)

/-- `done` is closed exactly while the consumer is in or past `Close`; the producer has left its loop
    only if `done` is closed -/
structure Closing (g : G) : Prop where
  done_c : g.doneClosed = true → g.cpc = .closing ∨ g.cpc = .closed
  closing_done : g.cpc = .closing ∨ g.cpc = .closed → g.doneClosed = true ∧ g.initClosed = true
  fin_done : g.ppc = .final ∨ g.ppc = .exited → g.doneClosed = true
  rd_init : (g.cpc = .reading ∨ ∃ it, g.cpc = .got it) → g.initClosed = true
  closed_exit : g.cpc = .closed → g.ppc = .exited

theorem Closing.not_fin {g : G} (h : Closing g) (hl : g.cpc ≠ .closing ∧ g.cpc ≠ .closed) :
    g.ppc ≠ .final ∧ g.ppc ≠ .exited :=
  ⟨fun hp => (h.done_c (h.fin_done (.inl hp))).elim hl.1 hl.2,
   fun hp => (h.done_c (h.fin_done (.inr hp))).elim hl.1 hl.2⟩

/-- the consumer moves between two states outside `Close` -/
theorem Closing.consumer {g g' : G} (h : Closing g)
    (hl : ¬ (g.cpc = .closing ∨ g.cpc = .closed)) (hl' : ¬ (g'.cpc = .closing ∨ g'.cpc = .closed))
    (ed : g'.doneClosed = g.doneClosed)
    (hf : g'.ppc = .final ∨ g'.ppc = .exited → g.ppc = .final ∨ g.ppc = .exited)
    (hr : (g'.cpc = .reading ∨ ∃ it, g'.cpc = .got it) → g'.initClosed = true) : Closing g' :=
  ⟨fun d => absurd (h.done_c (ed ▸ d)) hl, fun c => absurd c hl', fun p => ed ▸ h.fin_done (hf p), hr,
    fun c => absurd (Or.inr c) hl'⟩

/-- the producer moves (alone or in a rendezvous with `Close`) -/
theorem Closing.producer {g g' : G} (h : Closing g) (ec : g'.cpc = g.cpc)
    (ei : g'.initClosed = g.initClosed) (ed : g'.doneClosed = g.doneClosed) (hp : g.ppc ≠ .exited)
    (hf : g'.ppc = .final ∨ g'.ppc = .exited → g.doneClosed = true) : Closing g' := by
  constructor
  · rw [ec, ed]; exact h.done_c
  · rw [ec, ed, ei]; exact h.closing_done
  · rw [ed]; exact hf
  · rw [ec, ei]; exact h.rd_init
  · rw [ec]; exact fun c => absurd (h.closed_exit c) hp

theorem closing_step {U g e g'} (hc : Closing g) (h : Step U g e g') : Closing g' := by
  cases h
  case readClosed | seekClosed | closeAgain => exact hc
  case closeBegin h1 => exact ⟨fun _ => Or.inl rfl, fun _ => ⟨rfl, rfl⟩, fun _ => rfl, nofun, nofun⟩
  case closeEnd h1 h2 =>
    have := hc.closing_done (Or.inl h1)
    exact ⟨fun _ => Or.inr rfl, fun _ => this, fun _ => this.1, by simp, fun _ => h2⟩
  case readBegin h1 => exact hc.consumer (by simp [h1]) (by simp) rfl id (fun _ => rfl)
  case handoff it h1 h2 =>
    exact hc.consumer (by simp [h1]) (by simp) rfl (by simp) (fun _ => hc.rd_init (Or.inl h1))
  case drop it h1 h2 =>
    exact hc.consumer (by simp [h1]) (by simp) rfl id (fun _ => hc.rd_init (Or.inr ⟨it, h1⟩))
  case deliver _ h1 _ | seekPollDrain h1 _ | seekPollBump h1 _ | seekSend h1 =>
    exact hc.consumer (by simp [h1]) (by simp) rfl id (by simp)
  case initDone h1 h2 | selDone _ h1 h2 => exact hc.producer rfl rfl rfl (by simp [h1]) (fun _ => h2)
  case closeFinal h1 h2 => exact hc.producer rfl rfl rfl (by simp [h2]) (fun _ => hc.fin_done (Or.inl h2))
  case closeRecv h1 h2 => exact hc.producer rfl rfl rfl (by simp [h2]) (by simp)
  case bodyCont h1 _ => exact hc.producer rfl rfl rfl (by simp [h1]) hc.fin_done
  all_goals exact hc.producer rfl rfl rfl (by simp [*]) (by simp)

structure Ctl (g : G) : Prop extends Ver g, Items g, Closing g where
  start_ver : g.ppc = .waitInit ∨ g.ppc = .poll → g.pver = 0 ∧ g.loc = ⟨0, none, none⟩

theorem ctl_init : Ctl init := by
  constructor <;> (try constructor) <;> simp [init]

theorem ctl_step {U g e g'} (hi : Ctl g) (h : Step U g e g') : Ctl g' := by
  refine ⟨ver_step hi.toVer h, items_step hi.toVer hi.toItems h, closing_step hi.toClosing h, ?_⟩
  -- the producer leaves its two initial selects before it touches `pver` or `loc`
  have := hi.start_ver
  cases h
  case initPass h1 _ => exact fun _ => this (Or.inl h1)
  case bodyCont h1 _ => simp [h1]
  all_goals first | exact this | simp

theorem ctl_reachable {U g} (h : Reachable U g) : Ctl g :=
  reachable_induction (P := Ctl) ctl_init (fun _ _ _ hi hs => ctl_step hi hs) g h

end PqModel.Async
