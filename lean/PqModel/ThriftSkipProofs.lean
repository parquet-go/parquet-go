import PqModel.ThriftSkip
import PqModel.LittleEndian

/-! Lemmas: every reader primitive and the whole walk satisfy `Rel` (the run on a cut input agrees
    with the run on the whole input up to the cut and fails at it). -/
namespace PqModel.ThriftSkip
open PqModel.IoFault (Bytes)

theorem le32Bytes_eq (n : Nat) : le32Bytes n = LE.leBytes 4 n := (LE.leBytes_four n).symm

theorem length_fileWith (pre ft : Bytes) : (fileWith pre ft).length = pre.length + ft.length + 8 := by
  simp [fileWith, show (le32Bytes ft.length).length = 4 from rfl, show IoFault.magicPAR1.length = 4 from rfl]; omega

theorem fileWith_trailer (pre ft : Bytes) :
    (fileWith pre ft).drop ((fileWith pre ft).length - 8) = le32Bytes ft.length ++ IoFault.magicPAR1 := by
  rw [length_fileWith, show pre.length + ft.length + 8 - 8 = (pre ++ ft).length by simp]
  unfold fileWith
  rw [List.append_assoc (pre ++ ft), List.drop_left]

theorem skipT_zero (d : Bytes) (t : Task) (pos : Nat) : skipT d 0 t pos = .error .fuel := rfl

theorem readByte_rel (d : Bytes) (pos m : Nat) : Rel pos m (readByte d pos) (readByte (d.take m) pos) := by
  intro b p h
  unfold readByte at h ⊢
  rw [List.getElem?_take]
  split at h
  · rename_i b' hb
    cases h
    refine ⟨by omega, fun _ => ⟨fun h' => ?_, fun h' => ?_⟩⟩
    · rw [if_pos (by omega), hb]
    · rw [if_neg (by omega)]; exact ⟨_, rfl, Or.inl rfl⟩
  · cases h

theorem uvLoop_rel (d : Bytes) (m : Nat) : ∀ (k pos i x s u n : Nat), uvLoop d k pos i x s = .val u n →
    i < n ∧ (pos + (n - i) ≤ m → uvLoop (d.take m) k pos i x s = .val u n) ∧
      (m < pos + (n - i) → uvLoop (d.take m) k pos i x s = .short) := by
  intro k
  induction k with
  | zero =>
    intro pos i x s u n h
    unfold uvLoop at h
    split at h <;> cases h
  | succ k ih =>
    intro pos i x s u n h
    unfold uvLoop at h ⊢
    rw [List.getElem?_take]
    split at h
    · cases h
    · rename_i b hb
      split at h
      · split at h
        · cases h
        · rename_i hlt hov
          cases h
          refine ⟨by omega, fun h' => ?_, fun h' => ?_⟩
          · rw [if_pos (by omega), hb]; simp only [hlt, if_true, hov]; rfl
          · rw [if_neg (by omega)]
      · rename_i hge
        obtain ⟨h1, h2, h3⟩ := ih (pos + 1) (i + 1) _ _ u n h
        refine ⟨by omega, fun h' => ?_, fun h' => ?_⟩
        · rw [if_pos (by omega), hb]; simp only [hge, if_false]
          exact h2 (by omega)
        · by_cases hp : pos < m
          · rw [if_pos hp, hb]; simp only [hge, if_false]
            exact h3 (by omega)
          · rw [if_neg hp]

theorem readUvarint_rel (mx : Nat) (d : Bytes) (pos m : Nat) :
    Rel pos m (readUvarint mx d pos) (readUvarint mx (d.take m) pos) := by
  intro u p h
  unfold readUvarint goUvarint at h ⊢
  split at h
  · cases h
  · cases h
  · rename_i u' n hv
    split at h
    · cases h
    · rename_i hr
      cases h
      obtain ⟨h1, h2, h3⟩ := uvLoop_rel d m 10 pos 0 0 0 u n hv
      refine ⟨by omega, fun _ => ⟨fun h' => ?_, fun h' => ?_⟩⟩
      · rw [h2 (by omega)]; simp only [hr, if_false]
      · rw [h3 (by omega)]; exact ⟨_, rfl, Or.inr rfl⟩

theorem readVarint_rel (lo hi : Int) (d : Bytes) (pos m : Nat) :
    Rel pos m (readVarint lo hi d pos) (readVarint lo hi (d.take m) pos) := by
  intro u p h
  unfold readVarint goUvarint at h ⊢
  split at h
  · cases h
  · cases h
  · rename_i u' n hv
    split at h
    · cases h
    · rename_i hr
      cases h
      obtain ⟨h1, h2, h3⟩ := uvLoop_rel d m 10 pos 0 0 0 u' n hv
      refine ⟨by omega, fun _ => ⟨fun h' => ?_, fun h' => ?_⟩⟩
      · rw [h2 (by omega)]; simp [hr]
      · rw [h3 (by omega)]; exact ⟨_, rfl, Or.inr rfl⟩

theorem readFloat_rel (d : Bytes) (pos m : Nat) : Rel pos m (readFloat d pos) (readFloat (d.take m) pos) := by
  intro u p h
  unfold readFloat at h ⊢
  rw [List.length_take]
  split at h
  · cases h
  · cases h
    refine ⟨by omega, fun _ => ⟨fun h' => ?_, fun h' => ?_⟩⟩
    · rw [if_neg (by omega)]
    · rw [if_pos (by omega)]; exact ⟨_, rfl, Or.inr rfl⟩

theorem discard_rel (n : Nat) (d : Bytes) (pos m : Nat) : Rel pos m (discard n d pos) (discard n (d.take m) pos) := by
  intro u p h
  unfold discard at h ⊢
  rw [List.length_take]
  split at h
  · cases h
  · cases h
    refine ⟨by omega, fun _ => ⟨fun h' => ?_, fun h' => ?_⟩⟩
    · rw [if_neg (by omega)]
    · rw [if_pos (by omega)]; exact ⟨_, rfl, Or.inr rfl⟩

theorem Rel.ite {α} {pos m : Nat} (c : Prop) [Decidable c] {r1 r1' r2 r2' : PR α}
    (h1 : Rel pos m r1 r1') (h2 : Rel pos m r2 r2') :
    Rel pos m (if c then r1 else r2) (if c then r1' else r2') := by
  split
  · exact h1
  · exact h2

theorem skipBinary_rel (d : Bytes) (pos m : Nat) : Rel pos m (skipBinary d pos) (skipBinary (d.take m) pos) := by
  unfold skipBinary
  refine seq_rel _ (readUvarint_rel _ d pos m) fun n p _ => ?_
  refine Rel.ite _ (Rel.ok _) ?_
  exact seq_rel _ (discard_rel n d p m) fun _ q _ => Rel.ok _

theorem readField_rel (d : Bytes) (pos m : Nat) : Rel pos m (readField d pos) (readField (d.take m) pos) := by
  unfold readField
  refine seq_rel _ (readByte_rel d pos m) fun b p _ => ?_
  refine Rel.ite _ (Rel.ok _) (Rel.ite _ (Rel.ok _) ?_)
  exact seq_rel _ (readVarint_rel _ _ d p m) fun _ q _ => Rel.ok _

theorem readList_rel (d : Bytes) (pos m : Nat) : Rel pos m (readList d pos) (readList (d.take m) pos) := by
  unfold readList
  refine seq_rel _ (readByte_rel d pos m) fun b p _ => ?_
  refine Rel.ite _ (Rel.ok _) ?_
  exact seq_rel _ (readUvarint_rel _ d p m) fun _ q _ => Rel.ok _

theorem readMap_rel (d : Bytes) (pos m : Nat) : Rel pos m (readMap d pos) (readMap (d.take m) pos) := by
  unfold readMap
  refine seq_rel _ (readUvarint_rel _ d pos m) fun n p _ => ?_
  refine Rel.ite _ (Rel.ok _) ?_
  exact seq_rel _ (readByte_rel d p m) fun _ q _ => Rel.ok _

theorem skipT_rel (d : Bytes) (m : Nat) : ∀ (f : Nat) (t : Task) (pos : Nat),
    Rel pos m (skipT d f t pos) (skipT (d.take m) f t pos) := by
  intro f
  induction f with
  | zero => intro t pos; rw [skipT_zero]; exact Rel.error _ _ _ _
  | succ f ih =>
    intro t pos
    cases t with
    | val ty =>
      simp only [skipT]
      -- bullets: `ty` = 1..13 (TRUE FALSE I8 I16 I32 I64 DOUBLE BINARY LIST SET MAP STRUCT UUID), then every other code
      split
      · exact Rel.ok _
      · exact Rel.ok _
      · exact seq_rel _ (readByte_rel d pos m) fun _ p _ => Rel.ok _
      · exact seq_rel _ (readVarint_rel _ _ d pos m) fun _ p _ => Rel.ok _
      · exact seq_rel _ (readVarint_rel _ _ d pos m) fun _ p _ => Rel.ok _
      · exact seq_rel _ (readVarint_rel _ _ d pos m) fun _ p _ => Rel.ok _
      · exact readFloat_rel d pos m
      · exact skipBinary_rel d pos m
      · exact seq_rel _ (readList_rel d pos m) fun l p _ => ih _ p
      · exact seq_rel _ (readList_rel d pos m) fun l p _ => ih _ p
      · refine seq_rel _ (readMap_rel d pos m) fun mp p _ => ?_
        cases mp with
        | none => exact Rel.ok _
        | some x => obtain ⟨kt, vt, n⟩ := x; exact ih _ p
      · exact ih _ pos
      · exact seq_rel _ (readFloat_rel d pos m) fun _ p _ => readFloat_rel d p m
      · exact Rel.error _ _ _ _
    | item ty =>
      simp only [skipT]
      refine Rel.ite _ ?_ (ih _ pos)
      exact seq_rel _ (readByte_rel d pos m) fun _ p _ => Rel.ok _
    | items ty n =>
      cases n with
      | zero => simp only [skipT]; exact Rel.ok _
      | succ n =>
        simp only [skipT]
        exact seq_rel _ (ih _ pos) fun _ p _ => ih _ p
    | pairs kt vt n =>
      cases n with
      | zero => simp only [skipT]; exact Rel.ok _
      | succ n =>
        simp only [skipT]
        exact seq_rel _ (ih _ pos) fun _ p _ => seq_rel _ (ih _ p) fun _ q _ => ih _ q
    | fields first =>
      simp only [skipT]
      refine seq_rel _ (readField_rel d pos m) fun h p _ => ?_
      cases h with
      | none => exact Rel.ok _
      | some ty => exact seq_rel _ (ih _ p) fun _ q _ => ih _ q

end PqModel.ThriftSkip
