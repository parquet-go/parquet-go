import PqModel.Aad

/-! # Which bytes reach the sink raw and which go through `encryptModule` (C18, leak part)

MIRROR of the encryption branches of `writer.go`: for a file of a given structure and an
encryption configuration, `emit` lists every region the writer hands to the destination, in file
order, with the way it gets there: raw, or sealed by `encryptModule` under a key and for a module
(whose AAD is `Module.aad`). The branch conditions are transliterated (`c.encKey != nil`,
`key := pageIndexKey(column); key != nil`, `w.encryption != nil`, `enc.cfg.EncryptedFooter`),
including what they do when the footer key is missing. The write sites the function is built from
are re-extracted from the source by factgen (family `encwrites`) and compared with `siteOf` in
`Props/FactsCheckC18.lean`: a new raw write in these functions breaks the build.

What is abstract: the content of a region is a tag (`Content`), not bytes; `ColMeta` keeps the
fields of `format.ColumnMetaData` that matter for confidentiality. -/
namespace PqModel.EncEmit
open PqModel.Aad

/-- the fields of `EncryptionConfig` / `WriterConfig` the branches look at -/
structure EncCfg where
  enabled : Bool            -- `config.Encryption != nil`
  footerKeySet : Bool       -- `cfg.FooterKey != nil` (the code never validates it up front)
  hasColKey : Nat → Bool    -- `cfg.ColumnKeys[path]` present
  encFooter : Bool          -- `cfg.EncryptedFooter`
  deferredBloom : Bool      -- `config.DeferredBloomFiltersBuffers != nil`

inductive KeyRef where
  | footer
  | column (col : Nat)
deriving DecidableEq, Repr

/-- encrypt.go:153-160 `columnKeyFor` as seen by the tests `c.encKey != nil` of writer.go (`c.encKey` is assigned from it
    in newWriter and newConcurrentRowGroupWriter): `none` = nil key = the PLAINTEXT branch is taken. -/
def keyOf (cfg : EncCfg) (col : Nat) : Option KeyRef :=
  if !cfg.enabled then none
  else if cfg.hasColKey col then some (.column col)
  else if cfg.footerKeySet then some .footer else none

/-- writer.go:1342-1360 `pageIndexKey`: by the variant of `CryptoMetadata` that writeRowGroup set
    (1756-1772: column-key variant iff `ColumnKeys[path]` exists) -/
def pageIndexKey (cfg : EncCfg) (col : Nat) : Option KeyRef :=
  if !cfg.enabled then none
  else if cfg.hasColKey col then some (.column col)      -- EncryptionWithColumnKey → columnKeyFor(path)
  else if cfg.footerKeySet then some .footer else none    -- EncryptionWithFooterKey → cfg.FooterKey

/-- confidentiality-relevant view of `format.ColumnMetaData` -/
structure ColMeta where
  typ : Nat
  codec : Nat
  numValues : Nat
  encodings : List Nat
  path : List Nat
  stats : Option (Bytes × Bytes)          -- min / max (and null count)
  encodingStats : List (Nat × Nat × Nat)
  sizeHistograms : List Nat               -- SizeStatistics
  dataPageOffset : Nat
  dictPageOffset : Nat
  bloomOffset : Nat
  bloomLength : Nat
deriving DecidableEq, Repr

def ColMeta.zero : ColMeta :=
  { typ := 0, codec := 0, numValues := 0, encodings := [], path := [], stats := none, encodingStats := [],
    sizeHistograms := [], dataPageOffset := 0, dictPageOffset := 0, bloomOffset := 0, bloomLength := 0 }

/-- the struct tells something about the values of the column -/
def ColMeta.sensitive (m : ColMeta) : Bool :=
  m.stats.isSome || !m.encodingStats.isEmpty || !m.sizeHistograms.isEmpty

structure ChunkS where
  dict : Bool
  pages : Nat
  bloom : Bool
  md : ColMeta

structure FileS where
  rgs : List (List ChunkS)

inductive Content where
  | magic
  | tail                                  -- footer length + magic
  | pageHeader (rg col page : Nat)        -- thrift PageHeader: sizes, encoding, PAGE STATISTICS
  | pageBody (rg col page : Nat)          -- levels and values
  | dictHeader (rg col : Nat)
  | dictBody (rg col : Nat)               -- the dictionary values
  | bloomHeader (rg col : Nat)
  | bloomBits (rg col : Nat)
  | columnIndex (rg col : Nat)            -- per-page min/max/null counts
  | offsetIndex (rg col : Nat)            -- page locations
  | columnMeta (rg col : Nat) (m : ColMeta)   -- a ColumnMetaData struct with these field values
  | footerRest                            -- schema, row-group sizes, key/value metadata, crypto metadata of the chunks
  | cryptoMeta                            -- FileCryptoMetaData / EncryptionAlgorithm: AAD prefix, file identifier
  | signature                             -- nonce ‖ tag over the plaintext footer
deriving DecidableEq, Repr

/-- the column whose values, statistics or index entries the region carries -/
def Content.column : Content → Option Nat
  | .pageHeader _ c _ | .pageBody _ c _ | .dictHeader _ c | .dictBody _ c
  | .bloomHeader _ c | .bloomBits _ c | .columnIndex _ c | .offsetIndex _ c => some c
  | .columnMeta _ c m => if m.sensitive then some c else none
  | _ => none

structure Piece where
  content : Content
  sealed : Option (KeyRef × Module)   -- none = written raw
deriving DecidableEq, Repr

/-- `if key != nil { envelope := encryptModule(key, aad(m), plain); Write(envelope) } else { Write(plain) }` -/
def viaKey (k : Option KeyRef) (c : Content) (m : Module) : Piece := ⟨c, k.map (·, m)⟩

def raw (c : Content) : Piece := ⟨c, none⟩

/-- writer.go:1638 + 2661-2727 (dictionary page), 2516-2659 (data pages, in the page buffer,
    copied verbatim at 1659): site names in `siteOf` -/
def chunkPieces (cfg : EncCfg) (rg col : Nat) (ch : ChunkS) : List Piece :=
  let k := keyOf cfg col
  (if ch.dict then [viaKey k (.dictHeader rg col) (.dictPageHeader rg col), viaKey k (.dictBody rg col) (.dictPage rg col)] else []) ++
  (List.range ch.pages).flatMap (fun p =>
    [viaKey k (.pageHeader rg col p) (.dataPageHeader rg col p), viaKey k (.pageBody rg col p) (.dataPage rg col p)])

/-- writer.go:2463-2514 `writeBloomFilter` (to the file, or to the deferred buffer copied raw by
    writeDeferredBloomFilters 1304-1324: the buffer already holds the envelopes) -/
def bloomPieces (cfg : EncCfg) (rg col : Nat) (ch : ChunkS) : List Piece :=
  if ch.bloom then
    [viaKey (keyOf cfg col) (.bloomHeader rg col) (.bloomHeader rg col), viaKey (keyOf cfg col) (.bloomBits rg col) (.bloomBits rg col)]
  else []

def enumFrom {α} : Nat → List α → List (Nat × α)
  | _, [] => []
  | i, x :: xs => (i, x) :: enumFrom (i + 1) xs

/-- per row group: every column's dictionary and pages, then every column's bloom filter (unless deferred) -/
def rowGroupPieces (cfg : EncCfg) (rg : Nat) (chunks : List ChunkS) : List Piece :=
  (enumFrom 0 chunks).flatMap (fun jc => chunkPieces cfg rg jc.1 jc.2) ++
  (if cfg.deferredBloom then [] else (enumFrom 0 chunks).flatMap (fun jc => bloomPieces cfg rg jc.1 jc.2))

/-- writer.go:1362-1416: column indexes of all chunks, then offset indexes of all chunks (the code omits
    the column index of a chunk without bounds, writer.go:1366: not modelled) -/
def indexPieces (cfg : EncCfg) (fs : FileS) : List Piece :=
  (enumFrom 0 fs.rgs).flatMap (fun ic => (enumFrom 0 ic.2).map (fun jc =>
    viaKey (pageIndexKey cfg jc.1) (.columnIndex ic.1 jc.1) (.columnIndex ic.1 jc.1))) ++
  (enumFrom 0 fs.rgs).flatMap (fun ic => (enumFrom 0 ic.2).map (fun jc =>
    viaKey (pageIndexKey cfg jc.1) (.offsetIndex ic.1 jc.1) (.offsetIndex ic.1 jc.1)))

/-- the copy of the column metadata that stays in a plaintext footer: writeRowGroup zeroes the
    footer's copy (`c.MetaData = format.ColumnMetaData{}` on `columns[i]`), and
    writeDeferredBloomFilters later stores the bloom filter offset and length in it (1314-1321) -/
def redact (cfg : EncCfg) (ch : ChunkS) : ColMeta :=
  if cfg.deferredBloom && ch.bloom then { ColMeta.zero with bloomOffset := ch.md.bloomOffset, bloomLength := ch.md.bloomLength }
  else ColMeta.zero

/-- the metadata of the chunks as they travel with the footer -/
def footerPieces (cfg : EncCfg) (fs : FileS) : List Piece :=
  if !cfg.enabled then
    -- 1512-1520: `encoder.Encode(&w.fileMetaData)` raw
    raw .footerRest :: (enumFrom 0 fs.rgs).flatMap (fun ic => (enumFrom 0 ic.2).map (fun jc => raw (.columnMeta ic.1 jc.1 jc.2.md)))
  else if cfg.encFooter then
    -- 1450-1479: FileCryptoMetaData raw, then ONE envelope under the footer key holding the whole
    -- FileMetaData (a nil footer key makes encryptModule fail: nothing more is written)
    if cfg.footerKeySet then
      raw .cryptoMeta :: viaKey (some .footer) .footerRest .footer ::
        (enumFrom 0 fs.rgs).flatMap (fun ic => (enumFrom 0 ic.2).map (fun jc => viaKey (some .footer) (.columnMeta ic.1 jc.1 jc.2.md) .footer))
    else []
  else
    -- 1482-1509: FileMetaData raw (EncryptionAlgorithm inside), each chunk with the redacted copy raw
    -- and the full struct sealed inline (1775-1791, key = columnKeyFor(path)), then the signature
    if cfg.footerKeySet then
      raw .footerRest :: raw .cryptoMeta ::
        (enumFrom 0 fs.rgs).flatMap (fun ic => (enumFrom 0 ic.2).flatMap (fun jc =>
          [raw (.columnMeta ic.1 jc.1 (redact cfg jc.2)), viaKey (keyOf cfg jc.1) (.columnMeta ic.1 jc.1 jc.2.md) (.columnMeta ic.1 jc.1)])) ++
        [raw .signature]
    else []

def emit (fs : FileS) (cfg : EncCfg) : List Piece :=
  raw .magic ::
  (enumFrom 0 fs.rgs).flatMap (fun ic => rowGroupPieces cfg ic.1 ic.2) ++
  (if cfg.deferredBloom then (enumFrom 0 fs.rgs).flatMap (fun ic => (enumFrom 0 ic.2).flatMap (fun jc => bloomPieces cfg ic.1 jc.1 jc.2)) else []) ++
  indexPieces cfg fs ++ footerPieces cfg fs ++ [raw .tail]

/-- the write site of writer.go that puts a region in the file (names as factgen produces them) -/
def siteOf (sealed : Bool) : Content → String
  | .magic => "writer.writeFileHeader:w.writer.WriteString(magic)"
  | .tail => "writer.writeFileFooter:w.writer.Write(w.footer[:])"
  | .pageHeader .. => if sealed then "ColumnWriter.writeDataPage:output.Write(encHdr)" else "ColumnWriter.writeDataPage:output.Write(data)"
  | .pageBody .. => if sealed then "ColumnWriter.writeDataPage:output.Write(encBody)" else "ColumnWriter.writeDataPage:output.Write(data)"
  | .dictHeader .. => if sealed then "ColumnWriter.writeDictionaryPage:output.Write(encHdr)" else "ColumnWriter.writeDictionaryPage:output.Write(c.header.buffer.Bytes())"
  | .dictBody .. => if sealed then "ColumnWriter.writeDictionaryPage:output.Write(encBody)" else "ColumnWriter.writeDictionaryPage:output.Write(buf.page)"
  | .bloomHeader .. => if sealed then "ColumnWriter.writeBloomFilter:w.Write(encHdr)" else "ColumnWriter.writeBloomFilter:e.Encode(&h)"
  | .bloomBits .. => if sealed then "ColumnWriter.writeBloomFilter:w.Write(encBits)" else "ColumnWriter.writeBloomFilter:w.Write(filterBytes)"
  | .columnIndex .. => if sealed then "writer.writeFileFooter:w.writer.Write(envelope)" else "writer.writeFileFooter:encoder.Encode(&columnIndexes[j])"
  | .offsetIndex .. => if sealed then "writer.writeFileFooter:w.writer.Write(envelope)" else "writer.writeFileFooter:encoder.Encode(&offsetIndexes[j])"
  | .columnMeta .. | .footerRest => if sealed then "writer.writeFileFooter:w.writer.Write(encFooter)" else "writer.writeFileFooter:w.writer.Write(footerBytes)"
  | .cryptoMeta => "writer.writeFileFooter:encoder.Encode(&cryptoMeta)"
  | .signature => "writer.writeFileFooter:w.writer.Write(sig)"

/-- the sealed module that belongs to a region, and the column it belongs to -/
def Content.modCol : Content → Option (Module × Nat)
  | .pageHeader rg c p => some (.dataPageHeader rg c p, c)
  | .pageBody rg c p => some (.dataPage rg c p, c)
  | .dictHeader rg c => some (.dictPageHeader rg c, c)
  | .dictBody rg c => some (.dictPage rg c, c)
  | .bloomHeader rg c => some (.bloomHeader rg c, c)
  | .bloomBits rg c => some (.bloomBits rg c, c)
  | .columnIndex rg c => some (.columnIndex rg c, c)
  | .offsetIndex rg c => some (.offsetIndex rg c, c)
  | .columnMeta rg c _ => some (.columnMeta rg c, c)
  | _ => none

/-- the five ways a region reaches the file -/
inductive Shape (cfg : EncCfg) : Piece → Prop where
  /-- framing and structure: never carries values -/
  | framing (c : Content) (h : c = .magic ∨ c = .tail ∨ c = .footerRest ∨ c = .cryptoMeta ∨ c = .signature) : Shape cfg (raw c)
  /-- a writer without encryption writes the column metadata as it is -/
  | plainMeta (rg col : Nat) (m : ColMeta) (h : cfg.enabled = false) : Shape cfg (raw (.columnMeta rg col m))
  /-- plaintext-footer mode: the redacted copy -/
  | redacted (rg col : Nat) (ch : ChunkS) : Shape cfg (raw (.columnMeta rg col (redact cfg ch)))
  /-- a module of column `col`, through the key test of that column -/
  | keyed (col : Nat) (c : Content) (m : Module) (h : c.modCol = some (m, col)) : Shape cfg (viaKey (keyOf cfg col) c m)
  /-- encrypted-footer mode: part of the one footer envelope, under the footer key -/
  | inFooter (c : Content) (h : c = .footerRest ∨ ∃ rg col m, c = .columnMeta rg col m) (hf : cfg.encFooter = true) :
      Shape cfg (viaKey (some .footer) c .footer)

theorem pageIndexKey_eq (cfg : EncCfg) (col : Nat) : pageIndexKey cfg col = keyOf cfg col := rfl

theorem keyOf_isSome {cfg : EncCfg} (he : cfg.enabled = true) (hk : cfg.footerKeySet = true) (col : Nat) :
    (keyOf cfg col).isSome := by
  cases h : cfg.hasColKey col <;> simp [keyOf, he, hk, h]

theorem redact_not_sensitive (cfg : EncCfg) (ch : ChunkS) : (redact cfg ch).sensitive = false := by
  unfold redact; split <;> simp [ColMeta.sensitive, ColMeta.zero]

theorem chunkPieces_shape (cfg : EncCfg) (rg col : Nat) (ch : ChunkS) : ∀ p ∈ chunkPieces cfg rg col ch, Shape cfg p := by
  unfold chunkPieces
  refine List.forall_mem_append.2 ⟨?_, ?_⟩
  · split
    · exact List.forall_mem_cons.2 ⟨.keyed col _ _ rfl, List.forall_mem_cons.2 ⟨.keyed col _ _ rfl, List.forall_mem_nil _⟩⟩
    · exact List.forall_mem_nil _
  · exact List.forall_mem_flatMap.2 (fun p _ => List.forall_mem_cons.2 ⟨.keyed col _ _ rfl, List.forall_mem_cons.2 ⟨.keyed col _ _ rfl, List.forall_mem_nil _⟩⟩)

theorem bloomPieces_shape (cfg : EncCfg) (rg col : Nat) (ch : ChunkS) : ∀ p ∈ bloomPieces cfg rg col ch, Shape cfg p := by
  unfold bloomPieces
  split
  · exact List.forall_mem_cons.2 ⟨.keyed col _ _ rfl, List.forall_mem_cons.2 ⟨.keyed col _ _ rfl, List.forall_mem_nil _⟩⟩
  · exact List.forall_mem_nil _

theorem footerPieces_shape (cfg : EncCfg) (fs : FileS) : ∀ p ∈ footerPieces cfg fs, Shape cfg p := by
  fun_cases footerPieces cfg fs
  case case1 h =>   -- no encryption
    have h : cfg.enabled = false := by simpa using h
    exact List.forall_mem_cons.2 ⟨.framing _ (by simp), List.forall_mem_flatMap.2 (fun ic _ => List.forall_mem_map.2 (fun jc _ => .plainMeta _ _ _ h))⟩
  case case2 hf _ =>   -- encrypted footer
    refine List.forall_mem_cons.2 ⟨.framing _ (by simp), List.forall_mem_cons.2 ⟨.inFooter _ (Or.inl rfl) hf, ?_⟩⟩
    exact List.forall_mem_flatMap.2 (fun ic _ => List.forall_mem_map.2 (fun jc _ => .inFooter _ (Or.inr ⟨_, _, _, rfl⟩) hf))
  case case4 =>   -- plaintext footer
    refine List.forall_mem_cons.2 ⟨.framing _ (by simp), List.forall_mem_cons.2 ⟨.framing _ (by simp), List.forall_mem_append.2 ⟨?_, List.forall_mem_cons.2 ⟨.framing _ (by simp), List.forall_mem_nil _⟩⟩⟩⟩
    exact List.forall_mem_flatMap.2 (fun ic _ => List.forall_mem_flatMap.2 (fun jc _ => List.forall_mem_cons.2 ⟨.redacted _ _ _, List.forall_mem_cons.2 ⟨.keyed jc.1 _ _ rfl, List.forall_mem_nil _⟩⟩))
  case case3 | case5 => exact List.forall_mem_nil _   -- no footer key: nothing is written

theorem emit_shape (fs : FileS) (cfg : EncCfg) : ∀ p ∈ emit fs cfg, Shape cfg p := by
  unfold emit
  refine List.forall_mem_cons.2 ⟨.framing _ (by simp), ?_⟩
  refine List.forall_mem_append.2 ⟨List.forall_mem_append.2 ⟨List.forall_mem_append.2 ⟨List.forall_mem_append.2 ⟨?_, ?_⟩, ?_⟩, footerPieces_shape cfg fs⟩, List.forall_mem_cons.2 ⟨.framing _ (by simp), List.forall_mem_nil _⟩⟩
  · refine List.forall_mem_flatMap.2 (fun ic _ => ?_)
    unfold rowGroupPieces
    refine List.forall_mem_append.2 ⟨List.forall_mem_flatMap.2 (fun jc _ => chunkPieces_shape cfg _ _ _), ?_⟩
    split
    · exact List.forall_mem_nil _
    · exact List.forall_mem_flatMap.2 (fun jc _ => bloomPieces_shape cfg _ _ _)
  · split
    · exact List.forall_mem_flatMap.2 (fun ic _ => List.forall_mem_flatMap.2 (fun jc _ => bloomPieces_shape cfg _ _ _))
    · exact List.forall_mem_nil _
  · unfold indexPieces
    simp only [pageIndexKey_eq]
    exact List.forall_mem_append.2 ⟨List.forall_mem_flatMap.2 (fun ic _ => List.forall_mem_map.2 (fun jc _ => .keyed jc.1 _ _ rfl)), List.forall_mem_flatMap.2 (fun ic _ => List.forall_mem_map.2 (fun jc _ => .keyed jc.1 _ _ rfl))⟩

theorem modCol_of_column {c : Content} {col : Nat} (h : c.column = some col) : ∃ m, c.modCol = some (m, col) := by
  cases c <;> simp [Content.column] at h <;> first
    | (subst h; exact ⟨_, rfl⟩)
    | (obtain ⟨_, rfl⟩ := h; exact ⟨_, rfl⟩)

theorem Shape.of_column {cfg : EncCfg} {p : Piece} (h : Shape cfg p) (he : cfg.enabled = true) {col : Nat}
    (hc : p.content.column = some col) :
    (∃ c m, p = viaKey (keyOf cfg col) c m) ∨
    (cfg.encFooter = true ∧ ∃ rg m, p = viaKey (some .footer) (.columnMeta rg col m) .footer) := by
  cases h with
  | framing c h => rcases h with rfl | rfl | rfl | rfl | rfl <;> simp [raw, Content.column] at hc
  | plainMeta rg c m h => rw [he] at h; cases h
  | redacted rg c ch => simp [raw, Content.column, redact_not_sensitive] at hc
  | keyed c' c m h =>
    -- `c` carries data of `col` (`hc`) and is a module of column `c'` (`h`): the two columns are one
    obtain ⟨m', hm'⟩ := modCol_of_column hc
    simp only [viaKey] at hm'
    rw [h] at hm'
    cases hm'
    exact Or.inl ⟨c, m, rfl⟩
  | inFooter c h hf =>
    rcases h with rfl | ⟨rg, c', m, rfl⟩
    · simp [viaKey, Content.column] at hc
    · simp only [viaKey, Content.column] at hc
      split at hc
      · cases hc; exact Or.inr ⟨hf, rg, m, rfl⟩
      · cases hc

end PqModel.EncEmit
