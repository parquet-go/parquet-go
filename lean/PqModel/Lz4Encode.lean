import PqModel.Codec
import PqModel.Spec.Lz4Seqs

/-! C20: the ENCODE side of compress/lz4/lz4.go — the destination handed to the third-party
block compressor. MIRROR (`lz4Encode`) + ASSUMED contract of `CompressBlock` + SPEC fact that the
worst-case bound is enough for a lossless block. The mechanism: pierrec/lz4 `CompressBlock`
answers `(0, nil)` — no error — when the data does not compress and `len(dst)` is below
`CompressBlockBound(len(src))`; `Codec.Encode` returns `dst[:n]`, so a too-small buffer turns
into an EMPTY block that decodes to nothing. -/
namespace PqModel.Codec
open PqModel.Spec.BlockCodecs

/-- third-party pierrec/lz4 v4 `CompressBlockBound(n)` = `n + n/255 + 16` -/
def lz4BlockBound (n : Nat) : Nat := n + n / 255 + 16

/-- third-party `CompressBlock(src, dst)` with `len(dst) = n`: `some block`, or `none` for the
answer `(0, nil)` (gave up: incompressible and `dst` below the bound) -/
structure Lz4EncImpl where
  cb : Bytes → Nat → Option Bytes

/-- MIRROR compress/lz4/lz4.go:41-56 `Codec.Encode`:
`dst = reserveAtLeast(dst, lz4.CompressBlockBound(len(src)))`, one `CompressBlock`,
`return dst[:n], err`. Result: the returned bytes (a give-up comes back as the empty block, nil
error) and `len(dst)` = the capacity of the returned slice. -/
def lz4Encode (E : Lz4EncImpl) (dstCap : Nat) (src : Bytes) : Bytes × Nat :=
  ((E.cb src (reserveAtLeast dstCap (lz4BlockBound src.length))).getD [],
   reserveAtLeast dstCap (lz4BlockBound src.length))

/-- NOT the code: the variant "keep the caller's buffer when it can hold the input",
kept to show what the bound is for -/
def lz4EncodeKeepCaller (E : Lz4EncImpl) (dstCap : Nat) (src : Bytes) : Bytes × Nat :=
  let len := if dstCap < src.length then lz4BlockBound src.length else dstCap
  ((E.cb src len).getD [], len)

/-- ASSUMED about pierrec/lz4: with a destination of at least `CompressBlockBound(len(src))`
bytes `CompressBlock` always produces the block -/
def Lz4EncContract (E : Lz4EncImpl) (enc : Bytes → Bytes) : Prop :=
  ∀ x n, lz4BlockBound x.length ≤ n → E.cb x n = some (enc x)

theorem reserveAtLeast_ge (cap n : Nat) : n ≤ reserveAtLeast cap n := by
  unfold reserveAtLeast; split <;> omega

theorem lz4Encode_ok {E : Lz4EncImpl} {enc : Bytes → Bytes} (hE : Lz4EncContract E enc)
    (x : Bytes) (dstCap : Nat) :
    lz4Encode E dstCap x = (enc x, reserveAtLeast dstCap (lz4BlockBound x.length)) := by
  simp [lz4Encode, hE x _ (reserveAtLeast_ge _ _)]

/-- a compressor that meets the contract and, like pierrec/lz4, gives up below the bound on data
it cannot shrink -/
def toyLz4Enc2 : Lz4EncImpl where
  cb x n := if lz4BlockBound x.length ≤ n then some (lz4LastSeq x) else none

theorem toyLz4Enc2_contract : Lz4EncContract toyLz4Enc2 lz4LastSeq := by
  intro x n h; simp [toyLz4Enc2, h]

/-! SPEC: the bound is enough — the literal-only block fits in it and decodes to the input -/

theorem lz4ExtEnc_length : ∀ (fuel m : Nat), (lz4ExtEnc fuel m).length ≤ m / 255 + 1 := by
  intro fuel m
  fun_induction lz4ExtEnc fuel m
  · simp
  · simp
  · rename_i ih; simp only [List.length_cons]; omega

theorem lz4LastSeq_length_le (x : List UInt8) : (lz4LastSeq x).length ≤ lz4BlockBound x.length := by
  unfold lz4LastSeq lz4LenExt lz4BlockBound
  split
  · simp; omega
  · have := lz4ExtEnc_length x.length (x.length - 15)
    simp only [List.length_cons, List.length_append]; omega

theorem lz4Dec_lastSeq (x : List UInt8) : lz4Dec (lz4LastSeq x) = .ok x := by
  simpa [PqModel.Spec.Lz4Seqs.encSeqs, PqModel.Spec.Lz4Seqs.applySeqs] using
    PqModel.Spec.Lz4Seqs.lz4Dec_encSeqs [] x rfl

end PqModel.Codec
