import PqModel.SeekLayers

/-! # `columnPages` (column.go): `Column.Pages()`, one reader over the chunks of ALL row groups (C08)

Unlike `multiPages` (which opens a fresh `Pages` of the chunk it needs and closes the previous
one), `columnPages` holds one `FilePages` per row group for its whole life, each with its own
position; `ReadPage` reads the current one and moves on at EOF, `SeekToRow` positions the row group
that holds the row AND rewinds every later row group to row 0 — the ones in front keep whatever
position they had, they are not read again before the next seek.

MIRROR (column.go:116-158). `c.pages` / `c.index` are kept as a zipper: `before` = the readers
`c.pages[:c.index]`, `after` = `c.pages[c.index:]` (so `c.index = before.length` and the reader in
use is the head of `after`). Row indexes are `Nat`: the negative `rowIndex` of the Go signature is
outside the model. The chunk readers are arbitrary `Machine`s (refining readers), `FilePages` being
the instance the library uses. -/
namespace PqModel.SeekLayers

universe u

namespace Column
open PqModel.Seek (Op)
open Multi (Running)

structure CSt.{v} where
  before : List Running.{v}   -- c.pages[:c.index]
  after : List Running.{v}    -- c.pages[c.index:]
  lost : Bool                 -- ghost: a read failed since the last seek

def tot (r : Running.{u}) : Nat := r.m.total

def sumT (l : List Running.{u}) : Nat := (l.map tot).sum

/-- `SeekToRow(0)` on every reader of the list, stopping at the first error (column.go:150-155) -/
def rewind : List Running.{u} → List Running.{u} × ROut
  | [] => ([], .ok)
  | r :: rest =>
    match (r.m.step r.s (.seek 0)).2 with
    | .ok => (⟨r.m, (r.m.step r.s (.seek 0)).1⟩ :: (rewind rest).1, (rewind rest).2)
    | o => (⟨r.m, (r.m.step r.s (.seek 0)).1⟩ :: rest, o)

/-- MIRROR of `columnPages.SeekToRow` on the whole list `c.pages` (column.go:134-158): skip the row
    groups with `NumRows < rowIndex`, seek the first other one, rewind all the later ones.
    Result: `((pages[:index], pages[index:]), error)`. -/
def seekList : List Running.{u} → Nat → (List Running.{u} × List Running.{u}) × ROut
  | [], _ => (([], []), .ok)
  | r :: rest, k =>
    if tot r < k then
      ((r :: (seekList rest (k - tot r)).1.1, (seekList rest (k - tot r)).1.2), (seekList rest (k - tot r)).2)
    else
      match (r.m.step r.s (.seek k)).2 with
      | .ok => (([], ⟨r.m, (r.m.step r.s (.seek k)).1⟩ :: (rewind rest).1), (rewind rest).2)
      | o => (([], ⟨r.m, (r.m.step r.s (.seek k)).1⟩ :: rest), o)

/-- MIRROR of `columnPages.ReadPage` (column.go:121-132): read the current reader, at EOF go on
    with the next one; rows are reported in the coordinates of the whole column -/
def readList (before : List Running.{u}) (lost : Bool) : List Running.{u} → CSt.{u} × ROut
  | [] => (⟨before, [], lost⟩, .eof)
  | r :: rest =>
    match (r.m.step r.s .readPage).2 with
    | .eof => readList (before ++ [⟨r.m, (r.m.step r.s .readPage).1⟩])
                (lost || (r.m.pos (r.m.step r.s .readPage).1).isNone) rest
    | .rows st n => (⟨before, ⟨r.m, (r.m.step r.s .readPage).1⟩ :: rest,
                      lost || (r.m.pos (r.m.step r.s .readPage).1).isNone⟩, .rows (sumT before + st) n)
    | o => (⟨before, ⟨r.m, (r.m.step r.s .readPage).1⟩ :: rest,
             lost || (r.m.pos (r.m.step r.s .readPage).1).isNone⟩, o)

/-- MIRROR of `columnPages`; the ghost `lost` after a seek records a refusal, which readers that
    refine the reference reader never give (`seekList_spec`) -/
def step (s : CSt.{u}) : Op → CSt.{u} × ROut
  | .seek k =>
    (⟨(seekList (s.before ++ s.after) k).1.1, (seekList (s.before ++ s.after) k).1.2,
      (seekList (s.before ++ s.after) k).2 != .ok⟩, (seekList (s.before ++ s.after) k).2)
  | .readPage => readList s.before s.lost s.after
  | .loadIndex => (s, .ok)

/-- abstraction: the row of the whole column the reader stands before (`min`: a chunk reader sought to its end may stand beyond it) -/
def posOf (before : List Running.{u}) (lost : Bool) (after : List Running.{u}) : Option Nat :=
  if lost then none else
  match after with
  | [] => some (sumT before)
  | r :: _ => (r.m.pos r.s).map fun p => sumT before + min p (tot r)

def pos (s : CSt.{u}) : Option Nat := posOf s.before s.lost s.after

/-- a reader that will deliver all the rows of its chunk -/
def Fresh (r : Running.{u}) : Prop := ∃ p, r.m.pos r.s = some p ∧ (p = 0 ∨ tot r = 0)

def AllInv (l : List Running.{u}) : Prop := ∀ r ∈ l, r.m.inv r.s

def AfterOK (lost : Bool) : List Running.{u} → Prop
  | [] => True
  | r :: rest => (∀ r' ∈ rest, Fresh r') ∧ (lost = false → ∃ p, r.m.pos r.s = some p)

def inv (tots : List Nat) (s : CSt.{u}) : Prop :=
  (s.before ++ s.after).map tot = tots ∧ AllInv (s.before ++ s.after) ∧ AfterOK s.lost s.after

theorem sumT_append (a b : List Running.{u}) : sumT (a ++ b) = sumT a + sumT b := by
  simp [sumT, List.map_append, List.sum_append]

theorem sumT_cons (r : Running.{u}) (l : List Running.{u}) : sumT (r :: l) = tot r + sumT l := by
  simp [sumT]

theorem posOf_cons (r : Running.{u}) (before : List Running.{u}) (lost : Bool) (after : List Running.{u}) :
    posOf (r :: before) lost after = (posOf before lost after).map (tot r + ·) := by
  unfold posOf
  cases lost with
  | true => rfl
  | false =>
    cases after with
    | nil => simp only [Bool.false_eq_true, if_false, sumT_cons, Option.map_some]
    | cons a as =>
      simp only [Bool.false_eq_true, if_false, sumT_cons, Option.map_map]
      congr 1
      funext p
      exact Nat.add_assoc _ _ _

theorem rewind_spec : ∀ (l : List Running.{u}), AllInv l →
    (rewind l).2 = .ok ∧ (rewind l).1.map tot = l.map tot ∧ AllInv (rewind l).1 ∧ ∀ r ∈ (rewind l).1, Fresh r
  | [], _ => by
    refine ⟨rfl, rfl, ?_, ?_⟩ <;> intro x hx <;> cases hx
  | r :: rest, h => by
    have hr : r.m.inv r.s := h r (List.mem_cons_self ..)
    obtain ⟨i1, i2, i3, i4⟩ := rewind_spec rest (fun x hx => h x (List.mem_cons_of_mem _ hx))
    have hinv := r.m.step_inv r.s (.seek 0) hr
    obtain ⟨ho, k', hp, hsame⟩ := r.m.seek_le r.s hr 0 (Nat.zero_le _)
    simp only [rewind, ho]
    have hfresh : Fresh ⟨r.m, (r.m.step r.s (.seek 0)).1⟩ := by
      refine ⟨k', hp, ?_⟩
      rcases hsame with a | ⟨a, _⟩
      · exact Or.inl a
      · exact Or.inr (Nat.le_zero.mp a)
    exact ⟨i1, by simp [tot, i2], List.forall_mem_cons.mpr ⟨hinv, i3⟩, List.forall_mem_cons.mpr ⟨hfresh, i4⟩⟩

theorem seekList_spec : ∀ (l : List Running.{u}) (k : Nat), AllInv l →
    (seekList l k).2 = .ok ∧
    ((seekList l k).1.1 ++ (seekList l k).1.2).map tot = l.map tot ∧
    AllInv ((seekList l k).1.1 ++ (seekList l k).1.2) ∧
    AfterOK false (seekList l k).1.2 ∧
    ∃ k', posOf (seekList l k).1.1 false (seekList l k).1.2 = some k' ∧ SamePos (sumT l) k k'
  | [], k, _ => by
    refine ⟨rfl, rfl, ?_, trivial, 0, rfl, Or.inr ⟨Nat.zero_le _, Nat.le_refl _⟩⟩
    intro x hx; cases hx
  | r :: rest, k, h => by
    obtain ⟨hr, hrest⟩ := List.forall_mem_cons.mp h
    simp only [seekList]
    split
    · rename_i hlt
      obtain ⟨i1, i2, i3, i4, k', i5, i6⟩ := seekList_spec rest (k - tot r) hrest
      refine ⟨i1, by simp only [List.cons_append, List.map_cons, i2], List.forall_mem_cons.mpr ⟨hr, i3⟩, i4,
        tot r + k', ?_, ?_⟩
      · rw [posOf_cons, i5]; rfl
      · simp only [SamePos, sumT_cons] at i6 ⊢
        omega
    · rename_i hge
      have hk : k ≤ tot r := Nat.le_of_not_lt hge
      have hinv := r.m.step_inv r.s (.seek k) hr
      obtain ⟨j1, j2, j3, j4⟩ := rewind_spec rest hrest
      obtain ⟨ho, k', hp, hsame⟩ := r.m.seek_le r.s hr k hk
      -- the reader stands on `k`, or `k` is its end and it stands there or beyond
      have hmin : min k' (tot r) = k := by
        rcases hsame with rfl | ⟨a, b⟩
        · exact Nat.min_eq_left hk
        · exact (Nat.min_eq_right b).trans (Nat.le_antisymm a hk)
      simp only [ho]
      refine ⟨j1, by simp [tot, j2], List.forall_mem_cons.mpr ⟨hinv, j3⟩, ⟨j4, fun _ => ⟨k', hp⟩⟩, k, ?_, Or.inl rfl⟩
      · simp only [posOf, Bool.false_eq_true, if_false, hp, Option.map_some]
        exact congrArg some ((Nat.zero_add _).trans hmin)

theorem Fresh.min_eq_zero {r : Running.{u}} (h : Fresh r) : ∃ q, r.m.pos r.s = some q ∧ min q (tot r) = 0 := by
  obtain ⟨q, hq, h0 | h0⟩ := h
  · exact ⟨q, hq, by rw [h0, Nat.zero_min]⟩
  · exact ⟨q, hq, by rw [h0, Nat.min_zero]⟩

theorem readList_spec (tots : List Nat) : ∀ (after before : List Running.{u}) (lost : Bool),
    inv tots ⟨before, after, lost⟩ →
    inv tots (readList before lost after).1 ∧
    PSpec tots.sum (posOf before lost after) .readPage (pos (readList before lost after).1) (readList before lost after).2
  | [], before, lost, h => by
    refine ⟨h, ?_⟩
    obtain ⟨h1, _, _⟩ := h
    simp only [List.append_nil] at h1
    simp only [readList, pos, posOf, PSpec]
    cases lost with
    | true => rfl
    | false => exact ⟨by rw [← h1]; exact Nat.le_refl _, rfl⟩
  | r :: rest, before, lost, h => by
    obtain ⟨h1, h2, h3, h4⟩ := h
    simp only [] at h1 h2 h3 h4  -- only reduces projections
    have hr : r.m.inv r.s := h2 r (by simp)
    have hinv := r.m.step_inv r.s .readPage hr
    have hsum : tots.sum = sumT before + tot r + sumT rest := by
      rw [← h1]
      show sumT (before ++ r :: rest) = _
      rw [sumT_append, sumT_cons, Nat.add_assoc]
    have hall : ∀ s1, r.m.inv s1 → AllInv (before ++ (⟨r.m, s1⟩ : Running.{u}) :: rest) := fun s1 hs1 =>
      have h2' := List.forall_mem_append.mp h2
      List.forall_mem_append.mpr ⟨h2'.1, List.forall_mem_cons.mpr ⟨hs1, (List.forall_mem_cons.mp h2'.2).2⟩⟩
    have htots : ∀ s1, (before ++ (⟨r.m, s1⟩ : Running.{u}) :: rest).map tot = tots := by
      intro s1; rw [← h1]; simp [tot]
    have keep : ∀ s1 l', r.m.inv s1 → (l' = false → ∃ p, r.m.pos s1 = some p) →
        inv tots ⟨before, ⟨r.m, s1⟩ :: rest, l'⟩ := fun s1 l' hs1 hl' =>
      ⟨htots s1, hall s1 hs1, h3, hl'⟩
    have next : ∀ s1 l', r.m.inv s1 → inv tots ⟨before ++ [⟨r.m, s1⟩], rest, l'⟩ := by
      intro s1 l' hs1
      refine ⟨by simpa using htots s1, by simpa using hall s1 hs1, ?_⟩
      cases rest with
      | nil => trivial
      | cons a as =>
        refine ⟨fun x hx => h3 x (List.mem_cons_of_mem _ hx), fun _ => ?_⟩
        obtain ⟨p, hp, _⟩ := h3 a (List.mem_cons_self ..)
        exact ⟨p, hp⟩
    cases lost with
    | true =>
      simp only [readList, Bool.true_or]
      split
      · exact readList_spec tots rest _ true (next _ true hinv)
      · exact ⟨keep _ true hinv (fun h => by cases h), rfl⟩
      · exact ⟨keep _ true hinv (fun h => by cases h), rfl⟩
    | false =>
      obtain ⟨p, hp⟩ := h4 rfl
      have hp0 : posOf before false (r :: rest) = some (sumT before + min p (tot r)) := by
        simp only [posOf, hp, Bool.false_eq_true, if_false, Option.map_some]
      rw [hp0]
      rcases r.m.read_some r.s hr hp with ⟨ho, hp'⟩ | ⟨ho, hT, hp'⟩ | ⟨n, ho, hn, hle, hp'⟩
      · simp only [readList, ho, hp', Option.isNone_none, Bool.or_true]
        exact ⟨keep _ true hinv (fun h => by cases h), rfl⟩
      · -- the chunk is used up: the position is the start of the next one
        simp only [readList, ho, hp', Option.isNone_some, Bool.or_false]
        have ih := readList_spec tots rest _ false (next (r.m.step r.s .readPage).1 false hinv)
        have hs : sumT (before ++ [(⟨r.m, (r.m.step r.s .readPage).1⟩ : Running.{u})]) = sumT before + tot r := by
          rw [sumT_append, sumT_cons]; rfl
        have hpos' : posOf (before ++ [(⟨r.m, (r.m.step r.s .readPage).1⟩ : Running.{u})]) false rest
            = some (sumT before + min p (tot r)) := by
          rw [Nat.min_eq_right (show tot r ≤ p from hT)]
          simp only [posOf, Bool.false_eq_true, if_false, hs]
          cases rest with
          | nil => rfl
          | cons a as =>
            obtain ⟨q, hq, hq0⟩ := (h3 a (List.mem_cons_self ..)).min_eq_zero
            simp only [hq, Option.map_some, hq0, Nat.add_zero]
        rw [hpos'] at ih
        exact ih
      · -- a page lies inside the chunk: nothing is clamped
        simp only [readList, ho, hp', Option.isNone_some, Bool.or_false]
        refine ⟨keep _ false hinv (fun _ => ⟨_, hp'⟩), ?_⟩
        have hle' : p + n ≤ tot r := hle
        have e1 : min p (tot r) = p := Nat.min_eq_left (Nat.le_trans (Nat.le_add_right _ _) hle')
        have e2 : min (p + n) (tot r) = p + n := Nat.min_eq_left hle'
        simp only [PSpec, pos, posOf, Bool.false_eq_true, if_false, hp', Option.map_some, e1, Nat.add_assoc]
        exact ⟨trivial, hn, by omega, congrArg (fun x => some (sumT before + x)) e2⟩

end Column

/-- `columnPages` over the chunk readers of a column in every row group of a file -/
def columnM (ms : List Machine.{u}) : Machine.{u+1} where
  σ := Column.CSt.{u}
  step := Column.step
  inv := Column.inv (ms.map (·.total))
  pos := Column.pos
  total := (ms.map (·.total)).sum
  init := ⟨[], ms.map fun m => ⟨m, m.init⟩, false⟩
  init_inv := by
    refine ⟨by simp [Column.tot, Function.comp_def], ?_, ?_⟩
    · intro r hr
      simp only [List.nil_append, List.mem_map] at hr
      obtain ⟨m, _, rfl⟩ := hr
      exact m.init_inv
    · cases ms with
      | nil => trivial
      | cons a as =>
        refine ⟨?_, fun _ => ⟨0, a.init_pos⟩⟩
        intro r hr
        simp only [List.mem_map] at hr
        obtain ⟨m, _, rfl⟩ := hr
        exact ⟨0, m.init_pos, Or.inl rfl⟩
  init_pos := by
    cases ms with
    | nil => simp [Column.pos, Column.posOf, Column.sumT]
    | cons a as => simp [Column.pos, Column.posOf, Column.sumT, a.init_pos]
  step_inv s op h := by
    cases op with
    | seek k =>
      obtain ⟨h1, h2, _⟩ := h
      obtain ⟨i1, i2, i3, i4, _⟩ := Column.seekList_spec (s.before ++ s.after) k h2
      refine ⟨by simp only [Column.step]; rw [i2, h1], i3, ?_⟩
      simp only [Column.step, i1]
      exact i4
    | readPage => exact (Column.readList_spec _ s.after s.before s.lost h).1
    | loadIndex => exact h
  step_spec s op h := by
    cases op with
    | seek k =>
      obtain ⟨h1, h2, _⟩ := h
      obtain ⟨i1, _, _, _, k', i5, i6⟩ := Column.seekList_spec (s.before ++ s.after) k h2
      refine Or.inl ⟨i1, k', ?_, ?_⟩
      · simp only [Column.step, Column.pos, i1]
        exact i5
      · have : Column.sumT (s.before ++ s.after) = (ms.map (·.total)).sum := by
          simp only [Column.sumT, h1]
        rw [← this]
        exact i6
    | readPage => exact (Column.readList_spec _ s.after s.before s.lost h).2
    | loadIndex => exact ⟨rfl, rfl⟩

end PqModel.SeekLayers
