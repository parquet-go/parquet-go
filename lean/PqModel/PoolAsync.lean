import PqModel.Async
import PqModel.Basics

/-! # PoolAsync — who owns the page buffers while `asyncPages` runs (property C16)

The transition system of `PqModel.Async` (MIRROR of page.go:121-328: consumer, producer goroutine,
the four channels; all interleavings) is extended by the refcounted page buffers that travel
through it. Nothing of `Async.Step` is restated: a library step of this system IS a step of
`Async.Step` (`OStep.lib`) together with its effect on the buffers (`eff`), so every theorem of C15
about the protocol applies to the projection (`oreach_proj`).

* `Hp.refc`/`Hp.pooled` — reference count of the buffers behind a `bufferedPage` (buffer.go:588-644:
  `Retain`/`Release`/`Slice` move the counters of all buffers of a page together, so one counter per
  page storage is kept) and whether the storage went back to `sync.Pool` (refcount reached zero:
  `buffer.unref`, where the verif hook poisons it). A decode takes a buffer the model has not seen
  (`nbuf`); pool reuse is the business of `PqModel.Pool` (`Props.C16.get_never_returns_aliased`): here
  `pooled b` means "from now on anybody's `get` may overwrite it".
* `last` — `FilePages.lastPage` of the WRAPPED reader (file.go:1314-1320: release the cached page,
  cache the new one with `Retain`; file.go:1224-1233: a page served from the cache is a `Slice` of
  it, one more reference on the same buffers; file.go:1738: `Close` releases it). It is touched
  by the producer goroutine only.
* `sendB` — the local `page` of `readPages` while it sits in the `select` (page.go:290,303,308-322),
  `gotB` — `p.page` of the consumer between the receive and the version test (page.go:190-210).
* `appc` — GHOST: the references the application holds (one per page `ReadPage` returned,
  page.go:205, plus its own `Retain`s minus its own `Release`s). The application is a third party
  that may run between any two steps of the two goroutines (`OStep.appRetain`, `OStep.appRelease`).
* `bug` — an `unref` of a counter that is zero / a `ref` of a pooled buffer happened (the panics of
  buffer.go `unref`/`ref`).

* `cached` / `skipped` (parameters of a library step) — choices of the wrapped reader the protocol
  does not see: whether the page it returns is a `Slice` of its cached page, and how many pages one
  `ReadPage` decodes and skips on its way to the seek target (file.go:1352-1361; each skipped page
  replaces `lastPage`, the loop may end in io.EOF: SeekToRow behind the last row). Every choice is a
  step, so the theorems hold for all of them; the harness sub-check `asyncown` derives the choices the library made from
  the page layout and cross-checks them with the buffer identities it observes.

Not modelled: the transient buffers inside one wrapped `ReadPage` (page bytes, levels: balanced
within the producer's step), the dictionary page buffer kept by `FilePages`, the values / rows read
out of a delivered page (that is `PqModel.Pool`'s alias level). -/
namespace PqModel.PoolAsync
open PqModel.Async

def cnt (x : Option Nat) (b : Nat) : Nat := if x = some b then 1 else 0

structure Hp where
  refc : Nat → Nat
  pooled : Nat → Bool
  nbuf : Nat
  bug : Bool

structure O where
  g : G
  h : Hp
  last : Option Nat
  sendB : Option Nat
  gotB : Option Nat
  appc : Nat → Nat

def init : O :=
  { g := Async.init, h := ⟨fun _ => 0, fun _ => false, 0, false⟩, last := none,
    sendB := none, gotB := none, appc := fun _ => 0 }

/-- buffer.go `bufferUnref` on every buffer of the page (`Release(nil)` does nothing);
    the storage goes back to the pool when the counter reaches zero -/
def Hp.unref (h : Hp) : Option Nat → Hp
  | none => h
  | some b =>
    if h.refc b = 0 then { h with bug := true }
    else { h with refc := fun j => if j = b then h.refc b - 1 else h.refc j,
                  pooled := fun j => if j = b then decide (h.refc b = 1) else h.pooled j }

/-- buffer.go `bufferRef` on every buffer of the page -/
def Hp.ref (h : Hp) (b : Nat) : Hp :=
  if h.refc b = 0 then { h with bug := true }
  else { h with refc := fun j => if j = b then h.refc b + 1 else h.refc j }

/-- a page is decoded into storage the model has not seen: one reference for the page returned by
    the decode, one for `Retain(page)` of file.go:1320 -/
def Hp.alloc (h : Hp) : Hp :=
  { h with refc := fun j => if j = h.nbuf then 2 else h.refc j,
           pooled := fun j => if j = h.nbuf then false else h.pooled j,
           nbuf := h.nbuf + 1 }

/-- the storage of a page that the wrapped `ReadPage` decodes and skips (file.go:1352-1361:
    `Release(page)` after `Retain(page)` for the cache): one reference, the cache's -/
def Hp.alloc1 (h : Hp) : Hp :=
  { h with refc := fun j => if j = h.nbuf then 1 else h.refc j,
           pooled := fun j => if j = h.nbuf then false else h.pooled j,
           nbuf := h.nbuf + 1 }

/-- MIRROR of the wrapped `FilePages.ReadPage` returning a page (file.go:1224-1233 cached,
    file.go:1246-1365 decoded): the returned page goes to the producer's local `page` -/
def O.readUnder (o : O) (cached : Bool) : O :=
  match cached, o.last with
  | true, some b => { o with h := o.h.ref b, sendB := some b }    -- lastPage.Slice(skip, numRows)
  | _, _ =>
    let h1 := o.h.unref o.last                                     -- :1314-1316 Release(f.lastPage)
    { o with h := h1.alloc, last := some h1.nbuf, sendB := some h1.nbuf }

/-- MIRROR of the wrapped `FilePages.Close` (file.go:1738-1740 `Release(f.lastPage)`), evaluated by
    the producer's deferred function (page.go:255) -/
def O.closeUnder (o : O) : O := { o with h := o.h.unref o.last, last := none }

/-- MIRROR of one iteration of the loop of the wrapped `ReadPage` that decodes a page and skips it
    because the seek target lies behind it (file.go:1314-1320 then :1352-1361 `numRows <= f.skip`):
    the cache lets go of the page it held and keeps the skipped one -/
def O.skipOne (o : O) : O :=
  let h1 := o.h.unref o.last
  { o with h := h1.alloc1, last := some h1.nbuf }

def O.skipUnder (o : O) : Nat → O
  | 0 => o
  | n + 1 => (o.skipOne).skipUnder n

/-- page.go:303-307: what the wrapped `ReadPage` (or the failed `SeekToRow`) leaves in `page` -/
def offerEff (o : O) (cached : Bool) : Res → O
  | .page _ => o.readUnder cached
  | _ => { o with sendB := none }                                -- nil page with io.EOF / an error

/-- effect of a step of `Async.Step` on the buffers; `o.g` is the state BEFORE the step -/
def eff (o : O) (cached : Bool) (skipped : Nat) : Ev → O
  | .bodyOffer r _ => offerEff (o.skipUnder skipped) cached r     -- page.go:303
  | .handoff => { o with gotB := o.sendB, sendB := none }        -- page.go:190 / :309-313
  | .deliver _ _ =>                                              -- page.go:205: the caller owns it
    { o with gotB := none, appc := fun j => o.appc j + cnt o.gotB j }
  | .drop _ => { o with h := o.h.unref o.gotB, gotB := none }    -- page.go:210 Release(p.page)
  | .closeRecv => { o with h := o.h.unref o.sendB, sendB := none } -- page.go:175 Release(p.page)
  | .selTake _ _ => { o with h := o.h.unref o.sendB, sendB := none } -- page.go:317 Release(page)
  | .selDone => O.closeUnder { o with h := o.h.unref o.sendB, sendB := none } -- page.go:320, then :255
  | .initDone => o.closeUnder                                    -- page.go:268, then :255
  | _ => o

inductive Lbl where
  | lib (e : Ev) (cached : Bool) (skipped : Nat)
  | appRetain (b : Nat)
  | appRelease (b : Nat)
deriving DecidableEq, Repr

/-- all interleavings of the consumer, the producer and an application that retains / releases the
    pages it holds at any moment (also while the consumer is inside a call: another goroutine of the
    application may do that) -/
inductive OStep (U : Under) : O → Lbl → O → Prop where
  | lib {o e g'} (cached : Bool) (skipped : Nat) :
      Step U o.g e g' → OStep U o (.lib e cached skipped) { eff o cached skipped e with g := g' }
  /-- `parquet.Retain(page)` by the application on a page it holds -/
  | appRetain {o b} : 0 < o.appc b →
      OStep U o (.appRetain b) { o with h := o.h.ref b, appc := fun j => o.appc j + cnt (some b) j }
  /-- `parquet.Release(page)` by the application on a page it holds -/
  | appRelease {o b} : 0 < o.appc b →
      OStep U o (.appRelease b)
        { o with h := o.h.unref (some b), appc := fun j => o.appc j - cnt (some b) j }

inductive OPath (U : Under) : O → List Lbl → O → Prop where
  | nil {o} : OPath U o [] o
  | cons {o l o' ls o''} : OStep U o l o' → OPath U o' ls o'' → OPath U o (l :: ls) o''

def OReach (U : Under) (o : O) : Prop := ∃ ls, OPath U init ls o

theorem OPath.snoc {U o ls o' l o''} (h : OPath U o ls o') (s : OStep U o' l o'') :
    OPath U o (ls ++ [l]) o'' := by
  induction h with
  | nil => exact .cons s .nil
  | cons s' _ ih => exact .cons s' (ih s)

theorem OReach.step {U o l o'} (h : OReach U o) (s : OStep U o l o') : OReach U o' := by
  obtain ⟨ls, hp⟩ := h
  exact ⟨ls ++ [l], hp.snoc s⟩

theorem oreach_induction {U : Under} {P : O → Prop} (h0 : P init)
    (hs : ∀ o l o', P o → OStep U o l o' → P o') : ∀ o, OReach U o → P o := by
  intro o ⟨ls, hp⟩
  have : ∀ o0 ls o, OPath U o0 ls o → P o0 → P o := by
    intro o0 ls o hp
    induction hp with
    | nil => exact id
    | cons s _ ih => exact fun h => ih (hs _ _ _ h s)
  exact this _ _ _ hp h0

theorem ostep_proj {U o l o'} (h : OStep U o l o') : o'.g = o.g ∨ ∃ e, Step U o.g e o'.g := by
  cases h with
  | lib c n hs => exact .inr ⟨_, hs⟩
  | appRetain h => exact .inl rfl
  | appRelease h => exact .inl rfl

theorem oreach_proj {U o} (h : OReach U o) : Reachable U o.g := by
  refine oreach_induction (P := fun o => Reachable U o.g) ⟨[], .nil⟩ ?_ o h
  intro o l o' ⟨es, hp⟩ hs
  rcases ostep_proj hs with he | ⟨e, he⟩
  · rw [he]; exact ⟨es, hp⟩
  · exact ⟨es ++ [e], hp.snoc he⟩

theorem cnt_none (b : Nat) : cnt none b = 0 := rfl
theorem cnt_self (b : Nat) : cnt (some b) b = 1 := if_pos rfl
theorem cnt_ne {b j : Nat} (h : j ≠ b) : cnt (some b) j = 0 := if_neg fun e => h (Option.some.inj e).symm

/-- `K b` = how many references on `b` somebody owns -/
structure HeapOK (h : Hp) (K : Nat → Nat) : Prop where
  nobug : h.bug = false
  count : ∀ b, h.refc b = K b
  pool : ∀ b, b < h.nbuf → (h.pooled b = true ↔ h.refc b = 0)
  fresh : ∀ b, h.nbuf ≤ b → h.refc b = 0 ∧ h.pooled b = false

theorem HeapOK.congr {h K K'} (ok : HeapOK h K) (e : ∀ b, K b = K' b) : HeapOK h K' :=
  ⟨ok.nobug, fun b => (ok.count b).trans (e b), ok.pool, ok.fresh⟩

theorem HeapOK.lt {h K b} (ok : HeapOK h K) (hb : 0 < K b) : b < h.nbuf := by
  have := ok.count b
  have := ok.fresh b
  omega

theorem HeapOK.not_pooled {h K b} (ok : HeapOK h K) (hb : 0 < K b) : h.pooled b = false := by
  cases hp : h.pooled b with
  | false => rfl
  | true => have := (ok.pool b (ok.lt hb)).mp hp; have := ok.count b; omega

/-- the frame rule of `HeapOK` for a change at one buffer `b`, which may be the fresh one -/
theorem HeapOK.set {h h' : Hp} {K K' : Nat → Nat} (ok : HeapOK h K) {b : Nat} (hbug : h'.bug = false)
    (hle : h.nbuf ≤ h'.nbuf) (hb : b < h'.nbuf) (hold : ∀ j, j < h'.nbuf → j ≠ b → j < h.nbuf)
    (hoth : ∀ j, j ≠ b → h'.refc j = h.refc j ∧ h'.pooled j = h.pooled j ∧ K' j = K j)
    (hcnt : h'.refc b = K' b) (hpool : h'.pooled b = true ↔ h'.refc b = 0) : HeapOK h' K' := by
  refine ⟨hbug, forall_of_point b hcnt fun j e => ?_, forall_of_point b (fun _ => hpool) fun j e hj => ?_,
    fun j hj => ?_⟩
  · obtain ⟨h1, _, h3⟩ := hoth j e
    rw [h1, h3]; exact ok.count j
  · obtain ⟨h1, h2, _⟩ := hoth j e
    rw [h1, h2]; exact ok.pool j (hold j hj e)
  · obtain ⟨h1, h2, _⟩ := hoth j (Nat.ne_of_gt (Nat.lt_of_lt_of_le hb hj))
    rw [h1, h2]; exact ok.fresh j (Nat.le_trans hle hj)

theorem unref_nbuf (h : Hp) (x : Option Nat) : (h.unref x).nbuf = h.nbuf := by
  cases x with
  | none => rfl
  | some b => simp only [Hp.unref]; split <;> rfl

theorem unref_ok {h K K'} (ok : HeapOK h K) (x : Option Nat) (hx : ∀ b, x = some b → 0 < K b)
    (hK : ∀ j, K j = K' j + cnt x j) : HeapOK (h.unref x) K' := by
  cases x with
  | none => exact ok.congr hK
  | some b =>
    have hlt := ok.lt (hx b rfl)
    have hr : h.refc b = K' b + 1 := by rw [ok.count b, hK b, cnt_self]
    simp only [Hp.unref, if_neg (show ¬ h.refc b = 0 by rw [hr]; exact Nat.succ_ne_zero _)]
    refine ok.set (b := b) ok.nobug (Nat.le_refl _) hlt (fun _ hj _ => hj)
      (fun j e => ⟨if_neg e, if_neg e, by rw [hK j, cnt_ne e]; rfl⟩) ?_ ?_
    · simp only [↓reduceIte, hr]; rfl
    · simp only [↓reduceIte, decide_eq_true_eq, hr]; omega

theorem ref_ok {h K K' b} (ok : HeapOK h K) (hb : 0 < K b) (hK : ∀ j, K' j = K j + cnt (some b) j) :
    HeapOK (h.ref b) K' := by
  have hlt := ok.lt hb
  have hne : ¬ h.refc b = 0 := by rw [ok.count b]; exact Nat.ne_of_gt hb
  simp only [Hp.ref, if_neg hne]
  refine ok.set (b := b) ok.nobug (Nat.le_refl _) hlt (fun _ hj _ => hj)
    (fun j e => ⟨if_neg e, rfl, by rw [hK j, cnt_ne e]; rfl⟩) ?_ ?_
  · simp only [↓reduceIte, hK b, cnt_self, ok.count b]
  · simp only [↓reduceIte]
    exact ⟨fun hp => absurd ((ok.pool b hlt).mp hp) hne, fun hz => absurd hz (Nat.succ_ne_zero _)⟩

theorem ref_nbuf (h : Hp) (b : Nat) : (h.ref b).nbuf = h.nbuf := by
  simp only [Hp.ref]; split <;> rfl

theorem alloc1_ok {h K K'} (ok : HeapOK h K) (hK : ∀ j, K' j = K j + cnt (some h.nbuf) j) :
    HeapOK h.alloc1 K' := by
  have hc := ok.count h.nbuf
  have hf := ok.fresh h.nbuf (Nat.le_refl _)
  have hKb := hK h.nbuf
  rw [cnt_self] at hKb
  refine ok.set (b := h.nbuf) ok.nobug (Nat.le_succ _) (Nat.lt_succ_self _)
    (fun j hj e => Nat.lt_of_le_of_ne (Nat.le_of_lt_succ hj) e)
    (fun j e => ⟨if_neg e, if_neg e, by rw [hK j, cnt_ne e]; rfl⟩) ?_ ?_
  · simp only [Hp.alloc1, ↓reduceIte]; omega
  · simp [Hp.alloc1]

theorem Hp.alloc_eq (h : Hp) : h.alloc = h.alloc1.ref h.nbuf := by
  simp only [Hp.ref, Hp.alloc1, Hp.alloc, ↓reduceIte, Nat.succ_ne_zero]
  congr 1
  funext j
  by_cases hj : j = h.nbuf <;> simp [hj]

theorem alloc_ok {h K K'} (ok : HeapOK h K) (hK : ∀ j, K' j = K j + 2 * cnt (some h.nbuf) j) :
    HeapOK h.alloc K' := by
  rw [Hp.alloc_eq]
  refine ref_ok (alloc1_ok ok fun _ => rfl) (by simp only [cnt_self]; omega) fun j => ?_
  rw [hK j]; omega

/-- every reference is somebody's: the producer's `page`, the consumer's `p.page`, the wrapped
    reader's `lastPage`, or the application -/
def claims (o : O) (b : Nat) : Nat := cnt o.sendB b + cnt o.gotB b + cnt o.last b + o.appc b

/-- the producer's `page` is set only while it sits in the `select` (page.go:303-322), the consumer's
    `p.page` only between the receive and the version test (page.go:190-210), and the deferred
    `pages.Close()` (page.go:255) empties the cache before the final item is offered -/
structure OInv (o : O) : Prop where
  heap : HeapOK o.h (claims o)
  send_pc : o.sendB ≠ none → ∃ it, o.g.ppc = .send it
  got_pc : o.gotB ≠ none → ∃ it, o.g.cpc = .got it
  fin_last : o.g.ppc = .final ∨ o.g.ppc = .exited → o.last = none

theorem oinv_init : OInv init :=
  ⟨⟨rfl, fun _ => rfl, fun _ h => absurd h (Nat.not_lt_zero _), fun _ _ => ⟨rfl, rfl⟩⟩,
   fun h => absurd rfl h, fun h => absurd rfl h, fun _ => rfl⟩

theorem claims_pos_send {o b} (h : o.sendB = some b) : 0 < claims o b := by
  simp only [claims, h, cnt_self]; omega
theorem claims_pos_got {o b} (h : o.gotB = some b) : 0 < claims o b := by
  simp only [claims, h, cnt_self]; omega
theorem claims_pos_last {o b} (h : o.last = some b) : 0 < claims o b := by
  simp only [claims, h, cnt_self]; omega

theorem OInv.sendB_none {o} (hi : OInv o) (hp : ∀ it, o.g.ppc ≠ .send it) : o.sendB = none :=
  Classical.byContradiction fun h => (hi.send_pc h).elim hp

theorem OInv.gotB_none {o} (hi : OInv o) (hc : ∀ it, o.g.cpc ≠ .got it) : o.gotB = none :=
  Classical.byContradiction fun h => (hi.got_pc h).elim hc

/-- The invariant reads of the protocol state the two program counters only: a step that moves no
    buffer keeps it unless it leaves `send`, leaves `got`, or enters the producer's final states. -/
theorem OInv.silent {o : O} {g' : G} (hi : OInv o)
    (hp : ∀ it, o.g.ppc = .send it → ∃ it', g'.ppc = .send it')
    (hc : ∀ it, o.g.cpc = .got it → ∃ it', g'.cpc = .got it')
    (hf : g'.ppc = .final ∨ g'.ppc = .exited → o.g.ppc = .final ∨ o.g.ppc = .exited) :
    OInv { o with g := g' } :=
  ⟨hi.heap, fun h => (hi.send_pc h).elim hp, fun h => (hi.got_pc h).elim hc, fun h => hi.fin_last (hf h)⟩

theorem unref_send {h o} (ok : HeapOK h (claims o)) : HeapOK (h.unref o.sendB) (claims { o with sendB := none }) :=
  unref_ok ok _ (fun _ => claims_pos_send) fun j => by simp only [claims, cnt_none]; omega
theorem unref_got {h o} (ok : HeapOK h (claims o)) : HeapOK (h.unref o.gotB) (claims { o with gotB := none }) :=
  unref_ok ok _ (fun _ => claims_pos_got) fun j => by simp only [claims, cnt_none]; omega
theorem unref_last {h o} (ok : HeapOK h (claims o)) : HeapOK (h.unref o.last) (claims { o with last := none }) :=
  unref_ok ok _ (fun _ => claims_pos_last) fun j => by simp only [claims, cnt_none]; omega

theorem skipOne_inv {o} (hi : OInv o) (hp : o.g.ppc = .top) : OInv o.skipOne := by
  refine ⟨alloc1_ok (unref_last hi.heap) fun j => ?_, hi.send_pc, hi.got_pc, fun hf => ?_⟩
  · simp only [claims, O.skipOne, cnt_none]; omega
  · simp only [O.skipOne, hp] at hf; simp at hf

theorem skipUnder_keeps {α : Type} (f : O → α) (hf : ∀ o, f o.skipOne = f o) (o : O) (n : Nat) :
    f (o.skipUnder n) = f o := by
  induction n generalizing o with
  | zero => rfl
  | succ n ih => exact (ih _).trans (hf o)

@[simp] theorem skipUnder_appc (o : O) (n : Nat) : (o.skipUnder n).appc = o.appc :=
  skipUnder_keeps O.appc (fun _ => rfl) o n

theorem offerEff_appc (o : O) (c : Bool) (r : Res) : (offerEff o c r).appc = o.appc := by
  cases r <;> simp only [offerEff, O.readUnder]
  split <;> rfl

theorem skipUnder_inv {o} (hi : OInv o) (hp : o.g.ppc = .top) (n : Nat) : OInv (o.skipUnder n) := by
  induction n generalizing o with
  | zero => exact hi
  | succ n ih => exact ih (skipOne_inv hi hp) hp

theorem offer_inv {o c r g'} (hi : OInv o) (hs0 : o.sendB = none) (hp' : ∃ it, g'.ppc = .send it)
    (hc' : g'.cpc = o.g.cpc) : OInv { offerEff o c r with g := g' } := by
  have hfin : ¬ (g'.ppc = .final ∨ g'.ppc = .exited) := by
    obtain ⟨it, hit⟩ := hp'; rw [hit]; simp
  have hgot : ∀ o' : O, o'.gotB = o.gotB → o'.gotB ≠ none → ∃ it, g'.cpc = .got it :=
    fun o' e hg => hc' ▸ hi.got_pc (e ▸ hg)
  cases r
  case page pos =>
    simp only [offerEff, O.readUnder]
    split
    · rename_i b hl
      refine ⟨ref_ok hi.heap (claims_pos_last hl) fun j => ?_, fun _ => hp', hgot _ rfl,
        fun hf => absurd hf hfin⟩
      simp only [claims, hs0, cnt_none]; omega
    · refine ⟨alloc_ok (unref_last hi.heap) fun j => ?_, fun _ => hp', hgot _ rfl,
        fun hf => absurd hf hfin⟩
      simp only [claims, hs0, cnt_none]; omega
  all_goals
    exact ⟨hi.heap.congr fun j => by simp only [offerEff, claims, hs0], fun hf => absurd rfl hf,
      hgot _ rfl, fun hf => absurd hf hfin⟩

theorem oinv_step {U o l o'} (hi : OInv o) (h : OStep U o l o') : OInv o' := by
  cases h with
  | appRetain ha =>
    exact ⟨ref_ok hi.heap (Nat.lt_of_lt_of_le ha (Nat.le_add_left _ _)) fun j => by
      simp only [claims]; omega, hi.send_pc, hi.got_pc, hi.fin_last⟩
  | appRelease ha =>
    rename_i b
    refine ⟨unref_ok hi.heap (some b) (fun b' e => ?_) fun j => ?_, hi.send_pc, hi.got_pc, hi.fin_last⟩
    · cases e; exact Nat.lt_of_lt_of_le ha (Nat.le_add_left _ _)
    · by_cases hj : j = b
      · subst hj; simp only [claims, cnt_self]; omega
      · simp only [claims, cnt_ne hj]; omega
  | lib c n hs =>
    cases hs
    case bodyOffer l r hp hb =>
      have hs0 : o.sendB = none := hi.sendB_none fun it h => by rw [hp] at h; cases h
      exact offer_inv (skipUnder_inv hi hp n) ((skipUnder_keeps O.sendB (fun _ => rfl) o n).trans hs0)
        ⟨_, rfl⟩ (skipUnder_keeps (fun o => o.g.cpc) (fun _ => rfl) o n).symm
    case handoff it hc hp =>
      have hg0 : o.gotB = none := hi.gotB_none fun it h => by rw [hc] at h; cases h
      refine ⟨hi.heap.congr fun j => ?_, fun hf => absurd rfl hf, fun _ => ⟨_, rfl⟩,
        fun hf => by simp at hf⟩
      simp only [eff, claims, hg0]; omega
    case deliver it hc hv =>
      refine ⟨hi.heap.congr fun j => ?_, hi.send_pc, fun hf => absurd rfl hf, hi.fin_last⟩
      simp only [eff, claims, cnt_none]; omega
    case drop it hc hv => exact ⟨unref_got hi.heap, hi.send_pc, fun hf => absurd rfl hf, hi.fin_last⟩
    case closeRecv it hc hp =>
      exact ⟨unref_send hi.heap, fun hf => absurd rfl hf, hi.got_pc, fun hf => by simp at hf⟩
    case selTake it k v hp hsk =>
      exact ⟨unref_send hi.heap, fun hf => absurd rfl hf, hi.got_pc, fun hf => by simp at hf⟩
    case selDone it hp hd =>
      exact ⟨unref_last (unref_send hi.heap), fun hf => absurd rfl hf, hi.got_pc, fun _ => rfl⟩
    case initDone hp hd =>
      refine ⟨unref_last hi.heap, fun hf => ?_, hi.got_pc, fun _ => rfl⟩
      obtain ⟨it, hit⟩ := hi.send_pc hf; rw [hp] at hit; cases hit
    -- the other 14 steps (readBegin, readClosed, the seek and close steps of the consumer, closeFinal,
    -- initPass, the polls, bodyCont) move no buffer; the three pc facts follow from the premises of the
    -- step alone (`clear hi`: `simp_all` need not rewrite with the invariant)
    all_goals
      refine hi.silent (fun it h => ?_) (fun it h => ?_) (fun h => ?_) <;> clear hi <;> simp_all

theorem oinv_reach {U o} (h : OReach U o) : OInv o :=
  oreach_induction (P := OInv) oinv_init (fun _ _ _ hi hs => oinv_step hi hs) o h

end PqModel.PoolAsync
