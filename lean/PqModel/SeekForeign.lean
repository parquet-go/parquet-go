import PqModel.Layout

/-! # A dictionary page met again in the page stream (C08, foreign chunk layouts)

`SeekBytes.lean` covers `SeekToRow` with an offset index. Without one, `SeekToRow` rewinds the
section to `data_page_offset`; in a chunk whose metadata records no `dictionary_page_offset`
(parquet-mr / impala style) that is the dictionary page, and `FilePages.ReadDictionary()` before the
first `ReadPage` leaves the stream on the dictionary page as well. In both cases
`readPageInSequence` decodes the header of a dictionary page while `f.dictionary != nil` and has to
step over its body.

* MIRROR: `nextPage` (file.go:1268-1290 `readPageInSequence`, the loop from `header = new(format.PageHeader)`
  to the page switch, plain (not encrypted) path), byte bookkeeping only. `SkipBy` selects the header
  field given to `f.rbuf.Discard`: the code uses `CompressedPageSize` (`.compressed`).
* SPEC: `Layout.specLocs` — where the data pages really are. -/
namespace PqModel.SeekForeign
open PqModel.Layout

/-- the header field handed to `rbuf.Discard` when a dictionary page is skipped -/
inductive SkipBy where
  | compressed
  | uncompressed
deriving DecidableEq, Repr

def skipLen : SkipBy → PageOp → Nat
  | .compressed, p => p.bodyLen
  | .uncompressed, p => p.uncompLen

/-- MIRROR of the loop of `readPageInSequence`: `off` is the offset of the next byte the decoder
    sees, `ps` the pages laid out from there, `cached` is `f.dictionary != nil`. A dictionary page is
    skipped (`Discard`) when the dictionary is cached, read and decoded otherwise; the first data page
    is returned. Result: the offset at which the header of the returned page was decoded, the page,
    and the offset of the byte behind it. -/
def nextPage (sk : SkipBy) : Bool → Nat → List PageOp → Option (Nat × PageOp × Nat)
  | _, _, [] => none
  | cached, off, p :: ps =>
    if p.isDict then
      if cached then nextPage sk true (off + p.hdrLen + skipLen sk p) ps
      else nextPage sk true (off + p.hdrLen + p.bodyLen) ps
    else some (off, p, off + p.hdrLen + p.bodyLen)

/-- the header decoded for the page that is returned sits on the first byte of the first data page -/
theorem nextPage_offset (cached : Bool) (start row : Nat) (ps : List PageOp) :
    (nextPage .compressed cached start ps).map (·.1) = ((specLocs start row ps).head?).map (·.offset) := by
  -- no page left, a dictionary page skipped, a dictionary page read, a data page
  fun_induction nextPage .compressed cached start ps with
  | case1 => simp [specLocs]
  | case2 off p ps hd ih => simpa [specLocs, hd, PageOp.size, skipLen, Nat.add_assoc] using ih
  | case3 cached off p ps hd hc ih => simpa [specLocs, hd, PageOp.size, Nat.add_assoc] using ih
  | case4 cached off p ps hd => simp [specLocs, hd]

/-- the page returned is a data page and the stream is left on the byte behind it -/
theorem nextPage_after (sk : SkipBy) (cached : Bool) (start : Nat) (ps : List PageOp)
    (r : Nat × PageOp × Nat) (h : nextPage sk cached start ps = some r) :
    r.2.1.isDict = false ∧ r.2.2 = r.1 + r.2.1.size := by
  fun_induction nextPage sk cached start ps with
  | case1 => cases h
  | case2 off p ps hd ih => exact ih h
  | case3 cached off p ps hd hc ih => exact ih h
  | case4 cached off p ps hd =>
    cases h
    exact ⟨by simpa using hd, by simp [PageOp.size, Nat.add_assoc]⟩

/-- when every dictionary page announces equal compressed and uncompressed sizes (an uncompressed
    chunk) the two header fields cannot be told apart -/
theorem skip_fields_agree (cached : Bool) (start : Nat) (ps : List PageOp)
    (h : ∀ p ∈ ps, p.isDict = true → p.uncompLen = p.bodyLen) :
    nextPage .uncompressed cached start ps = nextPage .compressed cached start ps := by
  induction ps generalizing cached start with
  | nil => simp [nextPage]
  | cons p ps ih =>
    have ht : ∀ q ∈ ps, q.isDict = true → q.uncompLen = q.bodyLen := fun q hq => h q (List.mem_cons_of_mem _ hq)
    cases hd : p.isDict with
    | true =>
      have he := h p (List.mem_cons_self) hd
      simp only [nextPage, hd, if_true, skipLen, he]
      split
      · exact ih _ _ ht
      · exact ih _ _ ht
    | false => simp [nextPage, hd]

end PqModel.SeekForeign
