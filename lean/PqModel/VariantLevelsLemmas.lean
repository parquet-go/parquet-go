import PqModel.VariantLevels
import PqModel.VariantShredLemmas
import PqModel.Basics

/-! The level round trip of one shredded variant group (`readG_emit`). `g` / `r`: definition level / repetition depth of
the group in the enclosing schema (Go: `baseDef + defLevel`, `baseRep + repDepth`); `rep`: repetition level of its first
cell. `HeadsOk rep g` and `capped k` are to `emit` what `GoodCol` and `StartsLow` are to `Dremel.shredN`: which branch the
writer took, where the element loop stops. `match rest, hl` on few patterns: `hl : rest.length = numLeaves s` excludes the rest. -/
namespace PqModel.Variant

theorem zipApp_eq_zipWith : ∀ a b : List Col, zipApp a b = List.zipWith (· ++ ·) a b
  | [], _ => by simp [zipApp]
  | _ :: _, [] => by simp [zipApp]
  | _ :: xs, _ :: ys => by rw [zipApp, List.zipWith_cons_cons, zipApp_eq_zipWith xs ys]

theorem zipApp_length_min (a b : List Col) : (zipApp a b).length = min a.length b.length := by
  rw [zipApp_eq_zipWith, List.length_zipWith]

theorem zipApp_append (a1 a2 b1 b2 : List Col) (h : a1.length = b1.length) :
    zipApp (a1 ++ a2) (b1 ++ b2) = zipApp a1 b1 ++ zipApp a2 b2 := by
  simp only [zipApp_eq_zipWith, List.zipWith_append h]

theorem zipApp_assoc (a b c : List Col) : zipApp (zipApp a b) c = zipApp a (zipApp b c) := by
  simp only [zipApp_eq_zipWith, zipWith_append_assoc]

theorem zipApp_replicate (x : Col) (rest : List Col) :
    zipApp (List.replicate rest.length x) rest = rest.map (x ++ ·) := by
  rw [zipApp_eq_zipWith, zipWith_append_replicate_left]

theorem zipApp_replicate_left (n : Nat) (rest : List Col) (h : rest.length = n) :
    zipApp (List.replicate n []) rest = rest := by
  subst h; simp [zipApp_replicate]

def nullCell (D rep : Nat) : Cell := ⟨D, rep, .null⟩

theorem zipApp_nullCols (n D rep : Nat) (rest : List Col) (h : rest.length = n) :
    zipApp (nullCols n D rep) rest = rest.map (fun col => nullCell D rep :: col) := by
  subst h; exact zipApp_replicate _ rest

theorem popAll_cons (c : Cell) (rest : List Col) : popAll (rest.map (fun col => c :: col)) = rest := by
  simp [popAll, List.map_map, Function.comp_def]

theorem peekDl_cons (c : Cell) (rest : List Col) (h : 0 < rest.length) :
    peekDl (rest.map (fun col => c :: col)) = some c := by
  cases rest with
  | nil => simp at h
  | cons y ys => simp [peekDl]

theorem numLeaves_pos (s : Schema) : 0 < numLeaves s := by
  cases s <;> simp [numLeaves] <;> omega

/-- every column of the occurrence starts with a cell at the occurrence's repetition level and at
    least the group's definition level -/
def HeadsOk (rep g : Nat) (cols : List Col) : Prop :=
  ∀ col ∈ cols, ∃ c tl, col = c :: tl ∧ c.rl = rep ∧ g ≤ c.dl

theorem headsOk_nullCols (n D rep g : Nat) (h : g ≤ D) : HeadsOk rep g (nullCols n D rep) := by
  intro col hc
  simp only [nullCols, List.mem_replicate] at hc
  exact ⟨_, _, hc.2, rfl, h⟩

theorem headsOk_append {rep g : Nat} {a b : List Col} (ha : HeadsOk rep g a) (hb : HeadsOk rep g b) :
    HeadsOk rep g (a ++ b) := by
  intro col hc
  rcases List.mem_append.mp hc with h | h
  · exact ha col h
  · exact hb col h

theorem headsOk_mono {rep g g' : Nat} {a : List Col} (h : HeadsOk rep g' a) (hg : g ≤ g') :
    HeadsOk rep g a := by
  intro col hc
  obtain ⟨c, tl, h1, h2, h3⟩ := h col hc
  exact ⟨c, tl, h1, h2, by omega⟩

theorem headsOk_zipApp {rep g : Nat} {a b : List Col} (ha : HeadsOk rep g a) :
    HeadsOk rep g (zipApp a b) := by
  fun_induction zipApp a b
  case case1 x xs y ys ih =>
    intro col hc
    rcases List.mem_cons.mp hc with rfl | hc
    · obtain ⟨c, tl, h1, h2, h3⟩ := ha x (by simp)
      exact ⟨c, tl ++ y, by simp [h1], h2, h3⟩
    · exact ih (fun col h => ha col (by simp [h])) col hc
  case case2 => intro col hc; cases hc

theorem peekDl_zipApp {rep g : Nat} {a b : List Col} (ha : HeadsOk rep g a) (hl : 0 < a.length)
    (hb : 0 < b.length) : ∃ c, peekDl (zipApp a b) = some c ∧ c.rl = rep ∧ g ≤ c.dl := by
  cases a with
  | nil => simp at hl
  | cons x xs =>
    cases b with
    | nil => simp at hb
    | cons y ys =>
      obtain ⟨c, tl, h1, h2, h3⟩ := ha x (by simp)
      exact ⟨c, by simp [zipApp, h1, peekDl], h2, h3⟩

theorem firstLen_zipApp (a b : List Col) : firstLen a ≤ firstLen (zipApp a b) ∨ b = [] := by
  cases a with
  | nil => simp [firstLen]
  | cons x xs =>
    cases b with
    | nil => simp
    | cons y ys => simp [zipApp, firstLen]

theorem emit_missing (s : Schema) (g r rep : Nat) :
    emit s g r rep .missing = nullCols (numLeaves s) g rep := by
  cases s <;> simp [emit]

theorem nullCols_length (n D rep : Nat) : (nullCols n D rep).length = n := by simp [nullCols]

theorem emit_mk_none (s : Schema) (g r rep : Nat) (v : Option Value) :
    emit s g r rep (.mk v .none) = [valueCell g rep v] :: nullCols (numLeaves s - 1) g rep := by
  cases s <;> simp [emit, numLeaves, nullCols]

theorem headsOk_valueCell (g rep : Nat) (v : Option Value) {cols : List Col} (h : HeadsOk rep g cols) :
    HeadsOk rep g ([valueCell g rep v] :: cols) := by
  intro col hc
  rcases List.mem_cons.mp hc with rfl | hc
  · cases v <;> exact ⟨_, [], rfl, rfl, by simp [valueCell]⟩
  · exact h col hc

theorem emitList_length (e : Schema)
    (hE : ∀ sl g r rep, slotFits e sl = true → (emit e g r rep sl).length = numLeaves e) :
    ∀ slots g r rep, slotFitsList e slots = true → (emitList e g r rep slots).length = numLeaves e
  | [], _, _, _, _ => by simp [emitList]
  | x :: xs, g, r, rep, h => by
    simp only [slotFitsList, Bool.and_eq_true] at h
    simp only [emitList, zipApp_length_min, hE x g r rep h.1, emitList_length e hE xs g r r h.2]
    omega

theorem emitList_heads (e : Schema) (g : Nat)
    (hE : ∀ sl r rep, slotFits e sl = true → HeadsOk rep g (emit e g r rep sl)) :
    ∀ slots r rep, slots ≠ [] → slotFitsList e slots = true → HeadsOk rep g (emitList e g r rep slots)
  | [], _, _, hne, _ => absurd rfl hne
  | x :: xs, r, rep, _, h => by
    simp only [slotFitsList, Bool.and_eq_true] at h
    simp only [emitList]
    exact headsOk_zipApp (hE x r rep h.1)

theorem fits_untyped {v : Option Value} {ty : Typed} (h : slotFits .untyped (.mk v ty) = true) : ty = .none := by
  cases ty with
  | none => rfl
  | prim _ => simp [slotFits] at h
  | list _ => simp [slotFits] at h
  | obj _ => simp [slotFits] at h

theorem fits_prim {t : PType} {v : Option Value} {ty : Typed} (h : slotFits (.prim t) (.mk v ty) = true)
    (hty : ty ≠ .none) : ∃ p, ty = .prim p := by
  cases ty with
  | none => exact absurd rfl hty
  | prim p => exact ⟨p, rfl⟩
  | list _ => simp [slotFits] at h
  | obj _ => simp [slotFits] at h

theorem fits_list {e : Schema} {v : Option Value} {ty : Typed} (h : slotFits (.list e) (.mk v ty) = true)
    (hty : ty ≠ .none) : ∃ slots, ty = .list slots ∧ slotFitsList e slots = true := by
  cases ty with
  | none => exact absurd rfl hty
  | list slots => exact ⟨slots, rfl, by simpa only [slotFits] using h⟩
  | prim _ => simp [slotFits] at h
  | obj _ => simp [slotFits] at h

theorem fits_obj {fs : List (Key × Schema)} {v : Option Value} {ty : Typed} (h : slotFits (.obj fs) (.mk v ty) = true)
    (hty : ty ≠ .none) : ∃ tfs, ty = .obj tfs ∧ slotFitsFields fs tfs = true := by
  cases ty with
  | none => exact absurd rfl hty
  | obj tfs => exact ⟨tfs, rfl, by simpa only [slotFits] using h⟩
  | prim _ => simp [slotFits] at h
  | list _ => simp [slotFits] at h

theorem emitOk_of_typed (s : Schema)
    (h : ∀ v ty g r rep, ty ≠ .none → slotFits s (.mk v ty) = true →
      (emit s g r rep (.mk v ty)).length = numLeaves s ∧ HeadsOk rep g (emit s g r rep (.mk v ty))) :
    ∀ sl g r rep, slotFits s sl = true →
      (emit s g r rep sl).length = numLeaves s ∧ HeadsOk rep g (emit s g r rep sl) := by
  intro sl g r rep hfit
  cases sl with
  | missing =>
    rw [emit_missing]
    exact ⟨nullCols_length _ _ _, headsOk_nullCols _ _ _ _ (Nat.le_refl _)⟩
  | mk v ty =>
    by_cases hty : ty = .none
    · subst hty
      rw [emit_mk_none]
      have := numLeaves_pos s
      exact ⟨by simp [nullCols_length]; omega, headsOk_valueCell g rep v (headsOk_nullCols _ _ _ _ (Nat.le_refl _))⟩
    · exact h v ty g r rep hty hfit

mutual
theorem emit_ok : ∀ s sl g r rep, slotFits s sl = true →
    (emit s g r rep sl).length = numLeaves s ∧ HeadsOk rep g (emit s g r rep sl)
  | .untyped => by
    apply emitOk_of_typed
    intro v ty g r rep hty h
    exact absurd (fits_untyped h) hty
  | .prim _ => by
    apply emitOk_of_typed
    intro v ty g r rep hty h
    obtain ⟨p, rfl⟩ := fits_prim h hty
    refine ⟨rfl, headsOk_valueCell g rep v ?_⟩
    intro col hc
    exact ⟨_, [], List.mem_singleton.mp hc, rfl, by simp⟩
  | .list e => by
    apply emitOk_of_typed
    intro v ty g r rep hty h
    obtain ⟨slots, rfl, h⟩ := fits_list h hty
    simp only [emit, numLeaves, List.length_cons]
    by_cases hne : slots.isEmpty = true
    · rw [if_pos hne]
      exact ⟨by rw [nullCols_length]; omega, headsOk_valueCell g rep v (headsOk_nullCols _ _ _ _ (by omega))⟩
    · rw [if_neg hne]
      refine ⟨by rw [emitList_length e (fun sl g r rep hh => (emit_ok e sl g r rep hh).1) slots _ _ _ h]; omega,
        headsOk_valueCell g rep v (headsOk_mono (g' := g + 2) ?_ (by omega))⟩
      exact emitList_heads e (g + 2) (fun sl r rep hh => (emit_ok e sl (g + 2) r rep hh).2) slots _ _
        (by intro h0; simp [h0] at hne) h
  | .obj fs => by
    apply emitOk_of_typed
    intro v ty g r rep hty h
    obtain ⟨tfs, rfl, h⟩ := fits_obj h hty
    have := emitFields_ok fs tfs (g + 1) r rep h
    simp only [emit, numLeaves, List.length_cons]
    exact ⟨by omega, headsOk_valueCell g rep v (headsOk_mono this.2 (by omega))⟩
theorem emitFields_ok : ∀ fs tfs g r rep, slotFitsFields fs tfs = true →
    (emitFields fs g r rep tfs).length = numLeavesFields fs ∧ HeadsOk rep g (emitFields fs g r rep tfs)
  | [], [], _, _, _, _ => ⟨by simp [emitFields, numLeavesFields, nullCols], by
      intro col hc; simp [emitFields, nullCols, numLeavesFields] at hc⟩
  | [], _ :: _, _, _, _, h => by simp [slotFitsFields] at h
  | (_, s) :: fs, [], _, _, _, h => by simp [slotFitsFields] at h
  | (_, s) :: fs, (_, sl) :: sls, g, r, rep, h => by
    simp only [slotFitsFields, Bool.and_eq_true] at h
    have h1 := emit_ok s sl g r rep h.1
    have h2 := emitFields_ok fs sls g r rep h.2
    simp only [emitFields, List.length_append, numLeavesFields]
    exact ⟨by omega, headsOk_append h1.2 h2.2⟩
end

theorem emit_length (s : Schema) (sl : Slot) (g r rep : Nat) (h : slotFits s sl = true) :
    (emit s g r rep sl).length = numLeaves s := (emit_ok s sl g r rep h).1

theorem emit_heads (s : Schema) (sl : Slot) (g r rep : Nat) (h : slotFits s sl = true) :
    HeadsOk rep g (emit s g r rep sl) := (emit_ok s sl g r rep h).2

theorem readValue_null (g D rep : Nat) (col : Col) :
    readValue g (nullCell D rep :: col) = (none, col) := by
  simp [readValue, nullCell]

mutual
/-- `D ≤ g`: the nulls were written by an ancestor, or by the group itself for an absent typed side -/
theorem readG_typedNulls : ∀ s g r D rep (vc : Col) (rest : List Col), D ≤ g → rest.length + 1 = numLeaves s →
    readG s g r (vc :: rest.map (fun col => nullCell D rep :: col)) =
      some (valueCol (readValue g vc).1, (readValue g vc).2 :: rest)
  | .untyped, g, r, D, rep, vc, rest, _, hl => by
    match rest, hl with
    | [], _ => simp [readG]
  | .prim _, g, r, D, rep, vc, rest, _, hl => by
    match rest, hl with
    | [r1], _ => simp [readG, nullCell]
  | .list e, g, r, D, rep, vc, rest, hD, hl => by
    simp only [numLeaves] at hl
    have hpk := peekDl_cons (nullCell D rep) rest (by have := numLeaves_pos e; omega)
    have h1 : ¬ (g + 2 ≤ (nullCell D rep).dl) := by simp [nullCell]; omega
    have h2 : ¬ (g + 1 ≤ (nullCell D rep).dl) := by simp [nullCell]; omega
    simp only [readG, hpk, h1, h2, if_false, popAll_cons]
  | .obj fs, g, r, D, rep, vc, rest, hD, hl => by
    simp only [numLeaves] at hl
    have hf := readFields_nulls fs (g + 1) r D rep rest (by omega) (by omega)
    simp only [readG, hf]
    cases rest with
    | nil => simp [peekDl]
    | cons y ys =>
      have : ¬ (g + 1 ≤ D) := by omega
      simp [peekDl, nullCell, this]
theorem readFields_nulls : ∀ fs g r D rep rest, D ≤ g → rest.length = numLeavesFields fs →
    readFields fs g r (rest.map (fun col => nullCell D rep :: col)) = some ([], rest)
  | [], g, r, D, rep, rest, _, hl => by
    simp only [numLeavesFields, List.length_eq_zero_iff] at hl
    simp [readFields, hl]
  | (_, s) :: fs, g, r, D, rep, rest, hD, hl => by
    simp only [numLeavesFields] at hl
    have hp := numLeaves_pos s
    obtain ⟨c0, tl, htake⟩ : ∃ c0 tl, rest.take (numLeaves s) = c0 :: tl := by
      cases h : rest.take (numLeaves s) with
      | nil => have := congrArg List.length h; rw [List.length_take, List.length_nil] at this; omega
      | cons c0 tl => exact ⟨c0, tl, rfl⟩
    have hlen : tl.length + 1 = numLeaves s := by
      have := congrArg List.length htake; rw [List.length_take, List.length_cons] at this; omega
    have h1 := readG_typedNulls s g r D rep (nullCell D rep :: c0) tl hD hlen
    rw [readValue_null, ← List.map_cons (f := fun col => nullCell D rep :: col), ← htake] at h1
    have h2 := readFields_nulls fs g r D rep (rest.drop (numLeaves s)) hD (by simp; omega)
    simp only [readFields, ← List.map_take, ← List.map_drop, h1, h2, valueCol, List.take_append_drop]
end

theorem readG_nulls (s : Schema) (g r D rep : Nat) (rest : List Col) (hD : D ≤ g) (hl : rest.length = numLeaves s) :
    readG s g r (rest.map (fun col => nullCell D rep :: col)) = some (.missing, rest) := by
  match rest, hl with
  | [], hl => have := numLeaves_pos s; simp at hl; omega
  | c0 :: tl, hl =>
    have := readG_typedNulls s g r D rep (nullCell D rep :: c0) tl hD (by simpa using hl)
    rwa [readValue_null] at this

/-- what the Go triple `(value, present, err)` is expected to be, with the columns left over -/
def expect (r : RRes) (rest : List Col) : Option (RRes × List Col) :=
  match r with
  | .err => none
  | .missing => some (.missing, rest)
  | .val v => some (.val v, rest)

/-- whatever follows the occurrence in a column starts at a repetition level of at most `k` -/
def capped (k : Nat) (rest : List Col) : Prop := ∀ col ∈ rest, ∀ c tl, col = c :: tl → c.rl ≤ k

mutual
/-- every object group of the schema has at least one field (`buildShreddedTypedValue` 202-206) -/
def lvOK : Schema → Bool
  | .untyped => true
  | .prim _ => true
  | .list e => lvOK e
  | .obj fs => !fs.isEmpty && lvOKFields fs
def lvOKFields : List (Key × Schema) → Bool
  | [] => true
  | (_, s) :: fs => lvOK s && lvOKFields fs
end

def ReadOK (s : Schema) : Prop :=
  ∀ sl g r rep rest, slotFits s sl = true → rest.length = numLeaves s → capped r rest →
    readG s g r (zipApp (emit s g r rep sl) rest) = expect (unshredR s sl) rest

theorem readValue_valueCell (g rep : Nat) (v : Option Value) (col : Col) :
    readValue g (valueCell g rep v :: col) = (v, col) := by
  cases v <;> simp [readValue, valueCell]

theorem capped_mono {k k' : Nat} {rest : List Col} (h : capped k rest) (hk : k ≤ k') : capped k' rest :=
  fun col hc c tl he => Nat.le_trans (h col hc c tl he) hk

theorem capped_of_heads {rep g : Nat} {a : List Col} (h : HeadsOk rep g a) : capped rep a := by
  intro col hc c tl he
  obtain ⟨c', tl', h1, h2, _⟩ := h col hc
  rw [h1] at he
  cases he
  omega

theorem peekDl_capped {k : Nat} {rest : List Col} (h : capped k rest) :
    ∀ c, peekDl rest = some c → c.rl ≤ k := by
  intro c hc
  cases rest with
  | nil => simp [peekDl] at hc
  | cons y ys =>
    cases y with
    | nil => simp [peekDl] at hc
    | cons c' tl =>
      simp only [peekDl, Option.some.injEq] at hc
      subst hc
      exact h (c' :: tl) (by simp) c' tl rfl

theorem firstLen_zipApp_add (a b : List Col) (ha : a ≠ []) (hb : b ≠ []) :
    firstLen (zipApp a b) = firstLen a + firstLen b := by
  cases a with
  | nil => exact absurd rfl ha
  | cons x xs =>
    cases b with
    | nil => exact absurd rfl hb
    | cons y ys => simp [zipApp, firstLen]

theorem firstLen_pos {rep g : Nat} {a : List Col} (h : HeadsOk rep g a) (ha : a ≠ []) : 0 < firstLen a := by
  cases a with
  | nil => exact absurd rfl ha
  | cons x xs =>
    obtain ⟨c, tl, h1, _, _⟩ := h x (by simp)
    simp [firstLen, h1]

theorem emitList_firstLen (e : Schema) (g r : Nat) :
    ∀ slots rep, slotFitsList e slots = true → slots.length ≤ firstLen (emitList e g r rep slots)
  | [], _, _ => by simp
  | x :: xs, rep, h => by
    simp only [slotFitsList, Bool.and_eq_true] at h
    have hp := numLeaves_pos e
    have l1 := emit_length e x g r rep h.1
    have l2 := emitList_length e (emit_length e) xs g r r h.2
    have ih := emitList_firstLen e g r xs r h.2
    have hpos := firstLen_pos (emit_heads e x g r rep h.1) (List.ne_nil_of_length_pos (by omega))
    simp only [emitList, List.length_cons]
    rw [firstLen_zipApp_add _ _ (List.ne_nil_of_length_pos (by omega)) (List.ne_nil_of_length_pos (by omega))]
    omega

theorem unshredList_cons (e : Schema) (x : Slot) (xs : List Slot) :
    unshredList e (x :: xs) =
      match (unshredR e x).orNull, unshredList e xs with
      | some v, some vs => some (v :: vs)
      | _, _ => none := by
  simp only [unshredList]
  cases (unshredR e x).orNull <;> cases unshredList e xs <;> rfl

/-- later elements start at repetition level `r + 1` (the loop goes on), what follows at most at `r` (it stops); one unit of
    fuel per element -/
theorem readElems_emitList (e : Schema) (he : ReadOK e) (g r : Nat) :
    ∀ slots rep rest fuel, slots ≠ [] → slotFitsList e slots = true → slots.length ≤ fuel →
      rest.length = numLeaves e → capped r rest →
      readElems (readG e g (r + 1)) (r + 1) fuel (zipApp (emitList e g (r + 1) rep slots) rest) =
        (unshredList e slots).map (fun vs => (vs, rest))
  | [], _, _, _, hne, _, _, _, _ => absurd rfl hne
  | x :: xs, rep, rest, 0, _, _, hf, _, _ => by simp at hf
  | x :: xs, rep, rest, fuel + 1, _, hfit, hf, hl, hcap => by
    simp only [slotFitsList, Bool.and_eq_true] at hfit
    simp only [List.length_cons, Nat.add_le_add_iff_right] at hf
    have hp := numLeaves_pos e
    have l2 := emitList_length e (emit_length e) xs g (r + 1) (r + 1) hfit.2
    have hl' : (zipApp (emitList e g (r + 1) (r + 1) xs) rest).length = numLeaves e := by
      rw [zipApp_length_min, l2, hl]; omega
    have hcap' : capped (r + 1) (zipApp (emitList e g (r + 1) (r + 1) xs) rest) := by
      cases xs with
      | nil =>
        simp only [emitList]
        rw [zipApp_replicate_left _ _ hl]
        exact capped_mono hcap (by omega)
      | cons y ys =>
        exact capped_of_heads (headsOk_zipApp (emitList_heads e g
          (fun sl => emit_heads e sl g) (y :: ys) (r + 1) (r + 1) (by simp) hfit.2))
    have hx := he x g (r + 1) rep _ hfit.1 hl' hcap'
    simp only [emitList, zipApp_assoc, readElems, hx]
    cases hu : unshredR e x with
    | err => simp [expect, unshredList, hu, RRes.orNull]
    | missing | val v =>
      simp only [expect, RRes.orNull]
      cases xs with
      | nil =>
        simp only [emitList]
        rw [zipApp_replicate_left _ _ hl]
        have hpk := peekDl_capped hcap
        cases hpeek : peekDl rest with
        | none => simp [unshredList, hu, RRes.orNull]
        | some c =>
          have : c.rl ≠ r + 1 := by have := hpk c hpeek; omega
          simp [unshredList, hu, RRes.orNull, this]
      | cons y ys =>
        have hh := emitList_heads e g (fun sl => emit_heads e sl g) (y :: ys)
          (r + 1) (r + 1) (by simp) hfit.2
        obtain ⟨c, hc1, hc2, _⟩ := peekDl_zipApp (b := rest) hh (by omega) (by omega)
        have ih := readElems_emitList e he g r (y :: ys) (r + 1) rest fuel (by simp) hfit.2 hf hl hcap
        simp only [hc1, hc2, if_true, ih]
        rw [unshredList_cons e x (y :: ys), hu]
        cases hus : unshredList e (y :: ys) with
        | none => simp [RRes.orNull]
        | some vs => simp [RRes.orNull]

theorem readG_emit_missing (s : Schema) (g r rep : Nat) (rest : List Col)
    (hl : rest.length = numLeaves s) :
    readG s g r (zipApp (emit s g r rep .missing) rest) = expect (unshredR s .missing) rest := by
  rw [emit_missing, zipApp_nullCols _ _ _ _ hl, unshredR_missing]
  exact readG_nulls s g r g rep rest (Nat.le_refl _) hl

theorem readG_emit_none (s : Schema) (g r rep : Nat) (v : Option Value) (rest : List Col)
    (hl : rest.length = numLeaves s) :
    readG s g r (zipApp (emit s g r rep (.mk v .none)) rest) = expect (unshredR s (.mk v .none)) rest := by
  match rest, hl with
  | [], hl => have := numLeaves_pos s; simp at hl; omega
  | r0 :: rs, hl =>
    have hrs : rs.length = numLeaves s - 1 := by simp at hl; omega
    have := readG_typedNulls s g r g rep (valueCell g rep v :: r0) rs (Nat.le_refl _) (by simpa using hl)
    rw [readValue_valueCell] at this
    rw [emit_mk_none, unshredR_mk_none, zipApp, zipApp_nullCols _ _ _ _ hrs, List.singleton_append]
    rw [this]
    cases v <;> rfl

theorem readOK_of_typed (s : Schema)
    (h : ∀ v ty g r rep rest, ty ≠ .none → slotFits s (.mk v ty) = true → rest.length = numLeaves s →
      capped r rest → readG s g r (zipApp (emit s g r rep (.mk v ty)) rest) = expect (unshredR s (.mk v ty)) rest) :
    ReadOK s := by
  intro sl g r rep rest hfit hl hcap
  cases sl with
  | missing => exact readG_emit_missing _ _ _ _ _ hl
  | mk v ty =>
    by_cases hty : ty = .none
    · subst hty; exact readG_emit_none s g r rep v rest hl
    · exact h v ty g r rep rest hty hfit hl hcap

theorem numLeavesFields_pos : ∀ fs : List (Key × Schema), fs.isEmpty = false → 0 < numLeavesFields fs
  | [], h => by simp at h
  | (_, s) :: fs, _ => by
    have := numLeaves_pos s
    simp only [numLeavesFields]; omega

/- The typed cases: by `HeadsOk` the first cell the reader peeks in the typed columns has definition level ≥ g+2
   (elements) or ≥ g+1 (fields, empty list), which selects the branch the writer meant; the fuel `firstLen` is at
   least the number of elements (`emitList_firstLen`). -/
mutual
theorem readG_emit : ∀ s, lvOK s = true → ReadOK s
  | .untyped, _ => by
    apply readOK_of_typed
    intro v ty g r rep rest hty hfit hl hcap
    exact absurd (fits_untyped hfit) hty
  | .prim t, _ => by
    apply readOK_of_typed
    intro v ty g r rep rest hty hfit hl hcap
    match rest, hl with
    | [r0, r1], _ =>
      obtain ⟨p, rfl⟩ := fits_prim hfit hty
      simp only [emit, zipApp, List.cons_append, List.nil_append, readG, readValue_valueCell]
      cases v <;> simp [unshredR, expect]
  | .list e, hw => by
    have he : ReadOK e := readG_emit e (by simpa [lvOK] using hw)
    apply readOK_of_typed
    intro v ty g r rep rest hty hfit hl hcap
    match rest, hl with
    | [], hl => simp [numLeaves] at hl; omega
    | r0 :: rs, hl =>
      simp only [numLeaves, List.length_cons] at hl
      have hrs : rs.length = numLeaves e := by omega
      have hp := numLeaves_pos e
      have hcaprs : capped r rs := fun col hc => hcap col (by simp [hc])
      obtain ⟨slots, rfl, hfit⟩ := fits_list hfit hty
      by_cases hne : slots.isEmpty = true
      · have h0 : slots = [] := by simpa using hne
        subst h0
        have hpk := peekDl_cons (nullCell (g + 1) rep) rs (by omega)
        simp only [emit, List.isEmpty_nil, if_true, zipApp, List.cons_append, List.nil_append,
          zipApp_nullCols _ _ _ _ hrs, readG, hpk, readValue_valueCell, popAll_cons]
        have h1 : ¬ (g + 2 ≤ g + 1) := by omega
        cases v <;> simp [h1, nullCell, unshredR, unshredList, expect]
      · have hne' : slots ≠ [] := by intro h0; simp [h0] at hne
        have hh := emitList_heads e (g + 2) (fun sl => emit_heads e sl (g + 2))
          slots (r + 1) rep hne' hfit
        have ll := emitList_length e (emit_length e) slots
          (g + 2) (r + 1) rep hfit
        obtain ⟨c, hc1, _, hc3⟩ := peekDl_zipApp (b := rs) hh (by omega) (by omega)
        have hfuel : slots.length ≤ firstLen (zipApp (emitList e (g + 2) (r + 1) rep slots) rs) := by
          have h1 := emitList_firstLen e (g + 2) (r + 1) slots rep hfit
          have h2 := firstLen_zipApp_add (emitList e (g + 2) (r + 1) rep slots) rs
            (List.ne_nil_of_length_pos (by omega)) (List.ne_nil_of_length_pos (by omega))
          omega
        have hre := readElems_emitList e he (g + 2) r slots rep rs _ hne' hfit hfuel hrs hcaprs
        -- `hc3 : g + 2 ≤ c.dl` takes the "has elements" branch, `hre` is the element loop
        simp only [emit, if_neg hne, zipApp, List.cons_append, List.nil_append, readG, hc1, hc3,
          if_true, hre, readValue_valueCell]
        cases hu : unshredList e slots with
        | none => simp [unshredR, hu, expect]
        | some es => cases v <;> simp [unshredR, hu, expect]
  | .obj fs, hw => by
    simp only [lvOK, Bool.and_eq_true, Bool.not_eq_true'] at hw
    apply readOK_of_typed
    intro v ty g r rep rest hty hfit hl hcap
    match rest, hl with
    | [], hl => simp [numLeaves] at hl; omega
    | r0 :: rs, hl =>
      simp only [numLeaves, List.length_cons] at hl
      have hrs : rs.length = numLeavesFields fs := by omega
      have hpos := numLeavesFields_pos fs hw.1
      have hcaprs : capped r rs := fun col hc => hcap col (by simp [hc])
      obtain ⟨tfs, rfl, hfit⟩ := fits_obj hfit hty
      have hf := readFields_emit fs hw.2 tfs (g + 1) r rep rs hfit hrs hcaprs
      have ll := (emitFields_ok fs tfs (g + 1) r rep hfit).1
      obtain ⟨c, hc1, _, hc3⟩ := peekDl_zipApp (b := rs) (emitFields_ok fs tfs (g + 1) r rep hfit).2
        (by omega) (by omega)
      -- `hc3 : g + 1 ≤ c.dl` (in the `simp`s below) answers the presence test of the peeked cell
      simp only [emit, zipApp, List.cons_append, List.nil_append, readG, hf, hc1,
        readValue_valueCell]
      cases hu : unshredFields fs tfs with
      | none => simp [unshredR, hu, expect]
      | some ofs =>
        cases v with
        | none => simp [hc3, unshredR, hu, expect]
        | some x => cases x <;> simp [hc3, unshredR, hu, expect]
theorem readFields_emit : ∀ fs, lvOKFields fs = true → ∀ tfs g r rep rest,
    slotFitsFields fs tfs = true → rest.length = numLeavesFields fs → capped r rest →
    readFields fs g r (zipApp (emitFields fs g r rep tfs) rest) =
      (unshredFields fs tfs).map (fun ofs => (ofs, rest))
  | [], _, tfs, g, r, rep, rest, hfit, hl, _ => by
    cases tfs with
    | cons _ _ => simp [slotFitsFields] at hfit
    | nil =>
      simp only [numLeavesFields, List.length_eq_zero_iff] at hl
      simp [hl, emitFields, numLeavesFields, nullCols, zipApp, readFields, unshredFields]
  | (name, s) :: fs, hw, tfs, g, r, rep, rest, hfit, hl, hcap => by
    cases tfs with
    | nil => simp [slotFitsFields] at hfit
    | cons f sls =>
      obtain ⟨k, sl⟩ := f
      simp only [slotFitsFields, Bool.and_eq_true] at hfit
      simp only [lvOKFields, Bool.and_eq_true] at hw
      simp only [numLeavesFields] at hl
      have l1 := emit_length s sl g r rep hfit.1
      have hz := zipApp_append (emit s g r rep sl) (emitFields fs g r rep sls)
        (rest.take (numLeaves s)) (rest.drop (numLeaves s)) (by simp [l1]; omega)
      rw [List.take_append_drop] at hz
      have hA : (zipApp (emit s g r rep sl) (rest.take (numLeaves s))).length = numLeaves s := by
        simp [zipApp_length_min, l1]; omega
      have h1 := readG_emit s hw.1 sl g r rep (rest.take (numLeaves s)) hfit.1 (by simp; omega)
        (fun col hc => hcap col (List.mem_of_mem_take hc))
      have h2 := readFields_emit fs hw.2 sls g r rep (rest.drop (numLeaves s)) hfit.2
        (by simp; omega) (fun col hc => hcap col (List.mem_of_mem_drop hc))
      simp only [emitFields, hz, readFields, List.take_left' hA, List.drop_left' hA, h1, h2]
      cases hu : unshredR s sl <;> cases hus : unshredFields fs sls <;>
        simp [expect, unshredFields, hu, hus]
end

theorem fits_shredList (e : Schema) (he : ∀ v, slotFits e (shred e v) = true) :
    ∀ es, slotFitsList e (shredList e es) = true
  | [] => by simp [shredList, slotFitsList]
  | x :: xs => by simp [shredList, slotFitsList, he x, fits_shredList e he xs]

mutual
theorem fits_shred : ∀ s v, slotFits s (shred s v) = true
  | .untyped, v => by simp [shred, slotFits]
  | .prim t, v => by
    cases v with
    | prim p => by_cases hm : matchesP t p = true <;> simp [shred, slotFits, hm]
    | arr es => simp [shred, slotFits]
    | obj fs => simp [shred, slotFits]
  | .list e, v => by
    cases v with
    | prim p => simp [shred, slotFits]
    | obj fs => simp [shred, slotFits]
    | arr es => simp [shred, slotFits, fits_shredList e (fun v => fits_shred e v) es]
  | .obj fields, v => by
    cases v with
    | prim p => simp [shred, slotFits]
    | arr es => simp [shred, slotFits]
    | obj fs => simp [shred, slotFits, fits_shredFields fields fs]
theorem fits_shredFields : ∀ fields fs, slotFitsFields fields (shredFields fields fs) = true
  | [], fs => by simp [shredFields, slotFitsFields]
  | (name, s) :: rest, fs => by
    simp only [shredFields, slotFitsFields, Bool.and_eq_true]
    refine ⟨?_, fits_shredFields rest fs⟩
    cases findField name fs with
    | none => simp [slotFits]
    | some fv => exact fits_shred s fv
end

/-- the column streams holding a run of occurrences, each with its own first repetition level -/
def emitAll (s : Schema) (g r : Nat) : List (Nat × Slot) → List Col
  | [] => List.replicate (numLeaves s) []
  | (rep, sl) :: rest => zipApp (emit s g r rep sl) (emitAll s g r rest)

/-- `n` successive calls of the reader on the same cursors -/
def readAll (s : Schema) (g r : Nat) : Nat → List Col → Option (List RRes × List Col)
  | 0, cols => some ([], cols)
  | n + 1, cols =>
    match readG s g r cols with
    | none => none
    | some (x, cols') =>
      match readAll s g r n cols' with
      | none => none
      | some (xs, c) => some (x :: xs, c)

theorem emitAll_length (s : Schema) (g r : Nat) :
    ∀ occs : List (Nat × Slot), (∀ o ∈ occs, slotFits s o.2 = true) →
      (emitAll s g r occs).length = numLeaves s
  | [], _ => by simp [emitAll]
  | (rep, sl) :: rest, h => by
    simp only [emitAll, zipApp_length_min, emit_length s sl g r rep (h (rep, sl) (by simp)),
      emitAll_length s g r rest (fun o ho => h o (by simp [ho]))]
    omega

theorem emitAll_capped (s : Schema) (g r : Nat) :
    ∀ occs : List (Nat × Slot), (∀ o ∈ occs, slotFits s o.2 = true ∧ o.1 ≤ r) →
      capped r (emitAll s g r occs)
  | [], _ => by
    intro col hc c tl he
    simp only [emitAll, List.mem_replicate] at hc
    rw [hc.2] at he
    cases he
  | (rep, sl) :: rest, h => by
    have h0 := h (rep, sl) (by simp)
    exact capped_mono (capped_of_heads (headsOk_zipApp (emit_heads s sl g r rep h0.1))) h0.2

end PqModel.Variant
