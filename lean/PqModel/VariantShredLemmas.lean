import PqModel.VariantShred
import PqModel.VariantLemmas
import PqModel.StatsDecimal

/-! The slot layer: reading back what `shred` wrote gives the value up to field order (`shredOK`); a partially shredded
object is put together again from the selected and the residual fields (`selected_residual_perm`). Then the leaf conversions
`toCol` / `ofCol`; `be16ToNat_eq`: `bigEndianToLittleEndian16` is sign extension of the big-endian number of `StatsDecimal`. -/
namespace PqModel.Variant

theorem distinctKeysL_iff (es : List Value) :
    distinctKeysL es = true ↔ ∀ e ∈ es, distinctKeys e = true := by
  induction es with
  | nil => simp [distinctKeysL]
  | cons e es ih => simp [distinctKeysL, ih]

theorem distinctKeysF_iff (fs : List (Key × Value)) :
    distinctKeysF fs = true ↔ ∀ f ∈ fs, distinctKeys f.2 = true := by
  induction fs with
  | nil => simp [distinctKeysF]
  | cons f fs ih => obtain ⟨k, v⟩ := f; simp [distinctKeysF, ih]

-- cases of `findField` in the three proofs below: no field left; the first field has the name; it has not
mutual
/-- the hypothesis of the codec theorems gives that of the shredding theorems -/
theorem distinctKeys_of_wf : ∀ v : Value, wf v = true → distinctKeys v = true
  | .prim _, _ => rfl
  | .arr es, h => distinctKeysL_of_wfL es h
  | .obj fs, h => by
    simp only [wf, distinctKeys, Bool.and_eq_true] at h ⊢
    exact ⟨distinctKeysF_of_wfF fs h.1, h.2⟩
theorem distinctKeysL_of_wfL : ∀ es : List Value, wfL es = true → distinctKeysL es = true
  | [], _ => rfl
  | e :: es, h => by
    simp only [wfL, distinctKeysL, Bool.and_eq_true] at h ⊢
    exact ⟨distinctKeys_of_wf e h.1, distinctKeysL_of_wfL es h.2⟩
theorem distinctKeysF_of_wfF : ∀ fs : List (Key × Value), wfF fs = true → distinctKeysF fs = true
  | [], _ => rfl
  | (_, v) :: fs, h => by
    simp only [wfF, distinctKeysF, Bool.and_eq_true] at h ⊢
    exact ⟨distinctKeys_of_wf v h.1.2, distinctKeysF_of_wfF fs h.2⟩
end

theorem findField_mem {k : Key} {v : Value} {fs : List (Key × Value)} (h : findField k fs = some v) :
    (k, v) ∈ fs := by
  fun_induction findField k fs
  case case1 => cases h
  case case2 v' fs => cases h; simp
  case case3 k' v' fs he ih => exact List.mem_cons_of_mem _ (ih h)

theorem findField_of_mem {k : Key} {v : Value} {fs : List (Key × Value)} (hnd : (keysOf fs).Nodup)
    (h : (k, v) ∈ fs) : findField k fs = some v := by
  fun_induction findField k fs
  case case1 => cases h
  case case2 v' fs =>
    simp only [keysOf, List.map_cons, List.nodup_cons] at hnd
    rcases List.mem_cons.mp h with e | h
    · cases e; rfl
    · exact absurd (List.mem_map_of_mem (f := (·.1)) h) hnd.1
  case case3 k' v' fs he ih =>
    simp only [keysOf, List.map_cons, List.nodup_cons] at hnd
    rcases List.mem_cons.mp h with e | h
    · cases e; exact absurd rfl he
    · exact ih hnd.2 h

theorem findField_none {k : Key} {fs : List (Key × Value)} (h : findField k fs = none) :
    k ∉ keysOf fs := by
  fun_induction findField k fs
  case case1 => simp [keysOf]
  case case2 => cases h
  case case3 k' v' fs hne ih =>
    simp only [keysOf, List.map_cons, List.mem_cons, not_or]
    exact ⟨fun e => hne e.symm, ih h⟩

theorem findField_filter (k : Key) (names : List Key) (hk : names.contains k = false)
    (fs : List (Key × Value)) :
    findField k (fs.filter fun f => !names.contains f.1) = findField k fs := by
  induction fs with
  | nil => simp [findField]
  | cons f rest ih =>
    obtain ⟨k', v'⟩ := f
    rw [List.filter_cons]
    by_cases hc : names.contains k' = true
    · have hne : ¬ k' = k := by
        intro e; rw [e] at hc; rw [hc] at hk; cases hk
      rw [if_neg (by rw [hc]; decide)]
      simp only [findField, if_neg hne]
      exact ih
    · have hc' : names.contains k' = false := by simpa using hc
      rw [if_pos (by rw [hc']; decide)]
      simp only [findField]
      split
      · rfl
      · exact ih

theorem distinctKeys_findField {k : Key} {fs : List (Key × Value)} {v : Value}
    (hv : distinctKeys (.obj fs) = true) (h : findField k fs = some v) : distinctKeys v = true := by
  simp only [distinctKeys, Bool.and_eq_true] at hv
  exact (distinctKeysF_iff fs).mp hv.1 _ (findField_mem h)

theorem nodup_of_nodup_map {α β : Type} (f : α → β) (l : List α) (h : (l.map f).Nodup) : l.Nodup :=
  (List.pairwise_map.mp h).imp fun hne he => hne (congrArg f he)

theorem mem_selected (fields : List (Key × Schema)) (fs : List (Key × Value)) (hnd : (keysOf fs).Nodup)
    (x : Key × Value) : x ∈ selected fields fs ↔ x.1 ∈ schemaNames fields ∧ x ∈ fs := by
  obtain ⟨k, v⟩ := x
  simp only [selected, List.mem_filterMap, Option.map_eq_some_iff, Prod.mk.injEq, schemaNames,
    List.mem_map]
  constructor
  · rintro ⟨f, hf, v', hv', rfl, rfl⟩
    exact ⟨⟨f, hf, rfl⟩, findField_mem hv'⟩
  · rintro ⟨⟨f, hf, rfl⟩, hm⟩
    exact ⟨f, hf, v, findField_of_mem hnd hm, rfl, rfl⟩

theorem keys_selected_sublist (fields : List (Key × Schema)) (fs : List (Key × Value)) :
    (keysOf (selected fields fs)).Sublist (schemaNames fields) := by
  induction fields with
  | nil => simp [selected, keysOf, schemaNames]
  | cons f fields ih =>
    simp only [selected, keysOf, schemaNames, List.filterMap_cons, List.map_cons] at ih ⊢
    cases h : findField f.1 fs with
    | none => simp only [Option.map_none]; exact List.Sublist.cons _ ih
    | some v => simp only [Option.map_some, List.map_cons]; exact List.Sublist.cons_cons _ ih

theorem selected_residual_perm (fields : List (Key × Schema)) (fs : List (Key × Value))
    (hs : (schemaNames fields).Nodup) (hnd : (keysOf fs).Nodup) :
    (selected fields fs ++ fs.filter fun f => !(schemaNames fields).contains f.1).Perm fs := by
  have hfsnd : fs.Nodup := by
    have : (fs.map (·.1)).Nodup := hnd
    exact nodup_of_nodup_map _ _ this
  have hselnd : (selected fields fs).Nodup := by
    have : (keysOf (selected fields fs)).Nodup := (keys_selected_sublist fields fs).nodup hs
    exact nodup_of_nodup_map _ _ this
  apply (List.perm_ext_iff_of_nodup _ hfsnd).mpr
  · intro x
    simp only [List.mem_append, mem_selected fields fs hnd, List.mem_filter, Bool.not_eq_true',
      List.contains_eq_mem, decide_eq_false_iff_not]
    constructor
    · rintro (⟨_, h⟩ | ⟨h, _⟩) <;> exact h
    · intro h
      by_cases hx : x.1 ∈ schemaNames fields
      · exact Or.inl ⟨hx, h⟩
      · exact Or.inr ⟨h, hx⟩
  · rw [List.nodup_append]
    refine ⟨hselnd, hfsnd.filter _, ?_⟩
    intro a ha b hb hab
    subst hab
    have h1 := ((mem_selected fields fs hnd a).mp ha).1
    simp only [List.mem_filter, Bool.not_eq_true', List.contains_eq_mem, decide_eq_false_iff_not] at hb
    exact hb.2 h1


def ShredOK (s : Schema) : Prop :=
  ∀ v, distinctKeys v = true → ∃ r, unshredR s (shred s v) = .val r ∧ canon r = canon v

theorem unshredR_missing (s : Schema) : unshredR s .missing = .missing := by
  cases s <;> simp [unshredR]

theorem unshredR_mk_none (s : Schema) (v : Option Value) : unshredR s (.mk v .none) = valueCol v := by
  cases s <;> simp [unshredR]

/-- the residual `value` next to a shredded object: the fields the schema does not name, if any -/
def residualOf (fields : List (Key × Schema)) (fs : List (Key × Value)) : Option Value :=
  if (fs.filter fun f => !(schemaNames fields).contains f.1).isEmpty then none
  else some (.obj (fs.filter fun f => !(schemaNames fields).contains f.1))

theorem shred_prim (t : PType) (p : Prim) :
    shred (.prim t) (.prim p) = if matchesP t p then .mk none (.prim p) else .mk (some (.prim p)) .none := by
  rw [shred]

theorem shred_obj (fields : List (Key × Schema)) (fs : List (Key × Value)) :
    shred (.obj fields) (.obj fs) = .mk (residualOf fields fs) (.obj (shredFields fields fs)) := by
  rw [shred]; rfl

theorem shred_cases (s : Schema) (v : Value) :
    shred s v = .mk (some v) .none ∨
    (∃ t p, s = .prim t ∧ v = .prim p ∧ shred s v = .mk none (.prim p)) ∨
    (∃ e es, s = .list e ∧ v = .arr es ∧ shred s v = .mk none (.list (shredList e es))) ∨
    (∃ fields fs, s = .obj fields ∧ v = .obj fs ∧
      shred s v = .mk (residualOf fields fs) (.obj (shredFields fields fs))) := by
  -- the branches of `shred` in its own order: 1 untyped; 2-4 primitive column (2 = the primitive matches); 5-6 list
  -- (5 = the value is an array); 7-8 object group (7 = the value is an object); all others keep the value
  fun_cases shred s v
  case case2 => exact .inr (.inl ⟨_, _, rfl, rfl, rfl⟩)
  case case5 => exact .inr (.inr (.inl ⟨_, _, rfl, rfl, rfl⟩))
  case case7 => exact .inr (.inr (.inr ⟨_, _, rfl, rfl, rfl⟩))
  all_goals exact .inl rfl

theorem shredList_eq_map (e : Schema) (es : List Value) : shredList e es = es.map (shred e) := by
  induction es with
  | nil => simp [shredList]
  | cons x xs ih => simp [shredList, ih]

theorem unshredList_shredList (e : Schema) (he : ShredOK e) :
    ∀ es : List Value, (∀ x ∈ es, distinctKeys x = true) →
      ∃ rs, unshredList e (shredList e es) = some rs ∧ rs.map canon = es.map canon
  | [], _ => ⟨[], by simp [shredList, unshredList], rfl⟩
  | x :: xs, h => by
    obtain ⟨r, hr, hc⟩ := he x (h x (by simp))
    obtain ⟨rs, hrs, hcs⟩ := unshredList_shredList e he xs (fun y hy => h y (by simp [hy]))
    refine ⟨r :: rs, ?_, by simp [hc, hcs]⟩
    simp only [shredList, unshredList, hr, RRes.orNull, hrs]

theorem canon_obj_of_fields (fields : List (Key × Schema)) (fs ofs : List (Key × Value))
    (hs : (schemaNames fields).Nodup) (hnd : (keysOf fs).Nodup)
    (hofs : ofs.map canonField = (selected fields fs).map canonField) :
    canon (.obj (ofs ++ fs.filter fun f => !(schemaNames fields).contains f.1)) = canon (.obj fs) := by
  have h1 : canon (.obj (ofs ++ fs.filter fun f => !(schemaNames fields).contains f.1)) =
      canon (.obj (selected fields fs ++ fs.filter fun f => !(schemaNames fields).contains f.1)) := by
    simp only [canon, canonFields_eq, List.map_append, hofs]
  rw [h1]
  exact (canon_obj_congr _ _ (selected_residual_perm fields fs hs hnd).symm hnd).symm

mutual
theorem shredOK : ∀ s : Schema, wfS s = true → ShredOK s
  | .untyped, _ => by
    intro v _
    exact ⟨v, by simp [shred, unshredR, valueCol], rfl⟩
  | .prim t, _ => by
    intro v _
    cases v with
    | prim p =>
      by_cases hm : matchesP t p = true
      · exact ⟨.prim p, by simp [shred, unshredR, hm], rfl⟩
      · exact ⟨.prim p, by simp [shred, unshredR, hm, valueCol], rfl⟩
    | arr es => exact ⟨.arr es, by simp [shred, unshredR, valueCol], rfl⟩
    | obj fs => exact ⟨.obj fs, by simp [shred, unshredR, valueCol], rfl⟩
  | .list e, hw => by
    have he : ShredOK e := shredOK e (by simpa [wfS] using hw)
    intro v hv
    cases v with
    | prim p => exact ⟨.prim p, by simp [shred, unshredR, valueCol], rfl⟩
    | obj fs => exact ⟨.obj fs, by simp [shred, unshredR, valueCol], rfl⟩
    | arr es =>
      simp only [distinctKeys, distinctKeysL_iff] at hv
      obtain ⟨rs, hrs, hcs⟩ := unshredList_shredList e he es hv
      refine ⟨.arr rs, by simp [shred, unshredR, hrs], ?_⟩
      simp only [canon, canonList_eq, hcs]
  | .obj fields, hw => by
    simp only [wfS, Bool.and_eq_true, decide_eq_true_eq] at hw
    intro v hv
    cases v with
    | prim p => exact ⟨.prim p, by simp [shred, unshredR, valueCol], rfl⟩
    | arr es => exact ⟨.arr es, by simp [shred, unshredR, valueCol], rfl⟩
    | obj fs =>
      simp only [distinctKeys, Bool.and_eq_true, distinctKeysF_iff, decide_eq_true_eq] at hv
      obtain ⟨ofs, hofs, hmap⟩ := shredFieldsOK fields hw.1 fs hv.1
      have hc := canon_obj_of_fields fields fs ofs hw.2 hv.2 hmap
      by_cases hres : (fs.filter fun f => !(schemaNames fields).contains f.1).isEmpty = true
      · refine ⟨.obj ofs, by simp only [shred, unshredR, hofs, hres, if_true], ?_⟩
        have : (fs.filter fun f => !(schemaNames fields).contains f.1) = [] := by
          simpa [List.isEmpty_iff] using hres
        rw [this, List.append_nil] at hc
        exact hc
      · refine ⟨.obj (ofs ++ fs.filter fun f => !(schemaNames fields).contains f.1), ?_, hc⟩
        simp only [shred, unshredR, hofs, hres]
        rw [if_neg (by decide)]
        simp only [List.filter_filter, Bool.and_self]
theorem shredFieldsOK : ∀ fields : List (Key × Schema), wfSFields fields = true →
    ∀ fs : List (Key × Value), (∀ f ∈ fs, distinctKeys f.2 = true) →
      ∃ ofs, unshredFields fields (shredFields fields fs) = some ofs ∧
        ofs.map canonField = (selected fields fs).map canonField
  | [], _, fs, _ => ⟨[], by simp [shredFields, unshredFields], by simp [selected]⟩
  | (name, s) :: rest, hw, fs, hfs => by
    simp only [wfSFields, Bool.and_eq_true] at hw
    obtain ⟨ofs, hofs, hmap⟩ := shredFieldsOK rest hw.2 fs hfs
    cases hf : findField name fs with
    | none =>
      refine ⟨ofs, ?_, ?_⟩
      · simp [shredFields, unshredFields, hf, unshredR_missing, hofs]
      · simpa [selected, hf] using hmap
    | some fv =>
      have hd : distinctKeys fv = true := hfs (name, fv) (findField_mem hf)
      obtain ⟨r, hr, hc⟩ := shredOK s hw.1 fv hd
      refine ⟨(name, r) :: ofs, ?_, ?_⟩
      · simp [shredFields, unshredFields, hf, hr, hofs]
      · simp only [selected, List.filterMap_cons, hf, Option.map_some, List.map_cons] at hmap ⊢
        simp only [canonField, hc, List.cons.injEq, true_and]
        exact hmap
end


theorem setWidth_signExtend {w : Nat} (hw : w ≤ 32) (x : BitVec w) : (x.signExtend 32).setWidth w = x := by
  apply BitVec.eq_of_getLsbD_eq
  intro i hi
  simp [BitVec.getLsbD_signExtend, hi]
  omega

theorem be16ToNat_beN (n : Nat) (h : n < 256 ^ 16) : be16ToNat (beN 16 n) = n := by
  simp only [be16ToNat, beN_length, Nat.sub_self, List.replicate_zero, List.append_nil]
  exact unLE_reverse_beN 16 n h

theorem toCol_isSome (t : PType) (p : Prim) : (toCol t p).isSome = matchesP t p := by
  fun_cases toCol t p <;> simp [matchesP, *]

theorem scale_of_match {s : Nat} {sc : UInt8} {b : Bool} (h : (decide (s = sc.toNat) && b) = true) :
    UInt8.ofNat s = sc := by
  simp only [Bool.and_eq_true, decide_eq_true_eq] at h
  rw [h.1, UInt8.ofNat_toNat]

theorem unLE_append (a b : Bytes) : unLE (a ++ b) = unLE a + 256 ^ a.length * unLE b := by
  rw [unLE_eq, unLE_eq, unLE_eq, LE.leVal_append]

open PqModel.Stats (beUnsigned isNeg IsBytes beUnsigned_nonneg_lt beUnsigned_neg_ge beUnsigned_pad_zero beUnsigned_pad_ff pow256_succ)

/-- through this the facts of `StatsDecimal` about sign and padding apply to the bytes of the variant model -/
theorem unLE_reverse (b : Bytes) : unLE b.reverse = beUnsigned (b.map (·.toNat)) := by
  induction b with
  | nil => rfl
  | cons x xs ih =>
    rw [List.reverse_cons, unLE_append, ih, List.length_reverse, List.map_cons, beUnsigned, List.length_map]
    simp [unLE, Nat.mul_comm, Nat.add_comm]

theorem isBytes_toNat (b : Bytes) : IsBytes (b.map (·.toNat)) := by
  intro x hx
  obtain ⟨y, _, rfl⟩ := List.mem_map.mp hx
  exact Nat.le_of_lt_succ y.toNat_lt

theorem be16ToNat_eq (b : Bytes) :
    be16ToNat b = beUnsigned (List.replicate (16 - b.length) (if isNeg (b.map (·.toNat)) then 255 else 0) ++
      b.map (·.toNat)) := by
  have hfill : ∀ fill : UInt8, fill.toNat = (if isNeg (b.map (·.toNat)) then 255 else 0) →
      unLE (b.reverse ++ List.replicate (16 - b.length) fill) = beUnsigned (List.replicate (16 - b.length)
        (if isNeg (b.map (·.toNat)) then 255 else 0) ++ b.map (·.toNat)) := fun fill hf => by
    rw [← hf, ← List.reverse_replicate, ← List.reverse_append, unLE_reverse, List.map_append, List.map_replicate]
  cases b with
  | nil => exact hfill 0 rfl
  | cons b0 t =>
    refine hfill _ ?_
    by_cases h : b0 ≥ 0x80
    · have : b0.toNat ≥ 128 := UInt8.le_iff_toNat_le.mp h
      simp [isNeg, h, this]
    · have : ¬ b0.toNat ≥ 128 := fun h' => h (UInt8.le_iff_toNat_le.mpr h')
      simp [isNeg, h, this]

theorem be16ToNat_short (n m : Nat) (hn1 : 1 ≤ n) (hn : n ≤ 16) (hm : m < 256 ^ n) :
    be16ToNat (beN n m) =
      if m < 128 * 256 ^ (n - 1) then m else m + (256 ^ 16 - 256 ^ n) := by
  have hv : beUnsigned ((beN n m).map (·.toNat)) = m := by rw [← unLE_reverse, unLE_reverse_beN n m hm]
  have hl : ((beN n m).map (·.toNat)).length = n := by simp
  have hp : 256 ^ n = 256 * 256 ^ (n - 1) := by rw [← pow256_succ]; congr 1; omega
  have h16 : 256 ^ (16 - n + n) = 256 ^ 16 := by congr 1; omega
  have hle : 256 ^ n ≤ 256 ^ 16 := Nat.pow_le_pow_right (by decide) hn
  rw [be16ToNat_eq, beN_length]
  cases hs : isNeg ((beN n m).map (·.toNat)) with
  | false =>
    -- sign bit clear: the value is below half the range, the zero padding adds nothing
    have hlt : 2 * m < 256 ^ n := by
      rcases beUnsigned_nonneg_lt _ (isBytes_toNat _) hs with h | h
      · rwa [hv, hl] at h
      · rw [h, List.length_nil] at hl
        omega
    simp only [Bool.false_eq_true, if_false, beUnsigned_pad_zero, hv]
    rw [if_pos (by omega)]
  | true =>
    -- sign bit set: the value is in the upper half, the `0xFF` padding adds `256^16 - 256^n`
    have hge := beUnsigned_neg_ge _ hs
    have hpad := beUnsigned_pad_ff (16 - n) ((beN n m).map (·.toNat))
    rw [hv, hl] at hge
    rw [hv, hl, h16] at hpad
    simp only [if_true]
    rw [if_neg (by omega)]
    omega

end PqModel.Variant
