import PqModel.PoolProto

/-! # One generation of storage of a `memory.SliceBuffer` as a pool program

MIRROR of internal/memory/slice_buffer.go. A `SliceBuffer[T]` keeps its elements in ONE slice taken
from the process-wide bucket pools (`slicePools`, :30; `getSliceFromPool` :319-332 is the `Get`,
`putSliceToPool` :334-351 the `Put`). When the slice is full the buffer takes a slice of a larger
bucket, copies, and hands the old one back: a buffer that grows through m buckets uses m pooled
objects one after the other, and every one of them has the life

    Get · (appends into it) · (the ending that lets go of it)

which is a *program* of `PqModel.PoolProto` (k goroutines, any interleaving, sync.Pool as a bag).
The endings, with the touches of the OLD storage in source order:

* `grow`       reserve, "already using pooled storage" :94-102: `append(b.slice.data, b.data...)`
               READS the old storage (:98, `b.data` still aliases it), `oldSlice.data = b.data`
               (:99), `putSliceToPool(oldSlice)` (:100)
* `overflow`   reserve, beyond the last bucket :73-84: `copy(newData, b.data)` (:77), put (:79)
* `appendFunc` AppendFunc, fn reallocated :133-139: `fn(b.data)` reads it (:131),
               `b.slice.data = oldData` (:136), put (:137)
* `reset`      Reset :187-195: `b.slice.data = b.data` (:190), put (:192)
* `keep`       the buffer is dropped without Reset: the storage is garbage

`putFirst` is the order of the change /verif/seeded/C15-7a on the `grow` ending: the old slice is put back BEFORE its
content is copied into the new one. Independent buffers owned by different goroutines are
different programs; what they share is the pool. -/
namespace PqModel.PoolGrow
open PqModel.PoolProto

inductive Ending where
  | grow | overflow | appendFunc | reset | keep
deriving DecidableEq, Repr

def ending (e : Ending) (putFirst : Bool) : List Op :=
  match e with
  | .grow => if putFirst then [.use, .put, .use] else [.use, .use, .put]
  | .overflow => [.use, .put]
  | .appendFunc => [.use, .use, .put]
  | .reset => [.use, .put]
  | .keep => []

/-- one generation: `nApp` appends / reads by the owner, then the ending -/
def genProg (nApp : Nat) (e : Ending) (putFirst : Bool) : List Op :=
  List.replicate nApp .use ++ ending e putFirst

theorem genProg_disc (nApp : Nat) (e : Ending) : disc (genProg nApp e false) = true := by
  cases e <;> simp [genProg, ending, disc, disc_replicate_append, disc_replicate_use]

theorem growSlip_disc (nApp : Nat) : disc (genProg nApp .grow true) = false := by
  simp [genProg, ending, disc, disc_replicate_append]

theorem genProg_putFirst_other (nApp : Nat) (e : Ending) (h : e ≠ .grow) :
    genProg nApp e true = genProg nApp e false := by
  cases e <;> simp_all [genProg, ending]

end PqModel.PoolGrow
