import PqModel.Slots

/-! # Process-wide registry: lookup-or-insert under a lock (file.go `getBufioReaderPool`)

MIRROR of `getBufioReaderPool` (file.go:1775-1786): a package-level `map[int]*Pool` guarded by a
`sync.Mutex`; `Lock` (:1776), deferred `Unlock` (:1777), map read (:1779), on a miss allocate
(:1783) and map write (:1784). k goroutines, each asking for a key (keys may repeat), all interleavings.

A Go map access is not atomic: a read or write that overlaps a write by another goroutine is a
`fatal error: concurrent map read and map write` (and a data race). The model therefore gives every
map access a *window* (a begin step and an end step) and asks whether two windows can overlap.
The `fast` flag of a goroutine selects the variant with an unlocked map read in front of the lock
(broken double-checked locking); the code as it is has `fast = false` everywhere. -/
namespace PqModel.Registry

inductive RPc where
  | start (fast : Bool)
  | fastRead            -- inside the UNLOCKED map read (variant only)
  | wantLock            -- blocked in Lock (file.go:1776)
  | locked              -- holds the lock, before the map read
  | lockedRead          -- inside the map read (file.go:1779)
  | miss                -- the read returned nil (file.go:1783)
  | writing (v : Nat)   -- inside the map write of the freshly allocated value (file.go:1784)
  | unlocking (r : Nat) -- result known, deferred Unlock pending (file.go:1777)
  | done (r : Nat)
deriving DecidableEq, Repr

structure Gor where
  key : Nat
  pc : RPc
deriving DecidableEq, Repr

structure St where
  lock : Bool
  table : Nat → Option Nat
  fresh : Nat
  gs : List Gor

def init (keys : List (Nat × Bool)) : St :=
  { lock := false, table := fun _ => none, fresh := 0, gs := keys.map fun kf => ⟨kf.1, .start kf.2⟩ }

inductive Step : St → St → Prop where
  | startLocked {s} {i : Nat} {k} : s.gs[i]? = some ⟨k, .start false⟩ →
      Step s { s with gs := s.gs.set i ⟨k, .wantLock⟩ }
  /-- variant: begin the unlocked read -/
  | startFast {s} {i : Nat} {k} : s.gs[i]? = some ⟨k, .start true⟩ →
      Step s { s with gs := s.gs.set i ⟨k, .fastRead⟩ }
  | fastHit {s} {i : Nat} {k v} : s.gs[i]? = some ⟨k, .fastRead⟩ → s.table k = some v →
      Step s { s with gs := s.gs.set i ⟨k, .done v⟩ }
  | fastMiss {s} {i : Nat} {k} : s.gs[i]? = some ⟨k, .fastRead⟩ → s.table k = none →
      Step s { s with gs := s.gs.set i ⟨k, .wantLock⟩ }
  /-- file.go:1776 -/
  | lock {s} {i : Nat} {k} : s.gs[i]? = some ⟨k, .wantLock⟩ → s.lock = false →
      Step s { s with gs := s.gs.set i ⟨k, .locked⟩, lock := true }
  /-- file.go:1779, begin of the map read -/
  | beginRead {s} {i : Nat} {k} : s.gs[i]? = some ⟨k, .locked⟩ →
      Step s { s with gs := s.gs.set i ⟨k, .lockedRead⟩ }
  /-- file.go:1779-1781 -/
  | readHit {s} {i : Nat} {k v} : s.gs[i]? = some ⟨k, .lockedRead⟩ → s.table k = some v →
      Step s { s with gs := s.gs.set i ⟨k, .unlocking v⟩ }
  | readMiss {s} {i : Nat} {k} : s.gs[i]? = some ⟨k, .lockedRead⟩ → s.table k = none →
      Step s { s with gs := s.gs.set i ⟨k, .miss⟩ }
  /-- file.go:1783-1784: allocate, begin of the map write -/
  | beginWrite {s} {i : Nat} {k} : s.gs[i]? = some ⟨k, .miss⟩ →
      Step s { s with gs := s.gs.set i ⟨k, .writing s.fresh⟩, fresh := s.fresh + 1 }
  /-- file.go:1784-1785: end of the map write -/
  | endWrite {s} {i : Nat} {k v} : s.gs[i]? = some ⟨k, .writing v⟩ →
      Step s { s with gs := s.gs.set i ⟨k, .unlocking v⟩,
                      table := fun x => if x = k then some v else s.table x }
  /-- file.go:1777 (deferred) -/
  | unlock {s} {i : Nat} {k r} : s.gs[i]? = some ⟨k, .unlocking r⟩ →
      Step s { s with gs := s.gs.set i ⟨k, .done r⟩, lock := false }

inductive Reach (keys : List (Nat × Bool)) : St → Prop where
  | init : Reach keys (init keys)
  | step {s s'} : Reach keys s → Step s s' → Reach keys s'

def inRead : RPc → Bool
  | .fastRead | .lockedRead => true
  | _ => false

def inWrite : RPc → Bool
  | .writing _ => true
  | _ => false

def inCrit : RPc → Bool
  | .locked | .lockedRead | .miss | .writing _ | .unlocking _ => true
  | _ => false

/-- a map write overlaps another map access -/
def Conflict (s : St) : Prop :=
  ∃ (i j : Nat) (gi gj : Gor), i ≠ j ∧ s.gs[i]? = some gi ∧ s.gs[j]? = some gj ∧
    inWrite gi.pc = true ∧ (inRead gj.pc = true ∨ inWrite gj.pc = true)

structure RInv (s : St) : Prop where
  nofast : ∀ (i : Nat) g, s.gs[i]? = some g → g.pc ≠ .start true ∧ g.pc ≠ .fastRead
  excl : ∀ (i j : Nat) gi gj, i ≠ j → s.gs[i]? = some gi → s.gs[j]? = some gj →
      inCrit gi.pc = true → inCrit gj.pc = true → False
  held : ∀ (i : Nat) g, s.gs[i]? = some g → inCrit g.pc = true → s.lock = true
  res : ∀ (i : Nat) k r, (s.gs[i]? = some ⟨k, .unlocking r⟩ ∨ s.gs[i]? = some ⟨k, .done r⟩) → s.table k = some r
  absent : ∀ (i : Nat) k, s.gs[i]? = some ⟨k, .miss⟩ → s.table k = none
  absentW : ∀ (i : Nat) k v, s.gs[i]? = some ⟨k, .writing v⟩ → s.table k = none

open PqModel.Slots

/-- what goroutine `g` relies on: inside the critical section it holds the lock; what it has read
    from the table is still there -/
def Local (lock : Bool) (table : Nat → Option Nat) (g : Gor) : Prop :=
  (inCrit g.pc = true → lock = true) ∧
  match g.pc with
  | .start fast => fast = false
  | .fastRead => False
  | .unlocking r | .done r => table g.key = some r
  | .miss | .writing _ => table g.key = none
  | _ => True

/-- the key for `Slots.Distinct`: at most one goroutine is inside the critical section -/
def crit (g : Gor) : Option Unit :=
  match inCrit g.pc with
  | true => some ()
  | false => none

theorem crit_some {g : Gor} {b} : crit g = some b ↔ inCrit g.pc = true := by
  unfold crit; cases inCrit g.pc <;> simp

/-- `RInv` goroutine by goroutine, the form preserved step by step; clients use `RInv` (`Rep.rinv`) -/
structure Rep (s : St) : Prop where
  loc : ∀ (i : Nat) g, s.gs[i]? = some g → Local s.lock s.table g
  one : Distinct crit s.gs

theorem Rep.rinv {s} (h : Rep s) : RInv s := by
  constructor
  · intro i g hg
    have := (h.loc i g hg).2
    constructor <;> intro e <;> rw [e] at this <;> cases this
  · exact fun i j gi gj ne hi hj ci cj =>
      ne (h.one i j gi gj () hi hj (crit_some.mpr ci) (crit_some.mpr cj))
  · exact fun i g hg => (h.loc i g hg).1
  · intro i k r hg
    rcases hg with hg | hg <;> exact (h.loc i _ hg).2
  · exact fun i k hg => (h.loc i _ hg).2
  · exact fun i k v hg => (h.loc i _ hg).2

theorem Local.of_not_crit {lock lock' table g} (h : Local lock table g) (hc : inCrit g.pc = false) :
    Local lock' table g :=
  ⟨fun c => (by rw [hc] at c; cases c), h.2⟩

/-- a write into an empty entry leaves what was read outside the critical section valid -/
theorem Local.write {lock table g k v} (h : Local lock table g) (hc : inCrit g.pc = false)
    (hk : table k = none) : Local lock (fun x => if x = k then some v else table x) g := by
  refine ⟨h.1, ?_⟩
  obtain ⟨k', pc⟩ := g
  cases pc <;> first | exact h.2 | cases hc
  case done r =>
    have : table k' = some r := h.2
    exact (if_neg (fun (e : k' = k) => by rw [e, hk] at this; cases this)).trans this

theorem Rep.others_out {s} (h : Rep s) {i : Nat} {old} (hs : s.gs[i]? = some old)
    (hc : inCrit old.pc = true) {j : Nat} {g} (ne : j ≠ i) (hg : s.gs[j]? = some g) :
    inCrit g.pc = false := by
  cases c : inCrit g.pc
  · rfl
  · exact absurd (h.one j i g old () hg hs (crit_some.mpr c) (crit_some.mpr hc)) ne

theorem rep_step {s s'} (hr : Rep s) (h : Step s s') : Rep s' := by
  cases h
  case startFast i k hs | fastHit i k v hs _ | fastMiss i k hs _ => cases (hr.loc i _ hs).2
  case startLocked i k hs =>
    exact ⟨forall_set_same hr.loc ⟨nofun, trivial⟩, hr.one.set_of hs nofun⟩
  case lock i k hs hl =>
    -- the lock was free: nobody is inside
    have out : ∀ (j : Nat) g, s.gs[j]? = some g → inCrit g.pc = false := by
      intro j g hg
      cases c : inCrit g.pc
      · rfl
      · have := (hr.loc j g hg).1 c; rw [hl] at this; cases this
    refine ⟨forall_set hr.loc ⟨fun _ => rfl, trivial⟩ (fun _ _ _ _ h => ⟨fun _ => rfl, h.2⟩), hr.one.set ?_⟩
    intro j g b _ hg _ fg
    have := crit_some.mp fg; rw [out j g hg] at this; cases this
  case beginRead i k hs =>
    exact ⟨forall_set_same hr.loc ⟨fun _ => (hr.loc i _ hs).1 rfl, trivial⟩,
      hr.one.set_of hs (fun _ _ => rfl)⟩
  case readHit i k v hs ht | readMiss i k hs ht =>
    exact ⟨forall_set_same hr.loc ⟨fun _ => (hr.loc i _ hs).1 rfl, ht⟩,
      hr.one.set_of hs (fun _ _ => rfl)⟩
  case beginWrite i k hs =>
    exact ⟨forall_set_same hr.loc ⟨fun _ => (hr.loc i _ hs).1 rfl, (hr.loc i _ hs).2⟩,
      hr.one.set_of hs (fun _ _ => rfl)⟩
  case endWrite i k v hs =>
    have hk : s.table k = none := (hr.loc i _ hs).2
    exact ⟨forall_set hr.loc ⟨fun _ => (hr.loc i _ hs).1 rfl, if_pos rfl⟩
        (fun j g ne hg h => h.write (hr.others_out hs rfl ne hg) hk),
      hr.one.set_of hs (fun _ _ => rfl)⟩
  case unlock i k r hs =>
    exact ⟨forall_set hr.loc ⟨nofun, (hr.loc i _ hs).2⟩
        (fun j g ne hg h => h.of_not_crit (hr.others_out hs rfl ne hg)),
      hr.one.set_of hs nofun⟩

theorem rep_init {keys : List (Nat × Bool)} (h : ∀ kf ∈ keys, kf.2 = false) : Rep (init keys) := by
  constructor
  · refine forall_mem fun g hg => ?_
    obtain ⟨kf, hk, rfl⟩ := List.mem_map.mp hg
    exact ⟨nofun, h kf hk⟩
  · refine .of_none fun g hg => ?_
    obtain ⟨kf, _, rfl⟩ := List.mem_map.mp hg
    rfl

theorem rinv_reach {keys s} (h : ∀ kf ∈ keys, kf.2 = false) (hr : Reach keys s) : RInv s := by
  refine Rep.rinv ?_
  induction hr with
  | init => exact rep_init h
  | step _ hs ih => exact rep_step ih hs

theorem inCrit_of_inWrite {pc : RPc} (h : inWrite pc = true) : inCrit pc = true := by
  cases pc <;> first | rfl | cases h

theorem inCrit_of_inRead {pc : RPc} (h : inRead pc = true) (nf : pc ≠ .fastRead) : inCrit pc = true := by
  cases pc <;> first | rfl | exact absurd rfl nf | cases h

theorem rinv_no_conflict {s} (hi : RInv s) : ¬ Conflict s := by
  intro ⟨i, j, gi, gj, hij, hgi, hgj, hw, hrw⟩
  exact hi.excl i j gi gj hij hgi hgj (inCrit_of_inWrite hw)
    (hrw.elim (inCrit_of_inRead · (hi.nofast j gj hgj).2) inCrit_of_inWrite)

theorem table_stable {s s' k v} (hi : RInv s) (h : Step s s') (hk : s.table k = some v) : s'.table k = some v := by
  cases h <;> try exact hk
  case endWrite i k' v' hs =>
    have := hi.absentW i k' v' hs
    show (if k = k' then some v' else s.table k) = some v
    split
    · subst_vars; rw [hk] at this; cases this
    · exact hk

end PqModel.Registry
