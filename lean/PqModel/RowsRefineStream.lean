import PqModel.RowsRefineDefs

/-! Refinement `RowsBuf` → `RowsState`, part 1: what `readPage` / `readValues` / `refill` / `rowLoop` /
    `colLoop` of the buffer-level mirror do to the STREAM a column will still deliver (`cstream`).
    Pure list statements, no well-formedness of the file is needed here: a row loop takes
    `scanRow nv` values off the front of the stream whatever the buffer boundaries are. -/
namespace PqModel.RowsRefine
open PqModel.RowsBuf

theorem readPageFrom_stream (ps : List Page) (c : Cursor) :
    (∀ vs, (readPageFrom ps c).2 = .page vs → ∃ m, (readPageFrom ps c).1 = { next := c.next + m, skip := 0 } ∧
        pstreamFrom ps c.skip = (vs ++ (pstreamFrom (ps.drop m) 0).1, (pstreamFrom (ps.drop m) 0).2)) ∧
    ((readPageFrom ps c).2 = .eof → pstreamFrom ps c.skip = ([], false) ∧
        (readPageFrom ps c).1.next = c.next + ps.length) := by
  fun_induction readPageFrom ps c with
  | case1 c => exact ⟨nofun, fun _ => ⟨rfl, rfl⟩⟩
  | case2 p ps c hb => exact ⟨nofun, nofun⟩
  | case3 p ps c hb hs =>
    refine ⟨fun vs hv => ⟨1, rfl, ?_⟩, nofun⟩
    cases hv
    simp [pstreamFrom, hb, hs]
  | case4 p ps c hb hs ih =>
    refine ⟨fun vs hv => ?_, fun h => ?_⟩
    · obtain ⟨m, h1, h2⟩ := ih.1 vs hv
      exact ⟨m + 1, by rw [h1]; simp only [Cursor.mk.injEq, and_true]; omega, by simpa [pstreamFrom, hb, hs] using h2⟩
    · obtain ⟨h1, h2⟩ := ih.2 h
      exact ⟨by simpa [pstreamFrom, hb, hs] using h1, by rw [h2]; simp only [List.length_cons]; omega⟩

theorem readPage_stream (pages : List Page) (c : Cursor) :
    (∀ vs, (readPage pages c).2 = .page vs →
        pstream pages c = (vs ++ (pstream pages (readPage pages c).1).1, (pstream pages (readPage pages c).1).2)) ∧
    ((readPage pages c).2 = .eof → pstream pages c = ([], false) ∧ pstream pages (readPage pages c).1 = ([], false)) := by
  have h := readPageFrom_stream (pages.drop c.next) c
  refine ⟨fun vs hv => ?_, fun he => ?_⟩
  · obtain ⟨m, h1, h2⟩ := h.1 vs hv
    simp only [readPage] at h1 ⊢
    simp only [pstream, h1, h2, List.drop_drop]
  · obtain ⟨h1, h2⟩ := h.2 he
    simp only [readPage] at h2 ⊢
    refine ⟨h1, ?_⟩
    simp only [pstream]
    rw [List.drop_eq_nil_of_le (by rw [h2, List.length_drop]; omega)]
    simp [pstreamFrom]

theorem readValues_stream (pages : List Page) (B : Nat) (hB : 0 < B) (fuel : Nat) (r : Reader) :
    (∀ vs, (readValues pages B fuel r).2 = .vals vs → vs ≠ [] ∧
        rstream pages r = (vs ++ (rstream pages (readValues pages B fuel r).1).1,
                           (rstream pages (readValues pages B fuel r).1).2)) ∧
    ((readValues pages B fuel r).2 = .eof →
        rstream pages r = ([], false) ∧ rstream pages (readValues pages B fuel r).1 = ([], false)) := by
  -- cases as at `readValues_good`
  fun_induction readValues pages B fuel r with
  | case1 => exact ⟨nofun, nofun⟩
  | case2 fuel r hn c heq =>
    have := (heq ▸ readPage_stream pages r.cur).2 rfl
    exact ⟨nofun, fun _ => by simp only [rstream, hn, Option.getD_none, List.nil_append, this.1, this.2, and_self]⟩
  | case3 => exact ⟨nofun, nofun⟩
  | case4 fuel r hn c vs heq ih =>
    have h1 := (heq ▸ readPage_stream pages r.cur).1 vs rfl
    have hr : rstream pages r = rstream pages { cur := c, values := some vs } := by
      simp only [rstream, hn, Option.getD_none, List.nil_append, Option.getD_some, h1]
    rw [hr]; exact ih
  | case5 fuel r vs hs hemp ih =>
    have hvs : vs = [] := by
      cases vs with
      | nil => rfl
      | cons x xs =>
        obtain ⟨b, rfl⟩ : ∃ b, B = b + 1 := ⟨B - 1, by omega⟩
        simp at hemp
    have hr : rstream pages r = rstream pages { r with values := none } := by
      simp only [rstream, hs, hvs, Option.getD_some, Option.getD_none]
    rw [hr]; exact ih
  | case6 fuel r vs hs hne =>
    refine ⟨fun ws hw => ?_, nofun⟩
    cases hw
    refine ⟨fun h => hne (by simp [h]), ?_⟩
    simp only [rstream, hs, Option.getD_some]
    rw [← List.append_assoc, List.take_append_drop]

/-- once a column has met the end of its chunk nothing is left in it -/
def Einv (pages : List Page) (s : Scan) : Prop := s.eof = true → cstream pages s.col = ([], false)

theorem refill_stream (pages : List Page) (B : Nat) (hB : 0 < B) (s : Scan) :
    (∀ s', refill pages B s = .ok s' → s'.col.buf ≠ [] ∧ cstream pages s'.col = cstream pages s.col ∧
        s'.eof = s.eof ∧ s'.rowCount = s.rowCount) ∧
    (∀ s', refill pages B s = .eof s' → cstream pages s.col = ([], false) ∧ cstream pages s'.col = ([], false) ∧
        s'.eof = true ∧ s'.rowCount = s.rowCount) := by
  have hv := readValues_stream pages B hB (valuesFuel pages) s.col.reader
  fun_cases refill pages B s
  · rename_i hemp rd vs heq
    have hbuf : s.col.buf = [] := by simpa using hemp
    obtain ⟨h1, h2⟩ := (heq ▸ hv).1 vs rfl
    refine ⟨fun s' hs' => ?_, nofun⟩
    cases hs'
    exact ⟨h1, by simp only [cstream, hbuf, List.nil_append, h2], rfl, rfl⟩
  · rename_i hemp rd heq
    have hbuf : s.col.buf = [] := by simpa using hemp
    obtain ⟨h1, h2⟩ := (heq ▸ hv).2 rfl
    refine ⟨nofun, fun s' hs' => ?_⟩
    cases hs'
    exact ⟨by simp only [cstream, hbuf, List.nil_append, h1], by simp only [cstream, List.nil_append, h2], rfl, rfl⟩
  · exact ⟨nofun, nofun⟩
  · rename_i hne
    refine ⟨fun s' hs' => ?_, nofun⟩
    cases hs'
    exact ⟨fun h => hne (by simp [h]), rfl, rfl, rfl⟩

theorem scanRow_le (nv : Nat) (vs : List Val) (h : nv ≤ vs.length) : scanRow nv vs ≤ vs.length := by
  have := (List.takeWhile_sublist (fun v : Val => v.rep != 0) (l := vs.drop nv)).length_le
  rw [List.length_drop] at this
  unfold scanRow; omega

theorem scanRow_append_lt (nv : Nat) (vs R : List Val) (h : nv ≤ vs.length) (hlt : scanRow nv vs < vs.length) :
    scanRow nv (vs ++ R) = scanRow nv vs := by
  unfold scanRow at hlt ⊢
  rw [List.drop_append_of_le_length h, List.takeWhile_append, if_neg (by rw [List.length_drop]; omega)]

theorem scanRow_append_all (nv : Nat) (vs R : List Val) (h : nv ≤ vs.length) (heq : scanRow nv vs = vs.length) :
    scanRow nv (vs ++ R) = vs.length + scanRow 0 R := by
  unfold scanRow at heq ⊢
  rw [List.drop_append_of_le_length h, List.takeWhile_append, if_pos (by rw [List.length_drop]; omega)]
  simp only [List.length_append, List.length_drop, List.drop_zero]
  omega

theorem scanRow_zero_of_head (vs R : List Val) (hne : vs ≠ []) (h : scanRow 0 vs = 0) : scanRow 0 (vs ++ R) = 0 := by
  cases vs with
  | nil => exact absurd rfl hne
  | cons x xs =>
    simp only [scanRow, List.drop_zero, Nat.zero_add, List.cons_append, List.takeWhile_cons] at h ⊢
    split at h
    · simp at h
    · rename_i hx; simp [hx]

/-- an `ok` refill leaves a non-empty stream, so a column with `Einv` has not met its end -/
theorem refill_ok_front (pages : List Page) (B : Nat) (hB : 0 < B) (s s1 : Scan) (hE : Einv pages s)
    (heq : refill pages B s = .ok s1) :
    s1.col.buf ≠ [] ∧ cstream pages s1.col = cstream pages s.col ∧
    (cstream pages s.col).1 = s1.col.buf ++ (rstream pages s1.col.reader).1 ∧
    (cstream pages s.col).2 = (rstream pages s1.col.reader).2 ∧ (cstream pages s.col).1 ≠ [] ∧
    s1.eof = false ∧ s1.rowCount = s.rowCount := by
  obtain ⟨hne, hcs, heof, hrc1⟩ := (refill_stream pages B hB s).1 s1 heq
  have hS : (cstream pages s.col).1 = s1.col.buf ++ (rstream pages s1.col.reader).1 := by rw [← hcs]; rfl
  have hSne : (cstream pages s.col).1 ≠ [] := by
    rw [hS]; intro h; exact hne (List.append_eq_nil_iff.mp h).1
  refine ⟨hne, hcs, hS, by rw [← hcs]; rfl, hSne, ?_, hrc1⟩
  cases he : s1.eof with
  | false => rfl
  | true => exact absurd (congrArg (·.1) (hE (heof ▸ he))) hSne

/-- what the row loop for row `i` does to a column whose stream is `T`, entered with `nv` values counted and
    `rc` rows: it takes `scanRow nv` values off the front, wherever buffer and page boundaries are, and never
    leaves by `continue readColumnValues`. `nv = 1`: the row is not started (Go starts `numValuesInRow` at 1);
    `nv = 0`: it goes on after a buffer that ended with it, and is counted. A loop that finds nothing leaves
    by `.next` only at the clean end of the chunk (last clause); in front of a rejected page it is `.err` -/
def RowTaken (pages : List Page) (i nv : Nat) (T : List Val × Bool) (rc : Nat) (acc : List Val) : RowRes → Prop
  | .next s' acc' =>
    acc' = acc ++ T.1.take (scanRow nv T.1) ∧ cstream pages s'.col = (T.1.drop (scanRow nv T.1), T.2) ∧
    Einv pages s' ∧ s'.rowCount = (if nv = 1 ∧ T.1 = [] then rc else max rc (i + 1)) ∧
    (nv = 1 → T.1 = [] → T.2 = false)
  | .nextCol _ _ => False
  | .err _ => True

theorem rowLoop_stream (pages : List Page) (B : Nat) (hB : 0 < B) (i : Nat) (fuel nv : Nat) (s : Scan) (acc : List Val)
    (T : List Val × Bool) : cstream pages s.col = T → nv ≤ 1 → Einv pages s → (nv = 0 → i + 1 ≤ s.rowCount) →
    RowTaken pages i nv T s.rowCount acc (rowLoop pages B i fuel nv s acc) := by
  fun_induction rowLoop pages B i fuel nv s acc generalizing T with
  | case1 => exact fun _ _ _ _ => trivial
  | case2 fuel nv s acc s1 heq =>
    -- io.EOF: nothing is left
    rintro rfl hnv hE hrc
    obtain ⟨h1, h2, h3, h4⟩ := (refill_stream pages B hB s).2 s1 heq
    refine ⟨?_, ?_, fun _ => h2, ?_, fun _ _ => by rw [h1]⟩
    · rw [h1]; simp
    · rw [h1, h2]; simp
    · rw [h4, h1]
      split
      · rfl
      · rename_i hc
        have : nv = 0 := by
          have : ¬ nv = 1 := fun h => hc ⟨h, rfl⟩
          omega
        have := hrc this
        omega
  | case3 => exact fun _ _ _ _ => trivial
  | case4 fuel nv s acc s1 heq vs nv1 hz =>
    -- numValuesInRow == 0: the buffer starts with the next row
    rintro rfl hnv hE hrc
    obtain ⟨hne, hcs, hS, hF, hSne, heof, hrc1⟩ := refill_ok_front pages B hB s s1 hE heq
    have hz' : scanRow nv s1.col.buf = 0 := by simpa using hz
    have hnv0 : nv = 0 := by unfold scanRow at hz'; omega
    subst hnv0
    have h0 : scanRow 0 (cstream pages s.col).1 = 0 := by
      rw [hS]; exact scanRow_zero_of_head _ _ hne hz'
    refine ⟨by rw [h0]; simp, by rw [h0, hcs]; rfl, fun h => absurd (heof.symm.trans h) nofun, ?_,
      fun h => by omega⟩
    have := hrc rfl
    rw [hrc1]
    split
    · rfl
    · omega
  | case5 fuel nv s acc s1 heq vs nv1 hz s' hneq =>
    -- the row ends inside the buffer
    rintro rfl hnv hE hrc
    obtain ⟨hne, hcs, hS, hF, hSne, heof, hrc1⟩ := refill_ok_front pages B hB s s1 hE heq
    have hlen : nv ≤ s1.col.buf.length := Nat.le_trans hnv (List.length_pos_iff.mpr hne)
    have hle := scanRow_le nv s1.col.buf hlen
    have hlt : scanRow nv s1.col.buf < s1.col.buf.length := by
      have : scanRow nv s1.col.buf ≠ s1.col.buf.length := by simpa using hneq
      omega
    have hsc := scanRow_append_lt nv s1.col.buf (rstream pages s1.col.reader).1 hlen hlt
    refine ⟨?_, ?_, fun h => absurd (heof.symm.trans h) nofun, ?_, fun _ h => absurd h hSne⟩
    · rw [hS, hsc, List.take_append_of_le_length hle]
    · rw [hS, hsc, hF]
      simp only [cstream]
      rw [List.drop_append_of_le_length hle]
    · show max s1.rowCount (i + 1) = _
      rw [hrc1, if_neg (fun hc => hSne hc.2)]
  | case6 fuel nv s acc s1 heq vs nv1 hz s' hneq he1 =>
    -- `eof` set after an `ok` refill: `Einv` excludes it
    rintro rfl hnv hE hrc
    obtain ⟨_, _, _, _, _, heof, _⟩ := refill_ok_front pages B hB s s1 hE heq
    exact absurd (heof.symm.trans he1) nofun
  | case7 fuel nv s acc s1 heq vs nv1 hz s' hneq he1 ih =>
    -- the buffer ends with the row: look into the next refill
    rintro rfl hnv hE hrc
    obtain ⟨hne, hcs, hS, hF, hSne, heof, hrc1⟩ := refill_ok_front pages B hB s s1 hE heq
    have hlen : nv ≤ s1.col.buf.length := Nat.le_trans hnv (List.length_pos_iff.mpr hne)
    have heq' : scanRow nv s1.col.buf = s1.col.buf.length := by simpa using hneq
    have hsc := scanRow_append_all nv s1.col.buf (rstream pages s1.col.reader).1 hlen heq'
    have ih' := ih ((rstream pages s1.col.reader).1, (rstream pages s1.col.reader).2)
      (by simp only [s', nv1, vs, cstream, heq', List.drop_length, List.nil_append]) (Nat.zero_le _)
      (fun h => absurd h he1) (fun _ => by show i + 1 ≤ max s1.rowCount (i + 1); omega)
    revert ih'
    generalize rowLoop pages B i fuel 0 s' (acc ++ List.take nv1 vs) = res
    intro ih'
    cases res with
    | err => trivial
    | nextCol => exact ih'
    | next s2 acc2 =>
      obtain ⟨h1, h2, h3, h4, _⟩ := ih'
      refine ⟨?_, ?_, h3, ?_, fun _ h => absurd h hSne⟩
      · rw [hS, hsc, h1]
        show acc ++ s1.col.buf.take (scanRow nv s1.col.buf) ++ _ = _
        rw [heq', List.take_length, List.take_length_add_append, List.append_assoc]
      · rw [hS, hsc, hF, h2, List.drop_length_add_append]
      · rw [if_neg (fun hc => hSne hc.2), h4, if_neg (fun hc => by omega)]
        show max (max s1.rowCount (i + 1)) (i + 1) = _
        rw [hrc1]; omega

/-- `n` rows off the front of a stream: the rows and what is left -/
def rowsOf : Nat → List Val → List (List Val) × List Val
  | 0, S => ([], S)
  | n + 1, S => (S.take (scanRow 1 S) :: (rowsOf n (S.drop (scanRow 1 S))).1, (rowsOf n (S.drop (scanRow 1 S))).2)

/-- how many of the `n` rows `rowsOf` finds: it stops at an empty stream -/
def nrows : Nat → List Val → Nat
  | 0, _ => 0
  | n + 1, S => if S = [] then 0 else 1 + nrows n (S.drop (scanRow 1 S))

theorem nrows_nil : ∀ n, nrows n [] = 0
  | 0 => rfl
  | _ + 1 => by simp [nrows]

theorem nrows_le : ∀ n S, nrows n S ≤ n
  | 0, _ => by simp [nrows]
  | n + 1, S => by
    simp only [nrows]
    split
    · omega
    · have := nrows_le n (S.drop (scanRow 1 S)); omega

theorem colLoop_stream (pages : List Page) (B : Nat) (hB : 0 < B) :
    ∀ (n i : Nat) (s : Scan), Einv pages s → ∀ s' accs, colLoop pages B n i s = .ok s' accs →
      accs = (rowsOf n (cstream pages s.col).1).1 ∧
      cstream pages s'.col = ((rowsOf n (cstream pages s.col).1).2, (cstream pages s.col).2) ∧
      s'.rowCount = (if nrows n (cstream pages s.col).1 = 0 then s.rowCount
                     else max s.rowCount (i + nrows n (cstream pages s.col).1)) ∧
      (nrows n (cstream pages s.col).1 < n → (cstream pages s.col).2 = false)
  | 0, i, s, _, s', accs, h => by
    simp only [colLoop, ColRes.ok.injEq] at h
    obtain ⟨rfl, rfl⟩ := h
    simp [rowsOf, nrows]
  | n + 1, i, s, hE, s', accs, h => by
    have hr := rowLoop_stream pages B hB i (rowFuel pages) 1 s [] _ rfl (by omega) hE (by omega)
    unfold colLoop at h
    split at h
    · simp at h
    · rename_i s1 acc heq
      rw [heq] at hr; exact hr.elim
    · rename_i s1 acc heq
      rw [heq] at hr
      obtain ⟨h1, h2, h3, h4, h5⟩ := hr
      split at h
      · simp at h
      · rename_i s2 accs2 heq2
        simp only [ColRes.ok.injEq] at h
        obtain ⟨rfl, rfl⟩ := h
        obtain ⟨g1, g2, g3, g4⟩ := colLoop_stream pages B hB n (i + 1) s1 h3 s2 accs2 heq2
        rw [h2] at g1 g2 g3 g4
        simp only [] at g1 g2 g3 g4  -- reduces the `(a, b).1` the rewrite leaves
        refine ⟨?_, ?_, ?_, ?_⟩
        · simp only [rowsOf, g1, h1, List.nil_append]
        · simp only [rowsOf, g2]
        · rw [g3, h4]
          simp only [nrows, true_and]
          by_cases hS : (cstream pages s.col).1 = []
          · simp [hS, nrows_nil]
          · simp only [hS, if_false]
            split <;> split <;> omega
        · intro hlt
          simp only [nrows] at hlt
          by_cases hS : (cstream pages s.col).1 = []
          · exact h5 rfl hS
          · simp only [hS, if_false] at hlt
            exact g4 (by omega)

end PqModel.RowsRefine
