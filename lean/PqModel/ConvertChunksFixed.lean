import PqModel.ConvertChunksProofs
import PqModel.ConvertAddedTree
import PqModel.ConvertFixed

/-! C12: a chunk of a converted row group applies to the source chunk the same per-entry function as
    the row path (`chunkN_eq_convN`, for every block of source columns without a null at a column's
    maximal definition level, whatever the rows); what the row path yields then holds of the chunks. -/
namespace PqModel.Convert
open PqModel.Dremel

/-- On a `direct` column the row path changes nothing either: `D sd = sd = td`, and a null sits
    below `sd`. Otherwise the two are the same composition. -/
theorem chunkLeaf_eq (lv : Lv) (c : List Triple) (hD : lv.D lv.sd = lv.td) (hok : okCol lv.sd c) :
    chunkLeaf lv c = zeroCol lv.td (c.map (leafFn lv)) := by
  cases hdir : (isDirect lv.R (lv.sr + 1) && isDirect lv.D (lv.sd + 1)) with
  | true =>
    have htd : lv.td = lv.sd := by rw [← hD]; exact (direct_id hdir (Nat.zero_le _) (Nat.le_refl _)).2
    simp only [chunkLeaf, hdir, if_true, zeroCol, List.map_map]
    refine (ListFacts.map_id_of fun t ht => ?_).symm
    cases hv : t.val with
    | some x => simp [leafFn, hdir, hv]
    | none =>
      have := hok t ht hv
      have h1 : 0 < lv.td := by omega
      have h2 : ¬ t.dfn = lv.td := by omega
      simp [leafFn, hdir, hv, h1, h2]
  | false =>
    simp only [chunkLeaf, hdir, Bool.false_eq_true, if_false, fixup, convLevels, List.map_map]
    exact congrArg _ (List.map_congr_left fun t _ => by simp [leafFn, hdir])

theorem chunkLeaf_value (lv : Lv) (x r : Nat) (hr : r ≤ lv.sr) (hD : lv.D lv.sd = lv.td) :
    chunkLeaf lv [⟨some x, r, lv.sd⟩] = [⟨some x, lv.R r, lv.td⟩] := by
  rw [chunkLeaf_eq lv _ hD (fun t ht hn => by rw [List.mem_singleton.mp ht] at hn; cases hn)]
  simp [leafFn_value lv x r hr hD, zeroCol]

theorem chunkLeaf_absent (lv : Lv) (r d : Nat) (hr : r ≤ lv.sr) (hd : d ≤ lv.sd) (htd : 0 < lv.td)
    (hlt : lv.D d < lv.td) :
    chunkLeaf lv [⟨none, r, d⟩] = [⟨none, lv.R r, lv.D d⟩] := by
  cases hdir : (isDirect lv.R (lv.sr + 1) && isDirect lv.D (lv.sd + 1)) with
  | true =>
    obtain ⟨h1, h2⟩ := direct_id hdir hr hd
    simp [chunkLeaf, hdir, h1, h2]
  | false =>
    have hg : ¬ (r ≥ lv.sr + 1 ∨ d ≥ lv.sd + 1) := by omega
    have hne : ¬ lv.D d = lv.td := by omega
    simp [chunkLeaf, hdir, convLevels, fixup, zeroCol, hg, htd, hne]

theorem blkOf_ok (nm : Nat) (rp : Rp) (n : PNode) (d : Nat) : ∀ (sfs : PFields) (X : Cols),
    getFld nm sfs = some (rp, n) → OkCols (maxDefsF sfs d) X → OkCols (maxDefsN n (d + defOf rp)) (blkOf nm sfs X) := by
  intro sfs X h hok
  fun_induction blkOf nm sfs X with
  | case1 => cases h
  | case2 rp' n' fs X =>
    simp only [getFld, if_true, Option.some.injEq, Prod.mk.injEq] at h
    obtain ⟨rfl, rfl⟩ := h
    have hs := ok_split hok
    rw [maxDefsN_length] at hs
    exact hs.1
  | case3 nm' rp' n' fs X hne ih =>
    simp only [getFld, hne, if_false] at h
    have hs := ok_split hok
    rw [maxDefsN_length] at hs
    exact ih h hs.2

mutual
theorem chunkN_eq_convN (n : Nat) : ∀ (t : PNode) (trp : Rp) (lv : Lv) (s : PNode) (X : Cols)
    (pc adj : Option (List Triple)),
    subN s t = true → lv.D lv.sd = lv.td → X.length = leavesP s → NE X → OkCols (maxDefsN s lv.sd) X →
    chunkN n t trp lv (.on s X pc) adj = zeroAtMax (maxDefsN t lv.td) (convN t trp lv (.on s X pc))
  | .leaf, trp, lv, s, X, pc, adj, hs, hD, hx, nx, hok => by
    obtain rfl := subN_leaf hs
    match X, hx with
    | [c], _ =>
      simp only [chunkN, convN, maxDefsN, List.headD_cons, zeroAtMax, List.zipWith_cons_cons, List.zipWith_nil_right]
      rw [leafOut_on _ _ _ _ (nx c (by simp)), chunkLeaf_eq lv c hD hok.1]
  | .group tfs, trp, lv, s, X, pc, adj, hs, hD, hx, nx, hok => by
    obtain ⟨sfs, rfl, hs⟩ := subN_group hs
    exact chunkF_eq_convF n tfs tfs lv sfs X pc hs hx nx hok
theorem chunkF_eq_convF (n : Nat) (all : PFields) : ∀ (tfs : PFields) (lv : Lv) (sfs : PFields) (X : Cols)
    (pc : Option (List Triple)),
    subF sfs tfs = true → X.length = leavesF (eraseF sfs) → NE X → OkCols (maxDefsF sfs lv.sd) X →
    chunkF n all tfs lv (.on (.group sfs) X pc) =
      zeroAtMax (maxDefsF tfs lv.td) (convF tfs lv (.on (.group sfs) X pc))
  | .nil, _, _, _, _, _, _, _, _ => by simp [chunkF, convF, maxDefsF, zeroAtMax]
  | .cons nm trp tn tfs, lv, sfs, X, pc, hs, hx, nx, hok => by
    obtain ⟨srp, sn, hg, _, hsn, hrest⟩ := subF_cons hs
    simp only [chunkF, convF, maxDefsF, stepS_on nm trp lv sfs _ pc hg]
    rw [zeroAtMax_append (by rw [maxDefsN_length, convN_length]),
      chunkF_eq_convF n all tfs lv sfs X pc hrest hx nx hok,
      chunkN_eq_convN n tn trp (lv.step trp srp) sn _ _ _ hsn (step_inv_D _ _ _)
        (blkOf_length nm srp sn sfs X hg hx) (blkOf_ne nm sfs X nx) (blkOf_ok nm srp sn lv.sd sfs X hg hok)]
    rfl
end

theorem absent_ne (n : Node) (r d : Nat) : NE (absentN n r d) :=
  fun c hc => by rw [absentN_cols n r d c hc]; simp

theorem absent_chunkF_sub (n : Nat) (all : PFields) : ∀ (tfs : PFields) (lv : Lv) (sfs : PFields) (r d : Nat)
    (pc : Option (List Triple)),
    subF sfs tfs = true → r ≤ lv.sr → lv.R lv.sr = lv.tr → d < lv.sd → 0 < lv.td → lv.D d < lv.td →
    chunkF n all tfs lv (.on (.group sfs) (absentF (eraseF sfs) r d) pc) = absentF (eraseF tfs) (lv.R r) (lv.D d) :=
  fun tfs lv sfs r d pc hs hr hR hd htd hlt => by
    rw [chunkF_eq_convF n all tfs lv sfs _ pc hs (absentF_length _ _ _)
        (absent_ne (.group (eraseF sfs)) r d) (absent_okF sfs r d lv.sd hd),
      absent_convF tfs lv sfs r d pc hs hr hR hd htd, zeroAtMax_of_ok _ _ (absent_okF tfs _ _ lv.td hlt)]

theorem main_chunkF_sub (n : Nat) (all : PFields) : ∀ (tfs : PFields) (lv : Lv) (sfs : PFields) (vs : List Val)
    (r : Nat) (pc : Option (List Triple)),
    subF sfs tfs = true → wfF (eraseF sfs) = true → confF (eraseF sfs) vs = true →
    r ≤ lv.sr → lv.R lv.sr = lv.tr → lv.D lv.sd = lv.td →
    chunkF n all tfs lv (.on (.group sfs) (shredF (eraseF sfs) r lv.sr lv.sd vs) pc) =
      shredF (eraseF tfs) (lv.R r) lv.tr lv.td (projF sfs vs tfs) :=
  fun tfs lv sfs vs r pc hs hw hc hr hR hD => by
    rw [chunkF_eq_convF n all tfs lv sfs _ pc hs (shredF_len _ _ _ _ _)
        (ne_of_good (shredF_spec (eraseF sfs) r lv.sr lv.sd vs hw hr).1) (shred_okF sfs r lv.sr lv.sd vs hc),
      main_convF tfs lv sfs vs r pc hs hw hc hr hR hD,
      zeroAtMax_of_ok _ _ (shred_okF tfs _ _ lv.td _ (conf_projF tfs sfs vs hs hw hc))]

theorem main_chunkN_sub (n : Nat) : ∀ (t : PNode) (trp : Rp) (lv : Lv) (s : PNode) (v : Val) (r : Nat)
    (pc adj : Option (List Triple)),
    subN s t = true → wfN (eraseN s) = true → confN (eraseN s) v = true →
    r ≤ lv.sr → lv.R lv.sr = lv.tr → lv.D lv.sd = lv.td →
    chunkN n t trp lv (.on s (shredN (eraseN s) r lv.sr lv.sd v) pc) adj =
      shredN (eraseN t) (lv.R r) lv.tr lv.td (projN s t v) :=
  fun t trp lv s v r pc adj hs hw hc hr hR hD => by
    rw [chunkN_eq_convN n t trp lv s _ pc adj hs hD (shredN_good hr _ v).1 (shredN_good hr _ v).2
        (shred_okN s r lv.sr lv.sd v hc),
      main_convN t trp lv s v r pc hs hw hc hr hR hD,
      zeroAtMax_of_ok _ _ (shred_okN t _ _ lv.td _ (conf_projN t s v hs hw hc))]

theorem chunkView_rows_sub (src tgt : PNode) (n : Nat) (v0 : Val) (vs : List Val)
    (hp : subN src tgt = true) (hwf : wfN (eraseN src) = true)
    (hconf : ∀ v ∈ v0 :: vs, confN (eraseN src) v = true) :
    chunkView src tgt (joinRows (leavesP src) ((v0 :: vs).map (shred src))) n =
      joinRows (leavesP tgt) ((v0 :: vs).map fun v => shred tgt (projN src tgt v)) := by
  have hrow : ∀ w ∈ v0 :: vs, chunkN n tgt .req lv0 (.on src (shred src w) none) none = shred tgt (projN src tgt w) :=
    fun w hw => main_chunkN_sub n tgt .req lv0 src w 0 none none hp hwf (hconf w hw) (Nat.le_refl _) rfl rfl
  have hgood : ∀ w, (shred src w).length = leavesP src ∧ NE (shred src w) :=
    fun w => shredN_good (Nat.le_refl _) 0 w
  simp only [chunkView, joinRows, joinSegs, List.map_cons, List.foldr_cons, List.foldr_map]
  rw [conv_fold (fun X => chunkN n tgt .req lv0 (.on src X none) none) (leavesP src) (leavesP tgt)
    (fun w => shred src w) (fun w => shred tgt (projN src tgt w))
    (fun X Y hx hy _ _ => lin_chunkN_sub n tgt .req lv0 src X Y none none none none none none hp hx hy)
    (fun X => chunkN_length n tgt _ _ _ _) vs
    (fun w hw => ⟨(hgood w).1, (hgood w).2, hrow w (by simp [hw])⟩) (shred src v0) (hgood v0).1 (hgood v0).2]
  rw [hrow v0 (by simp)]

theorem chunkView_rows (src tgt : PNode) (n : Nat) (v0 : Val) (vs : List Val)
    (hp : permN src tgt = true) (hwf : wfN (eraseN src) = true)
    (hconf : ∀ v ∈ v0 :: vs, confN (eraseN src) v = true) :
    chunkView src tgt (joinRows (leavesP src) ((v0 :: vs).map (shred src))) n =
      joinRows (leavesP tgt) ((v0 :: vs).map fun v => shred tgt (projN src tgt v)) :=
  chunkView_rows_sub src tgt n v0 vs (perm_subN tgt src hp) hwf hconf

/-! Under `IdLv` a chunk is the source chunk whatever the levels of `lv`: `lv` may be replaced by the
    identity tables at `(k, d)`, for which the `_sub` statements speak (delete / permute at ANY levels). -/

theorem isDirect_of_id {lv : Lv} (h : IdLv lv) :
    (isDirect lv.R (lv.sr + 1) && isDirect lv.D (lv.sd + 1)) = true := by
  simp only [Bool.and_eq_true, isDirect, List.all_eq_true, List.mem_range, beq_iff_eq]
  exact ⟨fun i hi => h.R i (by omega), fun i hi => h.D i (by omega)⟩

theorem chunkLeaf_id {lv : Lv} (h : IdLv lv) (c : List Triple) : chunkLeaf lv c = c := by
  simp [chunkLeaf, isDirect_of_id h]

def idLv (k d : Nat) : Lv := ⟨k, d, k, d, id, id⟩

theorem idLv_step (k d : Nat) (rp : Rp) : (idLv k d).step rp rp = idLv (k + repOf rp) (d + defOf rp) := by
  have h : ∀ i, upd id i i = id := fun i => funext fun j => by
    by_cases e : j = i
    · exact e ▸ upd_same _ _ _
    · exact upd_other _ _ e
  simp only [idLv, Lv.step, h]

theorem chunkLeaf_idLv (k d : Nat) (c : List Triple) : chunkLeaf (idLv k d) c = c := by
  simp [chunkLeaf, idLv, isDirect]

mutual
theorem chunkN_idLv (n : Nat) : ∀ (t : PNode) (trp : Rp) (lv : Lv) (s : PNode) (X : Cols)
    (pc adj adj' : Option (List Triple)) (k d : Nat), IdLv lv → permN s t = true →
    chunkN n t trp lv (.on s X pc) adj = chunkN n t trp (idLv k d) (.on s X pc) adj'
  | .leaf, trp, lv, s, X, pc, adj, adj', k, d, hid, hs => by
    obtain rfl := permN_leaf hs
    simp only [chunkN, chunkLeaf_id hid, chunkLeaf_idLv]
  | .group tfs, trp, lv, s, X, pc, adj, adj', k, d, hid, hs => by
    obtain ⟨sfs, rfl, hs⟩ := permN_group hs
    exact chunkF_idLv n tfs tfs lv sfs X pc k d hid hs
theorem chunkF_idLv (n : Nat) (all : PFields) : ∀ (tfs : PFields) (lv : Lv) (sfs : PFields) (X : Cols)
    (pc : Option (List Triple)) (k d : Nat), IdLv lv → permF sfs tfs = true →
    chunkF n all tfs lv (.on (.group sfs) X pc) = chunkF n all tfs (idLv k d) (.on (.group sfs) X pc)
  | .nil, _, _, _, _, _, _, _, _ => rfl
  | .cons nm trp tn tfs, lv, sfs, X, pc, k, d, hid, hs => by
    obtain ⟨sn, hg, hsn, hrest⟩ := permF_cons hs
    simp only [chunkF, stepS_on nm trp _ sfs _ pc hg, idLv_step]
    rw [chunkN_idLv n tn trp _ sn _ _ _ _ (k + repOf trp) (d + defOf trp) (hid.step trp) hsn,
      chunkF_idLv n all tfs lv sfs X pc k d hid hrest]
end

theorem absent_chunkF (n : Nat) (all : PFields) : ∀ (tfs : PFields) (lv : Lv) (sfs : PFields) (r d : Nat)
    (pc : Option (List Triple)), IdLv lv → permF sfs tfs = true →
    chunkF n all tfs lv (.on (.group sfs) (absentF (eraseF sfs) r d) pc) = absentF (eraseF tfs) r d :=
  fun tfs lv sfs r d pc hid hs => by
    rw [chunkF_idLv n all tfs lv sfs _ pc r (d + 1) hid hs]
    exact absent_chunkF_sub n all tfs (idLv r (d + 1)) sfs r d pc (perm_subF tfs sfs hs) (Nat.le_refl _) rfl
      (Nat.lt_succ_self _) (Nat.succ_pos _) (Nat.lt_succ_self _)

theorem main_chunkF (n : Nat) (all : PFields) : ∀ (tfs : PFields) (lv : Lv) (sfs : PFields) (vs : List Val)
    (r k d : Nat) (pc : Option (List Triple)),
    IdLv lv → permF sfs tfs = true → wfF (eraseF sfs) = true → confF (eraseF sfs) vs = true → r ≤ k →
    chunkF n all tfs lv (.on (.group sfs) (shredF (eraseF sfs) r k d vs) pc) =
      shredF (eraseF tfs) r k d (projF sfs vs tfs) :=
  fun tfs lv sfs vs r k d pc hid hs hw hc hr => by
    rw [chunkF_idLv n all tfs lv sfs _ pc k d hid hs]
    exact main_chunkF_sub n all tfs (idLv k d) sfs vs r pc (perm_subF tfs sfs hs) hw hc hr rfl rfl

theorem lin_chunkF (n : Nat) (all : PFields) : ∀ (tfs : PFields) (lv : Lv) (sfs : PFields) (X Y : Cols)
    (p1 p2 p3 : Option (List Triple)),
    IdLv lv → permF sfs tfs = true → X.length = leavesF (eraseF sfs) → Y.length = leavesF (eraseF sfs) →
    chunkF n all tfs lv (.on (.group sfs) (zipApp X Y) p3) =
      zipApp (chunkF n all tfs lv (.on (.group sfs) X p1)) (chunkF n all tfs lv (.on (.group sfs) Y p2)) :=
  fun tfs lv sfs X Y p1 p2 p3 _ hs hx hy =>
    lin_chunkF_sub n all tfs lv sfs X Y p1 p2 p3 (perm_subF tfs sfs hs) hx hy

end PqModel.Convert
