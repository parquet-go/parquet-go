import PqModel.Bloom
import PqModel.SortBytes

/-! # What `Page.Data()` of a typed column buffer holds when the writer feeds it to the filter (C07)

The column writer inserts a page into the bloom filter with
`pageType.Encode(c.filter, page.Data(), splitBlockEncoding)` (`writer.go:2740-2745`,
`writePageToFilter`), and the only data pages it ever writes come from `c.columnBuffer.Page()`
(`writer.go:2178`, `Flush`). `Bloom.pageData` is the SPEC of the layout (written from the format of
`encoding.Values`). This file is the MIRROR of the typed column buffers that produce it:

* `booleanColumnBuffer` (`column_buffer_boolean.go:101-190`): `writeValues` (three phases: align on a
  byte, `sparse.GatherBits` 8 values per byte, bit-by-bit tail), `writeBoolean`, `clearTrailingBits`,
  `Reset`; `booleanPage.Data()` (`page_boolean.go:46`, all of `bits`, the page's bit `offset` is NOT
  applied) and `booleanPage.Slice` (`page_boolean.go:104-121`);
* the fixed-width buffers (`column_buffer_int32.go:75-84` and the int64/float/double/uint twins):
  `Resize` + `sparse.Gather*` = append;
* `fixedLenByteArrayColumnBuffer.WriteValues/writeValues` (`column_buffer_fixed_len_byte_array.go:109-136`)
  and the int96 buffer: one flat buffer, `size` bytes appended per value;
* `byteArrayColumnBuffer`: already mirrored by `SortBuf.BACol` (SortBytes.lean, C10); here only the
  step from its `page()` to the `encoding.Values` (`values`, `offsets` with the end offset).

`SliceBuffer.Resize` does not zero the bytes it exposes: the mirror takes the byte value found there
as a parameter `junk`, and the theorems hold for every `junk`. -/
namespace PqModel.PageDataBuf
open PqModel.XxHash PqModel.Bloom

/-! ## boolean column buffer -/

/-- `booleanColumnBuffer`: `bits` (`len(bits)` bytes) and `numValues`; `offset` is always 0 -/
structure BoolBuf where
  bits : List UInt8
  numValues : Nat
  deriving DecidableEq, Repr

def BoolBuf.empty : BoolBuf := { bits := [], numValues := 0 }

/-- `bitpack.ByteCount` -/
def byteCount (n : Nat) : Nat := (n + 7) / 8

/-- MIRROR `SliceBuffer.Resize(n)`: truncate, or expose `n - len` bytes of whatever the backing
    array holds (`junk`) -/
def resize (bits : List UInt8) (n : Nat) (junk : UInt8) : List UInt8 :=
  bits.take n ++ List.replicate (n - bits.length) junk

def bit (b : Bool) : UInt8 := if b then 1 else 0

/-- MIRROR `bits[x] = (bit << y) | (bits[x] & ^(1 << y))`, column_buffer_boolean.go:152-154, 170 -/
def setBit (w : UInt8) (y : Nat) (b : Bool) : UInt8 :=
  (bit b <<< UInt8.ofNat y) ||| (w &&& ~~~((1 : UInt8) <<< UInt8.ofNat y))

/-- MIRROR `clearTrailingBits`, column_buffer_boolean.go:179-186 -/
def clearTrailing (bits : List UInt8) (numValues : Nat) : List UInt8 :=
  if numValues % 8 = 0 then bits
  else setAt bits (bits.length - 1) (fun w => w &&& (((1 : UInt8) <<< UInt8.ofNat (numValues % 8)) - 1))

/-- MIRROR `writeBoolean`, column_buffer_boolean.go:159-173 (one value; the per-value typed write path) -/
def BoolBuf.writeBoolean (st : BoolBuf) (b : Bool) (junk : UInt8) : BoolBuf :=
  let bits := resize st.bits (byteCount (st.numValues + 1)) junk
  let bits := setAt bits (st.numValues / 8) (fun w => setBit w (st.numValues % 8) b)
  { bits := clearTrailing bits (st.numValues + 1), numValues := st.numValues + 1 }

/-- MIRROR `b |= (v & 1) << uint(i)` for `i < r`, column_buffer_boolean.go:122-127 -/
def packLowFrom : Nat → List Bool → UInt8
  | _, [] => 0
  | i, v :: vs => (bit v <<< UInt8.ofNat i) ||| packLowFrom (i + 1) vs

def packLow (rows : List Bool) : UInt8 := packLowFrom 0 rows

/-- MIRROR `sparse.GatherBits` (sparse/gather.go; the AVX2 kernel computes the same bytes): 8 rows
    per output byte, LSB first; the caller passes a multiple of 8 rows -/
def gatherBits : List Bool → List UInt8
  | b0 :: b1 :: b2 :: b3 :: b4 :: b5 :: b6 :: b7 :: rest => packLow [b0, b1, b2, b3, b4, b5, b6, b7] :: gatherBits rest
  | _ => []

/-- `copy(bits[at:], new)` -/
def overwrite (bits : List UInt8) (pos : Nat) (new : List UInt8) : List UInt8 :=
  bits.take pos ++ new ++ bits.drop (pos + new.length)

/-- MIRROR the tail loop `for i < bytes.Len() { bits[x] = ((b&1) << y) | (bits[x] & ^(1 << y)); numValues++ }`,
    column_buffer_boolean.go:148-156 -/
def tailLoop (bits : List UInt8) (nv : Nat) : List Bool → List UInt8 × Nat
  | [] => (bits, nv)
  | b :: rest => tailLoop (setAt bits (nv / 8) (fun w => setBit w (nv % 8) b)) (nv + 1) rest

/-- MIRROR of the first step inside `if r <= bytes.Len()`, column_buffer_boolean.go:118-132: when the
    buffer ends inside a byte (`r < 8`), pack the first `r` rows and merge them into that byte.
    State = (bits, numValues, i). -/
def alignPhase (bits0 : List UInt8) (nv : Nat) (rows : List Bool) : List UInt8 × Nat × Nat :=
  let y := nv % 8
  let r := 8 - y
  if r < 8 then
    let b := packLow (rows.take r)
    (setAt bits0 (nv / 8) (fun w => (b <<< UInt8.ofNat y) ||| (w &&& ~~~((0xFF : UInt8) <<< UInt8.ofNat y))),
      nv + r, r)
  else (bits0, nv, 0)

/-- MIRROR of `if n := ((bytes.Len() - i) / 8) * 8; n > 0 { i += sparse.GatherBits(bits[numValues/8:], bytes.Slice(i, i+n)); numValues += n }`,
    column_buffer_boolean.go:134-144 -/
def gatherPhase (a : List UInt8 × Nat × Nat) (rows : List Bool) : List UInt8 × Nat × Nat :=
  let n := ((rows.length - a.2.2) / 8) * 8
  if n > 0 then
    (overwrite a.1 (a.2.1 / 8) (gatherBits ((rows.drop a.2.2).take n)), a.2.1 + n, a.2.2 + n)
  else a

/-- MIRROR of the end of `writeValues`, column_buffer_boolean.go:148-157: the bit-by-bit tail loop,
    `bits.Resize(ByteCount(numValues))`, `clearTrailingBits` -/
def finishPhase (p1 : List UInt8 × Nat × Nat) (rows : List Bool) (junk : UInt8) : BoolBuf :=
  let p2 := tailLoop p1.1 p1.2.1 (rows.drop p1.2.2)
  { bits := clearTrailing (resize p2.1 (byteCount p2.2) junk) p2.2, numValues := p2.2 }

/-- MIRROR `writeValues`, column_buffer_boolean.go:111-157 (a batch; `WriteValues`, `WriteBooleans` and
    the columnar typed path) -/
def BoolBuf.writeValues (st : BoolBuf) (rows : List Bool) (junk : UInt8) : BoolBuf :=
  let bits0 := resize st.bits (byteCount (st.numValues + rows.length)) junk
  let p1 : List UInt8 × Nat × Nat :=
    if 8 - st.numValues % 8 ≤ rows.length then gatherPhase (alignPhase bits0 st.numValues rows) rows
    else (bits0, st.numValues, 0)
  finishPhase p1 rows junk

/-- MIRROR `Reset`, column_buffer_boolean.go:54-58 (the backing array keeps its bytes: they come back
    as `junk` on the next `Resize`) -/
def BoolBuf.reset (_ : BoolBuf) : BoolBuf := BoolBuf.empty

/-- MIRROR `booleanColumnBuffer.Page().Data()` = `encoding.BooleanValues(page.bits)`, page_boolean.go:46 -/
def BoolBuf.data (st : BoolBuf) : PageData := .boolean st.bits

inductive BoolOp where
  | one (b : Bool)
  | batch (rows : List Bool)
  | reset
  deriving DecidableEq, Repr

def BoolBuf.step (junk : UInt8) (st : BoolBuf) : BoolOp → BoolBuf
  | .one b => st.writeBoolean b junk
  | .batch rows => st.writeValues rows junk
  | .reset => st.reset

/-- SPEC: the values a history leaves in the buffer -/
def boolSpecStep (vs : List Bool) : BoolOp → List Bool
  | .one b => vs ++ [b]
  | .batch rows => vs ++ rows
  | .reset => []

/-- a boolean page as `Slice` leaves it: bytes, bit offset of the first value, number of values -/
structure BoolPage where
  bits : List UInt8
  offset : Nat
  numValues : Nat
  deriving DecidableEq, Repr

def BoolBuf.page (st : BoolBuf) : BoolPage := { bits := st.bits, offset := 0, numValues := st.numValues }

/-- MIRROR `booleanPage.Slice(i, j)`, page_boolean.go:104-121 -/
def BoolPage.slice (p : BoolPage) (i j : Nat) : BoolPage :=
  let low := i + p.offset
  let high := j + p.offset
  let off := low / 8
  let e := if high % 8 ≠ 0 then high / 8 + 1 else high / 8
  { bits := (p.bits.take e).drop off, offset := low % 8, numValues := j - i }

/-- MIRROR `booleanPage.valueAt`, page_boolean.go:50-55 -/
def BoolPage.valueAt (p : BoolPage) (i : Nat) : Bool :=
  ((p.bits.getD ((p.offset + i) / 8) 0).toNat >>> ((p.offset + i) % 8)) % 2 == 1

def BoolPage.values (p : BoolPage) : List Bool := (List.range p.numValues).map p.valueAt

/-- MIRROR `booleanPage.Data()`: the page's bytes, whatever `offset` is -/
def BoolPage.data (p : BoolPage) : PageData := .boolean p.bits

/-! ## fixed-width buffers (int32, int64, float, double; the value is its bit pattern) -/

/-- MIRROR `writeValues` of the fixed-width buffers: `values.Resize(offset + n); sparse.GatherXX(values[offset:], rows)` -/
def fixedWrite {α} (values rows : List α) : List α := values ++ rows

/-! ## flat buffers (FIXED_LEN_BYTE_ARRAY, INT96) -/

/-- MIRROR `fixedLenByteArrayColumnBuffer.WriteValues`, column_buffer_fixed_len_byte_array.go:109-117:
    stops at the first value of another size (`false` = the error; the values before it stay written) -/
def flbaWrite (size : Nat) : List UInt8 → List (List UInt8) → List UInt8 × Bool
  | data, [] => (data, true)
  | data, v :: vs => if v.length = size then flbaWrite size (data ++ v) vs else (data, false)

/-! ## all kinds: a history of `WriteValues` batches and `Reset`s on the column buffer of a kind -/

inductive BufOp where
  | write (vs : List Value)
  | reset
  deriving Repr

/-- the state of a typed column buffer, per kind -/
inductive Buf where
  | boolean (st : BoolBuf)
  | w32 (vs : List UInt32)
  | w64 (vs : List UInt64)
  | flat (data : List UInt8)
  | bytes (c : SortBuf.BACol UInt8)

def Buf.empty : Kind → Buf
  | .boolean => .boolean BoolBuf.empty
  | .int32 | .float => .w32 []
  | .int64 | .double => .w64 []
  | .int96 | .flba _ => .flat []
  | .byteArray => .bytes SortBuf.BACol.empty

def valueBool : Value → Bool | .boolean b => b | _ => false
def value32 : Value → UInt32 | .int32 x => x | .float x => x | _ => 0
def value64 : Value → UInt64 | .int64 x => x | .double x => x | _ => 0

/-- MIRROR `WriteValues([]Value)` of the buffer of each kind (values of the column's kind) -/
def Buf.write (junk : UInt8) (kind : Kind) : Buf → List Value → Buf
  | .boolean st, vs => .boolean (st.writeValues (vs.map valueBool) junk)
  | .w32 xs, vs => .w32 (fixedWrite xs (vs.map value32))
  | .w64 xs, vs => .w64 (fixedWrite xs (vs.map value64))
  | .flat data, vs =>
    .flat (flbaWrite (match kind with | .flba n => n | _ => 12) data (vs.map Value.payloadBytes)).1
  | .bytes c, vs => .bytes ((vs.map Value.payloadBytes).foldl SortBuf.BACol.write c)

def Buf.step (junk : UInt8) (kind : Kind) (b : Buf) : BufOp → Buf
  | .write vs => b.write junk kind vs
  | .reset => Buf.empty kind

/-- MIRROR `Page().Data()` of the buffer of each kind (`byteArrayColumnBuffer.page()` appends the end
    offset; `byteArrayPage.Data()` = `ByteArrayValues(values, offsets)`) -/
def Buf.data (kind : Kind) : Buf → PageData
  | .boolean st => st.data
  | .w32 xs => (match kind with | .float => .float xs | _ => .int32 xs)
  | .w64 xs => (match kind with | .double => .double xs | _ => .int64 xs)
  | .flat data => (match kind with | .flba n => .flba data n | _ => .int96 data)
  | .bytes c => let p := c.page; .byteArray p.values (p.offsets ++ p.endOff.toList)

def specStep (vs : List Value) : BufOp → List Value
  | .write ws => vs ++ ws
  | .reset => []

/-- the page data after a history, and the values the history leaves in the buffer -/
def runData (junk : UInt8) (kind : Kind) (ops : List BufOp) : PageData :=
  (ops.foldl (Buf.step junk kind) (Buf.empty kind)).data kind

def runValues (ops : List BufOp) : List Value := ops.foldl specStep []

/-! ## the dictionary's own page (`writePageToFilter(dict.Page())`, strategy 2 of `flushFilterPages`) -/

/-- The values a typed dictionary holds after at least one `Insert` call, `vs` being everything
    inserted: first occurrences in insertion order (the dictionary contract: C04, `DictReset.lean`).
    MIRROR of `booleanDictionary.insert`, dictionary_boolean.go:66-90, for BOOLEAN: the first call adds
    `false` then `true`, whatever is inserted (even nothing). -/
def dictValues (kind : Kind) (vs : List Value) : List Value :=
  match kind with
  | .boolean => [.boolean false, .boolean true]
  | _ => vs.eraseDups

/-- `dict.Page().Data()`: the dictionary's page is a page of the column's type holding `dictValues` -/
def dictData (kind : Kind) (vs : List Value) : PageData := pageData kind (dictValues kind vs)

end PqModel.PageDataBuf
