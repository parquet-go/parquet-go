import PqModel.Search

/-! # C06 stated on the VALUES of the pages (not on recorded bounds)

`Search.lean` proves that `Find` returns the first page whose RECORDED bounds contain the probe. The property
speaks about the values a page holds. This file closes the gap for the integer column orders: the index is
built from the pages' values by the writer's steps

  values of a page --(null filter)--> non-null values --(Page.Bounds: `boundsXxx`)--> (min, max)
                   --(ColumnIndexer.IndexPage / ColumnIndex)--> bounds lists + boundary order --> `Find`

and `Type.Compare` of the column is no longer an abstract rank: it is the signed / unsigned comparison of
the 32/64-bit patterns (`Stats.sint`, `Stats.uint`, which `Props.C05.compareInt_spec` proves to be `Type.Compare`).

MIRROR: `pageBound`, `indexOfPages` (writer.go `writeDataPage` → `recordPageStats`, column_index.go `IndexPage`),
`boundsDispatch`. The kernels themselves are assembly: they enter as any function satisfying the SPEC `BoundsFor` (the
portable loop `Stats.bounds` does); `BoundsForF` = the contract for FLOAT / DOUBLE pages, whose values may be NaN. -/
namespace PqModel.Search
open PqModel.Stats

/-- MIRROR. The two column-index entries of one page: null bounds for a page without a non-null value, else the
    keys (ranks in the column order) of the pair the bounds function returns on the non-null values. -/
def pageBound {α} (bnd : List α → Option (α × α)) (key : α → Int) (page : List (Option α)) : Bound × Bound :=
  match bnd (page.filterMap id) with
  | none => (none, none)
  | some (mn, mx) => (some (key mn), some (key mx))

/-- MIRROR. The column index of a chunk whose pages hold these values (`none` = null value). -/
def indexOfPages {α} (bnd : List α → Option (α × α)) (key : α → Int) (pages : List (List (Option α))) : Index :=
  { mins := pages.map (fun p => (pageBound bnd key p).1), maxs := pages.map (fun p => (pageBound bnd key p).2) }

/-- SPEC. What `Page.Bounds` owes to `Find`: no bounds for no values, and otherwise a pair that encloses every
    value IN THE ORDER OF THE COLUMN (`key` = the rank `Type.Compare` sorts by). -/
structure BoundsFor {α} (bnd : List α → Option (α × α)) (key : α → Int) : Prop where
  nil : bnd [] = none
  some_of_ne : ∀ xs, xs ≠ [] → ∃ mn mx, bnd xs = some (mn, mx)
  encloses : ∀ xs mn mx, bnd xs = some (mn, mx) → ∀ x ∈ xs, key mn ≤ key x ∧ key x ≤ key mx

/-- MIRROR page_bounds_amd64.go:69-126 `boundsInt32` … `boundsFloat64`: pages of at least `t` values go to one
    kernel, shorter pages to another. `t` = 1 MiB worth of values (`combinedBoundsThreshold`: 262144 32-bit or
    131072 64-bit values); `boundsInt64` nests two such tests, the outer one at
    `combinedBoundsInt64Threshold = (DefaultPageBufferSize*98/100+7)/8` = 32113 values (the AVX-512 kernel). -/
def boundsDispatch {α} (t : Nat) (big small : List α → Option (α × α)) (xs : List α) : Option (α × α) :=
  if xs.length ≥ t then big xs else small xs

theorem BoundsFor.dispatch {α} {big small : List α → Option (α × α)} {key : α → Int} (t : Nat)
    (hb : BoundsFor big key) (hs : BoundsFor small key) : BoundsFor (boundsDispatch t big small) key := by
  have h : ∀ xs, boundsDispatch t big small xs = big xs ∨ boundsDispatch t big small xs = small xs := fun xs => by
    unfold boundsDispatch
    split
    · exact Or.inl rfl
    · exact Or.inr rfl
  exact {
    nil := (h []).elim (·.trans hb.nil) (·.trans hs.nil)
    some_of_ne := fun xs hne => (h xs).elim (fun e => e ▸ hb.some_of_ne xs hne) (fun e => e ▸ hs.some_of_ne xs hne)
    encloses := fun xs mn mx hd => (h xs).elim (fun e => hb.encloses xs mn mx (e ▸ hd))
      (fun e => hs.encloses xs mn mx (e ▸ hd)) }

/-- SPEC. The contract of the float `Page.Bounds` towards `Find`: no bounds for no values; the bounds are values
    of the page; a bound that is not NaN encloses every non-NaN value of the page on its side. (A NaN bound
    excludes nothing under `compareFloat32/64`, so nothing is asked of it.) -/
structure BoundsForF {α} (bnd : List α → Option (α × α)) (key : α → Int) (nan : α → Bool) : Prop where
  nil : bnd [] = none
  some_of_ne : ∀ xs, xs ≠ [] → ∃ mn mx, bnd xs = some (mn, mx)
  mem : ∀ xs mn mx, bnd xs = some (mn, mx) → mn ∈ xs ∧ mx ∈ xs
  lower : ∀ xs mn mx, bnd xs = some (mn, mx) → nan mn = false → ∀ x ∈ xs, nan x = false → key mn ≤ key x
  upper : ∀ xs mn mx, bnd xs = some (mn, mx) → nan mx = false → ∀ x ∈ xs, nan x = false → key x ≤ key mx

theorem ofKey_lt_eq_false {α} {key : α → Int} {nan : α → Bool} {a b : α} (ha : nan a = false) (hb : nan b = false) :
    (ofKey key nan).lt a b = false ↔ key b ≤ key a := by
  simp [ofKey, ha, hb]

theorem boundsNaN_sound {α} (key : α → Int) (nan : α → Bool) : BoundsForF (boundsNaN (ofKey key nan)) key nan := by
  have hl : Lawful (ofKey key nan) := ofKey_lawful key nan
  -- the two shapes of a page with bounds: NaN values only, or the bounds of its non-NaN values
  have spec : ∀ xs mn mx, boundsNaN (ofKey key nan) xs = some (mn, mx) →
      ((∀ v ∈ xs, nan v = true) ∧ mn ∈ xs ∧ mx ∈ xs) ∨ IsBounds (ofKey key nan) xs mn mx := by
    intro xs mn mx h
    by_cases hex : ∃ v ∈ xs, (ofKey key nan).ok v = true
    · obtain ⟨_, _, h', hb⟩ := boundsNaN_isBounds hl xs hex
      cases h'.symm.trans h
      exact Or.inr hb
    · have hall : ∀ v ∈ xs, (ofKey key nan).ok v = false := fun v hv =>
        Bool.eq_false_iff.mpr fun hok => hex ⟨v, hv, hok⟩
      cases xs with
      | nil => cases h
      | cons x0 xt =>
        cases (boundsNaN_allNaN _ x0 xt hall).symm.trans h
        exact Or.inl ⟨fun v hv => by simpa [ofKey] using hall v hv, List.mem_cons_self .., List.mem_cons_self ..⟩
  exact {
    nil := rfl
    some_of_ne := fun xs hne => by
      cases xs with
      | nil => exact absurd rfl hne
      | cons x0 xt => simp only [boundsNaN]; split <;> exact ⟨_, _, rfl⟩
    mem := fun xs mn mx h => (spec xs mn mx h).elim (·.2) fun hb => ⟨hb.min_mem, hb.max_mem⟩
    lower := fun xs mn mx h hmn x hx hxn => (spec xs mn mx h).elim
      (fun ha => absurd (ha.1 x hx) (by rw [hxn]; decide)) fun hb =>
        (ofKey_lt_eq_false hxn hmn).mp (hb.lower x hx (by simp [ofKey, hxn]))
    upper := fun xs mn mx h hmx x hx hxn => (spec xs mn mx h).elim
      (fun ha => absurd (ha.1 x hx) (by rw [hxn]; decide)) fun hb =>
        (ofKey_lt_eq_false hmx hxn).mp (hb.upper x hx (by simp [ofKey, hxn])) }

theorem BoundsForF.boundsFor {α} {bnd : List α → Option (α × α)} {key : α → Int}
    (h : BoundsForF bnd key (fun _ => false)) : BoundsFor bnd key where
  nil := h.nil
  some_of_ne := h.some_of_ne
  encloses := fun xs mn mx hb x hx => ⟨h.lower xs mn mx hb rfl x hx rfl, h.upper xs mn mx hb rfl x hx rfl⟩

/-- `Stats.bounds` (MIRROR of page_bounds_purego.go) is the float loop on a column without NaN -/
theorem bounds_ofKey_sound {α} (key : α → Int) : BoundsFor (bounds (ofKey key (fun _ => false)).lt) key := by
  have e : boundsNaN (ofKey key fun _ => false) = bounds (ofKey key fun _ => false).lt :=
    funext (boundsNaN_eq_bounds _ fun _ => rfl)
  exact e ▸ (boundsNaN_sound key fun _ => false).boundsFor

/-- SPEC. The rank `Type.Compare` sorts an integer column by: the two's complement value for INT32/INT64 (and
    the DECIMAL / DATE / TIME / TIMESTAMP types on them), the unsigned value for the UINT logical types. -/
def intKey (signed : Bool) (w : Nat) : BitVec w → Int :=
  if signed then fun b => b.toInt else fun b => (b.toNat : Int)

/-- the column order C05 mirrors `Type.Compare` with (`Stats.sint`, `Stats.uint`) -/
def intOrder (signed : Bool) (w : Nat) : ColOrder (BitVec w) := if signed then sint w else uint w

theorem intOrder_eq (signed : Bool) (w : Nat) : intOrder signed w = ofKey (intKey signed w) (fun _ => false) := by
  cases signed <;> rfl

def intBounds (signed : Bool) (w : Nat) : List (BitVec w) → Option (BitVec w × BitVec w) :=
  bounds (intOrder signed w).lt

theorem intBounds_sound (signed : Bool) (w : Nat) : BoundsFor (intBounds signed w) (intKey signed w) := by
  unfold intBounds
  rw [intOrder_eq]
  exact bounds_ofKey_sound _

theorem getD_map_nil {α β} (f : List α → β) (d : β) : ∀ (l : List (List α)) (i : Nat), i < l.length →
    (l.map f).getD i d = f (l.getD i []) :=
  fun _ _ h => by
    rw [ListFacts.getD_of_lt d (by rw [List.length_map]; exact h), ListFacts.getD_of_lt [] h, List.getElem_map]

theorem indexOfPages_n {α} (bnd : List α → Option (α × α)) (key : α → Int) (pages : List (List (Option α))) :
    (indexOfPages bnd key pages).n = pages.length := by simp [indexOfPages, Index.n]

theorem minAt_indexOfPages {α} (bnd : List α → Option (α × α)) (key : α → Int) (pages : List (List (Option α)))
    (i : Nat) (hi : i < pages.length) :
    minAt (indexOfPages bnd key pages) i = (pageBound bnd key (pages.getD i [])).1 := by
  simp only [minAt, indexOfPages]
  exact getD_map_nil (fun p => (pageBound bnd key p).1) none pages i hi

theorem maxAt_indexOfPages {α} (bnd : List α → Option (α × α)) (key : α → Int) (pages : List (List (Option α)))
    (i : Nat) (hi : i < pages.length) :
    maxAt (indexOfPages bnd key pages) i = (pageBound bnd key (pages.getD i [])).2 := by
  simp only [maxAt, indexOfPages]
  exact getD_map_nil (fun p => (pageBound bnd key p).2) none pages i hi

theorem mem_filterMap_id {α} {x : α} {page : List (Option α)} (h : some x ∈ page) : x ∈ page.filterMap id :=
  mem_nonNull.mpr h

theorem contains_of_mem {α} (nf : Bool) {bnd : List α → Option (α × α)} {key : α → Int} (hb : BoundsFor bnd key)
    (pages : List (List (Option α))) (p : Nat) (hp : p < pages.length) (x : α) (hx : some x ∈ pages.getD p []) :
    contains nf (indexOfPages bnd key pages) p (key x) = true := by
  have hmem := mem_filterMap_id hx
  have hne := List.ne_nil_of_mem hmem
  obtain ⟨mn, mx, hbnd⟩ := hb.some_of_ne _ hne
  have henc := hb.encloses _ mn mx hbnd x hmem
  simp only [contains, minAt_indexOfPages bnd key pages p hp, maxAt_indexOfPages bnd key pages p hp, pageBound, hbnd,
    ltNL, Bool.and_eq_true, Bool.not_eq_true', decide_eq_false_iff_not]
  omega

theorem indexOfPages_le {α} {bnd : List α → Option (α × α)} {key : α → Int} (hb : BoundsFor bnd key)
    (pages : List (List (Option α))) :
    ∀ i a b, i < (indexOfPages bnd key pages).n → minAt (indexOfPages bnd key pages) i = some a →
      maxAt (indexOfPages bnd key pages) i = some b → a ≤ b := by
  intro i a b hi ha hb'
  rw [indexOfPages_n] at hi
  rw [minAt_indexOfPages bnd key pages i hi] at ha
  rw [maxAt_indexOfPages bnd key pages i hi] at hb'
  unfold pageBound at ha hb'
  cases hbnd : bnd ((pages.getD i []).filterMap id) with
  | none => rw [hbnd] at ha; exact absurd ha (by simp)
  | some pr =>
    obtain ⟨mn, mx⟩ := pr
    rw [hbnd] at ha hb'
    simp only [Option.some.injEq] at ha hb'
    have hne : (pages.getD i []).filterMap id ≠ [] := by
      intro h; rw [h, hb.nil] at hbnd; simp at hbnd
    cases hxs : (pages.getD i []).filterMap id with
    | nil => exact absurd hxs hne
    | cons x0 rest =>
      have := hb.encloses _ mn mx hbnd x0 (by rw [hxs]; simp)
      omega

theorem find_no_miss_writer_core (nf : Bool) (z : Int) (ix : Index) (v : Int)
    (hlen : ix.maxs.length = ix.mins.length)
    (hle : ∀ i a b, i < ix.n → minAt ix i = some a → maxAt ix i = some b → a ≤ b) :
    find nf (writerOrder z ix == 1) ix v ≤ ix.n ∧
    (find nf (writerOrder z ix == 1) ix v < ix.n → contains nf ix (find nf (writerOrder z ix == 1) ix v) v = true) ∧
    (∀ p, p < ix.n → contains nf ix p v = true → find nf (writerOrder z ix == 1) ix v ≤ p) :=
  find_first_writer nf z z ix v hlen hle

/-- C06 ON VALUES. Pages of values (nulls anywhere, all-null pages, any number of pages, any arrangement), the
    index the writer builds from them with ANY bounds function that satisfies `BoundsFor`, the boundary order the
    indexer computes (`writerOrder`, null pages stored as `z`): for a value `x` held by page `p`, `Find` returns a
    page `r ≤ p` and the recorded bounds of page `r` contain `x`. -/
theorem find_no_miss_values {α} (nf : Bool) (z : Int) {bnd : List α → Option (α × α)} {key : α → Int}
    (hb : BoundsFor bnd key) (pages : List (List (Option α))) (p : Nat) (hp : p < pages.length) (x : α)
    (hx : some x ∈ pages.getD p []) :
    let ix := indexOfPages bnd key pages
    let r := find nf (writerOrder z ix == 1) ix (key x)
    r ≤ p ∧ r < ix.n ∧ contains nf ix r (key x) = true := by
  intro ix r
  have hn : ix.n = pages.length := indexOfPages_n bnd key pages
  have hlen : ix.maxs.length = ix.mins.length := by simp [ix, indexOfPages]
  exact (find_first_writer nf z z ix (key x) hlen (indexOfPages_le hb pages)).of_hit (hn ▸ hp)
    (contains_of_mem nf hb pages p hp x hx)

end PqModel.Search
