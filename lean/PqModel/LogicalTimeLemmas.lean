import PqModel.LogicalTime

/-! # Arithmetic of the TIMESTAMP conversions, unit left a variable

The unit enters the conversions only through `perSec` and `nanos`, whose product is a second. -/
namespace PqModel.LogicalTime

theorem perSec_pos (u : TUnit) : 0 < u.perSec := by cases u <;> decide

theorem nanos_pos (u : TUnit) : 0 < u.nanos := by cases u <;> decide

theorem perSec_mul_nanos (u : TUnit) : u.perSec * u.nanos = 1000000000 := by cases u <;> rfl

theorem floorDiv_add (S : Int) (q P : Nat) (h : q < P) :
    (S * P + q) / P = S ∧ ((S * P + q) % P).toNat = q := by
  have hq : (q : Int) / P = 0 := Int.ediv_eq_zero_of_lt (by omega) (by omega)
  have hm : (q : Int) % P = q := Int.emod_eq_of_lt (by omega) (by omega)
  constructor
  · rw [Int.add_comm, Int.add_mul_ediv_right _ _ (by omega), hq, Int.zero_add]
  · rw [Int.add_comm, Int.add_mul_emod_self_right, hm, Int.toNat_natCast]

theorem unitsOf_ofUnit (u : TUnit) (v : BitVec 64) : unitsOf u (ofUnit u v) = v.toInt := by
  have hP : (u.perSec : Int) ≠ 0 := Int.natCast_ne_zero.mpr (Nat.ne_of_gt (perSec_pos u))
  simp only [unitsOf, ofUnit, Nat.mul_div_cancel _ (nanos_pos u), Int.toNat_of_nonneg (Int.emod_nonneg _ hP)]
  exact Int.ediv_mul_add_emod _ _

theorem nsec_div_lt (u : TUnit) {nsec : Nat} (h : nsec < 1000000000) : nsec / u.nanos < u.perSec :=
  Nat.div_lt_of_lt_mul (by rw [Nat.mul_comm, perSec_mul_nanos]; exact h)

theorem ofUnit_of_toInt (u : TUnit) (t : Instant) (hwf : t.nsec < 1000000000) (v : BitVec 64)
    (hv : v.toInt = unitsOf u t) : ofUnit u v = floorTo u t := by
  obtain ⟨h1, h2⟩ := floorDiv_add t.sec (t.nsec / u.nanos) u.perSec (nsec_div_lt u hwf)
  simp only [ofUnit, hv, unitsOf, h1, h2, floorTo]

end PqModel.LogicalTime
