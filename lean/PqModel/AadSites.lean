import PqModel.Aad

/-! # Modular encryption: the call sites of `makeAAD`, with the ORDER of their ordinal arguments

MIRROR of every call of `makeAAD` in `writer.go` and `file.go` (`sites`): who calls (the writer
sealing a module, the writer re-opening its own pages, the reader at `OpenFile` — the EAGER path —,
the reader on demand per column chunk — the LAZY path —, the page reader), where it takes AAD
prefix and file identifier from, which module type it passes and WHICH QUANTITY each ordinal
argument carries, in the order the arguments are passed. `Module.ords` (Aad.lean) says what a slot
of the file is sealed for; this table says what each call site really passes. The table is
re-extracted from the source on every run (factgen family `aadsites`) and compared with `sites` in
`Props/FactsCheckC18.lean`, so an argument that changes place breaks the build. -/
namespace PqModel.Aad

/-- which quantity an ordinal argument carries -/
inductive Role where
  | rg    -- the row group's position in the file
  | col   -- the column's position in the row group
  | page  -- the data page's position in the column chunk
  | zero  -- the constant 0 (dictionary modules; the format document passes no third ordinal)
deriving DecidableEq, Repr

/-- the shape the code uses (Encryption.md 4.4.2 plus the extra 0 for dictionary modules): the
    roles of the ordinals of a module type, in AAD order: row group, then column, then page -/
def ModType.roles : ModType → List Role
  | .footer => []
  | .columnMeta | .bloomHeader | .bloomBits | .columnIndex | .offsetIndex => [.rg, .col]
  | .dataPage | .dataPageHeader => [.rg, .col, .page]
  | .dictPage | .dictPageHeader => [.rg, .col, .zero]

structure Coord where
  rg : Nat
  col : Nat
  page : Nat
deriving DecidableEq, Repr

def Role.val (c : Coord) : Role → Nat
  | .rg => c.rg | .col => c.col | .page => c.page | .zero => 0

def ModType.slotAt (t : ModType) (c : Coord) : Module :=
  match t with
  | .footer => .footer
  | .columnMeta => .columnMeta c.rg c.col
  | .dataPage => .dataPage c.rg c.col c.page
  | .dataPageHeader => .dataPageHeader c.rg c.col c.page
  | .dictPage => .dictPage c.rg c.col
  | .dictPageHeader => .dictPageHeader c.rg c.col
  | .bloomHeader => .bloomHeader c.rg c.col
  | .bloomBits => .bloomBits c.rg c.col
  | .columnIndex => .columnIndex c.rg c.col
  | .offsetIndex => .offsetIndex c.rg c.col

theorem slotAt_type (t : ModType) (c : Coord) : (t.slotAt c).type = t := by cases t <;> rfl

theorem slotAt_ords (t : ModType) (c : Coord) : (t.slotAt c).ords = t.roles.map (Role.val c) := by
  cases t <;> rfl

theorem slotAt_inRange {t : ModType} {c : Coord} : (t.slotAt c).InRange ↔ ∀ r ∈ t.roles, r.val c < 65536 := by
  simp only [Module.InRange, slotAt_ords, List.forall_mem_map]

def Used.coord (u : Used) : Coord := ⟨u.ords.getD 0 0, u.ords.getD 1 0, u.ords.getD 2 0⟩

theorem slotAt_used (m : Module) : m.used.t.slotAt m.used.coord = m := by cases m <;> rfl

theorem slotAt_surj (m : Module) : ∃ c, m.type.slotAt c = m :=
  ⟨m.used.coord, slotAt_used m⟩

theorem Module.used_inj {m m' : Module} (h : m.used = m'.used) : m = m' := by
  rw [← slotAt_used m, h, slotAt_used]

theorem Module.aad_inj {pfx fu : Bytes} {m m' : Module} (hm : m.InRange) (hm' : m'.InRange)
    (h : m.aad pfx fu = m'.aad pfx fu) : m = m' :=
  Module.used_inj (Used.aad_inj hm hm' h)

/-- who calls `makeAAD` -/
inductive Party where
  | writerSeal      -- the result goes to `encryptModule` / `signFooter`
  | writerReopen    -- `flushFilterPages`: the writer opens its own sealed pages
  | readerEager     -- `OpenFile`: footer, column metadata, `ReadPageIndex` (unless `SkipPageIndex`)
  | readerLazy      -- per chunk, on demand: `readColumnIndexFrom`, `readOffsetIndex`, `readBloomFilter`
  | readerPages     -- `FilePages`: `readEncryptedPage`, lazy `readDictionary`
deriving DecidableEq, Repr

/-- which object the prefix and the file identifier are read from -/
inductive Holder where
  | writerState     -- `w.encryption` / `enc`: the writer's current encryption state
  | columnWriter    -- the copies a `ColumnWriter` holds (`c.aadPrefix`, `c.fileUnique`)
  | cryptoMeta      -- `algo.AadPrefix`, `algo.AadFileUnique` decoded from the file being opened
  | file            -- `f.…` / `c.file.…`: copied from `cryptoMeta` by `OpenFile`
  | pages           -- `d.…`: copied from `file` by `FilePages.init`
deriving DecidableEq, Repr

structure Site where
  fn : String          -- "<file>:<function>"
  party : Party
  holder : Holder
  t : ModType
  roles : List Role    -- the ordinal arguments AS PASSED, in order
deriving DecidableEq, Repr

/-- MIRROR: every call of `makeAAD`, in source order (writer.go:1377, 1403, 1457, 1498, 1784, 2286,
    2296, 2491, 2496, 2605, 2614, 2697, 2702; file.go:158, 203, 474, 515, 581, 981, 1019, 1056,
    1065, 1388, 1400, 1580, 1595 — the last two calls take module type and page ordinal from
    locals set in a dictionary branch and a data branch, hence two entries each). -/
def sites : List Site := [
  ⟨"writer.go:writer.writeFileFooter", .writerSeal, .writerState, .columnIndex, [.rg, .col]⟩,
  ⟨"writer.go:writer.writeFileFooter", .writerSeal, .writerState, .offsetIndex, [.rg, .col]⟩,
  ⟨"writer.go:writer.writeFileFooter", .writerSeal, .writerState, .footer, []⟩,
  ⟨"writer.go:writer.writeFileFooter", .writerSeal, .writerState, .footer, []⟩,
  ⟨"writer.go:writer.writeRowGroup", .writerSeal, .writerState, .columnMeta, [.rg, .col]⟩,
  ⟨"writer.go:ColumnWriter.flushFilterPages", .writerReopen, .columnWriter, .dataPageHeader, [.rg, .col, .page]⟩,
  ⟨"writer.go:ColumnWriter.flushFilterPages", .writerReopen, .columnWriter, .dataPage, [.rg, .col, .page]⟩,
  ⟨"writer.go:ColumnWriter.writeBloomFilter", .writerSeal, .columnWriter, .bloomHeader, [.rg, .col]⟩,
  ⟨"writer.go:ColumnWriter.writeBloomFilter", .writerSeal, .columnWriter, .bloomBits, [.rg, .col]⟩,
  ⟨"writer.go:ColumnWriter.writeDataPage", .writerSeal, .columnWriter, .dataPageHeader, [.rg, .col, .page]⟩,
  ⟨"writer.go:ColumnWriter.writeDataPage", .writerSeal, .columnWriter, .dataPage, [.rg, .col, .page]⟩,
  ⟨"writer.go:ColumnWriter.writeDictionaryPage", .writerSeal, .columnWriter, .dictPageHeader, [.rg, .col, .zero]⟩,
  ⟨"writer.go:ColumnWriter.writeDictionaryPage", .writerSeal, .columnWriter, .dictPage, [.rg, .col, .zero]⟩,
  ⟨"file.go:OpenFile", .readerEager, .cryptoMeta, .footer, []⟩,
  ⟨"file.go:OpenFile", .readerEager, .cryptoMeta, .footer, []⟩,
  ⟨"file.go:File.ReadPageIndex", .readerEager, .file, .columnIndex, [.rg, .col]⟩,
  ⟨"file.go:File.ReadPageIndex", .readerEager, .file, .offsetIndex, [.rg, .col]⟩,
  ⟨"file.go:File.decryptAllColumnMetadata", .readerEager, .file, .columnMeta, [.rg, .col]⟩,
  ⟨"file.go:FileColumnChunk.readColumnIndexFrom", .readerLazy, .file, .columnIndex, [.rg, .col]⟩,
  ⟨"file.go:FileColumnChunk.readOffsetIndex", .readerLazy, .file, .offsetIndex, [.rg, .col]⟩,
  ⟨"file.go:FileColumnChunk.readBloomFilter", .readerLazy, .file, .bloomHeader, [.rg, .col]⟩,
  ⟨"file.go:FileColumnChunk.readBloomFilter", .readerLazy, .file, .bloomBits, [.rg, .col]⟩,
  ⟨"file.go:FilePages.readDictionary", .readerPages, .pages, .dictPageHeader, [.rg, .col, .zero]⟩,
  ⟨"file.go:FilePages.readDictionary", .readerPages, .pages, .dictPage, [.rg, .col, .zero]⟩,
  ⟨"file.go:FilePages.readEncryptedPage", .readerPages, .pages, .dictPageHeader, [.rg, .col, .zero]⟩,
  ⟨"file.go:FilePages.readEncryptedPage", .readerPages, .pages, .dataPageHeader, [.rg, .col, .page]⟩,
  ⟨"file.go:FilePages.readEncryptedPage", .readerPages, .pages, .dictPage, [.rg, .col, .zero]⟩,
  ⟨"file.go:FilePages.readEncryptedPage", .readerPages, .pages, .dataPage, [.rg, .col, .page]⟩
]

def Site.used (s : Site) (c : Coord) : Used := ⟨s.t, s.roles.map (Role.val c)⟩

def Site.slot (s : Site) (c : Coord) : Module := s.t.slotAt c

def Party.isReader : Party → Bool
  | .readerEager | .readerLazy | .readerPages => true
  | _ => false

theorem sites_roles_ok : sites.all (fun s => s.roles == s.t.roles) = true := by decide

theorem site_used_eq_slot_used {s : Site} (hs : s ∈ sites) (c : Coord) : s.used c = (s.slot c).used := by
  have h := List.all_eq_true.1 sites_roles_ok s hs
  have hr : s.roles = s.t.roles := by simpa using h
  simp only [Site.used, Site.slot, Module.used, slotAt_type, slotAt_ords, hr]

end PqModel.Aad
