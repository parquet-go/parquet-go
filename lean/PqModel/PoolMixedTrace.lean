import PqModel.PoolMixed
/-! # The observable trace of the per-chunk `detach` flag

What a spy on the real `columnChunkValueReader` can see of `PoolMixed.chunkProgs` (hook
`VerifSpyRowGroupRows`, sub-check `chunkflag`): the flag as it stands after the fetch of every page
(`flagTrace`), and per page the decision `clear()` takes with it (column_chunk.go:91-101:
`releaseAndDetachValues` when the flag is set, `Release` otherwise). `hasPut` reads the decision
off the program `chunkProgs` gives for the page, so the driver op (Driver/Ops/C16ChunkFlag.lean) answers
from the mirror itself. -/
namespace PqModel.PoolMixed
open PqModel.PoolProto

/-- MIRROR (derived): `r.detach` after the fetch of each page, in page order
    (column_chunk.go:130-137 threaded through the chunk). -/
def flagTrace (slip fixedLen : Bool) : Bool → List PageD → List Bool
  | _, [] => []
  | detach, p :: ps =>
    flagAfterFetch slip fixedLen detach p :: flagTrace slip fixedLen (flagAfterFetch slip fixedLen detach p) ps

/-- the values buffer goes back to the pool by the reader's own release (`Release`, not
    `releaseAndDetachValues`) -/
def hasPut (prog : List Op) : Bool := prog.any fun o => o matches .put

def countUse (prog : List Op) : Nat := prog.countP fun o => o matches .use

theorem chunkProgs_length (slip fixedLen detach : Bool) (ps : List PageD) :
    (chunkProgs slip fixedLen detach ps).length = ps.length := by
  induction ps generalizing detach with
  | nil => rfl
  | cons p ps ih => simp [chunkProgs, ih]

theorem flagTrace_length (slip fixedLen detach : Bool) (ps : List PageD) :
    (flagTrace slip fixedLen detach ps).length = ps.length := by
  induction ps generalizing detach with
  | nil => rfl
  | cons p ps ih => simp [flagTrace, ih]

theorem chunkProgs_eq_zip (slip fixedLen detach : Bool) (ps : List PageD) :
    chunkProgs slip fixedLen detach ps =
      (ps.zip (flagTrace slip fixedLen detach ps)).map fun x =>
        rowReaderProg true x.2 x.1.nRead x.1.keptTouches := by
  induction ps generalizing detach with
  | nil => rfl
  | cons p ps ih => simp [chunkProgs, flagTrace, ih]

theorem hasPut_rowReaderProg (flag : Bool) (nRead nKept : Nat) :
    hasPut (rowReaderProg true flag nRead nKept) = !flag := by
  cases flag <;> simp [rowReaderProg, hasPut, List.any_append, List.any_replicate]

/-- the code as it is: the flag never moves -/
theorem flagTrace_mirror (fixedLen detach : Bool) (ps : List PageD) :
    flagTrace false fixedLen detach ps = List.replicate ps.length detach := by
  induction ps generalizing detach with
  | nil => rfl
  | cons p ps ih => simp [flagTrace, flagAfterFetch, ih, List.replicate_succ]

end PqModel.PoolMixed
