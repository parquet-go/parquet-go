import PqModel.Spec.Thrift

/-! # Keyless walker of an encrypted Parquet file (C18, reader side; SPEC-side definition)

Without any key a reader can still check the framing of an encrypted file: the bytes between the
magic and the footer region must be exactly a chain of module envelopes
`len(4, LE) ‖ nonce(12) ‖ ciphertext ‖ tag(16)`; in encrypted-footer mode the footer region is a
plaintext `FileCryptoMetaData` followed by exactly one envelope; in plaintext-footer mode it is a
plaintext `FileMetaData` followed by a 28-byte signature, every column chunk carries an
`encrypted_column_metadata` that is itself one well-formed envelope, and its column-index and
offset-index references point at whole envelopes of the chain. The footer is read with the
generic thrift reader of `Spec/Thrift.lean`. The harness compares the result with the modules its
keyed walker opened (same offsets, same lengths, same AAD parameters). -/
namespace PqModel.EncWalk
open PqModel.Spec

/-- envelope = (offset, length including the 4-byte prefix) -/
abbrev Env := Nat × Nat

/-- the smallest envelope: prefix + nonce + tag -/
def minEnv : Nat := 4 + 12 + 16

/-- the chain of envelopes that tiles `[pos, stop)` exactly; fuel = number of envelopes at most -/
def chain (d : ByteArray) (stop : Nat) : Nat → Nat → List Env → Except String (List Env)
  | 0, _, _ => .error "chain: out of fuel"
  | fuel + 1, pos, acc =>
    if pos == stop then .ok acc.reverse
    else if pos + 4 > stop then .error s!"chain: {stop - pos} stray bytes at {pos}"
    else
      let l := le d pos 4
      if l < 28 then .error s!"chain: length prefix {l} at {pos} is below nonce+tag"
      else if pos + 4 + l > stop then .error s!"chain: envelope at {pos} (length prefix {l}) runs past {stop}"
      else chain d stop fuel (pos + 4 + l) ((pos, 4 + l) :: acc)

/-- the envelopes tile the interval: consecutive, starting at `a`, ending at `b` -/
def Tiles : List Env → Nat → Nat → Prop
  | [], a, b => a = b
  | (off, len) :: rest, a, b => off = a ∧ minEnv ≤ len ∧ Tiles rest (a + len) b

theorem Tiles.snoc {len : Nat} (hlen : minEnv ≤ len) : ∀ {l : List Env} {a pos : Nat},
    Tiles l a pos → Tiles (l ++ [(pos, len)]) a (pos + len)
  | [], _, _, h => by cases h; exact ⟨rfl, hlen, rfl⟩
  | (_, _) :: _, _, _, h => ⟨h.1, h.2.1, Tiles.snoc hlen h.2.2⟩

theorem chain_tiles (d : ByteArray) (stop fuel pos : Nat) (acc : List Env) (a : Nat) (out : List Env)
    (hacc : Tiles acc.reverse a pos) (h : chain d stop fuel pos acc = .ok out) : Tiles out a stop := by
  fun_induction chain d stop fuel pos acc
  case case1 | case3 | case4 | case5 => cases h
  case case2 hp =>   -- `pos = stop`: the accumulated chain is returned
    cases h
    exact eq_of_beq hp ▸ hacc
  case case6 hl _ ih =>   -- one more envelope, then the rest
    refine ih ?_ h
    rw [List.reverse_cons, Nat.add_assoc]
    exact hacc.snoc (by simp only [minEnv]; omega)

structure Walk where
  encFooter : Bool
  footerStart : Nat
  plainLen : Nat               -- bytes of plaintext thrift at the start of the footer region
  aadPrefix : ByteArray
  fileUnique : ByteArray
  dataMods : List Env          -- the chain between magic and footer region
  footerMods : List Env        -- the footer envelope / the inline column metadata envelopes
  problems : List String

/-- bytes 0 (low byte of the length prefix) and 5 (a byte of the random nonce) are compared first, to skip
    most positions without the full comparison; the caller passes patterns of at least `minEnv` bytes -/
def findSub (d : ByteArray) (pat : ByteArray) (stop : Nat) : Nat → Nat → Option Nat
  | 0, _ => none
  | fuel + 1, pos =>
    if pos + pat.size > stop then none
    else if d.get! pos == pat.get! 0 && d.get! (pos + 5) == pat.get! 5 &&
        (List.range pat.size).all (fun i => d.get! (pos + i) == pat.get! i) then some pos
    else findSub d pat stop fuel (pos + 1)

def algoParams (algo : Option TVal) : ByteArray × ByteArray :=
  -- EncryptionAlgorithm union: 1 = AES_GCM_V1 {1: aad_prefix, 2: aad_file_unique}, 2 = AES_GCM_CTR_V1 (same fields)
  let v := match algo with
    | some a => (match a.field? 1 with | some x => some x | none => a.field? 2)
    | none => none
  match v with
  | some s => (TVal.bytes (s.field? 1), TVal.bytes (s.field? 2))
  | none => (ByteArray.empty, ByteArray.empty)

def magicOf (d : ByteArray) (off : Nat) : String := String.ofList ((List.range 4).map (fun i => Char.ofNat (d.get! (off + i)).toNat))

/-- thrift field ids as in /repo/format/parquet.go: `FileCryptoMetaData` 1 = encryption_algorithm;
    `FileMetaData` 4 = row_groups, 8 = encryption_algorithm; `RowGroup` 1 = columns; `ColumnChunk` 4, 5 =
    offset_index_offset / length, 6, 7 = column_index_offset / length, 9 = encrypted_column_metadata.
    28 = `minEnv - 4`: nonce + tag, the least a length prefix can announce. -/
def walk (d : ByteArray) : Except String Walk := do
  let n := d.size
  if n < 12 then throw "file shorter than magic + footer length + magic"
  let head := magicOf d 0
  let tail := magicOf d (n - 4)
  if head != tail then throw s!"magic {head} at the start, {tail} at the end"
  let flen := le d (n - 8) 4
  if flen + 12 > n then throw s!"footer length {flen}"
  let fstart := n - 8 - flen
  let dataMods ← chain d fstart (n + 1) 4 []   -- from behind the magic; fewer than `n` envelopes fit
  if head == "PARE" then
    let (cm, pos) ← readStruct d fstart
    if pos + 4 > n - 8 then throw "no footer envelope after FileCryptoMetaData"
    let l := le d pos 4
    let probs := (if l < 28 then ["footer envelope shorter than nonce+tag"] else []) ++
      (if pos + 4 + l != n - 8 then [s!"footer envelope ends at {pos + 4 + l}, footer region at {n - 8}"] else [])
    let (pfx, fu) := algoParams (cm.field? 1)
    return { encFooter := true, footerStart := fstart, plainLen := pos - fstart, aadPrefix := pfx, fileUnique := fu,
             dataMods := dataMods, footerMods := [(pos, 4 + l)], problems := probs }
  else if head == "PAR1" then
    let (md, pos) ← readStruct d fstart
    if n - 8 - pos != 28 then throw s!"plaintext footer followed by {n - 8 - pos} bytes, want a 28-byte signature"
    let (pfx, fu) := algoParams (md.field? 8)
    let mut mods : List Env := []
    let mut probs : List String := []
    let mut gi := 0
    let mut from_ := fstart      -- the chunks are serialised in order: search on from the last hit
    for rg in TVal.listD (md.field? 4) do
      let mut ci := 0
      for cc in TVal.listD (rg.field? 1) do
        let ecm := TVal.bytes (cc.field? 9)
        if ecm.size < minEnv then
          probs := s!"rg {gi} col {ci}: no encrypted_column_metadata envelope" :: probs
        else if le ecm 0 4 + 4 != ecm.size then
          probs := s!"rg {gi} col {ci}: encrypted_column_metadata of {ecm.size} bytes with length prefix {le ecm 0 4}" :: probs
        else
          match findSub d ecm pos (pos - fstart + 1) from_ with
          | some at_ =>
            mods := (at_, ecm.size) :: mods
            from_ := at_ + ecm.size
          | none => probs := s!"rg {gi} col {ci}: encrypted_column_metadata not found in the footer bytes" :: probs
        for (offF, lenF, what) in [(6, 7, "column index"), (4, 5, "offset index")] do
          let off := TVal.nat (cc.field? offF)
          let len := TVal.nat (cc.field? lenF)
          if off != 0 && !(dataMods.contains (off, len)) then
            probs := s!"rg {gi} col {ci}: {what} reference {off}+{len} is not an envelope of the chain" :: probs
        ci := ci + 1
      gi := gi + 1
    return { encFooter := false, footerStart := fstart, plainLen := pos - fstart, aadPrefix := pfx, fileUnique := fu,
             dataMods := dataMods, footerMods := mods.reverse, problems := probs.reverse }
  else throw s!"magic {head}"

end PqModel.EncWalk
