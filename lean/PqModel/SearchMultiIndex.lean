import PqModel.SearchMulti
import PqModel.SearchPages

/-! # `multiColumnIndex` / `multiOffsetIndex` (multi_row_group.go): every accessor, every `int` page number

`SearchMulti.lean` mirrors what `Find` reads of a `multiColumnIndex` (NullPage / MinValue / MaxValue for the page
numbers `0 .. NumPages()-1`, the recomputed order flags). This file mirrors `mapPageIndex` a second time, as the Go
code computes it, to cover the rest of the two index views (`multiAt_eq_view` ties the two mirrors together):

* MIRROR `mapIdx` / `mapIdxGo`: `mapPageIndex` — the member NUMBER and the local page for ANY `int` page number
  (negative and past-the-end numbers take the fallback branch), shared by `multiColumnIndex.mapPageIndex` and
  `multiOffsetIndex.mapPageIndex` (two copies of the same loop);
* MIRROR `multiAt`: an accessor that forwards to the member (`NullCount`, `NullPage`, `MinValue`, `MaxValue`,
  `Offset`, `CompressedPageSize`); `none` = the member is asked for a page it does not have (the file-backed
  indexes panic with an index out of range);
* MIRROR `rowOffsetsFrom` / `multiFirstRowAt`: `multiOffsetIndex.FirstRowIndex` = the member's local first row plus
  the cumulative row count of the members before it;
* SPEC: `List.flatten` of the member lists; `shiftedRows` (each member's first-row list shifted by the rows before it).
 -/
namespace PqModel.Search

/-- multi_row_group.go:364-369 (`multiColumnIndex.mapPageIndex`) = :499-504 (`multiOffsetIndex.mapPageIndex`):
    `for i := range len(m.offsets)-1 { if pageIndex >= m.offsets[i] && pageIndex < m.offsets[i+1] { return i, pageIndex - m.offsets[i] } }`
    with `offsets[i+1] = offsets[i] + indexes[i].NumPages()` (:220-224, :247-251). `ns` = the page counts of the
    members from number `i` on, `off` = `offsets[i]`. -/
def mapIdx : List Nat → Nat → Nat → Int → Option (Nat × Nat)
  | [], _, _, _ => none
  | n :: ns, i, off, p =>
    if (off : Int) ≤ p ∧ p < ((off + n : Nat) : Int) then some (i, (p - (off : Int)).toNat)
    else mapIdx ns (i + 1) (off + n) p

/-- multi_row_group.go:364-379 / :499-514 with the out-of-bounds branch: "return last valid position" = the last
    page of the LAST member when that member has a page, else `(0, 0)` -/
def mapIdxGo (ns : List Nat) (p : Int) : Nat × Nat :=
  match mapIdx ns 0 0 p with
  | some r => r
  | none => if 0 < ns.length ∧ 0 < ns.getLastD 0 then (ns.length - 1, ns.getLastD 0 - 1) else (0, 0)

/-- multi_row_group.go:381-399, :516-530 `m.indexes[chunkIndex].X(localIndex)`; `ls` = what accessor `X` answers
    for the pages of each member (`NumPages()` of a member = the length of its list); `none` = out of range in the
    member -/
def multiAt {α} (ls : List (List α)) (p : Int) : Option α :=
  let r := mapIdxGo (ls.map List.length) p
  (ls.getD r.1 [])[r.2]?

/-- multi_row_group.go:259-273: `rowOffsets[i+1] = rowOffsets[i] + numRows(i)`; `acc` = `rowOffsets[i]` -/
def rowOffsetsFrom : Int → List Int → List Int
  | acc, [] => [acc]
  | acc, n :: ns => acc :: rowOffsetsFrom (acc + n) ns

/-- multi_row_group.go:526-530 `FirstRowIndex`: `m.rowOffsets[chunkIndex] + m.indexes[chunkIndex].FirstRowIndex(localIndex)`
    (`int64` additions are modelled on `Int`: no wraparound) -/
def multiFirstRowAt (rows : List (List Int)) (numRows : List Int) (p : Int) : Option Int :=
  let r := mapIdxGo (rows.map List.length) p
  ((rows.getD r.1 [])[r.2]?).map (fun x => (rowOffsetsFrom 0 numRows).getD r.1 0 + x)

/-- each member's first-row list shifted by the number of rows of the members before it, one after the other
    (`ns` = the members' row counts; a missing count reads as 0, the theorems assume one count per member) -/
def shiftedRows : List (List Int) → List Int → Int → List Int
  | [], _, _ => []
  | r :: rs, ns, acc => r.map (acc + ·) ++ shiftedRows rs ns.tail (acc + ns.headD 0)

theorem mapIdx_cons_nat (n : Nat) (ns : List Nat) (i off q : Nat) :
    mapIdx (n :: ns) i off (q : Int) =
      if off ≤ q ∧ q < off + n then some (i, q - off) else mapIdx ns (i + 1) (off + n) (q : Int) := by
  simp only [mapIdx, Int.ofNat_le, Int.ofNat_lt, Int.toNat_sub]

theorem mapIdx_flatten {α} : ∀ (ls : List (List α)) (i off p : Nat), p < ls.flatten.length →
    ∃ k l, mapIdx (ls.map List.length) i off ((off + p : Nat) : Int) = some (i + k, l) ∧
      k < ls.length ∧ (ls.getD k [])[l]? = ls.flatten[p]?
  | [], _, _, p, hp => absurd hp (Nat.not_lt_zero p)
  | a :: ls, i, off, p, hp => by
    rw [List.map_cons, mapIdx_cons_nat, List.flatten_cons]
    by_cases hlt : p < a.length
    · rw [if_pos ⟨Nat.le_add_right .., Nat.add_lt_add_left hlt off⟩, Nat.add_sub_cancel_left]
      exact ⟨0, p, rfl, Nat.zero_lt_succ _, (List.getElem?_append_left hlt).symm⟩
    · have hge : a.length ≤ p := Nat.le_of_not_lt hlt
      rw [List.flatten_cons, List.length_append] at hp
      obtain ⟨k, l, h1, h2, h3⟩ := mapIdx_flatten ls (i + 1) (off + a.length) (p - a.length)
        (Nat.sub_lt_left_of_lt_add hge hp)
      rw [Nat.add_assoc, Nat.add_sub_cancel' hge, Nat.add_right_comm i 1 k] at h1
      rw [if_neg fun h => hlt (Nat.lt_of_add_lt_add_left h.2)]
      exact ⟨k + 1, l, h1, Nat.succ_lt_succ h2, h3.trans (List.getElem?_append_right hge).symm⟩

theorem multiAt_flatten {α} (ls : List (List α)) (p : Nat) (hp : p < ls.flatten.length) :
    multiAt ls (p : Int) = ls.flatten[p]? := by
  obtain ⟨k, l, h1, _, h3⟩ := mapIdx_flatten ls 0 0 p hp
  simp only [Nat.zero_add] at h1
  simp only [multiAt, mapIdxGo, h1]
  exact h3

theorem mapIdx_none (ns : List Nat) (i off : Nat) (p : Int) (h : p < (off : Int) ∨ ((off + ns.sum : Nat) : Int) ≤ p) :
    mapIdx ns i off p = none := by
  fun_induction mapIdx ns i off p with
  | case1 => rfl
  | case2 n ns i off p hin => simp only [List.sum_cons] at h; omega
  | case3 n ns i off p hout ih => exact ih (by simp only [List.sum_cons] at h; omega)

/-- the out-of-bounds branch: NOT the last page of the multi index when the trailing members are empty
    (`fallback_not_last_page`) -/
theorem multiAt_fallback {α} (ls : List (List α)) (p : Int) (hp : p < 0 ∨ (ls.flatten.length : Int) ≤ p) :
    multiAt ls p = if ls.getLastD [] ≠ [] then (ls.getLastD []).getLast? else (ls.headD [])[0]? := by
  have hnone : mapIdx (ls.map List.length) 0 0 p = none :=
    mapIdx_none _ 0 0 p (by rw [List.length_flatten] at hp; simpa using hp)
  simp only [multiAt, mapIdxGo, hnone]
  rcases List.eq_nil_or_concat ls with rfl | ⟨l', a, h⟩
  · rfl
  · -- the last member is `a`, member number `l'.length`
    rw [List.concat_eq_append] at h
    subst h
    have hlast : (l' ++ [a]).getLastD [] = a := by simp
    have hmap : ((l' ++ [a]).map List.length).getLastD 0 = a.length := by simp
    have hget : (l' ++ [a]).getD l'.length [] = a := by simp [List.getD_eq_getElem?_getD]
    rw [hlast, hmap, List.length_map, List.length_append, List.length_singleton, Nat.add_sub_cancel]
    by_cases ha : a = []
    · subst ha
      cases l' <;> simp
    · have hpos : 0 < a.length := List.length_pos_iff.mpr ha
      simp only [Nat.succ_pos, hpos, and_self, if_true, ne_eq, ha, not_false_eq_true, hget, List.getLast?_eq_getElem?]

/-- (pages a, b) (no page): `NumPages()` = 2, and the accessor asked for page 2 (or -1) answers page 0 (`a`), not
    the last valid page `b`; with (no page) (a) (no page) it asks member 0 for a page it does not have -/
theorem fallback_not_last_page :
    multiAt [[10, 20], ([] : List Nat)] 2 = some 10 ∧ multiAt [[10, 20], ([] : List Nat)] (-1) = some 10 ∧
    multiAt [[10, 20]] 2 = some 20 ∧ multiAt [([] : List Nat), [10], []] 1 = none := by decide +kernel

theorem rowOffsetsFrom_getD : ∀ (ns : List Int) (acc : Int) (k : Nat), k ≤ ns.length →
    (rowOffsetsFrom acc ns).getD k 0 = acc + (ns.take k).sum
  | [], _, 0, _ => (Int.add_zero _).symm
  | _ :: _, _, 0, _ => (Int.add_zero _).symm
  | n :: ns, acc, k + 1, h => by
    rw [rowOffsetsFrom, List.getD_cons_succ, List.take_succ_cons, List.sum_cons,
      rowOffsetsFrom_getD ns (acc + n) k (Nat.le_of_succ_le_succ h), Int.add_assoc]

/-! `FirstRowIndex` is a forwarding accessor too: over the members' first-row lists, each shifted by its entry of
`rowOffsets`. -/

theorem shiftedRows_eq_flatten : ∀ (rows : List (List Int)) (ns : List Int) (acc : Int), ns.length = rows.length →
    shiftedRows rows ns acc = (List.zipWith (fun r o => r.map (o + ·)) rows (rowOffsetsFrom acc ns)).flatten
  | [], _, _, _ => by rw [List.zipWith_nil_left]; rfl
  | r :: rows, n :: ns, acc, hn => by
    rw [shiftedRows, rowOffsetsFrom, List.zipWith_cons_cons, List.flatten_cons, List.tail_cons, List.headD_cons,
      shiftedRows_eq_flatten rows ns (acc + n) (Nat.succ.inj hn)]

theorem shifted_lengths : ∀ (rows : List (List Int)) (ns : List Int) (acc : Int), ns.length = rows.length →
    (List.zipWith (fun r o => r.map (o + ·)) rows (rowOffsetsFrom acc ns)).map List.length = rows.map List.length
  | [], _, _, _ => by rw [List.zipWith_nil_left]
  | r :: rows, n :: ns, acc, hn => by
    rw [rowOffsetsFrom, List.zipWith_cons_cons, List.map_cons, List.map_cons, List.length_map,
      shifted_lengths rows ns (acc + n) (Nat.succ.inj hn)]

theorem shifted_getD : ∀ (rows : List (List Int)) (ns : List Int) (acc : Int) (k : Nat), ns.length = rows.length →
    (List.zipWith (fun r o => r.map (o + ·)) rows (rowOffsetsFrom acc ns)).getD k [] =
      (rows.getD k []).map ((rowOffsetsFrom acc ns).getD k 0 + ·)
  | [], _, _, _, _ => by rw [List.zipWith_nil_left]; rfl
  | _ :: _, _ :: _, _, 0, _ => rfl
  | r :: rows, n :: ns, acc, k + 1, hn => by
    rw [rowOffsetsFrom, List.zipWith_cons_cons, List.getD_cons_succ, List.getD_cons_succ, List.getD_cons_succ]
    exact shifted_getD rows ns (acc + n) k (Nat.succ.inj hn)

theorem multiFirstRowAt_shifted (rows : List (List Int)) (numRows : List Int) (hn : numRows.length = rows.length)
    (p : Nat) (hp : p < rows.flatten.length) :
    multiFirstRowAt rows numRows (p : Int) = (shiftedRows rows numRows 0)[p]? := by
  have hlen := shifted_lengths rows numRows 0 hn
  rw [shiftedRows_eq_flatten rows numRows 0 hn,
    ← multiAt_flatten _ p (by rw [List.length_flatten, hlen, ← List.length_flatten]; exact hp)]
  simp only [multiAt, multiFirstRowAt, hlen, shifted_getD rows numRows 0 _ hn, List.getElem?_map]

def MemberRowsOK (r : List Int) (n : Int) : Prop :=
  isAsc r = true ∧ (∀ x ∈ r, 0 ≤ x ∧ x < n) ∧ 0 ≤ n

theorem shiftedRows_ge : ∀ (rows : List (List Int)) (ns : List Int) (acc : Int), ns.length = rows.length →
    (∀ i, i < rows.length → MemberRowsOK (rows.getD i []) (ns.getD i 0)) →
    ∀ y ∈ shiftedRows rows ns acc, acc ≤ y
  | [], _, _, _, _, _, hy => nomatch hy
  | r :: rows, n :: ns, acc, hn, hok, y, hy => by
    have h0 : MemberRowsOK r n := hok 0 (Nat.zero_lt_succ _)
    rw [shiftedRows, List.mem_append] at hy
    cases hy with
    | inl hy =>
      obtain ⟨x, hx, rfl⟩ := List.mem_map.mp hy
      exact Int.le_add_of_nonneg_right (h0.2.1 x hx).1
    | inr hy =>
      exact Int.le_trans (Int.le_add_of_nonneg_right h0.2.2)
        (shiftedRows_ge rows ns (acc + n) (Nat.succ.inj hn) (fun i hi => hok (i + 1) (Nat.succ_lt_succ hi)) y hy)

/-- what the `sort.Search`-by-`FirstRowIndex` of `SeekToRow` and the row range of a page found by `Find` rely on -/
theorem shiftedRows_sorted : ∀ (rows : List (List Int)) (ns : List Int) (acc : Int), ns.length = rows.length →
    (∀ i, i < rows.length → MemberRowsOK (rows.getD i []) (ns.getD i 0)) →
    isAsc (shiftedRows rows ns acc) = true
  | [], _, _, _, _ => rfl
  | r :: rows, n :: ns, acc, hn, hok => by
    have h0 : MemberRowsOK r n := hok 0 (Nat.zero_lt_succ _)
    have hrest : ∀ i, i < rows.length → MemberRowsOK (rows.getD i []) (ns.getD i 0) :=
      fun i hi => hok (i + 1) (Nat.succ_lt_succ hi)
    rw [shiftedRows]
    refine isAsc_append_of_le (isAsc_map_add acc h0.1)
      (shiftedRows_sorted rows ns (acc + n) (Nat.succ.inj hn) hrest) fun x hx y hy => ?_
    -- a row of this member is below its row count, the rows of the later members start there
    obtain ⟨x0, hx0, rfl⟩ := List.mem_map.mp hx
    exact Int.le_trans (Int.le_of_lt (Int.add_lt_add_left (h0.2.1 x0 hx0).2 acc))
      (shiftedRows_ge rows ns (acc + n) (Nat.succ.inj hn) hrest y hy)

/-- for ANY members: a member may have no page and still claim ASCENDING (an empty row group; the loop skips it) -/
theorem multiAscending_sound_any (z : Int) (cs : List Chunk)
    (hwf : ∀ c ∈ cs, c.WF)
    (hnull : (concatNulls cs).any id = false)
    (hbnd : ∀ c ∈ cs, c.nulls.any id = false → hasNull c.ix = false)
    (htruth : ∀ c ∈ cs, c.asc = true →
      isAsc (c.ix.mins.map (stored z)) = true ∧ isAsc (c.ix.maxs.map (stored z)) = true)
    (hle : ∀ c ∈ cs, ∀ i a b, i < c.n → minAt c.ix i = some a → maxAt c.ix i = some b → a ≤ b)
    (hflag : multiIsAscending z cs = true) :
    ∃ mn mx, Ascending (concat cs) mn mx := by
  rw [multiIsAscending, Bool.and_eq_true, Bool.and_eq_true, List.all_eq_true] at hflag
  have hnn := no_null_chunks cs hnull
  have hbn : ∀ c ∈ cs, hasNull c.ix = false := fun c hc => hbnd c hc (hnn c hc)
  -- `min ≤ max` on the stored values: without a null bound they are the bounds
  have hle' : ∀ c ∈ cs, ∀ i, i < c.n → stored z (minAt c.ix i) ≤ stored z (maxAt c.ix i) := fun c hc i hi => by
    obtain ⟨⟨a, ha⟩, b, hb'⟩ := bounds_of_hasNull (hwf c hc).1 (hbn c hc) hi
    rw [ha, hb']
    exact hle c hc i a b hi ha hb'
  obtain ⟨h1, h2, _⟩ := seams_sorted z cs none hwf hnn (fun c hc => htruth c hc (hflag.1.2 c hc)) hle' hflag.2
  refine ascending_of_isAsc z z (concat cs) (concat_maxs_length cs hwf) ?_ ?_ (hasNull_concat cs hbn) ?_
  · rw [concat, List.map_flatMap]; exact h1
  · rw [concat, List.map_flatMap]; exact h2
  · intro p a b hp ha hb
    rw [concat_n] at hp
    obtain ⟨c, l, _, hc, hlt, h4, h5, _⟩ := mapPage_concat cs 0 p hwf hp
    exact hle c hc l a b hlt (h4.trans ha) (h5.trans hb)

theorem findMulti_first (nf : Bool) (z : Int) (cs : List Chunk) (v : Int)
    (hwf : ∀ c ∈ cs, c.WF)
    (hbnd : ∀ c ∈ cs, c.nulls.any id = false → hasNull c.ix = false)
    (htruth : ∀ c ∈ cs, c.asc = true →
      isAsc (c.ix.mins.map (stored z)) = true ∧ isAsc (c.ix.maxs.map (stored z)) = true)
    (hle : ∀ c ∈ cs, ∀ i a b, i < c.n → minAt c.ix i = some a → maxAt c.ix i = some b → a ≤ b) :
    IsFirst (concat cs).n (fun p => contains nf (concat cs) p v) (findMulti nf z cs v) :=
  dispatch_first nf _ (concat cs) v fun hc => by
    rw [Bool.and_eq_true, Bool.not_eq_true'] at hc
    exact multiAscending_sound_any z cs hwf hc.2 hbnd htruth hle hc.1

/-- `findMulti_first` for `Find` as the code runs it, through `mapPageIndex` -/
theorem findMulti_no_miss_any (nf : Bool) (z : Int) (cs : List Chunk) (v : Int)
    (hwf : ∀ c ∈ cs, c.WF)
    (hbnd : ∀ c ∈ cs, c.nulls.any id = false → hasNull c.ix = false)
    (htruth : ∀ c ∈ cs, c.asc = true →
      isAsc (c.ix.mins.map (stored z)) = true ∧ isAsc (c.ix.maxs.map (stored z)) = true)
    (hle : ∀ c ∈ cs, ∀ i a b, i < c.n → minAt c.ix i = some a → maxAt c.ix i = some b → a ≤ b) :
    let r := findMultiGo nf z cs v
    r ≤ (concat cs).n ∧ (r < (concat cs).n → contains nf (concat cs) r v = true) ∧
    (∀ p, p < (concat cs).n → contains nf (concat cs) p v = true → r ≤ p) := by
  rw [findMultiGo_eq nf z cs v hwf]
  exact findMulti_first nf z cs v hwf hbnd htruth hle

theorem total_append (pre post : List Chunk) : total (pre ++ post) = total pre + total post := by
  rw [total, total, total, List.map_append, List.sum_append]

theorem getD_flatMap_member {α} (f : Chunk → List α) (d : α) (pre post : List Chunk) (c : Chunk) (l : Nat)
    (hpre : ∀ c' ∈ pre, (f c').length = c'.n) (hl : l < (f c).length) :
    ((pre ++ c :: post).flatMap f).getD (total pre + l) d = (f c).getD l d := by
  have n := length_flatMap f pre hpre
  rw [List.flatMap_append, List.flatMap_cons, ListFacts.getD_append_right d (n ▸ Nat.le_add_right ..), n,
    Nat.add_sub_cancel_left, ListFacts.getD_append_left d hl]

theorem contains_concat_member (nf : Bool) (pre post : List Chunk) (c : Chunk) (l : Nat) (v : Int)
    (hwf : ∀ c' ∈ pre ++ c :: post, c'.WF) (hl : l < c.n) :
    contains nf (concat (pre ++ c :: post)) (total pre + l) v = contains nf c.ix l v := by
  have hpre : ∀ c' ∈ pre, c'.WF := fun c' hc' => hwf c' (List.mem_append_left _ hc')
  have hc : c.WF := hwf c (List.mem_append_right _ (List.mem_cons_self ..))
  have hm : minAt (concat (pre ++ c :: post)) (total pre + l) = minAt c.ix l :=
    getD_flatMap_member (·.ix.mins) none pre post c l (fun _ _ => rfl) hl
  have hx : maxAt (concat (pre ++ c :: post)) (total pre + l) = maxAt c.ix l :=
    getD_flatMap_member (·.ix.maxs) none pre post c l (fun c' hc' => (hpre c' hc').1) (hc.1 ▸ hl)
  rw [contains, contains, hm, hx]

theorem findMulti_no_miss_member (nf : Bool) (z : Int) (pre post : List Chunk) (c : Chunk) (l : Nat) (v : Int)
    (hwf : ∀ c' ∈ pre ++ c :: post, c'.WF)
    (hbnd : ∀ c' ∈ pre ++ c :: post, c'.nulls.any id = false → hasNull c'.ix = false)
    (htruth : ∀ c' ∈ pre ++ c :: post, c'.asc = true →
      isAsc (c'.ix.mins.map (stored z)) = true ∧ isAsc (c'.ix.maxs.map (stored z)) = true)
    (hle : ∀ c' ∈ pre ++ c :: post, ∀ i a b, i < c'.n → minAt c'.ix i = some a → maxAt c'.ix i = some b → a ≤ b)
    (hl : l < c.n) (hv : contains nf c.ix l v = true) :
    let cs := pre ++ c :: post
    let r := findMultiGo nf z cs v
    r ≤ total pre + l ∧ r < total cs ∧ contains nf (concat cs) r v = true := by
  intro cs r
  have hfirst : IsFirst (concat cs).n (fun p => contains nf (concat cs) p v) r :=
    findMulti_no_miss_any nf z cs v hwf hbnd htruth hle
  have ht : total pre + l < total cs := by
    rw [total_append, total_cons]
    exact Nat.add_lt_add_left (Nat.lt_of_lt_of_le hl (Nat.le_add_right ..)) _
  rw [concat_n] at hfirst
  exact hfirst.of_hit ht ((contains_concat_member nf pre post c l v hwf hl).trans hv)

/-- MIRROR: what a member chunk written by the writer shows: the index of its page values (`indexOfPages`),
    null page = no bounds, ASCENDING / DESCENDING = the boundary order the indexer computed -/
def chunkOfPages {α} (bnd : List α → Option (α × α)) (key : α → Int) (z : Int) (pages : List (List (Option α))) : Chunk :=
  let ix := indexOfPages bnd key pages
  { nulls := ix.mins.map Option.isNone, ix := ix, asc := writerOrder z ix == 1, desc := writerOrder z ix == 2 }

theorem pageBound_isNone {α} (bnd : List α → Option (α × α)) (key : α → Int) (p : List (Option α)) :
    (pageBound bnd key p).2.isNone = (pageBound bnd key p).1.isNone := by
  unfold pageBound
  split <;> rfl

theorem chunkOfPages_wf {α} (bnd : List α → Option (α × α)) (key : α → Int) (z : Int) (pages : List (List (Option α))) :
    (chunkOfPages bnd key z pages).WF := by
  simp [chunkOfPages, Chunk.WF, indexOfPages]

/-- a page's two bounds are null together, so the `NullPage` list of `chunkOfPages` (null min) speaks for both -/
theorem chunkOfPages_hbnd {α} (bnd : List α → Option (α × α)) (key : α → Int) (z : Int) (pages : List (List (Option α)))
    (h : (chunkOfPages bnd key z pages).nulls.any id = false) : hasNull (chunkOfPages bnd key z pages).ix = false := by
  have hmin : (indexOfPages bnd key pages).mins.any Option.isNone = false := by
    rw [← h, chunkOfPages, List.any_map]; rfl
  have hmax : (indexOfPages bnd key pages).maxs.any Option.isNone = (indexOfPages bnd key pages).mins.any Option.isNone := by
    rw [indexOfPages, List.any_map, List.any_map]
    exact congrArg pages.any (funext fun p => pageBound_isNone bnd key p)
  rw [show (chunkOfPages bnd key z pages).ix = indexOfPages bnd key pages from rfl, hasNull, hmax, hmin]; rfl

theorem findMulti_no_miss_values {α} (nf : Bool) (z : Int) {bnd : List α → Option (α × α)} {key : α → Int}
    (hb : BoundsFor bnd key) (pre post : List (List (List (Option α)))) (pages : List (List (Option α)))
    (l : Nat) (hl : l < pages.length) (x : α) (hx : some x ∈ pages.getD l []) :
    let cs := (pre ++ pages :: post).map (chunkOfPages bnd key z)
    let r := findMultiGo nf z cs (key x)
    r ≤ total (pre.map (chunkOfPages bnd key z)) + l ∧ r < total cs ∧ contains nf (concat cs) r (key x) = true := by
  have := findMulti_no_miss_member nf z (pre.map (chunkOfPages bnd key z)) (post.map (chunkOfPages bnd key z))
    (chunkOfPages bnd key z pages) l (key x)
  simp only [← List.map_cons, ← List.map_append] at this
  exact this (List.forall_mem_map.mpr fun pg _ => chunkOfPages_wf bnd key z pg)
    (List.forall_mem_map.mpr fun pg _ => chunkOfPages_hbnd bnd key z pg)
    (List.forall_mem_map.mpr fun pg _ ha =>
      have hw : writerOrder z (indexOfPages bnd key pg) = 1 := beq_iff_eq.mp ha
      ⟨(writerOrder2_one z z _ hw).1, (writerOrder2_one z z _ hw).2.1⟩)
    (List.forall_mem_map.mpr fun pg _ => indexOfPages_le hb pg)
    (Nat.lt_of_lt_of_eq hl (indexOfPages_n bnd key pages).symm) (contains_of_mem nf hb pages l hl x hx)

theorem multiAt_map {α} (f : Chunk → List α) (d : α) (cs : List Chunk) (hlen : ∀ c ∈ cs, (f c).length = c.n)
    (p : Nat) (hp : p < total cs) : multiAt (cs.map f) (p : Int) = some ((cs.flatMap f).getD p d) := by
  have hlt : p < (cs.flatMap f).length := (length_flatMap f cs hlen).symm ▸ hp
  rw [ListFacts.getD_of_lt d hlt, ← List.getElem?_eq_getElem hlt]
  rw [List.flatMap_def] at hlt ⊢
  exact multiAt_flatten _ p hlt

theorem multiAt_eq_view (cs : List Chunk) (hwf : ∀ c ∈ cs, c.WF) (p : Nat) (hp : p < total cs) :
    multiAt (cs.map (·.ix.mins)) (p : Int) = some (multiMinAt cs p) ∧
    multiAt (cs.map (·.ix.maxs)) (p : Int) = some (multiMaxAt cs p) ∧
    multiAt (cs.map (·.nulls)) (p : Int) = some (multiNullAt cs p) := by
  obtain ⟨h1, h2, h3⟩ := multiAt_view cs hwf p hp
  rw [h1, h2, h3]
  exact ⟨multiAt_map (·.ix.mins) none cs (fun _ _ => rfl) p hp,
    multiAt_map (·.ix.maxs) none cs (fun c hc => (hwf c hc).1) p hp,
    multiAt_map (·.nulls) false cs (fun c hc => (hwf c hc).2) p hp⟩

end PqModel.Search
