import PqModel.Slots
import PqModel.Basics

/-! # The `ConcurrentRowGroupWriter` protocol: BeginRowGroup / fill / Flush / Commit / reuse, with the
row-group ordinal that an encrypting writer puts into the AAD of every page

MIRROR of writer.go at the granularity of calls:

* `BeginRowGroup` (writer.go:678-680, `newConcurrentRowGroupWriter` :742-897): a new set of column
  writers; on an encrypting writer `c.awaitOrdinal = true` (:892) — the row-group ordinal is part of every page AAD and only known at
  Commit, so the column writers keep their values buffered until then.
* `ColumnWriter.Flush` (writer.go:2154-2157): `if c.columnBuffer == nil || c.awaitOrdinal { return nil }`,
  otherwise the buffered values become a page, sealed with `c.rowGroupOrdinal` (makeAAD, :2286,:2296,
  :2605,:2614). Reached from `rg.Flush()` (:971) and from a full page buffer (:2434).
* `writer.writeRowGroup` (writer.go:1524-1573 for the part modelled): nothing happens for an empty row
  group (:1528-1531, before the `defer`); `rowGroupIndex := len(w.rowGroups)` (:1533); every column gets
  `rowGroupOrdinal = rowGroupIndex`, `awaitOrdinal = false` (:1562-1566) and is flushed (:1570); the pages
  are copied to the file and the metadata appended to `w.rowGroups`; the deferred block (:1541-1558)
  resets the row group, sets `rowGroupOrdinal = len(w.rowGroups)` for the next use, **restores
  `awaitOrdinal = (rg != w.currentRowGroup)`** (:1548), and gives the writer's own row group the same
  next ordinal (:1552-1556).
* `Commit` (writer.go:1007-1012) = `rg.writer.flush()` (the writer's own pending rows become a row
  group first, :1284-1287) then `writeRowGroup(rg)`.

The parameter `restore` is line 1548: `true` is the code as it is; `false` is the slip in which the
flag stays `false` after the first Commit (`Props.C15.rowgroups_slip_unreadable`).

SPEC side (`S`, `sstep`): what the documentation promises — row groups may be filled concurrently,
are committed serially, a committed row group writer "will be empty and can be reused", pending rows
of the parent writer are flushed before the committed row group. Its state is the rows written to
each row group writer since its last Commit; page boundaries do not exist in it. The reader side of
the Parquet encryption spec (AAD = prefix ‖ file id ‖ module type ‖ row group ordinal ‖ column ordinal
‖ page ordinal) is `readable`: a page of the j-th row group of the file authenticates only if it was
sealed with ordinal j. -/
namespace PqModel.RowGroupProto

/-- the column writers of one row group (a `ConcurrentRowGroupWriter`, or `w.currentRowGroup`) -/
structure Rg (X : Type) where
  await : Bool                  -- ColumnWriter.awaitOrdinal
  ord : Nat                     -- ColumnWriter.rowGroupOrdinal
  buf : List X                  -- values in the column buffers, not yet in a page
  pages : List (Nat × List X)   -- sealed pages in the page buffer: (ordinal in the AAD, values)
deriving DecidableEq, Repr

abbrev Group (X : Type) := List (Nat × List X)

structure W (X : Type) where
  groups : List (Group X)       -- w.rowGroups (with the pages of each), in file order
  own : Rg X                    -- w.currentRowGroup
  rgs : List (Rg X)             -- the row group writers handed out by BeginRowGroup
deriving DecidableEq, Repr

inductive Ev (X : Type) where
  | begin                       -- w.BeginRowGroup()
  | fill (i : Nat) (x : X)      -- rg_i.WriteRows / ColumnWriter.WriteRowValues: one more row
  | flush (i : Nat)             -- page boundary in rg_i: rg_i.Flush() or a full page buffer
  | commit (i : Nat)            -- rg_i.Commit()
  | write (x : X)               -- w.Write: one more row in the writer's own row group
  | flushOwn                    -- page boundary in the writer's own row group
  | wflush                      -- w.Flush(): the writer's own row group is written
deriving DecidableEq, Repr

variable {X : Type}

def init : W X := { groups := [], own := { await := false, ord := 0, buf := [], pages := [] }, rgs := [] }

/-- writer.go:2154-2157 and the sealing of the page with `c.rowGroupOrdinal` -/
def flushRg (r : Rg X) : Rg X :=
  if r.await || r.buf.isEmpty then r else { r with pages := r.pages ++ [(r.ord, r.buf)], buf := [] }

/-- `totalRowCount() == 0` (writer.go:1528-1529): no buffered value and no sealed page (pages are sealed
    from non-empty buffers only) -/
def isEmpty (r : Rg X) : Bool := r.buf.isEmpty && r.pages.isEmpty

/-- writer.go:1524-1573; `isOwn` is `rg == w.currentRowGroup` -/
def writeRowGroup (restore : Bool) (groups : List (Group X)) (r : Rg X) (isOwn : Bool) :
    List (Group X) × Rg X :=
  if isEmpty r then (groups, r) else
  let r1 := flushRg { r with ord := groups.length, await := false }
  let groups' := groups ++ [r1.pages]
  (groups', { await := if restore then !isOwn else false, ord := groups'.length, buf := [], pages := [] })

def step (restore : Bool) (w : W X) : Ev X → W X
  | .begin => { w with rgs := w.rgs ++ [{ await := true, ord := 0, buf := [], pages := [] }] }
  | .fill i x =>
    match w.rgs[i]? with
    | none => w
    | some r => { w with rgs := w.rgs.set i { r with buf := r.buf ++ [x] } }
  | .flush i =>
    match w.rgs[i]? with
    | none => w
    | some r => { w with rgs := w.rgs.set i (flushRg r) }
  | .commit i =>
    match w.rgs[i]? with
    | none => w
    | some r =>
      let p1 := writeRowGroup restore w.groups w.own true   -- rg.writer.flush()
      let p2 := writeRowGroup restore p1.1 r false
      -- :1552-1556, in the deferred block: only when rg_i was not empty
      let own2 := if isEmpty r then p1.2 else { p1.2 with ord := p2.1.length }
      { groups := p2.1, own := own2, rgs := w.rgs.set i p2.2 }
  | .write x => { w with own := { w.own with buf := w.own.buf ++ [x] } }
  | .flushOwn => { w with own := flushRg w.own }
  | .wflush =>
    let p1 := writeRowGroup restore w.groups w.own true
    { w with groups := p1.1, own := p1.2 }

def run (restore : Bool) (es : List (Ev X)) : W X := es.foldl (step restore) init

structure S (X : Type) where
  out : List (List X)      -- the rows of each row group of the file, in file order
  ownPend : List X         -- rows written through the parent writer, not yet in the file
  pend : List (List X)     -- rows written to each row group writer since its last Commit
deriving DecidableEq, Repr

def emit (out : List (List X)) (p : List X) : List (List X) := if p.isEmpty then out else out ++ [p]

def sstep (s : S X) : Ev X → S X
  | .begin => { s with pend := s.pend ++ [[]] }
  | .fill i x =>
    match s.pend[i]? with
    | none => s
    | some p => { s with pend := s.pend.set i (p ++ [x]) }
  | .flush _ => s
  | .commit i =>
    match s.pend[i]? with
    | none => s
    | some p => { out := emit (emit s.out s.ownPend) p, ownPend := [], pend := s.pend.set i [] }
  | .write x => { s with ownPend := s.ownPend ++ [x] }
  | .flushOwn => s
  | .wflush => { s with out := emit s.out s.ownPend, ownPend := [] }

def srun (es : List (Ev X)) : S X := es.foldl sstep { out := [], ownPend := [], pend := [] }

/-- the rows of a row group of the file: its pages in order -/
def content (g : Group X) : List X := g.flatMap (·.2)

/-- reader side: every page of the j-th row group authenticates with row-group ordinal j -/
def readableFrom : Nat → List (Group X) → Bool
  | _, [] => true
  | j, g :: gs => g.all (fun p => p.1 == j) && readableFrom (j + 1) gs

def readable (gs : List (Group X)) : Bool := readableFrom 0 gs

theorem readableFrom_append (j : Nat) (gs : List (Group X)) (g : Group X) :
    readableFrom j (gs ++ [g]) = (readableFrom j gs && g.all (fun p => p.1 == j + gs.length)) := by
  induction gs generalizing j with
  | nil => simp [readableFrom]
  | cons h t ih =>
    simp only [List.cons_append, readableFrom, ih, List.length_cons, Bool.and_assoc]
    have : j + 1 + t.length = j + (t.length + 1) := by omega
    rw [this]

/-- the mirror state `w` and the spec state `s` after the same calls. The key clause is `rgs_wait`: a
    row group writer that was handed out waits for its ordinal and has sealed no page, so its rows
    are exactly its buffer (`rgs_buf`) and get the right ordinal at Commit. -/
structure Sim (w : W X) (s : S X) : Prop where
  groups_out : w.groups.map content = s.out
  groups_ok : readable w.groups = true
  own_await : w.own.await = false
  own_ord : w.own.ord = w.groups.length
  own_pages : ∀ p ∈ w.own.pages, p.1 = w.groups.length ∧ p.2 ≠ []
  own_pend : content w.own.pages ++ w.own.buf = s.ownPend
  rgs_buf : w.rgs.map (·.buf) = s.pend
  rgs_wait : ∀ r ∈ w.rgs, r.await = true ∧ r.pages = []

theorem content_append (a b : Group X) : content (a ++ b) = content a ++ content b := by
  simp [content]

theorem content_nil_iff {g : Group X} (h : ∀ p ∈ g, p.2 ≠ []) : content g = [] ↔ g = [] := by
  cases g with
  | nil => simp [content]
  | cons p t =>
    simp only [content, List.flatMap_cons, List.append_eq_nil_iff, reduceCtorEq, iff_false, not_and]
    intro hp
    exact absurd hp (h p (by simp))

theorem commit_pages (r : Rg X) (n : Nat) :
    (flushRg { r with ord := n, await := false }).pages =
      r.pages ++ (if r.buf.isEmpty then [] else [(n, r.buf)]) := by
  simp only [flushRg, Bool.false_or]
  split <;> simp

theorem content_commit_pages (r : Rg X) (n : Nat) :
    content (flushRg { r with ord := n, await := false }).pages = content r.pages ++ r.buf := by
  rw [commit_pages]
  split
  · rename_i h
    have : r.buf = [] := by simpa [List.isEmpty_iff] using h
    simp [this]
  · simp [content]

theorem all_commit_pages (r : Rg X) (n : Nat) (h : ∀ p ∈ r.pages, p.1 = n) :
    (flushRg { r with ord := n, await := false }).pages.all (fun p => p.1 == n) = true := by
  rw [commit_pages, List.all_append]
  have h1 : r.pages.all (fun p => p.1 == n) = true := by
    simp only [List.all_eq_true, beq_iff_eq]; exact h
  rw [h1]
  split <;> simp

theorem writeRowGroup_nonempty (restore : Bool) (groups : List (Group X)) (r : Rg X) (isOwn : Bool)
    (he : isEmpty r = false) :
    writeRowGroup restore groups r isOwn =
      (groups ++ [(flushRg { r with ord := groups.length, await := false }).pages],
       { await := if restore then !isOwn else false, ord := groups.length + 1, buf := [], pages := [] }) := by
  simp [writeRowGroup, he]

theorem writeRowGroup_empty (restore : Bool) (groups : List (Group X)) (r : Rg X) (isOwn : Bool)
    (he : isEmpty r = true) : writeRowGroup restore groups r isOwn = (groups, r) := by
  simp [writeRowGroup, he]

theorem isEmpty_iff {r : Rg X} (hp : ∀ q ∈ r.pages, q.2 ≠ []) :
    isEmpty r = true ↔ content r.pages ++ r.buf = [] := by
  simp only [isEmpty, Bool.and_eq_true, List.isEmpty_iff, List.append_eq_nil_iff, content_nil_iff hp]
  exact And.comm

/-- `writeRowGroup` on a row group whose sealed pages carry the next ordinal: its rows become the
    next row group of the file, unless there are none and nothing happens -/
theorem writeRowGroup_spec (restore : Bool) (groups : List (Group X)) (r : Rg X) (isOwn : Bool)
    (hp : ∀ q ∈ r.pages, q.1 = groups.length ∧ q.2 ≠ []) :
    (writeRowGroup restore groups r isOwn).1.map content =
      emit (groups.map content) (content r.pages ++ r.buf) ∧
    (readable groups = true → readable (writeRowGroup restore groups r isOwn).1 = true) ∧
    (if content r.pages ++ r.buf = [] then writeRowGroup restore groups r isOwn = (groups, r)
     else (writeRowGroup restore groups r isOwn).2 =
       { await := if restore then !isOwn else false,
         ord := (writeRowGroup restore groups r isOwn).1.length, buf := [], pages := [] }) := by
  have he := isEmpty_iff (fun q hq => (hp q hq).2)
  by_cases hc : content r.pages ++ r.buf = []
  · rw [writeRowGroup_empty _ _ _ _ (he.mpr hc)]
    simp [hc, emit]
  · rw [writeRowGroup_nonempty _ _ _ _ (Bool.eq_false_iff.mpr (mt he.mp hc))]
    refine ⟨?_, fun h2 => ?_, by simp [hc]⟩
    · simp [content_commit_pages, emit, hc]
    · unfold readable at h2 ⊢
      rw [readableFrom_append, h2, Nat.zero_add, Bool.true_and]
      exact all_commit_pages _ _ (fun q hq => (hp q hq).1)

/-- `w.Flush`, and the first half of `Commit` -/
theorem sim_wflush {w : W X} {s : S X} (h : Sim w s) :
    Sim (step true w .wflush) (sstep s .wflush) ∧
      (step true w .wflush).own.pages = [] ∧ (step true w .wflush).own.buf = [] := by
  obtain ⟨e1, e2, e3⟩ := writeRowGroup_spec true w.groups w.own true h.own_pages
  rw [h.own_pend, h.groups_out] at e1
  rw [h.own_pend] at e3
  by_cases hs : s.ownPend = []
  · -- nothing pending: nothing happens
    rw [if_pos hs] at e3
    have hempty := List.append_eq_nil_iff.mp (h.own_pend.trans hs)
    have hst : step true w .wflush = w := by simp only [step, e3]
    rw [e3] at e1
    rw [hst]
    exact ⟨{ h with groups_out := e1, own_pend := h.own_pend.trans hs },
      (content_nil_iff (fun q hq => (h.own_pages q hq).2)).mp hempty.1, hempty.2⟩
  · rw [if_neg hs] at e3
    simp only [step, sstep]
    refine ⟨{ h with groups_out := e1, groups_ok := e2 h.groups_ok, own_await := ?_, own_ord := ?_,
                     own_pages := ?_, own_pend := ?_ }, ?_, ?_⟩
    all_goals rw [e3]
    all_goals first | rfl | nofun

theorem sim_init : Sim (init : W X) { out := [], ownPend := [], pend := [] } := by
  constructor <;> simp [init, readable, readableFrom, content]

theorem getElem?_map_buf {rgs : List (Rg X)} {pend : List (List X)} (h : rgs.map (·.buf) = pend) (i : Nat) :
    pend[i]? = (rgs[i]?).map (·.buf) := by
  rw [← h, List.getElem?_map]

theorem sim_step {w : W X} {s : S X} (h : Sim w s) (e : Ev X) : Sim (step true w e) (sstep s e) := by
  cases e with
  | begin =>
    refine { h with rgs_buf := ?_, rgs_wait := ?_ }
    · simp only [step, sstep, List.map_append, h.rgs_buf, List.map_cons, List.map_nil]
    · intro r hr
      rcases List.mem_append.mp hr with hr | hr
      · exact h.rgs_wait r hr
      · cases List.mem_singleton.mp hr; exact ⟨rfl, rfl⟩
  | fill i x =>
    have hi := getElem?_map_buf h.rgs_buf i
    simp only [step, sstep, hi]
    cases hr : w.rgs[i]? with
    | none => exact h
    | some r =>
      refine { h with rgs_buf := ?_, rgs_wait := ?_ }
      · simp only [Option.map_some, List.map_set, ← h.rgs_buf]
      · intro r' hr'
        rcases List.mem_or_eq_of_mem_set hr' with hm | rfl
        · exact h.rgs_wait r' hm
        · exact h.rgs_wait r (List.mem_of_getElem? hr)
  | flush i =>
    simp only [step, sstep]
    cases hr : w.rgs[i]? with
    | none => exact h
    | some r =>
      -- a waiting row group writer seals nothing
      have hf : flushRg r = r := by simp [flushRg, (h.rgs_wait r (List.mem_of_getElem? hr)).1]
      simp only [hf, Slots.set_same hr]
      exact h
  | commit i =>
    have hi := getElem?_map_buf h.rgs_buf i
    simp only [step, sstep, hi]
    cases hr : w.rgs[i]? with
    | none => exact h
    | some r =>
      simp only [Option.map_some]
      obtain ⟨ha, hp⟩ := h.rgs_wait r (List.mem_of_getElem? hr)
      -- first the parent's pending rows (`rg.writer.flush()`), then the row group itself
      obtain ⟨h1, c1, c2⟩ := sim_wflush h
      have c1 : (writeRowGroup true w.groups w.own true).2.pages = [] := c1
      have c2 : (writeRowGroup true w.groups w.own true).2.buf = [] := c2
      have hemp : isEmpty r = true ↔ r.buf = [] := by simp [isEmpty, hp, List.isEmpty_iff]
      by_cases hb : r.buf = []
      · -- nothing was written to this writer: Commit is the parent's flush
        have he := hemp.mpr hb
        rw [writeRowGroup_empty _ _ _ _ he]
        simp only [he, if_true, Slots.set_same hr, hb, emit, List.isEmpty_nil]
        rw [Slots.set_same (hi.trans (by rw [hr, Option.map_some, hb]))]
        exact h1
      · -- its rows become the next row group; the writer is empty again and waits
        have he : isEmpty r = false := Bool.eq_false_iff.mpr (mt hemp.mp hb)
        obtain ⟨f1, f2, -⟩ :=
          writeRowGroup_spec true (writeRowGroup true w.groups w.own true).1 r false (by rw [hp]; nofun)
        rw [show content r.pages ++ r.buf = r.buf by simp [hp, content]] at f1
        rw [writeRowGroup_nonempty _ _ _ _ he] at f1 f2 ⊢
        simp only [he, Bool.false_eq_true, if_false]
        refine ⟨?_, f2 h1.groups_ok, h1.own_await, rfl, ?_, ?_, ?_, ?_⟩
        · rw [f1]; exact congrArg (emit · r.buf) h1.groups_out
        · intro q hq; rw [c1] at hq; cases hq
        · simp [c1, c2, content]
        · simp only [List.map_set, ← h.rgs_buf]
        · intro r' hr'
          rcases List.mem_or_eq_of_mem_set hr' with hm | rfl
          · exact h.rgs_wait r' hm
          · exact ⟨rfl, rfl⟩
  | write x =>
    refine { h with own_pend := ?_ }
    simp only [step, sstep, ← h.own_pend, List.append_assoc]
  | flushOwn =>
    by_cases hb : w.own.buf.isEmpty = true
    · have hst : step true w .flushOwn = w := by
        simp [step, flushRg, hb]
      rw [hst]; exact h
    · have hst : step true w .flushOwn =
          { w with own := { w.own with pages := w.own.pages ++ [(w.own.ord, w.own.buf)], buf := [] } } := by
        simp [step, flushRg, hb, h.own_await]
      rw [hst]
      refine { h with own_pages := ?_, own_pend := ?_ }
      · intro p hp
        rcases List.mem_append.mp hp with hp | hp
        · exact h.own_pages p hp
        · cases List.mem_singleton.mp hp
          exact ⟨h.own_ord, by simpa [List.isEmpty_iff] using hb⟩
      · simp only [sstep, content_append, ← h.own_pend, List.append_nil]
        simp [content]
  | wflush => exact (sim_wflush h).1

theorem sim_run (es : List (Ev X)) : Sim (run true es) (srun es) :=
  foldl_sim (fun _ _ e _ h => sim_step h e) sim_init

/-! `serialize`: the schedule a single goroutine would run. The calls of the coordinating goroutine keep
their order; the rows of a row group writer are written in one block right before its Commit; page
boundaries and rows that are never committed are dropped. -/

def serialize : List (List X) → List (Ev X) → List (Ev X)
  | _, [] => []
  | pend, .begin :: es => .begin :: serialize (pend ++ [[]]) es
  | pend, .fill i x :: es =>
    serialize (match pend[i]? with | none => pend | some p => pend.set i (p ++ [x])) es
  | pend, .flush _ :: es => serialize pend es
  | pend, .commit i :: es =>
    match pend[i]? with
    | none => serialize pend es
    | some p => p.map (Ev.fill i) ++ (.commit i :: serialize (pend.set i []) es)
  | pend, .write x :: es => .write x :: serialize pend es
  | pend, .flushOwn :: es => serialize pend es
  | pend, .wflush :: es => .wflush :: serialize pend es

theorem sfills (s : S X) (i : Nat) (q p : List X) (h : s.pend[i]? = some q) :
    (p.map (Ev.fill i)).foldl sstep s = { s with pend := s.pend.set i (q ++ p) } := by
  induction p generalizing s q with
  | nil =>
    simp only [List.map_nil, List.foldl_nil, List.append_nil]
    rw [Slots.set_same h]
  | cons x p ih =>
    simp only [List.map_cons, List.foldl_cons, sstep, h]
    rw [ih _ (q ++ [x]) (by simp [(List.getElem?_eq_some_iff.mp h).1])]
    simp [List.set_set]

-- the shape of hypothesis `h3` of `srun_serialize_aux`
theorem map_nil_set {l : List (List X)} {i : Nat} {a : List X} (h : l[i]? = some a) (b : List X) :
    (l.set i b).map (fun _ => ([] : List X)) = l.map (fun _ => []) := by
  rw [List.map_set]
  exact Slots.set_same (by simp [List.getElem?_map, h])

/-- `s1` runs the history, `s2` its serial schedule: they agree on the file and on the parent's
    pending rows, while `s2` has written nothing to any row group writer yet (`serialize` carries
    `s1.pend` and writes those rows right before the Commit) -/
theorem srun_serialize_aux (es : List (Ev X)) : ∀ (s1 s2 : S X), s2.out = s1.out → s2.ownPend = s1.ownPend →
    s2.pend = s1.pend.map (fun _ => []) →
    ((serialize s1.pend es).foldl sstep s2).out = (es.foldl sstep s1).out := by
  induction es with
  | nil => intro s1 s2 h1 _ _; simpa [serialize] using h1
  | cons e es ih =>
    intro s1 s2 h1 h2 h3
    cases e <;> simp only [serialize, List.foldl_cons, sstep]
    case begin =>
      exact ih { s1 with pend := s1.pend ++ [[]] } { s2 with pend := s2.pend ++ [[]] } h1 h2 (by simp [h3])
    case fill i x =>
      cases hp : s1.pend[i]? with
      | none => exact ih s1 s2 h1 h2 h3
      | some p =>
        exact ih { s1 with pend := s1.pend.set i (p ++ [x]) } s2 h1 h2 (by
          simp only; rw [map_nil_set hp]; exact h3)
    case flush | flushOwn => exact ih s1 s2 h1 h2 h3
    case commit i =>
      cases hp : s1.pend[i]? with
      | none => exact ih s1 s2 h1 h2 h3
      | some p =>
        have h2i : s2.pend[i]? = some [] := by simp [h3, List.getElem?_map, hp]
        simp only [List.foldl_append, List.foldl_cons]
        rw [sfills s2 i [] p h2i]
        have hi : i < s2.pend.length := (List.getElem?_eq_some_iff.mp h2i).1
        simp only [sstep, List.nil_append, List.getElem?_set, hi, if_true, List.set_set]
        exact ih { out := emit (emit s1.out s1.ownPend) p, ownPend := [], pend := s1.pend.set i [] }
          { out := emit (emit s2.out s2.ownPend) p, ownPend := [], pend := s2.pend.set i [] }
          (by simp [h1, h2]) rfl (by simp only; rw [map_nil_set hp, h3]; exact Slots.set_same (by simp [List.getElem?_map, hp]))
    case write x =>
      exact ih { s1 with ownPend := s1.ownPend ++ [x] } { s2 with ownPend := s2.ownPend ++ [x] } h1 (by simp [h2]) h3
    case wflush =>
      exact ih { s1 with out := emit s1.out s1.ownPend, ownPend := [] }
        { s2 with out := emit s2.out s2.ownPend, ownPend := [] } (by simp [h1, h2]) rfl h3

theorem srun_serialize (es : List (Ev X)) : (srun (serialize [] es)).out = (srun es).out :=
  srun_serialize_aux es _ _ rfl rfl rfl

/-- the event is a call on row group writer `i`, or creates a writer: what a `WriteRows` on writer
    `i` need not commute with (`Props.C15.rowgroups_fill_commutes`) -/
def touches (i : Nat) : Ev X → Bool
  | .begin => true
  | .fill j _ => i == j
  | .flush j => i == j
  | .commit j => i == j
  | _ => false

/-- two row group writers, one round, then a second round in which a page boundary falls inside
    the fill: the pages of the second round are sealed with the ordinal each writer guessed at its
    previous Commit (1 and 2) while they are committed as row groups 2 and 3 -/
def slipSchedule : List (Ev Nat) :=
  [.begin, .begin, .fill 0 10, .fill 1 20, .commit 0, .commit 1,
   .fill 0 11, .flush 0, .fill 1 21, .flush 1, .commit 0, .commit 1]

end PqModel.RowGroupProto
