import PqModel.Stats
import PqModel.Compare

/-! # C05 — MIRRORS of the three-way comparison functions behind `Type.Compare` (compare.go, type_*.go)

`Type.Compare` of every leaf type ends in one of the functions of compare.go:59-180
(`compareBool`, `compareInt32/64`, `compareUint32/64`, `compareFloat32/64`, `compareBE128`, `lessBE128`) or in
`bytes.Compare` of the Go standard library (BYTE_ARRAY, FIXED_LEN_BYTE_ARRAY, STRING, JSON, BSON, ENUM, INTERVAL).
The statistics theorems of C05 quantify over the SPEC orders of `Stats.lean` (`sint`, `uint`, `float`, `bytes`); this
file transliterates the Go functions and holds the lemmas about them, and `Props/C05Compare.lean` proves that each
mirror IS the three-way reading (`ColOrder.cmp`) of its spec order.

Two structures are called `Lawful`: the bare name is `Stats.Lawful o` (a strict order `lt` with NaN outside it); the
three-way total preorder of Compare.lean is always written `Compare.Lawful c`.

Go primitives and how they are read here:
* `<` on `int32/int64` = two's complement signed comparison `BitVec.slt`; on `uint32/uint64` = `BitVec.ult`.
* `<` on `float32/float64` = the IEEE-754 comparison predicate (Go spec, "Comparison operators": as defined by
  IEEE-754): false as soon as one operand is NaN, otherwise the comparison of the extended real numbers the two
  bit patterns denote (`-0 = +0`). `ieeeLt` below is written from that definition by decoding sign, exponent and
  mantissa; it does not use the sign-magnitude trick `fKey` of `Stats.lean`, and the theorem is that both agree.
* `bytes.Compare` = internal/bytealg/compare_generic.go:11-36 (the assembly versions are tied by differential testing, DESIGN.md level L2).
* `binary.BigEndian.Uint64` = encoding/binary/byteorder.go `uint64(b[7]) | uint64(b[6])<<8 | …`. -/
namespace PqModel.CompareTypes
open PqModel PqModel.Stats

/-- Go `switch { case lt: return -1; case gt: return +1; default: return 0 }` -/
def three (lt gt : Bool) : Int := if lt then -1 else if gt then 1 else 0

/-- MIRROR compare.go:59-68 `compareBool` -/
def compareBool (v1 v2 : Bool) : Int := three (!v1 && v2) (v1 && !v2)

/-- MIRROR compare.go:70-90 `compareInt32` / `compareInt64` (`w` = 32 / 64) -/
def compareSigned {w : Nat} (v1 v2 : BitVec w) : Int := three (v1.slt v2) (v2.slt v1)

/-- MIRROR compare.go:125-145 `compareUint32` / `compareUint64` -/
def compareUnsigned {w : Nat} (v1 v2 : BitVec w) : Int := three (v1.ult v2) (v2.ult v1)

abbrev compareInt32 (a b : BitVec 32) : Int := compareSigned a b
abbrev compareInt64 (a b : BitVec 64) : Int := compareSigned a b
abbrev compareUint32 (a b : BitVec 32) : Int := compareUnsigned a b
abbrev compareUint64 (a b : BitVec 64) : Int := compareUnsigned a b

/-! ## IEEE-754 binary formats: `e` exponent bits, `m` mantissa bits, bit pattern `BitVec (1 + e + m)` -/

/-- the bits below the sign bit -/
def fBody (e m : Nat) (b : BitVec (1 + e + m)) : Nat := b.toNat % 2 ^ (e + m)
def fSign (e m : Nat) (b : BitVec (1 + e + m)) : Bool := decide (2 ^ (e + m) ≤ b.toNat)
def fExp (e m : Nat) (b : BitVec (1 + e + m)) : Nat := fBody e m b / 2 ^ m
def fMant (e m : Nat) (b : BitVec (1 + e + m)) : Nat := fBody e m b % 2 ^ m

/-- IEEE-754: NaN = exponent all ones and a non-zero fraction -/
def ieeeIsNaN (e m : Nat) (b : BitVec (1 + e + m)) : Bool := fExp e m b == 2 ^ e - 1 && fMant e m b != 0

/-- the magnitude a body `x = exp * 2^m + frac` denotes, scaled by `2^(bias + m - 1)` so that it is a natural
    number: subnormals `frac · 2^0`, normals `(2^m + frac) · 2^(exp-1)`. The infinities (exponent all ones, fraction
    0) get the number the next binade would start with, which is above every finite magnitude. Only that `magOf` is
    strictly monotone in `x` is used. -/
def magOf (m : Nat) (x : Nat) : Nat := if x / 2 ^ m = 0 then x % 2 ^ m else (2 ^ m + x % 2 ^ m) * 2 ^ (x / 2 ^ m - 1)

/-- SPEC (IEEE-754): the extended real number a non-NaN bit pattern denotes, scaled by `2^(bias + m - 1)` -/
def fDenote (e m : Nat) (b : BitVec (1 + e + m)) : Int :=
  if fSign e m b then - (magOf m (fBody e m b) : Int) else (magOf m (fBody e m b) : Int)

/-- Go's `a < b` on floats: IEEE-754 `compareQuietLess` -/
def ieeeLt (e m : Nat) (a b : BitVec (1 + e + m)) : Bool :=
  !ieeeIsNaN e m a && !ieeeIsNaN e m b && decide (fDenote e m a < fDenote e m b)

/-- MIRROR compare.go:103-123 `compareFloat32` (`e m = 8 23`) / `compareFloat64` (`11 52`): `v1 > v2` is `v2 < v1` -/
def compareFloat (e m : Nat) (v1 v2 : BitVec (1 + e + m)) : Int := three (ieeeLt e m v1 v2) (ieeeLt e m v2 v1)

abbrev compareFloat32 (a b : BitVec 32) : Int := compareFloat 8 23 a b
abbrev compareFloat64 (a b : BitVec 64) : Int := compareFloat 11 52 a b

/-- MIRROR internal/bytealg/compare_generic.go:11-36 `bytes.Compare`: the first differing byte decides, then the
    lengths (type_byte_array.go:19, type_fixed_len_byte_array.go:32-34, type_string.go:33-35) -/
def bytesCompare : List Nat → List Nat → Int
  | a :: as, b :: bs => if a < b then -1 else if a > b then 1 else bytesCompare as bs
  | [], [] => 0
  | [], _ :: _ => -1
  | _ :: _, [] => 1

/-- `binary.BigEndian.Uint64` (any length: the first byte is the most significant) -/
def beNat : List Nat → Nat
  | [] => 0
  | b :: bs => b * 256 ^ bs.length + beNat bs

/-- MIRROR compare.go:147-166 `compareBE128`: the two big-endian 64-bit halves, high half first -/
def compareBE128 (v1 v2 : List Nat) : Int :=
  let x := beNat (v1.take 8)
  let y := beNat (v2.take 8)
  if x < y then -1
  else if x > y then 1
  else
    let x := beNat (v1.drop 8)
    let y := beNat (v2.drop 8)
    three (decide (x < y)) (decide (x > y))

/-- MIRROR compare.go:168-180 `lessBE128` -/
def lessBE128 (v1 v2 : List Nat) : Bool :=
  let x := beNat (v1.take 8)
  let y := beNat (v2.take 8)
  if x < y then true
  else if x > y then false
  else decide (beNat (v1.drop 8) < beNat (v2.drop 8))

/-- MIRROR type_int_logical.go:124-145 `(*intType).Compare`: the payload of a `Value` is its 64-bit field;
    `int32()` truncates it (value.go), `uint32(i1)` / `uint64(i1)` reinterpret the bits -/
def intTypeCompare (bitWidth : Nat) (isSigned : Bool) (a b : BitVec 64) : Int :=
  if bitWidth = 64 then
    if isSigned then compareInt64 a b else compareUint64 a b
  else
    let i1 := a.setWidth 32
    let i2 := b.setWidth 32
    if isSigned then compareInt32 i1 i2 else compareUint32 i1 i2

/-- SPEC (LogicalTypes.md, INT(bitWidth, isSigned)): the number the stored bits denote -/
def intTypeDenote (bitWidth : Nat) (isSigned : Bool) (a : BitVec 64) : Int :=
  if bitWidth = 64 then (if isSigned then a.toInt else (a.toNat : Int))
  else (if isSigned then (a.setWidth 32).toInt else ((a.setWidth 32).toNat : Int))

/-! ## dispatch: `Type.Compare` per leaf type, and the per-type arms of the positional row comparator

`Val` is the part of a `parquet.Value` the comparison code reads: the 64-bit field `u64` (value.go:512: `boolean()`
= `u64 != 0`, `int32()` = `int32(u64)`, `uint32()` = `uint32(u64)`, `float()` = `Float32frombits(uint32(u64))`, …)
and the bytes `ptr[:u64]` of the byte-array kinds (`byteArray()`, `be128()`). Calls with a value of another kind
than the column's are not modelled. -/

structure Val where
  u64 : BitVec 64
  bytes : List Nat

def Val.boolean (v : Val) : Bool := v.u64 != 0
def Val.int32 (v : Val) : BitVec 32 := v.u64.setWidth 32
def Val.int64 (v : Val) : BitVec 64 := v.u64
/-- `uint32()`, `float()` read the same low 32 bits, `uint64()`, `double()` the same 64 bits; the sign / float reading
    is in the comparison function that receives them -/
abbrev Val.uint32 (v : Val) : BitVec 32 := v.int32
abbrev Val.float (v : Val) : BitVec 32 := v.int32
abbrev Val.uint64 (v : Val) : BitVec 64 := v.int64
abbrev Val.double (v : Val) : BitVec 64 := v.int64
abbrev Val.byteArray (v : Val) : List Nat := v.bytes
abbrev Val.be128 (v : Val) : List Nat := v.bytes

/-- the leaf types as the type switches of compare.go distinguish them (Go type of `Node.Type()`) -/
inductive LeafType where
  | int32 | uint32 | int64 | uint64 | float | double | boolean
  | byteArray | string | fixedLenByteArray | enum | geography | bson | geometry | json
  | be128 | uuid | date | timestamp
  | time (useInt32 : Bool)
  | int (bitWidth : Nat) (isSigned : Bool)
  | interval | decimalInt32 | decimalInt64
deriving DecidableEq

/-- MIRROR of the `Compare` methods: type_int32.go:23,101, type_int64.go:23,101, type_float.go:18, type_double.go:18,
    type_boolean.go:18, type_byte_array.go:19, type_string.go:33, type_fixed_len_byte_array.go:32,175, type_enum.go:32,
    type_geography.go:30, type_bson.go:32, type_geometry.go:32, type_json.go:33, type_uuid.go:32, type_date.go:33,
    type_timestamp.go:150, type_time.go:182-204, type_int_logical.go:124-145, type_interval.go:48, type_decimal.go:77-82
    (non-binary: the embedded physical type) -/
def typeCompare (t : LeafType) (a b : Val) : Int :=
  match t with
  | .int32 => compareInt32 a.int32 b.int32
  | .uint32 => compareUint32 a.uint32 b.uint32
  | .int64 => compareInt64 a.int64 b.int64
  | .uint64 => compareUint64 a.uint64 b.uint64
  | .float => compareFloat32 a.float b.float
  | .double => compareFloat64 a.double b.double
  | .boolean => compareBool a.boolean b.boolean
  | .byteArray | .string | .fixedLenByteArray | .enum | .geography | .bson | .geometry | .json | .interval =>
    bytesCompare a.byteArray b.byteArray
  | .be128 | .uuid => compareBE128 a.be128 b.be128
  | .date => compareInt32 a.int32 b.int32
  | .timestamp => compareInt64 a.int64 b.int64
  | .time useInt32 => if useInt32 then compareInt32 a.int32 b.int32 else compareInt64 a.int64 b.int64
  | .int bitWidth isSigned => intTypeCompare bitWidth isSigned a.u64 b.u64
  | .decimalInt32 => compareInt32 a.int32 b.int32
  | .decimalInt64 => compareInt64 a.int64 b.int64

/-- MIRROR compare.go:229-310 `compareRowsFuncOfIndexAscending`: the comparison each arm of the type switch performs
    on the two values at the column index; `default:` calls `typ.Compare` -/
def armAscending (t : LeafType) (a b : Val) : Int :=
  match t with
  | .int32 => compareInt32 a.int32 b.int32
  | .uint32 => compareUint32 a.uint32 b.uint32
  | .int64 => compareInt64 a.int64 b.int64
  | .uint64 => compareUint64 a.uint64 b.uint64
  | .float => compareFloat32 a.float b.float
  | .double => compareFloat64 a.double b.double
  | .boolean => compareBool a.boolean b.boolean
  | .byteArray | .string | .fixedLenByteArray | .enum | .geography | .bson | .geometry | .json =>
    bytesCompare a.byteArray b.byteArray
  | .be128 | .uuid => compareBE128 a.be128 b.be128
  | .date => compareInt32 a.int32 b.int32
  | .timestamp => compareInt64 a.int64 b.int64
  | .time useInt32 => if useInt32 then compareInt32 a.int32 b.int32 else compareInt64 a.int64 b.int64
  | .int bitWidth isSigned =>
    if bitWidth = 64 then
      if isSigned then compareInt64 a.int64 b.int64 else compareUint64 a.uint64 b.uint64
    else
      if isSigned then compareInt32 a.int32 b.int32 else compareUint32 a.uint32 b.uint32
  | t => typeCompare t a b

/-- MIRROR compare.go:313-394 `compareRowsFuncOfIndexDescending`: the same switch, every arm with a leading minus -/
def armDescending (t : LeafType) (a b : Val) : Int :=
  match t with
  | .int32 => - compareInt32 a.int32 b.int32
  | .uint32 => - compareUint32 a.uint32 b.uint32
  | .int64 => - compareInt64 a.int64 b.int64
  | .uint64 => - compareUint64 a.uint64 b.uint64
  | .float => - compareFloat32 a.float b.float
  | .double => - compareFloat64 a.double b.double
  | .boolean => - compareBool a.boolean b.boolean
  | .byteArray | .string | .fixedLenByteArray | .enum | .geography | .bson | .geometry | .json =>
    - bytesCompare a.byteArray b.byteArray
  | .be128 | .uuid => - compareBE128 a.be128 b.be128
  | .date => - compareInt32 a.int32 b.int32
  | .timestamp => - compareInt64 a.int64 b.int64
  | .time useInt32 => if useInt32 then - compareInt32 a.int32 b.int32 else - compareInt64 a.int64 b.int64
  | .int bitWidth isSigned =>
    if bitWidth = 64 then
      if isSigned then - compareInt64 a.int64 b.int64 else - compareUint64 a.uint64 b.uint64
    else
      if isSigned then - compareInt32 a.int32 b.int32 else - compareUint32 a.uint32 b.uint32
  | t => - typeCompare t a b

/-- the types whose `Compare` reads floats / exactly 16 bytes (they need a side condition to be total preorders) -/
def LeafType.isFloat : LeafType → Bool
  | .float | .double => true
  | _ => false
def LeafType.is128 : LeafType → Bool
  | .be128 | .uuid => true
  | _ => false

theorem three_lt (l g : Bool) : three l g < 0 ↔ l = true := by
  unfold three; cases l <;> cases g <;> simp
theorem three_gt (l g : Bool) (h : l = true → g = false) : 0 < three l g ↔ g = true := by
  unfold three; cases l <;> cases g <;> simp at h ⊢
theorem three_le (l g : Bool) (h : l = true → g = false) : three l g ≤ 0 ↔ g = false := by
  unfold three; cases l <;> cases g <;> simp at h ⊢
theorem three_eq (l g : Bool) : three l g = 0 ↔ l = false ∧ g = false := by
  unfold three; cases l <;> cases g <;> simp

theorem three_anti (l g : Bool) (h : l = true → g = false) : three g l = - three l g := by
  cases l <;> cases g <;> simp [three] at h ⊢

/-- the three-way reading of a column order: what `Type.Compare` is to the `Less` of the column buffer -/
abbrev _root_.PqModel.Stats.ColOrder.cmp {α : Type} (o : ColOrder α) : α → α → Int :=
  fun a b => three (o.lt a b) (o.lt b a)

section cmp
variable {α : Type} {o : ColOrder α}

theorem cmp_self (h : Lawful o) (a : α) : o.cmp a a = 0 := by simp [three, h.irrefl]

/-- NaN included -/
theorem cmp_anti (h : Lawful o) (a b : α) : o.cmp b a = - o.cmp a b := three_anti _ _ h.asymm

theorem cmp_flip (h : Lawful o) (a b : α) : o.cmp a b < 0 ↔ 0 < o.cmp b a := by
  have := cmp_anti h a b
  omega

theorem cmp_trans (h : Lawful o) {a b d : α} (hb : o.ok b = true) (h1 : o.cmp a b ≤ 0) (h2 : o.cmp b d ≤ 0) :
    o.cmp a d ≤ 0 := by
  rw [three_le _ _ h.asymm] at h1 h2 ⊢
  exact h.le_trans hb h1 h2

theorem lawful_cmp_on (h : Lawful o) {σ : Type} (get : σ → α) (hok : ∀ v, o.ok (get v) = true) {c : α → α → Int}
    (e : ∀ a b, c a b = o.cmp a b) : Compare.Lawful (Compare.onCol get c) :=
  (funext fun a => funext fun b => e a b : c = o.cmp) ▸
    ⟨fun _ => cmp_self h _, fun _ _ => cmp_flip h _ _, fun _ b _ => cmp_trans h (hok b)⟩

theorem lawful_three (h : Lawful o) (hok : ∀ v, o.ok v = true) {c : α → α → Int} (e : ∀ a b, c a b = o.cmp a b) :
    Compare.Lawful c :=
  lawful_cmp_on h id hok e

end cmp

theorem three_decide (P Q : Prop) [Decidable P] [Decidable Q] :
    three (decide P) (decide Q) = if P then -1 else if Q then 1 else 0 := by
  simp only [three, decide_eq_true_eq]

theorem compareSigned_eq {w : Nat} (a b : BitVec w) :
    compareSigned a b = three ((sint w).lt a b) ((sint w).lt b a) := by
  simp [compareSigned, sint, ofKey, BitVec.slt]

theorem compareUnsigned_eq {w : Nat} (a b : BitVec w) :
    compareUnsigned a b = three ((uint w).lt a b) ((uint w).lt b a) := by
  simp [compareUnsigned, uint, ofKey, BitVec.ult]

theorem body_lt (e m : Nat) (b : BitVec (1 + e + m)) : fBody e m b < 2 ^ e * 2 ^ m := by
  unfold fBody
  rw [← Nat.pow_add]
  exact Nat.mod_lt _ (Nat.two_pow_pos _)

/-- the two readings of "is NaN" agree: exponent all ones and fraction non-zero ↔ body above the infinity pattern -/
theorem ieeeIsNaN_eq (e m : Nat) (b : BitVec (1 + e + m)) : ieeeIsNaN e m b = fIsNaN e m b := by
  have hlt := body_lt e m b
  unfold ieeeIsNaN fIsNaN fExp fMant
  change _ = decide (fBody e m b > (2 ^ e - 1) * 2 ^ m)
  generalize fBody e m b = x at hlt
  have hP : 0 < 2 ^ m := Nat.two_pow_pos _
  have hE : 0 < 2 ^ e := Nat.two_pow_pos _
  generalize 2 ^ m = P at *
  generalize 2 ^ e = E at *
  have hq : x / P < E := (Nat.div_lt_iff_lt_mul hP).mpr hlt
  have hx : x = P * (x / P) + x % P := (Nat.div_add_mod x P).symm
  have hr : x % P < P := Nat.mod_lt _ hP
  generalize x / P = q at *
  generalize x % P = r at *
  subst hx
  rw [Bool.eq_iff_iff]
  simp only [Bool.and_eq_true, beq_iff_eq, bne_iff_ne, ne_eq, decide_eq_true_eq, gt_iff_lt]
  constructor
  · rintro ⟨rfl, hr0⟩
    rw [Nat.mul_comm]; omega
  · intro h
    have hq' : q = E - 1 := by
      by_cases hc : q + 1 ≤ E - 1
      · have := Nat.mul_le_mul_left P hc
        rw [Nat.mul_add] at this
        rw [Nat.mul_comm (E - 1) P] at h
        omega
      · omega
    subst hq'
    rw [Nat.mul_comm] at h
    exact ⟨rfl, by omega⟩

theorem magOf_zero (m : Nat) : magOf m 0 = 0 := by simp [magOf]

/-- the magnitude denoted is strictly monotone in the body bits: this is what makes the sign-magnitude integer
    comparison of float bit patterns correct -/
theorem magOf_strictMono (m : Nat) {x y : Nat} (h : x < y) : magOf m x < magOf m y := by
  have hP : 0 < 2 ^ m := Nat.two_pow_pos _
  have hx : x = 2 ^ m * (x / 2 ^ m) + x % 2 ^ m := (Nat.div_add_mod x _).symm
  have hy : y = 2 ^ m * (y / 2 ^ m) + y % 2 ^ m := (Nat.div_add_mod y _).symm
  have hrx : x % 2 ^ m < 2 ^ m := Nat.mod_lt _ hP
  have hry : y % 2 ^ m < 2 ^ m := Nat.mod_lt _ hP
  have hq : x / 2 ^ m ≤ y / 2 ^ m := Nat.div_le_div_right (Nat.le_of_lt h)
  unfold magOf
  generalize x / 2 ^ m = q at *
  generalize y / 2 ^ m = q' at *
  generalize x % 2 ^ m = r at *
  generalize y % 2 ^ m = r' at *
  generalize 2 ^ m = P at *
  rcases Nat.lt_or_eq_of_le hq with hlt | rfl
  · -- a smaller exponent field: everything of binade q is below the start of binade q'
    have hq'0 : ¬ q' = 0 := by omega
    rw [if_neg hq'0]
    have hstart : P * 2 ^ (q' - 1) ≤ (P + r') * 2 ^ (q' - 1) := Nat.mul_le_mul_right _ (by omega)
    have hone : 1 ≤ 2 ^ (q' - 1) := Nat.two_pow_pos _
    split
    · have : P * 1 ≤ P * 2 ^ (q' - 1) := Nat.mul_le_mul_left _ hone
      omega
    · rename_i hq0
      have h1 : (P + r) * 2 ^ (q - 1) < (P + P) * 2 ^ (q - 1) :=
        Nat.mul_lt_mul_of_lt_of_le (by omega) (Nat.le_refl _) (Nat.two_pow_pos _)
      have h2 : 2 ^ (q - 1 + 1) ≤ 2 ^ (q' - 1) := Nat.pow_le_pow_right (by decide) (by omega)
      have h3 : (P + P) * 2 ^ (q - 1) = P * 2 ^ (q - 1 + 1) := by
        rw [Nat.pow_succ, ← Nat.two_mul, Nat.mul_comm 2 P, Nat.mul_assoc, Nat.mul_comm 2]
      have h4 : P * 2 ^ (q - 1 + 1) ≤ P * 2 ^ (q' - 1) := Nat.mul_le_mul_left _ h2
      omega
  · -- same exponent field: the fraction decides
    have hr : r < r' := by
      subst hx hy
      omega
    split
    · exact hr
    · exact Nat.mul_lt_mul_of_lt_of_le (by omega) (Nat.le_refl _) (Nat.two_pow_pos _)

theorem magOf_lt_iff (m : Nat) (x y : Nat) : magOf m x < magOf m y ↔ x < y := by
  constructor
  · intro h
    rcases Nat.lt_trichotomy x y with h' | h' | h'
    · exact h'
    · subst h'; omega
    · have := magOf_strictMono m h'; omega
  · exact magOf_strictMono m

/-- Both sides are ± a magnitude under the same sign test, and `magOf` is strictly monotone with `magOf 0 = 0`: the four
    sign cases are linear arithmetic. The `change` only folds `b.toNat % 2 ^ (e + m)` back into `fBody`. -/
theorem fDenote_lt_iff (e m : Nat) (a b : BitVec (1 + e + m)) :
    fDenote e m a < fDenote e m b ↔ fKey e m a < fKey e m b := by
  unfold fDenote fKey fSign
  change _ ↔ (if a.toNat < 2 ^ (e + m) then ((fBody e m a : Nat) : Int) else -((fBody e m a : Nat) : Int)) <
    (if b.toNat < 2 ^ (e + m) then ((fBody e m b : Nat) : Int) else -((fBody e m b : Nat) : Int))
  have h1 := magOf_lt_iff m (fBody e m a) (fBody e m b)
  have h2 := magOf_lt_iff m (fBody e m b) (fBody e m a)
  have h3 := magOf_lt_iff m 0 (fBody e m a)
  have h4 := magOf_lt_iff m 0 (fBody e m b)
  rw [magOf_zero] at h3 h4
  simp only [decide_eq_true_eq, ← Nat.not_lt, ite_not]
  generalize magOf m (fBody e m a) = ma at *
  generalize magOf m (fBody e m b) = mb at *
  generalize fBody e m a = xa at *
  generalize fBody e m b = xb at *
  by_cases ha : a.toNat < 2 ^ (e + m) <;> by_cases hb : b.toNat < 2 ^ (e + m) <;>
    simp only [ha, hb, if_true, if_false] <;> omega

/-- Go's `<` on floats (IEEE-754 by value) is the `lt` of the column order `Stats.float` (sign-magnitude key) -/
theorem ieeeLt_eq (e m : Nat) (a b : BitVec (1 + e + m)) : ieeeLt e m a b = (float e m).lt a b := by
  unfold ieeeLt float ofKey
  simp only [ieeeIsNaN_eq]
  congr 1
  exact decide_eq_decide.mpr (fDenote_lt_iff e m a b)

theorem bytesCompare_eq (a b : List Nat) : bytesCompare a b = three (lexLt a b) (lexLt b a) := by
  -- cases of `bytesCompare`: first byte below; above; equal; both empty; left empty; right empty
  fun_induction bytesCompare a b with
  | case1 a as b bs h => simp [lexLt_cons, h, three]
  | case2 a as b bs h1 h2 => simp [lexLt_cons, h2, Nat.lt_asymm h2, Nat.ne_of_gt h2, three]
  | case3 a as b bs h1 h2 ih =>
    obtain rfl : a = b := by omega
    simp [lexLt_cons, ih]
  | case4 => decide
  | case5 => simp [three, lexLt, Trunc.lexLe]
  | case6 => simp [three, lexLt, Trunc.lexLe]

def IsBytes (v : List Nat) : Prop := ∀ x ∈ v, x < 256

theorem beNat_lt : ∀ (v : List Nat), IsBytes v → beNat v < 256 ^ v.length
  | [], _ => by simp [beNat]
  | b :: bs, h => by
    have ih := beNat_lt bs (fun x hx => h x (by simp [hx]))
    have hb : b < 256 := h b (by simp)
    simp only [beNat, List.length_cons, Nat.pow_succ]
    have : (b + 1) * 256 ^ bs.length ≤ 256 * 256 ^ bs.length := Nat.mul_le_mul_right _ (by omega)
    rw [Nat.add_mul] at this
    rw [Nat.mul_comm (256 ^ bs.length) 256]
    omega

theorem bytesCompare_beNat : ∀ (a b : List Nat), a.length = b.length → IsBytes a → IsBytes b →
    bytesCompare a b = three (decide (beNat a < beNat b)) (decide (beNat a > beNat b))
  | [], [], _, _, _ => by simp [bytesCompare, beNat, three]
  | [], _ :: _, h, _, _ => by simp at h
  | _ :: _, [], h, _, _ => by simp at h
  | a :: as, b :: bs, hl, ha, hb => by
    have hl' : as.length = bs.length := by simpa using hl
    have ih := bytesCompare_beNat as bs hl' (fun x hx => ha x (by simp [hx])) (fun x hx => hb x (by simp [hx]))
    have la := beNat_lt as (fun x hx => ha x (by simp [hx]))
    have lb := beNat_lt bs (fun x hx => hb x (by simp [hx]))
    rw [hl'] at la
    simp only [bytesCompare, beNat, hl', ih, three_decide]
    generalize 256 ^ bs.length = W at *
    -- the leading byte decides unless equal: the tails are below one unit `W` of it
    rcases Nat.lt_trichotomy a b with h | rfl | h
    · have : (a + 1) * W ≤ b * W := Nat.mul_le_mul_right _ h
      rw [Nat.add_mul] at this
      rw [if_pos h, if_pos (by omega)]
    · simp only [Nat.lt_irrefl, if_false, gt_iff_lt, Nat.add_lt_add_iff_left]
    · have : (b + 1) * W ≤ a * W := Nat.mul_le_mul_right _ h
      rw [Nat.add_mul] at this
      rw [if_neg (by omega), if_pos h, if_neg (by omega), if_pos (by omega)]

theorem bytesCompare_append (a1 b1 a2 b2 : List Nat) (hl : a1.length = b1.length) :
    bytesCompare (a1 ++ a2) (b1 ++ b2) = if bytesCompare a1 b1 ≠ 0 then bytesCompare a1 b1 else bytesCompare a2 b2 := by
  -- cases of `bytesCompare`: first byte below; above; equal; both empty; one empty (excluded by `hl`)
  fun_induction bytesCompare a1 b1 with
  | case1 a as b bs h => simp [bytesCompare, h]
  | case2 a as b bs h1 h2 => simp [bytesCompare, h1, h2]
  | case3 a as b bs h1 h2 ih => simpa [bytesCompare, h1, h2] using ih (by simpa using hl)
  | case4 => simp
  | case5 => simp at hl
  | case6 => simp at hl

end PqModel.CompareTypes
