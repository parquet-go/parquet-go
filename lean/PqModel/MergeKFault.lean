import PqModel.IoFaultRead
import PqModel.Merge
import PqModel.Basics

/-! # C14 — the k-way merge reader `mergedRowReader` over sources that may fail

MIRROR of `mergedRowReader.initialize` (merge.go:827-854) and `mergedRowReader.ReadRows`
(merge.go:856-949) with `bufferedRowReader.read` (merge.go:1073-1101, the mirror `Rd.Buf.read` of
IoFaultRead.lean): the refill of the winner's buffer, the drop of an input on io.EOF
(`winner = -1; count--`), the `return n, err` of every other error, the `count == 0` -> io.EOF exit.
The tournament tree is the C09 transliteration (`Merge.playInitialGames` merge.go:973-986,
`Merge.replayLoop` merge.go:1004-1022) run on the head keys of the buffers (`hv`).
Run mode (merge.go:898-933, `streak >= 3`: `runBound`, `runLength`, the bulk emission and
`advance`) is mirrored too (`runEmit`, with C09's `Merge.runBoundLoop` / `Merge.runLength`), so the
mirror follows the code on unsorted inputs as well.  An index out of range
(`m.buffers[m.winner]` with `winner = -1` while `count != 0`) is the result `panic`.
SPEC: `Rd.Src` (the scripted failing source of IoFaultRead.lean). No lemma links this mirror to `Merge.MK`.

Rows are integers (the sort key); the output carries the index of the input. -/
namespace PqModel.IoFault.RdK
open PqModel.IoFault.Rd

inductive KRes | nil | eof | err | panic
  deriving DecidableEq, Repr

/-- head view of a buffer for the tree functions of C09 (they read `head()` only) -/
def hv (b : Buf) : Merge.Buf :=
  { src := [], sizes := [], win := b.win.map (fun x => ⟨x, 0, 0⟩), cap := 0, full := false }

/-- default for `List.getD` -/
def dsrc : Src := ⟨[], none, false, false⟩
def dbuf : Buf := Buf.fresh dsrc

/-- MIRROR `mergedRowReader` (merge.go:807-816) -/
structure MK where
  bufs : List Buf
  losers : List Int
  count : Nat
  winner : Int
  winnerLeaf : Int
  streak : Nat
  initialized : Bool
  deriving DecidableEq

def MK.new (srcs : List Src) : MK := ⟨srcs.map Buf.fresh, [], 0, 0, 0, 0, false⟩

/-- number of entries that name an input (`>= 0`) -/
def nn (l : List Int) : Nat := (l.filter (fun x => decide (0 ≤ x))).length

/-- MIRROR merge.go:837-847: the first `read()` of every buffer, in order; stops at the first error
other than io.EOF. Result: (error?, buffers, leaves). -/
def initReads : List Buf → Nat → Res × List Buf × List Int
  | [], _ => (.nil, [], [])
  | b :: bs, i =>
    match b.read with
    | (.err, b') => (.err, b' :: bs, [])
    | (.eof, b') => let r := initReads bs (i + 1); (r.1, b' :: r.2.1, (-1) :: r.2.2)
    | (.nil, b') => let r := initReads bs (i + 1); (r.1, b' :: r.2.1, (i : Int) :: r.2.2)

/-- MIRROR `mergedRowReader.initialize` (merge.go:827-854); on an error `count = 0` (merge.go:844) -/
def MK.init (st : MK) : Res × MK :=
  let k := st.bufs.length
  let r := initReads st.bufs 0
  if r.1 = .err then
    (.err, { st with bufs := r.2.1, losers := List.replicate k 0, count := 0, initialized := true })
  else if nn r.2.2 > 0 then
    let g := Merge.playInitialGames (r.2.1.map hv) r.2.2 k 0 (List.replicate k 0)
    (.nil, { bufs := r.2.1, losers := g.2, count := nn r.2.2, winner := g.1, winnerLeaf := (k : Int) + g.1,
             streak := st.streak, initialized := true })
  else
    (.nil, { st with bufs := r.2.1, losers := List.replicate k 0, count := 0, initialized := true })

/-- MIRROR `replayGames` (merge.go:1004-1022) -/
def MK.replay (st : MK) : MK :=
  let r := Merge.replayLoop (st.bufs.map hv) st.bufs.length ((st.winnerLeaf.toNat - 1) / 2) st.winner st.losers
  { st with losers := r.2, winner := r.1, winnerLeaf := (st.bufs.length : Int) + r.1 }

def MK.cur (st : MK) : Buf := st.bufs.getD st.winner.toNat dbuf
def MK.setBuf (st : MK) (c : Buf) : MK := { st with bufs := st.bufs.set st.winner.toNat c }

def toRow (x : Int) : Merge.Row := ⟨x, 0, 0⟩

/-- MIRROR `runBound` (merge.go:957-968) -/
def MK.runBound (st : MK) : Option Merge.Row :=
  Merge.runBoundLoop (st.bufs.map hv) st.losers st.bufs.length ((st.winnerLeaf.toNat - 1) / 2) none

/-- MIRROR merge.go:915-918: the length of the run inside the (truncated) window -/
def runOf (bound : Option Merge.Row) (window : List Int) : Nat :=
  match bound with
  | some b => Merge.runLength (window.map toRow) b 0
  | none => window.length

/-- MIRROR of the bulk emission loop of run mode (merge.go:910-929) on the winner's buffer `c`,
`m = len(rows) - n`. Result: the rows, the buffer, `true` = the function returned (`!c.advance(run)`). -/
def runEmit (bound : Option Merge.Row) : Nat → Nat → Buf → List Int × Buf × Bool
  | 0, _, c => ([], c, false)
  | f + 1, m, c =>
    if m = 0 then ([], c, false) else
    let run := runOf bound (c.win.take m)
    if c.win.drop run = [] then ((c.win.take m).take run, { c with win := c.win.drop run }, true)
    else if run < (c.win.take m).length then ((c.win.take m).take run, { c with win := c.win.drop run }, false)
    else
      let r := runEmit bound f (m - run) { c with win := c.win.drop run }
      ((c.win.take m).take run ++ r.1, r.2)

def tagK (i : Nat) (l : List Int) : List (Nat × Int) := l.map (fun x => (i, x))

/-- MIRROR of the loop of `ReadRows` (merge.go:865-949), `m = len(rows) - n`; one unit of fuel per
iteration; `MK.fuel` is meant to suffice (`2 * cap`: an iteration emits a row or refills a buffer that then emits;
`bufs.length`: or drops an input; 4 spare), which is not proved: the theorems about the loop hold at any fuel. -/
def MK.loop : Nat → Nat → MK → (List (Nat × Int) × KRes) × MK
  | 0, _, st => (([], .nil), st)
  | f + 1, m, st =>
    if m = 0 ∨ st.count = 0 then (([], if st.count = 0 then .eof else .nil), st)
    else if st.winner < 0 ∨ st.bufs.length ≤ st.winner.toNat then (([], .panic), st)
    else
      match st.cur.win with
      | [] =>
        match st.cur.read with
        | (.nil, c') =>
          let st2 := (st.setBuf c').replay
          MK.loop f m { st2 with streak := if st2.winner ≠ st.winner then 0 else st.streak }
        | (.eof, c') =>
          let st2 := ({ st.setBuf c' with winner := -1, count := st.count - 1 }).replay
          MK.loop f m { st2 with streak := if st2.winner ≠ -1 then 0 else st.streak }
        | (.err, c') => (([], .err), st.setBuf c')
      | x :: w' =>
        let st' := st.setBuf { st.cur with win := w' }
        if w' = [] then (([(st.winner.toNat, x)], .nil), st')
        else if 3 ≤ st.streak then
          let e := runEmit st'.runBound m (m - 1) { st.cur with win := w' }
          if e.2.2 = true then (((st.winner.toNat, x) :: tagK st.winner.toNat e.1, .nil), st.setBuf e.2.1)
          else
            let r := MK.loop f (m - 1 - e.1.length) ({ st.setBuf e.2.1 with streak := 0 }).replay
            (((st.winner.toNat, x) :: (tagK st.winner.toNat e.1 ++ r.1.1), r.1.2), r.2)
        else
          let st2 := st'.replay
          let r := MK.loop f (m - 1) { st2 with streak := if st2.winner = st.winner then st.streak + 1 else 0 }
          (((st.winner.toNat, x) :: r.1.1, r.1.2), r.2)

def MK.fuel (st : MK) (cap : Nat) : Nat := 2 * cap + st.bufs.length + 4

/-- MIRROR `mergedRowReader.ReadRows` (merge.go:856-949), `cap = len(rows)` -/
def MK.readRows (st : MK) (cap : Nat) : (List (Nat × Int) × KRes) × MK :=
  if st.initialized = true then MK.loop (st.fuel cap) cap st
  else if st.init.1 = .nil then MK.loop (st.fuel cap) cap st.init.2
  else (([], .err), st.init.2)

/-- a consumer: `ReadRows` with the given buffer lengths until a call answers anything but nil -/
def session : List Nat → MK → List (List (Nat × Int)) × KRes × MK
  | [], m => ([], .nil, m)
  | c :: cs, m =>
    let x := m.readRows c
    if x.1.2 ≠ .nil then ([x.1.1], x.1.2, x.2)
    else let r := session cs x.2; (x.1.1 :: r.1, r.2)

/-- a consumer that keeps calling after an error (retry): every call's rows and result -/
def sessionAll : List Nat → MK → List (List (Nat × Int) × KRes)
  | [], _ => []
  | c :: cs, m => (m.readRows c).1 :: sessionAll cs (m.readRows c).2

/-- the rows of input `i` in the output, in output order -/
def projK (i : Nat) (out : List (Nat × Int)) : List Int := (out.filter (fun p => p.1 == i)).map (·.2)

theorem projK_append (i : Nat) (a b : List (Nat × Int)) : projK i (a ++ b) = projK i a ++ projK i b :=
  projBy_append i a b

theorem getD_set_perm : ∀ (L : List Int) (o : Nat) (w : Int), 0 ≤ L.getD o (-1) →
    (L.getD o (-1) :: L.set o w).Perm (w :: L)
  | [], o, w, h => by simp at h
  | a :: L, 0, w, _ => by simpa using List.Perm.swap _ _ _
  | a :: L, o + 1, w, h => by
    have ih := getD_set_perm L o w (by simpa using h)
    simp only [List.getD_cons_succ, List.set_cons_succ]
    exact (List.Perm.swap _ _ _).trans (((List.Perm.cons a ih)).trans (List.Perm.swap _ _ _))

theorem replayStep_perm (bufs : List Merge.Buf) (o : Nat) (w : Int) (L : List Int) :
    ((Merge.replayStep bufs o w L).1 :: (Merge.replayStep bufs o w L).2).Perm (w :: L) := by
  simp only [Merge.replayStep]
  split
  · rename_i h
    simp only [Bool.and_eq_true, decide_eq_true_eq] at h
    exact getD_set_perm L o w h.1
  · exact List.Perm.refl _

theorem replayLoop_perm (bufs : List Merge.Buf) : ∀ (f o : Nat) (w : Int) (L : List Int),
    ((Merge.replayLoop bufs f o w L).1 :: (Merge.replayLoop bufs f o w L).2).Perm (w :: L) := by
  intro f o w L
  fun_induction Merge.replayLoop bufs f o w L with
  | case1 => exact List.Perm.refl _
  | case2 f w L => exact replayStep_perm bufs 0 w L
  | case3 f o w L _ ih => exact ih.trans (replayStep_perm bufs o w L)

theorem nn_perm {a b : List Int} (h : a.Perm b) : nn a = nn b := (h.filter _).length_eq

/-- The invariant of a merge over `srcs` after the output `out`. `mem`/`cnt`: while `count != 0` every input that
still holds rows is a player of the tree, and the tree has at most `count` players. -/
structure KInv (st : MK) (srcs : List Src) (out : List (Nat × Int)) : Prop where
  len : st.bufs.length = srcs.length
  rows : ∀ i, i < srcs.length →
    projK i out ++ ((st.bufs.getD i dbuf).win ++ (st.bufs.getD i dbuf).src.rows) = (srcs.getD i dsrc).rows
  bites : ∀ i, i < srcs.length → (srcs.getD i dsrc).Bites → (st.bufs.getD i dbuf).src.Bites
  done : st.count = 0 → ∀ i, i < srcs.length →
    (st.bufs.getD i dbuf).win = [] ∧ (st.bufs.getD i dbuf).src.rows = []
  mem : st.count ≠ 0 → ∀ i, i < srcs.length →
    ((st.bufs.getD i dbuf).win ≠ [] ∨ (st.bufs.getD i dbuf).src.rows ≠ []) → (i : Int) ∈ st.winner :: st.losers
  cnt : st.count ≠ 0 → nn (st.winner :: st.losers) ≤ st.count

theorem KInv.replay {st : MK} {srcs : List Src} {out : List (Nat × Int)} (h : KInv st srcs out) :
    KInv st.replay srcs out := by
  have hp := replayLoop_perm (st.bufs.map hv) st.bufs.length ((st.winnerLeaf.toNat - 1) / 2) st.winner st.losers
  refine ⟨h.len, h.rows, h.bites, h.done, ?_, ?_⟩
  · intro hc i hi hne
    exact hp.mem_iff.mpr (h.mem hc i hi hne)
  · intro hc
    have := h.cnt hc
    simp only [MK.replay]
    rw [nn_perm hp]; exact this

theorem KInv.streak {st : MK} {srcs : List Src} {out : List (Nat × Int)} (h : KInv st srcs out) (s : Nat) :
    KInv { st with streak := s } srcs out :=
  ⟨h.len, h.rows, h.bites, h.done, h.mem, h.cnt⟩

theorem getD_set_eq {bufs : List Buf} {w : Nat} (c : Buf) (hw : w < bufs.length) :
    (bufs.set w c).getD w dbuf = c :=
  ListFacts.getD_set_self _ c hw

/-- replacing the winner's buffer by one that holds the same rows (emitted ++ window ++ source) -/
theorem KInv.setBuf {st : MK} {srcs : List Src} {out out' : List (Nat × Int)} (h : KInv st srcs out)
    (w : Nat) (hw0 : st.winner = (w : Int)) (hw : w < st.bufs.length) (c : Buf)
    (hrows : projK w out' ++ (c.win ++ c.src.rows) = projK w out ++ (st.cur.win ++ st.cur.src.rows))
    (hother : ∀ i, i ≠ w → projK i out' = projK i out)
    (hb : st.cur.src.Bites → c.src.Bites)
    (hlive : (c.win ≠ [] ∨ c.src.rows ≠ []) → (st.cur.win ≠ [] ∨ st.cur.src.rows ≠ []))
    (hdone : st.count = 0 → c.win = [] ∧ c.src.rows = []) :
    KInv (st.setBuf c) srcs out' := by
  have hcur : st.cur = st.bufs.getD w dbuf := by simp [MK.cur, hw0]
  have hset : (st.setBuf c).bufs = st.bufs.set w c := by simp [MK.setBuf, hw0]
  refine ⟨by rw [hset]; simpa using h.len, ?_, ?_, ?_, ?_, h.cnt⟩
  · intro i hi
    by_cases e : i = w
    · subst e; rw [hset, getD_set_eq c hw, hrows, hcur]; exact h.rows i hi
    · rw [hset, ListFacts.getD_set_ne _ c e, hother i e]; exact h.rows i hi
  · intro i hi hbi
    by_cases e : i = w
    · subst e; rw [hset, getD_set_eq c hw]; apply hb; rw [hcur]; exact h.bites i hi hbi
    · rw [hset, ListFacts.getD_set_ne _ c e]; exact h.bites i hi hbi
  · intro hc i hi
    by_cases e : i = w
    · subst e; rw [hset, getD_set_eq c hw]; exact hdone hc
    · rw [hset, ListFacts.getD_set_ne _ c e]; exact h.done hc i hi
  · intro hc i hi hne
    by_cases e : i = w
    · subst e; rw [hset, getD_set_eq c hw] at hne
      have := hlive hne; rw [hcur] at this
      exact h.mem hc i hi this
    · rw [hset, ListFacts.getD_set_ne _ c e] at hne; exact h.mem hc i hi hne

/-- the input that answered io.EOF leaves the tree: `winner = -1; count--` (merge.go:871-876) -/
theorem KInv.drop {st : MK} {srcs : List Src} {out : List (Nat × Int)} (h : KInv st srcs out)
    (w : Nat) (hw0 : st.winner = (w : Int)) (hw : w < st.bufs.length) (hc : st.count ≠ 0)
    (hdead : (st.bufs.getD w dbuf).win = [] ∧ (st.bufs.getD w dbuf).src.rows = []) :
    KInv { st with winner := -1, count := st.count - 1 } srcs out := by
  have hcnt := h.cnt hc
  have hnn : nn (st.winner :: st.losers) = nn st.losers + 1 := by
    simp [nn, hw0]
  have hnn' : nn ((-1 : Int) :: st.losers) = nn st.losers := by
    simp [nn]
  have hmem : ∀ i, i < srcs.length →
      ((st.bufs.getD i dbuf).win ≠ [] ∨ (st.bufs.getD i dbuf).src.rows ≠ []) → (i : Int) ∈ st.losers := by
    intro i hi hne
    have := h.mem hc i hi hne
    rcases List.mem_cons.mp this with e | e
    · have : i = w := by omega
      subst this; rcases hne with a | a
      · exact absurd hdead.1 a
      · exact absurd hdead.2 a
    · exact e
  refine ⟨h.len, h.rows, h.bites, ?_, ?_, ?_⟩
  · intro hc0 i hi
    simp only at hc0
    have hz : nn st.losers = 0 := by omega
    by_cases hne : (st.bufs.getD i dbuf).win ≠ [] ∨ (st.bufs.getD i dbuf).src.rows ≠ []
    · have hm := hmem i hi hne
      have : (i : Int) ∈ st.losers.filter (fun x => decide (0 ≤ x)) := by
        simp [List.mem_filter, hm]
      simp only [nn] at hz
      rw [List.length_eq_zero_iff.mp hz] at this
      cases this
    · constructor
      · exact Classical.byContradiction fun a => hne (Or.inl a)
      · exact Classical.byContradiction fun a => hne (Or.inr a)
  · intro _ i hi hne
    exact List.mem_cons_of_mem _ (hmem i hi hne)
  · intro _
    show nn ((-1 : Int) :: st.losers) ≤ st.count - 1
    omega

end PqModel.IoFault.RdK
