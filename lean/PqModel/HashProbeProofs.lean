import PqModel.HashProbe
/-! The walk of linear probing without deletion (mirror: `PqModel/HashProbe.lean`). `Inv`: a power-of-two number of groups of at
most `G` entries holding (a permutation of) the numbering `S`, keys unique, every numbered key FOUND by the walk from its own
hash. `TInv` adds room under `SizingOk`; `grow`, `probeArray` and a session keep it and answer as `specProbe` does. -/
namespace PqModel.HashProbe

set_option linter.unusedSectionVars false

variable {α : Type} [DecidableEq α]

theorem gfind_mem {k : α} {v : Nat} : ∀ {S : List (α × Nat)}, gfind k S = some v → (k, v) ∈ S
  | [], h => by simp [gfind] at h
  | (a, w) :: rest, h => by
    simp only [gfind] at h
    split at h
    · rename_i e; cases h; subst e; exact List.mem_cons_self
    · exact List.mem_cons_of_mem _ (gfind_mem h)

theorem gfind_none {k : α} : ∀ {S : List (α × Nat)}, gfind k S = none → ∀ v, (k, v) ∉ S
  | [], _, _ => by simp
  | (a, w) :: rest, h, v => by
    simp only [gfind] at h
    split at h
    · cases h
    · rename_i ne
      intro hm
      rcases List.mem_cons.mp hm with e | hm
      · cases e; exact ne rfl
      · exact gfind_none h v hm

theorem gfind_none_of_not_mem {k : α} : ∀ {S : List (α × Nat)}, (∀ v, (k, v) ∉ S) → gfind k S = none
  | [], _ => rfl
  | (a, w) :: rest, h => by
    simp only [gfind]
    split
    · rename_i e; subst e; exact absurd List.mem_cons_self (h w)
    · exact gfind_none_of_not_mem fun v hm => h v (List.mem_cons_of_mem _ hm)

theorem gfind_append_some {k : α} {v : Nat} : ∀ {S : List (α × Nat)} (T : List (α × Nat)),
    gfind k S = some v → gfind k (S ++ T) = some v
  | [], _, h => by simp [gfind] at h
  | (a, w) :: rest, T, h => by
    simp only [gfind, List.cons_append] at h ⊢
    split
    · rename_i e; simpa [e] using h
    · rename_i ne; simp only [ne, if_false] at h; exact gfind_append_some T h

theorem gfind_append_none {k : α} : ∀ {S : List (α × Nat)} (T : List (α × Nat)),
    gfind k S = none → gfind k (S ++ T) = gfind k T
  | [], _, _ => rfl
  | (a, w) :: rest, T, h => by
    simp only [gfind, List.cons_append] at h ⊢
    split
    · rename_i e; simp [e] at h
    · rename_i ne; simp only [ne, if_false] at h; exact gfind_append_none T h

theorem gfind_of_mem_nodup {k : α} {v : Nat} : ∀ {S : List (α × Nat)},
    (S.map Prod.fst).Nodup → (k, v) ∈ S → gfind k S = some v
  | [], _, h => by simp at h
  | (a, w) :: rest, nd, h => by
    simp only [List.map_cons, List.nodup_cons] at nd
    simp only [gfind]
    rcases List.mem_cons.mp h with e | hm
    · cases e; simp
    · split
      · rename_i e; subst e
        exact absurd (List.mem_map.mpr ⟨(a, v), hm, rfl⟩) nd.1
      · exact gfind_of_mem_nodup nd.2 hm

theorem slot_eq_mod {e : Nat} (hash : Nat) : slot (2 ^ e) hash = hash % 2 ^ e := by
  unfold slot; exact Nat.and_two_pow_sub_one_eq_mod hash e

theorem slot_lt {size e : Nat} (h : size = 2 ^ e) (hash : Nat) : slot size hash < size := by
  subst h; rw [slot_eq_mod]; exact Nat.mod_lt _ (Nat.two_pow_pos e)

/-- `hash, hash+1, …, hash+size-1` visit every group -/
theorem slot_cover {size e : Nat} (h : size = 2 ^ e) (hash p : Nat) (hp : p < size) :
    ∃ d, d < size ∧ slot size (hash + d) = p := by
  subst h
  have hr : hash % 2 ^ e < 2 ^ e := Nat.mod_lt _ (Nat.two_pow_pos e)
  have hq : 2 ^ e * (hash / 2 ^ e) + hash % 2 ^ e = hash := Nat.div_add_mod hash (2 ^ e)
  by_cases c : hash % 2 ^ e ≤ p
  · refine ⟨p - hash % 2 ^ e, by omega, ?_⟩
    rw [slot_eq_mod]
    have : hash + (p - hash % 2 ^ e) = 2 ^ e * (hash / 2 ^ e) + p := by omega
    rw [this, Nat.mul_add_mod, Nat.mod_eq_of_lt hp]
  · refine ⟨2 ^ e - hash % 2 ^ e + p, by omega, ?_⟩
    rw [slot_eq_mod]
    have : hash + (2 ^ e - hash % 2 ^ e + p) = 2 ^ e * (hash / 2 ^ e) + (2 ^ e + p) := by omega
    rw [this, Nat.mul_add_mod, Nat.add_mod_left, Nat.mod_eq_of_lt hp]

theorem getD_nil_or_mem (gs : Groups α) (p : Nat) : gs.getD p [] = [] ∨ gs.getD p [] ∈ gs := by
  rw [List.getD_eq_getElem?_getD]
  cases h : gs[p]? with
  | none => left; rfl
  | some g => right; exact List.mem_of_getElem? h

theorem length_putAt (gs : Groups α) (q : Nat) (kv : α × Nat) : (putAt gs q kv).length = gs.length := by
  simp [putAt]

theorem getD_putAt (gs : Groups α) (q p : Nat) (kv : α × Nat) :
    (putAt gs q kv).getD p [] =
      if q = p ∧ q < gs.length then gs.getD q [] ++ [kv] else gs.getD p [] := by
  unfold putAt
  simp only [List.getD_eq_getElem?_getD, List.getElem?_set]
  by_cases e : q = p
  · subst e
    by_cases l : q < gs.length
    · simp [l]
    · simp [l]
  · simp [e]

theorem flatten_putAt_perm : ∀ (gs : Groups α) (q : Nat) (kv : α × Nat), q < gs.length →
    (putAt gs q kv).flatten.Perm (gs.flatten ++ [kv])
  | [], _, _, h => by simp at h
  | g :: rest, 0, kv, _ => by
    simp only [putAt, List.getD_cons_zero, List.set_cons_zero, List.flatten_cons, List.append_assoc]
    exact List.Perm.append_left g List.perm_append_comm
  | g :: rest, q + 1, kv, h => by
    have ih := flatten_putAt_perm rest q kv (by simpa using h)
    simp only [putAt, List.getD_cons_succ, List.set_cons_succ, List.flatten_cons, List.append_assoc] at ih ⊢
    exact List.Perm.append_left g ih

theorem exists_room {G : Nat} : ∀ (gs : Groups α), (∀ g ∈ gs, g.length ≤ G) →
    gs.flatten.length < G * gs.length → ∃ p, p < gs.length ∧ (gs.getD p []).length ≠ G
  | [], _, h => by simp at h
  | g :: rest, hle, h => by
    by_cases c : g.length = G
    · have : rest.flatten.length < G * rest.length := by
        simp only [List.flatten_cons, List.length_append, List.length_cons, Nat.mul_succ] at h
        omega
      obtain ⟨p, hp, hr⟩ := exists_room rest (fun g hg => hle g (List.mem_cons_of_mem _ hg)) this
      exact ⟨p + 1, by simpa using hp, by simpa using hr⟩
    · exact ⟨0, by simp, by simpa using c⟩

theorem locate_none {G : Nat} (fuel : Nat) (gs : Groups α) (hash : Nat) (key : α)
    (h : locate G fuel gs hash key = none) :
    ∀ d, d < fuel → (gs.getD (slot gs.length (hash + d)) []).length = G := by
  -- cases of `locate`: out of fuel, key found here, group full (walk on), group with room
  fun_induction locate G fuel gs hash key with
  | case1 => intro d hd; omega
  | case2 => cases h
  | case3 fuel gs hash key p g nf full ih =>
    intro d hd
    cases d with
    | zero => exact full
    | succ d =>
      have := ih h d (by omega)
      rwa [show hash + 1 + d = hash + (d + 1) by omega] at this
  | case4 => cases h

theorem locate_room {G : Nat} (fuel : Nat) (gs : Groups α) (hash : Nat) (key : α) (p : Nat)
    (h : locate G fuel gs hash key = some (p, none)) :
    (∃ d, p = slot gs.length (hash + d)) ∧ gfind key (gs.getD p []) = none ∧ (gs.getD p []).length ≠ G := by
  fun_induction locate G fuel gs hash key with
  | case1 => cases h
  | case2 => simp at h
  | case3 fuel gs hash key p' g nf full ih =>
    obtain ⟨⟨d, hd⟩, r⟩ := ih h
    exact ⟨⟨d + 1, by rw [hd]; congr 1; omega⟩, r⟩
  | case4 fuel gs hash key p' g nf room =>
    obtain rfl : p' = p := by injection h with h; injection h
    exact ⟨⟨0, rfl⟩, nf, room⟩

theorem locate_found {G : Nat} (fuel : Nat) (gs : Groups α) (hash : Nat) (key : α) (p v : Nat)
    (h : locate G fuel gs hash key = some (p, some v)) : gfind key (gs.getD p []) = some v := by
  fun_induction locate G fuel gs hash key with
  | case1 => cases h
  | case2 fuel gs hash key p' g w fw =>
    injection h with h; injection h with hp hv; injection hv with hv
    subst hp hv; exact fw
  | case3 fuel gs hash key p' g nf full ih => exact ih h
  | case4 => simp at h

theorem locate_absent {G : Nat} (gs : Groups α) (key : α) (habs : ∀ g ∈ gs, gfind key g = none)
    (fuel hash p v : Nat) : locate G fuel gs hash key ≠ some (p, some v) := by
  intro h
  have := locate_found fuel gs hash key p v h
  rcases getD_nil_or_mem gs p with e | m
  · rw [e] at this; simp [gfind] at this
  · rw [habs _ m] at this; cases this

theorem locate_terminates {G : Nat} (gs : Groups α) {e : Nat} (hp2 : gs.length = 2 ^ e)
    (hroom : ∃ p, p < gs.length ∧ (gs.getD p []).length ≠ G) (hash : Nat) (key : α) :
    locate G gs.length gs hash key ≠ none := by
  intro h
  obtain ⟨p, hp, hr⟩ := hroom
  obtain ⟨d, hd, hs⟩ := slot_cover hp2 hash p hp
  have := locate_none gs.length gs hash key h d hd
  rw [hs] at this
  exact hr this

theorem locate_putAt_other {G : Nat} (gs : Groups α) (q : Nat) (k k' : α) (v' : Nat)
    (hq : (gs.getD q []).length ≠ G) (fuel hash p v : Nat) (h : locate G fuel gs hash k = some (p, some v)) :
    locate G fuel (putAt gs q (k', v')) hash k = some (p, some v) := by
  fun_induction locate G fuel gs hash k with
  | case1 => cases h
  | case2 fuel gs hash k p' g w fw =>
    obtain ⟨rfl, rfl⟩ : p' = p ∧ w = v := by simpa using h
    simp only [locate, length_putAt, getD_putAt]
    by_cases c : q = slot gs.length hash ∧ q < gs.length
    · rw [if_pos c, gfind_append_some _ (by rw [c.1]; exact fw)]
    · rw [if_neg c]; simp only [p', g] at fw ⊢; rw [fw]
  | case3 fuel gs hash k p' g nf full ih =>
    have qne : ¬ (q = slot gs.length hash ∧ q < gs.length) := fun c => hq (c.1 ▸ full)
    simp only [locate, length_putAt, getD_putAt, if_neg qne]
    simp only [p', g] at nf full
    simp only [nf, full, if_true]
    exact ih hq h
  | case4 => simp at h

theorem locate_putAt_self {G : Nat} (gs : Groups α) (k : α) (v : Nat)
    (hlt : ∀ hash, slot gs.length hash < gs.length) (fuel hash p : Nat) (h : locate G fuel gs hash k = some (p, none)) :
    locate G fuel (putAt gs p (k, v)) hash k = some (p, some v) := by
  have hr := (locate_room fuel gs hash k p h).2.2
  fun_induction locate G fuel gs hash k with
  | case1 => cases h
  | case2 => simp at h
  | case3 fuel gs hash k p' g nf full ih =>
    have pne : ¬ (p = slot gs.length hash ∧ p < gs.length) := fun c => hr (c.1 ▸ full)
    simp only [locate, length_putAt, getD_putAt, if_neg pne]
    simp only [p', g] at nf full
    simp only [nf, full, if_true]
    exact ih hlt h hr
  | case4 fuel gs hash k p' g nf room =>
    obtain rfl : p' = p := by injection h with h; injection h
    simp only [locate, length_putAt, getD_putAt]
    rw [if_pos ⟨rfl, hlt hash⟩, gfind_append_none _ nf]
    simp [gfind, p']

/-- `grow`'s walk (keys not compared) is the probing walk of a key that is stored nowhere -/
theorem locate_eq_growLocate {G : Nat} (gs : Groups α) (key : α) (habs : ∀ g ∈ gs, gfind key g = none) :
    ∀ (fuel hash : Nat), locate G fuel gs hash key = (growLocate G fuel gs hash).map (·, none)
  | 0, _ => rfl
  | fuel + 1, hash => by
    simp only [locate, growLocate]
    have : gfind key (gs.getD (slot gs.length hash) []) = none := by
      rcases getD_nil_or_mem gs (slot gs.length hash) with e | m
      · rw [e]; rfl
      · exact habs _ m
    simp only [this]
    by_cases c : (gs.getD (slot gs.length hash) []).length = G
    · rw [if_pos c, if_pos c]; exact locate_eq_growLocate gs key habs fuel (hash + 1)
    · rw [if_neg c, if_neg c]; rfl

/-- the groups `gs`, probed with hash function `h`, represent the numbering `S` -/
structure Inv (G : Nat) (gs : Groups α) (h : α → Nat) (S : List (α × Nat)) : Prop where
  pow2 : ∃ e, gs.length = 2 ^ e
  le : ∀ g ∈ gs, g.length ≤ G
  perm : gs.flatten.Perm S
  nd : (S.map Prod.fst).Nodup
  find : ∀ k v, (k, v) ∈ S → ∃ p, locate G gs.length gs (h k) k = some (p, some v)

theorem Inv.absent {G : Nat} {gs : Groups α} {h : α → Nat} {S : List (α × Nat)} (inv : Inv G gs h S)
    {k : α} (hk : ∀ v, (k, v) ∉ S) : ∀ g ∈ gs, gfind k g = none := by
  intro g hg
  apply gfind_none_of_not_mem
  intro v hm
  exact hk v ((inv.perm.mem_iff).mp (List.mem_flatten.mpr ⟨g, hg, hm⟩))

theorem inv_empty (G : Nat) (e : Nat) (h : α → Nat) : Inv G (List.replicate (2 ^ e) ([] : List (α × Nat))) h [] where
  pow2 := ⟨e, by simp⟩
  le := by intro g hg; rw [List.eq_of_mem_replicate hg]; simp
  perm := by rw [List.flatten_replicate_nil]
  nd := by simp
  find := by intro k v hm; simp at hm

/-- the insertion step: a key that is not numbered yet, a table with room: the walk stops at a group with
    room, and putting the key there with ANY value `v` represents `S ++ [(k, v)]` -/
theorem inv_put {G : Nat} {gs : Groups α} {h : α → Nat} {S : List (α × Nat)} (inv : Inv G gs h S)
    (k : α) (v : Nat) (hk : ∀ w, (k, w) ∉ S) (hroom : S.length < G * gs.length) :
    ∃ p, locate G gs.length gs (h k) k = some (p, none) ∧ Inv G (putAt gs p (k, v)) h (S ++ [(k, v)]) := by
  obtain ⟨e, hp2⟩ := inv.pow2
  have habs := inv.absent hk
  have room := exists_room gs inv.le (by rw [inv.perm.length_eq]; exact hroom)
  have hterm := locate_terminates (G := G) gs hp2 room (h k) k
  cases hl : locate G gs.length gs (h k) k with
  | none => exact absurd hl hterm
  | some r =>
    obtain ⟨p, o⟩ := r
    cases o with
    | some w => exact absurd hl (locate_absent gs k habs _ _ _ _)
    | none =>
      refine ⟨p, rfl, ?_⟩
      obtain ⟨⟨d, hd⟩, hnf, hne⟩ := locate_room _ gs (h k) k p hl
      have hplt : p < gs.length := by rw [hd]; exact slot_lt hp2 _
      refine ⟨⟨e, by rw [length_putAt]; exact hp2⟩, ?_, ?_, ?_, ?_⟩
      · intro g hg
        unfold putAt at hg
        rcases List.mem_or_eq_of_mem_set hg with m | e
        · exact inv.le g m
        · subst e
          have : (gs.getD p []).length ≤ G := by
            rcases getD_nil_or_mem gs p with e | m
            · rw [e]; simp
            · exact inv.le _ m
          simp only [List.length_append, List.length_cons, List.length_nil]
          omega
      · exact (flatten_putAt_perm gs p (k, v) hplt).trans (List.Perm.append_right _ inv.perm)
      · rw [List.map_append, List.nodup_append]
        refine ⟨inv.nd, by simp, ?_⟩
        intro a ha b hb
        simp only [List.map_cons, List.map_nil, List.mem_singleton] at hb
        subst hb
        obtain ⟨⟨a1, a2⟩, hm, rfl⟩ := List.mem_map.mp ha
        intro e; exact hk a2 (by simpa [← e] using hm)
      · intro k2 v2 hm
        rw [length_putAt]
        rcases List.mem_append.mp hm with m | m
        · obtain ⟨p2, hp2'⟩ := inv.find k2 v2 m
          exact ⟨p2, locate_putAt_other gs p k2 k v hne _ _ _ _ hp2'⟩
        · simp only [List.mem_singleton] at m
          cases m
          exact ⟨p, locate_putAt_self gs k v (slot_lt hp2) _ _ _ hl⟩

theorem Inv.of_perm {G : Nat} {gs : Groups α} {h : α → Nat} {S T : List (α × Nat)} (inv : Inv G gs h S)
    (p : S.Perm T) : Inv G gs h T where
  pow2 := inv.pow2
  le := inv.le
  perm := inv.perm.trans p
  nd := ((p.map Prod.fst).nodup_iff).mp inv.nd
  find := fun k v hm => inv.find k v (p.mem_iff.mpr hm)


theorem specProbe1_length_le (S : List (α × Nat)) (k : α) :
    S.length ≤ (specProbe1 S k).1.length ∧ (specProbe1 S k).1.length ≤ S.length + 1 := by
  unfold specProbe1; split <;> simp

theorem specProbe_length_le : ∀ (ks : List α) (S : List (α × Nat)),
    S.length ≤ (specProbe S ks).1.length ∧ (specProbe S ks).1.length ≤ S.length + ks.length
  | [], S => by simp [specProbe]
  | k :: ks, S => by
    have a := specProbe1_length_le S k
    have b := specProbe_length_le ks (specProbe1 S k).1
    simp only [specProbe, List.length_cons]
    omega

theorem probeKey_refines {G : Nat} {gs : Groups α} {h : α → Nat} {S : List (α × Nat)} (inv : Inv G gs h S)
    (k : α) (hroom : (specProbe1 S k).1.length ≤ G * gs.length) :
    ∃ gs', probeKey G gs S.length (h k) k = some (gs', (specProbe1 S k).1.length, (specProbe1 S k).2)
      ∧ Inv G gs' h (specProbe1 S k).1 ∧ gs'.length = gs.length := by
  unfold specProbe1 at hroom ⊢
  cases hf : gfind k S with
  | some v =>
    obtain ⟨p, hp⟩ := inv.find k v (gfind_mem hf)
    exact ⟨gs, by simp [probeKey, hp], inv, rfl⟩
  | none =>
    simp only [hf, List.length_append, List.length_cons, List.length_nil] at hroom
    obtain ⟨p, hp, inv'⟩ := inv_put inv k S.length (gfind_none hf) (by omega)
    exact ⟨putAt gs p (k, S.length), by simp [probeKey, hp], inv', length_putAt _ _ _⟩

theorem multiProbe_refines {G : Nat} {h : α → Nat} : ∀ (keys : List α) (gs : Groups α) (S : List (α × Nat)),
    Inv G gs h S → (specProbe S keys).1.length ≤ G * gs.length →
    ∃ gs', multiProbe G gs S.length (keys.map fun k => (h k, k))
        = some (gs', (specProbe S keys).1.length, (specProbe S keys).2)
      ∧ Inv G gs' h (specProbe S keys).1 ∧ gs'.length = gs.length
  | [], gs, S, inv, _ => ⟨gs, rfl, inv, rfl⟩
  | k :: ks, gs, S, inv, hroom => by
    simp only [specProbe] at hroom ⊢
    have mono := specProbe_length_le ks (specProbe1 S k).1
    obtain ⟨gs1, e1, inv1, l1⟩ := probeKey_refines inv k (by omega)
    obtain ⟨gs2, e2, inv2, l2⟩ := multiProbe_refines ks gs1 (specProbe1 S k).1 inv1 (by rw [l1]; exact hroom)
    refine ⟨gs2, ?_, inv2, by rw [l2, l1]⟩
    simp only [List.map_cons, multiProbe, e1, e2]

/-- the 256-key batches of `probeArray`: probing a concatenation = probing the batches in sequence -/
theorem multiProbe_append {G : Nat} : ∀ (a b : List (Nat × α)) (gs : Groups α) (n : Nat),
    multiProbe G gs n (a ++ b) =
      match multiProbe G gs n a with
      | none => none
      | some (gs1, n1, va) =>
        match multiProbe G gs1 n1 b with
        | none => none
        | some (gs2, n2, vb) => some (gs2, n2, va ++ vb)
  | [], b, gs, n => by
    simp only [List.nil_append, multiProbe]
    cases multiProbe G gs n b with
    | none => rfl
    | some r => obtain ⟨gs2, n2, vb⟩ := r; rfl
  | (hash, key) :: a, b, gs, n => by
    simp only [List.cons_append, multiProbe]
    cases probeKey G gs n hash key with
    | none => rfl
    | some r =>
      obtain ⟨gs1, n1, v⟩ := r
      simp only [multiProbe_append a b gs1 n1]
      cases multiProbe G gs1 n1 a with
      | none => rfl
      | some r2 =>
        obtain ⟨gs2, n2, va⟩ := r2
        simp only
        cases multiProbe G gs2 n2 b with
        | none => rfl
        | some r3 => obtain ⟨gs3, n3, vb⟩ := r3; rfl

theorem probeLoop_eq_multiProbe {G : Nat} (h : α → Nat) : ∀ (fuel : Nat) (gs : Groups α) (n : Nat) (keys : List α),
    keys.length ≤ fuel → probeLoop G h fuel gs n keys = multiProbe G gs n (keys.map fun k => (h k, k))
  | 0, gs, n, keys, hl => by
    have : keys = [] := List.length_eq_zero_iff.mp (by omega)
    subst this; rfl
  | fuel + 1, gs, n, keys, hl => by
    simp only [probeLoop]
    split
    · rename_i e; subst e; rfl
    · rename_i ne
      have hpos : 0 < keys.length := List.length_pos_iff.mpr ne
      have e : keys.map (fun k => (h k, k))
          = (keys.take 256).map (fun k => (h k, k)) ++ (keys.drop 256).map (fun k => (h k, k)) := by
        rw [← List.map_append, List.take_append_drop]
      rw [e, multiProbe_append]
      cases multiProbe G gs n ((keys.take 256).map fun k => (h k, k)) with
      | none => rfl
      | some r =>
        obtain ⟨gs1, n1, v⟩ := r
        simp only
        rw [probeLoop_eq_multiProbe h fuel gs1 n1 (keys.drop 256) (by rw [List.length_drop]; omega)]
        cases multiProbe G gs1 n1 ((keys.drop 256).map fun k => (h k, k)) with
        | none => rfl
        | some r2 => obtain ⟨gs2, n2, vs⟩ := r2; rfl

theorem growFill_refines {G : Nat} {h' : α → Nat} : ∀ (E P : List (α × Nat)) (gs : Groups α),
    Inv G gs h' P → ((P ++ E).map Prod.fst).Nodup → (P ++ E).length ≤ G * gs.length →
    ∃ gs', growFill G h' gs E = some gs' ∧ Inv G gs' h' (P ++ E) ∧ gs'.length = gs.length
  | [], P, gs, inv, _, _ => ⟨gs, rfl, by simpa using inv, rfl⟩
  | (k, v) :: E, P, gs, inv, nd, hroom => by
    have hk : ∀ w, (k, w) ∉ P := by
      intro w hm
      rw [List.map_append, List.nodup_append] at nd
      exact nd.2.2 k (List.mem_map.mpr ⟨(k, w), hm, rfl⟩) k (by simp) rfl
    have hlen : P.length < G * gs.length := by
      simp only [List.length_append, List.length_cons] at hroom; omega
    obtain ⟨p, hp, inv'⟩ := inv_put inv k v hk hlen
    rw [locate_eq_growLocate gs k (inv.absent hk)] at hp
    have e : (P ++ [(k, v)]) ++ E = P ++ (k, v) :: E := by simp
    obtain ⟨gs', eg, invg, lg⟩ := growFill_refines E (P ++ [(k, v)]) (putAt gs p (k, v)) inv'
      (by rw [e]; exact nd) (by rw [e, length_putAt]; exact hroom)
    refine ⟨gs', ?_, by rw [← e]; exact invg, by rw [lg, length_putAt]⟩
    simp only [growFill]
    cases hg : growLocate G gs.length gs (h' k) with
    | none => rw [hg] at hp; cases hp
    | some q =>
      rw [hg] at hp
      simp only [Option.map_some, Option.some.injEq, Prod.mk.injEq, and_true] at hp
      subst hp
      exact eg

/-- `tableSizeAndMaxLen` as far as the theorems need it: a power of two number of groups with room for the
    requested number of values, and a growth threshold within that room -/
def SizingOk (G : Nat) (sz : Nat → Nat × Nat) : Prop :=
  ∀ n, (∃ e, (sz n).1 = 2 ^ e) ∧ n ≤ G * (sz n).1 ∧ (sz n).2 ≤ G * (sz n).1

/-- the table `t` represents the numbering `S` -/
structure TInv (G : Nat) (t : Table α) (S : List (α × Nat)) : Prop where
  inv : Inv G t.groups t.h S
  len : t.len = S.length
  cap : t.maxLen ≤ G * t.groups.length

theorem grow_refines {G : Nat} {sz : Nat → Nat × Nat} (hsz : SizingOk G sz) (h' : α → Nat) {t : Table α}
    {S : List (α × Nat)} (ti : TInv G t S) (total : Nat) (ht : S.length ≤ total) :
    ∃ t', grow G sz h' t total = some t' ∧ TInv G t' S ∧ t'.maxLen = (sz total).2
      ∧ t'.groups.length = (sz total).1 := by
  obtain ⟨⟨e, he⟩, hroom, hmax⟩ := hsz total
  have nd : (([] ++ t.groups.flatten).map Prod.fst).Nodup := by
    simpa using ((ti.inv.perm.map Prod.fst).nodup_iff).mpr ti.inv.nd
  have hl : ([] ++ t.groups.flatten).length ≤ G * (List.replicate (sz total).1 ([] : List (α × Nat))).length := by
    simp only [List.nil_append, List.length_replicate]
    rw [ti.inv.perm.length_eq]; omega
  have inv0 : Inv G (List.replicate (sz total).1 ([] : List (α × Nat))) h' [] := by
    rw [he]; exact inv_empty G e h'
  obtain ⟨gs', eg, invg, lg⟩ := growFill_refines t.groups.flatten [] _ inv0 nd hl
  simp only [List.nil_append, List.length_replicate] at invg lg
  refine ⟨{ len := t.len, maxLen := (sz total).2, h := h', groups := gs' }, by simp [grow, eg], ?_, rfl, lg⟩
  exact ⟨invg.of_perm ti.inv.perm, ti.len, by simp only [lg]; exact hmax⟩

theorem probeArray_refines {G : Nat} {sz : Nat → Nat × Nat} (hsz : SizingOk G sz) (h' : α → Nat)
    {t : Table α} {S : List (α × Nat)} (ti : TInv G t S) (keys : List α) :
    ∃ t', probeArray G sz h' t keys = some (t', (specProbe S keys).2) ∧ TInv G t' (specProbe S keys).1 := by
  have bound := (specProbe_length_le keys S).2
  have key : ∃ t1, (if t.len + keys.length > t.maxLen then grow G sz h' t (t.len + keys.length) else some t)
      = some t1 ∧ TInv G t1 S ∧ S.length + keys.length ≤ G * t1.groups.length := by
    by_cases c : t.len + keys.length > t.maxLen
    · obtain ⟨t1, e1, ti1, _, l1⟩ := grow_refines hsz h' ti (t.len + keys.length) (by rw [ti.len]; omega)
      refine ⟨t1, by rw [if_pos c]; exact e1, ti1, ?_⟩
      rw [l1, ← ti.len]; exact (hsz _).2.1
    · refine ⟨t, by rw [if_neg c], ti, ?_⟩
      have := ti.cap; rw [← ti.len]; omega
  obtain ⟨t1, e1, ti1, room⟩ := key
  obtain ⟨gs', em, invm, lm⟩ := multiProbe_refines (h := t1.h) keys t1.groups S ti1.inv (by omega)
  refine ⟨{ t1 with len := (specProbe S keys).1.length, groups := gs' }, ?_, ⟨invm, rfl, ?_⟩⟩
  · simp only [probeArray, e1, probeLoop_eq_multiProbe t1.h _ _ _ keys (Nat.le_refl _), ti1.len, em]
  · simp only [lm]; exact ti1.cap

theorem mkTable_inv {G : Nat} {sz : Nat → Nat × Nat} (hsz : SizingOk G sz) (h : α → Nat) (cap : Nat) :
    TInv G (mkTable sz h cap) [] := by
  obtain ⟨⟨e, he⟩, _, hmax⟩ := hsz cap
  refine ⟨?_, rfl, by simpa [mkTable] using hmax⟩
  simp only [mkTable]; rw [he]; exact inv_empty G e h

theorem reset_inv {G : Nat} {t : Table α} {S : List (α × Nat)} (ti : TInv G t S) : TInv G (reset t) [] := by
  obtain ⟨e, he⟩ := ti.inv.pow2
  refine ⟨?_, rfl, by simpa [reset] using ti.cap⟩
  simp only [reset]; rw [he]; exact inv_empty G e t.h

theorem session_refines {G : Nat} {sz : Nat → Nat × Nat} (hsz : SizingOk G sz) :
    ∀ (calls : List ((α → Nat) × List α)) (t : Table α) (S : List (α × Nat)), TInv G t S →
      session G sz t calls = some (specSession S (calls.map Prod.snd))
  | [], _, _, _ => rfl
  | (h', keys) :: rest, t, S, ti => by
    obtain ⟨t1, e1, ti1⟩ := probeArray_refines hsz h' ti keys
    simp only [session, e1, List.map_cons, specSession, session_refines hsz rest t1 _ ti1, Option.map_some]

end PqModel.HashProbe
