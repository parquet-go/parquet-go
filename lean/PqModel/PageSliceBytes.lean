/-! # `byteArrayPage.Slice`: the offsets window (C08)

A BYTE_ARRAY page keeps all bytes in `values` and `numValues + 1` offsets; value `i` is
`values[offsets[i]:offsets[i+1]]` (page_byte_array.go:63-69 `index`). `Slice(i, j)` shares `values`
and keeps offsets `i..j` — `j + 1 - i` of them, the end of the last value included
(page_byte_array.go:137-144); the first offset of a slice is not 0.

* MIRROR: `BaPg`, `baLen` (`len()`), `baIndex` (`index`), `sliceBa` (`Slice`), `baValues` (what
  `Values()` delivers: `index 0 … len-1`).
* SPEC: values `i..j-1` of the list of values. -/
namespace PqModel.PageSlice

structure BaPg where
  values : List Nat
  offsets : List Nat
deriving DecidableEq, Repr

/-- MIRROR of `byteArrayPage.len` -/
def baLen (p : BaPg) : Nat := p.offsets.length - 1

/-- MIRROR of `byteArrayPage.index` -/
def baIndex (p : BaPg) (i : Nat) : List Nat :=
  (p.values.drop (p.offsets[i]?.getD 0)).take (p.offsets[i + 1]?.getD 0 - p.offsets[i]?.getD 0)

/-- MIRROR of `byteArrayPage.Slice` -/
def sliceBa (p : BaPg) (i j : Nat) : BaPg := ⟨p.values, (p.offsets.drop i).take (j + 1 - i)⟩

def baValues (p : BaPg) : List (List Nat) := (List.range (baLen p)).map (baIndex p)

theorem baIndex_slice (p : BaPg) (i j k : Nat) (hk : k < j - i) :
    baIndex (sliceBa p i j) k = baIndex p (i + k) := by
  unfold baIndex sliceBa
  simp only [List.getElem?_take, List.getElem?_drop]
  rw [if_pos (by omega), if_pos (by omega), Nat.add_assoc]

theorem baLen_slice (p : BaPg) (i j : Nat) (hij : i ≤ j) (hj : j ≤ baLen p) (hne : p.offsets ≠ []) :
    baLen (sliceBa p i j) = j - i := by
  have hl : 0 < p.offsets.length := List.length_pos_iff.mpr hne
  have hj2 : j + 1 - i ≤ p.offsets.length - i := by unfold baLen at hj; omega
  simp only [baLen, sliceBa, List.length_take, List.length_drop, Nat.min_eq_left hj2]
  omega

end PqModel.PageSlice
