import PqModel.RowsRefineStream
import PqModel.RowsRefineSeek
import PqModel.RowsBufProofs
import PqModel.RowsState

/-! Refinement `RowsBuf` → `RowsState`, part 2: the simulation. `Rel` relates a state of the
    buffer-level mirror of `rowGroupRows` to a state of the abstract mirror; every `ReadRows` /
    `SeekToRow` / `Reset` of `RowsBuf` is the same operation of `RowsState` for SOME behaviour `fails`
    of the column readers (the one that lets no column fail when the call succeeds, the one that lets
    exactly the column fail whose read failed when it does not), and `Rel` holds again afterwards. -/
namespace PqModel.RowsRefine
open PqModel.RowsBuf

theorem rowsOf_nil : ∀ (n i : Nat) (a : List Val), (rowsOf n []).1[i]? = some a → a = []
  | 0, i, a, h => by simp [rowsOf] at h
  | n + 1, 0, a, h => by simp [rowsOf] at h; exact h
  | n + 1, i + 1, a, h => by
    simp only [rowsOf, List.drop_nil, List.getElem?_cons_succ] at h
    exact rowsOf_nil n i a h

theorem groups_rowsOf : ∀ (n : Nat) {p b : Nat} {S : List Val}, Groups p b S →
    Groups (p + min n (b - p)) b (rowsOf n S).2 ∧ nrows n S = min n (b - p) ∧
    ∀ i a, (rowsOf n S).1[i]? = some a → ∀ v ∈ a, v.row = p + i
  | 0, p, b, S, h => by simp [rowsOf, nrows]; exact h
  | n + 1, p, b, S, h => by
    by_cases hS : S = []
    · subst hS
      have hpb : p = b := by cases h; rfl
      subst hpb
      have ih := groups_rowsOf n h
      simp only [Nat.sub_self, Nat.min_zero, Nat.add_zero] at ih ⊢
      refine ⟨by simpa [rowsOf] using ih.1, by simp [nrows], ?_⟩
      intro i a ha v hv
      have := rowsOf_nil (n + 1) i a ha
      subst this
      simp at hv
    · have hlt := h.lt_of_ne_nil hS
      obtain ⟨h1, h2⟩ := groups_scan h hS
      have ih := groups_rowsOf n h1
      refine ⟨?_, ?_, ?_⟩
      · simp only [rowsOf]
        have : p + min (n + 1) (b - p) = p + 1 + min n (b - (p + 1)) := by omega
        rw [this]; exact ih.1
      · simp only [nrows, hS, if_false, ih.2.1]; omega
      · intro i a ha v hv
        cases i with
        | zero =>
          simp only [rowsOf, List.getElem?_cons_zero, Option.some.injEq] at ha
          subst ha
          simpa using h2 v hv
        | succ i =>
          simp only [rowsOf, List.getElem?_cons_succ] at ha
          have := ih.2.2 i a ha v hv
          omega

theorem colLoop_at (pages : List Page) (total B : Nat) (hB : 0 < B) (n i : Nat) (s : Scan) (p : Nat)
    (hE : Einv pages s) (hat : Lands p total (cstream pages s.col)) (s' : Scan) (accs : List (List Val))
    (h : colLoop pages B n i s = .ok s' accs) :
    Lands (p + min n (total - p)) total (cstream pages s'.col) ∧
    s'.rowCount = (if min n (total - p) = 0 then s.rowCount else max s.rowCount (i + min n (total - p))) ∧
    ∀ j a, accs[j]? = some a → ∀ v ∈ a, v.row = p + j := by
  obtain ⟨b, hg, hb, hfl⟩ := hat
  obtain ⟨g1, g2, g3, g4⟩ := colLoop_stream pages B hB n i s hE s' accs h
  obtain ⟨r1, r2, r3⟩ := groups_rowsOf n hg
  have hpb := hg.row_bounds.1
  have hcnt : min n (b - p) = min n (total - p) := by
    by_cases hn : n ≤ b - p
    · omega
    · have := hfl (g4 (by omega)); omega
  rw [r2, hcnt] at g3
  rw [hcnt] at r1
  refine ⟨⟨b, ?_, hb, ?_⟩, g3, ?_⟩
  · rw [g2]; exact r1
  · rw [g2]; exact hfl
  · rw [g1]; exact r3

/-- every column chunk of the file has the same `total` rows in well-formed pages -/
def WfFile (file : List (List Page)) (total : Nat) : Prop := ∀ pages ∈ file, WfPages 0 pages total

def ColsAt (total : Nat) : List (List Page) → List Col → List (Option Nat) → Prop
  | pages :: file, c :: cs, a :: as => ColAt pages total c a ∧ ColsAt total file cs as
  | [], [], [] => True
  | _, _, _ => False

/-- ABSTRACTION: the error field is the same, `r.rowIndex` is the same (the -1 of a new reader is the
    0 of `RowsState.init`), and — also while the error is pending — abstract column `j` stands on row
    `p` only if the stream of concrete column `j` starts with row `p` (`none`, the column whose read
    failed, promises nothing) -/
def Rel (file : List (List Page)) (total : Nat) (st : St) (a : RowsState.St) : Prop :=
  a.err = st.err ∧ -1 ≤ st.rowIndex ∧ a.rowIndex = st.rowIndex.toNat ∧ a.cols.length = file.length ∧
  ColsAt total file st.cols a.cols

def mapOp : Op → RowsState.Op
  | .read n => .read n
  | .seek k => .seek k
  | .reset => .reset

/-- what a call returns: the same kind of result; when rows are returned, as many as the abstract
    reader says, and every value of row `i` of the result is a value of row `q + i` of its column for
    a row `q` the abstract reader took a column from -/
def OutRel : Out → RowsState.Out → Prop
  | .failed, .failed => True
  | .done, .done => True
  | .rows rs _, .rows starts count =>
    rs.length = count ∧ ∀ i r, rs[i]? = some r → ∀ v ∈ r, ∃ q, some q ∈ starts ∧ v.row = q + i
  | _, _ => False

theorem ColsAt.length_eq {total : Nat} {file : List (List Page)} {cs : List Col} {as : List (Option Nat)} :
    ColsAt total file cs as → cs.length = file.length ∧ as.length = file.length := by
  fun_induction ColsAt total file cs as with
  | case1 pages file c cs a as ih => exact fun h => by have := ih h.2; simp only [List.length_cons]; omega
  | case2 => exact fun _ => ⟨rfl, rfl⟩
  | case3 => exact False.elim

theorem fresh_at (total k : Nat) (f : List Page → Reader)
    (hf : ∀ pages, WfPages 0 pages total → (f pages).values = none ∧ Lands k total (pstream pages (f pages).cur)) :
    ∀ (file : List (List Page)), WfFile file total →
      ColsAt total file (file.map fun pages => ({ reader := f pages, buf := [] } : Col))
        (List.replicate file.length (some k))
  | [], _ => trivial
  | pages :: file, hw => by
    have h1 := hf pages (hw pages (by simp))
    refine ⟨?_, fresh_at total k f hf file fun q hq => hw q (by simp [hq])⟩
    simp only [ColAt, cstream, rstream, h1.1, Option.getD_none, List.nil_append]
    exact h1.2

theorem seekReader_fresh (total k : Nat) (hk : k ≤ total) (pages : List Page) (h : WfPages 0 pages total) :
    (seekReader pages k).values = none ∧ Lands k total (pstream pages (seekReader pages k).cur) :=
  ⟨rfl, seek_lands pages total k h hk⟩

theorem Rel.fresh (file : List (List Page)) (total : Nat) (hw : WfFile file total) (k : Nat) (ri : Int)
    (hri : -1 ≤ ri) (f : List Page → Reader)
    (hf : ∀ pages, WfPages 0 pages total → (f pages).values = none ∧ Lands k total (pstream pages (f pages).cur))
    (a : RowsState.St) (he : a.err = false) (hr : a.rowIndex = ri.toNat) (hlen : a.cols.length = file.length)
    (hall : ∀ c ∈ a.cols, c = some k) :
    Rel file total { cols := file.map fun pages => { reader := f pages, buf := [] }, rowIndex := ri, err := false } a :=
  ⟨he, hri, hr, hlen, List.eq_replicate_iff.mpr ⟨hlen, hall⟩ ▸ fresh_at total k f hf file hw⟩

/-- the loop over the columns is the abstract loop for SOME `fails`: silent when no column failed, failing
    exactly column `j` when its read failed. `j0` and the first clause carry the induction: the `fails`
    found for the tail is silent on the columns already passed -/
theorem colsLoop_refines (total B : Nat) (hB : 0 < B) (n p : Nat) (file : List (List Page)) (cs : List Col)
    (as : List (Option Nat)) (ec rc j0 : Nat) :
    ColsAt total file cs as → (∀ a ∈ as, a = some p) →
      ∃ fails : RowsState.Fails, (∀ col x y, col < j0 → fails col x y = false) ∧
        (RowsState.readCols fails (min n (total - p)) j0 as).2 = (colsLoop B n file cs ec rc).failed ∧
        ColsAt total file (colsLoop B n file cs ec rc).cols (RowsState.readCols fails (min n (total - p)) j0 as).1 ∧
        ((colsLoop B n file cs ec rc).failed = false →
          (colsLoop B n file cs ec rc).rowCount =
            (if min n (total - p) = 0 ∨ file = [] then rc else max rc (min n (total - p))) ∧
          ∀ a ∈ (colsLoop B n file cs ec rc).accs, ∀ j x, a[j]? = some x → ∀ v ∈ x, v.row = p + j) := by
  fun_induction ColsAt total file cs as generalizing ec rc j0 with
  | case2 => exact fun _ _ => ⟨fun _ _ _ => false, fun _ _ _ _ => rfl, rfl, trivial, fun _ => ⟨by simp [colsLoop], nofun⟩⟩
  | case3 => exact False.elim
  | case1 pages file c cs a as ih =>
    intro h ha
    cases ha a (by simp)
    unfold colsLoop
    split
    · rename_i s heq
      refine ⟨fun col _ _ => col == j0, fun col _ _ hc => by simp; omega, ?_, ?_, nofun⟩
      · simp [RowsState.readCols]
      · simp only [RowsState.readCols, beq_self_eq_true, if_true]
        exact ⟨trivial, h.2⟩
    · rename_i s accs heq
      obtain ⟨c1, c2, c3⟩ := colLoop_at pages total B hB n 0
        { col := c, eof := false, eofCount := ec, rowCount := rc } p (fun h => by simp at h) h.1 s accs heq
      obtain ⟨fails, hlt, e1, e2, e3⟩ := ih s.eofCount s.rowCount (j0 + 1) h.2 (fun x hx => ha x (by simp [hx]))
      refine ⟨fails, fun col x y hc => hlt col x y (by omega), ?_, ?_, fun hnf => ?_⟩
      · simp only [RowsState.readCols, hlt j0 _ _ (Nat.lt_succ_self _), Bool.false_eq_true, if_false]; exact e1
      · simp only [RowsState.readCols, hlt j0 _ _ (Nat.lt_succ_self _), Bool.false_eq_true, if_false]
        exact ⟨c1, e2⟩
      · obtain ⟨i2, i3⟩ := e3 hnf
        refine ⟨?_, List.forall_mem_cons.mpr ⟨c3, i3⟩⟩
        rw [i2, c2]
        simp only [Nat.zero_add, List.cons_ne_nil, or_false]
        by_cases hz : min n (total - p) = 0
        · simp [hz]
        · simp only [hz, if_false, false_or]
          split <;> omega

theorem assemble_rows (rc p : Nat) (accs : List (List (List Val)))
    (h : ∀ a ∈ accs, ∀ j x, a[j]? = some x → ∀ v ∈ x, v.row = p + j) :
    (assemble rc accs).length = rc ∧ ∀ i r, (assemble rc accs)[i]? = some r → ∀ v ∈ r, v.row = p + i := by
  refine ⟨by simp [assemble], fun i r hr v hv => ?_⟩
  obtain ⟨a, ha, x, hx, hvx⟩ := mem_assemble hr hv
  exact h a ha i x hx v hvx

theorem read_refines (file : List (List Page)) (total B : Nat) (hw : WfFile file total) (hne : file ≠ [])
    (hB : 0 < B) (st : St) (a : RowsState.St) (hR : Rel file total st a) (hA : RowsState.Aligned a) (n : Nat) :
    ∃ fails, Rel file total (read file B st n).1 (RowsState.read fails total a n).1 ∧
      OutRel (read file B st n).2 (RowsState.read fails total a n).2 := by
  obtain ⟨he, hm1, hri, hlen, hcols⟩ := hR
  by_cases hse : st.err = true
  · have hae : a.err = true := by rw [he, hse]
    refine ⟨fun _ _ _ => false, ?_⟩
    rw [RowsState.error_is_sticky _ total a n hae, read_pending file B st n hse]
    exact ⟨⟨he, hm1, hri, hlen, hcols⟩, trivial⟩
  · have hse' : st.err = false := by simpa using hse
    have hae : a.err = false := by rw [he, hse']
    have hall := hA hae
    -- the reader after `if r.rowIndex < 0 { r.SeekToRow(0) }`
    obtain ⟨st1, hst1, he1, hpos1, hri1, hcols1⟩ : ∃ st1 : St, (if st.rowIndex < 0 then seek file st 0 else st) = st1 ∧
        st1.err = false ∧ 0 ≤ st1.rowIndex ∧ a.rowIndex = st1.rowIndex.toNat ∧ ColsAt total file st1.cols a.cols := by
      by_cases hneg : st.rowIndex < 0
      · have h0 : a.rowIndex = 0 := by rw [hri]; omega
        have hc : ((0 : Nat) : Int) ≠ st.rowIndex := by omega
        refine ⟨_, by rw [if_pos hneg, seek, if_pos (.inl hc)], rfl, Int.le_refl _, by simpa using h0, ?_⟩
        exact (Rel.fresh file total hw 0 0 (by omega) _ (seekReader_fresh total 0 (Nat.zero_le _)) a hae
          (by simpa using h0) hlen fun c hc => by rw [hall c hc, h0]).2.2.2.2
      · exact ⟨st, if_neg hneg, hse', by omega, hri, hcols⟩
    simp only [RowsBuf.read, hse', Bool.false_eq_true, if_false, hst1]
    obtain ⟨fails, _, e1, e2, e3⟩ :=
      colsLoop_refines total B hB n a.rowIndex file st1.cols a.cols 0 0 0 hcols1 hall
    refine ⟨fails, ?_⟩
    by_cases hfl : (colsLoop B n file st1.cols 0 0).failed = true
    · simp only [hfl, if_true, RowsState.read, hae, Bool.false_eq_true, if_false, e1]
      exact ⟨⟨rfl, by show (-1 : Int) ≤ st1.rowIndex; omega, hri1, (ColsAt.length_eq e2).2, e2⟩, trivial⟩
    · have hfl' : (colsLoop B n file st1.cols 0 0).failed = false := by simpa using hfl
      obtain ⟨k2, k3⟩ := e3 hfl'
      have hrc : (colsLoop B n file st1.cols 0 0).rowCount = min n (total - a.rowIndex) := by
        rw [k2]; simp only [hne, or_false]; split <;> omega
      obtain ⟨m1, m2⟩ := assemble_rows (colsLoop B n file st1.cols 0 0).rowCount a.rowIndex _ k3
      simp only [hfl', Bool.false_eq_true, if_false, RowsState.read, hae, e1]
      refine ⟨⟨he1 ▸ rfl, by show (-1 : Int) ≤ st1.rowIndex + _; omega, ?_, (ColsAt.length_eq e2).2, e2⟩,
        by rw [m1, hrc], ?_⟩
      · show a.rowIndex + min n (total - a.rowIndex) = (st1.rowIndex + ((colsLoop B n file st1.cols 0 0).rowCount : Int)).toNat
        rw [hrc, hri1, Int.toNat_add hpos1 (Int.natCast_nonneg _), Int.toNat_natCast]
      · intro i r hr v hv
        obtain ⟨c0, hc0⟩ := List.exists_mem_of_length_pos (l := a.cols) (by
          rw [hlen]; exact List.length_pos_iff.mpr hne)
        exact ⟨a.rowIndex, by rw [← hall c0 hc0]; exact hc0, m2 i r hr v hv⟩

theorem seek_refines (file : List (List Page)) (total : Nat) (hw : WfFile file total)
    (st : St) (a : RowsState.St) (hR : Rel file total st a) (hA : RowsState.Aligned a) (k : Nat) (hk : k ≤ total) :
    Rel file total (seek file st k) (RowsState.seek a k) := by
  obtain ⟨he, hm1, hri, hlen, hcols⟩ := hR
  by_cases hc : (k : Int) ≠ st.rowIndex ∨ st.err = true
  · -- the concrete reader repositions every column; the abstract one does, or stands there already
    have habs := RowsState.seek_aligns a k hA
    simp only [seek, hc, if_true]
    exact .fresh file total hw k k (by omega) _ (seekReader_fresh total k hk) _ habs.1 (by simpa using habs.2.1)
      (habs.2.2.1.trans hlen) habs.2.2.2
  · have hk' : (k : Int) = st.rowIndex := by
      have : ¬ (k : Int) ≠ st.rowIndex := fun h => hc (Or.inl h)
      omega
    have hse : st.err = false := by
      cases h : st.err with
      | false => rfl
      | true => exact absurd (Or.inr h) hc
    have hac : ¬ (k ≠ a.rowIndex ∨ a.err = true) := by
      rw [he, hse, hri]
      intro h
      rcases h with h | h
      · omega
      · simp at h
    simp only [seek, hc, if_false, RowsState.seek, hac]
    exact ⟨he, hm1, hri, hlen, hcols⟩

theorem reset_refines (file : List (List Page)) (total : Nat) (hw : WfFile file total)
    (st : St) (a : RowsState.St) (hR : Rel file total st a) :
    Rel file total (reset file st) (RowsState.reset a) :=
  .fresh file total hw 0 0 (by omega) _ (seekReader_fresh total 0 (by omega)) _ rfl rfl
    (by simpa [RowsState.reset] using hR.2.2.2.1) (by simp [RowsState.reset])

/-- the seeks of a history stay inside the row group (a seek behind the end is `ErrSeekOutOfRange`
    territory: C08) -/
def OpOk (total : Nat) : Op → Prop
  | .seek k => k ≤ total
  | _ => True

theorem step_refines (file : List (List Page)) (total B : Nat) (hw : WfFile file total) (hne : file ≠ [])
    (hB : 0 < B) (st : St) (a : RowsState.St) (hR : Rel file total st a) (hA : RowsState.Aligned a)
    (op : Op) (hop : OpOk total op) :
    ∃ fails, Rel file total (step file B st op).1 (RowsState.step fails total a (mapOp op)).1 ∧
      OutRel (step file B st op).2 (RowsState.step fails total a (mapOp op)).2 := by
  cases op with
  | read n => exact read_refines file total B hw hne hB st a hR hA n
  | seek k => exact ⟨fun _ _ _ => false, seek_refines file total hw st a hR hA k hop, trivial⟩
  | reset => exact ⟨fun _ _ _ => false, reset_refines file total hw st a hR, trivial⟩

theorem init_rel (file : List (List Page)) (total : Nat) (hw : WfFile file total) :
    Rel file total (init file) (RowsState.init file.length) :=
  .fresh file total hw 0 (-1) (by omega) _ (fun pages h => ⟨rfl, init_lands pages total h⟩) _ rfl rfl
    (by simp [RowsState.init]) (fun c hc => (List.mem_replicate.mp hc).2)

theorem reach_rel (file : List (List Page)) (total B : Nat) (hw : WfFile file total) (hne : file ≠ [])
    (hB : 0 < B) (ops : List Op) (hops : ∀ op ∈ ops, OpOk total op) :
    ∃ a, Rel file total (reach file B ops) a ∧ RowsState.Aligned a :=
  List.foldlRecOn ops _ (motive := fun st => ∃ a, Rel file total st a ∧ RowsState.Aligned a)
    ⟨_, init_rel file total hw, RowsState.init_aligned _⟩ fun st ⟨a, hR, hA⟩ op hop =>
      have ⟨fails, h1, _⟩ := step_refines file total B hw hne hB st a hR hA op (hops op hop)
      ⟨_, h1, RowsState.step_aligned fails total a (mapOp op) hA⟩

theorem abs_read_rows (fails : RowsState.Fails) (total : Nat) (a : RowsState.St) (n : Nat)
    (starts : List (Option Nat)) (count : Nat)
    (h : (RowsState.read fails total a n).2 = .rows starts count) :
    a.err = false ∧ starts = a.cols ∧ count = min n (total - a.rowIndex) := by
  revert h
  fun_cases RowsState.read fails total a n
  · exact nofun
  · exact nofun
  · rename_i he _ _ _
    exact fun h => ⟨by simpa using he, (RowsState.Out.rows.inj h).1.symm, (RowsState.Out.rows.inj h).2.symm⟩

theorem read_rows_aligned (file : List (List Page)) (total B : Nat) (hw : WfFile file total) (hne : file ≠ [])
    (hB : 0 < B) (st : St) (a : RowsState.St) (hR : Rel file total st a) (hA : RowsState.Aligned a) (n : Nat)
    (rs : List (List Val)) (eof : Bool) (h : (RowsBuf.read file B st n).2 = .rows rs eof) :
    rs.length = min n (total - st.rowIndex.toNat) ∧
    ∀ i r, rs[i]? = some r → ∀ v ∈ r, v.row = st.rowIndex.toNat + i := by
  obtain ⟨fails, _, hO⟩ := read_refines file total B hw hne hB st a hR hA n
  rw [h] at hO
  cases hout : (RowsState.read fails total a n).2 with
  | failed => rw [hout] at hO; simp [OutRel] at hO
  | done => rw [hout] at hO; simp [OutRel] at hO
  | rows starts count =>
    rw [hout] at hO
    obtain ⟨hae, hs, hc⟩ := abs_read_rows fails total a n starts count hout
    obtain ⟨hl, hv⟩ := hO
    have hri : a.rowIndex = st.rowIndex.toNat := hR.2.2.1
    refine ⟨by rw [hl, hc, hri], ?_⟩
    intro i r hr v hvr
    obtain ⟨q, hq, hrow⟩ := hv i r hr v hvr
    rw [hs] at hq
    have := hA hae _ hq
    simp only [Option.some.injEq] at this
    rw [hrow, this, hri]

end PqModel.RowsRefine
