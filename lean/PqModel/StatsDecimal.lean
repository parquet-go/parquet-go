import PqModel.CompareTypes

/-! # Binary DECIMAL columns (C05): `compareDecimalByteArrays` is the order of the represented integers for
    every pair of widths, and the boundary-order scan of `decimalColumnIndexer` is sound.

MIRRORS of type_decimal.go: `cmpDecimal` (in `Stats.lean`), `skipAdj`, `adjNone`, `orderOfDecimal`, `decimalIndex*`,
`boundsDecimal` / `boundsDecimalDict` (the two `Bounds` loops). SPEC (in `Stats.lean`): `decimalValue` / `decimalBinary`
(LogicalTypes.md, DECIMAL: big-endian two's complement of any width). -/
namespace PqModel.Stats

/-- three-way comparison as the Go functions return it -/
def cmp3N (x y : Nat) : Int := if x < y then -1 else if y < x then 1 else 0
/-- `Compare.cmpInt` (`cmpInt_eq_compare`) under the name the DECIMAL statements use -/
def cmpInt (x y : Int) : Int := if x < y then -1 else if y < x then 1 else 0

theorem cmpInt_eq_compare (x y : Int) : cmpInt x y = Compare.cmpInt x y := rfl

def IsBytes (l : List Nat) : Prop := ∀ x ∈ l, x ≤ 255

theorem IsBytes.tail {b : Nat} {l : List Nat} (h : IsBytes (b :: l)) : IsBytes l :=
  fun x hx => h x (List.mem_cons_of_mem _ hx)

theorem IsBytes.head {b : Nat} {l : List Nat} (h : IsBytes (b :: l)) : b ≤ 255 := h b (by simp)

theorem isBytes_cons {b : Nat} {l : List Nat} (hb : b ≤ 255) (h : IsBytes l) : IsBytes (b :: l) := by
  intro x hx
  rcases List.mem_cons.mp hx with rfl | hx
  · exact hb
  · exact h x hx

theorem pow256_succ (n : Nat) : 256 ^ (n + 1) = 256 * 256 ^ n := Nat.pow_succ'

theorem cmp3N_of_lt {x y : Nat} (h : x < y) : cmp3N x y = -1 := if_pos h

theorem cmp3N_of_gt {x y : Nat} (h : y < x) : cmp3N x y = 1 := by
  rw [cmp3N, if_neg (Nat.lt_asymm h), if_pos h]

theorem cmp3N_add_left (c x y : Nat) : cmp3N (c + x) (c + y) = cmp3N x y := by
  simp only [cmp3N, Nat.add_lt_add_iff_left]

theorem cmp3N_eq_cmpInt_sub (x y : Nat) (c : Int) : cmp3N x y = cmpInt (x - c) (y - c) := by
  simp only [cmp3N, cmpInt, Int.sub_lt_sub_right_iff, Int.ofNat_lt]

theorem neg_cmpInt (x y : Int) : -cmpInt x y = cmpInt y x := by
  rw [cmpInt_eq_compare, cmpInt_eq_compare, Compare.cmpInt_anti x y]

theorem cmpInt_neg_iff (x y : Int) : cmpInt x y < 0 ↔ x < y := cmpInt_eq_compare x y ▸ Compare.cmpInt_lt x y

theorem cmpInt_pos_iff (x y : Int) : cmpInt x y > 0 ↔ y < x := cmpInt_eq_compare x y ▸ Compare.cmpInt_gt x y

theorem cmpInt_eq_zero_iff (x y : Int) : cmpInt x y = 0 ↔ x = y := cmpInt_eq_compare x y ▸ Compare.cmpInt_eq x y

theorem lead_lt {P a0 b0 ra : Nat} (rb : Nat) (h : a0 < b0) (hra : ra < P) : a0 * P + ra < b0 * P + rb :=
  calc a0 * P + ra < (a0 + 1) * P := by rw [Nat.add_mul, Nat.one_mul]; omega
    _ ≤ b0 * P := Nat.mul_le_mul_right _ h
    _ ≤ b0 * P + rb := Nat.le_add_right _ _

theorem IsBytes.compare {l : List Nat} (h : IsBytes l) : CompareTypes.IsBytes l := fun x hx => Nat.lt_succ_of_le (h x hx)

theorem beNat_eq : ∀ l : List Nat, CompareTypes.beNat l = beUnsigned l
  | [] => rfl
  | b :: bs => by rw [CompareTypes.beNat, beUnsigned, beNat_eq bs]

theorem beUnsigned_lt : ∀ l : List Nat, IsBytes l → beUnsigned l < 256 ^ l.length := fun l h =>
  beNat_eq l ▸ CompareTypes.beNat_lt l h.compare

/-- the sign of the two's complement value: `len(a) > 0 && a[0]&0x80 != 0` -/
def isNeg : List Nat → Bool
  | x :: _ => decide (x ≥ 128)
  | [] => false

theorem cmpDecimal_unfold (a b : List Nat) :
    cmpDecimal a b =
      (if isNeg a && !isNeg b then -1
       else if !isNeg a && isNeg b then 1
       else if a.length < b.length then -(cmpPadded (if isNeg a then 255 else 0) b (b.length - a.length) a)
       else cmpPadded (if isNeg a then 255 else 0) a (a.length - b.length) b) := by
  cases a <;> cases b <;> rfl

theorem decimalValue_eq (a : List Nat) :
    decimalValue a = (beUnsigned a : Int) - (if isNeg a then ((256 ^ a.length : Nat) : Int) else 0) := by
  cases a with
  | nil => simp [decimalValue, beUnsigned, isNeg]
  | cons b rest =>
    simp only [decimalValue, isNeg, List.length_cons, decide_eq_true_eq]
    split <;> simp

theorem beUnsigned_neg_ge (a : List Nat) (h : isNeg a = true) : 2 * beUnsigned a ≥ 256 ^ a.length := by
  cases a with
  | nil => simp [isNeg] at h
  | cons b rest =>
    simp only [isNeg, decide_eq_true_eq] at h
    have : 128 * 256 ^ rest.length ≤ b * 256 ^ rest.length := Nat.mul_le_mul_right _ h
    simp only [beUnsigned, List.length_cons, pow256_succ]
    omega

theorem beUnsigned_nonneg_lt (a : List Nat) (hb : IsBytes a) (h : isNeg a = false) : 2 * beUnsigned a < 256 ^ a.length ∨ a = [] := by
  cases a with
  | nil => exact Or.inr rfl
  | cons b rest =>
    left
    simp only [isNeg, decide_eq_false_iff_not] at h
    have hlt := beUnsigned_lt rest hb.tail
    have : b * 256 ^ rest.length ≤ 127 * 256 ^ rest.length := Nat.mul_le_mul_right _ (by omega)
    simp only [beUnsigned, List.length_cons, pow256_succ]
    omega

theorem isBytes_append {a b : List Nat} (ha : IsBytes a) (hb : IsBytes b) : IsBytes (a ++ b) := by
  intro x hx
  rcases List.mem_append.mp hx with h | h
  · exact ha x h
  · exact hb x h

theorem isBytes_replicate (k pad : Nat) (hp : pad ≤ 255) : IsBytes (List.replicate k pad) := by
  intro x hx
  rw [(List.mem_replicate.mp hx).2]; exact hp

/-- equal widths: `compareDecimalPadded` is `bytes.Compare` -/
theorem cmpPadded_zero (pad : Nat) (a b : List Nat) (hl : a.length = b.length) (ha : IsBytes a) (hb : IsBytes b) :
    cmpPadded pad a 0 b = cmp3N (beUnsigned a) (beUnsigned b) := by
  have h := CompareTypes.bytesCompare_beNat a b hl ha.compare hb.compare
  rw [CompareTypes.bytesCompare_eq, CompareTypes.three_decide, beNat_eq, beNat_eq] at h
  -- `three_decide` has unfolded `CompareTypes.three` in `h` to the body of `cmp3N`
  rw [cmpPadded, cmp3N]
  exact h

theorem cmpPadded_spec (pad : Nat) (hp : pad ≤ 255) : ∀ (k : Nat) (a b : List Nat), a.length = k + b.length →
    IsBytes a → IsBytes b →
    cmpPadded pad a k b = cmp3N (beUnsigned a) (beUnsigned (List.replicate k pad ++ b))
  | 0, a, b, hlen, ha, hb => cmpPadded_zero pad a b (by omega) ha hb
  | k + 1, [], b, hlen, _, _ => by simp at hlen; omega
  | k + 1, c :: a, b, hlen, ha, hb => by
    have hl : a.length = k + b.length := by simp at hlen; omega
    have ih := cmpPadded_spec pad hp k a b hl ha.tail hb
    have hlen2 : (List.replicate k pad ++ b).length = a.length := by simp [hl]
    have h1 := beUnsigned_lt a ha.tail
    have h2 := beUnsigned_lt _ (isBytes_append (isBytes_replicate k pad hp) hb)
    rw [hlen2] at h2
    simp only [cmpPadded, List.replicate_succ, List.cons_append, beUnsigned, hlen2]
    by_cases hlt : c < pad
    · rw [if_pos hlt, cmp3N_of_lt (lead_lt _ hlt h1)]
    · by_cases hgt : c > pad
      · rw [if_neg hlt, if_pos hgt, cmp3N_of_gt (lead_lt _ hgt h2)]
      · have heq : c = pad := by omega
        subst heq
        rw [if_neg hlt, if_neg hgt, ih, cmp3N_add_left]

theorem beUnsigned_pad_zero : ∀ (k : Nat) (b : List Nat), beUnsigned (List.replicate k 0 ++ b) = beUnsigned b
  | 0, b => by simp
  | k + 1, b => by
    simp only [List.replicate_succ, List.cons_append, beUnsigned, Nat.zero_mul, Nat.zero_add]
    exact beUnsigned_pad_zero k b

theorem beUnsigned_pad_ff : ∀ (k : Nat) (b : List Nat),
    beUnsigned (List.replicate k 255 ++ b) + 256 ^ b.length = beUnsigned b + 256 ^ (k + b.length)
  | 0, b => by simp
  | k + 1, b => by
    have ih := beUnsigned_pad_ff k b
    have hl : (List.replicate k 255 ++ b).length = k + b.length := by simp
    have hp : 256 ^ (k + 1 + b.length) = 256 * 256 ^ (k + b.length) := by
      rw [show k + 1 + b.length = (k + b.length) + 1 by omega, pow256_succ]
    simp only [List.replicate_succ, List.cons_append, beUnsigned, hl, hp]
    omega

theorem decimalValue_neg (a : List Nat) (ha : IsBytes a) (h : isNeg a = true) : decimalValue a < 0 := by
  have := beUnsigned_lt a ha
  rw [decimalValue_eq, h, if_pos rfl]
  omega

theorem decimalValue_nonneg (a : List Nat) (h : isNeg a = false) : 0 ≤ decimalValue a := by
  rw [decimalValue_eq, h]
  simp

/-- equal signs: sign extension adds the same `256^n` to the unsigned value that it adds to the modulus -/
theorem cmpPadded_decimal (a b : List Nat) (ha : IsBytes a) (hb : IsBytes b) (s : Bool) (hsa : isNeg a = s)
    (hsb : isNeg b = s) (hlen : b.length ≤ a.length) :
    cmpPadded (if s then 255 else 0) a (a.length - b.length) b = cmpInt (decimalValue a) (decimalValue b) := by
  rw [cmpPadded_spec _ (by split <;> omega) (a.length - b.length) a b (by omega) ha hb, decimalValue_eq a,
    decimalValue_eq b, hsa, hsb]
  cases s with
  | false => exact (beUnsigned_pad_zero _ b).symm ▸ cmp3N_eq_cmpInt_sub _ _ 0
  | true =>
    have he := beUnsigned_pad_ff (a.length - b.length) b
    rw [Nat.sub_add_cancel hlen] at he
    rw [cmp3N_eq_cmpInt_sub _ _ ((256 ^ a.length : Nat) : Int)]
    simp only [if_true]
    congr 1
    omega

/-- `compareDecimalByteArrays` (any two widths, the empty string included) is the comparison of the integers the
    two byte strings represent. -/
theorem cmpDecimal_spec (a b : List Nat) (ha : IsBytes a) (hb : IsBytes b) :
    cmpDecimal a b = cmpInt (decimalValue a) (decimalValue b) := by
  rw [cmpDecimal_unfold]
  cases hna : isNeg a <;> cases hnb : isNeg b
  · by_cases hlen : a.length < b.length
    · simp only [Bool.false_and, Bool.and_false, Bool.false_eq_true, if_false, if_pos hlen]
      exact (congrArg Neg.neg (cmpPadded_decimal b a hb ha false hnb hna (by omega))).trans (neg_cmpInt _ _)
    · simp only [Bool.false_and, Bool.and_false, Bool.false_eq_true, if_false, if_neg hlen]
      exact cmpPadded_decimal a b ha hb false hna hnb (by omega)
  · have h1 := decimalValue_nonneg a hna
    have h2 := decimalValue_neg b hb hnb
    simp only [Bool.false_and, Bool.not_false, Bool.and_true, Bool.false_eq_true, if_false, if_true, cmpInt]
    rw [if_neg (by omega), if_pos (by omega)]
  · have h1 := decimalValue_neg a ha hna
    have h2 := decimalValue_nonneg b hnb
    simp only [Bool.not_false, Bool.and_true, if_true, cmpInt]
    rw [if_pos (by omega)]
  · by_cases hlen : a.length < b.length
    · simp only [Bool.not_true, Bool.and_false, Bool.false_and, Bool.false_eq_true, if_false, if_true, if_pos hlen]
      exact (congrArg Neg.neg (cmpPadded_decimal b a hb ha true hnb hna (by omega))).trans (neg_cmpInt _ _)
    · simp only [Bool.not_true, Bool.and_false, Bool.false_and, Bool.false_eq_true, if_false, if_true, if_neg hlen]
      exact cmpPadded_decimal a b ha hb true hna hnb (by omega)

/-- the mirror comparator, as used by `decimalPage.Bounds`, `decimalColumnBuffer.Less`, `Type.Compare`, IS the
    spec order `decimalBinary` -/
theorem cmpDecimal_lt (a b : List Nat) (ha : IsBytes a) (hb : IsBytes b) :
    decide (cmpDecimal a b < 0) = decimalBinary.lt a b := by
  simp only [cmpDecimal_spec a b ha hb, cmpInt_neg_iff, decimalBinary, ofKey, Bool.not_false, Bool.true_and]

theorem cmpDecimal_gt (a b : List Nat) (ha : IsBytes a) (hb : IsBytes b) :
    decide (cmpDecimal a b > 0) = decimalBinary.lt b a := by
  simp only [cmpDecimal_spec a b ha hb, cmpInt_pos_iff, decimalBinary, ofKey, Bool.not_false, Bool.true_and]

theorem cmpDecimal_eq_zero (a b : List Nat) (ha : IsBytes a) (hb : IsBytes b) :
    cmpDecimal a b = 0 ↔ decimalValue a = decimalValue b := by
  rw [cmpDecimal_spec a b ha hb, cmpInt_eq_zero_iff]

/-- MIRROR type_decimal.go:318-322: `for i < len(data) && compare(data[i-1], data[i]) == 0 { i++ }; data = data[i-1:]` -/
def skipAdj {α} (eq : α → α → Bool) : List α → List α
  | a :: b :: rest => if eq a b then skipAdj eq (b :: rest) else a :: b :: rest
  | l => l

/-- the `for j := 2; …` loops: no adjacent pair `(data[j-1], data[j])` is `bad` -/
def adjNone {α} (bad : α → α → Bool) : List α → Bool
  | a :: b :: rest => !bad a b && adjNone bad (b :: rest)
  | _ => true

def orderAfterSkip {α} (c : α → α → Int) : List α → Int
  | a :: b :: rest =>
    if c a b < 0 then (if adjNone (fun x y => c x y > 0) (b :: rest) then 1 else 0)
    else if c a b > 0 then (if adjNone (fun x y => c x y < 0) (b :: rest) then -1 else 0)
    else 0
  | _ => 1

/-- MIRROR type_decimal.go:313-343 `orderOfDecimalBytes`, generic in the comparison -/
def orderOfCmp {α} (c : α → α → Int) (xs : List α) : Int :=
  if xs.length < 2 then 0 else orderAfterSkip c (skipAdj (fun a b => c a b == 0) xs)

def orderOfDecimal (xs : List (List Nat)) : Int := orderOfCmp cmpDecimal xs

/-- MIRROR type_decimal.go:284-309 `decimalColumnIndexer`: a null page stores the empty string
    (`Value{}.byteArray()`), nothing is truncated (no size limit applies), the order is `orderOfDecimalBytes` -/
def decimalIndexMins (pages : List (Option (List Nat × List Nat))) : List (List Nat) := storedMins [] pages
def decimalIndexMaxs (pages : List (Option (List Nat × List Nat))) : List (List Nat) := storedMaxs [] pages
def decimalIndexOrder (pages : List (Option (List Nat × List Nat))) : Nat :=
  boundaryOrderOf (orderOfDecimal (decimalIndexMins pages)) (orderOfDecimal (decimalIndexMaxs pages))

section generic
variable {α : Type} (c : α → α → Int) (key : α → Int) (P : α → Prop)

theorem adjNone_pairwise (bad : α → α → Bool) (R : α → α → Prop) (htr : ∀ {x y z}, R x y → R y z → R x z)
    (hR : ∀ a b, P a → P b → bad a b = false → R a b) :
    ∀ l : List α, (∀ x ∈ l, P x) → adjNone bad l = true → l.Pairwise R
  | [], _, _ => List.Pairwise.nil
  | [_], _, _ => by simp
  | a :: b :: rest, hP, h => by
    simp only [adjNone, Bool.and_eq_true, Bool.not_eq_true'] at h
    have ih := adjNone_pairwise bad R htr hR (b :: rest) (fun x hx => hP x (List.mem_cons_of_mem _ hx)) h.2
    have hab : R a b := hR a b (hP a (by simp)) (hP b (by simp)) h.1
    refine List.Pairwise.cons ?_ ih
    intro x hx
    rcases List.mem_cons.mp hx with rfl | hx
    · exact hab
    · exact htr hab ((List.pairwise_cons.mp ih).1 x hx)

theorem skipAdj_mem (l : List α) (x : α) (h : x ∈ skipAdj (fun a b => c a b == 0) l) : x ∈ l := by
  -- cases of `skipAdj` (also in `skipAdj_pairwise`): the first two values compare equal (the first is dropped); they do
  -- not; fewer than two values
  fun_induction skipAdj (fun a b => c a b == 0) l
  case case1 ih => exact List.mem_cons_of_mem _ (ih h)
  case case2 => exact h
  case case3 => exact h

/-- the streak skip removed values with the key of their successor: `Pairwise` of the remainder extends to the whole list -/
theorem skipAdj_pairwise (hc : ∀ a b, P a → P b → c a b = cmpInt (key a) (key b)) (R : Int → Int → Prop)
    (hR : ∀ x, R x x) (l : List α) (hP : ∀ x ∈ l, P x)
    (h : (skipAdj (fun a b => c a b == 0) l).Pairwise (fun a b => R (key a) (key b))) :
    l.Pairwise (fun a b => R (key a) (key b)) := by
  fun_induction skipAdj (fun a b => c a b == 0) l
  case case1 a b rest heq ih =>
    have ih := ih (fun x hx => hP x (List.mem_cons_of_mem _ hx)) h
    have hk : key a = key b := by
      rw [beq_iff_eq, hc a b (hP a (by simp)) (hP b (by simp)), cmpInt_eq_zero_iff] at heq
      exact heq
    refine List.Pairwise.cons ?_ ih
    intro x hx
    rcases List.mem_cons.mp hx with hx | hx
    · subst hx; rw [hk]; exact hR _
    · rw [hk]; exact (List.pairwise_cons.mp ih).1 x hx
  case case2 => exact h
  case case3 => exact h

theorem orderAfterSkip_sound (l : List α) :
    (orderAfterSkip c l = 1 → adjNone (fun x y => c x y > 0) l = true) ∧
    (orderAfterSkip c l = -1 → adjNone (fun x y => c x y < 0) l = true) := by
  have cons : ∀ (bad : α → α → Bool) a b rest, bad a b = false → adjNone bad (b :: rest) = true →
      adjNone bad (a :: b :: rest) = true := by
    intro bad a b rest h1 h2; simp [adjNone, h1, h2]
  -- branches of `orderAfterSkip`: 1-2 first pair ascends (1 = no later pair descends), 3-4 first pair descends
  -- (3 = no later pair ascends), 5 first pair equal, 6 fewer than two values; only 1, 3, 6 answer 1 or -1
  fun_cases orderAfterSkip c l
  case case1 hlt hasc => exact ⟨fun _ => cons _ _ _ _ (decide_eq_false (by omega)) hasc, fun h => absurd h (by decide)⟩
  case case3 hnlt _ hdesc => exact ⟨fun h => absurd h (by decide), fun _ => cons _ _ _ _ (decide_eq_false hnlt) hdesc⟩
  case case6 hl =>
    refine ⟨fun _ => ?_, fun h => absurd h (by decide)⟩
    unfold adjNone
    split
    · exact absurd rfl (hl _ _ _)
    · rfl
  all_goals exact ⟨fun h => absurd h (by decide), fun h => absurd h (by decide)⟩

theorem orderOfCmp_asc (hc : ∀ a b, P a → P b → c a b = cmpInt (key a) (key b)) (xs : List α) (hP : ∀ x ∈ xs, P x)
    (h : orderOfCmp c xs = 1) : xs.Pairwise (fun a b => key a ≤ key b) := by
  unfold orderOfCmp at h
  split at h
  · cases h
  · apply skipAdj_pairwise c key P hc (· ≤ ·) Int.le_refl xs hP
    apply adjNone_pairwise P _ (fun a b => key a ≤ key b) Int.le_trans _ _ (fun x hx => hP x (skipAdj_mem c xs x hx))
      ((orderAfterSkip_sound c _).1 h)
    intro a b ha hb hbad
    rw [decide_eq_false_iff_not, hc a b ha hb, cmpInt_pos_iff] at hbad
    omega

theorem orderOfCmp_desc (hc : ∀ a b, P a → P b → c a b = cmpInt (key a) (key b)) (xs : List α) (hP : ∀ x ∈ xs, P x)
    (h : orderOfCmp c xs = -1) : xs.Pairwise (fun a b => key b ≤ key a) := by
  unfold orderOfCmp at h
  split at h
  · cases h
  · apply skipAdj_pairwise c key P hc (fun x y => y ≤ x) Int.le_refl xs hP
    apply adjNone_pairwise P _ (fun a b => key b ≤ key a) (fun h1 h2 => Int.le_trans h2 h1) _ _ (fun x hx => hP x (skipAdj_mem c xs x hx))
      ((orderAfterSkip_sound c _).2 h)
    intro a b ha hb hbad
    rw [decide_eq_false_iff_not, hc a b ha hb, cmpInt_neg_iff] at hbad
    omega

theorem orderOfCmp_range (xs : List α) : orderOfCmp c xs = 1 ∨ orderOfCmp c xs = -1 ∨ orderOfCmp c xs = 0 := by
  unfold orderOfCmp
  split
  · simp
  · fun_cases orderAfterSkip c (skipAdj (fun a b => c a b == 0) xs) <;> simp

end generic

theorem orderOfDecimal_asc (xs : List (List Nat)) (hb : ∀ x ∈ xs, IsBytes x) (h : orderOfDecimal xs = 1) :
    xs.Pairwise (fun a b => decimalBinary.lt b a = false) := by
  have := orderOfCmp_asc cmpDecimal decimalValue IsBytes cmpDecimal_spec xs hb h
  refine this.imp ?_
  intro a b hab
  simp only [decimalBinary, ofKey, Bool.not_false, Bool.true_and, decide_eq_false_iff_not]
  omega

theorem orderOfDecimal_desc (xs : List (List Nat)) (hb : ∀ x ∈ xs, IsBytes x) (h : orderOfDecimal xs = -1) :
    xs.Pairwise (fun a b => decimalBinary.lt a b = false) := by
  have := orderOfCmp_desc cmpDecimal decimalValue IsBytes cmpDecimal_spec xs hb h
  refine this.imp ?_
  intro a b hab
  simp only [decimalBinary, ofKey, Bool.not_false, Bool.true_and, decide_eq_false_iff_not]
  omega

/-- MIRROR type_decimal.go:205-227 `decimalPage.Bounds` (loop after the first value): two independent tests
    `compare(v, min) < 0` and `compare(v, max) > 0` -/
def boundsLoop2 {α} (lt gt : α → α → Bool) (mn mx : α) : List α → α × α
  | [] => (mn, mx)
  | v :: rest => boundsLoop2 lt gt (if lt v mn then v else mn) (if gt v mx then v else mx) rest

/-- MIRROR type_decimal.go:242-258 `decimalDictionary.Bounds` (dictionary-encoded pages): `switch` form -/
def boundsSwitchLoop2 {α} (lt gt : α → α → Bool) (mn mx : α) : List α → α × α
  | [] => (mn, mx)
  | v :: rest =>
    if lt v mn then boundsSwitchLoop2 lt gt v mx rest
    else if gt v mx then boundsSwitchLoop2 lt gt mn v rest
    else boundsSwitchLoop2 lt gt mn mx rest

def decLt (a b : List Nat) : Bool := decide (cmpDecimal a b < 0)
def decGt (a b : List Nat) : Bool := decide (cmpDecimal a b > 0)

def boundsDecimal : List (List Nat) → Option (List Nat × List Nat)
  | [] => none
  | x :: rest => some (boundsLoop2 decLt decGt x x rest)

def boundsDecimalDict : List (List Nat) → Option (List Nat × List Nat)
  | [] => none
  | x :: rest => some (boundsSwitchLoop2 decLt decGt x x rest)

theorem boundsLoop2_eq {α} (lt gt lt' : α → α → Bool) (S : α → Prop)
    (hagree : ∀ a b, S a → S b → lt a b = lt' a b ∧ gt a b = lt' b a) :
    ∀ (xs : List α) (mn mx : α), S mn → S mx → (∀ x ∈ xs, S x) →
      boundsLoop2 lt gt mn mx xs = boundsLoop lt' mn mx xs
  | [], _, _, _, _, _ => rfl
  | v :: rest, mn, mx, hmn, hmx, hxs => by
    have hv : S v := hxs v (by simp)
    simp only [boundsLoop2, boundsLoop, (hagree v mn hv hmn).1, (hagree v mx hv hmx).2]
    apply boundsLoop2_eq lt gt lt' S hagree rest
    · split <;> assumption
    · split <;> assumption
    · exact fun x hx => hxs x (List.mem_cons_of_mem _ hx)

theorem boundsSwitchLoop2_eq {α} (lt gt lt' : α → α → Bool) (S : α → Prop)
    (hagree : ∀ a b, S a → S b → lt a b = lt' a b ∧ gt a b = lt' b a) :
    ∀ (xs : List α) (mn mx : α), S mn → S mx → (∀ x ∈ xs, S x) →
      boundsSwitchLoop2 lt gt mn mx xs = boundsSwitchLoop lt' mn mx xs
  | [], _, _, _, _, _ => rfl
  | v :: rest, mn, mx, hmn, hmx, hxs => by
    have hv : S v := hxs v (by simp)
    have hr : ∀ x ∈ rest, S x := fun x hx => hxs x (List.mem_cons_of_mem _ hx)
    simp only [boundsSwitchLoop2, boundsSwitchLoop, (hagree v mn hv hmn).1, (hagree v mx hv hmx).2]
    split
    · exact boundsSwitchLoop2_eq lt gt lt' S hagree rest v mx hv hmx hr
    · split
      · exact boundsSwitchLoop2_eq lt gt lt' S hagree rest mn v hmn hv hr
      · exact boundsSwitchLoop2_eq lt gt lt' S hagree rest mn mx hmn hmx hr

theorem dec_agree (a b : List Nat) (ha : IsBytes a) (hb : IsBytes b) :
    decLt a b = decimalBinary.lt a b ∧ decGt a b = decimalBinary.lt b a :=
  ⟨cmpDecimal_lt a b ha hb, cmpDecimal_gt a b ha hb⟩

/-- `decimalPage.Bounds` and `decimalDictionary.Bounds` compute the bounds of the general mirror in the SPEC order, so
    `pageBounds_bound` applies to binary decimal pages of any mix of widths -/
theorem boundsDecimal_eq (xs : List (List Nat)) (hb : ∀ x ∈ xs, IsBytes x) :
    boundsDecimal xs = bounds decimalBinary.lt xs ∧ boundsDecimalDict xs = bounds decimalBinary.lt xs := by
  cases xs with
  | nil => exact ⟨rfl, rfl⟩
  | cons x rest =>
    have hx := hb x (by simp)
    have hr : ∀ y ∈ rest, IsBytes y := fun y hy => hb y (List.mem_cons_of_mem _ hy)
    constructor
    · simp only [boundsDecimal, bounds]
      rw [boundsLoop2_eq decLt decGt decimalBinary.lt IsBytes dec_agree rest x x hx hx hr]
    · simp only [boundsDecimalDict, bounds]
      rw [boundsSwitchLoop2_eq decLt decGt decimalBinary.lt IsBytes dec_agree rest x x hx hx hr]
      have := boundsSwitch_eq_bounds decimalBinary_lawful (x :: rest)
      simp only [boundsSwitch, bounds] at this
      exact this

end PqModel.Stats
