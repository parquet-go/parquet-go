/-! # C11 — `ColumnWriter`: the column-oriented write API and the row path on top of it

`ColumnWriter.WriteRowValues` (writer.go:2419-2437) appends a batch of values to the column's
buffer and flushes the buffer as ONE data page when `columnBuffer.Size() >= bufferSize`;
`Flush` (writer.go:2154-2192) writes the buffered values as a page when `columnBuffer.Len() > 0`;
`Close` (writer.go:2441-2450) flushes and resets the buffer; `writeDataPage`/`recordPageStats`
(writer.go:2516-2520, 2891-2896) do the accounting (`numRows`, `FirstRowIndex`, `NumValues`);
`writeRowGroup` takes the row count of the row group from `columns[0].totalRowCount()`
(writer.go:1528, 2145-2151) and flushes every column (writer.go:1569-1572).
The row path `ConcurrentRowGroupWriter.WriteRows`/`writeRows` (writer.go:1015-1079) cuts the rows
into chunks of at most 64, concatenates per column the values of a chunk and hands every non-empty
concatenation to the same `WriteRowValues`.

MIRROR is what carries a Go range; `Op` / `step` / `run` / `writesOf` / `written` describe programs over that
API, `headOK` is the whole-rows contract (SPEC side), `prefixSums` a helper. What the writer looks at in a value is abstracted to `Val`:
whether its repetition level is 0, whether it is null (definition level below the maximum) and the
number of bytes it adds to the `Size()` of the base column buffer. The column buffer is its list of
values in the order written; `bufLen`/`bufSize` are `Len()`/`Size()` of the three buffer kinds
`newColumnBuffer` (writer.go:2396-2409) chooses from. -/
namespace PqModel.ColWriter

structure Val where
  /-- `repetitionLevel == 0` -/
  start : Bool
  /-- `definitionLevel != maxDefinitionLevel` -/
  null : Bool
  /-- bytes added to `base.Size()` when the value is stored (4: int32/float/dictionary index,
      8: int64/double, 12: int96, n: fixed length, 4+n: byte array) -/
  size : Nat
  deriving DecidableEq, Repr

/-- writer.go:2398-2408: repeated (`maxRepetitionLevel > 0`), optional (`maxDefinitionLevel > 0`),
    else the plain typed buffer -/
inductive Kind where
  | flat | optional | repeated
  deriving DecidableEq, Repr

/-- MIRROR `ColumnBuffer.Len()`: typed and optional buffers count values
    (column_buffer_optional.go `rows.Len()`), the repeated buffer counts the rows it has an
    `offsetMapping` for, one per written row whose first value has repetition level 0
    (column_buffer_repeated.go:185, 280-285). Also `Page.NumRows()` of the page made of these values
    (page_optional.go:29, page_repeated.go:33). -/
def bufLen : Kind → List Val → Nat
  | .repeated, vs => vs.countP (·.start)
  | _, vs => vs.length

/-- bytes of the non-null values in the base buffer -/
def baseSize (vs : List Val) : Nat := (vs.map fun v => if v.null then 0 else v.size).sum

/-- MIRROR `ColumnBuffer.Size()`: page_int32.go:37 and friends (typed: every value is stored);
    column_buffer_optional.go:136-138 `4*rows + 4*sortIndex + definitionLevels + base.Size()`
    (`sortIndex` is empty unless the buffer was sorted, which a writer never does);
    column_buffer_repeated.go:179-181 `8*len(rows) + repetitionLevels + definitionLevels + base.Size()`. -/
def bufSize : Kind → List Val → Nat
  | .flat, vs => (vs.map (·.size)).sum
  | .optional, vs => 4 * vs.length + vs.length + baseSize vs
  | .repeated, vs => 8 * vs.countP (·.start) + (vs.length + vs.length) + baseSize vs

/-- the state of one `ColumnWriter` within a row group -/
structure CW where
  /-- `columnBuffer` (`none` = nil, created lazily by the first `WriteRowValues`) -/
  buf : Option (List Val)
  /-- `c.numRows`: rows in the pages written -/
  numRows : Nat
  /-- the data pages written to `pageBuffer`, oldest first, as the values they hold -/
  pages : List (List Val)
  /-- `offsetIndex.PageLocations[i].FirstRowIndex` -/
  firstRow : List Nat
  /-- `columnChunk.MetaData.NumValues` -/
  numValues : Nat
  deriving DecidableEq, Repr

/-- a column writer after `reset()` / construction -/
def fresh : CW := ⟨none, 0, [], [], 0⟩

/-- the values in the buffer (`[]` when there is no buffer) -/
def CW.vals (c : CW) : List Val := c.buf.getD []

/-- MIRROR writer.go:2516-2520 + 2891-2896 (`writeDataPage` → `recordPageStats`): a page without
    values is not written; else the page is appended, its `FirstRowIndex` is `c.numRows`, then
    `c.numRows += page.NumRows()`, `NumValues += page.NumValues()`. -/
def writeDataPage (k : Kind) (c : CW) (page : List Val) : CW :=
  if page.length = 0 then c else
  { c with pages := c.pages ++ [page], firstRow := c.firstRow ++ [c.numRows],
           numRows := c.numRows + bufLen k page, numValues := c.numValues + page.length }

/-- MIRROR writer.go:2154-2192 `Flush` (no dictionary size limit: the fallback to PLAIN is not
    modelled): nothing without a buffer; when `Len() > 0` the buffer is written as one page and
    reset (the deferred `columnBuffer.Reset()`). -/
def flush (k : Kind) (c : CW) : CW :=
  match c.buf with
  | none => c
  | some b => if bufLen k b > 0 then { writeDataPage k c b with buf := some [] } else c

/-- MIRROR writer.go:2419-2437 `WriteRowValues`; second component: the number of rows returned. -/
def writeRowValues (k : Kind) (bufferSize : Nat) (c : CW) (rows : List Val) : CW × Nat :=
  let startingRows := match c.buf with | none => 0 | some b => bufLen k b
  let b' := c.vals ++ rows
  let c' := { c with buf := some b' }
  let numRows := bufLen k b' - startingRows
  if bufSize k b' ≥ bufferSize then (flush k c', numRows) else (c', numRows)

/-- MIRROR writer.go:2441-2450 `Close`: nothing without a buffer, else `Flush` then
    `columnBuffer.Reset()` — whatever `Flush` left in the buffer is discarded. -/
def close (k : Kind) (c : CW) : CW :=
  match c.buf with
  | none => c
  | some _ => { flush k c with buf := some [] }

/-- MIRROR writer.go:2145-2151 `totalRowCount` -/
def totalRowCount (k : Kind) (c : CW) : Nat := c.numRows + bufLen k c.vals

/-- what a program does with a `ColumnWriter` -/
inductive Op where
  | write (vs : List Val) | flush | close
  deriving DecidableEq, Repr

def step (k : Kind) (bufferSize : Nat) (c : CW) : Op → CW
  | .write vs => (writeRowValues k bufferSize c vs).1
  | .flush => flush k c
  | .close => close k c

def run (k : Kind) (bufferSize : Nat) (c : CW) (ops : List Op) : CW := ops.foldl (step k bufferSize) c

/-- the batches a history hands to `WriteRowValues`, in order -/
def writesOf : List Op → List (List Val)
  | [] => []
  | .write vs :: ops => vs :: writesOf ops
  | _ :: ops => writesOf ops

/-- MIRROR writer.go:1015-1079, one column of `ConcurrentRowGroupWriter.WriteRows` (the columns do
    not interact: `for i, values := range rg.values { if len(values) > 0 {
    rg.columns[i].WriteRowValues(values) } }`), `MaxRowsPerRowGroup` not reached: chunks of at most
    `maxRowsPerWrite = 64` rows, the column's values of a chunk concatenated, an empty
    concatenation is not written. `rows`: per row the values of this column. The result is the
    history of `WriteRowValues` calls this column sees. One unit of fuel per chunk. -/
def rowPathOps : Nat → List (List Val) → List Op
  | 0, _ => []
  | fuel + 1, rows =>
    if rows.isEmpty then [] else
    let vs := (rows.take 64).flatten
    (if vs.isEmpty then [] else [Op.write vs]) ++ rowPathOps fuel (rows.drop 64)

/-- the row path for one column: `WriteRows(rows)` -/
def rowPath (k : Kind) (bufferSize : Nat) (c : CW) (rows : List (List Val)) : CW :=
  run k bufferSize c (rowPathOps (rows.length + 1) rows)

/-- what a reader of the finished row group gets for this column: the values of its pages in order
    (writer.go:1569-1572: `writeRowGroup` flushes the column first) -/
def written (k : Kind) (c : CW) : List Val := (flush k c).pages.flatten

/-- a batch that may be handed to a repeated column: it starts at the beginning of a row. No
    constraint for the other kinds (every value is a row). -/
def headOK : Kind → List Val → Bool
  | .repeated, v :: _ => v.start
  | _, _ => true

/-- `0, s0, s0+s1, …` -/
def prefixSums : Nat → List Nat → List Nat
  | _, [] => []
  | acc, x :: xs => acc :: prefixSums (acc + x) xs

end PqModel.ColWriter
