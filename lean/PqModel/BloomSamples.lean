import PqModel.BloomPending

/-! # C07: the sample chunks of `Props/C07Writer`, `C07Segments`, `C07Pending`

The concrete chunks on which the repaired and the seeded writers are compared, each with the proof that it is a chunk
the general theorems speak of (`ChunkOk`, by evaluation), and `missing`, the count the comparisons use. -/

namespace PqModel.Props.C07Writer
open PqModel.XxHash PqModel.Bloom PqModel.BloomWriter

def fallbackValues : List Value := (List.range 200).map (fun i => Value.int64 (UInt64.ofNat (i * 1000003)))

def fallbackPages : List WPage :=
  (List.range 20).map (fun k => { values := (fallbackValues.drop (10 * k)).take 10, indexed := decide (k < 2) })

/-- `DictionaryMaxBytes(64)`, `PageBufferSize(64)`, written through `Write`: 2 dictionary pages, then
    18 PLAIN pages; the filter was not pre-sized -/
def fallbackChunk : ChunkWrite :=
  { kind := .int64, bits := 10, pages := fallbackPages, dictionary := some (fallbackValues.take 20),
    switched := true, presized := 0, numValues := 200 }

def missing (c : ChunkWrite) (b : Built) : Nat :=
  (c.values.filter (fun v =>
    !checkBytes (filterBytes (build (b.1 / 32) (b.2.map UInt64.toBitVec))) (hashRead v).toBitVec)).length

set_option maxRecDepth 100000 in
theorem fallbackChunk_ok : ChunkOk fallbackChunk where
  kinds := by decide +kernel
  noDict := by intro h; cases h
  covers := by intro d h; cases h; decide +kernel
  dictKinds := by intro d h; cases h; decide +kernel
  dictWritten := by intro d h; cases h; decide +kernel
  allIndexed := by intro h; cases h
  count := by decide +kernel
  presizedBlocks := by decide

theorem missing_eq_zero {c : ChunkWrite} {b : Built}
    (h : ∀ v ∈ c.values,
      checkBytes (filterBytes (build (b.1 / 32) (b.2.map UInt64.toBitVec))) (hashRead v).toBitVec = true) :
    missing c b = 0 := by
  unfold missing
  rw [List.length_eq_zero_iff, List.filter_eq_nil_iff]
  intro v hv
  rw [h v hv]
  decide

end PqModel.Props.C07Writer

namespace PqModel.Props.C07Segments
open PqModel.XxHash PqModel.Bloom PqModel.BloomWriter PqModel.BloomSegments

def sampleSegments : List Segment :=
  [{ numValues := 20, exact := true,
     pages := [⟨(List.range 10).map (fun i => Value.int64 (UInt64.ofNat (i * 1000003))), false⟩,
               ⟨(List.range 10).map (fun i => Value.int64 (UInt64.ofNat ((10 + i) * 1000003))), false⟩] },
   { numValues := 20, exact := true,
     pages := [⟨(List.range 10).map (fun i => Value.int64 (UInt64.ofNat ((20 + i) * 1000003))), false⟩,
               ⟨(List.range 10).map (fun i => Value.int64 (UInt64.ofNat ((30 + i) * 1000003))), false⟩] }]

def sampleChunk : ChunkWrite := packedChunk .int64 10 sampleSegments none false 40

set_option maxRecDepth 100000 in
theorem sampleChunk_ok : ChunkOk sampleChunk where
  kinds := by decide +kernel
  noDict := by intro _; decide +kernel
  covers := by intro d h; cases h
  dictKinds := by intro d h; cases h
  dictWritten := by intro d h; cases h
  allIndexed := by intro _ h; cases h
  count := by decide +kernel
  presizedBlocks := by decide

end PqModel.Props.C07Segments

namespace PqModel.Props.C07Pending
open PqModel.XxHash PqModel.Bloom PqModel.BloomWriter PqModel.BloomSegments PqModel.BloomPending

def samplePending : Pending :=
  { early := [⟨(List.range 10).map (fun i => Value.int64 (UInt64.ofNat (i * 1000003))), false⟩,
              ⟨(List.range 10).map (fun i => Value.int64 (UInt64.ofNat ((10 + i) * 1000003))), false⟩],
    last := [⟨(List.range 10).map (fun i => Value.int64 (UInt64.ofNat ((20 + i) * 1000003))), false⟩],
    dictionary := none, switched := false, numValues := 30 }

def samplePendingChunk : ChunkWrite := samplePending.chunk .int64 10

set_option maxRecDepth 100000 in
theorem samplePendingChunk_ok : ChunkOk samplePendingChunk where
  kinds := by decide +kernel
  noDict := by intro _; decide +kernel
  covers := by intro d h; cases h
  dictKinds := by intro d h; cases h
  dictWritten := by intro d h; cases h
  allIndexed := by intro _ h; cases h
  count := by decide +kernel
  presizedBlocks := by decide

end PqModel.Props.C07Pending
