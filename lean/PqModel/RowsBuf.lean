/-! # `rowGroupRows` at the granularity of value buffers — C13

`RowsState.lean` mirrors the error bookkeeping of the row reader of a row group with the behaviour of
the column readers left open (`fails` is a parameter) and cannot be run against the real reader: WHEN
a column read fails depends on how many values the column has buffered. This file is a MIRROR,
statement by statement, of

* `rowGroupRows.ReadRows` (row_group.go:289-370): the loop over the columns, over the rows asked
  for, and the inner `for` that refills the per-column value buffer `b[c.offset:c.length]`, counts
  the values of the row by their repetition levels, and LOOKS AHEAD into the next refill when the
  buffer ends with the row (so a rejected page is reported by the call that reaches its first row
  minus one, not by the call that needs it);
* `rowGroupRows.SeekToRow` / `Reset` / `clear` (row_group.go:239-288);
* `columnChunkValueReader.ReadValues` / `SeekToRow` / `Reset` / `clear` (column_chunk.go:91-161):
  the current page's value reader, dropped at its end, the next page read then;
* the page reader underneath at the level of what it returns (`FilePages.ReadPage` / `SeekToRow`
  with an offset index, file.go:1190-1300 and 1614-1725): the page the cursor stands on is loaded
  and VERIFIED first (`bad` = the loader rejects it: `PageLoad.load`, C13 `load_detects`), then either
  skipped as a whole (`f.skip >= numRows`) or returned from row `f.skip` on (`Slice(skip, numRows)`).
  The cache of the last page (`serveLastPage`) is not mirrored: it returns the same page without
  loading it again (C08, `Seek.readPage`).

A value carries where it comes from (`col`, `row`, `page`) and its repetition level; nothing else
of it matters here. The theorems are in `RowsBufProofs.lean`, `RowsRefine*.lean` and `Props/C13RowsBuf.lean`,
`Props/C13RowsRefine.lean`; `Driver/Ops/C13RowsBuf.lean` runs
histories for the L2 sub-check C13/rowsbuf, which compares every call with the real reader on files
with a corrupted page. -/
namespace PqModel.RowsBuf

structure Val where
  col : Nat
  row : Nat    -- row of the row group the value belongs to
  rep : Nat    -- repetition level: 0 = first value of its row
  page : Nat   -- ordinal of the data page it was decoded from
  deriving DecidableEq, Repr

structure Page where
  bad : Bool        -- the loader rejects the page (checksum mismatch)
  firstRow : Nat    -- OffsetIndex.PageLocations[i].FirstRowIndex
  numRows : Nat
  vals : List Val
  deriving DecidableEq, Repr

/-- `FilePages.index` / `FilePages.skip` -/
structure Cursor where
  next : Nat
  skip : Nat
  deriving DecidableEq, Repr

inductive PageRes where
  | eof
  | fail
  | page (vs : List Val)
  deriving DecidableEq, Repr

/-- MIRROR `FilePages.readPageInSequence` (file.go:1214-1366) on the pages from the cursor on: load
    (and verify) the page; `f.skip >= numRows`: the whole page is skipped and the next one loaded;
    otherwise the rows from `skip` on are returned. -/
def readPageFrom : List Page → Cursor → Cursor × PageRes
  | [], c => (c, .eof)
  | p :: ps, c =>
    if p.bad then (c, .fail)
    else if c.skip < p.numRows then
      ({ next := c.next + 1, skip := 0 }, .page (p.vals.filter fun v => decide (p.firstRow + c.skip ≤ v.row)))
    else readPageFrom ps { next := c.next + 1, skip := c.skip - p.numRows }

def readPage (pages : List Page) (c : Cursor) : Cursor × PageRes := readPageFrom (pages.drop c.next) c

/-- MIRROR `FilePages.SeekToRow` with an offset index (file.go:1663-1670): `target` = the last page
    whose first row is `≤ k`, `skip` = `k - FirstRowIndex`. (No page locations / a negative target:
    `ErrSeekOutOfRange`, C08; the first page of a chunk starts at row 0.) `takeWhile … - 1` is the
    `sort.Search … - 1` of the code on sorted `firstRow`s only (`RowsRefine.WfPages` gives that). -/
def seekCursor (pages : List Page) (k : Nat) : Cursor :=
  let t := (pages.takeWhile fun p => decide (p.firstRow ≤ k)).length - 1
  { next := t, skip := k - ((pages[t]?).map (·.firstRow)).getD 0 }

/-- `columnChunkValueReader`: `pages` (the cursor) and `values` (what is left of `r.page`) -/
structure Reader where
  cur : Cursor
  values : Option (List Val)
  deriving DecidableEq, Repr

inductive ValRes where
  | eof
  | fail
  | vals (vs : List Val)
  deriving DecidableEq, Repr

/-- MIRROR `columnChunkValueReader.ReadValues` (column_chunk.go:123-150) into a buffer of `bufsize`
    values. `fuel`: every two turns of the `for` consume a page; running out of it (which `valuesFuel`
    is chosen to prevent: two turns per page and a spare) is answered like a failure. -/
def readValues (pages : List Page) (bufsize : Nat) : Nat → Reader → Reader × ValRes
  | 0, r => (r, .fail)
  | fuel + 1, r =>
    match r.values with
    | none =>
      match readPage pages r.cur with
      | (c, .eof) => ({ r with cur := c }, .eof)
      | (c, .fail) => ({ r with cur := c }, .fail)
      | (c, .page vs) => readValues pages bufsize fuel { cur := c, values := some vs }
    | some vs =>
      if (vs.take bufsize).isEmpty then readValues pages bufsize fuel { r with values := none }   -- r.clear()
      else ({ r with values := some (vs.drop bufsize) }, .vals (vs.take bufsize))

def valuesFuel (pages : List Page) : Nat := 2 * pages.length + 4

/-- MIRROR `columnChunkValueReader.SeekToRow` / `Reset` (column_chunk.go:103-111, 152-161) -/
def seekReader (pages : List Page) (k : Nat) : Reader := { cur := seekCursor pages k, values := none }

/-- `columnChunkRows`: the reader and `b[c.offset:c.length]` -/
structure Col where
  reader : Reader
  buf : List Val
  deriving DecidableEq, Repr

/-- the per-column variables of the loop of `ReadRows` -/
structure Scan where
  col : Col
  eof : Bool
  eofCount : Nat
  rowCount : Nat
  deriving DecidableEq, Repr

inductive RowRes where
  | next (s : Scan) (acc : List Val)      -- `break`: on to the next row
  | nextCol (s : Scan) (acc : List Val)   -- `continue readColumnValues`
  | err (s : Scan)                        -- `r.err = err; return 0, err`
  deriving DecidableEq, Repr

/-- `for numValuesInRow < len(values) && values[numValuesInRow].repetitionLevel != 0` -/
def scanRow (nv : Nat) (values : List Val) : Nat :=
  nv + ((values.drop nv).takeWhile fun v => v.rep != 0).length

inductive Refill where
  | ok (s : Scan)
  | eof (s : Scan)
  | fail (s : Scan)
  deriving DecidableEq, Repr

/-- MIRROR `if c.offset == c.length { n, err := c.reader.ReadValues(b); … }` (row_group.go:322-336) -/
def refill (pages : List Page) (bufsize : Nat) (s : Scan) : Refill :=
  if s.col.buf.isEmpty then
    match readValues pages bufsize (valuesFuel pages) s.col.reader with
    | (rd, .vals vs) => .ok { s with col := { reader := rd, buf := vs } }
    | (rd, .eof) => .eof { s with col := { reader := rd, buf := [] }, eof := true, eofCount := s.eofCount + 1 }
    | (rd, .fail) => .fail { s with col := { reader := rd, buf := [] } }
  else .ok s

/-- MIRROR the inner `for { … }` of `ReadRows` (row_group.go:321-357) for row `rowIndex` of the call:
    `nv` = `numValuesInRow`, `acc` = what has been appended to `rows[rowIndex]` for this column.
    Every turn that loops again has consumed a whole non-empty buffer. -/
def rowLoop (pages : List Page) (bufsize rowIndex : Nat) : Nat → Nat → Scan → List Val → RowRes
  | 0, _, s, _ => .err s
  | fuel + 1, nv, s, acc =>
    match refill pages bufsize s with
    | .eof s => .next s acc
    | .fail s => .err s
    | .ok s =>
      let vs := s.col.buf
      let nv := scanRow nv vs
      if nv == 0 then .next s acc
      else
        let s' := { s with col := { s.col with buf := vs.drop nv }, rowCount := max s.rowCount (rowIndex + 1) }
        if nv != vs.length then .next s' (acc ++ vs.take nv)
        else if s.eof then .nextCol s' (acc ++ vs.take nv)
        else rowLoop pages bufsize rowIndex fuel 0 s' (acc ++ vs.take nv)

def rowFuel (pages : List Page) : Nat := (pages.map fun p => p.vals.length).sum + 2

inductive ColRes where
  | ok (s : Scan) (accs : List (List Val))   -- per row of the call: the values appended for this column
  | err (s : Scan)
  deriving DecidableEq, Repr

/-- MIRROR `for rowIndex := range rows` (row_group.go:313-358) for one column -/
def colLoop (pages : List Page) (bufsize : Nat) : Nat → Nat → Scan → ColRes
  | 0, _, s => .ok s []
  | n + 1, i, s =>
    match rowLoop pages bufsize i (rowFuel pages) 1 s [] with
    | .err s => .err s
    | .nextCol s acc => .ok s [acc]
    | .next s acc =>
      match colLoop pages bufsize n (i + 1) s with
      | .err s => .err s
      | .ok s accs => .ok s (acc :: accs)

structure ColsRes where
  cols : List Col
  failed : Bool
  eofCount : Nat
  rowCount : Nat
  accs : List (List (List Val))   -- per column, per row of the call
  deriving DecidableEq, Repr

/-- MIRROR `for columnIndex := range r.columns` (row_group.go:308-359): the first failure ends the
    call with the columns in front advanced and the ones behind untouched -/
def colsLoop (bufsize n : Nat) : List (List Page) → List Col → Nat → Nat → ColsRes
  | pages :: file, c :: cs, ec, rc =>
    match colLoop pages bufsize n 0 { col := c, eof := false, eofCount := ec, rowCount := rc } with
    | .err s => { cols := s.col :: cs, failed := true, eofCount := s.eofCount, rowCount := s.rowCount, accs := [] }
    | .ok s accs =>
      let r := colsLoop bufsize n file cs s.eofCount s.rowCount
      { r with cols := s.col :: r.cols, accs := accs :: r.accs }
  | _, cs, ec, rc => { cols := cs, failed := false, eofCount := ec, rowCount := rc, accs := [] }

/-- `rows[i]` = the values of row `i` of every column, one column after the other -/
def assemble (rowCount : Nat) (accs : List (List (List Val))) : List (List Val) :=
  (List.range rowCount).map fun i => (accs.map fun a => a.getD i []).flatten

structure St where
  cols : List Col
  rowIndex : Int    -- r.rowIndex, -1 on a new reader
  err : Bool        -- r.err != nil
  deriving DecidableEq, Repr

inductive Op where
  | read (n : Nat)
  | seek (k : Nat)
  | reset
  deriving DecidableEq, Repr

inductive Out where
  | rows (rs : List (List Val)) (eof : Bool)   -- `return rowCount, nil | io.EOF`
  | failed                                     -- `return 0, err`
  | done
  deriving DecidableEq, Repr

/-- `newRowGroupRows` (row_group.go:213-237) -/
def init (file : List (List Page)) : St :=
  { cols := file.map fun _ => { reader := { cur := { next := 0, skip := 0 }, values := none }, buf := [] },
    rowIndex := -1, err := false }

/-- MIRROR `rowGroupRows.SeekToRow` (row_group.go:272-288) -/
def seek (file : List (List Page)) (st : St) (k : Nat) : St :=
  if (k : Int) ≠ st.rowIndex ∨ st.err = true then
    { cols := file.map fun pages => { reader := seekReader pages k, buf := [] }, rowIndex := k, err := false }
  else st

/-- MIRROR `rowGroupRows.Reset` (row_group.go:246-255) -/
def reset (file : List (List Page)) (_ : St) : St :=
  { cols := file.map fun pages => { reader := seekReader pages 0, buf := [] }, rowIndex := 0, err := false }

/-- MIRROR `rowGroupRows.ReadRows` (row_group.go:289-370) -/
def read (file : List (List Page)) (bufsize : Nat) (st : St) (n : Nat) : St × Out :=
  if st.err then (st, .failed)                                  -- if r.err != nil { return 0, r.err }
  else
    let st := if st.rowIndex < 0 then seek file st 0 else st    -- if r.rowIndex < 0 { r.SeekToRow(0) }
    let r := colsLoop bufsize n file st.cols 0 0
    if r.failed then ({ st with cols := r.cols, err := true }, .failed)
    else ({ st with cols := r.cols, rowIndex := st.rowIndex + r.rowCount },
          .rows (assemble r.rowCount r.accs) (decide (r.eofCount > 0)))

def step (file : List (List Page)) (bufsize : Nat) (st : St) : Op → St × Out
  | .read n => read file bufsize st n
  | .seek k => (seek file st k, .done)
  | .reset => (reset file st, .done)

def run (file : List (List Page)) (bufsize : Nat) : St → List Op → List (St × Out)
  | _, [] => []
  | s, op :: ops => step file bufsize s op :: run file bufsize (step file bufsize s op).1 ops

def reach (file : List (List Page)) (bufsize : Nat) (ops : List Op) : St :=
  ops.foldl (fun s op => (step file bufsize s op).1) (init file)

end PqModel.RowsBuf
