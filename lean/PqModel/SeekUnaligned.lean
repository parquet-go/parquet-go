import PqModel.SliceRepeated

/-! # Seeking over pages that do not start on a row boundary, and pages without rows (C08)

Data page v1 files of a repeated column may cut a row across pages: a page then begins with the
tail of the previous row (repetition levels > 0) and may hold no row start at all. `Seek.lean`
excludes both; this file models the path of `FilePages` on which they are legal — no offset
index — at the level of values: a page is the list of its repetition levels, the chunk's stream
is their concatenation, a row starts at every level 0, `NumRows` of a page is its number of zeros.

* MIRROR: `readLoop` / `readPage` (file.go:1214-1366, the loop of `FilePages.ReadPage` with `seekToRowStart`, the
  `NumRows() == 0` page, the `repLvls[0] == 0` test, `Slice(0, NumRows)` and `Slice(skip, NumRows)`
  — the slices are the mirror `sliceIdx` of `page_repeated.go`), `seek` (no-index `SeekToRow`, file.go:1634-1650).
* SPEC: `nthZero S k` — the value index at which row `k` starts; a reader is a value counter. -/
namespace PqModel.SeekUnaligned
open PqModel.Seek (sliceIdx drop_flatten_take)

structure St where
  pos : Nat    -- the data page under the stream
  skip : Nat   -- f.skip
deriving Repr, DecidableEq

inductive Out where
  | page (levels : List Nat)
  | eof
deriving Repr, DecidableEq

/-- MIRROR of `repeatedPage.Slice(i, j)` on the repetition levels -/
def slice (page : List Nat) (i j : Nat) : List Nat :=
  (page.drop (sliceIdx page i j).1).take ((sliceIdx page i j).2 - (sliceIdx page i j).1)

/-- MIRROR of the loop of `FilePages.ReadPage` for v1 pages without offset index -/
def readLoop (chunk : List (List Nat)) (seekToRowStart : Bool) : Nat → St → St × Out
  | 0, s => (s, .eof)
  | fuel + 1, s =>
    match chunk[s.pos]? with
    | none => (s, .eof)
    | some page =>
      if s.skip = 0 then
        if seekToRowStart = false then ({ s with pos := s.pos + 1 }, .page page)
        else if zeros page = 0 then readLoop chunk seekToRowStart fuel { s with pos := s.pos + 1 }
        else if page.head? = some 0 then ({ s with pos := s.pos + 1 }, .page page)
        else ({ s with pos := s.pos + 1 }, .page (slice page 0 (zeros page)))
      else if zeros page ≤ s.skip then
        readLoop chunk seekToRowStart fuel { pos := s.pos + 1, skip := s.skip - zeros page }
      else ({ pos := s.pos + 1, skip := 0 }, .page (slice page s.skip (zeros page)))

def readPage (chunk : List (List Nat)) (s : St) : St × Out :=
  readLoop chunk (decide (0 < s.skip)) (chunk.length + 1) s

/-- MIRROR of `SeekToRow` without offset index: rewind, `skip = rowIndex` -/
def seek (k : Nat) : St := { pos := 0, skip := k }

/-- `Slice(n, NumRows)` is the page from its `n`-th row start on -/
theorem slice_tail (page : List Nat) (n : Nat) (h : n < zeros page) :
    slice page n (zeros page) = page.drop (nthZero page n) := by
  simp only [slice, Seek.sliceIdx_eq page n (zeros page) (Nat.le_of_lt h), nthZero_ge page _ (Nat.le_refl _)]
  rw [List.take_of_length_le (by simp)]

/-- value offset of page `i` -/
def off (chunk : List (List Nat)) (i : Nat) : Nat := (chunk.take i).flatten.length

/-- where a pending seek (`seekToRowStart`) will land: the `skip`-th row start at or behind the
    page under the stream -/
def vtarget (chunk : List (List Nat)) (s : St) : Nat :=
  off chunk s.pos + nthZero (chunk.flatten.drop (off chunk s.pos)) s.skip

/-- abstraction between two calls: the index of the next value delivered -/
def vpos (chunk : List (List Nat)) (s : St) : Nat :=
  if s.skip = 0 then off chunk s.pos else vtarget chunk s

theorem rest_eq (chunk : List (List Nat)) (i : Nat) (page : List Nat) (h : chunk[i]? = some page) :
    chunk.flatten.drop (off chunk i) = page ++ chunk.flatten.drop (off chunk (i + 1)) ∧
    off chunk (i + 1) = off chunk i + page.length := by
  obtain ⟨hlt, hget⟩ := List.getElem?_eq_some_iff.mp h
  have hd : chunk.drop i = page :: chunk.drop (i + 1) := by
    rw [List.drop_eq_getElem_cons hlt, hget]
  simp only [off]
  rw [drop_flatten_take, drop_flatten_take, hd]
  refine ⟨by simp, ?_⟩
  rw [List.take_add_one, h]
  simp

/-- outcome of a read by a reader whose next value is `v` -/
def ReadOK (chunk : List (List Nat)) (v : Nat) (r : St × Out) : Prop :=
  r.1.pos ≤ chunk.length ∧
  match r.2 with
  | .page vals => 0 < vals.length ∧ vals = (chunk.flatten.drop v).take vals.length ∧
      r.1.skip = 0 ∧ off chunk r.1.pos = v + vals.length
  | .eof => chunk.flatten.length ≤ v

theorem readLoop_seeking (chunk : List (List Nat)) (hne : ∀ p ∈ chunk, p ≠ []) :
    ∀ (fuel : Nat) (s : St), s.pos ≤ chunk.length → chunk.length - s.pos < fuel →
      ReadOK chunk (vtarget chunk s) (readLoop chunk true fuel s)
  | 0, s, _, hf => by omega
  | fuel + 1, s, hp, hf => by
    simp only [readLoop]
    cases hc : chunk[s.pos]? with
    | none =>
      refine ⟨hp, ?_⟩
      simp only [vtarget, off, List.take_of_length_le (List.getElem?_eq_none_iff.mp hc)]
      omega
    | some page =>
      obtain ⟨hrest, hoff⟩ := rest_eq chunk s.pos page hc
      have hlt : s.pos < chunk.length := (List.getElem?_eq_some_iff.mp hc).1
      have hplen : 0 < page.length := List.length_pos_iff.mpr (hne page (List.mem_of_getElem? hc))
      -- the target seen from this page
      have htgt : vtarget chunk s = off chunk s.pos +
          (if s.skip < zeros page then nthZero page s.skip
           else page.length + nthZero (chunk.flatten.drop (off chunk (s.pos + 1))) (s.skip - zeros page)) := by
        simp only [vtarget, hrest, nthZero_append]
      -- returning the page from value offset `a` on
      have ret : ∀ a, a < page.length → vtarget chunk s = off chunk s.pos + a →
          ReadOK chunk (vtarget chunk s) ({ pos := s.pos + 1, skip := 0 }, Out.page (page.drop a)) := by
        intro a ha hv
        refine ⟨hlt, by rw [List.length_drop]; omega, ?_, rfl, ?_⟩
        · rw [hv, ← List.drop_drop, hrest, List.drop_append_of_le_length (Nat.le_of_lt ha),
            List.take_left' rfl]
        · rw [List.length_drop, hoff, hv]; omega
      -- going on behind this page with `skip'` rows still to skip lands on the same value
      have next : ∀ skip', s.skip = zeros page + skip' →
          ReadOK chunk (vtarget chunk s) (readLoop chunk true fuel { pos := s.pos + 1, skip := skip' }) := by
        intro skip' hs
        -- `simp only []` reduces `{ pos := _, skip := _ }.pos`
        have := readLoop_seeking chunk hne fuel { pos := s.pos + 1, skip := skip' } hlt (by simp only []; omega)
        rwa [show vtarget chunk { pos := s.pos + 1, skip := skip' } = vtarget chunk s by
          rw [htgt, if_neg (by omega), show s.skip - zeros page = skip' by omega]
          simp only [vtarget, hoff]; omega] at this
      simp only []
      by_cases h0 : s.skip = 0
      · rw [if_pos h0, if_neg (by decide)]
        by_cases hz : zeros page = 0
        · rw [if_pos hz]
          exact next s.skip (by omega)
        · rw [if_neg hz]
          have hz' : 0 < zeros page := Nat.pos_of_ne_zero hz
          by_cases hh : page.head? = some 0
          · rw [if_pos hh]
            have := ret 0 hplen (by rw [htgt, h0, if_pos hz', nthZero_zero_of_head page hh])
            simpa [h0] using this
          · rw [if_neg hh, slice_tail page 0 hz']
            have := ret (nthZero page 0) (nthZero_lt page 0 hz') (by rw [htgt, h0, if_pos hz'])
            simpa [h0] using this
      · rw [if_neg h0]
        by_cases hle : zeros page ≤ s.skip
        · rw [if_pos hle]
          exact next (s.skip - zeros page) (by omega)
        · have hlt' : s.skip < zeros page := Nat.lt_of_not_le hle
          rw [if_neg hle, slice_tail page s.skip hlt']
          exact ret (nthZero page s.skip) (nthZero_lt page s.skip hlt') (by rw [htgt, if_pos hlt'])

theorem readPage_spec (chunk : List (List Nat)) (hne : ∀ p ∈ chunk, p ≠ []) (s : St) (hp : s.pos ≤ chunk.length) :
    ReadOK chunk (vpos chunk s) (readPage chunk s) := by
  unfold readPage
  by_cases h0 : s.skip = 0
  · -- reading on
    have hd : decide (0 < s.skip) = false := by simp [h0]
    rw [hd]
    simp only [readLoop, vpos, h0, if_true]
    cases hc : chunk[s.pos]? with
    | none =>
      refine ⟨hp, ?_⟩
      simp [off, List.take_of_length_le (List.getElem?_eq_none_iff.mp hc)]
    | some page =>
      obtain ⟨hrest, hoff⟩ := rest_eq chunk s.pos page hc
      have hlt : s.pos < chunk.length := (List.getElem?_eq_some_iff.mp hc).1
      have hpne : page ≠ [] := hne page (List.mem_of_getElem? hc)
      simp only
      refine ⟨by simp; omega, List.length_pos_iff.mpr hpne, ?_, by simp, by simp [hoff]⟩
      rw [hrest, List.take_left' rfl]
  · have hd : decide (0 < s.skip) = true := by simp; omega
    rw [hd]
    have := readLoop_seeking chunk hne (chunk.length + 1) s hp (by omega)
    simpa [vpos, h0] using this

/-- **After `SeekToRow(k)` the reader stands on the first value of row `k`** (`nthZero`: the index
    of the `k`-th level 0 of the stream), provided the stream starts with a row. -/
theorem seek_spec (chunk : List (List Nat)) (k : Nat) (hwf : chunk.flatten.head? = some 0 ∨ chunk.flatten = []) :
    vpos chunk (seek k) = nthZero chunk.flatten k := by
  simp only [vpos, seek, vtarget, off, List.take_zero, List.flatten_nil, List.length_nil, List.drop_zero, Nat.zero_add]
  split
  · rename_i h0
    subst h0
    rcases hwf with h | h
    · exact (nthZero_zero_of_head _ h).symm
    · simp [h, nthZero]
  · rfl

/-- three pages: rows `[0,1]`, `[0,1,1 | 1,1 | 1]` (one row over three pages, the middle page has
    no row start) `[0]`; seeking to row 2 skips the page without rows and cuts the landing page -/
def demo : List (List Nat) := [[0, 1, 0, 1, 1], [1, 1], [1, 0]]
example : (readPage demo (seek 2)).2 = .page [0] := by decide
example : (readPage demo (seek 1)).2 = .page [0, 1, 1] := by decide
example : (readPage demo (readPage demo (seek 1)).1).2 = .page [1, 1] := by decide
example : (readPage demo (seek 3)).2 = .eof := by decide

end PqModel.SeekUnaligned
