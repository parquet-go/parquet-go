import PqModel.MergeRun

/-! # C09 — the two-input reader `mergedRowReader2`: every `ReadRows` call is an `Emits` schedule -/
namespace PqModel.Merge

theorem Buf.read_rem {b b' : Buf} (h : b.read = some b') : b'.rem = b.rem := by
  unfold Buf.read at h
  split at h
  · cases h
  · rename_i x xs hsrc
    simp only [Option.some.injEq] at h
    subst h
    simp only [Buf.rem, List.append_assoc, List.take_append_drop]

theorem Buf.read_none {b : Buf} (h : b.read = none) : b.src = [] := by
  unfold Buf.read at h
  split at h
  · assumption
  · cases h

theorem Buf.read_win {b b' : Buf} (h : b.read = some b') : b'.win ≠ [] := by
  unfold Buf.read at h
  split at h
  · cases h
  · rename_i x xs hsrc
    simp only [Option.some.injEq] at h
    subst h
    simp only [ne_eq, List.append_eq_nil_iff, List.take_eq_nil_iff, not_and, not_or]
    intro _
    exact ⟨by omega, by simp [hsrc]⟩

theorem Buf.advance_rem (b : Buf) (n : Nat) :
    (b.advance n).1.rem = b.win.drop n ++ b.src := by
  simp [Buf.advance, Buf.rem]

theorem Buf.rem_split (b : Buf) (n : Nat) : b.rem = b.win.take n ++ (b.win.drop n ++ b.src) := by
  rw [← List.append_assoc, List.take_append_drop]; rfl

theorem Buf.advance_more (b : Buf) (n : Nat) : (b.advance n).2 = true ↔ (b.advance n).1.win ≠ [] := by
  simp [Buf.advance]

theorem Buf.advance_done (b : Buf) (n : Nat) : (!(b.advance n).2) = true ↔ (b.advance n).1.win = [] := by
  simp [Buf.advance]

theorem Buf.head_rem {b : Buf} (h : b.win ≠ []) : b.rem.head? = some b.head := by
  cases hw : b.win with
  | nil => exact absurd hw h
  | cons x xs => simp [Buf.rem, Buf.head, hw]

theorem Buf.win_eq {b : Buf} (h : b.win ≠ []) : b.win = b.head :: b.win.drop 1 := by
  cases hw : b.win with
  | nil => exact absurd hw h
  | cons x xs => simp [Buf.head, hw]

theorem Buf.win_sorted {b : Buf} (hs : SortedK b.rem) : SortedK b.win :=
  List.Pairwise.sublist (by simp [Buf.rem]) hs

theorem emits_advance (bufs : List Buf) (i : Nat) (c : Buf) (n : Nat) (hc : bufs[i]? = some c)
    (hmin : ∀ x ∈ c.win.take n, ∀ (j : Nat) (c' : Buf) (y : Row), j ≠ i → bufs[j]? = some c' →
      c'.rem.head? = some y → x.key ≤ y.key) :
    Emits (bufs.map Buf.rem) (c.win.take n) ((bufs.set i (c.advance n).1).map Buf.rem) := by
  have h := emits_prefix (ins := bufs.map Buf.rem) (i := i) (c.win.take n) (c.win.drop n ++ c.src)
    (by simp [hc, Buf.rem_split c n])
    (by
      intro x hx j l y hji hj hy
      simp only [List.getElem?_map, Option.map_eq_some_iff] at hj
      obtain ⟨c', hc', rfl⟩ := hj
      exact hmin x hx j c' y hji hc' hy)
  have e : (bufs.set i (c.advance n).1).map Buf.rem = (bufs.map Buf.rem).set i (c.win.drop n ++ c.src) := by
    rw [List.map_set, Buf.advance_rem]
  rw [e]; exact h

/-- the two inputs of the 2-way reader seen from the input that moves: `c` moves, `o` is the other one;
    `s = true`: the mover is input 1 -/
def pair {α : Type} (s : Bool) (c o : α) : List α := cond s [o, c] [c, o]

theorem emits2 (s : Bool) (c o : Buf) (n : Nat)
    (h : ∀ x ∈ c.win.take n, ∀ y, o.rem.head? = some y → x.key ≤ y.key) :
    Emits (pair s c.rem o.rem) (c.win.take n) (pair s (c.advance n).1.rem o.rem) := by
  have key : ∀ (j : Nat) (c' : Buf), j ≠ s.toNat → (pair s c o)[j]? = some c' → c' = o := by
    intro j c' hj hc'
    cases s
    · match j, hj, hc' with
      | 1, _, hc' => simpa [pair] using hc'.symm
      | j + 2, _, hc' => simp [pair] at hc'
    · match j, hj, hc' with
      | 0, _, hc' => simpa [pair] using hc'.symm
      | j + 2, _, hc' => simp [pair] at hc'
  have := emits_advance (pair s c o) s.toNat c n (by cases s <;> rfl)
    (fun x hx j c' y hj hc' hy => h x hx y (key j c' hj hc' ▸ hy))
  cases s <;> simpa [pair] using this

theorem Buf.take_one {b : Buf} (h : b.win ≠ []) : b.win.take 1 = [b.head] := by
  rw [Buf.win_eq h]; simp

theorem Buf.advance_sorted {b : Buf} (n : Nat) (hs : SortedK b.rem) : SortedK (b.advance n).1.rem := by
  rw [Buf.advance_rem]
  refine List.Pairwise.sublist ?_ hs
  simp only [Buf.rem]
  exact List.Sublist.append (List.drop_sublist _ _) (List.Sublist.refl _)

theorem Buf.head_le_rem {b : Buf} (hw : b.win ≠ []) (hs : SortedK b.rem) :
    ∀ y ∈ b.rem, b.head.key ≤ y.key := fun _ hy => sortedK_head_le hs (Buf.head_rem hw) hy

theorem Buf.head_le_advance {b : Buf} (hw : b.win ≠ []) (hs : SortedK b.rem) (n : Nat) (y : Row)
    (hy : (b.advance n).1.rem.head? = some y) : b.head.key ≤ y.key := by
  apply Buf.head_le_rem hw hs
  rw [Buf.advance_rem] at hy
  have hm : y ∈ b.win.drop n ++ b.src := List.mem_of_mem_head? hy
  simp only [Buf.rem, List.mem_append] at hm ⊢
  rcases hm with hm | hm
  · exact Or.inl (List.mem_of_mem_drop hm)
  · exact Or.inr hm

/-- the other two components of `emitRun` are `r.advance` of that length by definition -/
theorem emitRun_spec (m : Nat) (r : Buf) (bound : Row) (hm : m ≠ 0) (hw : r.win ≠ []) (hs : SortedK r.win)
    (hhead : r.head.key < bound.key) :
    (emitRun m r bound).1 = r.win.take (emitRunLen m r bound) ∧ (emitRun m r bound).1 ≠ [] ∧
    ∀ x ∈ (emitRun m r bound).1, x.key < bound.key := by
  obtain ⟨m', rfl⟩ := Nat.exists_eq_succ_of_ne_zero hm
  -- the truncated window is the head followed by `t`; the run is the head and a prefix of `t`
  obtain ⟨t, ht, hst⟩ : ∃ t, r.win.take (m' + 1) = r.head :: t ∧ SortedK t := by
    refine ⟨(r.win.drop 1).take m', ?_, List.Pairwise.sublist ((List.take_sublist _ _).trans (List.drop_sublist _ _)) hs⟩
    conv => lhs; rw [Buf.win_eq hw]
    rfl
  obtain ⟨k, hk, hlen, hbelow⟩ : ∃ k, emitRunLen (m' + 1) r bound = k + 1 ∧ k ≤ t.length ∧
      ∀ x ∈ t.take k, x.key < bound.key := by
    unfold emitRunLen
    rw [ht]
    by_cases h1 : (r.head :: t).length > 1
    · rw [if_pos h1]
      obtain ⟨s1, s2, _⟩ := runLength_spec' t bound (-1) hst
      exact ⟨_, Nat.add_comm _ _, s1, fun x hx => leMax_neg.mp (s2 x hx)⟩
    · rw [if_neg h1]
      exact ⟨0, rfl, Nat.zero_le _, fun x hx => by simp at hx⟩
  have e : (emitRun (m' + 1) r bound).1 = r.head :: t.take k := by
    simp only [emitRun, hk, ht, List.take_succ_cons]
  refine ⟨?_, e ▸ List.cons_ne_nil _ _, ?_⟩
  · have : (r.win.take (m' + 1)).take (k + 1) = r.win.take (k + 1) := by
      rw [List.take_take, Nat.min_eq_left]
      have := congrArg List.length ht
      simp only [List.length_take, List.length_cons] at this
      omega
    rw [hk, ← this, ht, e, List.take_succ_cons]
  · intro x hx
    rw [e] at hx
    rcases List.mem_cons.mp hx with rfl | hx
    · exact hhead
    · exact hbelow x hx

theorem emits2_head (s : Bool) (c o : Buf) (hc : c.win ≠ []) (h : ∀ y, o.rem.head? = some y → c.head.key ≤ y.key) :
    Emits (pair s c.rem o.rem) [c.head] (pair s (c.advance 1).1.rem o.rem) := by
  rw [← Buf.take_one hc]
  refine emits2 s c o 1 (fun x hx => ?_)
  rw [Buf.take_one hc, List.mem_singleton] at hx
  exact hx ▸ h

theorem emits2_run (s : Bool) (m : Nat) (c o : Buf) (hm : m ≠ 0) (hc : c.win ≠ []) (ho : o.win ≠ [])
    (sc : SortedK c.rem) (hlt : c.head.key < o.head.key) :
    Emits (pair s c.rem o.rem) (emitRun m c o.head).1 (pair s (emitRun m c o.head).2.1.rem o.rem) ∧
    (emitRun m c o.head).1 ≠ [] := by
  obtain ⟨e1, hne, hbelow⟩ := emitRun_spec m c o.head hm hc (Buf.win_sorted sc) hlt
  refine ⟨?_, hne⟩
  rw [e1] at hbelow ⊢
  exact emits2 s c o _ (fun x hx y hy => by
    rw [Buf.head_rem ho] at hy; cases hy; exact Int.le_of_lt (hbelow x hx))

theorem tie_le {a b : Buf} (ha : a.win ≠ []) (hb : b.win ≠ []) (sa : SortedK a.rem)
    (hlt : ¬ cmp a.head b.head < 0) (hgt : ¬ cmp a.head b.head > 0) :
    (∀ y, b.rem.head? = some y → a.head.key ≤ y.key) ∧
    (∀ y, (a.advance 1).1.rem.head? = some y → b.head.key ≤ y.key) := by
  have h1 := mt cmp_lt.mpr hlt
  have h2 := mt cmp_gt.mpr hgt
  refine ⟨fun y hy => ?_, fun y hy => ?_⟩
  · rw [Buf.head_rem hb] at hy; cases hy; omega
  · have := Buf.head_le_advance ha sa 1 y hy; omega

theorem M2.loop_spec (f m : Nat) (a b : Buf) (prev : Int) (streak : Nat)
    (ha : a.win ≠ []) (hb : b.win ≠ []) (sa : SortedK a.rem) (sb : SortedK b.rem) :
    Emits [a.rem, b.rem] (M2.loop f m a b prev streak).1
      [(M2.loop f m a b prev streak).2.1.rem, (M2.loop f m a b prev streak).2.2.1.rem] ∧
    (f ≠ 0 → m ≠ 0 → (M2.loop f m a b prev streak).1 ≠ []) := by
  -- every iteration emits a non-empty chunk `e`; then the loop stops, or goes on and emits `r`
  have stop : ∀ {X Y : List (List Row)} {e : List Row} {P Q : Prop}, Emits X e Y → e ≠ [] →
      Emits X e Y ∧ (P → Q → e ≠ []) := fun hE hne => ⟨hE, fun _ _ => hne⟩
  have goOn : ∀ {X Y Z : List (List Row)} {e r : List Row} {P Q P' Q' : Prop}, Emits X e Y → e ≠ [] →
      Emits Y r Z ∧ (P → Q → r ≠ []) → Emits X (e ++ r) Z ∧ (P' → Q' → e ++ r ≠ []) :=
    fun hE hne ih => ⟨hE.trans ih.1, fun _ _ => List.append_ne_nil_of_left_ne_nil hne _⟩
  -- cases: out of fuel; no room; left < right (3-6) and right < left (7-10): a run and on, a run and stop, a row and
  -- on, a row and stop; a tie (11-13): room for one row only, both rows and on, both rows and stop
  fun_induction M2.loop f m a b prev streak with
  | case1 => exact ⟨Emits.nil, fun h => absurd rfl h⟩
  | case2 => exact ⟨Emits.nil, fun _ h => absurd rfl h⟩
  | case3 f m a b prev streak0 hm hlt streak hrun e hmore r ih =>
    obtain ⟨hE, hne⟩ := emits2_run false m a b hm ha hb sa (cmp_lt.mp hlt)
    exact goOn hE hne (ih ((Buf.advance_more a _).mp hmore) hb (Buf.advance_sorted _ sa) sb)
  | case4 f m a b prev streak0 hm hlt streak hrun e hmore =>
    obtain ⟨hE, hne⟩ := emits2_run false m a b hm ha hb sa (cmp_lt.mp hlt)
    exact stop hE hne
  | case5 f m a b prev streak0 hm hlt streak hrun hmore r ih =>
    have hE := emits2_head false a b ha (fun y hy => by
      rw [Buf.head_rem hb] at hy; cases hy; exact Int.le_of_lt (cmp_lt.mp hlt))
    exact goOn hE (List.cons_ne_nil _ _) (ih ((Buf.advance_more a _).mp hmore) hb (Buf.advance_sorted _ sa) sb)
  | case6 f m a b prev streak0 hm hlt streak hrun hmore =>
    have hE := emits2_head false a b ha (fun y hy => by
      rw [Buf.head_rem hb] at hy; cases hy; exact Int.le_of_lt (cmp_lt.mp hlt))
    exact stop hE (List.cons_ne_nil _ _)
  | case7 f m a b prev streak0 hm hlt hgt streak hrun e hmore r ih =>
    obtain ⟨hE, hne⟩ := emits2_run true m b a hm hb ha sb (cmp_gt.mp hgt)
    exact goOn hE hne (ih ha ((Buf.advance_more b _).mp hmore) sa (Buf.advance_sorted _ sb))
  | case8 f m a b prev streak0 hm hlt hgt streak hrun e hmore =>
    obtain ⟨hE, hne⟩ := emits2_run true m b a hm hb ha sb (cmp_gt.mp hgt)
    exact stop hE hne
  | case9 f m a b prev streak0 hm hlt hgt streak hrun hmore r ih =>
    have hE := emits2_head true b a hb (fun y hy => by
      rw [Buf.head_rem ha] at hy; cases hy; exact Int.le_of_lt (cmp_gt.mp hgt))
    exact goOn hE (List.cons_ne_nil _ _) (ih ha ((Buf.advance_more b _).mp hmore) sa (Buf.advance_sorted _ sb))
  | case10 f m a b prev streak0 hm hlt hgt streak hrun hmore =>
    have hE := emits2_head true b a hb (fun y hy => by
      rw [Buf.head_rem ha] at hy; cases hy; exact Int.le_of_lt (cmp_gt.mp hgt))
    exact stop hE (List.cons_ne_nil _ _)
  | case11 f m a b prev streak hm hlt hgt hm1 =>
    exact stop (emits2_head false a b ha (tie_le ha hb sa hlt hgt).1) (List.cons_ne_nil _ _)
  | case12 f m a b prev streak hm hlt hgt hm1 hmore r ih =>
    simp only [Bool.and_eq_true] at hmore
    exact goOn ((emits2_head false a b ha (tie_le ha hb sa hlt hgt).1).trans
        (emits2_head true b (a.advance 1).1 hb (tie_le ha hb sa hlt hgt).2))
      (List.cons_ne_nil _ _) (ih ((Buf.advance_more a _).mp hmore.1) ((Buf.advance_more b _).mp hmore.2)
        (Buf.advance_sorted _ sa) (Buf.advance_sorted _ sb))
  | case13 f m a b prev streak hm hlt hgt hm1 hmore =>
    exact stop ((emits2_head false a b ha (tie_le ha hb sa hlt hgt).1).trans
      (emits2_head true b (a.advance 1).1 hb (tie_le ha hb sa hlt hgt).2)) (List.cons_ne_nil _ _)

def optRem (o : Option Buf) : List Row := (o.map Buf.rem).getD []

def M2.rems (s : M2) : List (List Row) := [optRem s.r0, optRem s.r1]

/-- a reader that has not been initialised has nothing buffered (true of `M2.new` on fresh buffers) -/
def M2.Ok (s : M2) : Prop :=
  s.initialized = false → (∀ b, s.r0 = some b → b.win = []) ∧ (∀ b, s.r1 = some b → b.win = [])

theorem refill_rem (o : Option Buf) : optRem (refill o) = optRem o := by
  cases o with
  | none => rfl
  | some b =>
    simp only [refill]
    split
    · rename_i he
      have hw : b.win = [] := by simpa [Buf.empty] using he
      cases hr : b.read with
      | none => simp [optRem, Buf.rem, hw, Buf.read_none hr]
      | some b' => simp [optRem, Buf.read_rem hr]
    · rfl

theorem refill_win {o : Option Buf} {b : Buf} (h : refill o = some b) : b.win ≠ [] := by
  cases o with
  | none => simp [refill] at h
  | some c =>
    simp only [refill] at h
    split at h
    · exact Buf.read_win h
    · rename_i he
      cases h
      simpa [Buf.empty] using he

theorem bind_read_rem (o : Option Buf) (h : ∀ b, o = some b → b.win = []) :
    optRem (o.bind Buf.read) = optRem o := by
  cases o with
  | none => rfl
  | some b =>
    have hw := h b rfl
    simp only [Option.bind_some]
    cases hr : b.read with
    | none => simp [optRem, Buf.rem, hw, Buf.read_none hr]
    | some b' => simp [optRem, Buf.read_rem hr]

theorem emitSingle_spec (m : Nat) (b : Buf) (hw : b.win ≠ []) :
    (emitSingle m b).1 = b.win.take m ∧ (emitSingle m b).2.rem = b.win.drop m ++ b.src := by
  fun_induction emitSingle m b with
  | case1 b => simp [Buf.rem]
  | case2 m b hmore rec_ ih =>
    have hwin := Buf.win_eq hw
    simp only [rec_, ih ((Buf.advance_more b 1).mp hmore)]
    constructor
    · conv => rhs; rw [hwin]
      simp [Buf.advance]
    · conv => rhs; rw [hwin]
      simp [Buf.advance]
  | case3 m b hmore =>
    have hwin := Buf.win_eq hw
    have : b.win.drop 1 = [] := Decidable.not_not.mp (mt (Buf.advance_more b 1).mpr hmore)
    constructor
    · conv => rhs; rw [hwin]
      simp [this]
    · rw [Buf.advance_rem]
      conv => rhs; rw [hwin]
      simp [this]

theorem emitSingle_emits (s : Bool) (m : Nat) (c : Buf) (hc : c.win ≠ []) :
    Emits (pair s c.rem []) (emitSingle m c).1 (pair s (emitSingle m c).2.rem []) ∧
    (1 ≤ m → (emitSingle m c).1 ≠ []) := by
  have hsp := emitSingle_spec m c hc
  have h := emits2 s c (Buf.fresh [] []) m (fun _ _ y hy => by cases hy)
  rw [Buf.advance_rem] at h
  rw [hsp.1, hsp.2]
  exact ⟨h, fun hm e => (List.take_eq_nil_iff.mp e).elim (by omega) hc⟩

theorem M2.readRows_spec (s : M2) (m : Nat) (hok : s.Ok) (hs : ∀ l ∈ s.rems, SortedK l) :
    Emits s.rems (s.readRows m).1 (s.readRows m).2.2.rems ∧
    (s.readRows m).2.2.initialized = true ∧
    ((s.readRows m).2.1 = true → ∀ l ∈ (s.readRows m).2.2.rems, l = []) ∧
    (1 ≤ m → (s.readRows m).2.1 = true ∨ (s.readRows m).1 ≠ []) := by
  obtain ⟨s1, hs1, hrem1, hinit1⟩ : ∃ s1 : M2,
      s1 = (if s.initialized then s else { s with r0 := s.r0.bind Buf.read, r1 := s.r1.bind Buf.read, initialized := true })
      ∧ s1.rems = s.rems ∧ s1.initialized = true := by
    refine ⟨_, rfl, ?_, ?_⟩
    · split
      · rfl
      · rename_i hi
        have hok' := hok (by simpa using hi)
        simp only [M2.rems, bind_read_rem _ hok'.1, bind_read_rem _ hok'.2]
    · split
      · assumption
      · rfl
  have hunf : s.readRows m =
      (match refill s1.r0, refill s1.r1 with
        | none, none => ([], true, { s1 with r0 := none, r1 := none })
        | none, some b => ((emitSingle m b).1, false, { s1 with r0 := none, r1 := some (emitSingle m b).2 })
        | some a, none => ((emitSingle m a).1, false, { s1 with r0 := some (emitSingle m a).2, r1 := none })
        | some a, some b =>
          ((M2.loop m m a b s1.prev s1.streak).1, false,
            { s1 with r0 := some (M2.loop m m a b s1.prev s1.streak).2.1,
                      r1 := some (M2.loop m m a b s1.prev s1.streak).2.2.1,
                      prev := (M2.loop m m a b s1.prev s1.streak).2.2.2.1,
                      streak := (M2.loop m m a b s1.prev s1.streak).2.2.2.2 })) := by
    rw [hs1]; rfl
  rw [hunf]
  have hr0 := refill_rem s1.r0
  have hr1 := refill_rem s1.r1
  have hrems : s.rems = [optRem (refill s1.r0), optRem (refill s1.r1)] := by
    rw [← hrem1, hr0, hr1]; rfl
  rw [hrems] at hs ⊢
  cases h0 : refill s1.r0 with
  | none =>
    cases h1 : refill s1.r1 with
    | none =>
      simp only [h0, h1] at hs ⊢
      refine ⟨Emits.nil, hinit1, ?_, fun _ => Or.inl trivial⟩
      intro _ l hl
      simp [M2.rems, optRem] at hl; exact hl
    | some b =>
      simp only [h0, h1] at hs ⊢
      obtain ⟨hE, hne⟩ := emitSingle_emits true m b (refill_win h1)
      exact ⟨hE, hinit1, by simp, fun hm => Or.inr (hne hm)⟩
  | some a =>
    cases h1 : refill s1.r1 with
    | none =>
      simp only [h0, h1] at hs ⊢
      obtain ⟨hE, hne⟩ := emitSingle_emits false m a (refill_win h0)
      exact ⟨hE, hinit1, by simp, fun hm => Or.inr (hne hm)⟩
    | some b =>
      simp only [h0, h1] at hs ⊢
      have ha := refill_win h0
      have hb := refill_win h1
      obtain ⟨hE, hne⟩ := M2.loop_spec m m a b s1.prev s1.streak ha hb (hs _ (by simp [optRem])) (hs _ (by simp [optRem]))
      exact ⟨hE, hinit1, by simp, fun hm => Or.inr (hne (by omega) (by omega))⟩

end PqModel.Merge
