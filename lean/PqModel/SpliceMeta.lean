import PqModel.Splice
import PqModel.InsertSort

/-! # C11 — the value-carrying metadata of a spliced chunk

On top of `Splice.lean`: the column index, the size statistics, the chunk statistics and the encoding
statistics of a chunk copied verbatim.

MIRROR: `loadCopiedV` = the value fields of `loadCopiedChunk` (writer_copy.go:458-565:
  `cloneColumnIndex` of the source's column index or the zero value when the source has none,
  `cloneSizeStatistics`, `cloneStatistics`, `slices.Clone(meta.EncodingStats)`), `writeCopiedV` =
  the `c.copied != nil` branch of `writeRowGroup` (writer.go:1590-1616: `rg.columnIndex[i] =
  cc.columnIndex`, `MetaData.SizeStatistics = cc.sizeStats`; `Statistics` / `EncodingStats` were put
  into `c.columnChunk.MetaData` by `loadCopiedChunk`) followed by `sortPageEncodingStats`
  (writer.go:1750, 2981-2988), `spliceRowGroupV` = the loop over the columns, `spliceRowGroupBlooms` = that
  with the bloom filter sections placed after the last chunk (`Splice.placeBlooms`).
SPEC (parquet.thrift: ColumnIndex, OffsetIndex, SizeStatistics, Statistics, PageEncodingStats):
  `PageV` = what one page holds, `ValuesOK` / `EncOK` / `Describes` = "the metadata describes
  these pages laid out at this offset". -/
namespace PqModel.SpliceMeta
open PqModel.Layout PqModel.Splice

abbrev Bytes := List UInt8

/-- `format.ColumnIndex`; all lists empty = the zero value (no column index is written) -/
structure ColumnIndex where
  nullPages : List Bool
  minValues : List Bytes
  maxValues : List Bytes
  boundaryOrder : Nat
  nullCounts : List Nat
  repHist : List Nat      -- repetition_level_histograms, page after page
  defHist : List Nat
deriving Repr, DecidableEq

def ColumnIndex.none : ColumnIndex := ⟨[], [], [], 0, [], [], []⟩

/-- `format.SizeStatistics` -/
structure SizeStats where
  unencoded : Nat         -- unencoded_byte_array_data_bytes
  repHist : List Nat
  defHist : List Nat
deriving Repr, DecidableEq

/-- `format.Statistics` of the chunk -/
structure Statistics where
  nullCount : Nat
  distinctCount : Nat
  minValue : Option Bytes
  maxValue : Option Bytes
  min : Option Bytes      -- deprecated fields
  max : Option Bytes
deriving Repr, DecidableEq

/-- `format.PageEncodingStats` -/
structure EncStat where
  pageType : Nat
  encoding : Nat
  count : Nat
deriving Repr, DecidableEq

/-- the metadata of one column chunk: layout numbers (`Layout.ChunkMeta`, which carries the offset
    index) and the values -/
structure FullMeta where
  layout : ChunkMeta
  columnIndex : ColumnIndex
  sizeStats : SizeStats
  statistics : Statistics
  encStats : List EncStat
deriving Repr, DecidableEq

/-- `sortPageEncodingStats` (writer.go:2981-2988): by page type, then encoding -/
def encLe (a b : EncStat) : Bool :=
  a.pageType < b.pageType || (a.pageType == b.pageType && a.encoding ≤ b.encoding)

def insertEnc (s : EncStat) : List EncStat → List EncStat
  | [] => [s]
  | t :: ts => if encLe s t then s :: t :: ts else t :: insertEnc s ts

def sortEnc : List EncStat → List EncStat
  | [] => []
  | s :: ss => insertEnc s (sortEnc ss)

/-- `copiedChunk` (writer_copy.go:42-59) with its value fields -/
structure CopiedV where
  c : Copied
  columnIndex : ColumnIndex
  sizeStats : SizeStats
  statistics : Statistics
  encStats : List EncStat
deriving Repr, DecidableEq

/-- writer_copy.go:458-540 `loadCopiedChunk`. The source's column index is its stored one or the
    zero value (`ErrMissingColumnIndex`): that is `src.columnIndex` of `FullMeta`. -/
def loadCopiedV (src : FullMeta) : Option CopiedV :=
  (loadCopied src.layout).map fun c =>
    { c := c, columnIndex := src.columnIndex, sizeStats := src.sizeStats,
      statistics := src.statistics, encStats := src.encStats }

/-- writer.go:1590-1616 and :1750 for a copied column written at file offset `off` -/
def writeCopiedV (off : Nat) (cv : CopiedV) : FullMeta × Nat :=
  let r := writeCopied off cv.c
  ({ layout := r.1, columnIndex := cv.columnIndex, sizeStats := cv.sizeStats,
     statistics := cv.statistics, encStats := sortEnc cv.encStats }, r.2)

def spliceChunkV (src : FullMeta) (dstStart : Nat) : Option FullMeta :=
  (loadCopiedV src).map fun cv => (writeCopiedV dstStart cv).1

/-- writer.go:1589-1662 for a row group all of whose columns are copied: the chunks back to back
    from `start` (the second component of an entry, the length of its bloom section, is not read here) -/
def spliceRowGroupV (start : Nat) : List (FullMeta × Nat) → Option (List FullMeta × Nat)
  | [] => some ([], start)
  | (src, _) :: cs =>
    match loadCopiedV src with
    | none => none
    | some cv =>
      let r := writeCopiedV start cv
      (spliceRowGroupV r.2 cs).map fun rest => (r.1 :: rest.1, rest.2)

/-- … then the bloom filter sections (writer.go:1664-1742; second component of an entry = length of the
    copied section, 0 = none) -/
def spliceRowGroupBlooms (start : Nat) (cs : List (FullMeta × Nat)) :
    Option (List (FullMeta × Option (Nat × Nat))) :=
  (spliceRowGroupV start cs).map fun r => r.1.zip (placeBlooms r.2 (cs.map (·.2))).1

/-- one page with a summary of its content (dictionary pages: only `op`, `ptype`, `encoding`) -/
structure PageV where
  op : PageOp
  ptype : Nat                       -- 0 DATA_PAGE, 2 DICTIONARY_PAGE, 3 DATA_PAGE_V2
  encoding : Nat
  nulls : Nat                       -- null values of the page
  bounds : Option (Bytes × Bytes)   -- least / greatest non-null value (plain encoded); none = no non-null value
  repCounts : List Nat              -- number of values per repetition level
  defCounts : List Nat
  byteArrayBytes : Nat              -- bytes of the BYTE_ARRAY values before encoding
deriving Repr, DecidableEq

def datas (ps : List PageV) : List PageV := ps.filter fun p => !p.op.isDict
def ops (ps : List PageV) : List PageOp := ps.map (·.op)

/-- pointwise sum of per-page histograms -/
def addHist : List Nat → List Nat → List Nat
  | [], ys => ys
  | xs, [] => xs
  | x :: xs, y :: ys => (x + y) :: addHist xs ys

def sumHists (hs : List (List Nat)) : List Nat := hs.foldr addHist []

/-- parquet.thrift ColumnIndex: one entry per data page, in page order; `null_pages[i]` iff the
    page holds no non-null value; `min_values[i]` / `max_values[i]` are lower / upper bounds of the
    page's values in the column order `le` (not necessarily the exact extremes, at most `lim` bytes
    when `lim > 0`); `null_counts[i]` is the page's null count; the level histograms are the
    pages' histograms one after the other. The zero value (no column index) describes any pages. -/
def IndexOK (le : Bytes → Bytes → Bool) (lim : Nat) (ci : ColumnIndex) (ps : List PageV) : Prop :=
  ci = ColumnIndex.none ∨
  (ci.nullPages = (datas ps).map (fun p => p.bounds.isNone) ∧
   ci.minValues.length = (datas ps).length ∧ ci.maxValues.length = (datas ps).length ∧
   (ci.nullCounts = [] ∨ ci.nullCounts = (datas ps).map (·.nulls)) ∧
   (∀ i lo hi, ((datas ps)[i]?).bind (·.bounds) = some (lo, hi) →
      le (ci.minValues.getD i []) lo = true ∧ le hi (ci.maxValues.getD i []) = true ∧
      (lim > 0 → (ci.minValues.getD i []).length ≤ lim ∨ ci.minValues.getD i [] = lo) ∧
      (lim > 0 → (ci.maxValues.getD i []).length ≤ lim ∨ ci.maxValues.getD i [] = hi)) ∧
   (ci.repHist = [] ∨ ci.repHist = (datas ps).flatMap (·.repCounts)) ∧
   (ci.defHist = [] ∨ ci.defHist = (datas ps).flatMap (·.defCounts)))

/-- parquet.thrift SizeStatistics: histograms summed over the data pages; unencoded bytes summed -/
def SizeOK (ss : SizeStats) (ps : List PageV) : Prop :=
  ss.unencoded = ((datas ps).map (·.byteArrayBytes)).sum ∧
  (ss.repHist = [] ∨ ss.repHist = sumHists ((datas ps).map (·.repCounts))) ∧
  (ss.defHist = [] ∨ ss.defHist = sumHists ((datas ps).map (·.defCounts)))

/-- parquet.thrift Statistics: the null count is the sum over the pages; min/max (both spellings),
    when present, bound every page's values -/
def StatsOK (le : Bytes → Bytes → Bool) (st : Statistics) (ps : List PageV) : Prop :=
  st.nullCount = ((datas ps).map (·.nulls)).sum ∧
  (∀ b, st.minValue = some b ∨ st.min = some b → ∀ p ∈ datas ps, ∀ lo hi, p.bounds = some (lo, hi) → le b lo = true) ∧
  (∀ b, st.maxValue = some b ∨ st.max = some b → ∀ p ∈ datas ps, ∀ lo hi, p.bounds = some (lo, hi) → le hi b = true)

/-- parquet.thrift PageEncodingStats: every entry counts the pages of its (type, encoding), and
    together they count every page (same clauses as `Spec.checkChunk`) -/
def EncOK (es : List EncStat) (ps : List PageV) : Prop :=
  es = [] ∨
  ((∀ s ∈ es, (ps.filter fun p => p.ptype == s.pageType && p.encoding == s.encoding).length = s.count) ∧
   (es.map (·.count)).sum = ps.length)

/-- **the metadata describes these pages laid out at `start`**: the layout numbers (dictionary /
    data page offsets, offset index, sizes, counts) are the ones of `Layout.chunkMeta` — for which
    `Layout.layout_wf` / `offsets_wf` say that every offset is positional — and the values describe
    the pages' content. (`Splice.Describes`, also in scope here, is another predicate: a `ChunkIn` and
    its pages; this one's first clause is that relation for a copied chunk, with the offset shown.) -/
def Describes (le : Bytes → Bytes → Bool) (lim : Nat) (m : FullMeta) (start : Nat) (ps : List PageV) : Prop :=
  m.layout = chunkMeta start (ops ps) ∧
  IndexOK le lim m.columnIndex ps ∧ SizeOK m.sizeStats ps ∧ StatsOK le m.statistics ps ∧ EncOK m.encStats ps

theorem encLe_total (a b : EncStat) : encLe a b = true ∨ encLe b a = true := by
  simp only [encLe, Bool.or_eq_true, Bool.and_eq_true, decide_eq_true_eq, beq_iff_eq]
  omega

theorem encLe_trans {a b c : EncStat} (h1 : encLe a b = true) (h2 : encLe b c = true) : encLe a c = true := by
  simp only [encLe, Bool.or_eq_true, Bool.and_eq_true, decide_eq_true_eq, beq_iff_eq] at *
  omega

theorem insertEnc_eq (a : EncStat) (l : List EncStat) : insertEnc a l = InsertSort.insertBy encLe a l := by
  induction l <;> simp [insertEnc, InsertSort.insertBy, *]

theorem sortEnc_eq (l : List EncStat) : sortEnc l = InsertSort.sortBy encLe l := by
  induction l <;> simp [sortEnc, InsertSort.sortBy, insertEnc_eq, *]

theorem sortEnc_perm (l : List EncStat) : (sortEnc l).Perm l :=
  sortEnc_eq l ▸ InsertSort.sortBy_perm encLe l

theorem sortEnc_sorted (l : List EncStat) : (sortEnc l).Pairwise (fun a b => encLe a b = true) :=
  sortEnc_eq l ▸ InsertSort.sortBy_sorted_of_total encLe_total encLe_trans l

theorem sortEnc_of_sorted (l : List EncStat) (h : l.Pairwise (fun a b => encLe a b = true)) : sortEnc l = l :=
  (sortEnc_eq l).trans (InsertSort.sortBy_of_sorted l h)

theorem encOK_perm {es es' : List EncStat} (hp : es'.Perm es) (ps : List PageV) (h : EncOK es ps) : EncOK es' ps := by
  rcases h with h | ⟨h1, h2⟩
  · left; subst h; exact List.Perm.eq_nil hp
  · right
    refine ⟨fun s hs => h1 s (hp.mem_iff.mp hs), ?_⟩
    rw [← h2]
    exact (hp.map (·.count)).sum_nat

theorem splice_describes (le : Bytes → Bytes → Bool) (lim srcStart dstStart : Nat) (src : FullMeta) (ps : List PageV)
    (h : Describes le lim src srcStart ps) :
    ∃ m, spliceChunkV src dstStart = some m ∧ Describes le lim m dstStart ps ∧
      m.columnIndex = src.columnIndex ∧ m.sizeStats = src.sizeStats ∧ m.statistics = src.statistics ∧
      m.encStats.Perm src.encStats := by
  obtain ⟨hl, hi, hs, ht, he⟩ := h
  obtain ⟨c, hc, hw⟩ := splice_chunk srcStart dstStart (ops ps)
  rw [← hl] at hc
  refine ⟨(writeCopiedV dstStart ⟨c, src.columnIndex, src.sizeStats, src.statistics, src.encStats⟩).1,
    by simp only [spliceChunkV, loadCopiedV, hc, Option.map_some], ?_, rfl, rfl, rfl, sortEnc_perm _⟩
  exact ⟨congrArg Prod.fst hw, hi, hs, ht, encOK_perm (sortEnc_perm _) ps he⟩

theorem splice_index_aligned (le : Bytes → Bytes → Bool) (lim srcStart dstStart : Nat) (src : FullMeta) (ps : List PageV)
    (h : Describes le lim src srcStart ps) (hci : src.columnIndex ≠ ColumnIndex.none) :
    ∃ m, spliceChunkV src dstStart = some m ∧
      m.layout.locs = specLocs dstStart 0 (ops ps) ∧
      m.columnIndex.nullPages.length = (datas ps).length ∧
      m.columnIndex.minValues.length = (datas ps).length ∧
      m.columnIndex.maxValues.length = (datas ps).length := by
  obtain ⟨m, hm, hd, hc, _⟩ := splice_describes le lim srcStart dstStart src ps h
  refine ⟨m, hm, ?_, ?_⟩
  · rw [hd.1]; exact (layout_wf dstStart (ops ps)).1
  · rcases hd.2.1 with hn | hn
    · exact absurd (hc ▸ hn) hci
    · exact ⟨by rw [hn.1, List.length_map], hn.2.1, hn.2.2.1⟩

theorem specLocs_length (start row : Nat) : ∀ ps : List PageOp,
    (specLocs start row ps).length = (dataPages ps).length :=
  length_specLocs start row

theorem getD_length_le (l : List Bytes) (i n : Nat) (h : ∀ b ∈ l, b.length ≤ n) : (l.getD i []).length ≤ n := by
  by_cases hi : i < l.length
  · rw [List.getD_eq_getElem?_getD, List.getElem?_eq_getElem hi]
    exact h _ (List.getElem_mem hi)
  · rw [List.getD_eq_getElem?_getD, List.getElem?_eq_none (by omega)]
    simp

theorem splice_describes_limit (le : Bytes → Bytes → Bool) (limA limB srcStart dstStart : Nat) (src : FullMeta) (ps : List PageV)
    (h : Describes le limA src srcStart ps)
    (hlim : limB > 0 → ∀ b ∈ src.columnIndex.minValues ++ src.columnIndex.maxValues, b.length ≤ limB) :
    ∃ m, spliceChunkV src dstStart = some m ∧ Describes le limB m dstStart ps := by
  obtain ⟨m, hm, hd, hc, -⟩ := splice_describes le limA srcStart dstStart src ps h
  refine ⟨m, hm, hd.1, ?_, hd.2.2⟩
  rcases hd.2.1 with hn | ⟨h1, h2, h3, h4, h5, h6, h7⟩
  · exact Or.inl hn
  · refine Or.inr ⟨h1, h2, h3, h4, ?_, h6, h7⟩
    intro i lo hi hb
    obtain ⟨a, b, -, -⟩ := h5 i lo hi hb
    refine ⟨a, b, fun hpos => Or.inl ?_, fun hpos => Or.inl ?_⟩
    · exact getD_length_le _ i limB (fun x hx => hlim hpos x (by rw [← hc]; exact List.mem_append_left _ hx))
    · exact getD_length_le _ i limB (fun x hx => hlim hpos x (by rw [← hc]; exact List.mem_append_right _ hx))

theorem splice_rowGroup_describes (le : Bytes → Bytes → Bool) (lim : Nat) :
    ∀ (start : Nat) (cs : List (FullMeta × Nat)) (pss : List (List PageV)) (srcStarts : List Nat),
    cs.length = pss.length → cs.length = srcStarts.length →
    (∀ i (h1 : i < cs.length) (h2 : i < pss.length) (h3 : i < srcStarts.length),
        Describes le lim cs[i].1 srcStarts[i] pss[i]) →
    ∃ ms, spliceRowGroupV start cs = some (ms, start + ((pss.map fun ps => totalSize (ops ps)).sum)) ∧
      ms.length = pss.length ∧
      ∀ i (h1 : i < ms.length) (h2 : i < pss.length) (h3 : i < (chunkStarts start (pss.map ops)).length),
        Describes le lim ms[i] (chunkStarts start (pss.map ops))[i] pss[i] := by
  intro start cs
  induction cs generalizing start with
  | nil =>
    intro pss _ hl _ _
    cases pss with
    | nil => exact ⟨[], rfl, rfl, fun i h => absurd h (Nat.not_lt_zero _)⟩
    | cons => cases hl
  | cons c cs ih =>
    intro pss srcStarts hl hl2 hd
    obtain ⟨src, bl⟩ := c
    cases pss with
    | nil => cases hl
    | cons ps pss =>
    cases srcStarts with
    | nil => cases hl2
    | cons s0 srcStarts =>
    have h0 : Describes le lim src s0 ps := hd 0 (Nat.zero_lt_succ _) (Nat.zero_lt_succ _) (Nat.zero_lt_succ _)
    have hd' := fun i h1 h2 h3 => hd (i + 1) (Nat.succ_lt_succ h1) (Nat.succ_lt_succ h2) (Nat.succ_lt_succ h3)
    obtain ⟨m, hm, hdm, -⟩ := splice_describes le lim s0 start src ps h0
    -- `splice_describes` hides the copied chunk; the offset after it (`hw`) is read off `splice_chunk` itself
    obtain ⟨c, hc, hw⟩ := splice_chunk s0 start (ops ps)
    rw [← h0.1] at hc
    simp only [spliceChunkV, loadCopiedV, hc, Option.map_some, Option.some.injEq] at hm
    obtain ⟨ms, hms, hlen, hall⟩ := ih (start + totalSize (ops ps)) pss srcStarts
      (Nat.succ.inj hl) (Nat.succ.inj hl2) hd'
    refine ⟨m :: ms, ?_, congrArg Nat.succ hlen, ?_⟩
    · simp only [spliceRowGroupV, loadCopiedV, hc, Option.map_some, writeCopiedV, hw, hms, List.map_cons,
        List.sum_cons, Nat.add_assoc]
      rw [← hm]
      simp only [writeCopiedV, hw]
    · intro i h1 h2 h3
      cases i with
      | zero => exact hdm
      | succ j => exact hall j (Nat.lt_of_succ_lt_succ h1) (Nat.lt_of_succ_lt_succ h2) (Nat.lt_of_succ_lt_succ h3)

/-- the fields of `format.RowGroup` computed from the chunks -/
structure RowGroupTotals where
  fileOffset : Nat
  totalByteSize : Nat
  totalCompressedSize : Nat
  numRows : Nat
deriving Repr, DecidableEq

/-- writer.go:1744-1753, :1871-1890: sums of the chunks' `TotalUncompressedSize` / `TotalCompressedSize`;
    `fileOffset` = the writer's offset before the first chunk; `numRows` =
    `rg.columns[0].totalRowCount()` (for a copied column: the source row group's row count) -/
def rowGroupTotals (start : Nat) (ms : List FullMeta) : RowGroupTotals :=
  { fileOffset := start,
    totalByteSize := (ms.map (·.layout.totalUncompressed)).sum,
    totalCompressedSize := (ms.map (·.layout.totalCompressed)).sum,
    numRows := match ms with | m :: _ => m.layout.numRows | [] => 0 }

theorem map_eq_of_describes (le : Bytes → Bytes → Bool) (lim : Nat) (f : ChunkMeta → Nat) (g : List PageOp → Nat)
    (hfg : ∀ st ps, f (chunkMeta st ps) = g ps) (ms : List FullMeta) (pss : List (List PageV)) (starts : List Nat)
    (hl : ms.length = pss.length) (hl2 : starts.length = pss.length)
    (hd : ∀ i (h1 : i < ms.length) (h2 : i < pss.length) (h3 : i < starts.length),
      Describes le lim ms[i] starts[i] pss[i]) :
    ms.map (fun m => f m.layout) = pss.map (fun ps => g (ops ps)) := by
  apply List.ext_getElem (by rw [List.length_map, List.length_map, hl])
  intro i h1 h2
  rw [List.length_map] at h1 h2
  rw [List.getElem_map, List.getElem_map, (hd i h1 h2 (hl2 ▸ h2)).1, hfg]

theorem chunkStarts_length (start : Nat) : ∀ cs : List (List PageOp), (chunkStarts start cs).length = cs.length
  | [] => rfl
  | c :: cs => by simp [chunkStarts, chunkStarts_length (start + totalSize c) cs]

theorem splice_rowGroup_totals (le : Bytes → Bytes → Bool) (lim start : Nat)
    (cs : List (FullMeta × Nat)) (pss : List (List PageV)) (srcStarts : List Nat)
    (hl : cs.length = pss.length) (hl2 : cs.length = srcStarts.length)
    (hd : ∀ i (h1 : i < cs.length) (h2 : i < pss.length) (h3 : i < srcStarts.length),
        Describes le lim cs[i].1 srcStarts[i] pss[i]) :
    ∃ ms endOff, spliceRowGroupV start cs = some (ms, endOff) ∧
      (rowGroupTotals start ms).fileOffset = start ∧
      start + (rowGroupTotals start ms).totalCompressedSize = endOff ∧
      (rowGroupTotals start ms).totalByteSize =
        (pss.map fun ps => ((ops ps).map fun p => p.hdrLen + p.uncompLen).sum).sum := by
  obtain ⟨ms, hms, hlen, hall⟩ := splice_rowGroup_describes le lim start cs pss srcStarts hl hl2 hd
  have hcl : (chunkStarts start (pss.map ops)).length = pss.length := by
    rw [chunkStarts_length, List.length_map]
  refine ⟨ms, _, hms, rfl, ?_, ?_⟩
  · simp only [rowGroupTotals]
    rw [map_eq_of_describes le lim (·.totalCompressed) totalSize (fun st ps => (layout_wf st ps).2.1)
      ms pss _ hlen hcl hall]
  · simp only [rowGroupTotals]
    rw [map_eq_of_describes le lim (·.totalUncompressed) (fun ps => (ps.map fun p => p.hdrLen + p.uncompLen).sum)
      (fun st ps => (layout_wf st ps).2.2.1) ms pss _ hlen hcl hall]

def exPages : List PageV :=
  [⟨⟨true, 10, 20, 25, 3, 0⟩, 2, 0, 0, none, [], [], 0⟩,
   ⟨⟨false, 12, 30, 40, 5, 5⟩, 0, 8, 1, some ([1], [7]), [5], [1, 4], 4⟩,
   ⟨⟨false, 11, 7, 9, 2, 2⟩, 0, 8, 2, none, [2], [2, 0], 0⟩]

def exMeta (start : Nat) : FullMeta :=
  { layout := chunkMeta start (ops exPages),
    columnIndex := ⟨[false, true], [[1], []], [[9], []], 0, [1, 2], [5, 2], [1, 4, 2, 0]⟩,
    sizeStats := ⟨4, [7], [3, 4]⟩,
    statistics := ⟨3, 0, some [0], some [9], none, none⟩,
    encStats := [⟨2, 0, 1⟩, ⟨0, 8, 2⟩] }

def exLe (a b : Bytes) : Bool := decide (a.map UInt8.toNat ≤ b.map UInt8.toNat)

-- the spliced example: layout rebased, values carried, encoding statistics ordered
example : spliceChunkV (exMeta 4) 1000 =
    some { exMeta 1000 with encStats := [⟨0, 8, 2⟩, ⟨2, 0, 1⟩] } := by decide +kernel

-- the hypothesis of `splice_describes` is satisfiable: this metadata describes these pages at 4
theorem exMeta_describes : Describes exLe 8 (exMeta 4) 4 exPages := by
  -- the only data page with values holds [1] .. [7]
  have key : ∀ p ∈ datas exPages, ∀ lo hi, p.bounds = some (lo, hi) → lo = [1] ∧ hi = [7] := by
    intro p hp lo hi hbd
    simp [datas, exPages] at hp
    rcases hp with rfl | rfl <;> simp at hbd
    exact ⟨hbd.1.symm, hbd.2.symm⟩
  refine ⟨rfl, Or.inr ⟨by decide, by decide, by decide, Or.inr (by decide), ?_, Or.inr (by decide), Or.inr (by decide)⟩,
    ⟨by decide, Or.inr (by decide), Or.inr (by decide)⟩, ⟨by decide, ?_, ?_⟩, Or.inr ⟨by decide, by decide⟩⟩
  · intro i lo hi h
    match i, h with
    | 0, h =>
      obtain ⟨rfl, rfl⟩ := key _ (by decide) lo hi h
      decide
    | 1, h => simp [datas, exPages] at h
    | n + 2, h => simp [datas, exPages] at h
  · intro b hb p hp lo hi hbd
    obtain ⟨rfl, rfl⟩ := key p hp lo hi hbd
    rcases hb with hb | hb <;> simp [exMeta] at hb
    subst hb
    decide
  · intro b hb p hp lo hi hbd
    obtain ⟨rfl, rfl⟩ := key p hp lo hi hbd
    rcases hb with hb | hb <;> simp [exMeta] at hb
    subst hb
    decide

end PqModel.SpliceMeta
