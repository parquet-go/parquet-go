/-! # Logical-type conversion (C01): UUID text <-> FIXED_LEN_BYTE_ARRAY(16)

A Go `string` field tagged `uuid` is stored as the 16 bytes `uuid.Parse` / `uuid.MustParse` gives
(`writeUUID`, column_buffer_reflect.go:955-968; `writeRowsFuncOfUUIDString`, column_buffer_write.go:530-563)
and rebuilt with `uuid.UUID(v).String()` (`fixedLenByteArrayType.AssignValue`, type_fixed_len_byte_array.go:94-98).

MIRRORS of github.com/google/uuid v1.6.0 as the library uses it: `Parse` (uuid.go:68-117), `xtob` / `xvalues`
(util.go:19-43), `encodeHex` / `String` (uuid.go:259-269 with `encoding/hex`'s lowercase table). Text is a list of
byte values. -/
namespace PqModel.LogicalUuid

/-- `encoding/hex` table "0123456789abcdef" (48 = '0', 87 = 'a' - 10) -/
def hexDigitLower (n : Nat) : Nat := if n < 10 then 48 + n else 87 + n

/-- MIRROR of `xvalues` (util.go:19-36): 255 = not a hex digit (55 = 'A' - 10) -/
def xvalue (c : Nat) : Nat :=
  if 48 ≤ c ∧ c ≤ 57 then c - 48
  else if 65 ≤ c ∧ c ≤ 70 then c - 55
  else if 97 ≤ c ∧ c ≤ 102 then c - 87
  else 255

/-- MIRROR of `xtob` (util.go:39-43): `(b1 << 4) | b2` is `16*b1 + b2` when both are digits -/
def xtob (x1 x2 : Nat) : Option Nat :=
  if xvalue x1 ≠ 255 ∧ xvalue x2 ≠ 255 then some (xvalue x1 * 16 + xvalue x2) else none

def encodeHexBytes : List Nat → List Nat
  | [] => []
  | b :: rest => hexDigitLower (b / 16) :: hexDigitLower (b % 16) :: encodeHexBytes rest

/-- MIRROR of `UUID.String` / `encodeHex` (uuid.go:259-269); 45 = '-' -/
def uuidString (u : List Nat) : List Nat :=
  encodeHexBytes (u.take 4) ++ 45 :: encodeHexBytes ((u.drop 4).take 2) ++ 45 ::
  encodeHexBytes ((u.drop 6).take 2) ++ 45 :: encodeHexBytes ((u.drop 8).take 2) ++ 45 ::
  encodeHexBytes (u.drop 10)

def parseHexPairs : List Nat → Option (List Nat)
  | [] => some []
  | [_] => none
  | a :: b :: rest =>
    match xtob a b, parseHexPairs rest with
    | some v, some r => some (v :: r)
    | _, _ => none

/-- ASCII lower case; `strings.EqualFold(s[:9], "urn:uuid:")` is this comparison (none of u r n i d has a
    non-ASCII simple fold) -/
def lowerAscii (c : Nat) : Nat := if 65 ≤ c ∧ c ≤ 90 then c + 32 else c

/-- "urn:uuid:" -/
def urnPrefix : List Nat := [117, 114, 110, 58, 117, 117, 105, 100, 58]

def pairAt (t : List Nat) (x : Nat) : Option Nat := xtob (t.getD x 0) (t.getD (x + 1) 0)

/-- MIRROR of `uuid.Parse` (uuid.go:68-117): the four accepted lengths; the 38-byte form drops its first byte
    and never looks at the first and last byte (they need not be braces) -/
def uuidParse (s : List Nat) : Option (List Nat) :=
  if s.length = 32 then parseHexPairs s
  else
    let body : Option (List Nat) :=
      if s.length = 36 then some s
      else if s.length = 45 then (if (s.take 9).map lowerAscii = urnPrefix then some (s.drop 9) else none)
      else if s.length = 38 then some (s.drop 1)
      else none
    match body with
    | none => none
    | some t =>
      if t.getD 8 0 ≠ 45 ∨ t.getD 13 0 ≠ 45 ∨ t.getD 18 0 ≠ 45 ∨ t.getD 23 0 ≠ 45 then none
      else [0, 2, 4, 6, 9, 11, 14, 16, 19, 21, 24, 26, 28, 30, 32, 34].mapM (pairAt t)

/-- MIRROR of the typed path `writeRowsFuncOfUUIDString` (column_buffer_write.go:553-558): the empty string is
    the zero UUID, anything else goes through `uuid.MustParse` (`none` = panic) -/
def uuidWriteTyped (s : List Nat) : Option (List Nat) :=
  if s = [] then some (List.replicate 16 0) else uuidParse s

/-- MIRROR of the reflection path `writeUUID` (column_buffer_reflect.go:955-968): `uuid.Parse`, panic on error -/
def uuidWriteReflect (s : List Nat) : Option (List Nat) := uuidParse s

theorem xtob_hex : ∀ b : Fin 256, xtob (hexDigitLower (b.val / 16)) (hexDigitLower (b.val % 16)) = some b.val := by
  decide +kernel

theorem xtob_hex' (b : Nat) (h : b ≤ 255) : xtob (hexDigitLower (b / 16)) (hexDigitLower (b % 16)) = some b :=
  xtob_hex ⟨b, by omega⟩

theorem uuidString_ne_nil (u : List Nat) : uuidString u ≠ [] := by
  simp only [uuidString, ne_eq, List.append_eq_nil_iff, reduceCtorEq, and_false, not_false_eq_true]

theorem length16 (u : List Nat) (h : u.length = 16) :
    ∃ b0 b1 b2 b3 b4 b5 b6 b7 b8 b9 b10 b11 b12 b13 b14 b15,
      u = [b0, b1, b2, b3, b4, b5, b6, b7, b8, b9, b10, b11, b12, b13, b14, b15] := by
  match u, h with
  | [b0, b1, b2, b3, b4, b5, b6, b7, b8, b9, b10, b11, b12, b13, b14, b15], _ =>
    exact ⟨b0, b1, b2, b3, b4, b5, b6, b7, b8, b9, b10, b11, b12, b13, b14, b15, rfl⟩

end PqModel.LogicalUuid
