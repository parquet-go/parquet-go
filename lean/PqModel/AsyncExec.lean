import PqModel.Async

/-! `next?` (executable, run by pqdriver) decides the `Step` relation; `validate` accepts exactly the
    paths of the transition system. -/
namespace PqModel.Async

theorem next?_sound {U g e g'} (h : next? U g e = some g') : Step U g e g' := by
  revert h
  fun_cases next? U g e <;> intro h <;> cases h
  -- every branch that answers `some` carries the premises of its transition
  all_goals try (constructor <;> first | assumption | exact (‹_ ∧ _›).1 | exact (‹_ ∧ _›).2)
  -- the branches that also compare the event's parameters
  · obtain ⟨h1, rfl, rfl⟩ := ‹_ ∧ _›; exact .deliver ‹_› h1
  · obtain ⟨h1, rfl⟩ := ‹_ ∧ _›; exact .drop ‹_› h1
  · obtain ⟨h1, h2⟩ := ‹_ ∧ _›
    obtain ⟨kv, hk⟩ := Option.isSome_iff_exists.mp h2
    exact .seekPollDrain h1 hk
  · obtain ⟨h1, rfl⟩ := ‹_ ∧ _›; exact .seekSend h1
  · obtain ⟨h1, rfl, rfl⟩ := ‹_ ∧ _›; exact .bodyOffer h1 ‹_›

theorem next?_complete {U g e g'} (h : Step U g e g') : next? U g e = some g' := by
  cases h <;> simp_all [next?]

theorem next?_iff {U g e g'} : next? U g e = some g' ↔ Step U g e g' :=
  ⟨next?_sound, next?_complete⟩

/-- an event log determines the path -/
theorem step_deterministic {U g e g1 g2} (h1 : Step U g e g1) (h2 : Step U g e g2) : g1 = g2 := by
  have a := next?_complete h1
  have b := next?_complete h2
  rw [a] at b; exact Option.some.inj b

/-- run an event log from `g`; `.error i` = index of the first event that is not enabled -/
def validateFrom (U : Under) (g : G) (es : List Ev) (i : Nat) : Except Nat G :=
  match es with
  | [] => .ok g
  | e :: rest =>
    match next? U g e with
    | some g' => validateFrom U g' rest (i + 1)
    | none => .error i

def validate (U : Under) (es : List Ev) : Except Nat G := validateFrom U init es 0

theorem validateFrom_ok_iff {U g es i g'} : validateFrom U g es i = .ok g' ↔ Path U g es g' := by
  induction es generalizing g i with
  | nil =>
    simp only [validateFrom]
    constructor
    · intro h; cases h; exact .nil
    · intro h; cases h; rfl
  | cons e rest ih =>
    simp only [validateFrom]
    constructor
    · intro h
      split at h
      · rename_i g1 hn; exact .cons (next?_sound hn) (ih.mp h)
      · cases h
    · intro h
      cases h with
      | cons s p => rw [next?_complete s]; exact ih.mpr p

theorem validate_ok_iff {U es g} : validate U es = .ok g ↔ Path U init es g := validateFrom_ok_iff

/-- a rejected log: the prefix before the reported index is a path, the event at the index is not
    enabled after it -/
theorem validateFrom_error {U g es i j} (h : validateFrom U g es i = .error j) :
    i ≤ j ∧ ∃ g1 e, Path U g (es.take (j - i)) g1 ∧ es[j - i]? = some e ∧ ∀ g2, ¬ Step U g1 e g2 := by
  -- the log is empty; its first event is enabled; it is not
  fun_induction validateFrom U g es i with
  | case1 => cases h
  | case2 g i e rest g1 hn ih =>
    obtain ⟨hle, g2, e2, hp, he, hno⟩ := ih h
    have : j - i = (j - (i + 1)) + 1 := by omega
    refine ⟨by omega, g2, e2, ?_, ?_, hno⟩
    · rw [this, List.take_succ_cons]; exact .cons (next?_sound hn) hp
    · rw [this]; simpa using he
  | case3 g i e rest hn =>
    cases h
    refine ⟨Nat.le_refl _, g, e, ?_, ?_, ?_⟩
    · simp; exact .nil
    · simp
    · intro g2 hs; rw [next?_complete hs] at hn; cases hn

def firstIllegal (U : Under) (es : List Ev) : Option Nat :=
  match validate U es with
  | .ok _ => none
  | .error i => some i

/-- accept the log and test the final state (for `decide` witnesses) -/
def check (U : Under) (es : List Ev) (p : G → Bool) : Bool :=
  match validate U es with
  | .ok g => p g
  | .error _ => false

theorem check_path {U es p} (h : check U es p = true) : ∃ g, Path U init es g ∧ p g = true := by
  unfold check at h
  split at h
  · rename_i g hv; exact ⟨g, validate_ok_iff.mp hv, h⟩
  · cases h

end PqModel.Async
