import PqModel.ConvertAdded

/-! C12, added columns, whole rows: for targets that add fields in groups whose closest leaf
    sibling is required (or that have no leaf sibling and sit at definition level 0) the mirror of
    `convert.go` yields, as Parquet streams (`canon`), the shredded projection. -/
namespace PqModel.Convert
open PqModel.Dremel

def pick (blk : Cols) : Nat × Nat × Rp → Nat × List Triple := fun p => (p.1, (blk.drop p.2.1).headD [])

theorem closestLeaf_eq (blk : Cols) : ∀ (fs : PFields) (off : Nat) (best : Option (Nat × Nat × Rp)),
    closestLeaf fs (blk.drop off) (best.map (pick blk)) = (closestOff fs off best).map (pick blk)
  | .nil, _, _ => rfl
  | .cons nm rp n fs, off, best => by
    cases n with
    | leaf =>
      simp only [closestLeaf, closestOff, List.drop_drop]
      cases best with
      | none =>
        have h := closestLeaf_eq blk fs (off + 1) (some (nm, off, rp))
        simpa [pick] using h
      | some p =>
        obtain ⟨bn, bo, brp⟩ := p
        by_cases hlt : nm < bn
        · have h := closestLeaf_eq blk fs (off + 1) (some (nm, off, rp))
          simpa [pick, hlt] using h
        · have h := closestLeaf_eq blk fs (off + 1) (some (bn, bo, brp))
          simpa [pick, hlt] using h
    | group gfs =>
      simp only [closestLeaf, closestOff, List.drop_drop]
      exact closestLeaf_eq blk fs _ best

theorem closest_col (sfs : PFields) (blk : Cols) :
    (closestLeaf sfs blk none).map (·.2) = (closestOff sfs 0 none).map (fun p => blk[p.2.1]?.getD []) := by
  have h := closestLeaf_eq blk sfs 0 none
  simp only [List.drop_zero, Option.map_none] at h
  rw [h]
  cases closestOff sfs 0 none <;> simp [pick, List.headD_eq_head?_getD, List.head?_drop]

/-- the field list has a direct leaf child with repetition type `rp` at column offset `o` -/
def LeafAt : PFields → Nat → Rp → Prop
  | .nil, _, _ => False
  | .cons _ rp n fs, o, rp' =>
    (n = .leaf ∧ o = 0 ∧ rp' = rp) ∨ (leavesP n ≤ o ∧ LeafAt fs (o - leavesP n) rp')

theorem closestOff_sound : ∀ (fs : PFields) (off : Nat) (best : Option (Nat × Nat × Rp)) (n o : Nat) (rp : Rp),
    closestOff fs off best = some (n, o, rp) → best = some (n, o, rp) ∨ (off ≤ o ∧ LeafAt fs (o - off) rp)
  | .nil, _, _, _, _, _, h => Or.inl h
  | .cons nm rp' nd fs, off, best, n, o, rp, h => by
    -- a leaf of the tail is a leaf of the whole list, `leavesP nd` columns further
    have later : off + leavesP nd ≤ o ∧ LeafAt fs (o - (off + leavesP nd)) rp →
        off ≤ o ∧ LeafAt (.cons nm rp' nd fs) (o - off) rp := fun ⟨h1, h2⟩ =>
      ⟨by omega, Or.inr ⟨by omega, by rw [show o - off - leavesP nd = o - (off + leavesP nd) by omega]; exact h2⟩⟩
    have here : nd = .leaf → (nm, off, rp') = (n, o, rp) → off ≤ o ∧ LeafAt (.cons nm rp' nd fs) (o - off) rp :=
      fun hl he => by
        simp only [Prod.mk.injEq] at he
        obtain ⟨_, rfl, rfl⟩ := he
        exact ⟨Nat.le_refl _, Or.inl ⟨hl, Nat.sub_self _, rfl⟩⟩
    cases nd with
    | leaf =>
      simp only [closestOff] at h
      rcases closestOff_sound fs (off + 1) _ n o rp h with h1 | h1
      · cases best with
        | none => exact Or.inr (here rfl (Option.some.inj h1))
        | some p =>
          obtain ⟨bn, bo, brp⟩ := p
          simp only at h1
          split at h1
          · exact Or.inr (here rfl (Option.some.inj h1))
          · exact Or.inl h1
      · exact Or.inr (later h1)
    | group gfs =>
      simp only [closestOff] at h
      exact (closestOff_sound fs _ best n o rp h).imp id later

theorem leafAt_lt : ∀ (fs : PFields) (o : Nat) (rp : Rp), LeafAt fs o rp → o < leavesF (eraseF fs)
  | .nil, _, _, h => by simp [LeafAt] at h
  | .cons nm rp' n fs, o, rp, h => by
    rw [leavesF_cons]
    rcases h with ⟨rfl, rfl, _⟩ | ⟨h1, h2⟩
    · simp [leavesP, eraseN, leavesN]; omega
    · have := leafAt_lt fs _ rp h2
      omega

theorem leafAt_absent (r d : Nat) (fs : PFields) (o : Nat) (rp : Rp) (h : LeafAt fs o rp) :
    (absentF (eraseF fs) r d)[o]? = some [⟨none, r, d⟩] := by
  rw [absentF_eq, List.getElem?_replicate, if_pos (leafAt_lt fs o rp h)]

theorem leafAt_shred (r k d : Nat) : ∀ (fs : PFields) (vs : List Val) (o : Nat),
    confF (eraseF fs) vs = true → LeafAt fs o .req →
    ∃ x, (shredF (eraseF fs) r k d vs)[o]? = some [⟨some x, r, d⟩]
  | .nil, _, _, _, h => by simp [LeafAt] at h
  | .cons nm rp' n fs, vs, o, hc, h => by
    obtain ⟨v, vs', rfl, hcv, hcs⟩ := confF_cons hc
    simp only [eraseF, shredF]
    rcases h with ⟨rfl, rfl, rfl⟩ | ⟨h1, h2⟩
    · obtain ⟨x, rfl⟩ := confN_leaf hcv
      exact ⟨x, rfl⟩
    · have hl := shredN_length (wrap rp' (eraseN n)) r k d v
      rw [leaves_wrap] at hl
      rw [List.getElem?_append_right (by rw [hl]; exact h1), hl]
      exact leafAt_shred r k d fs vs' _ hcs h2

/-- No ancestor changed its repetition type: needed because the levels borrowed for an added column do
    not go through the tables. -/
structure IdLv (lv : Lv) : Prop where
  tr : lv.tr = lv.sr
  td : lv.td = lv.sd
  R : ∀ i, i ≤ lv.sr → lv.R i = i
  D : ∀ i, i ≤ lv.sd → lv.D i = i
  -- only used for a group without leaf sibling at level 0: then `r = 0` too
  rd : lv.sr ≤ lv.sd

theorem repOf_le_defOf (rp : Rp) : repOf rp ≤ defOf rp ∧ defOf rp ≤ 1 := by
  cases rp <;> decide

theorem IdLv.step {lv : Lv} (h : IdLv lv) (rp : Rp) : IdLv (lv.step rp rp) := by
  have hrp := repOf_le_defOf rp
  refine ⟨congrArg (· + repOf rp) h.tr, congrArg (· + defOf rp) h.td, fun i hi => ?_, fun i hi => ?_,
    Nat.add_le_add h.rd hrp.1⟩
  · by_cases e : i = lv.sr + repOf rp
    · exact e ▸ (upd_same _ _ _).trans (by rw [h.tr])
    · exact (upd_other _ _ e).trans (h.R i (by have : i ≤ lv.sr + repOf rp := hi; omega))
  · by_cases e : i = lv.sd + defOf rp
    · exact e ▸ (upd_same _ _ _).trans (by rw [h.td])
    · exact (upd_other _ _ e).trans (h.D i (by have : i ≤ lv.sd + defOf rp := hi; omega))

theorem idLv0 : IdLv lv0 := ⟨rfl, rfl, fun i hi => by simp [lv0] at hi ⊢; omega, fun i hi => by simp [lv0] at hi ⊢; omega, Nat.le_refl _⟩

mutual
theorem lin_lostN : ∀ (a : PNode) (trp : Rp) (lv : Lv) (c1 c2 : List Triple), c1 ≠ [] → c2 ≠ [] →
    convN a trp lv (.lost (some (c1 ++ c2))) = zipApp (convN a trp lv (.lost (some c1))) (convN a trp lv (.lost (some c2)))
  | .leaf, trp, lv, c1, c2, h1, h2 => by
    have e1 : c1.isEmpty = false := List.isEmpty_eq_false_iff.mpr h1
    have e2 : c2.isEmpty = false := List.isEmpty_eq_false_iff.mpr h2
    have e3 : (c1 ++ c2).isEmpty = false :=
      List.isEmpty_eq_false_iff.mpr (fun h => h1 (List.append_eq_nil_iff.mp h).1)
    simp only [convN, leafOut, e1, e2, e3, Bool.false_eq_true, if_false, zipApp]
    split <;> simp [toNullOpt, toZero, fixup]
  | .group fs, trp, lv, c1, c2, h1, h2 => by
    simp only [convN]
    exact lin_lostF fs lv c1 c2 h1 h2
theorem lin_lostF : ∀ (fs : PFields) (lv : Lv) (c1 c2 : List Triple), c1 ≠ [] → c2 ≠ [] →
    convF fs lv (.lost (some (c1 ++ c2))) = zipApp (convF fs lv (.lost (some c1))) (convF fs lv (.lost (some c2)))
  | .nil, _, _, _, _, _ => by simp [convF, zipApp]
  | .cons nm rp n fs, lv, c1, c2, h1, h2 => by
    simp only [convF, stepS_lost]
    rw [lin_lostN n rp _ c1 c2 h1 h2, lin_lostF fs lv c1 c2 h1 h2]
    rw [zipApp_append (by rw [convN_length, convN_length])]
end

theorem addF_cons {sd : Nat} {sfs : PFields} {nm : Nat} {trp : Rp} {t : PNode} {tfs : PFields}
    (h : addF sd sfs (.cons nm trp t tfs) = true) :
    ((∃ s, getFld nm sfs = some (trp, s) ∧ addN (sd + defOf trp) s t = true) ∨
      (getFld nm sfs = none ∧ addOk sfs sd = true)) ∧ addF sd sfs tfs = true := by
  simp only [addF, Bool.and_eq_true] at h
  refine ⟨?_, h.2⟩
  cases hg : getFld nm sfs with
  | none => simp only [hg] at h; exact Or.inr ⟨rfl, h.1⟩
  | some p =>
    obtain ⟨srp, s⟩ := p
    simp only [hg, Bool.and_eq_true, decide_eq_true_eq] at h
    obtain ⟨⟨rfl, h1⟩, _⟩ := h
    exact Or.inl ⟨s, rfl, h1⟩

theorem stepS_none (nm : Nat) (trp : Rp) (lv : Lv) (sfs : PFields) (blk : Cols) (pc : Option (List Triple))
    (h : getFld nm sfs = none) :
    stepS nm trp lv (.on (.group sfs) blk pc) = (lv.stepT trp, .lost ((closestLeaf sfs blk none).map (·.2))) := by
  simp [stepS, findB_eq, h]

theorem findV_none (nm : Nat) : ∀ (sfs : PFields) (vs : List Val), getFld nm sfs = none → findV nm sfs vs = none := by
  intro sfs vs h
  fun_induction getFld nm sfs generalizing vs with
  | case1 => simp [findV]
  | case2 rp n fs => cases h
  | case3 nm' rp n fs hne ih =>
    cases vs with
    | nil => simp [findV]
    | cons v vs' => simp only [findV, hne, if_false]; exact ih vs' h

theorem sameKind_of_add {sd : Nat} {s t : PNode} (h : addN sd s t = true) : sameKind s t = true := by
  cases s <;> cases t <;> simp_all [addN, sameKind]

theorem addN_leaf {sd : Nat} {s : PNode} (h : addN sd s .leaf = true) : s = .leaf := by
  cases s <;> simp [addN] at h
  rfl

theorem addN_group {sd : Nat} {s : PNode} {tfs : PFields} (h : addN sd s (.group tfs) = true) :
    ∃ sfs, s = .group sfs ∧ addF sd sfs tfs = true := by
  cases s <;> simp [addN] at h
  exact ⟨_, rfl, h⟩

theorem addOk_cases {sfs : PFields} {sd : Nat} (h : addOk sfs sd = true) :
    (∃ n o, closestOff sfs 0 none = some (n, o, .req) ∧ LeafAt sfs o .req) ∨ (closestOff sfs 0 none = none ∧ sd = 0) := by
  simp only [addOk] at h
  cases hc : closestOff sfs 0 none with
  | none => simp [hc] at h; exact Or.inr ⟨rfl, h⟩
  | some p =>
    obtain ⟨n, o, rp⟩ := p
    cases rp <;> simp [hc] at h
    rcases closestOff_sound sfs 0 none n o .req hc with h1 | ⟨_, h2⟩
    · simp at h1
    · exact Or.inl ⟨n, o, rfl, by simpa using h2⟩

theorem added_absent (sfs : PFields) (tn : PNode) (trp : Rp) (lv : Lv) (r d : Nat)
    (hok : addOk sfs lv.sd = true) (hid : lv.td = lv.sd) (hd : d < lv.sd) :
    canon (maxDefsN tn (lv.td + defOf trp))
        (convN tn trp (lv.stepT trp) (.lost ((closestLeaf sfs (absentF (eraseF sfs) r d) none).map (·.2)))) =
      canon (maxDefsN tn (lv.td + defOf trp)) (absentN (eraseN tn) r d) := by
  rw [closest_col]
  rcases addOk_cases hok with ⟨n, o, hc, hl⟩ | ⟨_, h0⟩
  · simp only [hc, Option.map_some, leafAt_absent r d sfs o .req hl, Option.getD_some]
    rw [canon_lostN tn trp lv _ r d (Or.inr ⟨none, rfl⟩) (by omega), canon_absentN tn _ r d (by omega)]
  · omega

theorem added_present (sfs : PFields) (tn : PNode) (trp : Rp) (lv : Lv) (vs : List Val) (r : Nat)
    (hok : addOk sfs lv.sd = true) (hid : IdLv lv) (hc : confF (eraseF sfs) vs = true) (hr : r ≤ lv.sr) :
    canon (maxDefsN tn (lv.td + defOf trp))
        (convN tn trp (lv.stepT trp) (.lost ((closestLeaf sfs (shredF (eraseF sfs) r lv.sr lv.sd vs) none).map (·.2)))) =
      canon (maxDefsN tn (lv.td + defOf trp)) (shredN (wrap trp (eraseN tn)) r lv.tr lv.td (dfltW trp (dfltN tn))) := by
  rw [closest_col]
  rw [canon_dfltW tn trp r lv.tr lv.td]
  rcases addOk_cases hok with ⟨n, o, hcl, hl⟩ | ⟨hcl, h0⟩
  · obtain ⟨x, hx⟩ := leafAt_shred r lv.sr lv.sd sfs vs o hc hl
    simp only [hcl, Option.map_some, hx, Option.getD_some]
    rw [canon_lostN tn trp lv _ r lv.sd (Or.inr ⟨some x, rfl⟩) (Nat.le_of_eq hid.td.symm), hid.td]
  · -- no leaf sibling: the group sits at level 0, so `r = 0` and `lv.td = 0` as well
    have hr0 : r = 0 := by have := hid.rd; omega
    have htd : lv.td = 0 := by rw [hid.td]; exact h0
    simp only [hcl, Option.map_none]
    rw [canon_lostN tn trp lv none 0 0 (Or.inl ⟨rfl, rfl, rfl⟩) (Nat.zero_le _), hr0, htd]

/-- below a repeated ancestor: the borrowed column is the concatenation of the elements' columns -/
theorem added_lin (sfs : PFields) (tn : PNode) (trp : Rp) (lv : Lv) (sd : Nat) (X Y : Cols)
    (hok : addOk sfs sd = true) (hsd : 0 < sd)
    (hx : X.length = leavesF (eraseF sfs)) (hy : Y.length = leavesF (eraseF sfs)) (nx : NE X) (ny : NE Y) :
    convN tn trp lv (.lost ((closestLeaf sfs (zipApp X Y) none).map (·.2))) =
      zipApp (convN tn trp lv (.lost ((closestLeaf sfs X none).map (·.2))))
        (convN tn trp lv (.lost ((closestLeaf sfs Y none).map (·.2)))) := by
  rw [closest_col, closest_col, closest_col]
  rcases addOk_cases hok with ⟨n, o, hcl, hl⟩ | ⟨_, h0⟩
  · -- column `o` exists in both blocks; in their `zipApp` it holds the two concatenated
    have ho := leafAt_lt sfs o .req hl
    obtain ⟨x, hX⟩ : ∃ x, X[o]? = some x := ⟨_, List.getElem?_eq_getElem (by rw [hx]; exact ho)⟩
    obtain ⟨y, hY⟩ : ∃ y, Y[o]? = some y := ⟨_, List.getElem?_eq_getElem (by rw [hy]; exact ho)⟩
    have hXY : (zipApp X Y)[o]? = some (x ++ y) := by
      rw [zipApp_eq_zipWith, List.getElem?_zipWith, hX, hY]
    simp only [hcl, Option.map_some, hXY, hX, hY, Option.getD_some]
    exact lin_lostN tn trp lv _ _ (nx _ (List.mem_of_getElem? hX)) (ny _ (List.mem_of_getElem? hY))
  · omega

mutual
theorem absent_addN : ∀ (t : PNode) (trp : Rp) (lv : Lv) (s : PNode) (r d : Nat) (pc : Option (List Triple)),
    addN lv.sd s t = true → IdLv lv → r ≤ lv.sr → d < lv.sd →
    canon (maxDefsN t lv.td) (convN t trp lv (.on s (absentN (eraseN s) r d) pc)) =
      canon (maxDefsN t lv.td) (absentN (eraseN t) r d)
  | .leaf, trp, lv, s, r, d, pc, hs, hid, hr, hd => by
    obtain rfl := addN_leaf hs
    simp only [convN, eraseN, absentN]
    rw [leafOut_on _ _ _ _ (by simp)]
    simp [leafFn_absent lv r d hr (by omega) (by rw [hid.td]; omega), hid.R r hr, hid.D d (by omega)]
  | .group tfs, trp, lv, s, r, d, pc, hs, hid, hr, hd => by
    obtain ⟨sfs, rfl, hs⟩ := addN_group hs
    exact absent_addF tfs lv sfs r d pc hs hid hr hd
theorem absent_addF : ∀ (tfs : PFields) (lv : Lv) (sfs : PFields) (r d : Nat) (pc : Option (List Triple)),
    addF lv.sd sfs tfs = true → IdLv lv → r ≤ lv.sr → d < lv.sd →
    canon (maxDefsF tfs lv.td) (convF tfs lv (.on (.group sfs) (absentF (eraseF sfs) r d) pc)) =
      canon (maxDefsF tfs lv.td) (absentF (eraseF tfs) r d)
  | .nil, _, _, _, _, _, _, _, _, _ => by simp [convF, eraseF, absentF]
  | .cons nm trp tn tfs, lv, sfs, r, d, pc, hs, hid, hr, hd => by
    obtain ⟨hhead, hrest⟩ := addF_cons hs
    simp only [convF, maxDefsF, eraseF, absentF, absent_wrap]
    rw [canon_append (by rw [maxDefsN_length, convN_length]), canon_append (by rw [maxDefsN_length, absentN_length]; rfl)]
    rw [absent_addF tfs lv sfs r d pc hrest hid hr hd]
    congr 1
    rcases hhead with ⟨sn, hg, hsn⟩ | ⟨hg, hok⟩
    · rw [stepS_on nm trp lv sfs _ pc hg]
      rw [fld_absent nm trp sn r d sfs hg]
      exact absent_addN tn trp (lv.step trp trp) sn r d _ hsn (hid.step trp) (le_step_sr _ _ hr) (lt_step_sd _ _ hd)
    · rw [stepS_none nm trp lv sfs _ pc hg]
      exact added_absent sfs tn trp lv r d hok hid.td hd
end

mutual
theorem lin_addN : ∀ (t : PNode) (trp : Rp) (lv : Lv) (s : PNode) (X Y : Cols) (p1 p2 p3 : Option (List Triple)),
    addN lv.sd s t = true → 0 < lv.sd → X.length = leavesP s → Y.length = leavesP s → NE X → NE Y →
    convN t trp lv (.on s (zipApp X Y) p3) =
      zipApp (convN t trp lv (.on s X p1)) (convN t trp lv (.on s Y p2))
  | .leaf, trp, lv, s, X, Y, p1, p2, p3, hs, hsd, hx, hy, nx, ny => by
    obtain rfl := addN_leaf hs
    exact lin_leaf trp lv X Y p1 p2 p3 hx hy nx ny
  | .group tfs, trp, lv, s, X, Y, p1, p2, p3, hs, hsd, hx, hy, nx, ny => by
    obtain ⟨sfs, rfl, hs⟩ := addN_group hs
    exact lin_addF tfs lv sfs X Y p1 p2 p3 hs hsd hx hy nx ny
theorem lin_addF : ∀ (tfs : PFields) (lv : Lv) (sfs : PFields) (X Y : Cols) (p1 p2 p3 : Option (List Triple)),
    addF lv.sd sfs tfs = true → 0 < lv.sd → X.length = leavesF (eraseF sfs) → Y.length = leavesF (eraseF sfs) → NE X → NE Y →
    convF tfs lv (.on (.group sfs) (zipApp X Y) p3) =
      zipApp (convF tfs lv (.on (.group sfs) X p1)) (convF tfs lv (.on (.group sfs) Y p2))
  | .nil, _, _, _, _, _, _, _, _, _, _, _, _, _ => by simp [convF, zipApp]
  | .cons nm trp tn tfs, lv, sfs, X, Y, p1, p2, p3, hs, hsd, hx, hy, nx, ny => by
    obtain ⟨hhead, hrest⟩ := addF_cons hs
    simp only [convF]
    rw [lin_addF tfs lv sfs X Y p1 p2 p3 hrest hsd hx hy nx ny]
    rw [zipApp_append (by rw [convN_length, convN_length])]
    congr 1
    rcases hhead with ⟨sn, hg, hsn⟩ | ⟨hg, hok⟩
    · simp only [stepS_on nm trp lv sfs _ _ hg]
      rw [blkOf_zip nm sfs X Y]
      exact lin_addN tn trp (lv.step trp trp) sn (blkOf nm sfs X) (blkOf nm sfs Y) _ _ _ hsn
        (lt_step_sd _ _ hsd)
        (blkOf_length nm trp sn sfs X hg hx) (blkOf_length nm trp sn sfs Y hg hy)
        (blkOf_ne nm sfs X nx) (blkOf_ne nm sfs Y ny)
    · simp only [stepS_none nm trp lv sfs _ _ hg]
      exact added_lin sfs tn trp (lv.stepT trp) lv.sd X Y hok hsd hx hy nx ny
end

mutual
theorem main_addN : ∀ (t : PNode) (trp : Rp) (lv : Lv) (s : PNode) (v : Val) (r : Nat) (pc : Option (List Triple)),
    addN lv.sd s t = true → IdLv lv → wfN (eraseN s) = true → confN (eraseN s) v = true → r ≤ lv.sr →
    canon (maxDefsN t lv.td) (convN t trp lv (.on s (shredN (eraseN s) r lv.sr lv.sd v) pc)) =
      canon (maxDefsN t lv.td) (shredN (eraseN t) r lv.tr lv.td (projN s t v))
  | .leaf, trp, lv, s, v, r, pc, hs, hid, hw, hc, hr => by
    obtain rfl := addN_leaf hs
    obtain ⟨x, rfl⟩ := confN_leaf hc
    simp only [convN, eraseN, shredN, projN]
    rw [leafOut_on _ _ _ _ (by simp)]
    have hD : lv.D lv.sd = lv.td := by rw [hid.D _ (Nat.le_refl _), hid.td]
    simp [leafFn_value lv x r hr hD, hid.R r hr]
  | .group tfs, trp, lv, s, v, r, pc, hs, hid, hw, hc, hr => by
    obtain ⟨sfs, rfl, hs⟩ := addN_group hs
    obtain ⟨vs, rfl, hc⟩ := confN_group hc
    simp only [eraseN, wfN, Bool.and_eq_true] at hw
    simp only [convN, eraseN, shredN, projN, maxDefsN]
    exact main_addF tfs lv sfs vs r pc hs hid hw.1 hc hr
theorem main_addF : ∀ (tfs : PFields) (lv : Lv) (sfs : PFields) (vs : List Val) (r : Nat) (pc : Option (List Triple)),
    addF lv.sd sfs tfs = true → IdLv lv → wfF (eraseF sfs) = true → confF (eraseF sfs) vs = true → r ≤ lv.sr →
    canon (maxDefsF tfs lv.td) (convF tfs lv (.on (.group sfs) (shredF (eraseF sfs) r lv.sr lv.sd vs) pc)) =
      canon (maxDefsF tfs lv.td) (shredF (eraseF tfs) r lv.tr lv.td (projF sfs vs tfs))
  | .nil, _, _, _, _, _, _, _, _, _, _ => by simp [convF, eraseF, shredF, projF]
  | .cons nm trp tn tfs, lv, sfs, vs, r, pc, hs, hid, hw, hc, hr => by
    obtain ⟨hhead, hrest⟩ := addF_cons hs
    have ih := main_addF tfs lv sfs vs r pc hrest hid hw hc hr
    have hlenT : (maxDefsN tn (lv.td + defOf trp)).length = leavesP tn := maxDefsN_length _ _
    rcases hhead with ⟨sn, hg, hsn⟩ | ⟨hg, hok⟩
    · -- shared field
      obtain ⟨v, hfv, hblk, hcv⟩ := fld_shred nm trp sn r lv.sr lv.sd sfs vs hc hg
      have hwn := wf_of_fld hw hg
      have hsk : sameKind sn tn = true := sameKind_of_add hsn
      simp only [convF, stepS_on nm trp lv sfs _ pc hg, hblk, eraseF, projF, hfv, hsk, if_true, shredF, maxDefsF]
      generalize Option.map (fun x => x.snd) (closestLeaf sfs (shredF (eraseF sfs) r lv.sr lv.sd vs) none) = pc'
      rw [canon_append (by rw [hlenT, convN_length]), ih, canon_append (by rw [hlenT, shredN_wrap_length])]
      congr 1
      have hstep := hid.step trp
      have hrec : ∀ (r' : Nat) (w : Val), r' ≤ lv.sr + repOf trp → confN (eraseN sn) w = true →
          canon (maxDefsN tn (lv.td + defOf trp)) (convN tn trp (lv.step trp trp)
            (.on sn (shredN (eraseN sn) r' (lv.sr + repOf trp) (lv.sd + defOf trp) w) pc')) =
          canon (maxDefsN tn (lv.td + defOf trp))
            (shredN (eraseN tn) r' (lv.tr + repOf trp) (lv.td + defOf trp) (projN sn tn w)) :=
        fun r' w hr' hcw => main_addN tn trp (lv.step trp trp) sn w r' pc' hsn hstep hwn hcw hr'
      have habs : defOf trp = 1 →
          canon (maxDefsN tn (lv.td + defOf trp)) (convN tn trp (lv.step trp trp) (.on sn (absentN (eraseN sn) r lv.sd) pc')) =
          canon (maxDefsN tn (lv.td + defOf trp)) (absentN (eraseN tn) r lv.td) := by
        intro hd
        rw [show absentN (eraseN tn) r lv.td = absentN (eraseN tn) r lv.sd by rw [hid.td]]
        exact absent_addN tn trp (lv.step trp trp) sn r lv.sd pc' hsn hstep (le_step_sr _ _ hr)
          (by show lv.sd < lv.sd + defOf trp; omega)
      cases trp <;> simp only [repOf, defOf, Nat.add_zero] at hrec habs ⊢
      · simpa only [wrap] using hrec r v hr hcv
      · rcases confN_opt hcv with rfl | ⟨w, rfl, hcw⟩
        · simpa only [wrap, shredN] using habs trivial
        · simpa only [wrap, shredN] using hrec r w hr hcw
      · obtain ⟨ws, rfl, hcw⟩ := confN_rpt hcv
        cases ws with
        | nil => simpa only [wrap, shredN, List.map_nil] using habs trivial
        | cons w0 ws =>
          simp only [wrap, shredN, List.map_cons, List.foldr_map]
          have hT : (maxDefsN tn (lv.td + 1)).length = leavesN (eraseN tn) := maxDefsN_length _ _
          rw [canon_zipApp _ (shredN (eraseN tn) _ _ _ _), ← hT, canon_foldr]
          rw [conv_fold_shred (fun X => canon (maxDefsN tn (lv.td + 1)) (convN tn .rpt (lv.step .rpt .rpt) (.on sn X pc')))
            (eraseN sn) (maxDefsN tn (lv.td + 1)).length
            (fun w => canon (maxDefsN tn (lv.td + 1)) (shredN (eraseN tn) (lv.tr + 1) (lv.tr + 1) (lv.td + 1) (projN sn tn w)))
            (by omega) _
            (fun X Y hx hy nx ny => by
              rw [lin_addN tn .rpt _ sn X Y pc' pc' pc' hsn (Nat.succ_pos _) hx hy nx ny, canon_zipApp])
            (fun X => by rw [canon, List.length_zipWith, convN_length, hT]; exact Nat.min_self _)
            w0 ws (fun w hw' => by rw [hrec (lv.sr + 1) w (Nat.le_refl _) (hcw w (by simp [hw'])), hid.tr])]
          rw [hrec r w0 (by omega) (hcw w0 (by simp))]
    · -- added field
      have hfv := findV_none nm sfs vs hg
      simp only [convF, stepS_none nm trp lv sfs _ pc hg, eraseF, projF, hfv, shredF, maxDefsF]
      rw [canon_append (by rw [hlenT, convN_length]), canon_append (by rw [hlenT, shredN_wrap_length]), ih,
        added_present sfs tn trp lv vs r hok hid hc hr]
end

end PqModel.Convert
