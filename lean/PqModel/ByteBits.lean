/-! # Single bits of a `UInt8`

Bit `i` of a byte is `w.toNat.testBit i`; two bytes are equal when they agree on bits 0..7 (`ext`), and each
byte operation is described by what it does to one bit. -/
namespace PqModel.ByteBits

theorem ext {a b : UInt8} (h : ∀ i, i < 8 → a.toNat.testBit i = b.toNat.testBit i) : a = b := by
  apply UInt8.toNat_inj.mp
  apply Nat.eq_of_testBit_eq
  intro i
  by_cases hi : i < 8
  · exact h i hi
  · have h2 : ∀ w : UInt8, w.toNat.testBit i = false := fun w =>
      Nat.testBit_lt_two_pow (Nat.lt_of_lt_of_le w.toNat_lt (Nat.pow_le_pow_right (by decide) (by omega)))
    rw [h2, h2]

theorem testBit_ofNat (n i : Nat) : (UInt8.ofNat n).toNat.testBit i = (decide (i < 8) && n.testBit i) := by
  rw [UInt8.toNat_ofNat', Nat.testBit_mod_two_pow]

theorem testBit_shl (w : UInt8) (y i : Nat) (hy : y < 8) :
    (w <<< UInt8.ofNat y).toNat.testBit i = (decide (i < 8) && (decide (y ≤ i) && w.toNat.testBit (i - y))) := by
  rw [UInt8.toNat_shiftLeft, UInt8.toNat_ofNat', Nat.testBit_mod_two_pow, Nat.testBit_shiftLeft]
  have : y % 2 ^ 8 % 8 = y := by omega
  rw [this]

theorem testBit_one_shl (y i : Nat) (hy : y < 8) : ((1 : UInt8) <<< UInt8.ofNat y).toNat.testBit i = decide (y = i) := by
  have h1 : y % 2 ^ 8 % 8 = y := by omega
  rw [UInt8.toNat_shiftLeft, UInt8.toNat_ofNat', UInt8.toNat_one, Nat.one_shiftLeft, h1,
    Nat.mod_eq_of_lt (Nat.pow_lt_pow_right (by decide) hy), Nat.testBit_two_pow]

theorem testBit_bit_shl (b : Bool) (y i : Nat) (hy : y < 8) :
    ((if b then 1 else 0 : UInt8) <<< UInt8.ofNat y).toNat.testBit i = (decide (y = i) && b) := by
  cases b
  · rw [if_neg Bool.false_ne_true, testBit_shl _ y i hy]; simp
  · rw [if_pos rfl, testBit_one_shl y i hy]; simp

theorem testBit_and (a b : UInt8) (i : Nat) : (a &&& b).toNat.testBit i = (a.toNat.testBit i && b.toNat.testBit i) := by
  rw [UInt8.toNat_and, Nat.testBit_and]

theorem testBit_or (a b : UInt8) (i : Nat) : (a ||| b).toNat.testBit i = (a.toNat.testBit i || b.toNat.testBit i) := by
  rw [UInt8.toNat_or, Nat.testBit_or]

theorem testBit_not (a : UInt8) (i : Nat) : (~~~a).toNat.testBit i = (decide (i < 8) && !a.toNat.testBit i) := by
  rw [UInt8.toNat_not, Nat.sub_sub, Nat.add_comm]
  exact Nat.testBit_two_pow_sub_succ a.toNat_lt i

theorem testBit_setBit (w : UInt8) (y i : Nat) (b : Bool) (hy : y < 8) (hi : i < 8) :
    ((w &&& ~~~((1 : UInt8) <<< UInt8.ofNat y)) ||| ((if b then 1 else 0) <<< UInt8.ofNat y)).toNat.testBit i =
      if y = i then b else w.toNat.testBit i := by
  simp only [testBit_or, testBit_and, testBit_not, testBit_bit_shl b y i hy, testBit_one_shl y i hy, hi, decide_true,
    Bool.true_and]
  by_cases h : y = i <;> simp [h]

theorem toNat_lowMask : ∀ e : Fin 8, (((1 : UInt8) <<< UInt8.ofNat e.val) - 1).toNat = 2 ^ e.val - 1 := by decide

/-- `^(0xFF << y)` is the mask of the bits below `y` -/
theorem testBit_not_shl_ff (y i : Nat) (hy : y < 8) (hi : i < 8) :
    (~~~((0xFF : UInt8) <<< UInt8.ofNat y)).toNat.testBit i = decide (i < y) := by
  have hff : (0xFF : UInt8).toNat = 2 ^ 8 - 1 := rfl
  rw [testBit_not, testBit_shl _ y i hy, hff, Nat.testBit_two_pow_sub_one]
  by_cases h : y ≤ i
  · have h1 : i - y < 8 := by omega
    have h2 : ¬ i < y := by omega
    simp [hi, h, h1, h2]
  · have h2 : i < y := by omega
    simp [hi, h, h2]

end PqModel.ByteBits
