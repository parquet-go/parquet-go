import PqModel.DeltaConf

/-! # Conformant DELTA_LENGTH_BYTE_ARRAY and DELTA_BYTE_ARRAY streams built from ANY conformant
DELTA_BINARY_PACKED length streams (property C04, part delta)

* DELTA_LENGTH_BYTE_ARRAY of `vs`: any conformant INT32 stream whose meaning is the lengths of `vs`,
  then the bytes of `vs`.
* DELTA_BYTE_ARRAY of `vs`: any conformant INT32 stream of prefix lengths `ps` where each prefix is
  SOME shared prefix with the previous value (`prefixesOK`; the text says "the prefix length", writers
  differ in how hard they search, so the longest one is not required), then the
  DELTA_LENGTH_BYTE_ARRAY stream of the suffixes.

Both decoders return `vs` on every such stream, also when the last block of a length stream has stale non-zero widths right
before the value bytes: a decoder that consumed a body for an unneeded miniblock would read the value bytes at the wrong place. -/
namespace PqModel.Delta

def lensOf (vs : List (List Nat)) : List (BitVec 32) := vs.map fun v => BitVec.ofNat 32 v.length

theorem lensOf_eq (vs : List (List Nat)) : lensOf vs = (vs.map List.length).map (BitVec.ofNat 32) := by
  simp [lensOf, List.map_map, Function.comp_def]

theorem natLens_lensOf (vs : List (List Nat)) (h : ∀ v ∈ vs, v.length < 2 ^ 31) :
    natLens (lensOf vs) = .ok (vs.map List.length) := by
  rw [lensOf_eq]
  exact natLens_ofNat _ (by
    intro l hl
    obtain ⟨v, hv, rfl⟩ := List.mem_map.mp hl
    exact h v hv)

theorem specDecodeDLBA_conf (s : ConfStream 32) (vs : List (List Nat)) (tail : List Nat) (hs : s.OK)
    (hv : s.values = lensOf vs) (h31 : ∀ v ∈ vs, v.length < 2 ^ 31) :
    specDecodeDLBA (s.bytes ++ (vs.flatten ++ tail)) = .ok (vs, tail) := by
  simp only [specDecodeDLBA, specDecode_conf (by decide : 32 ≤ 64) s _ hs, hv, natLens_lensOf vs h31]
  exact splitLens_flatten vs tail

/-- SPEC. `ps` are admissible prefix lengths for `vs`: the first `p` bytes of the previous value
(none before the first value) are the first `p` bytes of the value. -/
def prefixesOK : List Nat → List Nat → List (List Nat) → Prop
  | _, [], [] => True
  | prev, p :: ps, v :: vs => (p ≤ prev.length ∧ prev.take p = v.take p) ∧ prefixesOK v ps vs
  | _, _, _ => False

instance prefixesOK.dec : ∀ (prev ps : List Nat) (vs : List (List Nat)), Decidable (prefixesOK prev ps vs)
  | _, [], [] => by unfold prefixesOK; infer_instance
  | prev, p :: ps, v :: vs => by
    unfold prefixesOK
    exact @instDecidableAnd _ _ _ (prefixesOK.dec v ps vs)
  | _, [], _ :: _ => by unfold prefixesOK; infer_instance
  | _, _ :: _, [] => by unfold prefixesOK; infer_instance

/-- SPEC. the suffixes that go with the prefix lengths -/
def cutSuffixes : List Nat → List (List Nat) → List (List Nat)
  | p :: ps, v :: vs => v.drop p :: cutSuffixes ps vs
  | _, _ => []

theorem joinPrefix_any : ∀ (vs : List (List Nat)) (ps prev : List Nat), prefixesOK prev ps vs →
    joinPrefix prev ps (cutSuffixes ps vs) = .ok vs
  | [], [], _, _ => by simp [joinPrefix, cutSuffixes]
  | [], _ :: _, _, h => by simp [prefixesOK] at h
  | _ :: _, [], _, h => by simp [prefixesOK] at h
  | v :: vs, p :: ps, prev, h => by
    obtain ⟨⟨hle, hpv⟩, hrest⟩ := h
    have hnt : ¬ (prev.length < p) := by omega
    have hv : prev.take p ++ v.drop p = v := by rw [hpv, List.take_append_drop]
    simp only [cutSuffixes, joinPrefix, hnt, if_false, hv, joinPrefix_any vs ps v hrest]

theorem prefixesOK_length : ∀ (vs : List (List Nat)) (ps prev : List Nat), prefixesOK prev ps vs →
    ps.length = vs.length
  | [], [], _, _ => rfl
  | [], _ :: _, _, h => by simp [prefixesOK] at h
  | _ :: _, [], _, h => by simp [prefixesOK] at h
  | v :: vs, p :: ps, prev, h => by
    simp only [List.length_cons, prefixesOK_length vs ps v h.2]

theorem prefixesOK_lt : ∀ (vs : List (List Nat)) (ps prev : List Nat), prefixesOK prev ps vs →
    (∀ v ∈ vs, v.length < 2 ^ 31) → ∀ p ∈ ps, p < 2 ^ 31
  | [], [], _, _, _ => by simp
  | [], _ :: _, _, h, _ => by simp [prefixesOK] at h
  | _ :: _, [], _, h, _ => by simp [prefixesOK] at h
  | v :: vs, p :: ps, prev, h, hl => by
    obtain ⟨⟨hle, hpv⟩, hrest⟩ := h
    intro q hq
    simp only [List.mem_cons] at hq
    rcases hq with rfl | hq
    · have h1 : (prev.take q).length = q := by simp only [List.length_take]; omega
      have h2 : (v.take q).length ≤ v.length := by simp only [List.length_take]; omega
      have := hl v (by simp)
      rw [hpv] at h1
      omega
    · exact prefixesOK_lt vs ps v hrest (fun w hw => hl w (by simp [hw])) q hq

theorem cutSuffixes_lt : ∀ (vs : List (List Nat)) (ps : List Nat), (∀ v ∈ vs, v.length < 2 ^ 31) →
    ∀ s ∈ cutSuffixes ps vs, s.length < 2 ^ 31
  | [], ps, _ => by cases ps <;> simp [cutSuffixes]
  | v :: vs, [], _ => by simp [cutSuffixes]
  | v :: vs, p :: ps, hl => by
    intro s hs
    simp only [cutSuffixes, List.mem_cons] at hs
    rcases hs with rfl | hs
    · have := hl v (by simp)
      simp only [List.length_drop]; omega
    · exact cutSuffixes_lt vs ps (fun w hw => hl w (by simp [hw])) s hs

theorem cutSuffixes_length : ∀ (vs : List (List Nat)) (ps : List Nat), ps.length = vs.length →
    (cutSuffixes ps vs).length = vs.length
  | [], ps, _ => by cases ps <;> simp [cutSuffixes]
  | v :: vs, [], h => by simp at h
  | v :: vs, p :: ps, h => by
    simp only [cutSuffixes, List.length_cons] at h ⊢
    rw [cutSuffixes_length vs ps (by omega)]

theorem specDecodeDBA_conf (sp ss : ConfStream 32) (ps : List Nat) (vs : List (List Nat)) (tail : List Nat)
    (hsp : sp.OK) (hss : ss.OK) (hpv : sp.values = ps.map (BitVec.ofNat 32))
    (hp : prefixesOK [] ps vs) (hsv : ss.values = lensOf (cutSuffixes ps vs))
    (h31 : ∀ v ∈ vs, v.length < 2 ^ 31) :
    specDecodeDBA (sp.bytes ++ (ss.bytes ++ ((cutSuffixes ps vs).flatten ++ tail))) = .ok (vs, tail) := by
  have hd := specDecodeDLBA_conf ss (cutSuffixes ps vs) tail hss hsv (cutSuffixes_lt vs ps h31)
  simp only [specDecodeDBA, specDecode_conf (by decide : 32 ≤ 64) sp _ hsp, hpv,
    natLens_ofNat ps (prefixesOK_lt vs ps [] hp h31), hd, joinPrefix_any vs ps [] hp]

theorem goDecodeDLBA_conf (s : ConfStream 32) (vs : List (List Nat)) (tail : List Nat) (hs : s.OK)
    (hv : s.values = lensOf vs) (h31 : ∀ v ∈ vs, v.length < 2 ^ 31)
    (hbs : s.blockSize ≤ 65536) (ht : s.total < 2 ^ 31) (hb : vs.flatten.length < 2 ^ 32) :
    goDecodeDLBA (s.bytes ++ (vs.flatten ++ tail)) = .ok (vs.flatten, offsetsFrom 0 vs) := by
  obtain ⟨hpos, hlens⟩ := natLens_ok (natLens_lensOf vs h31)
  exact goDecodeDLBA_of (hv ▸ goDecode_conf (Or.inl rfl) s _ hs hbs ht) hpos
    (by rw [← hlens]; exact splitLens_flatten vs tail) hb

theorem goDecodeDBA_conf (sp ss : ConfStream 32) (ps : List Nat) (vs : List (List Nat)) (tail : List Nat)
    (hsp : sp.OK) (hss : ss.OK) (hpv : sp.values = ps.map (BitVec.ofNat 32))
    (hp : prefixesOK [] ps vs) (hsv : ss.values = lensOf (cutSuffixes ps vs))
    (h31 : ∀ v ∈ vs, v.length < 2 ^ 31)
    (hb1 : sp.blockSize ≤ 65536) (ht1 : sp.total < 2 ^ 31) (hb2 : ss.blockSize ≤ 65536) (ht2 : ss.total < 2 ^ 31) :
    goDecodeDBA (sp.bytes ++ (ss.bytes ++ ((cutSuffixes ps vs).flatten ++ tail))) = .ok vs := by
  obtain ⟨hppos, hpn⟩ := natLens_ok (natLens_ofNat ps (prefixesOK_lt vs ps [] hp h31))
  obtain ⟨hspos, hsn⟩ := natLens_ok (natLens_lensOf (cutSuffixes ps vs) (cutSuffixes_lt vs ps h31))
  exact goDecodeDBA_of (hpv ▸ goDecode_conf (Or.inl rfl) sp _ hsp hb1 ht1)
    (hsv ▸ goDecode_conf (Or.inl rfl) ss _ hss hb2 ht2) hppos hspos
    (by rw [← hsn]; exact splitLens_flatten _ tail) (by rw [← hpn]; exact joinPrefix_any vs ps [] hp)

end PqModel.Delta
