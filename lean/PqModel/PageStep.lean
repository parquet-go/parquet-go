import PqModel.PageLoad
import PqModel.Seek

/-! # One page of `FilePages.readPageInSequence`, with the reader state around the loader (C13)

MIRROR (file.go, unencrypted column): one iteration of the `for` loop of `readPageInSequence`
(file.go:1214-1366) together with the `desync` bookkeeping of `ReadPage` (file.go:1190-1202):

    header decoded → [dictionary page and f.dictionary != nil → Discard, continue]
    data, err = f.readPage(header, f.rbuf)            -- load + checksum comparison, `PageLoad.readPage`
    err != nil → return nil, err                       -- ReadPage: f.desync = true
    readDataPageV1/V2(header, data) | readDictionaryPage(header, data)   -- decode exactly `data`
    f.index++ ; f.skip == 0 → return page
    numRows <= f.skip → Release(page); f.skip -= numRows; continue       -- page only counted
    otherwise → return page.Slice(f.skip, numRows); f.skip = 0

`RState` holds the fields of `FilePages` this code reads or writes. The point of the mirror: the
loader call does not look at any of them (`verify_independent_of_seek_state`), a page that is only
decoded to be skipped is verified like any other (`skipped_page_is_verified`), and the bytes given
to the decoder are the bytes that were compared (`decode_sees_verified_bytes`). `skipGuardedStep` is
the seeded variant "compare only when `f.skip == 0`", kept as a negation witness.

BRIDGE to the page-granularity seek machine of C08 (`PqModel/Seek.lean`): `badOf` computes the set
`Seek.Chunk.bad` ("pages whose checksum does not match") from the stored bytes with the loader of
this file, so the C08 theorems about retries after a failed read speak about CRC-level corruption.

Not modelled here: the lazy dictionary load inside readDataPageV1/V2 (it is `PageLoad.readAt`), the
cached-page preamble and stream positions (they are `Seek.readPage`/`seekFixed`), v1 pages that do
not start on a row boundary, encrypted columns. -/
namespace PqModel.PageStep
open PqModel.Crc PqModel.PageLoad

/-- the fields of `FilePages` the page step reads or writes -/
structure RState where
  skip : Nat                   -- f.skip: rows still to drop before the row sought
  desync : Bool                -- f.desync: a ReadPage failed since the last seek
  index : Nat                  -- f.index
  dictionary : Option Bytes    -- f.dictionary (the verified body it was decoded from)
  deriving DecidableEq, Repr

/-- what became of the page under the stream -/
inductive Handed where
  | returned (data : Bytes) (fromRow : Nat)  -- decoded from `data`, returned (from row `fromRow` of the page)
  | dropped (data : Bytes)                   -- decoded from `data` only to count its rows (`numRows <= skip`)
  | dictionary (data : Bytes)                -- dictionary decoded from `data`, kept in f.dictionary
  | discarded                                -- a dictionary page met again: bytes skipped, nothing decoded
  | failed (e : Err)
  deriving DecidableEq, Repr

/-- the bytes the decoder / decompressor was given -/
def Handed.decoded : Handed → Option Bytes
  | .returned d _ | .dropped d | .dictionary d => some d
  | .discarded | .failed _ => none

/-- the part of one loop iteration that follows a successful load (file.go:1283-1365) -/
def afterLoad (st : RState) (h : Header) (numRows : Nat) (data : Bytes) : RState × Handed :=
  match h.kind with
  | .dictionary => ({ st with dictionary := some data }, .dictionary data)
  | _ =>
    let st := { st with index := st.index + 1 }
    if st.skip = 0 then (st, .returned data 0)
    else if numRows ≤ st.skip then ({ st with skip := st.skip - numRows }, .dropped data)
    else ({ st with skip := 0 }, .returned data st.skip)

/-- MIRROR one iteration of `readPageInSequence` + the `desync` flag of `ReadPage`.
    `numRows` is what the decoder reports for the page (`page.NumRows()`). -/
def pageStep (st : RState) (h : Header) (numRows : Nat) (stream : Bytes) : RState × Handed :=
  if h.kind = .dictionary ∧ st.dictionary.isSome then (st, .discarded)   -- f.rbuf.Discard(CompressedPageSize)
  else
    match readPage h stream with                  -- data, err = f.readPage(header, f.rbuf)
    | .error e => ({ st with desync := true }, .failed e)
    | .ok data => afterLoad st h numRows data

/-- the seeded slip (seeded/C13-a): `if header.CRC != 0 && f.skip == 0` in readPage -/
def readPageSkipGuarded (skip : Nat) (h : Header) (stream : Bytes) : Except Err Bytes :=
  match readFull h.compressedSize stream with
  | .error e => .error e
  | .ok page =>
    if h.crc != 0#32 && skip == 0 then
      if h.crc != crc32 page then .error .corrupted else .ok page
    else .ok page

def skipGuardedStep (st : RState) (h : Header) (numRows : Nat) (stream : Bytes) : RState × Handed :=
  if h.kind = .dictionary ∧ st.dictionary.isSome then (st, .discarded)
  else
    match readPageSkipGuarded st.skip h stream with
    | .error e => ({ st with desync := true }, .failed e)
    | .ok data => afterLoad st h numRows data

theorem afterLoad_decoded (st : RState) (h : Header) (n : Nat) (data b : Bytes)
    (hd : (afterLoad st h n data).2.decoded = some b) : b = data := by
  revert hd
  fun_cases afterLoad st h n data <;> exact fun hd => (Option.some.inj hd).symm

theorem afterLoad_not_failed (st : RState) (h : Header) (n : Nat) (data : Bytes) (e : Err) :
    (afterLoad st h n data).2 ≠ .failed e := by
  fun_cases afterLoad st h n data <;> exact nofun

theorem pageStep_corrupted_iff (st : RState) (h : Header) (n : Nat) (s : Bytes) :
    (pageStep st h n s).2 = .failed .corrupted ↔
      ¬ (h.kind = .dictionary ∧ st.dictionary.isSome) ∧ readPage h s = .error .corrupted := by
  unfold pageStep
  by_cases hd : h.kind = .dictionary ∧ st.dictionary.isSome
  · simp [hd]
  · simp only [hd, if_false, not_false_eq_true, true_and]
    cases hr : readPage h s with
    | error e => cases e <;> simp
    | ok data =>
      simp only [reduceCtorEq, iff_false]
      exact afterLoad_not_failed st h n data .corrupted

/-- indexes (from `i`) of the stored data pages that the loader rejects as corrupted -/
def badFrom : Nat → List Stored → List Nat
  | _, [] => []
  | i, s :: rest =>
    if readPage s.hdr s.body = .error .corrupted then i :: badFrom (i + 1) rest else badFrom (i + 1) rest

/-- `Seek.Chunk.bad` of a stored chunk -/
def badOf (pages : List Stored) : List Nat := badFrom 0 pages

theorem mem_badFrom (pages : List Stored) (i q : Nat) :
    q ∈ badFrom i pages ↔ ∃ j s, pages[j]? = some s ∧ q = i + j ∧ readPage s.hdr s.body = .error .corrupted := by
  induction pages generalizing i with
  | nil => simp [badFrom]
  | cons s rest ih =>
    -- the index into `s :: rest` is 0 or a successor
    have hidx : (∃ j t, (s :: rest)[j]? = some t ∧ q = i + j ∧ readPage t.hdr t.body = .error .corrupted) ↔
        (q = i ∧ readPage s.hdr s.body = .error .corrupted) ∨ q ∈ badFrom (i + 1) rest := by
      rw [ih]
      constructor
      · rintro ⟨j, t, h1, h2, h3⟩
        cases j with
        | zero => cases h1; exact .inl ⟨h2, h3⟩
        | succ j => exact .inr ⟨j, t, h1, by omega, h3⟩
      · rintro (⟨h2, h3⟩ | ⟨j, t, h1, h2, h3⟩)
        · exact ⟨0, s, rfl, h2, h3⟩
        · exact ⟨j + 1, t, h1, by omega, h3⟩
    rw [hidx, badFrom]
    split <;> simp [*]

theorem mem_badOf (pages : List Stored) (q : Nat) :
    q ∈ badOf pages ↔ ∃ s, pages[q]? = some s ∧ readPage s.hdr s.body = .error .corrupted := by
  unfold badOf
  rw [mem_badFrom]
  constructor
  · rintro ⟨j, s, h1, h2, h3⟩
    exact ⟨s, by rw [h2]; simpa using h1, h3⟩
  · rintro ⟨s, h1, h2⟩
    exact ⟨q, s, h1, by omega, h2⟩

/-- the page-granularity view of a stored chunk for the seek machine: row counts come from the
    decoder (`rows`), the corrupted set from the loader of this model -/
def seekChunk (c : PageLoad.Chunk) (rows : List Nat) : Seek.Chunk :=
  { rows := rows, dict := c.dict.isSome, bad := badOf c.pages }

/-- the state of the repaired reader after a history of operations, from a fresh reader (the `foldl` form of
    `Seek.ReachFixed`) -/
def reach (c : Seek.Chunk) (hasIndex : Bool) (ops : List Seek.Op) : Seek.St :=
  ops.foldl (fun s op => (Seek.stepFixed c s op).1) (Seek.init hasIndex)

theorem reach_inv (c : Seek.Chunk) (hpos : ∀ r ∈ c.rows, 0 < r) (hi : Bool) (ops : List Seek.Op) :
    Seek.SInv c (reach c hi ops) :=
  List.foldlRecOn ops _ (Seek.init_inv c hi) fun s hs op _ => Seek.stepFixed_inv c hpos s op hs

end PqModel.PageStep
