import PqModel.RleDecodeLemmas

/-! # MIRROR of the portable `bitpack.Unpack` kernel for int64 as the DELTA decoder uses it; each value it
returns is the LSB-first field that `Bits.unpackBits` (with which the decoder mirror `goMinis` is written)
reads (property C04, part delta; the whole-kernel statement is `C04Delta.unpack64_kernel`).

`decodeInt32` / `decodeInt64` (binary_packed.go:327 / 390) call `bitpack.Unpack(out[…:…+n],
miniBlockData, bitWidth)` on a buffer that holds the miniblock followed by at least
`bitpack.PaddingInt32 = 16` / `PaddingInt64 = 32` readable bytes. On the purego build this is
`unpackInt32` / `unpackInt64` of github.com/parquet-go/bitpack@v1.0.3. The INT32 kernel is mirrored
in `PqModel/RleDecode.lean` (`goUnpackInt32`, shared with the RLE decoder) and proved in
`PqModel/RleDecodeLemmas.lean` (`goUnpackInt32_eq`); the INT64 kernel, which assembles a value from up to THREE 32-bit words, is
mirrored here. The assembly kernels of the default build are tied to the same function
by the L2 comparison `delta.unpack32/64` only.

Reading of the fixed-width operations (as in RleDecode.lean): `(x & (mask << j)) >> j` with a
`w`-bit mask is `(x / 2^j) % 2^w`; `x & (mask >> k)` is `x % 2^(w-k)`; `<< k` on a value that stays
below 2^64 is `* 2^k`; `|` of disjoint bit ranges is `+`. -/
namespace PqModel.Delta
open PqModel.Bits PqModel.Rle

/-- MIRROR bitpack `unpack_int64_purego.go:5-27` `unpackInt64`, value number `n`:
`i, j := off/32, off%32`; `d := (uint64(bits[i]) & (bitMask << j)) >> j`; if `j+w > 32`,
`k := 32-j; d |= (uint64(bits[i+1]) & (bitMask >> k)) << k`; if moreover `j+w > 64`,
`k := 64-j; d |= (uint64(bits[i+2]) & (bitMask >> k)) << k`. -/
def goUnpackInt64Value (w : Nat) (src : List Nat) (n : Nat) : Nat :=
  let i := n * w / 32
  let j := n * w % 32
  let d := (le32At src i / 2 ^ j) % 2 ^ w
  if j + w > 32 then
    let d2 := d + (le32At src (i + 1) % 2 ^ (w - (32 - j))) * 2 ^ (32 - j)
    if j + w > 64 then d2 + (le32At src (i + 2) % 2 ^ (w - (64 - j))) * 2 ^ (64 - j) else d2
  else d

/-- MIRROR `bitpack.Unpack(out, in, w)` for `int64` as called at binary_packed.go:390: `in` is
followed by `bitpack.PaddingInt64 = 32` readable bytes whose content does not matter for the `n`
values read (modelled as zeros). -/
def goUnpackInt64 (w n : Nat) (src : List Nat) : List Nat :=
  (List.range n).map (goUnpackInt64Value w (src ++ List.replicate 32 0))

theorem goUnpackInt64Value_field (w : Nat) (hw : w ≤ 64) (src : List Nat) (hb : ∀ b ∈ src, b < 256) (n : Nat) :
    goUnpackInt64Value w src n = field (leNat src) (n * w) w := by
  simp only [goUnpackInt64Value]
  have hj : n * w % 32 < 32 := Nat.mod_lt _ (by omega)
  rw [show field (leNat src) (n * w) w = field (leNat src) (32 * (n * w / 32) + n * w % 32) w by rw [Nat.div_add_mod]]
  generalize n * w / 32 = i
  generalize n * w % 32 = j at hj
  rw [le32At_field src hb, le32At_field src hb, le32At_field src hb, field_shr_mod, field_mod, field_mod]
  have e1 : 32 * i + j + (32 - j) = 32 * (i + 1) := by omega
  split
  · rw [Nat.min_eq_right (show 32 - j ≤ w by omega)]
    split
    · -- three words: `32 - j` bits, a whole word, `w - (64 - j)` bits
      have e : w = (32 - j) + (32 + (w - (64 - j))) := by omega
      have hp : 2 ^ (64 - j) = 2 ^ (32 - j) * 2 ^ 32 := by rw [← Nat.pow_add]; congr 1; omega
      conv => rhs; rw [e, field_split, field_split, e1]
      rw [Nat.min_eq_right (show 32 ≤ w - (32 - j) by omega), Nat.min_eq_left (show w - (64 - j) ≤ 32 by omega), hp,
        show 32 * (i + 1) + 32 = 32 * (i + 2) by omega, Nat.add_assoc, Nat.mul_add (2 ^ (32 - j)),
        Nat.mul_comm _ (2 ^ (32 - j)), Nat.mul_comm _ (2 ^ (32 - j) * 2 ^ 32), Nat.mul_assoc]
    · -- two words: `32 - j` bits, then `w - (32 - j)`
      have e : w = (32 - j) + (w - (32 - j)) := by omega
      conv => rhs; rw [e, field_split, e1]
      rw [Nat.min_eq_left (show w - (32 - j) ≤ 32 by omega), Nat.mul_comm _ (2 ^ (32 - j))]
  · rw [Nat.min_eq_left (show w ≤ 32 - j by omega)]

end PqModel.Delta
