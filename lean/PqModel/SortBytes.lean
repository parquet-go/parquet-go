import PqModel.SortBuf
import PqModel.Basics
import PqModel.FlatPage

/-! # C10 model — `byteArrayColumnBuffer` (`column_buffer_byte_array.go`)

The column buffer of BYTE_ARRAY leaves (strings, `[]byte`): required columns use it directly, the
optional and repeated buffers use it as their base column. It keeps the value bytes in one array and
describes value `i` by `offsets[i]` and `lengths[i]`; `Swap` exchanges offsets and lengths only, and
`page()` must hand out a `byteArrayPage`, which has NO lengths: value `i` of a page is
`values[offsets[i] : offsets[i+1]]`. So `page()` has to rewrite the bytes in row order whenever they
are not stored back to back in row order.

`page` is the library as repaired; `pageFound` is the code as found (the decision looked at the ORDER
of the offsets only).

Representation: Go keeps the offsets in ONE slice that holds one entry per value and, from `page()`
until the next write (`trimOffsets`), the page's end offset as an extra last entry. The model keeps
that last entry apart (`endOff`), so that the per-value entries always line up with `lengths`. -/
namespace PqModel.SortBuf

structure BACol (B : Type) where
  values : List B
  offsets : List Nat
  endOff : Option Nat := none
  lengths : List Nat
deriving DecidableEq

def BACol.empty {B : Type} : BACol B := { values := [], offsets := [], endOff := none, lengths := [] }

/-- MIRROR `column_buffer_byte_array.go:265-276` `writeByteArray` (one value; `writeNull` is `v = []`, and
    `writeValues` / `writeByteArrays` do the same per element): `trimOffsets`, then the offset is
    the current end of the value bytes -/
def BACol.write {B : Type} (c : BACol B) (v : List B) : BACol B :=
  { values := c.values ++ v, offsets := c.offsets ++ [c.values.length], endOff := none,
    lengths := c.lengths ++ [v.length] }

/-- MIRROR `column_buffer_byte_array.go:132-135` `Swap`: `offsets.Swap(i, j); lengths.Swap(i, j)` (`i`, `j` are row indexes) -/
def BACol.swap {B : Type} (c : BACol B) (i j : Nat) : BACol B :=
  { c with offsets := swapL c.offsets i j, lengths := swapL c.lengths i j }

/-- the value of every row: `byteArrayColumnBuffer.index(i)` (`values[offsets[i] : offsets[i]+lengths[i]]`) for every `i`;
    the list the SPEC steps `baSpecStep` speak of -/
def BACol.view {B : Type} (c : BACol B) : List (List B) :=
  (c.offsets.zip c.lengths).map fun p => slice c.values p.1 p.2

/-- MIRROR the loop of `page()` (`column_buffer_byte_array.go:71-75`): `n := scratch.Len(); scratch.Append(index(i)...); offsets[i] = n` -/
def compactLoop {B : Type} (vals : List B) : List Nat → List Nat → List B → List Nat × List B
  | o :: os, l :: ls, sc =>
    let r := compactLoop vals os ls (sc ++ slice vals o l)
    (sc.length :: r.1, r.2)
  | _, _, sc => ([], sc)

/-- MIRROR `page()` (`column_buffer_byte_array.go:61-82`): rewrite the values in row order if asked to, then leave the end offset behind -/
def BACol.pageWith {B : Type} (rewrite : Bool) (c : BACol B) : BACol B :=
  if rewrite then
    let r := compactLoop c.values c.offsets c.lengths []
    { values := r.2, offsets := r.1, endOff := some r.2.length, lengths := c.lengths }
  else { c with endOff := some c.values.length }

/-- MIRROR `byteArraysAreContiguous(offsets, lengths)` (`column_buffer_byte_array.go:90-99`): the values are stored back to back in row
    order, starting at `e` -/
def contigFrom : Nat → List Nat → List Nat → Bool
  | _, _, [] => true
  | _, [], _ :: _ => false
  | e, o :: os, l :: ls => o == e && contigFrom (e + l) os ls

/-- MIRROR `page()` as repaired -/
def BACol.page {B : Type} (c : BACol B) : BACol B := c.pageWith (!contigFrom 0 c.offsets c.lengths)

def nondecr : List Nat → Bool
  | a :: b :: tl => decide (a ≤ b) && nondecr (b :: tl)
  | _ => true

def nonincr : List Nat → Bool
  | a :: b :: tl => decide (b ≤ a) && nonincr (b :: tl)
  | _ => true

/-- MIRROR `orderOfUint32` (`order_purego.go:9`, which is `orderOf`, `:14-42`; the assembly build computes the same
    function): +1 non-decreasing, -1 non-increasing, 0 neither or fewer than two elements -/
def orderOfNat (xs : List Nat) : Int :=
  if xs.length > 1 then (if nondecr xs then 1 else if nonincr xs then -1 else 0) else 0

/-- MIRROR `page()` AS FOUND: `if len(lengths) > 0 && orderOfUint32(offsets) < 1 { rewrite }`,
    the order being taken over the whole offsets slice (a stale end offset included) -/
def BACol.pageFound {B : Type} (c : BACol B) : BACol B :=
  c.pageWith (decide (c.lengths.length > 0) && decide (orderOfNat (c.offsets ++ c.endOff.toList) < 1))

/-- what a reader of the page handed out by `page()` sees -/
def BACol.pageValues {B : Type} (c : BACol B) : List (List B) := slices c.values (c.offsets ++ c.endOff.toList)

structure BACol.BInv {B : Type} (c : BACol B) : Prop where
  len : c.offsets.length = c.lengths.length
  bnd : ∀ p ∈ c.offsets.zip c.lengths, p.1 + p.2 ≤ c.values.length
  tot : c.values.length = c.lengths.sum

theorem compactLoop_eq {B : Type} (vals : List B) : ∀ (os ls : List Nat) (sc : List B), os.length = ls.length →
    compactLoop vals os ls sc =
      (prefixSums sc.length (((os.zip ls).map fun p => slice vals p.1 p.2).map List.length),
       sc ++ ((os.zip ls).map fun p => slice vals p.1 p.2).flatten) := by
  intro os
  induction os with
  | nil =>
    intro ls sc h
    cases ls with
    | nil => simp [compactLoop, prefixSums]
    | cons _ _ => simp at h
  | cons o os ih =>
    intro ls sc h
    cases ls with
    | nil => simp at h
    | cons l ls =>
      simp only [List.length_cons, Nat.add_right_cancel_iff] at h
      simp only [compactLoop, ih ls _ h, List.zip_cons_cons, List.map_cons, prefixSums, List.flatten_cons,
        List.length_append, List.append_assoc]

theorem map_length_view {B : Type} (vals : List B) : ∀ (os ls : List Nat), os.length = ls.length →
    (∀ p ∈ os.zip ls, p.1 + p.2 ≤ vals.length) →
    ((os.zip ls).map fun p => slice vals p.1 p.2).map List.length = ls := by
  intro os
  induction os with
  | nil =>
    intro ls h _
    cases ls with
    | nil => rfl
    | cons _ _ => simp at h
  | cons o os ih =>
    intro ls h hb
    cases ls with
    | nil => simp at h
    | cons l ls =>
      simp only [List.length_cons, Nat.add_right_cancel_iff] at h
      simp only [List.zip_cons_cons, List.map_cons]
      rw [slice_length (hb (o, l) (by simp)), ih ls h (fun p hp => hb p (by simp [hp]))]

theorem contigFrom_iff : ∀ (ls os : List Nat) (e : Nat), os.length = ls.length →
    (contigFrom e os ls = true ↔ os = prefixSums e ls)
  | [], [], _, _ => by simp [contigFrom, prefixSums]
  | [], _ :: _, _, h => by simp at h
  | _ :: _, [], _, h => by simp at h
  | l :: ls, o :: os, e, h => by
    simp only [contigFrom, prefixSums, Bool.and_eq_true, beq_iff_eq, List.cons.injEq,
      contigFrom_iff ls os (e + l) (by simpa using h)]

theorem contigFrom_prefixSums (ls : List Nat) (e : Nat) : contigFrom e (prefixSums e ls) ls = true :=
  (contigFrom_iff ls _ e (length_prefixSums ls e)).mpr rfl

theorem BACol.binv_empty {B : Type} : (BACol.empty : BACol B).BInv :=
  ⟨rfl, by intro p hp; simp [BACol.empty] at hp, rfl⟩

theorem BACol.binv_write {B : Type} {c : BACol B} (h : c.BInv) (v : List B) : (c.write v).BInv := by
  refine ⟨by simp [BACol.write, h.len], ?_, by simp [BACol.write, h.tot]⟩
  intro p hp
  simp only [BACol.write] at hp ⊢
  rw [List.zip_append h.len] at hp
  simp only [List.zip_cons_cons, List.zip_nil_right, List.mem_append, List.mem_singleton] at hp
  simp only [List.length_append]
  rcases hp with hp | rfl
  · have := h.bnd p hp; omega
  · simp

theorem BACol.view_write {B : Type} {c : BACol B} (h : c.BInv) (v : List B) : (c.write v).view = c.view ++ [v] := by
  simp only [BACol.view, BACol.write]
  rw [List.zip_append h.len, List.map_append]
  congr 1
  · apply List.map_congr_left
    intro p hp
    exact slice_append_left v (h.bnd p hp)
  · simp only [List.zip_cons_cons, List.zip_nil_right, List.map_cons, List.map_nil]
    have := slice_mid c.values v []
    simp only [List.append_nil] at this
    rw [this]

theorem BACol.binv_swap {B : Type} {c : BACol B} (h : c.BInv) (i j : Nat) : (c.swap i j).BInv := by
  refine ⟨by simp [BACol.swap, length_swapL, h.len], ?_, ?_⟩
  · intro p hp
    simp only [BACol.swap] at hp ⊢
    rw [zip_swapL h.len] at hp
    exact h.bnd p ((swapL_perm _ i j).mem_iff.mp hp)
  · simp only [BACol.swap]
    rw [h.tot]
    exact ((swapL_perm c.lengths i j).sum_nat).symm

theorem BACol.view_swap {B : Type} {c : BACol B} (h : c.BInv) (i j : Nat) : (c.swap i j).view = swapL c.view i j := by
  simp only [BACol.view, BACol.swap]
  rw [zip_swapL h.len, map_swapL]

theorem BACol.pageValues_of_contig {B : Type} {c : BACol B} (h : c.BInv) (hc : contigFrom 0 c.offsets c.lengths = true) :
    ({ c with endOff := some c.values.length } : BACol B).pageValues = c.view := by
  simp only [BACol.pageValues, BACol.view, Option.toList]
  have := slices_prefixSums c.values c.lengths 0
  rw [← (contigFrom_iff c.lengths c.offsets 0 h.len).mp hc, Nat.zero_add, ← h.tot] at this
  exact this

theorem BACol.rewrite_spec {B : Type} {c : BACol B} (h : c.BInv) :
    (c.pageWith true).BInv ∧ (c.pageWith true).view = c.view ∧ (c.pageWith true).offsets = prefixSums 0 c.lengths ∧
    (c.pageWith true).lengths = c.lengths ∧ (c.pageWith true).pageValues = c.view := by
  have hl : c.view.map List.length = c.lengths := map_length_view c.values c.offsets c.lengths h.len h.bnd
  have he : compactLoop c.values c.offsets c.lengths [] = (prefixSums 0 (c.view.map List.length), [] ++ c.view.flatten) :=
    compactLoop_eq c.values c.offsets c.lengths [] h.len
  rw [hl] at he
  have hpw : c.pageWith true =
      ⟨c.view.flatten, prefixSums 0 c.lengths, some c.view.flatten.length, c.lengths⟩ := by
    simp only [BACol.pageWith, if_true, he, List.nil_append]
  have hv : (c.pageWith true).view = c.view := by
    have := map_slice_flatten c.view [] []
    rw [hl] at this
    rw [hpw]
    simpa only [BACol.view, List.length_nil, List.nil_append, List.append_nil] using this
  have hi : (c.pageWith true).BInv := by
    rw [hpw]
    refine ⟨length_prefixSums _ _, fun p hp => ?_, by rw [List.length_flatten]; exact congrArg List.sum hl⟩
    have := prefixSums_bound c.lengths 0 p hp
    simp only [List.length_flatten, hl]
    omega
  refine ⟨hi, hv, by rw [hpw], by rw [hpw], ?_⟩
  have := BACol.pageValues_of_contig hi (by rw [hpw]; exact contigFrom_prefixSums c.lengths 0)
  rw [hv] at this
  rw [← this, hpw]

theorem BACol.page_spec {B : Type} {c : BACol B} (h : c.BInv) :
    c.page.BInv ∧ c.page.view = c.view ∧ c.page.pageValues = c.view := by
  unfold BACol.page
  cases hc : contigFrom 0 c.offsets c.lengths with
  | true =>
    simp only [Bool.not_true, BACol.pageWith, Bool.false_eq_true, if_false]
    exact ⟨⟨h.len, h.bnd, h.tot⟩, rfl, BACol.pageValues_of_contig h hc⟩
  | false =>
    obtain ⟨hi, hv, _, _, hp⟩ := BACol.rewrite_spec h
    exact ⟨hi, hv, hp⟩

inductive BAOp (B : Type) where
  | write (v : List B)
  | swap (i j : Nat)
  | page
deriving DecidableEq

def BACol.step {B : Type} (c : BACol B) : BAOp B → BACol B
  | .write v => c.write v
  | .swap i j => c.swap i j
  | .page => c.page

def BACol.stepFound {B : Type} (c : BACol B) : BAOp B → BACol B
  | .write v => c.write v
  | .swap i j => c.swap i j
  | .page => c.pageFound

/-- SPEC: what the operations mean for the list of row values -/
def baSpecStep {B : Type} (xs : List (List B)) : BAOp B → List (List B)
  | .write v => xs ++ [v]
  | .swap i j => swapL xs i j
  | .page => xs

theorem BACol.step_spec {B : Type} {c : BACol B} (h : c.BInv) (op : BAOp B) :
    (c.step op).BInv ∧ (c.step op).view = baSpecStep c.view op := by
  cases op with
  | write v => exact ⟨BACol.binv_write h v, BACol.view_write h v⟩
  | swap i j => exact ⟨BACol.binv_swap h i j, BACol.view_swap h i j⟩
  | page => exact ⟨(BACol.page_spec h).1, (BACol.page_spec h).2.1⟩

theorem BACol.run_spec {B : Type} (ops : List (BAOp B)) (c : BACol B) (h : c.BInv) :
    (ops.foldl BACol.step c).BInv ∧ (ops.foldl BACol.step c).view = ops.foldl baSpecStep c.view :=
  foldl_sim (R := fun (c : BACol B) xs => c.BInv ∧ c.view = xs)
    (fun _ _ op _ hc => hc.2 ▸ BACol.step_spec hc.1 op) ⟨h, rfl⟩

end PqModel.SortBuf
