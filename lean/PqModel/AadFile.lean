import PqModel.AadSites

/-! # Modular encryption: which modules the reader opens OUTSIDE the page reader, call by call

MIRROR of the reader paths of file.go that open modules from footer metadata, as a state machine
over API calls — every opening goes THROUGH the call-site table `Aad.sites` (the site's module type
and the roles of its ordinal arguments, evaluated at the chunk's position):

* `OpenFile` (file.go:65-333): the footer (site `OpenFile`: the footer envelope, or the signature
  of a plaintext footer), then `decryptAllColumnMetadata` (540-594: every chunk that carries
  `EncryptedColumnMetadata`, row-group-major), then — unless `SkipPageIndex` — `ReadPageIndex`
  (346-538: every column index present, then every offset index present, row-group-major), whose
  results are handed to the chunks (`openColumns`), so that later `ColumnIndex()`/`OffsetIndex()`
  calls open nothing. Bloom filters of encrypted chunks are never read at open (271-273);
* `FileColumnChunk.ColumnIndex()` / `OffsetIndex()` (876-1035): the chunk's own module, once
  (cached in `c.columnIndex` / `c.offsetIndex`), when the file has one for the chunk;
* `FileColumnChunk.BloomFilter()` (922-1098): header module then bitset module, once.

What is a fact of the FILE: which chunks carry sealed column metadata, a column index (chunks
without bounds have none), an offset index, a bloom filter. The reader is assumed to hold every key. -/
namespace PqModel.Aad

structure FChunk where
  sealedMeta : Bool   -- `len(chunk.EncryptedColumnMetadata) > 0`
  hasCI : Bool        -- `ColumnIndexOffset > 0`
  hasOI : Bool        -- `OffsetIndexOffset > 0`
  hasBloom : Bool     -- `MetaData.BloomFilterOffset > 0`
deriving DecidableEq, Repr

abbrev FFile := List (List FChunk)

inductive FOp where
  | openFile (skipPageIndex : Bool)
  | columnIndex (rg col : Nat)
  | offsetIndex (rg col : Nat)
  | bloom (rg col : Nat)
deriving DecidableEq, Repr

structure FSt where
  ci : List (Nat × Nat)     -- chunks whose `columnIndex` pointer is set
  oi : List (Nat × Nat)
  bf : List (Nat × Nat)
  log : List Ev
deriving Repr

/-- the opening a call site makes at position `c`: slot and arguments as the TABLE says (no event
    if the table has no such site — `sites_cover_file_reader` shows it has) -/
def evAt (fn : String) (t : ModType) (c : Coord) : List Ev :=
  match sites.find? (fun s => s.fn == fn && s.t == t) with
  | some s => [⟨s.slot c, s.used c⟩]
  | none => []

/-- all chunks with their positions, row-group-major (`forEachColumnChunk`) -/
def chunksOf (f : FFile) : List (Nat × Nat × FChunk) :=
  (f.zipIdx.map (fun (rg, i) => rg.zipIdx.map (fun (ch, j) => (i, j, ch)))).flatten

def chunkAt (f : FFile) (rg col : Nat) : Option FChunk := (f[rg]?).bind (·[col]?)

/-- does the chunk exist and have the thing -/
def hasAt (f : FFile) (rg col : Nat) (p : FChunk → Bool) : Bool :=
  match chunkAt f rg col with
  | some ch => p ch
  | none => false

def fstep (f : FFile) (s : FSt) : FOp → FSt
  | .openFile skip =>
    let all := chunksOf f
    let footer := evAt "file.go:OpenFile" .footer ⟨0, 0, 0⟩
    let metas := (all.filter (fun x => x.2.2.sealedMeta)).flatMap
      (fun x => evAt "file.go:File.decryptAllColumnMetadata" .columnMeta ⟨x.1, x.2.1, 0⟩)
    let withCI := all.filter (fun x => x.2.2.hasCI)
    let withOI := all.filter (fun x => x.2.2.hasOI)
    let cis := withCI.flatMap (fun x => evAt "file.go:File.ReadPageIndex" .columnIndex ⟨x.1, x.2.1, 0⟩)
    let ois := withOI.flatMap (fun x => evAt "file.go:File.ReadPageIndex" .offsetIndex ⟨x.1, x.2.1, 0⟩)
    if skip then { ci := [], oi := [], bf := [], log := s.log ++ footer ++ metas }
    else { ci := withCI.map (fun x => (x.1, x.2.1)), oi := withOI.map (fun x => (x.1, x.2.1)), bf := [],
           log := s.log ++ footer ++ metas ++ cis ++ ois }
  | .columnIndex rg col =>
    if hasAt f rg col (·.hasCI) && !s.ci.contains (rg, col) then
      { s with ci := (rg, col) :: s.ci,
               log := s.log ++ evAt "file.go:FileColumnChunk.readColumnIndexFrom" .columnIndex ⟨rg, col, 0⟩ }
    else s
  | .offsetIndex rg col =>
    if hasAt f rg col (·.hasOI) && !s.oi.contains (rg, col) then
      { s with oi := (rg, col) :: s.oi,
               log := s.log ++ evAt "file.go:FileColumnChunk.readOffsetIndex" .offsetIndex ⟨rg, col, 0⟩ }
    else s
  | .bloom rg col =>
    if hasAt f rg col (·.hasBloom) && !s.bf.contains (rg, col) then
      { s with bf := (rg, col) :: s.bf,
               log := s.log ++ evAt "file.go:FileColumnChunk.readBloomFilter" .bloomHeader ⟨rg, col, 0⟩
                            ++ evAt "file.go:FileColumnChunk.readBloomFilter" .bloomBits ⟨rg, col, 0⟩ }
    else s

def finit : FSt := { ci := [], oi := [], bf := [], log := [] }

/-- a history of calls: final state and, per call, the number of modules opened so far -/
def frunFrom (f : FFile) : FSt → List FOp → List Nat → FSt × List Nat
  | s, [], acc => (s, acc.reverse)
  | s, o :: ops, acc =>
    let s' := fstep f s o
    frunFrom f s' ops (s'.log.length :: acc)

def frun (f : FFile) (ops : List FOp) : FSt × List Nat := frunFrom f finit ops []

theorem evAt_good (fn : String) (t : ModType) (c : Coord) : ∀ e ∈ evAt fn t c, e.Good := by
  unfold evAt
  split
  · next s hs => exact List.forall_mem_singleton.2 (site_used_eq_slot_used (List.mem_of_find?_eq_some hs) c)
  · exact List.forall_mem_nil _

def FGood (s : FSt) : Prop := ∀ e ∈ s.log, e.Good

theorem fstep_good (f : FFile) (s : FSt) (o : FOp) (h : FGood s) : FGood (fstep f s o) := by
  have app {l l' : List Ev} (hl : ∀ e ∈ l, e.Good) (hl' : ∀ e ∈ l', e.Good) : ∀ e ∈ l ++ l', e.Good :=
    List.forall_mem_append.2 ⟨hl, hl'⟩
  have each {α} (l : List α) (fn : String) (t : ModType) (pos : α → Coord) :
      ∀ e ∈ l.flatMap (fun x => evAt fn t (pos x)), e.Good :=
    List.forall_mem_flatMap.2 fun x _ => evAt_good fn t (pos x)
  cases o with
  | openFile skip =>
    simp only [fstep]
    split
    · exact app (app h (evAt_good _ _ _)) (each _ _ _ _)
    · exact app (app (app (app h (evAt_good _ _ _)) (each _ _ _ _)) (each _ _ _ _)) (each _ _ _ _)
  | columnIndex rg col =>
    simp only [fstep]
    split
    · exact app h (evAt_good _ _ _)
    · exact h
  | offsetIndex rg col =>
    simp only [fstep]
    split
    · exact app h (evAt_good _ _ _)
    · exact h
  | bloom rg col =>
    simp only [fstep]
    split
    · exact app (app h (evAt_good _ _ _)) (evAt_good _ _ _)
    · exact h

theorem frunFrom_good (f : FFile) (ops : List FOp) (s : FSt) (acc : List Nat) (h : FGood s) : FGood (frunFrom f s ops acc).1 := by
  fun_induction frunFrom f s ops acc
  case case1 => exact h
  case case2 ih => exact ih (fstep_good f _ _ h)

end PqModel.Aad
