import PqModel.MergeRefine

/-! # C09 — merged row groups as inputs of a merge (nesting)

SPEC + proof about the planner MIRROR: the column chunks of a merged row group list the pages of
its members one member after the other, while `Rows()` interleaves the members' rows. What such a
page index says about the rows is only `CoveredBy`: every key lies within the bounds of *some*
non-null page. `scanRange` (merge.go, interleaved branch of `rowGroupRangeOfSortedColumns`) yields
bounds that are valid under that hypothesis alone (`scanRange_covers`), whereas the first-page /
last-page rule used for ordinary row groups is not (`firstLast_misses_row`, the defect
`Merge(Merge(A[0..100], B[50..60]), C[70..80])`). That a merge of merges is a merge of the leaves is
`isMergeBy_nested` of MergePlan.lean. -/
namespace PqModel.Refine
open PqModel.Compare

/-- what a page index whose pages are not in row order says about a first-column key `v` of the row
    group: some non-null page bounds it -/
def CoveredBy (pages : List PageStat) (v : Int) : Prop :=
  ∃ p ∈ pages, p.nullPage = false ∧ ∃ mn mx, p.min = some mn ∧ p.max = some mx ∧ mn ≤ v ∧ v ≤ mx

/-- one step of `scanRange`: the function it folds, written out again under a name (`scanRange_eq` is `rfl`) -/
def scanStep (desc : Bool) (acc : Int × Option Int) (p : PageStat) : Int × Option Int :=
  if p.nullPage then acc else
  ((match (if desc then p.max else p.min) with
    | some v => if ord desc v < ord desc acc.1 then v else acc.1
    | none => acc.1),
   (match (if desc then p.min else p.max), acc.2 with
    | some v, some a => if ord desc v > ord desc a then some v else some a
    | some v, none => some v
    | none, a => a))

theorem scanRange_eq (desc : Bool) (pages : List PageStat) (first : Int) (last : Option Int) :
    scanRange desc pages first last = pages.foldl (scanStep desc) (first, last) := rfl

/-- `acc ≤ acc'` for the running bounds: the first bound only moves earlier, the last only later -/
def Wider (desc : Bool) (a b : Int × Option Int) : Prop :=
  ord desc b.1 ≤ ord desc a.1 ∧ ∀ l, a.2 = some l → ∃ l', b.2 = some l' ∧ ord desc l ≤ ord desc l'

theorem Wider.refl (desc : Bool) (a : Int × Option Int) : Wider desc a a :=
  ⟨Int.le_refl _, fun l h => ⟨l, h, Int.le_refl _⟩⟩

theorem Wider.trans {desc : Bool} {a b c : Int × Option Int} (h1 : Wider desc a b) (h2 : Wider desc b c) :
    Wider desc a c := by
  refine ⟨Int.le_trans h2.1 h1.1, ?_⟩
  intro l hl
  obtain ⟨l', hl', h⟩ := h1.2 l hl
  obtain ⟨l'', hl'', h'⟩ := h2.2 l' hl'
  exact ⟨l'', hl'', Int.le_trans h h'⟩

theorem scanStep_wider (desc : Bool) (acc : Int × Option Int) (p : PageStat) : Wider desc acc (scanStep desc acc p) := by
  unfold scanStep
  split
  · exact Wider.refl _ _
  · refine ⟨?_, ?_⟩
    · dsimp only
      split
      · split <;> omega
      · omega
    · intro l hl
      dsimp only
      rw [hl]
      split
      · rename_i v a h1 h2
        cases h2
        split
        · exact ⟨_, rfl, by omega⟩
        · exact ⟨_, rfl, by omega⟩
      · rename_i h2; cases h2
      · exact ⟨l, rfl, Int.le_refl _⟩

theorem foldl_wider (desc : Bool) : ∀ (pages : List PageStat) (acc : Int × Option Int),
    Wider desc acc (pages.foldl (scanStep desc) acc)
  | [], acc => Wider.refl _ _
  | p :: ps, acc => by
    simp only [List.foldl_cons]
    exact (scanStep_wider desc acc p).trans (foldl_wider desc ps _)

/-- after its step, a non-null page lies within the running bounds -/
theorem scanStep_covers (desc : Bool) (acc : Int × Option Int) (p : PageStat) (hn : p.nullPage = false) :
    (∀ v, (if desc then p.max else p.min) = some v → ord desc (scanStep desc acc p).1 ≤ ord desc v) ∧
    (∀ v, (if desc then p.min else p.max) = some v →
      ∃ l, (scanStep desc acc p).2 = some l ∧ ord desc v ≤ ord desc l) := by
  unfold scanStep
  simp only [hn, Bool.false_eq_true, ↓reduceIte]
  refine ⟨?_, ?_⟩
  · intro v hv
    rw [hv]
    dsimp only
    split <;> omega
  · intro v hv
    rw [hv]
    cases acc.2 with
    | none => exact ⟨v, rfl, Int.le_refl _⟩
    | some a =>
      dsimp only
      split
      · exact ⟨v, rfl, Int.le_refl _⟩
      · exact ⟨a, rfl, by omega⟩

theorem foldl_covers (desc : Bool) : ∀ (pages : List PageStat) (acc : Int × Option Int) (p : PageStat),
    p ∈ pages → p.nullPage = false →
    (∀ v, (if desc then p.max else p.min) = some v → ord desc (pages.foldl (scanStep desc) acc).1 ≤ ord desc v) ∧
    (∀ v, (if desc then p.min else p.max) = some v →
      ∃ l, (pages.foldl (scanStep desc) acc).2 = some l ∧ ord desc v ≤ ord desc l)
  | [], _, _, h, _ => by cases h
  | q :: qs, acc, p, h, hn => by
    simp only [List.foldl_cons]
    rcases List.mem_cons.mp h with rfl | h
    · have hc := scanStep_covers desc acc p hn
      have hw := foldl_wider desc qs (scanStep desc acc p)
      refine ⟨fun v hv => Int.le_trans hw.1 (hc.1 v hv), ?_⟩
      intro v hv
      obtain ⟨l, hl, hle⟩ := hc.2 v hv
      obtain ⟨l', hl', hle'⟩ := hw.2 l hl
      exact ⟨l', hl', Int.le_trans hle hle'⟩
    · exact foldl_covers desc qs _ p h hn

/-- the bounds of an interleaved row group are valid for any page order and whatever the starting values -/
theorem scanRange_covers (desc : Bool) (pages : List PageStat) (first : Int) (last : Option Int) (v : Int)
    (h : CoveredBy pages v) :
    ord desc (scanRange desc pages first last).1 ≤ ord desc v ∧
    ∃ l, (scanRange desc pages first last).2 = some l ∧ ord desc v ≤ ord desc l := by
  obtain ⟨p, hp, hn, mn, mx, hmn, hmx, h1, h2⟩ := h
  rw [scanRange_eq]
  have hc := foldl_covers desc pages (first, last) p hp hn
  cases desc with
  | false =>
    simp only [Bool.false_eq_true, if_false] at hc
    have a := hc.1 mn hmn
    obtain ⟨l, hl, b⟩ := hc.2 mx hmx
    simp only [ord, Bool.false_eq_true, if_false] at a b ⊢
    exact ⟨by omega, l, hl, by omega⟩
  | true =>
    simp only [if_true] at hc
    have a := hc.1 mx hmx
    obtain ⟨l, hl, b⟩ := hc.2 mn hmn
    simp only [ord, if_true] at a b ⊢
    exact ⟨by omega, l, hl, by omega⟩

/-- the range the mirror computes for the first column of an interleaved row group bounds every
    covered key -/
theorem colRange_interleaved_covers (s : ColSpec) (pages : List PageStat) (lo hi : Option Int)
    (hnn : pages.any (fun p => p.nullPage || p.hasNulls) = false)
    (h : colRange s pages true = some (lo, hi)) (v : Int) (hv : CoveredBy pages v) :
    ∃ a b, lo = some a ∧ hi = some b ∧ ord s.desc a ≤ ord s.desc v ∧ ord s.desc v ≤ ord s.desc b := by
  simp only [colRange] at h
  cases hf : pages.findSome? (fun p => if p.nullPage then none else (if s.desc then p.max else p.min)) with
  | none => rw [hf] at h; cases h
  | some first0 =>
    rw [hf] at h
    simp only [hnn, Bool.false_eq_true, ↓reduceIte, Option.some.injEq, Prod.mk.injEq] at h
    obtain ⟨h1, h2⟩ := h
    obtain ⟨a, l, hl, b⟩ := scanRange_covers s.desc pages first0
      (pages.reverse.findSome? fun p => if p.nullPage then none else if s.desc then p.min else p.max) v hv
    exact ⟨_, l, h1.symm, by rw [← h2, hl], a, b⟩

/-- the pages of `Merge(A[0..100], B[50..60])` as its column index lists them: A's page, then B's -/
def nestedWitnessPages : List PageStat :=
  [{ nullPage := false, hasNulls := false, min := some 0, max := some 100 },
   { nullPage := false, hasNulls := false, min := some 50, max := some 60 }]

/-- the defect: with the first-page / last-page rule the row group gets the range
    `[0, 60]`, which misses its own key 70 (bounded by the first page) — so `C[70..80]` was taken for
    disjoint and appended. The scan gives `[0, 100]`. -/
theorem firstLast_misses_row :
    CoveredBy nestedWitnessPages 70 ∧
    colRange { desc := false, nullsFirst := false } nestedWitnessPages false = some (some 0, some 60) ∧
    colRange { desc := false, nullsFirst := false } nestedWitnessPages true = some (some 0, some 100) := by
  refine ⟨⟨_, List.mem_cons_self, rfl, 0, 100, rfl, rfl, by omega, by omega⟩, by decide, by decide⟩

theorem hasCuts_flags {strict : Bool} {t : Target} (h : hasCuts strict t = true) :
    t.interleaved = false ∧ t.dropsRows = false ∧ t.supportsRanges = true := by
  unfold hasCuts at h
  split at h
  · cases h
  · simp only [Bool.and_eq_true, Bool.not_eq_true'] at h
    exact ⟨h.1.1.2, h.1.2, h.2⟩

theorem interleaved_no_cuts (strict : Bool) (t : Target) (h : t.interleaved = true) : hasCuts strict t = false :=
  Bool.eq_false_iff.mpr fun hc => by rw [(hasCuts_flags hc).1] at h; cases h

end PqModel.Refine
