import PqModel.ThriftSkip

/-! MIRROR of the TYPED Thrift decoder of `encoding/thrift` over the bytes-backed compact reader
    (the decoder `OpenFile` runs on the footer: `thrift.Unmarshal(protocol, footer, &format.FileMetaData)`):

    * `decode.go:112-170` `DecodeFuncOf` dispatch on the Go type, `decodeFuncStructFieldOf` (enum -> int32),
      `decodeFuncPtrOf` and `Null[T].DecodeFunc` (null.go:57-66) which are transparent for what is read;
    * `decode.go:172-239` the scalar decoders `decodeBool/Int8/Int16/Int32/Int64/Float64/String/Bytes`
      over `compactBytesReader.ReadBool/ReadInt8/…/ReadBytes/ReadString` (compact.go:399-458);
    * `decode.go:241-289` `decodeFuncSliceOf` and its twin `Slice[T].DecodeFunc` (list.go:53-96): `ReadList`,
      TRUE -> BOOL, element type test (non-strict: `skipListItems`), **allocation of the announced size**,
      element loop;
    * `decode.go:405-520` `structDecoder.decode`: the `ReadField` loop, delta ids (int16 wraparound),
      field lookup, unknown / type-mismatched field -> `skip`, coalesced bool fields, `field.decode`,
      the required-field check after STOP;
    * `union.go:226-290` `unionDecoder.decode`: the same loop with `known` = "a member has this id", the type
      test against STRUCT and no required set - run here as the struct loop over the members taken as
      optional struct-typed fields.

    The Go decoder is driven by the reflected Go type; here by a SCHEMA DESCRIPTION `Ty` (field id, required
    flag, type), which the harness derives by reflection from the real `format` types. Values are read with
    their range checks and dropped: the mirror keeps the read offset, the error class, the set of field ids
    seen, and the size handed to `make` / `reflect.MakeSlice`. The sparse id-indexed table `dec.fields` is a
    list searched by id, the `seen` bitmap a list of ids. Non-strict mode (what `Unmarshal` and `OpenFile`
    use). Not mirrored: maps and sets (package format has none), the `Strict` flag, decoding into a reused
    (non-nil) target, the `clearUnseen` pass (it reads nothing). -/
namespace PqModel.ThriftDecode
open PqModel.IoFault (Bytes)
open PqModel.ThriftSkip

/-- schema description: what `DecodeFuncOf` makes of a Go type. A field is (id, required, type). -/
inductive Ty where
  | bool | i8 | i16 | i32 | i64 | double | binary
  | list (e : Ty)
  | struct (fs : List (Int × Bool × Ty))
  | union (ms : List (Int × Ty))

abbrev FieldD := Int × Bool × Ty

/-- MIRROR thrift.go:132-177 `TypeOf` (BOOL = FALSE = 2) -/
def wire : Ty → Nat
  | .bool => 2 | .i8 => 3 | .i16 => 4 | .i32 => 5 | .i64 => 6 | .double => 7 | .binary => 8
  | .list _ => 9 | .struct _ => 12 | .union _ => 12

/-- error classes of the typed decoder: those of the reader and the walk, `MissingField`, and the
    environment refusing an allocation of `n` elements (see `mem` below) -/
inductive TErr where
  | sk (e : SkErr)
  | missing (id : Int)
  | oom (n : Nat)
  deriving DecidableEq, Repr

abbrev TR := Except TErr Nat

/-- `dontExpectEOF` / `with(…)` only rewrite io.EOF -/
def mapE (fe : SkErr → SkErr) : TErr → TErr
  | .sk e => .sk (fe e)
  | e => e

/-- a reader primitive (or the skip walk) followed by the rest -/
def lift {α} (r : PR α) (fe : SkErr → SkErr) (k : α → Nat → TR) : TR :=
  match r with
  | .error e => .error (.sk (fe e))
  | .ok (a, p) => k a p

def seqT (r : TR) (fe : SkErr → SkErr) (k : Nat → TR) : TR :=
  match r with
  | .error e => .error (mapE fe e)
  | .ok p => k p

/-- MIRROR compact.go:434-458 `ReadBytes` / `ReadString`: `ReadLength`, bounds check, advance -/
def readBinary (d : Bytes) (pos : Nat) : PR Unit :=
  seq (readUvarint maxInt32 d pos) id fun n p =>
    if p + n > d.length then .error .ueof else .ok ((), p + n)

/-- MIRROR compact.go:492-515 `ReadField` with the id kept: `none` = STOP, else
    (type, id as read, Delta flag) -/
def readFieldT (d : Bytes) (pos : Nat) : PR (Option (Nat × Int × Bool)) :=
  seq (readByte d pos) id fun b p =>
    if b == 0 then .ok (none, p)
    else if b.toNat / 16 != 0 then
      .ok ((if b.toNat % 16 == 0 then none else some (b.toNat % 16, ((b.toNat / 16 : Nat) : Int), true)), p)
    else seq (readInt16 d p) dontExpectEOF fun i q => .ok (some (b.toNat, i, false), q)

/-- int16 wraparound of `f.ID += lastFieldID` (decode.go:436-439) -/
def wrap16 (x : Int) : Int := (x + 32768) % 65536 - 32768

/-- `dec.fields[int(f.ID) - int(dec.minID)]` with `decode != nil` (decode.go:441-445) -/
def lookup (fs : List FieldD) (id : Int) : Option FieldD := fs.find? fun fd => fd.1 == id

/-- MIRROR decode.go:484-497: the required field of lowest index (= lowest id) that was not seen -/
def firstMissing (fs : List FieldD) (seen : List Int) : Option Int :=
  fs.foldl (fun acc fd =>
    if fd.2.1 && !seen.contains fd.1 then
      (match acc with
       | none => some fd.1
       | some a => some (if fd.1 < a then fd.1 else a))
    else acc) none

/-- the allocator: `mem = some m` refuses a slice of more than `m` elements, `none` grants everything -/
def over (mem : Option Nat) (n : Nat) : Bool :=
  match mem with
  | some m => decide (m < n)
  | none => false

inductive DTask where
  | val (t : Ty)                                  -- the DecodeFunc of a type
  | elems (t : Ty) (n : Nat)                      -- element loop of a list, `n` to go
  | fields (fs : List FieldD) (first : Bool) (last : Int) (seen : List Int)
                                                  -- loop of structDecoder.decode; first = (numFields == 0)

/-- MIRROR (see the header). Every call spends one unit of fuel; the walk it falls back to
    (`skipT`) runs on the same fuel. -/
def decT (mem : Option Nat) (d : Bytes) : Nat → DTask → Nat → TR
  | 0, _, _ => .error (.sk .fuel)
  | f + 1, .val t, pos =>
    match t with
    | .bool => lift (readByte d pos) id fun _ p => .ok p
    | .i8 => lift (readByte d pos) id fun _ p => .ok p
    | .i16 => lift (readInt16 d pos) id fun _ p => .ok p
    | .i32 => lift (readInt32 d pos) id fun _ p => .ok p
    | .i64 => lift (readInt64 d pos) id fun _ p => .ok p
    | .double => lift (readFloat d pos) id fun _ p => .ok p
    | .binary => lift (readBinary d pos) id fun _ p => .ok p
    | .list e =>
      lift (readList d pos) id fun l p =>
        if wire e ≠ (if l.1 = 1 then 2 else l.1) then
          lift (skipT d f (.items (if l.1 = 1 then 2 else l.1) l.2) p) id fun _ q => .ok q
        else if over mem l.2 then .error (.oom l.2)
        else decT mem d f (.elems e l.2) p
    | .struct fs => decT mem d f (.fields fs true 0 []) pos
    | .union ms => decT mem d f (.fields (ms.map fun m => (m.1, false, m.2)) true 0 []) pos
  | _ + 1, .elems _ 0, pos => .ok pos
  | f + 1, .elems t (n + 1), pos =>
    seqT (decT mem d f (.val t) pos) dontExpectEOF fun p => decT mem d f (.elems t n) p
  | f + 1, .fields fs first last seen, pos =>
    lift (readFieldT d pos) (if first then id else dontExpectEOF) fun h p =>
      match h with
      | none =>
        (match firstMissing fs seen with
         | some id => .error (.missing id)
         | none => .ok p)
      | some (ty, raw, delta) =>
        let fid := if delta then wrap16 (raw + last) else raw
        match lookup fs fid with
        | none =>
          lift (skipT d f (.val ty) p) dontExpectEOF fun _ q => decT mem d f (.fields fs false fid seen) q
        | some fd =>
          if ty ≠ wire fd.2.2 ∧ ¬(ty = 1 ∧ wire fd.2.2 = 2) then
            lift (skipT d f (.val ty) p) dontExpectEOF fun _ q => decT mem d f (.fields fs false fid seen) q
          else if ty = 1 ∨ ty = 2 then decT mem d f (.fields fs false fid (fid :: seen)) p
          else
            seqT (decT mem d f (.val fd.2.2) p) dontExpectEOF fun q =>
              decT mem d f (.fields fs false fid (fid :: seen)) q

/-- fuel for an input: twice the walk's bound; what a run needs is `needD` (ThriftDecodeFuel.lean; `4·rem + 5..7`: the two
    wrappers `elems` and `val` in front of `fields`), which this is above -/
def fuelD (d : Bytes) : Nat := 2 * fuelFor d

/-- MIRROR `NewDecoder(r).Decode(&v)` for a struct type `fs` on a fresh reader over `d`: the offset after
    the struct (`r.BytesRead()`) -/
def decStruct (mem : Option Nat) (fs : List FieldD) (d : Bytes) : TR :=
  decT mem d (fuelD d) (.fields fs true 0 []) 0

inductive UErr where
  | dec (e : TErr)
  | trailing (n : Nat)
  deriving DecidableEq, Repr

/-- MIRROR decode.go:26-38 `Unmarshal`: decode, then no trailing bytes -/
def unmarshal (mem : Option Nat) (fs : List FieldD) (d : Bytes) : Except UErr Unit :=
  match decStruct mem fs d with
  | .error e => .error (.dec e)
  | .ok n => if d.length - n != 0 then .error (.trailing (d.length - n)) else .ok ()

end PqModel.ThriftDecode
