namespace PqModel.RowsSeek

/-! # `rowGroupRows` (row_group.go): `rowIndex` bookkeeping of SeekToRow / ReadRows / Reset (C08)

The row reader keeps one value reader per column and remembers in `rowIndex` the row they stand
on, so that `SeekToRow(rowIndex)` is free. The model abstracts the columns to the row they all
stand on (`pos`) plus a ghost flag `torn` (a failed `ReadRows` advanced some columns only).

* MIRROR of the code before the repairs: `stepAsis`; of the repaired code (`Reset` resets
  `rowIndex`; a failed read is remembered in `err`, repeated by reads and repaired by the next
  seek): `stepFixed` (row_group.go:246-255 `Reset`, 272-288 `SeekToRow`, 289-370 `ReadRows`).
* SPEC: `check` — the reference position is `some p`, or `none` between a failed read and the next
  seek / Reset; a read at `some p` returns rows `p..`, a read at `none` must fail.

`readFail` is a `ReadRows` call during which a column reader reports an error (for instance a
page whose checksum does not match); which calls fail is the environment's choice. -/

structure St where
  rowIndex : Int    -- r.rowIndex, -1 before the first read
  pos : Nat         -- the row the column readers stand on
  torn : Bool       -- ghost: the column readers stand on different rows
  failed : Bool     -- r.err != nil (repaired code only)
deriving Repr, DecidableEq

inductive Op where
  | seek (k : Nat)
  | read (n : Nat)
  | readFail
  | reset
deriving Repr, DecidableEq

inductive Out where
  | ok
  | rows (start len : Nat) (garbage : Bool)  -- ReadRows returned rows start..start+len-1 (or misaligned columns)
  | fail
deriving Repr, DecidableEq

def init : St := { rowIndex := -1, pos := 0, torn := false, failed := false }

/-- the healthy part of `ReadRows` (row_group.go `ReadRows`): first call seeks to 0, then rows are
    assembled from the column readers and `rowIndex` advances by what was returned -/
def readRows (total : Nat) (s : St) (n : Nat) : St × Out :=
  let s := if s.rowIndex < 0 then { s with rowIndex := 0, pos := 0, torn := false } else s
  let len := min n (total - s.pos)
  ({ s with rowIndex := s.rowIndex + len, pos := s.pos + len }, .rows s.pos len s.torn)

/-- MIRROR before the repairs -/
def stepAsis (total : Nat) (s : St) : Op → St × Out
  | .seek k => if (k : Int) ≠ s.rowIndex then ({ s with rowIndex := k, pos := k, torn := false }, .ok) else (s, .ok)
  | .read n => readRows total s n
  | .readFail => ({ s with torn := true }, .fail)
  | .reset => ({ s with pos := 0, torn := false }, .ok)

/-- MIRROR of the repaired code -/
def stepFixed (total : Nat) (s : St) : Op → St × Out
  | .seek k =>
    if (k : Int) ≠ s.rowIndex ∨ s.failed then ({ rowIndex := k, pos := k, torn := false, failed := false }, .ok) else (s, .ok)
  | .read n => if s.failed then (s, .fail) else readRows total s n
  | .readFail => if s.failed then (s, .fail) else ({ s with torn := true, failed := true }, .fail)
  | .reset => ({ rowIndex := 0, pos := 0, torn := false, failed := false }, .ok)

def outs (step : St → Op → St × Out) : St → List Op → List Out
  | _, [] => []
  | s, op :: ops => (step s op).2 :: outs step (step s op).1 ops

/-- SPEC: check a trace against the reference reader -/
def check (total : Nat) : Option Nat → List Op → List Out → Bool
  | _, [], [] => true
  | _, .seek k :: ops, .ok :: os => check total (some k) ops os
  | _, .reset :: ops, .ok :: os => check total (some 0) ops os
  | some p, .read n :: ops, .rows st len g :: os =>
    decide (st = p ∧ len = min n (total - p) ∧ g = false) && check total (some (p + len)) ops os
  | none, .read _ :: ops, .fail :: os => check total none ops os
  | _, .readFail :: ops, .fail :: os => check total none ops os
  | _, _, _ => false

/-- invariant tying the repaired reader to the reference position -/
def Rel (s : St) : Option Nat → Prop
  | none => s.failed = true
  | some p => s.failed = false ∧ s.torn = false ∧
      ((s.rowIndex < 0 ∧ p = 0) ∨ (s.rowIndex = (p : Int) ∧ s.pos = p))

/-- **every history of the repaired row reader is a run of the reference reader** -/
theorem fixed_refines (total : Nat) : ∀ (ops : List Op) (s : St) (r : Option Nat), Rel s r →
    check total r ops (outs (stepFixed total) s ops) = true
  | [], _, _, _ => rfl
  | op :: ops, s, r, h => by
    cases op with
    | seek k =>
      simp only [outs, stepFixed]
      split
      · simp only [check]
        exact fixed_refines total ops _ (some k) ⟨rfl, rfl, Or.inr ⟨rfl, rfl⟩⟩
      · rename_i hc
        simp only [check]
        apply fixed_refines total ops s (some k)
        have h1 : (k : Int) = s.rowIndex := Decidable.not_not.mp (not_or.mp hc).1
        have h2 : s.failed = false := Bool.eq_false_iff.mpr (not_or.mp hc).2
        cases r with
        | none => simp [Rel, h2] at h
        | some p =>
          obtain ⟨_, ht, h3⟩ := h
          rcases h3 with ⟨a, _⟩ | ⟨a, b⟩
          · omega
          · refine ⟨h2, ht, Or.inr ⟨h1.symm, ?_⟩⟩
            have : (k : Int) = (p : Int) := by omega
            omega
    | reset =>
      simp only [outs, stepFixed, check]
      exact fixed_refines total ops _ (some 0) ⟨rfl, rfl, Or.inr ⟨rfl, rfl⟩⟩
    | readFail =>
      simp only [outs, stepFixed]
      split
      · rename_i hf
        cases r <;> simp only [check] <;> exact fixed_refines total ops s none hf
      · cases r <;> simp only [check] <;> exact fixed_refines total ops _ none rfl
    | read n =>
      cases r with
      | none =>
        have hf : s.failed = true := h
        simp only [outs, stepFixed, hf, if_true, check]
        exact fixed_refines total ops s none hf
      | some p =>
        obtain ⟨hf, ht, h3⟩ := h
        simp only [outs, stepFixed, hf, Bool.false_eq_true, if_false, readRows]
        rcases h3 with ⟨a, rfl⟩ | ⟨a, b⟩
        · simp only [a, if_true, check, Bool.and_eq_true, decide_eq_true_eq]
          refine ⟨by simp, ?_⟩
          apply fixed_refines total ops _ (some (0 + min n (total - 0)))
          exact ⟨by simp, by simp, Or.inr ⟨by simp, by simp⟩⟩
        · have hneg : ¬ s.rowIndex < 0 := by omega
          simp only [hneg, if_false, check, Bool.and_eq_true, decide_eq_true_eq]
          refine ⟨⟨b, by rw [b], ht⟩, ?_⟩
          rw [b]
          apply fixed_refines total ops _ (some (p + min n (total - p)))
          refine ⟨hf, ht, Or.inr ⟨by simp [a], by simp⟩⟩

theorem init_rel : Rel init (some 0) := ⟨rfl, rfl, Or.inl ⟨by decide, rfl⟩⟩

/-- the histories of the two findings, on the mirror of the unchanged code (100 rows):
    read 5, Reset, SeekToRow(5), read → rows 0..4;
    a failed read, SeekToRow(rowIndex), read → misaligned columns returned as rows -/
def histReset : List Op := [.read 5, .reset, .seek 5, .read 5]
def histFail : List Op := [.read 5, .readFail, .seek 5, .read 1]

example : outs (stepAsis 100) init histReset = [.rows 0 5 false, .ok, .ok, .rows 0 5 false] := by decide
example : outs (stepFixed 100) init histReset = [.rows 0 5 false, .ok, .ok, .rows 5 5 false] := by decide
example : outs (stepAsis 100) init histFail = [.rows 0 5 false, .fail, .ok, .rows 5 1 true] := by decide
example : outs (stepFixed 100) init histFail = [.rows 0 5 false, .fail, .ok, .rows 5 1 false] := by decide

end PqModel.RowsSeek
