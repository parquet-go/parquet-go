import PqModel.SortCmp
import PqModel.MergeSpec
import PqModel.Dedupe

/-! # C10 model — the `SortingWriter` composition

`sorting.go`: rows are buffered in a `RowBuffer`; every `sortRowCount` rows (and at `Flush`/`Close`)
the buffer is sorted, optionally deduplicated, and written as one row group of a temporary file;
`Close` merges the row groups (`MergeRowGroups`, C09) into the output, dropping duplicates if
configured. The composition lemmas are stated against `Merge.IsMerge`, so that every merge path proved in C09
(row readers, refined segment plans) plugs in. -/
namespace PqModel.SortBuf
open PqModel.Merge

/-- SPEC: the runs of a writer that is never flushed explicitly: the consecutive chunks of `n` rows (explicit fuel).
    The mirror of the `writeRows` loop is `SW.writeLoop` (`SortCuts.lean`). -/
def chunks {R : Type} (n : Nat) : Nat → List R → List (List R)
  | 0, _ => []
  | fuel + 1, l => if l = [] then [] else l.take n :: chunks n fuel (l.drop n)

theorem chunks_flatten {R : Type} {n : Nat} (hn : 1 ≤ n) (fuel : Nat) (l : List R) (h : l.length ≤ fuel) :
    (chunks n fuel l).flatten = l := by
  fun_induction chunks n fuel l with
  | case1 l => exact (List.eq_nil_of_length_eq_zero (by omega)).symm
  | case2 => rfl
  | case3 fuel l e ih =>
    have hl : 0 < l.length := List.length_pos_iff.mpr e
    rw [List.flatten_cons, ih (by rw [List.length_drop]; omega), List.take_append_drop]

theorem chunks_nil {R : Type} (n fuel : Nat) : chunks n fuel ([] : List R) = [] := by
  cases fuel <;> simp [chunks]

theorem chunks_short {R : Type} {n : Nat} (fuel : Nat) (tail : List R) (ht : tail.length ≤ n) (hf : tail.length ≤ fuel) :
    chunks n fuel tail = if tail.isEmpty then [] else [tail] := by
  cases tail with
  | nil => exact chunks_nil n fuel
  | cons a t =>
    cases fuel with
    | zero => simp at hf
    | succ fuel =>
      rw [chunks, if_neg (List.cons_ne_nil a t), List.take_of_length_le ht, List.drop_eq_nil_of_le ht, chunks_nil]
      rfl

theorem chunks_full_runs {R : Type} {n : Nat} (hn : 1 ≤ n) : ∀ (runs : List (List R)) (tail : List R) (fuel : Nat),
    (∀ r ∈ runs, r.length = n) → tail.length ≤ n → (runs.flatten ++ tail).length ≤ fuel →
    chunks n fuel (runs.flatten ++ tail) = runs ++ (if tail.isEmpty then [] else [tail])
  | [], tail, fuel, _, ht, hf => chunks_short fuel tail ht hf
  | r :: runs, tail, fuel, hr, ht, hf => by
    have hrl : r.length = n := hr r (by simp)
    rw [List.flatten_cons, List.append_assoc] at hf ⊢
    rw [List.length_append] at hf
    have hne : r ++ (runs.flatten ++ tail) ≠ [] := by
      intro e
      rw [(List.append_eq_nil_iff.mp e).1, List.length_nil] at hrl
      omega
    cases fuel with
    | zero => omega
    | succ fuel =>
      rw [chunks, if_neg hne, List.take_left' hrl, List.drop_left' hrl,
        chunks_full_runs hn runs tail fuel (fun x hx => hr x (by simp [hx])) ht (by omega), List.cons_append]

/-- the comparator is represented by an integer rank (an order embedding of its quotient; on a whole
    value type it need not exist, on the finite set of rows written it does: `ranked_on_rows_written`) -/
structure Ranked {R : Type} (cmp : R → R → Int) (rank : R → Int) : Prop where
  le_iff : ∀ a b, cmp a b ≤ 0 ↔ rank a ≤ rank b
  anti : ∀ a b, cmp b a = - cmp a b

theorem Ranked.eq_iff {R : Type} {cmp : R → R → Int} {rank : R → Int} (h : Ranked cmp rank) (a b : R) :
    cmp a b = 0 ↔ rank a = rank b := by
  have h1 := h.le_iff a b
  have h2 := h.le_iff b a
  have h3 := h.anti a b
  constructor <;> intro e <;> omega

theorem Ranked.lt_of_rank_lt {R : Type} {cmp : R → R → Int} {rank : R → Int} (h : Ranked cmp rank) {a b : R}
    (hr : rank a < rank b) : cmp a b < 0 := by
  have h2 := h.le_iff b a
  have h3 := h.anti a b
  have : ¬ cmp b a ≤ 0 := fun e => by have := h2.mp e; omega
  omega

theorem Ranked.cmpOk {R : Type} {cmp : R → R → Int} {rank : R → Int} (h : Ranked cmp rank) : CmpOk cmp :=
  ⟨h.anti, fun a b d h1 h2 => (h.le_iff a d).mpr (Int.le_trans ((h.le_iff a b).mp h1) ((h.le_iff b d).mp h2))⟩

theorem dedupRun_none_spec {R : Type} {cmp : R → R → Int} {rank : R → Int} (h : Ranked cmp rank) {s : List R}
    (hs : s.Pairwise (fun a b => cmp a b ≤ 0)) :
    (dedupRun cmp none s).Sublist s ∧ (dedupRun cmp none s).Pairwise (fun a b => rank a < rank b) ∧
    (∀ x ∈ s, ∃ y ∈ dedupRun cmp none s, rank y = rank x) := by
  obtain ⟨a, b, _, d⟩ := dedupRun_spec h.eq_iff s none (hs.imp (fun h' => (h.le_iff _ _).mp h')) (fun la hla => by cases hla)
  refine ⟨a, b, fun x hx => ?_⟩
  rcases d x hx with h' | ⟨la, hla, _⟩
  · exact h'
  · cases hla

/-- the row a tagged merge row `(key, input, seq)` stands for -/
def lookup {R : Type} (ss : List (List R)) (r : Row) : Option R := (ss[r.inp]?).bind (fun s => s[r.seq]?)

def keysOf {R : Type} (rank : R → Int) (ss : List (List R)) : List (List Int) := ss.map (fun s => s.map rank)

theorem keysOf_getD {R : Type} (rank : R → Int) (ss : List (List R)) {i : Nat} (hi : i < ss.length) :
    (List.map (fun s => List.map rank s) ss).getD i [] = ss[i].map rank := by
  simp [List.getD, List.getElem?_map, List.getElem?_eq_getElem hi]

theorem range_filterMap_getElem? {α : Type} (s : List α) : (List.range s.length).filterMap (fun j => s[j]?) = s := by
  have h2 : (List.range s.length).filterMap (fun j => s[j]?) = ((List.range s.length).map (fun j => s[j]?)).filterMap id := by
    rw [List.filterMap_map]; rfl
  rw [h2, map_getElem?_range, List.filterMap_map]
  exact List.filterMap_some

theorem tagList_lookup {R : Type} (rank : R → Int) (ss : List (List R)) {i : Nat} {s : List R} (hi : ss[i]? = some s) :
    (tagList i (s.map rank)).filterMap (lookup ss) = s := by
  unfold tagList
  rw [List.filterMap_map, List.length_map]
  have : (lookup ss ∘ fun j => ({ key := (s.map rank).getD j 0, inp := i, seq := j } : Row)) = fun j => s[j]? := by
    funext j; simp [lookup, hi]
  rw [this, range_filterMap_getElem?]

theorem tagInputs_lookup {R : Type} (rank : R → Int) (ss : List (List R)) :
    (tagInputs (keysOf rank ss)).flatten.filterMap (lookup ss) = ss.flatten := by
  rw [List.filterMap_flatten]
  congr 1
  unfold tagInputs keysOf
  rw [List.map_map, List.length_map]
  apply List.ext_getElem?
  intro i
  rw [List.getElem?_map]
  by_cases hi : i < ss.length
  · rw [List.getElem?_range hi, List.getElem?_eq_getElem hi]
    simp only [Option.map_some, Function.comp]
    congr 1
    rw [keysOf_getD rank ss hi]
    exact tagList_lookup rank ss (List.getElem?_eq_getElem hi)
  · rw [List.getElem?_eq_none (by simpa using hi), List.getElem?_eq_none (by omega)]; rfl

theorem tagInputs_key {R : Type} (rank : R → Int) (ss : List (List R)) :
    ∀ r ∈ (tagInputs (keysOf rank ss)).flatten, ∃ x, lookup ss r = some x ∧ rank x = r.key := by
  intro r hr
  obtain ⟨l, hl, hrl⟩ := List.mem_flatten.mp hr
  unfold tagInputs keysOf at hl
  obtain ⟨i, hi, rfl⟩ := List.mem_map.mp hl
  rw [List.length_map] at hi
  have hi' : i < ss.length := List.mem_range.mp hi
  rw [keysOf_getD rank ss hi'] at hrl
  unfold tagList at hrl
  obtain ⟨j, hj, rfl⟩ := List.mem_map.mp hrl
  rw [List.length_map] at hj
  have hj' : j < ss[i].length := List.mem_range.mp hj
  refine ⟨ss[i][j], ?_, ?_⟩
  · simp [lookup, List.getElem?_eq_getElem hi', List.getElem?_eq_getElem hj']
  · simp [List.getD, List.getElem?_map, List.getElem?_eq_getElem hj']

/-- the output rows of a merge of the runs -/
def untag {R : Type} (ss : List (List R)) (out : List Row) : List R := out.filterMap (lookup ss)

theorem pairwise_untag {R : Type} (rank : R → Int) (ss : List (List R)) {out : List Row} {P : Int → Int → Prop}
    {Q : R → R → Prop} (hPQ : ∀ a b, P (rank a) (rank b) → Q a b)
    (hsub : ∀ r ∈ out, r ∈ (tagInputs (keysOf rank ss)).flatten) (h : out.Pairwise (fun a b => P a.key b.key)) :
    (untag ss out).Pairwise Q := by
  refine List.Pairwise.filterMap (lookup ss) ?_ (List.Pairwise.and_mem.mp h)
  intro a a' ⟨ha, ha', hk⟩ b hb b' hb'
  obtain ⟨x, hx, ex⟩ := tagInputs_key rank ss a (hsub a ha)
  obtain ⟨x', hx', ex'⟩ := tagInputs_key rank ss a' (hsub a' ha')
  rw [hx] at hb; rw [hx'] at hb'
  cases hb; cases hb'
  exact hPQ _ _ (by rw [ex, ex']; exact hk)

theorem untag_isMerge {R : Type} (rank : R → Int) (ss : List (List R)) {out : List Row}
    (hm : IsMerge (tagInputs (keysOf rank ss)) out) :
    (untag ss out).Perm ss.flatten ∧ (untag ss out).Pairwise (fun a b => rank a ≤ rank b) :=
  ⟨by have := hm.perm.filterMap (lookup ss); rwa [tagInputs_lookup] at this,
   pairwise_untag rank ss (fun _ _ h => h) (fun _ hr => hm.perm.mem_iff.mp hr) hm.sorted⟩

theorem perm_flatten_map {R : Type} (f : List R → List R) (hf : ∀ l, (f l).Perm l) : ∀ (ls : List (List R)),
    (ls.map f).flatten.Perm ls.flatten
  | [] => List.Perm.refl _
  | l :: ls => by
    simp only [List.map_cons, List.flatten_cons]
    exact (hf l).append (perm_flatten_map f hf ls)

/-- that each run is sorted matters only to whoever produces the merge `hm` -/
theorem untag_sorted_runs {R : Type} {cmp : R → R → Int} {rank : R → Int} (hle : ∀ a b, rank a ≤ rank b → cmp a b ≤ 0)
    {sortRun : List R → List R} (hperm : ∀ run, (sortRun run).Perm run)
    (runs : List (List R)) {out : List Row} (hm : IsMerge (tagInputs (keysOf rank (runs.map sortRun))) out) :
    (untag (runs.map sortRun) out).Perm runs.flatten ∧
      (untag (runs.map sortRun) out).Pairwise (fun a b => cmp a b ≤ 0) := by
  obtain ⟨p, q⟩ := untag_isMerge rank (runs.map sortRun) hm
  exact ⟨p.trans (perm_flatten_map sortRun hperm runs), q.imp (hle _ _)⟩

end PqModel.SortBuf
