import PqModel.MergePlan

/-! # C09 — abstract k-way merge on integer keys, independent of the mirror: `Merges` is `EmitsBy (· ≤ ·)` of
MergePlan.lean run until nothing is left (`merges_iff`). -/
namespace PqModel.MergeAbstract
open PqModel.Merge (EmitsBy emitsBy_proj emitsBy_sorted)

abbrev Tagged := Nat × Int

inductive Merges : List (List Int) → List Tagged → Prop where
  | done {ins : List (List Int)} : (∀ l ∈ ins, l = []) → Merges ins []
  | step {ins : List (List Int)} {i : Nat} {x : Int} {rest : List Int} {out : List Tagged} :
      ins[i]? = some (x :: rest) →
      (∀ (j : Nat) (l : List Int) (y : Int), ins[j]? = some l → l.head? = some y → x ≤ y) →
      Merges (ins.set i rest) out → Merges ins ((i, x) :: out)

def proj (i : Nat) (out : List Tagged) : List Int := (out.filter (fun t => t.1 == i)).map (·.2)

theorem merges_iff {ins : List (List Int)} {out : List Tagged} :
    Merges ins out ↔ ∃ ins', EmitsBy (fun a b : Int => a ≤ b) ins out ins' ∧ ∀ l ∈ ins', l = [] := by
  constructor
  · intro h
    induction h with
    | done hall => exact ⟨_, .nil, hall⟩
    | step hi hmin _ ih =>
      obtain ⟨ins', h1, h2⟩ := ih
      exact ⟨ins', .step hi hmin h1, h2⟩
  · rintro ⟨ins', h, hall⟩
    induction h with
    | nil => exact .done hall
    | step hi hmin _ ih => exact .step hi hmin (ih hall)

/-- per-input stability and completeness: the rows of input i come out in order, all of them -/
theorem merges_proj {ins : List (List Int)} {out : List Tagged} (h : Merges ins out) :
    ∀ i l, ins[i]? = some l → proj i out = l := by
  obtain ⟨ins', h1, h2⟩ := merges_iff.mp h
  intro i l hl
  obtain ⟨l', h3, h4⟩ := emitsBy_proj h1 i l hl
  rw [h2 l' (List.mem_of_getElem? h3), List.append_nil] at h4
  exact h4

theorem mem_proj {i : Nat} {y : Int} {out : List Tagged} (h : (i, y) ∈ out) : y ∈ proj i out := by
  simp only [proj, List.mem_map, List.mem_filter]
  exact ⟨(i, y), ⟨h, by simp⟩, rfl⟩

abbrev Sorted (l : List Int) : Prop := l.Pairwise (· ≤ ·)

/-- C09 abstract core: if every input is sorted, the merged output is sorted. -/
theorem merges_sorted {ins : List (List Int)} {out : List Tagged} (h : Merges ins out) :
    (∀ l ∈ ins, Sorted l) → Sorted (out.map (·.2)) := by
  obtain ⟨ins', h1, _⟩ := merges_iff.mp h
  exact fun hs => (emitsBy_sorted (le := fun a b : Int => a ≤ b) (fun _ _ _ => Int.le_trans) h1 hs).1

#print axioms merges_sorted
#print axioms merges_proj

end PqModel.MergeAbstract
