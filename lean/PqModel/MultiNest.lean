import PqModel.SeekLayers

/-! # `MultiRowGroup` of `MultiRowGroup`s: `multiRowGroup.init` flattens, `multiPages` seeks by row counts (C08)

`multiRowGroup.init` (multi_row_group.go:30-78) builds, per column, a `multiColumnChunk` with the
list of chunk readers `chunks` and the list `rowCounts` of the rows each of them holds. A child that
is itself a multi row group is *flattened*: its chunks are spliced in, and its `rowCounts` are copied
(falling back to the `NumRows()` of its row groups when it has none). `multiPages.SeekToRow`
(multi_row_group.go:560-602) then walks `rowCounts` to find the chunk that holds a row.

The model keeps a chunk reader abstract (`χ`, with `rows : χ → Nat` the rows it holds: a `Machine`
and its `total`, or a bare number for the `decide` witnesses). SPEC: the multi row group reads as
its leaf chunks back to back, i.e. `rowCounts` is `chunks.map rows` at every nesting depth, so that
the row-count walk is the `locate` of `multiM` over the flattened chunks. -/
namespace PqModel.SeekLayers.Nest

universe u

/-- one column of a `*multiRowGroup`: the fields of its `multiColumnChunk` and the `NumRows()` of
    `c.rowGroup.rowGroups` (read by the fallback branches) -/
structure MCC (χ : Type u) where
  chunks : List χ
  rowCounts : List Nat
  groupRows : List Nat

/-- a child handed to `MultiRowGroup`: any other row group (its chunk reader of the column; it holds
    `NumRows()` rows) or a multi row group -/
inductive Node (χ : Type u) where
  | leaf (x : χ)
  | multi (c : MCC χ)

variable {χ : Type u} (rows : χ → Nat)

/-- MIRROR of `multiRowGroup.NumRows` (multi_row_group.go:114-119) -/
def Node.numRows : Node χ → Nat
  | .leaf x => rows x
  | .multi c => c.groupRows.sum

/-- the chunk readers a child contributes -/
def Node.leaves : Node χ → List χ
  | .leaf x => [x]
  | .multi c => c.chunks

/-- MIRROR of the `rowCounts` side of the loop of `init` (multi_row_group.go:45-65) -/
def initCounts : List (Node χ) → List Nat
  | [] => []
  | .leaf x :: t => rows x :: initCounts t
  | .multi c :: t => (if 0 < c.rowCounts.length then c.rowCounts else c.groupRows) ++ initCounts t

/-- MIRROR of `init` for one column: chunks spliced, row counts carried along -/
def initM (gs : List (Node χ)) : MCC χ :=
  { chunks := (gs.map Node.leaves).flatten, rowCounts := initCounts rows gs, groupRows := gs.map (Node.numRows rows) }

/-- SPEC: the row counts are those of the chunks, the row group has the rows of its chunks -/
def WF (c : MCC χ) : Prop :=
  c.rowCounts = c.chunks.map rows ∧ c.groupRows.sum = (c.chunks.map rows).sum ∧ c.chunks ≠ []

def NodeWF : Node χ → Prop
  | .leaf _ => True
  | .multi c => WF rows c

instance (c : MCC Nat) : Decidable (WF id c) := by unfold WF; exact inferInstance

theorem leaves_ne_nil (g : Node χ) (h : NodeWF rows g) : g.leaves ≠ [] := by
  cases g with
  | leaf x => simp [Node.leaves]
  | multi c => exact h.2.2

theorem initCounts_spec (gs : List (Node χ)) (h : ∀ g ∈ gs, NodeWF rows g) :
    initCounts rows gs = ((gs.map Node.leaves).flatten).map rows ∧
    (gs.map (Node.numRows rows)).sum = (((gs.map Node.leaves).flatten).map rows).sum := by
  fun_induction initCounts rows gs with
  | case1 => exact ⟨rfl, rfl⟩
  | case2 x t ih =>
    obtain ⟨i1, i2⟩ := ih (List.forall_mem_cons.mp h).2
    simp [i1, Node.leaves, Node.numRows, i2]
  | case3 c t ih =>
    obtain ⟨⟨w1, w2, w3⟩, ht⟩ := List.forall_mem_cons.mp h
    obtain ⟨i1, i2⟩ := ih ht
    -- a well-formed child has row counts of its own, so they are the ones copied
    have hlen : 0 < c.rowCounts.length := by
      rw [w1, List.length_map]
      exact List.length_pos_iff.mpr w3
    rw [if_pos hlen, i1, w1]
    constructor
    · simp [Node.leaves]
    · simp [Node.leaves, Node.numRows, w2, i2]

theorem init_wf (gs : List (Node χ)) (hne : gs ≠ []) (h : ∀ g ∈ gs, NodeWF rows g) :
    WF rows (initM rows gs) ∧ (initM rows gs).chunks = (gs.map Node.leaves).flatten := by
  obtain ⟨i1, i2⟩ := initCounts_spec rows gs h
  refine ⟨⟨i1, i2, ?_⟩, rfl⟩
  cases gs with
  | nil => exact absurd rfl hne
  | cons g t =>
    have := leaves_ne_nil rows g (h g (List.mem_cons_self ..))
    simp only [initM, List.map_cons, List.flatten_cons]
    intro hc
    exact this (List.append_eq_nil_iff.mp hc).1

/-- everything `MultiRowGroup` can return, to any nesting depth -/
inductive Built : Node χ → Prop where
  | leaf (x : χ) : Built (.leaf x)
  | multi (gs : List (Node χ)) : gs ≠ [] → (∀ g ∈ gs, Built g) → Built (.multi (initM rows gs))

theorem built_wf (g : Node χ) (h : Built rows g) : NodeWF rows g := by
  induction h with
  | leaf x => trivial
  | multi gs hne _ ih => exact (init_wf rows gs hne ih).1

/-- `init` with "always use the nested row groups' NumRows()" -/
def initCountsNoCopy : List (Node χ) → List Nat
  | [] => []
  | .leaf x :: t => rows x :: initCountsNoCopy t
  | .multi c :: t => c.groupRows ++ initCountsNoCopy t

def initNoCopy (gs : List (Node χ)) : MCC χ :=
  { chunks := (gs.map Node.leaves).flatten, rowCounts := initCountsNoCopy rows gs, groupRows := gs.map (Node.numRows rows) }

/-- two levels are still right, the third is not: `M(M(M(3,2),4),5)` gets the counts `[5,4,5]` for
    the chunks `[3,2,4,5]` -/
theorem noCopy_refuted :
    WF id (initNoCopy id [.multi (initNoCopy id [.leaf 3, .leaf 2]), .leaf 4]) ∧
    ¬ WF id (initNoCopy id [.multi (initNoCopy id [.multi (initNoCopy id [.leaf 3, .leaf 2]), .leaf 4]), .leaf 5]) := by
  decide

example : WF id (initM id [.multi (initM id [.multi (initM id [.leaf 3, .leaf 2]), .leaf 4]), .leaf 5]) := by decide

/-- MIRROR of the choice in the scan (multi_row_group.go:583-588): `rowCounts[i]` if there is one,
    else `rowGroup.rowGroups[i].NumRows()` -/
def countAt (c : MCC χ) (i : Nat) : Nat :=
  if i < c.rowCounts.length then c.rowCounts.getD i 0 else c.groupRows.getD i 0

/-- MIRROR of the scan loop of `multiPages.SeekToRow` (multi_row_group.go:581-594):
    `(m.index, rowIndex)` when it stops; `fuel` = chunks not yet looked at -/
def scan (c : MCC χ) : Nat → Nat → Nat → Nat × Nat
  | 0, i, k => (i, k)
  | fuel + 1, i, k =>
    if i < c.chunks.length then
      if k < countAt c i then (i, k) else scan c fuel (i + 1) (k - countAt c i)
    else (i, k)

def locateN (c : MCC χ) (k : Nat) : Nat × Nat := scan c c.chunks.length 0 k

end Nest

-- reopened without the `variable`s above
namespace Nest
open Multi (MSt Running)
open PqModel.Seek (Op)

/-- the rest of `multiPages.SeekToRow` once the chunk is located (multi_row_group.go:596-601): the body of
    `Multi.seek`, word for word (`step_eq_multi` rests on it) -/
def seekAt (ms : List Machine.{u}) (loc : Nat × Nat) : MSt.{u} × ROut :=
  match ms[loc.1]? with
  | some m =>
    ({ index := loc.1 + 1, cur := some ⟨m, (m.step m.init (.seek loc.2)).1⟩, lost := false },
     (m.step m.init (.seek loc.2)).2)
  | none => ({ index := loc.1, cur := none, lost := false }, .ok)

/-- MIRROR: `multiPages` of a (possibly nested) multi row group's column -/
def step (c : MCC Machine.{u}) (s : MSt.{u}) : Op → MSt.{u} × ROut
  | .seek k => seekAt c.chunks (locateN c k)
  | op => Multi.step c.chunks s op

theorem scan_eq_locate (c : MCC Machine.{u}) (h : c.rowCounts = c.chunks.map (·.total)) :
    ∀ (suf pre : List Machine.{u}) (fuel k : Nat), c.chunks = pre ++ suf → suf.length ≤ fuel →
    scan c fuel pre.length k = (pre.length + (Multi.locate suf k).1, (Multi.locate suf k).2)
  | [], pre, fuel, k, hc, _ => by
    have hl : ¬ pre.length < c.chunks.length := by simp [hc]
    cases fuel with
    | zero => simp [scan, Multi.locate]
    | succ f => simp [scan, hl, Multi.locate]
  | a :: rest, pre, fuel, k, hc, hf => by
    cases fuel with
    | zero => simp at hf
    | succ f =>
      have hl : pre.length < c.chunks.length := by simp [hc]
      have hcnt : countAt c pre.length = a.total := by
        have hl' : pre.length < c.rowCounts.length := by rw [h, List.length_map]; exact hl
        simp only [countAt, h, hc]
        simp [List.getD]
      simp only [scan, hl, if_true, hcnt, Multi.locate]
      split
      · simp
      · have := scan_eq_locate c h rest (pre ++ [a]) f (k - a.total) (by simp [hc]) (by simp at hf; omega)
        simp only [List.length_append, List.length_cons, List.length_nil] at this
        rw [this]
        simp only [Prod.mk.injEq, and_true]
        omega

theorem step_eq_multi (c : MCC Machine.{u}) (h : c.rowCounts = c.chunks.map (·.total)) (s : MSt.{u}) (op : Op) :
    step c s op = (multiM c.chunks).step s op := by
  cases op with
  | seek k =>
    show seekAt c.chunks (locateN c k) = seekAt c.chunks (Multi.locate c.chunks k)
    congr 1
    have := scan_eq_locate c h c.chunks [] c.chunks.length k rfl (Nat.le_refl _)
    simpa [locateN] using this
  | readPage => rfl
  | loadIndex => rfl

def outs (c : MCC Machine.{u}) : MSt.{u} → List Op → List ROut
  | _, [] => []
  | s, op :: ops => (step c s op).2 :: outs c (step c s op).1 ops

theorem outs_eq_multi (c : MCC Machine.{u}) (h : c.rowCounts = c.chunks.map (·.total)) :
    ∀ (ops : List Op) (s : MSt.{u}), outs c s ops = (multiM c.chunks).outs s ops
  | [], _ => rfl
  | op :: ops, s => by
    simp only [outs, Machine.outs, step_eq_multi c h s op, outs_eq_multi c h ops]

end Nest
end PqModel.SeekLayers
