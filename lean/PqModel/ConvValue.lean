import PqModel.Plain

/-! # Value type conversions of `Convert` (property C12, part "value")

`convertToType(targetType, sourceType)` (convert.go:103-116) is installed by `Convert` for every target
column whose type differs from the source column's (`!EqualTypes`, convert.go:484-486) — for EVERY
pair of types, no pair is refused when the conversion is built; it runs
`targetType.ConvertValue(v, sourceType)` over the values of the column and stops at the first error.

MIRROR: `convertValue tgt src v` transliterates the eight `ConvertValue` methods of the physical
types + `*stringType` (type_boolean.go:67-91, type_int32.go:74-98, type_int64.go:74-98,
type_int96.go:63-87, type_float.go:75-99, type_double.go:67-91, type_byte_array.go:83-102,
type_fixed_len_byte_array.go:125-149, type_string.go:89-121) and the `convertXToY` functions they
dispatch to (convert.go:1304-1662, deprecated/int96.go:12-29,74-81).

Values are bit patterns as in `Plain.lean`: a `Nat` below `2^(8k)` for INT32/INT64/INT96/FLOAT/DOUBLE
(floats are IEEE bit patterns), `Bool`, and `List UInt8` for BYTE_ARRAY / FIXED_LEN_BYTE_ARRAY.

SPEC of the standard library (not library code, written from the Go documentation, tied by L2):
`parseInt` (strconv.ParseInt(s, 10, bits)), `parseBool` (strconv.ParseBool), `appendInt`
(strconv.AppendInt(_, 10)), `hexDecodeGo` / `hexEncode` (encoding/hex incl. its write beyond a short
destination), `bigBytes` (big.Int.SetString(s, 10) then Bytes()).

The numeric conversions are modelled on bit patterns: `f32to64` (exact), `f64to32` (round to nearest
even, overflow, gradual underflow, NaN quieting), `intToFloat` (Go `floatN(i)`), `floatToInt` (Go
`intN(f)` AS COMPILED ON amd64: the Go specification leaves NaN and out-of-range operands to the
implementation; the mirror returns the SSE "integer indefinite"). These four are tied by L2 on the
amd64 build and have only a partial round-trip theorem (`float_double_round_trip_partial`).
Not modelled here (`Res.unmodelled`): FLOAT/DOUBLE/INT96 -> STRING and STRING -> FLOAT/DOUBLE
(strconv float formatting and parsing), DATE/TIME/TIMESTAMP logical sources and targets.
Behind the definitions: the lemmas about them that `Props/C12Value.lean` rests on. -/
namespace PqModel.ConvValue
open PqModel.Plain (Bytes leBytes leVal)

inductive Kind
  | boolean | int32 | int64 | int96 | float | double | byteArray | flba (n : Nat)
  deriving DecidableEq

/-- a column type as `ConvertValue` looks at it: `typ.Kind()` (+ `Length()`), and whether the
    dynamic type is `*stringType` (the type switch in front of every method) -/
structure Ty where
  kind : Kind
  isString : Bool
  deriving DecidableEq

inductive Val
  | bool (b : Bool)
  | i32 (x : Nat) | i64 (x : Nat) | i96 (x : Nat)
  | f32 (x : Nat) | f64 (x : Nat)
  | bytes (b : Bytes)
  | fixed (b : Bytes)
  /-- the null value (`kind = 0`, `u64 = 0`, `ptr = nil`) -/
  | null
  deriving DecidableEq

/-- `Value.Kind()` (of a non-null value; a null value has no kind: boolean is a placeholder) -/
def Val.kind : Val → Kind
  | .null => .boolean
  | .bool _ => .boolean | .i32 _ => .int32 | .i64 _ => .int64 | .i96 _ => .int96
  | .f32 _ => .float | .f64 _ => .double | .bytes _ => .byteArray | .fixed b => .flba b.length

/-- the bit pattern fits the kind -/
def Val.wf : Val → Bool
  | .i32 x | .f32 x => decide (x < 2 ^ 32)
  | .i64 x | .f64 x => decide (x < 2 ^ 64)
  | .i96 x => decide (x < 2 ^ 96)
  | _ => true

inductive Res
  | ok (v : Val)
  /-- an error wrapping ErrInvalidConversion -/
  | invalid
  /-- run-time panic (index out of range) -/
  | panics
  /-- the pair is outside this mirror -/
  | unmodelled
  deriving DecidableEq

/-- `c := make([]byte, size); copy(c, b)` -/
def padTo (size : Nat) (b : Bytes) : Bytes := (b ++ List.replicate (size - b.length) 0).take size

/-- convertByteArrayToFixedLenByteArray / convertInt96ToFixedLenByteArray (convert.go:1445-1455,
    1575-1585): `if len(b) < size { c := make(size); copy(c, b); b = c } else { b = b[:size] }` -/
def fitTo (size : Nat) (b : Bytes) : Bytes :=
  if b.length < size then b ++ List.replicate (size - b.length) 0 else b.take size

/-- `v.byte()` of a boolean -/
def boolByte (b : Bool) : Nat := if b then 1 else 0

/-- Go `intM(x)` of a signed `intK` bit pattern (sign extension), `k ≤ m` bits -/
def sext (k m x : Nat) : Nat := if x < 2 ^ (k - 1) then x else x + (2 ^ m - 2 ^ k)

/-- the signed number a `k`-bit pattern stands for -/
def toInt (k x : Nat) : Int := if x < 2 ^ (k - 1) then (x : Int) else (x : Int) - (2 ^ k : Nat)

/-- deprecated.Int32ToInt96 (int96.go:12-19): words 1 and 2 are 0xFFFFFFFF when negative -/
def int32ToInt96 (x : Nat) : Nat :=
  (if x < 2 ^ 31 then 0 else 0xFFFFFFFF * 2 ^ 64 + 0xFFFFFFFF * 2 ^ 32) + x

/-- deprecated.Int64ToInt96 (int96.go:22-29): word 2 is 0xFFFFFFFF when negative,
    word 1 = uint32(value >> 32), word 0 = uint32(value) -/
def int64ToInt96 (x : Nat) : Nat :=
  (if x < 2 ^ 63 then 0 else 0xFFFFFFFF * 2 ^ 64) + (x / 2 ^ 32 % 2 ^ 32) * 2 ^ 32 + x % 2 ^ 32

/-- `float64(float32)` on bit patterns (exact; a signalling NaN comes out quiet: CVTSS2SD).
    896 = 1023 - 127 rebiases the exponent; a subnormal `m·2^-149` with leading bit `k` is the normal
    `2^(k-149)·…`, exponent field `k - 149 + 1023 = k + 874`. -/
def f32to64 (x : Nat) : Nat :=
  let s := x / 2 ^ 31
  let e := x / 2 ^ 23 % 256
  let m := x % 2 ^ 23
  if e = 255 then s * 2 ^ 63 + 2047 * 2 ^ 52 + (if m = 0 then 0 else m * 2 ^ 29 ||| 2 ^ 51)
  else if e = 0 then
    if m = 0 then s * 2 ^ 63
    else
      let k := Nat.log2 m
      s * 2 ^ 63 + (k + 874) * 2 ^ 52 + (m - 2 ^ k) * 2 ^ (52 - k)
  else s * 2 ^ 63 + (e + 896) * 2 ^ 52 + m * 2 ^ 29

/-- round `M / 2^sh` to nearest, ties to even -/
def rne (M sh : Nat) : Nat :=
  if sh = 0 then M
  else
    let q := M / 2 ^ sh
    let r := M % 2 ^ sh
    if r > 2 ^ (sh - 1) ∨ (r = 2 ^ (sh - 1) ∧ q % 2 = 1) then q + 1 else q

/-- `float32(float64)` on bit patterns (CVTSD2SS: round to nearest even, overflow to infinity,
    gradual underflow, NaN payload truncated and made quiet). Below exponent field 897 the result is
    subnormal, in units of `2^-149`: the 53-bit significand is shifted right by `926 - e`
    (926 = 1075 − 149, the double's bias + 52 less the unit's exponent). -/
def f64to32 (x : Nat) : Nat :=
  let s := x / 2 ^ 63
  let e := x / 2 ^ 52 % 2048
  let m := x % 2 ^ 52
  if e = 2047 then s * 2 ^ 31 + 0x7F800000 + (if m = 0 then 0 else m / 2 ^ 29 ||| 2 ^ 22)
  else if e = 0 then s * 2 ^ 31
  else if 897 ≤ e then s * 2 ^ 31 + min ((e - 896) * 2 ^ 23 + (rne (2 ^ 52 + m) 29 - 2 ^ 23)) 0x7F800000
  else s * 2 ^ 31 + rne (2 ^ 52 + m) (926 - e)

/-- Go `floatN(i)` of a signed integer given as sign and magnitude: exact when the magnitude has at
    most `p + 1` significant bits, else round to nearest even (`p` = mantissa bits, `bias` = the
    exponent field of 1.0, `sbit` = position of the sign bit) -/
def intToFloat (p bias sbit : Nat) (neg : Bool) (M : Nat) : Nat :=
  (if neg then 2 ^ sbit else 0) +
  if M = 0 then 0
  else
    let k := Nat.log2 M
    if k ≤ p then (k + bias) * 2 ^ p + (M * 2 ^ (p - k) - 2 ^ p)
    else (k + bias) * 2 ^ p + (rne M (k - p) - 2 ^ p)

/-- sign and magnitude of a `w`-bit two's complement pattern -/
def signMag (w x : Nat) : Bool × Nat := if x < 2 ^ (w - 1) then (false, x) else (true, 2 ^ w - x)

/-- Go `intW(f)` as compiled on amd64 (CVTTSS2SL/CVTTSD2SL/...SQ: truncate toward zero; NaN,
    infinities and out-of-range values give the "integer indefinite" 0x80..0). The float is given
    by its fields: sign, exponent field `e` (all ones = `emax`), mantissa `m` of `p` bits; `off` =
    bias + p. -/
def floatToInt (w p emax off : Nat) (s e m : Nat) : Nat :=
  if e = emax then 2 ^ (w - 1)
  else
    let M := if e = 0 then m else 2 ^ p + m
    let e1 := if e = 0 then 1 else e
    let T := if off ≤ e1 then M * 2 ^ (e1 - off) else M / 2 ^ (off - e1)
    if s = 0 then (if T < 2 ^ (w - 1) then T else 2 ^ (w - 1))
    else (if T ≤ 2 ^ (w - 1) then (2 ^ w - T) % 2 ^ w else 2 ^ (w - 1))

def f32ToInt (w x : Nat) : Nat := floatToInt w 23 255 150 (x / 2 ^ 31) (x / 2 ^ 23 % 256) (x % 2 ^ 23)
def f64ToInt (w x : Nat) : Nat := floatToInt w 52 2047 1075 (x / 2 ^ 63) (x / 2 ^ 52 % 2048) (x % 2 ^ 52)
def intToF32 (w x : Nat) : Nat := intToFloat 23 127 31 (signMag w x).1 (signMag w x).2
def intToF64 (w x : Nat) : Nat := intToFloat 52 1023 63 (signMag w x).1 (signMag w x).2

/-- parquet.go:115-122 -/
def isZero (b : Bytes) : Bool := b.all (· == 0)

/-! ## standard library, from its documentation -/

def isDigit (c : UInt8) : Bool := 48 ≤ c.toNat && c.toNat ≤ 57

/-- value of a string of decimal digits; none if empty or another byte occurs
    (base 10 given explicitly: no underscores, no prefix) -/
def digitsVal : Bytes → Option Nat
  | [] => none
  | cs => if cs.all isDigit then some (cs.foldl (fun acc c => acc * 10 + (c.toNat - 48)) 0) else none

/-- sign and magnitude of `[+-]?[0-9]+` (strconv.ParseInt and big.Int.SetString share the grammar) -/
def signedDigits : Bytes → Option (Bool × Nat)
  | [] => none
  | c :: cs =>
    if c = 45 then (digitsVal cs).map (fun n => (true, n))
    else if c = 43 then (digitsVal cs).map (fun n => (false, n))
    else (digitsVal (c :: cs)).map (fun n => (false, n))

/-- strconv.ParseInt(s, 10, bits): the two's complement pattern, none on syntax or range error -/
def parseInt (bits : Nat) (s : Bytes) : Option Nat :=
  match signedDigits s with
  | none => none
  | some (false, n) => if n < 2 ^ (bits - 1) then some n else none
  | some (true, n) => if n ≤ 2 ^ (bits - 1) then some ((2 ^ bits - n) % 2 ^ bits) else none

/-- `trueBytes` / `falseBytes` (convert.go:1299-1300) -/
def trueBytes : Bytes := [116, 114, 117, 101]
def falseBytes : Bytes := [102, 97, 108, 115, 101]

/-- strconv.ParseBool: "1" "t" "T" "TRUE" "true" "True" / "0" "f" "F" "FALSE" "false" "False" -/
def parseBool (s : Bytes) : Option Bool :=
  if s = [49] ∨ s = [116] ∨ s = [84] ∨ s = [84, 82, 85, 69] ∨ s = trueBytes ∨ s = [84, 114, 117, 101] then some true
  else if s = [48] ∨ s = [102] ∨ s = [70] ∨ s = [70, 65, 76, 83, 69] ∨ s = falseBytes ∨ s = [70, 97, 108, 115, 101] then some false
  else none

/-- decimal digits, least significant first -/
def decLE : Nat → Nat → List Nat
  | 0, _ => []
  | f + 1, n => if n < 10 then [n] else n % 10 :: decLE f (n / 10)

def decBytes (n : Nat) : Bytes := ((decLE (n + 1) n).reverse).map (fun d => UInt8.ofNat (48 + d))

/-- strconv.AppendInt(nil, x, 10) of a signed `bits`-bit pattern -/
def appendInt (bits x : Nat) : Bytes :=
  if x < 2 ^ (bits - 1) then decBytes x else 45 :: decBytes (2 ^ bits - x)

def hexVal (c : UInt8) : Option Nat :=
  let n := c.toNat
  if 48 ≤ n ∧ n ≤ 57 then some (n - 48)
  else if 97 ≤ n ∧ n ≤ 102 then some (n - 87)
  else if 65 ≤ n ∧ n ≤ 70 then some (n - 55)
  else none

def hexChar (n : Nat) : UInt8 := UInt8.ofNat (if n < 10 then 48 + n else 87 + n)

/-- hex.Encode -/
def hexEncode : Bytes → Bytes
  | [] => []
  | b :: bs => hexChar (b.toNat / 16) :: hexChar (b.toNat % 16) :: hexEncode bs

inductive HexRes
  | ok (b : Bytes) | err | panics
  deriving DecidableEq

/-- hex.Decode(dst, src) with `room` bytes left in `dst` (encoding/hex: pairs are decoded in order,
    an invalid character is an error, `dst[i] = ...` past the end of `dst` panics, a trailing
    single character is an error); `ok` carries the bytes written -/
def hexDecodeGo : Nat → Bytes → HexRes
  | _, [] => .ok []
  | _, [_] => .err
  | room, p :: q :: rest =>
    match hexVal p, hexVal q with
    | some a, some b =>
      match room with
      | 0 => .panics
      | room + 1 =>
        match hexDecodeGo room rest with
        | .ok out => .ok (UInt8.ofNat (a * 16 + b) :: out)
        | r => r
    | _, _ => .err

/-- base-256 digits of `n`, least significant first, no leading zeros (`bigBytes` reverses them) -/
def natLE : Nat → Nat → Bytes
  | 0, _ => []
  | f + 1, n => if n = 0 then [] else UInt8.ofNat (n % 256) :: natLE f (n / 256)

/-- big.Int.Bytes(): big-endian magnitude without leading zeros -/
def bigBytes (n : Nat) : Bytes := (natLE (n + 1) n).reverse

/-- convertStringToInt96 (convert.go:1618-1636): `SetString(s, 10)`, then `i.Bytes()` — the
    BIG-endian magnitude — is copied to the front of a 12-byte buffer that is then read as three
    little-endian words; the sign is not looked at -/
def convertStringToInt96 (s : Bytes) : Res :=
  match signedDigits s with
  | none => .invalid
  | some (_, n) => .ok (.i96 (leVal (padTo 12 (bigBytes n))))

/-- convertStringToFixedLenByteArray (convert.go:1654-1662): `c := make([]byte, size);
    hex.Decode(c, b)` -/
def convertStringToFixedLenByteArray (size : Nat) (s : Bytes) : Res :=
  match hexDecodeGo size s with
  | .ok out => .ok (.fixed (padTo size out))
  | .err => .invalid
  | .panics => .panics

/-- the bytes `v.byteArray()` yields for a value of a pointer kind -/
def ptrBytes : Val → Option Bytes
  | .bytes b | .fixed b => some b
  | .i96 x => some (leBytes 12 x)
  | _ => none

/-- type_boolean.go:67-91 -/
def toBoolean (src : Ty) (v : Val) : Res :=
  if src.isString then
    match v with
    | .bytes s => match parseBool s with | some b => .ok (.bool b) | none => .invalid
    | _ => .unmodelled
  else match v with
    | .bool b => .ok (.bool b)
    | .i32 x | .i64 x | .i96 x => .ok (.bool (x != 0))
    | .f32 x => .ok (.bool (x % 2 ^ 31 != 0))   -- `v.float() != 0`: -0 is 0, NaN is not
    | .f64 x => .ok (.bool (x % 2 ^ 63 != 0))
    | .bytes b | .fixed b => .ok (.bool (!isZero b))
    | .null => .unmodelled

/-- type_int32.go:74-98 -/
def toInt32 (src : Ty) (v : Val) : Res :=
  if src.isString then
    match v with
    | .bytes s => match parseInt 32 s with | some x => .ok (.i32 x) | none => .invalid
    | _ => .unmodelled
  else match v with
    | .bool b => .ok (.i32 (boolByte b))
    | .i32 x => .ok (.i32 x)
    | .i64 x => .ok (.i32 (x % 2 ^ 32))      -- int32(v.int64())
    | .i96 x => .ok (.i32 (x % 2 ^ 32))      -- int32(i[0])
    | .f32 x => .ok (.i32 (f32ToInt 32 x))   -- int32(v.float())
    | .f64 x => .ok (.i32 (f64ToInt 32 x))
    | .bytes b | .fixed b => .ok (.i32 (leVal (padTo 4 b)))
    | .null => .unmodelled

/-- type_int64.go:74-98 -/
def toInt64 (src : Ty) (v : Val) : Res :=
  if src.isString then
    match v with
    | .bytes s => match parseInt 64 s with | some x => .ok (.i64 x) | none => .invalid
    | _ => .unmodelled
  else match v with
    | .bool b => .ok (.i64 (boolByte b))
    | .i32 x => .ok (.i64 (sext 32 64 x))
    | .i64 x => .ok (.i64 x)
    | .i96 x => .ok (.i64 (x % 2 ^ 64))      -- int64(i[1])<<32 | int64(i[0])
    | .f32 x => .ok (.i64 (f32ToInt 64 x))
    | .f64 x => .ok (.i64 (f64ToInt 64 x))
    | .bytes b | .fixed b => .ok (.i64 (leVal (padTo 8 b)))
    | .null => .unmodelled

/-- type_int96.go:63-87 -/
def toInt96 (src : Ty) (v : Val) : Res :=
  if src.isString then
    match v with
    | .bytes s => convertStringToInt96 s
    | _ => .unmodelled
  else match v with
    | .bool b => .ok (.i96 (boolByte b))
    | .i32 x => .ok (.i96 (int32ToInt96 x))
    | .i64 x => .ok (.i96 (int64ToInt96 x))
    | .i96 x => .ok (.i96 x)
    | .f32 _ | .f64 _ => .invalid             -- convertFloatToInt96 / convertDoubleToInt96
    | .bytes b | .fixed b => .ok (.i96 (leVal (padTo 12 b)))
    | .null => .unmodelled

/-- type_float.go:75-99 -/
def toFloat (src : Ty) (v : Val) : Res :=
  if src.isString then .unmodelled
  else match v with
    | .bool b => .ok (.f32 (if b then 0x3F800000 else 0))
    | .i32 x => .ok (.f32 (intToF32 32 x))   -- float32(v.int32())
    | .i64 x => .ok (.f32 (intToF32 64 x))
    | .f64 x => .ok (.f32 (f64to32 x))
    | .i96 _ => .invalid                      -- convertInt96ToFloat
    | .f32 x => .ok (.f32 x)
    | .bytes b | .fixed b => .ok (.f32 (leVal (padTo 4 b)))
    | .null => .unmodelled

/-- type_double.go:67-91 -/
def toDouble (src : Ty) (v : Val) : Res :=
  if src.isString then .unmodelled
  else match v with
    | .bool b => .ok (.f64 (if b then 0x3FF0000000000000 else 0))
    | .i32 x => .ok (.f64 (intToF64 32 x))
    | .i64 x => .ok (.f64 (intToF64 64 x))
    | .i96 _ => .invalid                      -- convertInt96ToDouble
    | .f32 x => .ok (.f64 (f32to64 x))
    | .f64 x => .ok (.f64 x)
    | .bytes b | .fixed b => .ok (.f64 (leVal (padTo 8 b)))
    | .null => .unmodelled

/-- type_byte_array.go:83-102 (no `*stringType` case: a string source is a BYTE_ARRAY source;
    a FIXED_LEN_BYTE_ARRAY value is returned as it is, kind included) -/
def toByteArray (_src : Ty) (v : Val) : Res :=
  match v with
  | .bool b => .ok (.bytes [UInt8.ofNat (boolByte b)])
  | .i32 x | .f32 x => .ok (.bytes (leBytes 4 x))
  | .i64 x | .f64 x => .ok (.bytes (leBytes 8 x))
  | .i96 x => .ok (.bytes (leBytes 12 x))
  | .bytes b => .ok (.bytes b)
  | .fixed b => .ok (.fixed b)
  | .null => .unmodelled

/-- type_fixed_len_byte_array.go:125-149 -/
def toFixed (size : Nat) (src : Ty) (v : Val) : Res :=
  if src.isString then
    match v with
    | .bytes s => convertStringToFixedLenByteArray size s
    | _ => .unmodelled
  else match v with
    | .bool b => .ok (.fixed (padTo size [UInt8.ofNat (boolByte b)]))
    | .i32 x | .f32 x => .ok (.fixed (padTo size (leBytes 4 x)))
    | .i64 x | .f64 x => .ok (.fixed (padTo size (leBytes 8 x)))
    | .i96 x => .ok (.fixed (fitTo size (leBytes 12 x)))
    | .bytes b | .fixed b => .ok (.fixed (fitTo size b))
    | .null => .unmodelled

/-- type_string.go:89-121 (`*stringType` as the target; date and time sources are not modelled) -/
def toString (_src : Ty) (v : Val) : Res :=
  match v with
  | .bool b => .ok (.bytes (if b then trueBytes else falseBytes))
  | .i32 x => .ok (.bytes (appendInt 32 x))
  | .i64 x => .ok (.bytes (appendInt 64 x))
  | .i96 _ | .f32 _ | .f64 _ => .unmodelled
  | .bytes b => .ok (.bytes b)
  | .fixed b => .ok (.bytes (hexEncode b))
  | .null => .unmodelled

/-- `targetType.ConvertValue(v, sourceType)` for a non-null value of the source column -/
def convertNonNull (tgt src : Ty) (v : Val) : Res :=
  if tgt.isString then toString src v
  else match tgt.kind with
    | .boolean => toBoolean src v
    | .int32 => toInt32 src v
    | .int64 => toInt64 src v
    | .int96 => toInt96 src v
    | .float => toFloat src v
    | .double => toDouble src v
    | .byteArray => toByteArray src v
    | .flba n => toFixed n src v

/-- the branches `return val, nil` of the nine methods: the value comes back untouched -/
def returnsVal (tgt src : Ty) : Bool :=
  if tgt.isString then decide (src.kind = .byteArray)
  else match tgt.kind, src.kind with
    | .byteArray, .byteArray | .byteArray, .flba _ => true
    | .flba _, _ => false
    | k, k' => !src.isString && decide (k = k')

/-- what the accessors (`v.byte()`, `v.int32()`, `v.float()`, `v.byteArray()`: `u64 = 0`,
    `ptr = nil`) read from a NULL value in a column of kind `k`. `v.int96()` = `makeInt96(nil)`
    slices `b[:12]` of an empty slice and panics: `none`. -/
def nullAs : Kind → Option Val
  | .boolean => some (.bool false)
  | .int32 => some (.i32 0) | .int64 => some (.i64 0)
  | .int96 => none
  | .float => some (.f32 0) | .double => some (.f64 0)
  | .byteArray => some (.bytes []) | .flba _ => some (.fixed [])

/-- `targetType.ConvertValue(v, sourceType)` as convertToType calls it: on EVERY value of the
    column, the nulls of an optional column included (nothing in convert.go:103-116 or in the
    methods looks at `IsNull`) -/
def convertValue (tgt src : Ty) (v : Val) : Res :=
  match v with
  | .null =>
    if returnsVal tgt src then .ok .null
    else match nullAs src.kind with
      | some z => convertNonNull tgt src z
      | none =>   -- INT96 source
        if tgt.isString then .unmodelled
        else match tgt.kind with
          | .boolean | .int32 | .int64 => .panics        -- v.int96()
          | .float | .double => .invalid                -- error before the value is read
          | .byteArray => .ok (.bytes [])               -- v.byteArray() = empty
          | .flba n => .ok (.fixed (fitTo n []))
          | .int96 => .ok .null
  | v => convertNonNull tgt src v

/-- convertToType (convert.go:103-116): the values of one column in order, first error wins -/
def convertToType (tgt src : Ty) : List Val → Except Res (List Val)
  | [] => .ok []
  | v :: vs =>
    match convertValue tgt src v with
    | .ok w => (convertToType tgt src vs).map (w :: ·)
    | r => .error r

/-- the value lies in a column of type `t` -/
def Val.inTy (v : Val) (t : Ty) : Bool :=
  v.wf && decide (v ≠ .null) && decide (v.kind = t.kind) && (!t.isString || decide (t.kind = .byteArray))

theorem padTo_length (n : Nat) (b : Bytes) : (padTo n b).length = n := by
  simp [padTo]; omega

theorem padTo_self (b : Bytes) : padTo b.length b = b := by simp [padTo]

theorem fitTo_eq_padTo (n : Nat) (b : Bytes) : fitTo n b = padTo n b := by
  unfold fitTo padTo
  split
  · rw [List.take_of_length_le]; simp; omega
  · rename_i h
    have h' : n ≤ b.length := by omega
    rw [List.take_append_of_le_length h']

theorem padTo_of_le {n : Nat} {b : Bytes} (h : b.length ≤ n) :
    padTo n b = b ++ List.replicate (n - b.length) 0 := by
  unfold padTo; rw [List.take_of_length_le]; simp; omega

theorem leVal_padTo_leBytes {k size x : Nat} (hx : x < 2 ^ (8 * k)) (hs : k ≤ size) :
    leVal (padTo size (leBytes k x)) = x := by
  rw [padTo_of_le (by rw [PqModel.Plain.leBytes_length]; exact hs), PqModel.Plain.leVal_eq,
    PqModel.LE.leVal_append_zeros, ← PqModel.Plain.leVal_eq, PqModel.Plain.leVal_leBytes k x hx]

theorem take_padTo {k size : Nat} {b : Bytes} (hb : b.length = k) (hs : k ≤ size) :
    (padTo size b).take k = b := by
  rw [padTo_of_le (by omega), List.take_append_of_le_length (by omega), List.take_of_length_le (by omega)]

theorem decLE_lt : ∀ (f n : Nat), ∀ d ∈ decLE f n, d < 10 := by
  intro f n d h
  -- cases of `decLE`: no fuel / last digit / a digit and the rest
  fun_induction decLE f n with
  | case1 => cases h
  | case2 f n hn => simp at h; omega
  | case3 f n hn ih =>
    rcases List.mem_cons.mp h with rfl | h
    · omega
    · exact ih h

theorem decLE_ne_nil (f n : Nat) : decLE (f + 1) n ≠ [] := by
  simp only [decLE]; split <;> simp

theorem decLE_val : ∀ (f n : Nat), n < f → (decLE f n).foldr (fun d acc => acc * 10 + d) 0 = n := by
  intro f n h
  fun_induction decLE f n with
  | case1 => omega
  | case2 f n hn => simp
  | case3 f n hn ih => simp only [List.foldr_cons, ih (by omega)]; omega

def decChar (d : Nat) : UInt8 := UInt8.ofNat (48 + d)

theorem decChar_toNat {d : Nat} (h : d < 10) : (decChar d).toNat = 48 + d := by
  simp only [decChar, UInt8.toNat_ofNat']; omega

theorem decText_val : ∀ l : List Nat, (∀ d ∈ l, d < 10) →
    (l.reverse.map decChar).foldl (fun acc c => acc * 10 + (c.toNat - 48)) 0 =
      l.foldr (fun d acc => acc * 10 + d) 0
  | [], _ => rfl
  | d :: l, h => by
    have hd : d < 10 := h d (by simp)
    have ih := decText_val l (fun x hx => h x (by simp [hx]))
    simp only [List.reverse_cons, List.map_append, List.foldl_append, ih, List.map_cons, List.map_nil,
      List.foldl_cons, List.foldl_nil, List.foldr_cons, decChar_toNat hd]
    omega

theorem decText_digits (l : List Nat) (h : ∀ d ∈ l, d < 10) : (l.reverse.map decChar).all isDigit = true := by
  simp only [List.all_eq_true, List.mem_map, List.mem_reverse]
  rintro c ⟨d, hd, rfl⟩
  have := decChar_toNat (h d hd)
  have := h d hd
  simp [isDigit, *]; omega

theorem decBytes_eq (n : Nat) : decBytes n = (decLE (n + 1) n).reverse.map decChar := rfl

theorem digitsVal_decBytes (n : Nat) : digitsVal (decBytes n) = some n := by
  have hl := decLE_lt (n + 1) n
  have hne : decBytes n ≠ [] := by
    rw [decBytes_eq]; simp [decLE_ne_nil]
  have hall := decText_digits _ hl
  have hval := decText_val _ hl
  rw [decLE_val (n + 1) n (by omega)] at hval
  rw [← decBytes_eq] at hall hval
  unfold digitsVal
  split
  · rename_i he; exact absurd he hne
  · simp [hall, hval]

theorem signedDigits_decBytes (n : Nat) : signedDigits (decBytes n) = some (false, n) := by
  have hd := digitsVal_decBytes n
  have hall : (decBytes n).all isDigit = true := by
    rw [decBytes_eq]; exact decText_digits _ (decLE_lt (n + 1) n)
  cases hb : decBytes n with
  | nil => rw [hb] at hd; simp [digitsVal] at hd
  | cons c cs =>
    rw [hb] at hd hall
    have hc : isDigit c = true := by simp only [List.all_cons, Bool.and_eq_true] at hall; exact hall.1
    have h45 : c ≠ 45 := by intro e; subst e; simp [isDigit] at hc
    have h43 : c ≠ 43 := by intro e; subst e; simp [isDigit] at hc
    simp [signedDigits, h45, h43, hd]

theorem signedDigits_neg (n : Nat) : signedDigits (45 :: decBytes n) = some (true, n) := by
  simp [signedDigits, digitsVal_decBytes]

theorem parseInt_appendInt (bits x : Nat) (hb : 0 < bits) (h : x < 2 ^ bits) :
    parseInt bits (appendInt bits x) = some x := by
  have hB : 2 ^ bits = 2 * 2 ^ (bits - 1) := by rw [← Nat.pow_succ']; congr 1; omega
  unfold appendInt
  by_cases hx : x < 2 ^ (bits - 1)
  · rw [if_pos hx]
    simp only [parseInt, signedDigits_decBytes, if_pos hx]
  · rw [if_neg hx]
    simp only [parseInt, signedDigits_neg]
    rw [if_pos (by omega)]
    congr 1
    rw [Nat.sub_sub_self (Nat.le_of_lt h)]
    exact Nat.mod_eq_of_lt h

theorem parseInt_appendInt32 (x : Nat) (h : x < 2 ^ 32) : parseInt 32 (appendInt 32 x) = some x :=
  parseInt_appendInt 32 x (by decide) h

theorem parseInt_appendInt64 (x : Nat) (h : x < 2 ^ 64) : parseInt 64 (appendInt 64 x) = some x :=
  parseInt_appendInt 64 x (by decide) h

theorem f64_fields {x s e m : Nat} (hx : x = s * 2 ^ 63 + e * 2 ^ 52 + m) (he : e < 2048) (hm : m < 2 ^ 52) :
    x / 2 ^ 63 = s ∧ x / 2 ^ 52 % 2048 = e ∧ x % 2 ^ 52 = m := by
  refine ⟨by omega, by omega, by omega⟩

/-- Any float format, any integer width: a magnitude `M` with leading bit `k ≤ p` is stored as
    exponent `k + bias` and mantissa `M·2^(p-k) - 2^p`; reading it back shifts by `p - k` again, so the
    truncated magnitude is `M` itself and only the range check of the width is left. -/
theorem floatToInt_exact (w p emax bias s k M : Nat) (hk1 : 2 ^ k ≤ M) (hkp : k ≤ p)
    (he : k + bias < emax) (hb : 0 < bias) :
    floatToInt w p emax (bias + p) s (k + bias) (M * 2 ^ (p - k) - 2 ^ p) =
      if s = 0 then (if M < 2 ^ (w - 1) then M else 2 ^ (w - 1))
      else (if M ≤ 2 ^ (w - 1) then (2 ^ w - M) % 2 ^ w else 2 ^ (w - 1)) := by
  have hpow : 2 ^ k * 2 ^ (p - k) = 2 ^ p := by rw [← Nat.pow_add]; congr 1; omega
  have hP : 2 ^ p ≤ M * 2 ^ (p - k) := hpow ▸ Nat.mul_le_mul_right _ hk1
  have hT : (if bias + p ≤ k + bias then (2 ^ p + (M * 2 ^ (p - k) - 2 ^ p)) * 2 ^ (k + bias - (bias + p))
      else (2 ^ p + (M * 2 ^ (p - k) - 2 ^ p)) / 2 ^ (bias + p - (k + bias))) = M := by
    rw [Nat.add_sub_cancel' hP]
    split
    · have : k = p := by omega
      subst this
      rw [show k + bias - (bias + k) = 0 by omega, Nat.sub_self, Nat.pow_zero, Nat.mul_one, Nat.mul_one]
    · rw [show bias + p - (k + bias) = p - k by omega, Nat.mul_div_cancel _ (Nat.two_pow_pos _)]
  have h1 : ¬ k + bias = emax := by omega
  have h2 : ¬ k + bias = 0 := by omega
  simp only [floatToInt, if_neg h1, if_neg h2, hT]

theorem f64ToInt_intToFloat (w : Nat) (neg : Bool) (M : Nat) (h0 : M ≠ 0) (hM : M < 2 ^ 53) :
    f64ToInt w (intToFloat 52 1023 63 neg M) =
      if neg then (if M ≤ 2 ^ (w - 1) then (2 ^ w - M) % 2 ^ w else 2 ^ (w - 1))
      else (if M < 2 ^ (w - 1) then M else 2 ^ (w - 1)) := by
  have hk1 : 2 ^ M.log2 ≤ M := Nat.log2_self_le h0
  have hk2 : M < 2 ^ (M.log2 + 1) := Nat.lt_log2_self
  have hk : M.log2 ≤ 52 := by
    have : M.log2 < 53 := (Nat.log2_lt h0).mpr hM
    omega
  have hx : intToFloat 52 1023 63 neg M =
      (if neg then 1 else 0) * 2 ^ 63 + (M.log2 + 1023) * 2 ^ 52 + (M * 2 ^ (52 - M.log2) - 2 ^ 52) := by
    simp only [intToFloat, if_neg h0, if_pos hk]
    cases neg <;> simp <;> omega
  generalize M.log2 = k at hk1 hk2 hk hx
  have hm : M * 2 ^ (52 - k) - 2 ^ 52 < 2 ^ 52 := by
    have h53 : 2 ^ (k + 1) * 2 ^ (52 - k) = 2 ^ 53 := by rw [← Nat.pow_add]; congr 1; omega
    have := Nat.mul_lt_mul_of_pos_right hk2 (Nat.two_pow_pos (52 - k))
    omega
  obtain ⟨f1, f2, f3⟩ := f64_fields hx (by omega) hm
  rw [f64ToInt, f1, f2, f3]
  rw [floatToInt_exact w 52 2047 1023 _ k M hk1 hk (by omega) (by omega)]
  cases neg <;> simp

theorem int32_double_round_trip (x : Nat) (h : x < 2 ^ 32) : f64ToInt 32 (intToF64 32 x) = x := by
  unfold intToF64 signMag
  by_cases hx : x < 2 ^ (32 - 1)
  · rw [if_pos hx]
    by_cases h0 : x = 0
    · -- +0.0: all fields zero, magnitude `0 / 2^1074`
      subst h0
      rw [show intToFloat 52 1023 63 false 0 = 0 from rfl]
      simp only [f64ToInt, floatToInt, Nat.zero_div, Nat.zero_mod, if_true, if_neg (show ¬ (1075 ≤ 1) by decide)]
      decide
    · rw [f64ToInt_intToFloat 32 false x h0 (by omega)]
      simp only [Bool.false_eq_true, if_false, if_pos hx]
  · rw [if_neg hx]
    rw [f64ToInt_intToFloat 32 true (2 ^ 32 - x) (by omega) (by omega)]
    simp only [if_true]
    rw [if_pos (by omega)]
    omega

theorem toInt_sext (k m x : Nat) (hk : 0 < k) (hkm : k ≤ m) : toInt m (sext k m x) = toInt k x := by
  have hA : 2 ^ k = 2 * 2 ^ (k - 1) := by rw [← Nat.pow_succ']; congr 1; omega
  have hB : 2 ^ m = 2 * 2 ^ (m - 1) := by rw [← Nat.pow_succ']; congr 1; omega
  have hAB : 2 ^ (k - 1) ≤ 2 ^ (m - 1) := Nat.pow_le_pow_right (by omega) (by omega)
  unfold toInt sext
  rw [hA, hB]
  generalize 2 ^ (k - 1) = A at *
  generalize 2 ^ (m - 1) = B at *
  by_cases hneg : x < A
  · rw [if_pos hneg, if_pos hneg, if_pos (by omega)]
  · rw [if_neg hneg, if_neg hneg, if_neg (by omega)]
    omega

theorem sext_low (k m x : Nat) (hkm : k ≤ m) (hx : x < 2 ^ k) : sext k m x % 2 ^ k = x := by
  have hm : 2 ^ m - 2 ^ k = 2 ^ k * (2 ^ (m - k) - 1) := by
    rw [Nat.mul_sub, ← Nat.pow_add, Nat.mul_one]; congr 2; omega
  unfold sext
  split
  · exact Nat.mod_eq_of_lt hx
  · rw [hm, Nat.add_mul_mod_self_left, Nat.mod_eq_of_lt hx]

theorem int32ToInt96_eq_sext (x : Nat) : int32ToInt96 x = sext 32 96 x := by
  unfold int32ToInt96 sext
  split <;> omega

theorem int64ToInt96_eq_sext (x : Nat) (h : x < 2 ^ 64) : int64ToInt96 x = sext 64 96 x := by
  have hx : x / 2 ^ 32 % 2 ^ 32 * 2 ^ 32 + x % 2 ^ 32 = x := by omega
  unfold int64ToInt96 sext
  rw [Nat.add_assoc, hx]
  by_cases hneg : x < 2 ^ 63
  · rw [if_pos hneg, if_pos hneg, Nat.zero_add]
  · rw [if_neg hneg, if_neg hneg, Nat.add_comm]

theorem rne_mul (q sh : Nat) : rne (q * 2 ^ sh) sh = q := by
  unfold rne
  split
  · rename_i h; rw [h, Nat.pow_zero, Nat.mul_one]
  · have hp : 0 < 2 ^ (sh - 1) := Nat.two_pow_pos _
    simp only [Nat.mul_mod_left, Nat.mul_div_cancel _ (Nat.two_pow_pos sh)]
    rw [if_neg (by omega)]

theorem convertNonNull_ne_null (tgt src : Ty) (v : Val) : convertNonNull tgt src v ≠ .ok .null := by
  fun_cases convertNonNull tgt src v
  · fun_cases toString src v <;> simp
  · fun_cases toBoolean src v <;> simp
  · fun_cases toInt32 src v <;> simp
  · fun_cases toInt64 src v <;> simp
  · fun_cases toInt96 src v <;> simp
    fun_cases convertStringToInt96 <;> simp
  · fun_cases toFloat src v <;> simp
  · fun_cases toDouble src v <;> simp
  · fun_cases toByteArray src v <;> simp
  · fun_cases toFixed _ src v <;> simp
    fun_cases convertStringToFixedLenByteArray <;> simp

theorem convertValue_of_ne_null {tgt src : Ty} {v : Val} (hn : v ≠ .null) :
    convertValue tgt src v = convertNonNull tgt src v := by
  cases v <;> first | rfl | exact absurd rfl hn

theorem nullAs_of_ne_int96 {k : Kind} (h : k ≠ .int96) : ∃ z, nullAs k = some z := by
  cases k <;> first | exact ⟨_, rfl⟩ | exact absurd rfl h

end PqModel.ConvValue
