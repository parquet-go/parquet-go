import PqModel.Dremel

/-! # Schema conversion (C12)

Named schemas (`PNode`/`PFields`: every field carries its name and its repetition type, as in a
Parquet schema), the SPEC `projN` (projection of a value tree onto a target schema, fields matched
by name) and the MIRROR of `convert.go` (`convN`/`convertRow`): per target leaf column the source
column found by walking the column path through the source schema, the level tables
`repetitionLevels[srcRep] = tgtRep`, `definitionLevels[srcDef] = tgtDef` built along that walk, and
for columns missing from the source the null/zero synthesis from the closest leaf sibling.

Shredding itself is `PqModel.Dremel.shredN` on the name-erased schema (`eraseN`). -/
namespace PqModel.Convert
open PqModel.Dremel

/-- field repetition type -/
inductive Rp where
  | req | opt | rpt
deriving DecidableEq, Repr

mutual
inductive PNode where
  | leaf
  | group (fs : PFields)
inductive PFields where
  | nil
  | cons (name : Nat) (rp : Rp) (n : PNode) (fs : PFields)
end

def wrap : Rp → Node → Node
  | .req, n => n
  | .opt, n => .opt n
  | .rpt, n => .rpt n

mutual
def eraseN : PNode → Node
  | .leaf => .leaf
  | .group fs => .group (eraseF fs)
def eraseF : PFields → Fields
  | .nil => .nil
  | .cons _ rp n fs => .cons (wrap rp (eraseN n)) (eraseF fs)
end

/-- number of leaf columns -/
def leavesP (n : PNode) : Nat := leavesN (eraseN n)

/-- SPEC: the Dremel streams of one row -/
def shred (n : PNode) (v : Val) : Cols := shredN (eraseN n) 0 0 0 v

/-! ## SPEC: projection of a value onto a target schema (written from the property statement) -/

/-- value of a field that the source does not have: null / empty list / the node's zero value -/
def dfltW : Rp → Val → Val
  | .req, v => v
  | .opt, _ => .none
  | .rpt, _ => .list []

mutual
/-- zero value of a node: `prim 0` stands for the zero value of the leaf's type -/
def dfltN : PNode → Val
  | .leaf => .prim 0
  | .group fs => .struct (dfltF fs)
def dfltF : PFields → List Val
  | .nil => []
  | .cons _ rp n fs => dfltW rp (dfltN n) :: dfltF fs
end

/-- the (first) source field named `nm` together with its value -/
def findV (nm : Nat) : PFields → List Val → Option (Rp × PNode × Val)
  | .nil, _ => none
  | .cons nm' rp n fs, vs =>
    match vs with
    | v :: vs' => if nm' = nm then some (rp, n, v) else findV nm fs vs'
    | [] => none

/-- a group and a leaf of the same name are different columns -/
def sameKind : PNode → PNode → Bool
  | .leaf, .leaf => true
  | .group _, .group _ => true
  | _, _ => false

mutual
/-- SPEC `project`: fields are matched by name; source fields the target does not name are dropped,
    target fields the source does not have get null / empty / zero; recursive through groups,
    optional and repeated wrappers. `required → optional` wraps, `optional → required` unwraps
    (null becomes the zero value). Anything else (group vs leaf, repeated vs not) is incompatible
    and yields the default of the target node. -/
def projN : PNode → PNode → Val → Val
  | .leaf, .leaf, v => v
  | .group sfs, .group tfs, .struct vs => .struct (projF sfs vs tfs)
  | _, .leaf, _ => .prim 0
  | _, .group tfs, _ => .struct (dfltF tfs)
def projF (sfs : PFields) (vs : List Val) : PFields → List Val
  | .nil => []
  | .cons nm trp t tfs =>
    (match findV nm sfs vs with
     | some (srp, s, v) =>
       if sameKind s t then
       (match srp, trp, v with
        | .req, .req, v => projN s t v
        | .opt, .opt, .some w => .some (projN s t w)
        | .opt, .opt, _ => .none
        | .rpt, .rpt, .list ws => .list (ws.map (projN s t))
        | .rpt, .rpt, _ => .list []
        | .req, .opt, v => .some (projN s t v)
        | .opt, .req, .some w => projN s t w
        | .opt, .req, _ => dfltN t
        | _, trp, _ => dfltW trp (dfltN t))
       else dfltW trp (dfltN t)
     | none => dfltW trp (dfltN t)) :: projF sfs vs tfs
end

/-! ## MIRROR of `convert.go` -/

/-- The state of the path walk of `Convert` (convert.go:488-517): current target / source
    repetition and definition levels and the two lookup tables (zero-initialised arrays). -/
structure Lv where
  tr : Nat
  td : Nat
  sr : Nat
  sd : Nat
  R : Nat → Nat
  D : Nat → Nat

def upd (f : Nat → Nat) (i v : Nat) : Nat → Nat := fun j => if j = i then v else f j

/-- `applyFieldRepetitionType`: repeated adds one repetition level; optional and repeated add one
    definition level -/
def repOf : Rp → Nat
  | .rpt => 1
  | _ => 0
def defOf : Rp → Nat
  | .req => 0
  | _ => 1

/-- one iteration of the loop convert.go:497-514 (both nodes exist) -/
def Lv.step (lv : Lv) (trp srp : Rp) : Lv :=
  { tr := lv.tr + repOf trp, td := lv.td + defOf trp,
    sr := lv.sr + repOf srp, sd := lv.sd + defOf srp,
    R := upd lv.R (lv.sr + repOf srp) (lv.tr + repOf trp),
    D := upd lv.D (lv.sd + defOf srp) (lv.td + defOf trp) }

/-- path step when the source has no such node: only the target's max levels advance
    (`targetColumn.maxDefinitionLevel` of the leaf column) -/
def Lv.stepT (lv : Lv) (trp : Rp) : Lv :=
  { lv with tr := lv.tr + repOf trp, td := lv.td + defOf trp }

def lv0 : Lv := ⟨0, 0, 0, 0, fun _ => 0, fun _ => 0⟩

/-- Where the walk of a target column path stands in the source schema. Instead of a column index
    into `source.columns` the state carries the block of source columns of the current source node
    (`on`), resp. the values of the closest leaf sibling once the path left the source schema
    (`lost`; `none` = `lookupClosest` found no leaf). `pc` is the closest leaf of the parent group. -/
inductive Src where
  | on (s : PNode) (blk : Cols) (pc : Option (List Triple))
  | lost (c : Option (List Triple))

/-- column_mapping.go:63-74: among the direct children of the group, the leaf with the smallest name -/
def closestLeaf : PFields → Cols → Option (Nat × List Triple) → Option (Nat × List Triple)
  | .nil, _, best => best
  | .cons nm _ n fs, blk, best =>
    match n with
    | .leaf =>
      closestLeaf fs (blk.drop 1)
        (match best with
         | some (bn, bc) => if nm < bn then some (nm, blk.headD []) else some (bn, bc)
         | none => some (nm, blk.headD []))
    | .group gfs => closestLeaf fs (blk.drop (leavesP (.group gfs))) best

/-- the source field named `nm` with its block of columns -/
def findB (nm : Nat) : PFields → Cols → Option (Rp × PNode × Cols)
  | .nil, _ => none
  | .cons nm' rp n fs, blk =>
    if nm' = nm then some (rp, n, blk.take (leavesP n)) else findB nm fs (blk.drop (leavesP n))

/-- one path component: `sourceMapping.lookup` / `lookupClosest` descend by name
    (column_mapping.go:47-79) while the level loop of convert.go:497-514 advances -/
def stepS (nm : Nat) (trp : Rp) (lv : Lv) : Src → Lv × Src
  | .on (.group sfs) blk _ =>
    match findB nm sfs blk with
    | some (srp, sn, b) => (lv.step trp srp, .on sn b ((closestLeaf sfs blk none).map (·.2)))
    | none => (lv.stepT trp, .lost ((closestLeaf sfs blk none).map (·.2)))
  | .on .leaf _ pc => (lv.stepT trp, .lost pc)
  | .lost c => (lv.stepT trp, .lost c)

/-- convert.go:328-336: placeholder when there are no source values -/
def placeholder (isOpt : Bool) : Triple := if isOpt then ⟨none, 0, 0⟩ else ⟨some 0, 0, 0⟩

/-- convert.go:593-600 `isDirectLevelMapping` -/
def isDirect (f : Nat → Nat) (n : Nat) : Bool := (List.range n).all fun i => f i == i

/-- convert.go:220-241 `convertToLevels` (tables truncated to `[:srcRep+1]`, `[:srcDef+1]`) -/
def convLevels (lv : Lv) (c : List Triple) : List Triple :=
  c.map fun t =>
    if t.rep ≥ lv.sr + 1 ∨ t.dfn ≥ lv.sd + 1 then ⟨none, 0, 0⟩ else ⟨t.val, lv.R t.rep, lv.D t.dfn⟩

/-- convert.go:203-218 `convertToNullOptional` -/
def toNullOpt (maxDef : Nat) (c : List Triple) : List Triple :=
  c.map fun t => ⟨none, t.rep, if t.dfn = maxDef then t.dfn - 1 else t.dfn⟩

/-- convert.go:118-200 `convertToZero`: the payload becomes the typed zero, levels untouched -/
def toZero (c : List Triple) : List Triple := c.map fun t => ⟨some 0, t.rep, t.dfn⟩

/-- convert.go:366-368: a null value in a column whose max definition level is 0 becomes `ZeroValue` -/
def fixup (isOpt : Bool) (c : List Triple) : List Triple :=
  c.map fun t => if t.val.isNone && !isOpt then ⟨some 0, 0, 0⟩ else t

/-- One target leaf column: convert.go:468-583 (which conversion functions are installed) followed
    by convert.go:284-379 (applying them to the row). `tOpt` = `targetColumn.node.Optional()`. -/
def leafOut (tOpt : Bool) (lv : Lv) : Src → List Triple
  | .on .leaf blk _ =>
    let src := blk.headD []
    let vals := if src.isEmpty then [placeholder (decide (lv.td > 0))] else src
    let vals := if isDirect lv.R (lv.sr + 1) && isDirect lv.D (lv.sd + 1) then vals else convLevels lv vals
    fixup (decide (lv.td > 0)) vals
  | .on (.group _) _ _ =>
    let vals := [placeholder (decide (lv.td > 0))]
    fixup (decide (lv.td > 0)) (if tOpt then vals else toZero vals)
  | .lost none =>
    let vals := [placeholder (decide (lv.td > 0))]
    fixup (decide (lv.td > 0)) (if tOpt then vals else toZero vals)
  | .lost (some c) =>
    let vals := if c.isEmpty then [placeholder (decide (lv.td > 0))] else c
    fixup (decide (lv.td > 0)) (if tOpt then toNullOpt lv.td vals else toZero vals)

mutual
/-- The loop over the target's leaf columns (convert.go:468), organised along the target schema
    tree: every leaf is reached with exactly the state that the walk of its column path from the
    root computes (the walks of a common path prefix are shared). -/
def convN : PNode → Rp → Lv → Src → Cols
  | .leaf, trp, lv, s => [leafOut (trp == .opt) lv s]
  | .group tfs, _, lv, s => convF tfs lv s
def convF : PFields → Lv → Src → Cols
  | .nil, _, _ => []
  | .cons nm trp tn tfs, lv, s =>
    convN tn trp (stepS nm trp lv s).1 (stepS nm trp lv s).2 ++ convF tfs lv s
end

/-- STAGE ONE of `convertRow` (which is defined through it; `main_convN`, `main_addN` are about it):
    conversion functions, then the zero fix-up of columns whose max definition level is 0. Alone it
    is `conversion.Convert` for one row before /repo fa179c0 (hence the name; regression facts). -/
def convertRow_before_fix (src tgt : PNode) (cols : Cols) : Cols :=
  convN tgt .req lv0 (.on src cols none)

mutual
/-- `targetColumn.maxDefinitionLevel` of every leaf column of a node entered at definition level `d` -/
def maxDefsN : PNode → Nat → List Nat
  | .leaf, d => [d]
  | .group fs, d => maxDefsF fs d
def maxDefsF : PFields → Nat → List Nat
  | .nil, _ => []
  | .cons _ rp n fs, d => maxDefsN n (d + defOf rp) ++ maxDefsF fs d
end

/-- convert.go:369-373 `conversionColumn.convert`: a null that the level mapping made
    PRESENT (definition level = the column's maximum: optional → required leaf) becomes the typed
    zero of the column (`conv.zeroValue`, `Type.Length()` zero bytes for FIXED_LEN_BYTE_ARRAY:
    `some 0` stands for the typed zero), levels kept. -/
def zeroCol (td : Nat) (c : List Triple) : List Triple :=
  c.map fun t => if t.val.isNone && t.dfn == td then ⟨some 0, t.rep, t.dfn⟩ else t

def zeroAtMax (tds : List Nat) (X : Cols) : Cols := List.zipWith zeroCol tds X

/-- MIRROR of `conversion.Convert` for one row given as per-column streams : per column `convertValues`, the zero fix-up for max definition level 0
    (`convN`), then the typed zero for nulls at the column's max definition level. In a column
    with max definition level 0 no null is left by the first fix-up, so applying the second to
    every column is what the `else if` of the code does. -/
def convertRow (src tgt : PNode) (cols : Cols) : Cols :=
  zeroAtMax (maxDefsN tgt 0) (convertRow_before_fix src tgt cols)

/-! ## Compatible targets (hypothesis of `convert_shred`) -/

/-- the (first) field named `nm` -/
def getFld (nm : Nat) : PFields → Option (Rp × PNode)
  | .nil => none
  | .cons nm' rp n fs => if nm' = nm then some (rp, n) else getFld nm fs

/-- repetition types the conversion maps exactly: unchanged, or required → optional -/
def rpOk : Rp → Rp → Bool
  | .req, .req => true
  | .opt, .opt => true
  | .rpt, .rpt => true
  | .req, .opt => true
  | _, _ => false

mutual
/-- `subN src tgt`: the target is obtained from the source by deleting fields, permuting fields
    (at any depth) and turning required fields into optional ones. -/
def subN : PNode → PNode → Bool
  | .leaf, .leaf => true
  | .group sfs, .group tfs => subF sfs tfs
  | _, _ => false
def subF (sfs : PFields) : PFields → Bool
  | .nil => true
  | .cons nm trp t tfs =>
    (match getFld nm sfs with
     | some (srp, s) => rpOk srp trp && subN s t
     | none => false) && subF sfs tfs
end

/-! ## Targets that add fields (hypothesis of `convert_shred_added_partial`) -/

/-- static twin of `closestLeaf`: name, column offset within the group's block and repetition type
    of the closest leaf sibling -/
def closestOff : PFields → Nat → Option (Nat × Nat × Rp) → Option (Nat × Nat × Rp)
  | .nil, _, best => best
  | .cons nm rp n fs, off, best =>
    match n with
    | .leaf =>
      closestOff fs (off + 1)
        (match best with
         | some (bn, bo, brp) => if nm < bn then some (nm, off, rp) else some (bn, bo, brp)
         | none => some (nm, off, rp))
    | .group gfs => closestOff fs (off + leavesP (.group gfs)) best

/-- an added field is synthesised correctly in a source group with fields `sfs` at definition
    level `sd`: the closest leaf sibling is required, or there is none and the group sits at level 0 -/
def addOk (sfs : PFields) (sd : Nat) : Bool :=
  match closestOff sfs 0 none with
  | some (_, _, .req) => true
  | some _ => false
  | none => sd == 0

mutual
/-- `addN sd src tgt`: the target is obtained from the source (entered at definition level `sd`)
    by deleting and permuting fields and ADDING fields (any subtree) in groups where `addOk` holds;
    shared fields keep their repetition type. -/
def addN (sd : Nat) : PNode → PNode → Bool
  | .leaf, .leaf => true
  | .group sfs, .group tfs => addF sd sfs tfs
  | _, _ => false
def addF (sd : Nat) (sfs : PFields) : PFields → Bool
  | .nil => true
  | .cons nm trp t tfs =>
    (match getFld nm sfs with
     | some (srp, s) => decide (srp = trp) && addN (sd + defOf srp) s t
     | none => addOk sfs sd) && addF sd sfs tfs
end

end PqModel.Convert
