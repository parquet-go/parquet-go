import PqModel.ConvertProofs

/-! C12, added columns: what the mirror of `convert.go` emits for a target subtree that the source
    does not have, for one instance of the enclosing group, compared with the specification
    (shredding the default value of the subtree). Streams are compared as Parquet streams: the
    payload of an entry only exists at the column's maximal definition level (`canon`; `canon`,
    `canonCol`, `nf` are the vocabulary of the statements in Props/C12). -/
namespace PqModel.Convert
open PqModel.Dremel

/-- erase the payload of entries below the column's maximal definition level -/
def canonCol (td : Nat) (c : List Triple) : List Triple :=
  c.map fun t => if t.dfn < td then ⟨none, t.rep, t.dfn⟩ else t

def canon (tds : List Nat) (X : Cols) : Cols := List.zipWith canonCol tds X

theorem canon_append {t1 t2 : List Nat} {A B : Cols} (h : t1.length = A.length) :
    canon (t1 ++ t2) (A ++ B) = canon t1 A ++ canon t2 B := by
  simp [canon, List.zipWith_append h]

theorem canonCol_append (td : Nat) (a b : List Triple) : canonCol td (a ++ b) = canonCol td a ++ canonCol td b := by
  simp [canonCol]

theorem canon_zipApp : ∀ (T : List Nat) (A B : Cols), canon T (zipApp A B) = zipApp (canon T A) (canon T B)
  | [], _, _ => rfl
  | _ :: _, [], _ => rfl
  | _ :: _, _ :: _, [] => rfl
  | t :: ts, a :: as, b :: bs => by
    show canonCol t (a ++ b) :: canon ts (zipApp as bs) =
      (canonCol t a ++ canonCol t b) :: zipApp (canon ts as) (canon ts bs)
    rw [canonCol_append, canon_zipApp ts as bs]

theorem canon_replicate_nil (T : List Nat) : canon T (List.replicate T.length []) = List.replicate T.length [] := by
  induction T with
  | nil => simp [canon]
  | cons t ts ih =>
    simp only [canon] at ih
    simp [canon, List.replicate_succ, canonCol, ih]

theorem canon_foldr (T : List Nat) (g : Val → Cols) : ∀ (ws : List Val),
    canon T (ws.foldr (fun w acc => zipApp (g w) acc) (List.replicate T.length [])) =
      ws.foldr (fun w acc => zipApp (canon T (g w)) acc) (List.replicate T.length [])
  | [] => canon_replicate_nil T
  | w :: ws => by
    simp only [List.foldr_cons]
    rw [canon_zipApp, canon_foldr T g ws]

/-- normal form of an added subtree in one group instance with levels `(r, d)`: every leaf column
    holds one entry, null unless `d` is the column's maximal definition level (then the zero value) -/
def nf (tds : List Nat) (r d : Nat) : Cols :=
  tds.map fun td => [⟨if d < td then none else some 0, r, d⟩]

theorem nf_append (t1 t2 : List Nat) (r d : Nat) : nf (t1 ++ t2) r d = nf t1 r d ++ nf t2 r d := by
  simp [nf]

mutual
theorem maxDefsN_length : ∀ (a : PNode) (d : Nat), (maxDefsN a d).length = leavesP a
  | .leaf, _ => by simp [maxDefsN, leavesP, eraseN, leavesN]
  | .group fs, d => by
    simp only [maxDefsN, leavesP, eraseN, leavesN]
    exact maxDefsF_length fs d
theorem maxDefsF_length : ∀ (fs : PFields) (d : Nat), (maxDefsF fs d).length = leavesF (eraseF fs)
  | .nil, _ => by simp [maxDefsF, eraseF, leavesF]
  | .cons nm rp n fs, d => by
    rw [leavesF_cons]
    simp only [maxDefsF, List.length_append]
    rw [maxDefsN_length n, maxDefsF_length fs]
end

mutual
theorem canon_absentN : ∀ (a : PNode) (td r d : Nat), d < td →
    canon (maxDefsN a td) (absentN (eraseN a) r d) = nf (maxDefsN a td) r d
  | .leaf, td, r, d, h => by simp [maxDefsN, eraseN, absentN, canon, canonCol, nf, h]
  | .group fs, td, r, d, h => by
    simp only [maxDefsN, eraseN, absentN]
    exact canon_absentF fs td r d h
theorem canon_absentF : ∀ (fs : PFields) (td r d : Nat), d < td →
    canon (maxDefsF fs td) (absentF (eraseF fs) r d) = nf (maxDefsF fs td) r d
  | .nil, _, _, _, _ => by simp [maxDefsF, eraseF, absentF, canon, nf]
  | .cons nm rp n fs, td, r, d, h => by
    simp only [maxDefsF, eraseF, absentF, absent_wrap, nf_append]
    rw [canon_append (by rw [maxDefsN_length, absentN_length]; rfl)]
    rw [canon_absentN n (td + defOf rp) r d (by omega), canon_absentF fs td r d h]
end

theorem dfltF_length : ∀ (fs : PFields) (r k d : Nat), (shredF (eraseF fs) r k d (dfltF fs)).length = leavesF (eraseF fs) :=
  fun fs r k d => shredF_len (eraseF fs) r k d (dfltF fs)

mutual
theorem canon_dfltN : ∀ (a : PNode) (r k d : Nat),
    canon (maxDefsN a d) (shredN (eraseN a) r k d (dfltN a)) = nf (maxDefsN a d) r d
  | .leaf, r, k, d => by simp [maxDefsN, eraseN, shredN, dfltN, canon, canonCol, nf]
  | .group fs, r, k, d => by
    simp only [maxDefsN, eraseN, shredN, dfltN]
    exact canon_dfltF fs r k d
theorem canon_dfltF : ∀ (fs : PFields) (r k d : Nat),
    canon (maxDefsF fs d) (shredF (eraseF fs) r k d (dfltF fs)) = nf (maxDefsF fs d) r d
  | .nil, _, _, _ => by simp [maxDefsF, eraseF, shredF, dfltF, canon, nf]
  | .cons nm rp n fs, r, k, d => by
    simp only [maxDefsF, eraseF, shredF, dfltF, nf_append]
    rw [canon_append (by rw [maxDefsN_length, shredN_wrap_length])]
    rw [canon_dfltF fs r k d]
    congr 1
    cases rp
    · simp only [wrap, dfltW, defOf, Nat.add_zero]
      exact canon_dfltN n r k d
    · simp only [wrap, dfltW, shredN, defOf]
      exact canon_absentN n (d + 1) r d (by omega)
    · simp only [wrap, dfltW, shredN, defOf]
      exact canon_absentN n (d + 1) r d (by omega)
end

theorem canon_dfltW (a : PNode) (trp : Rp) (r k d : Nat) :
    canon (maxDefsN a (d + defOf trp)) (shredN (wrap trp (eraseN a)) r k d (dfltW trp (dfltN a))) =
      nf (maxDefsN a (d + defOf trp)) r d := by
  simpa [maxDefsF, eraseF, shredF, dfltF, nf] using canon_dfltF (.cons 0 trp a .nil) r k d

theorem stepS_lost (nm : Nat) (trp : Rp) (lv : Lv) (c : Option (List Triple)) :
    stepS nm trp lv (.lost c) = (lv.stepT trp, .lost c) := rfl

/-- what a `lost` walk lends to an added field in one group instance: nothing (a placeholder at
    (0, 0)), or the single entry `(x, r, d)` of the closest leaf sibling -/
def LostAt (c : Option (List Triple)) (r d : Nat) : Prop :=
  (c = none ∧ r = 0 ∧ d = 0) ∨ ∃ x, c = some [⟨x, r, d⟩]

/-- `canon` erases what `toNullOpt` / `toZero` / `fixup` leave of the payload below the column's maximal
    level; `hd` settles the tests `d = maxDef` of `toNullOpt` and `d < maxDef` of `canonCol`. -/
theorem canon_lost_leaf (trp : Rp) (lv : Lv) (c : Option (List Triple)) (r d : Nat) (hc : LostAt c r d)
    (hd : d ≤ lv.td) :
    canon [lv.td + defOf trp] (convN .leaf trp (lv.stepT trp) (.lost c)) = nf [lv.td + defOf trp] r d := by
  rcases hc with ⟨rfl, rfl, rfl⟩ | ⟨x, rfl⟩
  · cases trp with
    | opt => simp [convN, leafOut, Lv.stepT, defOf, canon, canonCol, nf, placeholder, fixup]
    | req =>
      by_cases h : 0 < lv.td <;> simp [convN, leafOut, Lv.stepT, defOf, canon, canonCol, nf, placeholder, toZero, fixup, h]
    | rpt => simp [convN, leafOut, Lv.stepT, defOf, canon, canonCol, nf, placeholder, toZero, fixup]
  · cases trp with
    | opt =>
      have h : d < lv.td + 1 := by omega
      have h1 : ¬ d = lv.td + 1 := by omega
      simp [convN, leafOut, Lv.stepT, defOf, canon, canonCol, nf, toNullOpt, fixup, h, h1]
    | req =>
      by_cases h : d < lv.td <;> simp [convN, leafOut, Lv.stepT, defOf, canon, canonCol, nf, toZero, fixup, h]
    | rpt =>
      have h : d < lv.td + 1 := by omega
      simp [convN, leafOut, Lv.stepT, defOf, canon, canonCol, nf, toZero, fixup, h]

mutual
theorem canon_lostN : ∀ (a : PNode) (trp : Rp) (lv : Lv) (c : Option (List Triple)) (r d : Nat),
    LostAt c r d → d ≤ lv.td →
    canon (maxDefsN a (lv.td + defOf trp)) (convN a trp (lv.stepT trp) (.lost c)) =
      nf (maxDefsN a (lv.td + defOf trp)) r d
  | .leaf, trp, lv, c, r, d, hc, hd => canon_lost_leaf trp lv c r d hc hd
  | .group fs, trp, lv, c, r, d, hc, hd => canon_lostAnyF fs (lv.stepT trp) c r d hc (Nat.le_add_right_of_le hd)
theorem canon_lostAnyF : ∀ (fs : PFields) (lv : Lv) (c : Option (List Triple)) (r d : Nat),
    LostAt c r d → d ≤ lv.td →
    canon (maxDefsF fs lv.td) (convF fs lv (.lost c)) = nf (maxDefsF fs lv.td) r d
  | .nil, _, _, _, _, _, _ => by simp [convF, maxDefsF, canon, nf]
  | .cons nm rp n fs, lv, c, r, d, hc, hd => by
    simp only [convF, stepS_lost, maxDefsF, nf_append]
    rw [canon_append (by rw [maxDefsN_length, convN_length]), canon_lostN n rp lv c r d hc hd,
      canon_lostAnyF fs lv c r d hc hd]
end

theorem canon_lostF : ∀ (fs : PFields) (lv : Lv) (x : Option Nat) (r d : Nat), d ≤ lv.td →
    canon (maxDefsF fs lv.td) (convF fs lv (.lost (some [⟨x, r, d⟩]))) = nf (maxDefsF fs lv.td) r d :=
  fun fs lv x r d hd => canon_lostAnyF fs lv _ r d (Or.inr ⟨x, rfl⟩) hd

theorem canon_lostNoneF : ∀ (fs : PFields) (lv : Lv),
    canon (maxDefsF fs lv.td) (convF fs lv (.lost none)) = nf (maxDefsF fs lv.td) 0 0 :=
  fun fs lv => canon_lostAnyF fs lv none 0 0 (Or.inl ⟨rfl, rfl, rfl⟩) (Nat.zero_le _)

end PqModel.Convert
