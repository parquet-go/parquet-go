import PqModel.PageLoad

/-! # What the callers of the page readers do with a page-load error (C13)

`PageLoad.lean` says which loader rejects a corrupted body. Between that loader and the program there
are layers that call a page reader and hand its result on: `FilePages.ReadPage`, the lazy dictionary
load inside `readDataPageV1/V2`, `columnPages` (whole column over all row groups, column.go),
`multiPages` (multi_row_group.go), `rangePages`, `convertedPages`, `columnChunkValueReader`,
`CopyPages`, `PrintColumnChunk`, the async reader's goroutine … A corruption that is detected by the
loader is still *returned as data / as a short read without error* when one of them drops or
swallows the error (seeded/C13-3a: `f.readDictionary()` as a bare statement; seeded/C13-3b:
`if p != nil { return p, err }` in `columnPages.ReadPage`).

Modelled here (and, further down, the chunk scripts built from stored pages and the correlated enumeration `verdictsC`).

1. **The decision list of a call site** (`Step`, `verdict`, `propagates`). `tools/factgen` (family
   `pagereaders`) extracts, for every call to a page reader in the root package, the conditions the
   following statements test on the error / page variables and what each branch does
   (`Generated.Facts.pageReaderCalls`). `verdict` evaluates such a list, in three-valued (Kleene)
   logic because conditions about other things are unknown, in the situation `Sit` the caller is in;
   `propagates` demands that in the situation "error that is neither nil nor io.EOF" (page nil or
   not) the first branch taken hands the error on. This is a SPEC-side evaluator of an extracted
   control-flow summary, not a mirror of one function.

2. **The concatenating readers** `columnPages.ReadPage` (column.go:121-133) and `multiPages.ReadPage`
   (multi_row_group.go:538-558): MIRROR `concatReadPage`, parametric in the guard of their returning
   branch (`if err == nil || err != io.EOF { return p, err }`), with the SPEC `specRead` (the pages
   of the chunks in order up to the first failure, which is reported). `drain_refines` proves them
   equal for every guard that holds for a page and for a failure and not for io.EOF;
   `Props/FactsCheckC13.lean` shows the guards extracted from the source are of that kind.

The same evaluator judges the second table, the callers of value / row readers (`ReadValues`,
`ReadRows`, `readRows`: `rowGroupRows.ReadRows`, `Reader`, `GenericReader`, `CopyRows`, the merge /
dedupe / filter / transform readers …): `FactsCheckC13.row_reader_callers_hand_the_error_on`; the
error that `rowGroupRows.ReadRows` keeps in a field is `RowsState.lean`.

Not modelled: `SeekToRow` of the wrappers (C08), `Close` errors. -/
namespace PqModel.PageReaders
open PqModel.PageLoad

/-- what the caller's tests can see of `(page, err)` -/
structure Sit where
  errNil : Bool
  errEOF : Bool    -- `err == io.EOF` (then also `errors.Is(err, io.EOF)`)
  pageNil : Bool
  /-- value / row readers: the count that came with the error is zero -/
  countZero : Bool := true
  deriving DecidableEq, Repr

/-- atoms of the extracted conditions; anything else is a condition about something else: unknown -/
def atom (s : Sit) (t : String) : Option Bool :=
  if t = "true" then some true
  else if t = "err==nil" then some s.errNil
  else if t = "err!=nil" then some (!s.errNil)
  else if t = "err==EOF" then some s.errEOF
  else if t = "err!=EOF" then some (!s.errEOF)
  else if t = "isEOF" then some s.errEOF
  else if t = "page==nil" then some s.pageNil
  else if t = "page!=nil" then some (!s.pageNil)
  else if t = "n==0" then some s.countZero
  else if t = "n!=0" then some (!s.countZero)
  else if t = "n>0" then some (!s.countZero)
  else none

def kand : Option Bool → Option Bool → Option Bool
  | some false, _ => some false
  | _, some false => some false
  | some true, some true => some true
  | _, _ => none

def kor : Option Bool → Option Bool → Option Bool
  | some true, _ => some true
  | _, some true => some true
  | some false, some false => some false
  | _, _ => none

def knot : Option Bool → Option Bool
  | some b => some (!b)
  | none => none

/-- stack evaluation of a condition in reverse Polish notation; outer `none` = malformed -/
def evalRPN (s : Sit) : List String → List (Option Bool) → Option (Option Bool)
  | [], [v] => some v
  | [], _ => none
  | t :: rest, st =>
    if t = "and" then
      match st with
      | b :: a :: st' => evalRPN s rest (kand a b :: st')
      | _ => none
    else if t = "or" then
      match st with
      | b :: a :: st' => evalRPN s rest (kor a b :: st')
      | _ => none
    else if t = "not" then
      match st with
      | a :: st' => evalRPN s rest (knot a :: st')
      | _ => none
    else evalRPN s rest (atom s t :: st)

def holds (s : Sit) (guard : List String) : Option Bool := (evalRPN s guard []).join

abbrev Step := List String × String

inductive Verdict where
  | handsOn      -- the error reaches the caller's caller (returned, wrapped, or sent to the consumer)
  | swallows     -- a branch that does not carry the error is taken, or nothing happens with it
  | leaves       -- `continue` / end of a loop body / a labelled jump: the next iteration overwrites it
  | unresolved   -- a condition about something else decides
  | failsOther   -- the caller returns ANOTHER error its guard says is non-nil (`return werr`)
  deriving DecidableEq, Repr

/-- outcomes that carry the error variable to the caller -/
def carries (o : String) : Bool := o = "return-err" || o = "return-wrapped" || o = "send"

/-- what an outcome means for the error when its step is taken. The extractor follows an unlabeled
    `break` and the exit of a conditional loop into the statements behind the loop, so `break` does not
    occur for them; `iterate` = the loop goes round again, `falls-off` = the end of a
    function is reached (the error is dropped). -/
def outcomeVerdict (o : String) : Verdict :=
  if carries o then .handsOn
  else if o = "return-other-err" then .failsOther
  else if o = "break" || o = "continue" || o = "end" || o = "iterate" then .leaves
  else .swallows

/-- the first step whose guard holds decides; `store` (`x.f = err`: the error is kept in a field and
    execution goes on) does not decide -/
def verdict (s : Sit) : List Step → Verdict
  | [] => .swallows
  | (g, o) :: rest =>
    if o = "store" then verdict s rest else
    match holds s g with
    | some true => outcomeVerdict o
    | some false => verdict s rest
    | none => .unresolved

/-- every way the list can go when a condition about something else may turn out either way (an
    over-approximation: later guards are not correlated with the choice) -/
def verdicts (s : Sit) : List Step → List Verdict
  | [] => [.swallows]
  | (g, o) :: rest =>
    if o = "store" then verdicts s rest else
    match holds s g with
    | some true => [outcomeVerdict o]
    | some false => verdicts s rest
    | none => outcomeVerdict o :: verdicts s rest

/-! ### correlated enumeration

`verdicts` treats every unknown guard independently, so a list like
`[A ∧ B → return werr, A ∧ ¬B → return err, ¬A → return err]` (an `if A { if B {…}; return }; return`
shape, `convertedValueReader.ReadValues`) gets a spurious "no step taken" way. The
conditions about other things are evaluated once on a path, so the same text has the same truth value
in every guard of the list: `verdictsC` enumerates the assignments of the unknown atoms and takes the
first matching step under each. -/

def isOp (t : String) : Bool := t = "and" || t = "or" || t = "not"

/-- the conditions about something else that occur in the list -/
def unknownAtoms (s : Sit) (steps : List Step) : List String :=
  (steps.flatMap (fun st => st.1.filter (fun t => !isOp t && (atom s t).isNone))).eraseDups

def atomA (s : Sit) (asg : List (String × Bool)) (t : String) : Option Bool :=
  match atom s t with
  | some b => some b
  | none => asg.lookup t

def evalRPNA (s : Sit) (asg : List (String × Bool)) : List String → List (Option Bool) → Option (Option Bool)
  | [], [v] => some v
  | [], _ => none
  | t :: rest, st =>
    if t = "and" then
      match st with
      | b :: a :: st' => evalRPNA s asg rest (kand a b :: st')
      | _ => none
    else if t = "or" then
      match st with
      | b :: a :: st' => evalRPNA s asg rest (kor a b :: st')
      | _ => none
    else if t = "not" then
      match st with
      | a :: st' => evalRPNA s asg rest (knot a :: st')
      | _ => none
    else evalRPNA s asg rest (atomA s asg t :: st)

/-- the first step whose guard holds under the assignment decides -/
def verdictA (s : Sit) (asg : List (String × Bool)) : List Step → Verdict
  | [] => .swallows
  | (g, o) :: rest =>
    if o = "store" then verdictA s asg rest else
    match (evalRPNA s asg g []).join with
    | some true => outcomeVerdict o
    | some false => verdictA s asg rest
    | none => .unresolved

def assignments : List String → List (List (String × Bool))
  | [] => [[]]
  | a :: rest => (assignments rest).flatMap (fun asg => [(a, true) :: asg, (a, false) :: asg])

/-- every way the list can go, one per truth assignment of the conditions about other things -/
def verdictsC (s : Sit) (steps : List Step) : List Verdict :=
  ((assignments (unknownAtoms s steps)).map (fun asg => verdictA s asg steps)).eraseDups

theorem verdict_mem_verdicts (s : Sit) : ∀ (steps : List Step), verdict s steps ≠ .unresolved →
    verdict s steps ∈ verdicts s steps := by
  intro steps
  fun_induction verdict s steps with
  | case1 => simp [verdicts]
  | case2 g rest ih => rw [verdicts, if_pos rfl]; exact ih
  | case3 g o rest ho hg => rw [verdicts, if_neg ho, hg]; simp
  | case4 g o rest ho hg ih => rw [verdicts, if_neg ho, hg]; exact ih
  | case5 g o rest ho hg => exact fun h => absurd rfl h

/-- the caller got a failure: non-nil, not io.EOF -/
def failed (pageNil : Bool) : Sit := { errNil := false, errEOF := false, pageNil }

/-- (calling function, reader called, form of the call: tail | assign | if-init | discard | blank, decision list) -/
abbrev Site := String × String × String × List Step

/-- a call site hands a page-load failure on: a tail call, or a decision list whose first branch
    taken in the situation `failed` (whether or not a page came with the error) carries the error -/
def propagates (site : Site) : Bool :=
  let form := site.2.2.1
  let steps := site.2.2.2
  if form = "tail" then true
  else if form = "assign" || form = "if-init" then
    verdict (failed true) steps == .handsOn && verdict (failed false) steps == .handsOn
  else false

/-- one result of an inner `ReadPage` -/
inductive Res where
  | page (p : Page)
  | eof
  | fail (e : Err)
  deriving DecidableEq, Repr

def sitOf : Res → Sit
  | .page _ => { errNil := true, errEOF := false, pageNil := false }
  | .eof => { errNil := false, errEOF := true, pageNil := true }
  | .fail _ => failed true

/-- a chunk's page reader as the script of its successive results; exhausted = io.EOF for ever -/
abbrev Script := List Res

def next : Script → Res × Script
  | [] => (.eof, [])
  | r :: rest => (r, rest)

/-- MIRROR `columnPages.ReadPage` column.go:121-133 (`c.pages[c.index:]` = the list) and
    `multiPages.ReadPage` multi_row_group.go:538-558 (chunks opened one after the other), parametric
    in the guard of `if <guard> { return p, err }`; otherwise `index++` and the loop goes on. -/
def concatReadPage (guard : Sit → Bool) : List Script → Res × List Script
  | [] => (.eof, [])                                   -- if c.index >= len(c.pages) { return nil, io.EOF }
  | s :: rest =>
    if guard (sitOf (next s).1) then ((next s).1, (next s).2 :: rest)   -- return p, err
    else concatReadPage guard rest                     -- c.index++

/-- call `ReadPage` until it answers io.EOF or fails (the loop of every consumer), at most `fuel` times -/
def drain (guard : Sit → Bool) : Nat → List Script → List Page × Option Err
  | 0, _ => ([], none)
  | fuel + 1, cs =>
    match concatReadPage guard cs with
    | (.page p, cs') => let (ps, e) := drain guard fuel cs'; (p :: ps, e)
    | (.eof, _) => ([], none)
    | (.fail e, _) => ([], some e)

/-- SPEC: the pages of one chunk up to its end (`none` = ended cleanly) or first failure -/
def specChunk : Script → List Page × Option Err
  | [] => ([], none)
  | .page p :: rest => let (ps, e) := specChunk rest; (p :: ps, e)
  | .eof :: _ => ([], none)
  | .fail e :: _ => ([], some e)

/-- SPEC: reading a whole column = the chunks' pages in order; the first failure ends the read and is
    reported -/
def specRead : List Script → List Page × Option Err
  | [] => ([], none)
  | s :: rest =>
    match specChunk s with
    | (ps, some e) => (ps, some e)
    | (ps, none) => let (qs, e) := specRead rest; (ps ++ qs, e)

/-- number of `ReadPage` calls that certainly suffice -/
def fuelFor (cs : List Script) : Nat := (cs.map List.length).sum + 1

structure GoodGuard (guard : Sit → Bool) : Prop where
  page : ∀ p, guard (sitOf (.page p)) = true
  fail : ∀ e, guard (sitOf (.fail e)) = true
  eof : guard (sitOf .eof) = false

theorem drain_refines (guard : Sit → Bool) (hg : GoodGuard guard) (cs : List Script) :
    ∀ fuel, fuelFor cs ≤ fuel → drain guard fuel cs = specRead cs := by
  -- one call is always left: `fuelFor` counts one more than the results in the scripts
  suffices h : ∀ n, fuelFor cs ≤ n + 1 → drain guard (n + 1) cs = specRead cs from fun fuel hf => by
    obtain ⟨n, rfl⟩ : ∃ n, fuel = n + 1 := ⟨fuel - 1, by unfold fuelFor at hf; omega⟩
    exact h n hf
  induction cs with
  | nil => intro n _; simp [drain, concatReadPage, specRead]
  | cons s rest ih =>
    -- a chunk that is exhausted, or answers io.EOF, is left behind
    have skip : ∀ s', guard (sitOf (next s').1) = false → specChunk s' = ([], none) →
        ∀ n, fuelFor (s' :: rest) ≤ n + 1 → drain guard (n + 1) (s' :: rest) = specRead (s' :: rest) := by
      intro s' hgd hsp n hf
      have := ih n (by simp [fuelFor] at hf ⊢; omega)
      simp only [drain, concatReadPage, hgd, specRead, hsp, List.nil_append] at this ⊢
      simpa using this
    induction s with
    | nil => exact skip [] hg.eof rfl
    | cons r s' ihs =>
      cases r with
      | eof => exact skip _ hg.eof rfl
      | page p =>
        intro n hf
        obtain ⟨m, rfl⟩ : ∃ m, n = m + 1 := ⟨n - 1, by simp [fuelFor] at hf; omega⟩
        have hstep : concatReadPage guard ((.page p :: s') :: rest) = (.page p, s' :: rest) := by
          simp [concatReadPage, next, hg.page]
        rw [drain, hstep]
        simp only [ihs m (by simp [fuelFor] at hf ⊢; omega), specRead, specChunk]
        cases specChunk s' with
        | mk ps e => cases e <;> simp
      | fail e => intro n _; simp [drain, concatReadPage, next, hg.fail, specRead, specChunk]

/-- a chunk whose reader delivers `ps` and then ends -/
def cleanChunk (ps : List Page) : Script := ps.map .page

theorem specChunk_clean_append (ps : List Page) (rest : Script) :
    specChunk (cleanChunk ps ++ rest) = (ps ++ (specChunk rest).1, (specChunk rest).2) := by
  induction ps with
  | nil => rfl
  | cons p ps ih => simp only [cleanChunk, List.map_cons, List.cons_append, specChunk] at ih ⊢; rw [ih]

theorem specChunk_clean (ps : List Page) : specChunk (cleanChunk ps) = (ps, none) := by
  simpa [specChunk] using specChunk_clean_append ps []

theorem specChunk_failing (ps : List Page) (e : Err) (rest : Script) :
    specChunk (cleanChunk ps ++ .fail e :: rest) = (ps, some e) := by
  simpa [specChunk] using specChunk_clean_append ps (.fail e :: rest)

theorem specRead_reports (pre : List (List Page)) (ps : List Page) (e : Err) (rest : Script)
    (post : List Script) :
    specRead (pre.map cleanChunk ++ (cleanChunk ps ++ .fail e :: rest) :: post) = (pre.flatten ++ ps, some e) := by
  induction pre with
  | nil => simp [specRead, specChunk_failing]
  | cons q pre ih => simp [specRead, specChunk_clean, ih]

def toPage (s : Stored) : Page := { kind := s.hdr.kind, body := s.body }

/-- MIRROR successive `FilePages.ReadPage` calls over the data pages of a chunk (each goes through
    `PageLoad.load .sequential`); after a failure the position is undefined and the script ends -/
def pagesScript (impl : Impl) : List Stored → Script
  | [] => []
  | s :: rest =>
    match loadStored impl .sequential s with
    | .ok pg => .page pg :: pagesScript impl rest
    | .error e => [.fail e]

/-- the script of a whole chunk: the dictionary page is met and loaded first; when it is rejected the
    first `ReadPage` fails -/
def chunkScript (impl : Impl) (c : Chunk) : Script :=
  match c.dict with
  | none => pagesScript impl c.pages
  | some d =>
    match loadStored impl .sequential d with
    | .ok _ => pagesScript impl c.pages
    | .error e => [.fail e]

theorem loadStored_intact (impl : Impl) (s : Stored) (hs : Intact s) :
    loadStored impl .sequential s = .ok (toPage s) :=
  loadStored_ok impl .sequential s hs

theorem pagesScript_intact_append (impl : Impl) (rest : List Stored) (pre : List Stored) (h : ∀ s ∈ pre, Intact s) :
    pagesScript impl (pre ++ rest) = cleanChunk (pre.map toPage) ++ pagesScript impl rest := by
  induction pre with
  | nil => rfl
  | cons s pre ih =>
    simp [pagesScript, loadStored_intact impl s (h s (by simp)), ih fun x hx => h x (by simp [hx]), cleanChunk]

theorem pagesScript_intact (impl : Impl) (ps : List Stored) (h : ∀ s ∈ ps, Intact s) :
    pagesScript impl ps = cleanChunk (ps.map toPage) := by
  simpa [pagesScript] using pagesScript_intact_append impl [] ps h

theorem pagesScript_corrupted (impl : Impl) (bad : Stored) (post : List Stored) (hc : Corrupted bad)
    (pre : List Stored) (h : ∀ s ∈ pre, Intact s) :
    pagesScript impl (pre ++ bad :: post) = cleanChunk (pre.map toPage) ++ [.fail .corrupted] := by
  simp [pagesScript_intact_append impl _ pre h, pagesScript, loadStored_corrupted impl .sequential rfl bad hc]

/-- SPEC: a stored chunk exactly as written -/
def IntactChunk (c : Chunk) : Prop := (∀ d, c.dict = some d → Intact d) ∧ ∀ s ∈ c.pages, Intact s

theorem chunkScript_intact (impl : Impl) (c : Chunk) (hc : IntactChunk c) :
    chunkScript impl c = cleanChunk (c.pages.map toPage) := by
  unfold chunkScript
  cases hd : c.dict with
  | none => exact pagesScript_intact impl c.pages hc.2
  | some d => simp [loadStored_intact impl d (hc.1 d hd), pagesScript_intact impl c.pages hc.2]

theorem scripts_intact_prefix (impl : Impl) (pre post : List Chunk) (c : Chunk) (hpre : ∀ x ∈ pre, IntactChunk x) :
    (pre ++ c :: post).map (chunkScript impl) =
      (pre.map fun x => x.pages.map toPage).map cleanChunk ++ chunkScript impl c :: post.map (chunkScript impl) := by
  rw [List.map_append, List.map_cons, List.map_map]
  congr 1
  exact List.map_congr_left fun x hx => chunkScript_intact impl x (hpre x hx)

end PqModel.PageReaders
