import PqModel.Layout
import PqModel.Seek

/-! # `FilePages.SeekToRow` at the byte level (C08, tied to C02's `layout_wf`)

`Seek.lean` counts stream positions in pages. Here the stream is what the Go code has: a section
reader at offset `pos` (relative to the chunk start) feeding a bufio reader with `unread` buffered
bytes; the decoder sees the byte at `pos - unread` next. The offset index is what the writer
recorded (`Layout.chunkMeta`), which `layout_wf` proves equal to the positional `specLocs`.

* MIRROR: `targetB` (the `sort.Search` over `FirstRowIndex`, file.go:1663-1665), `reposition` (file.go:1698-1723, the block
  from "no-op seek to retrieve position" to `f.rbuf.Reset`: nothing / in-buffer `Discard` / real
  `Seek` + `Reset`).
* SPEC: `Layout.specLocs` — where the pages really are. -/
namespace PqModel.SeekBytes
open PqModel.Layout

structure Stream where
  pos : Nat      -- section.Seek(0, io.SeekCurrent)
  unread : Nat   -- rbuf.Buffered()
deriving Repr, DecidableEq

/-- the section-relative offset of the next byte the page decoder will see -/
def logical (s : Stream) : Nat := s.pos - s.unread

/-- MIRROR of the reposition block of `SeekToRow`. `base` is `f.baseOffset`.
    `skipBytes == 0`: nothing; `0 < skipBytes <= unread`: `rbuf.Discard(skipBytes)`; otherwise
    `section.Seek(target)` and `rbuf.Reset` -/
def reposition (base : Nat) (locs : List PageLoc) (t : Nat) (s : Stream) : Stream :=
  let curr := s.pos - s.unread
  let tgt := (locs[t]?.map (·.offset)).getD 0 - base
  if tgt = curr then s
  else if curr < tgt ∧ tgt - curr ≤ s.unread then { s with unread := s.unread - (tgt - curr) }
  else { pos := tgt, unread := 0 }

/-- MIRROR of `sort.Search(len(pages), pages[i].FirstRowIndex > rowIndex) - 1`, as the linear scan
    of `Seek.findPage` but over the recorded page locations -/
def findLoc (locs : List PageLoc) (k : Nat) : Nat → Nat → Nat
  | 0, acc => acc
  | fuel + 1, acc =>
    if acc + 1 < locs.length ∧ (locs[acc + 1]?.map (·.firstRow)).getD 0 ≤ k then findLoc locs k fuel (acc + 1) else acc

def targetB (locs : List PageLoc) (k : Nat) : Nat := findLoc locs k locs.length 0

/-- whatever the stream state, the decoder is left on the first byte of the target page -/
theorem reposition_logical (base : Nat) (locs : List PageLoc) (t : Nat) (s : Stream) (loc : PageLoc)
    (hs : s.unread ≤ s.pos) (hl : locs[t]? = some loc) (hb : base ≤ loc.offset) :
    base + logical (reposition base locs t s) = loc.offset ∧
    (reposition base locs t s).unread ≤ (reposition base locs t s).pos := by
  simp only [reposition, hl, Option.map_some, Option.getD_some]
  split
  · rename_i h; simp only [logical]; omega
  · split
    · rename_i h1 h2; simp only [logical]; omega
    · simp only [logical]; omega

def rowsOf (ps : List PageOp) : List Nat := (dataPages ps).map (·.numRows)

theorem rowsOf_cons (p : PageOp) (ps : List PageOp) :
    rowsOf (p :: ps) = if p.isDict then rowsOf ps else p.numRows :: rowsOf ps := by
  cases hd : p.isDict <;> simp [rowsOf, dataPages, hd]

theorem specLocs_get (start row : Nat) (ps : List PageOp) : ∀ (i : Nat) (loc : PageLoc),
    (specLocs start row ps)[i]? = some loc →
    loc.firstRow = row + Seek.firstRow (rowsOf ps) i ∧ start ≤ loc.offset := by
  fun_induction specLocs start row ps with
  | case1 => intro i loc h; simp at h
  | case2 start row p ps hd ih =>
    intro i loc h
    rw [rowsOf_cons, if_pos hd]
    exact ⟨(ih i loc h).1, Nat.le_trans (Nat.le_add_right _ _) (ih i loc h).2⟩
  | case3 start row p ps hd ih =>
    intro i loc h
    rw [rowsOf_cons, if_neg hd]
    cases i with
    | zero =>
      simp only [List.getElem?_cons_zero, Option.some.injEq] at h
      subst h
      exact ⟨by simp [Seek.firstRow], Nat.le_refl _⟩
    | succ i =>
      obtain ⟨h1, h2⟩ := ih i loc (by simpa using h)
      refine ⟨?_, Nat.le_trans (Nat.le_add_right _ _) h2⟩
      rw [h1, Seek.firstRow, Seek.firstRow, List.take_succ_cons, List.sum_cons, Nat.add_assoc]

theorem findLoc_eq (locs : List PageLoc) (rows : List Nat) (k : Nat) (hlen : locs.length = rows.length)
    (hfr : ∀ i loc, locs[i]? = some loc → loc.firstRow = Seek.firstRow rows i) :
    ∀ fuel acc, findLoc locs k fuel acc = Seek.findPage rows k fuel acc
  | 0, _ => rfl
  | fuel + 1, acc => by
    simp only [findLoc, Seek.findPage]
    by_cases hlt : acc + 1 < locs.length
    · have hget : locs[acc + 1]? = some locs[acc + 1] := List.getElem?_eq_getElem hlt
      have := hfr (acc + 1) _ hget
      simp only [hget, Option.map_some, Option.getD_some, this, ← hlen]
      split
      · exact findLoc_eq locs rows k hlen hfr fuel (acc + 1)
      · rfl
    · have hlt' : ¬ acc + 1 < rows.length := by omega
      simp [hlt, hlt']

/-- **seek_byte_position.** For every chunk (any pages, dictionary page or not) written at file
    offset `start`, with the offset index the writer recorded for it, and every stream state:
    the page `SeekToRow(k)` selects from the recorded `FirstRowIndex` values is the page of the
    page-granularity model (`Seek.target` over the row counts of the data pages), its recorded
    first row is the sum of the row counts before it, and after the reposition block — whichever of
    its three branches runs — the decoder stands on the first byte of that page as the pages are
    really laid out (`specLocs`). -/
theorem seek_byte_position (start : Nat) (ps : List PageOp) (k : Nat) (s : Stream)
    (hs : s.unread ≤ s.pos) (hne : rowsOf ps ≠ []) :
    let locs := (chunkMeta start ps).locs
    let t := targetB locs k
    t = Seek.target (rowsOf ps) k ∧
    ∃ loc, (specLocs start 0 ps)[t]? = some loc ∧
      start + logical (reposition start locs t s) = loc.offset ∧
      loc.firstRow = Seek.firstRow (rowsOf ps) t ∧ loc.firstRow ≤ k := by
  have hwf := (layout_wf start ps).1
  simp only []  -- unfolds the `let`s of the statement
  rw [hwf]
  have hlen : (specLocs start 0 ps).length = (rowsOf ps).length := by rw [length_specLocs, rowsOf, List.length_map]
  have hfr : ∀ i loc, (specLocs start 0 ps)[i]? = some loc → loc.firstRow = Seek.firstRow (rowsOf ps) i := by
    intro i loc h
    have := (specLocs_get start 0 ps i loc h).1
    omega
  have ht : targetB (specLocs start 0 ps) k = Seek.target (rowsOf ps) k := by
    simp only [targetB, Seek.target, hlen]
    exact findLoc_eq _ _ k hlen hfr _ _
  refine ⟨ht, ?_⟩
  rw [ht]
  have hts := Seek.target_spec (rowsOf ps) k
  have hlt : Seek.target (rowsOf ps) k < (specLocs start 0 ps).length := by
    rw [hlen]
    rcases hts.2 with a | a
    · exact a
    · rw [a]
      cases hr : rowsOf ps with
      | nil => exact absurd hr hne
      | cons _ _ => simp
  refine ⟨(specLocs start 0 ps)[Seek.target (rowsOf ps) k], List.getElem?_eq_getElem hlt, ?_, ?_, ?_⟩
  · exact (reposition_logical start _ _ s _ hs (List.getElem?_eq_getElem hlt)
      (specLocs_get start 0 ps _ _ (List.getElem?_eq_getElem hlt)).2).1
  · exact hfr _ _ (List.getElem?_eq_getElem hlt)
  · rw [hfr _ _ (List.getElem?_eq_getElem hlt)]
    exact hts.1

/-- non-vacuity: a dictionary page and three data pages written at offset 4; a seek to row 25
    from a stream that has 30 buffered bytes discards in the buffer, from a cold stream it seeks -/
def demo : List PageOp := [
  { isDict := true, hdrLen := 3, bodyLen := 7, uncompLen := 7, numValues := 0, numRows := 0 },
  { isDict := false, hdrLen := 2, bodyLen := 10, uncompLen := 10, numValues := 10, numRows := 10 },
  { isDict := false, hdrLen := 2, bodyLen := 10, uncompLen := 10, numValues := 10, numRows := 10 },
  { isDict := false, hdrLen := 2, bodyLen := 10, uncompLen := 10, numValues := 10, numRows := 10 }]
example : targetB (chunkMeta 4 demo).locs 25 = 2 := by decide
example : reposition 4 (chunkMeta 4 demo).locs 2 { pos := 40, unread := 30 } = { pos := 40, unread := 6 } := by decide
example : reposition 4 (chunkMeta 4 demo).locs 2 { pos := 10, unread := 0 } = { pos := 34, unread := 0 } := by decide

end PqModel.SeekBytes
