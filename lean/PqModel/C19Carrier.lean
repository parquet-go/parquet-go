import PqModel.VariantShred
import PqModel.LogicalDecimal

/-!
# DECIMAL carriers of a shredded typed_value column (property C19)

A shredding schema chosen by someone else may put a DECIMAL typed_value on any of the physical layouts
the format allows: INT32, INT64, FIXED_LEN_BYTE_ARRAY(n) for n = 1..16, BYTE_ARRAY. `VariantShred.lean`
tags decimal columns by the width the Go writer picks (dec4/dec8/dec16); here the carrier is explicit.

SPEC side (LogicalTypes.md, DECIMAL: "two's complement using big-endian byte order", FLBA(n): exactly n
bytes): `toCarrier` / `ofCarrier`, which ARE C01's `writeDecimal (some n)` / `readDecimal`
(LogicalDecimal.lean), so `decimal_flba_read_write` / `decimal_flba_domain` give their round trip and exact
domain.

MIRROR side: `decToCol` = the three decimal cases of `variantToParquetValue`
(variant_shredded_write.go:283-304) with the carrier as a parameter, `decOfCol` = the DECIMAL case of
`parquetToVariantValue` (variant_shredded_read.go:523-536); `Variant.toCol` / `Variant.ofCol` (VariantShred.lean) mirror the
same lines on `Bytes` for the carriers the Go writer picks. `fitsPrec 19` also on the 4-byte decimal: Go passes it through
`decimal64FitsPrecision` as an int64. The flag `slip` is the seeded variant C19-7a
(guard `Length() == 16` relaxed to `<= 16`, value `be[:Length()]`, the HIGH-order end).
-/
namespace PqModel.Variant.Carrier
open PqModel.Stats PqModel.LogicalDecimal PqModel.Variant

/-- physical type of a DECIMAL typed_value column -/
inductive Phys
  | int32 | int64 | flba (n : Nat) | ba
  deriving DecidableEq

structure DecCol where
  phys : Phys
  prec : Nat
  scale : Nat

/-- leaf value of a DECIMAL column (bytes as `List Nat`, the representation of LogicalDecimal.lean) -/
inductive CV
  | i32 (x : BitVec 32)
  | i64 (x : BitVec 64)
  | bytes (b : List Nat)
  deriving DecidableEq

/-- SPEC: the n-byte big-endian two's complement of `x`; `none` = `x` does not fit the carrier -/
def toCarrier (n : Nat) (x : Int) : Option (List Nat) := writeDecimal (some n) x
/-- SPEC: the integer a carrier value stands for (sign extension) -/
def ofCarrier (b : List Nat) : Int := readDecimal b

/-- MIRROR variant_shredded_write.go:315-322 `littleEndianToBigEndian16` of the 16 value bytes -/
def be16 (x : BitVec 128) : List Nat := beFixed 16 x.toNat

/-- MIRROR variant_shredded_write.go:283-304, cases PrimitiveDecimal4/8/16 of `variantToParquetValue`
    (`none` = no match, the value goes to the residual `value` column). `slip = true` is seed C19-7a. -/
def decToCol (slip : Bool) (c : DecCol) : Prim → Option CV
  | .dec4 sc x =>
    match c.phys with
    | .int32 => if c.scale = sc.toNat && fitsPrec 19 c.prec x.toInt then some (.i32 x) else none
    | _ => none
  | .dec8 sc x =>
    match c.phys with
    | .int64 => if c.scale = sc.toNat && fitsPrec 19 c.prec x.toInt then some (.i64 x) else none
    | _ => none
  | .dec16 sc x =>
    if c.scale = sc.toNat && fitsPrec 39 c.prec x.toInt then
      match c.phys with
      | .ba => some (.bytes (be16 x))
      | .flba n =>
        if slip then (if n ≤ 16 then some (.bytes ((be16 x).take n)) else none)
        else (if n = 16 then some (.bytes (be16 x)) else none)
      | _ => none
    else none
  | _ => none

/-- MIRROR variant_shredded_read.go:523-536, DECIMAL case of `parquetToVariantValue` with
    `bigEndianToLittleEndian16` (551-562): INT32 reads as decimal4, INT64 as decimal8, any binary
    carrier of at most 16 bytes as the sign-extended decimal16. -/
def decOfCol (c : DecCol) : CV → Option Prim
  | .i32 x => match c.phys with
    | .int32 => some (.dec4 (UInt8.ofNat c.scale) x)
    | _ => none
  | .i64 x => match c.phys with
    | .int64 => some (.dec8 (UInt8.ofNat c.scale) x)
    | _ => none
  | .bytes b => match c.phys with
    | .flba _ | .ba =>
      if b.length ≤ 16 then some (.dec16 (UInt8.ofNat c.scale) (BitVec.ofInt 128 (readDecimal b))) else none
    | _ => none

/-- the leaf value has the shape the column's physical type asks for -/
def wellTyped (c : DecCol) : CV → Bool
  | .i32 _ => c.phys == .int32
  | .i64 _ => c.phys == .int64
  | .bytes b => match c.phys with
    | .flba n => b.length == n
    | .ba => true
    | _ => false

/-- SPEC choice a carrier-aware writer may make for a decimal16 on FLBA(n): shred exactly when the
    value fits n bytes (and scale / precision agree), otherwise the residual column. -/
def specDec16Flba (c : DecCol) (n : Nat) (sc : UInt8) (x : BitVec 128) : Option (List Nat) :=
  if c.scale = sc.toNat && fitsPrec 39 c.prec x.toInt then toCarrier n x.toInt else none

theorem be16_isBytes (x : BitVec 128) : IsBytes (be16 x) := beFixed_isBytes _ _
theorem be16_length (x : BitVec 128) : (be16 x).length = 16 := beFixed_length _ _

theorem be16_isNeg (x : BitVec 128) : isNeg (be16 x) = decide (2 ^ 127 ≤ x.toNat) := by
  have hx := x.isLt
  simp only [be16, beFixed, isNeg]
  congr 1
  apply propext
  have : (256 : Nat) ^ 15 = 2 ^ 120 := by decide
  rw [this]
  constructor <;> intro h <;> omega

theorem readDecimal_be16 (x : BitVec 128) : readDecimal (be16 x) = x.toInt := by
  rw [readDecimal_eq_spec _ (be16_isBytes x), decimalValue_eq, be16_isNeg, be16_length]
  have hv : beUnsigned (be16 x) = x.toNat := by
    rw [be16, beFixed_value]; exact Nat.mod_eq_of_lt (by have := x.isLt; omega)
  rw [hv, BitVec.toInt_eq_toNat_cond]
  have hx := x.isLt
  have h256 : (256 : Nat) ^ 16 = 2 ^ 128 := by decide
  rw [h256]
  by_cases h : 2 ^ 127 ≤ x.toNat
  · have h2 : ¬ 2 * x.toNat < 2 ^ 128 := by omega
    simp only [h, decide_true, if_true, h2, if_false]
  · have h2 : 2 * x.toNat < 2 ^ 128 := by omega
    simp only [h, decide_false, h2, if_true, Bool.false_eq_true, if_false]
    omega

end PqModel.Variant.Carrier
