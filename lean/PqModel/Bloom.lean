import PqModel.XxHash
import PqModel.ByteBits
import PqModel.Bits
import PqModel.FlatPage

/-! # Split-block bloom filter (C07)

MIRROR of `bloom/block.go:5-28` (words, block, salts), `bloom/block_optimized.go:27-47`
(`Insert`, `Check`), `bloom/bloom.go:4-6` (`fasthash1x64`), `bloom/filter.go:22-94`
(`MakeSplitBlockFilter`, `Insert`, `InsertBulk`, `Check`, `Bytes`, `CheckSplitBlock`) and of the two
hashing sides in `bloom.go` (`Value.hash` 54-65; `splitBlockEncoding.Encode*` 253-380).
The spec-side check ("every mask bit is set", BloomFilter.md) is `blockCheck`; the Go form
(`word & mask != 0`) is `blockCheckGo`; they are proved equal. -/
namespace PqModel.Bloom
open PqModel.XxHash

/-- the eight odd constants of the Parquet split-block filter (`salt0..salt7`, bloom/block.go:19-28) -/
def salts : List (BitVec 32) :=
  [0x47b6137b#32, 0x44974d91#32, 0x8824ad5b#32, 0xa2b7289d#32, 0x705495c7#32, 0x2df1424b#32, 0x9efc4947#32, 0x5c6bfb31#32]

def maskWord (x salt : BitVec 32) : BitVec 32 := 1#32 <<< ((x * salt) >>> 27).toNat

abbrev Block := List (BitVec 32)   -- length 8

def mask (x : BitVec 32) : Block := salts.map (maskWord x)

def blockInsert (b : Block) (x : BitVec 32) : Block := List.zipWith (· ||| ·) b (mask x)

def blockCheck (b : Block) (x : BitVec 32) : Bool :=
  (List.zipWith (fun w m => (w &&& m) == m) b (mask x)).all id

/-- `fasthash1x64` without the 64-bit wraparound (`blockIndexGo` has it) -/
def blockIndex (x : BitVec 64) (n : Nat) : Nat := ((x >>> 32).toNat * n) >>> 32

/-- MIRROR `fasthash1x64(value, int32(len(f)))`, bloom/bloom.go:4-6, in 64-bit wraparound arithmetic;
    `n` is the block count after the `int32` conversion (0 ≤ n < 2^31 for filters below 64 GiB). -/
def blockIndexGo (x : BitVec 64) (n : Nat) : Nat := (((x >>> 32) * BitVec.ofNat 64 n) >>> 32).toNat

abbrev Filter := List Block

def setAt {α} : List α → Nat → (α → α) → List α
  | [], _, _ => []
  | a :: as, 0, f => f a :: as
  | a :: as, i + 1, f => a :: setAt as i f

def bfInsert (f : Filter) (h : BitVec 64) : Filter :=
  setAt f (blockIndex h f.length) (fun b => blockInsert b (h.truncate 32))

def check (f : Filter) (h : BitVec 64) : Bool :=
  match f[blockIndex h f.length]? with
  | some b => blockCheck b (h.truncate 32)
  | none => false

def WfBlock (b : Block) : Prop := b.length = 8
def WfFilter (f : Filter) : Prop := 0 < f.length ∧ ∀ b ∈ f, WfBlock b

theorem bv_ext32 {a b : BitVec 32} (h : ∀ i, i < 32 → a.getLsbD i = b.getLsbD i) : a = b :=
  BitVec.eq_of_getLsbD_eq (fun i hi => h i hi)

theorem or_and_self (w m : BitVec 32) : ((w ||| m) &&& m) = m := by
  apply bv_ext32; intro i _
  simp only [BitVec.getLsbD_and, BitVec.getLsbD_or]
  cases w.getLsbD i <;> cases m.getLsbD i <;> rfl

theorem and_mono (w m m' : BitVec 32) (h : (w &&& m) = m) : ((w ||| m') &&& m) = m := by
  rw [BitVec.and_comm, BitVec.and_or_distrib_left, BitVec.and_comm m w, h]
  apply bv_ext32; intro i _
  simp only [BitVec.getLsbD_and, BitVec.getLsbD_or]
  cases m.getLsbD i <;> simp

theorem zipCheck_insert : ∀ (b m : Block),
    (List.zipWith (fun w m => (w &&& m) == m) (List.zipWith (· ||| ·) b m) m).all id = true
  | w :: ws, m :: ms => by
    simp only [List.zipWith_cons_cons, List.all_cons, id, or_and_self, beq_self_eq_true, Bool.true_and]
    exact zipCheck_insert ws ms
  | [], _ | _ :: _, [] => by simp

theorem zipCheck_mono : ∀ (b m m' : Block),
    (List.zipWith (fun w m => (w &&& m) == m) b m).all id = true →
    (List.zipWith (fun w m => (w &&& m) == m) (List.zipWith (· ||| ·) b m') m).all id = true
  | w :: ws, m :: ms, m' :: ms', h => by
    simp only [List.zipWith_cons_cons, List.all_cons, id, Bool.and_eq_true, beq_iff_eq] at h ⊢
    exact ⟨and_mono w m m' h.1, zipCheck_mono ws ms ms' h.2⟩
  | [], _, _, _ | _ :: _, [], _, _ | _ :: _, _ :: _, [], _ => by simp

theorem mask_length (x : BitVec 32) : (mask x).length = 8 := by simp [mask, salts]

theorem blockCheck_insert (b : Block) (x : BitVec 32) : blockCheck (blockInsert b x) x = true :=
  zipCheck_insert b (mask x)

theorem blockCheck_mono (b : Block) (x y : BitVec 32) (h : blockCheck b x = true) :
    blockCheck (blockInsert b y) x = true :=
  zipCheck_mono b (mask x) (mask y) h

theorem blockInsert_wf (b : Block) (x : BitVec 32) (hb : WfBlock b) : WfBlock (blockInsert b x) := by
  simp [WfBlock, blockInsert, mask_length] at *
  omega

theorem setAt_length {α} : ∀ (l : List α) i f, (setAt l i f).length = l.length
  | [], _, _ => rfl
  | _ :: _, 0, _ => rfl
  | a :: as, i + 1, f => by simp [setAt, setAt_length as i f]

theorem setAt_get {α} : ∀ (l : List α) (i j : Nat) (f : α → α),
    (setAt l i f)[j]? = if i = j then l[j]?.map f else l[j]?
  | [], i, j, f => by simp [setAt]
  | a :: as, i, j, f => by cases i <;> cases j <;> simp [setAt, setAt_get as]

theorem setAt_append {α} (P : List α) (w : α) (R : List α) (f : α → α) :
    setAt (P ++ w :: R) P.length f = P ++ f w :: R := by
  induction P with
  | nil => rfl
  | cons a P ih => simp only [List.cons_append, List.length_cons, setAt, ih]

theorem mem_setAt {α} {P : α → Prop} : ∀ (l : List α) i (f : α → α), (∀ a ∈ l, P a) → (∀ a, P a → P (f a)) →
    ∀ a ∈ setAt l i f, P a
  | [], _, _, h, _ => h
  | x :: xs, 0, f, h, hf => by
    simp only [setAt, List.forall_mem_cons] at h ⊢
    exact ⟨hf x h.1, h.2⟩
  | x :: xs, i + 1, f, h, hf => by
    simp only [setAt, List.forall_mem_cons] at h ⊢
    exact ⟨h.1, mem_setAt xs i f h.2 hf⟩

theorem insert_wf (f : Filter) (h : BitVec 64) (hf : WfFilter f) : WfFilter (bfInsert f h) := by
  refine ⟨by simp [bfInsert, setAt_length]; exact hf.1, ?_⟩
  exact mem_setAt f _ _ hf.2 (fun b hb => blockInsert_wf b _ hb)

theorem hi32_lt (x : BitVec 64) : (x >>> 32).toNat < 2 ^ 32 := by
  rw [BitVec.toNat_ushiftRight, Nat.shiftRight_eq_div_pow]
  have := x.isLt
  omega

theorem blockIndex_lt (x : BitVec 64) (n : Nat) (hn : 0 < n) : blockIndex x n < n := by
  unfold blockIndex
  rw [Nat.shiftRight_eq_div_pow]
  apply Nat.div_lt_of_lt_mul
  exact Nat.mul_lt_mul_of_pos_right (hi32_lt x) hn

/-- no wraparound happens in `fasthash1x64` for any block count that fits 32 bits -/
theorem blockIndexGo_eq (x : BitVec 64) (n : Nat) (hn : n < 2 ^ 32) : blockIndexGo x n = blockIndex x n := by
  unfold blockIndexGo blockIndex
  have h2 : (x >>> 32).toNat * n < 2 ^ 64 :=
    calc (x >>> 32).toNat * n < 2 ^ 32 * 2 ^ 32 := Nat.mul_lt_mul'' (hi32_lt x) hn
      _ = 2 ^ 64 := by decide
  rw [BitVec.toNat_ushiftRight, BitVec.toNat_mul, BitVec.toNat_ofNat, Nat.mod_eq_of_lt (a := n) (by omega),
    Nat.mod_eq_of_lt h2]

theorem check_insert (f : Filter) (h : BitVec 64) (hf : WfFilter f) : check (bfInsert f h) h = true := by
  unfold check bfInsert
  rw [setAt_length, setAt_get]
  simp only [if_true]
  have hlt := blockIndex_lt h f.length hf.1
  rw [List.getElem?_eq_getElem hlt]
  simp only [Option.map_some]
  exact blockCheck_insert _ _

theorem check_mono (f : Filter) (h g : BitVec 64) (hf : WfFilter f) (hc : check f h = true) :
    check (bfInsert f g) h = true := by
  unfold check bfInsert at *
  rw [setAt_length, setAt_get]
  have hlt := blockIndex_lt h f.length hf.1
  rw [List.getElem?_eq_getElem hlt] at hc ⊢
  simp only at hc
  by_cases he : blockIndex g f.length = blockIndex h f.length
  · simp only [he, if_true, Option.map_some]
    exact blockCheck_mono _ _ _ hc
  · simp only [he, if_false]
    exact hc

theorem check_foldl_mono (h : BitVec 64) : ∀ (gs : List (BitVec 64)) (f : Filter), WfFilter f → check f h = true →
    check (gs.foldl bfInsert f) h = true
  | [], _, _, hc => hc
  | g :: gs, f, hf, hc => check_foldl_mono h gs _ (insert_wf f g hf) (check_mono f h g hf hc)

/-- C07 core: a value whose hash was inserted is always reported present. -/
theorem no_false_negative (f : Filter) (hf : WfFilter f) : ∀ (hs : List (BitVec 64)) (h : BitVec 64), h ∈ hs →
    check (hs.foldl bfInsert f) h = true := by
  intro hs
  induction hs generalizing f with
  | nil => intro h hm; cases hm
  | cons g gs ih =>
    intro h hm
    rcases List.mem_cons.mp hm with rfl | hm
    · -- inserted first, preserved afterwards
      exact check_foldl_mono h gs _ (insert_wf f h hf) (check_insert f h hf)
    · exact ih (bfInsert f g) (insert_wf f g hf) h hm

/-- MIRROR `Block.Check`, block_optimized.go:38-47 -/
def blockCheckGo (b : Block) (x : BitVec 32) : Bool :=
  (List.zipWith (fun w m => (w &&& m) != 0#32) b (mask x)).all id

theorem single_bit_check (w : BitVec 32) (k : Nat) (hk : k < 32) :
    ((w &&& (1#32 <<< k)) != 0#32) = ((w &&& (1#32 <<< k)) == (1#32 <<< k)) := by
  have hm : (1#32 <<< k) ≠ 0#32 := by
    intro h
    have := congrArg (fun v => v.getLsbD k) h
    simp [getLsbD_one_shl k hk] at this
  -- the masked word is the mask or zero
  have e : w &&& (1#32 <<< k) = if w.getLsbD k then 1#32 <<< k else 0#32 := by
    apply bv_ext32; intro i hi
    rw [BitVec.getLsbD_and, getLsbD_one_shl k hi]
    by_cases h : i = k
    · subst h; cases w.getLsbD i <;> simp [getLsbD_one_shl i hi]
    · cases w.getLsbD k <;> simp [getLsbD_one_shl k hi, h]
  rw [e]
  cases w.getLsbD k <;> simp [hm, Ne.symm hm]

theorem maskShift_lt (x salt : BitVec 32) : ((x * salt) >>> 27).toNat < 32 := by
  rw [BitVec.toNat_ushiftRight, Nat.shiftRight_eq_div_pow]
  have := (x * salt).isLt
  omega

theorem zipGo_eq : ∀ (b : Block) (ss : List (BitVec 32)) (x : BitVec 32),
    (List.zipWith (fun w m => (w &&& m) != 0#32) b (ss.map (maskWord x))).all id =
    (List.zipWith (fun w m => (w &&& m) == m) b (ss.map (maskWord x))).all id
  | [], _, _ => by simp
  | _ :: _, [], _ => by simp
  | w :: ws, s :: ss, x => by
    simp only [List.map_cons, List.zipWith_cons_cons, List.all_cons, id]
    rw [zipGo_eq ws ss x]
    unfold maskWord
    rw [single_bit_check w _ (maskShift_lt x s)]

theorem blockCheckGo_eq (b : Block) (x : BitVec 32) : blockCheckGo b x = blockCheck b x :=
  zipGo_eq b salts x

def emptyBlock : Block := List.replicate 8 0#32

/-- `make(SplitBlockFilter, n)` / a zeroed byte buffer of `32*n` bytes seen through
    `MakeSplitBlockFilter` (filter.go:24-26) -/
def emptyFilter (n : Nat) : Filter := List.replicate n emptyBlock

/-- `InsertBulk` (filter_default.go:5-9): insert one hash after the other -/
def insertBulk (f : Filter) (hs : List (BitVec 64)) : Filter := hs.foldl bfInsert f

def build (n : Nat) (hs : List (BitVec 64)) : Filter := insertBulk (emptyFilter n) hs

theorem emptyFilter_wf (n : Nat) (hn : 0 < n) : WfFilter (emptyFilter n) := by
  refine ⟨by simpa [emptyFilter] using hn, ?_⟩
  intro b hb
  simp only [emptyFilter, List.mem_replicate] at hb
  rw [hb.2]; simp [WfBlock, emptyBlock]

theorem insertBulk_wf (f : Filter) (hs : List (BitVec 64)) (hf : WfFilter f) : WfFilter (insertBulk f hs) := by
  unfold insertBulk
  induction hs generalizing f with
  | nil => simpa using hf
  | cons g gs ih => simp only [List.foldl_cons]; exact ih _ (insert_wf f g hf)

theorem insertBulk_length (f : Filter) (hs : List (BitVec 64)) : (insertBulk f hs).length = f.length := by
  unfold insertBulk
  induction hs generalizing f with
  | nil => rfl
  | cons g gs ih => rw [List.foldl_cons, ih, bfInsert, setAt_length]

/-- a 32-bit word as it lies in memory / in the file: little endian
    (`SplitBlockFilter.Bytes`, filter.go:66-68, is a cast of the word array on a little-endian host) -/
def wordBytes (w : BitVec 32) : List UInt8 := leBytes 4 w.toNat

def blockBytes (b : Block) : List UInt8 := b.flatMap wordBytes

def filterBytes (f : Filter) : List UInt8 := f.flatMap blockBytes

/-- read `n` little-endian 32-bit words -/
def parseWords : Nat → List UInt8 → List (BitVec 32)
  | 0, _ => []
  | n + 1, bs => BitVec.ofNat 32 (leToNat (bs.take 4)) :: parseWords n (bs.drop 4)

/-- MIRROR `CheckSplitBlock`, filter.go:74-80: the filter is `n = len bytes` bytes, block index
    from `n / 32` blocks, read 32 bytes at `32 * index`, check the low 32 bits of the hash. `blockIndex` is what Go
    computes below 2^32 blocks (`blockIndexGo_eq`; Go's `int32(n)` itself holds below 2^31). -/
def checkBytes (bytes : List UInt8) (h : BitVec 64) : Bool :=
  let nb := bytes.length / 32
  let blk := (bytes.drop (32 * blockIndex h nb)).take 32
  blockCheckGo (parseWords 8 blk) (h.truncate 32)

theorem wordBytes_length (w : BitVec 32) : (wordBytes w).length = 4 := by
  rw [wordBytes, leBytes_eq, LE.leBytes_length]

theorem blockBytes_length (b : Block) (hb : WfBlock b) : (blockBytes b).length = 32 := by
  unfold blockBytes
  rw [Pieces.length_flatMap (fun w _ => wordBytes_length w), hb]

theorem filterBytes_length (f : Filter) (hf : ∀ b ∈ f, WfBlock b) : (filterBytes f).length = 32 * f.length :=
  Pieces.length_flatMap (fun b hb => blockBytes_length b (hf b hb))

theorem parseWords_wordBytes : ∀ (ws : List (BitVec 32)), parseWords ws.length (ws.flatMap wordBytes) = ws
  | [] => rfl
  | w :: ws => by
    simp only [List.length_cons, parseWords, List.flatMap_cons]
    have h4 : (wordBytes w).length = 4 := wordBytes_length w
    rw [List.take_left' h4, List.drop_left' h4, parseWords_wordBytes ws]
    unfold wordBytes
    rw [leToNat_leBytes_of_lt (by have := w.isLt; omega), BitVec.ofNat_toNat, BitVec.setWidth_eq]

theorem checkBytes_filterBytes (f : Filter) (h : BitVec 64) (hf : WfFilter f) :
    checkBytes (filterBytes f) h = check f h := by
  unfold checkBytes check
  have hl := filterBytes_length f hf.2
  have hnb : (filterBytes f).length / 32 = f.length := by rw [hl]; omega
  simp only [hnb]
  have hlt := blockIndex_lt h f.length hf.1
  rw [List.getElem?_eq_getElem hlt]
  unfold filterBytes
  rw [Pieces.slice_flatMap hlt (fun b hb => blockBytes_length b (hf.2 b hb))]
  simp only
  have hb8 : (f[blockIndex h f.length]).length = 8 := hf.2 _ (List.getElem_mem hlt)
  have := parseWords_wordBytes (f[blockIndex h f.length])
  rw [hb8] at this
  unfold blockBytes
  rw [this, blockCheckGo_eq]

/-! A `Value` is a non-null parquet value as `parquet.Value` holds it: a kind tag plus either a 64-bit
payload (boolean, int32, int64, float and double by bit pattern) or a byte string (int96 = 12
little-endian bytes, byte array, fixed-length byte array). -/

inductive Kind where
  | boolean | int32 | int64 | int96 | float | double | byteArray
  | flba (size : Nat)
  deriving DecidableEq, Repr

inductive Value where
  | boolean (b : Bool)
  | int32 (v : UInt32)
  | int64 (v : UInt64)
  | int96 (bytes : List UInt8)
  | float (bits : UInt32)
  | double (bits : UInt64)
  | byteArray (bytes : List UInt8)
  | flba (bytes : List UInt8)
  deriving DecidableEq, Repr

def Value.kindOk : Kind → Value → Bool
  | .boolean, .boolean _ => true
  | .int32, .int32 _ => true
  | .int64, .int64 _ => true
  | .int96, .int96 b => b.length == 12
  | .float, .float _ => true
  | .double, .double _ => true
  | .byteArray, .byteArray _ => true
  | .flba n, .flba b => b.length == n && 0 < n
  | _, _ => false

/-- READ SIDE. MIRROR `Value.hash`, bloom.go:54-65 (with `bloom.XXH64` as the hash).
    `v.byte()` of a boolean value is 0 or 1. -/
def hashRead : Value → UInt64
  | .boolean b => sum64Uint8 (if b then 1 else 0)
  | .int32 v | .float v => sum64Uint32 v
  | .int64 v | .double v => sum64Uint64 v
  | .int96 bs | .byteArray bs | .flba bs => xxh64 bs

/-- What `Page.Data()` hands to `splitBlockEncoding` (encoding.Values): booleans are the
    *bit-packed* bytes of the page (page_boolean.go:46), numeric kinds are the value array, byte
    arrays are one buffer plus offsets, int96 and fixed-length values are one flat buffer. -/
inductive PageData where
  | boolean (bits : List UInt8)
  | int32 (vs : List UInt32)
  | int64 (vs : List UInt64)
  | int96 (data : List UInt8)
  | float (vs : List UInt32)
  | double (vs : List UInt64)
  | byteArray (data : List UInt8) (offsets : List Nat)
  | flba (data : List UInt8) (size : Nat)

/-- MIRROR of the loop `for i, j := 0, size; j <= len(data); { Sum64(data[i:j]); i += size; j += size }`
    of `splitBlockEncodeFixedLenByteArray`, bloom.go:326-340; fuel = number of iterations allowed
    (`data.length` always suffices when `size > 0`; with `size = 0` the Go loop does not terminate). -/
def chunksFuel : Nat → Nat → List UInt8 → List (List UInt8)
  | 0, _, _ => []
  | fuel + 1, size, data =>
    if size ≤ data.length then data.take size :: chunksFuel fuel size (data.drop size) else []

def chunks (size : Nat) (data : List UInt8) : List (List UInt8) := chunksFuel data.length size data

/-- MIRROR of `for _, endOffset := range offsets[1:] { value := src[baseOffset:endOffset]; baseOffset = endOffset }`,
    bloom.go:295-314 -/
def slices (data : List UInt8) : Nat → List Nat → List (List UInt8)
  | _, [] => []
  | base, e :: es => (data.drop base).take (e - base) :: slices data e es

def byteArrayValues (data : List UInt8) : List Nat → List (List UInt8)
  | [] => []            -- (Go: offsets[0] panics; pages always carry at least one offset)
  | o :: os => slices data o os

def hashBool (b : Bool) : UInt64 := sum64Uint8 (if b then 1 else 0)

theorem hashRead_boolean (b : Bool) : hashRead (.boolean b) = hashBool b := rfl

/-- MIRROR `splitBlockEncoding.EncodeBoolean` as repaired (fix 3b0d378), bloom.go:253-268: `src` is
    bit-packed; hash(0) is inserted when some byte has a 0 bit (`b != 0xFF`), hash(1) when some byte
    has a 1 bit (`b != 0x00`), in this order. -/
def encodeBooleanHashes (bits : List UInt8) : List UInt64 :=
  (if bits.any (· != 0xFF) then [hashBool false] else []) ++
  (if bits.any (· != 0x00) then [hashBool true] else [])

/-- `EncodeBoolean` BEFORE the fix (finding F3): the packed bytes themselves were hashed. -/
def encodeBooleanHashesBeforeFix (bits : List UInt8) : List UInt64 := multiSum64Uint8 bits.length bits

/-- WRITE SIDE, value level. `splitBlockEncoding.Encode*`, bloom.go:253-380, with the 128-entry
    staging buffers flattened (`hashWriteStaged` below is the loop-level mirror, proved equal):
    the hashes inserted for one page, in order. -/
def hashWrite : PageData → List UInt64
  | .boolean bits => encodeBooleanHashes bits
  | .int32 vs | .float vs => multiSum64Uint32 vs.length vs
  | .int64 vs | .double vs => multiSum64Uint64 vs.length vs
  | .int96 data => (chunks 12 data).map xxh64
  | .byteArray data offsets => (byteArrayValues data offsets).map xxh64
  | .flba data size =>
    if size = 16 then multiSum64Uint128 (chunks 16 data).length (chunks 16 data)
    else (chunks size data).map xxh64

/-- the write side as it was before fix 3b0d378 (only the boolean case differs) -/
def hashWriteBeforeFix : PageData → List UInt64
  | .boolean bits => encodeBooleanHashesBeforeFix bits
  | pd => hashWrite pd

/-- MIRROR `splitBlockEncodeUint8/32/64/128`, bloom.go:342-380:
    `buffer := make([]uint64, 128); for i := 0; i < len(values); { n := MultiSum64(buffer, values[i:]); InsertBulk(buffer[:n]); i += n }`.
    Fuel = iterations allowed (`len(values)` suffices: every iteration consumes ≥ 1 value). -/
def stagedFuel {α} (sum : α → UInt64) : Nat → List α → List UInt64
  | 0, _ => []
  | fuel + 1, values =>
    if values.isEmpty then []
    else
      let hs := multiSum64 sum 128 values
      hs ++ stagedFuel sum fuel (values.drop hs.length)

def staged {α} (sum : α → UInt64) (values : List α) : List UInt64 := stagedFuel sum values.length values

/-- MIRROR of the append-style staging of `EncodeByteArray` / `splitBlockEncodeFixedLenByteArray`,
    bloom.go:295-314, 326-340: `buffer := make([]uint64, 0, 128)`; when full, `InsertBulk` and
    reset; append the hash; final `InsertBulk(buffer)`. State = (inserted so far, buffer). -/
def stagedAppendStep {α} (f : α → UInt64) (st : List UInt64 × List UInt64) (v : α) : List UInt64 × List UInt64 :=
  if st.2.length = 128 then (st.1 ++ st.2, [f v]) else (st.1, st.2 ++ [f v])

def stagedAppend {α} (f : α → UInt64) (vs : List α) : List UInt64 :=
  let st := vs.foldl (stagedAppendStep f) ([], [])
  st.1 ++ st.2

/-- WRITE SIDE, loop level: `hashWrite` with the staging buffers in place. -/
def hashWriteStaged : PageData → List UInt64
  | .boolean bits => encodeBooleanHashes bits
  | .int32 vs | .float vs => staged sum64Uint32 vs
  | .int64 vs | .double vs => staged sum64Uint64 vs
  | .int96 data => stagedAppend xxh64 (chunks 12 data)
  | .byteArray data offsets => stagedAppend xxh64 (byteArrayValues data offsets)
  | .flba data size =>
    if size = 16 then staged sum64Uint128 (chunks 16 data)
    else stagedAppend xxh64 (chunks size data)

theorem stagedFuel_eq_map {α} (sum : α → UInt64) (fuel : Nat) (values : List α) (h : values.length ≤ fuel) :
    stagedFuel sum fuel values = values.map sum := by
  -- cases of `stagedFuel`: no fuel; nothing left; one `MultiSum64` of at most 128 values, then the rest
  fun_induction stagedFuel sum fuel values with
  | case1 values => rw [List.eq_nil_of_length_eq_zero (Nat.le_zero.mp h)]; rfl
  | case2 fuel values he => rw [List.isEmpty_iff.mp he]; rfl
  | case3 fuel values he hs ih =>
    have hpos : 0 < values.length := List.length_pos_iff.mpr (fun h0 => he (List.isEmpty_iff.mpr h0))
    have hl : hs.length = min 128 values.length := by
      simp only [hs, multiSum64, List.length_map, List.length_take]
    rw [ih (by rw [List.length_drop, hl]; omega), hl]
    simp only [hs, multiSum64]
    rw [← List.map_append, List.take_eq_take_min, List.take_append_drop]

theorem staged_eq_map {α} (sum : α → UInt64) (values : List α) : staged sum values = values.map sum :=
  stagedFuel_eq_map sum _ values (Nat.le_refl _)

theorem stagedAppend_fold {α} (f : α → UInt64) : ∀ (vs : List α) (st : List UInt64 × List UInt64),
    (vs.foldl (stagedAppendStep f) st).1 ++ (vs.foldl (stagedAppendStep f) st).2 = st.1 ++ st.2 ++ vs.map f
  | [], st => by simp
  | v :: vs, st => by
    simp only [List.foldl_cons, List.map_cons]
    rw [stagedAppend_fold f vs]
    unfold stagedAppendStep
    split <;> simp [List.append_assoc]

theorem stagedAppend_eq_map {α} (f : α → UInt64) (vs : List α) : stagedAppend f vs = vs.map f := by
  unfold stagedAppend
  simpa using stagedAppend_fold f vs ([], [])

theorem hashWriteStaged_eq (pd : PageData) : hashWriteStaged pd = hashWrite pd := by
  cases pd <;>
    simp only [hashWriteStaged, hashWrite, staged_eq_map, stagedAppend_eq_map, multiSum64Uint32,
      multiSum64Uint64, multiSum64Uint128, multiSum64, List.take_length]

def bitsByte : List Bool → Nat
  | [] => 0
  | b :: bs => (if b then 1 else 0) + 2 * bitsByte bs

/-- LSB-first bit packing, 8 values per byte, last byte zero padded (boolean column buffers) -/
def packBits : List Bool → List UInt8
  | b0 :: b1 :: b2 :: b3 :: b4 :: b5 :: b6 :: b7 :: rest =>
      UInt8.ofNat (bitsByte [b0, b1, b2, b3, b4, b5, b6, b7]) :: packBits rest
  | [] => []
  | bs => [UInt8.ofNat (bitsByte bs)]

def offsetsFrom : Nat → List (List UInt8) → List Nat
  | base, [] => [base]
  | base, v :: vs => base :: offsetsFrom (base + v.length) vs

def Value.payloadBytes : Value → List UInt8
  | .int96 b | .byteArray b | .flba b => b
  | _ => []

/-- the page data the typed column buffers build from a list of values of one kind -/
def pageData : Kind → List Value → PageData
  | .boolean, vs => .boolean (packBits (vs.map (fun v => match v with | .boolean b => b | _ => false)))
  | .int32, vs => .int32 (vs.map (fun v => match v with | .int32 x => x | _ => 0))
  | .int64, vs => .int64 (vs.map (fun v => match v with | .int64 x => x | _ => 0))
  | .float, vs => .float (vs.map (fun v => match v with | .float x => x | _ => 0))
  | .double, vs => .double (vs.map (fun v => match v with | .double x => x | _ => 0))
  | .int96, vs => .int96 (vs.flatMap Value.payloadBytes)
  | .byteArray, vs => .byteArray (vs.flatMap Value.payloadBytes) (offsetsFrom 0 (vs.map Value.payloadBytes))
  | .flba n, vs => .flba (vs.flatMap Value.payloadBytes) n

def byteBits (b : UInt8) : List Bool := (List.range 8).map (fun i => (b.toNat >>> i) % 2 == 1)

/-- all 8 bits of every packed byte, LSB first (padding bits of the last byte included) -/
def unpackAll (bits : List UInt8) : List Bool := bits.flatMap byteBits

theorem bitsByte_eq_fromBits : ∀ bs : List Bool, bitsByte bs = Bits.fromBits bs
  | [] => rfl
  | b :: bs => by rw [bitsByte, Bits.fromBits, bitsByte_eq_fromBits bs]

theorem testBit_bitsByte (bs : List Bool) (i : Nat) : (bitsByte bs).testBit i = bs[i]?.getD false := by
  rw [bitsByte_eq_fromBits, Bits.testBit_fromBits]

theorem byteBits_eq (b : UInt8) : byteBits b = (List.range 8).map b.toNat.testBit := by
  unfold byteBits
  apply List.map_congr_left
  intro i _
  rw [Nat.testBit_eq_decide_div_mod_eq, Nat.shiftRight_eq_div_pow, Bool.beq_eq_decide_eq]

theorem byteBits_length (b : UInt8) : (byteBits b).length = 8 := by simp [byteBits]

theorem byteBits_bitsByte (bs : List Bool) (h : bs.length ≤ 8) :
    (byteBits (UInt8.ofNat (bitsByte bs))).take bs.length = bs := by
  apply List.ext_getElem
  · simp [byteBits_length]; omega
  · intro i h1 h2
    have h8 : i < 8 := by omega
    simp only [byteBits_eq, List.getElem_take, List.getElem_map, List.getElem_range, ByteBits.testBit_ofNat,
      testBit_bitsByte]
    simp [h8, h2]

theorem byteBits_bitsByte_eq (a : List Bool) (h : a.length = 8) : byteBits (UInt8.ofNat (bitsByte a)) = a := by
  have hb := byteBits_bitsByte a (Nat.le_of_eq h)
  rwa [List.take_of_length_le (by rw [byteBits_length, h]; omega)] at hb

theorem packBits_chunk (a rest : List Bool) (h : a.length = 8) :
    packBits (a ++ rest) = UInt8.ofNat (bitsByte a) :: packBits rest := by
  obtain ⟨a0, a1, a2, a3, a4, a5, a6, a7, rfl⟩ := ListFacts.exists_of_length_eq_8 a h
  rfl

theorem packBits_of_length_le : ∀ (t : List Bool), 1 ≤ t.length → t.length ≤ 8 → packBits t = [UInt8.ofNat (bitsByte t)]
  | [], h, _ => by cases h
  | [_], _, _ | [_, _], _, _ | [_, _, _], _, _ | [_, _, _, _], _, _ | [_, _, _, _, _], _, _
  | [_, _, _, _, _, _], _, _ | [_, _, _, _, _, _, _], _, _ | [_, _, _, _, _, _, _, _], _, _ => rfl
  | _ :: _ :: _ :: _ :: _ :: _ :: _ :: _ :: _ :: _, _, h => by simp only [List.length_cons] at h; omega

theorem chunks8_induction {α} {P : List α → Prop} (nil : P [])
    (step : ∀ a rest, a.length = 8 → P rest → P (a ++ rest)) (l : List α) (h : l.length % 8 = 0) : P l := by
  have : ∀ (k : Nat) (l : List α), l.length = 8 * k → P l := by
    intro k
    induction k with
    | zero => intro l h; rw [List.eq_nil_of_length_eq_zero h]; exact nil
    | succ k ih =>
      intro l h
      rw [← List.take_append_drop 8 l]
      exact step _ _ (by rw [List.length_take]; omega) (ih _ (by rw [List.length_drop]; omega))
  exact this (l.length / 8) l (by omega)

theorem exists_whole_bytes {α} (vs : List α) :
    ∃ k full tail, vs = full ++ tail ∧ full.length = 8 * k ∧ tail.length < 8 :=
  ⟨vs.length / 8, vs.take (8 * (vs.length / 8)), vs.drop (8 * (vs.length / 8)), (List.take_append_drop _ _).symm,
    by rw [List.length_take]; omega, by rw [List.length_drop]; omega⟩

theorem unpack_pack : ∀ (bs : List Bool), (unpackAll (packBits bs)).take bs.length = bs
  | [] => rfl
  | b :: bs => by
    by_cases hl : (b :: bs).length ≤ 8
    · rw [packBits_of_length_le _ (by simp) hl]
      simpa [unpackAll] using byteBits_bitsByte (b :: bs) hl
    · obtain ⟨a, rest, ha, e⟩ : ∃ a rest, a.length = 8 ∧ b :: bs = a ++ rest :=
        ⟨_, _, by rw [List.length_take]; omega, (List.take_append_drop 8 _).symm⟩
      have hlt : rest.length < (b :: bs).length := by rw [e, List.length_append]; omega
      rw [e, packBits_chunk a rest ha, unpackAll, List.flatMap_cons, byteBits_bitsByte_eq a ha, List.length_append,
        List.take_length_add_append]
      exact congrArg _ (unpack_pack rest)
termination_by bs => bs.length

theorem unpackAll_packBits (vs : List Bool) (h : vs.length % 8 = 0) : unpackAll (packBits vs) = vs := by
  refine chunks8_induction (P := fun l => unpackAll (packBits l) = l) rfl ?_ vs h
  intro a rest ha ih
  rw [packBits_chunk a rest ha, unpackAll, List.flatMap_cons, byteBits_bitsByte_eq a ha]
  exact congrArg _ ih

theorem mem_byteBits {byte : UInt8} {v : Bool} : v ∈ byteBits byte ↔ ∃ i, i < 8 ∧ byte.toNat.testBit i = v := by
  simp [byteBits_eq]

/-- `b != 0xFF` tests for a 0 bit, `b != 0x00` for a 1 bit -/
theorem mem_byteBits_iff_ne {byte : UInt8} {v : Bool} : v ∈ byteBits byte ↔ byte ≠ (if v then 0x00 else 0xFF) := by
  constructor
  · intro h he; subst he; revert h; cases v <;> decide
  · intro hne
    apply Decidable.byContradiction
    intro hno
    apply hne
    apply ByteBits.ext
    intro i hi
    have hb : byte.toNat.testBit i = !v := by
      cases hb : byte.toNat.testBit i <;> cases v <;> first | rfl | exact absurd (mem_byteBits.mpr ⟨i, hi, hb⟩) hno
    rw [hb]
    cases v
    · show true = (2 ^ 8 - 1).testBit i
      rw [Nat.testBit_two_pow_sub_one, decide_eq_true hi]
    · show false = (0 : Nat).testBit i
      rw [Nat.zero_testBit]

theorem hashBool_inj {a b : Bool} : hashBool a = hashBool b ↔ a = b :=
  ⟨by revert a b; decide, congrArg _⟩

theorem mem_encodeBooleanHashes (bits : List UInt8) (b : Bool) :
    hashBool b ∈ encodeBooleanHashes bits ↔ b ∈ unpackAll bits := by
  have hany : ∀ v : Bool, (bits.any (· != (if v then 0x00 else 0xFF)) = true) ↔ v ∈ unpackAll bits := by
    intro v
    simp only [List.any_eq_true, unpackAll, List.mem_flatMap, mem_byteBits_iff_ne, bne_iff_ne]
  have h0 : (bits.any (· != 0xFF) = true) ↔ false ∈ unpackAll bits := hany false
  have h1 : (bits.any (· != 0x00) = true) ↔ true ∈ unpackAll bits := hany true
  simp only [encodeBooleanHashes, List.mem_append, List.mem_ite_nil_right, List.mem_singleton, hashBool_inj, h0, h1]
  cases b <;> simp

theorem encodeBoolean_covers (bs : List Bool) (b : Bool) (hm : b ∈ bs) :
    hashBool b ∈ encodeBooleanHashes (packBits bs) := by
  rw [← unpack_pack bs] at hm
  exact (mem_encodeBooleanHashes _ b).mpr (List.mem_of_mem_take hm)

theorem chunksFuel_flatten (size : Nat) (hs : 0 < size) :
    ∀ (vs : List (List UInt8)) (fuel : Nat), vs.length ≤ fuel → (∀ v ∈ vs, v.length = size) →
      chunksFuel fuel size vs.flatten = vs
  | [], 0, _, _ => rfl
  | [], fuel + 1, _, _ => by
    simp only [chunksFuel, List.flatten_nil, List.length_nil]
    split
    · omega
    · rfl
  | v :: vs, 0, h, _ => by simp at h
  | v :: vs, fuel + 1, h, hv => by
    have hl : v.length = size := hv v (by simp)
    simp only [chunksFuel, List.flatten_cons, List.length_append]
    split
    · rw [List.take_left' hl, List.drop_left' hl,
        chunksFuel_flatten size hs vs fuel (by simpa using h) (fun w hw => hv w (by simp [hw]))]
    · omega

theorem chunks_flatten (size : Nat) (hs : 0 < size) (vs : List (List UInt8))
    (hv : ∀ v ∈ vs, v.length = size) : chunks size vs.flatten = vs := by
  unfold chunks
  apply chunksFuel_flatten size hs vs _ _ hv
  rw [← List.flatMap_id, Pieces.length_flatMap (g := id) hv]
  exact Nat.le_mul_of_pos_left _ hs

theorem offsetsFrom_eq : ∀ (vs : List (List UInt8)) (base : Nat),
    offsetsFrom base vs = SortBuf.prefixSums base (vs.map List.length) ++ [base + (vs.map List.length).sum]
  | [], _ => rfl
  | v :: vs, base => by
    simp only [offsetsFrom, List.map_cons, SortBuf.prefixSums, List.sum_cons, List.cons_append, offsetsFrom_eq vs,
      Nat.add_assoc]

theorem byteArrayValues_eq_slices (data : List UInt8) : ∀ (offs : List Nat),
    byteArrayValues data offs = SortBuf.slices data offs
  | [] => rfl
  | [_] => rfl
  | a :: b :: tl => by
    have ih := byteArrayValues_eq_slices data (b :: tl)
    simp only [byteArrayValues, Bloom.slices, SortBuf.slices, SortBuf.slice] at ih ⊢
    rw [ih]

theorem byteArrayValues_flatten (vs : List (List UInt8)) :
    byteArrayValues vs.flatten (offsetsFrom 0 vs) = vs := by
  rw [byteArrayValues_eq_slices, offsetsFrom_eq]
  simpa using SortBuf.slices_flatten vs [] []

theorem map_hash_congr {α} (vs : List Value) (proj : Value → α) (g : α → UInt64)
    (h : ∀ v ∈ vs, g (proj v) = hashRead v) : (vs.map proj).map g = vs.map hashRead := by
  rw [List.map_map]; exact List.map_congr_left h

theorem hashWrite_pageData (kind : Kind) (hk : kind ≠ .boolean) (values : List Value)
    (hv : ∀ v ∈ values, v.kindOk kind = true) : hashWrite (pageData kind values) = values.map hashRead := by
  have step : ∀ {α : Type} (proj : Value → α) (g : α → UInt64), (∀ w, w.kindOk kind = true → g (proj w) = hashRead w) →
      (values.map proj).map g = values.map hashRead :=
    fun proj g h => map_hash_congr values proj g (fun w hw => h w (hv w hw))
  have sized : ∀ (size : Nat), (∀ w : Value, w.kindOk kind = true → w.payloadBytes.length = size) →
      ∀ b ∈ values.map Value.payloadBytes, b.length = size := by
    intro size h b hb
    rcases List.mem_map.mp hb with ⟨w, hw, rfl⟩
    exact h w (hv w hw)
  cases kind with
  | boolean => exact absurd rfl hk
  | int32 | float | int64 | double =>
    simp only [pageData, hashWrite, multiSum64Uint32, multiSum64Uint64, multiSum64, List.take_length]
    exact step _ _ (fun w hw => by cases w <;> simp [Value.kindOk] at hw <;> rfl)
  | int96 =>
    simp only [pageData, hashWrite, List.flatMap_def]
    rw [chunks_flatten 12 (by decide) _ (sized 12 (fun w hw => by
      cases w <;> simp [Value.kindOk] at hw; simpa [Value.payloadBytes] using hw))]
    exact step _ _ (fun w hw => by cases w <;> simp [Value.kindOk] at hw <;> rfl)
  | byteArray =>
    simp only [pageData, hashWrite, List.flatMap_def]
    rw [byteArrayValues_flatten]
    exact step _ _ (fun w hw => by cases w <;> simp [Value.kindOk] at hw <;> rfl)
  | flba size =>
    cases values with
    | nil => simp [pageData, hashWrite, chunks, chunksFuel, multiSum64Uint128, multiSum64]
    | cons w0 ws =>
      have hpos : 0 < size := by
        have := hv w0 (List.mem_cons_self ..)
        cases w0 <;> simp [Value.kindOk] at this
        exact this.2
      have hall := sized size (fun w hw => by
        cases w <;> simp [Value.kindOk] at hw; simpa [Value.payloadBytes] using hw.1)
      simp only [pageData, hashWrite, List.flatMap_def]
      split
      · rename_i h16
        subst h16
        rw [chunks_flatten 16 hpos _ hall]
        simp only [multiSum64Uint128, multiSum64, List.take_length]
        exact step Value.payloadBytes sum64Uint128 (fun w hw => by
          cases w <;> simp [Value.kindOk] at hw
          exact sum64Uint128_eq _ hw)
      · rw [chunks_flatten size hpos _ hall]
        exact step _ _ (fun w hw => by cases w <;> simp [Value.kindOk] at hw <;> rfl)

end PqModel.Bloom
