/-! # The column writers of a row group while its ordinal is not known ("pending until Commit")

MIRROR of writer.go at the granularity of calls on one `ColumnWriter` and on the column writers of
one `ConcurrentRowGroupWriter`, column-oriented API:

* `newConcurrentRowGroupWriter` (writer.go:742-897): on an encrypting writer every column writer of a
  `BeginRowGroup()` row group gets `awaitOrdinal = true` (:892): the page AAD carries the row-group
  ordinal, which is known at Commit only, so nothing may be sealed before.
* `ColumnWriter.WriteRowValues` (writer.go:2419-2435): the rows go to `c.columnBuffer`; a full page
  buffer calls `c.Flush()` (a page boundary that is not an event of the history: the L2 comparison
  looks at it only where Flush is a no-op, or at row contents only).
* `ColumnWriter.Flush` (writer.go:2154-2157): `if c.columnBuffer == nil || c.awaitOrdinal { return nil }`,
  otherwise a non-empty buffer becomes a page (`c.numRows`, `c.numPages` grow, the buffer is reset).
* `ColumnWriter.Close` (writer.go:2441-2450):
  `if c.columnBuffer == nil || c.awaitOrdinal { return nil }; c.Flush(); c.columnBuffer.Reset()`.
  The parameter `guard` is the `|| c.awaitOrdinal` of that first line: `true` is the code as it is,
  `false` is the slip in which the line reads `if c.columnBuffer == nil` (Flush has a check of its
  own, but Close goes on to reset the buffer): theorem `slipped_guard_loses_values`.
* `writer.writeRowGroup` (writer.go:1524-1580 for the part modelled): `numRows :=
  rg.columns[0].totalRowCount()`, nothing happens when it is 0 (:1528-1531, before the `defer`: the
  column writers are left as they are); otherwise every column gets `awaitOrdinal = false` (:1565) and
  is flushed (:1569), the pages go to the file, and the deferred block resets every column writer and
  restores `awaitOrdinal = (rg != w.currentRowGroup)` (:1548).

SPEC side (`Spec.*`): the documentation of the column-oriented API — values written through
`ColumnWriters()[i]` belong to the row group until it is committed; `Flush` and `Close` ("closes the
column writer and resets all dependent resources. It can be reused after Close is called") are not
ways to discard rows; Commit writes the row group and leaves the writer empty and reusable. Page
boundaries do not exist in it. -/
namespace PqModel.C18Pending

structure Col (X : Type) where
  await : Bool            -- c.awaitOrdinal
  buf : List X            -- rows in c.columnBuffer
  pages : List (List X)   -- rows of the pages sealed so far (c.numPages, c.numRows)
deriving DecidableEq, Repr

inductive Ev (X : Type) where
  | write (xs : List X)   -- c.WriteRowValues(rows)
  | flush                 -- c.Flush()
  | close                 -- c.Close()
deriving DecidableEq, Repr

variable {X : Type}

/-- writer.go:2154-2157 and the page it writes -/
def flushCol (c : Col X) : Col X :=
  if c.await || c.buf.isEmpty then c else { c with pages := c.pages ++ [c.buf], buf := [] }

/-- writer.go:2441-2450; `guard` = the `|| c.awaitOrdinal` of the first line is there -/
def closeCol (guard : Bool) (c : Col X) : Col X :=
  if guard && c.await then c else { flushCol c with buf := [] }

def stepCol (guard : Bool) (c : Col X) : Ev X → Col X
  | .write xs => { c with buf := c.buf ++ xs }
  | .flush => flushCol c
  | .close => closeCol guard c

def runCol (guard : Bool) (c : Col X) (es : List (Ev X)) : Col X := es.foldl (stepCol guard) c

/-- `c.totalRowCount()` (writer.go:2145-2151) -/
def total (c : Col X) : Nat := (c.pages.map List.length).sum + c.buf.length

/-- the rows a column writer holds, in order: its sealed pages, then its buffer. This is what Commit
    puts into the column chunk (`awaitOrdinal = false`, `Flush`, the pages in order). -/
def held (c : Col X) : List X := c.pages.flatten ++ c.buf

/-- a fresh column writer of a row group (`enc` = the writer encrypts and the row group comes from
    BeginRowGroup) -/
def fresh (enc : Bool) : Col X := { await := enc, buf := [], pages := [] }

abbrev Rg (X : Type) := List (Col X)

def stepRg (guard : Bool) (rg : Rg X) (e : Nat × Ev X) : Rg X :=
  match rg[e.1]? with
  | none => rg
  | some c => rg.set e.1 (stepCol guard c e.2)

def runRg (guard : Bool) (rg : Rg X) (es : List (Nat × Ev X)) : Rg X := es.foldl (stepRg guard) rg

/-- writer.go:1524-1580: `none` = the row group is empty by the count of column 0 and nothing is
    written (the column writers stay as they are); `some (chunks, rg')` = the column chunks that go
    to the file (the rows of each column) and the column writers after the deferred reset. -/
def commitRg (enc : Bool) (rg : Rg X) : Option (List (List X) × Rg X) :=
  match rg with
  | [] => none
  | c0 :: _ =>
    if total c0 == 0 then none
    else some (rg.map (fun c => held (flushCol { c with await := false })), rg.map (fun _ => fresh enc))

namespace Spec

/-- the rows written to a column since the last Commit -/
def written : List (Ev X) → List X
  | [] => []
  | .write xs :: es => xs ++ written es
  | _ :: es => written es

/-- the events of a row-group history that go to column `i` -/
def ofCol (i : Nat) (es : List (Nat × Ev X)) : List (Ev X) :=
  (es.filter (·.1 == i)).map (·.2)

end Spec

theorem held_flushCol (c : Col X) : held (flushCol c) = held c := by
  unfold flushCol held
  split <;> simp

theorem held_flush_unawaited (c : Col X) : held (flushCol { c with await := false }) = held c :=
  held_flushCol _

theorem flushCol_await (c : Col X) : (flushCol c).await = c.await := by
  unfold flushCol; split <;> rfl

/-- with the guard, Close keeps every row the column writer holds: nothing while the ordinal is
    awaited, and otherwise the buffer it resets has just been flushed into a page -/
theorem held_closeCol_guarded (c : Col X) : held (closeCol true c) = held c := by
  obtain ⟨await, buf, pages⟩ := c
  cases await <;> cases buf <;> simp [closeCol, flushCol, held]

theorem closeCol_await (g : Bool) (c : Col X) : (closeCol g c).await = c.await := by
  unfold closeCol
  split
  · rfl
  · exact flushCol_await c

theorem stepCol_await (g : Bool) (c : Col X) (e : Ev X) : (stepCol g c e).await = c.await := by
  cases e
  · rfl
  · exact flushCol_await c
  · exact closeCol_await g c

theorem held_stepCol_guarded (c : Col X) (e : Ev X) :
    held (stepCol true c e) = held c ++ Spec.written [e] := by
  cases e with
  | write xs => simp [stepCol, held, Spec.written]
  | flush => simp [stepCol, held_flushCol, Spec.written]
  | close => simp [stepCol, held_closeCol_guarded, Spec.written]

theorem written_append (a b : List (Ev X)) : Spec.written (a ++ b) = Spec.written a ++ Spec.written b := by
  induction a with
  | nil => rfl
  | cons e es ih => cases e <;> simp [Spec.written, ih]

theorem held_runCol_guarded (c : Col X) (es : List (Ev X)) :
    held (runCol true c es) = held c ++ Spec.written es := by
  induction es generalizing c with
  | nil => simp [runCol, Spec.written]
  | cons e es ih =>
    rw [runCol, List.foldl_cons, ← runCol, ih, held_stepCol_guarded, List.append_assoc, ← written_append]
    rfl

theorem total_eq_length_held (c : Col X) : total c = (held c).length := by
  simp [total, held, List.length_flatten]

theorem stepCol_pages_await (g : Bool) (c : Col X) (e : Ev X) (ha : c.await = true) :
    (stepCol g c e).pages = c.pages := by
  cases e <;> cases g <;> simp [stepCol, closeCol, flushCol, ha]

theorem stepRg_get (g : Bool) (rg : Rg X) (e : Nat × Ev X) (i : Nat) :
    (stepRg g rg e)[i]? = rg[i]?.map (fun c => if e.1 = i then stepCol g c e.2 else c) := by
  unfold stepRg
  by_cases h : e.1 = i
  · subst h
    cases hc : rg[e.1]? with
    | none => simp [hc]
    | some c => simp [(List.getElem?_eq_some_iff.1 hc).1]
  · cases rg[e.1]? <;> simp [h]

/-- Commit looks only at the rows the column writers hold -/
theorem commitRg_eq (enc : Bool) (rg : Rg X) :
    commitRg enc rg = if (rg.map held).headD [] = [] then none
      else some (rg.map held, List.replicate rg.length (fresh enc)) := by
  cases rg with
  | nil => rfl
  | cons c0 cs =>
    simp [commitRg, total_eq_length_held, held_flush_unawaited, List.map_const', List.replicate_succ]

end PqModel.C18Pending
