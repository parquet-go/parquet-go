import PqModel.RowsBuf

/-! Invariant of `RowsBuf`: everything a reader of a row group holds (the rest of the current page of
    every column reader, every column buffer) and everything it returns was taken from a page that
    the loader accepted. Stated for an arbitrary predicate `P` that holds of the values of the
    accepted pages. -/
namespace PqModel.RowsBuf

def PagesOk (P : Val → Prop) (pages : List Page) : Prop :=
  ∀ p ∈ pages, p.bad = false → ∀ v ∈ p.vals, P v

def ReaderOk (P : Val → Prop) (r : Reader) : Prop := ∀ vs, r.values = some vs → ∀ v ∈ vs, P v

def ColOk (P : Val → Prop) (c : Col) : Prop := ReaderOk P c.reader ∧ ∀ v ∈ c.buf, P v

variable {P : Val → Prop}

theorem readPageFrom_good (ps : List Page) (h : PagesOk P ps) (c : Cursor) (vs : List Val)
    (h' : (readPageFrom ps c).2 = .page vs) : ∀ v ∈ vs, P v := by
  fun_induction readPageFrom ps c with
  | case1 => cases h'
  | case2 => cases h'
  | case3 p ps c hb hs => cases h'; exact fun v hv => h p (by simp) (by simpa using hb) v (List.mem_filter.mp hv).1
  | case4 p ps c hb hs ih => exact ih (fun q hq => h q (by simp [hq])) h'

theorem readPage_good (pages : List Page) (h : PagesOk P pages) (c : Cursor) (vs : List Val)
    (h' : (readPage pages c).2 = .page vs) : ∀ v ∈ vs, P v :=
  readPageFrom_good _ (fun p hp => h p (List.mem_of_mem_drop hp)) c vs h'

theorem readValues_good (pages : List Page) (h : PagesOk P pages) (B fuel : Nat) (r : Reader) :
    ReaderOk P r → ReaderOk P (readValues pages B fuel r).1 ∧
      ∀ vs, (readValues pages B fuel r).2 = .vals vs → ∀ v ∈ vs, P v := by
  -- cases of `readValues`: out of fuel; no page held: eof, fail, a page is loaded; a page held: drained, it delivers
  fun_induction readValues pages B fuel r with
  | case1 r => exact fun hr => ⟨hr, nofun⟩
  | case2 fuel r hn c heq => exact fun _ => ⟨fun vs hv => (nomatch hn.symm.trans hv), nofun⟩
  | case3 fuel r hn c heq => exact fun _ => ⟨fun vs hv => (nomatch hn.symm.trans hv), nofun⟩
  | case4 fuel r hn c vs heq ih =>
    exact fun _ => ih fun ws hw => by cases hw; exact readPage_good pages h r.cur _ (by rw [heq])
  | case5 fuel r vs hs he ih => exact fun _ => ih nofun
  | case6 fuel r vs hs he =>
    intro hr
    refine ⟨fun ws hw v hv => ?_, fun ws hw v hv => ?_⟩
    · cases hw; exact hr vs hs v (List.mem_of_mem_drop hv)
    · cases hw; exact hr vs hs v (List.mem_of_mem_take hv)

def Refill.scan : Refill → Scan
  | .ok s => s
  | .eof s => s
  | .fail s => s

def RowRes.scan : RowRes → Scan
  | .next s _ => s
  | .nextCol s _ => s
  | .err s => s

def RowRes.acc : RowRes → List Val
  | .next _ a => a
  | .nextCol _ a => a
  | .err _ => []

theorem refill_good (pages : List Page) (h : PagesOk P pages) (B : Nat) (s : Scan) (hs : ColOk P s.col) :
    ColOk P (refill pages B s).scan.col := by
  have hv := readValues_good pages h B (valuesFuel pages) s.col.reader hs.1
  fun_cases refill pages B s
  · rename_i rd vs heq; rw [heq] at hv; exact ⟨hv.1, hv.2 vs rfl⟩
  · rename_i rd heq; rw [heq] at hv; exact ⟨hv.1, nofun⟩
  · rename_i rd heq; rw [heq] at hv; exact ⟨hv.1, nofun⟩
  · exact hs

theorem rowLoop_good (pages : List Page) (h : PagesOk P pages) (B i fuel nv : Nat) (s : Scan) (acc : List Val) :
    ColOk P s.col → (∀ v ∈ acc, P v) →
      ColOk P (rowLoop pages B i fuel nv s acc).scan.col ∧ ∀ v ∈ (rowLoop pages B i fuel nv s acc).acc, P v := by
  -- after a delivering refill: what stays in the buffer and what is appended to the row are accepted values
  have step : ∀ {s s1 : Scan} {acc : List Val} (m : Nat), refill pages B s = .ok s1 → ColOk P s.col →
      (∀ v ∈ acc, P v) → ColOk P { s1.col with buf := s1.col.buf.drop m } ∧ ∀ v ∈ acc ++ s1.col.buf.take m, P v := by
    intro s s1 acc m heq hs ha
    have hr := refill_good pages h B s hs
    rw [heq] at hr
    refine ⟨⟨hr.1, fun v hv => hr.2 v (List.mem_of_mem_drop hv)⟩, fun v hv => ?_⟩
    exact (List.mem_append.mp hv).elim (ha v) fun hv => hr.2 v (List.mem_of_mem_take hv)
  -- the branches of `rowLoop`: out of fuel; refill eof; refill fail; `nv == 0`; row ends inside the buffer;
  -- `continue readColumnValues`; the buffer ends with the row and the loop goes round again (7)
  fun_induction rowLoop pages B i fuel nv s acc with
  | case1 => exact fun hs _ => ⟨hs, nofun⟩
  | case2 _ _ s _ _ heq | case4 _ _ s _ _ heq => exact fun hs ha => ⟨(heq ▸ refill_good pages h B s hs :), ha⟩
  | case3 _ _ s _ _ heq => exact fun hs _ => ⟨(heq ▸ refill_good pages h B s hs :), nofun⟩
  | case5 _ _ _ _ _ heq | case6 _ _ _ _ _ heq => exact fun hs ha => step _ heq hs ha
  | case7 _ _ _ _ _ heq _ _ _ _ _ _ ih => exact fun hs ha => ih (step _ heq hs ha).1 (step _ heq hs ha).2

inductive ColRes.Good (P : Val → Prop) : ColRes → Prop
  | ok (s : Scan) (accs : List (List Val)) : ColOk P s.col → (∀ a ∈ accs, ∀ v ∈ a, P v) → ColRes.Good P (.ok s accs)
  | err (s : Scan) : ColOk P s.col → ColRes.Good P (.err s)

theorem colLoop_good (pages : List Page) (h : PagesOk P pages) (B n i : Nat) (s : Scan) :
    ColOk P s.col → ColRes.Good P (colLoop pages B n i s) := by
  fun_induction colLoop pages B n i s with
  | case1 i s => exact fun hs => .ok s [] hs nofun
  | case2 n i s s1 heq =>
    exact fun hs => .err s1 (heq ▸ rowLoop_good pages h B i _ 1 s [] hs nofun).1
  | case3 n i s s1 acc heq =>
    intro hs
    have hr := heq ▸ rowLoop_good pages h B i _ 1 s [] hs nofun
    exact .ok s1 [acc] hr.1 (List.forall_mem_singleton.mpr hr.2)
  | case4 n i s s1 acc heq s2 heq2 ih =>
    intro hs
    have hr := heq ▸ rowLoop_good pages h B i _ 1 s [] hs nofun
    cases heq2 ▸ ih hr.1 with | err _ h2 => exact .err s2 h2
  | case5 n i s s1 acc heq s2 accs heq2 ih =>
    intro hs
    have hr := heq ▸ rowLoop_good pages h B i _ 1 s [] hs nofun
    cases heq2 ▸ ih hr.1 with
    | ok _ _ h2 h3 => exact .ok s2 (acc :: accs) h2 (List.forall_mem_cons.mpr ⟨hr.2, h3⟩)

def FileOk (P : Val → Prop) (file : List (List Page)) : Prop := ∀ pages ∈ file, PagesOk P pages

def StOk (P : Val → Prop) (st : St) : Prop := ∀ c ∈ st.cols, ColOk P c

theorem colsLoop_good (B n : Nat) (file : List (List Page)) (cs : List Col) (ec rc : Nat) :
    FileOk P file → (∀ c ∈ cs, ColOk P c) →
    (∀ c ∈ (colsLoop B n file cs ec rc).cols, ColOk P c) ∧
    ∀ a ∈ (colsLoop B n file cs ec rc).accs, ∀ r ∈ a, ∀ v ∈ r, P v := by
  fun_induction colsLoop B n file cs ec rc with
  | case1 pages file c cs ec rc s heq =>
    intro hf hcs
    cases heq ▸ colLoop_good pages (hf pages (by simp)) B n 0 _ (hcs c (by simp)) with
    | err _ h2 => exact ⟨List.forall_mem_cons.mpr ⟨h2, fun x hx => hcs x (by simp [hx])⟩, nofun⟩
  | case2 pages file c cs ec rc s accs heq r ih =>
    intro hf hcs
    have ih := ih (fun q hq => hf q (by simp [hq])) (fun x hx => hcs x (by simp [hx]))
    cases heq ▸ colLoop_good pages (hf pages (by simp)) B n 0 _ (hcs c (by simp)) with
    | ok _ _ h2 h3 => exact ⟨List.forall_mem_cons.mpr ⟨h2, ih.1⟩, List.forall_mem_cons.mpr ⟨h3, ih.2⟩⟩
  | case3 => exact fun _ hcs => ⟨hcs, nofun⟩

theorem mem_assemble {rc : Nat} {accs : List (List (List Val))} {i : Nat} {r : List Val} {v : Val}
    (hr : (assemble rc accs)[i]? = some r) (hv : v ∈ r) : ∃ a ∈ accs, ∃ x, a[i]? = some x ∧ v ∈ x := by
  simp only [assemble, List.getElem?_map, Option.map_eq_some_iff] at hr
  obtain ⟨j, hj, rfl⟩ := hr
  obtain rfl : j = i := by
    rcases Nat.lt_or_ge i rc with h | h
    · rw [List.getElem?_range h] at hj; exact (Option.some.inj hj).symm
    · rw [List.getElem?_eq_none (by simpa using h)] at hj; cases hj
  simp only [List.mem_flatten, List.mem_map] at hv
  obtain ⟨l, ⟨a, ha, rfl⟩, hv⟩ := hv
  rw [List.getD_eq_getElem?_getD] at hv
  cases hg : a[j]? with
  | none => rw [hg] at hv; cases hv
  | some x => rw [hg] at hv; exact ⟨a, ha, x, hg, hv⟩

theorem assemble_good (rc : Nat) (accs : List (List (List Val)))
    (h : ∀ a ∈ accs, ∀ r ∈ a, ∀ v ∈ r, P v) : ∀ r ∈ assemble rc accs, ∀ v ∈ r, P v := by
  intro r hr v hv
  obtain ⟨i, hi⟩ := List.getElem?_of_mem hr
  obtain ⟨a, ha, x, hx, hvx⟩ := mem_assemble hi hv
  exact h a ha x (List.mem_of_getElem? hx) v hvx

theorem fresh_ok (file : List (List Page)) (f : List Page → Reader) (hf : ∀ pages, (f pages).values = none) :
    ∀ c ∈ file.map (fun pages => ({ reader := f pages, buf := [] } : Col)), ColOk P c := by
  intro c hc
  simp only [List.mem_map] at hc
  obtain ⟨pages, _, rfl⟩ := hc
  exact ⟨fun vs hv => by simp [hf] at hv, fun v hv => by simp at hv⟩

theorem init_ok (file : List (List Page)) : StOk P (init file) :=
  fresh_ok file (fun _ => { cur := { next := 0, skip := 0 }, values := none }) (fun _ => rfl)

theorem seek_ok (file : List (List Page)) (st : St) (k : Nat) (h : StOk P st) : StOk P (seek file st k) := by
  unfold seek
  split
  · exact fresh_ok file (fun pages => seekReader pages k) (fun _ => rfl)
  · exact h

theorem reset_ok (file : List (List Page)) (st : St) : StOk P (reset file st) :=
  fresh_ok file (fun pages => seekReader pages 0) (fun _ => rfl)

theorem read_pending (file : List (List Page)) (B : Nat) (st : St) (n : Nat) (he : st.err = true) :
    read file B st n = (st, .failed) := by
  simp [read, he]

theorem read_good (file : List (List Page)) (hf : FileOk P file) (B : Nat) (st : St) (n : Nat) (h : StOk P st) :
    StOk P (read file B st n).1 ∧
    ∀ rs eof, (read file B st n).2 = .rows rs eof → ∀ r ∈ rs, ∀ v ∈ r, P v := by
  have h0 : StOk P (if st.rowIndex < 0 then seek file st 0 else st) := by
    split
    · exact seek_ok file st 0 h
    · exact h
  have hc := colsLoop_good B n file _ 0 0 hf h0
  fun_cases read file B st n
  · exact ⟨h, nofun⟩
  · exact ⟨hc.1, nofun⟩
  · exact ⟨hc.1, fun rs eof he => by cases he; exact assemble_good _ _ hc.2⟩

theorem step_good (file : List (List Page)) (hf : FileOk P file) (B : Nat) (st : St) (op : Op) (h : StOk P st) :
    StOk P (step file B st op).1 ∧
    ∀ rs eof, (step file B st op).2 = .rows rs eof → ∀ r ∈ rs, ∀ v ∈ r, P v := by
  cases op with
  | read n => exact read_good file hf B st n h
  | seek k => exact ⟨seek_ok file st k h, fun rs eof he => by simp [step] at he⟩
  | reset => exact ⟨reset_ok file st, fun rs eof he => by simp [step] at he⟩

theorem run_good (file : List (List Page)) (hf : FileOk P file) (B : Nat) :
    ∀ (ops : List Op) (st : St), StOk P st → ∀ x ∈ run file B st ops,
      ∀ rs eof, x.2 = .rows rs eof → ∀ r ∈ rs, ∀ v ∈ r, P v
  | [], _, _ => by simp [run]
  | op :: ops, st, h => by
    intro x hx
    simp only [run, List.mem_cons] at hx
    have hs := step_good file hf B st op h
    rcases hx with rfl | hx
    · exact hs.2
    · exact run_good file hf B ops _ hs.1 x hx

end PqModel.RowsBuf
