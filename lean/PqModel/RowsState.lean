
/-! # The error state of the row reader of a row group (`rowGroupRows`, row_group.go) — C13

`rowGroupRows.ReadRows` reads the columns ONE AFTER THE OTHER. When the page load of column `j`
fails (checksum mismatch) the columns in front of `j` have already consumed their batch, column `j`
stands at a place nobody knows (its page reader consumed the rejected page) and the columns behind
it have not moved: the column readers are out of step. The reader therefore stores the error in a
field (`r.err = err`, row_group.go:336) and every later `ReadRows` returns it again
(row_group.go:293-295) until `SeekToRow` (which then repositions EVERY column even when the row
asked for is the current one, row_group.go:276-285) or `Reset` (row_group.go:246-255) brings all
columns back to one row and clears it.

MIRROR of that bookkeeping: `St` holds the row every column reader stands on (`none` = undefined),
`r.rowIndex` and "`r.err != nil`"; `read`, `seek`, `reset` transliterate the three methods. What a
column reader does when it is asked for rows is a PARAMETER (`fails col from count`: the load of a
page needed for those rows is rejected) — the theorems hold for every such behaviour, so nothing about
pages, buffering or read-ahead is assumed. The column readers' own `SeekToRow`/`Reset` are taken to
succeed (out-of-range and I/O failures of a seek are C08/C14).

SPEC (`Aligned`, `rows_are_aligned`, `failure_is_reported`, `error_is_sticky`): whatever the history
of reads, seeks and resets, a `ReadRows` that returns rows has taken them from the SAME rows of every
column — the rows `r.rowIndex ..` — and a `ReadRows` during which a column fails, or that follows
such a call without a seek or Reset in between, returns the error and no rows.

`resetSeeded` is seeded/C13-4b (`Reset` rewinds the columns only when `rowIndex > 0`, but clears the
error regardless): `reset_guarded_by_rowIndex_misaligns` exhibits rows assembled from different row
numbers and no error. The mirror is tied to the source by `FactsCheckC13.reader_error_state_as_mirrored`
(every write / read of `r.err` and every call on a column reader with the conditions around it). -/
namespace PqModel.RowsState

/-- behaviour of the column readers: asked for `count` rows from row `from`, column `col` fails -/
abbrev Fails := Nat → Nat → Nat → Bool

structure St where
  cols : List (Option Nat)   -- the row each column reader stands on; `none`: undefined
  rowIndex : Nat             -- r.rowIndex (the initial -1 only forces the first SeekToRow(0); see `init`)
  err : Bool                 -- r.err != nil
  deriving DecidableEq, Repr

inductive Op where
  | read (n : Nat)
  | seek (k : Nat)
  | reset
  deriving DecidableEq, Repr

inductive Out where
  | rows (starts : List (Option Nat)) (count : Nat)  -- per column: the row its values were taken from
  | failed                                           -- `return 0, err`
  | done                                             -- SeekToRow / Reset
  deriving DecidableEq, Repr

/-- a fresh reader: `rowIndex = -1` makes the first `ReadRows` issue `SeekToRow(0)`, and any
    `SeekToRow(k)`, `k ≥ 0`, differs from -1: the same as every column on row 0 and `rowIndex = 0` -/
def init (ncols : Nat) : St := { cols := List.replicate ncols (some 0), rowIndex := 0, err := false }

/-- MIRROR the loop `for columnIndex := range r.columns` of `ReadRows` (row_group.go:312-367) at row
    granularity: column `j` is asked for `count` rows; the first failure ends the call with the columns
    in front of it advanced, the failing one undefined, the rest untouched. A column whose position is
    undefined delivers something from somewhere (worst case: no error). Returns the new positions and
    whether a column failed. -/
def readCols (fails : Fails) (count : Nat) : Nat → List (Option Nat) → List (Option Nat) × Bool
  | _, [] => ([], false)
  | j, none :: rest =>
    let r := readCols fails count (j + 1) rest
    (none :: r.1, r.2)
  | j, some p :: rest =>
    if fails j p count then (none :: rest, true)
    else
      let r := readCols fails count (j + 1) rest
      (some (p + count) :: r.1, r.2)

/-- MIRROR `rowGroupRows.ReadRows` (row_group.go:289-370); `total` = rows of the row group -/
def read (fails : Fails) (total : Nat) (st : St) (n : Nat) : St × Out :=
  if st.err then (st, .failed)                                   -- if r.err != nil { return 0, r.err }
  else
    let count := min n (total - st.rowIndex)
    let r := readCols fails count 0 st.cols
    if r.2 then ({ st with cols := r.1, err := true }, .failed)  -- r.err = err; return 0, err
    else ({ st with cols := r.1, rowIndex := st.rowIndex + count }, .rows st.cols count)

/-- MIRROR `rowGroupRows.SeekToRow` (row_group.go:272-288) -/
def seek (st : St) (k : Nat) : St :=
  if k ≠ st.rowIndex ∨ st.err = true then
    { cols := st.cols.map (fun _ => some k), rowIndex := k, err := false }
  else st

/-- MIRROR `rowGroupRows.Reset` (row_group.go:246-255) -/
def reset (st : St) : St := { cols := st.cols.map (fun _ => some 0), rowIndex := 0, err := false }

/-- seeded/C13-4b: the columns are rewound only `if r.rowIndex > 0`; `rowIndex = 0; err = nil` always -/
def resetSeeded (st : St) : St :=
  if st.rowIndex > 0 then reset st else { st with rowIndex := 0, err := false }

def stepWith (rst : St → St) (fails : Fails) (total : Nat) (st : St) : Op → St × Out
  | .read n => read fails total st n
  | .seek k => (seek st k, .done)
  | .reset => (rst st, .done)

def step := stepWith reset
def stepSeeded := stepWith resetSeeded

def run (f : St → Op → St × Out) : St → List Op → List Out
  | _, [] => []
  | s, op :: ops => (f s op).2 :: run f (f s op).1 ops

def reach (fails : Fails) (total : Nat) (ncols : Nat) (ops : List Op) : St :=
  ops.foldl (fun s op => (step fails total s op).1) (init ncols)

/-- SPEC invariant: unless an error is pending, every column stands on row `rowIndex` -/
def Aligned (st : St) : Prop := st.err = false → ∀ c ∈ st.cols, c = some st.rowIndex

theorem readCols_aligned (fails : Fails) (count p : Nat) (j : Nat) (cols : List (Option Nat)) :
    (∀ c ∈ cols, c = some p) →
      (readCols fails count j cols).2 = false → ∀ c ∈ (readCols fails count j cols).1, c = some (p + count) := by
  fun_induction readCols fails count j cols with
  | case1 => exact fun _ _ => nofun
  | case2 j rest r ih => exact fun h => nomatch h none (by simp)
  | case3 j q rest hf => exact fun _ h => nomatch h
  | case4 j q rest hf r ih =>
    intro h hr
    cases h (some q) (by simp)
    exact List.forall_mem_cons.mpr ⟨rfl, ih (fun x hx => h x (by simp [hx])) hr⟩

theorem init_aligned (n : Nat) : Aligned (init n) := by
  intro _ c hc
  simp [init, List.mem_replicate] at hc
  simp [init, hc.2]

theorem map_const_aligned (cols : List (Option Nat)) (k : Nat) : ∀ c ∈ cols.map (fun _ => some k), c = some k := by
  simp

theorem step_aligned (fails : Fails) (total : Nat) (st : St) (op : Op) (h : Aligned st) :
    Aligned (step fails total st op).1 := by
  cases op with
  | read n =>
    show Aligned (read fails total st n).1
    fun_cases read fails total st n
    · exact h
    · exact nofun
    · rename_i he _ _ hf
      exact fun _ => readCols_aligned fails _ st.rowIndex 0 st.cols (h (by simpa using he)) (by simpa using hf)
  | seek k =>
    show Aligned (seek st k)
    unfold seek
    split
    · exact fun _ => map_const_aligned st.cols k
    · exact h
  | reset => exact fun _ => map_const_aligned st.cols 0

theorem seek_aligns (st : St) (k : Nat) (h : Aligned st) :
    (seek st k).err = false ∧ (seek st k).rowIndex = k ∧ (seek st k).cols.length = st.cols.length ∧
    ∀ c ∈ (seek st k).cols, c = some k := by
  unfold seek
  split
  · exact ⟨rfl, rfl, List.length_map _, map_const_aligned st.cols k⟩
  · rename_i hc
    have he : st.err = false := by cases h' : st.err <;> simp_all
    have hk : k = st.rowIndex := Decidable.byContradiction fun h' => hc (.inl h')
    exact ⟨he, hk.symm, rfl, hk ▸ h he⟩

theorem reach_aligned (fails : Fails) (total ncols : Nat) (ops : List Op) :
    Aligned (reach fails total ncols ops) :=
  List.foldlRecOn ops _ (init_aligned ncols) fun s hs op _ => step_aligned fails total s op hs

theorem rows_are_aligned (fails : Fails) (total ncols : Nat) (ops : List Op) (n : Nat)
    (starts : List (Option Nat)) (count : Nat)
    (h : (read fails total (reach fails total ncols ops) n).2 = .rows starts count) :
    ∀ s ∈ starts, s = some (reach fails total ncols ops).rowIndex := by
  have ha := reach_aligned fails total ncols ops
  generalize reach fails total ncols ops = st at h ha
  unfold read at h
  by_cases he : st.err = true
  · simp [he] at h
  · have he' : st.err = false := by simpa using he
    simp only [he', Bool.false_eq_true, if_false] at h
    split at h
    · simp at h
    · simp only [Out.rows.injEq] at h
      rw [← h.1]
      exact ha he'

theorem failure_is_reported (fails : Fails) (total : Nat) (st : St) (n : Nat) (he : st.err = false)
    (hf : (readCols fails (min n (total - st.rowIndex)) 0 st.cols).2 = true) :
    (read fails total st n).2 = .failed ∧ (read fails total st n).1.err = true := by
  simp [read, he, hf]

theorem error_is_sticky (fails : Fails) (total : Nat) (st : St) (n : Nat) (he : st.err = true) :
    read fails total st n = (st, .failed) := by
  simp [read, he]

/-- a pending error is cleared by `SeekToRow` and by `Reset`, and both put every column on one row
    (also a seek to the current row: the `|| r.err != nil` of SeekToRow) -/
theorem seek_after_failure_repositions (st : St) (k : Nat) (he : st.err = true) :
    (seek st k).err = false ∧ (seek st k).rowIndex = k ∧ ∀ c ∈ (seek st k).cols, c = some k := by
  simp only [seek, he, or_true, if_true, true_and]
  exact map_const_aligned st.cols k

theorem reset_repositions (st : St) :
    (reset st).err = false ∧ (reset st).rowIndex = 0 ∧ ∀ c ∈ (reset st).cols, c = some 0 := by
  simp only [reset, true_and]
  exact map_const_aligned st.cols 0

/-- column 1 fails when it is asked for rows from row 0 (its first page is corrupted) -/
def firstPageOfColumn1 : Fails := fun col from_ _ => col == 1 && from_ == 0

/-- first read fails, Reset, the read fails again;
    a seek behind the page delivers aligned rows -/
example : run (step firstPageOfColumn1 100) (init 2) [.read 50, .read 50, .reset, .read 50, .seek 60, .read 10] =
    [.failed, .failed, .done, .failed, .done, .rows [some 60, some 60] 10] := by decide +kernel

theorem reset_guarded_by_rowIndex_misaligns :
    run (stepSeeded firstPageOfColumn1 100) (init 2) [.read 50, .reset, .read 50] =
      [.failed, .done, .rows [some 50, none] 50] := by decide +kernel

end PqModel.RowsState
