import PqModel.AsyncData

/-! Trace-level consequences: the consumer's call history, the sequential run of that history,
    and what is always possible: a step of the producer inside its loop (`loop_enabled`), a delivery to
    a waiting `ReadPage` (`CanDeliver`); deadlock freedom itself is `Props.C15.async_no_deadlock`. -/
namespace PqModel.Async

/-- the consumer's completed calls (SPEC side: what the caller did) -/
inductive Op where
  | seek (k : Nat)  -- SeekToRow(k) returned
  | read            -- ReadPage returned
deriving DecidableEq, Repr

/-- the completed consumer calls recorded in a log: a SeekToRow is complete at its send, a ReadPage
    at its delivery -/
def history : List Ev → List Op
  | [] => []
  | .seekSend k _ :: es => .seek k :: history es
  | .deliver _ _ :: es => .read :: history es
  | _ :: es => history es

def delivered : List Ev → List Res
  | [] => []
  | .deliver r _ :: es => r :: delivered es
  | _ :: es => delivered es

/-- SPEC: one goroutine performing the calls on the wrapped reader: results of the reads -/
def seqRun (U : Under) (l : Loc) : List Op → List Res
  | [] => []
  | .seek k :: ops => seqRun U (lsSeek k l) ops
  | .read :: ops => (lsRead U l).2 :: seqRun U (lsRead U l).1 ops

/-- SPEC: the sequential reader's state after the calls -/
def seqState (U : Under) (l : Loc) : List Op → Loc
  | [] => l
  | .seek k :: ops => seqState U (lsSeek k l) ops
  | .read :: ops => seqState U (lsRead U l).1 ops

def NoFatal (U : Under) : Prop := (∀ k c, U.sk k ≠ .fatal c) ∧ (∀ p c, U.rd p ≠ .fatal c)

theorem body_nofatal {U l l' o} (hn : NoFatal U) (h : body U l = (l', o)) (hf : l.ferr = none) :
    l'.ferr = none := by
  revert h
  fun_cases body U l <;> intro h <;> cases h
  -- the state is kept, or reset by a seek, or the wrapped reader failed fatally
  all_goals first | exact hf | rfl | exact absurd ‹_› (hn.1 _ _) | exact absurd ‹_› (hn.2 _ _)

theorem step_nofatal {U g e g'} (hn : NoFatal U) (h : Step U g e g') (hf : g.loc.ferr = none) :
    g'.loc.ferr = none := by
  cases h <;> try exact hf
  case bodyCont l hp hb => exact body_nofatal hn hb hf
  case bodyOffer l r hp hb => exact body_nofatal hn hb hf

theorem deliver_correct {U g g' r v} (hr : Reachable U g) (hs : Step U g (.deliver r v) g') :
    v = g.cver ∧ (r = (lsRead U g.spec).2 ∨ ∃ e, g.loc.ferr = some e ∧ r = .fatal e) ∧
    g'.spec = (lsRead U g.spec).1 := by
  obtain ⟨_, hd⟩ := data_reachable hr
  cases hs with
  | deliver hc hv => exact ⟨hv, hd.got_res _ hc hv, rfl⟩

theorem path_trace {U g es g'} (hn : NoFatal U) (hp : Path U g es g') (hr : Reachable U g)
    (hf : g.loc.ferr = none) :
    delivered es = seqRun U g.spec (history es) ∧ g'.spec = seqState U g.spec (history es) ∧
    g'.loc.ferr = none := by
  induction hp with
  | nil => exact ⟨rfl, rfl, hf⟩
  | @cons g e g1 es g2 s p ih =>
    have hr1 : Reachable U g1 := by
      obtain ⟨es0, p0⟩ := hr; exact ⟨_, p0.snoc s⟩
    obtain ⟨i1, i2, i3⟩ := ih hr1 (step_nofatal hn s hf)
    cases s
    case deliver it hc hv =>
      -- the delivered result is the sequential reader's next read
      rcases (deliver_correct hr (.deliver hc hv)).2.1 with h2 | ⟨e, he, _⟩
      · exact ⟨congr (congrArg _ h2) i1, i2, i3⟩
      · rw [hf] at he; cases he
    -- a completed `SeekToRow` moves the ghost reader as `seqRun` does; the other steps leave it alone
    all_goals exact ⟨i1, i2, i3⟩

/-- events that start no consumer call: producer steps, the rendezvous, the drop of an outdated item -/
def quiet : Ev → Bool
  | .handoff | .drop _ | .initPass | .pollTake _ _ | .pollEmpty | .bodyCont | .bodyOffer _ _ | .selTake _ _ => true
  | _ => false

theorem loop_enabled {U g} (hp : g.ppc = .poll ∨ g.ppc = .top) : ∃ e g', Step U g e g' ∧ quiet e = true := by
  rcases hp with hp | hp
  · rcases hs : g.seekCh with _ | ⟨k, v⟩
    · exact ⟨_, _, .pollEmpty hp hs, rfl⟩
    · exact ⟨_, _, .pollTake hp hs, rfl⟩
  · rcases hb : body U g.loc with ⟨l, _ | r⟩
    · exact ⟨_, _, .bodyCont hp hb, rfl⟩
    · exact ⟨_, _, .bodyOffer hp hb, rfl⟩

/-- a delivery is at most `n` quiet steps away; the numerals below count the steps still to go -/
def CanDeliver (U : Under) (g : G) (n : Nat) : Prop :=
  ∃ es r v g', Path U g (es ++ [.deliver r v]) g' ∧ es.length ≤ n ∧ ∀ e ∈ es, quiet e = true

theorem CanDeliver.now {U g r v g' n} (s : Step U g (.deliver r v) g') : CanDeliver U g n :=
  ⟨[], r, v, g', .cons s .nil, Nat.zero_le _, nofun⟩

theorem CanDeliver.step {U g e g1 n} (s : Step U g e g1) (hq : quiet e = true) (h : CanDeliver U g1 n) :
    CanDeliver U g (n + 1) := by
  obtain ⟨es, r, v, g', p, hl, hq'⟩ := h
  refine ⟨e :: es, r, v, g', .cons s p, Nat.succ_le_succ hl, fun x hx => ?_⟩
  rcases List.mem_cons.mp hx with rfl | hx
  · exact hq
  · exact hq' x hx

theorem CanDeliver.mono {U g n m} (h : CanDeliver U g n) (hn : n ≤ m) : CanDeliver U g m := by
  obtain ⟨es, r, v, g', p, hl, hq⟩ := h
  exact ⟨es, r, v, g', p, Nat.le_trans hl hn, hq⟩

theorem complete_from_top {U g} (hc : g.cpc = .reading) (hp : g.ppc = .top) (hv : g.pver = g.cver) :
    CanDeliver U g 3 := by
  have offer : ∀ {g : G} {l r}, g.cpc = .reading → g.ppc = .top → g.pver = g.cver →
      body U g.loc = (l, some r) → CanDeliver U g 2 := fun hc hp hv hb =>
    .step (.bodyOffer hp hb) rfl (.step (.handoff (it := ⟨_, _, _⟩) hc rfl) rfl (.now (.deliver rfl hv)))
  rcases hb : body U g.loc with ⟨l, _ | r⟩
  · obtain ⟨l2, r, hb2⟩ := body_none_then_some hb
    exact .step (.bodyCont hp hb) rfl (offer (g := { g with loc := l }) hc hp hv hb2)
  · exact (offer hc hp hv hb).mono (by omega)

theorem read_can_complete {U g} (hctl : Ctl g) (hc : g.cpc = .reading) : CanDeliver U g 6 := by
  -- a producer that polls picks up the current version
  have fromPoll : ∀ g : G, Ctl g → g.cpc = .reading → g.ppc = .poll → CanDeliver U g 4 := by
    intro g c1 h1 h2
    rcases hs : g.seekCh with _ | ⟨k, v⟩
    · exact .step (.pollEmpty h2 hs) rfl (complete_from_top h1 rfl (c1.cur hs (by simp [h1])))
    · exact .step (.pollTake h2 hs) rfl (complete_from_top h1 rfl (c1.ch k v hs).1)
  rcases hp : g.ppc with _ | _ | _ | it | _ | _
  · have s := Step.initPass (U := U) hp (hctl.rd_init (Or.inl hc))
    exact (CanDeliver.step s rfl (fromPoll _ (ctl_step hctl s) hc rfl)).mono (by omega)
  · exact (fromPoll g hctl hc hp).mono (by omega)
  · -- top: current, or a seek is waiting in the channel
    rcases hs : g.seekCh with _ | ⟨k, v⟩
    · exact (complete_from_top hc hp (hctl.cur hs (by simp [hc]))).mono (by omega)
    · -- produce something (one or two body steps), then take the seek
      have hv := (hctl.ch k v hs).1
      have offer : ∀ {g : G} {l r}, g.cpc = .reading → g.ppc = .top → g.seekCh = some (k, v) →
          v = g.cver → body U g.loc = (l, some r) → CanDeliver U g 5 := fun hc hp hs hv hb =>
        .step (.bodyOffer hp hb) rfl
          (.step (.selTake (it := ⟨_, _, _⟩) rfl hs) rfl (complete_from_top hc rfl hv))
      rcases hb : body U g.loc with ⟨l, _ | r⟩
      · obtain ⟨l2, r, hb2⟩ := body_none_then_some hb
        exact (CanDeliver.step (.bodyCont hp hb) rfl
          (offer (g := { g with loc := l }) hc hp hs hv hb2)).mono (by omega)
      · exact (offer hc hp hs hv hb).mono (by omega)
  · -- an item is on offer
    rcases hs : g.seekCh with _ | ⟨k, v⟩
    · have hv := hctl.cur hs (by simp [hc])
      have hiv := hctl.send_ver it hp
      exact .step (.handoff hc hp) rfl (.now (.deliver (it := it) rfl (by simp; omega)))
    · exact (CanDeliver.step (.selTake hp hs) rfl (complete_from_top hc rfl (hctl.ch k v hs).1)).mono (by omega)
  · exact absurd hp (hctl.not_fin (by simp [hc])).1
  · exact absurd hp (hctl.not_fin (by simp [hc])).2

end PqModel.Async
