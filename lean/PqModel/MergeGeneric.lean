import PqModel.MergeReader

/-! # C09 — the merge theorems over an arbitrary lawful comparator

The readers consult the rows only through `compare(a, b)`. For a lawful comparator `c` on any row
type the rows of a merge enter the mirror with their rank `rankIn c inputs.flatten` as key
(`rankRows`); `rank_sign` shows that on these rows the sign of `c` is the sign of the rank
difference, i.e. the mirror takes exactly the decisions the code takes with `c`. The theorems below
only assume `Lawful c`. -/
namespace PqModel.Merge
open PqModel.Compare

section generic
variable {α : Type} [Inhabited α]

def rankList (c : α → α → Int) (all : List α) (i : Nat) (src : List α) : List Row :=
  (List.range src.length).map (fun j => { key := (rankIn c all (src.getD j default) : Nat), inp := i, seq := j })

/-- the inputs as the mirror sees them: key = rank, payload = (input, seq) -/
def rankRows (c : α → α → Int) (inputs : List (List α)) : List (List Row) :=
  (List.range inputs.length).map (fun i => rankList c inputs.flatten i (inputs.getD i []))

/-- the row a mirror row stands for -/
def orig (inputs : List (List α)) (r : Row) : α := (inputs.getD r.inp []).getD r.seq default

theorem rankRows_get {c : α → α → Int} {inputs : List (List α)} {i : Nat} {l : List Row}
    (h : (rankRows c inputs)[i]? = some l) :
    ∃ src, inputs[i]? = some src ∧ l = rankList c inputs.flatten i src := by
  obtain ⟨hlt, rfl⟩ := getElem?_map_range _ h
  exact ⟨inputs[i], List.getElem?_eq_getElem hlt, by rw [ListFacts.getD_of_lt _ hlt]⟩

theorem rankList_map_orig {c : α → α → Int} {inputs : List (List α)} {i : Nat} {src : List α}
    (h : inputs[i]? = some src) : (rankList c inputs.flatten i src).map (orig inputs) = src := by
  apply List.ext_getElem
  · simp [rankList]
  · intro j h1 h2
    simp [rankList, orig, List.getD_eq_getElem?_getD, h, List.getElem?_eq_getElem h2]

theorem rankRows_map_orig (c : α → α → Int) (inputs : List (List α)) :
    (rankRows c inputs).map (List.map (orig inputs)) = inputs := by
  apply List.ext_getElem
  · simp [rankRows]
  · intro i h1 h2
    have h1' : i < (rankRows c inputs).length := by simpa using h1
    have hget : (rankRows c inputs)[i]? = some ((rankRows c inputs)[i]'h1') := List.getElem?_eq_getElem h1'
    obtain ⟨src, hsrc, hl⟩ := rankRows_get hget
    simp only [List.getElem_map]
    rw [hl, rankList_map_orig hsrc]
    rw [List.getElem?_eq_getElem h2] at hsrc
    exact (Option.some.inj hsrc).symm

theorem rankRows_flatten_orig (c : α → α → Int) (inputs : List (List α)) :
    (rankRows c inputs).flatten.map (orig inputs) = inputs.flatten := by
  rw [List.map_flatten, rankRows_map_orig]

theorem rankRows_wellTagged (c : α → α → Int) (inputs : List (List α)) : WellTagged (rankRows c inputs) := by
  intro i l hl x hx
  obtain ⟨src, _, rfl⟩ := rankRows_get hl
  simp only [rankList, List.mem_map] at hx
  obtain ⟨j, _, rfl⟩ := hx
  rfl

theorem rankRows_mem {c : α → α → Int} {inputs : List (List α)} {r : Row} (h : r ∈ (rankRows c inputs).flatten) :
    r.key = (rankIn c inputs.flatten (orig inputs r) : Nat) ∧ orig inputs r ∈ inputs.flatten := by
  obtain ⟨l, hl, hr⟩ := List.mem_flatten.mp h
  obtain ⟨i, hi⟩ := List.getElem?_of_mem hl
  obtain ⟨src, hsrc, rfl⟩ := rankRows_get hi
  simp only [rankList, List.mem_map, List.mem_range] at hr
  obtain ⟨j, hj, rfl⟩ := hr
  have e : orig inputs { key := (rankIn c inputs.flatten (src.getD j default) : Nat), inp := i, seq := j } = src[j] := by
    simp [orig, List.getD_eq_getElem?_getD, hsrc, List.getElem?_eq_getElem hj]
  rw [e]
  refine ⟨by simp [List.getD_eq_getElem?_getD, List.getElem?_eq_getElem hj], ?_⟩
  exact List.mem_flatten.mpr ⟨src, List.mem_of_getElem? hsrc, List.getElem_mem hj⟩

theorem rankRows_sorted {c : α → α → Int} (h : Lawful c) {inputs : List (List α)}
    (hs : ∀ l ∈ inputs, l.Pairwise (fun a b => c a b ≤ 0)) : ∀ l ∈ rankRows c inputs, SortedK l := by
  intro l hl
  obtain ⟨i, hi⟩ := List.getElem?_of_mem hl
  obtain ⟨src, hsrc, rfl⟩ := rankRows_get hi
  have hsrcs := hs src (List.mem_of_getElem? hsrc)
  rw [SortedK, List.pairwise_iff_getElem]
  intro a b ha hb hab
  simp only [rankList, List.length_map, List.length_range] at ha hb
  simp only [rankList, List.getElem_map, List.getElem_range, List.getD_eq_getElem?_getD,
    List.getElem?_eq_getElem ha, List.getElem?_eq_getElem hb, Option.getD_some]
  have := rank_le h inputs.flatten (List.pairwise_iff_getElem.mp hsrcs a b ha hb hab)
  omega

omit [Inhabited α] in
theorem le_of_rank_le {c : α → α → Int} (h : Lawful c) {L : List α} {a b : α} (hb : b ∈ L)
    (hr : rankIn c L a ≤ rankIn c L b) : c a b ≤ 0 := by
  by_cases hh : c a b ≤ 0
  · exact hh
  · have := rank_lt h hb ((h.flip b a).mpr (by omega))
    omega

/-- the rows `MergeRowReaders(readers, c)` returns over a whole session -/
def mergeC (c : α → α → Int) (inputs : List (List α)) (refills : List (List Nat)) (batches : List Nat) : List Row :=
  ((Reader.new (rankRows c inputs) refills).session batches).1.flatten

/-- C09 over an arbitrary lawful comparator -/
theorem mergeC_sorted_complete_stable {c : α → α → Int} (h : Lawful c) (inputs : List (List α))
    (refills : List (List Nat)) (batches : List Nat)
    (hs : ∀ l ∈ inputs, l.Pairwise (fun a b => c a b ≤ 0)) (hpos : ∀ b ∈ batches, 1 ≤ b)
    (hlen : inputs.flatten.length < batches.length) :
    let out := mergeC c inputs refills batches
    (out.map (orig inputs)).Pairwise (fun a b => c a b ≤ 0) ∧
    (out.map (orig inputs)).Perm inputs.flatten ∧
    ∀ (i : Nat) (l : List α), inputs[i]? = some l → ((out.filter (fun r => r.inp == i)).map (orig inputs)) = l := by
  intro out
  have hlen' : (rankRows c inputs).flatten.length < batches.length := by
    have := congrArg List.length (rankRows_flatten_orig c inputs)
    simp only [List.length_map] at this
    omega
  have hm : IsMerge (rankRows c inputs) out :=
    session_isMerge _ refills batches (rankRows_sorted h hs) (rankRows_wellTagged c inputs) hpos hlen'
  refine ⟨?_, ?_, ?_⟩
  · rw [List.pairwise_map]
    refine List.Pairwise.imp_of_mem ?_ hm.sorted
    intro a b ha hb hab
    obtain ⟨ka, _⟩ := rankRows_mem (hm.perm.mem_iff.mp ha)
    obtain ⟨kb, mb⟩ := rankRows_mem (hm.perm.mem_iff.mp hb)
    exact le_of_rank_le h mb (by omega)
  · have := hm.perm.map (orig inputs)
    rwa [rankRows_flatten_orig] at this
  · intro i l hl
    have hi : i < (rankRows c inputs).length := by
      simp only [rankRows, List.length_map, List.length_range]; exact ListFacts.lt_of_getElem?_eq_some hl
    have hget := List.getElem?_eq_getElem hi
    obtain ⟨src, hsrc, e⟩ := rankRows_get hget
    have := hm.stable i _ hget
    simp only [proj] at this
    rw [this, e, rankList_map_orig hsrc]
    rw [hl] at hsrc; exact (Option.some.inj hsrc).symm

/-- dedupe over an arbitrary lawful comparator -/
theorem dedupeC_one_row_per_key {c : α → α → Int} (h : Lawful c) (L : List α)
    (hs : L.Pairwise (fun a b => c a b ≤ 0)) (batches : List (List Row))
    (hb : batches.flatten = rankList c L 0 L) :
    let out := (dedupeReader none batches).map (orig [L])
    out.Sublist L ∧ out.Pairwise (fun a b => c a b < 0) ∧ ∀ x ∈ L, ∃ y ∈ out, c y x = 0 := by
  intro out
  have hflat : [L].flatten = L := by simp
  have hrows : rankRows c [L] = [rankList c L 0 L] := by simp [rankRows, hflat]
  have hsorted : SortedK batches.flatten := by
    rw [hb]
    have := rankRows_sorted h (inputs := [L]) (by intro l hl; simp at hl; subst hl; exact hs)
    exact this _ (by rw [hrows]; simp)
  have hmem : ∀ r ∈ batches.flatten, r.key = (rankIn c L (orig [L] r) : Nat) ∧ orig [L] r ∈ L := by
    intro r hr
    have := rankRows_mem (c := c) (inputs := [L]) (r := r) (by rw [hrows]; simpa [hb] using hr)
    simpa [hflat] using this
  have e : dedupeReader none batches = (dedupeBatch none batches.flatten).1 := dedupeReader_flatten batches none
  obtain ⟨d1, d2, _, d4⟩ := dedupeBatch_sorted batches.flatten none hsorted (by intro l hl; cases hl)
  rw [← e] at d1 d2 d4
  have horig : batches.flatten.map (orig [L]) = L := by
    rw [hb]
    have := rankList_map_orig (c := c) (inputs := [L]) (i := 0) (src := L) (by simp)
    rwa [hflat] at this
  refine ⟨?_, ?_, ?_⟩
  · have := d1.map (orig [L])
    rwa [horig] at this
  · rw [List.pairwise_map]
    refine List.Pairwise.imp_of_mem ?_ d2
    intro a b ha hb' hab
    obtain ⟨ka, ma⟩ := hmem a (d1.subset ha)
    obtain ⟨kb, mb⟩ := hmem b (d1.subset hb')
    exact ((rank_sign h ma mb).1).mpr (by omega)
  · intro x hx
    rw [← horig] at hx
    obtain ⟨r, hr, rfl⟩ := List.mem_map.mp hx
    rcases d4 r hr with ⟨y, hy, hk⟩ | ⟨l, hl, _⟩
    · obtain ⟨ky, my⟩ := hmem y (d1.subset hy)
      obtain ⟨kr, mr⟩ := hmem r hr
      exact ⟨orig [L] y, List.mem_map.mpr ⟨y, hy, rfl⟩, ((rank_sign h my mr).2.1).mpr (by omega)⟩
    · cases hl

end generic

end PqModel.Merge
