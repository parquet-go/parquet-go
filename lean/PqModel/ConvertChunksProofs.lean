import PqModel.ConvertChunks
import PqModel.ConvertProofs

/-! C12: sorting columns of a converted row group, batched reads through `forwardRowSeeker`, and
    the column-chunk view. -/
namespace PqModel.Convert
open PqModel.Dremel

theorem lexLE_prefix {ρ : Type} : ∀ (k1 k2 : List (ρ → ρ → Ordering)) (a b : ρ),
    lexLE (k1 ++ k2) a b = true → lexLE k1 a b = true
  | [], _, _, _, _ => rfl
  | k :: ks, k2, a, b, h => by
    simp only [List.cons_append, lexLE] at h ⊢
    cases hk : k a b <;> simp only [hk] at h ⊢
    · exact lexLE_prefix ks k2 a b h
    · exact h

theorem sortedBy_prefix {ρ : Type} (k1 k2 : List (ρ → ρ → Ordering)) : ∀ (rows : List ρ),
    SortedBy (k1 ++ k2) rows → SortedBy k1 rows
  | [], _ => trivial
  | [_], _ => trivial
  | a :: b :: rest, h => ⟨lexLE_prefix k1 k2 a b h.1, sortedBy_prefix k1 k2 (b :: rest) h.2⟩

theorem lexLE_map {α β κ : Type} (f : α → β) (key : κ → α → α → Ordering) (key' : κ → β → β → Ordering) :
    ∀ (cs : List κ), (∀ c ∈ cs, ∀ a b, key' c (f a) (f b) = key c a b) → ∀ a b,
      lexLE (cs.map key') (f a) (f b) = lexLE (cs.map key) a b
  | [], _, _, _ => rfl
  | c :: cs, h, a, b => by
    simp only [List.map_cons, lexLE, h c (by simp) a b]
    rw [lexLE_map f key key' cs (fun x hx => h x (by simp [hx])) a b]

theorem sortedBy_map {α β κ : Type} (f : α → β) (key : κ → α → α → Ordering) (key' : κ → β → β → Ordering)
    (cs : List κ) (hag : ∀ c ∈ cs, ∀ a b, key' c (f a) (f b) = key c a b) : ∀ (rows : List α),
    SortedBy (cs.map key) rows → SortedBy (cs.map key') (rows.map f)
  | [], _ => trivial
  | [_], _ => trivial
  | a :: b :: rest, h => by
    refine ⟨?_, sortedBy_map f key key' cs hag (b :: rest) h.2⟩
    rw [lexLE_map f key key' cs hag a b]; exact h.1

theorem read_plain {α : Type} (cap fuel : Nat) (st : Fwd α) (h : st.seek ≤ st.index) :
    Fwd.read cap (fuel + 1) st = (.rows (st.rest.take cap),
      { rest := st.rest.drop cap, seek := st.seek, index := st.index + (st.rest.take cap).length }) := by
  have : ¬ (0 < (st.rest.take cap).length ∧ st.index < st.seek) := by omega
  simp only [Fwd.read]
  rw [if_neg this]

theorem drain_plain {α β : Type} (f : α → β) : ∀ (caps : List Nat) (st : Fwd α), st.seek ≤ st.index →
    drain f caps st = some ((st.rest.take caps.sum).map f)
  | [], st, _ => by simp [drain]
  | cap :: caps, st, h => by
    simp only [drain, convRead, read_plain cap st.rest.length st h]
    -- `simp only []` here and below: reduce the projections of a record literal, which `omega` does not see through
    rw [drain_plain f caps _ (by simp only []; omega)]
    simp [List.take_add, List.sum_cons]

theorem drop_take_length {α : Type} (l : List α) (cap : Nat) : l.drop cap = l.drop (l.take cap).length := by
  rw [List.length_take]
  by_cases h : cap ≤ l.length
  · rw [Nat.min_eq_left h]
  · rw [Nat.min_eq_right (by omega), List.drop_of_length_le (by omega), List.drop_of_length_le (Nat.le_refl _)]

/-- `m` = rows taken from the underlying reader; `xs` followed by what it still holds is the stream
    from row `seek` on (from the current position when no seek is pending). -/
theorem read_spec {α : Type} (cap : Nat) (hcap : 0 < cap) : ∀ (fuel : Nat) (st : Fwd α), st.rest.length < fuel →
    ∃ xs m, Fwd.read cap fuel st = (.rows xs, { rest := st.rest.drop m, seek := st.seek, index := st.index + m }) ∧
      m ≤ st.rest.length ∧ xs ++ st.rest.drop m = st.rest.drop (st.seek - st.index) ∧
      (xs ≠ [] → st.seek ≤ st.index + m) ∧ (xs = [] → st.rest.length ≤ m)
  | 0, st, h => by omega
  | fuel + 1, st, h => by
    -- a batch is part of what is left, and empty only at the end
    have hn : (st.rest.take cap).length ≤ st.rest.length ∧ ((st.rest.take cap).length = 0 → st.rest.length = 0) := by
      rw [List.length_take]; omega
    simp only [Fwd.read, drop_take_length st.rest cap]
    by_cases hc : 0 < (st.rest.take cap).length ∧ st.index < st.seek
    · rw [if_pos hc]
      by_cases hs : st.seek - st.index ≥ (st.rest.take cap).length
      · -- the whole batch lies before the seek target: skipped
        rw [if_pos hs]
        obtain ⟨xs, m, h1, h2, h3, h4, h5⟩ := read_spec cap hcap fuel
          { rest := st.rest.drop (st.rest.take cap).length, seek := st.seek, index := st.index + (st.rest.take cap).length }
          (by simp only [List.length_drop]; omega)
        simp only [List.length_drop, List.drop_drop] at h1 h2 h3 h4 h5
        refine ⟨xs, (st.rest.take cap).length + m, ?_, by omega, ?_,
          fun hne => by have := h4 hne; omega, fun h0 => by have := h5 h0; omega⟩
        · rw [h1, Nat.add_assoc]
        · rw [h3]; congr 1; omega
      · -- the target lies inside the batch: its first rows are dropped
        rw [if_neg hs]
        refine ⟨_, _, rfl, hn.1, ?_, fun _ => by omega, fun h0 => ?_⟩
        · rw [← drop_take_length, ← List.drop_append_of_le_length (by omega), List.take_append_drop]
        · have := congrArg List.length h0
          simp only [List.length_drop, List.length_nil] at this
          omega
    · -- no seek pending, or the underlying reader is exhausted: the batch as it is
      rw [if_neg hc]
      refine ⟨_, _, rfl, hn.1, ?_, fun hne => ?_, fun h0 => ?_⟩
      · rw [← drop_take_length, List.take_append_drop]
        by_cases hi : st.index < st.seek
        · rw [List.eq_nil_of_length_eq_zero (hn.2 (by omega)), List.drop_nil]
        · rw [show st.seek - st.index = 0 by omega, List.drop_zero]
      · have := List.length_pos_iff.mpr hne
        omega
      · rw [h0]; exact Nat.le_of_eq (hn.2 (by rw [h0]; rfl))

theorem hist_refines {α : Type} (all : List α) : ∀ (ops : List Op) (st : Fwd α) (p : Nat),
    (∀ cap, Op.read cap ∈ ops → 0 < cap) → st.rest = all.drop st.index → st.index ≤ all.length →
    p = max st.seek st.index → Refines all p ops (runHist ops st)
  | [], _, _, _, _, _, _ => rfl
  | .seek k :: ops, st, p, hcaps, hinv, hle, hp => by
    intro hk
    simp only [runHist, Fwd.seekTo]
    have : k ≥ st.index := by omega
    rw [if_pos this]
    exact hist_refines all ops { st with seek := k } k (fun c hc => hcaps c (List.mem_cons_of_mem _ hc)) hinv hle
      (by simp only []; omega)
  | .read cap :: ops, st, p, hcaps, hinv, hle, hp => by
    obtain ⟨xs, m, he, hm, happ, hpend, hempty⟩ :=
      read_spec cap (hcaps cap List.mem_cons_self) (st.rest.length + 1) st (Nat.lt_succ_self _)
    have hL : st.index + st.rest.length = all.length := by rw [hinv, List.length_drop]; omega
    have hrest : st.rest.drop m = all.drop (st.index + m) := by rw [hinv, List.drop_drop]
    have hstream : xs ++ all.drop (st.index + m) = all.drop p := by
      rw [← hrest, happ, hinv, List.drop_drop, hp]; congr 1; omega
    -- `xs` and the rest split `all.drop p`
    have hl := congrArg List.length hstream
    simp only [List.length_append, List.length_drop] at hl
    simp only [runHist, he]
    refine ⟨?_, ?_, ?_⟩
    · rw [← hstream, List.take_left']
      rfl
    · intro h0
      rw [← hstream, h0, List.nil_append, List.drop_of_length_le (by have := hempty h0; omega)]
    · apply hist_refines all ops _ (p + xs.length) (fun c hc => hcaps c (List.mem_cons_of_mem _ hc)) hrest
        (by simp only []; omega)
      by_cases h0 : xs = []
      · have := hempty h0
        subst h0
        simp only [List.length_nil, Nat.add_zero, Nat.zero_add] at hl ⊢
        omega
      · have := hpend h0
        have := List.length_pos_iff.mpr h0
        simp only []
        omega

theorem permF_cons {sfs : PFields} {nm : Nat} {trp : Rp} {t : PNode} {tfs : PFields}
    (h : permF sfs (.cons nm trp t tfs) = true) :
    ∃ s, getFld nm sfs = some (trp, s) ∧ permN s t = true ∧ permF sfs tfs = true := by
  simp only [permF, Bool.and_eq_true] at h
  cases hg : getFld nm sfs with
  | none => simp [hg] at h
  | some p =>
    obtain ⟨srp, s⟩ := p
    simp only [hg, Bool.and_eq_true, decide_eq_true_eq] at h
    obtain ⟨⟨rfl, h1⟩, h2⟩ := h
    exact ⟨s, rfl, h1, h2⟩

theorem permN_leaf {s : PNode} (h : permN s .leaf = true) : s = .leaf := by
  cases s <;> simp [permN] at h
  rfl

theorem permN_group {s : PNode} {tfs : PFields} (h : permN s (.group tfs) = true) :
    ∃ sfs, s = .group sfs ∧ permF sfs tfs = true := by
  cases s <;> simp [permN] at h
  exact ⟨_, rfl, h⟩

mutual
theorem perm_subN : ∀ (t s : PNode), permN s t = true → subN s t = true
  | .leaf, s, h => by
    obtain rfl := permN_leaf h
    rfl
  | .group tfs, s, h => by
    obtain ⟨sfs, rfl, h⟩ := permN_group h
    exact perm_subF tfs sfs h
theorem perm_subF : ∀ (tfs sfs : PFields), permF sfs tfs = true → subF sfs tfs = true
  | .nil, _, _ => by simp [subF]
  | .cons nm trp tn tfs, sfs, h => by
    obtain ⟨sn, hg, hsn, hrest⟩ := permF_cons h
    simp only [subF, hg, rpOk_refl, perm_subN tn sn hsn, perm_subF tfs sfs hrest, Bool.and_self]
end

mutual
theorem chunkN_length (n : Nat) : ∀ (t : PNode) (trp : Rp) (lv : Lv) (s : Src) (adj : Option (List Triple)),
    (chunkN n t trp lv s adj).length = leavesP t
  | .leaf, _, _, s, _ => by
    simp only [chunkN, leavesP, eraseN, leavesN]
    split <;> simp
  | .group tfs, _, lv, s, _ => by
    simp only [chunkN, leavesP, eraseN, leavesN]
    exact chunkF_length n tfs tfs lv s
theorem chunkF_length (n : Nat) (all : PFields) : ∀ (tfs : PFields) (lv : Lv) (s : Src),
    (chunkF n all tfs lv s).length = leavesF (eraseF tfs)
  | .nil, _, _ => by simp [chunkF, eraseF, leavesF]
  | .cons nm trp tn tfs, lv, s => by
    rw [leavesF_cons]
    simp only [chunkF, List.length_append]
    rw [chunkN_length n tn, chunkF_length n all tfs]
end

theorem chunkLeaf_append (lv : Lv) (x y : List Triple) :
    chunkLeaf lv (x ++ y) = chunkLeaf lv x ++ chunkLeaf lv y := by
  simp only [chunkLeaf]
  split <;> simp [zeroCol, fixup, convLevels]

mutual
theorem lin_chunkN_sub (n : Nat) : ∀ (t : PNode) (trp : Rp) (lv : Lv) (s : PNode) (X Y : Cols)
    (p1 p2 p3 a1 a2 a3 : Option (List Triple)),
    subN s t = true → X.length = leavesP s → Y.length = leavesP s →
    chunkN n t trp lv (.on s (zipApp X Y) p3) a3 =
      zipApp (chunkN n t trp lv (.on s X p1) a1) (chunkN n t trp lv (.on s Y p2) a2)
  | .leaf, trp, lv, s, X, Y, p1, p2, p3, a1, a2, a3, hs, hx, hy => by
    obtain rfl := subN_leaf hs
    match X, Y, hx, hy with
    | [x], [y], _, _ => simp [chunkN, zipApp, chunkLeaf_append]
  | .group tfs, trp, lv, s, X, Y, p1, p2, p3, a1, a2, a3, hs, hx, hy => by
    obtain ⟨sfs, rfl, hs⟩ := subN_group hs
    exact lin_chunkF_sub n tfs tfs lv sfs X Y p1 p2 p3 hs hx hy
theorem lin_chunkF_sub (n : Nat) (all : PFields) : ∀ (tfs : PFields) (lv : Lv) (sfs : PFields) (X Y : Cols)
    (p1 p2 p3 : Option (List Triple)),
    subF sfs tfs = true → X.length = leavesF (eraseF sfs) → Y.length = leavesF (eraseF sfs) →
    chunkF n all tfs lv (.on (.group sfs) (zipApp X Y) p3) =
      zipApp (chunkF n all tfs lv (.on (.group sfs) X p1)) (chunkF n all tfs lv (.on (.group sfs) Y p2))
  | .nil, _, _, _, _, _, _, _, _, _, _ => by simp [chunkF, zipApp]
  | .cons nm trp tn tfs, lv, sfs, X, Y, p1, p2, p3, hs, hx, hy => by
    obtain ⟨srp, sn, hg, hok, hsn, hrest⟩ := subF_cons hs
    simp only [chunkF, stepS_on nm trp lv sfs _ _ hg]
    rw [blkOf_zip nm sfs X Y]
    rw [lin_chunkN_sub n tn trp (lv.step trp srp) sn (blkOf nm sfs X) (blkOf nm sfs Y) _ _ _ _ _ _ hsn
      (blkOf_length nm srp sn sfs X hg hx) (blkOf_length nm srp sn sfs Y hg hy)]
    rw [lin_chunkF_sub n all tfs lv sfs X Y p1 p2 p3 hrest hx hy]
    rw [zipApp_append (by rw [chunkN_length, chunkN_length])]
end

end PqModel.Convert
