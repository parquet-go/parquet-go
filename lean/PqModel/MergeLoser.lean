import PqModel.MergeRun
import PqModel.MergeTree

/-! # C09 C14 — the tournament tree of losers as an array (merge.go:795-1022)

Positions `0 .. k-1` are the internal nodes (node `i` stores `losers[i]`), position `k + x` is the leaf of input `x`,
position `2k` the phantom leaf of node `k-1`; the parent of `p` is `(p-1)/2`. `replayGames` and `runBound` walk the path
from the winner's leaf to the root. On that path the stored loser is the winner of the sibling subtree: hence one game
per path node restores the invariant after the winner's head changed, and the least stored loser is the least head
among the other live inputs. -/
namespace PqModel.Merge
open PqModel.MergeTree (leInf leInf_trans leInf_refl)

def par (p : Nat) : Nat := (p - 1) / 2

theorem child_cases {p : Nat} (h : 1 ≤ p) : p = 2 * par p + 1 ∨ p = 2 * par p + 2 := by
  simp only [par]; omega

theorem par_left (i : Nat) : par (2 * i + 1) = i := by simp only [par]; omega

theorem par_right (i : Nat) : par (2 * i + 2) = i := by simp only [par]; omega

theorem par_lt {p : Nat} (h : 1 ≤ p) : par p < p := by simp only [par]; omega

theorem par_lt_of_le {p k : Nat} (h1 : 1 ≤ p) (h2 : p ≤ 2 * k) : par p < k := by simp only [par]; omega

theorem exists_sibling {b : Nat} (hb : 1 ≤ b) : ∃ oc, par oc = par b ∧ oc ≠ b ∧ par b < oc ∧
    ((b = 2 * par b + 1 ∧ oc = 2 * par b + 2) ∨ (b = 2 * par b + 2 ∧ oc = 2 * par b + 1)) := by
  rcases child_cases hb with hc | hc
  · exact ⟨2 * par b + 2, par_right _, by omega, by omega, Or.inl ⟨hc, rfl⟩⟩
  · exact ⟨2 * par b + 1, par_left _, by omega, by omega, Or.inr ⟨hc, rfl⟩⟩

def up : Nat → Nat → Nat
  | 0, p => p
  | n + 1, p => par (up n p)

theorem up_le : ∀ n p, up n p ≤ p
  | 0, _ => Nat.le_refl _
  | n + 1, p => by have := up_le n p; simp only [up, par]; omega

theorem up_succ' : ∀ n p, up (n + 1) p = up n (par p)
  | 0, _ => rfl
  | n + 1, p => by simp only [up]; rw [← up_succ' n p]; rfl

theorem up_add : ∀ a b p, up (a + b) p = up a (up b p)
  | 0, b, p => by simp [up]
  | a + 1, b, p => by rw [Nat.add_right_comm]; simp only [up, up_add a b p]

theorem up_zero_of_le : ∀ n p, p ≤ n → up n p = 0
  | 0, p, h => by simp only [up]; omega
  | n + 1, p, h => by
    rw [up_succ']; apply up_zero_of_le; simp only [par]; omega

theorem up_zero : ∀ n, up n 0 = 0
  | 0 => rfl
  | n + 1 => by simp [up, up_zero n, par]

theorem up_mono : ∀ n {p q : Nat}, p ≤ q → up n p ≤ up n q
  | 0, _, _, h => h
  | n + 1, p, q, h => by have := up_mono n h; simp only [up, par]; omega

theorem up_succ_lt {n p : Nat} (h : 1 ≤ up n p) : up (n + 1) p < up n p := by
  simp only [up, par]; omega

theorem up_anti {p : Nat} : ∀ {a b : Nat}, a ≤ b → up b p ≤ up a p := by
  intro a b h
  obtain ⟨d, rfl⟩ := Nat.exists_eq_add_of_le h
  rw [Nat.add_comm, up_add]; exact up_le _ _

theorem up_le_par_of_lt {q n m : Nat} (h : n < m) : up m q ≤ par (up n q) := by
  obtain ⟨d, rfl⟩ := Nat.exists_eq_add_of_lt h
  rw [show n + d + 1 = (d + 1) + n by omega, up_add, up_succ']; exact up_le _ _

theorem onPath_unique {q a b : Nat} {n m : Nat} (ha : up n q = a) (hb : up m q = b)
    (hpar : par a = par b) (h1 : 1 ≤ a) (h2 : 1 ≤ b) : a = b := by
  subst ha hb
  rcases Nat.lt_trichotomy n m with h | h | h
  · have := up_le_par_of_lt (q := q) h
    have := par_lt h2
    omega
  · rw [h]
  · have := up_le_par_of_lt (q := q) h
    have := par_lt h1
    omega

structure Heads where
  alive : Nat → Bool
  key : Nat → Int

/-- key of a stored player: negative (exhausted / phantom) = +∞ -/
def Heads.pk (H : Heads) (p : Int) : Option Int :=
  if 0 ≤ p ∧ H.alive p.toNat = true then some (H.key p.toNat) else none

def leafPlayer (k : Nat) (H : Heads) (p : Nat) : Int :=
  if p - k < k ∧ H.alive (p - k) = true then ((p - k : Nat) : Int) else -1

/-- the outcome `(l, w)` of a game between `a` and `b` -/
def Game (H : Heads) (a b l w : Int) : Prop :=
  ((l = a ∧ w = b) ∨ (l = b ∧ w = a)) ∧ leInf (H.pk w) (H.pk l)

/-- `x` passes from its leaf up to position `p` -/
def Chain (k : Nat) (win : Nat → Int) (x : Nat) (p : Nat) : Prop :=
  ∃ n, up n (k + x) = p ∧ ∀ j, j ≤ n → win (up j (k + x)) = (x : Int)

/-- `win` is a ghost (the code keeps the losers and the overall winner only): the winner of every subtree, so that
    "node `i` stores the loser of its game" can be said. A witness, not a function of the heads: ties go either way -/
structure TInv (k : Nat) (H : Heads) (losers : List Int) (win : Nat → Int) : Prop where
  len : losers.length = k
  leaf : ∀ p, k ≤ p → win p = leafPlayer k H p
  node : ∀ i, i < k → Game H (win (2 * i + 1)) (win (2 * i + 2)) (losers.getD i (-1)) (win i)
  chain : ∀ p (x : Nat), win p = (x : Int) → H.alive x = true ∧ x < k ∧ Chain k win x p

theorem Game.symm {H : Heads} {a b l w : Int} (h : Game H a b l w) : Game H b a l w :=
  ⟨h.1.symm, h.2⟩

theorem Chain.step {k : Nat} {win : Nat → Int} {x q : Nat} (h : Chain k win x q)
    (hw : win (par q) = (x : Int)) : Chain k win x (par q) := by
  obtain ⟨n, hn1, hn2⟩ := h
  refine ⟨n + 1, by simp only [up, hn1], fun j hj => ?_⟩
  rcases Nat.lt_or_ge j (n + 1) with hj' | hj'
  · exact hn2 j (by omega)
  · obtain rfl : j = n + 1 := by omega
    simp only [up, hn1]; exact hw

/-- the last field of `TInv` follows from the others -/
theorem chain_of_picks {k : Nat} {H : Heads} {win : Nat → Int}
    (leaf : ∀ p, k ≤ p → win p = leafPlayer k H p)
    (pick : ∀ i, i < k → win i = win (2 * i + 1) ∨ win i = win (2 * i + 2)) :
    ∀ (d p x : Nat), k ≤ p + d → win p = (x : Int) → H.alive x = true ∧ x < k ∧ Chain k win x p
  | 0, p, x, hd, hx => by
    have hl := leaf p hd
    rw [hx, leafPlayer] at hl
    by_cases hc : p - k < k ∧ H.alive (p - k) = true
    · rw [if_pos hc] at hl
      obtain rfl : x = p - k := by omega
      refine ⟨hc.2, hc.1, 0, by simp only [up]; omega, fun j hj => ?_⟩
      obtain rfl : j = 0 := by omega
      rw [up, show k + (p - k) = p by omega]; exact hx
    · rw [if_neg hc] at hl; omega
  | d + 1, p, x, hd, hx => by
    by_cases hp : k ≤ p
    · exact chain_of_picks leaf pick 0 p x hp hx
    rcases pick p (by omega) with e | e
    · obtain ⟨a1, a2, a3⟩ := chain_of_picks leaf pick d (2 * p + 1) x (by omega) (by rw [← e, hx])
      exact ⟨a1, a2, par_left p ▸ a3.step (by rw [par_left]; exact hx)⟩
    · obtain ⟨a1, a2, a3⟩ := chain_of_picks leaf pick d (2 * p + 2) x (by omega) (by rw [← e, hx])
      exact ⟨a1, a2, par_right p ▸ a3.step (by rw [par_right]; exact hx)⟩

theorem Game.pick {H : Heads} {a b l w : Int} (h : Game H a b l w) : w = a ∨ w = b := by
  rcases h.1 with ⟨_, e⟩ | ⟨_, e⟩
  · exact Or.inr e
  · exact Or.inl e

theorem pk_neg {H : Heads} {p : Int} (h : p < 0) : H.pk p = none := by
  simp only [Heads.pk]; split
  · omega
  · rfl

theorem pk_nat {H : Heads} {x : Nat} (h : H.alive x = true) : H.pk (x : Int) = some (H.key x) := by
  simp [Heads.pk, h]

theorem pk_isSome {H : Heads} {p : Int} (h : (H.pk p).isSome) : ∃ x : Nat, p = (x : Int) ∧ H.alive x = true := by
  simp only [Heads.pk] at h
  split at h
  · rename_i hc; exact ⟨p.toNat, by omega, hc.2⟩
  · simp at h

theorem TInv.le_child {k H losers win} (h : TInv k H losers win) {p : Nat} (h1 : 1 ≤ p) (h2 : p ≤ 2 * k) :
    leInf (H.pk (win (par p))) (H.pk (win p)) := by
  have h3 := child_cases h1
  have hi : par p < k := par_lt_of_le h1 h2
  obtain ⟨hset, hle⟩ := h.node (par p) hi
  generalize par p = i at *
  rcases h3 with hc | hc
  · subst hc
    rcases hset with ⟨e1, e2⟩ | ⟨e1, e2⟩
    · rw [← e1]; exact hle
    · rw [← e2] ; exact leInf_refl _
  · subst hc
    rcases hset with ⟨e1, e2⟩ | ⟨e1, e2⟩
    · rw [← e2]; exact leInf_refl _
    · rw [← e1]; exact hle

theorem TInv.le_up {k H losers win} (h : TInv k H losers win) : ∀ (n p : Nat), p ≤ 2 * k →
    leInf (H.pk (win (up n p))) (H.pk (win p))
  | 0, p, _ => leInf_refl _
  | n + 1, p, hp => by
    have ih := TInv.le_up h n p hp
    by_cases h0 : 1 ≤ up n p
    · have := h.le_child h0 (Nat.le_trans (up_le n p) hp)
      exact leInf_trans this ih
    · have : up n p = 0 := by omega
      simp only [up, this, par]; rw [this] at ih; exact ih

theorem TInv.tree_min {k H losers win} (h : TInv k H losers win) (x : Nat) (hx : x < k)
    (ha : H.alive x = true) : leInf (H.pk (win 0)) (some (H.key x)) := by
  have h1 := h.le_up (k + x) (k + x) (by omega)
  rw [up_zero_of_le _ _ (Nat.le_refl _)] at h1
  have h2 : win (k + x) = (x : Int) := by
    rw [h.leaf (k + x) (by omega)]
    simp [leafPlayer, hx, ha]
  rw [h2, pk_nat ha] at h1
  exact h1

theorem TInv.winner_alive {k H losers win} (h : TInv k H losers win) (x : Nat) (hx : x < k)
    (ha : H.alive x = true) : ∃ w : Nat, win 0 = (w : Int) ∧ H.alive w = true ∧ w < k := by
  have := h.tree_min x hx ha
  cases hp : H.pk (win 0) with
  | none => rw [hp] at this; simp [leInf] at this
  | some v =>
    obtain ⟨w, hw, hal⟩ := pk_isSome (p := win 0) (by rw [hp]; rfl)
    exact ⟨w, hw, hal, (h.chain 0 w hw).2.1⟩


theorem leInf_none (a : Option Int) : leInf a none := by cases a <;> simp [leInf]

theorem leInf_some {a b : Int} : leInf (some a) (some b) ↔ a ≤ b := by
  simp only [leInf]

theorem playGame_cases (bufs : List Buf) (a b : Int) :
    (a < 0 ∧ playGame bufs a b = (a, b)) ∨ (0 ≤ a ∧ b < 0 ∧ playGame bufs a b = (b, a)) ∨
    (0 ≤ a ∧ 0 ≤ b ∧ (headOf bufs a).key < (headOf bufs b).key ∧ playGame bufs a b = (b, a)) ∨
    (0 ≤ a ∧ 0 ≤ b ∧ ¬ (headOf bufs a).key < (headOf bufs b).key ∧ playGame bufs a b = (a, b)) := by
  unfold playGame
  by_cases ha : a < 0
  · simp [ha]
  · by_cases hb : b < 0
    · simp [ha, hb]; omega
    · by_cases hc : cmp (headOf bufs a) (headOf bufs b) < 0
      · have := cmp_lt.mp hc
        simp only [ha, hb, hc, if_true, if_false]
        right; right; left; exact ⟨by omega, by omega, this, trivial⟩
      · have : ¬ (headOf bufs a).key < (headOf bufs b).key := fun h => hc (cmp_lt.mpr h)
        simp only [ha, hb, hc, if_false]
        right; right; right; exact ⟨by omega, by omega, this, trivial⟩

theorem playGame_mem (bufs : List Buf) (a b : Int) :
    ((playGame bufs a b).1 = a ∧ (playGame bufs a b).2 = b) ∨
    ((playGame bufs a b).1 = b ∧ (playGame bufs a b).2 = a) := by
  rcases playGame_cases bufs a b with ⟨_, e⟩ | ⟨_, _, e⟩ | ⟨_, _, _, e⟩ | ⟨_, _, _, e⟩ <;> rw [e] <;> simp

theorem playGame_game {H : Heads} {bufs : List Buf}
    (hb : ∀ x, H.alive x = true → (headOf bufs (x : Int)).key = H.key x) (a b : Int)
    (ha : ∀ x : Nat, a = (x : Int) → H.alive x = true) (hb' : ∀ x : Nat, b = (x : Int) → H.alive x = true) :
    Game H a b (playGame bufs a b).1 (playGame bufs a b).2 := by
  have key : ∀ p, (∀ x : Nat, p = (x : Int) → H.alive x = true) → 0 ≤ p → H.pk p = some (headOf bufs p).key := by
    intro p hp h0
    obtain ⟨x, rfl⟩ := Int.eq_ofNat_of_zero_le h0
    rw [pk_nat (hp x rfl), hb x (hp x rfl)]
  rcases playGame_cases bufs a b with ⟨h1, e⟩ | ⟨h1, h2, e⟩ | ⟨h1, h2, h3, e⟩ | ⟨h1, h2, h3, e⟩ <;> rw [e]
  · exact ⟨Or.inl ⟨rfl, rfl⟩, by rw [pk_neg h1]; exact leInf_none _⟩
  · exact ⟨Or.inr ⟨rfl, rfl⟩, by rw [pk_neg h2]; exact leInf_none _⟩
  · exact ⟨Or.inr ⟨rfl, rfl⟩, by rw [key a ha h1, key b hb' h2, leInf_some]; omega⟩
  · exact ⟨Or.inl ⟨rfl, rfl⟩, by rw [key a ha h1, key b hb' h2, leInf_some]; omega⟩

theorem replayStep_eq (bufs : List Buf) (o : Nat) (c : Int) (L : List Int) (ho : o < L.length) :
    replayStep bufs o c L =
      ((playGame bufs (L.getD o (-1)) c).2, L.set o (playGame bufs (L.getD o (-1)) c).1) := by
  have hself : L.set o (L.getD o (-1)) = L := by
    simp [List.getD_eq_getElem?_getD, List.getElem?_eq_getElem ho]
  unfold replayStep playGame
  generalize L.getD o (-1) = p at hself
  by_cases h1 : p < 0
  · rw [if_pos h1, if_neg (by simp; omega), hself]
  · rw [if_neg h1]
    by_cases h2 : c < 0
    · rw [if_pos h2, if_pos (by simp [h2]; omega)]
    · rw [if_neg h2]
      by_cases h3 : cmp (headOf bufs p) (headOf bufs c) < 0
      · rw [if_pos h3, if_pos (by simp [h3]; omega)]
      · rw [if_neg h3, if_neg (by simp [h2, h3]), hself]

theorem replayStep_frame (bufs : List Buf) (o : Nat) (c : Int) (L : List Int) (ho : o < L.length) :
    (replayStep bufs o c L).2.length = L.length ∧
    ∀ i, i ≠ o → (replayStep bufs o c L).2.getD i (-1) = L.getD i (-1) := by
  rw [replayStep_eq bufs o c L ho]
  exact ⟨List.length_set, fun i hi => ListFacts.getD_set_ne _ _ hi⟩

theorem replayStep_game {H : Heads} {bufs : List Buf}
    (hb : ∀ x, H.alive x = true → (headOf bufs (x : Int)).key = H.key x)
    (o : Nat) (c : Int) (L : List Int) (ho : o < L.length)
    (hc : ∀ x : Nat, c = (x : Int) → H.alive x = true)
    (hl : ∀ x : Nat, L.getD o (-1) = (x : Int) → H.alive x = true) :
    Game H c (L.getD o (-1)) ((replayStep bufs o c L).2.getD o (-1)) (replayStep bufs o c L).1 := by
  rw [replayStep_eq bufs o c L ho, ListFacts.getD_set_self _ _ ho]
  exact (playGame_game hb _ _ hl hc).symm

section replay
variable {k : Nat} {H H' : Heads} {losers : List Int} {win : Nat → Int} {w0 : Nat} {bufs : List Buf}

/-- positions on the path from the leaf of the previous winner to the root -/
def OnPath (k w0 : Nat) (i : Nat) : Prop := ∃ j, up j (k + w0) = i

theorem onPath_par {i : Nat} (h : OnPath k w0 i) : OnPath k w0 (par i) := by
  obtain ⟨j, hj⟩ := h; exact ⟨j + 1, by simp [up, hj]⟩

theorem onPath_up {i : Nat} (h : OnPath k w0 i) (n : Nat) : OnPath k w0 (up n i) := by
  obtain ⟨j, hj⟩ := h; exact ⟨n + j, by rw [up_add, hj]⟩

theorem onPath_lt_k {i : Nat} (hw0 : w0 < k) (h : OnPath k w0 i) (hne : i ≠ k + w0) : i < k := by
  obtain ⟨j, hj⟩ := h
  cases j with
  | zero => exact absurd hj.symm hne
  | succ j =>
    rw [up_succ'] at hj
    have := up_le j (par (k + w0))
    have := par_lt_of_le (p := k + w0) (k := k) (by omega) (by omega)
    omega

theorem onPath_lt {i b : Nat} (hi : OnPath k w0 i) (hb : OnPath k w0 b) (h : i < b) : i ≤ par b := by
  obtain ⟨n, rfl⟩ := hi
  obtain ⟨j, rfl⟩ := hb
  rcases Nat.lt_or_ge j n with hlt | hge
  · exact up_le_par_of_lt hlt
  · have := up_anti (p := k + w0) hge
    omega

theorem exists_update (w : Nat → Int) (q : Nat) (v : Int) : ∃ w' : Nat → Int, w' q = v ∧ ∀ p, p ≠ q → w' p = w p :=
  ⟨fun p => if p = q then v else w p, by simp, fun p hp => by simp [hp]⟩

/-- the state of the loop of `replayGames` after the path nodes below `b` have been replayed: `w` is the winner
    function so far and `c = w b` the candidate coming up -/
structure PInv (k : Nat) (H' : Heads) (losers : List Int) (win : Nat → Int) (w0 : Nat)
    (b : Nat) (c : Int) (L : List Int) (w : Nat → Int) : Prop where
  onb : OnPath k w0 b
  len : L.length = k
  leaf : ∀ p, k ≤ p → w p = leafPlayer k H' p
  node : ∀ i, i < k → ¬ (OnPath k w0 i ∧ i < b) →
    Game H' (w (2 * i + 1)) (w (2 * i + 2)) (L.getD i (-1)) (w i)
  live : ∀ p (x : Nat), ¬ (OnPath k w0 p ∧ p < b) → w p = (x : Int) → H'.alive x = true
  keep : ∀ i, OnPath k w0 i → i < b → L.getD i (-1) = losers.getD i (-1)
  same : ∀ p, ¬ (OnPath k w0 p ∧ b ≤ p) → w p = win p
  cand : w b = c

theorem PInv.done {c : Int} {L : List Int} {w : Nat → Int}
    (h : PInv k H' losers win w0 0 c L w) : TInv k H' L w ∧ w 0 = c :=
  ⟨⟨h.len, h.leaf, fun i hi => h.node i hi (by omega),
    fun p x hx => chain_of_picks h.leaf (fun i hi => (h.node i hi (by omega)).pick) k p x (by omega) hx⟩, h.cand⟩

theorem pk_agree (hag : ∀ x, x ≠ w0 → H'.alive x = H.alive x ∧ H'.key x = H.key x)
    {p : Int} (hp : p ≠ (w0 : Int)) : H'.pk p = H.pk p := by
  simp only [Heads.pk]
  by_cases h0 : 0 ≤ p
  · have hne : p.toNat ≠ w0 := by omega
    rw [(hag _ hne).1, (hag _ hne).2]
  · simp [h0]

theorem path_win (hinv : TInv k H losers win) (hw : win 0 = (w0 : Int)) :
    ∀ i, OnPath k w0 i → win i = (w0 : Int) := by
  obtain ⟨_, _, N, hN, hall⟩ := hinv.chain 0 w0 hw
  intro i ⟨j, hj⟩
  rcases Nat.le_total j N with h | h
  · rw [← hj]; exact hall j h
  · obtain ⟨d, rfl⟩ := Nat.exists_eq_add_of_le h
    rw [← hj, Nat.add_comm, up_add, hN, up_zero, ← hN]; exact hall N (Nat.le_refl _)

theorem win_onPath (hinv : TInv k H losers win) {p : Nat} (h : win p = (w0 : Int)) : OnPath k w0 p := by
  obtain ⟨_, _, n, hn, _⟩ := hinv.chain p w0 h
  exact ⟨n, hn⟩

/-- at a path node the stored loser is the winner of the subtree hanging off the path -/
theorem loser_is_sibling (hinv : TInv k H losers win) (hw : win 0 = (w0 : Int))
    {pc oc : Nat} (hpc : OnPath k w0 pc) (h1 : 1 ≤ pc) (h2 : 1 ≤ oc) (hpar : par oc = par pc)
    (hne : oc ≠ pc) (hlt : par pc < k) : losers.getD (par pc) (-1) = win oc := by
  have hwinb : win pc = (w0 : Int) := path_win hinv hw pc hpc
  have hwino : win (par pc) = (w0 : Int) := path_win hinv hw _ (onPath_par hpc)
  obtain ⟨hset, _⟩ := hinv.node (par pc) hlt
  have hc1 := child_cases h1
  have hc2 := child_cases h2
  rw [hpar] at hc2
  rcases hc1 with e1 | e1 <;> rcases hc2 with e2 | e2
  · omega
  · rw [← e1, ← e2, hwinb, hwino] at hset
    rcases hset with ⟨a1, a2⟩ | ⟨a1, _⟩
    · rw [a1, a2]
    · exact a1
  · rw [← e1, ← e2, hwinb, hwino] at hset
    rcases hset with ⟨a1, _⟩ | ⟨a1, a2⟩
    · exact a1
    · rw [a1, a2]
  · omega

theorem PInv.step (hinv : TInv k H losers win) (hw : win 0 = (w0 : Int))
    (hb : ∀ x, H'.alive x = true → (headOf bufs (x : Int)).key = H'.key x)
    {b : Nat} {c : Int} {L : List Int} {w : Nat → Int}
    (h : PInv k H' losers win w0 b c L w) (hb1 : 1 ≤ b) :
    ∃ w', PInv k H' losers win w0 (par b) (replayStep bufs (par b) c L).1 (replayStep bufs (par b) c L).2 w' := by
  have hob : par b < b := par_lt hb1
  have hono : OnPath k w0 (par b) := onPath_par h.onb
  have hok : par b < k := by
    obtain ⟨j, hj⟩ := h.onb
    have := up_le j (k + w0)
    exact onPath_lt_k (hinv.chain 0 w0 hw).2.1 hono (by omega)
  obtain ⟨oc, hoc_par, hoc_ne, hoc_gt, hchildren⟩ := exists_sibling hb1
  have hoc1 : 1 ≤ oc := Nat.lt_of_le_of_lt (Nat.zero_le _) hoc_gt
  have hoc_off : ¬ OnPath k w0 oc := by
    intro ⟨n, hn⟩
    obtain ⟨j, hj⟩ := h.onb
    exact hoc_ne (onPath_unique hn hj hoc_par hoc1 hb1)
  -- the stored loser is the winner of the sibling subtree, untouched so far
  have hl : L.getD (par b) (-1) = w oc := by
    rw [h.keep _ hono hob, h.same oc (fun hh => hoc_off hh.1)]
    exact loser_is_sibling hinv hw h.onb hb1 hoc1 hoc_par hoc_ne hok
  have hlive_oc := fun x => h.live oc x (fun hh => hoc_off hh.1)
  have hlive_b := fun x => h.live b x (fun hh => Nat.lt_irrefl _ hh.2)
  have hgame := replayStep_game (H := H') hb (par b) c L (by rw [h.len]; exact hok)
    (fun x hx => hlive_b x (h.cand ▸ hx)) (fun x hx => hlive_oc x (hl ▸ hx))
  obtain ⟨hLen, hLne⟩ := replayStep_frame bufs (par b) c L (by rw [h.len]; exact hok)
  rw [hl] at hgame
  generalize replayStep bufs (par b) c L = s at hgame hLen hLne ⊢
  obtain ⟨w', hw'o, hw'ne⟩ := exists_update w (par b) s.1
  have hother : ∀ i, i ≠ par b → ¬ (OnPath k w0 i ∧ i < par b) → ¬ (OnPath k w0 i ∧ i < b) := by
    intro i hne hn ⟨h1, h2⟩
    exact hn ⟨h1, Nat.lt_of_le_of_ne (onPath_lt h1 h.onb h2) hne⟩
  -- the node just played is a child only of the path node above it
  have hchild : ∀ i, ¬ (OnPath k w0 i ∧ i < par b) → 2 * i + 1 ≠ par b ∧ 2 * i + 2 ≠ par b := by
    intro i hn
    refine ⟨fun hh => hn ?_, fun hh => hn ?_⟩
    · rw [← par_left i, hh]; exact ⟨onPath_par hono, par_lt (by omega)⟩
    · rw [← par_right i, hh]; exact ⟨onPath_par hono, par_lt (by omega)⟩
  refine ⟨w', hono, by rw [hLen, h.len], ?_, ?_, ?_, ?_, ?_, hw'o⟩
  · intro p hp
    rw [hw'ne p (Nat.ne_of_gt (Nat.lt_of_lt_of_le hok hp))]; exact h.leaf p hp
  · -- node
    intro i hi hn
    by_cases hio : i = par b
    · subst hio
      rw [hw'o]
      rcases hchildren with ⟨e1, e2⟩ | ⟨e1, e2⟩
      · rw [← e1, ← e2, hw'ne _ (Nat.ne_of_gt hob), hw'ne _ (Nat.ne_of_gt hoc_gt), h.cand]; exact hgame
      · rw [← e1, ← e2, hw'ne _ (Nat.ne_of_gt hoc_gt), hw'ne _ (Nat.ne_of_gt hob), h.cand]; exact hgame.symm
    · rw [hw'ne _ (hchild i hn).1, hw'ne _ (hchild i hn).2, hw'ne _ hio, hLne _ hio]
      exact h.node i hi (hother i hio hn)
  · intro p x hn hpx
    by_cases hpo : p = par b
    · subst hpo
      rw [hw'o] at hpx
      rcases hgame.pick with e | e
      · exact hlive_b x (by rw [h.cand, ← e, hpx])
      · exact hlive_oc x (by rw [← e, hpx])
    · rw [hw'ne _ hpo] at hpx
      exact h.live p x (hother p hpo hn) hpx
  · intro i hi1 hi2
    rw [hLne i (Nat.ne_of_lt hi2)]; exact h.keep i hi1 (Nat.lt_trans hi2 hob)
  · intro p hp
    have hpo : p ≠ par b := fun hh => hp ⟨hh ▸ hono, Nat.le_of_eq hh.symm⟩
    rw [hw'ne _ hpo]
    exact h.same p (fun hh => hp ⟨hh.1, Nat.le_trans (Nat.le_of_lt hob) hh.2⟩)


theorem PInv.loop (hinv : TInv k H losers win) (hw : win 0 = (w0 : Int))
    (hb : ∀ x, H'.alive x = true → (headOf bufs (x : Int)).key = H'.key x) :
    ∀ (f b : Nat) (c : Int) (L : List Int) (w : Nat → Int),
      PInv k H' losers win w0 b c L w → 1 ≤ b → par b < f →
      ∃ w', TInv k H' (replayLoop bufs f (par b) c L).2 w' ∧ w' 0 = (replayLoop bufs f (par b) c L).1
  | 0, b, c, L, w, _, _, hf => by omega
  | f + 1, b, c, L, w, h, hb1, hf => by
    obtain ⟨w', hstep⟩ := PInv.step hinv hw hb h hb1
    simp only [replayLoop]
    split
    · rename_i h0
      have hd := hstep
      rw [h0] at hd
      exact ⟨w', by have := hd.done; rw [h0]; exact this⟩
    · rename_i h0
      have hlt : par (par b) < f := by
        have : par (par b) < par b := par_lt (by omega)
        omega
      have := PInv.loop hinv hw hb f (par b) _ _ w' hstep (by omega) hlt
      simpa only [par] using this

/-- the state before the first game: only the leaf of the previous winner has changed -/
theorem PInv.start (hinv : TInv k H losers win) (hw : win 0 = (w0 : Int))
    (hag : ∀ x, x ≠ w0 → H'.alive x = H.alive x ∧ H'.key x = H.key x) :
    ∃ w, PInv k H' losers win w0 (k + w0) (if H'.alive w0 = true then (w0 : Int) else -1) losers w := by
  have hw0k : w0 < k := (hinv.chain 0 w0 hw).2.1
  obtain ⟨w, hq, hne⟩ := exists_update win (k + w0) (if H'.alive w0 = true then (w0 : Int) else -1)
  have honq : OnPath k w0 (k + w0) := ⟨0, rfl⟩
  have hoff : ∀ p, ¬ (OnPath k w0 p ∧ p < k + w0) → p ≠ k + w0 → ¬ OnPath k w0 p := by
    intro p hn hp hon
    exact hn ⟨hon, by have := onPath_lt_k hw0k hon hp; omega⟩
  refine ⟨w, honq, hinv.len, ?_, ?_, ?_, fun _ _ _ => rfl, ?_, hq⟩
  · intro p hp
    by_cases hpq : p = k + w0
    · subst hpq
      rw [hq]
      simp only [leafPlayer, Nat.add_sub_cancel_left, hw0k, true_and]
    · rw [hne p hpq, hinv.leaf p hp]
      simp only [leafPlayer]
      by_cases hlt : p - k < k
      · rw [(hag (p - k) (by omega)).1]
      · simp [hlt]
  · intro i hi hn
    have hioff : ¬ OnPath k w0 i := hoff i hn (by omega)
    have hc : ∀ c, par c = i → 1 ≤ c → c ≠ k + w0 := by
      intro c hc h1 he
      exact hioff (hc ▸ he ▸ onPath_par honq)
    rw [hne _ (hc (2 * i + 1) (par_left i) (by omega)),
      hne _ (hc (2 * i + 2) (par_right i) (by omega)), hne i (by omega)]
    obtain ⟨hset, hle⟩ := hinv.node i hi
    refine ⟨hset, ?_⟩
    have h1 : win i ≠ (w0 : Int) := fun hh => hioff (win_onPath hinv hh)
    -- the stored loser came up from a child, which is off the path as well
    have h2 : losers.getD i (-1) ≠ (w0 : Int) := by
      intro hh
      rcases hset with ⟨e, _⟩ | ⟨e, _⟩
      · exact hioff (par_left i ▸ onPath_par (win_onPath hinv (e ▸ hh)))
      · exact hioff (par_right i ▸ onPath_par (win_onPath hinv (e ▸ hh)))
    rw [pk_agree hag h1, pk_agree hag h2]; exact hle
  · intro p x hn hpx
    by_cases hpq : p = k + w0
    · subst hpq
      rw [hq] at hpx
      split at hpx
      · rename_i hal
        obtain rfl : x = w0 := by omega
        exact hal
      · omega
    · rw [hne p hpq] at hpx
      have hxw : x ≠ w0 := fun hh => hoff p hn hpq (win_onPath hinv (hh ▸ hpx))
      rw [(hag x hxw).1]; exact (hinv.chain p x hpx).1
  · intro p hp
    apply hne
    intro hh; subst hh
    exact hp ⟨honq, Nat.le_refl _⟩

/-- `H`: the heads the tree was valid for; `H'`: the heads now (they differ at `w0` only: its head changed, or it
    was exhausted) -/
theorem replay_inv (hinv : TInv k H losers win) (hw : win 0 = (w0 : Int))
    (hag : ∀ x, x ≠ w0 → H'.alive x = H.alive x ∧ H'.key x = H.key x)
    (hb : ∀ x, H'.alive x = true → (headOf bufs (x : Int)).key = H'.key x) :
    let c0 : Int := if H'.alive w0 = true then (w0 : Int) else -1
    ∃ w', TInv k H' (replayLoop bufs k (par (k + w0)) c0 losers).2 w' ∧
      w' 0 = (replayLoop bufs k (par (k + w0)) c0 losers).1 := by
  have hw0k : w0 < k := (hinv.chain 0 w0 hw).2.1
  obtain ⟨w, hstart⟩ := PInv.start hinv hw hag
  exact PInv.loop hinv hw hb k (k + w0) _ _ w hstart (by omega) (par_lt_of_le (by omega) (by omega))

end replay


section runbound
variable {k : Nat} {H : Heads} {losers : List Int} {win : Nat → Int} {w0 : Nat} {bufs : List Buf}

theorem onPath_child : ∀ j, up j (k + w0) < k + w0 →
    ∃ pc, 1 ≤ pc ∧ OnPath k w0 pc ∧ par pc = up j (k + w0)
  | 0, h => by simp only [up] at h; omega
  | j + 1, h => by
    by_cases h1 : 1 ≤ up j (k + w0)
    · exact ⟨up j (k + w0), h1, ⟨j, rfl⟩, rfl⟩
    · have h0 : up j (k + w0) = 0 := by omega
      have e : up (j + 1) (k + w0) = 0 := by simp only [up, h0, par]
      rw [e, ← h0]
      exact onPath_child j (by rw [h0]; rw [e] at h; exact h)

theorem exists_first_flip {P : Nat → Prop} : ∀ N, ¬ P 0 → P N → ∃ n, n < N ∧ ¬ P n ∧ P (n + 1)
  | 0, h0, hN => absurd hN h0
  | N + 1, h0, hN => by
    by_cases h : P N
    · obtain ⟨n, h1, h2, h3⟩ := exists_first_flip N h0 h
      exact ⟨n, by omega, h2, h3⟩
    · exact ⟨N, by omega, h, hN⟩

/-- going up from the leaf of `x`, the first position on the winner's path is reached from a sibling subtree, whose
    winner is stored there (`loser_is_sibling`) -/
theorem path_loser_le (hinv : TInv k H losers win) (hw : win 0 = (w0 : Int)) (x : Nat) (hx : x < k)
    (hxw : x ≠ w0) (ha : H.alive x = true) :
    ∃ (o l : Nat), OnPath k w0 o ∧ o < k ∧ losers.getD o (-1) = (l : Int) ∧ l ≠ w0 ∧ H.alive l = true ∧
      H.key l ≤ H.key x := by
  have hw0k : w0 < k := (hinv.chain 0 w0 hw).2.1
  have hleafx : win (k + x) = (x : Int) := by
    rw [hinv.leaf (k + x) (by omega)]; simp [leafPlayer, hx, ha]
  have h0 : ¬ OnPath k w0 (up 0 (k + x)) := by
    intro hon
    have := path_win hinv hw _ hon
    simp only [up] at this
    rw [hleafx] at this; omega
  have hN : OnPath k w0 (up (k + x) (k + x)) := by
    rw [up_zero_of_le _ _ (Nat.le_refl _)]
    exact ⟨k + w0, up_zero_of_le _ _ (Nat.le_refl _)⟩
  obtain ⟨n, _, hoff, hon⟩ := exists_first_flip (P := fun n => OnPath k w0 (up n (k + x))) (k + x) h0 hN
  generalize hoc : up n (k + x) = oc at hoff hon
  have hon' : OnPath k w0 (par oc) := by simpa only [up, hoc] using hon
  have hoc2k : oc ≤ 2 * k := by rw [← hoc]; have := up_le n (k + x); omega
  have hoc1 : 1 ≤ oc := by
    rcases Nat.eq_zero_or_pos oc with h | h
    · exfalso; apply hoff; rw [h]; exact ⟨k + w0, up_zero_of_le _ _ (Nat.le_refl _)⟩
    · exact h
  have hok : par oc < k := par_lt_of_le hoc1 hoc2k
  obtain ⟨j, hj⟩ := hon'
  obtain ⟨pc, hpc1, hpcon, hpcpar⟩ := onPath_child (k := k) (w0 := w0) j (by omega)
  rw [hj] at hpcpar
  have hne : oc ≠ pc := fun hh => hoff (hh ▸ hpcon)
  have hl := loser_is_sibling hinv hw hpcon hpc1 hoc1 hpcpar.symm hne (by rw [hpcpar]; exact hok)
  rw [hpcpar] at hl
  -- the winner of the subtree at oc is below x
  have hle := hinv.le_up n (k + x) (by omega)
  rw [hoc, hleafx, pk_nat ha] at hle
  cases hp : H.pk (win oc) with
  | none => rw [hp] at hle; simp [leInf] at hle
  | some v =>
    obtain ⟨l, hlw, hal⟩ := pk_isSome (p := win oc) (by rw [hp]; rfl)
    rw [hlw, pk_nat hal, leInf_some] at hle
    refine ⟨par oc, l, ⟨j, hj⟩, hok, by rw [hl, hlw], ?_, hal, hle⟩
    intro hh; subst hh
    exact hoff (win_onPath hinv hlw)

theorem runBoundStep_spec (o : Nat) (acc : Option Row) :
    (∀ b, acc = some b → ∃ b', runBoundStep bufs losers o acc = some b' ∧ b'.key ≤ b.key) ∧
    (0 ≤ losers.getD o (-1) → ∃ b', runBoundStep bufs losers o acc = some b' ∧
        b'.key ≤ (headOf bufs (losers.getD o (-1))).key) ∧
    (∀ b', runBoundStep bufs losers o acc = some b' →
        acc = some b' ∨ (0 ≤ losers.getD o (-1) ∧ b' = headOf bufs (losers.getD o (-1)))) := by
  unfold runBoundStep
  split
  · rename_i h0
    have h0' : 0 ≤ losers.getD o (-1) := by simpa using h0
    cases acc with
    | none =>
      refine ⟨by simp, fun _ => ⟨_, rfl, Int.le_refl _⟩, ?_⟩
      intro b' hb'; simp at hb'; exact Or.inr ⟨h0', hb'.symm⟩
    | some b =>
      simp only
      split
      · rename_i hlt
        have := cmp_lt.mp hlt
        refine ⟨?_, fun _ => ⟨_, rfl, Int.le_refl _⟩, ?_⟩
        · intro b0 hb0; cases hb0; exact ⟨_, rfl, by omega⟩
        · intro b' hb'; simp at hb'; exact Or.inr ⟨h0', hb'.symm⟩
      · rename_i hlt
        have : ¬ (headOf bufs (losers.getD o (-1))).key < b.key := fun h => hlt (cmp_lt.mpr h)
        refine ⟨?_, fun _ => ⟨_, rfl, by omega⟩, ?_⟩
        · intro b0 hb0; cases hb0; exact ⟨_, rfl, Int.le_refl _⟩
        · intro b' hb'; exact Or.inl hb'
  · rename_i h0
    have h0' : ¬ 0 ≤ losers.getD o (-1) := by simpa using h0
    refine ⟨fun b hb => ⟨b, hb, Int.le_refl _⟩, fun h => absurd h h0', fun b' hb' => Or.inl hb'⟩

theorem runBoundLoop_spec (f o : Nat) (acc : Option Row) (h : o < f) :
    (∀ b, acc = some b → ∃ b', runBoundLoop bufs losers f o acc = some b' ∧ b'.key ≤ b.key) ∧
    (∀ n, 0 ≤ losers.getD (up n o) (-1) → ∃ b', runBoundLoop bufs losers f o acc = some b' ∧
        b'.key ≤ (headOf bufs (losers.getD (up n o) (-1))).key) ∧
    (∀ b', runBoundLoop bufs losers f o acc = some b' →
        acc = some b' ∨ ∃ n, 0 ≤ losers.getD (up n o) (-1) ∧ b' = headOf bufs (losers.getD (up n o) (-1))) := by
  -- cases: out of fuel; at the root; one step and on to the parent
  fun_induction runBoundLoop bufs losers f o acc with
  | case1 => omega
  | case2 f acc =>
      obtain ⟨s1, s2, s3⟩ := runBoundStep_spec (bufs := bufs) (losers := losers) 0 acc
      refine ⟨s1, ?_, ?_⟩
      · intro n hn; rw [up_zero] at hn ⊢; exact s2 hn
      · intro b' hb'
        rcases s3 b' hb' with h | h
        · exact Or.inl h
        · exact Or.inr ⟨0, h⟩
  | case3 f o acc h0 ih =>
      obtain ⟨s1, s2, s3⟩ := runBoundStep_spec (bufs := bufs) (losers := losers) o acc
      obtain ⟨r1, r2, r3⟩ := ih (by have := par_lt (p := o) (by omega); simp only [par] at this; omega)
      refine ⟨?_, ?_, ?_⟩
      · intro b hb
        obtain ⟨b1, e1, l1⟩ := s1 b hb
        obtain ⟨b2, e2, l2⟩ := r1 b1 e1
        exact ⟨b2, e2, by omega⟩
      · intro n hn
        cases n with
        | zero =>
          obtain ⟨b1, e1, l1⟩ := s2 hn
          obtain ⟨b2, e2, l2⟩ := r1 b1 e1
          exact ⟨b2, e2, by simp only [up] at l1 ⊢; omega⟩
        | succ n =>
          rw [up_succ'] at hn ⊢
          exact r2 n hn
      · intro b' hb'
        rcases r3 b' hb' with h | ⟨n, hn⟩
        · rcases s3 b' h with h' | h'
          · exact Or.inl h'
          · exact Or.inr ⟨0, h'⟩
        · exact Or.inr ⟨n + 1, by rw [up_succ']; exact hn⟩

/-- the loser stored at a path node is not the winner: the winner would have come up from both children -/
theorem loser_ne_winner (hinv : TInv k H losers win) (hw : win 0 = (w0 : Int)) {o : Nat}
    (hon : OnPath k w0 o) (hlt : o < k) : losers.getD o (-1) ≠ (w0 : Int) := by
  intro hl
  obtain ⟨hset, _⟩ := hinv.node o hlt
  rw [hl, path_win hinv hw o hon] at hset
  have h12 : win (2 * o + 1) = (w0 : Int) ∧ win (2 * o + 2) = (w0 : Int) := by
    rcases hset with ⟨a, b⟩ | ⟨a, b⟩
    · exact ⟨a.symm, b.symm⟩
    · exact ⟨b.symm, a.symm⟩
  obtain ⟨n1, e1⟩ := win_onPath hinv h12.1
  obtain ⟨n2, e2⟩ := win_onPath hinv h12.2
  have := onPath_unique e1 e2 (by rw [par_left, par_right]) (by omega) (by omega)
  omega

theorem runBound_min (hinv : TInv k H losers win) (hw : win 0 = (w0 : Int))
    (hb : ∀ x, x ≠ w0 → H.alive x = true → (headOf bufs (x : Int)).key = H.key x) :
    (∀ x, x < k → x ≠ w0 → H.alive x = true →
        ∃ b, runBoundLoop bufs losers k (par (k + w0)) none = some b ∧ b.key ≤ H.key x) ∧
    (∀ b, runBoundLoop bufs losers k (par (k + w0)) none = some b →
        ∃ x, x < k ∧ x ≠ w0 ∧ H.alive x = true ∧ b = headOf bufs (x : Int)) := by
  have hw0k : w0 < k := (hinv.chain 0 w0 hw).2.1
  obtain ⟨_, r2, r3⟩ := runBoundLoop_spec (bufs := bufs) (losers := losers) k (par (k + w0)) none
    (par_lt_of_le (by omega) (by omega))
  constructor
  · intro x hx hxw ha
    obtain ⟨o, l, ⟨j, hj⟩, hok, hl, hlw, hal, hle⟩ := path_loser_le hinv hw x hx hxw ha
    -- o is a path node below the leaf: it is an ancestor of the first path node
    obtain ⟨j', rfl⟩ : ∃ j', j = j' + 1 := by
      cases j with
      | zero => simp only [up] at hj; omega
      | succ j' => exact ⟨j', rfl⟩
    rw [up_succ'] at hj
    obtain ⟨b, e, hbl⟩ := r2 j' (by rw [hj, hl]; omega)
    rw [hj, hl, hb l hlw hal] at hbl
    exact ⟨b, e, by omega⟩
  · intro b hbb
    rcases r3 b hbb with h | ⟨n, hn0, hn⟩
    · cases h
    · have hon : OnPath k w0 (up n (par (k + w0))) := onPath_up ⟨1, rfl⟩ n
      have hlt : up n (par (k + w0)) < k := by
        have := up_le n (par (k + w0))
        have := par_lt (p := k + w0) (by omega)
        exact onPath_lt_k hw0k hon (by omega)
      generalize up n (par (k + w0)) = o at hn0 hn hon hlt
      obtain ⟨l, hl⟩ : ∃ l : Nat, losers.getD o (-1) = (l : Int) := ⟨(losers.getD o (-1)).toNat, by omega⟩
      -- the stored loser is the winner of one of the children, hence a live input
      obtain ⟨c, hc⟩ : ∃ c, win c = (l : Int) := by
        rcases (hinv.node o hlt).1 with ⟨e, _⟩ | ⟨e, _⟩ <;> exact ⟨_, by rw [← e, hl]⟩
      obtain ⟨hal, hlk, _⟩ := hinv.chain c l hc
      exact ⟨l, hlk, fun h => loser_ne_winner hinv hw hon hlt (by rw [hl, h]), hal, by rw [hn, hl]⟩

end runbound


section init
variable (bufs : List Buf) (leaves : List Int)

def leafVal (p : Nat) : Int :=
  if p - bufs.length < leaves.length then leaves.getD (p - bufs.length) (-1) else -1

/-- ghost: the winner of the subtree at `i`, as `playInitialGames` computes it -/
def initWin : Nat → Nat → Int
  | 0, i => if i ≥ bufs.length then leafVal bufs leaves i else -1
  | f + 1, i =>
    if i ≥ bufs.length then leafVal bufs leaves i
    else (playGame bufs (initWin f (2 * i + 1)) (initWin f (2 * i + 2))).2

theorem playInitialGames_fst : ∀ (f i : Nat) (L : List Int),
    (playInitialGames bufs leaves f i L).1 = initWin bufs leaves f i
  | 0, i, L => by simp only [playInitialGames, initWin, leafVal]; split <;> rfl
  | f + 1, i, L => by
    simp only [playInitialGames, initWin, leafVal]
    split
    · rfl
    · simp only [playInitialGames_fst f]

theorem initWin_succ : ∀ (f p : Nat), bufs.length ≤ p + f →
    initWin bufs leaves (f + 1) p = initWin bufs leaves f p
  | 0, p, h => by
    have : p ≥ bufs.length := by omega
    simp [initWin, this]
  | f + 1, p, h => by
    by_cases hp : p ≥ bufs.length
    · simp [initWin, hp]
    · have e1 := initWin_succ f (2 * p + 1) (by omega)
      have e2 := initWin_succ f (2 * p + 2) (by omega)
      rw [initWin, if_neg hp, e1, e2]
      conv => rhs; rw [initWin, if_neg hp]

theorem initWin_add (f p : Nat) (h : bufs.length ≤ p + f) : ∀ d,
    initWin bufs leaves (f + d) p = initWin bufs leaves f p
  | 0 => rfl
  | d + 1 => by
    rw [← Nat.add_assoc, initWin_succ bufs leaves (f + d) p (by omega)]; exact initWin_add f p h d

theorem initWin_stable {f f' p : Nat} (h : bufs.length ≤ p + f) (h' : bufs.length ≤ p + f') :
    initWin bufs leaves f p = initWin bufs leaves f' p := by
  rcases Nat.le_total f f' with hh | hh
  · obtain ⟨d, rfl⟩ := Nat.exists_eq_add_of_le hh
    exact (initWin_add bufs leaves f p h d).symm
  · obtain ⟨d, rfl⟩ := Nat.exists_eq_add_of_le hh
    exact initWin_add bufs leaves f' p h' d

/-- the canonical winner function of the initial tree -/
def initW (p : Nat) : Int := initWin bufs leaves bufs.length p

def initG (i : Nat) : Int := (playGame bufs (initW bufs leaves (2 * i + 1)) (initW bufs leaves (2 * i + 2))).1

theorem initW_node {i : Nat} (hi : i < bufs.length) :
    initW bufs leaves i = (playGame bufs (initW bufs leaves (2 * i + 1)) (initW bufs leaves (2 * i + 2))).2 := by
  obtain ⟨k', hk'⟩ : ∃ k', bufs.length = k' + 1 := ⟨bufs.length - 1, by omega⟩
  simp only [initW]
  rw [hk', initWin, if_neg (by omega)]
  rw [initWin_stable bufs leaves (f := k') (f' := k' + 1) (p := 2 * i + 1) (by omega) (by omega),
    initWin_stable bufs leaves (f := k') (f' := k' + 1) (p := 2 * i + 2) (by omega) (by omega)]

theorem getD_set_ne'' (L : List Int) {i o : Nat} (c : Int) (h : i ≠ o) : (L.set o c).getD i (-1) = L.getD i (-1) :=
  ListFacts.getD_set_ne _ c h

/-- after the games below node `i`: a slot that held `initG j` keeps it (so the right subtree does not undo the left
    one), and every node `j` from which `i` is `n` steps up holds it -/
theorem playInitialGames_snd (f i : Nat) (L : List Int) (h : bufs.length ≤ i + f) (hL : L.length = bufs.length) :
    (playInitialGames bufs leaves f i L).2.length = bufs.length ∧
    (∀ j, L.getD j (-1) = initG bufs leaves j → (playInitialGames bufs leaves f i L).2.getD j (-1) = initG bufs leaves j) ∧
    (∀ n j, j < bufs.length → up n j = i → (playInitialGames bufs leaves f i L).2.getD j (-1) = initG bufs leaves j) := by
  -- at a leaf nothing is written, and no node lies below; case2 (out of fuel at an inner node) is excluded by `h`
  have leaf : ∀ {i : Nat} {L : List Int}, i ≥ bufs.length → L.length = bufs.length →
      L.length = bufs.length ∧ (∀ j, L.getD j (-1) = initG bufs leaves j → L.getD j (-1) = initG bufs leaves j) ∧
      (∀ n j, j < bufs.length → up n j = i → L.getD j (-1) = initG bufs leaves j) :=
    fun hi hL => ⟨hL, fun _ h => h, fun n j hj hn => by have := up_le n j; omega⟩
  fun_induction playInitialGames bufs leaves f i L with
  | case1 i L hi => exact leaf hi hL
  | case2 i L hi => exact leaf (by omega) hL
  | case3 f i L hi => exact leaf hi hL
  | case4 f i L hi r1 r2 g ih2 ih1 =>
    obtain ⟨a1, a2, a3⟩ := ih2 (by omega) hL
    obtain ⟨b1, b2, b3⟩ := ih1 (by omega) a1
    have hg : g.1 = initG bufs leaves i := by
      simp only [g, r1, r2, playInitialGames_fst, initG, initW]
      rw [initWin_stable bufs leaves (f := f) (f' := bufs.length) (p := 2 * i + 1) (by omega) (by omega),
        initWin_stable bufs leaves (f := f) (f' := bufs.length) (p := 2 * i + 2) (by omega) (by omega)]
    simp only [hg]
    have hset : ∀ j, (j = i ∨ r2.2.getD j (-1) = initG bufs leaves j) →
        (r2.2.set i (initG bufs leaves i)).getD j (-1) = initG bufs leaves j := by
      intro j hj
      by_cases hji : j = i
      · subst hji; exact ListFacts.getD_set_self _ _ (Nat.lt_of_lt_of_eq (by omega) b1.symm)
      · rw [ListFacts.getD_set_ne _ _ hji]; exact hj.resolve_left hji
    refine ⟨List.length_set.trans b1, fun j hj => hset j (Or.inr (b2 j (a2 j hj))), fun n => ?_⟩
    induction n with
    | zero => exact fun j hj hn => hset j (Or.inl hn)
    | succ n ih =>
      intro j hj hn
      simp only [up] at hn
      by_cases hc0 : up n j = 0
      · have : i = 0 := by rw [← hn, hc0]; rfl
        exact ih j hj (by rw [hc0, this])
      · rcases child_cases (show 1 ≤ up n j by omega) with hc | hc
        · rw [hn] at hc
          exact hset j (Or.inr (b2 j (a3 n j hj hc)))
        · rw [hn] at hc
          exact hset j (Or.inr (b3 n j hj hc))

theorem initW_ge {p : Nat} (hp : bufs.length ≤ p) : initW bufs leaves p = leafVal bufs leaves p := by
  simp only [initW]
  cases hk : bufs.length with
  | zero => simp [initWin, hk]
  | succ k' => rw [hk] at hp; simp [initWin, hk, hp]

theorem list_eq_map_range (L : List Int) : L = (List.range L.length).map (fun i => L.getD i (-1)) := by
  apply List.ext_getElem
  · simp
  · intro i h1 h2
    simp [List.getD_eq_getElem?_getD, List.getElem?_eq_getElem h1]

theorem init_losers (L : List Int) (hL : L.length = bufs.length) :
    (playInitialGames bufs leaves bufs.length 0 L).2 = (List.range bufs.length).map (initG bufs leaves) := by
  obtain ⟨s1, _, s3⟩ := playInitialGames_snd bufs leaves bufs.length 0 L (by omega) hL
  rw [list_eq_map_range (playInitialGames bufs leaves bufs.length 0 L).2, s1]
  apply List.map_congr_left
  intro i hi
  exact s3 i i (List.mem_range.mp hi) (up_zero_of_le i i (Nat.le_refl _))

end init

section init2
variable {bufs : List Buf} {leaves : List Int} {H : Heads}

/-- what `initialize` passes as leaves: the live inputs -/
structure LeavesOk (bufs : List Buf) (leaves : List Int) (H : Heads) : Prop where
  len : leaves.length = bufs.length
  val : ∀ x, x < bufs.length → leaves.getD x (-1) = if H.alive x = true then (x : Int) else -1
  key : ∀ x, H.alive x = true → (headOf bufs (x : Int)).key = H.key x

theorem leafVal_eq (hl : LeavesOk bufs leaves H) (p : Nat) :
    leafVal bufs leaves p = leafPlayer bufs.length H p := by
  simp only [leafVal, leafPlayer, hl.len]
  by_cases h : p - bufs.length < bufs.length
  · simp only [h, if_true, true_and]; exact hl.val _ h
  · simp [h]

theorem initW_leaf (hl : LeavesOk bufs leaves H) (p : Nat) (hp : bufs.length ≤ p) :
    initW bufs leaves p = leafPlayer bufs.length H p := by
  rw [initW_ge bufs leaves hp, leafVal_eq hl p]

theorem init_inv (hl : LeavesOk bufs leaves H) (L : List Int) (hL : L.length = bufs.length) :
    TInv bufs.length H (playInitialGames bufs leaves bufs.length 0 L).2 (initW bufs leaves) ∧
    initW bufs leaves 0 = (playInitialGames bufs leaves bufs.length 0 L).1 := by
  have hpick : ∀ i, i < bufs.length →
      initW bufs leaves i = initW bufs leaves (2 * i + 1) ∨ initW bufs leaves i = initW bufs leaves (2 * i + 2) := by
    intro i hi
    rw [initW_node bufs leaves hi]
    rcases playGame_mem bufs (initW bufs leaves (2 * i + 1)) (initW bufs leaves (2 * i + 2)) with ⟨_, e⟩ | ⟨_, e⟩
    · exact Or.inr e
    · exact Or.inl e
  have hchain : ∀ p (x : Nat), initW bufs leaves p = (x : Int) →
      H.alive x = true ∧ x < bufs.length ∧ Chain bufs.length (initW bufs leaves) x p :=
    fun p x hx => chain_of_picks (initW_leaf hl) hpick bufs.length p x (by omega) hx
  rw [init_losers bufs leaves L hL]
  refine ⟨⟨by simp, initW_leaf hl, ?_, hchain⟩, (playInitialGames_fst bufs leaves _ _ _).symm⟩
  intro i hi
  rw [initW_node bufs leaves hi]
  simp only [List.getD_eq_getElem?_getD, List.getElem?_map, List.getElem?_range hi, Option.map_some, Option.getD_some, initG]
  exact playGame_game hl.key _ _ (fun x hx => (hchain _ x hx).1) (fun x hx => (hchain _ x hx).1)

end init2

end PqModel.Merge
