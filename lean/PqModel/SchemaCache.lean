/-! # Process-wide keyed caches (C17): when is a cache invisible?

The library keeps package-level caches (`cachedSchemas`, schema.go:196; factgen family
`globalcaches` lists all of them with their store sites). A cache is state of the PROCESS: what an
earlier, unrelated call with OTHER options stored is what a later call finds. This file models

* a keyed cache as an association list (`sync.Map` seen sequentially; first match wins),
* SPEC: a cached derivation `call` parametrised by the key function `keyOf : I → Option K`
  (`none` = this input bypasses the cache) and the uncached derivation `derive : I → S`,
* MIRROR: `schemaOf` (schema.go:198-221) over abstract Go types `Ty`, struct-tag replacements `R`
  and schemas `S`, with a flag for the variant that stores non-cacheable derivations as well.

Concurrency (two goroutines deriving the same type at once: `LoadOrStore` keeps one of two equal
schemas) is not modelled: the stored values are equal, only their identity differs. -/

namespace PqModel.SchemaCache

abbrev Cache (K S : Type) := List (K × S)

def lookup {K S : Type} [DecidableEq K] : Cache K S → K → Option S
  | [], _ => none
  | (k', s) :: rest, k => if k' = k then some s else lookup rest k

/-- `sync.Map.LoadOrStore`: an existing entry wins -/
def loadOrStore {K S : Type} [DecidableEq K] (c : Cache K S) (k : K) (s : S) : S × Cache K S :=
  match lookup c k with
  | some s' => (s', c)
  | none => (s, (k, s) :: c)

/-- SPEC shape of a cached derivation: inputs with a key are looked up, derived on a miss and
    stored under their key; inputs without a key are derived and leave the cache alone -/
def call {I K S : Type} [DecidableEq K] (keyOf : I → Option K) (derive : I → S) (c : Cache K S) (i : I) :
    S × Cache K S :=
  match keyOf i with
  | none => (derive i, c)
  | some k =>
    match lookup c k with
    | some s => (s, c)
    | none => (derive i, (k, derive i) :: c)

/-- the results of a history of calls of a stateful function, from state `c` -/
def results {C I S : Type} (f : C → I → S × C) : C → List I → List S
  | _, [] => []
  | c, i :: is => (f c i).1 :: results f (f c i).2 is

/-- the key determines the value: everything the derived value depends on is in the key -/
def KeySound {I K S : Type} (keyOf : I → Option K) (derive : I → S) : Prop :=
  ∀ a b k, keyOf a = some k → keyOf b = some k → derive a = derive b

/-- every entry is what any input with that key derives -/
def Good {I K S : Type} [DecidableEq K] (keyOf : I → Option K) (derive : I → S) (c : Cache K S) : Prop :=
  ∀ k s, lookup c k = some s → ∀ i, keyOf i = some k → s = derive i

theorem good_nil {I K S : Type} [DecidableEq K] (keyOf : I → Option K) (derive : I → S) :
    Good keyOf derive ([] : Cache K S) := by
  intro k s h
  simp [lookup] at h

theorem call_good {I K S : Type} [DecidableEq K] (keyOf : I → Option K) (derive : I → S)
    (hs : KeySound keyOf derive) (c : Cache K S) (hc : Good keyOf derive c) (i : I) :
    (call keyOf derive c i).1 = derive i ∧ Good keyOf derive (call keyOf derive c i).2 := by
  cases hk : keyOf i with
  | none => simp only [call, hk]; exact ⟨trivial, hc⟩
  | some k =>
    cases hl : lookup c k with
    | some s => simp only [call, hk, hl]; exact ⟨hc k s hl i hk, hc⟩
    | none =>
      simp only [call, hk, hl]
      refine ⟨trivial, ?_⟩
      intro k' s' h' j hj
      simp only [lookup] at h'
      split at h'
      · rename_i hkk
        cases h'
        subst hkk
        exact hs i j k hk hj
      · exact hc k' s' h' j hj

theorem results_of_good {I K S : Type} [DecidableEq K] (keyOf : I → Option K) (derive : I → S)
    (hs : KeySound keyOf derive) (hist : List I) :
    ∀ c : Cache K S, Good keyOf derive c → results (call keyOf derive) c hist = hist.map derive := by
  induction hist with
  | nil => intro c _; rfl
  | cons i is ih =>
    intro c hc
    have h := call_good keyOf derive hs c hc i
    simp only [results, List.map_cons, h.1, ih _ h.2]

/-- MIRROR schema.go:198-221 `schemaOf(model, tagReplacements...)`. `flat = false` is the code:
    `cacheable := len(tagReplacements) == 0`; a cacheable call returns the cached schema if there is
    one; the schema is derived; `if cacheable { if actual, loaded := LoadOrStore(model, schema);
    loaded { schema = actual } }`. `flat = true` is the variant with the store hoisted into the
    `if`'s init statement (`if actual, loaded := LoadOrStore(..); loaded && cacheable`): it also
    runs for derivations with replacements. -/
def schemaOf {Ty R S : Type} [DecidableEq Ty] (derive : Ty → List R → S) (flat : Bool)
    (c : Cache Ty S) (i : Ty × List R) : S × Cache Ty S :=
  let cacheable := i.2.isEmpty
  match (if cacheable then lookup c i.1 else none) with
  | some s => (s, c)
  | none =>
    let schema := derive i.1 i.2
    if cacheable then loadOrStore c i.1 schema
    else if flat then (schema, (loadOrStore c i.1 schema).2)
    else (schema, c)

/-- what `schemaOf` is keyed by: the Go type, for calls without replacements only -/
def schemaKey {Ty R : Type} (i : Ty × List R) : Option Ty := if i.2.isEmpty then some i.1 else none

end PqModel.SchemaCache
