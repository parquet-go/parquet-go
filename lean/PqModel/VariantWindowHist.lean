import PqModel.VariantWindowLemmas

/-! Histories of `Next` / `SeekToRow` / cursor creation on the columnar VariantReader, as one leaf
    column sees them: the SPEC (`specRun`: a position in the row group, windows are row ranges of
    the column) and the invariant tying the mirror (`step`) to it. -/
namespace PqModel.VariantWindow

/-- SPEC: what a history shows on a column whose rows are `rows`: `Next(n)` at position `pos` shows
    the rows `pos .. pos + min n (numRows - pos)` of the column and nothing else -/
def specRun (rows : List (List Cell)) : Nat → Bool → List Op → List Out
  | _, _, [] => []
  | pos, _, .attach :: ops => .nothing :: specRun rows pos true ops
  | pos, att, .seek k :: ops =>
    if k > rows.length then .err :: specRun rows pos att ops else .nothing :: specRun rows k att ops
  | pos, att, .next n :: ops =>
    if n = 0 then .rows 0 :: specRun rows pos att ops
    else if rows.length ≤ pos then .eof :: specRun rows pos att ops
    else
      let n' := if n > rows.length - pos then rows.length - pos else n
      (if att then Out.win n' ((rows.drop pos).take n').flatten else .rows n') ::
        specRun rows (pos + n') att ops

/-- the column chunk: its pages pass `checkPageValues` and hold the rows `rows` -/
structure ColOK (maxDef : Nat) (col : List Page) (rows : List (List Cell)) : Prop where
  ok : restOK maxDef col
  cells : allCells maxDef col = rows.flatten
  rows : ∀ row ∈ rows, rowOK row = true

/-- the invariant: the reader is at row `pos`; an opened leaf either has a seek to `pos` pending or
    stands at the first cell of row `pos` -/
structure Good (maxDef : Nat) (rows : List (List Cell)) (s : St) (pos : Nat) (att : Bool) : Prop where
  nr : s.numRows = rows.length
  ro : s.rowOffset = pos
  le : pos ≤ rows.length
  nf : s.failed = false
  att : s.attached = att
  oa : s.opened = true → s.attached = true
  closed : s.opened = false → s.pendingSeek = none
  pend : s.opened = true → ∀ k, s.pendingSeek = some k → k = pos
  posd : s.opened = true → s.pendingSeek = none →
    stream maxDef s.leaf = (rows.drop pos).flatten ∧ restOK maxDef s.leaf.rest

theorem good_init (maxDef : Nat) (rows : List (List Cell)) : Good maxDef rows (init rows.length) 0 false where
  nr := rfl
  ro := rfl
  le := Nat.zero_le _
  nf := rfl
  att := rfl
  oa := by intro h; simp [init] at h
  closed := by intro _; rfl
  pend := by intro h; simp [init] at h
  posd := by intro h; simp [init] at h

theorem positioned_spec {maxDef : Nat} {col : List Page} {rows : List (List Cell)} (hc : ColOK maxDef col rows)
    {s : St} {pos : Nat} {att : Bool} (g : Good maxDef rows s pos att) :
    stream maxDef (positioned maxDef col s) = (rows.drop pos).flatten ∧
      restOK maxDef (positioned maxDef col s).rest := by
  have hseek : ∀ k, k = pos → stream maxDef (seekLeaf maxDef col k) = (rows.drop pos).flatten ∧
      restOK maxDef (seekLeaf maxDef col k).rest := by
    intro k hk; subst hk
    refine ⟨?_, by intro p hp; simp [seekLeaf] at hp⟩
    simp [stream, seekLeaf, hc.cells, dropRows_rows k rows hc.rows]
  cases hop : s.opened with
  | true =>
    cases hp : s.pendingSeek with
    | some k =>
      have := hseek k (g.pend hop k hp)
      simpa [positioned, hop, hp] using this
    | none =>
      have := g.posd hop hp
      simpa [positioned, hop, hp] using this
  | false =>
    have hp := g.closed hop
    by_cases h0 : s.rowOffset > 0
    · have := hseek s.rowOffset g.ro
      simpa [positioned, hop, hp, h0] using this
    · have hz : pos = 0 := by have := g.ro; omega
      have hro : s.rowOffset = 0 := by omega
      subst hz
      refine ⟨?_, ?_⟩
      · simp only [positioned, hop, hp, hro]
        simp [stream, ← hc.cells, allCells]
      · simp only [positioned, hop, hp, hro]
        simpa using hc.ok

theorem step_spec {maxDef : Nat} {col : List Page} {rows : List (List Cell)} (hc : ColOK maxDef col rows)
    {s : St} {pos : Nat} {att : Bool} (g : Good maxDef rows s pos att) (op : Op) (ops : List Op) :
    ∃ pos' att', Good maxDef rows (step maxDef col s op).1 pos' att' ∧
      specRun rows pos att (op :: ops) = (step maxDef col s op).2 :: specRun rows pos' att' ops := by
  cases op with
  | attach =>
    refine ⟨pos, true, ?_, by simp [specRun, step]⟩
    exact { g with att := rfl, oa := fun _ => rfl }
  | seek k =>
    by_cases hk : k > rows.length
    · refine ⟨pos, att, ?_, ?_⟩
      · simpa [step, g.nf, g.nr, hk] using g
      · simp [specRun, step, g.nf, g.nr, hk]
    · refine ⟨k, att, ?_, ?_⟩
      · simp only [step, g.nf, g.nr, hk, if_false, Bool.false_eq_true]
        exact { nr := rfl, ro := rfl, le := by omega, nf := rfl, att := g.att, oa := g.oa,
                closed := by intro h; have h' : s.opened = false := h; simp [h', g.closed h'],
                pend := by intro h j hj; have h' : s.opened = true := h; simp [h'] at hj; exact hj.symm,
                posd := by intro h hj; have h' : s.opened = true := h; simp [h'] at hj }
      · simp [specRun, step, g.nf, g.nr, hk]
  | next n =>
    by_cases hn : n = 0
    · refine ⟨pos, att, ?_, ?_⟩
      · simpa [step, g.nf, hn] using g
      · simp [specRun, step, g.nf, hn]
    by_cases he : rows.length ≤ pos
    · refine ⟨pos, att, ?_, ?_⟩
      · simpa [step, g.nf, hn, g.nr, g.ro, he] using g
      · simp [specRun, step, g.nf, hn, g.nr, g.ro, he]
    generalize hn' : (if n > rows.length - pos then rows.length - pos else n) = n'
    have hn'pos : 0 < n' := by subst hn'; split <;> omega
    have hn'le : pos + n' ≤ rows.length := by subst hn'; split <;> omega
    cases hatt : att with
    | false =>
      have hsa : s.attached = false := by rw [g.att, hatt]
      have hop : s.opened = false := by
        cases h : s.opened with
        | false => rfl
        | true => have := g.oa h; simp [hsa] at this
      refine ⟨pos + n', false, ?_, ?_⟩
      · simp only [step, g.nf, hn, g.nr, g.ro, he, hn', hsa, if_false, Bool.false_eq_true, not_false_eq_true, if_true]
        exact { nr := rfl, ro := rfl, le := hn'le, nf := rfl, att := rfl,
                oa := (by intro h; have h' : s.opened = true := h; rw [hop] at h'; cases h'),
                closed := g.closed, pend := by intro h; simp [hop] at h, posd := by intro h; simp [hop] at h }
      · simp [specRun, step, g.nf, hn, g.nr, g.ro, he, hn', hsa]
    | true =>
      have hsa : s.attached = true := by rw [g.att, hatt]
      obtain ⟨hst, hrk⟩ := positioned_spec hc g
      obtain ⟨l', hs', hok', hrw⟩ := readWindow_rows maxDef n' (positioned maxDef col s) (rows.drop pos) hrk hst
        (fun r hr => hc.rows r (List.mem_of_mem_drop hr)) hn'pos
      rw [if_pos (by simp; omega)] at hrw
      refine ⟨pos + n', true, ?_, ?_⟩
      · simp only [step, g.nf, hn, g.nr, g.ro, he, hn', hsa, if_false, Bool.false_eq_true, not_true_eq_false, hrw]
        exact { nr := rfl, ro := rfl, le := hn'le, nf := rfl, att := rfl, oa := fun _ => rfl,
                closed := by intro h; simp at h, pend := by intro _ k hk; simp at hk,
                posd := by intro _ _; exact ⟨by simpa [List.drop_drop] using hs', hok'⟩ }
      · simp [specRun, step, g.nf, hn, g.nr, g.ro, he, hn', hsa, hrw]

theorem run_spec {maxDef : Nat} {col : List Page} {rows : List (List Cell)} (hc : ColOK maxDef col rows) :
    ∀ (ops : List Op) (s : St) (pos : Nat) (att : Bool), Good maxDef rows s pos att →
      run maxDef col s ops = specRun rows pos att ops := by
  intro ops
  induction ops with
  | nil => intro s pos att _; simp [run, specRun]
  | cons op ops ih =>
    intro s pos att g
    obtain ⟨pos', att', g', h⟩ := step_spec hc g op ops
    rw [h, run, ih _ pos' att' g']

end PqModel.VariantWindow
