/-! Insertion sort for an arbitrary test `r : α → α → Bool` (`r x y`: `x` is put in front of `y`); the models'
own copies (`Reset.insertKV`, `Refine.insertBy`, …) are tied to it by a bridge lemma next to each. Order is
stated for a relation `S` of which `r` decides one direction (`r x y → S x y`, `¬ r x y → S y x`): for a total
`r` that is `r` itself, for a strict one its complement turned round. -/
namespace PqModel.InsertSort
variable {α β : Type}

def insertBy (r : α → α → Bool) (x : α) : List α → List α
  | [] => [x]
  | y :: l => if r x y then x :: y :: l else y :: insertBy r x l

def sortBy (r : α → α → Bool) : List α → List α
  | [] => []
  | x :: l => insertBy r x (sortBy r l)

theorem insertBy_perm (r : α → α → Bool) (x : α) : ∀ l : List α, (insertBy r x l).Perm (x :: l)
  | [] => .refl _
  | y :: l => by
    rw [insertBy]
    split
    · exact .refl _
    · exact ((insertBy_perm r x l).cons y).trans (.swap x y l)

theorem sortBy_perm (r : α → α → Bool) : ∀ l : List α, (sortBy r l).Perm l
  | [] => .refl _
  | x :: l => (insertBy_perm r x _).trans ((sortBy_perm r l).cons x)

theorem foldl_insertBy (r : α → α → Bool) (l : List α) :
    l.foldl (fun acc x => insertBy r x acc) [] = sortBy r l.reverse := by
  rw [← List.foldr_reverse]
  induction l.reverse with
  | nil => rfl
  | cons x l ih => rw [List.foldr_cons, ih, sortBy]

theorem foldl_insertBy_perm (r : α → α → Bool) (l : List α) :
    (l.foldl (fun acc x => insertBy r x acc) []).Perm l :=
  foldl_insertBy r l ▸ (sortBy_perm r _).trans l.reverse_perm

theorem insertBy_map {r : α → α → Bool} {r' : β → β → Bool} (f : α → β) (hf : ∀ a b, r' (f a) (f b) = r a b)
    (x : α) : ∀ l : List α, insertBy r' (f x) (l.map f) = (insertBy r x l).map f
  | [] => rfl
  | y :: l => by
    rw [List.map_cons, insertBy, insertBy, hf, insertBy_map f hf x l]
    split
    · rfl
    · rfl

theorem sortBy_map {r : α → α → Bool} {r' : β → β → Bool} (f : α → β) (hf : ∀ a b, r' (f a) (f b) = r a b) :
    ∀ l : List α, sortBy r' (l.map f) = (sortBy r l).map f
  | [] => rfl
  | x :: l => by rw [List.map_cons, sortBy, sortBy, sortBy_map f hf l, insertBy_map f hf]

section order
variable {r : α → α → Bool} {S : α → α → Prop}

theorem insertBy_sorted (hr : ∀ a b, r a b = true → S a b) (hn : ∀ a b, r a b = false → S b a)
    (trans : ∀ {a b c}, S a b → S b c → S a c) (x : α) :
    ∀ l : List α, l.Pairwise S → (insertBy r x l).Pairwise S
  | [], _ => List.pairwise_singleton S x
  | y :: l, h => by
    have hy := List.pairwise_cons.mp h
    rw [insertBy]
    split
    · next hxy =>
      refine List.pairwise_cons.mpr ⟨fun z hz => ?_, h⟩
      rcases List.mem_cons.mp hz with rfl | hz
      · exact hr x z hxy
      · exact trans (hr x y hxy) (hy.1 z hz)
    · next hxy =>
      refine List.pairwise_cons.mpr ⟨fun z hz => ?_, insertBy_sorted hr hn trans x l hy.2⟩
      rcases List.mem_cons.mp ((insertBy_perm r x l).mem_iff.mp hz) with rfl | hz
      · exact hn z y (Bool.eq_false_iff.mpr hxy)
      · exact hy.1 z hz

theorem sortBy_sorted (hr : ∀ a b, r a b = true → S a b) (hn : ∀ a b, r a b = false → S b a)
    (trans : ∀ {a b c}, S a b → S b c → S a c) : ∀ l : List α, (sortBy r l).Pairwise S
  | [] => .nil
  | x :: l => insertBy_sorted hr hn trans x _ (sortBy_sorted hr hn trans l)

theorem sortBy_sorted_of_total (total : ∀ a b, r a b = true ∨ r b a = true)
    (trans : ∀ {a b c}, r a b = true → r b c = true → r a c = true) (l : List α) :
    (sortBy r l).Pairwise fun a b => r a b = true :=
  sortBy_sorted (fun _ _ h => h) (fun a b h => (total a b).resolve_left (Bool.eq_false_iff.mp h)) trans l

theorem sortBy_of_sorted : ∀ l : List α, l.Pairwise (fun a b => r a b = true) → sortBy r l = l
  | [], _ => rfl
  | x :: l, h => by
    have hx := List.pairwise_cons.mp h
    rw [sortBy, sortBy_of_sorted l hx.2]
    cases l with
    | nil => rfl
    | cons y l => rw [insertBy, if_pos (hx.1 y List.mem_cons_self)]

end order

end PqModel.InsertSort
