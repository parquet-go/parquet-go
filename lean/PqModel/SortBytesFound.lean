import PqModel.SortBytes

/-! # C10 model — `byteArrayColumnBuffer.page()` AS FOUND is right iff no value is empty

`page()` as found rewrote the value bytes only when the offsets were not in non-decreasing order.
The buffer's layout is always a rearrangement of a back-to-back layout (`Laid`); when every value
is non-empty the offsets of such a layout are pairwise distinct, so "offsets non-decreasing" means
"rows in storage order" and the test is exact. An empty value shares its offset with its successor:
that is the only way the test can be fooled (`Props/C10Bytes.lean` has the witness). -/
namespace PqModel.SortBuf

/-- the (offset, length) pairs are a rearrangement of a back-to-back layout -/
def BACol.Laid {B : Type} (c : BACol B) : Prop :=
  ∃ ls : List Nat, (c.offsets.zip c.lengths).Perm ((prefixSums 0 ls).zip ls)

theorem BACol.laid_empty {B : Type} : (BACol.empty : BACol B).Laid := ⟨[], by simp [BACol.empty, prefixSums]⟩

theorem BACol.laid_lengths {B : Type} {c : BACol B} (h : c.BInv) {ls : List Nat}
    (hp : (c.offsets.zip c.lengths).Perm ((prefixSums 0 ls).zip ls)) : c.lengths.Perm ls := by
  have := hp.map Prod.snd
  rwa [List.map_snd_zip (by rw [h.len]; exact Nat.le_refl _),
    List.map_snd_zip (by rw [length_prefixSums]; exact Nat.le_refl _)] at this

theorem BACol.laid_write {B : Type} {c : BACol B} (h : c.BInv) (hl : c.Laid) (v : List B) : (c.write v).Laid := by
  obtain ⟨ls, hp⟩ := hl
  refine ⟨ls ++ [v.length], ?_⟩
  have hs : c.values.length = ls.sum := by rw [h.tot]; exact (BACol.laid_lengths h hp).sum_nat
  simp only [BACol.write]
  rw [List.zip_append h.len, prefixSums_append, List.zip_append (length_prefixSums ls 0), hs, Nat.zero_add]
  exact hp.append (List.Perm.refl _)

theorem BACol.laid_swap {B : Type} {c : BACol B} (h : c.BInv) (hl : c.Laid) (i j : Nat) : (c.swap i j).Laid := by
  obtain ⟨ls, hp⟩ := hl
  refine ⟨ls, ?_⟩
  simp only [BACol.swap]
  rw [zip_swapL h.len]
  exact (swapL_perm _ i j).trans hp

theorem BACol.pageWith_spec {B : Type} {c : BACol B} (h : c.BInv) (hl : c.Laid) (b : Bool) :
    (c.pageWith b).BInv ∧ (c.pageWith b).view = c.view ∧ (c.pageWith b).Laid ∧ (c.pageWith b).lengths = c.lengths := by
  cases b with
  | true =>
    obtain ⟨hi, hv, ho, hlen, _⟩ := BACol.rewrite_spec h
    exact ⟨hi, hv, ⟨c.lengths, by rw [ho, hlen]⟩, hlen⟩
  | false =>
    simp only [BACol.pageWith, Bool.false_eq_true, if_false]
    exact ⟨⟨h.len, h.bnd, h.tot⟩, rfl, hl, trivial⟩

theorem nondecr_pairwise : ∀ (xs : List Nat), nondecr xs = true → xs.Pairwise (· ≤ ·) := by
  intro xs
  induction xs with
  | nil => intro _; exact List.Pairwise.nil
  | cons a tl ih =>
    intro h
    cases tl with
    | nil => simp
    | cons b tl' =>
      simp only [nondecr, Bool.and_eq_true, decide_eq_true_eq] at h
      have ihh := ih h.2
      refine List.Pairwise.cons ?_ ihh
      intro x hx
      rcases List.mem_cons.mp hx with rfl | hx
      · exact h.1
      · exact Nat.le_trans h.1 ((List.pairwise_cons.mp ihh).1 x hx)

theorem contigZip_pairwise : ∀ (ls : List Nat) (e : Nat), (∀ l ∈ ls, 0 < l) →
    ((prefixSums e ls).zip ls).Pairwise (fun p q => p.1 < q.1) ∧ ∀ p ∈ (prefixSums e ls).zip ls, e ≤ p.1 := by
  intro ls
  induction ls with
  | nil => intro e _; simp [prefixSums]
  | cons l ls ih =>
    intro e hpos
    obtain ⟨h1, h2⟩ := ih (e + l) (fun x hx => hpos x (List.mem_cons_of_mem _ hx))
    have hl := hpos l List.mem_cons_self
    simp only [prefixSums, List.zip_cons_cons]
    refine ⟨List.Pairwise.cons ?_ h1, ?_⟩
    · intro p hp
      have := h2 p hp
      simp only
      omega
    · intro p hp
      rcases List.mem_cons.mp hp with rfl | hp
      · exact Nat.le_refl _
      · have := h2 p hp
        omega

/-- the core of it: a rearranged back-to-back layout of NON-EMPTY values whose offsets are in
    non-decreasing order is the back-to-back layout itself -/
theorem BACol.contig_of_sorted_offsets {B : Type} {c : BACol B} (h : c.BInv) (hl : c.Laid)
    (hpos : ∀ l ∈ c.lengths, 0 < l) (hs : c.offsets.Pairwise (· ≤ ·)) :
    contigFrom 0 c.offsets c.lengths = true := by
  obtain ⟨ls, hp⟩ := hl
  have hlen := BACol.laid_lengths h hp
  have hpos' : ∀ l ∈ ls, 0 < l := fun l hm => hpos l (hlen.mem_iff.mpr hm)
  obtain ⟨hK, _⟩ := contigZip_pairwise ls 0 hpos'
  -- the offsets are pairwise distinct, hence strictly increasing
  have hKf : ((prefixSums 0 ls).zip ls).map Prod.fst = prefixSums 0 ls :=
    List.map_fst_zip (by rw [length_prefixSums]; exact Nat.le_refl _)
  have hLf : (c.offsets.zip c.lengths).map Prod.fst = c.offsets :=
    List.map_fst_zip (by rw [h.len]; exact Nat.le_refl _)
  have hKlt : (prefixSums 0 ls).Pairwise (· < ·) := by
    rw [← hKf, List.pairwise_map]; exact hK
  have hnd : c.offsets.Nodup := by
    have : (prefixSums 0 ls).Nodup := hKlt.imp (fun hab => Nat.ne_of_lt hab)
    have hpf := hp.map Prod.fst
    rw [hKf, hLf] at hpf
    exact hpf.nodup_iff.mpr this
  have hlt : c.offsets.Pairwise (· < ·) :=
    (hs.and hnd).imp (fun ⟨hle, hne⟩ => Nat.lt_of_le_of_ne hle hne)
  have hL : (c.offsets.zip c.lengths).Pairwise (fun p q => p.1 < q.1) := by
    have : ((c.offsets.zip c.lengths).map Prod.fst).Pairwise (· < ·) := by rw [hLf]; exact hlt
    exact List.pairwise_map.mp this
  have heq := List.Perm.eq_of_pairwise (le := fun (p q : Nat × Nat) => p.1 < q.1)
    (fun a b _ _ hab hba => absurd hab (Nat.lt_asymm hba)) hL hK hp
  have ho : c.offsets = prefixSums 0 ls := by rw [← hLf, heq, hKf]
  have hle : c.lengths = ls := by
    have := congrArg (List.map Prod.snd) heq
    rwa [List.map_snd_zip (by rw [h.len]; exact Nat.le_refl _),
      List.map_snd_zip (by rw [length_prefixSums]; exact Nat.le_refl _)] at this
  rw [ho, hle]
  exact contigFrom_prefixSums ls 0

theorem BACol.pageFound_spec_of_nonempty {B : Type} {c : BACol B} (h : c.BInv) (hl : c.Laid)
    (hpos : ∀ l ∈ c.lengths, 0 < l) : c.pageFound.pageValues = c.view := by
  unfold BACol.pageFound
  cases hb : (decide (c.lengths.length > 0) && decide (orderOfNat (c.offsets ++ c.endOff.toList) < 1)) with
  | true => exact (BACol.rewrite_spec h).2.2.2.2
  | false =>
    have hc : contigFrom 0 c.offsets c.lengths = true := by
      rcases Bool.and_eq_false_iff.mp hb with h0 | h1
      · have : c.lengths = [] := by
          cases hh : c.lengths with
          | nil => rfl
          | cons _ _ => rw [hh] at h0; simp at h0
        rw [this]; cases c.offsets <;> rfl
      · have hnd : nondecr (c.offsets ++ c.endOff.toList) = true := by
          have h1' : ¬ (orderOfNat (c.offsets ++ c.endOff.toList) < 1) := by simpa using h1
          cases hn : nondecr (c.offsets ++ c.endOff.toList) with
          | true => rfl
          | false =>
            exfalso
            apply h1'
            -- not non-decreasing: the order is -1 or 0
            simp only [orderOfNat, hn, Bool.false_eq_true, if_false]
            by_cases hl : (c.offsets ++ c.endOff.toList).length > 1
            · rw [if_pos hl]
              by_cases hi : nonincr (c.offsets ++ c.endOff.toList) = true
              · rw [if_pos hi]; decide
              · rw [if_neg hi]; decide
            · rw [if_neg hl]; decide
        have := nondecr_pairwise _ hnd
        exact BACol.contig_of_sorted_offsets h hl hpos (List.pairwise_append.mp this).1
    simp only [BACol.pageWith, Bool.false_eq_true, if_false]
    exact BACol.pageValues_of_contig h hc

structure BACol.Good {B : Type} (c : BACol B) : Prop where
  inv : c.BInv
  laid : c.Laid
  pos : ∀ l ∈ c.lengths, 0 < l

theorem BACol.stepFound_spec {B : Type} {c : BACol B} (h : c.Good) (op : BAOp B)
    (hne : ∀ v, op = .write v → v ≠ []) :
    (c.stepFound op).Good ∧ (c.stepFound op).view = baSpecStep c.view op := by
  cases op with
  | write v =>
    refine ⟨⟨BACol.binv_write h.inv v, BACol.laid_write h.inv h.laid v, ?_⟩, BACol.view_write h.inv v⟩
    intro l hm
    simp only [BACol.stepFound, BACol.write, List.mem_append, List.mem_singleton] at hm
    rcases hm with hm | rfl
    · exact h.pos l hm
    · exact List.length_pos_iff.mpr (hne v rfl)
  | swap i j =>
    refine ⟨⟨BACol.binv_swap h.inv i j, BACol.laid_swap h.inv h.laid i j, ?_⟩, BACol.view_swap h.inv i j⟩
    intro l hm
    exact h.pos l ((swapL_perm c.lengths i j).mem_iff.mp hm)
  | page =>
    obtain ⟨h1, h2, h3, h4⟩ := BACol.pageWith_spec h.inv h.laid
      (decide (c.lengths.length > 0) && decide (orderOfNat (c.offsets ++ c.endOff.toList) < 1))
    refine ⟨⟨h1, h3, ?_⟩, h2⟩
    intro l hm
    simp only [BACol.stepFound, BACol.pageFound] at hm
    rw [h4] at hm
    exact h.pos l hm

theorem BACol.runFound_spec {B : Type} (ops : List (BAOp B)) (hne : ∀ v, BAOp.write v ∈ ops → v ≠ [])
    (c : BACol B) (h : c.Good) :
    (ops.foldl BACol.stepFound c).Good ∧ (ops.foldl BACol.stepFound c).view = ops.foldl baSpecStep c.view :=
  foldl_sim (R := fun (c : BACol B) xs => c.Good ∧ c.view = xs)
    (fun _ _ op hop hc => hc.2 ▸ BACol.stepFound_spec hc.1 op (fun v hv => hne v (hv ▸ hop))) ⟨h, rfl⟩

end PqModel.SortBuf
