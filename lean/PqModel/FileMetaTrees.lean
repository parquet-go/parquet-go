import PqModel.ThriftWrite

/-! # Key-value metadata, created_by and sorting columns of the footer (C02; `footerFields` is also the
instance of C14's `file_metadata_cut_rejected`)

MIRROR side: the typed trees the thrift encoder is handed for `format.KeyValue`,
`format.SortingColumn` (format/parquet.go:956-972), and for the fields of `format.FileMetaData`
(parquet.go:1388-1435) and `format.RowGroup` (parquet.go:1119-1143) with their tag options.
SPEC side: the typed views `kvsOf`, `createdByOf`, `sortingOf` of the untyped tree, written from
parquet.thrift (`KeyValue {1: required string key, 2: optional string value}`,
`FileMetaData.key_value_metadata = 5`, `created_by = 6`, `RowGroup.sorting_columns = 4`,
`SortingColumn {1: required i32 column_idx, 2: required bool descending, 3: required bool
nulls_first}`). These views are what `file.meta` prints for every generated file. -/
namespace PqModel.FileMetaTrees
open PqModel.Spec PqModel.ThriftWrite

/-- SPEC `KeyValue`: the key is required, the value optional -/
def kvOf (t : TVal) : Option (ByteArray × Option ByteArray) :=
  match t.field? 1 with
  | some (.bin k) => some (k, match t.field? 2 with | some (.bin v) => some v | _ => none)
  | _ => none

/-- SPEC `FileMetaData.key_value_metadata` (absent = no pairs); `none` entry = a pair without key -/
def kvsOf (md : TVal) : List (Option (ByteArray × Option ByteArray)) := (TVal.listD (md.field? 5)).map kvOf

/-- SPEC `FileMetaData.created_by` -/
def createdByOf (md : TVal) : Option ByteArray :=
  match md.field? 6 with
  | some (.bin b) => some b
  | _ => none

/-- SPEC `SortingColumn`: all three fields are required -/
def sortOf (t : TVal) : Option (Int × Bool × Bool) :=
  match t.field? 1, t.field? 2, t.field? 3 with
  | some (.int i), some (.bool d), some (.bool n) => some (i, d, n)
  | _, _, _ => none

/-- SPEC `RowGroup.sorting_columns` (absent = none declared) -/
def sortingOf (rg : TVal) : List (Option (Int × Bool × Bool)) := (TVal.listD (rg.field? 4)).map sortOf

/-- MIRROR `format.KeyValue{Key, Value}`: both tagged `required`, so an empty value is written -/
def kvTree (kv : List UInt8 × List UInt8) : WVal :=
  .struct [({ id := 1, required := true }, .bin kv.1), ({ id := 2, required := true }, .bin kv.2)]

/-- MIRROR `format.SortingColumn{ColumnIdx, Descending, NullsFirst}`, all `required` -/
def sortTree (sc : Int × Bool × Bool) : WVal :=
  .struct [({ id := 1, required := true }, .i32 sc.1), ({ id := 2, required := true }, .bool sc.2.1),
           ({ id := 3, required := true }, .bool sc.2.2)]

/-- MIRROR the fields of `format.FileMetaData` the unencrypted writer fills (`writeFileFooter`,
    writer.go:1430-1438). `kvZero`: reflect's `IsZero` of the `thrift.Slice` (an input; a zero slice
    is empty — hypothesis of the theorem); a string is zero iff it is empty. -/
def footerFields (version : Int) (schema : List WVal) (numRows : Int) (rowGroups : List WVal)
    (kvs : List (List UInt8 × List UInt8)) (kvZero : Bool) (createdBy : List UInt8)
    (orders : List WVal) (ordersZero : Bool) : List (FMeta × WVal) :=
  [ ({ id := 1, required := true }, .i32 version),
    ({ id := 2, required := true }, .list 12 schema),
    ({ id := 3, required := true }, .i64 numRows),
    ({ id := 4, required := true }, .list 12 rowGroups),
    ({ id := 5, zero := kvZero }, .list 12 (kvs.map kvTree)),
    ({ id := 6, zero := createdBy.isEmpty }, .bin createdBy),
    ({ id := 7, zero := ordersZero }, .list 12 orders) ]

/-- MIRROR the fields of `format.RowGroup` (`writeRowGroup`, writer.go:1873-1881); `Ordinal` is
    `optional,writezero` -/
def rowGroupFields (columns : List WVal) (totalByteSize numRows : Int)
    (scs : List (Int × Bool × Bool)) (scZero : Bool) (fileOffset totalCompressed ordinal : Int) : List (FMeta × WVal) :=
  [ ({ id := 1, required := true }, .list 12 columns),
    ({ id := 2, required := true }, .i64 totalByteSize),
    ({ id := 3, required := true }, .i64 numRows),
    ({ id := 4, zero := scZero }, .list 12 (scs.map sortTree)),
    ({ id := 5, zero := fileOffset == 0 }, .i64 fileOffset),
    ({ id := 6, zero := totalCompressed == 0 }, .i64 totalCompressed),
    ({ id := 7, writezero := true, zero := ordinal == 0 }, .i16 ordinal) ]

theorem kvOf_kvTree (kv : List UInt8 × List UInt8) :
    kvOf (erase (kvTree kv)) = some (⟨kv.1.toArray⟩, some ⟨kv.2.toArray⟩) := by
  simp [kvTree, erase, eraseF, FMeta.omitted, kvOf, TVal.field?]

theorem eraseL_eq_map (xs : List WVal) : eraseL xs = xs.map erase := by
  induction xs with
  | nil => rfl
  | cons x xs ih => simp only [eraseL, ih, List.map_cons]

theorem kvs_erase (kvs : List (List UInt8 × List UInt8)) :
    (eraseL (kvs.map kvTree)).map kvOf = kvs.map fun kv => some (⟨kv.1.toArray⟩, some ⟨kv.2.toArray⟩) := by
  simp only [eraseL_eq_map, List.map_map, Function.comp_def, kvOf_kvTree]

theorem sortOf_sortTree (sc : Int × Bool × Bool) : sortOf (erase (sortTree sc)) = some sc := by
  simp [sortTree, erase, eraseF, FMeta.omitted, sortOf, TVal.field?]

theorem sorting_erase (scs : List (Int × Bool × Bool)) :
    (eraseL (scs.map sortTree)).map sortOf = scs.map some := by
  simp only [eraseL_eq_map, List.map_map, Function.comp_def, sortOf_sortTree]

theorem field?_eraseF_cons (m : FMeta) (v : WVal) (fs : List (FMeta × WVal)) (id : Nat) :
    TVal.field? (.struct (eraseF ((m, v) :: fs))) id =
      if m.omitted then TVal.field? (.struct (eraseF fs)) id
      else if m.id == id then some (erase v) else TVal.field? (.struct (eraseF fs)) id := by
  simp only [eraseF]
  split
  · rfl
  · simp only [TVal.field?, List.find?_cons]
    split <;> simp [*]

theorem kvsOf_footer (version : Int) (schema : List WVal) (numRows : Int) (rowGroups : List WVal)
    (kvs : List (List UInt8 × List UInt8)) (kvZero : Bool) (createdBy : List UInt8)
    (orders : List WVal) (ordersZero : Bool) (hz : kvZero = true → kvs = []) :
    kvsOf (.struct (eraseF (footerFields version schema numRows rowGroups kvs kvZero createdBy orders ordersZero))) =
      kvs.map fun kv => some (⟨kv.1.toArray⟩, some ⟨kv.2.toArray⟩) := by
  simp only [kvsOf, footerFields, field?_eraseF_cons, FMeta.omitted]
  cases kvZero with
  | true => simp [hz rfl, TVal.listD, TVal.field?, eraseF]
  | false => simp [TVal.listD, erase, kvs_erase]

theorem createdByOf_footer (version : Int) (schema : List WVal) (numRows : Int) (rowGroups : List WVal)
    (kvs : List (List UInt8 × List UInt8)) (kvZero : Bool) (createdBy : List UInt8)
    (orders : List WVal) (ordersZero : Bool) :
    createdByOf (.struct (eraseF (footerFields version schema numRows rowGroups kvs kvZero createdBy orders ordersZero))) =
      if createdBy.isEmpty then none else some ⟨createdBy.toArray⟩ := by
  simp only [createdByOf, footerFields, field?_eraseF_cons, FMeta.omitted]
  cases createdBy.isEmpty <;> simp [erase, TVal.field?, eraseF]

theorem sortingOf_rowGroup (columns : List WVal) (totalByteSize numRows : Int)
    (scs : List (Int × Bool × Bool)) (scZero : Bool) (fileOffset totalCompressed ordinal : Int)
    (hz : scZero = true → scs = []) :
    sortingOf (.struct (eraseF (rowGroupFields columns totalByteSize numRows scs scZero fileOffset totalCompressed ordinal))) =
      scs.map some := by
  simp only [sortingOf, rowGroupFields, field?_eraseF_cons, FMeta.omitted]
  cases scZero with
  | true => simp [hz rfl, TVal.listD, TVal.field?, eraseF]
  | false => simp [TVal.listD, erase, sorting_erase]

end PqModel.FileMetaTrees
