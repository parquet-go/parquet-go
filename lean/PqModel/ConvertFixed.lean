import PqModel.ConvertAdded

/-! C12, the second stage of `convertRow` (`zeroCol` / `zeroAtMax`: a null at the column's maximal
    definition level becomes the typed zero; `conversionColumn.convert` has it since /repo fa179c0).
    `zeroAtMax_shred` (from `OkCols`/`shred_okN` and `conf_projN`) carries the theorems about the
    first stage (`convN`) over to `convertRow`. -/
namespace PqModel.Convert
open PqModel.Dremel

theorem canonCol_zeroCol (td : Nat) (c : List Triple) :
    canonCol td (zeroCol td c) = zeroCol td (canonCol td c) := by
  simp only [canonCol, zeroCol, List.map_map]
  apply List.map_congr_left
  intro t _
  simp only [Function.comp]
  by_cases h1 : t.dfn < td
  · have h3 : ¬ t.dfn = td := by omega
    simp [h1, h3]
  · by_cases h2 : t.val.isNone = true <;> by_cases h3 : t.dfn = td <;> simp [h1, h2, h3]

theorem canon_zeroAtMax : ∀ (tds : List Nat) (X : Cols),
    canon tds (zeroAtMax tds X) = zeroAtMax tds (canon tds X)
  | [], _ => by simp [canon, zeroAtMax]
  | _ :: _, [] => by simp [canon, zeroAtMax]
  | td :: tds, c :: X => by
    have ih := canon_zeroAtMax tds X
    simp only [canon, zeroAtMax, List.zipWith_cons_cons] at ih ⊢
    rw [canonCol_zeroCol, ih]

theorem zeroCol_id (td : Nat) (c : List Triple) (h : ∀ t ∈ c, t.val = none → t.dfn ≠ td) : zeroCol td c = c := by
  refine ListFacts.map_id_of fun t ht => ?_
  by_cases hn : t.val = none
  · have := h t ht hn
    simp [hn, this]
  · cases hv : t.val with
    | none => exact absurd hv hn
    | some x => simp

/-! The shredding of a conforming value holds no null at a column's maximal definition level
    (`Dremel.Good` speaks of levels only, not of payloads: a further walk over `shredN`). -/

def okCol (td : Nat) (c : List Triple) : Prop := ∀ t ∈ c, t.val = none → t.dfn < td

def OkCols : List Nat → Cols → Prop
  | [], [] => True
  | td :: tds, c :: X => okCol td c ∧ OkCols tds X
  | _, _ => False

/-- `OkCols` is Dremel's column-wise `Pairs`; the bridge is used where a `Pairs` lemma of Dremel does
    the work. -/
theorem okCols_iff : ∀ {tds : List Nat} {X : Cols}, OkCols tds X ↔ Pairs (fun c td => okCol td c) X tds
  | [], [] => ⟨fun _ => .nil, fun _ => trivial⟩
  | [], _ :: _ => ⟨fun h => h.elim, fun h => nomatch h⟩
  | _ :: _, [] => ⟨fun h => h.elim, fun h => nomatch h⟩
  | _ :: _, _ :: _ => ⟨fun h => .cons h.1 (okCols_iff.mp h.2), fun | .cons h1 h2 => ⟨h1, okCols_iff.mpr h2⟩⟩

theorem okCol_append {td : Nat} {a b : List Triple} (ha : okCol td a) (hb : okCol td b) : okCol td (a ++ b) :=
  fun t ht hn => (List.mem_append.mp ht).elim (fun h => ha t h hn) (fun h => hb t h hn)

theorem ok_append {t1 t2 : List Nat} {A B : Cols} (ha : OkCols t1 A) (hb : OkCols t2 B) : OkCols (t1 ++ t2) (A ++ B) :=
  okCols_iff.mpr (pairs_append (okCols_iff.mp ha) (okCols_iff.mp hb))

theorem ok_zipApp {tds : List Nat} {A B : Cols} (ha : OkCols tds A) (hb : OkCols tds B) : OkCols tds (zipApp A B) :=
  okCols_iff.mpr (pairs_zipApp_of (fun _ _ _ => okCol_append) (okCols_iff.mp ha) (okCols_iff.mp hb))

theorem ok_split : ∀ {t1 t2 : List Nat} {X : Cols}, OkCols (t1 ++ t2) X →
    OkCols t1 (X.take t1.length) ∧ OkCols t2 (X.drop t1.length)
  | [], _, _, h => ⟨by simp [OkCols], by simpa using h⟩
  | _ :: _, _, [], h => by simp [OkCols] at h
  | td :: t1, t2, c :: X, h => by
    simp only [List.cons_append, OkCols] at h
    simp only [List.length_cons, List.take_succ_cons, List.drop_succ_cons, OkCols]
    exact ⟨⟨h.1, (ok_split h.2).1⟩, (ok_split h.2).2⟩

mutual
theorem absent_okN : ∀ (t : PNode) (r d d' : Nat), d < d' → OkCols (maxDefsN t d') (absentN (eraseN t) r d)
  | .leaf, r, d, d', h => by
    simp only [maxDefsN, eraseN, absentN, OkCols, and_true]
    intro t ht _
    simp only [List.mem_singleton] at ht
    subst ht
    exact h
  | .group fs, r, d, d', h => by
    simp only [maxDefsN, eraseN, absentN]
    exact absent_okF fs r d d' h
theorem absent_okF : ∀ (fs : PFields) (r d d' : Nat), d < d' → OkCols (maxDefsF fs d') (absentF (eraseF fs) r d)
  | .nil, _, _, _, _ => by simp [maxDefsF, eraseF, absentF, OkCols]
  | .cons nm rp n fs, r, d, d', h => by
    simp only [maxDefsF, eraseF, absentF, absent_wrap]
    exact ok_append (absent_okN n r d (d' + defOf rp) (by omega)) (absent_okF fs r d d' h)
end

theorem ok_foldr (tds : List Nat) (g : Val → Cols) (ws : List Val) (h : ∀ w ∈ ws, OkCols tds (g w)) :
    OkCols tds (ws.foldr (fun w acc => zipApp (g w) acc) (List.replicate tds.length [])) := by
  rw [← List.foldr_map]
  exact okCols_iff.mpr (pairs_joinSegs_of (fun _ t ht => nomatch ht) (fun _ _ _ => okCol_append) (ws.map g)
    fun s hs => by obtain ⟨w, hw, rfl⟩ := List.mem_map.mp hs; exact okCols_iff.mp (h w hw))

mutual
theorem shred_okN : ∀ (t : PNode) (r k d : Nat) (v : Val), confN (eraseN t) v = true →
    OkCols (maxDefsN t d) (shredN (eraseN t) r k d v)
  | .leaf, r, k, d, v, hc => by
    obtain ⟨x, rfl⟩ := confN_leaf hc
    simp only [maxDefsN, eraseN, shredN, OkCols, and_true]
    intro t ht hn
    simp only [List.mem_singleton] at ht
    subst ht
    simp at hn
  | .group fs, r, k, d, v, hc => by
    obtain ⟨vs, rfl, hc⟩ := confN_group hc
    exact shred_okF fs r k d vs hc
theorem shred_okF : ∀ (fs : PFields) (r k d : Nat) (vs : List Val), confF (eraseF fs) vs = true →
    OkCols (maxDefsF fs d) (shredF (eraseF fs) r k d vs)
  | .nil, _, _, _, _, _ => by simp [maxDefsF, eraseF, shredF, OkCols]
  | .cons nm rp n fs, r, k, d, vs, hc => by
    obtain ⟨v, vs', rfl, hcv, hcs⟩ := confF_cons hc
    simp only [maxDefsF, eraseF, shredF]
    refine ok_append ?_ (shred_okF fs r k d vs' hcs)
    cases rp with
    | req => exact shred_okN n r k d v hcv
    | opt =>
      rcases confN_opt hcv with rfl | ⟨w, rfl, hcw⟩
      · exact absent_okN n r d (d + 1) (by omega)
      · exact shred_okN n r k (d + 1) w hcw
    | rpt =>
      obtain ⟨ws, rfl, hcw⟩ := confN_rpt hcv
      cases ws with
      | nil => exact absent_okN n r d (d + 1) (by omega)
      | cons w0 ws =>
        simp only [wrap, defOf, shredN]
        refine ok_zipApp (shred_okN n r (k + 1) (d + 1) w0 (hcw w0 (by simp))) ?_
        rw [show leavesN (eraseN n) = (maxDefsN n (d + 1)).length from (maxDefsN_length n (d + 1)).symm]
        exact ok_foldr _ _ ws (fun w hw => shred_okN n (k + 1) (k + 1) (d + 1) w (hcw w (by simp [hw])))
end

theorem zeroAtMax_of_ok : ∀ (tds : List Nat) (X : Cols), OkCols tds X → zeroAtMax tds X = X
  | [], [], _ => by simp [zeroAtMax]
  | [], _ :: _, h => by simp [OkCols] at h
  | _ :: _, [], h => by simp [OkCols] at h
  | td :: tds, c :: X, h => by
    simp only [OkCols] at h
    have ih := zeroAtMax_of_ok tds X h.2
    simp only [zeroAtMax, List.zipWith_cons_cons] at ih ⊢
    rw [ih, zeroCol_id td c (fun t ht hn => by have := h.1 t ht hn; omega)]

theorem zeroAtMax_append {t1 t2 : List Nat} {A B : Cols} (h : t1.length = A.length) :
    zeroAtMax (t1 ++ t2) (A ++ B) = zeroAtMax t1 A ++ zeroAtMax t2 B := by
  simp [zeroAtMax, List.zipWith_append h]

theorem zeroAtMax_shred (t : PNode) (v : Val) (hc : confN (eraseN t) v = true) :
    zeroAtMax (maxDefsN t 0) (shred t v) = shred t v :=
  zeroAtMax_of_ok _ _ (shred_okN t 0 0 0 v hc)

mutual
theorem conf_projN : ∀ (t s : PNode) (v : Val), subN s t = true → wfN (eraseN s) = true →
    confN (eraseN s) v = true → confN (eraseN t) (projN s t v) = true
  | .leaf, s, v, hs, hw, hc => by
    obtain rfl := subN_leaf hs
    simpa [projN] using hc
  | .group tfs, s, v, hs, hw, hc => by
    obtain ⟨sfs, rfl, hs⟩ := subN_group hs
    obtain ⟨vs, rfl, hc⟩ := confN_group hc
    simp only [eraseN, wfN, Bool.and_eq_true] at hw
    simp only [projN, eraseN, confN]
    exact conf_projF tfs sfs vs hs hw.1 hc
theorem conf_projF : ∀ (tfs sfs : PFields) (vs : List Val), subF sfs tfs = true → wfF (eraseF sfs) = true →
    confF (eraseF sfs) vs = true → confF (eraseF tfs) (projF sfs vs tfs) = true
  | .nil, _, _, _, _, _ => by simp [projF, eraseF, confF]
  | .cons nm trp tn tfs, sfs, vs, hs, hw, hc => by
    obtain ⟨srp, sn, hg, hok, hsn, hrest⟩ := subF_cons hs
    obtain ⟨v, hfv, _, hcv⟩ := fld_shred nm srp sn 0 0 0 sfs vs hc hg
    have hwn := wf_of_fld hw hg
    have hsk := sameKind_of_sub hsn
    simp only [projF, hfv, hsk, if_true, eraseF, confF, Bool.and_eq_true]
    refine ⟨?_, conf_projF tfs sfs vs hrest hw hc⟩
    cases srp <;> cases trp <;> simp only [rpOk, Bool.false_eq_true] at hok
    · exact conf_projN tn sn v hsn hwn hcv
    · exact conf_projN tn sn v hsn hwn hcv
    · rcases confN_opt hcv with rfl | ⟨w, rfl, hcw⟩
      · rfl
      · exact conf_projN tn sn w hsn hwn hcw
    · obtain ⟨ws, rfl, hcw⟩ := confN_rpt hcv
      simp only [wrap, confN, List.all_map, List.all_eq_true]
      intro w hw'
      exact conf_projN tn sn w hsn hwn (hcw w hw')
end

end PqModel.Convert
