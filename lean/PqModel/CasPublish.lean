import PqModel.Slots

/-! # Lazily published page-index / bloom-filter pointers (file.go:950-1076)

MIRROR of the publication protocol shared by `readColumnIndexFrom` (file.go:950-986),
`readOffsetIndex` (file.go:988-1021) and `readBloomFilter` (file.go:1023-1076):

```
if p := cell.Load(); p != nil { return p }      -- load1
... read + decode, allocate `mine` ...            -- compute (may fail: `return nil, err`)
if !cell.CompareAndSwap(nil, mine) {              -- cas
    return cell.Load()                            -- load2
}
return mine
```

as a step machine with any number of readers. The cell is an `atomic.Pointer`; `Load` and
`CompareAndSwap` are single atomic steps (sequentially consistent atomics are assumed, the Go
memory model is not modelled). A pointer is a `Nat` identity; every allocation is fresh.
`OpenFile` may store a value before the file is shared (file.go:302,308,724-725): that is the
initial cell content `c0`. -/
namespace PqModel.CasPublish

inductive RPc where
  | start                  -- before the first Load (file.go:951/989/1024)
  | compute                -- Load returned nil: reading and decoding (file.go:954-976)
  | cas (mine : Nat)       -- holding the freshly allocated value, before CompareAndSwap (file.go:981)
  | reload                 -- CompareAndSwap failed, before the second Load (file.go:983)
  | done (r : Option Nat)  -- returned: `some p` = pointer p, `none` = `nil, err`
deriving DecidableEq, Repr

structure St where
  cell : Option Nat
  readers : List RPc
  fresh : Nat
deriving DecidableEq, Repr

def init (k : Nat) (c0 : Option Nat) : St :=
  { cell := c0, readers := List.replicate k .start, fresh := (c0.getD 0) + 1 }

/-- one atomic step of reader `i` -/
inductive Step : St → St → Prop where
  /-- file.go:951-953: the first Load sees a published value -/
  | load1Hit {s i p} : s.readers[i]? = some .start → s.cell = some p →
      Step s { s with readers := s.readers.set i (.done (some p)) }
  /-- file.go:951: the first Load sees nil -/
  | load1Miss {s i} : s.readers[i]? = some .start → s.cell = none →
      Step s { s with readers := s.readers.set i .compute }
  /-- file.go:954-977: read, decode, allocate a new value -/
  | computeOk {s i} : s.readers[i]? = some .compute →
      Step s { s with readers := s.readers.set i (.cas s.fresh), fresh := s.fresh + 1 }
  /-- file.go:960-975: I/O, decryption or decode error: `return nil, err`, nothing published -/
  | computeErr {s i} : s.readers[i]? = some .compute →
      Step s { s with readers := s.readers.set i (.done none) }
  /-- file.go:981,985: CompareAndSwap(nil, mine) succeeds -/
  | casWin {s i m} : s.readers[i]? = some (.cas m) → s.cell = none →
      Step s { s with cell := some m, readers := s.readers.set i (.done (some m)) }
  /-- file.go:981: CompareAndSwap fails -/
  | casLose {s i m p} : s.readers[i]? = some (.cas m) → s.cell = some p →
      Step s { s with readers := s.readers.set i .reload }
  /-- file.go:983: the second Load -/
  | load2 {s i} : s.readers[i]? = some .reload →
      Step s { s with readers := s.readers.set i (.done s.cell) }

inductive Reach (k : Nat) (c0 : Option Nat) : St → Prop where
  | init : Reach k c0 (init k c0)
  | step {s s'} : Reach k c0 s → Step s s' → Reach k c0 s'

section invariant
open PqModel.Slots

/-- what a reader relies on: whoever returned a pointer returned the cell's content; a reader past a
    failed CAS will find the cell set -/
def Local (cell : Option Nat) : RPc → Prop
  | .done (some p) => cell = some p
  | .reload => cell.isSome
  | _ => True

def PInv (s : St) : Prop := ∀ (i : Nat) pc, s.readers[i]? = some pc → Local s.cell pc

theorem pinv_init (k c0) : PInv (init k c0) :=
  forall_mem fun _ h => List.eq_of_mem_replicate h ▸ trivial

/-- nobody relies on an empty cell staying empty -/
theorem Local.publish {cell pc} (h : Local cell pc) (hc : cell = none) (m : Nat) : Local (some m) pc := by
  subst hc
  match pc, h with
  | .done none, _ | .start, _ | .compute, _ | .cas _, _ => trivial

theorem pinv_step {s s'} (hi : PInv s) (h : Step s s') : PInv s' := by
  cases h
  case load1Hit i p hs hc => exact forall_set_same hi hc
  case load1Miss | computeOk | computeErr => exact forall_set_same hi trivial
  case casWin i m hs hc => exact forall_set hi rfl (fun _ _ _ _ h => h.publish hc m)
  case casLose i m p hs hc => exact forall_set_same hi (hc ▸ rfl)
  case load2 i hs =>
    have : ∀ c, Local c (.done c) := fun c => by cases c <;> first | trivial | rfl
    exact forall_set_same hi (this _)

theorem pinv_reach {k c0 s} (h : Reach k c0 s) : PInv s := by
  induction h with
  | init => exact pinv_init k c0
  | step _ hs ih => exact pinv_step ih hs

theorem cell_stable {s s' p} (h : Step s s') (hc : s.cell = some p) : s'.cell = some p := by
  cases h <;> simp_all

theorem readers_length {s s'} (h : Step s s') : s'.readers.length = s.readers.length := by
  cases h <;> simp

theorem done_stable {s s'} {i : Nat} {r} (h : Step s s') (hd : s.readers[i]? = some (RPc.done r)) :
    s'.readers[i]? = some (RPc.done r) := by
  -- the reader that moves has not returned
  cases h
  case load1Hit hs _ | load1Miss hs _ | computeOk hs | computeErr hs | casWin hs _ | casLose hs _ | load2 hs =>
    exact getElem?_set_other hs hd nofun

end invariant

theorem reader_progress {s} {i : Nat} {pc} (h : s.readers[i]? = some pc) (hn : ∀ r, pc ≠ RPc.done r) :
    ∃ s', Step s s' := by
  cases pc with
  | start =>
    rcases hc : s.cell with _ | p
    · exact ⟨_, .load1Miss h hc⟩
    · exact ⟨_, .load1Hit h hc⟩
  | compute => exact ⟨_, .computeOk h⟩
  | cas m =>
    rcases hc : s.cell with _ | p
    · exact ⟨_, .casWin h hc⟩
    · exact ⟨_, .casLose h hc⟩
  | reload => exact ⟨_, .load2 h⟩
  | done r => exact absurd rfl (hn r)

end PqModel.CasPublish
