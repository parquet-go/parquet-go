/-! # C09 C10 C14 — MIRROR of the merge readers of parquet-go (merge.go, dedupe.go)

Level of the mirror: a row is its sort key (an `Int` rank: `compare` of the merge is modelled as
the sign of the rank difference) plus the hidden payload `(input, seq)`.
A `bufferedRowReader` is modelled by its *window* `buf[off:end]` (the code only ever refills an
empty buffer, where `off = end = 0`), its capacity (24 → 192 growth with the `full` flag), the rows
its source has not delivered yet and a **refill-size parameter stream**: every `read()` takes the
next number `s` of the stream and the source delivers `max 1 (min s (min cap remaining))` rows, so
that theorems quantified over the stream cover every way a `RowReader` may chunk its rows
(a source answering `(0, nil)` is the entry `0` of the stream in MergeRetry.lean, which mirrors the retry loop
of `read`; here an entry is clamped to 1).

Everything here is a MIRROR (transliteration of the Go code as it is), total, fuel-based.
Spec-side definitions (`Emits`, `SortedK`, `IsMerge`, …) live in `MergeSpec.lean`. -/
namespace PqModel.Merge

structure Row where
  key : Int
  inp : Nat
  seq : Nat
deriving DecidableEq, Inhabited

/-- `compare(a, b)` of the merged sorting columns: sign of the rank difference -/
def cmp (a b : Row) : Int := if a.key < b.key then -1 else if b.key < a.key then 1 else 0

/-! ## runLength (merge.go:1103-1132) -/

/-- `compare(w, bound) <= max` -/
def leMax (mx : Int) (bound w : Row) : Bool := decide (cmp w bound ≤ mx)

/-- merge.go:1118-1121 `for hi < len(window) && compare(window[hi], bound) <= max { lo = hi; hi *= 2 }` -/
def gallop (window : List Row) (bound : Row) (mx : Int) : Nat → Nat → Nat → Nat × Nat
  | 0, lo, hi => (lo, hi)
  | f + 1, lo, hi =>
    if hi < window.length && leMax mx bound (window.getD hi default) then gallop window bound mx f hi (2 * hi)
    else (lo, hi)

/-- merge.go:1123-1129 binary refinement -/
def bsearch (window : List Row) (bound : Row) (mx : Int) : Nat → Nat → Nat → Nat
  | 0, _, hi => hi
  | f + 1, lo, hi =>
    if lo + 1 < hi then
      let mid := (lo + hi) / 2
      if leMax mx bound (window.getD mid default) then bsearch window bound mx f mid hi
      else bsearch window bound mx f lo mid
    else hi

/-- merge.go:1110-1132 -/
def runLength (window : List Row) (bound : Row) (mx : Int) : Nat :=
  if window.length = 0 || !leMax mx bound (window.getD 0 default) then 0
  else if leMax mx bound (window.getD (window.length - 1) default) then window.length
  else
    let (lo, hi) := gallop window bound mx window.length 0 1
    let hi := min hi window.length
    bsearch window bound mx window.length lo hi

/-! ## bufferedRowReader (merge.go:1035-1101) -/

def minRowBufferSize : Nat := 24
def maxRowBufferSize : Nat := 192

structure Buf where
  /-- rows the source has not delivered yet -/
  src : List Row
  /-- refill-size parameter stream (exhausted = the source fills the buffer) -/
  sizes : List Nat
  /-- `buf[off:end]` -/
  win : List Row
  /-- `len(buf)`, 0 = nil -/
  cap : Nat
  full : Bool

def Buf.fresh (src : List Row) (sizes : List Nat) : Buf :=
  { src := src, sizes := sizes, win := [], cap := 0, full := false }

/-- merge.go:1043 -/
def Buf.empty (b : Buf) : Bool := b.win.isEmpty
/-- merge.go:1047 -/
def Buf.head (b : Buf) : Row := b.win.headD default
/-- merge.go:1061-1071 (the reset of `off`/`end` is invisible at the level of the window) -/
def Buf.advance (b : Buf) (n : Nat) : Buf × Bool :=
  let w := b.win.drop n
  ({ b with win := w }, !w.isEmpty)

/-- capacity the buffer has after the allocation / growth step of `read` (merge.go:1074-1083) -/
def Buf.nextCap (b : Buf) : Nat :=
  if b.cap = 0 then minRowBufferSize
  else if b.full && b.cap < maxRowBufferSize then min (2 * b.cap) maxRowBufferSize
  else b.cap

/-- merge.go:1073-1101, called on an empty buffer only; `none` = `io.EOF` with no rows -/
def Buf.read (b : Buf) : Option Buf :=
  let cap := b.nextCap
  match b.src with
  | [] => none
  | _ :: _ =>
    let want := match b.sizes with | [] => cap | s :: _ => s
    let n := max 1 (min want (min cap b.src.length))
    some { src := b.src.drop n, sizes := b.sizes.tail, win := b.win ++ b.src.take n, cap := cap,
           full := n == cap }

/-- the rows of this input that have not been emitted yet -/
def Buf.rem (b : Buf) : List Row := b.win ++ b.src

/-! ## mergedRowReader2 (merge.go:634-793) -/

def runDetectionStreak : Nat := 3

structure M2 where
  /-- `readers[i]`, `none` = nil (exhausted) -/
  r0 : Option Buf
  r1 : Option Buf
  prev : Int
  streak : Nat
  initialized : Bool

def M2.new (a b : Buf) : M2 := { r0 := some a, r1 := some b, prev := 0, streak := 0, initialized := false }

/-- merge.go:671-687: refill an empty live reader, drop it on EOF -/
def refill : Option Buf → Option Buf
  | none => none
  | some b => if b.empty then b.read else some b

/-- merge.go:694-710: the loops of the cases where the other reader is nil -/
def emitSingle : Nat → Buf → List Row × Buf
  | 0, b => ([], b)
  | m + 1, b =>
    if (b.advance 1).2 then
      let rec_ := emitSingle m (b.advance 1).1
      (b.head :: rec_.1, rec_.2)
    else ([b.head], (b.advance 1).1)

/-- merge.go:784-787: length of the run emitted by `emitRun` -/
def emitRunLen (m : Nat) (r : Buf) (bound : Row) : Nat :=
  if (r.win.take m).length > 1 then 1 + runLength ((r.win.take m).drop 1) bound (-1) else 1

/-- merge.go:779-793; `m` = `len(rows) - n` (> 0): emitted rows, buffer, `hasNext` -/
def emitRun (m : Nat) (r : Buf) (bound : Row) : List Row × Buf × Bool :=
  ((r.win.take m).take (emitRunLen m r bound), (r.advance (emitRunLen m r bound)).1,
    (r.advance (emitRunLen m r bound)).2)

/-- merge.go:716-770, `m` = `len(rows) - n`; result: rows, r0, r1, prev, streak -/
def M2.loop : Nat → Nat → Buf → Buf → Int → Nat → List Row × Buf × Buf × Int × Nat
  | 0, _, r0, r1, prev, streak => ([], r0, r1, prev, streak)
  | f + 1, m, r0, r1, prev, streak =>
    if m = 0 then ([], r0, r1, prev, streak) else
    if cmp r0.head r1.head < 0 then
      let streak := if prev < 0 then streak + 1 else 0
      if streak ≥ runDetectionStreak then
        let e := emitRun m r0 r1.head
        if e.2.2 then
          let rec_ := M2.loop f (m - e.1.length) e.2.1 r1 (-1) streak
          (e.1 ++ rec_.1, rec_.2)
        else (e.1, e.2.1, r1, -1, streak)
      else
        if (r0.advance 1).2 then
          let rec_ := M2.loop f (m - 1) (r0.advance 1).1 r1 (-1) streak
          (r0.head :: rec_.1, rec_.2)
        else ([r0.head], (r0.advance 1).1, r1, -1, streak)
    else if cmp r0.head r1.head > 0 then
      let streak := if prev > 0 then streak + 1 else 0
      if streak ≥ runDetectionStreak then
        let e := emitRun m r1 r0.head
        if e.2.2 then
          let rec_ := M2.loop f (m - e.1.length) r0 e.2.1 1 streak
          (e.1 ++ rec_.1, rec_.2)
        else (e.1, r0, e.2.1, 1, streak)
      else
        if (r1.advance 1).2 then
          let rec_ := M2.loop f (m - 1) r0 (r1.advance 1).1 1 streak
          (r1.head :: rec_.1, rec_.2)
        else ([r1.head], r0, (r1.advance 1).1, 1, streak)
    else
      if m - 1 = 0 then ([r0.head], (r0.advance 1).1, r1, 0, 0)
      else
        if (r0.advance 1).2 && (r1.advance 1).2 then
          let rec_ := M2.loop f (m - 2) (r0.advance 1).1 (r1.advance 1).1 0 0
          (r0.head :: r1.head :: rec_.1, rec_.2)
        else ([r0.head, r1.head], (r0.advance 1).1, (r1.advance 1).1, 0, 0)

/-- merge.go:660-774 `ReadRows(rows)` with `len(rows) = m`; returns the rows and `true` for io.EOF -/
def M2.readRows (st : M2) (m : Nat) : List Row × Bool × M2 :=
  let st := if st.initialized then st
            else { st with r0 := st.r0.bind Buf.read, r1 := st.r1.bind Buf.read, initialized := true }
  let r0 := refill st.r0
  let r1 := refill st.r1
  match r0, r1 with
  | none, none => ([], true, { st with r0 := none, r1 := none })
  | none, some b =>
    ((emitSingle m b).1, false, { st with r0 := none, r1 := some (emitSingle m b).2 })
  | some a, none =>
    ((emitSingle m a).1, false, { st with r0 := some (emitSingle m a).2, r1 := none })
  | some a, some b =>
    let l := M2.loop m m a b st.prev st.streak
    (l.1, false, { st with r0 := some l.2.1, r1 := some l.2.2.1, prev := l.2.2.2.1, streak := l.2.2.2.2 })

/-! ## mergedRowReader: tournament tree of losers as an array (merge.go:795-1022) -/

structure MK where
  bufs : List Buf
  losers : List Int
  count : Nat
  winner : Int
  winnerLeaf : Int
  streak : Nat
  initialized : Bool

def MK.new (bufs : List Buf) : MK :=
  { bufs := bufs, losers := [], count := 0, winner := 0, winnerLeaf := 0, streak := 0, initialized := false }

def headOf (bufs : List Buf) (p : Int) : Row := (bufs.getD p.toNat (Buf.fresh [] [])).head

/-- merge.go:988-999 `playGame(n1, n2) (loser, winner)` -/
def playGame (bufs : List Buf) (n1 n2 : Int) : Int × Int :=
  if n1 < 0 then (n1, n2)
  else if n2 < 0 then (n2, n1)
  else if cmp (headOf bufs n1) (headOf bufs n2) < 0 then (n2, n1)
  else (n1, n2)

/-- merge.go:973-986; returns the winner of the subtree at `i` and the updated losers -/
def playInitialGames (bufs : List Buf) (leaves : List Int) : Nat → Nat → List Int → Int × List Int
  | 0, i, losers =>
    if i ≥ bufs.length then
      (if i - bufs.length < leaves.length then leaves.getD (i - bufs.length) (-1) else -1, losers)
    else (-1, losers)
  | f + 1, i, losers =>
    if i ≥ bufs.length then
      (if i - bufs.length < leaves.length then leaves.getD (i - bufs.length) (-1) else -1, losers)
    else
      let r1 := playInitialGames bufs leaves f (2 * i + 1) losers
      let r2 := playInitialGames bufs leaves f (2 * i + 2) r1.2
      let g := playGame bufs r1.1 r2.1
      (g.2, r2.2.set i g.1)

/-- merge.go:1007-1014: the game played at `offset` between the stored loser and the candidate -/
def replayStep (bufs : List Buf) (offset : Nat) (winner : Int) (losers : List Int) : Int × List Int :=
  if losers.getD offset (-1) ≥ 0 &&
      (winner < 0 || cmp (headOf bufs (losers.getD offset (-1))) (headOf bufs winner) < 0) then
    (losers.getD offset (-1), losers.set offset winner)
  else (winner, losers)

/-- merge.go:1006-1019, the loop of `replayGames` from `offset` to the root -/
def replayLoop (bufs : List Buf) : Nat → Nat → Int → List Int → Int × List Int
  | 0, _, winner, losers => (winner, losers)
  | f + 1, offset, winner, losers =>
    if offset = 0 then replayStep bufs offset winner losers
    else replayLoop bufs f ((offset - 1) / 2) (replayStep bufs offset winner losers).1
      (replayStep bufs offset winner losers).2

/-- merge.go:1004-1022 -/
def MK.replayGames (st : MK) : MK :=
  let r := replayLoop st.bufs st.bufs.length ((st.winnerLeaf.toNat - 1) / 2) st.winner st.losers
  { st with losers := r.2, winner := r.1, winnerLeaf := (st.bufs.length : Int) + r.1 }

/-- merge.go:959-963: one step of `runBound` -/
def runBoundStep (bufs : List Buf) (losers : List Int) (offset : Nat) (bound : Option Row) : Option Row :=
  if losers.getD offset (-1) ≥ 0 then
    match bound with
    | none => some (headOf bufs (losers.getD offset (-1)))
    | some b => if cmp (headOf bufs (losers.getD offset (-1))) b < 0 then some (headOf bufs (losers.getD offset (-1))) else some b
  else bound

/-- merge.go:957-968 `runBound`: the minimum head over the losers stored on the winner's path -/
def runBoundLoop (bufs : List Buf) (losers : List Int) : Nat → Nat → Option Row → Option Row
  | 0, _, bound => bound
  | f + 1, offset, bound =>
    if offset = 0 then runBoundStep bufs losers offset bound
    else runBoundLoop bufs losers f ((offset - 1) / 2) (runBoundStep bufs losers offset bound)

def MK.runBound (st : MK) : Option Row :=
  runBoundLoop st.bufs st.losers st.bufs.length ((st.winnerLeaf.toNat - 1) / 2) none

/-- merge.go:837-847: the first `read()` of a buffer; on io.EOF the buffer is left as it is -/
def readOr (b : Buf) : Buf := b.read.getD b

/-- merge.go:838-842: input `i` delivered rows at initialisation -/
def aliveAt (bufs : List Buf) (i : Nat) : Bool :=
  match bufs[i]? with
  | some b => b.read.isSome
  | none => false

/-- merge.go:827-854 -/
def MK.initialize (st : MK) : MK :=
  let k := st.bufs.length
  let bufs := st.bufs.map readOr
  let leaves := (List.range k).map (fun i => if aliveAt st.bufs i then (i : Int) else -1)
  let count := (List.range k).countP (aliveAt st.bufs)
  if count > 0 then
    let r := playInitialGames bufs leaves k 0 (List.replicate k 0)
    { st with bufs := bufs, losers := r.2, count := count, winner := r.1, winnerLeaf := (k : Int) + r.1,
              initialized := true }
  else { st with bufs := bufs, losers := List.replicate k 0, count := 0, initialized := true }

/-- merge.go:915-918: length of the run inside the (truncated) window -/
def runOf (bound : Option Row) (window : List Row) : Nat :=
  match bound with
  | some b => runLength window b 0
  | none => window.length

/-- merge.go:910-929: the bulk emission loop of run mode on the winner's buffer `c`;
    `m` = `len(rows) - n`. Result: rows, buffer, `true` if the function returned (`!c.advance`) -/
def runEmit (bound : Option Row) : Nat → Nat → Buf → List Row × Buf × Bool
  | 0, _, c => ([], c, false)
  | f + 1, m, c =>
    if m = 0 then ([], c, false) else
    let run := runOf bound (c.win.take m)
    if !(c.advance run).2 then ((c.win.take m).take run, (c.advance run).1, true)
    else if run < (c.win.take m).length then ((c.win.take m).take run, (c.advance run).1, false)
    else
      let rec_ := runEmit bound f (m - run) (c.advance run).1
      ((c.win.take m).take run ++ rec_.1, rec_.2)

def MK.setBuf (st : MK) (c : Buf) : MK := { st with bufs := st.bufs.set st.winner.toNat c }

def MK.cur (st : MK) : Buf := st.bufs.getD st.winner.toNat (Buf.fresh [] [])

/-- merge.go:883-887 / 935-941: replay and update the streak -/
def MK.replayKeep (st : MK) (prev : Int) : MK :=
  if st.replayGames.winner ≠ prev then { st.replayGames with streak := 0 } else st.replayGames

def MK.replayCount (st : MK) (prev : Int) : MK :=
  if st.replayGames.winner = prev then { st.replayGames with streak := st.streak + 1 }
  else { st.replayGames with streak := 0 }

/-- merge.go:865-942, `m` = `len(rows) - n` -/
def MK.loop : Nat → Nat → MK → List Row × MK
  | 0, _, st => ([], st)
  | f + 1, m, st =>
    if m = 0 || st.count = 0 then ([], st) else
    if st.cur.empty then
      match st.cur.read with
      | some c' => MK.loop f m ((st.setBuf c').replayKeep st.winner)
      | none => MK.loop f m ({ st with winner := -1, count := st.count - 1 }.replayKeep (-1))
    else
      let st1 := st.setBuf (st.cur.advance 1).1
      if !(st.cur.advance 1).2 then ([st.cur.head], st1)
      else if st.streak ≥ runDetectionStreak then
        let e := runEmit st1.runBound (m - 1) (m - 1) (st.cur.advance 1).1
        if e.2.2 then (st.cur.head :: e.1, st1.setBuf e.2.1)
        else
          let rec_ := MK.loop f (m - 1 - e.1.length) { st1.setBuf e.2.1 with streak := 0 }.replayGames
          (st.cur.head :: (e.1 ++ rec_.1), rec_.2)
      else
        let rec_ := MK.loop f (m - 1) (st1.replayCount st.winner)
        (st.cur.head :: rec_.1, rec_.2)

/-- merge.go:856-949 `ReadRows(rows)` with `len(rows) = m`; `true` = io.EOF -/
def MK.readRows (st : MK) (m : Nat) : List Row × Bool × MK :=
  let st := if st.initialized then st else st.initialize
  let r := MK.loop (2 * m + 2) m st
  (r.1, r.2.count = 0, r.2)

/-! ## mergeRowReaders dispatch (merge.go:608-632) and a whole read session -/

inductive Reader where
  | empty
  | one (b : Buf)
  | two (s : M2)
  | many (s : MK)

def mkBufs (inputs : List (List Row)) (refills : List (List Nat)) : List Buf :=
  (List.range inputs.length).map (fun i => Buf.fresh (inputs.getD i []) (refills.getD i []))

def Reader.new (inputs : List (List Row)) (refills : List (List Nat)) : Reader :=
  match inputs with
  | [] => .empty
  | [a] => .one (Buf.fresh a (refills.getD 0 []))
  | [a, b] => .two (M2.new (Buf.fresh a (refills.getD 0 [])) (Buf.fresh b (refills.getD 1 [])))
  | _ => .many (MK.new (mkBufs inputs refills))

/-- one `ReadRows` call. A single input is returned as is by `mergeRowReaders`; its source is
    modelled as delivering `min m (next refill size)` rows. -/
def Reader.readRows (r : Reader) (m : Nat) : List Row × Bool × Reader :=
  match r with
  | .empty => ([], true, .empty)
  | .one b =>
    match b.src with
    | [] => ([], true, .one b)
    | _ :: _ =>
      let want := match b.sizes with | [] => m | s :: _ => max 1 s
      let n := min m (min want b.src.length)
      (b.src.take n, false, .one { b with src := b.src.drop n, sizes := b.sizes.tail })
  | .two s => ((s.readRows m).1, (s.readRows m).2.1, .two (s.readRows m).2.2)
  | .many s => ((s.readRows m).1, (s.readRows m).2.1, .many (s.readRows m).2.2)

/-- rows not yet emitted, per input -/
def Reader.rem : Reader → List (List Row)
  | .empty => []
  | .one b => [b.rem]
  | .two s => [(s.r0.map Buf.rem).getD [], (s.r1.map Buf.rem).getD []]
  | .many s => s.bufs.map Buf.rem

/-- a read session: one `ReadRows` per batch size, stopping at io.EOF. Returns the batches, whether
    io.EOF was reached, and the reader. -/
def Reader.session : Reader → List Nat → List (List Row) × Bool × Reader
  | r, [] => ([], false, r)
  | r, m :: ms =>
    if (r.readRows m).2.1 then ([(r.readRows m).1], true, (r.readRows m).2.2)
    else
      let rec_ := Reader.session (r.readRows m).2.2 ms
      ((r.readRows m).1 :: rec_.1, rec_.2)

/-- the hidden payload: row `j` of input `i` is tagged `(i, j)` -/
def tagList (i : Nat) (ks : List Int) : List Row :=
  (List.range ks.length).map (fun j => { key := ks.getD j 0, inp := i, seq := j })

def tagInputs (keys : List (List Int)) : List (List Row) :=
  (List.range keys.length).map (fun i => tagList i (keys.getD i []))

/-! ## dedupe (dedupe.go:68-107) -/

/-- dedupe.go:92-99: partition of one batch into `uniq` and `dupe`, `lastRow` carried -/
def dedupeBatch : Option Row → List Row → List Row × List Row × Option Row
  | last, [] => ([], [], last)
  | none, row :: rows =>
    let r := dedupeBatch (some row) rows
    (row :: r.1, r.2.1, r.2.2)
  | some l, row :: rows =>
    if cmp row l = 0 then
      let r := dedupeBatch (some l) rows
      (r.1, row :: r.2.1, r.2.2)
    else
      let r := dedupeBatch (some row) rows
      (row :: r.1, r.2.1, r.2.2)

/-- dedupe.go:78-107 `deduplicate(rows)`: the rearranged slice `uniq ++ dupe`, `len(uniq)`, new `lastRow` -/
def deduplicate (last : Option Row) (rows : List Row) : List Row × Nat × Option Row :=
  let r := dedupeBatch last rows
  (r.1 ++ r.2.1, r.1.length, r.2.2)

/-- dedupe.go:18-27 over the batches the underlying reader delivers: what the caller receives -/
def dedupeReader : Option Row → List (List Row) → List Row
  | _, [] => []
  | last, b :: bs =>
    let r := deduplicate last b
    r.1.take r.2.1 ++ dedupeReader r.2.2 bs

end PqModel.Merge
