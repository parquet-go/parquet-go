import PqModel.AsyncFair

/-! Termination of `Close` (page.go:163-184). While the consumer ranges over `read` the only cycle is
top --bodyOffer--> send --closeRecv--> top, taken when the producer's `select` (page.go:308-322)
chooses `read <-` although `<-done` is ready. Every other step lowers `psi`; `selDone` is enabled only
in the select, never continuously, so weak fairness is not enough (`spinRun`). -/
namespace PqModel.Async

def isCloseEnd : Ev → Bool
  | .closeEnd => true
  | _ => false

def isCloseRecv : Ev → Bool
  | .closeRecv => true
  | _ => false

theorem isCloseEnd_iff {e : Ev} : isCloseEnd e = true ↔ e = .closeEnd := by
  cases e <;> simp [isCloseEnd]

theorem isCloseEnd_false {e : Ev} : isCloseEnd e = false ↔ e ≠ .closeEnd := by
  rw [Ne, ← isCloseEnd_iff]; simp

theorem isCloseRecv_iff {e : Ev} : isCloseRecv e = true ↔ e = .closeRecv := by
  cases e <;> simp [isCloseRecv]

theorem isCloseRecv_false {e : Ev} : isCloseRecv e = false ↔ e ≠ .closeRecv := by
  rw [Ne, ← isCloseRecv_iff]; simp

def recvs (es : List Ev) : Nat := (es.filter isCloseRecv).length

/-- steps of the producer goroutine alone (no rendezvous) -/
def isProducerEv : Ev → Bool
  | .initPass | .initDone | .pollTake _ _ | .pollEmpty | .bodyCont | .bodyOffer _ _ | .selTake _ _
  | .selDone => true
  | _ => false

/-- a seek buffered in the 1-slot channel costs one more round of the producer (`selTake`/`pollTake`,
    then the `continue` of the loop body, then a new offer) -/
def seekPending (g : G) : Nat := if g.seekCh.isSome then 3 else 0

/-- the steps still to go before `closeEnd` if every select of the producer takes `done` at once (6 first
    select, 5 poll, 3 loop body, +1 for the `continue` of a seek to apply, 2 select, 1 final item); a buffered
    seek is taken first and costs one more round (`seekPending`) -/
def psi (U : Under) (g : G) : Nat :=
  match g.ppc with
  | .waitInit => 6 + seekPending g
  | .poll => 5 + seekPending g
  | .top => 3 + seekPending g + (if (body U g.loc).2 = none then 1 else 0)
  | .send _ => 2 + seekPending g
  | .final => 1
  | .exited => 0

theorem psi_le {U g} : psi U g ≤ 9 := by
  simp only [psi, seekPending]
  split <;> (try split) <;> (try split) <;> omega

/-- holds in every closing state, reachable or not -/
theorem psi_step {U g e g'} (hcl : g.cpc = .closing) (h : Step U g e g') (he : isCloseEnd e = false) :
    g'.cpc = .closing ∧
      (if isCloseRecv e then psi U g' ≤ psi U g + 2 else psi U g' + 1 ≤ psi U g) := by
  cases h
  case closeEnd => simp [isCloseEnd] at he
  case bodyCont l h1 h2 =>
    obtain ⟨l2, r, h3⟩ := body_none_then_some h2
    simp [isCloseRecv, psi, seekPending, hcl, h1, h2, h3]
  -- every consumer step but closeRecv, closeFinal, closeEnd needs `cpc ≠ closing`
  all_goals try (exfalso; simp only [hcl, reduceCtorEq] at *; done)
  -- closeRecv, closeFinal, initPass, initDone, the polls, bodyOffer, selTake, selDone: compute the rank
  -- before and after from the producer's program counter
  all_goals
    refine ⟨hcl, ?_⟩
    simp only [isCloseRecv, psi, seekPending, *]
    simp
    try ((repeat' split) <;> omega)

theorem psi_ranked {U g e g'} (hcl : g.cpc = .closing) (s : Step U g e g') (he : isCloseEnd e = false) :
    g'.cpc = .closing ∧ psi U g' + 1 ≤ psi U g + (if isCloseRecv e then 3 else 0) := by
  obtain ⟨hc, hpsi⟩ := psi_step hcl s he
  refine ⟨hc, ?_⟩
  cases hm : isCloseRecv e <;> simp [hm] at hpsi ⊢ <;> omega

theorem close_bounded {U g es g'} (hcl : g.cpc = .closing) (hp : Path U g es g')
    (hne : ∀ e ∈ es, isCloseEnd e = false) :
    es.length + psi U g' ≤ psi U g + 3 * recvs es ∧ g'.cpc = .closing :=
  Path.ranked psi_ranked hp hcl hne

theorem close_returns_of_fin_recvs {U} (ρ : Run U) (hcl : (ρ.st 0).cpc = .closing) (N : Nat)
    (hN : ∀ n, N ≤ n → isCloseRecv (ρ.ev n) = false) :
    ∃ n, n < 10 + 3 * N ∧ ρ.ev n = .closeEnd := by
  -- `Run.stops` bounds the index by `psi + 1 + 3·N`, and `psi ≤ 9`
  obtain ⟨n, hn, he⟩ := ρ.stops psi_ranked hcl N hN
  have := psi_le (U := U) (g := ρ.st 0)
  exact ⟨n, by omega, isCloseEnd_iff.mp he⟩

/-- `selDone` is enabled: the producer is in the select of page.go:308-322 and `done` is closed -/
def DoneReady (g : G) : Prop := (∃ it, g.ppc = .send it) ∧ g.doneClosed = true

theorem selDone_enabled_iff {U g} : (∃ g', Step U g .selDone g') ↔ DoneReady g := by
  constructor
  · rintro ⟨g', h⟩
    cases h
    case selDone it h1 h2 => exact ⟨⟨it, h1⟩, h2⟩
  · rintro ⟨⟨it, h1⟩, h2⟩
    exact ⟨_, .selDone h1 h2⟩

theorem closeRecv_pre {U g g'} (h : Step U g .closeRecv g') :
    g.cpc = .closing ∧ ∃ it, g.ppc = .send it := by
  cases h
  case closeRecv it h1 h2 => exact ⟨h1, it, h2⟩

theorem selDone_post {U g g'} (h : Step U g .selDone g') : g'.ppc = .final := by
  cases h; rfl

/-- after `selDone` the only step is the rendezvous on the final item, then the end of the range loop -/
theorem closing_final_step {U g e g'} (hcl : g.cpc = .closing) (hp : g.ppc = .final)
    (h : Step U g e g') : e = .closeFinal ∧ g'.cpc = .closing ∧ g'.ppc = .exited := by
  cases h <;> try (exfalso; simp only [hcl, hp, reduceCtorEq] at *; done)
  exact ⟨rfl, hcl, rfl⟩

theorem closing_exited_step {U g e g'} (hcl : g.cpc = .closing) (hp : g.ppc = .exited)
    (h : Step U g e g') : e = .closeEnd := by
  cases h <;> try (exfalso; simp only [hcl, hp, reduceCtorEq] at *; done)
  rfl

theorem Run.closing_forever {U} (ρ : Run U) (hcl : (ρ.st 0).cpc = .closing)
    (hno : ∀ n, ρ.ev n ≠ .closeEnd) (n : Nat) : (ρ.st n).cpc = .closing := by
  induction n with
  | zero => exact hcl
  | succ n ih =>
    exact (psi_step ih (ρ.step n) (isCloseEnd_false.mpr (hno n))).1

theorem close_returns_of_fair_done {U} (ρ : Run U) (hr : Reachable U (ρ.st 0))
    (hcl : (ρ.st 0).cpc = .closing)
    (hf : (∀ N, ∃ n, N ≤ n ∧ DoneReady (ρ.st n)) → ∃ n, ρ.ev n = .selDone) :
    ∃ n, ρ.ev n = .closeEnd := by
  apply Classical.byContradiction
  intro hno
  have hno' : ∀ n, ρ.ev n ≠ .closeEnd := fun n h => hno ⟨n, h⟩
  have hcn := ρ.closing_forever hcl hno'
  by_cases hA : ∃ N, ∀ n, N ≤ n → ¬ DoneReady (ρ.st n)
  · obtain ⟨N, hN⟩ := hA
    have hrec : ∀ n, N ≤ n → isCloseRecv (ρ.ev n) = false := by
      intro n hn
      refine isCloseRecv_false.mpr fun hev => ?_
      have hs := ρ.step n
      rw [hev] at hs
      obtain ⟨h1, it, h2⟩ := closeRecv_pre hs
      have hc := (data_reachable (ρ.reachable hr n)).1
      exact hN n hn ⟨⟨it, h2⟩, (hc.closing_done (Or.inl h1)).1⟩
    obtain ⟨n, _, hn⟩ := close_returns_of_fin_recvs ρ hcl N hrec
    exact hno ⟨n, hn⟩
  · have hB : ∀ N, ∃ n, N ≤ n ∧ DoneReady (ρ.st n) := by
      intro N
      apply Classical.byContradiction
      intro hc
      exact hA ⟨N, fun n hn hd => hc ⟨n, hn, hd⟩⟩
    obtain ⟨n, hn⟩ := hf hB
    have hs := ρ.step n
    rw [hn] at hs
    have hfin : (ρ.st (n + 1)).ppc = .final := selDone_post hs
    obtain ⟨_, _, hex⟩ := closing_final_step (hcn (n + 1)) hfin (ρ.step (n + 1))
    exact hno ⟨n + 2, closing_exited_step (hcn (n + 2)) hex (ρ.step (n + 2))⟩

theorem step_done_mono {U g e g'} (h : Step U g e g') (hd : g.doneClosed = true) :
    g'.doneClosed = true := by
  cases h <;> first | exact hd | rfl

theorem closing_progress {U g} (hcl : g.cpc = .closing) (hd : g.doneClosed = true) :
    ∃ e g', Step U g e g' ∧ isCloseRecv e = false := by
  rcases hpp : g.ppc with _ | _ | _ | it | _ | _
  · exact ⟨_, _, .initDone hpp hd, rfl⟩
  · obtain ⟨e, g', s, hq⟩ := loop_enabled (U := U) (Or.inl hpp)
    exact ⟨e, g', s, isCloseRecv_false.mpr (by rintro rfl; cases hq)⟩
  · obtain ⟨e, g', s, hq⟩ := loop_enabled (U := U) (Or.inr hpp)
    exact ⟨e, g', s, isCloseRecv_false.mpr (by rintro rfl; cases hq)⟩
  · exact ⟨_, _, .selDone hpp hd, rfl⟩
  · exact ⟨_, _, .closeFinal hcl hpp, rfl⟩
  · exact ⟨_, _, .closeEnd hcl hpp, rfl⟩

/-- `Close` can always complete: from a closing state of rank at most `n`, with `done` closed, at
    most `n` steps none of which hands an item to `Close` lead to its return (induction on the rank) -/
theorem close_can_complete_aux {U} (n : Nat) : ∀ g, psi U g ≤ n → g.cpc = .closing →
    g.doneClosed = true →
    ∃ es g', Path U g (es ++ [.closeEnd]) g' ∧ es.length ≤ n ∧
      (∀ e ∈ es, isCloseRecv e = false) ∧ g'.cpc = .closed := by
  induction n with
  | zero =>
    intro g hn hcl hd
    have hp : g.ppc = .exited := by
      rcases hpp : g.ppc with _ | _ | _ | it | _ | _ <;> simp [psi, hpp] at hn
      rfl
    exact ⟨[], _, .cons (.closeEnd hcl hp) .nil, by simp, by simp, rfl⟩
  | succ n ih =>
    intro g hn hcl hd
    obtain ⟨e, g1, s, hq⟩ := closing_progress (U := U) hcl hd
    by_cases hce : isCloseEnd e = true
    · cases isCloseEnd_iff.mp hce
      refine ⟨[], g1, .cons s .nil, by simp, by simp, ?_⟩
      cases s; rfl
    · have hce' : isCloseEnd e = false := by simpa using hce
      obtain ⟨hc1, hpsi⟩ := psi_step hcl s hce'
      simp only [hq] at hpsi
      obtain ⟨es, g', p, hl, hnr, hcd⟩ := ih g1 (by simp at hpsi; omega) hc1 (step_done_mono s hd)
      refine ⟨e :: es, g', .cons s p, by simp; omega, ?_, hcd⟩
      intro x hx
      simp only [List.mem_cons] at hx
      rcases hx with rfl | hx
      · exact hq
      · exact hnr x hx

/-- the schedule that always lets the select choose `read <-`: one step -/
def spin (U : Under) (g : G) : G :=
  match g.ppc with
  | .top =>
    match (body U g.loc).2 with
    | some r => { g with loc := (body U g.loc).1, ppc := .send ⟨r, g.pver, g.nprod⟩, nprod := g.nprod + 1 }
    | none => { g with loc := (body U g.loc).1 }
  | .send it => { g with ppc := .top, released := it.id :: g.released }
  | _ => g

def spinEv (U : Under) (g : G) : Ev :=
  match g.ppc with
  | .top =>
    match (body U g.loc).2 with
    | some r => .bodyOffer r g.pver
    | none => .bodyCont
  | _ => .closeRecv

/-- the states the spinning schedule moves between: `Close` waits, the producer is in its loop -/
def Spinning (g : G) : Prop := g.cpc = .closing ∧ (g.ppc = .top ∨ ∃ it, g.ppc = .send it)

theorem spin_step {U g} (h : Spinning g) : Step U g (spinEv U g) (spin U g) ∧ Spinning (spin U g) := by
  obtain ⟨hcl, hp | ⟨it, hp⟩⟩ := h
  · rcases hb : body U g.loc with ⟨l, _ | r⟩
    · have := Step.bodyCont (U := U) hp hb
      simp only [spinEv, spin, hp, hb]
      rw [hp] at this
      exact ⟨this, hcl, Or.inl rfl⟩
    · have := Step.bodyOffer (U := U) hp hb
      simp only [spinEv, spin, hp, hb]
      exact ⟨this, hcl, Or.inr ⟨_, rfl⟩⟩
  · have := Step.closeRecv (U := U) hcl hp
    simp only [spinEv, spin, hp]
    exact ⟨this, hcl, Or.inl rfl⟩

def spinSt (U : Under) (g0 : G) : Nat → G
  | 0 => g0
  | n + 1 => spin U (spinSt U g0 n)

theorem spinSt_spinning {U g0} (h : Spinning g0) (n : Nat) : Spinning (spinSt U g0 n) := by
  induction n with
  | zero => exact h
  | succ n ih => exact (spin_step ih).2

def spinRun (U : Under) (g0 : G) (h : Spinning g0) : Run U :=
  { st := spinSt U g0
    ev := fun n => spinEv U (spinSt U g0 n)
    step := fun n => (spin_step (spinSt_spinning h n)).1 }

/-- while the producer runs its loop body during `Close` nothing else is enabled -/
theorem closing_top_only {U g e g'} (hcl : g.cpc = .closing) (hp : g.ppc = .top)
    (h : Step U g e g') : e = spinEv U g := by
  cases h <;> try (exfalso; simp only [hcl, hp, reduceCtorEq] at *; done)
  all_goals rename_i hb; simp [spinEv, hp, hb]

theorem spin_top_again {U g0} (h : Spinning g0) (N : Nat) :
    ∃ n, N ≤ n ∧ n ≤ N + 1 ∧ (spinSt U g0 n).ppc = .top := by
  rcases (spinSt_spinning (U := U) h N).2 with hp | ⟨it, hp⟩
  · exact ⟨N, Nat.le_refl _, by omega, hp⟩
  · refine ⟨N + 1, by omega, Nat.le_refl _, ?_⟩
    simp only [spinSt, spin, hp]

/-- the state right after `Close` was called on a fresh reader and the producer passed its two
    initial selects: reachable whatever the wrapped reader is -/
def closingTop : G :=
  { init with cpc := .closing, initClosed := true, doneClosed := true, ppc := .top }

theorem closingTop_reachable {U} : Reachable U closingTop :=
  ⟨[.closeBegin, .initPass, .pollEmpty],
    .cons (.closeBegin rfl) (.cons (.initPass rfl rfl) (.cons (.pollEmpty rfl rfl) .nil))⟩

theorem closingTop_spinning : Spinning closingTop := ⟨rfl, Or.inl rfl⟩

def Enabled (U : Under) (g : G) (e : Ev) : Prop := ∃ g', Step U g e g'

/-- WEAK fairness for every transition label: no transition is enabled continuously from some index
    on without being taken. (The finest weak fairness one can ask of a scheduler; it implies weak
    fairness of each goroutine as a whole.) -/
def WeakFair {U} (ρ : Run U) : Prop :=
  ∀ e N, ∃ n, N ≤ n ∧ (ρ.ev n = e ∨ ¬ Enabled U (ρ.st n) e)

def ProducerRuns {U} (ρ : Run U) : Prop := ∀ N, ∃ n, N ≤ n ∧ isProducerEv (ρ.ev n) = true

/-- STRONG fairness of the `done` case of the producer's select (page.go:318-321), in its weakest
    form: if the case is ready at infinitely many indices, it is taken at least once -/
def SelectFairDone {U} (ρ : Run U) : Prop :=
  (∀ N, ∃ n, N ≤ n ∧ DoneReady (ρ.st n)) → ∃ n, ρ.ev n = .selDone

theorem spinEv_ne {U g} : spinEv U g ≠ .closeEnd ∧ spinEv U g ≠ .selDone := by
  unfold spinEv
  split
  · split <;> simp
  · simp

theorem spinRun_weakFair {U g0} (h : Spinning g0) : WeakFair (spinRun U g0 h) := by
  intro e N
  obtain ⟨n, h1, _, h3⟩ := spin_top_again (U := U) h N
  refine ⟨n, h1, ?_⟩
  by_cases hen : Enabled U (spinSt U g0 n) e
  · left
    obtain ⟨g', s⟩ := hen
    exact (closing_top_only (spinSt_spinning h n).1 h3 s).symm
  · right; exact hen

theorem spinRun_producer {U g0} (h : Spinning g0) : ProducerRuns (spinRun U g0 h) := by
  intro N
  obtain ⟨n, h1, _, h3⟩ := spin_top_again (U := U) h N
  refine ⟨n, h1, ?_⟩
  show isProducerEv (spinEv U (spinSt U g0 n)) = true
  simp only [spinEv, h3]
  split <;> rfl

def Run.drop {U} (ρ : Run U) (k : Nat) : Run U :=
  { st := fun n => ρ.st (n + k)
    ev := fun n => ρ.ev (n + k)
    step := fun n => by
      have := ρ.step (n + k)
      rwa [show n + k + 1 = n + 1 + k by omega] at this }

theorem closeBegin_post {U g g'} (h : Step U g .closeBegin g') : g'.cpc = .closing := by
  cases h; rfl

theorem closeEnd_post {U g g'} (h : Step U g .closeEnd g') : g'.cpc = .closed ∧ g'.ppc = .exited := by
  cases h
  case closeEnd h1 h2 => exact ⟨rfl, h2⟩

end PqModel.Async
