import PqModel.StatsDecimal

/-! # Logical-type conversions (C01): binary DECIMAL (`*big.Float` <-> BYTE_ARRAY / FIXED_LEN_BYTE_ARRAY
    big-endian two's complement) and TIME(unit) <-> `time.Duration`

MIRRORS (of parquet-go, as the code is):
* `bigIntToByteArray` (column_buffer_reflect.go:1030-1061), `padToFixedLen` (column_buffer_reflect.go:1063-1082)
  as used by `writeBigFloat` (column_buffer_reflect.go:999-1028) on the unscaled integer;
* the two's-complement reader inside `decimalType.AssignValue` (type_decimal.go:382-395);
* `writeDuration` under a TIME logical type (column_buffer_reflect.go:296-311: `int32(d.Milliseconds())`,
  `d.Microseconds()`, `d.Nanoseconds()`) and `timeType.AssignValue` (type_time.go:272-279:
  `v * int64(timeUnitDuration(unit))` in `int64`).
SPEC side: `Stats.decimalValue` (LogicalTypes.md, DECIMAL: "two's complement using big-endian byte order");
`big.Int.Bytes` / `SetBytes` of the Go standard library are written from their documentation
("big-endian byte slice of the absolute value", no leading zero byte): `bigBytes` / `Stats.beUnsigned`. -/
namespace PqModel.LogicalDecimal
open PqModel.Stats

/-- `k` big-endian base-256 digits of `n` (low `k` digits) -/
def beFixed : Nat → Nat → List Nat
  | 0, _ => []
  | k + 1, n => (n / 256 ^ k) % 256 :: beFixed k n

/-- number of base-256 digits of `n` (0 for 0) -/
def byteLen (n : Nat) : Nat := if n = 0 then 0 else n.log2 / 8 + 1

/-- STDLIB SPEC `(*big.Int).Bytes()` of a value of absolute value `n` -/
def bigBytes (n : Nat) : List Nat := beFixed (byteLen n) n

/-- head byte has its high bit set (`len(b) > 0 && b[0]&0x80 != 0`) -/
def highBit : List Nat → Bool
  | x :: _ => decide (x ≥ 128)
  | [] => false

/-- MIRROR of the `+1` loop of `bigIntToByteArray` (column_buffer_reflect.go:1051-1059): from the last
    byte towards the first while the carry is set; returns the bytes and the carry left at the end -/
def incCarry : List Nat → List Nat × Bool
  | [] => ([], true)
  | x :: xs =>
    let r := incCarry xs
    if r.2 then (if x = 255 then (0 :: r.1, true) else ((x + 1) :: r.1, false)) else (x :: r.1, false)

/-- MIRROR of `bigIntToByteArray` (column_buffer_reflect.go:1030-1061) -/
def bigIntToByteArray (i : Int) : List Nat :=
  if i ≥ 0 then
    let b := bigBytes i.toNat
    if highBit b then 0 :: b else b
  else
    let b := bigBytes i.natAbs
    let b := if b.isEmpty || highBit b then 0 :: b else b
    let b := b.map (255 - ·)
    (incCarry b).1

/-- MIRROR of `padToFixedLen` (column_buffer_reflect.go:1063-1082); `none` = the panic
    "decimal value requires %d bytes but fixed length is %d" -/
def padToFixedLen (b : List Nat) (length : Nat) (negative : Bool) : Option (List Nat) :=
  if b.length = length then some b
  else if b.length > length then none
  else some (List.replicate (length - b.length) (if negative then 255 else 0) ++ b)

/-- MIRROR of the tail of `writeBigFloat` (column_buffer_reflect.go:1023-1027) on the unscaled integer:
    `flba = none` for a BYTE_ARRAY column, `some n` for FIXED_LEN_BYTE_ARRAY(n) -/
def writeDecimal (flba : Option Nat) (i : Int) : Option (List Nat) :=
  match flba with
  | none => some (bigIntToByteArray i)
  | some n => padToFixedLen (bigIntToByteArray i) n (decide (i < 0))

/-- MIRROR of `decimalType.AssignValue` (type_decimal.go:382-395): the integer rebuilt from the stored
    bytes before it is divided by `10^scale` -/
def readDecimal (data : List Nat) : Int :=
  if highBit data then -((beUnsigned (data.map (255 - ·)) : Int) + 1)
  else (beUnsigned data : Int)

theorem beFixed_length : ∀ k n, (beFixed k n).length = k
  | 0, _ => rfl
  | k + 1, n => by simp [beFixed, beFixed_length k n]

theorem beFixed_isBytes : ∀ k n, IsBytes (beFixed k n)
  | 0, _ => by intro x hx; simp [beFixed] at hx
  | k + 1, n => by
    intro x hx
    simp only [beFixed, List.mem_cons] at hx
    rcases hx with h | h
    · subst h; have := Nat.mod_lt (n / 256 ^ k) (by decide : 256 > 0); omega
    · exact beFixed_isBytes k n x h

theorem beFixed_value : ∀ k n, beUnsigned (beFixed k n) = n % 256 ^ k
  | 0, n => by simp [beFixed, beUnsigned, Nat.mod_one]
  | k + 1, n => by
    simp only [beFixed, beUnsigned, beFixed_length, beFixed_value k n]
    have hp : 256 ^ (k + 1) = 256 ^ k * 256 := Nat.pow_succ ..
    rw [hp, Nat.mod_mul, Nat.mul_comm, Nat.add_comm]

theorem byteLen_bounds (n : Nat) (hn : n ≠ 0) : 256 ^ (byteLen n - 1) ≤ n ∧ n < 256 ^ byteLen n ∧ byteLen n ≥ 1 := by
  simp only [byteLen, hn, if_false]
  have h256 : ∀ k, 256 ^ k = 2 ^ (8 * k) := by
    intro k; rw [show (256 : Nat) = 2 ^ 8 by rfl, ← Nat.pow_mul]
  have hlo : 2 ^ n.log2 ≤ n := Nat.log2_self_le hn
  have hhi : n < 2 ^ (n.log2 + 1) := Nat.lt_log2_self
  refine ⟨?_, ?_, by omega⟩
  · rw [h256]
    have : 8 * (n.log2 / 8 + 1 - 1) ≤ n.log2 := by omega
    exact Nat.le_trans (Nat.pow_le_pow_right (by decide) this) hlo
  · rw [h256]
    have : n.log2 + 1 ≤ 8 * (n.log2 / 8 + 1) := by omega
    exact Nat.lt_of_lt_of_le hhi (Nat.pow_le_pow_right (by decide) this)

theorem bigBytes_zero : bigBytes 0 = [] := by simp [bigBytes, byteLen, beFixed]

theorem bigBytes_isBytes (n : Nat) : IsBytes (bigBytes n) := beFixed_isBytes _ _

theorem bigBytes_length (n : Nat) : (bigBytes n).length = byteLen n := beFixed_length _ _

theorem bigBytes_value (n : Nat) : beUnsigned (bigBytes n) = n := by
  by_cases hn : n = 0
  · subst hn; simp [bigBytes_zero, beUnsigned]
  · simp only [bigBytes, beFixed_value]
    exact Nat.mod_eq_of_lt (byteLen_bounds n hn).2.1

theorem highBit_eq_isNeg (l : List Nat) : highBit l = isNeg l := by cases l <;> rfl

theorem map_inv_isBytes (l : List Nat) : IsBytes (l.map (255 - ·)) := by
  intro x hx
  rcases List.mem_map.mp hx with ⟨y, _, rfl⟩
  omega

theorem map_inv_value : ∀ l : List Nat, IsBytes l →
    beUnsigned (l.map (255 - ·)) + beUnsigned l + 1 = 256 ^ l.length
  | [], _ => by simp [beUnsigned]
  | x :: xs, h => by
    have ih := map_inv_value xs h.tail
    have hx := h.head
    simp only [List.map_cons, beUnsigned, List.length_map, List.length_cons, pow256_succ]
    have : (255 - x) * 256 ^ xs.length + x * 256 ^ xs.length = 255 * 256 ^ xs.length := by
      rw [← Nat.add_mul]; congr 1; omega
    omega

theorem incCarry_spec : ∀ l : List Nat, IsBytes l →
    (incCarry l).1.length = l.length ∧ IsBytes (incCarry l).1 ∧
    beUnsigned (incCarry l).1 + (if (incCarry l).2 then 256 ^ l.length else 0) = beUnsigned l + 1
  | [], _ => by simp [incCarry, beUnsigned, IsBytes]
  | x :: xs, h => by
    -- a carry out of the tail is worth `256 ^ xs.length`: one unit of the byte `x`
    have ⟨ihl, ihb, ihv⟩ := incCarry_spec xs h.tail
    have hx := h.head
    simp only [incCarry]
    split
    · rename_i hc
      simp only [hc, if_true] at ihv
      split
      · rename_i hx255
        subst hx255
        refine ⟨by simp [ihl], isBytes_cons (by omega) ihb, ?_⟩
        simp only [beUnsigned, ihl, List.length_cons, pow256_succ, if_true]; omega
      · refine ⟨by simp [ihl], isBytes_cons (by omega) ihb, ?_⟩
        simp only [beUnsigned, ihl, Nat.add_mul]; simp; omega
    · rename_i hc
      simp only [hc] at ihv
      refine ⟨by simp [ihl], isBytes_cons hx ihb, ?_⟩
      simp only [beUnsigned, ihl]; simp at ihv ⊢; omega

theorem readDecimal_eq_spec (data : List Nat) (h : IsBytes data) : readDecimal data = decimalValue data := by
  rw [decimalValue_eq, readDecimal, highBit_eq_isNeg]
  have := map_inv_value data h
  split
  · omega
  · omega

/-- the unsigned magnitude with room for the sign bit, as both branches of `bigIntToByteArray` build it -/
def signRoom (m : Nat) : List Nat := if highBit (bigBytes m) then 0 :: bigBytes m else bigBytes m

theorem signRoom_spec (m : Nat) :
    IsBytes (signRoom m) ∧ beUnsigned (signRoom m) = m ∧ isNeg (signRoom m) = false := by
  have hb := bigBytes_isBytes m
  have hv := bigBytes_value m
  simp only [signRoom]
  split
  · exact ⟨isBytes_cons (by omega) hb, by simp [beUnsigned, hv], by simp [isNeg]⟩
  · rename_i h
    refine ⟨hb, hv, ?_⟩
    rw [← highBit_eq_isNeg]; simpa using h

theorem signRoom_lt (m : Nat) (hm : m ≠ 0) : 2 * m < 256 ^ (signRoom m).length := by
  have ⟨hb, hv, hs⟩ := signRoom_spec m
  rcases beUnsigned_nonneg_lt _ hb hs with h | h
  · rwa [hv] at h
  · rw [h] at hv; exact absurd hv.symm hm

theorem le_iff_lt_pow256 {L x : Nat} (n : Nat) (hlo : 256 ^ (L - 1) ≤ x) (hhi : x < 256 ^ L) :
    L ≤ n ↔ x < 256 ^ n := by
  constructor
  · intro hle
    exact Nat.lt_of_lt_of_le hhi (Nat.pow_le_pow_right (by decide) hle)
  · intro hlt
    have : L - 1 < n := (Nat.pow_lt_pow_iff_right (by decide)).mp (Nat.lt_of_le_of_lt hlo hlt)
    omega

theorem signRoom_length_le (m n : Nat) (hm : m ≠ 0) : (signRoom m).length ≤ n ↔ 2 * m < 256 ^ n := by
  refine le_iff_lt_pow256 n ?_ (signRoom_lt m hm)
  have ⟨hlo, _, hk⟩ := byteLen_bounds m hm
  have hl := bigBytes_length m
  simp only [signRoom]
  split
  · rename_i h
    rw [List.length_cons, hl, Nat.add_sub_cancel]
    have hge := beUnsigned_neg_ge _ (highBit_eq_isNeg _ ▸ h)
    rwa [bigBytes_value, hl] at hge
  · rw [hl]; omega

theorem bigIntToByteArray_nonneg (i : Int) (h : i ≥ 0) : bigIntToByteArray i = signRoom i.toNat := by
  simp [bigIntToByteArray, h, signRoom]

theorem bigIntToByteArray_neg (i : Int) (h : i < 0) :
    bigIntToByteArray i = (incCarry ((signRoom i.natAbs).map (255 - ·))).1 := by
  have hn : ¬ i ≥ 0 := by omega
  have hm : i.natAbs ≠ 0 := by omega
  have hne : (bigBytes i.natAbs).isEmpty = false := by
    have := (byteLen_bounds _ hm).2.2
    have hl := bigBytes_length i.natAbs
    cases hb : bigBytes i.natAbs with
    | nil => rw [hb] at hl; simp at hl; omega
    | cons _ _ => rfl
  simp only [bigIntToByteArray, hn, if_false, hne, Bool.false_or, signRoom]

theorem bigIntToByteArray_spec (i : Int) :
    IsBytes (bigIntToByteArray i) ∧ decimalValue (bigIntToByteArray i) = i ∧
    isNeg (bigIntToByteArray i) = decide (i < 0) := by
  by_cases h : i ≥ 0
  · rw [bigIntToByteArray_nonneg i h]
    have ⟨hb, hv, hs⟩ := signRoom_spec i.toNat
    refine ⟨hb, ?_, ?_⟩
    · rw [decimalValue_eq, hv, hs]; simp; omega
    · rw [hs]; symm; simp; omega
  · -- invert + 1 on the `L` bytes of `signRoom m` is `256^L − m`; `2m < 256^L` (`signRoom_lt`): no carry out, top bit set
    have h' : i < 0 := by omega
    rw [bigIntToByteArray_neg i h']
    have ⟨hb, hv, hs⟩ := signRoom_spec i.natAbs
    have hinvb := map_inv_isBytes (signRoom i.natAbs)
    have hinv := map_inv_value _ hb
    have ⟨hl, hrb, hrv⟩ := incCarry_spec _ hinvb
    rw [List.length_map] at hl hrv
    have hlt := signRoom_lt i.natAbs (by omega)
    have hc : (incCarry ((signRoom i.natAbs).map (255 - ·))).2 = false := by
      cases hcc : (incCarry ((signRoom i.natAbs).map (255 - ·))).2 with
      | false => rfl
      | true => rw [hcc] at hrv; simp only [if_true] at hrv; omega
    rw [hc] at hrv
    simp only [Bool.false_eq_true, if_false, Nat.add_zero] at hrv
    have hneg : isNeg (incCarry ((signRoom i.natAbs).map (255 - ·))).1 = true := by
      cases hcc : isNeg (incCarry ((signRoom i.natAbs).map (255 - ·))).1 with
      | true => rfl
      | false =>
        rcases beUnsigned_nonneg_lt _ hrb hcc with h | h
        · rw [hl] at h; omega
        · have := congrArg List.length h
          rw [hl, List.length_nil] at this
          rw [this] at hlt
          omega
    refine ⟨hrb, ?_, ?_⟩
    · rw [decimalValue_eq, hneg, hl]; simp only [if_true]; omega
    · rw [hneg]; symm; simp; omega

theorem bigIntToByteArray_length_le (i : Int) (n : Nat) :
    (bigIntToByteArray i).length ≤ n ↔ 2 * i.natAbs < 256 ^ n := by
  by_cases h0 : i = 0
  · subst h0
    have : bigIntToByteArray 0 = [] := by
      rw [bigIntToByteArray_nonneg 0 (by omega)]; simp [signRoom, bigBytes_zero, highBit]
    rw [this]
    have : 0 < 256 ^ n := Nat.pow_pos (by decide)
    simp; omega
  · by_cases h : i ≥ 0
    · rw [bigIntToByteArray_nonneg i h]
      have : i.toNat = i.natAbs := by omega
      rw [this]
      exact signRoom_length_le _ _ (by omega)
    · rw [bigIntToByteArray_neg i (by omega)]
      have hl := (incCarry_spec _ (map_inv_isBytes (signRoom i.natAbs))).1
      rw [List.length_map] at hl
      rw [hl]
      exact signRoom_length_le _ _ (by omega)

theorem decimalValue_pad (k : Nat) (b : List Nat) :
    decimalValue (List.replicate k (if isNeg b then 255 else 0) ++ b) = decimalValue b := by
  cases k with
  | zero => simp
  | succ k =>
    rw [decimalValue_eq, decimalValue_eq b]
    cases hs : isNeg b with
    | false =>
      have : isNeg (List.replicate (k + 1) 0 ++ b) = false := by simp [List.replicate_succ, isNeg]
      simp only [Bool.false_eq_true, if_false, this, beUnsigned_pad_zero]
    | true =>
      have : isNeg (List.replicate (k + 1) 255 ++ b) = true := by simp [List.replicate_succ, isNeg]
      have hp := beUnsigned_pad_ff (k + 1) b
      simp only [if_true, this, List.length_append, List.length_replicate]
      omega

/-! ## TIME(unit) <-> `time.Duration`

A `time.Duration` is an `int64` count of nanoseconds; integers here are mathematical, `wrap64`/`wrap32`
are the Go conversions to `int64`/`int32`. -/

inductive TUnit where
  | milli | micro | nano
deriving DecidableEq, Repr

/-- nanoseconds per unit (`timeUnitDuration`) -/
def TUnit.nanos : TUnit → Int
  | .milli => 1000000
  | .micro => 1000
  | .nano => 1

def wrap64 (x : Int) : Int := x.bmod (2 ^ 64)
def wrap32 (x : Int) : Int := x.bmod (2 ^ 32)

/-- Go's `/` on integers: truncation toward zero -/
def quoT (a b : Int) : Int := Int.tdiv a b

/-- MIRROR of `writeDuration` under a TIME logical type (column_buffer_reflect.go:299-309):
    `int32(d.Milliseconds())` on the INT32 column, `d.Microseconds()`, `d.Nanoseconds()` on INT64 -/
def durToLeaf (u : TUnit) (d : Int) : Int :=
  match u with
  | .milli => wrap32 (quoT d 1000000)
  | .micro => quoT d 1000
  | .nano => d

/-- MIRROR of `timeType.AssignValue` into a `time.Duration` (type_time.go:274-278):
    `src.int64() * int64(timeUnitDuration(t.Unit))`, the product in `int64` -/
def durOfLeaf (u : TUnit) (v : Int) : Int := wrap64 (v * u.nanos)

/-- a value of Go type `int64` / `int32` -/
abbrev IsInt64 (x : Int) : Prop := -(2 ^ 63) ≤ x ∧ x < 2 ^ 63
abbrev IsInt32 (x : Int) : Prop := -(2 ^ 31) ≤ x ∧ x < 2 ^ 31

/-- SPEC: the duration cut down to whole units, toward zero -/
def truncTo (u : TUnit) (d : Int) : Int := quoT d u.nanos * u.nanos

/-- in terms of the floor quotient, which `omega` understands -/
theorem quoT_eq_ediv (a b : Int) : quoT a b = if 0 ≤ a then a / b else -((-a) / b) := by
  simp only [quoT]
  split
  · rename_i h; exact Int.tdiv_eq_ediv_of_nonneg h
  · have : a = -(-a) := by omega
    rw [this, Int.neg_tdiv, Int.tdiv_eq_ediv_of_nonneg (by omega)]; simp

theorem durToLeaf_eq (u : TUnit) (d : Int) :
    durToLeaf u d = if u = .milli then wrap32 (quoT d u.nanos) else quoT d u.nanos := by
  cases u <;> simp [durToLeaf, TUnit.nanos, quoT]

theorem wrap32_of_isInt32 {x : Int} (h : IsInt32 x) : wrap32 x = x :=
  Int.bmod_eq_of_le (by have := h.1; omega) (by have := h.2; omega)

theorem wrap64_of_isInt64 {x : Int} (h : IsInt64 x) : wrap64 x = x :=
  Int.bmod_eq_of_le (by have := h.1; omega) (by have := h.2; omega)

/-- cutting down to whole units moves toward zero: the result still fits `int64` -/
theorem isInt64_truncTo (u : TUnit) (d : Int) (hd : IsInt64 d) : IsInt64 (truncTo u d) := by
  simp only [IsInt64, truncTo] at hd ⊢
  cases u <;> simp only [TUnit.nanos, quoT_eq_ediv]
  · split <;> omega
  · split <;> omega
  · split <;> omega

/-! ### the three write paths of a `time.Duration` struct field

`writeDuration` is reached from `GenericWriter[any]` / `Buffer.Write(any)` (the reflection path); the typed
path of `GenericWriter[T]` / `GenericBuffer[T]` goes through `writeRowsFuncOfDuration` and `Schema.Deconstruct`
(`Writer.Write`) through `makeValue`. Before library commit 21a275d the last two did not
divide by the unit: `durWriteBeforeFix` keeps that code as a regression mirror. -/

inductive DurPath where
  | reflect | typed | deconstruct
deriving DecidableEq, Repr

/-- MIRROR of the stored leaf per write path; `none` = panic.
    * `reflect`: `writeDuration` (column_buffer_reflect.go:296-311);
    * `typed`: `writeRowsFuncOfDuration` (column_buffer_write.go:1052-1092): on the INT32 column
      `int32(d / unit)`, on an INT64 column `d / unit`, for `unit == 1` the plain `writeRowsFuncOfInt` copy;
    * `deconstruct`: the `time.Duration` case of `makeValue` (value.go:307-320):
      `int32(d.Milliseconds())`, `d.Microseconds()`, `d.Nanoseconds()`. -/
def durWrite (p : DurPath) (u : TUnit) (d : Int) : Option Int :=
  match p, u with
  | .reflect, _ => some (durToLeaf u d)
  | .typed, .milli => some (wrap32 (quoT d TUnit.milli.nanos))
  | .typed, .micro => some (quoT d TUnit.micro.nanos)
  | .typed, .nano => some d
  | .deconstruct, .milli => some (wrap32 (quoT d 1000000))
  | .deconstruct, .micro => some (quoT d 1000)
  | .deconstruct, .nano => some d

/-- MIRROR of the same paths BEFORE the repair (regression facts only).
    * `typed`: `writeRowsFuncOfInt` (column_buffer_write.go:230-275): an 8-byte Go integer on an INT32
      column is narrowed with `int32(x)`, on an INT64 column copied as it is — the nanosecond count;
    * `deconstruct`: `makeValue` (value.go, kind switch): kind INT32 accepts `reflect.Int8/16/32` only
      ("cannot create parquet value of type INT32 from go value of type time.Duration"), kind INT64
      stores `v.Int()` — the nanosecond count. -/
def durWriteBeforeFix (p : DurPath) (u : TUnit) (d : Int) : Option Int :=
  match p, u with
  | .reflect, _ => some (durToLeaf u d)
  | .typed, .milli => some (wrap32 d)
  | .typed, _ => some d
  | .deconstruct, .milli => none
  | .deconstruct, _ => some d

end PqModel.LogicalDecimal
