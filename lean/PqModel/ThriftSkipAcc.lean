import PqModel.ThriftSkipFuel

/-! Accepting runs of the structure walk, and how those of the parts make one of the whole. In namespace
    `PqModel.ThriftSkipWrite`, where the first user is. -/
namespace PqModel.ThriftSkipWrite
open PqModel.IoFault (Bytes)
open PqModel.ThriftSkip

/-- the task `t` started at `p` is accepted and ends at `q`: with some fuel, hence with any larger (`skipT_fuel_mono`) -/
def Acc (d : Bytes) (t : Task) (p q : Nat) : Prop := ∃ f, skipT d f t p = .ok ((), q)

theorem Acc.at {d : Bytes} {t : Task} {p q f f' : Nat} (h : skipT d f t p = .ok ((), q)) (hf : f ≤ f') :
    skipT d f' t p = .ok ((), q) := skipT_fuel_mono d t p hf _ h

theorem Acc.skipStruct {d : Bytes} {q : Nat} (h : Acc d (.fields true) 0 q) : skipStruct d = .ok q := by
  obtain ⟨f, hf⟩ := h
  have h1 := Acc.at hf (Nat.le_max_left f (fuelFor d))
  rw [skipStruct_eq_of_fuel _ _ (Nat.le_max_right _ _)] at h1
  simp only [ThriftSkip.skipStruct, h1]

theorem acc_item_of_val {d : Bytes} {ty p q : Nat} (h1 : ty ≠ 1) (h2 : ty ≠ 2)
    (h : Acc d (.val ty) p q) : Acc d (.item ty) p q := by
  obtain ⟨f, hf⟩ := h
  refine ⟨f + 1, ?_⟩
  have e : (ty == 1 || ty == 2) = false := by simp [h1, h2]
  simp only [skipT, e, Bool.false_eq_true, if_false, hf]

theorem acc_val_of_item {d : Bytes} {ty p q : Nat} (h1 : ty ≠ 1) (h2 : ty ≠ 2)
    (h : Acc d (.item ty) p q) : Acc d (.val ty) p q := by
  obtain ⟨f, hf⟩ := h
  cases f with
  | zero => simp [skipT] at hf
  | succ f =>
    have e : (ty == 1 || ty == 2) = false := by simp [h1, h2]
    simp only [skipT, e, Bool.false_eq_true, if_false] at hf
    exact ⟨f, hf⟩

theorem acc_item_bool {d : Bytes} {p q : Nat} {b : UInt8} (h : readByte d p = .ok (b, q)) :
    Acc d (.item 2) p q := ⟨1, by simp [skipT, h, seq]⟩

theorem acc_items_nil (d : Bytes) (ty p : Nat) : Acc d (.items ty 0) p p := ⟨1, by simp only [skipT]⟩

theorem acc_items_cons {d : Bytes} {ty n p q r : Nat} (h1 : Acc d (.item ty) p q)
    (h2 : Acc d (.items ty n) q r) : Acc d (.items ty (n + 1)) p r := by
  obtain ⟨f1, hf1⟩ := h1
  obtain ⟨f2, hf2⟩ := h2
  refine ⟨max f1 f2 + 1, ?_⟩
  simp only [skipT, Acc.at hf1 (Nat.le_max_left f1 f2), seq, Acc.at hf2 (Nat.le_max_right f1 f2)]

theorem acc_fields_stop {d : Bytes} {first : Bool} {p q : Nat} (h : readField d p = .ok (none, q)) :
    Acc d (.fields first) p q := ⟨1, by simp only [skipT, h, seq]⟩

theorem acc_fields_cons {d : Bytes} {first : Bool} {ty p q r s : Nat} (h : readField d p = .ok (some ty, q))
    (h1 : Acc d (.val ty) q r) (h2 : Acc d (.fields false) r s) : Acc d (.fields first) p s := by
  obtain ⟨f1, hf1⟩ := h1
  obtain ⟨f2, hf2⟩ := h2
  refine ⟨max f1 f2 + 1, ?_⟩
  simp only [skipT, h, seq, Acc.at hf1 (Nat.le_max_left f1 f2), Acc.at hf2 (Nat.le_max_right f1 f2)]

theorem acc_val_list {d : Bytes} {ety n p q r : Nat} (h : readList d p = .ok ((ety, n), q))
    (h1 : Acc d (.items ety n) q r) : Acc d (.val 9) p r := by
  obtain ⟨f1, hf1⟩ := h1
  exact ⟨f1 + 1, by simp only [skipT, h, seq, hf1]⟩

theorem acc_val_struct {d : Bytes} {p q : Nat} (h : Acc d (.fields true) p q) : Acc d (.val 12) p q := by
  obtain ⟨f1, hf1⟩ := h
  exact ⟨f1 + 1, by simp only [skipT, hf1]⟩

end PqModel.ThriftSkipWrite
