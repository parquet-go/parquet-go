/-! # Compression codecs: pool / reset / retry logic of `compress/` (C20)

MIRROR parts: transliterations of compress/compress.go, internal/memory/pool.go, compress/zstd/zstd.go,
compress/lz4/lz4.go as they are, each with its `file:line`.

ABSTRACT parts (third-party code, *assumed*, never verified): `WriterImpl`, `ReaderImpl`,
`ZstdImpl`, `Lz4Impl` are the klauspost/andybalholm/pierrec streams seen through the calls the
Go code makes on them; `WriterContract`, `ReaderBase`, `StrongReset`, `WeakReset`,
`ZstdContract`, `Lz4Contract` are the contracts the pool logic relies on.  State equality in
the contracts is equality up to observable behaviour (take the abstract state space to be the
quotient); "after Reset the stream is a fresh stream" is `reset s src = new src`.

Two revisions of the code are mirrored (`Rev`): `.fixed` is /repo as it stands (commits
6e9b6da lz4 bound, 4d91384 Decompressor returns reader errors / drops failed readers / never
starts with an empty destination); `.beforeFix` is the code before them, kept so that the
negation witnesses F16/F17/F18 stay as regression facts (`…_before_fix` in Props/C20).

A sync.Pool hands out *any* idle object or none: every call carries a `pick` (the creation
number of the object the pool returns, `none` = the pool returns nil).  A call is split into
`…Begin` (Get, reset, the whole computation on the exclusively owned stream) and `…End` (the
deferred function: reset to nil/discard, Put); histories of begin/end events are exactly the
interleavings of concurrent calls on one codec value (a stream is owned by one goroutine
between Get and Put; third-party streams are assumed not to share mutable state).
-/
namespace PqModel.Codec

abbrev Bytes := List UInt8

/-- what one `Encode`/`Decode` call does as seen by the caller -/
inductive Outcome
  | ok (out : Bytes)
  | err (out : Bytes)   -- an error is returned (together with the partial output)
  | panic               -- a panic escapes the call
  | hang                -- the loop does not end (fuel exhausted in the model)
  deriving DecidableEq

inductive RStatus
  | more | eof | fail
  deriving DecidableEq

/-- calls observed on the third-party streams (what an instrumented stream can see) -/
inductive Ev
  | getNew (id : Nat)            -- constructor ran, object number `id`
  | getReuse (id : Nat)          -- pooled object `id` was Reset to the new src/dst
  | newFail                      -- constructor returned an error
  | resetFail (id : Nat)         -- Reset(src) of pooled object returned an error
  | read (n got : Nat) (st : RStatus)
  | resetNil (ok : Bool)         -- deferred Reset(nil)
  | write (n : Nat) (ok : Bool)
  | close (ok : Bool)
  | resetDiscard                 -- deferred Reset(io.Discard)
  | put (id : Nat)
  | drop (id : Nat)
  deriving DecidableEq

structure Item (σ : Type) where
  id : Nat
  st : σ
  deriving DecidableEq

/-- MIRROR internal/memory/pool.go:11-19 `Pool.Get` (the part before newT/resetT): the pool
returns the idle object numbered `pick`, or nil. -/
def take {σ} (idle : List (Item σ)) (pick : Option Nat) : Option (Item σ) × List (Item σ) :=
  match pick with
  | none => (none, idle)
  | some i =>
    match idle.find? (fun it => it.id == i) with
    | some it => (some it, idle.filter (fun it => it.id != i))
    | none => (none, idle)

/-! ## Decompressor (compress/compress.go:90-156) -/

/-- third-party `compress.Reader` -/
structure ReaderImpl (ρ : Type) where
  /-- `newReader(&r.input)` with input = src; `none` = the constructor returns an error -/
  new   : Bytes → Option ρ
  /-- `Reset(&r.input)` (`some src`) or `Reset(nil)`; `none` = an error is returned -/
  reset : ρ → Option Bytes → Option ρ
  /-- `Read(p)` with `len(p) = n`: new state, bytes delivered, status (`eof` = io.EOF, `fail` =
  any other error; data and status may come together as Go allows) -/
  read  : ρ → Nat → ρ × Bytes × RStatus

inductive LoopEnd
  | eof | fail | hang | oob
  deriving DecidableEq

structure LoopRes (ρ : Type) where
  st : ρ
  acc : Bytes
  fin : LoopEnd
  evs : List Ev

/-- MIRROR compress/compress.go:139-155, the `for` loop of `Decompressor.Decode`.
`acc` is `dst[:len(dst)]`, `cap` is `cap(dst)`; `Read(dst[len(dst):cap(dst)])`; when the
buffer is full it is replaced by one of capacity `2*len(dst)`.  `oob`: the reader claims more
bytes than `len(p)` and `dst[:len(dst)+n]` panics. -/
def readLoop {ρ} (R : ReaderImpl ρ) : Nat → ρ → Bytes → Nat → LoopRes ρ
  | 0, s, acc, _ => ⟨s, acc, .hang, []⟩
  | fuel + 1, s, acc, cap =>
    let n := cap - acc.length
    let r := R.read s n
    let e := Ev.read n r.2.1.length r.2.2
    if n < r.2.1.length then ⟨r.1, acc, .oob, [e]⟩ else
    let acc' := acc ++ r.2.1
    match r.2.2 with
    | .eof => ⟨r.1, acc', .eof, [e]⟩
    | .fail => ⟨r.1, acc', .fail, [e]⟩
    | .more =>
      let rest := readLoop R fuel r.1 acc' (if acc'.length = cap then 2 * acc'.length else cap)
      { rest with evs := e :: rest.evs }

/-- the pool of a `Decompressor`: idle readers, readers owned by in-flight calls (with "did the
loop end without error"), creation counter -/
structure DPool (ρ : Type) where
  idle : List (Item ρ)
  busy : List (Item ρ × Bool)
  next : Nat

structure BeginRes (π : Type) where
  out : Outcome
  pool : π
  evs : List Ev
  /-- the call got past `Get` (its `defer` statement was reached): the deferred function will run -/
  armed : Bool

def loopOutcome : LoopEnd → Bytes → Outcome
  | .eof, acc => .ok acc
  | .fail, acc => .err acc
  | .hang, _ => .hang
  | .oob, _ => .panic

/-- which revision of compress/compress.go and compress/lz4/lz4.go is mirrored -/
inductive Rev
  | beforeFix   -- the parents of those two commits
  | fixed       -- 6e9b6da + 4d91384: the code as it stands
  deriving DecidableEq

/-- MIRROR compress/compress.go:133-137 (fixed): `cap(dst)==0 → make([]byte,0,max(2*len(src),64))`,
else `dst[:0]`; before the fix the new buffer had capacity `2*len(src)` (0 for an empty src). -/
def decCap (rev : Rev) (dstCap : Nat) (src : Bytes) : Nat :=
  if dstCap = 0 then (if rev = .fixed then max (2 * src.length) 64 else 2 * src.length) else dstCap

/-- result of a failed constructor / `Reset(src)` inside `Get`: before the fix `panic(err)` that
nothing recovered; fixed (compress.go:102-119): `return dst[:0], initErr` -/
def initFailure : Rev → Outcome
  | .beforeFix => .panic
  | .fixed => .err []

/-- MIRROR compress/compress.go:99-155 without the deferred function: `readers.Get(new, reset)`,
the constructor / Reset error check, then the read loop.  In both revisions a reader that had
been taken from the pool is lost when Reset(src) fails and the deferred function is not armed.
The flag kept with the owned reader is "the named result `err` is nil when the deferred function
runs" (true after io.EOF, and also when the loop panicked).  On `hang` the call never returns. -/
def decBegin {ρ} (R : ReaderImpl ρ) (rev : Rev) (fuel : Nat) (d : DPool ρ) (pick : Option Nat)
    (dstCap : Nat) (src : Bytes) : BeginRes (DPool ρ) :=
  match take d.idle pick with
  | (none, _) =>
    match R.new src with
    | none => ⟨initFailure rev, d, [.newFail], false⟩
    | some s =>
      let l := readLoop R fuel s [] (decCap rev dstCap src)
      ⟨loopOutcome l.fin l.acc,
       { d with busy := (⟨d.next, l.st⟩, decide (l.fin = .eof ∨ l.fin = .oob)) :: d.busy,
                next := d.next + 1 },
       .getNew d.next :: l.evs, true⟩
  | (some it, idle) =>
    match R.reset it.st (some src) with
    | none => ⟨initFailure rev, { d with idle := idle }, [.resetFail it.id], false⟩
    | some s =>
      let l := readLoop R fuel s [] (decCap rev dstCap src)
      ⟨loopOutcome l.fin l.acc,
       { d with idle := idle,
                busy := (⟨it.id, l.st⟩, decide (l.fin = .eof ∨ l.fin = .oob)) :: d.busy },
       .getReuse it.id :: l.evs, true⟩

/-- MIRROR the deferred function of `Decompressor.Decode` run by the `k`-th in-flight call.
fixed (compress.go:121-131): `if err != nil { return }` — a reader whose decode failed is dropped
without even being Reset —, else `Reset(nil)` and `Put` only if that returned no error.
beforeFix: `Reset(nil)`, `Put` if that returned no error, whatever the decode returned. -/
def decEnd {ρ} (R : ReaderImpl ρ) (rev : Rev) (d : DPool ρ) (k : Nat) : DPool ρ × List Ev :=
  match d.busy[k]? with
  | none => (d, [])
  | some (it, errNil) =>
    let busy := d.busy.eraseIdx k
    if rev = .fixed ∧ errNil = false then ({ d with busy := busy }, [.drop it.id]) else
    match R.reset it.st none with
    | none => ({ d with busy := busy }, [.resetNil false, .drop it.id])
    | some s => ({ d with busy := busy, idle := ⟨it.id, s⟩ :: d.idle }, [.resetNil true, .put it.id])

/-! ## Compressor (compress/compress.go:49-88) -/

/-- third-party `compress.Writer`; the sink it writes to is tracked by the pool model -/
structure WriterImpl (ω : Type) where
  /-- `newWriter(&w.output)`; `none` = the constructor returns an error -/
  new   : Option ω
  /-- `Reset(io.Writer)` -/
  reset : ω → ω
  /-- `Write(src)`: new state, bytes emitted into the sink, `true` = no error -/
  write : ω → Bytes → ω × Bytes × Bool
  /-- `Close()`: new state, bytes emitted, `true` = no error -/
  close : ω → ω × Bytes × Bool

/-- what `w.output` wraps / what the third-party writer is attached to -/
inductive Sink
  | callerDst   -- `bytes.NewBuffer(dst[:0])`: the caller's buffer
  | detached    -- `bytes.NewBuffer(nil)` and `Reset(io.Discard)`
  deriving DecidableEq

structure WItem (ω : Type) where
  id : Nat
  st : ω
  sink : Sink
  deriving DecidableEq

structure CPool (ω : Type) where
  idle : List (WItem ω)
  busy : List (WItem ω)
  next : Nat

/-- `take` for the writers' pool -/
def takeW {ω} (idle : List (WItem ω)) (pick : Option Nat) : Option (WItem ω) × List (WItem ω) :=
  match pick with
  | none => (none, idle)
  | some i =>
    match idle.find? (fun it => it.id == i) with
    | some it => (some it, idle.filter (fun it => it.id != i))
    | none => (none, idle)

/-- `Write(src)` then `Close()` as in compress/compress.go:81-87 -/
def writeClose {ω} (W : WriterImpl ω) (s : ω) (src : Bytes) : ω × Outcome × List Ev :=
  let w := W.write s src
  if w.2.2 = false then (w.1, .err w.2.1, [.write src.length false]) else
  let c := W.close w.1
  if c.2.2 = false then (c.1, .err (w.2.1 ++ c.2.1), [.write src.length true, .close false])
  else (c.1, .ok (w.2.1 ++ c.2.1), [.write src.length true, .close true])

/-- MIRROR compress/compress.go:58-87 without the deferred function.  `w.output =
*bytes.NewBuffer(dst[:0])`: the output is whatever the writer emits, independent of the
contents and capacity of `dst` (bytes.Buffer grows as needed); `dstCap` is kept so that `Call.encBegin`
and `Call.decBegin` take the same arguments. -/
def encBegin {ω} (W : WriterImpl ω) (c : CPool ω) (pick : Option Nat) (_dstCap : Nat) (src : Bytes) :
    BeginRes (CPool ω) :=
  match takeW c.idle pick with
  | (none, _) =>
    match W.new with
    | none => ⟨.panic, c, [.newFail], false⟩
    | some s =>
      let r := writeClose W s src
      ⟨r.2.1, { c with busy := ⟨c.next, r.1, .callerDst⟩ :: c.busy, next := c.next + 1 },
       .getNew c.next :: r.2.2, true⟩
  | (some it, idle) =>
    let r := writeClose W (W.reset it.st) src
    ⟨r.2.1, { c with idle := idle, busy := ⟨it.id, r.1, .callerDst⟩ :: c.busy },
     .getReuse it.id :: r.2.2, true⟩

/-- MIRROR compress/compress.go:75-79, the deferred function of `Compressor.Encode`:
`w.output = *bytes.NewBuffer(nil); w.writer.Reset(io.Discard); c.writers.Put(w)` -/
def encEnd {ω} (W : WriterImpl ω) (c : CPool ω) (k : Nat) : CPool ω × List Ev :=
  match c.busy[k]? with
  | none => (c, [])
  | some it =>
    ({ c with busy := c.busy.eraseIdx k, idle := ⟨it.id, W.reset it.st, .detached⟩ :: c.idle },
     [.resetDiscard, .put it.id])

/-! ## One pooled codec value (gzip.Codec, brotli.Codec: a Compressor and a Decompressor) -/

structure Codec (ω ρ : Type) where
  W : WriterImpl ω
  R : ReaderImpl ρ
  rev : Rev
  fuel : Nat

structure CState (ω ρ : Type) where
  c : CPool ω
  d : DPool ρ

def CState.init {ω ρ} : CState ω ρ := ⟨⟨[], [], 0⟩, ⟨[], [], 0⟩⟩

/-- events of a history on one codec value; `encode`/`decode` are whole sequential calls -/
inductive Call
  | encBegin (pick : Option Nat) (dstCap : Nat) (src : Bytes)
  | encEnd (k : Nat)
  | decBegin (pick : Option Nat) (dstCap : Nat) (src : Bytes)
  | decEnd (k : Nat)
  | encode (pick : Option Nat) (dstCap : Nat) (src : Bytes)
  | decode (pick : Option Nat) (dstCap : Nat) (src : Bytes)

structure StepRes (ω ρ : Type) where
  st : CState ω ρ
  out : Option Outcome    -- `…End` events return nothing
  evs : List Ev

def step {ω ρ} (C : Codec ω ρ) (s : CState ω ρ) : Call → StepRes ω ρ
  | .encBegin p dc src =>
    let r := encBegin C.W s.c p dc src
    ⟨{ s with c := r.pool }, some r.out, r.evs⟩
  | .encEnd k =>
    let r := encEnd C.W s.c k
    ⟨{ s with c := r.1 }, none, r.2⟩
  | .decBegin p dc src =>
    let r := decBegin C.R C.rev C.fuel s.d p dc src
    ⟨{ s with d := r.pool }, some r.out, r.evs⟩
  | .decEnd k =>
    let r := decEnd C.R C.rev s.d k
    ⟨{ s with d := r.1 }, none, r.2⟩
  | .encode p dc src =>
    let r := encBegin C.W s.c p dc src
    -- the deferred function runs iff `w` was assigned (no panic inside Get); 0 = the writer just consed
    if r.armed = false then ⟨{ s with c := r.pool }, some r.out, r.evs⟩ else
    let e := encEnd C.W r.pool 0
    ⟨{ s with c := e.1 }, some r.out, r.evs ++ e.2⟩
  | .decode p dc src =>
    let r := decBegin C.R C.rev C.fuel s.d p dc src
    -- no deferred function if Get failed; a call that hangs never reaches it; 0 = the reader just consed
    if r.armed = false ∨ r.out = .hang then ⟨{ s with d := r.pool }, some r.out, r.evs⟩ else
    let e := decEnd C.R C.rev r.pool 0
    ⟨{ s with d := e.1 }, some r.out, r.evs ++ e.2⟩

def run {ω ρ} (C : Codec ω ρ) (s : CState ω ρ) : List Call → CState ω ρ
  | [] => s
  | c :: cs => run C (step C s c).st cs

/-- outcomes and events of every call of a history (driver, witnesses) -/
def trace {ω ρ} (C : Codec ω ρ) (s : CState ω ρ) : List Call → List (Option Outcome × List Ev)
  | [] => []
  | c :: cs => let r := step C s c; (r.out, r.evs) :: trace C r.st cs

/-! ## Contracts of the third-party streams (ASSUMED) -/

/-- writer: the constructor succeeds; Reset gives a fresh writer; a fresh writer emits `enc x` -/
structure WriterContract {ω} (W : WriterImpl ω) (enc : Bytes → Bytes) : Prop where
  new_ok : ∃ s0, W.new = some s0
  reset_fresh : ∀ s s0, W.new = some s0 → W.reset s = s0
  fresh_encodes : ∀ s0 x, W.new = some s0 →
    (W.write s0 x).2.2 = true ∧ (W.close (W.write s0 x).1).2.2 = true ∧
    (W.write s0 x).2.1 ++ (W.close (W.write s0 x).1).2.1 = enc x

/-- reader, everything except Reset: a state determines the bytes still to deliver (`pending`)
and whether the stream then ends with io.EOF (`clean`); a Read delivers at most `len(p)` bytes,
and with `len(p) > 0` gets closer to the end (`steps`); a fresh reader on `enc x` delivers `x`
and ends cleanly; `enc x` is never empty. -/
structure ReaderBase {ρ} (R : ReaderImpl ρ) (enc : Bytes → Bytes) where
  pending : ρ → Bytes
  clean : ρ → Bool
  steps : ρ → Nat
  read_len : ∀ s n, (R.read s n).2.1.length ≤ n
  read_more : ∀ s n, (R.read s n).2.2 = .more →
    pending s = (R.read s n).2.1 ++ pending (R.read s n).1 ∧ clean (R.read s n).1 = clean s ∧
    (0 < n → steps (R.read s n).1 < steps s)
  read_eof : ∀ s n, (R.read s n).2.2 = .eof → pending s = (R.read s n).2.1 ∧ clean s = true
  read_fail : ∀ s n, (R.read s n).2.2 = .fail → clean s = false
  new_enc : ∀ x, ∃ s, R.new (enc x) = some s ∧ pending s = x ∧ clean s = true
  enc_nonempty : ∀ x, enc x ≠ []

/-- STRONG Reset contract (what compress.go relies on): after `Reset(src)` the reader is a fresh
reader on `src`, whatever it did before. -/
def StrongReset {ρ} (R : ReaderImpl ρ) : Prop := ∀ s src, R.reset s (some src) = R.new src

/-- WEAK Reset contract (what andybalholm/brotli v1.1.1 provides): Reset gives a fresh reader
only from `resettable` states; a reader that reached io.EOF is resettable, `Reset(nil)` keeps
that. Nothing is promised after a decode that ended in an error. -/
structure WeakReset {ρ} (R : ReaderImpl ρ) where
  resettable : ρ → Bool
  reset_fresh_of : ∀ s src, resettable s = true → R.reset s (some src) = R.new src
  reset_nil : ∀ s s', resettable s = true → R.reset s none = some s' → resettable s' = true
  eof_resettable : ∀ s n, (R.read s n).2.2 = .eof → resettable (R.read s n).1 = true

/-- `acc.length < cap` is the point: there is room to read into (what `decCap`'s 64 provides and
`readLoop_stuck` negates) -/
theorem readLoop_clean {ρ} {R : ReaderImpl ρ} {enc} (B : ReaderBase R enc) :
    ∀ (fuel : Nat) (s : ρ) (acc : Bytes) (cap : Nat),
      B.clean s = true → acc.length < cap → B.steps s < fuel →
      (readLoop R fuel s acc cap).fin = .eof ∧
      (readLoop R fuel s acc cap).acc = acc ++ B.pending s := by
  intro fuel s acc cap
  -- cases of `readLoop`: out of fuel, the reader claims too much, eof, fail, more
  fun_induction readLoop R fuel s acc cap
  · intro _ _ h; omega
  · rename_i h; intro _ _ _; exact absurd (B.read_len _ _) (Nat.not_le.mpr h)
  · rename_i hst; intro _ _ _; exact ⟨rfl, by rw [(B.read_eof _ _ hst).1]⟩
  · rename_i hst; intro hc; rw [B.read_fail _ _ hst] at hc; cases hc
  · rename_i fuel s acc cap n r e hn acc' hst rest ih
    intro hc hcap hf
    have hm : B.pending s = r.2.1 ++ B.pending r.1 ∧ B.clean r.1 = B.clean s ∧
        (0 < n → B.steps r.1 < B.steps s) := B.read_more s n hst
    have hlen : r.2.1.length ≤ n := B.read_len s n
    have hn' : n = cap - acc.length := rfl
    have := ih (by rw [hm.2.1]; exact hc)
      (by simp only [acc', List.length_append]; split <;> omega) (by have := hm.2.2 (by omega); omega)
    exact ⟨this.1, by rw [this.2, hm.1, List.append_assoc]⟩

theorem readLoop_eof_resettable {ρ} {R : ReaderImpl ρ} (K : WeakReset R) :
    ∀ (fuel : Nat) (s : ρ) (acc : Bytes) (cap : Nat),
      (readLoop R fuel s acc cap).fin = .eof → K.resettable (readLoop R fuel s acc cap).st = true := by
  intro fuel s acc cap
  fun_induction readLoop R fuel s acc cap
  · nofun
  · nofun
  · rename_i hst; intro _; exact K.eof_resettable _ _ hst  -- eof
  · nofun
  · rename_i ih; exact ih

/-! ## zstd (compress/zstd/zstd.go:56-91): pools without any reset -/

/-- third-party `zstd.Encoder.EncodeAll` / `zstd.Decoder.DecodeAll` on pooled objects -/
structure ZstdImpl (ε δ : Type) where
  newE : ε
  newD : δ
  encodeAll : ε → Bytes → ε × Bytes
  decodeAll : δ → Bytes → δ × Option Bytes   -- `none` = error

structure ZPool (ε δ : Type) where
  encs : List ε
  decs : List δ

/-- by POSITION, not by creation number as `take`: no event of a call tells zstd's objects apart -/
def pickIdx {σ} (l : List σ) (pick : Option Nat) : Option σ × List σ :=
  match pick with
  | none => (none, l)
  | some i => match l[i]? with
    | some s => (some s, l.eraseIdx i)
    | none => (none, l)

/-- MIRROR compress/zstd/zstd.go:56-74: `encoders.Get(new, func(e){})`, `defer Put`,
`EncodeAll(src, dst[:0])` (append to the empty prefix of dst: content independent of dst) -/
def zEncode {ε δ} (Z : ZstdImpl ε δ) (p : ZPool ε δ) (pick : Option Nat) (src : Bytes) :
    Bytes × ZPool ε δ :=
  let g := pickIdx p.encs pick
  let e := g.1.getD Z.newE
  let r := Z.encodeAll e src
  (r.2, { p with encs := r.1 :: g.2 })

/-- MIRROR compress/zstd/zstd.go:76-91: the decoder is put back whatever `DecodeAll` returned -/
def zDecode {ε δ} (Z : ZstdImpl ε δ) (p : ZPool ε δ) (pick : Option Nat) (src : Bytes) :
    Option Bytes × ZPool ε δ :=
  let g := pickIdx p.decs pick
  let d := g.1.getD Z.newD
  let r := Z.decodeAll d src
  (r.2, { p with decs := r.1 :: g.2 })

inductive ZCall
  | enc (pick : Option Nat) (src : Bytes)
  | dec (pick : Option Nat) (src : Bytes)

def zRun {ε δ} (Z : ZstdImpl ε δ) (p : ZPool ε δ) : List ZCall → ZPool ε δ
  | [] => p
  | .enc k src :: cs => zRun Z (zEncode Z p k src).2 cs
  | .dec k src :: cs => zRun Z (zDecode Z p k src).2 cs

/-- ASSUMED: `EncodeAll`/`DecodeAll` are self-contained whatever the objects did before
(there is no Reset in zstd.go to lean on) -/
def ZstdContract {ε δ} (Z : ZstdImpl ε δ) : Prop :=
  ∀ e d x, (Z.decodeAll d (Z.encodeAll e x).2).2 = some x

/-! ## lz4 (compress/lz4/lz4.go:58-94): grow and retry -/

/-- MIRROR compress/lz4/lz4.go:87-94 `reserveAtLeast`: resulting `len(b)` -/
def reserveAtLeast (cap n : Nat) : Nat := if cap < n then n else cap

inductive BlockErr
  | short       -- destination buffer too short
  | malformed   -- the source is not a valid block
  deriving DecidableEq

/-- third-party `lz4.UncompressBlock(src, dst)` with `len(dst) = n`.  The error kind is what
the decoder could know; pierrec/lz4 v4 reports a single `ErrInvalidSourceShortBuffer`, so the
MIRROR below never looks at it. -/
structure Lz4Impl where
  ub : Bytes → Nat → Except BlockErr Bytes

/-- MIRROR compress/lz4/lz4.go:64-84 (fixed, 6e9b6da) the `for` loop: on any error, give up once
`len(dst) > 255*len(src)+64` (`return dst[:0], err`), else retry with `2*len(dst)+64` bytes.
Result: `some out` / `none` = the error is returned, and the final `len(dst)`; outer `none` =
out of fuel. -/
def lz4Loop (L : Lz4Impl) (src : Bytes) : Nat → Nat → Option (Option Bytes × Nat)
  | 0, _ => none
  | fuel + 1, len =>
    match L.ub src len with
    | .ok out => some (some out, len)
    | .error _ =>
      if len > 255 * src.length + 64 then some (none, len)
      else lz4Loop L src fuel (2 * len + 64)

/-- MIRROR compress/lz4/lz4.go:58-85 `Codec.Decode`: `dst = reserveAtLeast(dst, 3*len(src))` -/
def lz4Decode (L : Lz4Impl) (fuel dstCap : Nat) (src : Bytes) : Option (Option Bytes × Nat) :=
  lz4Loop L src fuel (reserveAtLeast dstCap (3 * src.length))

/-- MIRROR of the loop BEFORE 6e9b6da: any error doubles `dst`, for ever.
Result: decoded bytes and the final `len(dst)`; `none` = out of fuel. -/
def lz4LoopBeforeFix (L : Lz4Impl) (src : Bytes) : Nat → Nat → Option (Bytes × Nat)
  | 0, _ => none
  | fuel + 1, len =>
    match L.ub src len with
    | .ok out => some (out, len)
    | .error _ => lz4LoopBeforeFix L src fuel (2 * len)

def lz4DecodeBeforeFix (L : Lz4Impl) (fuel dstCap : Nat) (src : Bytes) : Option (Bytes × Nat) :=
  lz4LoopBeforeFix L src fuel (reserveAtLeast dstCap (3 * src.length))

/-- ASSUMED about the block format: `enc x` decodes to `x` exactly when the destination has at
least `need x` bytes, and is otherwise reported as too short; a block expands at most 255 times
(`need x ≤ 255·len(enc x) + 65` is what the loop's give-up test relies on) -/
structure Lz4Contract (L : Lz4Impl) (enc : Bytes → Bytes) (need : Bytes → Nat) : Prop where
  fits : ∀ x n, need x ≤ n → L.ub (enc x) n = .ok x
  short : ∀ x n, n < need x → L.ub (enc x) n = .error .short
  ratio : ∀ x, need x ≤ 255 * (enc x).length + 65

/-- `len(dst)` after `j` retries -/
def lz4Len (len : Nat) : Nat → Nat
  | 0 => len
  | j + 1 => lz4Len (2 * len + 64) j

theorem grow_pow (len k : Nat) : (2 * len + 64 + 64) * 2 ^ k = (len + 64) * 2 ^ (k + 1) := by
  have : 2 * len + 64 + 64 = (len + 64) * 2 := by omega
  rw [this, Nat.pow_succ, Nat.mul_assoc, Nat.mul_comm 2 (2 ^ k)]

theorem lz4Len_eq (len j : Nat) : lz4Len len j + 64 = (len + 64) * 2 ^ j := by
  induction j generalizing len with
  | zero => simp [lz4Len]
  | succ j ih => rw [lz4Len, ih (2 * len + 64), grow_pow]

theorem lz4LoopBeforeFix_rejecting (L : Lz4Impl) (src : Bytes) (hbad : ∀ n, ∃ e, L.ub src n = .error e) :
    ∀ fuel len, lz4LoopBeforeFix L src fuel len = none := by
  intro fuel
  induction fuel with
  | zero => intro len; rfl
  | succ fuel ih =>
    intro len
    obtain ⟨e, he⟩ := hbad len
    rw [lz4LoopBeforeFix, he]; exact ih _

theorem lz4Loop_terminates (L : Lz4Impl) (src : Bytes) :
    ∀ (k len : Nat), 255 * src.length + 64 + 64 < (len + 64) * 2 ^ k →
      (lz4Loop L src (k + 1) len).isSome = true := by
  intro k
  induction k with
  | zero =>
    intro len h
    simp only [Nat.pow_zero, Nat.mul_one] at h
    rw [lz4Loop]
    split
    · rfl
    · rw [if_pos (by omega)]; rfl
  | succ k ih =>
    intro len h
    rw [lz4Loop]
    split
    · rfl
    · split
      · rfl
      · apply ih
        have := grow_pow len k
        omega

theorem lz4Loop_ok_sound (L : Lz4Impl) (src : Bytes) :
    ∀ (fuel len : Nat) (out : Bytes) (l : Nat),
      lz4Loop L src fuel len = some (some out, l) → L.ub src l = .ok out := by
  intro fuel len out l
  -- cases of `lz4Loop`: out of fuel, decoded, give up, retry
  fun_induction lz4Loop L src fuel len
  · nofun
  · rename_i ho; intro h; cases h; exact ho
  · nofun
  · rename_i ih; exact ih

theorem lz4Loop_valid_fuel {L enc need} (h : Lz4Contract L enc need) (x : Bytes) :
    ∀ (k len : Nat), need x + 64 ≤ (len + 64) * 2 ^ k →
      ∃ j, j ≤ k ∧ lz4Loop L (enc x) (k + 1) len = some (some x, lz4Len len j) ∧
        need x ≤ lz4Len len j ∧ (∀ i, i < j → lz4Len len i < need x) ∧
        lz4Loop L (enc x) j len = none := by
  intro k
  induction k with
  | zero =>
    intro len h1
    simp only [Nat.pow_zero, Nat.mul_one] at h1
    have hfit : need x ≤ len := by omega
    exact ⟨0, Nat.le_refl _, by simp [lz4Loop, lz4Len, h.fits x len hfit], by simpa [lz4Len] using hfit,
      fun i hi => by omega, rfl⟩
  | succ k ih =>
    intro len h1
    by_cases hfit : need x ≤ len
    · exact ⟨0, by omega, by simp [lz4Loop, lz4Len, h.fits x len hfit], by simpa [lz4Len] using hfit,
        fun i hi => by omega, rfl⟩
    · have e := grow_pow len k
      obtain ⟨j, hj, hr, hn, hlt, hnone⟩ := ih (2 * len + 64) (by omega)
      have hratio := h.ratio x
      have hgo : ¬ len > 255 * (enc x).length + 64 := by omega
      refine ⟨j + 1, by omega, ?_, by simpa [lz4Len] using hn, ?_, ?_⟩
      · rw [lz4Loop, h.short x len (by omega)]; simp only [hgo, ↓reduceIte]; rw [hr]; rfl
      · intro i hi
        cases i with
        | zero => simpa [lz4Len] using Nat.lt_of_not_le hfit
        | succ i => simpa [lz4Len] using hlt i (by omega)
      · rw [lz4Loop, h.short x len (by omega)]; simp only [hgo, ↓reduceIte]; exact hnone

/-! ## A concrete toy stream family (witnesses, non-vacuity, and the L2 instrumented stream)

Format: magic `0xA7`, then `01 b` for every byte `b`, then `00`.  The reader can be made
gzip-like (`headerInCtor`: constructor and Reset validate the magic and return an error) and
brotli-like (`keepStale`: input left over by "excessive input" survives Reset unless the last
error was a hard one; exactly andybalholm/brotli reader.go:33-46, which clears `r.in` only when
`error_code < 0`). Props/C20 writes `ToyCfg` by position: `⟨true, false, …⟩` is the gzip-like reader,
`⟨false, true, …⟩` the brotli-like one. -/

structure ToyCfg where
  headerInCtor : Bool
  keepStale : Bool
  nilFailsAfterHard : Bool   -- `Reset(nil)` returns an error after a hard decode error
  chunk : Nat                -- a Read delivers at most `chunk + 1` bytes
  eofWithData : Bool         -- the final status comes together with the last bytes
  failWriteOn : Option UInt8 -- writer: `Write` fails on a src starting with this byte
  failCloseOn : Option UInt8 -- writer: `Close` fails after a src starting with this byte

inductive ToyEnd
  | clean | truncated | hard | excess
  deriving DecidableEq

def toyMagic : UInt8 := 0xA7

def toyEnc (x : Bytes) : Bytes := toyMagic :: (x.flatMap (fun b => [1, b]) ++ [0])

/-- decoded bytes, how the stream ends, unconsumed input -/
def toyBody : Bytes → Bytes × ToyEnd × Bytes
  | [] => ([], .truncated, [])
  | t :: rest =>
    if t = 0 then (if rest = [] then ([], .clean, []) else ([], .excess, rest))
    else if t = 1 then
      match rest with
      | [] => ([], .truncated, [])
      | b :: rest' => let r := toyBody rest'; (b :: r.1, r.2.1, r.2.2)
    else ([], .hard, [])

structure ToyR where
  todo : Bytes
  fin : ToyEnd
  stale : Bytes
  deriving DecidableEq

def toyOpen (cfg : ToyCfg) : Bytes → Option ToyR
  | [] => if cfg.headerInCtor then none else some ⟨[], .truncated, []⟩
  | m :: body =>
    if m = toyMagic then let r := toyBody body; some ⟨r.1, r.2.1, r.2.2⟩
    else if cfg.headerInCtor then none else some ⟨[], .hard, []⟩

def toyCarry (cfg : ToyCfg) (s : ToyR) : Bytes :=
  if cfg.keepStale ∧ s.fin = .excess then s.stale else []

def toyReader (cfg : ToyCfg) : ReaderImpl ToyR where
  new := toyOpen cfg
  reset := fun s src? =>
    match src? with
    | some src => toyOpen cfg (toyCarry cfg s ++ src)
    | none =>
      if cfg.nilFailsAfterHard ∧ s.fin = .hard then none
      else some ⟨[], if toyCarry cfg s = [] then .clean else .excess, toyCarry cfg s⟩
  read := fun s n =>
    let k := min n (cfg.chunk + 1)
    if s.todo.length ≤ k ∧ (cfg.eofWithData = true ∨ s.todo = []) then
      (⟨[], s.fin, s.stale⟩, s.todo, if s.fin = .clean then .eof else .fail)
    else (⟨s.todo.drop k, s.fin, s.stale⟩, s.todo.take k, .more)

structure ToyW where
  first : Option UInt8

def toyWriter (cfg : ToyCfg) : WriterImpl ToyW where
  new := some ⟨none⟩
  reset := fun _ => ⟨none⟩
  write := fun _ src =>
    if src.head? ≠ none ∧ src.head? = cfg.failWriteOn then (⟨src.head?⟩, [toyMagic], false)
    else (⟨src.head?⟩, toyMagic :: src.flatMap (fun b => [1, b]), true)
  close := fun s =>
    if s.first ≠ none ∧ s.first = cfg.failCloseOn then (s, [], false) else (s, [0], true)

def toyCodec (cfg : ToyCfg) (rev : Rev) (fuel : Nat) : Codec ToyW ToyR :=
  ⟨toyWriter cfg, toyReader cfg, rev, fuel⟩

theorem toyBody_enc (x : Bytes) : toyBody (x.flatMap (fun b => [1, b]) ++ [0]) = (x, .clean, []) := by
  induction x with
  | nil => simp [toyBody]
  | cons b x ih =>
    simp only [List.flatMap_cons, List.cons_append, List.nil_append, toyBody]
    simp [ih]

theorem toyOpen_enc (cfg : ToyCfg) (x : Bytes) : toyOpen cfg (toyEnc x) = some ⟨x, .clean, []⟩ := by
  simp [toyOpen, toyEnc, toyBody_enc]

def toyBase (cfg : ToyCfg) : ReaderBase (toyReader cfg) toyEnc where
  pending := fun s => s.todo
  clean := fun s => decide (s.fin = .clean)
  steps := fun s => s.todo.length
  read_len := by
    intro s n
    simp only [toyReader]
    split
    · rename_i h; have := h.1; show s.todo.length ≤ n; omega
    · show (s.todo.take _).length ≤ n; simp only [List.length_take]; omega
  read_more := by
    intro s n
    simp only [toyReader]
    split
    · split <;> simp
    · rename_i h
      intro _
      refine ⟨by simp, rfl, ?_⟩
      intro hn
      simp only [List.length_drop]
      have : s.todo ≠ [] := by
        intro h0; apply h; simp [h0]
      have : 0 < s.todo.length := List.length_pos_iff.mpr this
      omega
  read_eof := by
    intro s n
    simp only [toyReader]
    split
    · split <;> simp_all
    · simp
  read_fail := by
    intro s n
    simp only [toyReader]
    split
    · split <;> simp_all
    · simp
  new_enc := by
    intro x
    exact ⟨⟨x, .clean, []⟩, toyOpen_enc cfg x, rfl, by simp⟩
  enc_nonempty := by intro x; simp [toyEnc]

theorem toyStrong (cfg : ToyCfg) (h : cfg.keepStale = false) : StrongReset (toyReader cfg) := by
  intro s src
  simp [toyReader, toyCarry, h]

theorem toyWriterContract (cfg : ToyCfg) (h1 : cfg.failWriteOn = none) (h2 : cfg.failCloseOn = none) :
    WriterContract (toyWriter cfg) toyEnc where
  new_ok := ⟨⟨none⟩, rfl⟩
  reset_fresh := by intro s s0 h; simp [toyWriter] at h; simp [toyWriter, h]
  fresh_encodes := by
    intro s0 x _
    simp [toyWriter, h1, h2, toyEnc]

def toyWeak (cfg : ToyCfg) : WeakReset (toyReader cfg) where
  resettable := fun s => decide (toyCarry cfg s = [])
  reset_fresh_of := by
    intro s src h
    simp only [decide_eq_true_eq] at h
    simp [toyReader, h]
  reset_nil := by
    intro s s' h
    simp only [decide_eq_true_eq] at h
    simp only [toyReader, h]
    split
    · simp
    · intro h'
      simp only [↓reduceIte, Option.some.injEq] at h'
      subst h'
      simp [toyCarry]
  eof_resettable := by
    intro s n
    simp only [toyReader]
    split
    · split
      · rename_i hc; intro _; simp [toyCarry, hc]
      · simp
    · simp

def toyLz4 : Lz4Impl where
  ub := fun src n =>
    match src with
    | [] => .ok []
    | t :: p =>
      if t = 0xFF then .error .malformed
      else if p.length ≤ n then .ok p else .error .short

def toyLz4Enc (x : Bytes) : Bytes := if x = [] then [] else 0 :: x

theorem toyLz4Contract : Lz4Contract toyLz4 toyLz4Enc (fun x => x.length) where
  fits := by
    intro x n h
    cases x with
    | nil => simp [toyLz4, toyLz4Enc]
    | cons b x => simp [toyLz4, toyLz4Enc]; simpa using h
  short := by
    intro x n h
    cases x with
    | nil => simp at h
    | cons b x => simp [toyLz4, toyLz4Enc]; simpa using h
  ratio := by
    intro x
    cases x with
    | nil => simp [toyLz4Enc]
    | cons b x => simp [toyLz4Enc]; omega

theorem take_some {σ} {idle : List (Item σ)} {pick it idle'} (h : take idle pick = (some it, idle')) :
    it ∈ idle ∧ ∀ j, j ∈ idle' → j ∈ idle := by
  unfold take at h
  split at h
  · simp at h
  · split at h
    · rename_i hf
      simp only [Prod.mk.injEq, Option.some.injEq] at h
      obtain ⟨rfl, rfl⟩ := h
      exact ⟨List.mem_of_find?_eq_some hf, fun j hj => (List.mem_filter.mp hj).1⟩
    · simp at h

theorem take_none {σ} {idle : List (Item σ)} {pick idle'} (h : take idle pick = (none, idle')) :
    idle' = idle := by
  unfold take at h
  split at h
  · simp at h; exact h.symm
  · split at h
    · simp at h
    · simp at h; exact h.symm

theorem takeW_some {ω} {idle : List (WItem ω)} {pick it idle'} (h : takeW idle pick = (some it, idle')) :
    it ∈ idle ∧ ∀ j, j ∈ idle' → j ∈ idle := by
  unfold takeW at h
  split at h
  · simp at h
  · split at h
    · rename_i hf
      simp only [Prod.mk.injEq, Option.some.injEq] at h
      obtain ⟨rfl, rfl⟩ := h
      exact ⟨List.mem_of_find?_eq_some hf, fun j hj => (List.mem_filter.mp hj).1⟩
    · simp at h

theorem writeClose_fresh {ω} {W : WriterImpl ω} {enc} (h : WriterContract W enc) (s0 : ω)
    (h0 : W.new = some s0) (x : Bytes) : (writeClose W s0 x).2.1 = .ok (enc x) := by
  have := h.fresh_encodes s0 x h0
  simp [writeClose, this.1, this.2.1, this.2.2]

theorem encBegin_ok {ω} {W : WriterImpl ω} {enc} (h : WriterContract W enc) (c : CPool ω)
    (pick : Option Nat) (dc : Nat) (x : Bytes) : (encBegin W c pick dc x).out = .ok (enc x) := by
  obtain ⟨s0, h0⟩ := h.new_ok
  unfold encBegin
  split
  · simp only [h0]; exact writeClose_fresh h s0 h0 x
  · rename_i it idle _
    simp only [h.reset_fresh it.st s0 h0]; exact writeClose_fresh h s0 h0 x

/-- the shape (whole call or in flight) the statements of Props/C20 quantify over -/
theorem step_enc_out {ω ρ} (C : Codec ω ρ) (s : CState ω ρ) (whole : Bool) (p : Option Nat) (dc : Nat)
    (src : Bytes) :
    (step C s (if whole then .encode p dc src else .encBegin p dc src)).out =
      some (encBegin C.W s.c p dc src).out := by
  cases whole
  · rfl
  · simp only [step, ↓reduceIte]; split <;> rfl

theorem step_dec_out {ω ρ} (C : Codec ω ρ) (s : CState ω ρ) (whole : Bool) (p : Option Nat) (dc : Nat)
    (src : Bytes) :
    (step C s (if whole then .decode p dc src else .decBegin p dc src)).out =
      some (decBegin C.R C.rev C.fuel s.d p dc src).out := by
  cases whole
  · rfl
  · simp only [step, ↓reduceIte]; split <;> rfl

theorem decCap_pos {enc : Bytes → Bytes} (hne : ∀ x, enc x ≠ []) (rev : Rev) (dc : Nat) (x : Bytes) :
    0 < decCap rev dc (enc x) := by
  have : 0 < (enc x).length := List.length_pos_iff.mpr (hne x)
  unfold decCap
  split
  · split <;> omega
  · omega

/-- invariant of the pool under the weak contract: idle readers, and owned readers whose decode
returned no error, are resettable -/
def DInv {ρ} {R : ReaderImpl ρ} (K : WeakReset R) (d : DPool ρ) : Prop :=
  (∀ it, it ∈ d.idle → K.resettable it.st = true) ∧
  (∀ p, p ∈ d.busy → p.2 = true → K.resettable p.1.st = true)

/-- history independence of `Decode`, for EVERY `src`: the pooled branch is the fresh one once
`Reset(src)` is known to give `new src` -/
theorem decBegin_out_fresh {ρ} {R : ReaderImpl ρ} (K : WeakReset R) (rev : Rev) (fuel : Nat)
    (d : DPool ρ) (hd : DInv K d) (pick : Option Nat) (dc : Nat) (src : Bytes) :
    (decBegin R rev fuel d pick dc src).out = (decBegin R rev fuel ⟨[], [], 0⟩ none dc src).out := by
  unfold decBegin
  split
  · simp only [take]; cases R.new src <;> rfl
  · rename_i it idle ht
    rw [K.reset_fresh_of it.st src (hd.1 it (take_some ht).1)]
    simp only [take]; cases R.new src <;> rfl

theorem decBegin_fresh_ok {ρ} {R : ReaderImpl ρ} {enc} (B : ReaderBase R enc)
    (rev : Rev) (fuel : Nat) (x : Bytes) (hf : ∀ s0, R.new (enc x) = some s0 → B.steps s0 < fuel) (dc : Nat) :
    (decBegin R rev fuel ⟨[], [], 0⟩ none dc (enc x)).out = .ok x := by
  obtain ⟨s0, h0, hp, hc⟩ := B.new_enc x
  have hl := readLoop_clean B fuel s0 [] (decCap rev dc (enc x)) hc
    (by simpa using decCap_pos B.enc_nonempty rev dc x) (hf s0 h0)
  simp only [decBegin, take, h0, hl.1, hl.2, hp, loopOutcome, List.nil_append]

def strongWeak {ρ} {R : ReaderImpl ρ} (hS : StrongReset R) : WeakReset R :=
  ⟨fun _ => true, fun s src _ => hS s src, fun _ _ _ _ => rfl, fun _ _ _ => rfl⟩

theorem readLoop_no_oob {ρ} (R : ReaderImpl ρ) (hlen : ∀ s n, (R.read s n).2.1.length ≤ n) :
    ∀ (fuel : Nat) (s : ρ) (acc : Bytes) (cap : Nat), (readLoop R fuel s acc cap).fin ≠ .oob := by
  intro fuel s acc cap
  fun_induction readLoop R fuel s acc cap
  · nofun
  · rename_i h; exact absurd (hlen _ _) (Nat.not_le.mpr h)  -- the reader claims too much
  · nofun
  · nofun
  · rename_i ih; exact ih

theorem decBegin_inv {ρ} {R : ReaderImpl ρ} (K : WeakReset R)
    (hlen : ∀ s n, (R.read s n).2.1.length ≤ n) (rev : Rev) (fuel : Nat) (d : DPool ρ)
    (hd : DInv K d) (pick : Option Nat) (dc : Nat) (src : Bytes) :
    DInv K (decBegin R rev fuel d pick dc src).pool := by
  have key : ∀ (s : ρ) (cap : Nat),
      decide ((readLoop R fuel s [] cap).fin = .eof ∨ (readLoop R fuel s [] cap).fin = .oob) = true →
      K.resettable (readLoop R fuel s [] cap).st = true := by
    intro s cap ht
    simp only [decide_eq_true_eq] at ht
    rcases ht with ht | ht
    · exact readLoop_eof_resettable K _ _ _ _ ht
    · exact absurd ht (readLoop_no_oob R hlen _ _ _ _)
  unfold decBegin
  split
  · split
    · exact hd
    · exact ⟨hd.1, List.forall_mem_cons.mpr ⟨key _ _, hd.2⟩⟩
  · rename_i it idle htk
    have hsub := (take_some htk).2
    split
    · exact ⟨fun j hj => hd.1 j (hsub j hj), hd.2⟩
    · exact ⟨fun j hj => hd.1 j (hsub j hj), List.forall_mem_cons.mpr ⟨key _ _, hd.2⟩⟩

theorem decEnd_inv {ρ} {R : ReaderImpl ρ} (K : WeakReset R) (d : DPool ρ) (hd : DInv K d) (k : Nat) :
    DInv K (decEnd R .fixed d k).1 := by
  unfold decEnd
  split
  · exact hd
  · rename_i it errNil hk
    have hmem : (it, errNil) ∈ d.busy := List.mem_of_getElem? hk
    have hb : ∀ p, p ∈ d.busy.eraseIdx k → p ∈ d.busy := fun p hp => List.mem_of_mem_eraseIdx hp
    split
    · exact ⟨hd.1, fun p hp => hd.2 p (hb p hp)⟩
    · rename_i hne
      have hsucc : errNil = true := by
        cases errNil
        · exact absurd ⟨rfl, rfl⟩ hne
        · rfl
      split
      · exact ⟨hd.1, fun p hp => hd.2 p (hb p hp)⟩
      · rename_i s hs
        exact ⟨List.forall_mem_cons.mpr ⟨K.reset_nil it.st s (hd.2 _ hmem hsucc) hs, hd.1⟩,
          fun p hp => hd.2 p (hb p hp)⟩

theorem step_inv {ω ρ} (C : Codec ω ρ) (hp : C.rev = .fixed) (K : WeakReset C.R)
    (hlen : ∀ s n, (C.R.read s n).2.1.length ≤ n)
    (s : CState ω ρ) (hd : DInv K s.d) (c : Call) : DInv K (step C s c).st.d := by
  cases c with
  | encBegin p dc src => exact hd
  | encEnd k => exact hd
  | decBegin p dc src => exact decBegin_inv K hlen C.rev C.fuel s.d hd p dc src
  | decEnd k => simp only [step, hp]; exact decEnd_inv K s.d hd k
  | encode p dc src => simp only [step]; split <;> exact hd
  | decode p dc src =>
    simp only [step, hp]
    split
    · exact decBegin_inv K hlen .fixed C.fuel s.d hd p dc src
    · exact decEnd_inv K _ (decBegin_inv K hlen .fixed C.fuel s.d hd p dc src) 0

theorem run_inv {ω ρ} (C : Codec ω ρ) (hp : C.rev = .fixed) (K : WeakReset C.R)
    (hlen : ∀ s n, (C.R.read s n).2.1.length ≤ n)
    (h : List Call) : ∀ (s : CState ω ρ), DInv K s.d → DInv K (run C s h).d := by
  induction h with
  | nil => intro s hd; exact hd
  | cons c cs ih => intro s hd; exact ih _ (step_inv C hp K hlen s hd c)

theorem loopOutcome_ne_panic {f : LoopEnd} (h : f ≠ .oob) (acc : Bytes) :
    loopOutcome f acc ≠ .panic := by
  cases f <;> simp_all [loopOutcome]

/-- the revision before 4d91384 with `cap(dst) = 0` and `len(src) = 0`: the buffer has capacity
`2*len(src) = 0`, "full" means `0 = 0`, the replacement has capacity `2*0`: a reader that still
has something to deliver is asked for 0 bytes for ever -/
theorem readLoop_stuck {ρ} (R : ReaderImpl ρ) (s : ρ) (h : R.read s 0 = (s, [], .more)) :
    ∀ fuel, (readLoop R fuel s [] 0).fin = .hang := by
  intro fuel
  induction fuel with
  | zero => rfl
  | succ fuel ih => simp [readLoop, h, ih]

/-- idle writers hold neither the caller's `dst` nor a sink other than io.Discard -/
def CInv {ω} (c : CPool ω) : Prop := ∀ it, it ∈ c.idle → it.sink = .detached

theorem encBegin_cinv {ω} (W : WriterImpl ω) (c : CPool ω) (hc : CInv c) (p : Option Nat) (dc : Nat)
    (src : Bytes) : CInv (encBegin W c p dc src).pool := by
  unfold encBegin
  split
  · split <;> exact hc
  · rename_i it idle htk
    exact fun j hj => hc j ((takeW_some htk).2 j hj)

theorem encEnd_cinv {ω} (W : WriterImpl ω) (c : CPool ω) (hc : CInv c) (k : Nat) :
    CInv (encEnd W c k).1 := by
  unfold encEnd
  split
  · exact hc
  · exact List.forall_mem_cons.mpr ⟨rfl, hc⟩

theorem step_cinv {ω ρ} (C : Codec ω ρ) (s : CState ω ρ) (hc : CInv s.c) (c : Call) :
    CInv (step C s c).st.c := by
  cases c with
  | encBegin p dc src => exact encBegin_cinv C.W s.c hc p dc src
  | encEnd k => exact encEnd_cinv C.W s.c hc k
  | decBegin p dc src => exact hc
  | decEnd k => exact hc
  | encode p dc src =>
    simp only [step]
    split
    · exact encBegin_cinv C.W s.c hc p dc src
    · exact encEnd_cinv C.W _ (encBegin_cinv C.W s.c hc p dc src) 0
  | decode p dc src => simp only [step]; split <;> exact hc

theorem run_cinv {ω ρ} (C : Codec ω ρ) (h : List Call) :
    ∀ (s : CState ω ρ), CInv s.c → CInv (run C s h).c := by
  induction h with
  | nil => intro s hc; exact hc
  | cons c cs ih => intro s hc; exact ih _ (step_cinv C s hc c)

end PqModel.Codec
