import PqModel.Layout

/-! # C11 — the byte splice of the verbatim copy path

MIRROR of `loadCopiedChunk` (writer_copy.go:458-540: byte ranges of the dictionary and data
pages, page locations made relative to the data region, counts and sizes carried over) and of the
`c.copied != nil` branches of `writeRowGroup` (writer.go:1574-1598: dictionary page offset, data
page offset, page locations re-absolutized, bytes streamed; writer.go:1640-1670: bloom filter
section streamed after the chunks), on top of the accounting model of the direct writer
(`PqModel.Layout`: `chunkMeta`, `specLocs`, `layout_wf`, `rowGroupMetas`).

SPEC: `chunkMeta dst ps` / `layout_wf` / `offsets_wf` (what metadata describing pages `ps` laid out
at `dst` looks like) and plain list slicing for the bytes. -/
namespace PqModel.Splice
open PqModel.Layout

/-- page location relative to the data region; Go subtracts in int64, so the offset is an `Int` -/
structure RelLoc where
  offset : Int
  size : Nat
  firstRow : Nat
deriving Repr, DecidableEq

/-- `copiedChunk` (writer_copy.go:42-59), the fields the splice uses -/
structure Copied where
  dictOffset : Nat
  dictLength : Nat
  dataOffset : Nat
  dataLength : Nat
  locs : List RelLoc
  numValues : Nat
  numRows : Nat
  totalCompressed : Nat
  totalUncompressed : Nat
deriving Repr, DecidableEq

/-- writer_copy.go:458-540 `loadCopiedChunk`. `DictionaryPageOffset != 0` is `dictOffset = some _`
    (no page of a Parquet file starts at offset 0: the magic is there). `none` = the
    "invalid source column chunk layout" error. -/
def loadCopied (m : ChunkMeta) : Option Copied :=
  let rel := m.locs.map fun l => (⟨(l.offset : Int) - m.dataOffset, l.size, l.firstRow⟩ : RelLoc)
  match m.dictOffset with
  | none =>
    some { dictOffset := 0, dictLength := 0, dataOffset := m.dataOffset, dataLength := m.totalCompressed,
           locs := rel, numValues := m.numValues, numRows := m.numRows,
           totalCompressed := m.totalCompressed, totalUncompressed := m.totalUncompressed }
  | some d =>
    let dictLength : Int := (m.dataOffset : Int) - d
    if dictLength < 0 ∨ dictLength > m.totalCompressed then none
    else
      some { dictOffset := d, dictLength := dictLength.toNat, dataOffset := m.dataOffset,
             dataLength := m.totalCompressed - dictLength.toNat,
             locs := rel, numValues := m.numValues, numRows := m.numRows,
             totalCompressed := m.totalCompressed, totalUncompressed := m.totalUncompressed }

/-- writer.go:1574-1598: the metadata of a copied chunk written at file offset `off`, and the file
    offset after its bytes -/
def writeCopied (off : Nat) (c : Copied) : ChunkMeta × Nat :=
  let dictOffset := if c.dictLength > 0 then some off else none
  let off1 := if c.dictLength > 0 then off + c.dictLength else off
  let locs := c.locs.map fun l => (⟨((l.offset + off1 : Int)).toNat, l.size, l.firstRow⟩ : PageLoc)
  let off2 := if c.dataLength > 0 then off1 + c.dataLength else off1
  ({ dictOffset := dictOffset, dataOffset := off1, totalCompressed := c.totalCompressed,
     totalUncompressed := c.totalUncompressed, numValues := c.numValues, numRows := c.numRows,
     locs := locs }, off2)

/-- the splice of one chunk: source metadata in, destination metadata out -/
def spliceChunk (src : ChunkMeta) (dstStart : Nat) : Option ChunkMeta :=
  (loadCopied src).map fun c => (writeCopied dstStart c).1

/-- the bytes streamed into the output for one copied chunk (writer.go:1583,1595:
    `io.NewSectionReader(cc.reader, off, len)`) -/
def copiedBytes {β : Type} (file : List β) (c : Copied) : List β :=
  (if c.dictLength > 0 then (file.drop c.dictOffset).take c.dictLength else []) ++
  (if c.dataLength > 0 then (file.drop c.dataOffset).take c.dataLength else [])

theorem foldl_record_dict_le (ps : List PageOp) (a : Acc) (h : a.dictSize ≤ a.totalCompressed) :
    (ps.foldl record a).dictSize ≤ (ps.foldl record a).totalCompressed :=
  List.foldlRecOn ps record (motive := fun a => a.dictSize ≤ a.totalCompressed) h fun a ha p _ => by
    by_cases hd : p.isDict = true
    · simp [record, hd]
    · have hd' : p.isDict = false := by simpa using hd
      simp only [record, hd', Bool.false_eq_true, if_false]
      omega

theorem recordAll_dict_le (ps : List PageOp) : (recordAll ps).dictSize ≤ (recordAll ps).totalCompressed :=
  foldl_record_dict_le ps {} (Nat.le_refl _)

/-- on what `finishChunk` writes the layout error of `loadCopiedChunk` cannot occur -/
theorem loadCopied_finishChunk (srcStart : Nat) (a : Acc) (h : a.dictSize ≤ a.totalCompressed) :
    loadCopied (finishChunk srcStart a) = some
      { dictOffset := if a.dictSize > 0 then srcStart else 0, dictLength := a.dictSize,
        dataOffset := srcStart + a.dictSize, dataLength := a.totalCompressed - a.dictSize,
        locs := a.locs.reverse.map fun l => ⟨(l.offset : Int) - a.dictSize, l.size, l.firstRow⟩,
        numValues := a.numValues, numRows := a.numRows,
        totalCompressed := a.totalCompressed, totalUncompressed := a.totalUncompressed } := by
  have hl : ∀ l : PageLoc, (((srcStart + l.offset : Nat) : Int) - ((srcStart + a.dictSize : Nat) : Int)) = (l.offset : Int) - a.dictSize :=
    fun l => by omega
  by_cases hd : a.dictSize > 0
  · have e : ((srcStart + a.dictSize : Nat) : Int) - (srcStart : Nat) = (a.dictSize : Int) := by omega
    have hcond : ¬((a.dictSize : Int) < 0 ∨ (a.dictSize : Int) > (a.totalCompressed : Int)) := by omega
    simp only [loadCopied, finishChunk, hd, if_true, e, hcond, if_false, Int.toNat_natCast, List.map_map, Function.comp_def, hl]
  · have hd0 : a.dictSize = 0 := by omega
    rw [hd0] at hl
    simp only [loadCopied, finishChunk, hd0, Nat.lt_irrefl, if_false, List.map_map, Function.comp_def, Nat.add_zero, Nat.sub_zero]
    simp only [Nat.add_zero] at hl
    simp only [hl]

theorem ite_pos_add (d s : Nat) : (if d > 0 then s + d else s) = s + d := by
  split
  · rfl
  · next hd => rw [Nat.eq_zero_of_not_pos hd]; rfl

theorem splice_finish (srcStart dstStart : Nat) (a : Acc) (h : a.dictSize ≤ a.totalCompressed) :
    ∃ c, loadCopied (finishChunk srcStart a) = some c ∧
      writeCopied dstStart c = (finishChunk dstStart a, dstStart + a.totalCompressed) := by
  have h2 : dstStart + a.dictSize + (a.totalCompressed - a.dictSize) = dstStart + a.totalCompressed := by
    rw [Nat.add_assoc, Nat.add_sub_cancel' h]
  have h3 : ∀ l : PageLoc, ((l.offset : Int) - a.dictSize + ((dstStart + a.dictSize : Nat) : Int)).toNat = dstStart + l.offset :=
    fun l => by omega
  refine ⟨_, loadCopied_finishChunk srcStart a h, ?_⟩
  simp only [writeCopied, finishChunk, ite_pos_add, h3, List.map_map, Function.comp_def]
  rw [h2]

theorem splice_chunk (srcStart dstStart : Nat) (ps : List PageOp) :
    ∃ c, loadCopied (chunkMeta srcStart ps) = some c ∧
      writeCopied dstStart c = (chunkMeta dstStart ps, dstStart + totalSize ps) := by
  rw [← (layout_wf dstStart ps).2.1]
  exact splice_finish srcStart dstStart (recordAll ps) (recordAll_dict_le ps)

theorem splice_wf (srcStart dstStart : Nat) (ps : List PageOp) :
    spliceChunk (chunkMeta srcStart ps) dstStart = some (chunkMeta dstStart ps) := by
  obtain ⟨c, hc, hw⟩ := splice_chunk srcStart dstStart ps
  rw [spliceChunk, hc, Option.map_some, hw]

theorem splice_advances (srcStart dstStart : Nat) (ps : List PageOp) :
    (loadCopied (chunkMeta srcStart ps)).map (fun c => (writeCopied dstStart c).2) =
      some (dstStart + totalSize ps) := by
  obtain ⟨c, hc, hw⟩ := splice_chunk srcStart dstStart ps
  rw [hc, Option.map_some, hw]

theorem splice_locs (srcStart dstStart : Nat) (ps : List PageOp) :
    (spliceChunk (chunkMeta srcStart ps) dstStart).map (·.locs) = some (specLocs dstStart 0 ps) := by
  rw [splice_wf, Option.map_some, (layout_wf dstStart ps).1]

theorem take_drop_add {β : Type} (l : List β) (a n m : Nat) :
    (l.drop a).take n ++ (l.drop (a + n)).take m = (l.drop a).take (n + m) := by
  rw [List.take_add, List.drop_drop]

theorem copiedBytes_finishChunk {β : Type} (file : List β) (srcStart : Nat) (a : Acc) (h : a.dictSize ≤ a.totalCompressed) :
    (loadCopied (finishChunk srcStart a)).map (copiedBytes file) =
      some ((file.drop srcStart).take a.totalCompressed) := by
  have h0 : ∀ (n : Nat) (l : List β), (if n > 0 then l.take n else []) = l.take n := by
    intro n l; split
    · rfl
    · rw [Nat.eq_zero_of_not_pos ‹¬ n > 0›]; rfl
  have h1 : (file.drop (if a.dictSize > 0 then srcStart else 0)).take a.dictSize = (file.drop srcStart).take a.dictSize := by
    split
    · rfl
    · rw [Nat.eq_zero_of_not_pos ‹¬ a.dictSize > 0›]; rfl
  rw [loadCopied_finishChunk srcStart a h]
  simp only [Option.map_some, copiedBytes, h0, h1, take_drop_add]
  rw [Nat.add_sub_cancel' h]

theorem copied_bytes {β : Type} (file : List β) (srcStart : Nat) (ps : List PageOp) :
    (loadCopied (chunkMeta srcStart ps)).map (copiedBytes file) =
      some ((file.drop srcStart).take (totalSize ps)) := by
  rw [← (layout_wf srcStart ps).2.1]
  exact copiedBytes_finishChunk file srcStart (recordAll ps) (recordAll_dict_le ps)

theorem page_bytes_preserved {β : Type} (file pre post : List β) (srcStart total k z : Nat)
    (hk : k + z ≤ total) (hlen : srcStart + total ≤ file.length) :
    (((pre ++ (file.drop srcStart).take total ++ post).drop (pre.length + k)).take z) =
      ((file.drop (srcStart + k)).take z) := by
  have hseg : ((file.drop srcStart).take total).length = total := by
    rw [List.length_take, List.length_drop]; omega
  have hz : z ≤ (((file.drop srcStart).take total).drop k).length := by
    rw [List.length_drop, hseg]; omega
  rw [List.append_assoc, List.drop_length_add_append, List.drop_append_of_le_length (by omega),
    List.take_append_of_le_length hz, List.drop_take, List.drop_drop, List.take_take,
    Nat.min_eq_left (by omega)]

/-- a column of an output row group: written from buffered pages, or spliced from a source chunk -/
inductive ChunkIn where
  | written (ps : List PageOp)
  | copied (src : ChunkMeta)

/-- writer.go:1573-1638: the loop over the columns, with the running file offset -/
def rowGroupMetasMixed (start : Nat) : List ChunkIn → Option (List ChunkMeta)
  | [] => some []
  | .written ps :: cs =>
    let m := chunkMeta start ps
    (rowGroupMetasMixed (start + m.totalCompressed) cs).map (m :: ·)
  | .copied src :: cs =>
    match loadCopied src with
    | none => none
    | some c =>
      let r := writeCopied start c
      (rowGroupMetasMixed r.2 cs).map (r.1 :: ·)

/-- the pages a column holds, and where a copied column's pages sit in its source -/
def Describes : ChunkIn → List PageOp → Prop
  | .written ps, qs => ps = qs
  | .copied src, qs => ∃ srcStart, src = chunkMeta srcStart qs

theorem rowGroup_wf_mixed (start : Nat) (cs : List ChunkIn) (pss : List (List PageOp))
    (hl : cs.length = pss.length)
    (hd : ∀ i (h : i < cs.length) (h' : i < pss.length), Describes cs[i] pss[i]) :
    rowGroupMetasMixed start cs = some (rowGroupMetas start pss) := by
  induction cs generalizing start pss with
  | nil =>
    cases pss with
    | nil => rfl
    | cons _ _ => simp at hl
  | cons c cs ih =>
    cases pss with
    | nil => simp at hl
    | cons ps pss =>
      have h0 := hd 0 (by simp) (by simp)
      have hl' : cs.length = pss.length := by simpa using hl
      have hd' : ∀ i (h : i < cs.length) (h' : i < pss.length), Describes cs[i] pss[i] := by
        intro i h h'
        have := hd (i + 1) (by simp; omega) (by simp; omega)
        simpa using this
      cases c with
      | written qs =>
        simp only [List.getElem_cons_zero, Describes] at h0
        subst h0
        simp only [rowGroupMetasMixed, rowGroupMetas]
        rw [ih _ pss hl' hd']
        rfl
      | copied src =>
        simp only [List.getElem_cons_zero, Describes] at h0
        obtain ⟨srcStart, rfl⟩ := h0
        obtain ⟨cc, hlc, hs⟩ := splice_chunk srcStart start ps
        simp only [rowGroupMetasMixed, rowGroupMetas, hlc, hs]
        rw [ih _ pss hl' hd', (layout_wf start ps).2.1]
        rfl

/-- writer.go:1664-1742: after the chunks of a row group, the bloom filter sections (copied as raw byte ranges, or
    written) follow back to back; `lens[i] = 0` = column without filter. Returns (offset, length) of
    every column's section and the final file offset. -/
def placeBlooms (off : Nat) : List Nat → List (Option (Nat × Nat)) × Nat
  | [] => ([], off)
  | 0 :: ls => let r := placeBlooms off ls; (none :: r.1, r.2)
  | (n + 1) :: ls => let r := placeBlooms (off + (n + 1)) ls; (some (off, n + 1) :: r.1, r.2)

theorem placeBlooms_cons (off l : Nat) (ls : List Nat) :
    placeBlooms off (l :: ls) =
      ((if l = 0 then none else some (off, l)) :: (placeBlooms (off + l) ls).1, (placeBlooms (off + l) ls).2) := by
  cases l <;> rfl

theorem placeBlooms_wf : ∀ (off : Nat) (lens : List Nat),
    (placeBlooms off lens).2 = off + lens.sum ∧
    ∀ i (h : i < lens.length), ((placeBlooms off lens).1)[i]? =
      some (if lens[i] = 0 then none else some (off + (lens.take i).sum, lens[i])) := by
  intro off lens
  induction lens generalizing off with
  | nil => simp [placeBlooms]
  | cons l ls ih =>
    rw [placeBlooms_cons]
    refine ⟨by rw [(ih _).1, List.sum_cons, Nat.add_assoc], ?_⟩
    intro i h
    cases i with
    | zero => simp
    | succ j =>
      simp only [List.getElem?_cons_succ, (ih _).2 j (by simpa using h), List.getElem_cons_succ, List.take_succ_cons,
        List.sum_cons, Nat.add_assoc]

-- a run: dictionary page + two data pages written at 4 in the source, spliced to 1000
example : spliceChunk (chunkMeta 4 [⟨true, 10, 20, 25, 3, 0⟩, ⟨false, 12, 30, 40, 5, 5⟩, ⟨false, 11, 7, 9, 2, 2⟩]) 1000 =
    some { dictOffset := some 1000, dataOffset := 1030, totalCompressed := 90, totalUncompressed := 107,
           numValues := 7, numRows := 7, locs := [⟨1030, 42, 0⟩, ⟨1072, 18, 5⟩] } := by decide +kernel

-- malformed source (data page offset before the dictionary page): the Go error
example : loadCopied { dictOffset := some 50, dataOffset := 40, totalCompressed := 90, totalUncompressed := 0,
                       numValues := 0, numRows := 0, locs := [] } = none := by decide +kernel

end PqModel.Splice
