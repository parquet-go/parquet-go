import PqModel.WriteOwn
import PqModel.Basics

/-! # Frame lemmas for `PqModel.WriteOwn`: each mirror is `Safe` when its inner writer is

A mirror is a sequence of stores into unprotected arrays, allocations and inner calls: each is an
`Ext`, and `Ext` composes. -/
namespace PqModel.WriteOwn

variable {pv pr : Nat → Bool} {st st' st1 st2 : St} {m m' m0 m1 m2 : Mem} {rm rm' rm0 rm1 rm2 : RMem}

theorem Good.ext (hg : Good pv pr st m rm) : Ext pv pr m rm st m rm :=
  ⟨Keeps.refl _ _, KeepsR.refl _ _, hg⟩

theorem Ext.trans (h1 : Ext pv pr m rm st1 m1 rm1)
    (h2 : Ext pv pr m1 rm1 st2 m2 rm2) : Ext pv pr m rm st2 m2 rm2 :=
  ⟨h1.k.trans h2.k, h1.kr.trans h2.kr, h2.good⟩

theorem Good.step (hg : Good pv pr st m rm) (hk : Keeps pv m m')
    (hkr : KeepsR pr rm rm') (hs : SlotsOk pv rm') : Ext pv pr m rm st m' rm' :=
  ⟨hk, hkr, hg.own.mono hkr, hs, hg.bm.mono hk, hg.br.mono hkr⟩

theorem Ext.set (he : Ext pv pr m rm st' m' rm') (id : Nat)
    {ns : NodeSt} (hn : NodeOwn pv pr rm' ns) : Ext pv pr m rm (st'.set id ns) m' rm' :=
  ⟨he.k, he.kr, he.good.own.set id hn, he.good.slots, he.good.bm, he.good.br⟩

theorem mem_writeAt {α : Type} {l xs : List α} {i : Nat} {x : α} (h : x ∈ writeAt l i xs) : x ∈ l ∨ x ∈ xs := by
  unfold writeAt at h
  simp only [List.mem_append] at h
  rcases h with (h | h) | h
  · exact Or.inl (List.mem_of_mem_take h)
  · exact Or.inr h
  · exact Or.inl (List.mem_of_mem_drop h)

theorem tagOf_storeR (rm : RMem) (a i : Nat) (hs : List Hdr) (b : Nat) : tagOf (storeR rm a i hs) b = tagOf rm b := by
  unfold storeR
  by_cases hab : a = b
  · subst hab
    by_cases hlt : a < rm.length
    · simp [tagOf, List.getD_eq_getElem?_getD, List.getElem?_set_self hlt]
    · rw [List.set_eq_of_length_le (Nat.le_of_not_lt hlt)]
  · simp [tagOf, List.getD_eq_getElem?_getD, List.getElem?_set_ne hab]

theorem cellsOf_storeR_ne (rm : RMem) (a i : Nat) (hs : List Hdr) {b : Nat} (hab : a ≠ b) :
    cellsOf (storeR rm a i hs) b = cellsOf rm b := by
  simp [storeR, cellsOf, List.getD_eq_getElem?_getD, List.getElem?_set_ne hab]

theorem mem_cellsOf_storeR {a i : Nat} {hs : List Hdr} {x : Hdr}
    (h : x ∈ cellsOf (storeR rm a i hs) a) : x ∈ cellsOf rm a ∨ x ∈ hs := by
  by_cases hlt : a < rm.length
  · have : cellsOf (storeR rm a i hs) a = writeAt (cellsOf rm a) i hs := by
      simp [storeR, cellsOf, List.getD_eq_getElem?_getD, List.getElem?_set_self hlt]
    exact mem_writeAt (this ▸ h)
  · have : storeR rm a i hs = rm := List.set_eq_of_length_le (Nat.le_of_not_lt hlt)
    exact Or.inl (this ▸ h)

theorem storeR_keeps (rm : RMem) (a i : Nat) (hs : List Hdr) (ha : pr a = false) :
    KeepsR pr rm (storeR rm a i hs) := by
  refine ⟨by simp [storeR], fun b _ => tagOf_storeR rm a i hs b, fun x hx => ?_⟩
  have hne : a ≠ x := by intro e; subst e; simp [ha] at hx
  simp [storeR, List.getElem?_set_ne hne]

theorem storeR_slots (hs : SlotsOk pv rm) (a i : Nat) (xs : List Hdr)
    (hx : tagOf rm a = true → ∀ h ∈ xs, pv h.arr = false) : SlotsOk pv (storeR rm a i xs) := by
  intro b hb h hh
  rw [tagOf_storeR] at hb
  by_cases hab : a = b
  · subst hab
    rcases mem_cellsOf_storeR hh with h1 | h1
    · exact hs a hb h h1
    · exact hx hb h h1
  · rw [cellsOf_storeR_ne rm a i xs hab] at hh
    exact hs b hb h hh

theorem Good.storeR (hg : Good pv pr st m rm) (a i : Nat) (xs : List Hdr)
    (ha : pr a = false) (hx : tagOf rm a = true → ∀ h ∈ xs, pv h.arr = false) :
    Ext pv pr m rm st m (storeR rm a i xs) :=
  hg.step (Keeps.refl _ _) (storeR_keeps rm a i xs ha) (storeR_slots hg.slots a i xs hx)

/-- into an array of references anything may be stored -/
theorem untagged {a : Nat} {xs : List Hdr} (ht : tagOf rm a = false) :
    tagOf rm a = true → ∀ h ∈ xs, pv h.arr = false :=
  fun h1 => absurd (ht ▸ h1) Bool.false_ne_true

-- the premise `c` is arbitrary: the term fills the slot `tagOf rm a = true → …` of `Good.storeR`/`appendR_spec`
theorem one_unprot {c : Prop} {x : Hdr} (hx : pv x.arr = false) : c → ∀ h ∈ [x], pv h.arr = false :=
  fun _ _ hh => List.mem_singleton.1 hh ▸ hx

theorem tagOf_push_lt (rm : RMem) (x : Bool × List Hdr) {a : Nat} (h : a < rm.length) :
    tagOf (rm ++ [x]) a = tagOf rm a := by
  simp [tagOf, List.getD_eq_getElem?_getD, List.getElem?_append_left h]

theorem cellsOf_push_lt (rm : RMem) (x : Bool × List Hdr) {a : Nat} (h : a < rm.length) :
    cellsOf (rm ++ [x]) a = cellsOf rm a := by
  simp [cellsOf, List.getD_eq_getElem?_getD, List.getElem?_append_left h]

theorem tagOf_push_self (rm : RMem) (x : Bool × List Hdr) : tagOf (rm ++ [x]) rm.length = x.1 := by
  simp [tagOf, List.getD_eq_getElem?_getD]

theorem cellsOf_push_self (rm : RMem) (x : Bool × List Hdr) : cellsOf (rm ++ [x]) rm.length = x.2 := by
  simp [cellsOf, List.getD_eq_getElem?_getD]

theorem push_keeps (rm : RMem) (x : Bool × List Hdr) (hb : BoundedR pr rm) : KeepsR pr rm (rm ++ [x]) := by
  refine ⟨by simp, fun a ha => tagOf_push_lt rm x ha, fun a ha => ?_⟩
  simp [List.getElem?_append_left (hb a ha)]

theorem push_slots (hs : SlotsOk pv rm) (x : Bool × List Hdr)
    (hx : x.1 = true → ∀ h ∈ x.2, pv h.arr = false) : SlotsOk pv (rm ++ [x]) := by
  intro b hb h hh
  have hlt := tagOf_lt hb
  simp only [List.length_append, List.length_cons, List.length_nil] at hlt
  by_cases hbl : b < rm.length
  · rw [tagOf_push_lt rm x hbl] at hb
    rw [cellsOf_push_lt rm x hbl] at hh
    exact hs b hb h hh
  · have : b = rm.length := by omega
    subst this
    rw [tagOf_push_self] at hb
    rw [cellsOf_push_self] at hh
    exact hx hb h hh

theorem Good.push (hg : Good pv pr st m rm) (x : Bool × List Hdr)
    (hx : x.1 = true → ∀ h ∈ x.2, pv h.arr = false) : Ext pv pr m rm st m (rm ++ [x]) :=
  hg.step (Keeps.refl _ _) (push_keeps rm x hg.br) (push_slots hg.slots x hx)

theorem appendR_spec (hg : Good pv pr st m rm) (tag : Bool) (h : RHdr)
    (xs : List Hdr) (hp : pr h.arr = false) (hl : h.arr < rm.length)
    (ht : tagOf rm h.arr = tag) (hx : tag = true → ∀ x ∈ xs, pv x.arr = false) :
    Ext pv pr m rm st m (appendR rm tag h xs).1 ∧
      pr (appendR rm tag h xs).2.arr = false ∧ (appendR rm tag h xs).2.arr < (appendR rm tag h xs).1.length ∧
      tagOf (appendR rm tag h xs).1 (appendR rm tag h xs).2.arr = tag := by
  unfold appendR
  split
  · exact ⟨hg.storeR _ _ _ hp fun h1 => hx (ht ▸ h1), hp, by simpa [storeR] using hl,
      by simpa [tagOf_storeR] using ht⟩
  · refine ⟨hg.push _ fun htag x hxm => ?_, fresh_unprot hg.br, by simp, tagOf_push_self rm _⟩
    rcases List.mem_append.mp hxm with h1 | h1
    · exact hg.slots h.arr (ht.trans htag) x (List.mem_of_mem_drop (List.mem_of_mem_take h1))
    · exact hx htag x h1

theorem append_ext (hg : Good pv pr st m rm) (h : Hdr) (xs : List Val)
    (ha : pv h.arr = false) : Ext pv pr m rm st (append m h xs).1 rm ∧ pv (append m h xs).2.arr = false :=
  have hk := append_keeps m h xs hg.bm ha
  ⟨hg.step hk.1 (KeepsR.refl _ _) hg.slots, hk.2⟩

theorem sink_safe (id failAt : Nat) : Safe pv pr (sinkWrite id failAt) := by
  intro st m rm rows hg
  have hn := hg.own.node id
  unfold sinkWrite
  simp only []
  split <;> exact hg.ext.set id hn

/-- invariant of the `RowBuffer.WriteRows` loop: `buf.values` and `buf.rows` stay the object's own -/
def RowbufInv (pv pr : Nat → Bool) (st : St) (m0 : Mem) (rm0 : RMem) : Mem × RMem × Hdr × RHdr → Prop
  | (m, rm, vals, slots) => Ext pv pr m0 rm0 st m rm ∧ pv vals.arr = false ∧
    (pr slots.arr = false ∧ slots.arr < rm.length ∧ tagOf rm slots.arr = true)

theorem rowbufStep_inv (acc : Mem × RMem × Hdr × RHdr) (r : Hdr)
    (hi : RowbufInv pv pr st m0 rm0 acc) : RowbufInv pv pr st m0 rm0 (rowbufStep acc r) := by
  obtain ⟨m, rm, vals, slots⟩ := acc
  obtain ⟨he, hv, hp, hl, ht⟩ := hi
  have ha := append_ext he.good vals (row m r) hv
  have hr := appendR_spec ha.1.good true slots
    [⟨(append m vals (row m r)).2.arr, (append m vals (row m r)).2.off + vals.len, r.len, r.len⟩]
    hp hl ht (one_unprot ha.2)
  unfold rowbufStep
  exact ⟨(he.trans ha.1).trans hr.1, ha.2, hr.2⟩

theorem rowbuf_safe (id : Nat) : Safe pv pr (rowbufWrite id) := by
  intro st m rm rows hg
  have hn := hg.own.node id
  have hi := List.foldlRecOn (rowsOf rm rows) rowbufStep (motive := RowbufInv pv pr st m rm)
    (b := (m, rm, (st.node id).hdr, (st.node id).slots)) ⟨hg.ext, hn.hdr_free, hn.slots_free, tagOf_lt hn.slots_tagged, hn.slots_tagged⟩
    fun acc ha r _ => rowbufStep_inv acc r ha
  unfold rowbufWrite
  generalize (rowsOf rm rows).foldl rowbufStep (m, rm, (st.node id).hdr, (st.node id).slots) = acc at hi
  obtain ⟨m1, rm1, vals1, slots1⟩ := acc
  obtain ⟨he, hv, hp, _, ht⟩ := hi
  exact he.set id ⟨(he.good.own.node id).1, ⟨hp, ht⟩, hv⟩

theorem filterInit_spec (id : Nat) (hg : Good pv pr st m rm) :
    Ext pv pr m rm (filterInit id st rm).1 m (filterInit id st rm).2 := by
  unfold filterInit
  split
  · exact hg.ext
  · have he := hg.push (false, List.replicate filterRowBufferSize Hdr.nil) (fun h => nomatch h)
    have hn := he.good.own.node id
    exact he.set id ⟨⟨fresh_unprot hg.br, by simp, tagOf_push_self rm _⟩, hn.2.1, hn.hdr_free⟩

theorem filterChunks_safe (B : Beh) (id k : Nat) {inner : Writer} (hin : Safe pv pr inner) :
    ∀ (cs : List (List Hdr)) (st : St) (m : Mem) (rm : RMem) (n : Nat), Good pv pr st m rm →
      Ext pv pr m rm (filterChunks B id k inner cs st m rm n).1 (filterChunks B id k inner cs st m rm n).2.1
        (filterChunks B id k inner cs st m rm n).2.2.1 := by
  intro cs
  induction cs with
  | nil => intro st m rm n hg; exact hg.ext
  | cons c cs ih =>
    intro st m rm n hg
    have hn := hg.own.node id
    -- the selected rows go to `f.rows`, an array of references of the object
    have e1 := hg.storeR (st.node id).held.arr (st.node id).held.off
      (c.filter fun h => B.pred k (row m h)) hn.held_free (untagged hn.held_untagged)
    unfold filterChunks
    simp only []
    let P : St × Mem × RMem × Nat × Bool → Prop := fun r => Ext pv pr m rm r.1 r.2.1 r.2.2.1
    refine ite_ind (P := P) (fun _ => ?_) (e1.trans (ih _ _ _ _ e1.good))
    have hs := e1.trans (hin st m _ ⟨(st.node id).held.arr, (st.node id).held.off,
      (c.filter fun h => B.pred k (row m h)).length, (st.node id).held.cap⟩ e1.good)
    exact ite_ind (P := P) (fun _ => hs) (hs.trans (ih _ _ _ _ hs.good))

theorem filter_safe (B : Beh) (id k : Nat) {inner : Writer}
    (hin : Safe pv pr inner) (shadow : Bool) : Safe pv pr (filterWrite B false shadow id k inner) := by
  intro st m rm rows hg
  have h0 := filterInit_spec id hg
  have h1 := filterChunks_safe B id k hin
    (chunks filterRowBufferSize (rowsOf (filterInit id st rm).2 rows).length (rowsOf (filterInit id st rm).2 rows))
    _ m _ 0 h0.good
  have hn1 := h1.good.own.node id
  unfold filterWrite
  simp only [Bool.false_eq_true, if_false]
  -- the deferred loop drops the references held in `f.rows`
  exact (h0.trans h1).trans (h1.good.storeR _ _ _ hn1.held_free (untagged hn1.held_untagged))

/-- invariant of the loops of `transformRowWriter.writeRows` over `t.rows` = `sl`: it stays an array
    of rows the object owns -/
def TrInv (pv pr : Nat → Bool) (st : St) (sl : RHdr) (m0 : Mem) (rm0 : RMem) (m : Mem) (rm : RMem) : Prop :=
  Ext pv pr m0 rm0 st m rm ∧ tagOf rm sl.arr = true

theorem TrInv.slot {sl : RHdr} (hi : TrInv pv pr st sl m0 rm0 m rm) (i : Nat) :
    pv (slotAt rm sl i).arr = false := by
  unfold slotAt
  rw [List.getD_eq_getElem?_getD]
  cases h : (cellsOf rm sl.arr)[sl.off + i]? with
  | none => exact hi.1.good.own.pv0
  | some x => exact hi.1.good.slots _ hi.2 x (List.mem_of_getElem? h)

theorem TrInv.store {sl : RHdr} (hi : TrInv pv pr st sl m0 rm0 m rm)
    (hp : pr sl.arr = false) (i : Nat) {x : Hdr} (hx : pv x.arr = false) :
    TrInv pv pr st sl m0 rm0 m (storeR rm sl.arr i [x]) :=
  ⟨hi.1.trans (hi.1.good.storeR _ _ _ hp (one_unprot hx)), by rw [tagOf_storeR]; exact hi.2⟩

theorem transformStep_inv (B : Beh) (k : Nat) {sl : RHdr}
    (hp : pr sl.arr = false) (acc : Mem × RMem × Nat × Bool) (src : Hdr)
    (hi : TrInv pv pr st sl m0 rm0 acc.1 acc.2.1) :
    TrInv pv pr st sl m0 rm0 (transformStep B k sl acc src).1 (transformStep B k sl acc src).2.1 := by
  obtain ⟨m, rm, num, failed⟩ := acc
  have hd : pv ({ slotAt rm sl num with len := 0 } : Hdr).arr = false := hi.slot num
  unfold transformStep
  simp only []
  refine ite_ind (P := fun a : Mem × RMem × Nat × Bool => TrInv pv pr st sl m0 rm0 a.1 a.2.1) (fun _ => hi) ?_
  cases B.tr k (row m src) with
  | fail => exact hi
  | skip => exact hi.store hp _ hd
  | copy =>
    have ha := append_ext hi.1.good _ (row m src) hd
    exact TrInv.store ⟨hi.1.trans ha.1, hi.2⟩ hp _ ha.2
  | twice =>
    have ha := append_ext hi.1.good _ (row m src) hd
    have ha2 := append_ext ha.1.good _ (row (append m { slotAt rm sl num with len := 0 } (row m src)).1 src) ha.2
    exact TrInv.store ⟨(hi.1.trans ha.1).trans ha2.1, hi.2⟩ hp _ ha2.2

theorem clearSlots_inv (sl : RHdr) (hp : pr sl.arr = false) (fuel i : Nat) (m : Mem) (rm : RMem)
    (h : TrInv pv pr st sl m0 rm0 m rm) :
    TrInv pv pr st sl m0 rm0 (clearSlots sl fuel i m rm).1 (clearSlots sl fuel i m rm).2 := by
  fun_induction clearSlots sl fuel i m rm with
  | case1 => exact h
  | case2 f i m rm hd' ih =>
    have hd := h.slot i
    have hc := h.1.good.step (clearValues_keeps m (slotAt rm sl i) hd) (KeepsR.refl _ _) h.1.good.slots
    exact ih (TrInv.store ⟨h.1.trans hc, h.2⟩ hp _ (x := { slotAt rm sl i with len := 0 }) hd)

theorem transformChunks_safe (B : Beh) (id k : Nat) {inner : Writer} (hin : Safe pv pr inner) :
    ∀ (cs : List (List Hdr)) (st : St) (m : Mem) (rm : RMem) (n : Nat), Good pv pr st m rm →
      Ext pv pr m rm (transformChunks B id k inner cs st m rm n).st (transformChunks B id k inner cs st m rm n).m
        (transformChunks B id k inner cs st m rm n).rm := by
  intro cs
  induction cs with
  | nil => intro st m rm n hg; exact hg.ext
  | cons c cs ih =>
    intro st m rm n hg
    have hn := hg.own.node id
    have hf := List.foldlRecOn c (transformStep B k (st.node id).slots)
      (motive := fun acc => TrInv pv pr st (st.node id).slots m rm acc.1 acc.2.1) (b := (m, rm, 0, false))
      ⟨hg.ext, hn.slots_tagged⟩ fun acc ha x _ => transformStep_inv B k hn.slots_free acc x ha
    unfold transformChunks
    simp only []
    generalize c.foldl (transformStep B k (st.node id).slots) (m, rm, 0, false) = acc at hf ⊢
    obtain ⟨m1, rm1, num, failed⟩ := acc
    simp only []
    let P : Res → Prop := fun r => Ext pv pr m rm r.st r.m r.rm
    refine ite_ind (P := P) (fun _ => (clearSlots_inv _ hn.slots_free num 0 m1 rm1 hf).1) ?_
    have hs := hin st m1 rm1 ⟨(st.node id).slots.arr, (st.node id).slots.off, num, (st.node id).slots.cap⟩
      hf.1.good
    have hn2 := hs.good.own.node id
    have hc := (clearSlots_inv _ hn2.slots_free num 0 _ _ ⟨hs.good.ext, hn2.slots_tagged⟩).1
    exact ite_ind (P := P) (fun _ => (hf.1.trans hs).trans hc)
      (((hf.1.trans hs).trans hc).trans (ih _ _ _ _ hc.good))

theorem transformInit_spec (id : Nat) (n : Nat) (hg : Good pv pr st m rm) :
    Ext pv pr m rm (transformInit id st m rm n).1 (transformInit id st m rm n).2.1
      (transformInit id st m rm n).2.2 := by
  unfold transformInit
  split
  · have hkm : Keeps pv m (makeRows m rm n).1 :=
      ⟨by simp [makeRows], fun x hx => by simp [makeRows, List.getElem?_append_left (hg.bm x hx)]⟩
    have he := hg.push (true, (List.range n).map fun i => (⟨m.length, i, 0, 1⟩ : Hdr)) fun _ h hh => by
      obtain ⟨i, _, rfl⟩ := List.mem_map.1 hh
      exact fresh_unprot hg.bm
    have he2 := he.trans (he.good.step hkm (KeepsR.refl _ _) he.good.slots)
    have hn := he2.good.own.node id
    exact he2.set id ⟨hn.1, ⟨fresh_unprot hg.br, tagOf_push_self rm _⟩, hn.hdr_free⟩
  · exact hg.ext

theorem transform_safe (B : Beh) (id k : Nat) {inner : Writer}
    (hin : Safe pv pr inner) : Safe pv pr (transformWrite B id k inner) := by
  intro st m rm rows hg
  have h0 := transformInit_spec id (rowsOf rm rows).length hg
  exact h0.trans (transformChunks_safe B id k hin _ _ _ _ 0 h0.good)

theorem deduplicate_spec (B : Beh) (k : Nat) (hg : Good pv pr st m rm)
    (last : Hdr) (rows : RHdr) (hl : pv last.arr = false) (hp : pr rows.arr = false)
    (ht : tagOf rm rows.arr = false) :
    Ext pv pr m rm st (deduplicate B k m rm last rows).1 (deduplicate B k m rm last rows).2.1 ∧
      pv (deduplicate B k m rm last rows).2.2.1.arr = false := by
  unfold deduplicate
  generalize (rowsOf rm rows).foldl (dedupeStep B k m) (last, [], []) = acc
  obtain ⟨lastRow, uniq, dupe⟩ := acc
  have e1 := hg.storeR rows.arr rows.off (uniq ++ dupe) hp (untagged ht)
  have ha := append_ext e1.good { last with len := 0 } (row m lastRow) hl
  exact ⟨e1.trans ha.1, ha.2⟩

theorem dedupe_safe (B : Beh) (id k : Nat) {inner : Writer}
    (hin : Safe pv pr inner) : Safe pv pr (dedupeWrite B id k inner) := by
  intro st m rm rows hg
  have hn := hg.own.node id
  -- `d.rows = append(d.rows[:0], rows...)`, then the rewrite of `d.rows` and `d.lastRow` by `deduplicate`
  have ha := appendR_spec hg false (st.node id).held.empty (rowsOf rm rows) hn.held_free hn.held_lt hn.held_untagged
    (fun h => nomatch h)
  unfold dedupeWrite
  simp only []
  generalize appendR rm false (st.node id).held.empty (rowsOf rm rows) = ar at ha ⊢
  obtain ⟨rm0, dr⟩ := ar
  obtain ⟨he0, hp0, hl0, ht0⟩ := ha
  have hd := deduplicate_spec B k he0.good (st.node id).hdr dr hn.hdr_free hp0 ht0
  generalize deduplicate B k m rm0 (st.node id).hdr dr = dd at hd ⊢
  obtain ⟨m1, rm1, last1, n⟩ := dd
  obtain ⟨he1, hv1⟩ := hd
  have ht1 : tagOf rm1 dr.arr = false := (he1.kr.2.1 _ hl0).trans ht0
  have he := (he0.trans he1).set id (ns := { st.node id with hdr := last1, held := dr })
    ⟨⟨hp0, Nat.lt_of_lt_of_le hl0 he1.kr.1, ht1⟩, (he1.good.own.node id).2.1, hv1⟩
  -- deferred: the references in `d.rows` are dropped
  let P : Res → Prop := fun r => Ext pv pr m rm r.st r.m r.rm
  refine ite_ind (P := P) (fun _ => ?_) (he.trans (he.good.storeR _ _ _ hp0 (untagged ht1)))
  have hs := he.trans (hin _ _ _ ⟨dr.arr, dr.off, n, dr.cap⟩ he.good)
  have hn2 := hs.good.own.node id
  exact ite_ind (P := P) (fun _ => hs.trans (hs.good.storeR _ _ _ hn2.held_free (untagged hn2.held_untagged)))
    (hs.trans (hs.good.storeR _ _ _ hn2.held_free (untagged hn2.held_untagged)))

theorem multi_safe {wa wb : Writer} (ha : Safe pv pr wa) (hb' : Safe pv pr wb) :
    Safe pv pr (multiWrite wa wb) := by
  intro st m rm rows hg
  have h1 := ha st m rm rows hg
  have h12 := h1.trans (hb' _ _ _ rows h1.good)
  -- whichever result is returned, with or without the error flag, its memories are the first
  -- writer's or the second's
  let P : Res → Prop := fun r => Ext pv pr m rm r.st r.m r.rm
  exact ite_ind (P := P) (fun _ => h1) (ite_ind (P := P) (fun _ => h1)
    (ite_ind (P := P) (fun _ => h12) (ite_ind (P := P) (fun _ => h12) h12)))

theorem write_safe (B : Beh) : ∀ sh : Shape, sh.repaired = true → Safe pv pr (write B sh) := by
  intro sh
  induction sh with
  | sink id failAt => intro _; exact sink_safe id failAt
  | rowbuf id => intro _; exact rowbuf_safe id
  | filter asIs id k inner ih =>
    intro h
    simp only [Shape.repaired, Bool.and_eq_true, Bool.not_eq_eq_eq_not, Bool.not_true] at h
    obtain ⟨h1, h2⟩ := h
    subst h1
    exact filter_safe B id k (ih h2) false
  | transform id k inner ih => intro h; exact transform_safe B id k (ih h)
  | dedupe id k inner ih => intro h; exact dedupe_safe B id k (ih h)
  | multi a b iha ihb =>
    intro h
    simp only [Shape.repaired, Bool.and_eq_true] at h
    exact multi_safe (iha h.1) (ihb h.2)

theorem run_safe (B : Beh) (sh : Shape) (hr : sh.repaired = true) (batches : List RHdr) (st : St) (m : Mem)
    (rm : RMem) (hg : Good pv pr st m rm) :
    Ext pv pr m rm (run B sh batches st m rm).st (run B sh batches st m rm).m (run B sh batches st m rm).rm := by
  fun_induction run B sh batches st m rm with
  | case1 => exact hg.ext
  | case2 b _ st m rm _ _ ih =>
    have h1 := write_safe B sh hr st m rm b hg
    exact h1.trans (ih h1.good)

end PqModel.WriteOwn
