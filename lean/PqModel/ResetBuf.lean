import PqModel.SortRep

/-! # C17 model — the Buffer side of reuse: column buffers with their scratch state across `Reset`

The C10 models (`SortBuf.OptCol`, `SortBuf.RepCol`) describe ONE generation of an
`optionalColumnBuffer` / `repeatedColumnBuffer`: the arrays that hold the rows. This file adds what
survives `Reset()` and is therefore the subject of C17 on the Buffer side:

* `optionalColumnBuffer` (`column_buffer_optional.go`): `Reset` (130-134) empties `base`, `rows`,
  `definitionLevels`; it does NOT touch `reordered` (a `Swap` followed by `Reset` leaves it `true`)
  and does NOT touch `sortIndex` (length, capacity and content stay what the last reordering `Page()`
  left). `Size()` (136-138) counts `4*len(sortIndex)`.
* `repeatedColumnBuffer` (`column_buffer_repeated.go`): `Reset` (172-177) empties `base`, `rows` and
  the two level arrays; `reordered`, the spare buffer `reordering` (a whole second set of arrays)
  and the `buffer []Value` scratch stay.

MIRROR parts carry the Go `file:line`. The memory a re-extended `sortIndex` shows (elements between
the old and new length, or a pooled array) is an argument of the `page` operation (`junk`): the
theorems hold for every content. SPEC: `absStep` (a buffer is the list of its rows). -/
namespace PqModel.ResetBuf
open PqModel.SortBuf

/-- MIRROR `column_buffer_optional.go:22-30`: the C10 arrays + `sortIndex[:len]` -/
structure OptBuf (V : Type) where
  col : OptCol V
  sortIdx : List Nat := []
deriving DecidableEq

/-- `newOptionalColumnBuffer` (32-38) -/
def OptBuf.fresh {V : Type} : OptBuf V := { col := OptCol.empty }

/-- one call on the buffer. `page junk`: `Page()` where the memory under the resized `sortIndex`
    reads `junk` (padded with zeros / cut to the length needed) -/
inductive BOp (V : Type) where
  | write (op : WOp V)
  | swap (i j : Nat)
  | page (junk : List Nat)
  | reset

/-- what `sortIndex.Resize(n)` / `SliceBufferFor(n)` shows before it is filled (92-95) -/
def fit (junk : List Nat) (n : Nat) : List Nat := (junk ++ List.replicate n 0).take n

theorem length_fit (junk : List Nat) (n : Nat) : (fit junk n).length = n := by
  simp [fit]

/-- MIRROR `column_buffer_optional.go:87-114`: both results of the cyclic sort, the permuted base
    column and the `sortIndex` it leaves behind, starting from a dirty `sortIndex` -/
def pageSort {V : Type} (m : Nat) (c : OptCol V) (old junk : List Nat) : List Nat × List V :=
  let numNulls := (c.defs.filter (· != m)).length
  let numValues := c.rows.length - numNulls
  if numValues > 0 then
    outerL numValues numValues (buildIdx c.rows 0 (fit junk numValues), c.base)
  else (old, c.base)

/-- MIRROR `column_buffer_optional.go:83-128` `Page()` with the scratch index kept -/
def OptBuf.page {V : Type} (m : Nat) (b : OptBuf V) (junk : List Nat) : OptBuf V :=
  if b.col.reordered then
    let r := pageSort m b.col b.sortIdx junk
    { col := { base := r.2, rows := renum b.col.rows 0, defs := b.col.defs, reordered := false }, sortIdx := r.1 }
  else b

/-- MIRROR `column_buffer_optional.go:130-134` `Reset()`: `base.Reset(); rows.Resize(0);
    definitionLevels.Resize(0)` — `reordered` and `sortIndex` are not touched -/
def OptBuf.reset {V : Type} (b : OptBuf V) : OptBuf V :=
  { b with col := { base := [], rows := [], defs := [], reordered := b.col.reordered } }

/-- `Reset()` with the scratch state cleared too (not the library's code: the comparison point of
    `Props/C17Buf.lean`) -/
def OptBuf.resetFull {V : Type} (_ : OptBuf V) : OptBuf V := OptBuf.fresh

/-- the row index kernel is `rangeFrom` (`broadcastRangeInt32`; C10 `kernelOf_asm/_scalar` prove the
    two builds' kernels equal to it below 2^31 rows) -/
def OptBuf.step {V : Type} (m : Nat) (b : OptBuf V) : BOp V → OptBuf V
  | .write op => { b with col := b.col.write rangeFrom m op }
  | .swap i j => { b with col := b.col.swap i j }
  | .page junk => b.page m junk
  | .reset => b.reset

def OptBuf.run {V : Type} (m : Nat) (b : OptBuf V) (ops : List (BOp V)) : OptBuf V := ops.foldl (OptBuf.step m) b

/-- MIRROR `column_buffer_optional.go:136-138` `Size()`, `w` = bytes per value of the base column -/
def OptBuf.size {V : Type} (w : Nat) (b : OptBuf V) : Nat :=
  4 * b.col.rows.length + 4 * b.sortIdx.length + b.col.defs.length + w * b.col.base.length

/-- `Len()` (142) -/
def OptBuf.len {V : Type} (b : OptBuf V) : Nat := b.col.rows.length

/-- what `Page()` hands to `newOptionalPage` (127) -/
def OptBuf.pageOut {V : Type} (m : Nat) (b : OptBuf V) (junk : List Nat) : List V × List Nat :=
  ((b.page m junk).col.base, (b.page m junk).col.defs)

/-- an operation the API can perform: nulls carry a level below the maximum and a negative mark -/
def BOp.WF {V : Type} (m : Nat) : BOp V → Prop
  | .write (.nulls d _ mark) => d ≠ m ∧ mark < 0
  | _ => True

/-- SPEC: a buffer is the list of its rows -/
def absStep {V : Type} (m : Nat) (v : List (Cell V)) : BOp V → List (Cell V)
  | .write op => v ++ op.cells m
  | .swap i j => swapL v i j
  | .page _ => v
  | .reset => []

def absRun {V : Type} (m : Nat) (v : List (Cell V)) (ops : List (BOp V)) : List (Cell V) := ops.foldl (absStep m) v

/-- the index `Page()` builds does not depend on what the memory held before: every slot is stored -/
theorem buildIdx_junk {rows : List Int} {n : Nat} (hp : (nn rows).Perm (List.range n))
    (a b : List Nat) (ha : a.length = n) (hb : b.length = n) : buildIdx rows 0 a = buildIdx rows 0 b := by
  have hnd : (nn rows).Nodup := hp.nodup_iff.mpr List.nodup_range
  have hlt : ∀ x ∈ nn rows, x < n := fun x hx => List.mem_range.mp (hp.mem_iff.mp hx)
  obtain ⟨la, sa, _⟩ := buildIdx_spec rows 0 a hnd (fun x hx => by rw [ha]; exact hlt x hx)
  obtain ⟨lb, sb, _⟩ := buildIdx_spec rows 0 b hnd (fun x hx => by rw [hb]; exact hlt x hx)
  apply List.ext_getElem?
  intro x
  by_cases hx : x < n
  · have hmem : x ∈ nn rows := hp.mem_iff.mpr (List.mem_range.mpr hx)
    obtain ⟨k, hk⟩ := List.mem_iff_getElem?.mp hmem
    rw [sa k x hk, sb k x hk]
  · rw [List.getElem?_eq_none (by omega), List.getElem?_eq_none (by omega)]

theorem pageSort_base {V : Type} {m : Nat} {c : OptCol V} (h : c.Inv m) (old junk : List Nat) :
    (pageSort m c old junk).2 = pageBase m c := by
  have hn := h.numValues
  unfold pageSort pageBase
  simp only [hn]
  split
  · rw [buildIdx_junk h.perm (fit junk c.base.length) (List.replicate c.base.length 0)
      (length_fit _ _) List.length_replicate]
  · rfl

theorem OptBuf.page_col {V : Type} {m : Nat} {b : OptBuf V} (h : b.col.Inv m) (junk : List Nat) :
    (b.page m junk).col = b.col.page m := by
  unfold OptBuf.page OptCol.page
  split
  · simp only [pageSort_base h]
  · rfl

theorem OptBuf.reset_inv {V : Type} (m : Nat) (b : OptBuf V) : b.reset.col.Inv m ∧ b.reset.col.view = [] := by
  refine ⟨⟨rfl, ?_, ?_, ?_⟩, rfl⟩
  · simp [OptBuf.reset, nn]
  · intro p hp; simp [OptBuf.reset] at hp
  · intro _; simp [OptBuf.reset, nn]

theorem OptBuf.step_refines {V : Type} {m : Nat} {b : OptBuf V} (h : b.col.Inv m) (op : BOp V) (hw : op.WF m) :
    (b.step m op).col.Inv m ∧ (b.step m op).col.view = absStep m b.col.view op := by
  cases op with
  | write w =>
    cases w with
    | nulls d n mark =>
      obtain ⟨hd, hm⟩ := hw
      refine ⟨OptCol.Inv.write_nulls rangeFrom h hd n hm, ?_⟩
      exact OptCol.view_write h _ (fun _ _ _ e => by cases e; exact hm) (fun _ e => by cases e)
    | vals vs =>
      refine ⟨OptCol.Inv.write_vals h vs rfl, ?_⟩
      exact OptCol.view_write h _ (fun _ _ _ e => by cases e) (fun _ _ => rfl)
  | swap i j => exact ⟨h.swap i j, OptCol.view_swap h i j⟩
  | page junk =>
    obtain ⟨p1, _, p3, _⟩ := OptCol.page_spec h
    simp only [OptBuf.step, OptBuf.page_col h, absStep]
    exact ⟨p1, p3⟩
  | reset => exact b.reset_inv m

theorem OptBuf.run_refines {V : Type} {m : Nat} : ∀ (ops : List (BOp V)) (b : OptBuf V), b.col.Inv m → (∀ op ∈ ops, op.WF m) →
    (b.run m ops).col.Inv m ∧ (b.run m ops).col.view = absRun m b.col.view ops
  | _, _, h, hw =>
    foldl_sim (R := fun (b : OptBuf V) v => b.col.Inv m ∧ b.col.view = v)
      (fun _ _ op ho hs => hs.2 ▸ OptBuf.step_refines hs.1 op (hw op ho)) ⟨h, rfl⟩

/-- the values a list of rows holds, in row order -/
def cellVals {V : Type} (v : List (Cell V)) : List V := v.filterMap (·.2)

/-- through `map some`: `base[k]?` is an `Option` and no default value of `V` is at hand -/
theorem view_vals_levels {V : Type} : ∀ (rows : List Int) (defs : List Nat) (base : List V),
    rows.length = defs.length → (∀ k ∈ nn rows, k < base.length) →
    ((rows.zip defs).map (fun p => cellOf base p.1 p.2)).map (·.1) = defs ∧
    (((rows.zip defs).map (fun p => cellOf base p.1 p.2)).filterMap (·.2)).map some = (nn rows).map (fun (k : Nat) => base[k]?) := by
  intro rows
  induction rows with
  | nil => intro defs _ h _; cases defs with | nil => exact ⟨rfl, rfl⟩ | cons => cases h
  | cons r rs ih =>
    intro defs base h hk
    cases defs with
    | nil => cases h
    | cons d ds =>
    have hl : rs.length = ds.length := Nat.succ.inj h
    by_cases h0 : 0 ≤ r
    · rw [nn_cons_nonneg rs h0] at hk ⊢
      obtain ⟨a, b⟩ := ih ds base hl fun k hx => hk k (List.mem_cons_of_mem _ hx)
      have hr : r.toNat < base.length := hk _ List.mem_cons_self
      have hc : cellOf base r d = (d, some base[r.toNat]) := by
        simp [cellOf, h0, List.getElem?_eq_getElem hr]
      simp only [List.zip_cons_cons, List.map_cons, hc, List.getElem?_eq_getElem hr]
      refine ⟨by rw [a], ?_⟩
      show List.map some (base[r.toNat] :: List.filterMap _ _) = _
      rw [List.map_cons, b]
    · rw [nn_cons_neg rs h0] at hk ⊢
      obtain ⟨a, b⟩ := ih ds base hl hk
      have hc : cellOf base r d = (d, none) := by simp [cellOf, h0]
      simp only [List.zip_cons_cons, List.map_cons, hc]
      exact ⟨by rw [a], b⟩

/-- what `Page()` hands out is a function of the rows held: the non-null values in row order and
    the definition levels in row order — for every stale `reordered` flag and scratch index -/
theorem OptBuf.pageOut_spec {V : Type} {m : Nat} {b : OptBuf V} (h : b.col.Inv m) (junk : List Nat) :
    b.pageOut m junk = (cellVals b.col.view, b.col.view.map (·.1)) := by
  obtain ⟨_, _, _, p4, _, p6⟩ := OptCol.page_spec h
  have hmem : ∀ k ∈ nn b.col.rows, k < b.col.base.length := fun k hk => List.mem_range.mp (h.perm.mem_iff.mp hk)
  obtain ⟨a, c⟩ := view_vals_levels b.col.rows b.col.defs b.col.base h.len hmem
  unfold OptBuf.pageOut
  rw [OptBuf.page_col h, p4]
  have e1 : (b.col.page m).base = cellVals b.col.view := by
    have : (b.col.page m).base.map some = (cellVals b.col.view).map some := by
      rw [p6]; exact c.symm
    simpa [List.filterMap_map] using congrArg (List.filterMap id) this
  rw [e1]
  exact congrArg _ a.symm

/-- MIRROR `column_buffer_repeated.go:26-37`: the C10 arrays + the arrays of `col.reordering`
    (`none` = nil). `buffer []Value` is cleared by every function that fills it (110-112, 234-236)
    and holds no state between calls. -/
structure RepBuf (V : Type) where
  col : RepCol V
  spare : Option (RepCol V) := none
deriving DecidableEq

def RepBuf.fresh {V : Type} : RepBuf V := { col := RepCol.empty }

inductive ROp (V : Type) where
  | write (row : List (RCell V))
  | swap (i j : Nat)
  | page
  | reset

/-- MIRROR `column_buffer_repeated.go:101-163` `Page()`: `reordering` is cloned on first use (103-105),
    `Reset()` (108), filled row by row (118-150: `RepCol.page`), then `swapReorderingBuffer` (152,
    165-170) leaves the old arrays in the spare buffer -/
def RepBuf.page {V : Type} (m : Nat) (b : RepBuf V) : RepBuf V :=
  if b.col.reordered then { col := b.col.page m, spare := some b.col } else b

/-- MIRROR `column_buffer_repeated.go:172-177` `Reset()`: `reordered` and `reordering` stay -/
def RepBuf.reset {V : Type} (b : RepBuf V) : RepBuf V :=
  { b with col := { base := [], rows := [], lv := [], reordered := b.col.reordered } }

def RepBuf.step {V : Type} (m : Nat) (b : RepBuf V) : ROp V → RepBuf V
  | .write row => { b with col := b.col.writeRow row }
  | .swap i j => { b with col := b.col.swap i j }
  | .page => b.page m
  | .reset => b.reset

def RepBuf.run {V : Type} (m : Nat) (b : RepBuf V) (ops : List (ROp V)) : RepBuf V := ops.foldl (RepBuf.step m) b

/-- MIRROR `column_buffer_repeated.go:179-181` `Size()` -/
def RepBuf.size {V : Type} (w : Nat) (b : RepBuf V) : Nat :=
  8 * b.col.rows.length + b.col.lv.length + b.col.lv.length + w * b.col.base.length

def RepBuf.len {V : Type} (b : RepBuf V) : Nat := b.col.rows.length

/-- what `Page()` hands to `newRepeatedPage` (155-161): base values, level pairs -/
def RepBuf.pageOut {V : Type} (m : Nat) (b : RepBuf V) : List V × List (Nat × Nat) :=
  ((b.page m).col.base, (b.page m).col.lv)

def ROp.WF {V : Type} (m : Nat) : ROp V → Prop
  | .write row => RowWF m row
  | _ => True

def rabsStep {V : Type} (v : List (List (RCell V))) : ROp V → List (List (RCell V))
  | .write row => v ++ [row]
  | .swap i j => swapL v i j
  | .page => v
  | .reset => []

def rabsRun {V : Type} (v : List (List (RCell V))) (ops : List (ROp V)) : List (List (RCell V)) := ops.foldl rabsStep v

/-- C17 invariant of the repeated buffer: the C10 invariant and, while no `Swap` is pending, the
    arrays list the rows in row order (that is what `Page()` hands out without rewriting) -/
def RepBuf.BInv {V : Type} (m : Nat) (b : RepBuf V) : Prop :=
  b.col.RInv m ∧ (b.col.reordered = false →
    b.col.lv = (b.col.view m).flatten.map (fun x => (x.1, x.2.1)) ∧
    b.col.base = (b.col.view m).flatten.filterMap (fun x => x.2.2))

theorem RepBuf.reset_inv {V : Type} (m : Nat) (b : RepBuf V) : b.reset.BInv m ∧ b.reset.col.view m = [] := by
  refine ⟨⟨?_, ?_⟩, rfl⟩
  · intro p hp; simp [RepBuf.reset] at hp
  · intro _; simp [RepBuf.reset, RepCol.view]

theorem RepBuf.fresh_inv {V : Type} (m : Nat) : (RepBuf.fresh : RepBuf V).BInv m :=
  ⟨RepCol.RInv.empty m, fun _ => by simp [RepBuf.fresh, RepCol.empty, RepCol.view]⟩

theorem RepBuf.step_refines {V : Type} {m : Nat} {b : RepBuf V} (h : b.BInv m) (op : ROp V) (hw : op.WF m) :
    (b.step m op).BInv m ∧ (b.step m op).col.view m = rabsStep (b.col.view m) op := by
  cases op with
  | write row =>
    obtain ⟨v1, i1⟩ := RepCol.view_writeRow h.1 hw
    have e : b.step m (.write row) = { b with col := b.col.writeRow row } := rfl
    rw [e]
    refine ⟨⟨i1, ?_⟩, v1⟩
    intro hr
    have hr0 : b.col.reordered = false := hr
    obtain ⟨a, c⟩ := h.2 hr0
    show (b.col.writeRow row).lv = List.map _ (RepCol.view m (b.col.writeRow row)).flatten ∧
      (b.col.writeRow row).base = List.filterMap _ (RepCol.view m (b.col.writeRow row)).flatten
    rw [v1]
    constructor
    · show b.col.lv ++ _ = _
      rw [a]; simp
    · show b.col.base ++ _ = _
      rw [c]; simp
  | swap i j =>
    refine ⟨⟨h.1.swap i j, fun hr => ?_⟩, RepCol.view_swap m b.col i j⟩
    -- `hr : reordered = false` right after a `Swap`, which sets it
    simp [RepBuf.step, RepCol.swap] at hr
  | page =>
    obtain ⟨p1, p2, p3, p4⟩ := RepCol.page_spec h.1
    by_cases hr : b.col.reordered = true
    · have e : b.step m .page = { col := b.col.page m, spare := some b.col } := by
        simp [RepBuf.step, RepBuf.page, hr]
      rw [e]
      refine ⟨⟨p1, fun _ => ?_⟩, p2⟩
      show (b.col.page m).lv = _ ∧ (b.col.page m).base = _
      rw [p2]; exact p4 hr
    · have e : b.step m .page = b := by simp [RepBuf.step, RepBuf.page, hr]
      rw [e]; exact ⟨h, rfl⟩
  | reset => exact b.reset_inv m

theorem RepBuf.page_reordered {V : Type} {m : Nat} {b : RepBuf V} (h : b.col.RInv m) :
    (b.page m).col.reordered = false := by
  unfold RepBuf.page
  split
  · exact (RepCol.page_spec h).2.2.1
  · next hn => simpa using hn

theorem RepBuf.run_refines {V : Type} {m : Nat} : ∀ (ops : List (ROp V)) (b : RepBuf V), b.BInv m → (∀ op ∈ ops, op.WF m) →
    (b.run m ops).BInv m ∧ (b.run m ops).col.view m = rabsRun (b.col.view m) ops
  | _, _, h, hw =>
    foldl_sim (R := fun (b : RepBuf V) v => b.BInv m ∧ b.col.view m = v)
      (fun _ _ op ho hs => hs.2 ▸ RepBuf.step_refines hs.1 op (hw op ho)) ⟨h, rfl⟩

/-- what `Page()` hands out is a function of the rows held — whether the rewrite runs (a pending or
    a stale `reordered`) or not, and whatever the spare buffer holds -/
theorem RepBuf.pageOut_spec {V : Type} {m : Nat} {b : RepBuf V} (h : b.BInv m) :
    b.pageOut m = ((b.col.view m).flatten.filterMap (fun x => x.2.2), (b.col.view m).flatten.map (fun x => (x.1, x.2.1))) := by
  have hs := (RepBuf.step_refines h .page trivial)
  have e : b.step m .page = b.page m := rfl
  rw [e] at hs
  obtain ⟨⟨_, i2⟩, v⟩ := hs
  obtain ⟨a, c⟩ := i2 (RepBuf.page_reordered h.1)
  have v' : (b.page m).col.view m = b.col.view m := v
  unfold RepBuf.pageOut
  rw [show (b.page m).col.base = _ from c, show (b.page m).col.lv = _ from a, v']

/-- coverage (lengths only; that a slot belongs to exactly one row is not claimed). Beside `BInv`, which
    says nothing of the arrays while a `Swap` is pending, and `Size()` is read then too -/
def RepBuf.Cov {V : Type} (m : Nat) (b : RepBuf V) : Prop :=
  b.col.lv.length = (b.col.view m).flatten.length ∧
  b.col.base.length = ((b.col.view m).flatten.filterMap (fun x => x.2.2)).length

theorem RepBuf.reset_cov {V : Type} (m : Nat) (b : RepBuf V) : b.reset.Cov m := by
  simp [RepBuf.Cov, RepBuf.reset, RepCol.view]

theorem RepBuf.fresh_cov {V : Type} (m : Nat) : (RepBuf.fresh : RepBuf V).Cov m := by
  simp [RepBuf.Cov, RepBuf.fresh, RepCol.empty, RepCol.view]

theorem RepBuf.step_cov {V : Type} {m : Nat} {b : RepBuf V} (h : b.BInv m) (hc : b.Cov m) (op : ROp V) (hw : op.WF m) :
    (b.step m op).Cov m := by
  obtain ⟨i1, v⟩ := RepBuf.step_refines h op hw
  obtain ⟨c1, c2⟩ := hc
  cases op with
  | write row =>
    unfold RepBuf.Cov
    rw [v]
    show (b.col.writeRow row).lv.length = (b.col.view m ++ [row]).flatten.length ∧
      (b.col.writeRow row).base.length = ((b.col.view m ++ [row]).flatten.filterMap (fun x => x.2.2)).length
    simp only [RepCol.writeRow, List.flatten_append, List.flatten_cons, List.flatten_nil, List.append_nil,
      List.length_append, List.length_map, List.filterMap_append]
    omega
  | swap i j =>
    unfold RepBuf.Cov
    rw [v]
    have p := swapL_perm (b.col.view m) i j
    show b.col.lv.length = (swapL (b.col.view m) i j).flatten.length ∧
      b.col.base.length = ((swapL (b.col.view m) i j).flatten.filterMap (fun x => x.2.2)).length
    rw [p.flatten.length_eq, (p.flatten.filterMap _).length_eq]
    exact ⟨c1, c2⟩
  | page =>
    obtain ⟨a, c⟩ := i1.2 (RepBuf.page_reordered h.1)
    exact ⟨by rw [a, List.length_map], by rw [c]⟩
  | reset => exact b.reset_cov m

theorem RepBuf.run_cov {V : Type} {m : Nat} : ∀ (ops : List (ROp V)) (b : RepBuf V), b.BInv m → b.Cov m → (∀ op ∈ ops, op.WF m) →
    (b.run m ops).Cov m
  | ops, _, h, hc, hw =>
    (List.foldlRecOn ops (RepBuf.step m) (motive := fun b => b.BInv m ∧ b.Cov m) ⟨h, hc⟩
      fun _ hb op ho => ⟨(RepBuf.step_refines hb.1 op (hw op ho)).1, RepBuf.step_cov hb.1 hb.2 op (hw op ho)⟩).2

theorem RepBuf.size_spec {V : Type} {m : Nat} {b : RepBuf V} (hc : b.Cov m) (w : Nat) :
    b.size w = 8 * (b.col.view m).length + 2 * (b.col.view m).flatten.length +
      w * ((b.col.view m).flatten.filterMap (fun x => x.2.2)).length := by
  obtain ⟨c1, c2⟩ := hc
  unfold RepBuf.size
  rw [c1, c2]
  simp only [RepCol.view, List.length_map]
  omega

theorem less_of_view {V : Type} (o : VOrd V) (sc : SortCol) {c c' : Col V} (h : c.CInv) (h' : c'.CInv)
    (hv : c.view = c'.view) {i j : Nat} (hi : i < c'.view.length) (hj : j < c'.view.length) :
    Col.less o.lt sc.desc sc.nullsFirst c i j = Col.less o.lt sc.desc sc.nullsFirst c' i j := by
  have e := Col.less_agrees o h sc (hv ▸ hi) (hv ▸ hj)
  unfold Col.val at e
  rw [hv] at e
  exact Bool.eq_iff_iff.mpr (e.trans (Col.less_agrees o h' sc hi hj).symm)

theorem RepCol.key_eq_view {V : Type} (m : Nat) (c : RepCol V) (k : Nat) :
    c.key m k = ((c.view m)[k]?.getD []).map (fun x => x.2.2) := by
  unfold RepCol.key RepCol.view
  rw [List.getElem?_map]
  cases c.rows[k]? <;> rfl

theorem RepCol.less_of_view {V : Type} (o : VOrd V) (sc : SortCol) {m : Nat} {c c' : RepCol V} (h : c.RInv m)
    (h' : c'.RInv m) (hv : c.view m = c'.view m) {i j : Nat} (hi : i < c'.rows.length) (hj : j < c'.rows.length) :
    c.less o.lt sc.desc sc.nullsFirst m i j = c'.less o.lt sc.desc sc.nullsFirst m i j := by
  have hl : c.rows.length = c'.rows.length := by simpa [RepCol.view] using congrArg List.length hv
  have e := RepCol.less_agrees o sc h (hl ▸ hi) (hl ▸ hj)
  rw [RepCol.key_eq_view, RepCol.key_eq_view, hv, ← RepCol.key_eq_view, ← RepCol.key_eq_view] at e
  exact Bool.eq_iff_iff.mpr (e.trans (RepCol.less_agrees o sc h' hi hj).symm)

instance {V : Type} (m : Nat) (op : BOp V) : Decidable (op.WF m) := by
  unfold BOp.WF; split <;> infer_instance

instance {V : Type} (m : Nat) (row : List (RCell V)) : Decidable (RowWF m row) := by
  unfold RowWF; split <;> infer_instance

instance {V : Type} (m : Nat) (op : ROp V) : Decidable (op.WF m) := by
  unfold ROp.WF; split <;> infer_instance

end PqModel.ResetBuf
