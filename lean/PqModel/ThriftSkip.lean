import PqModel.OpenTrailer

/-! MIRROR of the structure walk of the library's Thrift COMPACT protocol DECODER over a byte slice:
    `encoding/thrift/compact.go` `compactBytesReader` (the reader `OpenFile` decodes the footer with,
    file.go:171-174 `f.protocol.NewReaderFromBytes`) and `encoding/thrift/decode.go` `skip`,
    `skipBinary`, `skipList/Set/Map`, `skipItem`, `skip{List,Set,Map}Items`, `skipStruct`
    (decode.go:634-812). The walk keeps only what decides acceptance: the read offset and the error
    class; field ids and values are read (with their range checks) and dropped, as `skip` does.

    The typed decoder (`structDecoder.decode`, decode.go:405-520) runs the same reader primitives in
    the same order for the fields it knows and `skip` for the others; its mirror is
    `PqModel.ThriftDecode` (with its extra rejection, the missing required field), and
    `ThriftDecode.decT_walk` shows that it accepts only what the walk accepts, with the same byte count.

    Everything is positional: a parser takes the whole input and an offset and answers the new offset,
    so that the run on a cut input `d.take m` can be compared with the run on `d` (`Rel`). -/
namespace PqModel.ThriftSkip
open PqModel.IoFault (Bytes)

/-- error classes of the walk. `fuel` is a model artefact (the Go code recurses without a bound). -/
inductive SkErr where
  | eof        -- io.EOF
  | ueof       -- io.ErrUnexpectedEOF
  | overflow   -- "… varint overflow"
  | range      -- "… varint out of range"
  | badType    -- "skipping unsupported thrift type"
  | fuel
  deriving DecidableEq, Repr

abbrev PR (α : Type) := Except SkErr (α × Nat)

/-- MIRROR error.go:100-110 `dontExpectEOF` -/
def dontExpectEOF : SkErr → SkErr
  | .eof => .ueof
  | e => e

/-- sequencing with the error mapping the Go call site applies to the first result -/
def seq {α β} (r : PR α) (fe : SkErr → SkErr) (k : α → Nat → PR β) : PR β :=
  match r with
  | .error e => .error (fe e)
  | .ok (a, p) => k a p

/-! ## reader primitives (`compactBytesReader`) -/

/-- MIRROR compact.go:552-559 `ReadByte` -/
def readByte (d : Bytes) (pos : Nat) : PR UInt8 :=
  match d[pos]? with
  | some b => .ok (b, pos + 1)
  | none => .error .eof

inductive UvRes where
  | val (x n : Nat)   -- value and number of bytes read
  | short             -- (0, 0): the buffer ended inside the varint
  | over              -- n < 0: more than 64 bits
  deriving DecidableEq, Repr

/-- MIRROR `encoding/binary.Uvarint` (go1.24 varint.go:69-85): `for i, b := range buf`; the first
    argument counts the rounds left before `i == MaxVarintLen64`, where the loop needs one more byte
    to exist to report the overflow (a buffer that ends there is "short"). -/
def uvLoop (d : Bytes) : Nat → Nat → Nat → Nat → Nat → UvRes
  | 0, pos, _, _, _ =>
    match d[pos]? with
    | none => .short
    | some _ => .over
  | k + 1, pos, i, x, s =>
    match d[pos]? with
    | none => .short
    | some b =>
      if b.toNat < 128 then
        if i == 9 && b.toNat > 1 then .over else .val (x ||| (b.toNat <<< s)) (i + 1)
      else uvLoop d k (pos + 1) (i + 1) (x ||| ((b.toNat &&& 127) <<< s)) (s + 7)

/-- `binary.Uvarint(r.data[r.offset:])`: `MaxVarintLen64 = 10` rounds -/
def goUvarint (d : Bytes) (pos : Nat) : UvRes := uvLoop d 10 pos 0 0 0

/-- MIRROR compact.go:565-578 `readUvarint(typ, max)` -/
def readUvarint (max : Nat) (d : Bytes) (pos : Nat) : PR Nat :=
  match goUvarint d pos with
  | .short => .error .ueof
  | .over => .error .overflow
  | .val u n => if u > max then .error .range else .ok (u, pos + n)

/-- `binary.Varint`: `x := int64(ux >> 1); if ux&1 != 0 { x = ^x }` -/
def unzig (ux : Nat) : Int := if ux % 2 = 0 then ((ux / 2 : Nat) : Int) else -((ux / 2 : Nat) : Int) - 1

/-- MIRROR compact.go:580-593 `readVarint(typ, min, max)` -/
def readVarint (lo hi : Int) (d : Bytes) (pos : Nat) : PR Int :=
  match goUvarint d pos with
  | .short => .error .ueof
  | .over => .error .overflow
  | .val ux n => if unzig ux < lo || unzig ux > hi then .error .range else .ok (unzig ux, pos + n)

/-- `math.MaxInt32`, the bound of `ReadLength` and of the list and map sizes -/
def maxInt32 : Nat := 2147483647

/-- MIRROR compact.go:411-414 `ReadInt16` -/
def readInt16 := readVarint (-32768) 32767
/-- MIRROR compact.go:416-419 `ReadInt32` -/
def readInt32 := readVarint (-2147483648) 2147483647
/-- MIRROR compact.go:421-423 `ReadInt64` -/
def readInt64 := readVarint (-9223372036854775808) 9223372036854775807

/-- MIRROR compact.go:425-432 `ReadFloat64`: 8 raw bytes -/
def readFloat (d : Bytes) (pos : Nat) : PR Unit :=
  if pos + 8 > d.length then .error .ueof else .ok ((), pos + 8)

/-- MIRROR compact.go:391-398 `Discard` -/
def discard (n : Nat) (d : Bytes) (pos : Nat) : PR Unit :=
  if d.length - pos < n then .error .ueof else .ok ((), pos + n)

/-- MIRROR decode.go:680-690 `skipBinary` over `ReadLength` (compact.go:460-463) -/
def skipBinary (d : Bytes) (pos : Nat) : PR Unit :=
  seq (readUvarint maxInt32 d pos) id fun n p =>
    if n == 0 then .ok ((), p) else seq (discard n d p) dontExpectEOF fun _ q => .ok ((), q)

/-- MIRROR compact.go:492-515 `ReadField` followed by the `f.Type == STOP` test of the caller:
    `none` = STOP (a zero byte, or a delta header whose low nibble is 0), `some ty` otherwise. The
    field id is read and range-checked, then dropped. -/
def readField (d : Bytes) (pos : Nat) : PR (Option Nat) :=
  seq (readByte d pos) id fun b p =>
    if b == 0 then .ok (none, p)
    else if b.toNat / 16 != 0 then
      .ok ((if b.toNat % 16 == 0 then none else some (b.toNat % 16)), p)
    else seq (readInt16 d p) dontExpectEOF fun _ q => .ok (some b.toNat, q)

/-- MIRROR compact.go:517-530 `ReadList` (and `ReadSet`): (element type, size) -/
def readList (d : Bytes) (pos : Nat) : PR (Nat × Nat) :=
  seq (readByte d pos) id fun b p =>
    if b.toNat / 16 != 15 then .ok ((b.toNat % 16, b.toNat / 16), p)
    else seq (readUvarint maxInt32 d p) dontExpectEOF fun n q => .ok ((b.toNat % 16, n), q)

/-- MIRROR compact.go:537-550 `ReadMap`: `none` = empty map, else (key type, value type, size) -/
def readMap (d : Bytes) (pos : Nat) : PR (Option (Nat × Nat × Nat)) :=
  seq (readUvarint maxInt32 d pos) id fun n p =>
    if n == 0 then .ok (none, p)
    else seq (readByte d p) dontExpectEOF fun b q => .ok (some (b.toNat / 16, b.toNat % 16, n), q)

/-! ## the walk -/

/-- what is left to skip: the Go functions of decode.go, one constructor each -/
inductive Task where
  | val (ty : Nat)             -- `skip(r, t)` (the compact protocol coalesces bool fields)
  | item (ty : Nat)            -- `skipItem(r, t)`
  | items (ty n : Nat)         -- `skipListItems` / `skipSetItems` with `n` items to go
  | pairs (kt vt n : Nat)      -- `skipMapItems` with `n` entries to go
  | fields (first : Bool)      -- the loop of `skipStruct`; `first` = (`numFields == 0`)

/-- MIRROR decode.go:634-812. Every call spends one unit of fuel. -/
def skipT (d : Bytes) : Nat → Task → Nat → PR Unit
  | 0, _, _ => .error .fuel
  | f + 1, .val ty, pos =>
    match ty with
    | 1 => .ok ((), pos)
    | 2 => .ok ((), pos)
    | 3 => seq (readByte d pos) id fun _ p => .ok ((), p)
    | 4 => seq (readInt16 d pos) id fun _ p => .ok ((), p)
    | 5 => seq (readInt32 d pos) id fun _ p => .ok ((), p)
    | 6 => seq (readInt64 d pos) id fun _ p => .ok ((), p)
    | 7 => readFloat d pos
    | 8 => skipBinary d pos
    | 9 => seq (readList d pos) id fun l p => skipT d f (.items l.1 l.2) p
    | 10 => seq (readList d pos) id fun l p => skipT d f (.items l.1 l.2) p
    | 11 => seq (readMap d pos) id fun m p =>
        match m with
        | none => .ok ((), p)
        | some (kt, vt, n) => skipT d f (.pairs kt vt n) p
    | 12 => skipT d f (.fields true) pos
    | 13 => seq (readFloat d pos) id fun _ p => readFloat d p
    | _ => .error .badType
  | f + 1, .item ty, pos =>
    if ty == 1 || ty == 2 then seq (readByte d pos) id fun _ p => .ok ((), p)
    else skipT d f (.val ty) pos
  | _ + 1, .items _ 0, pos => .ok ((), pos)
  | f + 1, .items ty (n + 1), pos =>
    seq (skipT d f (.item ty) pos) dontExpectEOF fun _ p => skipT d f (.items ty n) p
  | _ + 1, .pairs _ _ 0, pos => .ok ((), pos)
  | f + 1, .pairs kt vt (n + 1), pos =>
    seq (skipT d f (.item kt) pos) dontExpectEOF fun _ p =>
      seq (skipT d f (.item vt) p) dontExpectEOF fun _ q => skipT d f (.pairs kt vt n) q
  | f + 1, .fields first, pos =>
    seq (readField d pos) (if first then id else dontExpectEOF) fun h p =>
      match h with
      | none => .ok ((), p)
      | some ty => seq (skipT d f (.val ty) p) dontExpectEOF fun _ q => skipT d f (.fields false) q

/-- fuel that a walk over `d` cannot exhaust: every unit spent either consumes a byte or is one of
    at most three calls (`items` → `item` → `val` → `fields`) in front of a step that does; `4·|d| + 3` would do
    (`skipStruct_nofuel`), the 16 is slack. -/
def fuelFor (d : Bytes) : Nat := 4 * d.length + 16

/-- MIRROR `skipStruct` on a fresh `compactBytesReader` over `d`: the offset after the struct -/
def skipStruct (d : Bytes) : Except SkErr Nat :=
  match skipT d (fuelFor d) (.fields true) 0 with
  | .ok (_, p) => .ok p
  | .error e => .error e

/-! ## a cut input: the run on `d.take m` against the run on `d` -/

/-- `r` is the result on `d` from offset `pos`, `r'` the result on `d.take m` from the same offset:
    a success on `d` ends at or after `pos`; if the cut is at or after the end, the cut run succeeds
    with the same answer; if it is before, the cut run fails with one of the end-of-input classes. -/
def Rel {α} (pos m : Nat) (r r' : PR α) : Prop :=
  ∀ a pos', r = .ok (a, pos') →
    pos ≤ pos' ∧ (pos ≤ m → (pos' ≤ m → r' = .ok (a, pos')) ∧
      (m < pos' → ∃ e, r' = .error e ∧ (e = .eof ∨ e = .ueof)))

theorem Rel.ok {α} {pos m : Nat} (a : α) : Rel pos m (.ok (a, pos)) (.ok (a, pos)) := by
  intro a' p' e
  cases e
  exact ⟨Nat.le_refl _, fun _ => ⟨fun _ => rfl, fun h' => by omega⟩⟩

theorem Rel.pure {α} (pos m : Nat) (a : α) (h : pos ≤ m) : Rel pos m (.ok (a, pos)) (.ok (a, pos)) :=
  Rel.ok a

theorem Rel.error {α} (pos m : Nat) (e : SkErr) (r' : PR α) : Rel pos m (.error e) r' := by
  intro a' p' h; cases h

/-- error mappings that keep the end-of-input classes (`id`, `dontExpectEOF`) -/
class EofPres (fe : SkErr → SkErr) : Prop where
  pres : ∀ e, (e = .eof ∨ e = .ueof) → (fe e = .eof ∨ fe e = .ueof)

instance : EofPres id := ⟨fun _ h => h⟩
instance : EofPres dontExpectEOF := ⟨fun e h => by rcases h with h | h <;> subst h <;> simp [dontExpectEOF]⟩
instance (c : Prop) [Decidable c] (f g : SkErr → SkErr) [EofPres f] [EofPres g] : EofPres (if c then f else g) := by
  split <;> assumption

theorem seq_rel {α β} {pos m : Nat} {r r' : PR α} (fe : SkErr → SkErr) [hfe : EofPres fe] {k k' : α → Nat → PR β}
    (hr : Rel pos m r r') (hk : ∀ a p, pos ≤ p → Rel p m (k a p) (k' a p)) :
    Rel pos m (seq r fe k) (seq r' fe k') := by
  intro b q h
  cases r with
  | error e => simp [seq] at h
  | ok ap =>
    obtain ⟨a, p⟩ := ap
    simp only [seq] at h
    obtain ⟨h1, h2⟩ := hr a p rfl
    have hpq := (hk a p h1 b q h).1
    refine ⟨by omega, fun hpm => ?_⟩
    obtain ⟨h3, h4⟩ := h2 hpm
    by_cases hp : p ≤ m
    · rw [h3 hp]
      simp only [seq]
      exact (hk a p h1 b q h).2 hp
    · obtain ⟨e, he, hc⟩ := h4 (by omega)
      rw [he]
      exact ⟨fun _ => by omega, fun _ => ⟨_, rfl, hfe.pres e hc⟩⟩

theorem seq_ok {α β} {r : PR α} {fe : SkErr → SkErr} {k : α → Nat → PR β} {y : β × Nat}
    (h : seq r fe k = .ok y) : ∃ a p, r = .ok (a, p) ∧ k a p = .ok y := by
  cases r with
  | error e => simp [seq] at h
  | ok ap => obtain ⟨a, p⟩ := ap; exact ⟨a, p, rfl, h⟩

/-! ## the open path with the walk plugged in -/

open PqModel.IoFault in
inductive FootErr where
  | trailer (e : OpenErr)     -- the magic / length / bounds checks of `openModel`
  | thrift (e : SkErr)        -- "reading parquet file metadata: …"
  | trailing (n : Nat)        -- "unexpected trailing bytes at the end of thrift input"
  | signedNoKeys              -- "parquet file has a signed footer but no DecryptionConfig was provided"
  deriving DecidableEq, Repr

/-- MIRROR file.go:165-211, the branch of a footer magic "PAR1", with the structure walk in place of
    the typed decoder: the footer must be one struct, followed by nothing or by a 28-byte signature
    (12-byte nonce + 16-byte tag), which needs a DecryptionConfig (`enc`; the verification of the
    signature is not modelled). Answers the number of bytes of the struct. -/
def footerWalk (enc : Bool) (ft : Bytes) : Except FootErr Nat :=
  match skipStruct ft with
  | .error e => .error (.thrift e)
  | .ok n =>
    if ft.length - n == 0 then .ok n
    else if ft.length - n == 28 then (if enc then .ok n else .error .signedNoKeys)
    else .error (.trailing (ft.length - n))

/-- MIRROR `OpenFile` up to the decoded footer (file.go:65-211): `openModel`, then `footerWalk` -/
def openWalk (enc : Bool) (f : Bytes) : Except FootErr Nat :=
  match PqModel.IoFault.openModel enc f with
  | .error e => .error (.trailer e)
  | .ok ft => footerWalk enc ft

/-- the 4 bytes `binary.LittleEndian.PutUint32` stores -/
def le32Bytes (n : Nat) : Bytes :=
  [UInt8.ofNat (n % 256), UInt8.ofNat (n / 256 % 256), UInt8.ofNat (n / 65536 % 256), UInt8.ofNat (n / 16777216 % 256)]


/-- a file whose footer section holds `ft`: `pre ‖ ft ‖ le32(len ft) ‖ "PAR1"` (`pre` starts with the
    header magic) -/
def fileWith (pre ft : Bytes) : Bytes := pre ++ ft ++ le32Bytes ft.length ++ PqModel.IoFault.magicPAR1

end PqModel.ThriftSkip
