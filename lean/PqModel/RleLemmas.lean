import PqModel.BitsBytes

/-! The run grammar of the RLE/bit-packed hybrid (C04 rle): the spec decoder reads every serialized run list;
`runStep` is the loop the three Go decoders share (`runLoop_serialize`); and what the encoder proofs of
`RleDecodeLemmas.lean` need first. -/
namespace PqModel.Rle
open PqModel.Bits

theorem Run.values_length (w : Nat) : ∀ r : Run, (r.values w).length = match r with | .rle c _ => c | .bp g _ => 8 * g
  | .rle c v => by simp [Run.values]
  | .bp g p => by simp [Run.values, unpackBits_length]

theorem decodeRuns_zero (w fuel : Nat) (bs : List Nat) : decodeRuns w fuel 0 bs = .ok [] := by
  cases fuel <;> simp [decodeRuns]

theorem serialize_cons (r : Run) (rs : List Run) : serialize (r :: rs) = r.bytes ++ serialize rs := by
  simp [serialize]

theorem runsValues_cons (w : Nat) (r : Run) (rs : List Run) :
    runsValues w (r :: rs) = r.values w ++ runsValues w rs := by
  simp [runsValues]

theorem runsValues_nil (w : Nat) : runsValues w [] = [] := rfl

theorem runsValues_append (w : Nat) (a b : List Run) :
    runsValues w (a ++ b) = runsValues w a ++ runsValues w b := by
  simp [runsValues]

theorem serialize_append (a b : List Run) : serialize (a ++ b) = serialize a ++ serialize b := by
  simp [serialize]

theorem decodeRuns_run (w f need : Nat) (r : Run) (tl : List Nat) (hr : r.WF w) (h0 : need ≠ 0) :
    decodeRuns w (f + 1) need (r.bytes ++ tl) =
      (decodeRuns w f (need - (r.values w).length) tl).map ((r.values w).take need ++ ·) := by
  cases r with
  | rle c v =>
    simp only [Run.WF] at hr
    have h1 : ¬ (2 * c % 2 = 1) := by omega
    have h2 : 2 * c / 2 = c := by omega
    have h3 : ¬ (v ++ tl).length < (w + 7) / 8 := by rw [List.length_append]; omega
    have e : need - min need c = need - c := by omega
    simp only [decodeRuns, h0, if_false, Run.bytes, List.append_assoc, uvarint_roundtrip, h1, h2, h3,
      List.take_left' hr, List.drop_left' hr, Run.values, List.length_replicate, List.take_replicate, e]
  | bp g p =>
    simp only [Run.WF] at hr
    have h1 : (2 * g + 1) % 2 = 1 := by omega
    have h2 : (2 * g + 1) / 2 = g := by omega
    have h3 : ¬ (p ++ tl).length < g * w := by rw [List.length_append]; omega
    have e : need - min need (8 * g) = need - 8 * g := by omega
    simp only [decodeRuns, h0, if_false, if_true, Run.bytes, List.append_assoc, uvarint_roundtrip, h1, h2, h3,
      List.take_left' hr, List.drop_left' hr, Run.values, unpackBits_length, e]
    rw [List.take_eq_take_min, unpackBits_length, ← unpackBits_take w _ _ _ (Nat.min_le_right _ _)]

theorem decodeRuns_serialize (w : Nat) : ∀ (rs : List Run) (fuel need : Nat) (tl : List Nat),
    (∀ r ∈ rs, r.WF w) → rs.length ≤ fuel → need ≤ (runsValues w rs).length →
    decodeRuns w fuel need (serialize rs ++ tl) = .ok ((runsValues w rs).take need)
  | [], fuel, need, tl, _, _, hn => by
    have : need = 0 := by simpa [runsValues] using hn
    subst this
    simp [decodeRuns_zero]
  | r :: rs, 0, _, _, _, hf, _ => by simp at hf
  | r :: rs, f + 1, need, tl, hwf, hf, hn => by
    by_cases h0 : need = 0
    · subst h0; simp [decodeRuns]
    · rw [runsValues_cons, List.length_append] at hn
      rw [serialize_cons, List.append_assoc, decodeRuns_run w f need r _ (hwf r (by simp)) h0,
        decodeRuns_serialize w rs f _ tl (fun x hx => hwf x (by simp [hx])) (by simpa using hf) (by omega),
        runsValues_cons, List.take_append]
      rfl

theorem packBytes_eq (w : Nat) (vals : List Nat) :
    packBytes w vals = bytesOf (packBits w (vals.map (· % 2 ^ w))) := rfl

theorem packBytes_length (w m : Nat) (vals : List Nat) (h : vals.length = 8 * m) :
    (packBytes w vals).length = m * w := by
  rw [packBytes_eq, bytesOf_length, packBits_length, List.length_map, h, Nat.mul_comm w]
  have : 8 * m * w = 8 * (m * w) := by rw [Nat.mul_assoc]
  omega

theorem unpack_packBytes (w : Nat) (vals : List Nat) :
    unpackBits w vals.length (bytesToBits (packBytes w vals)) = vals.map (· % 2 ^ w) := by
  have h := unpack_pack_bytes w (vals.map (· % 2 ^ w)) (by
    intro x hx
    simp only [List.mem_map] at hx
    obtain ⟨y, _, rfl⟩ := hx
    exact Nat.mod_lt _ (Nat.two_pow_pos w))
  simpa [packBytes] using h

theorem groups8_length : ∀ (n : Nat) (xs : List Nat), (groups8 n xs).length = n
  | 0, _ => rfl
  | n + 1, xs => by simp [groups8, groups8_length n]

theorem groups8_all_len (n : Nat) (xs : List Nat) (h : 8 * n ≤ xs.length) :
    ∀ g ∈ groups8 n xs, g.length = 8 := by
  fun_induction groups8 n xs with
  | case1 => intro g hg; cases hg
  | case2 n xs ih =>
    intro g hg
    rcases List.mem_cons.mp hg with rfl | hg
    · rw [List.length_take]; omega
    · exact ih (by rw [List.length_drop]; omega) g hg

theorem groups8_flatten (n : Nat) (xs : List Nat) : (groups8 n xs).flatten = xs.take (8 * n) := by
  fun_induction groups8 n xs with
  | case1 => rfl
  | case2 n xs ih => rw [List.flatten_cons, ih, show 8 * (n + 1) = 8 + 8 * n by omega, List.take_add]

theorem drop_length_takeWhile {α} (p : α → Bool) (l : List α) :
    l.drop (l.takeWhile p).length = l.dropWhile p :=
  ListFacts.drop_length_takeWhile p l

theorem take_length_takeWhile {α} (p : α → Bool) (l : List α) :
    l.take (l.takeWhile p).length = l.takeWhile p := by
  conv => lhs; arg 2; rw [← List.takeWhile_append_dropWhile (p := p) (l := l)]
  exact List.take_left' rfl

/-- `enc v` are the stored bytes of the RLE value `v`: `ByteCount(w)` bytes that read back as `v`
modulo `2^w`, canonical when `v` fits the width -/
structure EncOK (w : Nat) (enc : Nat → List Nat) : Prop where
  len : ∀ v, (enc v).length = (w + 7) / 8
  val : ∀ v, leNat (enc v) % 2 ^ w = v % 2 ^ w
  can : ∀ v, v < 2 ^ w → leNat (enc v) < 2 ^ w

theorem encOK_levels (w : Nat) (h1 : 1 ≤ w) (h8 : w ≤ 8) : EncOK w (fun v => [v]) :=
  ⟨fun _ => by simp; omega, fun _ => by simp [leNat], fun v hv => by simpa [leNat] using hv⟩

theorem encOK_int32 (w : Nat) : EncOK w (leBytes ((w + 7) / 8)) :=
  ⟨fun _ => leBytes_length _ _, fun v => by rw [leNat_leBytes]; exact mod_pow_of_le v w _ (by omega),
    fun v hv => by rw [leNat_leBytes]; exact Nat.lt_of_le_of_lt (Nat.mod_le _ _) hv⟩

theorem scanBits_le (prev : Nat) (l : List Nat) : scanBits prev l ≤ l.length := by
  -- cases of `scanBits`: nothing left; the byte is taken; the byte stops the scan
  fun_induction scanBits prev l with
  | case1 => exact Nat.zero_le _
  | case2 prev b bs h ih => rw [List.length_cons]; omega
  | case3 => exact Nat.zero_le _

theorem scanLevels_le (prev : List Nat) (l : List (List Nat)) : scanLevels prev l ≤ l.length := by
  -- cases of `scanLevels`: nothing left; the word is taken; the word stops the scan
  fun_induction scanLevels prev l with
  | case1 => exact Nat.zero_le _
  | case2 prev g gs h ih => rw [List.length_cons]; omega
  | case3 => exact Nat.zero_le _

theorem unpackBits_one : ∀ bits : List Bool, unpackBits 1 bits.length bits = bits.map b2n
  | [] => rfl
  | b :: bs => by
    simp only [List.length_cons, unpackBits, List.take_succ_cons, List.take_zero, List.drop_succ_cons,
      List.drop_zero, List.map_cons, unpackBits_one bs]
    cases b <;> simp [fromBits, b2n]

theorem bytesToBits_replicate (n a : Nat) (h : a = 0 ∨ a = 0xFF) :
    (bytesToBits (List.replicate n a)).map b2n = List.replicate (8 * n) (a % 2) := by
  induction n with
  | zero => simp [bytesToBits]
  | succ n ih =>
    rw [List.replicate_succ, ← List.singleton_append, bytesToBits_append, List.map_append, ih]
    have e : 8 * (n + 1) = 8 + 8 * n := by omega
    rw [e, ← List.replicate_append_replicate]
    congr 1
    rcases h with rfl | rfl <;> decide

theorem uvarint_length_pos (n : Nat) : 1 ≤ (uvarint n).length := by
  rw [uvarint]; split <;> simp

theorem uvarint_small (n : Nat) (h : n < 128) : uvarint n = [n] := by
  rw [uvarint]; simp [h]

theorem serialize_length_ge : ∀ rs : List Run, rs.length ≤ (serialize rs).length
  | [] => by simp
  | r :: rs => by
    have ih := serialize_length_ge rs
    rw [serialize_cons, List.length_append, List.length_cons]
    have : 1 ≤ r.bytes.length := by
      cases r with
      | rle c v => simp only [Run.bytes, List.length_append]; have := uvarint_length_pos (2 * c); omega
      | bp g q => simp only [Run.bytes, List.length_append]; have := uvarint_length_pos (2 * g + 1); omega
    omega

theorem serialize_eq_nil {rs : List Run} (h : serialize rs = []) : rs = [] := by
  have := serialize_length_ge rs
  rw [h] at this
  exact List.eq_nil_of_length_eq_zero (Nat.le_zero.mp this)

theorem specDecode_serialize (w n : Nat) (rs : List Run) (hwf : ∀ r ∈ rs, r.WF w)
    (hn : n ≤ (runsValues w rs).length) :
    specDecode w n (serialize rs) = .ok ((runsValues w rs).take n) := by
  have := decodeRuns_serialize w rs ((serialize rs).length + 1) n [] hwf
    (by have := serialize_length_ge rs; omega) hn
  simpa [specDecode] using this

theorem map_mod_of_lt (w : Nat) (xs : List Nat) (h : ∀ x ∈ xs, x < 2 ^ w) :
    xs.map (· % 2 ^ w) = xs :=
  ListFacts.map_id_of fun x hx => Nat.mod_eq_of_lt (h x hx)

theorem all_zero_iff (xs : List Nat) : xs.all (· == 0) = true ↔ ∀ x ∈ xs, x = 0 := by
  simp [List.all_eq_true]

theorem all_zero_eq_replicate (xs : List Nat) (h : ∀ x ∈ xs, x = 0) : xs = List.replicate xs.length 0 :=
  List.eq_replicate_iff.mpr ⟨rfl, h⟩

theorem zeroWidth_run (xs : List Nat) (h : ∀ x ∈ xs, x = 0) :
    Run.WF 0 (.rle xs.length []) ∧ runsValues 0 [.rle xs.length []] = xs ∧
      serialize [.rle xs.length []] = uvarint (2 * xs.length) := by
  refine ⟨rfl, ?_, by simp [serialize, Run.bytes]⟩
  simp only [runsValues, List.map_cons, List.map_nil, List.flatten_cons, List.flatten_nil,
    List.append_nil, Run.values, leNat]
  exact (all_zero_eq_replicate xs h).symm

theorem zeroWidth_stream (xs : List Nat) (h : ∀ x ∈ xs, x = 0) : ValidRle 0 xs (uvarint (2 * xs.length)) := by
  obtain ⟨hwf, hv, hs⟩ := zeroWidth_run xs h
  exact ⟨_, by simpa using hwf, hv, hs⟩

theorem lt_pow_bitLen (x : Nat) : x < 2 ^ bitLen x := by
  unfold bitLen
  split
  · subst_vars; simp
  · exact Nat.lt_log2_self

theorem bitLen_le_of_lt (x k : Nat) (h : x < 2 ^ k) : bitLen x ≤ k := by
  unfold bitLen
  split
  · omega
  · rename_i hx
    have := (Nat.log2_lt hx).mpr h
    omega

theorem foldl_max_spec (xs : List Nat) : ∀ init : Nat,
    init ≤ xs.foldl (fun m x => max m (bitLen x)) init ∧
    (∀ x ∈ xs, bitLen x ≤ xs.foldl (fun m x => max m (bitLen x)) init) ∧
    (∀ k, init ≤ k → (∀ x ∈ xs, bitLen x ≤ k) → xs.foldl (fun m x => max m (bitLen x)) init ≤ k) := by
  induction xs with
  | nil => intro init; simp
  | cons a xs ih =>
    intro init
    obtain ⟨h1, h2, h3⟩ := ih (max init (bitLen a))
    simp only [List.foldl_cons]
    refine ⟨by omega, ?_, ?_⟩
    · intro x hx
      simp only [List.mem_cons] at hx
      rcases hx with rfl | hx
      · omega
      · exact h2 x hx
    · intro k hk hall
      exact h3 k (by have := hall a (by simp); omega) (fun x hx => hall x (by simp [hx]))

theorem lt_pow_maxLen (xs : List Nat) : ∀ x ∈ xs, x < 2 ^ maxLen xs := by
  intro x hx
  have h := (foldl_max_spec xs 0).2.1 x hx
  exact Nat.lt_of_lt_of_le (lt_pow_bitLen x) (Nat.pow_le_pow_right (by decide) h)

theorem maxLen_le (xs : List Nat) (k : Nat) (h : ∀ x ∈ xs, x < 2 ^ k) : maxLen xs ≤ k :=
  (foldl_max_spec xs 0).2.2 k (Nat.zero_le _) (fun x hx => bitLen_le_of_lt x k (h x hx))

/-- the 4-byte little-endian length prefix (data page v1 levels, RLE booleans) -/
theorem prefix_strip (w n : Nat) (body : List Nat) (h : body.length < 2 ^ 32) :
    specDecodeLevelsV1 w n (leBytes 4 body.length ++ body) = specDecode w n body := by
  have h4 : (leBytes 4 body.length).length = 4 := leBytes_length _ _
  have hle : leNat (leBytes 4 body.length) = body.length := by
    rw [leNat_leBytes]; exact Nat.mod_eq_of_lt h
  have a : ¬ (leBytes 4 body.length ++ body).length < 4 := by
    rw [List.length_append]; omega
  simp only [specDecodeLevelsV1, a, if_false, List.take_left' h4, List.drop_left' h4, hle,
    Nat.lt_irrefl, List.take_length]

/-- `DecodeBoolean` (rle.go:68-82) answers an empty body before it reads the prefix -/
theorem goDecodeBoolean_prefix (body : List Nat) (hne : body ≠ []) (h : body.length < 2 ^ 32) :
    goDecodeBoolean (leBytes 4 body.length ++ body) = goDecodeBits body := by
  have hpos : 1 ≤ body.length := List.length_pos_iff.mpr hne
  have h4 : (leBytes 4 body.length).length = 4 := leBytes_length _ _
  have hle : leNat (leBytes 4 body.length) = body.length := by
    rw [leNat_leBytes]; exact Nat.mod_eq_of_lt h
  have a1 : ¬ (leBytes 4 body.length ++ body).length = 4 := by rw [List.length_append]; omega
  have a2 : ¬ (leBytes 4 body.length ++ body).length < 4 := by rw [List.length_append]; omega
  simp only [goDecodeBoolean, a1, a2, if_false, List.take_left' h4, List.drop_left' h4, hle,
    Nat.lt_irrefl, List.take_length]

/-- `k` counts the 7-bit groups of `n`, `i` the bytes already read; `i + k ≤ 9` keeps the reader away from
its overflow tests at byte 10 (`i = 10`, and `i = 9 ∧ b > 1`). -/
theorem goUvarint_uvarint : ∀ (k i n : Nat) (rest : List Nat), n < 128 ^ k → i + k ≤ 9 →
    goUvarint i (uvarint n ++ rest) = some (n, rest)
  | 0, i, n, rest, hn, hi => by
    have h0 : n = 0 := by simpa using hn
    subst h0
    have a : ¬ i = 10 := by omega
    rw [uvarint_small 0 (by decide)]
    simp [goUvarint, a]
  | k + 1, i, n, rest, hn, hi => by
    have a : ¬ i = 10 := by omega
    have a9 : ¬ i = 9 := by omega
    rw [uvarint]
    by_cases h : n < 128
    · simp [h, goUvarint, a, a9]
    · have hb : ¬ (n % 128 + 128 < 128) := by omega
      have hdiv : n / 128 < 128 ^ k := by
        rw [Nat.pow_succ] at hn
        exact Nat.div_lt_of_lt_mul (by rw [Nat.mul_comm]; exact hn)
      simp only [h, dite_false, List.cons_append, goUvarint, a, if_false, hb]
      rw [goUvarint_uvarint k (i + 1) (n / 128) rest hdiv (by omega)]
      simp; omega

def Run.goBits : Run → List Bool
  | .rle c v => List.replicate c (v.headD 0 % 2 == 1)
  | .bp _ p => bytesToBits p

theorem Run.goBits_values (r : Run) (h : r.WF 1) : r.goBits.map b2n = r.values 1 := by
  cases r with
  | rle c v =>
    simp only [Run.WF] at h
    -- `h : v.length = (1 + 7) / 8`: exactly one value byte
    match v, h with
    | [wd], _ =>
      simp only [Run.goBits, Run.values, List.headD_cons, List.map_replicate, leNat]
      congr 1
      have : wd % 2 = 0 ∨ wd % 2 = 1 := by omega
      rcases this with e | e <;> simp [b2n, e]
  | bp g p =>
    simp only [Run.WF] at h
    simp only [Run.goBits, Run.values]
    have : 8 * g = (bytesToBits p).length := by rw [bytesToBits_length, h]; omega
    rw [this, unpackBits_one]

/-- One iteration of the loop that `decodeBits`, `decodeBytes` and `decodeInt32` (rle.go) share, `k`
being the remaining iterations: read the header, skip an empty run, refuse a run above
`math.MaxInt32`, hand the `nb count` bytes of a bit-packed run to `bp`, leave an RLE run to `rle`. -/
def runStep {σ : Type} (nb : Nat → Nat) (bp : σ → Nat → List Nat → σ)
    (rle : (σ → List Nat → Except Err σ) → σ → Nat → List Nat → Except Err σ)
    (k : σ → List Nat → Except Err σ) (st : σ) (src : List Nat) : Except Err σ :=
  if src.isEmpty then .ok st else
  match goUvarint 0 src with
  | none => .error .truncHeader
  | some (u, rest) =>
    if u / 2 = 0 then k st rest
    else if u / 2 > 2 ^ 31 - 1 then .error .runTooLong
    else if u % 2 = 1 then
      if rest.length < nb (u / 2) then .error .truncBitPacked
      else k (bp st (u / 2) (rest.take (nb (u / 2)))) (rest.drop (nb (u / 2)))
    else rle k st (u / 2) rest

theorem goDecodeBitsLoop_succ (f : Nat) (bits : List Bool) (src : List Nat) :
    goDecodeBitsLoop (f + 1) bits src =
      runStep (fun c => c) (fun bits _ p => bits ++ bytesToBits p)
        (fun k bits c rest => k (bits ++ List.replicate c (rest.headD 0 % 2 == 1)) (rest.drop 1))
        (goDecodeBitsLoop f) bits src := rfl

/-- a run header is `2c` or `2c + 1` with `c ≤ math.MaxInt32`, so below `2^32`: at most five 7-bit groups -/
theorem goUvarint_header (n : Nat) (tl : List Nat) (h : n < 2 ^ 32) :
    goUvarint 0 (uvarint n ++ tl) = some (n, tl) :=
  goUvarint_uvarint 5 0 n tl (by omega) (by omega)

theorem uvarint_append_isEmpty (n : Nat) (l : List Nat) : (uvarint n ++ l).isEmpty = false := by
  have := uvarint_length_pos n
  cases h : uvarint n with
  | nil => rw [h] at this; simp at this
  | cons _ _ => rfl

/-- `hnb0`, `happ0`: a bit-packed header with 0 groups takes the skip branch (`u / 2 = 0`), so such a run
must have no payload and leave the state as it is. `ok`: the runs this decoder accepts; `app st r`: its state after
run `r`; `hrle`, `hbp`: the two callbacks of `runStep` compute `app`. -/
theorem runStep_run {σ : Type} {nb : Nat → Nat} {bp : σ → Nat → List Nat → σ}
    {rle : (σ → List Nat → Except Err σ) → σ → Nat → List Nat → Except Err σ}
    {ok : Run → Prop} {app : σ → Run → σ} (hcnt : ∀ r, ok r → r.GoOK) (hnb0 : nb 0 = 0)
    (hrle : ∀ k st c v tl, ok (.rle c v) → rle k st c (v ++ tl) = k (app st (.rle c v)) tl)
    (hbp : ∀ st g p, ok (.bp g p) → p.length = nb g ∧ bp st g p = app st (.bp g p))
    (happ0 : ∀ st, app st (.bp 0 []) = st)
    (k : σ → List Nat → Except Err σ) (st : σ) (r : Run) (tl : List Nat) (hr : ok r) :
    runStep nb bp rle k st (r.bytes ++ tl) = k (app st r) tl := by
  cases r with
  | rle c v =>
    obtain ⟨h1, h2⟩ := hcnt _ hr
    have e1 : 2 * c / 2 = c := by omega
    have e2 : ¬ c = 0 := by omega
    have e3 : ¬ c > 2 ^ 31 - 1 := by omega
    have e4 : ¬ 2 * c % 2 = 1 := by omega
    simp only [runStep, Run.bytes, List.append_assoc, uvarint_append_isEmpty, Bool.false_eq_true, if_false,
      goUvarint_header (2 * c) _ (by omega), e1, e2, e3, e4]
    exact hrle k st c v tl hr
  | bp g p =>
    have h2 : g ≤ 2 ^ 31 - 1 := hcnt _ hr
    obtain ⟨hl, hb⟩ := hbp st g p hr
    have e1 : (2 * g + 1) / 2 = g := by omega
    simp only [runStep, Run.bytes, List.append_assoc, uvarint_append_isEmpty, Bool.false_eq_true, if_false,
      goUvarint_header (2 * g + 1) _ (by omega), e1]
    by_cases h0 : g = 0
    · subst h0
      rw [hnb0] at hl
      have : p = [] := List.eq_nil_of_length_eq_zero hl
      subst this
      rw [if_pos rfl, happ0]
      rfl
    · have e3 : ¬ g > 2 ^ 31 - 1 := by omega
      have e4 : (2 * g + 1) % 2 = 1 := by omega
      have e5 : ¬ (p ++ tl).length < nb g := by rw [List.length_append, hl]; omega
      rw [if_neg h0, if_neg e3, if_pos e4, if_neg e5, ← hl, List.take_left' rfl, List.drop_left' rfl, hb]

theorem runLoop_serialize {σ : Type} {nb : Nat → Nat} {bp : σ → Nat → List Nat → σ}
    {rle : (σ → List Nat → Except Err σ) → σ → Nat → List Nat → Except Err σ}
    {L : Nat → σ → List Nat → Except Err σ} {ok : Run → Prop} {app : σ → Run → σ}
    (h0 : ∀ st, L 0 st [] = .ok st)
    (hs : ∀ f st src, L (f + 1) st src = runStep nb bp rle (L f) st src)
    (hcnt : ∀ r, ok r → r.GoOK) (hnb0 : nb 0 = 0)
    (hrle : ∀ k st c v tl, ok (.rle c v) → rle k st c (v ++ tl) = k (app st (.rle c v)) tl)
    (hbp : ∀ st g p, ok (.bp g p) → p.length = nb g ∧ bp st g p = app st (.bp g p))
    (happ0 : ∀ st, app st (.bp 0 []) = st) :
    ∀ (rs : List Run) (f : Nat) (st : σ), (∀ r ∈ rs, ok r) → rs.length ≤ f →
      L f st (serialize rs) = .ok (rs.foldl app st)
  | [], 0, st, _, _ => h0 st
  | [], f + 1, st, _, _ => by rw [hs]; rfl
  | r :: rs, 0, _, _, hf => by simp at hf
  | r :: rs, f + 1, st, hok, hf => by
    have ih := runLoop_serialize h0 hs hcnt hnb0 hrle hbp happ0 rs f (app st r)
      (fun x hx => hok x (by simp [hx])) (by simpa using hf)
    have h := runStep_run hcnt hnb0 hrle hbp happ0 (L f) st r (serialize rs) (hok r (by simp))
    rw [hs, serialize_cons, List.foldl_cons, ← ih]
    simpa only [List.append_nil] using h

theorem foldl_append_flatten {α β : Type} (g : β → List α) : ∀ (rs : List β) (st : List α),
    rs.foldl (fun st r => st ++ g r) st = st ++ (rs.map g).flatten
  | [], st => by simp
  | r :: rs, st => by simp [foldl_append_flatten g rs]

theorem goLoop_serialize (rs : List Run) (fuel : Nat) (bits : List Bool)
    (hwf : ∀ r ∈ rs, r.WF 1) (hgo : ∀ r ∈ rs, r.GoOK) (hf : rs.length ≤ fuel) :
    goDecodeBitsLoop fuel bits (serialize rs) = .ok (bits ++ (rs.map Run.goBits).flatten) := by
  rw [← foldl_append_flatten]
  refine runLoop_serialize (ok := fun r => r.WF 1 ∧ r.GoOK) (fun _ => rfl) goDecodeBitsLoop_succ
    (fun _ h => h.2) rfl ?_ ?_ ?_ rs fuel bits (fun r hr => ⟨hwf r hr, hgo r hr⟩) hf
  · intro k st c v tl h
    match v, h.1 with
    | [wd], _ => rfl
  · intro st g p h
    exact ⟨by simpa [Run.WF] using h.1, rfl⟩
  · intro st
    simp [Run.goBits, bytesToBits]

theorem goBits_values (rs : List Run) (hwf : ∀ r ∈ rs, r.WF 1) :
    ((rs.map Run.goBits).flatten).map b2n = runsValues 1 rs := by
  induction rs with
  | nil => rfl
  | cons r rs ih =>
    simp only [List.map_cons, List.flatten_cons, List.map_append, runsValues_cons]
    rw [Run.goBits_values r (hwf r (by simp)), ih (fun x hx => hwf x (by simp [hx]))]

/-- `ValidRle 1` restricted to the streams the Go boolean decoder frames like the format does:
no empty RLE run (Go does not consume its value byte), no run above `math.MaxInt32`. -/
def ValidRleGo (xs bs : List Nat) : Prop :=
  ∃ rs : List Run, (∀ r ∈ rs, r.WF 1) ∧ (∀ r ∈ rs, r.GoOK) ∧ runsValues 1 rs = xs ∧ serialize rs = bs

theorem goDecodeBitsLoop_of_valid {xs bs : List Nat} (h : ValidRleGo xs bs) :
    ∃ bits : List Bool, bits.map b2n = xs ∧ goDecodeBitsLoop (bs.length + 1) [] bs = .ok bits := by
  obtain ⟨rs, hwf, hgo, rfl, rfl⟩ := h
  exact ⟨_, goBits_values rs hwf,
    by rw [goLoop_serialize rs _ [] hwf hgo (by have := serialize_length_ge rs; omega)]; rfl⟩

end PqModel.Rle
