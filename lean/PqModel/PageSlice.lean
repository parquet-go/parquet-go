import PqModel.SliceRepeated

/-! # `optionalPage.Slice` and `repeatedPage.Slice` with their values (C08)

`SliceRepeated.lean` mirrors the two scan loops of `repeatedPage.Slice` on the repetition levels and
stops at the bounds handed to `base.Slice`. This file closes the rest of `Slice(i, j)`:

* MIRROR `baseSlice` — `values[i:j]` of the primitive pages (`page_int32.go` … `Slice`),
  `sliceOptionalPg` — `optionalPage.Slice` (page_optional.go:54-64),
  `sliceRepeatedPg` — `repeatedPage.Slice` (page_repeated.go:60-112: `sliceRepeated` + the base slice),
  `weave` — what `optionalPageValues.ReadValues` / `repeatedPageValues.ReadValues` deliver in total
  (page_optional.go:72-117, page_repeated.go:120-178: a null for every level below the maximum, the
  next base value otherwise, stop when the base page is exhausted).
* SPEC a page is the `encode` of a stream of triples (repetition level, definition level, value or
  null); the stream is a leading fragment of a row begun on the previous page (no level 0) followed
  by rows (`RowWF` on the repetition levels); `Slice(i, j)` must be the `encode` of rows `i..j-1`.

The nested case (an optional leaf below a repeated group, nulls at any definition level below the
maximum, empty lists, null lists) is the same Go type `repeatedPage`; nothing in the theorems
restricts the definition levels. -/
namespace PqModel.PageSlice
open PqModel.Seek

/-- (repetition level, definition level, value or null) -/
abbrev Triple := Nat × Nat × Option Nat

/-- the three arrays a `repeatedPage` holds (`rep = []` for an `optionalPage`) -/
structure Pg where
  rep : List Nat
  dfn : List Nat
  base : List Nat
deriving DecidableEq, Repr

/-- SPEC: the page that holds a stream of triples (nulls are not stored in the base page) -/
def encode (s : List Triple) : Pg := ⟨s.map (·.1), s.map (·.2.1), s.filterMap (·.2.2)⟩

/-- SPEC: the optional page of a stream (`RepetitionLevels()` is nil) -/
def encodeOpt (s : List Triple) : Pg := ⟨[], s.map (·.2.1), s.filterMap (·.2.2)⟩

/-- SPEC: a value is present exactly at the maximum definition level -/
def TripleWF (md : Nat) (t : Triple) : Prop := t.2.2.isSome = true ↔ t.2.1 = md

/-- SPEC: the repetition levels of a row -/
def RowT (r : List Triple) : Prop := RowWF (r.map (·.1))

/-- MIRROR of `values[i:j]` (e.g. page_int32.go `int32Page.Slice`) -/
def baseSlice (base : List Nat) (i j : Nat) : List Nat := (base.drop i).take (j - i)

/-- MIRROR of `optionalPage.Slice` (page_optional.go:54-64) -/
def sliceOptionalPg (md : Nat) (p : Pg) (i j : Nat) : Pg :=
  let nulls1 := ((p.dfn.take i).filter (· ≠ md)).length
  let nulls2 := (((p.dfn.drop i).take (j - i)).filter (· ≠ md)).length
  ⟨[], (p.dfn.drop i).take (j - i), baseSlice p.base (i - nulls1) (j - (nulls1 + nulls2))⟩

/-- MIRROR of `repeatedPage.Slice` (page_repeated.go:60-112) -/
def sliceRepeatedPg (md : Nat) (p : Pg) (i j : Nat) : Pg :=
  let r := sliceRepeated md p.rep p.dfn i j
  ⟨r.1.1, r.1.2, baseSlice p.base r.2.1 r.2.2⟩

/-- MIRROR of the total output of `ReadValues` over a page: `lv` = (repetition, definition) per
    slot; the loop ends early when the base page runs out (`j == 0 && err == io.EOF`) -/
def weave (md : Nat) : List (Nat × Nat) → List Nat → List Triple
  | [], _ => []
  | (r, d) :: lv, base =>
    if d = md then
      match base with
      | [] => []
      | v :: bs => (r, d, some v) :: weave md lv bs
    else (r, d, none) :: weave md lv base

def levelsOf (p : Pg) : List (Nat × Nat) := p.rep.zip p.dfn
def levelsOfOpt (p : Pg) : List (Nat × Nat) := p.dfn.map (fun d => (0, d))

/-- number of slots at the maximum definition level (= values stored in the base page) -/
def cntDef (md : Nat) (dfn : List Nat) : Nat := (dfn.filter (· == md)).length

theorem range_map_slice {α} (f : Nat → α) (n i j : Nat) (hij : i ≤ j) (hj : j ≤ n) :
    (((List.range n).map f).drop i).take (j - i) = (List.range (j - i)).map fun k => f (i + k) := by
  apply List.ext_getElem
  · simp only [List.length_take, List.length_drop, List.length_map, List.length_range]
    omega
  · intro k h1 h2
    simp only [List.getElem_map, List.getElem_range, List.getElem_take, List.getElem_drop]

theorem cnt_encode (md : Nat) : ∀ (s : List Triple), (∀ t ∈ s, TripleWF md t) →
    cntDef md (s.map (·.2.1)) = (s.filterMap (·.2.2)).length
  | [], _ => rfl
  | (r, d, v) :: s, h => by
    have ih := cnt_encode md s (fun t ht => h t (by simp [ht]))
    have hw : v.isSome = true ↔ d = md := h (r, d, v) (by simp)
    unfold cntDef at ih ⊢
    cases v with
    | none =>
      have hd : (d == md) = false := by
        cases hdm : d == md
        · rfl
        · exact absurd (hw.mpr (by simpa using hdm)) (by simp)
      simp only [List.map_cons, List.filter_cons, hd, List.filterMap_cons]
      simpa using ih
    | some x =>
      have hd : (d == md) = true := by simpa using hw.mp rfl
      simp only [List.map_cons, List.filter_cons, hd, List.filterMap_cons, if_true, List.length_cons]
      omega

theorem base_slice_encode (md : Nat) (s : List Triple) (h : ∀ t ∈ s, TripleWF md t) (a b : Nat)
    (hab : a ≤ b) :
    baseSlice (s.filterMap (·.2.2)) (cntDef md ((s.map (·.2.1)).take a)) (cntDef md ((s.map (·.2.1)).take b))
      = ((s.drop a).take (b - a)).filterMap (·.2.2) := by
  have ha : ∀ t ∈ s.take a, TripleWF md t := fun t ht => h t (List.mem_of_mem_take ht)
  have hb : ∀ t ∈ s.take b, TripleWF md t := fun t ht => h t (List.mem_of_mem_take ht)
  rw [← List.map_take, ← List.map_take, cnt_encode md _ ha, cnt_encode md _ hb]
  unfold baseSlice
  have e1 : s.filterMap (·.2.2) = (s.take a).filterMap (·.2.2) ++ (s.drop a).filterMap (·.2.2) := by
    rw [← List.filterMap_append, List.take_append_drop]
  have e2 : (s.drop a).filterMap (·.2.2) =
      ((s.drop a).take (b - a)).filterMap (·.2.2) ++ ((s.drop a).drop (b - a)).filterMap (·.2.2) := by
    rw [← List.filterMap_append, List.take_append_drop]
  have e3 : ((s.take b).filterMap (·.2.2)).length =
      ((s.take a).filterMap (·.2.2)).length + (((s.drop a).take (b - a)).filterMap (·.2.2)).length := by
    rw [take_split s a b hab, List.filterMap_append, List.length_append]
  rw [e3, Nat.add_sub_cancel_left]
  conv => lhs; rw [e1]
  rw [List.drop_append, Nat.sub_self, List.drop_zero, List.drop_eq_nil_of_le (Nat.le_refl _),
    List.nil_append]
  conv => lhs; rw [e2]
  rw [List.take_append, Nat.sub_self, List.take_zero, List.append_nil,
    List.take_of_length_le (Nat.le_refl _)]

open PqModel.SeekUnaligned (nthZero nthZero_le nthZero_mono)

/-- for every stream, every definition level pattern and every `i ≤ j`: the slots between the starts of rows `i` and `j` -/
theorem slice_repeated_slots (md : Nat) (s : List Triple) (hw : ∀ t ∈ s, TripleWF md t) (i j : Nat)
    (hij : i ≤ j) :
    sliceRepeatedPg md (encode s) i j =
      encode ((s.drop (nthZero (s.map (·.1)) i)).take (nthZero (s.map (·.1)) j - nthZero (s.map (·.1)) i)) := by
  have hab := nthZero_mono (s.map (·.1)) hij
  have hbl : nthZero (s.map (·.1)) j ≤ (s.map (·.2.1)).length := by
    simpa using nthZero_le (s.map (·.1)) j
  have hb := null_bounds md (s.map (·.2.1)) _ _ hab hbl
  have hbase := base_slice_encode md s hw _ _ hab
  unfold cntDef at hbase
  simp only [Prod.mk.injEq] at hb
  unfold sliceRepeatedPg sliceRepeated
  simp only [encode, sliceIdx_eq _ i j hij]
  rw [hb.1, hb.2, hbase]
  simp [List.map_take, List.map_drop]

/-- SPEC: cut a stream of repetition-levelled items into the leading fragment and the rows -/
def splitRows {α} (rep : α → Nat) : List α → List α × List (List α)
  | [] => ([], [])
  | x :: xs =>
    let r := splitRows rep xs
    if rep x = 0 then ([], (x :: r.1) :: r.2) else (x :: r.1, r.2)

theorem splitRows_spec {α} (rep : α → Nat) (s : List α) :
    s = (splitRows rep s).1 ++ (splitRows rep s).2.flatten ∧
    (∀ x ∈ (splitRows rep s).1, rep x ≠ 0) ∧
    (∀ r ∈ (splitRows rep s).2, ∃ x t, r = x :: t ∧ rep x = 0 ∧ ∀ y ∈ t, rep y ≠ 0) := by
  fun_induction splitRows rep s with
  | case1 => simp
  | case2 x xs r hx ih =>
    obtain ⟨h1, h2, h3⟩ := ih
    simp only [List.nil_append, List.flatten_cons, List.cons_append]
    exact ⟨by rw [← h1], by simp, List.forall_mem_cons.mpr ⟨⟨x, _, rfl, hx, h2⟩, h3⟩⟩
  | case3 x xs r hx ih =>
    obtain ⟨h1, h2, h3⟩ := ih
    simp only [List.cons_append]
    exact ⟨by rw [← h1], List.forall_mem_cons.mpr ⟨hx, h2⟩, h3⟩

/-- reading levels and stored values of a stream back gives the stream, whatever repetition levels
    `f` the page kept -/
theorem weave_levels (md : Nat) (f : Triple → Nat) : ∀ (s : List Triple), (∀ t ∈ s, TripleWF md t) →
    weave md (s.map fun t => (f t, t.2.1)) (s.filterMap (·.2.2)) = s.map fun t => (f t, t.2)
  | [], _ => rfl
  | (r, d, v) :: s, h => by
    have ih := weave_levels md f s (fun t ht => h t (by simp [ht]))
    have hw : v.isSome = true ↔ d = md := h (r, d, v) (by simp)
    cases v with
    | none =>
      have hd : d ≠ md := fun e => by simpa using hw.mpr e
      simp only [List.map_cons, List.filterMap_cons, weave, if_neg hd, ih]
    | some x =>
      have hd : d = md := hw.mp rfl
      subst hd
      simp only [List.map_cons, List.filterMap_cons, weave, if_true, ih]

theorem weave_encode (md : Nat) (s : List Triple) (h : ∀ t ∈ s, TripleWF md t) :
    weave md (levelsOf (encode s)) (encode s).base = s := by
  simp only [levelsOf, encode, List.zip_map', weave_levels md (·.1) s h, List.map_id']

theorem weave_encodeOpt (md : Nat) (s : List Triple) (h : ∀ t ∈ s, TripleWF md t) :
    weave md (levelsOfOpt (encodeOpt s)) (encodeOpt s).base = s.map (fun t => (0, t.2)) := by
  simp only [levelsOfOpt, encodeOpt, List.map_map, Function.comp_def, weave_levels md (fun _ => 0) s h]

theorem weave_length_le (md : Nat) (lv : List (Nat × Nat)) (base : List Nat) :
    (weave md lv base).length ≤ lv.length := by
  fun_induction weave md lv base with
  | case1 base => exact Nat.le_refl _
  | case2 r lv => exact Nat.zero_le _
  | case3 r lv v bs ih => exact Nat.succ_le_succ ih
  | case4 r d lv base hd ih => exact Nat.succ_le_succ ih

theorem encode_cons (r d : Nat) (v : Option Nat) (w : List Triple) :
    encode ((r, d, v) :: w) = ⟨r :: (encode w).rep, d :: (encode w).dfn, v.toList ++ (encode w).base⟩ := by
  cases v <;> rfl

theorem encode_weave (md : Nat) : ∀ (rep dfn base : List Nat), dfn.length = rep.length →
    base.length = cntDef md dfn →
    encode (weave md (rep.zip dfn) base) = ⟨rep, dfn, base⟩ ∧
      ∀ t ∈ weave md (rep.zip dfn) base, TripleWF md t
  | [], [], base, _, hb => by
    have : base = [] := by simpa [cntDef] using hb
    subst this
    simp [weave, encode]
  | [], _ :: _, _, hl, _ => by simp at hl
  | _ :: _, [], _, hl, _ => by simp at hl
  | r :: rep, d :: dfn, base, hl, hb => by
    have hl' : dfn.length = rep.length := by simpa using hl
    by_cases hd : d = md
    · subst hd
      cases base with
      | nil => simp [cntDef] at hb
      | cons v bs =>
        have hb' : bs.length = cntDef d dfn := by simpa [cntDef] using hb
        obtain ⟨ih1, ih2⟩ := encode_weave d rep dfn bs hl' hb'
        simp only [List.zip_cons_cons, weave, if_true]
        exact ⟨by rw [encode_cons, ih1]; rfl, List.forall_mem_cons.mpr ⟨by simp [TripleWF], ih2⟩⟩
    · have hb' : base.length = cntDef md dfn := by
        have : (d == md) = false := by simpa using hd
        simpa [cntDef, this] using hb
      obtain ⟨ih1, ih2⟩ := encode_weave md rep dfn base hl' hb'
      simp only [List.zip_cons_cons, weave, if_neg hd]
      exact ⟨by rw [encode_cons, ih1]; rfl, List.forall_mem_cons.mpr ⟨by simp [TripleWF, hd], ih2⟩⟩

end PqModel.PageSlice
