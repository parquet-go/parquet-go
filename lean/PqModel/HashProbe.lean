/-! # hashprobe: the open-addressing probing tables (C04)

MIRROR of `hashprobe/hashprobe.go` (portable code): `multiProbe32Default` :292-330,
`multiProbe64Default` :537-575, `multiProbe128Default` :753-783, `table32.grow` :204-239,
`table64.grow` :449-484, `table128.grow`/`insert` :645-700, `probeArray` :253-290 / :498-535 / :714-751.

One generic model serves the three tables; `G` is the group size (7 for table32, 4 for table64, 1 for
table128: a slot of table128 holding `value+1 ≠ 0` is a full group of one entry, `0` an empty group).

Reading of the code:
* a group is modelled by its occupied prefix `keys[:n]`, `values[:n]` with `n = OnesCount32(bits)` (`bits`
  is only ever `0` or `(bits<<1)|1`, i.e. `2^n-1`), as a list of `(key, value)` pairs. The Go scan
  `for j, k := range group.keys` runs over all `G` slots, but its result is used only under
  `index < n`, and the first match of the whole array is `< n` iff the prefix holds the key; so it is
  the first match in the prefix.
* `hash` is a `Nat`; `uintptr` wrap-around of `hash++` is invisible because the table length divides 2^64.
  `hash & modulo` is mirrored as written (`&&& (len-1)`).
* the seeded hash function (aeshash / wyhash keyed by `t.seed`) is a field `h : α → Nat` of the table: an
  ARBITRARY function. `grow` draws a new seed (`randSeed`), mirrored as an argument `h'`.
* `tableSizeAndMaxLen` (float64 arithmetic) is an argument `sz : Nat → Nat × Nat` (number of groups, maxLen);
  the theorems (in HashProbeProofs, as all proofs) need only `SizingOk` (power of two, room for the values, maxLen in the room).
* an endless `for { … hash++ }` loop is `none` (fuel = number of groups; the theorems show it never happens).
* the 256-key batches of `probeArray` are mirrored (`probeLoop`) and proved equal to one `multiProbe` over
  all keys (`probeLoop_eq_multiProbe`); the hashes of a batch are `h` of its keys (pure function of key and seed).
* `table128.grow` re-inserts every slot, empty ones included; an empty slot writes value 0 = "still empty",
  so only occupied slots matter (mirrored as those).
-/
namespace PqModel.HashProbe

variable {α : Type} [DecidableEq α]

/-- first entry of an association list with this key (the key scan of a group; also the SPEC lookup) -/
def gfind (k : α) : List (α × Nat) → Option Nat
  | [] => none
  | (a, v) :: rest => if a = k then some v else gfind k rest

/-- `hash & modulo`, `modulo = len(table) - 1` (hashprobe.go:293,298) -/
def slot (size hash : Nat) : Nat := hash &&& (size - 1)

abbrev Groups (α : Type) := List (List (α × Nat))

/-- the `for { group := &table[hash&modulo] … hash++ }` walk of one key (hashprobe.go:297-326): where it
    stops and whether the key was found there (`some v`) or the group has room (`none`) -/
def locate (G : Nat) : Nat → Groups α → Nat → α → Option (Nat × Option Nat)
  | 0, _, _, _ => none
  | fuel + 1, gs, hash, key =>
    let p := slot gs.length hash
    let g := gs.getD p []
    match gfind key g with
    | some v => some (p, some v)
    | none => if g.length = G then locate G fuel gs (hash + 1) key else some (p, none)

/-- `group.bits = (group.bits << 1) | 1; group.keys[n] = key; group.values[n] = value` -/
def putAt (gs : Groups α) (p : Nat) (kv : α × Nat) : Groups α := gs.set p (gs.getD p [] ++ [kv])

/-- one key of `multiProbeNNDefault`: returns the table, `numKeys` and `values[i]` -/
def probeKey (G : Nat) (gs : Groups α) (numKeys hash : Nat) (key : α) : Option (Groups α × Nat × Nat) :=
  match locate G gs.length gs hash key with
  | none => none
  | some (_, some v) => some (gs, numKeys, v)
  | some (p, none) => some (putAt gs p (key, numKeys), numKeys + 1, numKeys)

/-- `multiProbe32Default` / `64` / `128` over `(hash, key)` pairs: final table, numKeys, values -/
def multiProbe (G : Nat) (gs : Groups α) (numKeys : Nat) : List (Nat × α) → Option (Groups α × Nat × List Nat)
  | [] => some (gs, numKeys, [])
  | (hash, key) :: rest =>
    match probeKey G gs numKeys hash key with
    | none => none
    | some (gs1, n1, v) =>
      match multiProbe G gs1 n1 rest with
      | none => none
      | some (gs2, n2, vs) => some (gs2, n2, v :: vs)

/-- the walk of `grow` (hashprobe.go:223-234; `table128.insert` :686-699): first group with room, keys are
    not compared -/
def growLocate (G : Nat) : Nat → Groups α → Nat → Option Nat
  | 0, _, _ => none
  | fuel + 1, gs, hash =>
    let p := slot gs.length hash
    if (gs.getD p []).length = G then growLocate G fuel gs (hash + 1) else some p

/-- re-insertion of the old entries in table order (`for i := range t.table { for j … } }`) -/
def growFill (G : Nat) (h' : α → Nat) (gs : Groups α) : List (α × Nat) → Option (Groups α)
  | [] => some gs
  | (k, v) :: rest =>
    match growLocate G gs.length gs (h' k) with
    | none => none
    | some p => growFill G h' (putAt gs p (k, v)) rest

structure Table (α : Type) where
  len : Nat
  maxLen : Nat
  h : α → Nat
  groups : Groups α

/-- `tableNN.grow(totalValues)` -/
def grow (G : Nat) (sz : Nat → Nat × Nat) (h' : α → Nat) (t : Table α) (total : Nat) : Option (Table α) :=
  match growFill G h' (List.replicate (sz total).1 []) t.groups.flatten with
  | none => none
  | some gs => some { len := t.len, maxLen := (sz total).2, h := h', groups := gs }

/-- the batch loop of `probeArray` (hashprobe.go:266-287: `for i := 0; i < numKeys; { j := len(hashes) + i …
    multiProbe32(t.table, t.len, h, k, v); i = j }`, `probesPerLoop = 256`); fuel = number of keys -/
def probeLoop (G : Nat) (h : α → Nat) : Nat → Groups α → Nat → List α → Option (Groups α × Nat × List Nat)
  | 0, gs, n, _ => some (gs, n, [])
  | fuel + 1, gs, n, keys =>
    if keys = [] then some (gs, n, []) else
    match multiProbe G gs n ((keys.take 256).map fun k => (h k, k)) with
    | none => none
    | some (gs1, n1, v) =>
      match probeLoop G h fuel gs1 n1 (keys.drop 256) with
      | none => none
      | some (gs2, n2, vs) => some (gs2, n2, v ++ vs)

/-- `tableNN.probeArray(keys, values)`: the table after the call and `values` -/
def probeArray (G : Nat) (sz : Nat → Nat × Nat) (h' : α → Nat) (t : Table α) (keys : List α) :
    Option (Table α × List Nat) :=
  match (if t.len + keys.length > t.maxLen then grow G sz h' t (t.len + keys.length) else some t) with
  | none => none
  | some t1 =>
    match probeLoop G t1.h keys.length t1.groups t1.len keys with
    | none => none
    | some (gs, n, vs) => some ({ t1 with len := n, groups := gs }, vs)

/-- `makeTableNN(cap, maxLoad)` then `init` -/
def mkTable (sz : Nat → Nat × Nat) (h : α → Nat) (cap : Nat) : Table α :=
  { len := 0, maxLen := (sz cap).2, h := h, groups := List.replicate (sz cap).1 [] }

/-- `reset()`: len = 0, every group zeroed (seed, size and maxLen stay) -/
def reset (t : Table α) : Table α := { t with len := 0, groups := List.replicate t.groups.length [] }

/-! ## SPEC: the first-seen numbering -/

/-- SPEC of probing one key into the numbering `S`: a known key keeps its number, a new key gets `|S|` -/
def specProbe1 (S : List (α × Nat)) (k : α) : List (α × Nat) × Nat :=
  match gfind k S with
  | some v => (S, v)
  | none => (S ++ [(k, S.length)], S.length)

def specProbe (S : List (α × Nat)) : List α → List (α × Nat) × List Nat
  | [] => (S, [])
  | k :: ks => let r := specProbe1 S k; let r2 := specProbe r.1 ks; (r2.1, r.2 :: r2.2)

/-- a session of Probe calls, each with the seed `grow` would draw: the values of every call -/
def session (G : Nat) (sz : Nat → Nat × Nat) : Table α → List ((α → Nat) × List α) → Option (List (List Nat))
  | _, [] => some []
  | t, (h', keys) :: rest =>
    match probeArray G sz h' t keys with
    | none => none
    | some (t1, vs) => (session G sz t1 rest).map (vs :: ·)

def specSession : List (α × Nat) → List (List α) → List (List Nat)
  | _, [] => []
  | S, keys :: rest => (specProbe S keys).2 :: specSession (specProbe S keys).1 rest

end PqModel.HashProbe
