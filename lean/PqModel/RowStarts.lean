/-! # Row starts in a list of repetition levels

A row of a repeated column starts at every repetition level 0; `repeatedPage.Slice` and the seek over
pages that begin inside a row are stated against `zeros` and `nthZero`. -/
namespace PqModel.SeekUnaligned

/-- `NumRows` of a repeated page: `countLevelsEqual(repetitionLevels, 0)` -/
def zeros : List Nat → Nat
  | [] => 0
  | x :: xs => (if x = 0 then 1 else 0) + zeros xs

/-- SPEC: index of the `n`-th level 0 (the start of row `n`), the length when there is none -/
def nthZero : List Nat → Nat → Nat
  | [], _ => 0
  | x :: xs, n => if x = 0 then (if n = 0 then 0 else 1 + nthZero xs (n - 1)) else 1 + nthZero xs n

theorem nthZero_le (l : List Nat) (n : Nat) : nthZero l n ≤ l.length := by
  fun_induction nthZero l n with
  | case1 => exact Nat.le_refl _
  | case2 xs => exact Nat.zero_le _
  | case3 xs n hn ih => exact Nat.add_comm _ _ ▸ Nat.succ_le_succ ih
  | case4 x xs n hx ih => exact Nat.add_comm _ _ ▸ Nat.succ_le_succ ih

theorem nthZero_ge (l : List Nat) (n : Nat) (h : zeros l ≤ n) : nthZero l n = l.length := by
  fun_induction nthZero l n with
  | case1 => rfl
  | case2 xs => simp only [zeros, if_true] at h; omega
  | case3 xs n hn ih => simp only [zeros, if_true] at h; rw [ih (by omega), List.length_cons]; omega
  | case4 x xs n hx ih => simp only [zeros, hx, if_false] at h; rw [ih (by omega), List.length_cons]; omega

theorem nthZero_lt (l : List Nat) (n : Nat) (h : n < zeros l) : nthZero l n < l.length := by
  fun_induction nthZero l n with
  | case1 => exact absurd h (Nat.not_lt_zero _)
  | case2 xs => exact Nat.succ_pos _
  | case3 xs n hn ih =>
    simp only [zeros, if_true] at h
    have := ih (by omega)
    simp only [List.length_cons]; omega
  | case4 x xs n hx ih =>
    simp only [zeros, hx, if_false] at h
    have := ih (by omega)
    simp only [List.length_cons]; omega

theorem zeros_eq_count (l : List Nat) : zeros l = l.count 0 := by
  induction l with
  | nil => rfl
  | cons x xs ih => rw [zeros, ih, List.count_cons, Nat.add_comm]; simp only [beq_iff_eq]

theorem zeros_append (a b : List Nat) : zeros (a ++ b) = zeros a + zeros b := by
  rw [zeros_eq_count, zeros_eq_count, zeros_eq_count, List.count_append]

theorem zeros_eq_zero (t : List Nat) (ht : ∀ x ∈ t, x ≠ 0) : zeros t = 0 := by
  rw [zeros_eq_count, List.count_eq_zero]
  exact fun h => ht 0 h rfl

theorem nthZero_append (a b : List Nat) (n : Nat) :
    nthZero (a ++ b) n = if n < zeros a then nthZero a n else a.length + nthZero b (n - zeros a) := by
  fun_induction nthZero a n with
  | case1 n => simp [zeros]
  | case2 xs => simp [nthZero, zeros]
  | case3 xs n hn ih =>
    simp only [List.cons_append, nthZero, zeros, if_true, if_neg hn, ih, List.length_cons]
    by_cases h1 : n - 1 < zeros xs
    · rw [if_pos h1, if_pos (by omega)]
    · rw [if_neg h1, if_neg (by omega), show n - 1 - zeros xs = n - (1 + zeros xs) by omega]
      omega
  | case4 x xs n hx ih =>
    simp only [List.cons_append, nthZero, zeros, hx, if_false, Nat.zero_add, ih, List.length_cons]
    split <;> omega

theorem zeros_drop_nthZero (l : List Nat) (n : Nat) (h : n < zeros l) :
    zeros (l.drop (nthZero l n)) = zeros l - n := by
  fun_induction nthZero l n with
  | case1 => exact absurd h (Nat.not_lt_zero _)
  | case2 xs => rfl
  | case3 xs n hn ih =>
    simp only [zeros, if_true] at h ⊢
    rw [Nat.add_comm 1, List.drop_succ_cons, ih (by omega)]
    omega
  | case4 x xs n hx ih =>
    simp only [zeros, hx, if_false, Nat.zero_add] at h ⊢
    rw [Nat.add_comm 1, List.drop_succ_cons, ih h]

theorem nthZero_drop (l : List Nat) (i j : Nat) (hij : i ≤ j) (hi : i < zeros l) :
    nthZero l i + nthZero (l.drop (nthZero l i)) (j - i) = nthZero l j := by
  have hz : zeros (l.take (nthZero l i)) = i := by
    have := zeros_append (l.take (nthZero l i)) (l.drop (nthZero l i))
    rw [List.take_append_drop, zeros_drop_nthZero l i hi] at this
    omega
  have := nthZero_append (l.take (nthZero l i)) (l.drop (nthZero l i)) j
  rw [List.take_append_drop, hz, if_neg (by omega), List.length_take,
    Nat.min_eq_left (nthZero_le l i)] at this
  exact this.symm

theorem nthZero_mono (l : List Nat) {i j : Nat} (hij : i ≤ j) : nthZero l i ≤ nthZero l j := by
  rcases Nat.lt_or_ge i (zeros l) with hi | hi
  · rw [← nthZero_drop l i j hij hi]
    exact Nat.le_add_right _ _
  · rw [nthZero_ge l i hi, nthZero_ge l j (Nat.le_trans hi hij)]
    exact Nat.le_refl _

theorem nthZero_zero_of_head (page : List Nat) (h : page.head? = some 0) : nthZero page 0 = 0 := by
  cases page with
  | nil => simp at h
  | cons x xs => simp at h; simp [nthZero, h]

end PqModel.SeekUnaligned
