import PqModel.TypedPath

/-! # Go maps written onto GROUP schemas (C03)

MIRROR of `writeRowsFuncOfMapToGroup` (`column_buffer_write.go:782-889`) and of the per-node value
writers it calls for `map[string]any` / `map[string]V` (`writeValueFuncOf`, `…Optional`, `…Group`,
`…Leaf`: `column_buffer_reflect.go:338-365, 601-650, 732-747`), on group schemas made of required
leaves, optional nodes and nested groups (no repeated node, no LIST/MAP below the group).

Abstractions: a Go map with string keys is `Val.list` of entries `Val.struct [Val.prim key, value]`
(key = identifier of the key string; the nil map and the empty map are `Val.none` / `Val.list []`);
`m[name]`, `MapIndex(name)` is `mlookup` (first entry with that key; a missing key is `Val.none`: the
zero value of the string branch, the invalid `reflect.Value` of the other two). Whether a value
that was found is null (`isNullValue`: nil, zero value) is decided by the harness: a non-null value
below an optional node is `Val.some w`. Triples as in `TypedPath`. What the COLUMN BUFFER stores for
a triple (`writeNull` against `WriteValues` of a null `Value`) is `storeNull` / `storeRows` below.

SPEC side: `resolveN` (the documented meaning: every field of the group is looked up by name in the
map, a missing key is a null member, extra keys are ignored) followed by the Dremel `shredN`.
Also here: interface-typed struct fields on an explicit schema (`wrInterface`, `ifaceF`, SPEC `resolveP`), the
optional wrapper around a map-to-group member (`m2gOptWrite`, reduced to the canonical sound writer `canonW`), and
the column-buffer side: `okN` / `ColsOk` (no required leaf without a value) against `HasHole`, `storeAll`. -/
namespace PqModel.MapToGroup
open PqModel.Dremel PqModel.TypedPath PqModel.NullScan

/-- `m[name]` / `m.MapIndex(name)` on the entries of a Go map -/
def mlookup : List Val → Nat → Val
  | [], _ => .none
  | e :: es, name =>
    match e with
    | .struct [.prim k, v] => if k = name then v else mlookup es name
    | _ => mlookup es name

/- group schemas with named fields -/
mutual
inductive GNode where
  | leaf
  | opt (n : GNode)
  | group (fs : GFields)
inductive GFields where
  | nil
  | cons (name : Nat) (n : GNode) (fs : GFields)
end

mutual
def eraseG : GNode → Node
  | .leaf => .leaf
  | .opt n => .opt (eraseG n)
  | .group fs => .group (eraseGF fs)
def eraseGF : GFields → Fields
  | .nil => .nil
  | .cons _ n fs => .cons (eraseG n) (eraseGF fs)
end

/- SPEC: the value of the group a Go map stands for (members by name, missing = null) -/
mutual
def resolveN : GNode → Val → Val
  | .leaf, v => v
  | .opt n, v =>
    match v with
    | .some w => .some (resolveN n w)
    | _ => .none
  | .group fs, v =>
    match v with
    | .list es => .struct (resolveF fs es)
    | _ => .none
def resolveF : GFields → List Val → List Val
  | .nil, _ => []
  | .cons name n fs, es => resolveN n (mlookup es name) :: resolveF fs es
end

/- MIRROR `writeValueFuncOf` (`column_buffer_reflect.go:338-353`) on leaf / optional / group nodes:
`writeValueFuncOfLeaf` (732-747: invalid or nil value = `col.writeNull(levels)`, else the value at
the levels), `writeValueFuncOfOptional` (355-365: a null value goes down as it is at the same
definition level, any other one level up), `writeValueFuncOfGroup` (601-650: an invalid value hands
every member the invalid value; a map hands member `name` the value `m[name]`). `wvF fs r d none` is
the invalid-value branch, `some es` the map branch. -/
mutual
def wvN : GNode → (rep dfn : Nat) → Val → Cols
  | .leaf, r, d, v =>
    match v with
    | .prim x => [[⟨Option.some x, r, d⟩]]
    | _ => [[⟨Option.none, r, d⟩]]
  | .opt n, r, d, v =>
    match v with
    | .some w => wvN n r (d + 1) w
    | _ => wvN n r d .none
  | .group fs, r, d, v =>
    match v with
    | .list es => wvF fs r d (Option.some es)
    | _ => wvF fs r d Option.none
def wvF : GFields → (rep dfn : Nat) → Option (List Val) → Cols
  | .nil, _, _, _ => []
  | .cons name n fs, r, d, m =>
    wvN n r d (match m with | Option.some es => mlookup es name | Option.none => .none) ++ wvF fs r d m
end

/-- MIRROR `writeRowsFuncOfMapToGroup`, the `map[string]any` branch and the default branch
(`column_buffer_write.go:852-877`, outer closure 880-888): no rows = every member writer on the empty
array (`writeRowsFuncOfInterface`: the invalid value); else row by row, member by member,
`writeValue(columns, levels, m[name])`. -/
def wrM2GVal (fs : GFields) : WriteRows := fun r _ d rows =>
  if rows.isEmpty then wvF fs r d Option.none
  else joinSegs (leavesF (eraseGF fs)) (rows.map fun row => wvF fs r d (Option.some (elemsS row)))

/-- `GenericWriter[map[string]any].Write(batch)` -/
def m2gWrite (fs : GFields) (batch : List Val) : Cols :=
  if batch.isEmpty then List.replicate (leavesF (eraseGF fs)) [] else wrM2GVal fs 0 0 0 batch

/-- the member writer of the string branch: `writeRowsFuncOf(string)` = the leaf writer, wrapped by
`writeRowsFuncOfOptional` when the member is optional (`column_buffer_write.go:807-810`) -/
def fieldT (optional : Bool) : TNode := if optional then .optLeaf else .leaf

def toFields : List (Nat × Bool) → Fields
  | [] => .nil
  | f :: fs => .cons (erase (fieldT f.2)) (toFields fs)

/-- MIRROR `writeRowsFuncOfMapToGroup`, the `map[string]string` branch (`column_buffer_write.go:
827-851`): member by member, the column `m[name]` of all rows (a missing key is the zero string) goes
to the member's `writeRows` in ONE call (so the bitmap scan of an optional member runs over the
whole batch). Members are `(name, optional)`; the zero string of an optional member is `Val.none`,
any other `Val.some (Val.prim id)` (`TypedPath.unopt`). -/
def wrM2GStr (fs : List (Nat × Bool)) (dm : Nat) : WriteRows := fun r k d rows =>
  fs.flatMap fun f => tyN (fieldT f.2) dm r k d (rows.map fun row => mlookup (elemsS row) f.1)

def m2gWriteStr (fs : List (Nat × Bool)) (batch : List Val) : Cols :=
  if batch.isEmpty then List.replicate fs.length [] else wrM2GStr fs 0 0 0 0 batch

/-- MIRROR of the value-writer side: a triple with a value is `col.writeInt32(levels, v)` etc., a
triple without one `col.writeNull(levels)`. Plain buffer (`dm = 0`, `column_buffer_int32.go:122-124`):
`writeNull` appends the zero value (payload 0). `optionalColumnBuffer.writeNull`
(`column_buffer_optional.go:315-318`): the definition level and row index -1, NO value, whatever
the level is. Result: definition levels and the values of the base buffer. -/
def storeNull (dm : Nat) (col : List Triple) : List Nat × List Nat :=
  (col.map (·.dfn), col.filterMap fun t => if dm = 0 then Option.some (t.val.getD 0) else t.val)

/-- MIRROR of the row side (`WriteRows` of deconstructed rows: `optionalColumnBuffer.writeValues`,
`column_buffer_optional.go:218-250`): an entry whose definition level is the maximum appends its
value to the base buffer (the null `Value` of a missing required member reads as zero). -/
def storeRows (dm : Nat) (col : List Triple) : List Nat × List Nat :=
  (col.map (·.dfn), col.filterMap fun t => if t.dfn = dm then Option.some (t.val.getD 0) else Option.none)

/-- page read-back: a slot at the maximum definition level takes the next stored value (zero when the
values have run out), any other slot is null -/
def readBack (dm : Nat) : List Nat → List Nat → List (Option Nat)
  | [], _ => []
  | d :: ds, vs =>
    if d = dm then
      match vs with
      | v :: vs' => Option.some v :: readBack dm ds vs'
      | [] => Option.some 0 :: readBack dm ds []
    else Option.none :: readBack dm ds vs

/- maximum definition level of the leaf columns below a node, in column order -/
mutual
def maxDefsN : GNode → Nat → List Nat
  | .leaf, d => [d]
  | .opt n, d => maxDefsN n (d + 1)
  | .group fs, d => maxDefsF fs d
def maxDefsF : GFields → Nat → List Nat
  | .nil, _ => []
  | .cons _ n fs, d => maxDefsN n d ++ maxDefsF fs d
end

/-- the page contents a reader gets back from what the value writers stored, column by column -/
def readCols (dms : List Nat) (cs : Cols) : List (List (Option Nat)) :=
  (cs.zip dms).map fun (c, dm) => readBack dm (storeNull dm c).1 (storeNull dm c).2

/-- a definition level equal to the maximum without a value: the situation `writeNull` mishandles -/
def hole (dm : Nat) (t : Triple) : Bool := t.dfn == dm && t.val.isNone

theorem resolveN_none (n : GNode) : resolveN n .none = .none := by
  cases n <;> simp [resolveN]

mutual
theorem wvN_eq_shred (n : GNode) (r k d : Nat) (v : Val) :
    wvN n r d v = shredN (eraseG n) r k d (resolveN n v) := by
  cases n with
  | leaf => cases v <;> simp [wvN, shredN, eraseG, resolveN]
  | opt n =>
    cases v with
    | some w => simpa [wvN, shredN, eraseG, resolveN] using wvN_eq_shred n r k (d + 1) w
    | _ =>
      simpa [wvN, shredN, eraseG, resolveN, resolveN_none, shredN_none, absentN] using wvN_eq_shred n r k d .none
  | group fs =>
    cases v with
    | list es => simpa [wvN, shredN, eraseG, resolveN] using wvF_some fs r k d es
    | _ => simpa [wvN, shredN, eraseG, resolveN] using wvF_none fs r k d
theorem wvF_some (fs : GFields) (r k d : Nat) (es : List Val) :
    wvF fs r d (Option.some es) = shredF (eraseGF fs) r k d (resolveF fs es) := by
  cases fs with
  | nil => simp [wvF, shredF, eraseGF, resolveF]
  | cons name n fs =>
    simp only [wvF, eraseGF, resolveF, shredF]
    rw [wvN_eq_shred n r k d (mlookup es name), wvF_some fs r k d es]
theorem wvF_none (fs : GFields) (r k d : Nat) :
    wvF fs r d Option.none = absentF (eraseGF fs) r d := by
  cases fs with
  | nil => simp [wvF, absentF, eraseGF]
  | cons name n fs =>
    simp only [wvF, eraseGF, absentF]
    rw [wvN_eq_shred n r k d .none, resolveN_none, shredN_none, wvF_none fs r k d]
end

theorem toFields_leaves : ∀ (fs : List (Nat × Bool)), leavesF (toFields fs) = fs.length
  | [] => by simp [toFields, leavesF]
  | f :: fs => by
    have h1 : leavesN (erase (fieldT f.2)) = 1 := by
      cases hf : f.2 <;> simp [fieldT, erase, leavesN]
    simp [toFields, leavesF, h1, toFields_leaves fs]; omega

theorem joinSegs_zero_nil {α : Type} : ∀ (xs : List α), joinSegs 0 (xs.map fun _ => ([] : Cols)) = [] :=
  joinSegs_zero

/-- MIRROR `writeRowsFuncOfInterface` (`column_buffer_write.go:746-777`): the writer of a field of
Go type `any` whose schema node has leaf columns: no rows = `writeValue(columns, levels,
reflect.Value{})`, else one `writeValue` per row with the row's levels. -/
def wrInterface (n : GNode) : WriteRows := fun r _ d vs =>
  if vs.isEmpty then wvN n r d .none
  else joinSegs (leavesN (eraseG n)) (vs.map (wvN n r d))

/-- MIRROR `writeRowsFuncOfStruct` (`column_buffer_write.go:681-744`) over fields of type `any`
(the optional wrapper is NOT added for interface kinds, 612-614): field by field, the column of the
field's values of all rows. Rows are the lists of remaining field values, in schema order (the Go
field order only permutes calls that write disjoint columns). -/
def ifaceF : GFields → (rep depth dfn : Nat) → List (List Val) → Cols
  | .nil, _, _, _, _ => []
  | .cons _ n fs, r, k, d, vss => wrInterface n r k d (vss.map hd) ++ ifaceF fs r k d (vss.map List.tail)

/-- `GenericWriter[T].Write(batch)` for a struct `T` of `any` fields -/
def ifaceWrite (fs : GFields) (batch : List Val) : Cols :=
  if batch.isEmpty then List.replicate (leavesF (eraseGF fs)) [] else ifaceF fs 0 0 0 (batch.map fieldsOf)

/-- SPEC: the group value of a struct of `any` fields (positional) -/
def resolveP : GFields → List Val → List Val
  | .nil, _ => []
  | .cons _ n fs, vs => resolveN n (hd vs) :: resolveP fs vs.tail

theorem wrInterface_rows (n : GNode) (r k d : Nat) (vs : List Val) (h : vs ≠ []) :
    wrInterface n r k d vs =
      joinSegs (leavesN (eraseG n)) (vs.map fun v => shredN (eraseG n) r k d (resolveN n v)) := by
  unfold wrInterface
  cases vs with
  | nil => exact absurd rfl h
  | cons v vs =>
    simp only [List.isEmpty_cons, Bool.false_eq_true, if_false]
    congr 1
    exact List.map_congr_left fun w _ => wvN_eq_shred n r k d w

theorem wrInterface_empty (n : GNode) (r k d : Nat) :
    wrInterface n r k d [] = absentN (eraseG n) r d := by
  simp [wrInterface, wvN_eq_shred n r k d .none, resolveN_none, shredN_none]

/- `okN n top v`: no REQUIRED leaf below `n` is left without a value while all its optional
ancestors are present, unless it has no optional ancestor at all (`top`: its column is a plain
buffer, whose `writeNull` appends the zero value) - follows `wvN` / `wvF` case by case. -/
mutual
def okN : GNode → Bool → Val → Bool
  | .leaf, top, v =>
    match v with
    | .prim _ => true
    | _ => top
  | .opt n, _, v =>
    match v with
    | .some w => okN n false w
    | _ => true
  | .group fs, top, v =>
    match v with
    | .list es => okF fs top (Option.some es)
    | _ => okF fs top Option.none
def okF : GFields → Bool → Option (List Val) → Bool
  | .nil, _, _ => true
  | .cons name n fs, top, m =>
    okN n top (match m with | Option.some es => mlookup es name | Option.none => .none) && okF fs top m
end

/-- an entry the two sides of the column buffer store alike -/
def TripleOk (dm : Nat) (t : Triple) : Prop :=
  (dm = 0 ∨ hole dm t = false) ∧ (t.val.isSome = true → t.dfn = dm) ∧ t.dfn ≤ dm

def ColsOk : Cols → List Nat → Prop
  | [], [] => True
  | c :: cs, dm :: dms => (∀ t ∈ c, TripleOk dm t) ∧ ColsOk cs dms
  | _, _ => False

-- `wvN_colsOk`, `storeAll_agree` are stated on the recursive `ColsOk`; the append / `joinSegs` lemmas live on `Pairs`
theorem colsOk_iff_pairs : ∀ {cs : Cols} {dms : List Nat},
    ColsOk cs dms ↔ Pairs (fun c dm => ∀ t ∈ c, TripleOk dm t) cs dms
  | [], [] => ⟨fun _ => .nil, fun _ => trivial⟩
  | c :: cs, dm :: dms =>
    ⟨fun h => .cons h.1 (colsOk_iff_pairs.mp h.2), fun h => by cases h with | cons h1 h2 => exact ⟨h1, colsOk_iff_pairs.mpr h2⟩⟩
  | [], _ :: _ => ⟨fun h => h.elim, fun h => nomatch h⟩
  | _ :: _, [] => ⟨fun h => h.elim, fun h => nomatch h⟩

theorem colsOk_append {a : Cols} {da : List Nat} {b : Cols} {db : List Nat} (ha : ColsOk a da) (hb : ColsOk b db) :
    ColsOk (a ++ b) (da ++ db) :=
  colsOk_iff_pairs.mpr (pairs_append (colsOk_iff_pairs.mp ha) (colsOk_iff_pairs.mp hb))

theorem colsOk_replicate : ∀ (dms : List Nat), ColsOk (List.replicate dms.length []) dms :=
  fun dms => colsOk_iff_pairs.mpr (pairs_replicate_nil_of (fun _ _ ht => nomatch ht) dms)

theorem colsOk_joinSegs {dms : List Nat} : ∀ {segs : List Cols}, (∀ s ∈ segs, ColsOk s dms) →
    ColsOk (joinSegs dms.length segs) dms :=
  fun {segs} h => colsOk_iff_pairs.mpr (pairs_joinSegs_of (fun _ _ ht => nomatch ht)
    (fun _ _ _ h h' t ht => (List.mem_append.mp ht).elim (h t) (h' t)) segs fun s hs => colsOk_iff_pairs.mp (h s hs))

/- hypothesis of both: either the node is written at its own level `d = d0` with a value that is
`ok` (and a `top` node has no optional ancestor), or a placeholder is written strictly below it -/
mutual
theorem wvN_colsOk (n : GNode) (top : Bool) (r d d0 : Nat) (v : Val)
    (h : (d = d0 ∧ okN n top v = true ∧ (top = true → d0 = 0)) ∨ (d < d0 ∧ v = .none)) :
    ColsOk (wvN n r d v) (maxDefsN n d0) := by
  cases n with
  | leaf =>
    rcases h with ⟨rfl, hk, ht⟩ | ⟨hlt, rfl⟩
    · cases v with
      | prim x => simp [wvN, maxDefsN, ColsOk, TripleOk, hole]
      | _ => simp only [okN] at hk; simp [wvN, maxDefsN, ColsOk, TripleOk, ht hk]
    · simp [wvN, maxDefsN, ColsOk, TripleOk, hole]; omega
  | opt n =>
    simp only [maxDefsN]
    rcases h with ⟨rfl, hk, _⟩ | ⟨hlt, rfl⟩
    · cases v with
      | some w =>
        simp only [wvN]
        exact wvN_colsOk n false r (d + 1) (d + 1) w (Or.inl ⟨rfl, by simpa [okN] using hk, by simp⟩)
      | _ => simp only [wvN]; exact wvN_colsOk n false r d (d + 1) .none (Or.inr ⟨by omega, rfl⟩)
    · simp only [wvN]; exact wvN_colsOk n false r d (d0 + 1) .none (Or.inr ⟨by omega, rfl⟩)
  | group fs =>
    simp only [maxDefsN]
    rcases h with ⟨rfl, hk, ht⟩ | ⟨hlt, rfl⟩
    · cases v with
      | list es =>
        simp only [wvN]
        exact wvF_colsOk fs top r d d (Option.some es) (Or.inl ⟨rfl, by simpa [okN] using hk, ht⟩)
      | _ => simp only [wvN]; exact wvF_colsOk fs top r d d Option.none (Or.inl ⟨rfl, by simpa [okN] using hk, ht⟩)
    · simp only [wvN]; exact wvF_colsOk fs top r d d0 Option.none (Or.inr ⟨hlt, rfl⟩)
theorem wvF_colsOk (fs : GFields) (top : Bool) (r d d0 : Nat) (m : Option (List Val))
    (h : (d = d0 ∧ okF fs top m = true ∧ (top = true → d0 = 0)) ∨ (d < d0 ∧ m = Option.none)) :
    ColsOk (wvF fs r d m) (maxDefsF fs d0) := by
  cases fs with
  | nil => simp [wvF, maxDefsF, ColsOk]
  | cons name n fs =>
    simp only [wvF, maxDefsF]
    apply colsOk_append
    · apply wvN_colsOk n top
      rcases h with ⟨rfl, hk, ht⟩ | ⟨hlt, rfl⟩
      · simp only [okF, Bool.and_eq_true] at hk
        exact Or.inl ⟨rfl, hk.1, ht⟩
      · exact Or.inr ⟨hlt, rfl⟩
    · apply wvF_colsOk fs top
      rcases h with ⟨rfl, hk, ht⟩ | ⟨hlt, rfl⟩
      · simp only [okF, Bool.and_eq_true] at hk
        exact Or.inl ⟨rfl, hk.2, ht⟩
      · exact Or.inr ⟨hlt, rfl⟩
end

mutual
theorem maxDefsN_length (n : GNode) (d : Nat) : (maxDefsN n d).length = leavesN (eraseG n) := by
  cases n with
  | leaf => simp [maxDefsN, eraseG, leavesN]
  | opt n => simpa [maxDefsN, eraseG, leavesN] using maxDefsN_length n (d + 1)
  | group fs => simpa [maxDefsN, eraseG, leavesN] using maxDefsF_length fs d
theorem maxDefsF_length (fs : GFields) (d : Nat) : (maxDefsF fs d).length = leavesF (eraseGF fs) := by
  cases fs with
  | nil => simp [maxDefsF, eraseGF, leavesF]
  | cons name n fs => simp [maxDefsF, eraseGF, leavesF, maxDefsN_length n d, maxDefsF_length fs d]
end

theorem dfn_ne_of_not_hole {dm : Nat} {t : Triple} (hh : hole dm t = false) (hv : t.val = none) : t.dfn ≠ dm :=
  fun he => by simp [hole, he, hv] at hh

/-- The two sides of the column buffer keep the same of a column in which values only occur at the
maximum level and an entry without value is either in a plain buffer (`dm = 0`, level 0: both sides
append the zero value) or below the maximum level of an optional one (neither side appends). -/
theorem store_agree_of (dm : Nat) (col : List Triple)
    (h : ∀ t ∈ col, (t.val.isSome = true → t.dfn = dm) ∧
      (t.val = none → (dm = 0 ∧ t.dfn = 0) ∨ (dm ≠ 0 ∧ t.dfn ≠ dm))) :
    storeNull dm col = storeRows dm col := by
  unfold storeNull storeRows
  congr 1
  induction col with
  | nil => rfl
  | cons t ts ih =>
    obtain ⟨⟨hv, hn⟩, hts⟩ := List.forall_mem_cons.mp h
    have e : (if dm = 0 then some (t.val.getD 0) else t.val) =
        (if t.dfn = dm then some (t.val.getD 0) else none) := by
      cases hval : t.val with
      | none =>
        rcases hn hval with ⟨h0, hd⟩ | ⟨h0, hd⟩
        · simp [h0, hd]
        · simp [h0, hd]
      | some x => simp [hv (by simp [hval])]
    simp only [List.filterMap_cons, e, ih hts]

theorem store_agree (dm : Nat) : ∀ (col : List Triple), (∀ t ∈ col, TripleOk dm t) →
    storeNull dm col = storeRows dm col := fun col h =>
  store_agree_of dm col fun t ht => by
    obtain ⟨h1, h2, h3⟩ := h t ht
    refine ⟨h2, fun hval => ?_⟩
    rcases h1 with h0 | h1
    · exact Or.inl ⟨h0, by omega⟩
    · have := dfn_ne_of_not_hole h1 hval
      exact Or.inr ⟨by omega, this⟩

/-- what the column buffers keep, column by column, on either side -/
def storeAll (f : Nat → List Triple → List Nat × List Nat) : Cols → List Nat → List (List Nat × List Nat)
  | c :: cs, dm :: dms => f dm c :: storeAll f cs dms
  | _, _ => []

theorem storeAll_agree : ∀ (cs : Cols) (dms : List Nat), ColsOk cs dms →
    storeAll storeNull cs dms = storeAll storeRows cs dms
  | [], [], _ => rfl
  | c :: cs, dm :: dms, h => by
    simp only [ColsOk] at h
    simp only [storeAll]
    rw [store_agree dm c h.1, storeAll_agree cs dms h.2]
  | [], _ :: _, _ => rfl
  | _ :: _, [], _ => rfl

def namesF : GFields → List Nat
  | .nil => []
  | .cons name _ fs => name :: namesF fs

theorem wvF_congr : ∀ (fs : GFields) (r d : Nat) (es es' : List Val),
    (∀ name ∈ namesF fs, mlookup es name = mlookup es' name) →
    wvF fs r d (Option.some es) = wvF fs r d (Option.some es')
  | .nil, _, _, _, _, _ => by simp [wvF]
  | .cons name n fs, r, d, es, es', h => by
    simp only [wvF]
    rw [h name (by simp [namesF]), wvF_congr fs r d es es' (fun x hx => h x (by simp [namesF, hx]))]

/-- MIRROR: `writeRowsFuncOfStruct` wraps the writer of a map field whose schema node is an optional
GROUP with `writeRowsFuncOfOptional` (`column_buffer_write.go:705-725`; bitmap branch, null index of
map types: the nil map is null) over `writeRowsFuncOfMapToGroup`. Rows: `Val.some map` / `Val.none`.
One `GenericBuffer[struct{ M map[string]V }].Write(batch)`, any / default branches
(theorem `maptogroup_optional_member_eq_reflect`). -/
def m2gOptWrite (fs : GFields) (batch : List Val) : Cols :=
  if batch.isEmpty then List.replicate (leavesF (eraseGF fs)) []
  else wrOptional (leavesF (eraseGF fs)) (wrM2GVal fs) 0 0 0 batch

/-- some column of an optional buffer (`0 < dm`) holds an entry at the maximum level without value -/
def HasHole : Cols → List Nat → Prop
  | c :: cs, dm :: dms => (0 < dm ∧ ∃ t ∈ c, hole dm t = true) ∨ HasHole cs dms
  | _, _ => False

theorem hasHole_append_left : ∀ {a : Cols} {da : List Nat} (b : Cols) (db : List Nat),
    HasHole a da → HasHole (a ++ b) (da ++ db)
  | c :: cs, dm :: dms, b, db, h => by
    simp only [List.cons_append, HasHole] at h ⊢
    rcases h with h | h
    · exact Or.inl h
    · exact Or.inr (hasHole_append_left b db h)
  | [], _, _, _, h => by simp [HasHole] at h
  | _ :: _, [], _, _, h => by simp [HasHole] at h

theorem hasHole_append_right : ∀ {a : Cols} {da : List Nat} {b : Cols} {db : List Nat},
    a.length = da.length → HasHole b db → HasHole (a ++ b) (da ++ db)
  | [], [], _, _, _, h => by simpa using h
  | c :: cs, dm :: dms, _, _, hl, h => by
    simp only [List.cons_append, HasHole]
    exact Or.inr (hasHole_append_right (by simpa using hl) h)
  | [], _ :: _, _, _, hl, _ => by simp at hl
  | _ :: _, [], _, _, hl, _ => by simp at hl

theorem wvN_length (n : GNode) (r d d0 : Nat) (v : Val) :
    (wvN n r d v).length = (maxDefsN n d0).length := by
  rw [wvN_eq_shred n r 0 d v, shredN_length, maxDefsN_length]

mutual
theorem wvN_hole (n : GNode) (top : Bool) (r d : Nat) (v : Val)
    (hk : okN n top v = false) (ht : top = false → 0 < d) :
    HasHole (wvN n r d v) (maxDefsN n d) := by
  cases n with
  | leaf =>
    cases v with
    | prim x => simp [okN] at hk
    | _ => simp only [okN] at hk; simp [wvN, maxDefsN, HasHole, hole, ht hk]
  | opt n =>
    cases v with
    | some w =>
      simp only [wvN, maxDefsN]
      exact wvN_hole n false r (d + 1) w (by simpa [okN] using hk) (fun _ => by omega)
    | _ => simp [okN] at hk
  | group fs =>
    cases v with
    | list es => simp only [wvN, maxDefsN]; exact wvF_hole fs top r d (Option.some es) (by simpa [okN] using hk) ht
    | _ => simp only [wvN, maxDefsN]; exact wvF_hole fs top r d Option.none (by simpa [okN] using hk) ht
theorem wvF_hole (fs : GFields) (top : Bool) (r d : Nat) (m : Option (List Val))
    (hk : okF fs top m = false) (ht : top = false → 0 < d) :
    HasHole (wvF fs r d m) (maxDefsF fs d) := by
  cases fs with
  | nil => simp [okF] at hk
  | cons name n fs =>
    simp only [wvF, maxDefsF]
    simp only [okF, Bool.and_eq_false_iff] at hk
    rcases hk with hk | hk
    · exact hasHole_append_left _ _ (wvN_hole n top r d _ hk ht)
    · exact hasHole_append_right (wvN_length n r d d _) (wvF_hole fs top r d m hk ht)
end

/-- the writer that is sound by construction (SPEC side of a node's writer) -/
def canonW (n : Node) : WriteRows := fun r k d vs =>
  if vs.isEmpty then absentN n r d else joinSegs (leavesN n) (vs.map (shredN n r k d))

theorem canonW_sound (n : Node) : Sound n (fun _ => canonW n) := by
  intro dm r k
  refine ⟨?_, ?_, ?_⟩
  · intro vs hvs
    cases vs with
    | nil => exact absurd rfl hvs
    | cons v vs => simp [canonW]
  · intro d _; simp [canonW]
  · intro d _ c
    simp [canonW, List.replicate_succ, shredN_none, List.map_replicate]

theorem wrOptional_map (m : Nat) (inner : WriteRows) (g gO : Val → Val)
    (h1 : ∀ v, isSome (gO v) = isSome v) (h2 : ∀ v, unopt (gO v) = g (unopt v)) (r k d : Nat) (vs : List Val) :
    wrOptional m (fun r k d vs => inner r k d (vs.map g)) r k d vs = wrOptional m inner r k d (vs.map gO) := by
  unfold wrOptional wrOptionalWith
  have hidx : nullIndex isSome (vs.map gO) = nullIndex isSome vs := by
    unfold nullIndex
    rw [nullIndexFrom_map, List.length_map]
    congr 1
    funext v; exact h1 v
  rw [hidx, List.length_map]
  cases vs with
  | nil => simp
  | cons v vs =>
    simp only [List.isEmpty_cons, List.map_cons, Bool.false_eq_true, if_false]
    split
    · congr 1
      apply List.map_congr_left
      intro run _
      congr 1
      simp only [sliceRows, ← List.map_cons, List.map_drop, List.map_take, List.map_map]
      have hf : (g ∘ unopt) = (unopt ∘ gO) := by funext w; simp [h2 w]
      rw [hf]
    · rfl

theorem wvF_some_nil : ∀ (fs : GFields) (r d : Nat), wvF fs r d (Option.some []) = wvF fs r d Option.none
  | .nil, _, _ => by simp [wvF]
  | .cons name n fs, r, d => by simp only [wvF, mlookup]; rw [wvF_some_nil fs r d]

theorem wvF_row (fs : GFields) (r k d : Nat) (v : Val) :
    wvF fs r d (Option.some (elemsS v)) = shredN (.group (eraseGF fs)) r k d (resolveN (.group fs) v) := by
  cases v with
  | list es => simp [elemsS, resolveN, shredN, wvF_some fs r k d es]
  | _ => simp [elemsS, resolveN, shredN, wvF_some_nil, wvF_none fs r k d]

theorem wrM2GVal_canon (fs : GFields) (r k d : Nat) (vs : List Val) :
    wrM2GVal fs r k d vs = canonW (.group (eraseGF fs)) r k d (vs.map (resolveN (.group fs))) := by
  unfold wrM2GVal canonW
  cases vs with
  | nil => simp [wvF_none fs r k d, absentN]
  | cons v vs =>
    simp only [List.isEmpty_cons, Bool.false_eq_true, if_false, List.map_cons, leavesN, List.map_map]
    congr 1
    simp only [List.cons.injEq]
    exact ⟨wvF_row fs r k d v, List.map_congr_left fun w _ => wvF_row fs r k d w⟩

end PqModel.MapToGroup
