/-! # C11 — `uint` arithmetic of the bloom filter size

`bloom.NumSplitBlocksOf` (bloom/filter.go:35-39) computes on Go's 64-bit `uint`:

    numBytes  := ((uint(numValues) * bitsPerValue) + 7) / 8
    numBlocks := (numBytes + (BlockSize - 1)) / BlockSize

and `splitBlockFilter.Size` (bloom.go:205-207) returns `bloom.BlockSize * int(numBlocks)`.
`bloomSizeGo` is the MIRROR with the wraparound (`BitVec 64`); `CopyPath.bloomSize` is the same
formula over `Nat`, used by the cascade mirror. That they agree below `nv * bpv + 7 < 2^64` and differ
above it is `Props.C11Bytes.bloomSize_exact_below_bound` / `bloomSize_wraps_above`. -/
namespace PqModel.CopyPath

/-- bloom/filter.go:35-39 + bloom.go:205-207 on `uint` (64 bit) -/
def bloomSizeGo (bitsPerValue numValues : Nat) : Nat :=
  let numBytes : BitVec 64 := (BitVec.ofNat 64 numValues * BitVec.ofNat 64 bitsPerValue + 7) / 8
  let numBlocks : BitVec 64 := (numBytes + 31) / 32
  32 * numBlocks.toNat

end PqModel.CopyPath
