/-! # The trailer checks of `OpenFile` (C14, reader side)

MIRROR (`openModel`) and SPEC (`openSpec`) of the checks `OpenFile` makes before it has the footer bytes; they differ in one
bound (`openWith_slack`). In namespace `PqModel.IoFault`: the reader side of that byte path. -/
namespace PqModel.IoFault

abbrev Bytes := List UInt8

inductive OpenErr where
  | shortHeader      -- "reading magic header": fewer than 4 bytes
  | badHeaderMagic   -- "invalid magic header"
  | shortTrailer     -- "reading magic footer": fewer than 8 bytes
  | badFooterMagic   -- "invalid magic footer"
  | footerBounds     -- "reading footer": the footer would start before offset 0 (spec: before offset 4)
  deriving Repr, DecidableEq

deriving instance DecidableEq for Except

def magicPAR1 : Bytes := [0x50, 0x41, 0x52, 0x31]
def magicPARE : Bytes := [0x50, 0x41, 0x52, 0x45]

def le32 (b : Bytes) : Nat :=
  match b with
  | [a, b, c, d] => a.toNat + 256 * b.toNat + 65536 * c.toNat + 16777216 * d.toNat
  | _ => 0

/-- header magic (file.go:77-87): "PARE" needs a DecryptionConfig -/
def isMagic (b : Bytes) (encrypted : Bool) : Bool := b == magicPAR1 || (encrypted && b == magicPARE)

/-- footer magic (file.go:113-116): "PAR1" or "PARE", whatever the configuration -/
def isFooterMagic (b : Bytes) : Bool := b == magicPAR1 || b == magicPARE

/-- MIRROR `OpenFile` up to the point where the footer bytes are in hand (file.go:65-131), over an `io.ReaderAt` that holds
exactly `f`: each length test is a read that fails, on too few bytes (header) or on a negative offset (trailer at `size-8`,
footer at `size-(footerSize+8)`). `encrypted`: a DecryptionConfig was given. `slack`: the bytes that must precede the footer;
the code asks for none (`footerSize + 8 ≤ size`: the footer may overlap the header magic), the format for 4. -/
def openWith (slack : Nat) (encrypted : Bool) (f : Bytes) : Except OpenErr Bytes :=
  if f.length < 4 then .error .shortHeader
  else if !isMagic (f.take 4) encrypted then .error .badHeaderMagic
  else if f.length < 8 then .error .shortTrailer
  else
    let tail := f.drop (f.length - 8)
    if !isFooterMagic (tail.drop 4) then .error .badFooterMagic
    else
      let n := le32 (tail.take 4)
      if f.length < n + 8 + slack then .error .footerBounds
      else .ok ((f.drop (f.length - 8 - n)).take n)

/-- MIRROR -/
def openModel (encrypted : Bool) (f : Bytes) : Except OpenErr Bytes := openWith 0 encrypted f
/-- SPEC -/
def openSpec (encrypted : Bool) (f : Bytes) : Except OpenErr Bytes := openWith 4 encrypted f

/-- MIRROR `readAt` (file.go:1792-1801): a full count clears the error -/
def readAtWrap (want : Nat) (n : Nat) (err : Bool) : Nat × Bool := if n = want then (n, false) else (n, err)

/-- SPEC: a well-formed file: `magic ‖ body ‖ footer ‖ le32(len footer) ‖ magic` -/
structure WellFormed (encrypted : Bool) (f : Bytes) : Prop where
  len : 12 ≤ f.length
  head : isMagic (f.take 4) encrypted = true
  tail : isFooterMagic (f.drop (f.length - 4)) = true
  bound : le32 ((f.drop (f.length - 8)).take 4) + 12 ≤ f.length

def Residual (slack : Nat) (g : Bytes) : Prop :=
  8 ≤ g.length ∧ isFooterMagic (g.drop (g.length - 4)) = true ∧
    le32 ((g.drop (g.length - 8)).take 4) + 8 + slack ≤ g.length

theorem openWith_ok {slack : Nat} {enc : Bool} {f ft : Bytes} : openWith slack enc f = .ok ft ↔
    (4 ≤ f.length ∧ isMagic (f.take 4) enc = true ∧ Residual slack f) ∧
    ft = (f.drop (f.length - 8 - le32 ((f.drop (f.length - 8)).take 4))).take (le32 ((f.drop (f.length - 8)).take 4)) := by
  have e : 8 ≤ f.length → (f.drop (f.length - 8)).drop 4 = f.drop (f.length - 4) := fun h => by
    rw [List.drop_drop]; congr 1; omega
  unfold Residual
  -- cases: the five tests of `openWith` in order, then success; `replace hb` unfolds the `let`s for `omega`
  fun_cases openWith slack enc f
  case case1 | case3 => exact ⟨nofun, fun h => by omega⟩
  case case2 hm => exact ⟨nofun, fun h => by simp [h.1.2.1] at hm⟩
  case case4 h8 _ hfm =>
    rw [e (by omega)] at hfm
    exact ⟨nofun, fun h => by simp [h.1.2.2.2.1] at hfm⟩
  case case5 _ _ _ _ _ _ hb =>
    replace hb : f.length < le32 ((f.drop (f.length - 8)).take 4) + 8 + slack := hb
    exact ⟨nofun, fun h => by omega⟩
  case case6 h4 hm h8 _ hfm _ hb =>
    rw [e (by omega)] at hfm
    replace hb : ¬ f.length < le32 ((f.drop (f.length - 8)).take 4) + 8 + slack := hb
    exact ⟨fun h => ⟨⟨by omega, by simpa using hm, by omega, by simpa using hfm, by omega⟩, (by cases h; rfl)⟩,
      fun h => by rw [h.2]⟩

theorem openWith_slack (s : Nat) (enc : Bool) (g : Bytes) :
    openWith 0 enc g = openWith s enc g ∨
      (openWith s enc g = .error .footerBounds ∧ ∃ ft, openWith 0 enc g = .ok ft) := by
  unfold openWith
  by_cases h4 : g.length < 4
  · simp [h4]
  · by_cases hm : (!isMagic (g.take 4) enc) = true
    · simp [h4, hm]
    · by_cases h8 : g.length < 8
      · simp [h4, hm, h8]
      · by_cases hfm : (!isFooterMagic ((g.drop (g.length - 8)).drop 4)) = true
        · simp only [h4, hm, h8, hfm, if_true, if_false]; exact Or.inl trivial
        · by_cases hb4 : g.length < le32 ((g.drop (g.length - 8)).take 4) + 8 + s
          · by_cases hb0 : g.length < le32 ((g.drop (g.length - 8)).take 4) + 8 + 0
            · simp only [h4, hm, h8, hfm, hb4, hb0, if_true, if_false]; exact Or.inl trivial
            · simp only [h4, hm, h8, hfm, hb4, hb0, if_true, if_false]; exact Or.inr ⟨rfl, _, rfl⟩
          · have hb0 : ¬ g.length < le32 ((g.drop (g.length - 8)).take 4) + 8 + 0 := by omega
            simp only [h4, hm, h8, hfm, hb4, hb0, if_false]; exact Or.inl trivial

end PqModel.IoFault
