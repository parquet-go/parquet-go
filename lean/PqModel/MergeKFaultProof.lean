import PqModel.MergeKFault
import PqModel.MergeLoser

/-! # C14 — the k-way merge reader over failing sources: the invariant holds along every session

That `playInitialGames` neither invents nor loses a player is a telescoping count over the closed form
`initW` / `initG` of C09's MergeLoser.lean: every inner node passes on one of its two children and stores
the other, so summing the players over all positions cancels everything but the leaves. No tree reasoning. -/
namespace PqModel.IoFault.RdK
open PqModel.IoFault.Rd
open PqModel.Merge (playInitialGames playGame initW initG leafVal playGame_mem playInitialGames_fst initW_node
  initW_ge init_losers list_eq_map_range)

def ind (p : Int → Bool) (x : Int) : Nat := if p x then 1 else 0

def sumTo (f : Nat → Nat) : Nat → Nat
  | 0 => 0
  | n + 1 => sumTo f n + f n

theorem countP_map_range (p : Int → Bool) (g : Nat → Int) :
    ∀ k, ((List.range k).map g).countP p = sumTo (fun i => ind p (g i)) k
  | 0 => rfl
  | k + 1 => by
    rw [List.range_succ, List.map_append, List.countP_append, countP_map_range p g k]
    simp only [List.map_cons, List.map_nil, List.countP_cons, List.countP_nil, sumTo, ind, Nat.zero_add]

theorem sumTo_congr {f g : Nat → Nat} : ∀ k, (∀ i, i < k → f i = g i) → sumTo f k = sumTo g k
  | 0, _ => rfl
  | k + 1, h => by
    simp only [sumTo]
    rw [sumTo_congr k (fun i hi => h i (by omega)), h k (by omega)]

theorem sumTo_add (f g : Nat → Nat) : ∀ k, sumTo (fun i => f i + g i) k = sumTo f k + sumTo g k
  | 0 => rfl
  | k + 1 => by simp only [sumTo, sumTo_add f g k]; omega

theorem sumTo_split (f : Nat → Nat) (a : Nat) : ∀ b, sumTo f (a + b) = sumTo f a + sumTo (fun i => f (a + i)) b
  | 0 => by simp [sumTo]
  | b + 1 => by
    rw [← Nat.add_assoc]; simp only [sumTo, sumTo_split f a b]; omega

/-- `Σ_{i<k} (f (2i+1) + f (2i+2)) + f 0 = Σ_{p<2k+1} f p` -/
theorem sumTo_children (f : Nat → Nat) : ∀ k,
    sumTo (fun i => f (2 * i + 1) + f (2 * i + 2)) k + f 0 = sumTo f (2 * k + 1)
  | 0 => by simp [sumTo]
  | k + 1 => by
    have ih := sumTo_children f k
    show sumTo (fun i => f (2 * i + 1) + f (2 * i + 2)) k + (f (2 * k + 1) + f (2 * k + 2)) + f 0
      = sumTo f (2 * k + 1) + f (2 * k + 1) + f (2 * k + 2)
    omega

section tree
variable (bufs : List Merge.Buf) (leaves : List Int)

theorem leafVal_lt (hl : leaves.length = bufs.length) {i : Nat} (hi : i < bufs.length) :
    leafVal bufs leaves (bufs.length + i) = leaves.getD i (-1) := by
  simp [leafVal, hl, hi]

theorem leafVal_phantom (hl : leaves.length = bufs.length) :
    leafVal bufs leaves (bufs.length + bufs.length) = -1 := by
  simp [leafVal, hl]

theorem init_tree_countP (p : Int → Bool) (hp : p (-1) = false)
    (hl : leaves.length = bufs.length) (L : List Int) (hL : L.length = bufs.length) :
    ((playInitialGames bufs leaves bufs.length 0 L).1 :: (playInitialGames bufs leaves bufs.length 0 L).2).countP p
      = leaves.countP p := by
  rw [List.countP_cons, playInitialGames_fst, init_losers bufs leaves L hL, countP_map_range]
  change _ + ind p (initW bufs leaves 0) = _
  let W := fun q => ind p (initW bufs leaves q)
  have hnode : sumTo (fun i => ind p (initG bufs leaves i)) bufs.length + sumTo W bufs.length
      = sumTo (fun i => W (2 * i + 1) + W (2 * i + 2)) bufs.length := by
    rw [← sumTo_add]
    apply sumTo_congr
    intro i hi
    show ind p (initG bufs leaves i) + ind p (initW bufs leaves i) = _
    rw [initW_node bufs leaves hi]
    show ind p (playGame bufs _ _).1 + ind p (playGame bufs _ _).2 = _
    rcases playGame_mem bufs (initW bufs leaves (2 * i + 1)) (initW bufs leaves (2 * i + 2)) with ⟨e1, e2⟩ | ⟨e1, e2⟩
    · rw [e1, e2]
    · rw [e1, e2]; exact Nat.add_comm _ _
  have hch := sumTo_children W bufs.length
  have e : 2 * bufs.length + 1 = bufs.length + (bufs.length + 1) := by omega
  rw [e, sumTo_split W bufs.length (bufs.length + 1)] at hch
  simp only [sumTo] at hch
  have hph : W (bufs.length + bufs.length) = 0 := by
    show ind p (initW bufs leaves (bufs.length + bufs.length)) = 0
    rw [initW_ge bufs leaves (by omega), leafVal_phantom bufs leaves hl]; simp [ind, hp]
  have hlv : sumTo (fun i => W (bufs.length + i)) bufs.length = leaves.countP p := by
    conv => rhs; rw [list_eq_map_range leaves, countP_map_range, hl]
    apply sumTo_congr
    intro i hi
    show ind p (initW bufs leaves (bufs.length + i)) = _
    rw [initW_ge bufs leaves (by omega), leafVal_lt bufs leaves hl hi]
  have hW0 : W 0 = ind p (initW bufs leaves 0) := rfl
  omega

theorem init_tree_count (hl : leaves.length = bufs.length) (L : List Int) (hL : L.length = bufs.length) :
    nn ((playInitialGames bufs leaves bufs.length 0 L).1 :: (playInitialGames bufs leaves bufs.length 0 L).2)
      = nn leaves := by
  simpa only [nn, List.countP_eq_length_filter] using
    init_tree_countP bufs leaves (fun x => decide (0 ≤ x)) (by decide) hl L hL

theorem init_tree_mem (hl : leaves.length = bufs.length) (L : List Int) (hL : L.length = bufs.length)
    (x : Int) (hx : 0 ≤ x) (hmem : x ∈ leaves) :
    x ∈ (playInitialGames bufs leaves bufs.length 0 L).1 :: (playInitialGames bufs leaves bufs.length 0 L).2 := by
  have h := init_tree_countP bufs leaves (· == x) (by simp; omega) hl L hL
  have hpos : 0 < leaves.countP (· == x) := List.countP_pos_iff.mpr ⟨x, hmem, by simp⟩
  obtain ⟨y, hy, e⟩ := List.countP_pos_iff.mp (h ▸ hpos)
  exact (beq_iff_eq.mp e) ▸ hy

end tree

theorem initReads_cons {b : Buf} (bs : List Buf) (i : Nat) (h : b.read.1 ≠ .err) :
    initReads (b :: bs) i = ((initReads bs (i + 1)).1, b.read.2 :: (initReads bs (i + 1)).2.1,
      (if b.read.1 = .eof then -1 else (i : Int)) :: (initReads bs (i + 1)).2.2) := by
  simp only [initReads]
  split <;> simp_all

theorem initReads_cons_err {b : Buf} (bs : List Buf) (i : Nat) (h : b.read.1 = .err) :
    initReads (b :: bs) i = (.err, b.read.2 :: bs, []) := by
  simp only [initReads]
  split <;> simp_all

theorem initReads_ok : ∀ (bufs : List Buf) (i0 : Nat), (∀ b ∈ bufs, b.win = []) →
    (initReads bufs i0).2.1.length = bufs.length ∧
    (∀ j, (initReads bufs i0).2.1.getD j dbuf = (bufs.getD j dbuf).read.2 ∨
          (initReads bufs i0).2.1.getD j dbuf = bufs.getD j dbuf) ∧
    ((initReads bufs i0).1 ≠ .err →
      (initReads bufs i0).2.2.length = bufs.length ∧
      ∀ j, j < bufs.length →
        ((initReads bufs i0).2.2.getD j (-1) = -1 ∧ ((initReads bufs i0).2.1.getD j dbuf).win = [] ∧
          ((initReads bufs i0).2.1.getD j dbuf).src.rows = []) ∨
        (initReads bufs i0).2.2.getD j (-1) = ((i0 + j : Nat) : Int))
  | [], i0, _ => by simp [initReads]
  | b :: bs, i0, hw => by
    obtain ⟨ih1, ih2, ih3⟩ := initReads_ok bs (i0 + 1) (fun b' hb' => hw b' (List.mem_cons_of_mem _ hb'))
    by_cases herr : b.read.1 = .err
    · rw [initReads_cons_err bs i0 herr]
      refine ⟨by simp, fun j => ?_, by simp⟩
      cases j with
      | zero => left; simp
      | succ j => right; simp
    · rw [initReads_cons bs i0 herr]
      refine ⟨by simp [ih1], fun j => ?_, fun hne => ?_⟩
      · cases j with
        | zero => left; simp
        | succ j => simpa using ih2 j
      · obtain ⟨l1, l2⟩ := ih3 hne
        refine ⟨by simp [l1], fun j hj => ?_⟩
        cases j with
        | zero =>
          by_cases heof : b.read.1 = .eof
          · left
            have he := Buf.read_eof b heof
            simp [heof, he.1, he.2, hw b List.mem_cons_self]
          · right; simp [heof]
        | succ j =>
          simp only [List.getD_cons_succ]
          rcases l2 j (by simpa using hj) with a | a
          · left; exact a
          · right; rw [a]; congr 1; omega

theorem getD_fresh (srcs : List Src) (i : Nat) :
    (srcs.map Buf.fresh).getD i dbuf = Buf.fresh (srcs.getD i dsrc) := by
  simp only [List.getD_eq_getElem?_getD, List.getElem?_map]
  cases srcs[i]? <;> rfl

theorem nn_pos_of_mem {l : List Int} {x : Int} (hx : 0 ≤ x) (h : x ∈ l) : 0 < nn l := by
  have : x ∈ l.filter (fun x => decide (0 ≤ x)) := by simp [List.mem_filter, h, hx]
  exact List.length_pos_of_mem this

theorem init_ok (srcs : List Src) (h : (MK.new srcs).init.1 ≠ .err) :
    KInv (MK.new srcs).init.2 srcs [] ∧ (MK.new srcs).init.2.initialized = true := by
  have hfresh : ∀ b ∈ srcs.map Buf.fresh, b.win = [] := by
    intro b hb; obtain ⟨s, _, rfl⟩ := List.mem_map.mp hb; rfl
  obtain ⟨r1, r2, r3⟩ := initReads_ok (srcs.map Buf.fresh) 0 hfresh
  simp only [MK.init, MK.new] at h ⊢
  obtain ⟨R, hR⟩ : ∃ R, R = initReads (srcs.map Buf.fresh) 0 := ⟨_, rfl⟩
  simp only [← hR, List.length_map, Nat.zero_add] at r1 r2 r3 h ⊢
  have hrows : ∀ i, i < srcs.length →
      ((R.2.1.getD i dbuf).win ++ (R.2.1.getD i dbuf).src.rows) = (srcs.getD i dsrc).rows := by
    intro i _
    rcases r2 i with e | e <;> rw [e, getD_fresh]
    · rw [Buf.read_rows]; rfl
    · rfl
  have hbites : ∀ i, i < srcs.length → (srcs.getD i dsrc).Bites → (R.2.1.getD i dbuf).src.Bites := by
    intro i _ hb
    rcases r2 i with e | e <;> rw [e, getD_fresh]
    · exact Buf.read_bites _ hb
    · exact hb
  by_cases he : R.1 = .err
  · simp [he] at h
  · obtain ⟨l1, l2⟩ := r3 he
    -- an input whose leaf is its index is among the leaves
    have hleaf : ∀ i, i < srcs.length → R.2.2.getD i (-1) = (i : Int) → (i : Int) ∈ R.2.2 := by
      intro i hi a
      have hi2 : i < R.2.2.length := by rw [l1]; exact hi
      have : R.2.2[i] = (i : Int) := by
        simpa [List.getD_eq_getElem?_getD, List.getElem?_eq_getElem hi2] using a
      rw [← this]; exact List.getElem_mem hi2
    by_cases hpos : nn R.2.2 > 0
    · simp only [he, hpos, if_false, if_true]
      refine ⟨⟨by simp [r1], fun i hi => by simpa [projK] using hrows i hi, hbites, ?_, ?_, ?_⟩, trivial⟩
      · intro hc; simp only at hc; omega
      · intro _ i hi hne
        simp only at hne ⊢
        have hmemleaf : (i : Int) ∈ R.2.2 := by
          rcases l2 i hi with ⟨_, a, b⟩ | a
          · rcases hne with c | c
            · exact absurd a c
            · exact absurd b c
          · exact hleaf i hi a
        have := init_tree_mem (R.2.1.map hv) R.2.2 (by simp [l1, r1]) (List.replicate (R.2.1.map hv).length 0)
          (by simp) (i : Int) (by omega) hmemleaf
        simpa [r1] using this
      · intro _
        have := init_tree_count (R.2.1.map hv) R.2.2 (by simp [l1, r1]) (List.replicate (R.2.1.map hv).length 0)
          (by simp)
        simp only [List.length_map, r1] at this
        simp only [List.length_map]
        omega
    · simp only [he, hpos, if_false]
      refine ⟨⟨by simp [r1], fun i hi => by simpa [projK] using hrows i hi, hbites, ?_, ?_, ?_⟩, trivial⟩
      · intro _ i hi
        rcases l2 i hi with ⟨_, a, b⟩ | a
        · exact ⟨a, b⟩
        · have := nn_pos_of_mem (by omega) (hleaf i hi a)
          omega
      · intro hc; simp at hc
      · intro hc; simp at hc

theorem runOf_le (bound : Option Merge.Row) (window : List Int) : runOf bound window ≤ window.length := by
  simp only [runOf]; split
  · have := Merge.runLength_le (window.map toRow) ‹_› 0; simpa using this
  · exact Nat.le_refl _

theorem runEmit_ok (bound : Option Merge.Row) (f m : Nat) (c : Buf) :
    (runEmit bound f m c).1 ++ (runEmit bound f m c).2.1.win = c.win ∧ (runEmit bound f m c).2.1.src = c.src := by
  have htt : ∀ (m : Nat) (c : Buf) (run : Nat), run = runOf bound (c.win.take m) →
      (c.win.take m).take run = c.win.take run := by
    intro m c run e
    have hle := runOf_le bound (c.win.take m)
    rw [List.take_take]; congr 1
    simp only [List.length_take] at hle; omega
  -- cases: out of fuel; no room; the run uses up the buffer; the bound is crossed; the window is exhausted, go on
  fun_induction runEmit bound f m c with
  | case1 | case2 => simp
  | case3 f m c hm run hmore | case4 f m c hm run hmore hfull => simp [htt m c run rfl]
  | case5 f m c hm run hmore hfull r ih =>
    refine ⟨?_, ih.2⟩
    rw [List.append_assoc, ih.1, htt m c run rfl]; exact List.take_append_drop _ _

theorem projK_tag_same (w : Nat) (l : List Int) : projK w (tagK w l) = l := projBy_tag_same w l

theorem projK_tag_other {i w : Nat} (l : List Int) (h : i ≠ w) : projK i (tagK w l) = [] :=
  projBy_tag_other (Ne.symm h) l

theorem KInv.refill {st : MK} {srcs : List Src} {out : List (Nat × Int)} (h : KInv st srcs out)
    (hw0 : 0 ≤ st.winner) (hw : st.winner.toNat < st.bufs.length) (hc : st.count ≠ 0)
    (hempty : st.cur.win = []) : KInv (st.setBuf st.cur.read.2) srcs out := by
  have hrr := Buf.read_rows st.cur
  refine h.setBuf st.winner.toNat (by omega) hw _ (by rw [hrr]) (fun _ _ => rfl) (Buf.read_bites _) ?_
    (fun e => absurd e hc)
  intro hne
  by_cases hs : st.cur.src.rows = []
  · rw [hempty, hs] at hrr
    obtain ⟨h1, h2⟩ := List.append_eq_nil_iff.mp hrr
    rcases hne with a | a
    · exact absurd h1 a
    · exact absurd h2 a
  · exact Or.inr hs

/-- the rows `l` handed out from the front of the winner's window; `c` is the buffer that remains -/
theorem KInv.emit {st : MK} {srcs : List Src} {out : List (Nat × Int)} (h : KInv st srcs out)
    (hw0 : 0 ≤ st.winner) (hw : st.winner.toNat < st.bufs.length) (hc : st.count ≠ 0)
    {l : List Int} (hl : l ≠ []) (c : Buf) (hwin : st.cur.win = l ++ c.win) (hsrc : c.src = st.cur.src) :
    KInv (st.setBuf c) srcs (out ++ tagK st.winner.toNat l) := by
  refine h.setBuf st.winner.toNat (by omega) hw _ ?_ ?_ (by rw [hsrc]; exact id)
    (fun _ => Or.inl (by rw [hwin]; simp [hl])) (fun e => absurd e hc)
  · rw [projK_append, projK_tag_same, hwin, hsrc]; simp [List.append_assoc]
  · intro i hi; rw [projK_append, projK_tag_other _ hi]; simp

theorem loop_ok (srcs : List Src) (f m : Nat) (st : MK) (out : List (Nat × Int)) (h : KInv st srcs out) :
    (MK.loop f m st).2.initialized = st.initialized ∧
    (((MK.loop f m st).1.2 = .nil ∨ (MK.loop f m st).1.2 = .eof) →
      KInv (MK.loop f m st).2 srcs (out ++ (MK.loop f m st).1.1)) ∧
    ((MK.loop f m st).1.2 = .eof → (MK.loop f m st).2.count = 0) := by
  -- cases: out of fuel; no room or no input left; panic (3); the winner's buffer is empty and the refill answers
  -- nil (4), io.EOF (5: the input leaves the tree), an error (6); a row: the last buffered one (7), then a run that
  -- returns (8), a run and on (9), one row and on (10)
  fun_induction MK.loop f m st generalizing out with
  | case1 => exact ⟨rfl, fun _ => by simpa using h, fun e => by cases e⟩
  | case2 => exact ⟨rfl, fun _ => by simpa using h, fun e => by split at e; assumption; cases e⟩
  | case3 | case6 => exact ⟨rfl, by simp, by simp⟩
  | case4 f m st hc hwin hempty c' hr st2 ih =>
    have hk := h.refill (by omega) (by omega) (fun e => hc (Or.inr e)) hempty
    rw [hr] at hk
    exact ih out (hk.replay.streak _)
  | case5 f m st hc hwin hempty c' hr st2 ih =>
    have hw : st.winner.toNat < st.bufs.length := by omega
    have hk := h.refill (by omega) hw (fun e => hc (Or.inr e)) hempty
    have he := Buf.read_eof st.cur (by rw [hr])
    rw [hr] at hk he
    have hdead : ((st.setBuf c').bufs.getD st.winner.toNat dbuf).win = [] ∧
        ((st.setBuf c').bufs.getD st.winner.toNat dbuf).src.rows = [] := by
      have : (st.setBuf c').bufs.getD st.winner.toNat dbuf = c' := by
        simp only [MK.setBuf]; exact getD_set_eq c' hw
      rw [this]; exact ⟨by rw [he.1, hempty], he.2⟩
    exact ih out ((hk.drop st.winner.toNat (show st.winner = _ by omega) (by simpa [MK.setBuf] using hw) (fun e => hc (Or.inr e))
      hdead).replay.streak _)
  | case7 f m st hc hwin x hwin' st' =>
    exact ⟨rfl, fun _ => h.emit (by omega) (by omega) (fun e => hc (Or.inr e)) (l := [x]) (by simp) _ hwin' rfl,
      by simp⟩
  | case8 f m st hc hwin x w' hwin' st' hw' hstreak e hret =>
    have he := runEmit_ok st'.runBound m (m - 1) { st.cur with win := w' }
    exact ⟨rfl, fun _ => h.emit (by omega) (by omega) (fun e => hc (Or.inr e)) (l := x :: e.1) (by simp) _
      (by rw [hwin', List.cons_append, he.1]) he.2, by simp⟩
  | case9 f m st hc hwin x w' hwin' st' hw' hstreak e hret r ih =>
    have he := runEmit_ok st'.runBound m (m - 1) { st.cur with win := w' }
    have hk := h.emit (by omega) (by omega) (fun e => hc (Or.inr e)) (l := x :: e.1) (by simp) _
      (by rw [hwin', List.cons_append, he.1]) he.2
    have := ih _ (hk.streak 0).replay
    exact ⟨this.1, fun hres => by simpa [tagK, List.append_assoc] using this.2.1 hres, this.2.2⟩
  | case10 f m st hc hwin x w' hwin' st' hw' hstreak st2 r ih =>
    have hk := h.emit (by omega) (by omega) (fun e => hc (Or.inr e)) (l := [x]) (by simp)
      { st.cur with win := w' } hwin' rfl
    have := ih _ (hk.replay.streak _)
    exact ⟨this.1, fun hres => by simpa [tagK, List.append_assoc] using this.2.1 hres, this.2.2⟩

/-- the state of a session: before the first call, or initialised with the invariant -/
def SInv (st : MK) (srcs : List Src) (out : List (Nat × Int)) : Prop :=
  (st = MK.new srcs ∧ out = []) ∨ (st.initialized = true ∧ KInv st srcs out)

theorem readRows_of_init (st : MK) (cap : Nat) (hi : st.initialized = true) :
    st.readRows cap = MK.loop (st.fuel cap) cap st := by simp [MK.readRows, hi]

theorem readRows_first_nil (st : MK) (cap : Nat) (hi : st.initialized = false) (hn : st.init.1 = .nil) :
    st.readRows cap = MK.loop (st.fuel cap) cap st.init.2 := by simp [MK.readRows, hi, hn]

theorem readRows_first_err (st : MK) (cap : Nat) (hi : st.initialized = false) (hn : st.init.1 ≠ .nil) :
    st.readRows cap = (([], .err), st.init.2) := by simp [MK.readRows, hi, hn]

theorem readRows_ok (srcs : List Src) (st : MK) (out : List (Nat × Int)) (cap : Nat) (h : SInv st srcs out)
    (hres : (st.readRows cap).1.2 = .nil ∨ (st.readRows cap).1.2 = .eof) :
    ((st.readRows cap).2.initialized = true ∧ KInv (st.readRows cap).2 srcs (out ++ (st.readRows cap).1.1)) ∧
    ((st.readRows cap).1.2 = .eof → (st.readRows cap).2.count = 0) := by
  rcases h with ⟨hst, hout⟩ | ⟨hi, hk⟩
  · have hni : st.initialized = false := by rw [hst]; rfl
    by_cases hn : st.init.1 = .nil
    · rw [readRows_first_nil st cap hni hn] at hres ⊢
      obtain ⟨hk, hinit⟩ := init_ok srcs (by rw [← hst, hn]; decide)
      rw [← hst] at hk hinit
      have := loop_ok srcs (st.fuel cap) cap _ [] hk
      rw [hout]
      exact ⟨⟨by rw [this.1, hinit], this.2.1 hres⟩, this.2.2⟩
    · rw [readRows_first_err st cap hni hn] at hres
      rcases hres with e | e <;> cases e
  · rw [readRows_of_init st cap hi] at hres ⊢
    have := loop_ok srcs (st.fuel cap) cap st out hk
    exact ⟨⟨by rw [this.1, hi], this.2.1 hres⟩, this.2.2⟩

theorem session_eof (srcs : List Src) (caps : List Nat) (st : MK) (out : List (Nat × Int))
    (hinv : SInv st srcs out) (h : (session caps st).2.1 = .eof) :
    ∀ i, i < srcs.length →
      projK i (out ++ (session caps st).1.flatten) = (srcs.getD i dsrc).rows ∧ ¬ (srcs.getD i dsrc).Bites := by
  -- cases: no call left; a call that answers io.EOF or an error; a call that answers nil, and the session goes on
  fun_induction session caps st generalizing out with
  | case1 => cases h
  | case2 c cs st x hn =>
    obtain ⟨⟨_, hk⟩, hc⟩ := readRows_ok srcs st out c hinv (Or.inr h)
    intro i hi
    obtain ⟨hw, hs⟩ := hk.done (hc h) i hi
    have a := hk.rows i hi
    rw [hw, hs] at a
    simp only [List.flatten_cons, List.flatten_nil, List.append_nil] at a ⊢
    exact ⟨a, fun hb => (hk.bites i hi hb).rows_ne hs⟩
  | case3 c cs st x hn r ih =>
    obtain ⟨hinv', _⟩ := readRows_ok srcs st out c hinv (Or.inl (Decidable.not_not.mp hn))
    have := ih _ (Or.inr hinv') h
    simpa [List.flatten_cons, List.append_assoc] using this

end PqModel.IoFault.RdK
