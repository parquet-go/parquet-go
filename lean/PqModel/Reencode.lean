import PqModel.FileModel

/-! # C11 — the column-oriented re-encode path at the level of column streams

`copyColumnValues` (writer_reencode.go:219-263) reads every value of a source column chunk in
order — with its repetition and definition levels — and hands the values to the destination column
writer, which cuts pages, builds its dictionary and encodes under the DESTINATION's codecs.
`writeRowGroupByColumn` (writer_reencode.go:197-206) does so for every column of one source row
group, `packSegmentsByColumn` (writer_reencode.go:154-170) for every column across several segments
in order. At the level of column streams this is `decode` (source codecs) followed by `encode`
(destination codecs, destination's own page cuts / dictionary fallback), i.e. the SPEC reader and
the nondeterministic SPEC writer of `PqModel.FileModel`; the lemmas below compose their round trips.
The codecs stay abstract with the hypotheses `ColCodec.OK` (the shapes of the C04 theorems). -/
namespace PqModel.Reencode
open PqModel.Dremel PqModel.Pages PqModel.FileModel

variable {β γ β' γ' : Type}

/-- one column: decode the source chunk, encode the stream under the destination's choices -/
def reencodeChunk (cA : ColCodec β γ) (cB : ColCodec β' γ') (lv : Nat × Nat) (cfgB : ChunkCfg)
    (src : Chunk β γ) : Option (Chunk β' γ') :=
  (readChunk false cA lv src).map (writeChunk cB lv cfgB)

/-- `writeRowGroupByColumn`: column `j` is decoded with `cdA j` and written with `cdB j` / `cfgB j` -/
def reencodeCols (cdA : Nat → ColCodec β γ) (cdB : Nat → ColCodec β' γ') (cfgB : Nat → ChunkCfg) :
    Nat → List (Nat × Nat) → List (Chunk β γ) → Option (List (Chunk β' γ'))
  | _, [], [] => some []
  | j, lv :: lvs, ch :: chs =>
    match reencodeChunk (cdA j) (cdB j) lv (cfgB j) ch, reencodeCols cdA cdB cfgB (j + 1) lvs chs with
    | some a, some b => some (a :: b)
    | _, _ => none
  | _, _, _ => none

/-- `packSegmentsByColumn`: every column is decoded across all segments in order and the
    concatenated stream written as one chunk -/
def packCols (cdA : Nat → ColCodec β γ) (cdB : Nat → ColCodec β' γ') (cfgB : Nat → ChunkCfg)
    (lvs : List (Nat × Nat)) (segs : List (List (Chunk β γ))) : Option (List (Chunk β' γ')) :=
  (segs.mapM (readCols false cdA 0 lvs)).map fun streams =>
    writeCols cdB cfgB 0 lvs (joinSegs lvs.length streams)

theorem reencodeCols_eq (cdA : Nat → ColCodec β γ) (cdB : Nat → ColCodec β' γ') (cfgB : Nat → ChunkCfg) :
    ∀ (j : Nat) (lvs : List (Nat × Nat)) (chs : List (Chunk β γ)),
      reencodeCols cdA cdB cfgB j lvs chs = (readCols false cdA j lvs chs).map (writeCols cdB cfgB j lvs) := by
  intro j lvs
  induction lvs generalizing j with
  | nil => intro chs; cases chs <;> rfl
  | cons lv lvs ih =>
    intro chs
    cases chs with
    | nil => rfl
    | cons ch chs =>
      simp only [reencodeCols, readCols, reencodeChunk, ih]
      cases readChunk false (cdA j) lv ch <;> cases readCols false cdA (j + 1) lvs chs <;> rfl

/-- one chunk: whatever the source encoding, page cuts and dictionary use were, the destination
    chunk decodes (under the destination's codecs) to the stream the source chunk decodes to -/
theorem reencodeChunk_preserves {cA : ColCodec β γ} {cB : ColCodec β' γ'} {B : Nat} (hB : cB.OK B)
    {lv : Nat × Nat} (h1 : lv.1 ≤ B) (h2 : lv.2 ≤ B) (strict : Bool) (cfgB : ChunkCfg)
    (src : Chunk β γ) (s : List Triple) (hsrc : readChunk false cA lv src = some s)
    (hs : StreamOK cB lv s) (ha : strict = true → (cutAt cfgB.cuts s).all pageAligned = true) :
    (reencodeChunk cA cB lv cfgB src).bind (readChunk strict cB lv) = some s := by
  simp only [reencodeChunk, hsrc, Option.map_some, Option.bind_some]
  exact readChunk_writeChunk hB h1 h2 strict cfgB s hs ha

theorem reencode_preserves_streams {cdA : Nat → ColCodec β γ} {cdB : Nat → ColCodec β' γ'} {B : Nat}
    (strict : Bool) (cfgB : Nat → ChunkCfg) {lvs : List (Nat × Nat)} {ss : Cols}
    (src : List (Chunk β γ)) (hsrc : readCols false cdA 0 lvs src = some ss)
    (hp : Pairs LvOK lvs ss) (hcd : ∀ i, i < lvs.length → (cdB i).OK B)
    (hB : ∀ lv ∈ lvs, lv.1 ≤ B ∧ lv.2 ≤ B)
    (hv : valsIn (fun j => (cdB j).okV) 0 ss = true)
    (ha : strict = true → colsAligned cfgB 0 ss = true) :
    (reencodeCols cdA cdB cfgB 0 lvs src).bind (readCols strict cdB 0 lvs) = some ss := by
  rw [reencodeCols_eq, hsrc, Option.map_some, Option.bind_some]
  exact readCols_writeCols strict cfgB hp 0 (fun i hi => by simpa using hcd i hi) hB hv ha

theorem reencode_of_written {cdA : Nat → ColCodec β γ} {cdB : Nat → ColCodec β' γ'} {B : Nat}
    (strict : Bool) (cfgA cfgB : Nat → ChunkCfg) {lvs : List (Nat × Nat)} {ss : Cols}
    (hp : Pairs LvOK lvs ss) (hA : ∀ i, i < lvs.length → (cdA i).OK B) (hcd : ∀ i, i < lvs.length → (cdB i).OK B)
    (hB : ∀ lv ∈ lvs, lv.1 ≤ B ∧ lv.2 ≤ B)
    (hvA : valsIn (fun j => (cdA j).okV) 0 ss = true) (hvB : valsIn (fun j => (cdB j).okV) 0 ss = true)
    (ha : strict = true → colsAligned cfgB 0 ss = true) :
    (reencodeCols cdA cdB cfgB 0 lvs (writeCols cdA cfgA 0 lvs ss)).bind (readCols strict cdB 0 lvs) = some ss :=
  reencode_preserves_streams strict cfgB _
    (readCols_writeCols false cfgA hp 0 (fun i hi => by simpa using hA i hi) hB hvA (fun h => by cases h))
    hp hcd hB hvB ha

theorem pack_preserves_streams {cdA : Nat → ColCodec β γ} {cdB : Nat → ColCodec β' γ'} {B : Nat}
    (strict : Bool) (cfgB : Nat → ChunkCfg) {lvs : List (Nat × Nat)}
    (segs : List (List (Chunk β γ))) (streams : List Cols)
    (hsrc : segs.mapM (readCols false cdA 0 lvs) = some streams)
    (hp : ∀ s ∈ streams, Pairs LvOK lvs s) (hcd : ∀ i, i < lvs.length → (cdB i).OK B)
    (hB : ∀ lv ∈ lvs, lv.1 ≤ B ∧ lv.2 ≤ B)
    (hv : valsIn (fun j => (cdB j).okV) 0 (joinSegs lvs.length streams) = true)
    (ha : strict = true → colsAligned cfgB 0 (joinSegs lvs.length streams) = true) :
    (packCols cdA cdB cfgB lvs segs).bind (readCols strict cdB 0 lvs) = some (joinSegs lvs.length streams) := by
  simp only [packCols, hsrc, Option.map_some, Option.bind_some]
  exact readCols_writeCols strict cfgB (pairs_joinSegs streams hp) 0 (fun i hi => by simpa using hcd i hi) hB hv ha

end PqModel.Reencode
