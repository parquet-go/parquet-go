import PqModel.DeltaGo

/-! # MIRROR of the amd64 Go wrapper of the DELTA_BYTE_ARRAY decoder (property C04, part delta)

On the default (assembly) build `ByteArrayEncoding.DecodeByteArray` does not run the portable loop
of `byte_array_purego.go` but `decodeByteArray` of `byte_array_amd64.go:56-108`: it validates the
lengths, hands the first `k` values to the AVX2 kernel `decodeByteArrayAVX2` — which copies in
32-byte chunks and therefore must stay `padding = 64` bytes of suffix data away from the end of
`src` — and finishes the last values with a scalar Go loop that has to RECONSTRUCT the loop state
(read position `j`, previous value) the kernel left. This file transliterates that Go logic (the
split scan, the state reconstruction, the scalar loop) with the kernel replaced by its contract
("the portable loop on the first `k` values", tied by the L1/L2 comparisons on the asm build) and
proves it equal to the portable loop for every valid input whose suffix bytes end at the end of
`src` (a data page holds nothing after them). Without that hypothesis the reconstruction
`j = len(src) - n` is wrong: observation `maldba-trailing-bytes-change-values`. The second half does the same for
`decodeFixedLenByteArray`. Both mirrors assume AVX2 and test all prefixes, all suffixes, then `validLens`; Go tests per element, so
on an input with two defects the error named can differ. -/
namespace PqModel.Delta

/-- MIRROR byte_array_amd64.go:97-105 (the scalar loop; byte_array_purego.go:5-34 is the same
loop with the range checks inline): `i += copy(dst[i:], lastValue[:p]); i += copy(dst[i:],
src[j:j+n]); j += n; lastValue = dst[lastValueOffset:]`. The destination is modelled as the list of
values written (`dst` is their concatenation). -/
def loopVals (src : List Nat) : List Nat → Nat → List Nat → List Nat → List (List Nat)
  | lastV, j, p :: ps, n :: ss =>
    (lastV.take p ++ (src.drop j).take n) ::
      loopVals src (lastV.take p ++ (src.drop j).take n) (j + n) ps ss
  | _, _, _, _ => []

/-- MIRROR byte_array_amd64.go:20-40, the Go fallback of `validatePrefixAndSuffixLengthValues`
(lengths are non-negative here): every prefix is at most the length `p + n` of the previous value. -/
def validLens : Nat → List Nat → List Nat → Prop
  | last, p :: ps, n :: ss => p ≤ last ∧ validLens (p + n) ps ss
  | _, _, _ => True

instance validLens.dec : ∀ (last : Nat) (ps ss : List Nat), Decidable (validLens last ps ss)
  | last, p :: ps, n :: ss => by
    unfold validLens
    exact @instDecidableAnd _ _ _ (validLens.dec (p + n) ps ss)
  | _, [], _ => by unfold validLens; infer_instance
  | _, _ :: _, [] => by unfold validLens; infer_instance

/-- MIRROR byte_array_amd64.go:80-86 `k := len(suffix); n := 0; for k > 0 && n < padding { k--;
n += int(suffix[k]) }` on the reversed suffix list: returns the number of values left to the
scalar loop and the number `n` of suffix bytes they own. -/
def tailScan : List Nat → Nat → Nat → Nat × Nat
  | [], n, c => (c, n)
  | s :: rest, n, c => if n < 64 then tailScan rest (n + s) (c + 1) else (c, n)

/-- MIRROR byte_array_amd64.go:74-108 with `decodeByteArrayAVX2(dst, src, prefix[:k], suffix[:k])`
replaced by its contract (the first `k` values, `i` = bytes written): `j = len(src) - n`,
`lastValue = dst[i-(int(prefix[k-1])+int(suffix[k-1])):]`, then the scalar loop on the rest. -/
def amd64Vals (src ps ss : List Nat) : List (List Nat) :=
  let cn := tailScan ss.reverse 0 0
  let k := ss.length - cn.1
  if 64 < src.length ∧ 0 < k ∧ 64 ≤ cn.2 then
    let head := loopVals src [] 0 (ps.take k) (ss.take k)
    let out := head.flatten
    let lastV := out.drop (out.length - ((ps.take k).getLastD 0 + (ss.take k).getLastD 0))
    head ++ loopVals src lastV (src.length - cn.2) (ps.drop k) (ss.drop k)
  else loopVals src [] 0 ps ss

/-- MIRROR byte_array.go:124-146 `DecodeByteArray` on the assembly build: the two length streams through
`decodeInt32`, the count check, `validatePrefixAndSuffixLengthValues` (byte_array_amd64.go:12-48: the Go
fallback loop; the AVX2 validator is assumed to accept only what the loop accepts, it is known to accept
more on malformed streams — observation `maldba-accepts-prefix-longer-than-previous-value`), then the
wrapper `amd64Vals`. What runs through the L2 comparison `dba.godecamd64` on the asm build. -/
def goDecodeDBAamd64 (bs : List Nat) : Except GoErr (List (List Nat)) :=
  match goDecode 32 bs with
  | .error e => .error e
  | .ok (ps, src1) =>
    match goDecode 32 src1 with
    | .error e => .error e
    | .ok (ss, src2) =>
      if ps.length ≠ ss.length then .error .countMismatch
      else if ps.any (·.msb) then .error .negPrefix
      else if ss.any (·.msb) then .error .negLength
      else if ¬ validLens 0 (ps.map BitVec.toNat) (ss.map BitVec.toNat) then .error .prefixOOB
      else if src2.length < (ss.map BitVec.toNat).sum then .error .lengthOOB
      else .ok (amd64Vals src2 (ps.map BitVec.toNat) (ss.map BitVec.toNat))

theorem loopVals_append (src : List Nat) : ∀ (ps1 ss1 : List Nat) (lastV : List Nat) (j : Nat) (ps2 ss2 : List Nat),
    ps1.length = ss1.length →
    loopVals src lastV j (ps1 ++ ps2) (ss1 ++ ss2) =
      loopVals src lastV j ps1 ss1 ++
        loopVals src ((loopVals src lastV j ps1 ss1).getLastD lastV) (j + ss1.sum) ps2 ss2
  | [], [], lastV, j, ps2, ss2, _ => by simp [loopVals]
  | [], _ :: _, _, _, _, _, h => by simp at h
  | _ :: _, [], _, _, _, _, h => by simp at h
  | p :: ps1, n :: ss1, lastV, j, ps2, ss2, h => by
    have h' : ps1.length = ss1.length := by simpa using h
    simp only [List.cons_append, loopVals, List.sum_cons]
    rw [loopVals_append src ps1 ss1 _ (j + n) ps2 ss2 h']
    simp only [List.getLastD_cons, Nat.add_assoc]

/-- `p0 + n0`: the length of the value before the loop -/
theorem loopVals_last_length (src : List Nat) : ∀ (ps ss : List Nat) (lastV : List Nat) (j p0 n0 : Nat),
    ps.length = ss.length → lastV.length = p0 + n0 → validLens lastV.length ps ss → j + ss.sum ≤ src.length →
    ((loopVals src lastV j ps ss).getLastD lastV).length = ps.getLastD p0 + ss.getLastD n0
  | [], [], _, _, _, _, _, h0, _, _ => h0
  | [], _ :: _, _, _, _, _, h, _, _, _ => by simp at h
  | _ :: _, [], _, _, _, _, h, _, _, _ => by simp at h
  | p :: ps, n :: ss, lastV, j, _, _, h, _, hv, hs => by
    simp only [List.sum_cons] at hs
    have hvl : (lastV.take p ++ (src.drop j).take n).length = p + n := by
      simp only [List.length_append, List.length_take, List.length_drop]; have := hv.1; omega
    simp only [loopVals, List.getLastD_cons]
    exact loopVals_last_length src ps ss _ (j + n) p n (by simpa using h) hvl (by rw [hvl]; exact hv.2) (by omega)

theorem getLastD_indep : ∀ (l : List (List Nat)) (a b : List Nat), l ≠ [] → l.getLastD a = l.getLastD b
  | [], _, _, h => absurd rfl h
  | x :: t, a, b, _ => by simp only [List.getLastD_cons]

/-- the last value written is the tail of the destination: `dst[i-len(value):i]` -/
theorem flatten_drop_last : ∀ (h : List (List Nat)) (d : List Nat), h ≠ [] →
    h.flatten.drop (h.flatten.length - (h.getLastD d).length) = h.getLastD d
  | [], _, hne => absurd rfl hne
  | [v], d, _ => by simp
  | v :: w :: t, d, _ => by
    have ih := flatten_drop_last (w :: t) v (by simp)
    have hle : ((w :: t).getLastD v).length ≤ (w :: t).flatten.length := by
      have := congrArg List.length ih
      simp only [List.length_drop] at this
      omega
    rw [List.getLastD_cons, List.flatten_cons, List.length_append]
    have e : v.length + (w :: t).flatten.length - ((w :: t).getLastD v).length
        = v.length + ((w :: t).flatten.length - ((w :: t).getLastD v).length) := by omega
    rw [e, List.drop_length_add_append, ih]

theorem tailScan_spec : ∀ (l : List Nat) (n0 c0 : Nat),
    ∃ m, m ≤ l.length ∧ (tailScan l n0 c0).1 = c0 + m ∧ (tailScan l n0 c0).2 = n0 + (l.take m).sum
  | [], n0, c0 => ⟨0, by simp [tailScan]⟩
  | s :: rest, n0, c0 => by
    simp only [tailScan]
    split
    · obtain ⟨m, hm, h1, h2⟩ := tailScan_spec rest (n0 + s) (c0 + 1)
      refine ⟨m + 1, by simp only [List.length_cons]; omega, by rw [h1]; omega, ?_⟩
      rw [h2, List.take_succ_cons, List.sum_cons]; omega
    · exact ⟨0, by simp⟩

theorem sum_take_add_drop : ∀ (l : List Nat) (k : Nat), (l.take k).sum + (l.drop k).sum = l.sum
  | l, k => by
    conv => rhs; rw [← List.take_append_drop k l]
    rw [List.sum_append]

theorem validLens_take : ∀ (ps ss : List Nat) (last k : Nat), validLens last ps ss →
    validLens last (ps.take k) (ss.take k)
  | _, _, _, 0, _ => by simp [validLens]
  | [], _, _, _ + 1, _ => by simp [validLens]
  | _ :: _, [], _, _ + 1, _ => by simp [validLens]
  | p :: ps, n :: ss, _, k + 1, h => ⟨h.1, validLens_take ps ss (p + n) k h.2⟩

/-- the split scan read from the front: `k` values for the kernel, `n` suffix bytes for the others -/
theorem tailScan_rev (ss : List Nat) : ∃ k, k ≤ ss.length ∧
    ss.length - (tailScan ss.reverse 0 0).1 = k ∧ (tailScan ss.reverse 0 0).2 = (ss.drop k).sum := by
  obtain ⟨m, hm, h1, h2⟩ := tailScan_spec ss.reverse 0 0
  simp only [Nat.zero_add, List.length_reverse] at hm h1 h2
  exact ⟨ss.length - m, by omega, by rw [h1], by rw [h2, List.take_reverse, List.sum_reverse]⟩

/-- the state the portable loop has after `k ≥ 1` values is the one both wrappers rebuild: read position `len(src)` minus the
suffix bytes still to come, previous value = the last `prefix[k-1] + suffix[k-1]` bytes written -/
theorem loopVals_split (src ps ss : List Nat) (hl : ps.length = ss.length) (hv : validLens 0 ps ss)
    (hs : ss.sum = src.length) (k : Nat) (hk0 : 0 < k) (hk : k ≤ ss.length) :
    let head := loopVals src [] 0 (ps.take k) (ss.take k)
    let len := (ps.take k).getLastD 0 + (ss.take k).getLastD 0
    head ++ loopVals src (head.getLastD []) (src.length - (ss.drop k).sum) (ps.drop k) (ss.drop k)
        = loopVals src [] 0 ps ss ∧
      len ≤ head.flatten.length ∧ head.flatten.drop (head.flatten.length - len) = head.getLastD [] := by
  intro head len
  have hlt : (ps.take k).length = (ss.take k).length := by
    simp only [List.length_take]; omega
  have hne : ps.take k ≠ [] := by rw [Ne, List.take_eq_nil_iff, ← List.length_eq_zero_iff]; omega
  have hv1 := validLens_take ps ss 0 k hv
  have hsum := sum_take_add_drop ss k
  have hlast : (head.getLastD []).length = len :=
    loopVals_last_length src (ps.take k) (ss.take k) [] 0 0 0 hlt rfl hv1 (by omega)
  have hhead : head ≠ [] := by
    intro h0
    cases hpk : ps.take k with
    | nil => exact hne hpk
    | cons p t =>
      cases hsk : ss.take k with
      | nil => rw [hpk, hsk] at hlt; simp at hlt
      | cons n t2 => simp [head, hpk, hsk, loopVals] at h0
  have hdrop := flatten_drop_last head [] hhead
  rw [hlast] at hdrop
  refine ⟨?_, ?_, hdrop⟩
  · have hj : src.length - (ss.drop k).sum = 0 + (ss.take k).sum := by omega
    rw [hj, ← loopVals_append src _ _ [] 0 _ _ hlt, List.take_append_drop, List.take_append_drop]
  · have := congrArg List.length hdrop
    rw [List.length_drop, hlast] at this
    omega

theorem amd64Vals_eq (src ps ss : List Nat) (hl : ps.length = ss.length) (hv : validLens 0 ps ss)
    (hs : ss.sum = src.length) : amd64Vals src ps ss = loopVals src [] 0 ps ss := by
  obtain ⟨k, hk, h1, h2⟩ := tailScan_rev ss
  simp only [amd64Vals, h1, h2]
  split
  · rename_i hc
    obtain ⟨hsplit, _, hlast⟩ := loopVals_split src ps ss hl hv hs k hc.2.1 hk
    rw [hlast, hsplit]
  · rfl

/-- a successful portable join returns `loopVals` and certifies every test of the amd64 validator -/
theorem goJoin_loopVals (src : List Nat) (ps ss : List (BitVec 32)) (lastV : List Nat) (j : Nat)
    (vs : List (List Nat)) (hl : ps.length = ss.length) (h : goJoin lastV ps ss (src.drop j) = .ok vs) :
    vs = loopVals src lastV j (ps.map BitVec.toNat) (ss.map BitVec.toNat) ∧
      validLens lastV.length (ps.map BitVec.toNat) (ss.map BitVec.toNat) ∧
      ps.any (·.msb) = false ∧ ss.any (·.msb) = false ∧ (ss.map BitVec.toNat).sum ≤ src.length - j := by
  -- cases of `goJoin`: its four errors (1-4), the rest fails (5), the rest succeeds (6), the lists end (7)
  generalize hr : src.drop j = rest at h
  fun_induction goJoin lastV ps ss rest generalizing j vs with
  | case1 => cases h
  | case2 => cases h
  | case3 => cases h
  | case4 => cases h
  | case5 => cases h
  | case6 lastV p ps s ss rest hs hlen hp hpl vs' hrec ih =>
    cases h
    subst hr
    obtain ⟨ih1, ih2, ih3, ih4, ih5⟩ := ih (j + s.toNat) vs' (by simpa using hl) (by rw [List.drop_drop]) hrec
    have hvl : (lastV.take p.toNat ++ (src.drop j).take s.toNat).length = p.toNat + s.toNat := by
      simp only [List.length_append, List.length_take]; omega
    rw [hvl] at ih2
    simp only [Bool.not_eq_true] at hs hp
    simp only [List.length_drop] at hlen
    refine ⟨?_, ⟨by omega, ih2⟩, by simp [hp, ih3], by simp [hs, ih4], ?_⟩
    · rw [ih1]; simp only [List.map_cons, loopVals]
    · simp only [List.map_cons, List.sum_cons]; omega
  | case7 ps lastV ss rest hne =>
    cases h
    cases ps with
    | nil => cases ss with
      | nil => simp [loopVals, validLens]
      | cons => simp at hl
    | cons p ps => cases ss with
      | nil => simp at hl
      | cons s ss => exact absurd rfl (hne p ps s ss rfl)

theorem amd64Vals_of_goJoin (src : List Nat) (ps ss : List (BitVec 32)) (vs : List (List Nat))
    (hl : ps.length = ss.length) (h : goJoin [] ps ss src = .ok vs)
    (hend : (ss.map BitVec.toNat).sum = src.length) :
    amd64Vals src (ps.map BitVec.toNat) (ss.map BitVec.toNat) = vs := by
  obtain ⟨h1, h2, _⟩ := goJoin_loopVals src ps ss [] 0 vs hl (by simpa using h)
  rw [amd64Vals_eq src _ _ (by simp [hl]) (by simpa using h2) hend, h1]

theorem amd64_checks_pass (bs : List Nat) (ps ss : List (BitVec 32)) (src1 src2 : List Nat)
    (vs : List (List Nat)) (h1 : goDecode 32 bs = .ok (ps, src1)) (h2 : goDecode 32 src1 = .ok (ss, src2))
    (h : goDecodeDBA bs = .ok vs) :
    ¬ ps.length ≠ ss.length ∧ goJoin [] ps ss src2 = .ok vs ∧ ps.any (·.msb) = false ∧ ss.any (·.msb) = false ∧
      validLens 0 (ps.map BitVec.toNat) (ss.map BitVec.toNat) ∧ ¬ src2.length < (ss.map BitVec.toNat).sum := by
  simp only [goDecodeDBA, h1, h2] at h
  split at h
  · cases h
  · next hc =>
    obtain ⟨_, hv, n1, n2, n3⟩ := goJoin_loopVals src2 ps ss [] 0 vs (by omega) (by simpa using h)
    exact ⟨hc, h, n1, n2, by simpa using hv, by omega⟩

theorem goDecodeDBAamd64_eq (bs : List Nat) (ps ss : List (BitVec 32)) (src1 src2 : List Nat) (vs : List (List Nat))
    (h1 : goDecode 32 bs = .ok (ps, src1)) (h2 : goDecode 32 src1 = .ok (ss, src2))
    (h : goDecodeDBA bs = .ok vs) (hend : (ss.map BitVec.toNat).sum = src2.length) :
    goDecodeDBAamd64 bs = .ok vs := by
  obtain ⟨hc, hj, n1, n2, hv, hnl⟩ := amd64_checks_pass bs ps ss src1 src2 vs h1 h2 h
  simp only [goDecodeDBAamd64, h1, h2, hc, if_false, n1, n2, Bool.false_eq_true, hv, not_true_eq_false, hnl]
  rw [amd64Vals_of_goJoin src2 ps ss vs (by omega) hj hend]

/-- every value has `size` bytes: `prefix[i] + suffix[i] = size` (what a FIXED_LEN_BYTE_ARRAY(size)
column holds; `DecodeFixedLenByteArray` itself does not check it) -/
def allSize (size : Nat) : List Nat → List Nat → Prop
  | p :: ps, n :: ss => p + n = size ∧ allSize size ps ss
  | _, _ => True

instance allSize.dec (size : Nat) : ∀ (ps ss : List Nat), Decidable (allSize size ps ss)
  | p :: ps, n :: ss => by
    unfold allSize
    exact @instDecidableAnd _ _ _ (allSize.dec size ps ss)
  | [], _ => by unfold allSize; infer_instance
  | _ :: _, [] => by unfold allSize; infer_instance

/-- MIRROR byte_array_amd64.go:113-164 `decodeFixedLenByteArray` with the kernel
(`decodeByteArrayAVX2x128bits` for `size == 16`, `decodeByteArrayAVX2` otherwise) replaced by its
contract (the first `k` values, `i` = bytes written): same split scan as `decodeByteArray`,
`j = len(src) - n`, but the previous value is reconstructed from the column's value size,
`if i >= size { lastValue = dst[i-size:] }` (otherwise it stays nil), then the scalar loop. -/
def amd64FlbaVals (size : Nat) (src ps ss : List Nat) : List (List Nat) :=
  let cn := tailScan ss.reverse 0 0
  let k := ss.length - cn.1
  if 64 < src.length ∧ 0 < k ∧ 64 ≤ cn.2 then
    let head := loopVals src [] 0 (ps.take k) (ss.take k)
    let out := head.flatten
    let lastV := if size ≤ out.length then out.drop (out.length - size) else []
    head ++ loopVals src lastV (src.length - cn.2) (ps.drop k) (ss.drop k)
  else loopVals src [] 0 ps ss

/-- MIRROR byte_array.go:148-174 `DecodeFixedLenByteArray` on the assembly build (the size argument is
within `MaxFixedLenByteArraySize`): as `goDecodeDBAamd64` with the FLBA wrapper. -/
def goDecodeFLBAamd64 (size : Nat) (bs : List Nat) : Except GoErr (List (List Nat)) :=
  match goDecode 32 bs with
  | .error e => .error e
  | .ok (ps, src1) =>
    match goDecode 32 src1 with
    | .error e => .error e
    | .ok (ss, src2) =>
      if ps.length ≠ ss.length then .error .countMismatch
      else if ps.any (·.msb) then .error .negPrefix
      else if ss.any (·.msb) then .error .negLength
      else if ¬ validLens 0 (ps.map BitVec.toNat) (ss.map BitVec.toNat) then .error .prefixOOB
      else if src2.length < (ss.map BitVec.toNat).sum then .error .lengthOOB
      else .ok (amd64FlbaVals size src2 (ps.map BitVec.toNat) (ss.map BitVec.toNat))

theorem allSize_take (size : Nat) : ∀ (ps ss : List Nat) (k : Nat), allSize size ps ss →
    allSize size (ps.take k) (ss.take k)
  | _, _, 0, _ => by simp [allSize]
  | [], _, _ + 1, _ => by simp [allSize]
  | _ :: _, [], _ + 1, _ => by simp [allSize]
  | p :: ps, n :: ss, k + 1, h => by
    simp only [List.take_succ_cons, allSize] at h ⊢
    exact ⟨h.1, allSize_take size ps ss k h.2⟩

theorem allSize_last (size : Nat) : ∀ (ps ss : List Nat), ps.length = ss.length → ps ≠ [] →
    allSize size ps ss → ps.getLastD 0 + ss.getLastD 0 = size
  | [], _, _, hne, _ => absurd rfl hne
  | _ :: _, [], h, _, _ => by simp at h
  | [p], [n], _, _, h => by simpa [allSize] using h
  | [_], _ :: _ :: _, h, _, _ => by simp at h
  | _ :: _ :: _, [_], h, _, _ => by simp at h
  | p :: p2 :: ps, n :: n2 :: ss, h, _, hs => by
    have ih := allSize_last size (p2 :: ps) (n2 :: ss) (by simpa using h) (by simp) hs.2
    simpa [List.getLastD_cons] using ih

theorem amd64FlbaVals_eq (size : Nat) (src ps ss : List Nat) (hl : ps.length = ss.length)
    (hv : validLens 0 ps ss) (hsz : allSize size ps ss) (hs : ss.sum = src.length) :
    amd64FlbaVals size src ps ss = loopVals src [] 0 ps ss := by
  obtain ⟨k, hk, h1, h2⟩ := tailScan_rev ss
  simp only [amd64FlbaVals, h1, h2]
  split
  · rename_i hc
    obtain ⟨hsplit, hle, hlast⟩ := loopVals_split src ps ss hl hv hs k hc.2.1 hk
    rw [allSize_last size _ _ (by simp only [List.length_take]; omega)
      (by rw [Ne, List.take_eq_nil_iff, ← List.length_eq_zero_iff]; omega)
      (allSize_take size ps ss k hsz)] at hle hlast
    rw [if_pos hle, hlast, hsplit]
  · rfl

theorem amd64FlbaVals_of_goJoin (size : Nat) (src : List Nat) (ps ss : List (BitVec 32)) (vs : List (List Nat))
    (hl : ps.length = ss.length) (h : goJoin [] ps ss src = .ok vs)
    (hsz : allSize size (ps.map BitVec.toNat) (ss.map BitVec.toNat))
    (hend : (ss.map BitVec.toNat).sum = src.length) :
    amd64FlbaVals size src (ps.map BitVec.toNat) (ss.map BitVec.toNat) = vs := by
  obtain ⟨h1, h2, _⟩ := goJoin_loopVals src ps ss [] 0 vs hl (by simpa using h)
  rw [amd64FlbaVals_eq size src _ _ (by simp [hl]) (by simpa using h2) hsz hend, h1]

theorem goDecodeFLBAamd64_eq (size : Nat) (bs : List Nat) (ps ss : List (BitVec 32)) (src1 src2 : List Nat)
    (vs : List (List Nat))
    (h1 : goDecode 32 bs = .ok (ps, src1)) (h2 : goDecode 32 src1 = .ok (ss, src2))
    (h : goDecodeDBA bs = .ok vs) (hsz : allSize size (ps.map BitVec.toNat) (ss.map BitVec.toNat))
    (hend : (ss.map BitVec.toNat).sum = src2.length) :
    goDecodeFLBAamd64 size bs = .ok vs := by
  obtain ⟨hc, hj, n1, n2, hv, hnl⟩ := amd64_checks_pass bs ps ss src1 src2 vs h1 h2 h
  simp only [goDecodeFLBAamd64, h1, h2, hc, if_false, n1, n2, Bool.false_eq_true, hv, not_true_eq_false, hnl]
  rw [amd64FlbaVals_of_goJoin size src2 ps ss vs (by omega) hj hsz hend]

end PqModel.Delta
