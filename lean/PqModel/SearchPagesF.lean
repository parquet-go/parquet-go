import PqModel.SearchPages
import PqModel.SearchNaN

/-! # C06 on the VALUES of FLOAT / DOUBLE pages

The float counterpart of `SearchPages.lean`: pages hold bit patterns, some of them NaN. `Page.Bounds` of the float
pages skips NaN values and reports a NaN pair for a page of NaN values only (`Stats.boundsNaN`, MIRROR of
page_float.go:61-90), the indexer records the bounds as they come (a NaN bound stays NaN: `FB.nan`) and claims no
boundary order when a bound is NaN (`writerOrderF`). `Find` is `findF` (`SearchNaN.lean`).

MIRROR: `pageBoundF`, `indexOfPagesF`. SPEC: `BoundsForF` (`SearchPages.lean`: what `Find` needs from the float
`Page.Bounds`), `fbOf`.
The statement is about the values that take part in the order: a NaN probe compares equal to everything and is
not a value a page "contains" in the sense of the property. -/
namespace PqModel.Search
open PqModel.Stats

/-- SPEC. The bound the column index shows for a recorded value: NaN, or its rank in the column order -/
def fbOf {α} (key : α → Int) (nan : α → Bool) (x : α) : FB := if nan x then .nan else .val (key x)

/-- MIRROR. The two column-index entries of one float page (null bounds for a page without a non-null value). -/
def pageBoundF {α} (bnd : List α → Option (α × α)) (key : α → Int) (nan : α → Bool) (page : List (Option α)) : FB × FB :=
  match bnd (page.filterMap id) with
  | none => (.null, .null)
  | some (mn, mx) => (fbOf key nan mn, fbOf key nan mx)

/-- MIRROR. The column index of a float chunk whose pages hold these values (`none` = null value). -/
def indexOfPagesF {α} (bnd : List α → Option (α × α)) (key : α → Int) (nan : α → Bool)
    (pages : List (List (Option α))) : FIndex :=
  { mins := pages.map (fun p => (pageBoundF bnd key nan p).1), maxs := pages.map (fun p => (pageBoundF bnd key nan p).2) }

theorem all_of_dropWhile_nil {α} (p : α → Bool) : ∀ xs : List α, xs.dropWhile p = [] → ∀ v ∈ xs, p v = true :=
  dropWhile_nil_all p

/-- FLOAT (`e = 8, m = 23`) / DOUBLE (`e = 11, m = 52`): the bounds mirror in Go's `<` on floats -/
def floatBounds (e m : Nat) : List (BitVec (1 + e + m)) → Option (BitVec (1 + e + m) × BitVec (1 + e + m)) :=
  boundsNaN (float e m)

theorem floatBounds_sound (e m : Nat) : BoundsForF (floatBounds e m) (fKey e m) (fIsNaN e m) :=
  boundsNaN_sound (fKey e m) (fIsNaN e m)

theorem indexOfPagesF_n {α} (bnd : List α → Option (α × α)) (key : α → Int) (nan : α → Bool)
    (pages : List (List (Option α))) : (indexOfPagesF bnd key nan pages).n = pages.length := by
  simp [indexOfPagesF, FIndex.n]

theorem minAtF_indexOfPagesF {α} (bnd : List α → Option (α × α)) (key : α → Int) (nan : α → Bool)
    (pages : List (List (Option α))) (i : Nat) (hi : i < pages.length) :
    minAtF (indexOfPagesF bnd key nan pages) i = (pageBoundF bnd key nan (pages.getD i [])).1 := by
  simp only [minAtF, indexOfPagesF]
  exact getD_map_nil (fun p => (pageBoundF bnd key nan p).1) .null pages i hi

theorem maxAtF_indexOfPagesF {α} (bnd : List α → Option (α × α)) (key : α → Int) (nan : α → Bool)
    (pages : List (List (Option α))) (i : Nat) (hi : i < pages.length) :
    maxAtF (indexOfPagesF bnd key nan pages) i = (pageBoundF bnd key nan (pages.getD i [])).2 := by
  simp only [maxAtF, indexOfPagesF]
  exact getD_map_nil (fun p => (pageBoundF bnd key nan p).2) .null pages i hi

theorem ltF_val_fbOf {α} (nf : Bool) (key : α → Int) (nan : α → Bool) (v : Int) (b : α) (h : nan b = false → key b ≤ v) :
    ltF nf (.val v) (fbOf key nan b) = false := by
  unfold fbOf
  cases hb : nan b with
  | true => rfl
  | false => exact decide_eq_false (Int.not_lt.mpr (h hb))

theorem ltF_fbOf_val {α} (nf : Bool) (key : α → Int) (nan : α → Bool) (v : Int) (b : α) (h : nan b = false → v ≤ key b) :
    ltF nf (fbOf key nan b) (.val v) = false := by
  unfold fbOf
  cases hb : nan b with
  | true => rfl
  | false => exact decide_eq_false (Int.not_lt.mpr (h hb))

theorem containsF_of_mem {α} (nf : Bool) {bnd : List α → Option (α × α)} {key : α → Int} {nan : α → Bool}
    (hb : BoundsForF bnd key nan) (pages : List (List (Option α))) (p : Nat) (hp : p < pages.length) (x : α)
    (hx : some x ∈ pages.getD p []) (hxn : nan x = false) :
    containsF nf (indexOfPagesF bnd key nan pages) p (key x) = true := by
  have hmem := mem_filterMap_id hx
  have hne := List.ne_nil_of_mem hmem
  obtain ⟨mn, mx, hbnd⟩ := hb.some_of_ne _ hne
  have h1 := ltF_val_fbOf nf key nan (key x) mn (fun hmn => hb.lower _ mn mx hbnd hmn x hmem hxn)
  have h2 := ltF_fbOf_val nf key nan (key x) mx (fun hmx => hb.upper _ mn mx hbnd hmx x hmem hxn)
  simp only [containsF, minAtF_indexOfPagesF bnd key nan pages p hp, maxAtF_indexOfPagesF bnd key nan pages p hp,
    pageBoundF, hbnd, h1, h2, Bool.not_false, Bool.and_self]

theorem fbOf_val {α} {key : α → Int} {nan : α → Bool} {b : α} {a : Int} (h : fbOf key nan b = .val a) :
    nan b = false ∧ key b = a := by
  unfold fbOf at h
  cases hb : nan b with
  | true => rw [hb] at h; cases h
  | false => rw [hb] at h; exact ⟨rfl, FB.val.inj h⟩

theorem indexOfPagesF_le {α} {bnd : List α → Option (α × α)} {key : α → Int} {nan : α → Bool}
    (hb : BoundsForF bnd key nan) (pages : List (List (Option α))) :
    ∀ i a b, i < (indexOfPagesF bnd key nan pages).n → minAtF (indexOfPagesF bnd key nan pages) i = .val a →
      maxAtF (indexOfPagesF bnd key nan pages) i = .val b → a ≤ b := by
  intro i a b hi ha hb'
  rw [indexOfPagesF_n] at hi
  rw [minAtF_indexOfPagesF bnd key nan pages i hi] at ha
  rw [maxAtF_indexOfPagesF bnd key nan pages i hi] at hb'
  unfold pageBoundF at ha hb'
  cases hbnd : bnd ((pages.getD i []).filterMap id) with
  | none => rw [hbnd] at ha; exact absurd ha (by simp)
  | some pr =>
    obtain ⟨mn, mx⟩ := pr
    rw [hbnd] at ha hb'
    obtain ⟨hmn, hka⟩ := fbOf_val ha
    obtain ⟨hmx, hkb⟩ := fbOf_val hb'
    have hm := hb.mem _ mn mx hbnd
    have := hb.upper _ mn mx hbnd hmx mn hm.1 hmn
    omega

/-- C06 ON VALUES, FLOAT / DOUBLE. Pages of float values with NaN among them, all-NaN pages, all-null pages: for a
    non-NaN value `x` held by page `p`, `Find` on the index the float indexer builds (no order claimed when a bound
    is NaN) returns a page `r ≤ p` whose recorded bounds contain `x`. -/
theorem find_no_miss_float_values {α} (nf : Bool) (z : Int) {bnd : List α → Option (α × α)} {key : α → Int}
    {nan : α → Bool} (hb : BoundsForF bnd key nan) (pages : List (List (Option α))) (p : Nat) (hp : p < pages.length)
    (x : α) (hx : some x ∈ pages.getD p []) (hxn : nan x = false) :
    let ix := indexOfPagesF bnd key nan pages
    let r := findF nf (writerOrderF z ix == 1) ix (key x)
    r ≤ p ∧ r < ix.n ∧ containsF nf ix r (key x) = true := by
  intro ix r
  have hn : ix.n = pages.length := indexOfPagesF_n bnd key nan pages
  have hlen : ix.maxs.length = ix.mins.length := by simp [ix, indexOfPagesF]
  exact (findF_first_writer nf z ix (key x) hlen (indexOfPagesF_le hb pages)).of_hit (hn ▸ hp)
    (containsF_of_mem nf hb pages p hp x hx hxn)

end PqModel.Search
