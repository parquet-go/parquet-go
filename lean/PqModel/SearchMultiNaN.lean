import PqModel.SearchMultiIndex
import PqModel.SearchNaN

/-! # `Find` on the multi index of FLOAT / DOUBLE members with NaN bounds

The float model of `SearchNaN.lean` (`FB` = null | NaN | rank) lifted to several members. The seam loop of
`multiColumnIndex.IsAscending` is NOT mirrored over NaN bounds here: the theorem takes the answer `flag` of
`IsAscending()` as a parameter and needs two facts about it that the code gives (multi_row_group.go:407-411: false as
soon as one member does not claim ASCENDING; without any NaN bound the float comparison is the rank comparison, so the
answer is `multiIsAscending` on the ranks). MIRROR: `findViewF` (search.go `Find`); SPEC: `concatF`. -/
namespace PqModel.Search

/-- `Chunk` of `SearchMulti.lean` over float bounds; it is well formed when its ranks are (`c.ranks.WF`: the
    condition is about lengths only) -/
structure FChunk where
  nulls : List Bool
  ix : FIndex
  asc : Bool
  desc : Bool

def FChunk.ranks (c : FChunk) : Chunk := { nulls := c.nulls, ix := c.ix.ranks, asc := c.asc, desc := c.desc }

def concatF (cs : List FChunk) : FIndex :=
  { mins := cs.flatMap (fun c => c.ix.mins), maxs := cs.flatMap (fun c => c.ix.maxs) }

def concatNullsF (cs : List FChunk) : List Bool := cs.flatMap (fun c => c.nulls)

/-- search.go:31-50 `Find` on a float index view: `flag` = `IsAscending()`, the guard reads `NullPage(i)` -/
def findViewF (nf flag : Bool) (nulls : List Bool) (ix : FIndex) (v : Int) : Nat :=
  if flag && !nulls.any id then binarySearchF nf ix v else linearSearchF nf ix v

/-- `toF` undoes `ofF` member by member (`toF_ofF_of_not_nan`) and `map` goes through `flatMap` -/
theorem concatF_toF (cs : List FChunk) (h : ∀ c ∈ cs, hasNaN c.ix = false) :
    (concat (cs.map FChunk.ranks)).toF = concatF cs ∧ concatNulls (cs.map FChunk.ranks) = concatNullsF cs := by
  have hn : ∀ c ∈ cs, c.ix.mins.any (· == FB.nan) = false ∧ c.ix.maxs.any (· == FB.nan) = false :=
    fun c hc => Bool.or_eq_false_iff.mp (h c hc)
  have hm : ((cs.map FChunk.ranks).flatMap fun c => c.ix.mins).map toF = cs.flatMap fun c => c.ix.mins := by
    rw [List.map_flatMap, List.flatMap_map, List.flatMap_def, List.flatMap_def]
    exact congrArg List.flatten (List.map_congr_left fun c hc => toF_ofF_of_not_nan _ (hn c hc).1)
  have hx : ((cs.map FChunk.ranks).flatMap fun c => c.ix.maxs).map toF = cs.flatMap fun c => c.ix.maxs := by
    rw [List.map_flatMap, List.flatMap_map, List.flatMap_def, List.flatMap_def]
    exact congrArg List.flatten (List.map_congr_left fun c hc => toF_ofF_of_not_nan _ (hn c hc).2)
  exact ⟨by rw [concat, Index.toF, hm, hx]; rfl, List.flatMap_map ..⟩

theorem hasNull_ranks (ix : FIndex) (h : hasNaN ix = false) : hasNull ix.ranks = hasNullF ix := by
  rw [← hasNullF_toF, ranks_toF ix h]

theorem findViewF_toF (nf flag : Bool) (nulls : List Bool) (ix : Index) (v : Int) :
    findViewF nf flag nulls ix.toF v = findView nf flag nulls ix v := by
  simp only [findViewF, findView, binarySearchF_toF, linearSearchF, linearSearch, lloopF_toF, toF_n]

theorem findMultiF_no_miss (nf : Bool) (z : Int) (cs : List FChunk) (flag : Bool) (v : Int)
    (hwf : ∀ c ∈ cs, c.ranks.WF)
    (hbnd : ∀ c ∈ cs, c.nulls.any id = false → hasNullF c.ix = false)
    (hflagw : ∀ c ∈ cs, c.asc = (writerOrderF z c.ix == 1))
    (hle : ∀ c ∈ cs, ∀ i a b, i < c.ix.n → minAtF c.ix i = .val a → maxAtF c.ix i = .val b → a ≤ b)
    (hall : flag = true → ∀ c ∈ cs, c.asc = true)
    (hseam : (∀ c ∈ cs, hasNaN c.ix = false) → flag = multiIsAscending z (cs.map FChunk.ranks)) :
    let r := findViewF nf flag (concatNullsF cs) (concatF cs) v
    r ≤ (concatF cs).n ∧ (r < (concatF cs).n → containsF nf (concatF cs) r v = true) ∧
    (∀ p, p < (concatF cs).n → containsF nf (concatF cs) p v = true → r ≤ p) := by
  by_cases hn : ∀ c ∈ cs, hasNaN c.ix = false
  · -- no NaN bound anywhere: this is `Find` on the multi index of the ranks
    have hr := findMulti_first nf z (cs.map FChunk.ranks) v (List.forall_mem_map.mpr hwf)
      (List.forall_mem_map.mpr fun c hc hnn => (hasNull_ranks c.ix (hn c hc)).trans (hbnd c hc hnn))
      (List.forall_mem_map.mpr fun c hc ha => by
        have hw : writerOrder2 z z c.ix.ranks = 1 := by
          rw [← writerOrderF_of_no_nan z c.ix (hn c hc)]
          exact beq_iff_eq.mp ((hflagw c hc).symm.trans ha)
        exact ⟨(writerOrder2_one z z _ hw).1, (writerOrder2_one z z _ hw).2.1⟩)
      (List.forall_mem_map.mpr fun c hc => le_ranks c.ix (hn c hc) (hle c hc))
    obtain ⟨e1, e2⟩ := concatF_toF cs hn
    rw [findMulti, ← hseam hn, ← findViewF_toF, ← toF_n, e2] at hr
    simp only [← containsF_toF, e1] at hr
    exact hr
  · -- a NaN bound: that member claims no order, so neither does the multi index, and `Find` goes linear
    have hflag : flag = false := by
      cases hf : flag with
      | false => rfl
      | true =>
        refine absurd (fun c hc => ?_) hn
        have ha := hall hf c hc
        rw [hflagw c hc] at ha
        cases hnan : hasNaN c.ix with
        | false => rfl
        | true => rw [writerOrderF, hnan, if_pos rfl] at ha; exact absurd ha (by decide)
    rw [hflag]
    exact linearSearchF_first nf (concatF cs) v

end PqModel.Search
