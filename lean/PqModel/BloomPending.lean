import PqModel.BloomSegments

/-! # Rows pending in the writer when `WriteRowGroup` is called (C07)

`(*Writer).WriteRowGroup` (writer.go:549-602, the paths that do not copy verbatim) does, for every
column with a filter, in this order:

1. `w.writer.flush()` (writer.go:1284 → `writeRowGroup`, 1524): the rows left pending by earlier
   `Write`/`WriteRows`/`CopyRows` calls become a row group of their own. Their EARLY data pages were
   already written to the page buffer while `len(c.filter) == 0` (`writeDataPage` inserts a page only
   into an allocated filter); `c.Flush()` writes the LAST, still buffered page(s); then
   `flushFilterPages` (2194-2367) looks at the ACTUAL state of `c.filter`: allocated ⇒ "pages have been
   written to it as they were seen", nothing to do; not allocated ⇒ size it from `NumValues` and
   re-read every page of the page buffer. `ColumnWriter.reset` (2117) truncates the filter.
2. `configureBloomFilters` (906-936): `resizeBloomFilter(n)` for the INCOMING row group.
3. the incoming pages, inserted as they are written; `writeRowGroup` again.

The filter is a fold over events (`FEv`, BloomSegments.lean); `flushFilterOn` is `flushFilterPages` on
the state that fold left (not on an assumed `presized`, as `flushFilter` of BloomWriter.lean).
MIRROR throughout; the `hoisted` flag is the seeded slip C07-7a (step 2 moved before step 1).

Not modelled: the verbatim copy path (filters carried over: `copied_filter_same_bytes`, Props/C07Writer.lean), `writeSegmentsPacked`
(BloomSegments), where the column buffer cuts pages (any `early`/`last` lists are allowed). -/
namespace PqModel.BloomPending
open PqModel.XxHash PqModel.Bloom PqModel.BloomWriter PqModel.BloomSegments

/-- MIRROR `flushFilterPages`, writer.go:2194-2367, on the actual filter state `b` = (`len(c.filter)`,
    hashes inserted so far) instead of `c.presized`: the branches test `len(c.filter) > 0`. -/
def flushFilterOn (c : ChunkWrite) (b : Built) : Built :=
  match c.dictionary with
  | some d =>
    if !c.switched then (filterSize c.bits d.length, pageHashes c.kind d)
    else if b.1 > 0 then (b.1, b.2 ++ pageHashes c.kind d)
    else if c.pages.isEmpty then (0, [])
    else (filterSize c.bits c.numValues, pageHashes c.kind d ++ reread c true)
  | none =>
    if b.1 > 0 then b
    else if c.pages.isEmpty then (0, [])
    else (filterSize c.bits c.numValues, reread c false)

/-- one column of the row group pending in the writer when `WriteRowGroup` is called -/
structure Pending where
  /-- data pages already written by the earlier `Write` calls (filter not allocated at the time) -/
  early : List WPage
  /-- page(s) still in the column buffer, written by `c.Flush()` inside `w.writer.flush()` -/
  last : List WPage
  dictionary : Option (List Value)
  switched : Bool
  /-- `c.columnChunk.MetaData.NumValues` of the pending chunk -/
  numValues : Nat

def Pending.pages (p : Pending) : List WPage := p.early ++ p.last

/-- the pending chunk as `flushFilterPages` should see it: never pre-sized -/
def Pending.chunk (kind : Kind) (bits : Nat) (p : Pending) : ChunkWrite :=
  { kind := kind, bits := bits, pages := p.pages, dictionary := p.dictionary, switched := p.switched,
    presized := 0, numValues := p.numValues }

/-- events on `c.filter` until the pending row group's `flushFilterPages`. `hoisted = some n`: the SLIP
    C07-7a, `configureBloomFilters` (for the incoming group of `n` values) called before
    `w.writer.flush()`, i.e. after the early pages and before the last one. -/
def pendingEvents (p : Pending) (hoisted : Option Nat) : List FEv :=
  p.early.map FEv.page ++ ((match hoisted with | some n => [FEv.resize n] | none => []) ++ p.last.map FEv.page)

/-- the filter of the implicitly flushed row group (size, hashes), starting from the truncated filter of
    a reset column writer -/
def pendingFilter (kind : Kind) (bits : Nat) (p : Pending) (hoisted : Option Nat) : Built :=
  flushFilterOn (p.chunk kind bits) (frun kind bits (0, []) (pendingEvents p hoisted))

/-- the incoming row group of the same `WriteRowGroup` call (generic / re-encode path), `n` = the value
    count `configureBloomFilters` takes from the source chunk (`none` = left unallocated, see `presize`):
    after `reset` the filter is empty again; as the code is, it is sized first and filled page by page;
    with the slip the size given before the flush was truncated by `reset`, so this group falls back to
    re-reading. -/
def incomingEvents (c : ChunkWrite) (n : Option Nat) (hoisted : Bool) : List FEv :=
  (if hoisted then [] else match n with | some k => [FEv.resize k] | none => []) ++ c.pages.map FEv.page

def incomingFilter (c : ChunkWrite) (n : Option Nat) (hoisted : Bool) : Built :=
  flushFilterOn c (frun c.kind c.bits (0, []) (incomingEvents c n hoisted))

end PqModel.BloomPending
