import PqModel.Spec.InflateFixed

/-! Evaluation evidence (kernel `decide`) for `PqModel/Spec/Inflate.lean`: what is TESTED, not
proved, about the Huffman / LZ77 paths of the spec inflate — dynamic-table headers and whole
streams —, and the examples of RFC 1951 for the code assignment `rfcCode` (that the canonical walk
agrees with it, `walkAgrees`, is proved for every table in `InflateFixed.lean`). -/
namespace PqModel.Spec.Inflate

/-- the example of §3.2.2: lengths (3,3,3,3,3,2,4,4) give 010 011 100 101 110 00 1110 1111 -/
example : (List.range 8).map (rfcCode [3, 3, 3, 3, 3, 2, 4, 4]) = [2, 3, 4, 5, 6, 0, 14, 15] := by decide
example : walkAgrees [3, 3, 3, 3, 3, 2, 4, 4] = true := by decide +kernel
/-- the table of §3.2.6: 0 ↦ 00110000, 144 ↦ 110010000, 256 ↦ 0000000, 280 ↦ 11000000 -/
example : [0, 143, 144, 255, 256, 279, 280, 287].map (rfcCode fixedLitLens) =
    [0b00110000, 0b10111111, 0b110010000, 0b111111111, 0, 0b0010111, 0b11000000, 0b11000111] := by
  decide +kernel
/-- an incomplete code (one distance code of one bit, §3.2.7) and an over-subscribed one -/
example : walkAgrees [0, 1] = true := by decide +kernel
example : mkHuff [1, 1, 1] = .error .oversubscribed := by decide +kernel

/- streams written by Go's standard library (compress/flate, compress/gzip), not by the codec
   under test: a fixed-Huffman block with matches, one of them overlapping (distance 1, length
   45), followed by an empty stored block; a dynamic-Huffman block; a gzip member with FEXTRA,
   FNAME and FCOMMENT -/
example : inflate [202, 72, 205, 201, 201, 87, 192, 32, 117, 20, 18, 73, 2, 128, 0, 0, 0, 255, 255] =
    .ok ("hello hello hello hello, aaaaaaaaaaaaaaaaaaaaaaaaaaaaaaaaaaaaaaaaaaaaaa".toUTF8.toList) := by
  decide +kernel
example : inflate [4, 192, 65, 1, 0, 32, 16, 2, 176, 42, 86, 27, 71, 2, 250, 63, 156, 204, 169, 204,
    147, 57, 149, 249, 1, 0, 0, 255, 255] = .ok ("abracadabra abracadabra".toUTF8.toList) := by
  decide +kernel
example : gunzip [31, 139, 8, 28, 0, 0, 0, 0, 2, 255, 3, 0, 1, 2, 3, 110, 46, 116, 120, 116, 0, 99, 0,
    74, 76, 74, 134, 35, 64, 0, 0, 0, 255, 255, 52, 42, 110, 90, 12, 0, 0, 0] =
    .ok ("abcabcabcabc".toUTF8.toList) := by
  decide +kernel
/- and what must be refused: a flipped CRC byte, a wrong ISIZE, a reserved flag, a distance that
   reaches before the start of the output, block type 3, LEN/NLEN that do not match -/
example : gunzip [31, 139, 8, 0, 0, 0, 0, 0, 0, 255, 1, 2, 0, 253, 255, 104, 105, 173, 42, 147, 216, 2, 0, 0, 0]
    = .error .badCrc := by decide +kernel
example : gunzip [31, 139, 8, 0, 0, 0, 0, 0, 0, 255, 1, 2, 0, 253, 255, 104, 105, 172, 42, 147, 216, 3, 0, 0, 0]
    = .error .badSize := by decide +kernel
example : gunzip [31, 139, 8, 32, 0, 0, 0, 0, 0, 255, 1, 2, 0, 253, 255, 104, 105, 172, 42, 147, 216, 2, 0, 0, 0]
    = .error .badFlags := by decide +kernel
example : inflate [3, 2, 0] = .error .badDistance := by decide +kernel
example : inflate [7] = .error .badBlockType := by decide +kernel
example : inflate [1, 2, 0, 252, 255, 104, 105] = .error .badStoredLen := by decide +kernel

end PqModel.Spec.Inflate
