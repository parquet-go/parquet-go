import PqModel.Spec.BlockCodecs
import PqModel.LittleEndian

/-! SPEC side (C20): the Snappy block format on ELEMENTS (format_description.txt:
literals with an inline length or a 1..4-byte length, copies with a 1-byte (11-bit), 2-byte and
4-byte offset). `snappyDec_encBlock`: for EVERY list of elements whose copies stay inside the
output produced so far (overlapping copies included), the reader `snappyDec` returns what the
elements mean. `parseBlock` splits a stream into its elements (used by the check on the real
encoder's output; re-encoding is compared at run time, not proved). -/
namespace PqModel.Spec.SnappyElems
open PqModel.Spec.BlockCodecs

inductive Elem
  | lit (bs : List UInt8)
  /-- `kind` = 1, 2 or 4: the NUMBER OF OFFSET BYTES (tag kinds 1, 2, 3 of `BlockCodecs.snappyElems`);
  `encElem` writes any other value as 4, `elemOk` admits only the three -/
  | copy (kind off len : Nat)
  deriving DecidableEq

/-- `n` little-endian bytes of `v` -/
def leBytes : Nat → Nat → List UInt8
  | 0, _ => []
  | n + 1, v => UInt8.ofNat (v % 256) :: leBytes n (v / 256)

theorem leBytes_eq : ∀ (n v : Nat), leBytes n v = LE.leBytes n v
  | 0, _ => rfl
  | n + 1, v => congrArg _ (leBytes_eq n (v / 256))

theorem le_eq : ∀ (bs : List UInt8), le bs = LE.leVal bs
  | [] => rfl
  | b :: bs => congrArg (b.toNat + 256 * ·) (le_eq bs)

theorem leBytes_length (n v : Nat) : (leBytes n v).length = n := by
  rw [leBytes_eq, LE.leBytes_length]

theorem le_leBytes (n v : Nat) (h : v < 256 ^ n) : le (leBytes n v) = v := by
  rw [le_eq, leBytes_eq, LE.leVal_leBytes_of_lt h]

/-- bytes needed for a literal length field `m = length - 1 ≥ 60` -/
def litNb (m : Nat) : Nat := if m < 256 then 1 else if m < 65536 then 2 else if m < 16777216 then 3 else 4

def encElem : Elem → List UInt8
  | .lit bs =>
    let m := bs.length - 1
    if m < 60 then UInt8.ofNat (m * 4) :: bs
    else UInt8.ofNat ((59 + litNb m) * 4) :: (leBytes (litNb m) m ++ bs)
  | .copy k off len =>
    if k = 1 then [UInt8.ofNat (1 + (len - 4) * 4 + (off / 256) * 32), UInt8.ofNat (off % 256)]
    else if k = 2 then UInt8.ofNat (2 + (len - 1) * 4) :: leBytes 2 off
    else UInt8.ofNat (3 + (len - 1) * 4) :: leBytes 4 off

/-- writable behind `n` bytes of output (a literal's length − 1 must fit the 4-byte field) -/
def elemOk (n : Nat) : Elem → Bool
  | .lit bs => decide (1 ≤ bs.length) && decide (bs.length ≤ 4294967296)
  | .copy k off len => decide (1 ≤ off) && decide (off ≤ n) &&
      ((decide (k = 1) && decide (4 ≤ len) && decide (len ≤ 11) && decide (off < 2048)) ||
       (decide (k = 2) && decide (1 ≤ len) && decide (len ≤ 64) && decide (off < 65536)) ||
       (decide (k = 4) && decide (1 ≤ len) && decide (len ≤ 64) && decide (off < 4294967296)))

def applyElem (out : Array UInt8) : Elem → Array UInt8
  | .lit bs => out ++ bs
  | .copy _ off len => copyBack off len out

def applyElems : List Elem → Array UInt8 → Array UInt8
  | [], out => out
  | e :: r, out => applyElems r (applyElem out e)

def elemsOk : List Elem → Array UInt8 → Bool
  | [], _ => true
  | e :: r, out => elemOk out.size e && elemsOk r (applyElem out e)

def encElems : List Elem → List UInt8
  | [] => []
  | e :: r => encElem e ++ encElems r

/-- a block: announced length, then the elements -/
def encBlock (els : List Elem) : List UInt8 :=
  putUvarint 10 (applyElems els #[]).size ++ encElems els

theorem litNb_range (m : Nat) : 1 ≤ litNb m ∧ litNb m ≤ 4 := by
  unfold litNb; split <;> (try split) <;> (try split) <;> omega

theorem litNb_fits (m : Nat) (h : m < 4294967296) : m < 256 ^ litNb m := by
  unfold litNb
  split
  · omega
  · split
    · omega
    · split <;> omega

theorem snappyElems_lit (bs S : List UInt8) (out : Array UInt8) (fuel : Nat)
    (h1 : 1 ≤ bs.length) (h2 : bs.length ≤ 4294967296) :
    snappyElems (fuel + 1) (encElem (.lit bs) ++ S) out = snappyElems fuel S (out ++ bs) := by
  by_cases hm : bs.length - 1 < 60
  · have := snappyElems_shortLit bs S out fuel h1 (by omega)
    simp only [encElem, hm, ↓reduceIte, List.cons_append]
    exact this
  · have hk := litNb_range (bs.length - 1)
    have hfit := litNb_fits (bs.length - 1) (by omega)
    have htag : (UInt8.ofNat ((59 + litNb (bs.length - 1)) * 4)).toNat = (59 + litNb (bs.length - 1)) * 4 :=
      toNat_ofNat_lt (by omega)
    have hmod : (59 + litNb (bs.length - 1)) * 4 % 4 = 0 := by omega
    have hdiv : (59 + litNb (bs.length - 1)) * 4 / 4 = 59 + litNb (bs.length - 1) := by omega
    have hl : ¬ (59 + litNb (bs.length - 1) < 60) := by omega
    have hnb : 59 + litNb (bs.length - 1) - 59 = litNb (bs.length - 1) := by omega
    have hlen := leBytes_length (litNb (bs.length - 1)) (bs.length - 1)
    simp only [encElem, hm, ↓reduceIte, List.cons_append, snappyElems, htag, hmod, hdiv, hl, hnb,
      List.append_assoc]
    rw [if_neg (by simp only [List.length_append, hlen]; omega)]
    rw [List.take_left' hlen, List.drop_left' hlen, le_leBytes _ _ hfit]
    have hb : bs.length - 1 + 1 = bs.length := by omega
    rw [hb, if_neg (by simp), List.take_left' rfl, List.drop_left' rfl]

theorem snappyElems_copy (k off len : Nat) (S : List UInt8) (out : Array UInt8) (fuel : Nat)
    (hok : elemOk out.size (.copy k off len) = true) :
    snappyElems (fuel + 1) (encElem (.copy k off len) ++ S) out = snappyElems fuel S (copyBack off len out) := by
  simp only [elemOk, Bool.and_eq_true, Bool.or_eq_true, decide_eq_true_eq] at hok
  obtain ⟨⟨ho1, ho2⟩, hk⟩ := hok
  rcases hk with (⟨⟨⟨rfl, hl1⟩, hl2⟩, ho3⟩ | ⟨⟨⟨rfl, hl1⟩, hl2⟩, ho3⟩) | ⟨⟨⟨rfl, hl1⟩, hl2⟩, ho3⟩
  · have hm : (1 + (len - 4) * 4 + off / 256 * 32) % 4 = 1 := by omega
    exact snappyElems_copyStep fuel _ [UInt8.ofNat (off % 256)] S out off len (by omega) (by omega)
      (by rw [if_pos hm]; rfl) (by rw [if_pos hm]; omega)
      (by rw [if_pos hm, le, le, toNat_ofNat_lt (by omega)]; omega) ho1 ho2
  · have hm : (2 + (len - 1) * 4) % 4 = 2 := by omega
    exact snappyElems_copyStep fuel _ (leBytes 2 off) S out off len (by omega) (by omega)
      (by rw [if_neg (by omega), if_pos hm, leBytes_length]) (by rw [if_neg (by omega)]; omega)
      (by rw [if_neg (by omega), le_leBytes 2 off (by omega)]) ho1 ho2
  · have hm : (3 + (len - 1) * 4) % 4 = 3 := by omega
    exact snappyElems_copyStep fuel _ (leBytes 4 off) S out off len (by omega) (by omega)
      (by rw [if_neg (by omega), if_neg (by omega), leBytes_length]) (by rw [if_neg (by omega)]; omega)
      (by rw [if_neg (by omega), le_leBytes 4 off (by omega)]) ho1 ho2

theorem encElem_length (e : Elem) : 1 ≤ (encElem e).length := by
  cases e with
  | lit bs => simp only [encElem]; split <;> simp
  | copy k off len => simp only [encElem]; split <;> (try split) <;> simp

theorem snappyElems_encElems : ∀ (els : List Elem) (out : Array UInt8) (fuel : Nat),
    elemsOk els out = true → (encElems els).length < fuel →
    snappyElems fuel (encElems els) out = .ok (applyElems els out) := by
  intro els
  induction els with
  | nil =>
    intro out fuel _ hf
    cases fuel with
    | zero => simp at hf
    | succ fuel => simp [encElems, snappyElems, applyElems]
  | cons e r ih =>
    intro out fuel hok hf
    simp only [elemsOk, Bool.and_eq_true] at hok
    cases fuel with
    | zero => simp at hf
    | succ fuel =>
      simp only [encElems, applyElems] at hf ⊢
      have hl := encElem_length e
      have hf' : (encElems r).length < fuel := by simp only [List.length_append] at hf; omega
      cases e with
      | lit bs =>
        have h := hok.1
        simp only [elemOk, Bool.and_eq_true, decide_eq_true_eq] at h
        rw [snappyElems_lit bs _ out fuel h.1 h.2]
        exact ih _ fuel hok.2 hf'
      | copy k off len =>
        rw [snappyElems_copy k off len _ out fuel hok.1]
        exact ih _ fuel hok.2 hf'

theorem snappyDec_encBlock (els : List Elem) (hok : elemsOk els #[] = true)
    (hsz : (applyElems els #[]).size < 4294967296) :
    snappyDec (encBlock els) = .ok (applyElems els #[]).toList :=
  snappyDec_of_elems (snappyElems_encElems els #[] ((encElems els).length + 1) hok (by omega)) hsz

theorem encElems_append : ∀ (a b : List Elem), encElems (a ++ b) = encElems a ++ encElems b
  | [], _ => rfl
  | e :: a, b => by simp [encElems, encElems_append a b]

theorem applyElems_append : ∀ (a b : List Elem) (out : Array UInt8),
    applyElems (a ++ b) out = applyElems b (applyElems a out)
  | [], _, _ => rfl
  | _ :: a, b, _ => applyElems_append a b _

theorem elemsOk_append : ∀ (a b : List Elem) (out : Array UInt8),
    elemsOk (a ++ b) out = (elemsOk a out && elemsOk b (applyElems a out))
  | [], _, _ => by simp [elemsOk, applyElems]
  | e :: a, b, out => by simp [elemsOk, applyElems, elemsOk_append a b, Bool.and_assoc]

def copyElems : Nat → Nat → List Elem
  | 0, _ => []
  | fuel + 1, n =>
    if n = 0 then [] else if n ≤ 64 then [.copy 2 1 n] else .copy 2 1 64 :: copyElems fuel (n - 64)

def runElems : List (UInt8 × Nat) → List Elem
  | [] => []
  | (b, n) :: r => .lit [b] :: (copyElems n (n - 1) ++ runElems r)

theorem encElem_copy21 (n : Nat) : encElem (.copy 2 1 n) = [UInt8.ofNat ((n - 1) * 4 + 2), 1, 0] := by
  rw [encElem, if_neg (by decide), if_pos rfl, Nat.add_comm]; rfl

theorem encElems_copyElems : ∀ (k n : Nat), encElems (copyElems k n) = snappyCopies k n
  | 0, _ => rfl
  | k + 1, n => by
    simp only [copyElems, snappyCopies]
    split
    · rfl
    · split
      · simp [encElems, encElem_copy21]
      · simp [encElems, encElem_copy21, encElems_copyElems k]

theorem encElems_runElems : ∀ rs, encElems (runElems rs) = snappyRunsEnc rs
  | [] => rfl
  | (b, n) :: r => by
    simp only [runElems, encElems, encElems_append, encElems_copyElems, encElems_runElems r, snappyRunsEnc]
    rfl

theorem applyElems_copyElems (b : UInt8) : ∀ (k n : Nat) (prev : Array UInt8), n ≤ k →
    applyElems (copyElems k n) (prev.push b) = prev ++ Array.replicate (n + 1) b ∧
    elemsOk (copyElems k n) (prev.push b) = true
  | 0, n, prev, h => by
    obtain rfl : n = 0 := by omega
    refine ⟨?_, rfl⟩
    apply Array.ext'; simp [copyElems, applyElems]
  | k + 1, n, prev, h => by
    simp only [copyElems]
    split
    · subst_vars
      refine ⟨?_, rfl⟩
      apply Array.ext'; simp [applyElems]
    · split
      · obtain ⟨m, rfl⟩ : ∃ m, n = m + 1 := ⟨n - 1, by omega⟩
        simp only [applyElems, applyElem, elemsOk, elemOk, copyBack_one]
        refine ⟨trivial, by simp; omega⟩
      · have e : (prev ++ Array.replicate 64 b).push b = prev ++ Array.replicate (64 + 1) b := by
          apply Array.ext'; simp [List.replicate_succ']
        have ih := applyElems_copyElems b k (n - 64) (prev ++ Array.replicate 64 b) (by omega)
        simp only [applyElems, applyElem, elemsOk, elemOk, copyBack_one, ← e, ih]
        refine ⟨?_, by simp⟩
        apply Array.ext'
        have : 64 + (n - 64 + 1) = n + 1 := by omega
        simp [this]

theorem applyElems_runElems : ∀ (rs : List (UInt8 × Nat)) (out : Array UInt8), (∀ p ∈ rs, 0 < p.2) →
    applyElems (runElems rs) out = out ++ expand rs ∧ elemsOk (runElems rs) out = true
  | [], out, _ => by simp [runElems, applyElems, elemsOk, expand]
  | (b, n) :: r, out, h => by
    have hn : 0 < n := h (b, n) (by simp)
    have e1 : out ++ [b] = out.push b := by apply Array.ext'; simp
    have hc := applyElems_copyElems b n (n - 1) out (by omega)
    have ih := applyElems_runElems r (out ++ Array.replicate (n - 1 + 1) b) (fun p hp => h p (by simp [hp]))
    simp only [runElems, applyElems, applyElem, elemsOk, elemOk, applyElems_append, elemsOk_append, e1, hc, ih]
    refine ⟨?_, by simp⟩
    apply Array.ext'
    have : n - 1 + 1 = n := by omega
    simp [expand, this]

theorem snappyDec_encRle (x : List UInt8) (h : x.length < 4294967296) :
    snappyDec (snappyEncRle x) = .ok x := by
  have ha := applyElems_runElems (runs x) #[] (runs_pos x)
  have := snappyDec_encBlock (runElems (runs x)) ha.2 (by simpa [ha.1, expand_runs] using h)
  simpa [encBlock, ha.1, expand_runs, encElems_runElems, snappyEncRle] using this

/-- the element loop of `snappyElems` without the copying -/
def parseElems : Nat → List UInt8 → List Elem → Option (List Elem)
  | 0, _, _ => none
  | _ + 1, [], acc => some acc.reverse
  | fuel + 1, tag :: rest, acc =>
    let t := tag.toNat
    if t % 4 = 0 then
      let l := t / 4
      let nb := if l < 60 then 0 else l - 59
      if rest.length < nb then none else
      let len := if l < 60 then l + 1 else le (rest.take nb) + 1
      let rest := rest.drop nb
      if rest.length < len then none else
      parseElems fuel (rest.drop len) (.lit (rest.take len) :: acc)
    else
      let nb := if t % 4 = 1 then 1 else if t % 4 = 2 then 2 else 4
      if rest.length < nb then none else
      let len := if t % 4 = 1 then 4 + (t / 4) % 8 else t / 4 + 1
      let off := if t % 4 = 1 then (t / 32) * 256 + le (rest.take 1) else le (rest.take nb)
      parseElems fuel (rest.drop nb) (.copy nb off len :: acc)

/-- announced length and elements -/
def parseBlock (src : List UInt8) : Option (Nat × List Elem) :=
  match uvarint 10 src with
  | none => none
  | some (want, rest) => (parseElems (rest.length + 1) rest []).map fun els => (want, els)

example : elemsOk [.lit [1, 2, 3], .copy 1 3 11, .copy 2 1 64, .copy 4 14 5] #[] = true := by decide +kernel
example : snappyDec (encBlock [.lit [1, 2, 3], .copy 1 2 5]) = .ok [1, 2, 3, 2, 3, 2, 3, 2] := by decide +kernel
example : elemOk 0 (.lit (List.replicate 61 0)) = true ∧
    (encElem (.lit (List.replicate 61 0))).take 2 = [240, 60] := by decide +kernel

example : parseBlock (encBlock [.lit [1, 2, 3], .copy 1 2 5]) = some (8, [.lit [1, 2, 3], .copy 1 2 5]) := by
  decide +kernel

end PqModel.Spec.SnappyElems
