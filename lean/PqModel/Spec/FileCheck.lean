import PqModel.Spec.Thrift
import PqModel.Spec.Snappy
import PqModel.Spec.Inflate
import PqModel.Spec.Lz4File
import PqModel.Spec.PageDecode
import PqModel.Layout
import PqModel.FileMetaTrees

/-! Spec side of C02: an independent structural reader of Parquet files written from
    parquet.thrift and the format documents. It walks the footer, every column chunk's pages
    (by parsing page headers at the offsets the metadata announces), the offset and column
    indexes, re-derives the layout numbers with `Layout.chunkMeta` (the accounting model whose
    correctness is `Layout.layout_wf`) and reports every clause in which the file's metadata
    disagrees with the bytes that are present. Field ids are those of parquet.thrift.

    Value level (chunks stored UNCOMPRESSED, with SNAPPY, GZIP or LZ4_RAW): every page body is decompressed with
    the spec Snappy reader (`Spec.Snappy`), the spec gzip reader (`Spec.Inflate`) or the spec LZ4 block reader
    (`Spec.Lz4File.lz4Block` = `BlockCodecs.lz4Dec`, proved to invert every writable sequence list) and decoded with the SPEC decoders of the encodings
    (`Spec.PageDecode`): repetition/definition levels, dictionary, values. The counts the headers
    and indexes announce are compared with what was decoded, and `dumpFile` returns the Dremel
    streams (value, repetition level, definition level) of every leaf column. -/
namespace PqModel.Spec
open PqModel.Layout

structure Leaf where
  path : List String
  ptype : Nat
  maxRep : Nat
  maxDef : Nat
  typeLen : Nat := 0     -- type_length of the schema element (FIXED_LEN_BYTE_ARRAY)
deriving Repr

/-- walk the depth-first schema element list; returns the leaves below `n` children -/
def schemaLeaves : Nat → List TVal → Nat → List String → Nat → Nat → Except String (List Leaf × List TVal)
  | 0, _, _, _, _, _ => .error "schema too deep"
  | _, rest, 0, _, _, _ => .ok ([], rest)
  | _, [], _ + 1, _, _, _ => .error "schema: fewer elements than num_children announce"
  | fuel + 1, e :: rest, k + 1, path, rep, dfn =>
    let name := TVal.str (e.field? 4)
    let r := TVal.nat (e.field? 3)   -- 0 required, 1 optional, 2 repeated
    let rep' := if r == 2 then rep + 1 else rep
    let dfn' := if r == 0 then dfn else dfn + 1
    let nc := TVal.nat (e.field? 5)
    if nc == 0 then
      match schemaLeaves fuel rest k path rep dfn with
      | .ok (ls, rest') => .ok (⟨path ++ [name], TVal.nat (e.field? 1), rep', dfn', TVal.nat (e.field? 2)⟩ :: ls, rest')
      | .error x => .error x
    else
      match schemaLeaves fuel rest nc (path ++ [name]) rep' dfn' with
      | .error x => .error x
      | .ok (sub, rest') =>
        match schemaLeaves fuel rest' k path rep dfn with
        | .ok (ls, rest'') => .ok (sub ++ ls, rest'')
        | .error x => .error x

def crcByte (c : UInt32) (b : UInt8) : UInt32 :=
  let c := c ^^^ b.toUInt32
  (List.range 8).foldl (fun c _ => if c &&& 1 == 1 then (c >>> 1) ^^^ 0xEDB88320 else c >>> 1) c

/-- CRC-32/IEEE of `d[from, from+n)` -/
def crc32Range (d : ByteArray) (start n : Nat) : UInt32 :=
  ((List.range n).foldl (fun c i => crcByte c (d.get! (start + i))) 0xFFFFFFFF) ^^^ 0xFFFFFFFF

structure PageInfo where
  op : PageOp
  offset : Nat
  ptype : Nat            -- 0 data v1, 2 dictionary, 3 data v2
  encoding : Nat
  crcOk : Option Bool    -- none = no CRC field
  numNulls : Option Nat  -- v2 only
  levelsLen : Nat        -- v2: rep+def byte lengths
  hasStats : Bool
  v2Compressed : Bool := true   -- v2: is_compressed (default true)
  bodyPos : Nat := 0
  repLen : Nat := 0      -- v2: repetition_levels_byte_length
  defLen : Nat := 0      -- v2: definition_levels_byte_length
  levelEncs : List Nat := []   -- v1: definition_level_encoding, repetition_level_encoding

/-- walk the pages of a chunk: `n` bytes starting at `pos` -/
def walkPages (d : ByteArray) (checkCrc : Bool) : Nat → Nat → Nat → List PageInfo → Except String (List PageInfo)
  | 0, _, _, _ => .error "too many pages"
  | fuel + 1, pos, stop, acc =>
    if pos == stop then .ok acc.reverse
    else if pos > stop then .error s!"page at {pos} runs past the end of the chunk at {stop}"
    else
      match readStruct d pos with
      | .error e => .error s!"page header at {pos}: {e}"
      | .ok (h, bodyPos) =>
        let ptype := TVal.nat (h.field? 1)
        let uncomp := TVal.nat (h.field? 2)
        let comp := TVal.nat (h.field? 3)
        if bodyPos + comp > d.size then .error s!"page body at {bodyPos}+{comp} past end of file" else
        let crc := TVal.int? (h.field? 4)
        let crcOk := match crc with
          | some c => if checkCrc then some ((crc32Range d bodyPos comp).toNat == (c.toNat % 4294967296) || (crc32Range d bodyPos comp).toNat == ((c + 4294967296).toNat % 4294967296)) else some true
          | none => none
        let (nv, nr, enc, nn, ll, st) :=
          if ptype == 0 then
            let dh := h.field? 5
            (TVal.nat (dh.bind (·.field? 1)), 0, TVal.nat (dh.bind (·.field? 2)), (none : Option Nat), 0, TVal.isSome (dh.bind (·.field? 5)))
          else if ptype == 3 then
            let dh := h.field? 8
            (TVal.nat (dh.bind (·.field? 1)), TVal.nat (dh.bind (·.field? 3)), TVal.nat (dh.bind (·.field? 4)),
             some (TVal.nat (dh.bind (·.field? 2))), TVal.nat (dh.bind (·.field? 5)) + TVal.nat (dh.bind (·.field? 6)), TVal.isSome (dh.bind (·.field? 8)))
          else
            let dh := h.field? 7
            (TVal.nat (dh.bind (·.field? 1)), 0, TVal.nat (dh.bind (·.field? 2)), none, 0, false)
        let info : PageInfo := {
          op := { isDict := ptype == 2, hdrLen := bodyPos - pos, bodyLen := comp, uncompLen := uncomp, numValues := nv, numRows := nr },
          offset := pos, ptype := ptype, encoding := enc, crcOk := crcOk, numNulls := nn, levelsLen := ll, hasStats := st,
          v2Compressed := (match (h.field? 8).bind (·.field? 7) with | some (.bool b) => b | _ => true),
          bodyPos := bodyPos,
          repLen := TVal.nat ((h.field? 8).bind (·.field? 6)),
          defLen := TVal.nat ((h.field? 8).bind (·.field? 5)),
          levelEncs := if ptype == 0 then [TVal.nat ((h.field? 5).bind (·.field? 3)), TVal.nat ((h.field? 5).bind (·.field? 4))] else [] }
        walkPages d checkCrc fuel (bodyPos + comp) stop (info :: acc)

/-- What the stored body says about its own uncompressed size, for the codecs whose framing
    carries it: UNCOMPRESSED (0): the body itself; SNAPPY (1): the uvarint preamble of the block;
    GZIP (2): ISIZE, the last four bytes. `none` = the framing does not say (zstd, brotli, lz4 raw).
    For v2 pages the levels are stored uncompressed in front of the (optionally) compressed values. -/
def announcedSizeOk (d : ByteArray) (codec : Nat) (p : PageInfo) : Option Bool :=
  let lv := if p.ptype == 3 then p.levelsLen else 0
  if lv > p.op.bodyLen || lv > p.op.uncompLen then some false else
  let dataPos := p.bodyPos + lv
  let dataLen := p.op.bodyLen - lv
  let want := p.op.uncompLen - lv
  if codec == 0 || (p.ptype == 3 && !p.v2Compressed) then some (dataLen == want)
  else if codec == 1 then
    if dataLen == 0 then some (want == 0) else
    match uvarint d dataPos with
    | .ok (n, _) => some (n == want)
    | .error _ => some false
  else if codec == 2 then
    if dataLen < 18 then some false else some (le d (dataPos + dataLen - 4) 4 == want % 4294967296)
  else none

/-! ## value level: page bodies of UNCOMPRESSED (0), SNAPPY (1), GZIP (2) and LZ4_RAW (7) chunks -/

/-- the codecs whose chunks are value-decoded: UNCOMPRESSED, SNAPPY, GZIP, LZ4_RAW (zstd 6 and
    brotli 4 stay structural: no Lean reader of those formats) -/
def valueCodec (codec : Nat) : Bool := codec ≤ 2 || codec == 7

/-- what one data page holds once decoded -/
structure PageData where
  reps : List Nat          -- one per entry (all 0 when the column is not repeated)
  defs : List Nat          -- one per entry (all 0 when nothing is optional)
  vals : List Value        -- the non-null values, in order
  rows : Nat               -- entries with repetition level 0
  nulls : Nat              -- entries with definition level below the maximum

/-- the stored bytes `d[pos, pos+len)` of a page (part), decompressed when `compressed` -/
def partBytes (d : ByteArray) (codec : Nat) (compressed : Bool) (pos len : Nat) : Except String ByteArray :=
  if codec == 1 && compressed && len > 0 then
    match Snappy.decodeRange d pos (pos + len) with
    | .ok out => .ok out
    | .error e => .error s!"snappy block does not decompress ({e})"
  else if codec == 2 && compressed && len > 0 then
    -- GZIP: the spec reader of RFC 1951/1952 (`Spec.Inflate.gunzip`: members, CRC-32, ISIZE)
    match Inflate.gunzip (d.extract pos (pos + len)).toList with
    | .ok out => .ok (ByteArray.mk out.toArray)
    | .error _ => .error "gzip member does not decompress (inflate / CRC-32 / ISIZE)"
  else if codec == 7 && compressed then
    -- LZ4_RAW: one LZ4 block, no framing (`Spec.Lz4File.lz4Block`, equal to `BlockCodecs.lz4Dec`)
    match Lz4File.lz4Block (Lz4File.blockAt d pos len) with
    | .ok out => .ok (ByteArray.mk out)
    | .error e => .error s!"lz4 block does not decompress ({Lz4File.errName e})"
  else .ok (d.extract pos (pos + len))

/-- v1 level block at `pos` of the uncompressed body: `<4-byte LE length> <hybrid stream>` -/
def levelsV1 (w nv : Nat) (body : ByteArray) (pos : Nat) (which : String) : Except String (List Nat × Nat) :=
  if pos + 4 > body.size then .error s!"v1 {which} level block lacks its 4-byte length prefix" else
  let len := le body pos 4
  if pos + 4 + len > body.size then .error s!"v1 {which} level block of {len} bytes does not fit in the page body" else
  match PqModel.Rle.specDecodeLevelsV1 w nv (sliceNat body pos (4 + len) []) with
  | .ok l => .ok (l, pos + 4 + len)
  | .error e => .error s!"{which} levels do not decode ({e.name})"

/-- v2 level block `d[pos, pos+len)`: the hybrid stream alone -/
def levelsV2 (w nv : Nat) (d : ByteArray) (pos len : Nat) (which : String) : Except String (List Nat) :=
  match PqModel.Rle.specDecode w nv (sliceNat d pos len []) with
  | .ok l => .ok l
  | .error e => .error s!"{which} levels do not decode ({e.name})"

def countP (f : Nat → Bool) : List Nat → Nat → Nat
  | [], n => n
  | x :: xs, n => countP f xs (if f x then n + 1 else n)

/-- Decode one data page. `.error` = the page cannot be decoded (one clause); otherwise the data
    and the clauses in which header counts and decoded counts differ. -/
def decodeDataPage (d : ByteArray) (leaf : Leaf) (codec : Nat) (dict : Option (Array Value)) (p : PageInfo) :
    Except String (PageData × List String) := do
  let nv := p.op.numValues
  let wr := PqModel.Rle.bitLen leaf.maxRep
  let wd := PqModel.Rle.bitLen leaf.maxDef
  let sizeClause := fun (got want : Nat) =>
    if got == want || announcedSizeOk d codec p == some false then []
    else [s!"stored body decompresses to {got} bytes, uncompressed_page_size leaves {want} (codec {codec})"]
  let (reps, defs, vb, soft) ← (
    if p.ptype == 3 then do
      let ll := p.repLen + p.defLen
      if ll > p.op.bodyLen || ll > p.op.uncompLen then throw "v2 level byte lengths exceed the page size"
      let reps ← if leaf.maxRep == 0 then pure (List.replicate nv 0) else levelsV2 wr nv d p.bodyPos p.repLen "repetition"
      let defs ← if leaf.maxDef == 0 then pure (List.replicate nv 0) else levelsV2 wd nv d (p.bodyPos + p.repLen) p.defLen "definition"
      let vb ← partBytes d codec p.v2Compressed (p.bodyPos + ll) (p.op.bodyLen - ll)
      pure (reps, defs, vb, sizeClause vb.size (p.op.uncompLen - ll))
    else do
      let body ← partBytes d codec true p.bodyPos p.op.bodyLen
      let soft := sizeClause body.size p.op.uncompLen
      let soft := if p.levelEncs.all (· == 3) then soft else "v1 level encoding is not RLE" :: soft
      let (reps, pos) ← if leaf.maxRep == 0 then pure (List.replicate nv 0, 0) else levelsV1 wr nv body 0 "repetition"
      let (defs, pos) ← if leaf.maxDef == 0 then pure (List.replicate nv 0, pos) else levelsV1 wd nv body pos "definition"
      pure (reps, defs, body.extract pos body.size, soft) : Except String (List Nat × List Nat × ByteArray × List String))
  let nulls := countP (· < leaf.maxDef) defs 0
  let nonNull := defs.length - nulls
  let rows := countP (· == 0) reps 0
  let vals ← match decodeValues leaf.ptype leaf.typeLen p.encoding nonNull dict vb with
    | .ok v => pure v
    | .error (.undecodable m) => throw s!"page body does not decode (encoding {p.encoding}: {m})"
    | .error (.dictIndex i n) => throw s!"dictionary index {i} is not below the dictionary size {n}"
    | .error .noDict => throw s!"dictionary-encoded data page (encoding {p.encoding}) in a chunk without decodable dictionary page"
  let soft := if reps.length == nv && defs.length == nv then soft
    else s!"page decodes {reps.length} repetition and {defs.length} definition level entries, header announces num_values {nv}" :: soft
  let soft := if reps.all (· ≤ leaf.maxRep) && defs.all (· ≤ leaf.maxDef) then soft
    else s!"a level exceeds the schema maximum (max repetition {leaf.maxRep}, max definition {leaf.maxDef})" :: soft
  let soft := if vals.length == nonNull then soft
    else s!"page holds {vals.length} values but {nonNull} definition levels equal the maximum" :: soft
  let soft := match reps with
    | r :: _ => if r == 0 then soft else s!"data page does not start on a row boundary (first repetition level {r})" :: soft
    | [] => soft
  let soft := match p.numNulls with
    | some n => if n == nulls then soft else s!"v2 num_nulls {n} but {nulls} definition levels are below the maximum" :: soft
    | none => soft
  let soft := if p.ptype != 3 || p.op.numRows == rows then soft
    else s!"v2 num_rows {p.op.numRows} but {rows} repetition levels are 0" :: soft
  pure ({ reps := reps, defs := defs, vals := vals, rows := rows, nulls := nulls }, soft)

/-- the dictionary page: PLAIN values, `num_values` of them -/
def decodeDictPage (d : ByteArray) (leaf : Leaf) (codec : Nat) (p : PageInfo) : Except String (Array Value × List String) := do
  let body ← partBytes d codec true p.bodyPos p.op.bodyLen
  let soft := if body.size == p.op.uncompLen || announcedSizeOk d codec p == some false then []
    else [s!"stored body decompresses to {body.size} bytes, uncompressed_page_size leaves {p.op.uncompLen} (codec {codec})"]
  if p.encoding != 0 && p.encoding != 2 then throw s!"dictionary page encoding {p.encoding} is not PLAIN"
  match plainValues leaf.ptype leaf.typeLen p.op.numValues (sliceU8 body 0 body.size []) with
  | .error e => throw s!"dictionary page does not decode ({e})"
  | .ok vals =>
    let soft := if vals.length == p.op.numValues then soft
      else s!"dictionary page holds {vals.length} values, header announces {p.op.numValues}" :: soft
    pure (vals.toArray, soft)

/-- pages larger than this are not value-decoded (the spec decoders work on lists) -/
def pageCapped (p : PageInfo) : Bool :=
  p.op.uncompLen > 1048576 || p.op.bodyLen > 1048576 || p.op.numValues > 262144

structure ChunkDecode where
  problems : List String := []            -- clauses without the chunk tag, latest first
  datas : List (Option PageData) := []    -- one per non-dictionary page, latest first
  decoded : Nat := 0
  capped : Nat := 0
  dict : Option (Array Value) := none
  dictCapped : Bool := false
  index : Nat := 0

/-- decode every page of a chunk whose codec is 0, 1, 2 or 7 (`valueCodec`) -/
def decodeChunkPages (d : ByteArray) (leaf : Leaf) (codec : Nat) (pages : List PageInfo) : ChunkDecode :=
  let st := pages.foldl (fun (st : ChunkDecode) p =>
    let st := { st with index := st.index + 1 }
    let k := st.index - 1
    if p.op.isDict then
      if pageCapped p then { st with capped := st.capped + 1, dictCapped := true } else
      match decodeDictPage d leaf codec p with
      | .error e => { st with problems := s!"page {k}: {e}" :: st.problems }
      | .ok (dv, soft) => { st with dict := some dv, problems := soft.map (s!"page {k}: " ++ ·) ++ st.problems }
    else if p.ptype != 0 && p.ptype != 3 then { st with datas := none :: st.datas }
    else if pageCapped p || (st.dictCapped && (p.encoding == 2 || p.encoding == 8)) then
      { st with capped := st.capped + 1, datas := none :: st.datas }
    else
      match decodeDataPage d leaf codec st.dict p with
      | .error e => { st with problems := s!"page {k}: {e}" :: st.problems, datas := none :: st.datas }
      | .ok (pd, soft) => { st with datas := some pd :: st.datas, decoded := st.decoded + 1,
                                    problems := soft.map (s!"page {k}: " ++ ·) ++ st.problems }) {}
  { st with problems := st.problems.reverse, datas := st.datas.reverse }

structure Report where
  problems : List String := []
  rowGroups : Nat := 0
  chunks : Nat := 0
  dataPages : Nat := 0
  dictPages : Nat := 0
  pagesWithCrc : Nat := 0
  v2Pages : Nat := 0
  offsetIndexes : Nat := 0
  columnIndexes : Nat := 0
  decodedPages : Nat := 0    -- data pages whose levels and values were decoded
  cappedPages : Nat := 0     -- pages too large for the list-based spec decoders
  bloomSections : Nat := 0   -- bloom filter sections found at the announced offsets
  regions : List (Nat × Nat × String) := []   -- (start, length, name) of every structure the footer names

def Report.add (r : Report) (cond : Bool) (msg : String) : Report :=
  if cond then r else { r with problems := msg :: r.problems }

def Report.region (r : Report) (start len : Nat) (name : String) : Report :=
  { r with regions := (start, len, name) :: r.regions }

/-- the member a thrift union holds: the id of its only field -/
def unionMember : Option TVal → Option Nat
  | some (.struct [(k, _)]) => some k
  | _ => none

/-- SPEC (parquet.thrift `BloomFilterHeader {1: required i32 numBytes, 2: required
    BloomFilterAlgorithm algorithm (union, 1: BLOCK), 3: required BloomFilterHash hash (union, 1:
    XXHASH), 4: required BloomFilterCompression compression (union, 1: UNCOMPRESSED)}`, and
    BloomFilter.md: the bitset follows the header; a split-block filter is a whole number of
    32-byte blocks). Returns the clauses violated by the section at `off` and its length in bytes. -/
def bloomSection (d : ByteArray) (off : Nat) (announcedLen : Option Int) (limit : Nat) : List String × Nat :=
  match readStruct d off with
  | .error e => ([s!"bloom filter header at {off}: {e}"], 0)
  | .ok (h, hend) =>
    match TVal.int? (h.field? 1) with
    | none => ([s!"bloom filter header at {off} lacks numBytes"], hend - off)
    | some nb =>
      let nb := nb.toNat
      let total := hend - off + nb
      let ps : List String := []
      let ps := if unionMember (h.field? 2) == some 1 then ps else s!"bloom filter algorithm is not BLOCK" :: ps
      let ps := if unionMember (h.field? 3) == some 1 then ps else s!"bloom filter hash is not XXHASH" :: ps
      let comp := unionMember (h.field? 4)
      let ps := if comp == some 1 || comp == some 2 then ps else s!"bloom filter compression is not a known member" :: ps
      let ps := if nb > 0 then ps else s!"bloom filter numBytes is 0" :: ps
      let ps := if comp != some 1 || nb % 32 == 0 then ps else s!"bloom filter bitset of {nb} bytes is not a whole number of 32-byte blocks" :: ps
      let ps := if off + total ≤ limit then ps else s!"bloom filter section [{off},{off + total}) runs past the footer at {limit}" :: ps
      let ps := match announcedLen with
        | some l => if l.toNat == total then ps else s!"bloom_filter_length {l} but header and bitset take {total} bytes" :: ps
        | none => ps
      (ps.reverse, total)

/-- two structures the footer names share a byte: `rs` sorted by start -/
def overlaps : List (Nat × Nat × String) → List String
  | a :: b :: rest =>
    let tl := overlaps (b :: rest)
    if a.1 + a.2.1 ≤ b.1 then tl
    else s!"{a.2.2} [{a.1},{a.1 + a.2.1}) overlaps {b.2.2} [{b.1},{b.1 + b.2.1})" :: tl
  | _ => []

def checkChunk (d : ByteArray) (footerStart : Nat) (rgi ci : Nat) (leaf : Leaf) (c : TVal) (rgRows : Nat)
    (start : Nat) (r : Report) : Report × Nat :=
  let tag := s!"rg{rgi}/col{ci}"
  match c.field? 3 with
  | none => (r.add false s!"{tag}: no column meta data", start)
  | some m =>
    let pathOk := (TVal.listD (m.field? 3)).map (fun p => TVal.str (some p)) == leaf.path
    let r := r.add pathOk s!"{tag}: path_in_schema {(TVal.listD (m.field? 3)).map (fun p => TVal.str (some p))} is not the schema path {leaf.path}"
    let r := r.add (TVal.nat (m.field? 1) == leaf.ptype) s!"{tag}: type differs from the schema leaf type"
    let dataOff := TVal.nat (m.field? 9)
    let dictOff := TVal.int? (m.field? 11)
    let totalComp := TVal.nat (m.field? 7)
    let totalUncomp := TVal.nat (m.field? 6)
    let numValues := TVal.nat (m.field? 5)
    let first := match dictOff with
      | some o => if o.toNat > 0 && o.toNat < dataOff then o.toNat else dataOff
      | none => dataOff
    let r := r.add (first ≥ start) s!"{tag}: chunk starts at {first}, inside the previous chunk which ends at {start}"
    let r := r.add (first + totalComp ≤ footerStart) s!"{tag}: chunk [{first},{first + totalComp}) overlaps the footer at {footerStart}"
    if first + totalComp > d.size then (r.add false s!"{tag}: chunk past end of file", first + totalComp) else
    match walkPages d true (totalComp + 2) first (first + totalComp) [] with
    | .error e => (r.add false s!"{tag}: {e}", first + totalComp)
    | .ok pages =>
      let ops := pages.map (·.op)
      let model := chunkMeta first ops
      let ndict := (pages.filter (·.op.isDict)).length
      let datas := pages.filter (fun p => !p.op.isDict)
      let r := { r with chunks := r.chunks + 1, dataPages := r.dataPages + datas.length, dictPages := r.dictPages + ndict,
                        pagesWithCrc := r.pagesWithCrc + (pages.filter (fun (p : PageInfo) => p.crcOk.isSome)).length,
                        v2Pages := r.v2Pages + (pages.filter (fun (p : PageInfo) => p.ptype == 3)).length }
      let r := r.region first totalComp s!"{tag} pages"
      -- bloom filter section (ColumnMetaData 14: bloom_filter_offset, 15: bloom_filter_length)
      let r := match TVal.int? (m.field? 14) with
        | none => r.add (TVal.int? (m.field? 15) == none) s!"{tag}: bloom_filter_length without bloom_filter_offset"
        | some bo =>
          let (ps, total) := bloomSection d bo.toNat (TVal.int? (m.field? 15)) footerStart
          let r := ps.foldl (fun (r : Report) p => r.add false s!"{tag}: {p}") r
          let r := r.add (bo.toNat ≥ 4) s!"{tag}: bloom_filter_offset {bo} is inside the magic"
          { r.region bo.toNat total s!"{tag} bloom filter" with bloomSections := r.bloomSections + 1 }
      let r := r.add (ndict ≤ 1) s!"{tag}: {ndict} dictionary pages"
      let r := r.add (match pages with | p :: rest => rest.all (fun q => !q.op.isDict) && (ndict == 0 || p.op.isDict) | [] => true)
                s!"{tag}: dictionary page is not the first page"
      let r := r.add (model.dataOffset == dataOff || datas.isEmpty) s!"{tag}: data_page_offset {dataOff} but the first data page is at {model.dataOffset}"
      let r := r.add (match dictOff, model.dictOffset with
                      | some o, some x => o.toNat == x
                      | some o, none => o == 0
                      | none, none => true
                      | none, some _ => false) s!"{tag}: dictionary_page_offset does not name the dictionary page"
      let r := r.add (model.totalCompressed == totalComp) s!"{tag}: total_compressed_size"
      let r := r.add (model.totalUncompressed == totalUncomp) s!"{tag}: total_uncompressed_size {totalUncomp} but pages announce {model.totalUncompressed}"
      let r := r.add (model.numValues == numValues) s!"{tag}: num_values {numValues} but data pages hold {model.numValues}"
      let r := r.add (pages.all (fun p => p.crcOk != some false)) s!"{tag}: page CRC does not match the stored body"
      let r := r.add (pages.all (fun p => p.levelsLen ≤ p.op.bodyLen)) s!"{tag}: v2 level byte lengths exceed the page size"
      let codec := TVal.nat (m.field? 4)
      let r := r.add (pages.all (fun p => announcedSizeOk d codec p != some false)) s!"{tag}: uncompressed_page_size differs from the size the stored body decompresses to (codec {codec})"
      let r := r.add (pages.all (fun p => p.ptype == 0 || p.ptype == 2 || p.ptype == 3)) s!"{tag}: unknown page type"
      let allV2 := datas.all (·.ptype == 3)
      let r := r.add (!allV2 || datas.isEmpty || model.numRows == rgRows) s!"{tag}: v2 pages hold {model.numRows} rows, row group announces {rgRows}"
      let r := r.add (leaf.maxRep != 0 || model.numValues == rgRows) s!"{tag}: non-repeated column holds {model.numValues} values for {rgRows} rows"
      let r := r.add (datas.all (fun p => match p.numNulls with | some n => n ≤ p.op.numValues | none => true)) s!"{tag}: v2 num_nulls exceeds num_values"
      -- value level: decode every page of a chunk whose codec `valueCodec` takes with the spec decoders
      let cd : ChunkDecode := if valueCodec codec then decodeChunkPages d leaf codec pages else {}
      let r := cd.problems.foldl (fun (r : Report) m => r.add false s!"{tag}: {m}") r
      let r := { r with decodedPages := r.decodedPages + cd.decoded, cappedPages := r.cappedPages + cd.capped }
      let allDecoded := valueCodec codec && cd.datas.length == datas.length && cd.datas.all (·.isSome)
      let rowsD := cd.datas.map (fun (o : Option PageData) => match o with | some pd => pd.rows | none => 0)
      -- the row counts read off the repetition levels (this covers v1 pages of repeated columns)
      let r := r.add (!allDecoded || datas.isEmpty || rowsD.sum == rgRows) s!"{tag}: pages hold {rowsD.sum} rows (repetition levels equal to 0), row group announces {rgRows}"
      let firstRowsD := (specLocs first 0 (List.zipWith (fun (p : PageInfo) n => { p.op with numRows := n }) datas rowsD)).map (·.firstRow)
      -- encodings listed in the chunk metadata cover what the pages use
      let encs := (TVal.listD (m.field? 2)).map (fun e => TVal.nat (some e))
      let r := r.add (pages.all (fun p => encs.contains p.encoding)) s!"{tag}: a page uses an encoding missing from the chunk's encodings list {encs}"
      -- encoding_stats, when present, count the pages by (type, encoding)
      let stats := TVal.listD (m.field? 13)
      let r := r.add (stats.isEmpty || stats.all (fun (s : TVal) =>
          let pt := TVal.nat (s.field? 1); let en := TVal.nat (s.field? 2); let cnt := TVal.nat (s.field? 3)
          (pages.filter (fun (p : PageInfo) => p.ptype == pt && p.encoding == en)).length == cnt)) s!"{tag}: encoding_stats do not count the pages present"
      let r := r.add (stats.isEmpty || (stats.map (fun (s : TVal) => TVal.nat (s.field? 3))).sum == pages.length) s!"{tag}: encoding_stats total differs from the number of pages"
      -- offset index
      let oiOff := TVal.nat (c.field? 4)
      let oiLen := TVal.nat (c.field? 5)
      let r := if oiOff == 0 then r else
        match readStruct d oiOff with
        | .error e => r.add false s!"{tag}: offset index at {oiOff}: {e}"
        | .ok (oi, oiEnd) =>
          let r := { r.region oiOff (oiEnd - oiOff) s!"{tag} offset index" with offsetIndexes := r.offsetIndexes + 1 }
          let r := r.add (oiEnd - oiOff == oiLen) s!"{tag}: offset_index_length {oiLen} but the struct is {oiEnd - oiOff} bytes"
          let r := r.add (oiOff ≥ first + totalComp && oiEnd ≤ footerStart) s!"{tag}: offset index overlaps data or footer"
          let locs := (TVal.listD (oi.field? 1)).map fun l => (⟨TVal.nat (l.field? 1), TVal.nat (l.field? 2), TVal.nat (l.field? 3)⟩ : PageLoc)
          let r := r.add (locs.length == datas.length) s!"{tag}: offset index has {locs.length} locations for {datas.length} data pages"
          let r := r.add (locs.map (·.offset) == model.locs.map (·.offset)) s!"{tag}: offset index offsets {locs.map (·.offset)} are not the page starts {model.locs.map (·.offset)}"
          let r := r.add (locs.map (·.size) == model.locs.map (·.size)) s!"{tag}: offset index compressed_page_size differs from header+body size"
          let r := r.add (!allV2 || locs.map (·.firstRow) == model.locs.map (·.firstRow)) s!"{tag}: first_row_index {locs.map (·.firstRow)} is not cumulative over page row counts {model.locs.map (·.firstRow)}"
          let r := r.add (leaf.maxRep != 0 || locs.map (·.firstRow) == (specLocs first 0 (datas.map fun p => { p.op with numRows := p.op.numValues })).map (·.firstRow))
                    s!"{tag}: first_row_index is not cumulative over page value counts (non-repeated column)"
          let r := r.add (!allDecoded || locs.length != datas.length || locs.map (·.firstRow) == firstRowsD)
                    s!"{tag}: first_row_index {locs.map (·.firstRow)} is not cumulative over the decoded page row counts {firstRowsD}"
          r.add (match locs with | l :: _ => l.firstRow == 0 | [] => true) s!"{tag}: first page does not start at row 0"
      -- column index
      let ciOff := TVal.nat (c.field? 6)
      let ciLen := TVal.nat (c.field? 7)
      let r := if ciOff == 0 then r else
        match readStruct d ciOff with
        | .error e => r.add false s!"{tag}: column index at {ciOff}: {e}"
        | .ok (cix, ciEnd) =>
          let r := { r.region ciOff (ciEnd - ciOff) s!"{tag} column index" with columnIndexes := r.columnIndexes + 1 }
          let r := r.add (ciEnd - ciOff == ciLen) s!"{tag}: column_index_length {ciLen} but the struct is {ciEnd - ciOff} bytes"
          let np := (TVal.listD (cix.field? 1)).length
          let r := r.add (np == datas.length) s!"{tag}: column index null_pages has {np} entries for {datas.length} data pages"
          let r := r.add ((TVal.listD (cix.field? 2)).length == np) s!"{tag}: column index min_values has {(TVal.listD (cix.field? 2)).length} entries, null_pages {np}"
          let r := r.add ((TVal.listD (cix.field? 3)).length == np) s!"{tag}: column index max_values has {(TVal.listD (cix.field? 3)).length} entries, null_pages {np}"
          let ncs := TVal.listD (cix.field? 5)
          let r := r.add (ncs.isEmpty || ncs.length == np) s!"{tag}: column index null_counts has {ncs.length} entries, null_pages {np}"
          let r := r.add (TVal.nat (cix.field? 4) ≤ 2) s!"{tag}: boundary_order out of range"
          -- the null counts read off the definition levels must agree with the index
          let nullsD := cd.datas.map (fun (o : Option PageData) => match o with | some pd => pd.nulls | none => 0)
          let r := r.add (!allDecoded || ncs.isEmpty || ncs.length != datas.length || ncs.map (fun x => TVal.nat (some x)) == nullsD)
                    s!"{tag}: column index null_counts {ncs.map (fun x => TVal.nat (some x))} differ from the decoded definition levels {nullsD}"
          -- v2 pages announce their null counts: they must agree with the index
          r.add (!allV2 || ncs.isEmpty || ncs.map (fun x => TVal.nat (some x)) == datas.map (fun p => p.numNulls.getD 0)) s!"{tag}: column index null_counts differ from the v2 page headers"
      (r, first + totalComp)

def checkChunks (d : ByteArray) (footerStart rgi : Nat) (rgRows : Nat) :
    List Leaf → List TVal → Nat → Nat → Report → Report × Nat
  | leaf :: ls, c :: cs, ci, start, r =>
    let (r, nxt) := checkChunk d footerStart rgi ci leaf c rgRows start r
    checkChunks d footerStart rgi rgRows ls cs (ci + 1) nxt r
  | _, _, _, start, r => (r, start)

def checkRowGroups (d : ByteArray) (footerStart : Nat) (leaves : List Leaf) (maxRows : Nat) :
    List TVal → Nat → Nat → Report → Report
  | [], _, _, r => r
  | rg :: rgs, i, start, r =>
    let cols := TVal.listD (rg.field? 1)
    let rows := TVal.nat (rg.field? 3)
    let r := { r with rowGroups := r.rowGroups + 1 }
    let r := r.add (cols.length == leaves.length) s!"rg{i}: {cols.length} column chunks for {leaves.length} leaf columns"
    let r := r.add (maxRows == 0 || rows ≤ maxRows) s!"rg{i}: {rows} rows exceed MaxRowsPerRowGroup {maxRows}"
    let r := r.add (match TVal.int? (rg.field? 7) with | some o => o.toNat == i | none => true) s!"rg{i}: ordinal"
    -- file_offset names the first page of the first column chunk (bloom filters of the previous
    -- row group may sit in between, so it need not equal the previous end)
    let firstPage := match cols with
      | c :: _ =>
        let m := c.field? 3
        let dataOff := TVal.nat (m.bind (·.field? 9))
        (match TVal.int? (m.bind (·.field? 11)) with
         | some o => if o.toNat > 0 && o.toNat < dataOff then o.toNat else dataOff
         | none => dataOff)
      | [] => start
    let r := r.add (match TVal.int? (rg.field? 5) with | some o => (o.toNat == firstPage && firstPage ≥ start) || o == 0 | none => true) s!"rg{i}: file_offset {TVal.intD (rg.field? 5)} but the first page of the row group is at {firstPage} (previous data ends at {start})"
    let sumUn := (cols.map fun c => TVal.nat ((c.field? 3).bind (·.field? 6))).sum
    let sumCo := (cols.map fun c => TVal.nat ((c.field? 3).bind (·.field? 7))).sum
    let r := r.add (TVal.nat (rg.field? 2) == sumUn) s!"rg{i}: total_byte_size {TVal.nat (rg.field? 2)} but chunks sum to {sumUn}"
    let r := r.add (match TVal.int? (rg.field? 6) with | some t => t.toNat == sumCo | none => true) s!"rg{i}: total_compressed_size"
    -- sorting_columns: three required fields each, naming distinct leaf columns
    let scs := PqModel.FileMetaTrees.sortingOf rg
    let r := r.add (scs.all (·.isSome)) s!"rg{i}: a sorting column lacks one of its required fields"
    let idxs := scs.filterMap (fun sc => sc.map (·.1))
    let r := r.add (idxs.all (fun x => 0 ≤ x && x.toNat < leaves.length)) s!"rg{i}: sorting column index {idxs} does not name one of the {leaves.length} leaf columns"
    let r := r.add (idxs.eraseDups.length == idxs.length) s!"rg{i}: sorting columns {idxs} name a column twice"
    let (r, nxt) := checkChunks d footerStart i rows leaves cols 0 start r
    checkRowGroups d footerStart leaves maxRows rgs (i + 1) nxt r

/-- the whole check; `maxRows = 0` means no row-group limit was configured -/
def checkFile (d : ByteArray) (maxRows : Nat) : Except String Report :=
  let n := d.size
  if n < 12 then .error "file shorter than 12 bytes" else
  if d.extract 0 4 != "PAR1".toUTF8 then .error "missing leading magic" else
  if d.extract (n - 4) n != "PAR1".toUTF8 then .error "missing trailing magic" else
  let flen := le d (n - 8) 4
  if flen + 12 > n then .error "footer length exceeds file" else
  let fstart := n - 8 - flen
  match readStruct d fstart with
  | .error e => .error s!"footer: {e}"
  | .ok (md, fend) =>
    let r : Report := {}
    let r := r.add (fend == n - 8) s!"footer struct ends at {fend}, expected {n - 8}"
    match TVal.listD (md.field? 2) with
    | [] => .error "empty schema"
    | root :: elems =>
      match schemaLeaves (elems.length + 2) elems (TVal.nat (root.field? 5)) [] 0 0 with
      | .error e => .error e
      | .ok (leaves, rest) =>
        let r := r.add rest.isEmpty "schema: elements left over after the root's children"
        let rgs := TVal.listD (md.field? 4)
        let r := r.add (TVal.nat (md.field? 3) == (rgs.map fun rg => TVal.nat (rg.field? 3)).sum) "file num_rows is not the sum of the row groups"
        -- key_value_metadata: every pair has its (required) key; thrift strings are UTF-8
        let kvs := PqModel.FileMetaTrees.kvsOf md
        let r := r.add (kvs.all (·.isSome)) "key_value_metadata: a pair lacks its key"
        let r := r.add (kvs.all (fun kv => match kv with
            | some (k, v) => (String.fromUTF8? k).isSome && (match v with | some v => (String.fromUTF8? v).isSome | none => true)
            | none => true)) "key_value_metadata: a key or value is not UTF-8"
        let r := r.add (match PqModel.FileMetaTrees.createdByOf md with | some b => (String.fromUTF8? b).isSome | none => true) "created_by is not UTF-8"
        let r := checkRowGroups d fstart leaves maxRows rgs 0 4 r
        -- no two structures the footer names (chunk pages, bloom filters, offset and column indexes) share a byte
        let sorted := r.regions.mergeSort (fun a b => a.1 < b.1 || (a.1 == b.1 && a.2.1 ≤ b.2.1))
        let r := (overlaps (sorted.filter (fun x => x.2.1 > 0))).foldl (fun (r : Report) m => r.add false m) r
        .ok r

/-! ## the Dremel streams of a file -/

/-- one entry of a leaf column's stream; `val = none` is a null -/
structure Triple where
  val : Option Value
  rep : Nat
  dl : Nat

/-- levels and non-null values of a page zipped into entries (prepended, reversed, to `acc`) -/
def zipTriples (maxDef : Nat) : List Nat → List Nat → List Value → List Triple → List Triple
  | r :: rs, dl :: ds, vals, acc =>
    if dl == maxDef then
      match vals with
      | v :: vs => zipTriples maxDef rs ds vs (⟨some v, r, dl⟩ :: acc)
      | [] => acc
    else zipTriples maxDef rs ds vals (⟨none, r, dl⟩ :: acc)
  | _, _, _, acc => acc

/-- the entries of one column chunk (reversed, prepended to `acc`); `.ok none` = the chunk's codec
    is none of UNCOMPRESSED, SNAPPY, GZIP, LZ4_RAW -/
def dumpChunk (d : ByteArray) (tag : String) (leaf : Leaf) (c : TVal) (acc : List Triple) : Except String (Option (List Triple)) :=
  match c.field? 3 with
  | none => .error s!"{tag}: no column meta data"
  | some m =>
    let codec := TVal.nat (m.field? 4)
    if !valueCodec codec then .ok none else
    let dataOff := TVal.nat (m.field? 9)
    let totalComp := TVal.nat (m.field? 7)
    let first := match TVal.int? (m.field? 11) with
      | some o => if o.toNat > 0 && o.toNat < dataOff then o.toNat else dataOff
      | none => dataOff
    if first + totalComp > d.size then .error s!"{tag}: chunk past end of file" else
    match walkPages d false (totalComp + 2) first (first + totalComp) [] with
    | .error e => .error s!"{tag}: {e}"
    | .ok pages =>
      let cd := decodeChunkPages d leaf codec pages
      match cd.problems with
      | m :: _ => .error s!"{tag}: {m}"
      | [] =>
        if cd.capped > 0 then .error s!"{tag}: a page is too large for the list-based spec decoders (capped)" else
        if !cd.datas.all (·.isSome) then .error s!"{tag}: unknown page type" else
        .ok (some (cd.datas.foldl (fun acc o => match o with
          | some pd => zipTriples leaf.maxDef pd.reps pd.defs pd.vals acc
          | none => acc) acc))

def dumpColumn (d : ByteArray) (leaf : Leaf) (ci : Nat) : List TVal → Nat → List Triple → Except String (Option (List Triple))
  | [], _, acc => .ok (some acc.reverse)
  | rg :: rgs, rgi, acc =>
    match (TVal.listD (rg.field? 1))[ci]? with
    | none => .error s!"rg{rgi}: no column chunk {ci}"
    | some c =>
      match dumpChunk d s!"rg{rgi}/col{ci}" leaf c acc with
      | .error e => .error e
      | .ok none => .ok none
      | .ok (some acc) => dumpColumn d leaf ci rgs (rgi + 1) acc

def dumpColumns (d : ByteArray) (rgs : List TVal) : List Leaf → Nat → Except String (List (Option (List Triple)))
  | [], _ => .ok []
  | leaf :: ls, ci =>
    match dumpColumn d leaf ci rgs 0 [] with
    | .error e => .error e
    | .ok col =>
      match dumpColumns d rgs ls (ci + 1) with
      | .error e => .error e
      | .ok cols => .ok (col :: cols)

/-- the stream of every leaf column (schema order), all row groups and pages in file order;
    `none` for a column with a chunk the spec reader cannot decompress -/
def dumpFile (d : ByteArray) : Except String (List (Option (List Triple))) :=
  let n := d.size
  if n < 12 then .error "file shorter than 12 bytes" else
  if d.extract 0 4 != "PAR1".toUTF8 then .error "missing leading magic" else
  if d.extract (n - 4) n != "PAR1".toUTF8 then .error "missing trailing magic" else
  let flen := le d (n - 8) 4
  if flen + 12 > n then .error "footer length exceeds file" else
  match readStruct d (n - 8 - flen) with
  | .error e => .error s!"footer: {e}"
  | .ok (md, _) =>
    match TVal.listD (md.field? 2) with
    | [] => .error "empty schema"
    | root :: elems =>
      match schemaLeaves (elems.length + 2) elems (TVal.nat (root.field? 5)) [] 0 0 with
      | .error e => .error e
      | .ok (leaves, _) => dumpColumns d (TVal.listD (md.field? 4)) leaves 0

def Report.summary (r : Report) : String :=
  s!"rg={r.rowGroups} chunks={r.chunks} data={r.dataPages} dict={r.dictPages} crc={r.pagesWithCrc} v2={r.v2Pages} oi={r.offsetIndexes} ci={r.columnIndexes} decoded={r.decodedPages} capped={r.cappedPages} bloom={r.bloomSections}"

end PqModel.Spec
