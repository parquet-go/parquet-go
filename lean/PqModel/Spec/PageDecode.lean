import PqModel.Rle
import PqModel.Plain
import PqModel.Delta

/-! Spec side of C02, value level: the values part of a data or dictionary page, decoded with the
    SPEC decoders of `PqModel.Rle`, `PqModel.Plain`, `PqModel.Delta` exactly as they are (nothing
    here knows the Go code). This file only dispatches on (physical type, encoding) by their
    parquet.thrift numbers and converts between the byte representations those decoders use
    (`List Nat` / `List UInt8`).

    Physical types: 0 BOOLEAN, 1 INT32, 2 INT64, 3 INT96, 4 FLOAT, 5 DOUBLE, 6 BYTE_ARRAY,
    7 FIXED_LEN_BYTE_ARRAY. Encodings: 0 PLAIN, 2 PLAIN_DICTIONARY, 3 RLE, 5 DELTA_BINARY_PACKED,
    6 DELTA_LENGTH_BYTE_ARRAY, 7 DELTA_BYTE_ARRAY, 8 RLE_DICTIONARY, 9 BYTE_STREAM_SPLIT.

    A decoded value is the list of its PLAIN bytes (BOOLEAN: one byte 0/1; byte arrays: the bytes
    without the length prefix). -/
namespace PqModel.Spec

abbrev Value := List UInt8

/-- `b[lo, lo+n)` as a list (bytes past the end read as 0; callers check bounds) -/
def sliceU8 (b : ByteArray) (lo : Nat) : Nat → List UInt8 → List UInt8
  | 0, acc => acc
  | n + 1, acc => sliceU8 b lo n (b.get! (lo + n) :: acc)

def sliceNat (b : ByteArray) (lo : Nat) : Nat → List Nat → List Nat
  | 0, acc => acc
  | n + 1, acc => sliceNat b lo n ((b.get! (lo + n)).toNat :: acc)

/-- byte width of the fixed-width physical types -/
def fixedWidth (ptype typeLen : Nat) : Option Nat :=
  match ptype with
  | 1 | 4 => some 4
  | 2 | 5 => some 8
  | 3 => some 12
  | 7 => some typeLen
  | _ => none

def deltaErr : PqModel.Delta.Err → String
  | .truncated => "truncated" | .badHeader => "bad-header" | .badWidth => "bad-width"
  | .negativeLength => "negative-length" | .badPrefix => "bad-prefix"
  | .countMismatch => "count-mismatch" | .fuel => "fuel"

/-- PLAIN values; `n` (the number of values the page holds) is needed for BOOLEAN only -/
def plainValues (ptype typeLen n : Nat) (bs : List UInt8) : Except String (List Value) :=
  if ptype == 0 then
    match PqModel.Plain.specDecBool n bs with
    | some v => .ok (v.map fun b => [if b then 1 else 0])
    | none => .error "fewer bits than values"
  else if ptype == 6 then
    match PqModel.Plain.specDecByteArray bs with
    | some v => .ok v
    | none => .error "byte array length prefix cut short or longer than the rest of the page"
  else
    match fixedWidth ptype typeLen with
    | none => .error s!"unknown physical type {ptype}"
    | some k =>
      match PqModel.Plain.specDecFixedBytes k bs with
      | some v => .ok v
      | none => .error s!"length is not a multiple of the value width {k}"

/-- dictionary lookup of every index; `.error i`: index `i` out of range -/
def lookupAll (dict : Array Value) : List Nat → List Value → Except Nat (List Value)
  | [], acc => .ok acc.reverse
  | i :: is, acc =>
    match dict[i]? with
    | some v => lookupAll dict is (v :: acc)
    | none => .error i

inductive ValErr where
  | undecodable (msg : String)         -- a spec decoder rejects the bytes
  | dictIndex (i size : Nat)           -- a dictionary index not below the dictionary size
  | noDict

/-- the values part of a data page holding `n` non-null values -/
def decodeValues (ptype typeLen enc n : Nat) (dict : Option (Array Value)) (b : ByteArray) :
    Except ValErr (List Value) :=
  let u8 := fun (_ : Unit) => sliceU8 b 0 b.size []
  let nat := fun (_ : Unit) => sliceNat b 0 b.size []
  let ofNats := fun (vs : List (List Nat)) => vs.map (·.map UInt8.ofNat)
  if enc == 0 then
    match plainValues ptype typeLen n (u8 ()) with
    | .ok v => .ok v
    | .error e => .error (.undecodable e)
  else if enc == 2 || enc == 8 then
    match dict with
    | none => .error .noDict
    | some dv =>
      match PqModel.Rle.specDecodeDict n (nat ()) with
      | .error e => .error (.undecodable e.name)
      | .ok idx =>
        match lookupAll dv idx [] with
        | .ok v => .ok v
        | .error i => .error (.dictIndex i dv.size)
  else if enc == 3 then
    if ptype != 0 then .error (.undecodable "RLE values in a column that is not BOOLEAN") else
    match PqModel.Rle.specDecodeBoolean n (nat ()) with
    | .ok v => .ok (v.map fun x => [UInt8.ofNat x])
    | .error e => .error (.undecodable e.name)
  else if enc == 5 then
    if ptype == 1 then
      match PqModel.Delta.specDecode32 (nat ()) with
      | .ok (v, _) => .ok (v.map fun x => PqModel.Plain.leBytes 4 x.toNat)
      | .error e => .error (.undecodable (deltaErr e))
    else if ptype == 2 then
      match PqModel.Delta.specDecode64 (nat ()) with
      | .ok (v, _) => .ok (v.map fun x => PqModel.Plain.leBytes 8 x.toNat)
      | .error e => .error (.undecodable (deltaErr e))
    else .error (.undecodable "DELTA_BINARY_PACKED in a column that is not INT32/INT64")
  else if enc == 6 then
    if ptype != 6 then .error (.undecodable "DELTA_LENGTH_BYTE_ARRAY in a column that is not BYTE_ARRAY") else
    match PqModel.Delta.specDecodeDLBA (nat ()) with
    | .ok (v, _) => .ok (ofNats v)
    | .error e => .error (.undecodable (deltaErr e))
  else if enc == 7 then
    if ptype != 6 && ptype != 7 then .error (.undecodable "DELTA_BYTE_ARRAY in a column that holds no byte arrays") else
    match PqModel.Delta.specDecodeDBA (nat ()) with
    | .ok (v, _) =>
      if ptype == 7 && !v.all (·.length == typeLen) then .error (.undecodable s!"a value is not {typeLen} bytes long")
      else .ok (ofNats v)
    | .error e => .error (.undecodable (deltaErr e))
  else if enc == 9 then
    match fixedWidth ptype typeLen with
    | none => .error (.undecodable "BYTE_STREAM_SPLIT in a column without fixed width")
    | some k =>
      match PqModel.Plain.bssSpecDec k (u8 ()) with
      | some v => .ok v
      | none => .error (.undecodable s!"length is not a multiple of the value width {k}")
  else .error (.undecodable "encoding not known to the spec reader")

end PqModel.Spec
