import PqModel.Spec.BlockCodecs

/-! SPEC side (C02): the LZ4 block reader in the form the FILE reader runs it.

`BlockCodecs.lz4Seqs` (written from lz4_Block_format.md, proved against every writable sequence
list in `Spec/Lz4Seqs.lean`) measures the remaining input once per sequence (`rest.length < ll`),
which is quadratic on a page of many short sequences. `seqsFast` is the same loop with the literal
run moved by ONE pass (`takeInto`: pushes `ll` bytes to the output, `none` when the input is
shorter); `seqsFast_eq` proves it equal to `lz4Seqs` on every input, fuel and accumulator, so the
file reader's `lz4Block` IS `lz4Dec` (`lz4Block_eq`) and everything proved about `lz4Dec` holds
for what `Spec/FileCheck.lean` runs on LZ4_RAW chunks. -/
namespace PqModel.Spec.Lz4File
open PqModel.Spec.BlockCodecs

/-- push the first `n` bytes of the input to the output; `none` = fewer than `n` bytes left -/
def takeInto : Nat → List UInt8 → Array UInt8 → Option (Array UInt8 × List UInt8)
  | 0, l, out => some (out, l)
  | _ + 1, [], _ => none
  | n + 1, b :: l, out => takeInto n l (out.push b)

theorem takeInto_eq : ∀ (n : Nat) (l : List UInt8) (out : Array UInt8),
    takeInto n l out = if l.length < n then none else some (out ++ l.take n, l.drop n) := by
  intro n l out
  fun_induction takeInto n l out
  · simp
  · simp
  · rename_i ih
    simp only [ih, List.length_cons, Nat.succ_eq_add_one, Nat.add_lt_add_iff_right, List.take_succ_cons,
      List.drop_succ_cons]
    split
    · rfl
    · congr 2

/-- the sequence loop of `BlockCodecs.lz4Seqs`, literals moved in one pass -/
def seqsFast : Nat → List UInt8 → Array UInt8 → Except Err (Array UInt8)
  | 0, _, _ => .error .fuel
  | _ + 1, [], _ => .error .truncated
  | fuel + 1, token :: rest, out =>
    let t := token.toNat
    match lz4ReadLen (t / 16) rest with
    | none => .error .truncated
    | some (ll, rest) =>
      match takeInto ll rest out with
      | none => .error .truncated
      | some (out, rest) =>
        match rest with
        | [] => .ok out
        | [_] => .error .truncated
        | o0 :: o1 :: rest =>
          match lz4ReadLen (t % 16) rest with
          | none => .error .truncated
          | some (ml, rest) =>
            let off := o0.toNat + 256 * o1.toNat
            if off = 0 ∨ out.size < off then .error .badOffset else
            seqsFast fuel rest (copyBack off (ml + 4) out)

theorem seqsFast_eq : ∀ (fuel : Nat) (src : List UInt8) (out : Array UInt8),
    seqsFast fuel src out = lz4Seqs fuel src out := by
  intro fuel
  induction fuel with
  | zero => intro src out; rfl
  | succ fuel ih =>
    intro src out
    cases src with
    | nil => rfl
    | cons token rest =>
      simp only [seqsFast, lz4Seqs]
      cases h1 : lz4ReadLen (token.toNat / 16) rest with
      | none => rfl
      | some p =>
        obtain ⟨ll, rest1⟩ := p
        simp only [takeInto_eq]
        by_cases hl : rest1.length < ll
        · simp [hl]
        · simp only [hl, ↓reduceIte]
          cases h2 : rest1.drop ll with
          | nil => rfl
          | cons o0 r2 =>
            cases r2 with
            | nil => rfl
            | cons o1 r3 =>
              simp only []
              cases h3 : lz4ReadLen (token.toNat % 16) r3 with
              | none => rfl
              | some q =>
                obtain ⟨ml, rest4⟩ := q
                simp only [ih]

/-- SPEC: an LZ4 block as the file reader decodes it (the empty block stands for the empty
string, as in `lz4Dec`) -/
def lz4Block (src : List UInt8) : Except Err (Array UInt8) :=
  if src.isEmpty then .ok #[] else seqsFast (src.length + 1) src #[]

theorem lz4Block_eq (src : List UInt8) :
    lz4Dec src = (match lz4Block src with | .ok out => .ok out.toList | .error e => .error e) := by
  unfold lz4Dec lz4Block
  cases src with
  | nil => rfl
  | cons b r =>
    simp only [List.isEmpty_cons, Bool.false_eq_true, ↓reduceIte, seqsFast_eq]
    rw [if_neg (by simp)]
    cases lz4Seqs ((b :: r).length + 1) (b :: r) #[] <;> rfl

/-- the stored bytes `d[pos, pos+len)` as the block reader's input -/
def blockAt (d : ByteArray) (pos len : Nat) : List UInt8 := (d.extract pos (pos + len)).data.toList

theorem blockAt_embedded (pre post : ByteArray) (blk : List UInt8) :
    blockAt (pre ++ ByteArray.mk blk.toArray ++ post) pre.size blk.length = blk := by
  unfold blockAt
  rw [ByteArray.append_assoc]
  have h := @ByteArray.extract_append_size_add pre (ByteArray.mk blk.toArray ++ post) 0 blk.length
  rw [Nat.add_zero] at h
  rw [h, ByteArray.data_extract, ByteArray.data_append]
  simp

def errName : Err → String
  | .fuel => "fuel" | .truncated => "input cut short" | .badOffset => "offset 0 or before the start of the output"
  | .badLength => "bad length" | .tooLarge => "too large"

end PqModel.Spec.Lz4File
