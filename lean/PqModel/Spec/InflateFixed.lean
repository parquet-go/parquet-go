import PqModel.Spec.Inflate
import PqModel.Bits
import PqModel.ByteBits

/-! SPEC side (C20): RFC 1951 §3.2.2's explicit code assignment (`rfcCode`) and the proof that the
canonical walk of `Inflate.lean` finds every symbol from its code, on every table `mkHuff` accepts
(`walkBits_rfcCode`; for the two fixed tables only `mkHuff`'s acceptance is evaluated). Then a
reference ENCODER for fixed-Huffman blocks without matches — every byte as its literal code
(`rfcCode fixedLitLens`), the end-of-block code, packed LSB-first (`pack_bits`); read back in
`InflateMatch.lean`, as a block of literal tokens. -/
namespace PqModel.Spec.Inflate

/-- §3.2.2 step 2: smallest code of each length 0..15 -/
def rfcNextCode (lens : List Nat) : Nat → Nat
  | 0 => 0
  | bits + 1 => 2 * (rfcNextCode lens bits + (if bits = 0 then 0 else countLen lens bits))

/-- §3.2.2 step 3: codes of one length are handed out in symbol order -/
def rfcCode (lens : List Nat) (s : Nat) : Nat :=
  rfcNextCode lens (lens.getD s 0) + countLen (lens.take s) (lens.getD s 0)

/-- a code as it is packed: most significant bit first -/
def msbBits (len code : Nat) : List Bool := (List.range len).map (fun i => code.testBit (len - 1 - i))

/-- true of every table `mkHuff` accepts with lengths ≤ 15: `walkAgrees_of_mkHuff` -/
def walkAgrees (lens : List Nat) : Bool :=
  match mkHuff lens with
  | .error _ => false
  | .ok h => (List.range lens.length).all fun s =>
      lens.getD s 0 == 0 ||
        (match decodeSym h ⟨msbBits (lens.getD s 0) (rfcCode lens s), []⟩ with
         | .ok (s1, r) => s1 == s && r.size == 0
         | .error _ => false)

def byteBits8 (x : UInt8) : List Bool :=
  [bitAt x 0, bitAt x 1, bitAt x 2, bitAt x 3, bitAt x 4, bitAt x 5, bitAt x 6, bitAt x 7]

def BitReader.bits (r : BitReader) : List Bool := r.cur ++ r.rest.flatMap byteBits8

theorem readBit_bits {r : BitReader} {b : Bool} {bs : List Bool} (h : r.bits = b :: bs) :
    ∃ r1, readBit r = .ok (b, r1) ∧ r1.bits = bs := by
  obtain ⟨cur, rest⟩ := r
  cases cur with
  | cons c cur =>
    simp only [BitReader.bits, List.cons_append, List.cons.injEq] at h
    exact ⟨⟨cur, rest⟩, by simp [readBit, h.1], h.2⟩
  | nil =>
    cases rest with
    | nil => simp [BitReader.bits] at h
    | cons x rest =>
      simp only [BitReader.bits, List.nil_append, List.flatMap_cons, byteBits8, List.cons_append,
        List.cons.injEq] at h
      refine ⟨⟨[bitAt x 1, bitAt x 2, bitAt x 3, bitAt x 4, bitAt x 5, bitAt x 6, bitAt x 7], rest⟩, ?_, ?_⟩
      · simp [readBit, h.1]
      · simpa [BitReader.bits] using h.2

/-- value of bits read LSB-first -/
def lsbVal : List Bool → Nat
  | [] => 0
  | b :: bs => b.toNat + 2 * lsbVal bs

theorem readBits_bits : ∀ (bs : List Bool) {r : BitReader} {tail : List Bool}, r.bits = bs ++ tail →
    ∃ r1, readBits bs.length r = .ok (lsbVal bs, r1) ∧ r1.bits = tail := by
  intro bs
  induction bs with
  | nil => intro r tail h; exact ⟨r, rfl, by simpa using h⟩
  | cons b bs ih =>
    intro r tail h
    obtain ⟨r1, h1, hb1⟩ := readBit_bits (by simpa using h : r.bits = b :: (bs ++ tail))
    obtain ⟨r2, h2, hb2⟩ := ih hb1
    exact ⟨r2, by simp [readBits, h1, h2, lsbVal], hb2⟩

/-- the canonical walk on a plain list of bits -/
def walkBits (symbols : Array Nat) : List Nat → Nat → Nat → Nat → List Bool → Option (Nat × List Bool)
  | [], _, _, _, _ => none
  | _ :: _, _, _, _, [] => none
  | c :: cs, code, first, index, b :: bs =>
    let code := code + b.toNat
    if first ≤ code ∧ code < first + c then
      match symbols[index + (code - first)]? with
      | some s => some (s, bs)
      | none => none
    else walkBits symbols cs (2 * code) (2 * (first + c)) (index + c) bs

theorem walkBits_append (symbols : Array Nat) : ∀ (cs : List Nat) (code first index : Nat)
    (bits : List Bool) {s : Nat} {rem : List Bool} (tail : List Bool),
    walkBits symbols cs code first index bits = some (s, rem) →
    walkBits symbols cs code first index (bits ++ tail) = some (s, rem ++ tail) := by
  intro cs code first index bits
  -- cases of `walkBits`: no level left, no bit left, symbol found, index outside the table, next level
  fun_induction walkBits symbols cs code first index bits
  · nofun
  · nofun
  · rename_i hc _ hs; intro s rem tail h; cases h; rw [List.cons_append, walkBits]; exact (if_pos hc).trans (by rw [hs])
  · nofun
  · rename_i hc ih; intro s rem tail h; rw [List.cons_append, walkBits]; exact (if_neg hc).trans (ih tail h)

theorem decodeSymAux_walk (symbols : Array Nat) : ∀ (cs : List Nat) (code first index : Nat)
    {r : BitReader} {s : Nat} {rem : List Bool},
    walkBits symbols cs code first index r.bits = some (s, rem) →
    ∃ r1, decodeSymAux symbols cs code first index r = .ok (s, r1) ∧ r1.bits = rem := by
  intro cs code first index r
  generalize hb : r.bits = bits
  fun_induction walkBits symbols cs code first index bits generalizing r
  · nofun
  · nofun
  · rename_i hc _ hs  -- symbol found
    intro s rem h; cases h
    obtain ⟨r1, h1, hb1⟩ := readBit_bits hb
    exact ⟨r1, by simp only [decodeSymAux, h1]; exact (if_pos hc).trans (by rw [hs]), hb1⟩
  · nofun
  · rename_i hc ih  -- next level
    intro s rem h
    obtain ⟨r1, h1, hb1⟩ := readBit_bits hb
    obtain ⟨r2, h2, hb2⟩ := ih hb1 h
    exact ⟨r2, by simp only [decodeSymAux, h1]; exact (if_neg hc).trans h2, hb2⟩

theorem decodeSym_bits {h : Huff} {bits : List Bool} {s : Nat}
    (hw : walkBits h.symbols h.counts 0 0 0 bits = some (s, [])) {r : BitReader} {tail : List Bool}
    (hb : r.bits = bits ++ tail) : ∃ r1, decodeSym h r = .ok (s, r1) ∧ r1.bits = tail := by
  have hw := walkBits_append h.symbols h.counts 0 0 0 _ tail hw
  rw [List.nil_append, ← hb] at hw
  exact decodeSymAux_walk _ _ _ _ _ hw

theorem bits_length (r : BitReader) : r.bits.length = r.size := by
  obtain ⟨cur, rest⟩ := r
  simp only [BitReader.bits, BitReader.size, List.length_append]
  congr 1
  induction rest with
  | nil => rfl
  | cons x rest ih => simp [List.flatMap_cons, byteBits8, ih]; omega

/-! `walkBits` on the levels `a, a+1, ..` is described by three functions of the level: `g` (number of
codes), `fst` (first code, `fst (a+1) = 2 * (fst a + g a)`) and `idx` (symbols with a shorter code).
For `mkHuff lens` these are `countLen lens`, §3.2.2's `next_code` and the offsets into `symbols`. -/

theorem msbBits_succ (n c : Nat) : msbBits (n + 1) c = c.testBit n :: msbBits n c := by
  simp only [msbBits, List.range_succ_eq_map, List.map_cons, List.map_map]
  congr 1
  apply List.map_congr_left
  intro i _
  show c.testBit (n + 1 - 1 - (i + 1)) = _
  congr 1
  omega

theorem shiftRight_testBit (c k : Nat) : 2 * (c >>> (k + 1)) + (c.testBit k).toNat = c >>> k := by
  rw [Nat.toNat_testBit, Nat.shiftRight_eq_div_pow, Nat.shiftRight_eq_div_pow, Nat.pow_succ,
    ← Nat.div_div_eq_div_mul]
  omega

section levels
variable (g fst : Nat → Nat) (hf : ∀ a, fst (a + 1) = 2 * (fst a + g a))
include hf

theorem first_mono : ∀ (j a : Nat), fst a * 2 ^ j ≤ fst (a + j)
  | 0, a => by simp
  | j + 1, a => by
    have := first_mono j a
    rw [← Nat.add_assoc, hf, Nat.pow_succ, ← Nat.mul_assoc]
    omega

/-- Reading the `k + 1` low bits of `c`, most significant first, from level `a`: the code accumulated
when a level is entered is `c` shifted right by the bits still unread; the levels before `a + k` do
not accept it, since `fst` at least doubles from level to level; level `a + k` does. -/
theorem walkBits_level (symbols : Array Nat) (idx : Nat → Nat) (hi : ∀ a, idx (a + 1) = idx a + g a)
    {c s : Nat} : ∀ (k a n : Nat), k < n → fst (a + k) ≤ c → c < fst (a + k) + g (a + k) →
    symbols[idx (a + k) + (c - fst (a + k))]? = some s →
    walkBits symbols ((List.range' a n).map g) (2 * (c >>> (k + 1))) (fst a) (idx a) (msbBits (k + 1) c) =
      some (s, []) := by
  intro k
  induction k with
  | zero =>
    intro a n hn h1 h2 hs
    obtain ⟨n, rfl⟩ : ∃ m, n = m + 1 := ⟨n - 1, by omega⟩
    simp only [Nat.add_zero] at h1 h2 hs
    simp only [List.range'_succ, List.map_cons, msbBits_succ, walkBits, shiftRight_testBit,
      Nat.shiftRight_zero]
    rw [if_pos ⟨h1, h2⟩, hs]
    rfl
  | succ k ih =>
    intro a n hn h1 h2 hs
    obtain ⟨n, rfl⟩ : ∃ m, n = m + 1 := ⟨n - 1, by omega⟩
    have e : a + (k + 1) = a + 1 + k := by omega
    rw [e] at h1 h2 hs
    have hskip : fst a + g a ≤ c >>> (k + 1) := by
      have := first_mono g fst hf k (a + 1)
      rw [hf a] at this
      rw [Nat.shiftRight_eq_div_pow, Nat.le_div_iff_mul_le (Nat.two_pow_pos _), Nat.pow_succ,
        Nat.mul_comm (2 ^ k) 2, ← Nat.mul_assoc, Nat.mul_comm _ 2]
      omega
    rw [List.range'_succ, List.map_cons, msbBits_succ (k + 1), walkBits]
    simp only [shiftRight_testBit]
    rw [if_neg (by omega), ← hf a, ← hi a]
    exact ih (a + 1) n (by omega) h1 h2 hs

/-- the Kraft budget satisfies `fst a + 2 * left = 2 ^ (a + 1)` at every level it survives, so the
codes of a level end at or below `2 ^ length` -/
theorem kraftLeft_bound : ∀ (k a n left : Nat) {r : Nat}, k < n →
    kraftLeft ((List.range' a n).map g) left = some r → fst a + 2 * left = 2 ^ (a + 1) →
    fst (a + k) + g (a + k) ≤ 2 ^ (a + k + 1) := by
  intro k
  induction k with
  | zero =>
    intro a n left r hn hk hl
    obtain ⟨n, rfl⟩ : ∃ m, n = m + 1 := ⟨n - 1, by omega⟩
    rw [List.range'_succ, List.map_cons, kraftLeft] at hk
    split at hk
    · cases hk
    · simp only [Nat.add_zero]; omega
  | succ k ih =>
    intro a n left r hn hk hl
    obtain ⟨n, rfl⟩ : ∃ m, n = m + 1 := ⟨n - 1, by omega⟩
    rw [List.range'_succ, List.map_cons, kraftLeft] at hk
    split at hk
    · cases hk
    · have e : a + (k + 1) = a + 1 + k := by omega
      rw [e]
      refine ih (a + 1) n (2 * left - g a) (by omega) hk ?_
      rw [hf a, Nat.pow_succ]
      omega

end levels

theorem countLen_cons (x l : Nat) (xs : List Nat) :
    countLen (x :: xs) l = (if x == l then 1 else 0) + countLen xs l := by
  unfold countLen
  rw [List.filter_cons]
  split <;> simp <;> omega

theorem symsOfLenAux_length (l : Nat) : ∀ (xs : List Nat) (i : Nat),
    (symsOfLenAux l xs i).length = countLen xs l
  | [], _ => rfl
  | x :: xs, i => by
    rw [symsOfLenAux, countLen_cons]
    split <;> simp [symsOfLenAux_length l xs (i + 1)] <;> omega

theorem symsOfLenAux_get (l : Nat) : ∀ (xs : List Nat) (i s : Nat), xs[s]? = some l →
    (symsOfLenAux l xs i)[countLen (xs.take s) l]? = some (i + s)
  | [], _, _, h => by simp at h
  | x :: xs, i, 0, h => by
    obtain rfl : x = l := by simpa using h
    simp [symsOfLenAux, countLen]
  | x :: xs, i, s + 1, h => by
    have ih := symsOfLenAux_get l xs (i + 1) s (by simpa using h)
    rw [List.take_succ_cons, countLen_cons, symsOfLenAux]
    split
    · rw [Nat.add_comm 1, List.getElem?_cons_succ, ih]; congr 1; omega
    · rw [Nat.zero_add, ih]; congr 1; omega

theorem flatMap_range_get {f : Nat → List Nat} {n k j : Nat} (hk : k < n) (hj : j < (f k).length) :
    ((List.range n).flatMap f)[((List.range k).flatMap f).length + j]? = (f k)[j]? := by
  have : List.range n = List.range k ++ k :: (List.range n).drop (k + 1) := by
    conv => lhs; rw [← List.take_append_drop k (List.range n)]
    rw [List.take_range, Nat.min_eq_left (Nat.le_of_lt hk), List.drop_eq_getElem_cons (by simpa using hk)]
    simp
  rw [this, List.flatMap_append, List.flatMap_cons, List.getElem?_append_right (by omega),
    Nat.add_sub_cancel_left, List.getElem?_append_left hj]

/-- The canonical walk decodes RFC 1951's code assignment: §3.2.2's `next_code` is the walk's `first`, the
Kraft budget keeps the code inside its length, and a shorter level never claims a prefix of a longer code. -/
theorem walkBits_rfcCode {lens : List Nat} {h : Huff} (hm : mkHuff lens = .ok h) {s : Nat}
    (h1 : 1 ≤ lens.getD s 0) (h15 : lens.getD s 0 ≤ 15) :
    walkBits h.symbols h.counts 0 0 0 (msbBits (lens.getD s 0) (rfcCode lens s)) = some (s, []) := by
  obtain ⟨l, hl⟩ : ∃ l, lens.getD s 0 = l + 1 := ⟨lens.getD s 0 - 1, by omega⟩
  have hs : lens[s]? = some (l + 1) := by
    rw [List.getD_eq_getElem?_getD] at hl
    cases hg : lens[s]? with
    | none => rw [hg] at hl; cases hl
    | some x => rw [hg] at hl; exact congrArg some hl
  let g := fun i => countLen lens (i + 1)
  let fst := fun a => rfcNextCode lens (a + 1)
  let idx := fun a => ((List.range a).flatMap fun i => symsOfLen lens (i + 1)).length
  have hf : ∀ a, fst (a + 1) = 2 * (fst a + g a) := fun a => by simp [fst, g, rfcNextCode]
  have hi : ∀ a, idx (a + 1) = idx a + g a := fun a => by
    simp [idx, g, List.range_succ, symsOfLen, symsOfLenAux_length]
  have hget := symsOfLenAux_get (l + 1) lens 0 s hs
  have hlt : countLen (lens.take s) (l + 1) < g l := by
    have := (List.getElem?_eq_some_iff.mp hget).1
    rwa [symsOfLenAux_length] at this
  simp only [mkHuff] at hm
  split at hm
  · cases hm
  · rename_i r hk
    injection hm with hm
    subst hm
    rw [List.range_eq_range'] at hk
    have hkraft := kraftLeft_bound g fst hf l 0 15 1 (by omega) hk (by simp [fst, rfcNextCode])
    simp only [Nat.zero_add] at hkraft
    have hc : rfcCode lens s = fst l + countLen (lens.take s) (l + 1) := by rw [rfcCode, hl]
    -- the code fits its `l + 1` bits: `fst l` plus an index below `g l` (`hc`, `hlt`), and `hkraft`
    have h0 : 2 * (rfcCode lens s >>> (l + 1)) = 0 := by
      rw [Nat.shiftRight_eq_div_pow, Nat.div_eq_of_lt (by omega)]
    have := walkBits_level g fst hf
      ((List.range 15).flatMap fun i => symsOfLen lens (i + 1)).toArray idx hi (c := rfcCode lens s) (s := s)
      l 0 15 (by omega) (by simp only [Nat.zero_add]; omega) (by simp only [Nat.zero_add]; omega)
      (by
        simp only [Nat.zero_add, hc, Nat.add_sub_cancel_left, List.getElem?_toArray]
        rw [flatMap_range_get (by omega) (by rw [symsOfLen, symsOfLenAux_length]; exact hlt)]
        simpa [symsOfLen] using hget)
    rw [h0] at this
    rw [hl]
    -- unfolding `g`, `fst`, `idx` at level 0 gives `mkHuff`'s `counts`, first code 0, symbol offset 0
    simpa [List.range_eq_range', fst, idx, rfcNextCode] using this

theorem walkBits_table {lens : List Nat} (hok : (mkHuff lens).isOk = true)
    (hall : ∀ x ∈ lens, 1 ≤ x ∧ x ≤ 15) : ∃ h, mkHuff lens = .ok h ∧ ∀ s, s < lens.length →
      walkBits h.symbols h.counts 0 0 0 (msbBits (lens.getD s 0) (rfcCode lens s)) = some (s, []) := by
  cases hm : mkHuff lens with
  | error e => rw [hm] at hok; cases hok
  | ok h =>
    refine ⟨h, rfl, fun s hs => ?_⟩
    exact walkBits_rfcCode hm (hall _ (ListFacts.getD_mem 0 hs)).1 (hall _ (ListFacts.getD_mem 0 hs)).2

theorem walkAgrees_of_mkHuff {lens : List Nat} {h : Huff} (hm : mkHuff lens = .ok h)
    (h15 : ∀ x ∈ lens, x ≤ 15) : walkAgrees lens = true := by
  unfold walkAgrees
  rw [hm]
  simp only [List.all_eq_true, List.mem_range, Bool.or_eq_true, beq_iff_eq]
  intro s hs
  by_cases h0 : lens.getD s 0 = 0
  · exact .inl h0
  · right
    have hw := walkBits_rfcCode hm (s := s) (by omega) (h15 _ (ListFacts.getD_mem 0 hs))
    obtain ⟨r1, hd, hb⟩ := decodeSym_bits hw (tail := [])
      (r := ⟨msbBits (lens.getD s 0) (rfcCode lens s), []⟩) (by simp [BitReader.bits])
    have hz : r1.size = 0 := by rw [← bits_length, hb]; rfl
    rw [hd]
    simp [hz]

theorem fixedLitLens_bounds : ∀ x ∈ fixedLitLens, 1 ≤ x ∧ x ≤ 15 := by
  intro x hx
  simp only [fixedLitLens, List.mem_append, List.mem_replicate] at hx
  omega

theorem fixedDistLens_bounds : ∀ x ∈ fixedDistLens, 1 ≤ x ∧ x ≤ 15 := by
  intro x hx
  simp only [fixedDistLens, List.mem_replicate] at hx
  omega

theorem fixedLit_walk : ∃ lit, mkHuff fixedLitLens = .ok lit ∧ ∀ s, s < 288 →
    walkBits lit.symbols lit.counts 0 0 0 (msbBits (fixedLitLens.getD s 0) (rfcCode fixedLitLens s)) =
      some (s, []) := by
  obtain ⟨lit, hm, hw⟩ := walkBits_table (lens := fixedLitLens) (by decide +kernel) fixedLitLens_bounds
  exact ⟨lit, hm, fun s hs => hw s (by simpa only [fixedLitLens, List.length_append, List.length_replicate] using hs)⟩

theorem fixedDist_walk : ∃ dist, mkHuff fixedDistLens = .ok dist ∧ ∀ s, s < 32 →
    walkBits dist.symbols dist.counts 0 0 0 (msbBits (fixedDistLens.getD s 0) (rfcCode fixedDistLens s)) =
      some (s, []) := by
  obtain ⟨dist, hm, hw⟩ := walkBits_table (lens := fixedDistLens) (by decide +kernel) fixedDistLens_bounds
  exact ⟨dist, hm, fun s hs => hw s (by simpa only [fixedDistLens, List.length_replicate] using hs)⟩

/-- the code of literal/length symbol `s` in the fixed table, as it is packed (MSB first) -/
def fixedCode (s : Nat) : List Bool := msbBits (fixedLitLens.getD s 0) (rfcCode fixedLitLens s)

/-- eight bits, least significant first, as a byte -/
def packByte (g : List Bool) : UInt8 := UInt8.ofNat (lsbVal (g.take 8))

/-- pack bits into bytes LSB-first, the last byte padded with zero bits; fuel = number of bits -/
def pack : Nat → List Bool → List UInt8
  | 0, _ => []
  | _ + 1, [] => []
  | fuel + 1, b :: bs => packByte (b :: bs) :: pack fuel ((b :: bs).drop 8)

def fixedLiteralBits (bs : List UInt8) : List Bool :=
  [true, true, false] ++ (bs.flatMap (fun b => fixedCode b.toNat) ++ fixedCode 256)

/-- REFERENCE ENCODER: one final fixed-Huffman block, literals only -/
def fixedLiterals (bs : List UInt8) : List UInt8 :=
  pack (fixedLiteralBits bs).length (fixedLiteralBits bs)

def fixedCheck : Bool :=
  match mkHuff fixedLitLens, mkHuff fixedDistLens with
  | .ok lit, .ok _ =>
    (List.range 257).all fun s => walkBits lit.symbols lit.counts 0 0 0 (fixedCode s) == some (s, [])
  | _, _ => false

theorem fixedCheck_ok : fixedCheck = true := by
  obtain ⟨lit, hl, hlit⟩ := fixedLit_walk
  obtain ⟨dist, hd, _⟩ := fixedDist_walk
  unfold fixedCheck
  rw [hl, hd]
  simp only [List.all_eq_true, List.mem_range, beq_iff_eq]
  exact fun s hs => hlit s (by omega)

theorem lsbVal_eq_fromBits : ∀ l : List Bool, lsbVal l = Bits.fromBits l
  | [] => rfl
  | b :: l => by rw [lsbVal, Bits.fromBits, lsbVal_eq_fromBits l]; cases b <;> rfl

theorem byteBits8_ofNat (n : Nat) : byteBits8 (UInt8.ofNat n) = Bits.toBits 8 n := by
  simp only [byteBits8, bitAt, ByteBits.testBit_ofNat, Nat.reduceLT, decide_true, Bool.true_and]
  simp only [Nat.testBit_succ, Nat.testBit_zero, Bits.toBits, Bool.beq_eq_decide_eq]

theorem pack_eq : ∀ (fuel : Nat) (bits : List Bool),
    pack fuel bits = (Bits.bitsToBytes fuel bits).map UInt8.ofNat
  | 0, _ => rfl
  | _ + 1, [] => rfl
  | fuel + 1, b :: bs => by
    rw [pack, Bits.bitsToBytes, pack_eq fuel, packByte, lsbVal_eq_fromBits]; rfl

theorem pack_bits : ∀ (fuel : Nat) (bits : List Bool), bits.length ≤ fuel →
    ∃ pad, (pack fuel bits).flatMap byteBits8 = bits ++ pad := by
  intro fuel bits h
  obtain ⟨pad, hp⟩ := Bits.bytes_bits fuel bits h
  refine ⟨pad, ?_⟩
  rw [pack_eq, List.flatMap_map, ← hp, Bits.bytesToBits, List.flatMap_def]
  simp only [byteBits8_ofNat]

theorem codes_literals (lit dist : Huff)
    (hlit : ∀ s, s < 257 → walkBits lit.symbols lit.counts 0 0 0 (fixedCode s) = some (s, [])) :
    ∀ (bs : List UInt8) (fuel : Nat) (r : BitReader) (out : Array UInt8) (tail : List Bool),
    bs.length < fuel → r.bits = bs.flatMap (fun b => fixedCode b.toNat) ++ fixedCode 256 ++ tail →
    ∃ r1, codes lit dist fuel r out = .ok (r1, out ++ bs.toArray) ∧ r1.bits = tail := by
  intro bs
  induction bs with
  | nil =>
    intro fuel r out tail hf hb
    obtain ⟨f, rfl⟩ : ∃ f, fuel = f + 1 := ⟨fuel - 1, by simp only [List.length_nil] at hf; omega⟩
    simp only [List.flatMap_nil, List.nil_append] at hb
    obtain ⟨r1, h1, hb1⟩ := decodeSym_bits (hlit 256 (by omega)) hb
    refine ⟨r1, ?_, hb1⟩
    rw [codes_succ]
    simp [h1]
  | cons b bs ih =>
    intro fuel r out tail hf hb
    obtain ⟨f, rfl⟩ : ∃ f, fuel = f + 1 := ⟨fuel - 1, by simp only [List.length_cons] at hf; omega⟩
    have hlt : b.toNat < 256 := b.toNat_lt
    simp only [List.flatMap_cons, List.append_assoc] at hb
    obtain ⟨r1, hd, hb1⟩ := decodeSym_bits (hlit b.toNat (by omega)) hb
    obtain ⟨r2, h2, hb2⟩ := ih f r1 (out.push b) tail (by simp only [List.length_cons] at hf; omega)
      (by rw [hb1]; simp only [List.append_assoc])
    refine ⟨r2, ?_, hb2⟩
    rw [codes_succ]
    simp only [hd, hlt, ↓reduceIte, UInt8.ofNat_toNat, h2]
    simp

end PqModel.Spec.Inflate
