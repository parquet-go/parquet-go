/-! SPEC side: a decompressor for the Snappy *block* format, written from the format description
    (`format_description.txt` of the Snappy project) only; no knowledge of any Go package.

    A block is `<uvarint: uncompressed length> <element>*`. The two low bits of an element's tag
    byte select its kind:
    * `00` literal: the upper six bits hold `len - 1`; the values 60..63 mean that `len - 1` is in
      the following 1..4 bytes, little endian; then `len` bytes follow verbatim;
    * `01` copy, 1-byte offset: `len = 4 + ((tag >> 2) & 7)`, `offset = ((tag >> 5) << 8) | next byte`;
    * `10` copy, 2-byte offset: `len = (tag >> 2) + 1`, offset = the next two bytes, little endian;
    * `11` copy, 4-byte offset: `len = (tag >> 2) + 1`, offset = the next four bytes, little endian.
    A copy appends `len` bytes starting `offset` bytes before the end of the output produced so
    far; source and destination may overlap (`offset < len`), which the byte-by-byte reading below
    gives its run-length meaning. Malformed: offset 0, offset beyond what has been produced, output
    different from the announced length, input cut short.

    Everything is total: the element loop runs on fuel (every element consumes at least its tag
    byte, so `input length + 1` suffices), the copy loop on the copy length. The output is a
    `ByteArray` accumulator that is only ever pushed to, so the compiled code runs in place.
    C20's theorems are about `BlockCodecs.snappyDec` (on lists); no lemma relates the two. -/
namespace PqModel.Spec.Snappy

/-- little-endian number in `d[off, off+n)` (bytes past the end read as 0; callers check bounds) -/
def leAt (d : ByteArray) (off : Nat) : Nat → Nat
  | 0 => 0
  | n + 1 => (d.get! off).toNat + 256 * leAt d (off + 1) n

/-- ULEB128 at `pos`, at most `fuel` bytes, not reading at or past `stop` -/
def uvarintAt (d : ByteArray) (stop : Nat) : Nat → Nat → Nat → Nat → Option (Nat × Nat)
  | 0, _, _, _ => none
  | fuel + 1, pos, shift, acc =>
    if pos ≥ stop then none else
    let b := (d.get! pos).toNat
    let acc := acc + ((b % 128) <<< shift)
    if b < 128 then some (acc, pos + 1) else uvarintAt d stop fuel (pos + 1) (shift + 7) acc

/-- append `n` bytes, each taken `off` bytes before the current end (overlap allowed) -/
def copyBack (off : Nat) : Nat → ByteArray → ByteArray
  | 0, out => out
  | n + 1, out => copyBack off n (out.push (out.get! (out.size - off)))

/-- append `d[from, from+n)` -/
def copyLit (d : ByteArray) : Nat → Nat → ByteArray → ByteArray
  | 0, _, out => out
  | n + 1, pos, out => copyLit d n (pos + 1) (out.push (d.get! pos))

/-- the element loop over `d[pos, stop)`; `want` is the announced length -/
def elements (d : ByteArray) (stop want : Nat) : Nat → Nat → ByteArray → Except String ByteArray
  | 0, _, _ => .error "fuel"
  | fuel + 1, pos, out =>
    if pos ≥ stop then
      if out.size == want then .ok out
      else .error s!"output of {out.size} bytes differs from the announced length {want}"
    else
      let tag := (d.get! pos).toNat
      let kind := tag % 4
      if kind == 0 then
        let l := tag / 4
        let nb := if l < 60 then 0 else l - 59
        if pos + 1 + nb > stop then .error "truncated literal length" else
        let len := if l < 60 then l + 1 else leAt d (pos + 1) nb + 1
        let src := pos + 1 + nb
        if src + len > stop then .error "truncated literal" else
        if out.size + len > want then .error "output exceeds the announced length" else
        elements d stop want fuel (src + len) (copyLit d len src out)
      else
        let nb := if kind == 1 then 1 else if kind == 2 then 2 else 4
        if pos + 1 + nb > stop then .error "truncated copy" else
        let len := if kind == 1 then 4 + (tag / 4) % 8 else tag / 4 + 1
        let off := if kind == 1 then (tag / 32) * 256 + (d.get! (pos + 1)).toNat else leAt d (pos + 1) nb
        if off == 0 then .error "copy with offset 0" else
        if off > out.size then .error "copy offset reaches before the start of the output" else
        if out.size + len > want then .error "output exceeds the announced length" else
        elements d stop want fuel (pos + 1 + nb) (copyBack off len out)

/-- SPEC: decompress the Snappy block stored in `d[start, stop)`. -/
def decodeRange (d : ByteArray) (start stop : Nat) : Except String ByteArray :=
  if stop > d.size || start > stop then .error "block outside the input" else
  match uvarintAt d stop 10 start 0 0 with
  | none => .error "truncated length preamble"
  | some (want, pos) =>
    if want ≥ 4294967296 then .error "announced length does not fit 32 bits" else
    elements d stop want (stop - pos + 1) pos (ByteArray.emptyWithCapacity (min want 16777216))  -- capacity hint

/-- SPEC: decompress a whole block. -/
def decode (d : ByteArray) : Except String ByteArray := decodeRange d 0 d.size

end PqModel.Spec.Snappy
