import PqModel.Spec.FileCheck

/-! Spec side of C02, statistics derived from the decoded data. Everything the format defines as
    a function of the (value, repetition level, definition level) entries of a page or chunk is
    recomputed here from what the spec reader (`Spec.FileCheck`) decodes and compared with what
    the file announces (parquet.thrift field ids):

    * `ColumnMetaData.size_statistics` (16): `unencoded_byte_array_data_bytes` (1) = sum of the
      lengths of the non-null BYTE_ARRAY values of the chunk, without length prefixes;
      `repetition_level_histogram` (2) / `definition_level_histogram` (3): entry `l` = number of
      entries of the chunk whose level is `l`, `max level + 1` entries;
    * `OffsetIndex.unencoded_byte_array_data_bytes` (2): the same sum, one per data page;
    * `ColumnIndex.repetition_level_histograms` (6) / `definition_level_histograms` (7): the page
      histograms one after the other; `null_pages` (1): the page holds no non-null value;
    * `Statistics.null_count` (3) and `distinct_count` (4) of the chunk (`ColumnMetaData` 12) and
      of every data page header (`DataPageHeader` 5, `DataPageHeaderV2` 8).

    An optional field that is absent announces nothing, with one exception: a `size_statistics`
    struct that IS present on a BYTE_ARRAY column whose values hold bytes must carry the byte
    count (thrift readers that default a missing i64 to 0 would otherwise be told "0 bytes").
    All of this is SPEC (written from parquet.thrift), except the MIRROR `dictBranchSize` at the end. -/
namespace PqModel.Spec.SizeStats
open PqModel.Spec PqModel.Layout

/-- SPEC `unencoded_byte_array_data_bytes`: the sum of the lengths of the non-null byte-array
    values (what PLAIN would store, minus the 4-byte length prefixes) -/
def unencodedBytes : List Value → Nat
  | [] => 0
  | v :: vs => v.length + unencodedBytes vs

/-- number of entries of `levels` equal to `l` -/
def countLevel (l : Nat) : List Nat → Nat
  | [] => 0
  | x :: xs => (if x == l then 1 else 0) + countLevel l xs

/-- SPEC level histogram: `maxLevel + 1` entries, entry `l` counts the levels equal to `l` -/
def levelHistogram (maxLevel : Nat) (levels : List Nat) : List Nat :=
  (List.range (maxLevel + 1)).map fun l => countLevel l levels

/-- the bytes the non-null values of a Dremel stream hold -/
def streamBytes : List Triple → Nat
  | [] => 0
  | t :: ts => (match t.val with | some v => v.length | none => 0) + streamBytes ts

/-- the entries of a chunk, as `dumpChunk` builds them (reversed, in front of `acc`) -/
def chunkStream (maxDef : Nat) (pds : List PageData) (acc : List Triple) : List Triple :=
  pds.foldl (fun acc pd => zipTriples maxDef pd.reps pd.defs pd.vals acc) acc

structure StatReport where
  problems : List String := []
  chunks : Nat := 0           -- chunks whose statistics were recomputed from decoded pages
  skipped : Nat := 0          -- chunks not (fully) value-decoded: nothing to compare with
  byteArray : Nat := 0        -- recomputed chunks of BYTE_ARRAY columns
  unencoded : Nat := 0        -- chunks announcing unencoded_byte_array_data_bytes
  runs : Nat := 0             -- BYTE_ARRAY chunks with dictionary-encoded pages holding two adjacent equal non-empty values
  hists : Nat := 0            -- level histograms compared (chunk level)
  nullCounts : Nat := 0       -- Statistics.null_count fields compared (chunk + pages)
  distinct : Nat := 0         -- distinct_count fields compared
  pageLists : Nat := 0        -- per-page lists compared (offset index bytes, column index histograms, null_pages)

def StatReport.add (r : StatReport) (cond : Bool) (msg : String) : StatReport :=
  if cond then r else { r with problems := msg :: r.problems }

def natList (v : Option TVal) : List Nat := (TVal.listD v).map fun x => TVal.nat (some x)

def hasAdjacentEqual : List Value → Bool
  | a :: b :: rest => (a == b && !a.isEmpty) || hasAdjacentEqual (b :: rest)
  | _ => false

/-- the Statistics struct of a data page header, read again at the page's offset -/
def pageStatistics (d : ByteArray) (p : PageInfo) : Option TVal :=
  match readStruct d p.offset with
  | .error _ => none
  | .ok (h, _) =>
    if p.ptype == 0 then (h.field? 5).bind (·.field? 5)
    else if p.ptype == 3 then (h.field? 8).bind (·.field? 8)
    else none

/-- the clauses of one Statistics struct against the entries it describes -/
def statisticsClauses (tag what : String) (st : Option TVal) (nulls : Nat) (vals : List Value) (r : StatReport) : StatReport :=
  let r := match TVal.int? (st.bind (·.field? 3)) with
    | some n => { r.add (n == Int.ofNat nulls) s!"{tag}: {what} statistics null_count {n} but {nulls} definition levels are below the maximum" with nullCounts := r.nullCounts + 1 }
    | none => r
  match TVal.int? (st.bind (·.field? 4)) with
  | some n =>
    let dc := vals.eraseDups.length
    { r.add (n == Int.ofNat dc) s!"{tag}: {what} statistics distinct_count {n} but the values decode to {dc} distinct ones" with distinct := r.distinct + 1 }
  | none => r

def checkChunkStats (d : ByteArray) (rgi ci : Nat) (leaf : Leaf) (c : TVal) (r : StatReport) : StatReport :=
  let tag := s!"rg{rgi}/col{ci}"
  match c.field? 3 with
  | none => r
  | some m =>
    let codec := TVal.nat (m.field? 4)
    if !valueCodec codec then { r with skipped := r.skipped + 1 } else
    let dataOff := TVal.nat (m.field? 9)
    let totalComp := TVal.nat (m.field? 7)
    let first := match TVal.int? (m.field? 11) with
      | some o => if o.toNat > 0 && o.toNat < dataOff then o.toNat else dataOff
      | none => dataOff
    if first + totalComp > d.size then { r with skipped := r.skipped + 1 } else
    match walkPages d false (totalComp + 2) first (first + totalComp) [] with
    | .error _ => { r with skipped := r.skipped + 1 }
    | .ok pages =>
      let cd := decodeChunkPages d leaf codec pages
      let datas := pages.filter (fun p => !p.op.isDict)
      let pds := cd.datas.filterMap id
      -- undecodable / capped pages are the business of `checkFile`; here: nothing to compare with
      if !cd.problems.isEmpty || cd.capped > 0 || pds.length != datas.length then { r with skipped := r.skipped + 1 } else
      let isBA := leaf.ptype == 6
      let pageBytes := pds.map (fun pd => unencodedBytes pd.vals)
      let total := pageBytes.sum
      let allReps := pds.flatMap (·.reps)
      let allDefs := pds.flatMap (·.defs)
      let nulls := (pds.map (·.nulls)).sum
      let dictRuns := isBA && (List.zip datas pds).any (fun (p, pd) => (p.encoding == 2 || p.encoding == 8) && hasAdjacentEqual pd.vals)
      let r := { r with chunks := r.chunks + 1, byteArray := r.byteArray + (if isBA then 1 else 0), runs := r.runs + (if dictRuns then 1 else 0) }
      -- size_statistics of the chunk
      let ss := m.field? 16
      let r := match TVal.int? (ss.bind (·.field? 1)) with
        | some n =>
          let r := { r with unencoded := r.unencoded + 1 }
          if isBA then r.add (n == Int.ofNat total) s!"{tag}: size_statistics unencoded_byte_array_data_bytes {n} but the non-null values hold {total} bytes"
          else r.add (n == 0) s!"{tag}: size_statistics unencoded_byte_array_data_bytes {n} on a column that is not BYTE_ARRAY"
        | none => r.add (!(isBA && ss.isSome && total > 0)) s!"{tag}: size_statistics present without unencoded_byte_array_data_bytes, the non-null values hold {total} bytes"
      let rh := natList (ss.bind (·.field? 2))
      let r := if rh.isEmpty then r else
        { r.add (rh == levelHistogram leaf.maxRep allReps) s!"{tag}: size_statistics repetition_level_histogram {rh} but the decoded levels count {levelHistogram leaf.maxRep allReps}" with hists := r.hists + 1 }
      let dh := natList (ss.bind (·.field? 3))
      let r := if dh.isEmpty then r else
        { r.add (dh == levelHistogram leaf.maxDef allDefs) s!"{tag}: size_statistics definition_level_histogram {dh} but the decoded levels count {levelHistogram leaf.maxDef allDefs}" with hists := r.hists + 1 }
      -- Statistics of the chunk and of every data page
      let r := statisticsClauses tag "chunk" (m.field? 12) nulls (pds.flatMap (·.vals)) r
      let r := (List.zip datas pds).foldl (fun (r : StatReport) (p, pd) =>
        statisticsClauses tag "data page" (pageStatistics d p) pd.nulls pd.vals r) r
      -- offset index: unencoded_byte_array_data_bytes per page
      let oiOff := TVal.nat (c.field? 4)
      let r := if oiOff == 0 then r else
        match readStruct d oiOff with
        | .error _ => r
        | .ok (oi, _) =>
          let ub := natList (oi.field? 2)
          if ub.isEmpty then r else
          { r.add (ub == (if isBA then pageBytes else pageBytes.map fun _ => 0))
              s!"{tag}: offset index unencoded_byte_array_data_bytes {ub} but the non-null values of the pages hold {pageBytes} bytes" with pageLists := r.pageLists + 1 }
      -- column index: level histograms per page, null_pages
      let ciOff := TVal.nat (c.field? 6)
      if ciOff == 0 then r else
      match readStruct d ciOff with
      | .error _ => r
      | .ok (cix, _) =>
        let rhs := natList (cix.field? 6)
        let wantR := pds.flatMap (fun pd => levelHistogram leaf.maxRep pd.reps)
        let r := if rhs.isEmpty then r else
          { r.add (rhs == wantR) s!"{tag}: column index repetition_level_histograms {rhs} but the decoded levels of the pages count {wantR}" with pageLists := r.pageLists + 1 }
        let dhs := natList (cix.field? 7)
        let wantD := pds.flatMap (fun pd => levelHistogram leaf.maxDef pd.defs)
        let r := if dhs.isEmpty then r else
          { r.add (dhs == wantD) s!"{tag}: column index definition_level_histograms {dhs} but the decoded levels of the pages count {wantD}" with pageLists := r.pageLists + 1 }
        let nps := (TVal.listD (cix.field? 1)).map fun x => match x with | .bool b => b | _ => false
        if nps.length != pds.length then r else
        let wantN := pds.map (fun pd => pd.vals.isEmpty)
        -- a page without any entry is neither: skip the clause for such chunks
        if pds.any (fun pd => pd.defs.isEmpty) then r else
        { r.add (nps == wantN) s!"{tag}: column index null_pages {nps} but the pages without non-null value are {wantN}" with pageLists := r.pageLists + 1 }

def checkChunksStats (d : ByteArray) (rgi : Nat) : List Leaf → List TVal → Nat → StatReport → StatReport
  | leaf :: ls, c :: cs, ci, r => checkChunksStats d rgi ls cs (ci + 1) (checkChunkStats d rgi ci leaf c r)
  | _, _, _, r => r

def checkRowGroupsStats (d : ByteArray) (leaves : List Leaf) : List TVal → Nat → StatReport → StatReport
  | [], _, r => r
  | rg :: rgs, i, r => checkRowGroupsStats d leaves rgs (i + 1) (checkChunksStats d i leaves (TVal.listD (rg.field? 1)) 0 r)

/-- the statistics clauses of a whole file -/
def checkFileStats (d : ByteArray) : Except String StatReport :=
  let n := d.size
  if n < 12 then .error "file shorter than 12 bytes" else
  if d.extract 0 4 != "PAR1".toUTF8 then .error "missing leading magic" else
  if d.extract (n - 4) n != "PAR1".toUTF8 then .error "missing trailing magic" else
  let flen := le d (n - 8) 4
  if flen + 12 > n then .error "footer length exceeds file" else
  match readStruct d (n - 8 - flen) with
  | .error e => .error s!"footer: {e}"
  | .ok (md, _) =>
    match TVal.listD (md.field? 2) with
    | [] => .error "empty schema"
    | root :: elems =>
      match schemaLeaves (elems.length + 2) elems (TVal.nat (root.field? 5)) [] 0 0 with
      | .error e => .error e
      | .ok (leaves, _) => .ok (checkRowGroupsStats d leaves (TVal.listD (md.field? 4)) 0 {})

def StatReport.summary (r : StatReport) : String :=
  s!"chunks={r.chunks} skipped={r.skipped} bytearray={r.byteArray} unencoded={r.unencoded} dictruns={r.runs} hists={r.hists} nullcounts={r.nullCounts} distinct={r.distinct} pagelists={r.pageLists}"

/-! ## the function the writer computes the byte count with, dictionary branch -/

/-- MIRROR of `computeUnencodedByteArraySize`, dictionary branch (writer_statistics.go:19-24):
    `for _, index := range values.Int32() { size += len(dict.Index(index).byteArray()) }`.
    `runCache = true` is the variant with a last-index cache that adds the size only when the
    index changes (the slipped change of seed C02-7a); `false` is the code as it is. An index
    outside the dictionary (a panic in Go) contributes nothing here. -/
def dictBranchSize (runCache : Bool) (dict : Array Value) : List Nat → Option Nat → Nat → Nat
  | [], _, size => size
  | i :: is, last, size =>
    if runCache && last == some i then dictBranchSize runCache dict is last size
    else dictBranchSize runCache dict is (some i) (size + (dict[i]?.getD []).length)

end PqModel.Spec.SizeStats
