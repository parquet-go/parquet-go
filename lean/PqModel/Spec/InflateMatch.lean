import PqModel.Spec.InflateFixed

/-! SPEC side (C20): fixed-Huffman blocks WITH length/distance pairs. The reader is proved on
TOKENS (`inflate_fixedBlock`: every writable token list, so every length and distance symbol, every
value of the extra bits, overlapping copies); a greedy LZ77 matcher that checks each reference
before emitting it gives a reference encoder `deflateFixed` with `inflate ∘ deflateFixed w = id`. -/
namespace PqModel.Spec.Inflate
open PqModel.Spec.BlockCodecs (copyBack)

theorem copyBack_size (d : Nat) : ∀ (n : Nat) (out : Array UInt8), (copyBack d n out).size = out.size + n :=
  PqModel.Spec.BlockCodecs.size_copyBack d

theorem copyBack_prefix (d : Nat) : ∀ (n : Nat) (out : Array UInt8) (i : Nat), i < out.size →
    (copyBack d n out)[i]? = out[i]? :=
  PqModel.Spec.BlockCodecs.getElem?_copyBack_of_lt d

/-- RFC 1951 §3.2.3 "move backward distance bytes in the output stream, and copy length bytes from
this position": every byte a reference appends equals the byte `d` positions before it IN THE
RESULT — also when `d < n` and the source runs into the copy itself. -/
theorem copyBack_get (d : Nat) (hd : 0 < d) : ∀ (n : Nat) (out : Array UInt8) (i : Nat),
    d ≤ out.size → out.size ≤ i → i < out.size + n →
    (copyBack d n out)[i]? = (copyBack d n out)[i - d]? :=
  fun n => PqModel.Spec.BlockCodecs.getElem?_copyBack d n

inductive Tok
  | lit (b : UInt8)
  /-- length symbol 257+`ls` with extra bits `lx`, distance symbol `ds` with extra bits `dx` -/
  | ref (ls lx ds dx : Nat)
  deriving DecidableEq

def Tok.len : Tok → Nat
  | .lit _ => 1
  | .ref ls lx _ _ => lenBase.getD ls 0 + lx

def Tok.dist : Tok → Nat
  | .lit _ => 0
  | .ref _ _ ds dx => distBase.getD ds 0 + dx

/-- a token that can be written and read when `n` bytes have been produced -/
def tokOk (n : Nat) : Tok → Bool
  | .lit _ => true
  | .ref ls lx ds dx =>
    decide (ls < 29) && decide (lx < 2 ^ lenExtra.getD ls 0) && decide (ds < 30) &&
      decide (dx < 2 ^ distExtra.getD ds 0) && decide (distBase.getD ds 0 + dx ≤ n)

def applyTok (out : Array UInt8) : Tok → Array UInt8
  | .lit b => out.push b
  | .ref ls lx ds dx => copyBack (distBase.getD ds 0 + dx) (lenBase.getD ls 0 + lx) out

def applyToks : List Tok → Array UInt8 → Array UInt8
  | [], out => out
  | t :: ts, out => applyToks ts (applyTok out t)

def toksOk : List Tok → Array UInt8 → Bool
  | [], _ => true
  | t :: ts, out => tokOk out.size t && toksOk ts (applyTok out t)

/-- `n` bits of `v`, least significant first (§3.1.1: extra bits are "data elements other than
Huffman codes") -/
def lsbBits : Nat → Nat → List Bool
  | 0, _ => []
  | n + 1, v => (v % 2 == 1) :: lsbBits n (v / 2)

/-- the code of distance symbol `s` in the fixed table (5 bits, §3.2.6), MSB first -/
def distCode (s : Nat) : List Bool := msbBits (fixedDistLens.getD s 0) (rfcCode fixedDistLens s)

def tokBits : Tok → List Bool
  | .lit b => fixedCode b.toNat
  | .ref ls lx ds dx =>
    fixedCode (257 + ls) ++ (lsbBits (lenExtra.getD ls 0) lx ++
      (distCode ds ++ lsbBits (distExtra.getD ds 0) dx))

def fixedBlockBits (toks : List Tok) : List Bool :=
  [true, true, false] ++ (toks.flatMap tokBits ++ fixedCode 256)

/-- REFERENCE ENCODER, token level: one final fixed-Huffman block -/
def fixedBlock (toks : List Tok) : List UInt8 :=
  pack (fixedBlockBits toks).length (fixedBlockBits toks)

def fixedCheck2 : Bool :=
  match mkHuff fixedLitLens, mkHuff fixedDistLens with
  | .ok lit, .ok dist =>
    ((List.range 286).all fun s => walkBits lit.symbols lit.counts 0 0 0 (fixedCode s) == some (s, [])) &&
    ((List.range 30).all fun s => walkBits dist.symbols dist.counts 0 0 0 (distCode s) == some (s, []))
  | _, _ => false

theorem fixedCheck2_ok : fixedCheck2 = true := by
  obtain ⟨lit, hl, hlit⟩ := fixedLit_walk
  obtain ⟨dist, hd, hdist⟩ := fixedDist_walk
  unfold fixedCheck2
  rw [hl, hd]
  simp only [Bool.and_eq_true, List.all_eq_true, List.mem_range, beq_iff_eq]
  exact ⟨fun s hs => hlit s (by omega), fun s hs => hdist s (by omega)⟩

theorem lsbBits_eq_toBits : ∀ (n v : Nat), lsbBits n v = Bits.toBits n v
  | 0, _ => rfl
  | n + 1, v => congrArg _ (lsbBits_eq_toBits n (v / 2))

theorem readBits_lsbBits {n v : Nat} (hv : v < 2 ^ n) {r : BitReader} {tail : List Bool}
    (h : r.bits = lsbBits n v ++ tail) : ∃ r1, readBits n r = .ok (v, r1) ∧ r1.bits = tail := by
  obtain ⟨r1, h1, hb1⟩ := readBits_bits (lsbBits n v) h
  rw [lsbVal_eq_fromBits, lsbBits_eq_toBits, Bits.toBits_length, Bits.fromBits_toBits n v hv] at h1
  exact ⟨r1, h1, hb1⟩

theorem lenBase_length : lenBase.length = 29 := rfl
theorem lenExtra_length : lenExtra.length = 29 := rfl
theorem distBase_length : distBase.length = 30 := rfl
theorem distExtra_length : distExtra.length = 30 := rfl

theorem copyStep_ref (dist : Huff)
    (hdist : ∀ s, s < 30 → walkBits dist.symbols dist.counts 0 0 0 (distCode s) = some (s, []))
    {ls lx ds dx : Nat} {r : BitReader} {out : Array UInt8} {tail : List Bool}
    (hok : tokOk out.size (.ref ls lx ds dx) = true)
    (hb : r.bits = lsbBits (lenExtra.getD ls 0) lx ++
      (distCode ds ++ (lsbBits (distExtra.getD ds 0) dx ++ tail))) :
    ∃ r3, copyStep dist (257 + ls) r out = .ok (r3, applyTok out (.ref ls lx ds dx)) ∧ r3.bits = tail := by
  simp only [tokOk, Bool.and_eq_true, decide_eq_true_eq] at hok
  obtain ⟨⟨⟨⟨hls, hlx⟩, hds⟩, hdx⟩, hfit⟩ := hok
  obtain ⟨r1, h1, hb1⟩ := readBits_lsbBits hlx hb
  obtain ⟨r2, h2', hb2⟩ := decodeSym_bits (hdist ds hds) hb1
  obtain ⟨r3, h3, hb3⟩ := readBits_lsbBits hdx hb2
  refine ⟨r3, ?_, hb3⟩
  have e : 257 + ls - 257 = ls := by omega
  have hl1 : lenBase[ls]? = some (lenBase.getD ls 0) := ListFacts.getElem?_getD 0 (lenBase_length ▸ hls)
  have hl2 : lenExtra[ls]? = some (lenExtra.getD ls 0) := ListFacts.getElem?_getD 0 (lenExtra_length ▸ hls)
  have hd1 : distBase[ds]? = some (distBase.getD ds 0) := ListFacts.getElem?_getD 0 (distBase_length ▸ hds)
  have hd2 : distExtra[ds]? = some (distExtra.getD ds 0) := ListFacts.getElem?_getD 0 (distExtra_length ▸ hds)
  unfold copyStep
  rw [e]
  simp only [hl1, hl2, h1, h2', hd1, hd2, h3]
  rw [if_pos hfit]
  rfl

/-- every token takes at least one bit: its literal/length code has 7 to 9 -/
theorem tokBits_pos (t : Tok) (n : Nat) (hok : tokOk n t = true) : 1 ≤ (tokBits t).length := by
  have key : ∀ s, s < 288 → 1 ≤ (fixedCode s).length := by
    intro s hs
    have hlen : fixedLitLens.length = 288 := by
      simp only [fixedLitLens, List.length_append, List.length_replicate]
    have := (fixedLitLens_bounds _ (ListFacts.getD_mem 0 (hlen ▸ hs))).1
    simpa [fixedCode, msbBits] using this
  cases t with
  | lit b =>
    have hlt : b.toNat < 256 := b.toNat_lt
    exact key _ (by omega)
  | ref ls lx ds dx =>
    simp only [tokOk, Bool.and_eq_true, decide_eq_true_eq] at hok
    have := key (257 + ls) (by omega)
    simp only [tokBits, List.length_append]; omega

theorem toks_length_le_bits : ∀ (ts : List Tok) (out : Array UInt8), toksOk ts out = true →
    ts.length ≤ (ts.flatMap tokBits).length := by
  intro ts
  induction ts with
  | nil => intro _ _; simp
  | cons t ts ih =>
    intro out h
    simp only [toksOk, Bool.and_eq_true] at h
    have := tokBits_pos t out.size h.1
    have := ih _ h.2
    simp only [List.flatMap_cons, List.length_append, List.length_cons]; omega

theorem codes_toks (lit dist : Huff)
    (hlit : ∀ s, s < 286 → walkBits lit.symbols lit.counts 0 0 0 (fixedCode s) = some (s, []))
    (hdist : ∀ s, s < 30 → walkBits dist.symbols dist.counts 0 0 0 (distCode s) = some (s, [])) :
    ∀ (toks : List Tok) (fuel : Nat) (r : BitReader) (out : Array UInt8) (tail : List Bool),
    toks.length < fuel → toksOk toks out = true →
    r.bits = toks.flatMap tokBits ++ fixedCode 256 ++ tail →
    ∃ r1, codes lit dist fuel r out = .ok (r1, applyToks toks out) ∧ r1.bits = tail := by
  intro toks
  induction toks with
  | nil =>
    intro fuel r out tail hf _ hb
    obtain ⟨f, rfl⟩ : ∃ f, fuel = f + 1 := ⟨fuel - 1, by simp only [List.length_nil] at hf; omega⟩
    simp only [List.flatMap_nil, List.nil_append] at hb
    obtain ⟨r1, h1, hb1⟩ := decodeSym_bits (hlit 256 (by omega)) hb
    refine ⟨r1, ?_, hb1⟩
    rw [codes_succ]
    simp [h1, applyToks]
  | cons t ts ih =>
    intro fuel r out tail hf hok hb
    obtain ⟨f, rfl⟩ : ∃ f, fuel = f + 1 := ⟨fuel - 1, by simp only [List.length_cons] at hf; omega⟩
    simp only [toksOk, Bool.and_eq_true] at hok
    obtain ⟨hok1, hok2⟩ := hok
    have hf' : ts.length < f := by simp only [List.length_cons] at hf; omega
    cases t with
    | lit b =>
      have hlt : b.toNat < 256 := b.toNat_lt
      simp only [List.flatMap_cons, tokBits, List.append_assoc] at hb
      obtain ⟨r1, hd, hb1⟩ := decodeSym_bits (hlit b.toNat (by omega)) hb
      obtain ⟨r2, h2, hb2⟩ := ih f r1 (out.push b) tail hf' hok2
        (by rw [hb1]; simp only [List.append_assoc])
      refine ⟨r2, ?_, hb2⟩
      rw [codes_succ]
      simp only [hd, hlt, ↓reduceIte, UInt8.ofNat_toNat, h2, applyToks, applyTok]
    | ref ls lx ds dx =>
      have hls : ls < 29 := by
        simp only [tokOk, Bool.and_eq_true, decide_eq_true_eq] at hok1; exact hok1.1.1.1.1
      simp only [List.flatMap_cons, tokBits, List.append_assoc] at hb
      obtain ⟨r1, hd, hb1⟩ := decodeSym_bits (hlit (257 + ls) (by omega)) hb
      obtain ⟨r2, h2, hb2⟩ := copyStep_ref dist hdist hok1 hb1
      obtain ⟨r3, h3, hb3⟩ := ih f r2 _ tail hf' hok2 (by rw [hb2]; simp only [List.append_assoc])
      refine ⟨r3, ?_, hb3⟩
      rw [codes_succ]
      have n1 : ¬ (257 + ls < 256) := by omega
      have n2 : ¬ (257 + ls = 256) := by omega
      simp only [hd, n1, n2, ↓reduceIte, h2, h3, applyToks]

theorem inflate_fixedBlock (toks : List Tok) (hok : toksOk toks #[] = true) :
    inflate (fixedBlock toks) = .ok (applyToks toks #[]).toList := by
  obtain ⟨lit, hl, hlit⟩ := fixedLit_walk
  obtain ⟨dist, hd, hdist⟩ := fixedDist_walk
  have hlit : ∀ s, s < 286 → walkBits lit.symbols lit.counts 0 0 0 (fixedCode s) = some (s, []) :=
    fun s hs => hlit s (by omega)
  have hdist : ∀ s, s < 30 → walkBits dist.symbols dist.counts 0 0 0 (distCode s) = some (s, []) :=
    fun s hs => hdist s (by omega)
  obtain ⟨pad, hp⟩ := pack_bits (fixedBlockBits toks).length (fixedBlockBits toks) (Nat.le_refl _)
  have hb0 : (⟨[], fixedBlock toks⟩ : BitReader).bits =
      true :: ([true, false] ++ (toks.flatMap tokBits ++ fixedCode 256 ++ pad)) := by
    show ([] : List Bool) ++ (fixedBlock toks).flatMap byteBits8 = _
    unfold fixedBlock
    rw [hp]
    simp [fixedBlockBits]
  obtain ⟨r1, h1, hb1⟩ := readBit_bits hb0
  obtain ⟨r2, h2, hb2⟩ := readBits_bits [true, false] hb1
  have hsz : toks.length < r2.size + 1 := by
    have := bits_length r2
    rw [hb2] at this
    simp only [List.length_append] at this
    have := toks_length_le_bits toks #[] hok
    omega
  obtain ⟨r3, h3, _⟩ := codes_toks lit dist hlit hdist toks (r2.size + 1) r2 #[] pad hsz hok hb2
  have hblock : block 1 r2 #[] = .ok (r3, applyToks toks #[]) := by
    simp only [block, hl, hd]
    simpa using h3
  have h2' : readBits 2 r1 = .ok (1, r2) := by simpa [lsbVal] using h2
  unfold inflate inflateRaw
  simp only [blocks, h1, h2', hblock, ↓reduceIte]

/-- index of the last base ≤ `v` -/
def baseIdx (base : List Nat) (v : Nat) : Nat := (base.filter (· ≤ v)).length - 1

/-- the reference (length, distance) in symbols and extra bits -/
def mkRef (len dist : Nat) : Tok :=
  .ref (baseIdx lenBase len) (len - lenBase.getD (baseIdx lenBase len) 0)
    (baseIdx distBase dist) (dist - distBase.getD (baseIdx distBase dist) 0)

def commonPrefix : List UInt8 → List UInt8 → Nat
  | a :: as, b :: bs => if a = b then commonPrefix as bs + 1 else 0
  | _, _ => 0

/-- how many of the next bytes a reference at distance `d` would reproduce (at most 258): the
source is the history continued by the copy itself, so `d` smaller than the result is fine -/
def matchLen (hist : Array UInt8) (rest : List UInt8) (d : Nat) : Nat :=
  commonPrefix ((copyBack d (min 258 rest.length) hist).toList.drop hist.size) rest

/-- best (length, distance) over distances `d, d-1, .., 1`: longest, ties to the nearest -/
def bestMatch (hist : Array UInt8) (rest : List UInt8) : Nat → Nat × Nat
  | 0 => (0, 0)
  | d + 1 =>
    let b := bestMatch hist rest d
    if b.1 < matchLen hist rest (d + 1) then (matchLen hist rest (d + 1), d + 1) else b

/-- GREEDY MATCHER with window `w`: at every position the longest match of at least 3 bytes
becomes a reference — emitted only after checking that it is writable and reproduces the bytes it
stands for —, anything else a literal. Out of fuel (never, with fuel = length): literals. -/
def lz77 (w : Nat) : Nat → Array UInt8 → List UInt8 → List Tok
  | _, _, [] => []
  | 0, _, rest => rest.map .lit
  | fuel + 1, hist, b :: rest =>
    let m := bestMatch hist (b :: rest) (min w (min hist.size 32768))
    let t := mkRef m.1 m.2
    if 3 ≤ m.1 ∧ m.1 ≤ (b :: rest).length ∧ t.len = m.1 ∧ tokOk hist.size t = true ∧
        applyTok hist t = hist ++ ((b :: rest).take m.1).toArray then
      t :: lz77 w fuel (applyTok hist t) ((b :: rest).drop m.1)
    else .lit b :: lz77 w fuel (hist.push b) rest

/-- REFERENCE ENCODER: greedy LZ77 with window `w`, one final fixed-Huffman block -/
def deflateFixed (w : Nat) (bs : List UInt8) : List UInt8 := fixedBlock (lz77 w bs.length #[] bs)

theorem applyToks_lits : ∀ (rest : List UInt8) (hist : Array UInt8),
    applyToks (rest.map .lit) hist = hist ++ rest.toArray ∧ toksOk (rest.map .lit) hist = true := by
  intro rest
  induction rest with
  | nil => intro hist; simp [applyToks, toksOk]
  | cons b rest ih =>
    intro hist
    have := ih (hist.push b)
    simp only [List.map_cons, applyToks, applyTok, toksOk, tokOk, Bool.true_and, this, and_true]
    apply Array.ext'
    simp

theorem inflate_fixedLiterals (bs : List UInt8) : inflate (fixedLiterals bs) = .ok bs := by
  have hbits : fixedLiteralBits bs = fixedBlockBits (bs.map .lit) := by
    simp [fixedLiteralBits, fixedBlockBits, List.flatMap_map, tokBits]
  have h := inflate_fixedBlock (bs.map .lit) (applyToks_lits bs #[]).2
  rw [(applyToks_lits bs #[]).1] at h
  simpa [fixedLiterals, fixedBlock, hbits] using h

theorem fixedLiterals_hi : fixedLiterals [104, 105] = [203, 200, 4, 0] := by decide +kernel
example : fixedLiterals [104, 105] = [203, 200, 4, 0] := fixedLiterals_hi
example : inflate [203, 200, 4, 0] = .ok [104, 105] := fixedLiterals_hi ▸ inflate_fixedLiterals [104, 105]

theorem applyToks_lz77 (w : Nat) : ∀ (fuel : Nat) (hist : Array UInt8) (rest : List UInt8),
    applyToks (lz77 w fuel hist rest) hist = hist ++ rest.toArray ∧
    toksOk (lz77 w fuel hist rest) hist = true := by
  intro fuel hist rest
  -- cases of `lz77`: input exhausted, out of fuel (all literals), a checked reference, a literal
  fun_induction lz77 w fuel hist rest
  · simp [applyToks, toksOk]
  · exact applyToks_lits _ _
  · rename_i hc ih
    obtain ⟨_, _, _, hok, happ⟩ := hc
    simp only [applyToks, toksOk, hok, Bool.true_and, ih, and_true]
    rw [happ]
    apply Array.ext'
    simp only [Array.toList_append, List.append_assoc, List.append_cancel_left_eq]
    exact List.take_append_drop _ _
  · rename_i ih
    simp only [applyToks, applyTok, toksOk, tokOk, Bool.true_and, ih, and_true]
    apply Array.ext'
    simp

theorem inflate_deflateFixed (w : Nat) (bs : List UInt8) : inflate (deflateFixed w bs) = .ok bs := by
  have h := applyToks_lz77 w bs.length #[] bs
  unfold deflateFixed
  rw [inflate_fixedBlock _ h.2, h.1]
  simp

/-- ten times `a`: one literal, then length 9 at distance 1 (the copy overlaps its own output) -/
theorem lz77_ten_a : lz77 32 10 #[] (List.replicate 10 97) = [.lit 97, .ref 6 0 0 0] := by decide +kernel
example : lz77 32 10 #[] (List.replicate 10 97) = [.lit 97, .ref 6 0 0 0] := lz77_ten_a
example : (Tok.ref 6 0 0 0).len = 9 ∧ (Tok.ref 6 0 0 0).dist = 1 := by decide
/-- `abcabcabcabX`: three literals, length 8 at distance 3 (overlapping), one literal -/
example : lz77 32 12 #[] [97, 98, 99, 97, 98, 99, 97, 98, 99, 97, 98, 88] =
    [.lit 97, .lit 98, .lit 99, .ref 5 0 2 0, .lit 88] := by decide +kernel
/-- a non-overlapping reference with extra bits on both sides: length 13 = 13+0 at distance 20 = 17+3 -/
example : mkRef 13 20 = .ref 9 0 8 3 ∧ mkRef 14 20 = .ref 9 1 8 3 ∧ mkRef 258 32768 = .ref 28 0 29 8191 := by
  decide +kernel
/-- every length 3..258 has a writable symbol/extra-bits form with that length -/
example : (List.range 256).all (fun i => tokOk 1 (mkRef (i + 3) 1) && (mkRef (i + 3) 1).len == i + 3) = true := by
  decide +kernel
theorem deflateFixed_ten_a : deflateFixed 32 (List.replicate 10 97) = [75, 132, 3, 0] := by
  rw [deflateFixed, List.length_replicate, lz77_ten_a]
  decide +kernel
example : deflateFixed 32 (List.replicate 10 97) = [75, 132, 3, 0] := deflateFixed_ten_a
example : inflate [75, 132, 3, 0] = .ok (List.replicate 10 97) :=
  deflateFixed_ten_a ▸ inflate_deflateFixed 32 (List.replicate 10 97)

end PqModel.Spec.Inflate
