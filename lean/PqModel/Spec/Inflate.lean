import PqModel.Crc
import PqModel.Spec.BlockCodecs
import PqModel.LittleEndian

/-! SPEC side (C20, offered to C02): a DEFLATE decoder (`inflateRaw`, RFC 1951) and a gzip member
reader (`gunzip`, RFC 1952), written from the two RFCs only; they share no code and no table with
klauspost/compress or Go's standard library. Total and computable: every loop runs on explicit
fuel, which the entry points never exhaust (`inflate_no_fuel`, `gunzip_no_fuel`), so the answer is
a function of the stream alone.

Proved for all inputs: the stored-block path for every segmentation, the gzip frame around it, and
(in `InflateFixed.lean` / `InflateMatch.lean`) the fixed-Huffman paths against reference encoders.
TESTED only: dynamic-table headers and multi-block Huffman streams (`InflateTests.lean`, and the L1
check against Go's stdlib reader on every output of the real gzip codec).

Policy where RFC 1951 is silent: an over-subscribed set of code lengths is rejected (it is not a
prefix code); an incomplete one is accepted and a bit pattern without symbol is an error where it
is met; a dynamic block must give the end-of-block symbol a code; HLIT > 286 / HDIST > 30 and
length symbols 286/287, distance symbols 30/31 are errors. `gunzip` wants at least one member and
checks the optional header CRC16. -/
namespace PqModel.Spec.Inflate
open PqModel.Spec.BlockCodecs (copyBack)

inductive Err
  | fuel | truncated | badBlockType | badStoredLen | badCode | badSymbol | badDistance
  | badLengths | oversubscribed | noEndOfBlock
  | badMagic | badMethod | badFlags | badHeaderCrc | badCrc | badSize
  deriving DecidableEq

/-! ## Bit reader (RFC 1951 §3.1.1: bits of a byte are consumed from the least significant one) -/

structure BitReader where
  /-- unread bits of the byte that was opened last, least significant first -/
  cur : List Bool
  rest : List UInt8

def BitReader.size (r : BitReader) : Nat := r.cur.length + 8 * r.rest.length

def bitAt (b : UInt8) (i : Nat) : Bool := b.toNat.testBit i

def readBit : BitReader → Except Err (Bool × BitReader)
  | ⟨b :: cur, rest⟩ => .ok (b, ⟨cur, rest⟩)
  | ⟨[], x :: rest⟩ =>
    .ok (bitAt x 0, ⟨[bitAt x 1, bitAt x 2, bitAt x 3, bitAt x 4, bitAt x 5, bitAt x 6, bitAt x 7], rest⟩)
  | ⟨[], []⟩ => .error .truncated

/-- `n` bits as a number, first bit read = least significant (§3.1.1 "data elements other than
Huffman codes") -/
def readBits : Nat → BitReader → Except Err (Nat × BitReader)
  | 0, r => .ok (0, r)
  | n + 1, r =>
    match readBit r with
    | .error e => .error e
    | .ok (b, r1) =>
      match readBits n r1 with
      | .error e => .error e
      | .ok (v, r2) => .ok (b.toNat + 2 * v, r2)

/-! ## Canonical Huffman codes (§3.2.2) -/

/-- A code given by its lengths: `counts[i]` = number of symbols with code length `i+1`
(lengths 1..15), `symbols` = the symbols with a code, ordered by (length, symbol) — which by
§3.2.2 is the numerical order of the codes. -/
structure Huff where
  counts : List Nat
  symbols : Array Nat
  deriving DecidableEq

def countLen (lens : List Nat) (l : Nat) : Nat := (lens.filter (· == l)).length

def symsOfLenAux (l : Nat) : List Nat → Nat → List Nat
  | [], _ => []
  | x :: xs, i => if x == l then i :: symsOfLenAux l xs (i + 1) else symsOfLenAux l xs (i + 1)

def symsOfLen (lens : List Nat) (l : Nat) : List Nat := symsOfLenAux l lens 0

/-- Kraft budget walk: `left` codes are still free at the current length; `none` when a length
claims more codes than are left (over-subscribed). -/
def kraftLeft : List Nat → Nat → Option Nat
  | [], left => some left
  | c :: cs, left => if 2 * left < c then none else kraftLeft cs (2 * left - c)

def mkHuff (lens : List Nat) : Except Err Huff :=
  let counts := (List.range 15).map (fun i => countLen lens (i + 1))
  match kraftLeft counts 1 with
  | none => .error .oversubscribed
  | some _ => .ok ⟨counts, ((List.range 15).flatMap (fun i => symsOfLen lens (i + 1))).toArray⟩

/-- Walk the code one bit at a time, most significant bit of the code first (§3.1.1). At
length `len`, the codes of that length are the `c` consecutive values starting at `first`
(§3.2.2: same-length codes are consecutive in symbol order, and shorter codes precede longer
ones: `first` of the next length is `(first + c) * 2`); `index` = number of symbols with a
shorter code. -/
def decodeSymAux (symbols : Array Nat) : List Nat → Nat → Nat → Nat → BitReader → Except Err (Nat × BitReader)
  | [], _, _, _, _ => .error .badCode
  | c :: cs, code, first, index, r =>
    match readBit r with
    | .error e => .error e
    | .ok (b, r1) =>
      let code := code + b.toNat
      if first ≤ code ∧ code < first + c then
        match symbols[index + (code - first)]? with
        | some s => .ok (s, r1)
        | none => .error .badCode
      else decodeSymAux symbols cs (2 * code) (2 * (first + c)) (index + c) r1

def decodeSym (h : Huff) (r : BitReader) : Except Err (Nat × BitReader) :=
  decodeSymAux h.symbols h.counts 0 0 0 r

/-! ## Compressed blocks (§3.2.5) -/

def lenBase : List Nat := [3, 4, 5, 6, 7, 8, 9, 10, 11, 13, 15, 17, 19, 23, 27, 31, 35, 43, 51, 59,
  67, 83, 99, 115, 131, 163, 195, 227, 258]
def lenExtra : List Nat := [0, 0, 0, 0, 0, 0, 0, 0, 1, 1, 1, 1, 2, 2, 2, 2, 3, 3, 3, 3, 4, 4, 4, 4,
  5, 5, 5, 5, 0]
def distBase : List Nat := [1, 2, 3, 4, 5, 7, 9, 13, 17, 25, 33, 49, 65, 97, 129, 193, 257, 385, 513,
  769, 1025, 1537, 2049, 3073, 4097, 6145, 8193, 12289, 16385, 24577]
def distExtra : List Nat := [0, 0, 0, 0, 1, 1, 2, 2, 3, 3, 4, 4, 5, 5, 6, 6, 7, 7, 8, 8, 9, 9, 10, 10,
  11, 11, 12, 12, 13, 13]

/-- after a length symbol 257..285: extra length bits, distance symbol, extra distance bits, copy -/
def copyStep (dist : Huff) (sym : Nat) (r : BitReader) (out : Array UInt8) :
    Except Err (BitReader × Array UInt8) :=
  match lenBase[sym - 257]?, lenExtra[sym - 257]? with
  | some lb, some le =>
    match readBits le r with
    | .error e => .error e
    | .ok (lx, r1) =>
      match decodeSym dist r1 with
      | .error e => .error e
      | .ok (ds, r2) =>
        match distBase[ds]?, distExtra[ds]? with
        | some db, some de =>
          match readBits de r2 with
          | .error e => .error e
          | .ok (dx, r3) =>
            if db + dx ≤ out.size then .ok (r3, copyBack (db + dx) (lb + lx) out)
            else .error .badDistance
        | _, _ => .error .badSymbol
  | _, _ => .error .badSymbol

/-- the symbol loop of one compressed block; every round reads at least one bit -/
def codes (lit dist : Huff) : Nat → BitReader → Array UInt8 → Except Err (BitReader × Array UInt8)
  | 0, _, _ => .error .fuel
  | fuel + 1, r, out =>
    match decodeSym lit r with
    | .error e => .error e
    | .ok (sym, r1) =>
      if sym < 256 then codes lit dist fuel r1 (out.push (UInt8.ofNat sym))
      else if sym = 256 then .ok (r1, out)
      else
        match copyStep dist sym r1 out with
        | .error e => .error e
        | .ok (r2, out2) => codes lit dist fuel r2 out2

/-- §3.2.6 -/
def fixedLitLens : List Nat :=
  List.replicate 144 8 ++ List.replicate 112 9 ++ List.replicate 24 7 ++ List.replicate 8 8
def fixedDistLens : List Nat := List.replicate 32 5
/- literal/length symbols 286-287 and distance symbols 30-31 take part in the code construction
   but "will never actually occur in the compressed data": meeting one is `badSymbol` (they have
   no entry in `lenBase` / `distBase`) -/

/-! ## Dynamic block header (§3.2.7) -/

def clOrder : List Nat := [16, 17, 18, 0, 8, 7, 9, 6, 10, 5, 11, 4, 12, 3, 13, 2, 14, 1, 15]

def readMany (width : Nat) : Nat → BitReader → Except Err (List Nat × BitReader)
  | 0, r => .ok ([], r)
  | n + 1, r =>
    match readBits width r with
    | .error e => .error e
    | .ok (v, r1) =>
      match readMany width n r1 with
      | .error e => .error e
      | .ok (vs, r2) => .ok (v :: vs, r2)

/-- the HLIT + HDIST code lengths, run-length coded with the code-length code; `acc` is reversed -/
def readLens (h : Huff) (total : Nat) : Nat → List Nat → BitReader → Except Err (List Nat × BitReader)
  | 0, _, _ => .error .fuel
  | fuel + 1, acc, r =>
    if total < acc.length then .error .badLengths
    else if acc.length = total then .ok (acc.reverse, r)
    else
      match decodeSym h r with
      | .error e => .error e
      | .ok (sym, r1) =>
        if sym < 16 then readLens h total fuel (sym :: acc) r1
        else if sym = 16 then
          match acc with
          | [] => .error .badLengths
          | prev :: _ =>
            match readBits 2 r1 with
            | .error e => .error e
            | .ok (n, r2) => readLens h total fuel (List.replicate (3 + n) prev ++ acc) r2
        else if sym = 17 then
          match readBits 3 r1 with
          | .error e => .error e
          | .ok (n, r2) => readLens h total fuel (List.replicate (3 + n) 0 ++ acc) r2
        else
          match readBits 7 r1 with
          | .error e => .error e
          | .ok (n, r2) => readLens h total fuel (List.replicate (11 + n) 0 ++ acc) r2

def dynamicTables (r : BitReader) : Except Err ((Huff × Huff) × BitReader) :=
  match readBits 5 r with
  | .error e => .error e
  | .ok (hlit, r1) =>
    match readBits 5 r1 with
    | .error e => .error e
    | .ok (hdist, r2) =>
      match readBits 4 r2 with
      | .error e => .error e
      | .ok (hclen, r3) =>
        if 286 < hlit + 257 ∨ 30 < hdist + 1 then .error .badLengths
        else
          match readMany 3 (hclen + 4) r3 with
          | .error e => .error e
          | .ok (cl, r4) =>
            match mkHuff ((List.range 19).map (fun s => cl.getD (clOrder.idxOf s) 0)) with
            | .error e => .error e
            | .ok clh =>
              -- fuel: a round appends at least one length
              match readLens clh (hlit + 257 + (hdist + 1)) (hlit + 257 + (hdist + 1) + 1) [] r4 with
              | .error e => .error e
              | .ok (lens, r5) =>
                if lens.getD 256 0 = 0 then .error .noEndOfBlock
                else
                  match mkHuff (lens.take (hlit + 257)) with
                  | .error e => .error e
                  | .ok lit =>
                    match mkHuff (lens.drop (hlit + 257)) with
                    | .error e => .error e
                    | .ok dist => .ok ((lit, dist), r5)

/-! ## Stored blocks (§3.2.4) and the block loop (§3.2.3) -/

def stored (r : BitReader) (out : Array UInt8) : Except Err (BitReader × Array UInt8) :=
  match r.rest with
  | l0 :: l1 :: n0 :: n1 :: data =>
    let len := l0.toNat + 256 * l1.toNat
    if len + (n0.toNat + 256 * n1.toNat) = 65535 then
      if len ≤ data.length then .ok (⟨[], data.drop len⟩, out ++ (data.take len).toArray)
      else .error .truncated
    else .error .badStoredLen
  | _ => .error .truncated

def block (btype : Nat) (r : BitReader) (out : Array UInt8) : Except Err (BitReader × Array UInt8) :=
  if btype = 0 then stored r out
  else if btype = 1 then
    match mkHuff fixedLitLens, mkHuff fixedDistLens with
    | .ok lit, .ok dist => codes lit dist (r.size + 1) r out
    | _, _ => .error .oversubscribed
  else if btype = 2 then
    match dynamicTables r with
    | .error e => .error e
    | .ok ((lit, dist), r1) => codes lit dist (r1.size + 1) r1 out
  else .error .badBlockType

def blocks : Nat → BitReader → Array UInt8 → Except Err (BitReader × Array UInt8)
  | 0, _, _ => .error .fuel
  | fuel + 1, r, out =>
    match readBit r with
    | .error e => .error e
    | .ok (final, r1) =>
      match readBits 2 r1 with
      | .error e => .error e
      | .ok (btype, r2) =>
        match block btype r2 out with
        | .error e => .error e
        | .ok (r3, out3) => if final then .ok (r3, out3) else blocks fuel r3 out3

/-- A raw DEFLATE stream at the head of `data`: the decompressed bytes and the input after the
last block (the unused bits of its last byte are dropped). -/
def inflateRaw (data : List UInt8) : Except Err (List UInt8 × List UInt8) :=
  match blocks (8 * data.length + 1) ⟨[], data⟩ #[] with
  | .error e => .error e
  | .ok (r, out) => .ok (out.toList, r.rest)

def inflate (data : List UInt8) : Except Err (List UInt8) :=
  match inflateRaw data with
  | .error e => .error e
  | .ok (out, _) => .ok out

/-! ## gzip members (RFC 1952 §2.3) -/

def le32 (a b c d : UInt8) : Nat := a.toNat + 256 * b.toNat + 65536 * c.toNat + 16777216 * d.toNat

theorem le32_eq (a b c d : UInt8) : le32 a b c d = LE.leVal [a, b, c, d] := (LE.leVal_four a b c d).symm

/-- drop a zero-terminated string -/
def skipZ : List UInt8 → Option (List UInt8)
  | [] => none
  | b :: bs => if b = 0 then some bs else skipZ bs

def optSkip (on : Bool) (f : List UInt8 → Option (List UInt8)) (d : List UInt8) : Option (List UInt8) :=
  if on then f d else some d

def skipExtra : List UInt8 → Option (List UInt8)
  | x0 :: x1 :: d => if x0.toNat + 256 * x1.toNat ≤ d.length then some (d.drop (x0.toNat + 256 * x1.toNat)) else none
  | _ => none

def skipOptional (flg : UInt8) (d0 : List UInt8) : Option (List UInt8) :=
  match optSkip (bitAt flg 2) skipExtra d0 with
  | none => none
  | some d =>
    match optSkip (bitAt flg 3) skipZ d with
    | none => none
    | some d => optSkip (bitAt flg 4) skipZ d

/-- FHCRC: the two least significant bytes of the CRC-32 of all header bytes before it
(`data` = the member from its first byte, `d1` = what is left of it at this point) -/
def headerCrc (on : Bool) (data d1 : List UInt8) : Except Err (List UInt8) :=
  if on then
    match d1 with
    | c0 :: c1 :: d2 =>
      if c0.toNat + 256 * c1.toNat =
          (PqModel.Crc.crc32 (data.take (data.length - d1.length))).toNat % 65536
      then .ok d2 else .error .badHeaderCrc
    | _ => .error .truncated
  else .ok d1

/-- CRC32 and ISIZE (length modulo 2^32) of the uncompressed bytes, little endian -/
def trailer (out d : List UInt8) : Except Err (List UInt8 × List UInt8) :=
  match d with
  | c0 :: c1 :: c2 :: c3 :: s0 :: s1 :: s2 :: s3 :: rest =>
    if le32 c0 c1 c2 c3 ≠ (PqModel.Crc.crc32 out).toNat then .error .badCrc
    else if le32 s0 s1 s2 s3 ≠ out.length % 4294967296 then .error .badSize
    else .ok (out, rest)
  | _ => .error .truncated

/-- one member at the head of `data`: its decompressed bytes and what follows its trailer.
Header: ID1 ID2 CM FLG MTIME(4) XFL OS, then the optional fields announced by FLG; reserved FLG
bits must be zero. -/
def member (data : List UInt8) : Except Err (List UInt8 × List UInt8) :=
  match data with
  | id1 :: id2 :: cm :: flg :: _ :: _ :: _ :: _ :: _ :: _ :: d0 =>
    if id1 ≠ 0x1f ∨ id2 ≠ 0x8b then .error .badMagic
    else if cm ≠ 8 then .error .badMethod
    else if 32 ≤ flg.toNat then .error .badFlags
    else
      match skipOptional flg d0 with
      | none => .error .truncated
      | some d1 =>
        match headerCrc (bitAt flg 1) data d1 with
        | .error e => .error e
        | .ok d2 =>
          match inflateRaw d2 with
          | .error e => .error e
          | .ok (out, d3) => trailer out d3
  | _ => .error .truncated

def members : Nat → List UInt8 → List UInt8 → Except Err (List UInt8)
  | 0, _, _ => .error .fuel
  | fuel + 1, data, acc =>
    match member data with
    | .error e => .error e
    | .ok (out, rest) =>
      match rest with
      | [] => .ok (acc ++ out)
      | _ :: _ => members fuel rest (acc ++ out)

/-- a gzip file: one or more members, outputs concatenated (RFC 1952 §2.2) -/
def gunzip (data : List UInt8) : Except Err (List UInt8) := members (data.length + 1) data []

/-! ## Reference encoder: stored blocks only -/

def put16 (n : Nat) : List UInt8 := [UInt8.ofNat (n % 256), UInt8.ofNat (n / 256 % 256)]

theorem put16_eq (n : Nat) : put16 n = LE.leBytes 2 n := rfl

def put32 (n : Nat) : List UInt8 :=
  [UInt8.ofNat (n % 256), UInt8.ofNat (n / 256 % 256), UInt8.ofNat (n / 65536 % 256),
   UInt8.ofNat (n / 16777216 % 256)]

theorem put32_eq (n : Nat) : put32 n = LE.leBytes 4 n := (LE.leBytes_four n).symm

def storedBlock (final : Bool) (c : List UInt8) : List UInt8 :=
  (if final then 1 else 0) :: (put16 c.length ++ put16 (65535 - c.length) ++ c)

/-- `cs` as non-final stored blocks, then `last` as the final one -/
def storedChunks : List (List UInt8) → List UInt8 → List UInt8
  | [], last => storedBlock true last
  | c :: cs, last => storedBlock false c ++ storedChunks cs last

def splitChunks : Nat → List UInt8 → List (List UInt8) × List UInt8
  | 0, bs => ([], bs)
  | fuel + 1, bs =>
    if bs.length ≤ 65535 then ([], bs)
    else ((bs.take 65535) :: (splitChunks fuel (bs.drop 65535)).1, (splitChunks fuel (bs.drop 65535)).2)

/-- the stored-block encoder: blocks of 65535 bytes, the rest in the final block -/
def storedBlocks (bs : List UInt8) : List UInt8 :=
  storedChunks (splitChunks bs.length bs).1 (splitChunks bs.length bs).2

/-- a gzip member around `storedBlocks` (no optional fields, MTIME 0, OS 255 = unknown) -/
def gzipStored (bs : List UInt8) : List UInt8 :=
  [0x1f, 0x8b, 8, 0, 0, 0, 0, 0, 0, 255] ++ (storedBlocks bs ++
    (put32 (PqModel.Crc.crc32 bs).toNat ++ put32 (bs.length % 4294967296)))

/-! ## Totality: the fuel of the entry points is never exhausted

Every definition above is structurally recursive, so it is a total function for the kernel; what
needs a proof is that the `fuel` error is unreachable, i.e. that the result is determined by the
stream and not by an arbitrary cut-off. Measure: `BitReader.size` (unread bits; `readLens`: lengths
still to read). -/

/-- `res` is not the fuel error, and what it returns has size at most `n` (`sz` = the input a result
leaves plus what the step is known to consume; `+ 0` is written out so that `Safe.snd`/`.fst` apply) -/
def Safe {β} (sz : β → Nat) (n : Nat) (res : Except Err β) : Prop :=
  res ≠ .error .fuel ∧ ∀ b, res = .ok b → sz b ≤ n

section
variable {β : Type} {sz : β → Nat} {m n k : Nat} {res : Except Err β} {e : Err}

theorem Safe.error (h : e ≠ .fuel) : Safe sz n (.error e) :=
  ⟨fun h' => h (by injection h'), nofun⟩

theorem Safe.pass {γ : Type} {sz' : γ → Nat} (h : Safe sz m res) (he : res = .error e) :
    Safe sz' n (.error e) :=
  .error fun hf => h.1 (hf ▸ he)

theorem Safe.imp {sz' : β → Nat} (h : Safe sz m res) (hs : ∀ b, sz b ≤ m → sz' b ≤ n) :
    Safe sz' n res :=
  ⟨h.1, fun b hb => hs b (h.2 b hb)⟩

theorem Safe.mono (h : Safe sz m res) (hmn : m ≤ n) : Safe sz n res :=
  h.imp fun _ hb => Nat.le_trans hb hmn

theorem Safe.of_ok {b : β} (h : Safe sz n res) (he : res = .ok b) : sz b ≤ n := h.2 b he

theorem Safe.ok {b : β} (h : sz b ≤ n) : Safe sz n (.ok b) :=
  ⟨nofun, fun b hb => by injection hb with hb; subst hb; exact h⟩

theorem Safe.ok_snd {α : Type} {v : α} {r1 : BitReader} (h : r1.size + k ≤ n) :
    Safe (·.2.size + k) n (.ok (v, r1)) := Safe.ok (b := (v, r1)) h

theorem Safe.ok_fst {α : Type} {v : α} {r1 : BitReader} (h : r1.size + k ≤ n) :
    Safe (·.1.size + k) n (.ok (r1, v)) := Safe.ok (b := (r1, v)) h

theorem Safe.snd {α} {res : Except Err (α × BitReader)} {v r1}
    (h : Safe (·.2.size + k) n res) (he : res = .ok (v, r1)) : r1.size + k ≤ n := h.2 _ he

theorem Safe.fst {α} {res : Except Err (BitReader × α)} {v r1}
    (h : Safe (·.1.size + k) n res) (he : res = .ok (r1, v)) : r1.size + k ≤ n := h.2 _ he
end

theorem readBit_safe (r : BitReader) : Safe (·.2.size + 1) r.size (readBit r) := by
  fun_cases readBit r
  · exact Safe.ok_snd (by simp only [BitReader.size, List.length_cons]; omega)
  · exact Safe.ok_snd (by simp only [BitReader.size, List.length_cons, List.length_nil]; omega)
  · exact .error nofun

theorem readBits_safe (n : Nat) (r : BitReader) : Safe (·.2.size + 0) r.size (readBits n r) := by
  fun_induction readBits n r
  · exact .ok_snd (Nat.le_refl _)
  · rename_i he; exact (readBit_safe _).pass he
  · rename_i he ih; exact ih.pass he
  · rename_i hb _ _ hv ih
    have := (readBit_safe _).snd hb
    have := ih.snd hv
    exact Safe.ok_snd (by omega)

theorem decodeSymAux_safe (symbols : Array Nat) (cs : List Nat) (code first index : Nat) (r : BitReader) :
    Safe (·.2.size + 1) r.size (decodeSymAux symbols cs code first index r) := by
  fun_induction decodeSymAux symbols cs code first index r
  · exact .error nofun
  · rename_i he; exact (readBit_safe _).pass he
  · rename_i hb _ _ _ _; exact Safe.ok_snd ((readBit_safe _).snd hb)
  · exact .error nofun
  · rename_i r _ r1 hb _ _ ih
    have := (readBit_safe _).snd hb
    exact ih.mono (by omega)

theorem decodeSym_safe (h : Huff) (r : BitReader) : Safe (·.2.size + 1) r.size (decodeSym h r) :=
  decodeSymAux_safe _ _ _ _ _ _

-- `fun_cases` / `fun_induction` on `copyStep`, `codes`, `block` exceed the default recursion depth
theorem copyStep_safe (dist : Huff) (sym : Nat) (r : BitReader) (out : Array UInt8) :
    Safe (·.1.size + 0) r.size (copyStep dist sym r out) := by
  unfold copyStep
  split
  · split
    · rename_i he; exact (readBits_safe _ _).pass he
    · rename_i h1
      have := (readBits_safe _ _).snd h1
      split
      · rename_i he; exact (decodeSym_safe _ _).pass he
      · rename_i h2
        have := (decodeSym_safe _ _).snd h2
        split
        · split
          · rename_i he; exact (readBits_safe _ _).pass he
          · rename_i h3
            have := (readBits_safe _ _).snd h3
            split
            · exact Safe.ok_fst (by omega)
            · exact .error nofun
        · exact .error nofun
  · exact .error nofun

theorem codes_zero (lit dist : Huff) (r : BitReader) (out : Array UInt8) :
    codes lit dist 0 r out = .error .fuel := rfl

theorem codes_succ (lit dist : Huff) (fuel : Nat) (r : BitReader) (out : Array UInt8) :
    codes lit dist (fuel + 1) r out =
      match decodeSym lit r with
      | .error e => .error e
      | .ok (sym, r1) =>
        if sym < 256 then codes lit dist fuel r1 (out.push (UInt8.ofNat sym))
        else if sym = 256 then .ok (r1, out)
        else
          match copyStep dist sym r1 out with
          | .error e => .error e
          | .ok (r2, out2) => codes lit dist fuel r2 out2 := by rfl

theorem codes_safe (lit dist : Huff) : ∀ (fuel : Nat) (r : BitReader) (out : Array UInt8), r.size < fuel →
    Safe (·.1.size + 0) r.size (codes lit dist fuel r out) := by
  intro fuel
  induction fuel with
  | zero => intro r out hf; omega
  | succ fuel ih =>
    intro r out hf
    rw [codes_succ]
    split
    · rename_i he; exact (decodeSym_safe _ _).pass he
    · rename_i sym r1 hs
      have := (decodeSym_safe _ _).snd hs
      split
      · exact (ih _ _ (by omega)).mono (by omega)
      · split
        · exact Safe.ok_fst (by omega)
        · have hc := copyStep_safe dist sym r1 out
          split
          · rename_i he; exact hc.pass he
          · rename_i he
            have := hc.fst he
            exact (ih _ _ (by omega)).mono (by omega)

theorem readMany_safe (w n : Nat) (r : BitReader) : Safe (·.2.size + 0) r.size (readMany w n r) := by
  fun_induction readMany w n r
  · exact .ok_snd (Nat.le_refl _)
  · rename_i he; exact (readBits_safe _ _).pass he
  · rename_i he ih; exact ih.pass he
  · rename_i h1 _ _ h2 ih
    have := (readBits_safe _ _).snd h1
    have := ih.snd h2
    exact Safe.ok_snd (by omega)

theorem mkHuff_ne_fuel {lens : List Nat} : mkHuff lens ≠ .error .fuel := by
  intro h; unfold mkHuff at h; simp only at h; split at h <;> cases h

theorem readLens_safe (h : Huff) (total fuel : Nat) (acc : List Nat) (r : BitReader)
    (hf : total + 1 ≤ acc.length + fuel) (h0 : 0 < fuel) :
    Safe (·.2.size + 0) r.size (readLens h total fuel acc r) := by
  -- cases: fuel 0, too many, done; symbol: error, < 16, 16 (none before, error, ok), 17 and 18 (error, ok)
  fun_induction readLens h total fuel acc r
  · omega
  · exact .error nofun
  · exact Safe.ok_snd (Nat.le_refl _)
  · rename_i he; exact (decodeSym_safe _ _).pass he
  · rename_i hs _ ih
    have := (decodeSym_safe _ _).snd hs
    exact (ih (by simp only [List.length_cons]; omega) (by omega)).mono (by omega)
  · exact .error nofun
  · rename_i he _ _ _ _; exact (readBits_safe _ _).pass he
  · rename_i hb _ _ hs _ ih
    have := (decodeSym_safe _ _).snd hs
    have := (readBits_safe _ _).snd hb
    exact (ih (by simp only [List.length_append, List.length_replicate, List.length_cons] at *; omega)
      (by simp only [List.length_cons] at *; omega)).mono (by omega)
  · rename_i he _ _ _; exact (readBits_safe _ _).pass he
  · rename_i hb hs _ _ ih
    have := (decodeSym_safe _ _).snd hs
    have := (readBits_safe _ _).snd hb
    exact (ih (by simp only [List.length_append, List.length_replicate]; omega) (by omega)).mono (by omega)
  · rename_i he; exact (readBits_safe _ _).pass he
  · rename_i hs _ _ _ _ _ hb ih
    have := (decodeSym_safe _ _).snd hs
    have := (readBits_safe _ _).snd hb
    exact (ih (by simp only [List.length_append, List.length_replicate]; omega) (by omega)).mono (by omega)

theorem dynamicTables_safe (r : BitReader) : Safe (·.2.size + 0) r.size (dynamicTables r) := by
  -- cases: the error of each of the ten steps in turn, then success
  fun_cases dynamicTables r
  · rename_i he; exact (readBits_safe _ _).pass he
  · rename_i he; exact (readBits_safe _ _).pass he
  · rename_i he; exact (readBits_safe _ _).pass he
  · exact .error nofun
  · rename_i he; exact (readMany_safe _ _ _).pass he
  · rename_i he; exact .error fun hf => mkHuff_ne_fuel (hf ▸ he)
  · rename_i he; exact (readLens_safe _ _ _ _ _ (by simp) (by omega)).pass he
  · exact .error nofun
  · rename_i he; exact .error fun hf => mkHuff_ne_fuel (hf ▸ he)
  · rename_i he; exact .error fun hf => mkHuff_ne_fuel (hf ▸ he)
  · rename_i h1 _ _ h2 _ _ h3 _ _ _ h4 _ _ _ _ h5 _ _ _ _ _
    have := (readBits_safe _ _).snd h1
    have := (readBits_safe _ _).snd h2
    have := (readBits_safe _ _).snd h3
    have := (readMany_safe _ _ _).snd h4
    have := (readLens_safe _ _ _ _ _ (by simp) (by omega)).snd h5
    exact .ok_snd (by omega)

theorem stored_safe (r : BitReader) (out : Array UInt8) : Safe (·.1.size + 0) r.size (stored r out) := by
  fun_cases stored r out
  · rename_i hr _ _ _
    exact .ok_fst (by simp only [BitReader.size, hr, List.length_nil, List.length_drop, List.length_cons]; omega)
  · exact .error nofun
  · exact .error nofun
  · exact .error nofun

theorem block_safe (t : Nat) (r : BitReader) (out : Array UInt8) : Safe (·.1.size + 0) r.size (block t r out) := by
  unfold block
  split
  · exact stored_safe r out
  · split
    · split
      · exact codes_safe _ _ _ _ _ (by omega)
      · exact .error nofun
    · split
      · have hd := dynamicTables_safe r
        split
        · rename_i he; exact hd.pass he
        · rename_i he
          have := hd.snd he
          exact (codes_safe _ _ _ _ _ (by omega)).mono (by omega)
      · exact .error nofun

theorem blocks_safe (fuel : Nat) (r : BitReader) (out : Array UInt8) (hf : r.size < fuel) :
    Safe (·.1.size + 0) r.size (blocks fuel r out) := by
  fun_induction blocks fuel r out
  · omega
  · rename_i he; exact (readBit_safe _).pass he
  · rename_i he; exact (readBits_safe _ _).pass he
  · rename_i he; exact (block_safe _ _ _).pass he
  · rename_i h2 _ _ h3 h1
    have := (readBit_safe _).snd h1
    have := (readBits_safe _ _).snd h2
    have := (block_safe _ _ _).fst h3
    exact .ok_fst (by omega)
  · rename_i h1 _ _ h2 _ _ h3 _ ih
    have := (readBit_safe _).snd h1
    have := (readBits_safe _ _).snd h2
    have := (block_safe _ _ _).fst h3
    exact (ih (by omega)).mono (by omega)

theorem inflateRaw_safe (data : List UInt8) : Safe (·.2.length + 0) data.length (inflateRaw data) := by
  have hb := blocks_safe (8 * data.length + 1) ⟨[], data⟩ #[] (by simp [BitReader.size])
  unfold inflateRaw
  split
  · rename_i he; exact hb.pass he
  · rename_i r2 _ he
    have := hb.fst he
    simp only [BitReader.size, List.length_nil] at this
    exact .ok (show r2.rest.length + 0 ≤ _ by omega)

theorem inflateRaw_no_fuel (data : List UInt8) : inflateRaw data ≠ .error .fuel :=
  (inflateRaw_safe data).1

theorem inflate_no_fuel (data : List UInt8) : inflate data ≠ .error .fuel := by
  intro h
  unfold inflate at h
  split at h
  · rename_i hb; cases h; exact inflateRaw_no_fuel _ hb
  · cases h

theorem inflateRaw_rest {data out rest : List UInt8} (h : inflateRaw data = .ok (out, rest)) :
    rest.length ≤ data.length :=
  (inflateRaw_safe data).2 _ h

theorem get16_put16 {n : Nat} (h : n ≤ 65535) :
    (UInt8.ofNat (n % 256)).toNat + 256 * (UInt8.ofNat (n / 256 % 256)).toNat = n := by
  rw [← LE.leVal_two, ← LE.leBytes_two, LE.leVal_leBytes_of_lt (Nat.lt_succ_of_le h)]

theorem readBit_header (final : Bool) (R : List UInt8) :
    readBit ⟨[], (if final then (1 : UInt8) else 0) :: R⟩ =
      .ok (final, ⟨[false, false, false, false, false, false, false], R⟩) := by
  cases final <;> simp [readBit, bitAt] <;> decide

theorem readBits_btype0 (R : List UInt8) :
    readBits 2 ⟨[false, false, false, false, false, false, false], R⟩ =
      .ok (0, ⟨[false, false, false, false, false], R⟩) := by
  simp [readBits, readBit]

theorem stored_put (cur : List Bool) (c tail : List UInt8) (out : Array UInt8) (hc : c.length ≤ 65535) :
    stored ⟨cur, put16 c.length ++ put16 (65535 - c.length) ++ c ++ tail⟩ out =
      .ok (⟨[], tail⟩, out ++ c.toArray) := by
  have h1 := get16_put16 hc
  have h2 := get16_put16 (n := 65535 - c.length) (by omega)
  simp only [stored, put16, List.cons_append, List.nil_append, h1, h2]
  have h3 : c.length + (65535 - c.length) = 65535 := by omega
  simp [h3]

theorem blocks_storedBlock (final : Bool) (c tail : List UInt8) (out : Array UInt8) (fuel : Nat)
    (hc : c.length ≤ 65535) :
    blocks (fuel + 1) ⟨[], storedBlock final c ++ tail⟩ out =
      if final then .ok (⟨[], tail⟩, out ++ c.toArray) else blocks fuel ⟨[], tail⟩ (out ++ c.toArray) := by
  have hb : block 0 ⟨[false, false, false, false, false],
      put16 c.length ++ put16 (65535 - c.length) ++ c ++ tail⟩ out = .ok (⟨[], tail⟩, out ++ c.toArray) := by
    simp only [block, ↓reduceIte]; exact stored_put _ _ _ _ hc
  simp only [blocks, storedBlock, List.cons_append, readBit_header, readBits_btype0,
    List.append_assoc] at hb ⊢
  rw [hb]

theorem blocks_storedChunks : ∀ (cs : List (List UInt8)) (last tail : List UInt8) (out : Array UInt8)
    (fuel : Nat), cs.length < fuel → (∀ c ∈ cs, c.length ≤ 65535) → last.length ≤ 65535 →
    blocks fuel ⟨[], storedChunks cs last ++ tail⟩ out =
      .ok (⟨[], tail⟩, out ++ (cs.flatten ++ last).toArray) := by
  intro cs
  induction cs with
  | nil =>
    intro last tail out fuel hf _ hl
    obtain ⟨f, rfl⟩ : ∃ f, fuel = f + 1 := ⟨fuel - 1, by omega⟩
    simp only [storedChunks, List.flatten_nil, List.nil_append]
    rw [blocks_storedBlock true last tail out f hl]; rfl
  | cons c cs ih =>
    intro last tail out fuel hf hcs hl
    obtain ⟨f, rfl⟩ : ∃ f, fuel = f + 1 := ⟨fuel - 1, by omega⟩
    simp only [storedChunks, List.append_assoc]
    rw [blocks_storedBlock false c _ out f (hcs c (List.mem_cons_self ..))]
    simp only [Bool.false_eq_true, ↓reduceIte]
    rw [ih last tail _ f (by simp only [List.length_cons] at hf; omega)
      (fun x hx => hcs x (List.mem_cons_of_mem _ hx)) hl]
    simp [Array.append_assoc]

theorem storedBlock_length (final : Bool) (c : List UInt8) : (storedBlock final c).length = c.length + 5 := by
  simp [storedBlock, put16]

theorem storedChunks_length : ∀ (cs : List (List UInt8)) (last : List UInt8),
    cs.length + 1 ≤ (storedChunks cs last).length := by
  intro cs
  induction cs with
  | nil => intro last; simp [storedChunks, storedBlock_length]
  | cons c cs ih =>
    intro last
    have := ih last
    simp only [storedChunks, List.length_append, storedBlock_length, List.length_cons]; omega

theorem inflateRaw_storedChunks (cs : List (List UInt8)) (last tail : List UInt8)
    (hcs : ∀ c ∈ cs, c.length ≤ 65535) (hl : last.length ≤ 65535) :
    inflateRaw (storedChunks cs last ++ tail) = .ok (cs.flatten ++ last, tail) := by
  unfold inflateRaw
  have := storedChunks_length cs last
  rw [blocks_storedChunks cs last tail #[] _ (by simp only [List.length_append]; omega) hcs hl]
  simp

theorem splitChunks_flatten : ∀ (fuel : Nat) (bs : List UInt8),
    (splitChunks fuel bs).1.flatten ++ (splitChunks fuel bs).2 = bs := by
  intro fuel bs
  fun_induction splitChunks fuel bs
  · simp
  · simp
  · rename_i ih; simp only [List.flatten_cons, List.append_assoc, ih, List.take_append_drop]

theorem splitChunks_bound : ∀ (fuel : Nat) (bs : List UInt8), bs.length ≤ fuel + 65535 →
    (∀ c ∈ (splitChunks fuel bs).1, c.length ≤ 65535) ∧ (splitChunks fuel bs).2.length ≤ 65535 := by
  intro fuel bs
  -- cases of `splitChunks`: out of fuel, the rest fits a block, a full block is cut off
  fun_induction splitChunks fuel bs
  · intro h; simp; omega
  · rename_i hle; intro _; simp; exact hle
  · rename_i hgt ih
    intro h
    have := ih (by simp only [List.length_drop]; omega)
    exact ⟨List.forall_mem_cons.mpr ⟨by simp only [List.length_take]; omega, this.1⟩, this.2⟩

theorem inflateRaw_storedBlocks (bs tail : List UInt8) :
    inflateRaw (storedBlocks bs ++ tail) = .ok (bs, tail) := by
  have hb := splitChunks_bound bs.length bs (by omega)
  have h := inflateRaw_storedChunks _ _ tail hb.1 hb.2
  rw [splitChunks_flatten] at h
  exact h

theorem inflate_storedBlocks (bs : List UInt8) : inflate (storedBlocks bs) = .ok bs := by
  have h := inflateRaw_storedBlocks bs []
  rw [List.append_nil] at h
  simp only [inflate, h]

example : inflate (storedBlocks [1, 2, 3]) = .ok [1, 2, 3] := inflate_storedBlocks _
example : storedBlocks [104, 105] = [1, 2, 0, 253, 255, 104, 105] := by decide

theorem skipZ_length : ∀ {d d1 : List UInt8}, skipZ d = some d1 → d1.length ≤ d.length := by
  intro d
  fun_induction skipZ d
  · nofun
  · intro d1 h; cases h; simp
  · rename_i ih; intro d1 h; have := ih h; simp only [List.length_cons]; omega

theorem skipExtra_length {d d1 : List UInt8} (h : skipExtra d = some d1) : d1.length ≤ d.length := by
  unfold skipExtra at h
  split at h
  · split at h
    · injection h with h; subst h; simp only [List.length_drop, List.length_cons]; omega
    · cases h
  · cases h

theorem optSkip_length {on : Bool} {f : List UInt8 → Option (List UInt8)}
    (hf : ∀ {d d1 : List UInt8}, f d = some d1 → d1.length ≤ d.length) {d d1 : List UInt8}
    (h : optSkip on f d = some d1) : d1.length ≤ d.length := by
  unfold optSkip at h
  split at h
  · exact hf h
  · injection h with h; subst h; exact Nat.le_refl _

theorem skipOptional_length {flg : UInt8} {d d1 : List UInt8} (h : skipOptional flg d = some d1) :
    d1.length ≤ d.length := by
  unfold skipOptional at h
  split at h
  · cases h
  · rename_i h1
    split at h
    · cases h
    · rename_i h2
      have := optSkip_length (fun {_ _} => skipExtra_length) h1
      have := optSkip_length (fun {_ _} => skipZ_length) h2
      have := optSkip_length (fun {_ _} => skipZ_length) h
      omega

theorem headerCrc_safe (on : Bool) (data d1 : List UInt8) :
    Safe (·.length + 0) d1.length (headerCrc on data d1) := by
  unfold headerCrc
  split
  · split
    · split
      · exact .ok (by simp only [List.length_cons]; omega)
      · exact .error nofun
    · exact .error nofun
  · exact .ok (Nat.le_refl _)

theorem trailer_safe (out d : List UInt8) : Safe (·.2.length + 8) d.length (trailer out d) := by
  unfold trailer
  split
  · split
    · exact .error nofun
    · split
      · exact .error nofun
      · exact .ok (by simp only [List.length_cons]; omega)
  · exact .error nofun

theorem member_safe (data : List UInt8) : Safe (·.2.length + 18) data.length (member data) := by  -- 10 header + 8 trailer bytes
  unfold member
  split
  · split
    · exact .error nofun
    · split
      · exact .error nofun
      · split
        · exact .error nofun
        · split
          · exact .error nofun
          · rename_i d1 h1
            have := skipOptional_length h1
            split
            · rename_i he; exact (headerCrc_safe _ _ _).pass he
            · rename_i d2 h2
              have : d2.length + 0 ≤ d1.length := (headerCrc_safe _ _ _).of_ok h2
              have hi := inflateRaw_safe d2
              split
              · rename_i he; exact hi.pass he
              · rename_i out d3 h3
                have : d3.length + 0 ≤ d2.length := hi.of_ok h3
                refine (trailer_safe out d3).imp fun b hb => ?_
                have : b.2.length + 8 ≤ d3.length := hb
                show b.2.length + 18 ≤ _
                simp only [List.length_cons]
                omega
  · exact .error nofun

theorem members_ne_fuel : ∀ (fuel : Nat) {data acc : List UInt8}, data.length < fuel →
    members fuel data acc ≠ .error .fuel := by
  intro fuel data acc
  -- cases of `members`: out of fuel, the member fails, last member, more members
  fun_induction members fuel data acc
  · intro hf; omega
  · rename_i hm; intro _ h; cases h; exact (member_safe _).1 hm
  · nofun
  · rename_i hm ih
    intro hf
    have := (member_safe _).2 _ hm
    exact ih (by simp only [List.length_cons] at this ⊢; omega)

theorem gunzip_no_fuel (data : List UInt8) : gunzip data ≠ .error .fuel :=
  members_ne_fuel _ (Nat.lt_succ_self _)

theorem le32_put32 {n : Nat} (h : n < 4294967296) :
    le32 (UInt8.ofNat (n % 256)) (UInt8.ofNat (n / 256 % 256)) (UInt8.ofNat (n / 65536 % 256))
      (UInt8.ofNat (n / 16777216 % 256)) = n := by
  rw [le32_eq, ← LE.leBytes_four, LE.leVal_leBytes_of_lt h]

theorem trailer_put (out : List UInt8) :
    trailer out (put32 (PqModel.Crc.crc32 out).toNat ++ put32 (out.length % 4294967296)) = .ok (out, []) := by
  have h1 := le32_put32 (PqModel.Crc.crc32 out).isLt
  have h2 := le32_put32 (n := out.length % 4294967296) (Nat.mod_lt _ (by decide))
  simp only [trailer, put32, List.cons_append, List.nil_append, h1, h2, ne_eq, not_true_eq_false,
    ↓reduceIte]

theorem member_gzipStored (bs : List UInt8) : member (gzipStored bs) = .ok (bs, []) := by
  have hz : ∀ k, bitAt 0 k = false := by intro k; simp [bitAt]
  have hs : ∀ d, skipOptional 0 d = some d := by intro d; simp [skipOptional, optSkip, hz]
  simp only [member, gzipStored, List.cons_append, List.nil_append]
  simp [hs, hz, headerCrc, inflateRaw_storedBlocks, trailer_put]

theorem gunzip_gzipStored (bs : List UInt8) : gunzip (gzipStored bs) = .ok bs := by
  unfold gunzip
  simp [members, member_gzipStored]

example : gunzip (gzipStored [104, 105]) = .ok [104, 105] := gunzip_gzipStored _

end PqModel.Spec.Inflate
