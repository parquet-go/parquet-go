import PqModel.Spec.BlockCodecs

/-! SPEC side (C20): the LZ4 block format on SEQUENCES (lz4_Block_format.md: token, literal
length, literals, 2-byte little-endian offset, match length; "the last sequence contains only
literals"). The reader `lz4Dec` returns what EVERY writable sequence list means and rejects the
others; a greedy matcher that obeys the format's end-of-block restrictions shows a conformant
encoder exists. `parseSeqs` splits a block into its sequences for the L2 check on the real
encoder's output; that re-encoding the parse gives the stream back is checked at run time by the
driver op, not proved. -/
namespace PqModel.Spec.Lz4Seqs
open PqModel.Spec.BlockCodecs

/-- one sequence WITH a match: literals, offset, match length − 4 -/
structure Seq where
  lits : List UInt8
  off : Nat
  ml : Nat
  deriving DecidableEq

/-- writable behind `n` bytes of output: the offset is not 0, fits 16 bits and does not reach
before the start of the output (the literals of the sequence itself count) -/
def seqOk (n : Nat) (s : Seq) : Bool :=
  decide (1 ≤ s.off) && decide (s.off ≤ n + s.lits.length) && decide (s.off < 65536)

/-- what a sequence means: append the literals, then `ml + 4` bytes each taken `off` back -/
def applySeq (out : Array UInt8) (s : Seq) : Array UInt8 := copyBack s.off (s.ml + 4) (out ++ s.lits)

def applySeqs : List Seq → Array UInt8 → Array UInt8
  | [], out => out
  | s :: r, out => applySeqs r (applySeq out s)

def seqsOk : List Seq → Array UInt8 → Bool
  | [], _ => true
  | s :: r, out => seqOk out.size s && seqsOk r (applySeq out s)

/-- the bytes of one sequence -/
def encSeq (s : Seq) : List UInt8 :=
  UInt8.ofNat (lz4Nib s.lits.length * 16 + lz4Nib s.ml) ::
    (lz4LenExt s.lits.length ++ (s.lits ++
      (UInt8.ofNat (s.off % 256) :: UInt8.ofNat (s.off / 256) :: lz4LenExt s.ml)))

/-- a block: the sequences, then the last one that has literals only -/
def encSeqs : List Seq → List UInt8 → List UInt8
  | [], last => lz4LastSeq last
  | s :: r, last => encSeq s ++ encSeqs r last

/-- END-OF-BLOCK restrictions (lz4_Block_format.md "End of block restrictions"): if there is a match
at all, the last 5 bytes are literals and the last match starts ≥ 12 bytes before the end -/
def endOk : List Seq → List UInt8 → Bool
  | [], _ => true
  | [s], last => decide (5 ≤ last.length) && decide (12 ≤ s.ml + 4 + last.length)
  | _ :: s2 :: r, last => endOk (s2 :: r) last

theorem copyBack_size (d : Nat) : ∀ (n : Nat) (out : Array UInt8), (copyBack d n out).size = out.size + n :=
  size_copyBack d

theorem size_appendList (out : Array UInt8) (l : List UInt8) : (out ++ l).size = out.size + l.length := by
  rw [← Array.length_toList, Array.toList_appendList]; simp

theorem lz4Seqs_seq (s : Seq) (S : List UInt8) (out : Array UInt8) (fuel : Nat) (h16 : s.off < 65536) :
    lz4Seqs (fuel + 1) (encSeq s ++ S) out =
      if s.off = 0 ∨ (out ++ s.lits).size < s.off then .error .badOffset
      else lz4Seqs fuel S (applySeq out s) := by
  have h1 := lz4Nib_le s.lits.length
  have h2 := lz4Nib_le s.ml
  have htag : (UInt8.ofNat (lz4Nib s.lits.length * 16 + lz4Nib s.ml)).toNat =
      lz4Nib s.lits.length * 16 + lz4Nib s.ml := toNat_ofNat_lt (by omega)
  have hd : (lz4Nib s.lits.length * 16 + lz4Nib s.ml) / 16 = lz4Nib s.lits.length := by omega
  have hm : (lz4Nib s.lits.length * 16 + lz4Nib s.ml) % 16 = lz4Nib s.ml := by omega
  have hoff : (UInt8.ofNat (s.off % 256)).toNat + 256 * (UInt8.ofNat (s.off / 256)).toNat = s.off := by
    rw [toNat_ofNat_lt (by omega), toNat_ofNat_lt (by omega)]; omega
  simp only [encSeq, applySeq, List.cons_append, List.append_assoc, lz4Seqs, htag, hd, hm]
  rw [lz4ReadLen_enc]
  -- `simp only []` reduces the `match` / `let` that the rewrite has exposed
  simp only []
  rw [if_neg (by simp)]
  rw [List.drop_left' rfl, List.take_left' rfl]
  simp only []
  rw [lz4ReadLen_enc]
  simp only []
  rw [hoff]

theorem lz4Seqs_encSeq (s : Seq) (S : List UInt8) (out : Array UInt8) (fuel : Nat)
    (hok : seqOk out.size s = true) :
    lz4Seqs (fuel + 1) (encSeq s ++ S) out = lz4Seqs fuel S (applySeq out s) := by
  simp only [seqOk, Bool.and_eq_true, decide_eq_true_eq] at hok
  rw [lz4Seqs_seq s S out fuel hok.2, if_neg (by rw [size_appendList]; omega)]

theorem lz4Seqs_encSeq_bad (s : Seq) (S : List UInt8) (out : Array UInt8) (fuel : Nat)
    (h16 : s.off < 65536) (hbad : seqOk out.size s = false) :
    lz4Seqs (fuel + 1) (encSeq s ++ S) out = .error .badOffset := by
  simp only [seqOk, Bool.and_eq_false_iff, decide_eq_false_iff_not] at hbad
  rw [lz4Seqs_seq s S out fuel h16, if_pos (by rw [size_appendList]; omega)]

theorem encSeq_length (s : Seq) : 3 ≤ (encSeq s).length := by
  simp only [encSeq, List.length_cons, List.length_append]; omega

theorem lz4Seqs_encSeqs : ∀ (seqs : List Seq) (last : List UInt8) (out : Array UInt8) (fuel : Nat),
    seqsOk seqs out = true → (encSeqs seqs last).length < fuel →
    lz4Seqs fuel (encSeqs seqs last) out = .ok (applySeqs seqs out ++ last) := by
  intro seqs
  induction seqs with
  | nil =>
    intro last out fuel _ hf
    cases fuel with
    | zero => simp at hf
    | succ fuel => simp [encSeqs, lz4Seqs_lastSeq, applySeqs]
  | cons s r ih =>
    intro last out fuel hok hf
    simp only [seqsOk, Bool.and_eq_true] at hok
    cases fuel with
    | zero => simp at hf
    | succ fuel =>
      simp only [encSeqs, applySeqs] at hf ⊢
      rw [lz4Seqs_encSeq s _ out fuel hok.1]
      have := encSeq_length s
      exact ih last _ fuel hok.2 (by simp only [List.length_append] at hf; omega)

theorem encSeqs_ne_nil : ∀ (seqs : List Seq) (last : List UInt8), encSeqs seqs last ≠ [] := by
  intro seqs last
  cases seqs with
  | nil => simp [encSeqs, lz4LastSeq]
  | cons s r => simp [encSeqs, encSeq]

theorem lz4Dec_encSeqs (seqs : List Seq) (last : List UInt8) (hok : seqsOk seqs #[] = true) :
    lz4Dec (encSeqs seqs last) = .ok ((applySeqs seqs #[]).toList ++ last) := by
  unfold lz4Dec
  rw [if_neg (encSeqs_ne_nil seqs last),
    lz4Seqs_encSeqs seqs last #[] _ hok (Nat.lt_succ_self _)]
  simp

theorem lz4Seqs_encSeqs_rejects : ∀ (seqs : List Seq) (last : List UInt8) (out : Array UInt8) (fuel : Nat),
    (∀ s, s ∈ seqs → s.off < 65536) → seqsOk seqs out = false → (encSeqs seqs last).length < fuel →
    lz4Seqs fuel (encSeqs seqs last) out = .error .badOffset := by
  intro seqs
  induction seqs with
  | nil => intro last out fuel _ h; simp [seqsOk] at h
  | cons s r ih =>
    intro last out fuel h16 hbad hf
    cases fuel with
    | zero => simp at hf
    | succ fuel =>
      simp only [encSeqs] at hf ⊢
      by_cases hs : seqOk out.size s = true
      · rw [lz4Seqs_encSeq s _ out fuel hs]
        have := encSeq_length s
        simp only [seqsOk, hs, Bool.true_and] at hbad
        exact ih last _ fuel (fun t ht => h16 t (by simp [ht])) hbad
          (by simp only [List.length_append] at hf; omega)
      · exact lz4Seqs_encSeq_bad s _ out fuel (h16 s (by simp)) (by simpa using hs)

theorem lz4Dec_encSeqs_rejects (seqs : List Seq) (last : List UInt8)
    (h16 : ∀ s, s ∈ seqs → s.off < 65536) (hbad : seqsOk seqs #[] = false) :
    lz4Dec (encSeqs seqs last) = .error .badOffset := by
  unfold lz4Dec
  rw [if_neg (encSeqs_ne_nil seqs last),
    lz4Seqs_encSeqs_rejects seqs last #[] _ h16 hbad (Nat.lt_succ_self _)]

def runSeqs : List (UInt8 × Nat) → List UInt8 → List Seq × List UInt8
  | [], lits => ([], lits)
  | (b, n) :: r, lits =>
    if 5 ≤ n then (⟨lits ++ [b], 1, n - 5⟩ :: (runSeqs r []).1, (runSeqs r []).2)
    else runSeqs r (lits ++ List.replicate n b)

theorem lz4MatchSeq_eq (lits : List UInt8) (ml : Nat) : lz4MatchSeq lits ml = encSeq ⟨lits, 1, ml⟩ := by
  simp only [lz4MatchSeq, encSeq]; rfl

theorem lz4RunsEnc_eq : ∀ (rs : List (UInt8 × Nat)) (lits : List UInt8),
    lz4RunsEnc rs lits = encSeqs (runSeqs rs lits).1 (runSeqs rs lits).2
  | [], _ => rfl
  | (b, n) :: r, lits => by
    simp only [lz4RunsEnc, runSeqs]
    split
    · rw [lz4RunsEnc_eq r [], lz4MatchSeq_eq]; rfl
    · exact lz4RunsEnc_eq r _

theorem applySeqs_runSeqs : ∀ (rs : List (UInt8 × Nat)) (lits : List UInt8) (out : Array UInt8),
    applySeqs (runSeqs rs lits).1 out ++ (runSeqs rs lits).2 = out ++ lits ++ expand rs ∧
    seqsOk (runSeqs rs lits).1 out = true
  | [], _, _ => by simp [runSeqs, applySeqs, seqsOk, expand]
  | (b, n) :: r, lits, out => by
    simp only [runSeqs]
    split
    · rename_i h5
      have e1 : out ++ (lits ++ [b]) = (out ++ lits).push b := by apply Array.ext'; simp
      have ih := applySeqs_runSeqs r [] (copyBack 1 (n - 5 + 4) ((out ++ lits).push b))
      have e2 : n - 5 + 4 + 1 = n := by omega
      rw [copyBack_one, e2] at ih
      simp only [applySeqs, seqsOk, applySeq, seqOk, e1, copyBack_one, e2, ih.2, ih.1]
      refine ⟨?_, by simp; omega⟩
      apply Array.ext'
      simp [expand]
    · have ih := applySeqs_runSeqs r (lits ++ List.replicate n b) out
      refine ⟨?_, ih.2⟩
      rw [ih.1]
      apply Array.ext'
      simp [expand]

theorem lz4Dec_encSimple (x : List UInt8) : lz4Dec (lz4EncSimple x) = .ok x := by
  have h := applySeqs_runSeqs (runs x) [] #[]
  rw [lz4EncSimple, lz4RunsEnc_eq, lz4Dec_encSeqs _ _ h.2]
  have := congrArg Array.toList h.1
  simp only [Array.toList_appendList, expand_runs] at this
  simpa using this

def commonPrefix : List UInt8 → List UInt8 → Nat
  | a :: as, b :: bs => if a = b then commonPrefix as bs + 1 else 0
  | _, _ => 0

/-- how many of the next bytes (at most 600) a match at offset `d` reproduces; the source is the
history continued by the copy itself. The 600 only bounds the search; the format has no such limit. -/
def matchLen (hist : Array UInt8) (rest : List UInt8) (d : Nat) : Nat :=
  commonPrefix ((copyBack d (min 600 rest.length) hist).toList.drop hist.size) rest

/-- best (length, offset) over offsets `d, d-1, .., 1`: longest, ties to the nearest -/
def bestMatch (hist : Array UInt8) (rest : List UInt8) : Nat → Nat × Nat
  | 0 => (0, 0)
  | d + 1 =>
    let b := bestMatch hist rest d
    if b.1 < matchLen hist rest (d + 1) then (matchLen hist rest (d + 1), d + 1) else b

/-- GREEDY MATCHER with window `w`. State: output already covered by sequences, pending literals,
remaining input. The longest match, cut so that 5 bytes stay behind it, is emitted only if it has
≥ 4 bytes, at least 12 bytes remain (end-of-block rules), and it is checked to be writable and to
reproduce the bytes it stands for; otherwise the next byte joins the pending literals. -/
def greedy (w : Nat) : Nat → Array UInt8 → List UInt8 → List UInt8 → List Seq × List UInt8
  | _, _, lits, [] => ([], lits)
  | 0, _, lits, rest => ([], lits ++ rest)
  | fuel + 1, out, lits, b :: rest =>
    let hist := out ++ lits
    let m := bestMatch hist (b :: rest) (min w (min hist.size 65535))
    let len := min m.1 ((b :: rest).length - 5)
    let s : Seq := ⟨lits, m.2, len - 4⟩
    if 4 ≤ len ∧ 12 ≤ (b :: rest).length ∧ len + 5 ≤ (b :: rest).length ∧ seqOk out.size s = true ∧
        applySeq out s = out ++ lits ++ (b :: rest).take len then
      let r := greedy w fuel (applySeq out s) [] ((b :: rest).drop len)
      (s :: r.1, r.2)
    else greedy w fuel out (lits ++ [b]) rest

/-- REFERENCE ENCODER: greedy matching in a window of `w` bytes -/
def lz4Greedy (w : Nat) (x : List UInt8) : List UInt8 :=
  encSeqs (greedy w x.length #[] [] x).1 (greedy w x.length #[] [] x).2

/-- one induction: the end-of-block rules need the first fact of the recursive call -/
theorem greedy_spec (w : Nat) : ∀ (fuel : Nat) (out : Array UInt8) (lits rest : List UInt8),
    (applySeqs (greedy w fuel out lits rest).1 out ++ (greedy w fuel out lits rest).2 = out ++ lits ++ rest ∧
      seqsOk (greedy w fuel out lits rest).1 out = true) ∧
    endOk (greedy w fuel out lits rest).1 (greedy w fuel out lits rest).2 = true := by
  intro fuel
  induction fuel with
  | zero =>
    intro out lits rest
    cases rest with
    | nil => simp [greedy, applySeqs, seqsOk, endOk]
    | cons b rest =>
      simp only [greedy, applySeqs, seqsOk, endOk, and_true]
      apply Array.ext'
      simp
  | succ fuel ih =>
    intro out lits rest
    cases rest with
    | nil => simp [greedy, applySeqs, seqsOk, endOk]
    | cons b rest =>
      simp only [greedy]
      generalize bestMatch (out ++ lits) (b :: rest) (min w (min (out ++ lits).size 65535)) = m
      generalize min m.1 ((b :: rest).length - 5) = len
      split
      · rename_i hc
        obtain ⟨h4, h12, h5, hok, happ⟩ := hc
        obtain ⟨⟨hr, hrok⟩, hi⟩ := ih (applySeq out ⟨lits, m.2, len - 4⟩) [] ((b :: rest).drop len)
        refine ⟨?_, ?_⟩
        · simp only [applySeqs, seqsOk, hok, Bool.true_and, hr, hrok, and_true]
          rw [happ]
          apply Array.ext'
          simp only [Array.toList_appendList, List.append_assoc, List.append_nil, List.append_cancel_left_eq]
          exact List.take_append_drop _ _
        · generalize greedy w fuel (applySeq out ⟨lits, m.2, len - 4⟩) [] ((b :: rest).drop len) = r at hi hr
          obtain ⟨r1, r2⟩ := r
          cases r1 with
          | cons s2 r' => simpa [endOk] using hi
          | nil =>
            -- no further match: `r2` is the whole rest behind this match (`hr`, by sizes), so `5 ≤ |r2|` is
            -- `h5` and `12 ≤ len + |r2|` is `h12`
            have hsz := congrArg Array.size hr
            simp [applySeqs, size_appendList] at hsz
            simp only [endOk, Bool.and_eq_true, decide_eq_true_eq]
            simp only [List.length_cons] at h12 h5
            omega
      · obtain ⟨⟨hr, hrok⟩, hi⟩ := ih out (lits ++ [b]) rest
        refine ⟨⟨?_, hrok⟩, hi⟩
        rw [hr]
        apply Array.ext'
        simp

theorem applySeqs_greedy (w : Nat) : ∀ (fuel : Nat) (out : Array UInt8) (lits rest : List UInt8),
    applySeqs (greedy w fuel out lits rest).1 out ++ (greedy w fuel out lits rest).2 =
      out ++ lits ++ rest ∧
    seqsOk (greedy w fuel out lits rest).1 out = true :=
  fun fuel out lits rest => (greedy_spec w fuel out lits rest).1

theorem applySeqs_size : ∀ (seqs : List Seq) (out : Array UInt8), out.size ≤ (applySeqs seqs out).size := by
  intro seqs
  induction seqs with
  | nil => intro out; simp [applySeqs]
  | cons s r ih =>
    intro out
    have := ih (applySeq out s)
    simp only [applySeqs]
    have h2 : out.size ≤ (applySeq out s).size := by simp only [applySeq, copyBack_size, size_appendList]; omega
    omega

theorem endOk_greedy (w : Nat) : ∀ (fuel : Nat) (out : Array UInt8) (lits rest : List UInt8),
    endOk (greedy w fuel out lits rest).1 (greedy w fuel out lits rest).2 = true :=
  fun fuel out lits rest => (greedy_spec w fuel out lits rest).2

theorem lz4Dec_lz4Greedy (w : Nat) (x : List UInt8) : lz4Dec (lz4Greedy w x) = .ok x := by
  have h := applySeqs_greedy w x.length #[] [] x
  unfold lz4Greedy
  rw [lz4Dec_encSeqs _ _ h.2]
  have := congrArg Array.toList h.1
  simp only [Array.toList_appendList] at this
  simpa using this

/-- the sequence loop of `lz4Seqs` without the copying: the sequences and the final literals -/
def parseSeqs : Nat → List UInt8 → List Seq × List UInt8 → Option (List Seq × List UInt8)
  | 0, _, _ => none
  | _ + 1, [], _ => none
  | fuel + 1, token :: rest, acc =>
    let t := token.toNat
    match lz4ReadLen (t / 16) rest with
    | none => none
    | some (ll, rest) =>
      if rest.length < ll then none else
      match rest.drop ll with
      | [] => some (acc.1.reverse, rest.take ll)
      | [_] => none
      | o0 :: o1 :: rest' =>
        match lz4ReadLen (t % 16) rest' with
        | none => none
        | some (ml, rest'') =>
          parseSeqs fuel rest'' (⟨rest.take ll, o0.toNat + 256 * o1.toNat, ml⟩ :: acc.1, [])

def parseBlock (src : List UInt8) : Option (List Seq × List UInt8) := parseSeqs (src.length + 1) src ([], [])

/-- twenty times `a`: one literal, a match of 14 at offset 1 (overlapping), 5 final literals -/
theorem greedy_twenty_a :
    greedy 32 20 #[] [] (List.replicate 20 97) = ([⟨[97], 1, 10⟩], [97, 97, 97, 97, 97]) := by
  decide +kernel
example : greedy 32 20 #[] [] (List.replicate 20 97) = ([⟨[97], 1, 10⟩], [97, 97, 97, 97, 97]) :=
  greedy_twenty_a
example : lz4Greedy 32 (List.replicate 20 97) = [0x1a, 97, 1, 0, 0x50, 97, 97, 97, 97, 97] := by
  rw [lz4Greedy, List.length_replicate, greedy_twenty_a]
  decide +kernel
/-- `abcabcabcabcabcabcXYZUV`: three literals, overlapping match of 15 at offset 3 -/
example : (greedy 32 23 #[] []
    [97, 98, 99, 97, 98, 99, 97, 98, 99, 97, 98, 99, 97, 98, 99, 97, 98, 99, 88, 89, 90, 85, 86]).1 =
    [⟨[97, 98, 99], 3, 11⟩] := by decide +kernel
/-- twelve equal bytes stay literals: a match must leave 5 literals behind it and start at least
12 bytes before the end (format document: "a block with less than 13 bytes cannot be compressed") -/
example : greedy 32 12 #[] [] (List.replicate 12 97) = ([], List.replicate 12 97) := by decide +kernel
/-- writable: a two-byte offset inside 300 literals (lengths that need extension bytes) -/
example : seqsOk [⟨List.replicate 300 7, 258, 300⟩] #[] = true := by decide +kernel
/-- rejected: offset 0, offset one beyond the start -/
example : lz4Dec (encSeqs [⟨[1, 2], 0, 0⟩] [9, 9, 9, 9, 9]) = .error .badOffset := by decide +kernel
example : lz4Dec (encSeqs [⟨[1, 2], 3, 0⟩] [9, 9, 9, 9, 9]) = .error .badOffset := by decide +kernel
example : lz4Dec (encSeqs [⟨[1, 2], 2, 0⟩] [9]) = .ok [1, 2, 1, 2, 1, 2, 9] := by decide +kernel
example : parseBlock [0x1a, 97, 1, 0, 0x50, 97, 97, 97, 97, 97] =
    some ([⟨[97], 1, 10⟩], [97, 97, 97, 97, 97]) := by decide +kernel

end PqModel.Spec.Lz4Seqs
