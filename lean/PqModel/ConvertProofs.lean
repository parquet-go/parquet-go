import PqModel.Convert
import PqModel.DremelLevels

/-! Lemmas for C12: the level-table conversion of `convert.go` (mirror `convN`) agrees with
    shredding the projected value, for targets obtained by deleting / permuting fields and
    turning required fields into optional ones. -/
namespace PqModel.Convert
open PqModel.Dremel

def NE (X : Cols) : Prop := ∀ c ∈ X, c ≠ []

theorem ne_of_good {m r k d : Nat} {X : Cols} (h : Good m r k d X) : NE X := by
  intro c hc
  rcases h.2 c hc with ⟨t, ts, rfl, _⟩
  simp

theorem leaves_wrap (rp : Rp) (n : Node) : leavesN (wrap rp n) = leavesN n := by
  cases rp <;> simp [wrap, leavesN]

theorem wf_wrap (rp : Rp) (n : Node) : wfN (wrap rp n) = wfN n := by
  cases rp <;> simp [wrap, wfN]

theorem absent_wrap (rp : Rp) (n : Node) (r d : Nat) : absentN (wrap rp n) r d = absentN n r d := by
  cases rp <;> simp [wrap, absentN]

theorem shredN_wrap_length (rp : Rp) (n : PNode) (r k d : Nat) (v : Val) :
    (shredN (wrap rp (eraseN n)) r k d v).length = leavesP n := by
  rw [shredN_length, leaves_wrap]; rfl

theorem shredF_len : ∀ (fs : Fields) (r k d : Nat) (vs : List Val), (shredF fs r k d vs).length = leavesF fs :=
  shredF_length

/-- the block of columns of the (first) field named `nm` -/
def blkOf (nm : Nat) : PFields → Cols → Cols
  | .nil, _ => []
  | .cons nm' _ n fs, blk =>
    if nm' = nm then blk.take (leavesP n) else blkOf nm fs (blk.drop (leavesP n))

theorem findB_eq (nm : Nat) : ∀ (sfs : PFields) (blk : Cols),
    findB nm sfs blk = (getFld nm sfs).map (fun p => (p.1, p.2, blkOf nm sfs blk))
  | .nil, _ => by simp [findB, getFld]
  | .cons nm' rp n fs, blk => by
    simp only [findB, getFld, blkOf]
    split
    · simp
    · exact findB_eq nm fs _

theorem fld_shred (nm : Nat) (srp : Rp) (s : PNode) (r k d : Nat) :
    ∀ (sfs : PFields) (vs : List Val), confF (eraseF sfs) vs = true → getFld nm sfs = some (srp, s) →
      ∃ v, findV nm sfs vs = some (srp, s, v) ∧
        blkOf nm sfs (shredF (eraseF sfs) r k d vs) = shredN (wrap srp (eraseN s)) r k d v ∧
        confN (wrap srp (eraseN s)) v = true := by
  intro sfs vs hc h
  fun_induction getFld nm sfs generalizing vs with
  | case1 => cases h
  | case2 rp n fs =>
    obtain ⟨rfl, rfl⟩ := Prod.mk.inj (Option.some.inj h)
    obtain ⟨v, vs', rfl, hcv, hcs⟩ := confF_cons hc
    simp only [findV, blkOf, eraseF, shredF, if_true]
    exact ⟨v, rfl, List.take_left' (shredN_wrap_length rp n r k d v), hcv⟩
  | case3 nm' rp n fs hne ih =>
    obtain ⟨v, vs', rfl, hcv, hcs⟩ := confF_cons hc
    simp only [findV, blkOf, eraseF, shredF, if_neg hne]
    obtain ⟨v', h1, h2, h3⟩ := ih vs' hcs h
    refine ⟨v', h1, ?_, h3⟩
    rw [← shredN_wrap_length rp n r k d v, List.drop_left]
    exact h2

theorem fld_absent (nm : Nat) (srp : Rp) (s : PNode) (r d : Nat) :
    ∀ (sfs : PFields), getFld nm sfs = some (srp, s) →
      blkOf nm sfs (absentF (eraseF sfs) r d) = absentN (eraseN s) r d := by
  intro sfs h
  have hlen : ∀ rp n, (absentN (wrap rp (eraseN n)) r d).length = leavesP n := fun rp n => by
    rw [absentN_length, leaves_wrap]; rfl
  fun_induction getFld nm sfs with
  | case1 => cases h
  | case2 rp n fs =>
    obtain ⟨rfl, rfl⟩ := Prod.mk.inj (Option.some.inj h)
    simp only [blkOf, eraseF, absentF, if_true]
    rw [← hlen rp n, List.take_left, absent_wrap]
  | case3 nm' rp n fs hne ih =>
    simp only [blkOf, eraseF, absentF, if_neg hne]
    rw [← hlen rp n, List.drop_left]
    exact ih h

theorem wf_of_fld {nm : Nat} {rp : Rp} {sn : PNode} {sfs : PFields} (hw : wfF (eraseF sfs) = true)
    (hg : getFld nm sfs = some (rp, sn)) : wfN (eraseN sn) = true :=
  by
  fun_induction getFld nm sfs with
  | case1 => cases hg
  | case2 rp' n fs =>
    obtain ⟨rfl, rfl⟩ := Prod.mk.inj (Option.some.inj hg)
    simp only [eraseF, wfF, Bool.and_eq_true] at hw
    simpa [wf_wrap] using hw.1
  | case3 nm' rp' n fs hne ih =>
    simp only [eraseF, wfF, Bool.and_eq_true] at hw
    exact ih hw.2 hg

theorem leavesF_cons (nm : Nat) (rp : Rp) (n : PNode) (fs : PFields) :
    leavesF (eraseF (.cons nm rp n fs)) = leavesP n + leavesF (eraseF fs) := by
  simp [eraseF, leavesF, leaves_wrap, leavesP]

theorem blkOf_zip (nm : Nat) : ∀ (sfs : PFields) (X Y : Cols),
    blkOf nm sfs (zipApp X Y) = zipApp (blkOf nm sfs X) (blkOf nm sfs Y)
  | .nil, _, _ => rfl
  | .cons nm' rp n fs, X, Y => by
    simp only [blkOf]
    split
    · exact zipApp_take _ _ _
    · rw [zipApp_drop]
      exact blkOf_zip nm fs _ _

theorem blkOf_length (nm : Nat) (rp : Rp) (n : PNode) : ∀ (sfs : PFields) (X : Cols),
    getFld nm sfs = some (rp, n) → X.length = leavesF (eraseF sfs) → (blkOf nm sfs X).length = leavesP n := by
  intro sfs X h hl
  fun_induction blkOf nm sfs X with
  | case1 => simp [getFld] at h
  | case2 rp' n' fs X =>
    rw [leavesF_cons] at hl
    simp only [getFld, if_true, Option.some.injEq, Prod.mk.injEq] at h
    obtain ⟨rfl, rfl⟩ := h
    simp [List.length_take]; omega
  | case3 nm' rp' n' fs X hne ih =>
    rw [leavesF_cons] at hl
    simp only [getFld, hne, if_false] at h
    exact ih h (by simp [List.length_drop]; omega)

theorem blkOf_ne (nm : Nat) : ∀ (sfs : PFields) (X : Cols), NE X → NE (blkOf nm sfs X) := by
  intro sfs X h
  fun_induction blkOf nm sfs X with
  | case1 => intro c hc; cases hc
  | case2 rp n fs X => exact fun c hc => h c (List.mem_of_mem_take hc)
  | case3 nm' rp n fs X hne ih => exact ih (fun c hc => h c (List.mem_of_mem_drop hc))

mutual
theorem convN_length : ∀ (t : PNode) (trp : Rp) (lv : Lv) (s : Src), (convN t trp lv s).length = leavesP t
  | .leaf, _, _, _ => by simp [convN, leavesP, eraseN, leavesN]
  | .group tfs, _, lv, s => by
    simp only [convN, leavesP, eraseN, leavesN]
    exact convF_length tfs lv s
theorem convF_length : ∀ (tfs : PFields) (lv : Lv) (s : Src), (convF tfs lv s).length = leavesF (eraseF tfs)
  | .nil, _, _ => by simp [convF, eraseF, leavesF]
  | .cons nm trp tn tfs, lv, s => by
    rw [leavesF_cons]
    simp only [convF, List.length_append]
    rw [convN_length tn, convF_length tfs]
end

/-- `leafOut` on one entry of a non-empty source column -/
def leafFn (lv : Lv) (t : Triple) : Triple :=
  let u := if isDirect lv.R (lv.sr + 1) && isDirect lv.D (lv.sd + 1) then t
    else if t.rep ≥ lv.sr + 1 ∨ t.dfn ≥ lv.sd + 1 then ⟨none, 0, 0⟩ else ⟨t.val, lv.R t.rep, lv.D t.dfn⟩
  if u.val.isNone && !(decide (lv.td > 0)) then ⟨some 0, 0, 0⟩ else u

theorem leafOut_on (tOpt : Bool) (lv : Lv) (c : List Triple) (pc : Option (List Triple)) (h : c ≠ []) :
    leafOut tOpt lv (.on .leaf [c] pc) = c.map (leafFn lv) := by
  have he : c.isEmpty = false := List.isEmpty_eq_false_iff.mpr h
  simp only [leafOut, List.headD_cons, he, Bool.false_eq_true, if_false]
  cases hd : (isDirect lv.R (lv.sr + 1) && isDirect lv.D (lv.sd + 1)) with
  | true =>
    simp only [if_true, fixup]
    exact List.map_congr_left (fun t _ => by simp [leafFn, hd])
  | false =>
    simp only [Bool.false_eq_true, if_false, fixup, convLevels, List.map_map]
    exact List.map_congr_left (fun t _ => by simp [leafFn, hd])

theorem isDirect_spec {f : Nat → Nat} {n i : Nat} (h : isDirect f n = true) (hi : i < n) : f i = i := by
  simp only [isDirect, List.all_eq_true, List.mem_range] at h
  simpa using h i hi

theorem direct_id {lv : Lv} (h : (isDirect lv.R (lv.sr + 1) && isDirect lv.D (lv.sd + 1)) = true) {r d : Nat}
    (hr : r ≤ lv.sr) (hd : d ≤ lv.sd) : lv.R r = r ∧ lv.D d = d :=
  ⟨isDirect_spec (Bool.and_eq_true_iff.mp h).1 (Nat.lt_succ_of_le hr),
    isDirect_spec (Bool.and_eq_true_iff.mp h).2 (Nat.lt_succ_of_le hd)⟩

theorem upd_same (f : Nat → Nat) (i v : Nat) : upd f i v i = v := by simp [upd]
theorem upd_other (f : Nat → Nat) {i j : Nat} (v : Nat) (h : j ≠ i) : upd f i v j = f j := by simp [upd, h]

theorem stepS_on (nm : Nat) (trp : Rp) (lv : Lv) (sfs : PFields) (blk : Cols) (pc : Option (List Triple))
    {srp : Rp} {sn : PNode} (h : getFld nm sfs = some (srp, sn)) :
    stepS nm trp lv (.on (.group sfs) blk pc) =
      (lv.step trp srp, .on sn (blkOf nm sfs blk) ((closestLeaf sfs blk none).map (·.2))) := by
  simp [stepS, findB_eq, h]

theorem subF_cons {sfs : PFields} {nm : Nat} {trp : Rp} {t : PNode} {tfs : PFields}
    (h : subF sfs (.cons nm trp t tfs) = true) :
    ∃ srp s, getFld nm sfs = some (srp, s) ∧ rpOk srp trp = true ∧ subN s t = true ∧ subF sfs tfs = true := by
  simp only [subF, Bool.and_eq_true] at h
  cases hg : getFld nm sfs with
  | none => simp [hg] at h
  | some p =>
    obtain ⟨srp, s⟩ := p
    simp only [hg, Bool.and_eq_true] at h
    exact ⟨srp, s, rfl, h.1.1, h.1.2, h.2⟩

theorem subN_leaf {s : PNode} (h : subN s .leaf = true) : s = .leaf := by
  cases s <;> simp [subN] at h
  rfl

theorem subN_group {s : PNode} {tfs : PFields} (h : subN s (.group tfs) = true) :
    ∃ sfs, s = .group sfs ∧ subF sfs tfs = true := by
  cases s <;> simp [subN] at h
  exact ⟨_, rfl, h⟩

theorem rpOk_refl (rp : Rp) : rpOk rp rp = true := by cases rp <;> rfl

theorem rpOk_rep {srp trp : Rp} (h : rpOk srp trp = true) : repOf srp = repOf trp := by
  cases srp <;> cases trp <;> simp_all [rpOk, repOf]

theorem leafFn_absent (lv : Lv) (r d : Nat) (hr : r ≤ lv.sr) (hd : d ≤ lv.sd) (htd : 0 < lv.td) :
    leafFn lv ⟨none, r, d⟩ = ⟨none, lv.R r, lv.D d⟩ := by
  cases hdir : (isDirect lv.R (lv.sr + 1) && isDirect lv.D (lv.sd + 1)) with
  | true =>
    obtain ⟨h1, h2⟩ := direct_id hdir hr hd
    simp [leafFn, hdir, h1, h2, htd]
  | false =>
    have hg : ¬ (r ≥ lv.sr + 1 ∨ d ≥ lv.sd + 1) := by omega
    simp [leafFn, hdir, hg, htd]

theorem leafFn_value (lv : Lv) (x r : Nat) (hr : r ≤ lv.sr) (hD : lv.D lv.sd = lv.td) :
    leafFn lv ⟨some x, r, lv.sd⟩ = ⟨some x, lv.R r, lv.td⟩ := by
  cases hdir : (isDirect lv.R (lv.sr + 1) && isDirect lv.D (lv.sd + 1)) with
  | true =>
    obtain ⟨h1, h2⟩ := direct_id hdir hr (Nat.le_refl lv.sd)
    simp [leafFn, hdir, h1, ← hD, h2]
  | false =>
    have hg : ¬ (r ≥ lv.sr + 1 ∨ lv.sd ≥ lv.sd + 1) := by omega
    simp [leafFn, hdir, hg, hD]

/-! The invariant of the walk, kept by every `Lv.step`: `R sr = tr` and `D sd = td` (the hypotheses
    `hR`, `hD` of `main_convN`). -/

theorem step_inv_R (lv : Lv) (trp srp : Rp) : (lv.step trp srp).R (lv.step trp srp).sr = (lv.step trp srp).tr :=
  upd_same _ _ _

theorem step_inv_D (lv : Lv) (trp srp : Rp) : (lv.step trp srp).D (lv.step trp srp).sd = (lv.step trp srp).td :=
  upd_same _ _ _

theorem le_step_sr {lv : Lv} {r : Nat} (trp srp : Rp) (h : r ≤ lv.sr) : r ≤ (lv.step trp srp).sr :=
  Nat.le_trans h (Nat.le_add_right _ _)

theorem lt_step_sd {lv : Lv} {d : Nat} (trp srp : Rp) (h : d < lv.sd) : d < (lv.step trp srp).sd :=
  Nat.lt_of_lt_of_le h (Nat.le_add_right _ _)

theorem lt_step_td {lv : Lv} {d : Nat} (trp srp : Rp) (h : d < lv.td) : d < (lv.step trp srp).td :=
  Nat.lt_of_lt_of_le h (Nat.le_add_right _ _)

theorem step_R {lv : Lv} {trp srp : Rp} {r : Nat} (hok : rpOk srp trp = true) (hr : r ≤ lv.sr)
    (hR : lv.R lv.sr = lv.tr) : (lv.step trp srp).R r = lv.R r := by
  by_cases h : r = lv.sr + repOf srp
  · -- only for a non-repeated source field: the one place `rpOk` and `hR` are needed
    have h0 : repOf srp = 0 := by omega
    have h1 : repOf trp = 0 := by rw [← rpOk_rep hok]; exact h0
    rw [h]
    exact (upd_same _ _ _).trans (by rw [h1, h0, Nat.add_zero, Nat.add_zero, hR])
  · exact upd_other _ _ h

theorem step_D {lv : Lv} {trp srp : Rp} {d : Nat} (hd : d < lv.sd + defOf srp) : (lv.step trp srp).D d = lv.D d :=
  upd_other _ _ (by omega)

mutual
/-- Absent = an ancestor was null or empty at `(r, d)`: `d < lv.sd`, where later steps write nothing
    (`step_D`). `0 < lv.td`: else `leafFn` would turn the null into the zero of a required column. -/
theorem absent_convN : ∀ (t : PNode) (trp : Rp) (lv : Lv) (s : PNode) (r d : Nat) (pc : Option (List Triple)),
    subN s t = true → r ≤ lv.sr → lv.R lv.sr = lv.tr → d < lv.sd → 0 < lv.td →
    convN t trp lv (.on s (absentN (eraseN s) r d) pc) = absentN (eraseN t) (lv.R r) (lv.D d)
  | .leaf, trp, lv, s, r, d, pc, hs, hr, hR, hd, htd => by
    obtain rfl := subN_leaf hs
    simp only [convN, eraseN, absentN]
    rw [leafOut_on _ _ _ _ (by simp)]
    simp [leafFn_absent lv r d hr (by omega) htd]
  | .group tfs, trp, lv, s, r, d, pc, hs, hr, hR, hd, htd => by
    obtain ⟨sfs, rfl, hs⟩ := subN_group hs
    simp only [convN, eraseN, absentN]
    exact absent_convF tfs lv sfs r d pc hs hr hR hd htd
theorem absent_convF : ∀ (tfs : PFields) (lv : Lv) (sfs : PFields) (r d : Nat) (pc : Option (List Triple)),
    subF sfs tfs = true → r ≤ lv.sr → lv.R lv.sr = lv.tr → d < lv.sd → 0 < lv.td →
    convF tfs lv (.on (.group sfs) (absentF (eraseF sfs) r d) pc) = absentF (eraseF tfs) (lv.R r) (lv.D d)
  | .nil, _, _, _, _, _, _, _, _, _, _ => by simp [convF, eraseF, absentF]
  | .cons nm trp tn tfs, lv, sfs, r, d, pc, hs, hr, hR, hd, htd => by
    obtain ⟨srp, sn, hg, hok, hsn, hrest⟩ := subF_cons hs
    simp only [convF, stepS_on nm trp lv sfs _ pc hg, eraseF, absentF, absent_wrap]
    rw [fld_absent nm srp sn r d sfs hg]
    rw [absent_convN tn trp (lv.step trp srp) sn r d _ hsn
      (le_step_sr _ _ hr) (step_inv_R _ _ _) (lt_step_sd _ _ hd) (lt_step_td _ _ htd)]
    rw [step_R hok hr hR, step_D (Nat.lt_add_right _ hd)]
    rw [absent_convF tfs lv sfs r d pc hrest hr hR hd htd]
end

theorem lin_leaf (trp : Rp) (lv : Lv) (X Y : Cols) (p1 p2 p3 : Option (List Triple))
    (hx : X.length = leavesP .leaf) (hy : Y.length = leavesP .leaf) (nx : NE X) (ny : NE Y) :
    convN .leaf trp lv (.on .leaf (zipApp X Y) p3) =
      zipApp (convN .leaf trp lv (.on .leaf X p1)) (convN .leaf trp lv (.on .leaf Y p2)) := by
  match X, Y, hx, hy with
  | [x], [y], _, _ =>
    have hxne : x ≠ [] := nx x (by simp)
    have hyne : y ≠ [] := ny y (by simp)
    simp only [convN, zipApp]
    rw [leafOut_on _ _ _ _ (by simp [hxne]), leafOut_on _ _ _ _ hxne, leafOut_on _ _ _ _ hyne, List.map_append]

mutual
/-- The closest-leaf component `p` of an `.on` state is only read when a field is missing in the
    source, which `subN` excludes: the three states may carry any. -/
theorem lin_convN : ∀ (t : PNode) (trp : Rp) (lv : Lv) (s : PNode) (X Y : Cols) (p1 p2 p3 : Option (List Triple)),
    subN s t = true → X.length = leavesP s → Y.length = leavesP s → NE X → NE Y →
    convN t trp lv (.on s (zipApp X Y) p3) =
      zipApp (convN t trp lv (.on s X p1)) (convN t trp lv (.on s Y p2))
  | .leaf, trp, lv, s, X, Y, p1, p2, p3, hs, hx, hy, nx, ny => by
    obtain rfl := subN_leaf hs
    exact lin_leaf trp lv X Y p1 p2 p3 hx hy nx ny
  | .group tfs, trp, lv, s, X, Y, p1, p2, p3, hs, hx, hy, nx, ny => by
    obtain ⟨sfs, rfl, hs⟩ := subN_group hs
    exact lin_convF tfs lv sfs X Y p1 p2 p3 hs hx hy nx ny
theorem lin_convF : ∀ (tfs : PFields) (lv : Lv) (sfs : PFields) (X Y : Cols) (p1 p2 p3 : Option (List Triple)),
    subF sfs tfs = true → X.length = leavesF (eraseF sfs) → Y.length = leavesF (eraseF sfs) → NE X → NE Y →
    convF tfs lv (.on (.group sfs) (zipApp X Y) p3) =
      zipApp (convF tfs lv (.on (.group sfs) X p1)) (convF tfs lv (.on (.group sfs) Y p2))
  | .nil, _, _, _, _, _, _, _, _, _, _, _, _ => by simp [convF, zipApp]
  | .cons nm trp tn tfs, lv, sfs, X, Y, p1, p2, p3, hs, hx, hy, nx, ny => by
    obtain ⟨srp, sn, hg, hok, hsn, hrest⟩ := subF_cons hs
    simp only [convF, stepS_on nm trp lv sfs _ _ hg]
    rw [blkOf_zip nm sfs X Y]
    rw [lin_convN tn trp (lv.step trp srp) sn (blkOf nm sfs X) (blkOf nm sfs Y)
      ((closestLeaf sfs X none).map (·.2)) ((closestLeaf sfs Y none).map (·.2)) _ hsn
      (blkOf_length nm srp sn sfs X hg hx) (blkOf_length nm srp sn sfs Y hg hy)
      (blkOf_ne nm sfs X nx) (blkOf_ne nm sfs Y ny)]
    rw [lin_convF tfs lv sfs X Y p1 p2 p3 hrest hx hy nx ny]
    rw [zipApp_append (by rw [convN_length, convN_length])]
end

/-- `conv_fold` for the blocks of shredded values: length and non-empty columns hold of every `shredN` -/
theorem conv_fold_shred (C : Cols → Cols) (n : Node) (m' : Nat) (f' : Val → Cols) {r k : Nat} (hr : r ≤ k) (d : Nat)
    (hlin : ∀ X Y, X.length = leavesN n → Y.length = leavesN n → NE X → NE Y → C (zipApp X Y) = zipApp (C X) (C Y))
    (hlen : ∀ X, (C X).length = m') (w0 : Val) (ws : List Val) (hws : ∀ w ∈ ws, C (shredN n k k d w) = f' w) :
    C (zipApp (shredN n r k d w0) (ws.foldr (fun w acc => zipApp (shredN n k k d w) acc) (List.replicate (leavesN n) []))) =
      zipApp (C (shredN n r k d w0)) (ws.foldr (fun w acc => zipApp (f' w) acc) (List.replicate m' [])) :=
  conv_fold C (leavesN n) m' _ f' hlin hlen ws
    (fun w hw => ⟨(shredN_good (Nat.le_refl _) d w).1, (shredN_good (Nat.le_refl _) d w).2, hws w hw⟩)
    _ (shredN_good hr d w0).1 (shredN_good hr d w0).2

theorem sameKind_of_sub {s t : PNode} (h : subN s t = true) : sameKind s t = true := by
  cases s <;> cases t <;> simp_all [subN, sameKind]

mutual
theorem main_convN : ∀ (t : PNode) (trp : Rp) (lv : Lv) (s : PNode) (v : Val) (r : Nat) (pc : Option (List Triple)),
    subN s t = true → wfN (eraseN s) = true → confN (eraseN s) v = true →
    r ≤ lv.sr → lv.R lv.sr = lv.tr → lv.D lv.sd = lv.td →
    convN t trp lv (.on s (shredN (eraseN s) r lv.sr lv.sd v) pc) =
      shredN (eraseN t) (lv.R r) lv.tr lv.td (projN s t v)
  | .leaf, trp, lv, s, v, r, pc, hs, hw, hc, hr, hR, hD => by
    obtain rfl := subN_leaf hs
    obtain ⟨x, rfl⟩ := confN_leaf hc
    simp only [convN, eraseN, shredN, projN]
    rw [leafOut_on _ _ _ _ (by simp)]
    simp [leafFn_value lv x r hr hD]
  | .group tfs, trp, lv, s, v, r, pc, hs, hw, hc, hr, hR, hD => by
    obtain ⟨sfs, rfl, hs⟩ := subN_group hs
    obtain ⟨vs, rfl, hc⟩ := confN_group hc
    simp only [eraseN, wfN, Bool.and_eq_true] at hw
    simp only [convN, eraseN, shredN, projN]
    exact main_convF tfs lv sfs vs r pc hs hw.1 hc hr hR hD
theorem main_convF : ∀ (tfs : PFields) (lv : Lv) (sfs : PFields) (vs : List Val) (r : Nat) (pc : Option (List Triple)),
    subF sfs tfs = true → wfF (eraseF sfs) = true → confF (eraseF sfs) vs = true →
    r ≤ lv.sr → lv.R lv.sr = lv.tr → lv.D lv.sd = lv.td →
    convF tfs lv (.on (.group sfs) (shredF (eraseF sfs) r lv.sr lv.sd vs) pc) =
      shredF (eraseF tfs) (lv.R r) lv.tr lv.td (projF sfs vs tfs)
  | .nil, _, _, _, _, _, _, _, _, _, _, _ => by simp [convF, eraseF, shredF, projF]
  | .cons nm trp tn tfs, lv, sfs, vs, r, pc, hs, hw, hc, hr, hR, hD => by
    obtain ⟨srp, sn, hg, hok, hsn, hrest⟩ := subF_cons hs
    obtain ⟨v, hfv, hblk, hcv⟩ := fld_shred nm srp sn r lv.sr lv.sd sfs vs hc hg
    have hwn := wf_of_fld hw hg
    have hsk : sameKind sn tn = true := sameKind_of_sub hsn
    simp only [convF, stepS_on nm trp lv sfs _ pc hg, hblk, eraseF, projF, hfv, hsk, if_true, shredF]
    rw [main_convF tfs lv sfs vs r pc hrest hw hc hr hR hD]
    congr 1
    have hRr := step_R (trp := trp) hok hr hR
    generalize Option.map (fun x => x.snd) (closestLeaf sfs (shredF (eraseF sfs) r lv.sr lv.sd vs) none) = pc'
    have hrec : ∀ (r' : Nat) (w : Val), r' ≤ lv.sr + repOf srp → confN (eraseN sn) w = true →
        convN tn trp (lv.step trp srp) (.on sn (shredN (eraseN sn) r' (lv.sr + repOf srp) (lv.sd + defOf srp) w) pc') =
          shredN (eraseN tn) ((lv.step trp srp).R r') (lv.tr + repOf trp) (lv.td + defOf trp) (projN sn tn w) :=
      fun r' w hr' hcw => main_convN tn trp (lv.step trp srp) sn w r' pc' hsn hwn hcw hr'
        (step_inv_R _ _ _) (step_inv_D _ _ _)
    have habs : defOf srp = 1 → defOf trp = 1 →
        convN tn trp (lv.step trp srp) (.on sn (absentN (eraseN sn) r lv.sd) pc') =
          absentN (eraseN tn) (lv.R r) lv.td := by
      intro hd hdt
      rw [absent_convN tn trp (lv.step trp srp) sn r lv.sd pc' hsn (le_step_sr _ _ hr) (step_inv_R _ _ _)
        (by show lv.sd < lv.sd + defOf srp; omega) (by show 0 < lv.td + defOf trp; omega),
        hRr, step_D (by omega), hD]
    cases srp <;> cases trp <;> simp only [rpOk, Bool.false_eq_true] at hok <;>
      simp only [repOf, defOf, Nat.add_zero] at hrec
    · -- required → required
      simpa only [wrap, hRr] using hrec r v hr hcv
    · -- required → optional
      simpa only [wrap, shredN, hRr] using hrec r v hr hcv
    · -- optional → optional
      rcases confN_opt hcv with rfl | ⟨w, rfl, hcw⟩
      · simpa only [wrap, shredN] using habs rfl rfl
      · simpa only [wrap, shredN, hRr] using hrec r w hr hcw
    · -- repeated → repeated
      obtain ⟨ws, rfl, hcw⟩ := confN_rpt hcv
      cases ws with
      | nil => simpa only [wrap, shredN, List.map_nil] using habs rfl rfl
      | cons w0 ws =>
        simp only [wrap, shredN, List.map_cons, List.foldr_map]
        rw [conv_fold_shred (fun X => convN tn .rpt (lv.step .rpt .rpt) (.on sn X pc')) (eraseN sn) (leavesN (eraseN tn))
          (fun w => shredN (eraseN tn) (lv.tr + 1) (lv.tr + 1) (lv.td + 1) (projN sn tn w)) (by omega) _
          (fun X Y hx hy nx ny => lin_convN tn .rpt _ sn X Y pc' pc' pc' hsn hx hy nx ny)
          (fun X => convN_length tn _ _ _) w0 ws
          (fun w hw' => by
            rw [hrec (lv.sr + 1) w (Nat.le_refl _) (hcw w (by simp [hw']))]
            exact congrArg (fun z => shredN _ z _ _ _) (step_inv_R lv .rpt .rpt))]
        rw [hrec r w0 (by omega) (hcw w0 (by simp)), hRr]
end

end PqModel.Convert
