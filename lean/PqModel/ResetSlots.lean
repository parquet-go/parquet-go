import PqModel.Reset

/-! # C17 — the row-group slots of `w.rowGroups` and what `writeRowGroup` stores in them

`Reset.lean` treats the committed row groups as a list that `Reset` empties and keeps only the heap of the
structs retained between `len(w.rowGroups)` and `cap(w.rowGroups)`. This file models those structs. `(*writer).writeRowGroup`
(writer.go 1794-1892) REUSES such a slot when the capacity allows (`reuseRowGroup`): it appends the
column chunks to the slot's `Columns` and — for a writer without sorting configuration that is
handed a row group WITH sorting columns — the code before the repair takes the slot's `SortingColumns` slice as the
list to fill. Go distinguishes a nil slice (thrift: field absent) from an empty one (thrift: empty
list written), so what a slot holds after `Reset` can show in the footer bytes.

MIRROR functions transliterate the code (`commitWith` over `sortingAsIs` before, `sortingFixed` after the
repair, /repo b415cc4); `specSorting` / `specEmit` are SPEC: what the property demands — the footer's row groups
are a function of the configuration and of the row groups committed since the last `Reset`. -/

namespace PqModel.ResetSlots
open PqModel.Reset (SortCol Str)

/-- a sorting column as a row group declares it (`SortingColumn` interface): leaf path, direction,
null order -/
structure RGSort where
  path : List Str
  descending : Bool
  nullsFirst : Bool
deriving DecidableEq

/-- one `format.RowGroup` of `w.rowGroups`. `sorting = none` is the nil slice. -/
structure Slot where
  columns : List Nat
  sorting : Option (List SortCol)
  nums : List Nat
deriving DecidableEq

/-- the zero `format.RowGroup` -/
def Slot.zero : Slot := ⟨[], none, []⟩

/-- `w.rowGroups` with its capacity: the live elements and the structs between len and cap -/
structure Slots where
  live : List Slot
  spare : List Slot
deriving DecidableEq

def Slots.fresh : Slots := ⟨[], []⟩

/-- what `writeRowGroup` is called with, as far as the stored row group is concerned -/
structure Commit where
  chunks : List Nat            -- rg.columnChunk (struct copies)
  rgSorting : List RGSort      -- rowGroup.SortingColumns()
  nums : List Nat              -- sizes, offsets, row count
deriving DecidableEq

/-- MIRROR `searchSortingColumn` (row_group.go 124-135): index of the first sorting column with
this path, `len` when there is none -/
def search : List RGSort → List Str → Nat
  | [], _ => 0
  | sc :: rest, path => if path = sc.path then 0 else search rest path + 1

/-- `list[k] = v` when `k < len(list)` (the guarded store of writer.go 1808-1814) -/
def setAt {α} (v : α) : Nat → List α → List α
  | _, [] => []
  | 0, _ :: xs => v :: xs
  | k + 1, x :: xs => x :: setAt v k xs

/-- MIRROR the `forEachLeafColumnOf` loop of writer.go 1807-1815 over the leaves (in column order,
`i` = column index of the first one) -/
def fill (rgSorting : List RGSort) : Nat → List (List Str) → List SortCol → List SortCol
  | _, [], acc => acc
  | i, leaf :: rest, acc =>
    let k := search rgSorting leaf
    let acc' := match rgSorting[k]? with
      | some sc => setAt ⟨i, sc.descending, sc.nullsFirst⟩ k acc
      | none => acc
    fill rgSorting (i + 1) rest acc'

/-- SPEC: the column index of the leaf with this path -/
def leafIndex : List (List Str) → List Str → Option Nat
  | [], _ => none
  | l :: rest, p => if l = p then some 0 else (leafIndex rest p).map (· + 1)

/-- SPEC: the row group's sorting columns as the footer lists them: one entry per sorting column,
naming the leaf with that path -/
def specResolve (leaves : List (List Str)) (rgSorting : List RGSort) : List SortCol :=
  rgSorting.map (fun sc => ⟨(leafIndex leaves sc.path).getD 0, sc.descending, sc.nullsFirst⟩)

/-- SPEC: the `sorting_columns` of a committed row group: the writer's configured ones; without
configuration, the row group's own; a nil slice only when neither exists (the configured list is
`make([]format.SortingColumn, 0)` then, writer.go 1126: empty, not nil) -/
def specSorting (cfgSorting : List SortCol) (leaves : List (List Str)) (c : Commit) : Option (List SortCol) :=
  if cfgSorting.isEmpty && !c.rgSorting.isEmpty then some (specResolve leaves c.rgSorting)
  else some cfgSorting

/-- MIRROR of the same lines in the parent of /repo b415cc4 (no longer in the tree): the list to fill is `make(…, 0, n)` for a new
slot and the slot's own `SortingColumns` for a reused one; the guarded stores then find
`len = 0` (nothing is ever stored) -/
def sortingAsIs (cfgSorting : List SortCol) (leaves : List (List Str)) (c : Commit) (reuse : Option Slot) :
    Option (List SortCol) :=
  if cfgSorting.isEmpty && !c.rgSorting.isEmpty then
    match reuse with
    | none => some (fill c.rgSorting 0 leaves [])
    | some slot =>
      match slot.sorting with
      | none => none                       -- a nil slice stays nil: nothing is stored into it
      | some l => some (fill c.rgSorting 0 leaves l)
  else some cfgSorting

/-- MIRROR of the repaired code: always `make([]format.SortingColumn, len(rowGroupSortingColumns))` -/
def sortingFixed (cfgSorting : List SortCol) (leaves : List (List Str)) (c : Commit) (_reuse : Option Slot) :
    Option (List SortCol) :=
  if cfgSorting.isEmpty && !c.rgSorting.isEmpty then
    some (fill c.rgSorting 0 leaves (List.replicate c.rgSorting.length SortCol.zero))
  else some cfgSorting

/-- MIRROR the tail of `writeRowGroup`: the slot at index `len` is reused when the capacity allows
(`columns = append(reuseRowGroup.Columns, rg.columnChunk...)`, every other field assigned),
otherwise a new struct is appended -/
def commitWith (sorting : List SortCol → List (List Str) → Commit → Option Slot → Option (List SortCol))
    (cfgSorting : List SortCol) (leaves : List (List Str)) (s : Slots) (c : Commit) : Slots :=
  match s.spare with
  | [] => { s with live := s.live ++ [⟨c.chunks, sorting cfgSorting leaves c none, c.nums⟩] }
  | slot :: rest =>
    { live := s.live ++ [⟨slot.columns ++ c.chunks, sorting cfgSorting leaves c (some slot), c.nums⟩]
      spare := rest }

/-- MIRROR `(*writer).reset` (writer.go 1246, 1259): `clear(w.rowGroups)`; `w.rowGroups[:0]` -/
def reset (s : Slots) : Slots := ⟨[], s.live.map (fun _ => Slot.zero) ++ s.spare⟩

inductive Op
  | commit (c : Commit)
  | reset
deriving DecidableEq

def stepWith (sorting : List SortCol → List (List Str) → Commit → Option Slot → Option (List SortCol))
    (cfgSorting : List SortCol) (leaves : List (List Str)) (s : Slots) : Op → Slots
  | .commit c => commitWith sorting cfgSorting leaves s c
  | .reset => reset s

def runWith (sorting : List SortCol → List (List Str) → Commit → Option Slot → Option (List SortCol))
    (cfgSorting : List SortCol) (leaves : List (List Str)) (ops : List Op) (s : Slots) : Slots :=
  ops.foldl (stepWith sorting cfgSorting leaves) s

/-- what the footer lists: the live row groups -/
def emit (s : Slots) : List Slot := s.live

/-- SPEC: the footer's row groups as a function of the configuration and the commits alone -/
def specEmit (resolve : List (List Str) → List RGSort → List SortCol)
    (cfgSorting : List SortCol) (leaves : List (List Str)) (cs : List Commit) : List Slot :=
  cs.map (fun c => ⟨c.chunks,
    if cfgSorting.isEmpty && !c.rgSorting.isEmpty then some (resolve leaves c.rgSorting) else some cfgSorting, c.nums⟩)

/-- every struct between len and cap is the zero row group -/
def SpareZero (s : Slots) : Prop := ∀ x ∈ s.spare, x = Slot.zero

theorem spareZero_fresh : SpareZero Slots.fresh := by
  intro x hx; cases hx

theorem spareZero_reset (s : Slots) (h : SpareZero s) : SpareZero (reset s) := by
  intro x hx
  simp only [reset, List.mem_append, List.mem_map] at hx
  rcases hx with ⟨_, _, rfl⟩ | hx
  · rfl
  · exact h x hx

theorem spareZero_commit (sorting) (cfg : List SortCol) (leaves : List (List Str)) (s : Slots) (c : Commit)
    (h : SpareZero s) : SpareZero (commitWith sorting cfg leaves s c) := by
  unfold commitWith
  split
  · rename_i he
    intro x hx
    simp only [he] at hx
    cases hx
  · rename_i slot rest he
    intro x hx
    exact h x (by rw [he]; exact List.mem_cons_of_mem _ hx)

/-- the filled list of the repaired code -/
def resolveFixed (leaves : List (List Str)) (rgSorting : List RGSort) : List SortCol :=
  fill rgSorting 0 leaves (List.replicate rgSorting.length SortCol.zero)

theorem commitFixed_live (cfg : List SortCol) (leaves : List (List Str)) (s : Slots) (c : Commit)
    (h : SpareZero s) :
    (commitWith sortingFixed cfg leaves s c).live = s.live ++ specEmit resolveFixed cfg leaves [c] := by
  unfold commitWith
  split
  · simp [specEmit, sortingFixed, resolveFixed]
  · rename_i slot rest he
    have hz : slot = Slot.zero := h slot (by rw [he]; exact List.mem_cons_self)
    subst hz
    simp [specEmit, sortingFixed, resolveFixed, Slot.zero]

theorem specEmit_append (r) (cfg : List SortCol) (leaves : List (List Str)) (a b : List Commit) :
    specEmit r cfg leaves (a ++ b) = specEmit r cfg leaves a ++ specEmit r cfg leaves b := by
  simp [specEmit]

/-- the commits of a history (resets skipped) -/
def commitsOf : List Op → List Commit
  | [] => []
  | .commit c :: rest => c :: commitsOf rest
  | .reset :: rest => commitsOf rest

theorem run_commits (cfg : List SortCol) (leaves : List (List Str)) (ops : List Op)
    (hc : ∀ op ∈ ops, op ≠ .reset) (s : Slots) (h : SpareZero s) :
    (runWith sortingFixed cfg leaves ops s).live = s.live ++ specEmit resolveFixed cfg leaves (commitsOf ops) := by
  induction ops generalizing s with
  | nil => simp [runWith, commitsOf, specEmit]
  | cons op ops ih =>
    cases op with
    | reset => exact absurd rfl (hc .reset List.mem_cons_self)
    | commit c =>
      have ih' := ih (fun o ho => hc o (List.mem_cons_of_mem _ ho))
        (commitWith sortingFixed cfg leaves s c) (spareZero_commit _ cfg leaves s c h)
      simp only [runWith, List.foldl_cons, stepWith] at ih' ⊢
      rw [ih', commitFixed_live cfg leaves s c h, commitsOf, List.append_assoc, ← specEmit_append]
      rfl

theorem spareZero_run (sorting) (cfg : List SortCol) (leaves : List (List Str)) (ops : List Op) (s : Slots)
    (h : SpareZero s) : SpareZero (runWith sorting cfg leaves ops s) :=
  List.foldlRecOn ops _ h fun s hs op _ => by
    cases op with
    | commit c => exact spareZero_commit sorting cfg leaves s c hs
    | reset => exact spareZero_reset s hs

theorem setAt_eq_set {α} (v : α) (k : Nat) (l : List α) : setAt v k l = l.set k v := by
  induction l generalizing k with
  | nil => cases k <;> rfl
  | cons x xs ih =>
    cases k with
    | zero => rfl
    | succ k => exact congrArg (x :: ·) (ih k)

theorem search_path (S : List RGSort) (p : List Str) (sc : RGSort) (h : S[search S p]? = some sc) : sc.path = p := by
  induction S with
  | nil => simp at h
  | cons a rest ih =>
    unfold search at h
    split at h
    · rename_i hp
      simp at h
      rw [← h]; exact hp.symm
    · simp only [List.getElem?_cons_succ] at h
      exact ih h

theorem search_eq (S : List RGSort) (hS : (S.map (·.path)).Nodup) (k : Nat) (sc : RGSort) (h : S[k]? = some sc) :
    search S sc.path = k := by
  induction S generalizing k with
  | nil => simp at h
  | cons a rest ih =>
    simp only [List.map_cons, List.nodup_cons] at hS
    cases k with
    | zero =>
      simp at h
      simp [search, h]
    | succ k =>
      simp only [List.getElem?_cons_succ] at h
      have hne : sc.path ≠ a.path := by
        intro e
        apply hS.1
        rw [← e]
        exact List.mem_map.mpr ⟨sc, List.mem_of_getElem? h, rfl⟩
      simp [search, hne, ih hS.2 k h]

theorem leafIndex_none (leaves : List (List Str)) (p : List Str) (h : p ∉ leaves) : leafIndex leaves p = none := by
  fun_induction leafIndex leaves p with
  | case1 => rfl
  | case2 l rest => exact absurd List.mem_cons_self h
  | case3 l rest p _ ih => rw [ih fun hm => h (List.mem_cons_of_mem _ hm)]; rfl

theorem leafIndex_some (leaves : List (List Str)) (p : List Str) (h : p ∈ leaves) : ∃ j, leafIndex leaves p = some j := by
  fun_induction leafIndex leaves p with
  | case1 => cases h
  | case2 => exact ⟨0, rfl⟩
  | case3 l rest p hp ih =>
    obtain ⟨j, hj⟩ := ih ((List.mem_cons.mp h).resolve_left fun e => hp e.symm)
    exact ⟨j + 1, by rw [hj]; rfl⟩

/-- one round of the loop of `fill`: the store for one leaf -/
def fillStep (S : List RGSort) (i : Nat) (leaf : List Str) (acc : List SortCol) : List SortCol :=
  match S[search S leaf]? with
  | some sc => setAt ⟨i, sc.descending, sc.nullsFirst⟩ (search S leaf) acc
  | none => acc

theorem fill_cons (S : List RGSort) (i : Nat) (leaf : List Str) (rest : List (List Str)) (acc : List SortCol) :
    fill S i (leaf :: rest) acc = fill S (i + 1) rest (fillStep S i leaf acc) := rfl

theorem fillStep_length (S : List RGSort) (i : Nat) (leaf : List Str) (acc : List SortCol) :
    (fillStep S i leaf acc).length = acc.length := by
  unfold fillStep
  split
  · rw [setAt_eq_set, List.length_set]
  · rfl

theorem fillStep_get (S : List RGSort) (hS : (S.map (·.path)).Nodup) (k : Nat) (sc : RGSort) (hk : S[k]? = some sc)
    (i : Nat) (leaf : List Str) (acc : List SortCol) (ha : acc.length = S.length) :
    (fillStep S i leaf acc)[k]? = if leaf = sc.path then some ⟨i, sc.descending, sc.nullsFirst⟩ else acc[k]? := by
  unfold fillStep
  by_cases hp : leaf = sc.path
  · subst hp
    have hkl : k < acc.length := ha ▸ (List.getElem?_eq_some_iff.mp hk).1
    rw [if_pos rfl, search_eq S hS k sc hk, hk]
    show (setAt _ k acc)[k]? = _
    rw [setAt_eq_set, List.getElem?_set_self hkl]
  · rw [if_neg hp]
    split
    · rw [setAt_eq_set, List.getElem?_set_ne]
      intro e
      exact hp (search_path S leaf sc (e ▸ hk)).symm
    · rfl

theorem fill_length (S : List RGSort) (i : Nat) (leaves : List (List Str)) (acc : List SortCol) :
    (fill S i leaves acc).length = acc.length := by
  induction leaves generalizing i acc with
  | nil => rfl
  | cons leaf rest ih => rw [fill_cons, ih, fillStep_length]

theorem fill_get (S : List RGSort) (hS : (S.map (·.path)).Nodup) (k : Nat) (sc : RGSort) (hk : S[k]? = some sc)
    (leaves : List (List Str)) (hl : leaves.Nodup) (i : Nat) (acc : List SortCol) (ha : acc.length = S.length) :
    (fill S i leaves acc)[k]? =
      match leafIndex leaves sc.path with
      | some j => some ⟨i + j, sc.descending, sc.nullsFirst⟩
      | none => acc[k]? := by
  induction leaves generalizing i acc with
  | nil => rfl
  | cons leaf rest ih =>
    rw [List.nodup_cons] at hl
    rw [fill_cons, ih hl.2 (i + 1) _ ((fillStep_length ..).trans ha), fillStep_get S hS k sc hk i leaf acc ha]
    by_cases hp : leaf = sc.path
    · -- this leaf carries the path: no later leaf does
      rw [leafIndex_none rest sc.path (hp ▸ hl.1)]
      simp [leafIndex, hp]
    · cases hj : leafIndex rest sc.path <;> simp [leafIndex, hp, hj, Nat.add_assoc, Nat.add_comm 1]

/-- **resolve_spec**: for a row group whose sorting columns name pairwise distinct leaves of the
schema, the list the repaired `writeRowGroup` stores is the spec's: one entry per sorting column,
in the row group's order, carrying the leaf's column index, the direction and the null order. -/
theorem resolve_spec (leaves : List (List Str)) (hl : leaves.Nodup) (S : List RGSort)
    (hS : (S.map (·.path)).Nodup) (hin : ∀ sc ∈ S, sc.path ∈ leaves) :
    resolveFixed leaves S = specResolve leaves S := by
  apply List.ext_getElem?
  intro k
  by_cases hk : k < S.length
  · have hsk : S[k]? = some S[k] := List.getElem?_eq_getElem hk
    rw [resolveFixed, fill_get S hS k S[k] hsk leaves hl 0 _ (by simp)]
    have hmem : S[k].path ∈ leaves := hin _ (List.getElem_mem hk)
    cases hj : leafIndex leaves S[k].path with
    | none =>
      rcases leafIndex_some leaves _ hmem with ⟨j, hj'⟩
      rw [hj] at hj'
      cases hj'
    | some j => simp [specResolve, hsk, hj]
  · have h1 : (resolveFixed leaves S).length = S.length := by simp [resolveFixed, fill_length]
    have h2 : (specResolve leaves S).length = S.length := by simp [specResolve]
    rw [List.getElem?_eq_none (by omega), List.getElem?_eq_none (by omega)]

end PqModel.ResetSlots
