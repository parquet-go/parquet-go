import PqModel.Bits

/-! # DELTA_BINARY_PACKED, DELTA_LENGTH_BYTE_ARRAY, DELTA_BYTE_ARRAY (property C04, part delta)

Two sides, kept apart:

* **SPEC** (`spec*`): decoders written from the Parquet `Encodings.md` text only (ULEB128, zigzag,
  header `<block size> <miniblocks per block> <total count> <first value>`, blocks
  `<min delta> <bit widths> <miniblocks>`, LSB-first bit packing, two's complement wrap-around,
  unneeded trailing miniblocks have a width byte but no body). They return the bytes that
  follow the stream, because the byte-array encodings concatenate streams.
* **MIRROR** (`mirror*`, `enc*`, `block*`): transliteration of the portable Go encoders of
  `encoding/delta` (file:line in each doc comment), generic in the integer width `n`
  (`n = 32` is `encodeInt32Default`, `n = 64` is `encodeInt64Default`; the two Go functions are
  textual twins).

Bytes are `Nat`s (< 256 when they come from the driver), as in `PqModel.Bits`. -/
namespace PqModel.Delta
open PqModel.Bits

inductive Err where
  | truncated      -- the stream ends inside a varint / width list / miniblock / value
  | badHeader      -- block size not a positive multiple of 128, or miniblock size not a multiple of 32
  | badWidth       -- bit width larger than the physical type
  | negativeLength -- a decoded (prefix/suffix/value) length is negative
  | badPrefix      -- prefix length larger than the previous value
  | countMismatch  -- number of prefix lengths differs from number of suffixes
  | fuel           -- unreachable (fuel = number of values suffices, see `decBlocks`)
  deriving DecidableEq, Repr

deriving instance DecidableEq for Except

/-! ## SPEC side -/

/-- SPEC. ULEB128: 7 bits per byte, least significant group first, high bit = continuation. -/
def specUleb (bs : List Nat) : Except Err (Nat × List Nat) :=
  match decUvarint bs with
  | some r => .ok r
  | none => .error .truncated

/-- SPEC. zigzag: 0,-1,1,-2,... ↦ 0,1,2,3,... -/
def unzigzag (u : Nat) : Int :=
  if u % 2 = 0 then ((u / 2 : Nat) : Int) else -((u / 2 : Nat) : Int) - 1

/-- SPEC. zigzag ULEB128 int. -/
def specZigzag (bs : List Nat) : Except Err (Int × List Nat) :=
  match specUleb bs with
  | .ok (u, r) => .ok (unzigzag u, r)
  | .error e => .error e

structure Header where
  blockSize : Nat
  minis : Nat
  total : Nat
  first : Int
  deriving Repr

/-- SPEC. `<block size in values> <number of miniblocks in a block> <total value count> <first value>`;
the block size is a multiple of 128, the miniblock count divides it and the quotient is a multiple of 32. -/
def specHeader (bs : List Nat) : Except Err (Header × List Nat) :=
  match specUleb bs with
  | .error e => .error e
  | .ok (b, bs1) =>
  match specUleb bs1 with
  | .error e => .error e
  | .ok (m, bs2) =>
  match specUleb bs2 with
  | .error e => .error e
  | .ok (t, bs3) =>
  match specZigzag bs3 with
  | .error e => .error e
  | .ok (f, bs4) =>
    if b = 0 ∨ b % 128 ≠ 0 ∨ m = 0 ∨ b % m ≠ 0 ∨ (b / m) % 32 ≠ 0 then .error .badHeader
    else .ok ({ blockSize := b, minis := m, total := t, first := f }, bs4)

/-- SPEC. The miniblocks of one block. `vpm` values per miniblock, `maxW` the width of the physical
type, `rem` the number of values still expected. A miniblock that is not needed (`rem = 0`) has a
width byte but no body; a needed one occupies `vpm * w / 8` bytes, bit-packed LSB first, and
contributes its first `min vpm rem` values (the rest is padding). Returns the unsigned (delta - min delta)
values and the bytes after the block. -/
def decMinis (vpm maxW : Nat) : List Nat → Nat → List Nat → Except Err (List Nat × List Nat)
  | [], _, bs => .ok ([], bs)
  | w :: ws, rem, bs =>
    if rem = 0 then .ok ([], bs)
    else if maxW < w then .error .badWidth
    else if bs.length < vpm * w / 8 then .error .truncated
    else
      match decMinis vpm maxW ws (rem - min vpm rem) (bs.drop (vpm * w / 8)) with
      | .error e => .error e
      | .ok (more, r) =>
        .ok (unpackBits w (min vpm rem) (bytesToBits (bs.take (vpm * w / 8))) ++ more, r)

/-- SPEC. value = previous value + min delta + packed value, wrapping in two's complement. -/
def recon {n : Nat} (minD : BitVec n) : BitVec n → List Nat → List (BitVec n)
  | _, [] => []
  | last, d :: ds => (last + minD + BitVec.ofNat n d) :: recon minD (last + minD + BitVec.ofNat n d) ds

/-- SPEC. One block `<min delta> <list of bitwidths of miniblocks> <miniblocks>` (`m` width
bytes, all present even when fewer miniblocks are needed). -/
def decBlock (n vpm m rem : Nat) (last : BitVec n) (bs : List Nat) : Except Err (List (BitVec n) × List Nat) :=
  match specZigzag bs with
  | .error e => .error e
  | .ok (md, bs1) =>
    if bs1.length < m then .error .truncated
    else
      match decMinis vpm n (bs1.take m) rem (bs1.drop m) with
      | .error e => .error e
      | .ok (ds, bs2) => .ok (recon (BitVec.ofInt n md) last ds, bs2)

/-- SPEC. Blocks until `rem` values have been produced; the deltas of a block are relative to the
last value of the previous block (or the first value of the header). `fuel` bounds the number of
blocks (every block yields at least one value, so `fuel = rem` suffices). -/
def decBlocks (n vpm m : Nat) : Nat → Nat → BitVec n → List Nat → Except Err (List (BitVec n) × List Nat)
  | _, 0, _, bs => .ok ([], bs)
  | 0, _ + 1, _, _ => .error .fuel
  | fuel + 1, rem + 1, last, bs =>
    match decBlock n vpm m (rem + 1) last bs with
    | .error e => .error e
    | .ok (vals, bs2) =>
      match decBlocks n vpm m fuel (rem + 1 - vals.length) (vals.getLastD last) bs2 with
      | .error e => .error e
      | .ok (more, bs3) => .ok (vals ++ more, bs3)

/-- SPEC. DELTA_BINARY_PACKED for an `n`-bit physical type: the values and the bytes following the
stream. -/
def specDecode (n : Nat) (bs : List Nat) : Except Err (List (BitVec n) × List Nat) :=
  match specHeader bs with
  | .error e => .error e
  | .ok (h, r) =>
    if h.total = 0 then .ok ([], r)
    else
      match decBlocks n (h.blockSize / h.minis) h.minis h.total (h.total - 1) (BitVec.ofInt n h.first) r with
      | .error e => .error e
      | .ok (vs, r') => .ok (BitVec.ofInt n h.first :: vs, r')

def specDecode32 := specDecode 32
def specDecode64 := specDecode 64

/-- SPEC. cut `bs` into consecutive pieces of the given lengths. -/
def splitLens : List Nat → List Nat → Except Err (List (List Nat) × List Nat)
  | [], bs => .ok ([], bs)
  | l :: ls, bs =>
    if bs.length < l then .error .truncated
    else
      match splitLens ls (bs.drop l) with
      | .error e => .error e
      | .ok (vs, r) => .ok (bs.take l :: vs, r)

/-- SPEC. lengths are INT32 values and must not be negative. -/
def natLens (ls : List (BitVec 32)) : Except Err (List Nat) :=
  if ls.all (fun l => !l.msb) then .ok (ls.map BitVec.toNat) else .error .negativeLength

/-- SPEC. DELTA_LENGTH_BYTE_ARRAY: all lengths as DELTA_BINARY_PACKED (INT32), then the
concatenated bytes. -/
def specDecodeDLBA (bs : List Nat) : Except Err (List (List Nat) × List Nat) :=
  match specDecode 32 bs with
  | .error e => .error e
  | .ok (ls, r) =>
    match natLens ls with
    | .error e => .error e
    | .ok ls => splitLens ls r

/-- SPEC. incremental decoding: value = first `p` bytes of the previous value ++ suffix. -/
def joinPrefix : List Nat → List Nat → List (List Nat) → Except Err (List (List Nat))
  | _, [], [] => .ok []
  | prev, p :: ps, s :: ss =>
    if prev.length < p then .error .badPrefix
    else
      match joinPrefix (prev.take p ++ s) ps ss with
      | .error e => .error e
      | .ok vs => .ok ((prev.take p ++ s) :: vs)
  | _, _, _ => .error .countMismatch

/-- SPEC. DELTA_BYTE_ARRAY: prefix lengths (DELTA_BINARY_PACKED) followed by the suffixes
(DELTA_LENGTH_BYTE_ARRAY). -/
def specDecodeDBA (bs : List Nat) : Except Err (List (List Nat) × List Nat) :=
  match specDecode 32 bs with
  | .error e => .error e
  | .ok (ps, r) =>
    match natLens ps with
    | .error e => .error e
    | .ok ps =>
      match specDecodeDLBA r with
      | .error e => .error e
      | .ok (ss, r') =>
        match joinPrefix [] ps ss with
        | .error e => .error e
        | .ok vs => .ok (vs, r')

/-! ## MIRROR side (encoding/delta, portable Go code) -/

/-- MIRROR of `binary.PutUvarint` (Go stdlib, used by binary_packed.go:169-175): the first
argument is fuel for the `for x >= 0x80` loop. -/
def putUvarint : Nat → Nat → List Nat
  | 0, x => [x]
  | f + 1, x => if x < 128 then [x] else (x % 128 + 128) :: putUvarint f (x / 128)

def uvarintEnc (x : Nat) : List Nat := putUvarint x x

/-- MIRROR of `binary.PutVarint`: `ux := uint64(x) << 1; if x < 0 { ux = ^ux }`. -/
def zigzag64 (x : BitVec 64) : Nat := (if x.msb then ~~~(x <<< 1) else x <<< 1).toNat

def varintEnc (x : BitVec 64) : List Nat := uvarintEnc (zigzag64 x)

/-- MIRROR of `bits.Len32`/`bits.Len64` (first argument: fuel). -/
def bitLenF : Nat → Nat → Nat
  | 0, _ => 0
  | f + 1, x => if x = 0 then 0 else bitLenF f (x / 2) + 1

def bitLen (x : Nat) : Nat := bitLenF x x

/-- MIRROR binary_packed.go:169-175 `encodeBinaryPackedHeader` with the constants of
binary_packed.go:55-58 (`blockSize = 128`, `numMiniBlocks = 4`); `first` is `int64(firstValue)`. -/
def encHeader {n : Nat} (total : Nat) (first : BitVec n) : List Nat :=
  uvarintEnc 128 ++ uvarintEnc 4 ++ uvarintEnc total ++ varintEnc (first.signExtend 64)

/-- MIRROR binary_packed.go:192-197 / 240-245 `blockDeltaInt32/64` (wrapping subtraction). -/
def blockDelta {n : Nat} : List (BitVec n) → BitVec n → List (BitVec n)
  | [], _ => []
  | v :: vs, last => (v - last) :: blockDelta vs v

/-- MIRROR binary_packed.go:199-207 / 247-255 `blockMinInt32/64` (signed comparison). -/
def blockMin {n : Nat} : List (BitVec n) → BitVec n
  | [] => 0
  | v :: vs => vs.foldl (fun m v => if v.slt m then v else m) v

/-- MIRROR binary_packed.go:215-229 / 263-277 `blockBitWidthsInt32/64`, one miniblock. -/
def miniWidth {n : Nat} (mb : List (BitVec n)) : Nat :=
  mb.foldl (fun w v => if bitLen v.toNat > w then bitLen v.toNat else w) 0

/-- MIRROR binary_packed_purego.go:9-28 / 30-49 `encodeMiniBlockInt32/64` and the
`n += (miniBlockSize * int(bitWidth)) / 8` of the caller: the values are OR-ed at consecutive bit
offsets, least significant bit first, into a zero-filled buffer (`resize` zero-fills), i.e.
LSB-first bit packing of `value & bitMask`. (The Go code does not mask the part spilling into
the next word; values are `< 2^w` by `lt_miniWidth`, so the mask is the identity. The word-level
OR is mirrored in PqModel/DeltaKernel.lean and proved equal to this bit packing: `kernel_eq_packMini`.) -/
def packMini {n : Nat} (w : Nat) (mb : List (BitVec n)) : List Nat :=
  if w = 0 then [] else bitsToBytes (w * mb.length) (packBits w (mb.map BitVec.toNat))

/-- MIRROR binary_packed.go:94-118 / 140-164 (with `blockSub` 209-213, `blockClear` 183-190,
`encodeBlockHeader` 177-181), one iteration of the block loop. `chunk` is
`src[i:]` cut to 128 values; the block is zero padded (`block := [blockSize]int32{}`), deltas and
their minimum are computed over the *padded* block, the padding is cleared after the min-delta
subtraction (`blockClearInt32`), all four width bytes are always written and a miniblock body is
written only when its width is not zero. Returns the bytes and the next `lastValue`
(= `block[127]`). -/
def encBlock {n : Nat} (chunk : List (BitVec n)) (last : BitVec n) : List Nat × BitVec n :=
  let block := chunk ++ List.replicate (128 - chunk.length) 0
  let deltas := blockDelta block last
  let minD := blockMin deltas
  let subbed := deltas.map (· - minD)
  let cleared := subbed.take chunk.length ++ List.replicate (128 - chunk.length) 0
  let minis := [0, 1, 2, 3].map (fun i => (cleared.drop (32 * i)).take 32)
  (varintEnc (minD.signExtend 64) ++ minis.map miniWidth
      ++ minis.flatMap (fun mb => packMini (miniWidth mb) mb),
   block.getLastD last)

/-- MIRROR binary_packed.go:93 / 139 `for i := 1; i < len(src); i += blockSize` (first
argument: fuel, `rest = src[i:]`). -/
def encBlocks {n : Nat} : Nat → List (BitVec n) → BitVec n → List Nat
  | 0, _, _ => []
  | f + 1, rest, last =>
    if rest.isEmpty then []
    else (encBlock (rest.take 128) last).1 ++ encBlocks f (rest.drop 128) (encBlock (rest.take 128) last).2

/-- MIRROR binary_packed.go:77-121 `encodeInt32Default` (n = 32) and 123-167
`encodeInt64Default` (n = 64): header (first value 0 when there is none), nothing else for fewer
than two values. -/
def mirrorEncode {n : Nat} (xs : List (BitVec n)) : List Nat :=
  encHeader xs.length (xs.headD 0) ++
    (if xs.length < 2 then [] else encBlocks xs.length xs.tail (xs.headD 0))

def mirrorEncode32 (xs : List (BitVec 32)) : List Nat := mirrorEncode xs
def mirrorEncode64 (xs : List (BitVec 64)) : List Nat := mirrorEncode xs

/-- MIRROR length_byte_array.go:20-35 `EncodeByteArray` for `len(offsets) ≥ 1` (with no offsets
at all the Go function returns zero bytes): the lengths `int32(offsets[i+1]-offsets[i])`
(length_byte_array_purego.go:5-9) as DELTA_BINARY_PACKED, then the value bytes. -/
def mirrorEncodeDLBA (vs : List (List Nat)) : List Nat :=
  mirrorEncode32 (vs.map fun v => BitVec.ofNat 32 v.length) ++ vs.flatten

/-- MIRROR of `EncodeByteArray` on the raw `(src, offsets)` input **as it was before the repair**
(`fix: DELTA_LENGTH_BYTE_ARRAY encodes the offsets window, not the whole buffer`): nothing at all
without offsets; otherwise the lengths of consecutive offsets, then `append(dst, src...)` — the
whole of `src`. Kept as a regression fact (`dlba_window_violation_before_fix`). -/
def mirrorEncodeDLBARawBeforeFix (src : List Nat) (offsets : List Nat) : List Nat :=
  if offsets.isEmpty then []
  else mirrorEncode32 ((offsets.zip offsets.tail).map fun ab => BitVec.ofNat 32 (ab.2 - ab.1)) ++ src

/-- `offsets[len(offsets)-1]` for the offsets `o :: rest` -/
def lastOff : Nat → List Nat → Nat
  | o, [] => o
  | _, b :: r => lastOff b r

/-- MIRROR length_byte_array.go:20-35 `EncodeByteArray` on the raw `(src, offsets)` input as the
Go API takes it: nothing at all without offsets; otherwise the lengths of consecutive offsets
(length_byte_array_purego.go:5-9), then `append(dst, src[offsets[0]:offsets[len(offsets)-1]]...)`
(line 33) — the window the offsets describe. -/
def mirrorEncodeDLBARaw (src : List Nat) (offsets : List Nat) : List Nat :=
  match offsets with
  | [] => []
  | o :: rest =>
    mirrorEncode32 (((o :: rest).zip rest).map fun ab => BitVec.ofNat 32 (ab.2 - ab.1))
      ++ (src.drop o).take (lastOff o rest - o)

/-- offsets are non-decreasing (what every producer of a `(src, offsets)` pair guarantees) -/
def nondecreasing : List Nat → Bool
  | a :: b :: r => decide (a ≤ b) && nondecreasing (b :: r)
  | _ => true

/-- the values a `(src, offsets)` pair denotes (what PLAIN and DELTA_BYTE_ARRAY encode) -/
def windowValues (src : List Nat) (offsets : List Nat) : List (List Nat) :=
  (offsets.zip offsets.tail).map fun ab => (src.drop ab.1).take (ab.2 - ab.1)

/-- MIRROR byte_array.go:196-201 `linearSearchPrefixLength`: number of leading equal bytes. -/
def commonPrefix : List Nat → List Nat → Nat
  | a :: as, b :: bs => if a = b then commonPrefix as bs + 1 else 0
  | _, _ => 0

/-- MIRROR byte_array.go:212-219, the loop over 8-byte words (first argument: words left): on the
first differing word return its offset plus `TrailingZeros64(x)/8`, the index of its first
differing byte (little endian). After the words, byte_array.go:221-227: the byte loop over the
remaining `n % 8` positions. -/
def wordSearch : Nat → List Nat → List Nat → Nat
  | 0, a, b => commonPrefix a b
  | k + 1, a, b =>
    if a.take 8 = b.take 8 then wordSearch k (a.drop 8) (b.drop 8) + 8
    else commonPrefix (a.take 8) (b.take 8)

/-- MIRROR byte_array.go:206-228 `wordSearchPrefixLength`: `n := min(len(base), len(data))`,
`nw := n / 8`. There is no cap on the prefix length. -/
def wordSearchPrefixLength (base data : List Nat) : Nat :=
  wordSearch (min base.length data.length / 8) base data

/-- MIRROR byte_array_prefix.go:5-7 (both the purego and the assembly build use the word search). -/
def searchPrefixLength (base data : List Nat) : Nat := wordSearchPrefixLength base data

/-- MIRROR byte_array.go:34-52: prefix length against the previous value (`lastValue` starts nil). -/
def dbaPrefixes : List Nat → List (List Nat) → List Nat
  | _, [] => []
  | prev, v :: vs => searchPrefixLength prev v :: dbaPrefixes v vs

def dbaSuffixes : List Nat → List (List Nat) → List (List Nat)
  | _, [] => []
  | prev, v :: vs => v.drop (searchPrefixLength prev v) :: dbaSuffixes v vs

/-- MIRROR byte_array.go:26-74 `EncodeByteArray`: prefix lengths, suffix lengths (both through
`encodeInt32`), suffix bytes. -/
def mirrorEncodeDBA (vs : List (List Nat)) : List Nat :=
  mirrorEncode32 ((dbaPrefixes [] vs).map (BitVec.ofNat 32)) ++
  mirrorEncode32 ((dbaSuffixes [] vs).map fun s => BitVec.ofNat 32 s.length) ++
  (dbaSuffixes [] vs).flatten

/-- the values of a FIXED_LEN_BYTE_ARRAY buffer: `src[i-size:i]` for `i = size, 2*size, ... ≤ len` -/
def chunksOf (size : Nat) : Nat → List Nat → List (List Nat)
  | 0, _ => []
  | f + 1, src => if src.length < size ∨ size = 0 then [] else src.take size :: chunksOf size f (src.drop size)

/-- MIRROR byte_array.go:76-122 `EncodeFixedLenByteArray` (for `size > 0`, `len(src) % size = 0`):
the same stream as `EncodeByteArray` on the values of `size` bytes each. -/
def mirrorEncodeFLBA (size : Nat) (src : List Nat) : List Nat :=
  mirrorEncodeDBA (chunksOf size src.length src)

end PqModel.Delta
