import PqModel.LittleEndian

/-! # Modular encryption: AAD construction, module inventory, ordinal tracking, abstract AEAD

MIRROR parts transliterate parquet-go as it is (`encrypt.go`, the encryption branches of
`writer.go` and `file.go`); SPEC parts are written from the Parquet modular-encryption document
(Encryption.md section 4.4, recalled offline) and are used only to state where the code deviates.
AES-GCM itself is NOT modelled: it enters as an abstract AEAD with the ideal hypotheses `Ideal`.

Which buffers reach `encryptModule` is modelled in `EncEmit.lean`. NOT modelled (L1 checks of
harness/props/c18*.go only): nonce generation, key retrieval, the thrift encoding of the modules.
The call-site table of `makeAAD` is in `AadSites.lean`, with `Module.used_inj` / `Module.aad_inj`. -/
namespace PqModel.Aad

abbrev Bytes := List UInt8

inductive ModType where
  | footer | columnMeta | dataPage | dataPageHeader | dictPage | dictPageHeader
  | bloomHeader | bloomBits | columnIndex | offsetIndex
deriving DecidableEq, Repr

/-- MIRROR encrypt.go:14-25 (module type constants as the code defines them). -/
def ModType.code : ModType → Nat
  | .footer => 0 | .columnMeta => 1 | .dataPage => 2 | .dataPageHeader => 3 | .dictPage => 4
  | .dictPageHeader => 5 | .bloomHeader => 6 | .bloomBits => 7 | .columnIndex => 8 | .offsetIndex => 9

/-- SPEC Encryption.md 4.4.2 "AAD suffix" table (Footer 0, ColumnMetaData 1, DataPage 2,
    DictionaryPage 3, DataPageHeader 4, DictionaryPageHeader 5, ColumnIndex 6, OffsetIndex 7,
    BloomFilterHeader 8, BloomFilterBitset 9). Recalled from the format document and the Arrow
    implementation; there is no copy of the document in the sandbox. -/
def ModType.specCode : ModType → Nat
  | .footer => 0 | .columnMeta => 1 | .dataPage => 2 | .dictPage => 3 | .dataPageHeader => 4
  | .dictPageHeader => 5 | .columnIndex => 6 | .offsetIndex => 7 | .bloomHeader => 8 | .bloomBits => 9

/-- MIRROR encrypt.go:240-242: `byte(ord), byte(ord>>8)` of an `int16`. The ordinal is given here as
    the non-negative Go `int` the call sites convert with `int16(i)`: conversion and shifts keep
    exactly the low 16 bits, little-endian. -/
def ordBytes (n : Nat) : Bytes := [UInt8.ofNat (n % 256), UInt8.ofNat (n / 256 % 256)]

/-- MIRROR encrypt.go:235-244 `makeAAD(aadPrefix, fileUnique, moduleType, ordinals...)`:
    prefix ‖ fileUnique ‖ moduleType ‖ (2 bytes LE per ordinal). -/
def makeAAD (pfx fu : Bytes) (t : Nat) (ords : List Nat) : Bytes :=
  pfx ++ fu ++ (UInt8.ofNat t :: ords.flatMap ordBytes)

/-- every separately sealed module of an encrypted file, named by its position in the file -/
inductive Module where
  | footer
  | columnMeta (rg col : Nat)
  | dataPageHeader (rg col page : Nat)
  | dataPage (rg col page : Nat)
  | dictPageHeader (rg col : Nat)
  | dictPage (rg col : Nat)
  | bloomHeader (rg col : Nat)
  | bloomBits (rg col : Nat)
  | columnIndex (rg col : Nat)
  | offsetIndex (rg col : Nat)
deriving DecidableEq, Repr

def Module.type : Module → ModType
  | .footer => .footer | .columnMeta .. => .columnMeta | .dataPageHeader .. => .dataPageHeader
  | .dataPage .. => .dataPage | .dictPageHeader .. => .dictPageHeader | .dictPage .. => .dictPage
  | .bloomHeader .. => .bloomHeader | .bloomBits .. => .bloomBits
  | .columnIndex .. => .columnIndex | .offsetIndex .. => .offsetIndex

/-- MIRROR: which ordinals each call site passes (writer.go:1377, 1403, 1457, 1498, 1784, 2286, 2296,
    2491, 2496, 2605, 2614, 2697, 2702; file.go:158, 203, 474, 515, 581, 981, 1019, 1056, 1065, 1388, 1400, 1580, 1595). Dictionary modules
    are given a third ordinal, the constant 0 (the format document gives them only two). -/
def Module.ords : Module → List Nat
  | .footer => []
  | .columnMeta rg col => [rg, col]
  | .dataPageHeader rg col p => [rg, col, p]
  | .dataPage rg col p => [rg, col, p]
  | .dictPageHeader rg col => [rg, col, 0]
  | .dictPage rg col => [rg, col, 0]
  | .bloomHeader rg col => [rg, col]
  | .bloomBits rg col => [rg, col]
  | .columnIndex rg col => [rg, col]
  | .offsetIndex rg col => [rg, col]

/-- SPEC: ordinals per module (page ordinal only for data pages and data page headers) -/
def Module.specOrds : Module → List Nat
  | .dictPageHeader rg col => [rg, col]
  | .dictPage rg col => [rg, col]
  | m => m.ords

/-- the arguments a call site hands to `makeAAD` -/
structure Used where
  t : ModType
  ords : List Nat
deriving DecidableEq, Repr

def Used.aad (pfx fu : Bytes) (u : Used) : Bytes := makeAAD pfx fu u.t.code u.ords

def Module.used (m : Module) : Used := ⟨m.type, m.ords⟩

def Module.aad (pfx fu : Bytes) (m : Module) : Bytes := m.used.aad pfx fu

def Module.specAad (pfx fu : Bytes) (m : Module) : Bytes := makeAAD pfx fu m.type.specCode m.specOrds

/-- every ordinal fits the unsigned 2-byte encoding (the code converts with `int16(i)` and never
    checks; row groups are capped at `MaxRowGroups = 32767` by writeRowGroup, columns by
    `MaxColumnIndex`, the page ordinal is NOT capped) -/
def Module.InRange (m : Module) : Prop := ∀ o ∈ m.ords, o < 65536

instance (m : Module) : Decidable m.InRange := by unfold Module.InRange; exact inferInstance

theorem ofNat_inj_lt {a b : Nat} (ha : a < 256) (hb : b < 256) (h : UInt8.ofNat a = UInt8.ofNat b) : a = b := by
  have := congrArg UInt8.toNat h
  simp at this
  omega

theorem ordBytes_eq_leBytes (n : Nat) : ordBytes n = LE.leBytes 2 n := rfl

theorem ordBytes_append_inj {a b : Nat} {r r' : Bytes} (ha : a < 65536) (hb : b < 65536)
    (h : ordBytes a ++ r = ordBytes b ++ r') : a = b ∧ r = r' := by
  obtain ⟨h1, h2⟩ := List.append_inj h rfl
  rw [ordBytes_eq_leBytes, ordBytes_eq_leBytes] at h1
  exact ⟨LE.leBytes_inj ha hb h1, h2⟩

theorem ModType.code_lt (t : ModType) : t.code < 10 := by cases t <;> decide

/-- a left inverse of `code` as a table (for `code_inj`) -/
theorem ModType.ofCode_code (t : ModType) :
    [ModType.footer, .columnMeta, .dataPage, .dataPageHeader, .dictPage, .dictPageHeader, .bloomHeader, .bloomBits,
      .columnIndex, .offsetIndex][t.code]? = some t := by
  cases t <;> rfl

theorem code_inj {s t : ModType} (h : UInt8.ofNat s.code = UInt8.ofNat t.code) : s = t := by
  have e := ModType.ofCode_code s
  rw [ofNat_inj_lt (Nat.lt_trans s.code_lt (by decide)) (Nat.lt_trans t.code_lt (by decide)) h, ModType.ofCode_code t] at e
  exact (Option.some.inj e).symm

theorem makeAAD_cancel {pfx fu : Bytes} {t t' : Nat} {o o' : List Nat}
    (h : makeAAD pfx fu t o = makeAAD pfx fu t' o') :
    UInt8.ofNat t = UInt8.ofNat t' ∧ o.flatMap ordBytes = o'.flatMap ordBytes := by
  unfold makeAAD at h
  have := List.append_cancel_left h
  simpa using this

theorem flatMap_ordBytes_inj : ∀ {o o' : List Nat}, (∀ x ∈ o, x < 65536) → (∀ x ∈ o', x < 65536) →
    o.flatMap ordBytes = o'.flatMap ordBytes → o = o'
  | [], [], _, _, _ => rfl
  | [], _ :: _, _, _, h => by simp [ordBytes] at h
  | _ :: _, [], _, _, h => by simp [ordBytes] at h
  | a :: o, b :: o', ho, ho', h => by
    rw [List.flatMap_cons, List.flatMap_cons] at h
    obtain ⟨rfl, ht⟩ := ordBytes_append_inj (ho a List.mem_cons_self) (ho' b List.mem_cons_self) h
    rw [flatMap_ordBytes_inj (fun x hx => ho x (List.mem_cons_of_mem _ hx)) (fun x hx => ho' x (List.mem_cons_of_mem _ hx)) ht]

theorem Used.aad_inj {pfx fu : Bytes} {u u' : Used} (hu : ∀ o ∈ u.ords, o < 65536) (hu' : ∀ o ∈ u'.ords, o < 65536)
    (h : u.aad pfx fu = u'.aad pfx fu) : u = u' := by
  obtain ⟨t, o⟩ := u
  obtain ⟨t', o'⟩ := u'
  obtain ⟨ht, ho⟩ := makeAAD_cancel h
  have et : t = t' := code_inj ht
  have eo : o = o' := flatMap_ordBytes_inj hu hu' ho
  rw [et, eo]

theorem makeAAD_file_inj {pfx fu pfx' fu' : Bytes} {t t' : Nat} {o o' : List Nat}
    (hp : pfx.length = pfx'.length) (hf : fu.length = fu'.length)
    (h : makeAAD pfx fu t o = makeAAD pfx' fu' t' o') : pfx = pfx' ∧ fu = fu' := by
  unfold makeAAD at h
  rw [List.append_assoc, List.append_assoc] at h
  have h1 := List.append_inj h hp
  have h2 := List.append_inj h1.2 hf
  exact ⟨h1.1, h2.1⟩

/-- an opening by a reader (the writer's sealings are `WEv`) -/
structure Ev where
  slot : Module
  used : Used
deriving DecidableEq, Repr

def Ev.Good (e : Ev) : Prop := e.used = e.slot.used

/-- a sealing (or, in `WSt.reopened`, an opening) the WRITER made: the slot, the `makeAAD` ordinal
    arguments, and WHICH file identifier was passed as `fileUnique`: `some g` = the identifier of
    the g-th encryption state of this writer (`newFileEncryptionState` at `newWriter` is 0, every
    `reset` draws the next one, writer.go:1191, 1235), `none` = the nil `ColumnWriter.fileUnique`
    of a column writer made by `BeginRowGroup` that was never handed one (writer.go:887-894). -/
structure WEv where
  slot : Module
  used : Used
  fu : Option Nat
deriving DecidableEq, Repr

def WEv.ev (e : WEv) : Ev := ⟨e.slot, e.used⟩

/-- the AAD bytes of a writer-side sealing; `fuOf g` = the identifier bytes of the g-th encryption
    state (random, or the configured `FileIdentifier` every time), nil for `none` -/
def WEv.aad (pfx : Bytes) (fuOf : Nat → Bytes) (e : WEv) : Bytes :=
  e.used.aad pfx (match e.fu with | some g => fuOf g | none => [])

def WEv.GoodIn (g : Nat) (e : WEv) : Prop := e.used = e.slot.used ∧ e.fu = some g

structure WCfg where
  ncols : Nat
  dict : Nat → Bool         -- column has a dictionary (`c.dictionary != nil`)
  bloom : Nat → Bool        -- column has a bloom filter (`len(c.filter) > 0`)
  plainFooter : Bool        -- `!EncryptedFooter`: column metadata is sealed separately
  /-- the column's bloom filter is built at `writeRowGroup` by reading the sealed pages back from
      the page buffer (`flushFilterPages`, writer.go:2194-2367: a filter that was not pre-sized, or a
      dictionary that fell back to PLAIN) -/
  reread : Nat → Bool := fun _ => false

structure BufPage where
  idx : Nat            -- position in the buffer = page position in the chunk once written
  hdr : Used
  body : Used
  fu : Option Nat      -- the `c.fileUnique` the page was sealed with
deriving DecidableEq, Repr

/-- the column writers of ONE row group writer (the writer's own `currentRowGroup`, or one made by
    `BeginRowGroup`): `colRg` = `ColumnWriter.rowGroupOrdinal` and `colFu` = `ColumnWriter.fileUnique`
    (all columns hold the same values: assigned together at writer.go:1204, 1239-1240, 1547, 1554,
    1563-1564), `await` = `ColumnWriter.awaitOrdinal`, `numPages col` = `ColumnWriter.numPages`
    (2113, 2767), `buf col` = the sealed pages in the column's page buffer, `rows` =
    `rg.columns[0].totalRowCount() > 0` (1528) -/
structure RgSt where
  colRg : Nat
  colFu : Option Nat
  await : Bool
  numPages : Nat → Nat
  buf : Nat → List BufPage
  rows : Bool

structure WSt where
  gen : Nat            -- which encryption state `w.encryption` is (0 = the one of newWriter)
  nrg : Nat            -- `len(w.rowGroups)` (writer.go:1533)
  main : RgSt          -- `w.currentRowGroup`
  crg : Nat → RgSt     -- the row groups made by `BeginRowGroup`, by identity
  log : List WEv       -- every sealed module that has reached the file
  /-- every page the writer has read back from its own page buffers (bloom filters): the sealing
      (as recorded in the buffer) paired with the arguments of the re-open -/
  reopened : List (WEv × WEv)

inductive WOp where
  /-- rows are buffered in the writer's own row group without any page being produced -/
  | write
  /-- `ColumnWriter.writeDataPage` of an encrypted column of the writer's own row group
      (writer.go:2516-2659), whoever calls it: a full page buffer during Write,
      `ColumnWriter.Flush`, `ColumnWriter.Close` (Writer.Close calls it for every column BEFORE
      writer.close, writer.go:472-482) -/
  | page (col : Nat)
  /-- `writer.writeRowGroup(w.currentRowGroup)` reached through Flush, Close, the row limit or
      `WriteRowGroup`; `last` lists the columns whose `c.Flush()` produces one more page -/
  | flush (last : List Nat)
  /-- rows written to the row group `id` made by `BeginRowGroup` (`rg.WriteRows`, ColumnWriters) -/
  | cwrite (id : Nat)
  /-- `ColumnWriter.Flush` on a column of row group `id`: a page spilling because the page buffer
      is full, `rg.Flush()`, or a direct call. A no-op while `awaitOrdinal` is set. -/
  | cpage (id col : Nat)
  /-- `ConcurrentRowGroupWriter.Commit` of row group `id` (writer.go:1007-1012): `writer.flush()` of
      the writer's own row group (`lastCur`: its columns that still emit a page), then
      `writeRowGroup(rg)` (`lastRg`: the columns of `rg` whose `c.Flush()` emits a page). The row
      group can be written to and committed again afterwards. -/
  | commit (id : Nat) (lastCur lastRg : List Nat)
  /-- `writer.reset` (writer.go:1219-1263) through `Writer.Reset` / `GenericWriter.Reset` -/
  | reset
deriving DecidableEq, Repr

def rgEmpty (colRg : Nat) (colFu : Option Nat) (await : Bool) : RgSt :=
  { colRg := colRg, colFu := colFu, await := await, numPages := fun _ => 0, buf := fun _ => [], rows := false }

/-- `newWriter` (ordinal 0 and the identifier of the first encryption state, writer.go:1190-1206)
    and `newConcurrentRowGroupWriter` with encryption (`awaitOrdinal = true`; `rowGroupOrdinal` and
    `fileUnique` keep their zero values, writer.go:887-894) -/
def winit : WSt :=
  { gen := 0, nrg := 0, main := rgEmpty 0 (some 0) false, crg := fun _ => rgEmpty 0 none true, log := [], reopened := [] }

/-- writer.go:2516-2659 + writePageTo: seal header and body with
    `(c.fileUnique; c.rowGroupOrdinal, c.columnOrdinal, int16(c.numPages))`, append to the page
    buffer, `c.numPages++`. `ColumnWriter.Flush` returns at once while `awaitOrdinal` is set (the
    mirror sets `rows` even then: an over-approximation). -/
def upage (u : RgSt) (col : Nat) : RgSt :=
  if u.await then { u with rows := true } else
  let e : BufPage :=
    ⟨(u.buf col).length, ⟨.dataPageHeader, [u.colRg, col, u.numPages col]⟩, ⟨.dataPage, [u.colRg, col, u.numPages col]⟩, u.colFu⟩
  { u with
    numPages := fun c => if c = col then u.numPages col + 1 else u.numPages c
    buf := fun c => if c = col then u.buf col ++ [e] else u.buf c
    rows := true }

/-- what one column contributes to the file when the row group with index `rgi` is written by the
    writer whose encryption state is generation `gen`: dictionary page (sealed NOW with
    `c.fileUnique, c.rowGroupOrdinal`, 2697/2702), the buffered pages (copied verbatim), the bloom
    filter (2491/2496), and in plaintext-footer mode the column metadata (1784, sealed with
    `enc.fileUnique` and the loop indices) -/
def emitCol (cfg : WCfg) (u : RgSt) (rgi gen col : Nat) : List WEv :=
  (if cfg.dict col then
    [⟨.dictPageHeader rgi col, ⟨.dictPageHeader, [u.colRg, col, 0]⟩, u.colFu⟩,
     ⟨.dictPage rgi col, ⟨.dictPage, [u.colRg, col, 0]⟩, u.colFu⟩] else []) ++
  (u.buf col).flatMap (fun p => [⟨.dataPageHeader rgi col p.idx, p.hdr, p.fu⟩, ⟨.dataPage rgi col p.idx, p.body, p.fu⟩]) ++
  (if cfg.bloom col then
    [⟨.bloomHeader rgi col, ⟨.bloomHeader, [u.colRg, col]⟩, u.colFu⟩,
     ⟨.bloomBits rgi col, ⟨.bloomBits, [u.colRg, col]⟩, u.colFu⟩] else []) ++
  (if cfg.plainFooter then [⟨.columnMeta rgi col, ⟨.columnMeta, [rgi, col]⟩, some gen⟩] else [])

/-- `flushFilterPages` of one column (writer.go:2284-2297): `for pageOrd := range int16(c.numPages)`
    the next header and body envelope of the page buffer are opened with
    `(c.fileUnique; c.rowGroupOrdinal, c.columnOrdinal, pageOrd)`. First component: the sealing the
    buffer holds at that position; second: the arguments of the open. -/
def rereadCol (cfg : WCfg) (u : RgSt) (rgi col : Nat) : List (WEv × WEv) :=
  if cfg.reread col then
    (((u.buf col).take (u.numPages col)).zipIdx).flatMap (fun pi =>
      [((⟨.dataPageHeader rgi col pi.1.idx, pi.1.hdr, pi.1.fu⟩ : WEv),
        (⟨.dataPageHeader rgi col pi.2, ⟨.dataPageHeader, [u.colRg, col, pi.2]⟩, u.colFu⟩ : WEv)),
       (⟨.dataPage rgi col pi.1.idx, pi.1.body, pi.1.fu⟩, ⟨.dataPage rgi col pi.2, ⟨.dataPage, [u.colRg, col, pi.2]⟩, u.colFu⟩)])
  else []

/-- the row group writer `u` as `writeRowGroup` (writer.go:1524-1583) prepares it for index `rgi`:
    assign ordinal and file identifier, clear `awaitOrdinal`, flush the last pages -/
def rgPrep (u : RgSt) (rgi gen : Nat) (last : List Nat) : RgSt :=
  last.foldl upage { u with colRg := rgi, colFu := some gen, await := false }

/-- the body of `writeRowGroup` (writer.go:1524-1893) for the row group writer `u` that gets index
    `rgi`: prepare, then emit -/
def rgWrite (cfg : WCfg) (u : RgSt) (rgi gen : Nat) (last : List Nat) : List WEv :=
  (List.range cfg.ncols).flatMap (emitCol cfg (rgPrep u rgi gen last) rgi gen)

/-- the pages `writeRowGroup` reads back for the bloom filters on the way (`c.flushFilterPages()`, writer.go:1579) -/
def rgReread (cfg : WCfg) (u : RgSt) (rgi gen : Nat) (last : List Nat) : List (WEv × WEv) :=
  (List.range cfg.ncols).flatMap (rereadCol cfg (rgPrep u rgi gen last) rgi)

/-- `writeRowGroup(w.currentRowGroup)`: an empty row group is skipped (1528-1531); the deferred
    block resets the row group writer and gives it the next ordinal (1541-1559) -/
def wflush (cfg : WCfg) (s : WSt) (last : List Nat) : WSt :=
  if !s.main.rows then s else
  { s with nrg := s.nrg + 1, main := rgEmpty (s.nrg + 1) (some s.gen) false,
           log := s.log ++ rgWrite cfg s.main s.nrg s.gen last,
           reopened := s.reopened ++ rgReread cfg s.main s.nrg s.gen last }

/-- `Commit` of row group `id`. `fixed = true` is the code: the deferred block also gives the writer's
    own (flushed, empty) row group the next ordinal (writer.go:1552-1556); `false` omits those lines
    (/repo before a1d7143). -/
def wcommit (fixed : Bool) (cfg : WCfg) (s : WSt) (id : Nat) (lastCur lastRg : List Nat) : WSt :=
  let s := wflush cfg s lastCur
  let u := s.crg id
  if !u.rows then s else
  { s with
    nrg := s.nrg + 1
    crg := fun i => if i = id then rgEmpty (s.nrg + 1) (some s.gen) true else s.crg i
    main := if fixed then { s.main with colRg := s.nrg + 1 } else s.main
    log := s.log ++ rgWrite cfg u s.nrg s.gen lastRg
    reopened := s.reopened ++ rgReread cfg u s.nrg s.gen lastRg }

/-- `reset` without writer.go:1232-1242 (/repo before 0ffb39c): row groups, indexes and buffers are
    cleared, but nothing touches `ColumnWriter.rowGroupOrdinal` and the encryption state (with its
    file identifier) is kept -/
def wresetBefore (s : WSt) : WSt :=
  { s with nrg := 0, main := rgEmpty s.main.colRg s.main.colFu false, log := [], reopened := [] }

/-- writer.go:1219-1263: row groups, indexes and buffers are cleared, a new encryption
    state is drawn (1235-1237: a new random identifier unless `FileIdentifier` is configured) and
    every column writer of the writer's own row group gets `rowGroupOrdinal = 0` and the NEW
    identifier (1238-1241). Row groups made by `BeginRowGroup` are not touched: they wait for
    ordinal and identifier anyway. -/
def wreset (s : WSt) : WSt :=
  { s with gen := s.gen + 1, nrg := 0, main := rgEmpty 0 (some (s.gen + 1)) false, log := [], reopened := [] }

/-- NOT the code: `reset` without line 1240 (`c.fileUnique = w.encryption.fileUnique`), which looks
    redundant next to the same assignment in `writeRowGroup` (1564). Kept to show that the theorems
    depend on it (`reset_must_hand_over_identifier`). -/
def wresetNoHandover (s : WSt) : WSt :=
  { s with gen := s.gen + 1, nrg := 0, main := rgEmpty 0 s.main.colFu false, log := [], reopened := [] }

/-- one step, with the two places where the regression variants differ as parameters -/
def wstepG (fixedCommit : Bool) (resetF : WSt → WSt) (cfg : WCfg) (s : WSt) : WOp → WSt
  | .write => { s with main := { s.main with rows := true } }
  | .page col => { s with main := upage s.main col }
  | .flush last => wflush cfg s last
  | .cwrite id => { s with crg := fun i => if i = id then { s.crg id with rows := true } else s.crg i }
  | .cpage id col => { s with crg := fun i => if i = id then upage (s.crg id) col else s.crg i }
  | .commit id a b => wcommit fixedCommit cfg s id a b
  | .reset => resetF s

/-- the code as it is -/
def wstep (cfg : WCfg) (s : WSt) (o : WOp) : WSt := wstepG true wreset cfg s o

def wrun (cfg : WCfg) (ops : List WOp) : WSt := ops.foldl (wstep cfg) winit

def wrunBefore (cfg : WCfg) (ops : List WOp) : WSt := ops.foldl (wstepG true wresetBefore cfg) winit

def wrunBeforeCommitFix (cfg : WCfg) (ops : List WOp) : WSt := ops.foldl (wstepG false wreset cfg) winit

/-- NOT the code: see `wresetNoHandover` -/
def wrunNoHandover (cfg : WCfg) (ops : List WOp) : WSt := ops.foldl (wstepG true wresetNoHandover cfg) winit

/-- writer.close (writer.go:1264-1281) and writeFileFooter: flush, then the page indexes sealed with
    `w.encryption.fileUnique` and the loop indices `(i, j)` (1377, 1403), then the footer (1457 / 1498).
    Every chunk gets a column index here; the code omits it for a chunk without bounds (writer.go:1366): not modelled. -/
def wclose (cfg : WCfg) (s : WSt) : List WEv :=
  let s := wflush cfg s []
  s.log ++
  (List.range s.nrg).flatMap (fun i => (List.range cfg.ncols).map (fun j => (⟨.columnIndex i j, ⟨.columnIndex, [i, j]⟩, some s.gen⟩ : WEv))) ++
  (List.range s.nrg).flatMap (fun i => (List.range cfg.ncols).map (fun j => (⟨.offsetIndex i j, ⟨.offsetIndex, [i, j]⟩, some s.gen⟩ : WEv))) ++
  [⟨.footer, ⟨.footer, []⟩, some s.gen⟩]

def pageOf (rgi g c i : Nat) : BufPage :=
  ⟨i, ⟨.dataPageHeader, [rgi, c, i]⟩, ⟨.dataPage, [rgi, c, i]⟩, some g⟩

/-- the buffer of column `c` holds pages `0 .. numPages c - 1` sealed for `(rgi, g)`: buffer position = page ordinal -/
def UInv (u : RgSt) (rgi g : Nat) : Prop :=
  ∀ c, u.buf c = (List.range (u.numPages c)).map (pageOf rgi g c)

structure Ready (u : RgSt) (rgi g : Nat) : Prop where
  rg : u.colRg = rgi
  fu : u.colFu = some g
  na : u.await = false
  pages : UInv u rgi g

/-- invariant of every history. `nr` (no rows, no buffered pages) is what lets `wcommit` give the
    writer's own row group another ordinal (`UInv.of_buf_nil`). -/
structure WInv (s : WSt) : Prop where
  main : Ready s.main s.nrg s.gen
  nr : s.main.rows = false → ∀ c, s.main.buf c = []
  crg : ∀ i, (s.crg i).await = true ∧ (∀ c, (s.crg i).buf c = []) ∧ (∀ c, (s.crg i).numPages c = 0)
  log : ∀ e ∈ s.log, e.GoodIn s.gen
  re : ∀ ab ∈ s.reopened, ab.1 = ab.2

theorem UInv.of_buf_nil {u : RgSt} {rgi g : Nat} (h : UInv u rgi g) (he : ∀ c, u.buf c = []) (rgi' g' : Nat) :
    UInv u rgi' g' := by
  intro c
  have hn : u.numPages c = 0 := by simpa [he c] using (congrArg List.length (h c)).symm
  rw [he c, hn]; rfl

theorem winv_init : WInv winit :=
  ⟨⟨rfl, rfl, rfl, fun _ => rfl⟩, fun _ _ => rfl, fun _ => ⟨rfl, fun _ => rfl, fun _ => rfl⟩,
   fun _ h => by simp [winit] at h, fun _ h => by simp [winit] at h⟩

theorem upage_await {u : RgSt} (h : u.await = true) (col : Nat) :
    (upage u col).await = true ∧ (upage u col).buf = u.buf ∧ (upage u col).numPages = u.numPages := by
  simp [upage, h]

theorem ready_page {u : RgSt} {rgi g : Nat} (h : Ready u rgi g) (col : Nat) : Ready (upage u col) rgi g := by
  -- the buffer holds `numPages col` pages, so the page appended is `pageOf rgi g col (numPages col)`
  have hlen : (u.buf col).length = u.numPages col := by rw [h.pages col]; simp
  have e : upage u col = { u with
      numPages := fun c => if c = col then u.numPages col + 1 else u.numPages c
      buf := fun c => if c = col then u.buf col ++ [pageOf rgi g col (u.numPages col)] else u.buf c
      rows := true } := by simp [upage, h.na, hlen, h.rg, h.fu, pageOf]
  rw [e]
  refine ⟨h.rg, h.fu, h.na, fun c => ?_⟩
  by_cases hc : c = col
  · simp only [hc, if_true, List.range_succ, List.map_append, List.map_cons, List.map_nil, ← h.pages col]
  · simp only [hc, if_false]; exact h.pages c

theorem rgPrep_ready {u : RgSt} {rgi g : Nat} (h : UInv u rgi g) (last : List Nat) : Ready (rgPrep u rgi g last) rgi g :=
  List.foldlRecOn last upage (motive := (Ready · rgi g)) (b := { u with colRg := rgi, colFu := some g, await := false })
    ⟨rfl, rfl, rfl, h⟩ fun _ hu c _ => ready_page hu c

theorem emitCol_good {cfg : WCfg} {u : RgSt} {rgi g : Nat} (h : Ready u rgi g) (col : Nat) :
    ∀ e ∈ emitCol cfg u rgi g col, e.GoodIn g := by
  obtain ⟨hr, hf, _, h⟩ := h
  have two {a b : WEv} (ha : a.GoodIn g) (hb : b.GoodIn g) : ∀ e ∈ [a, b], e.GoodIn g :=
    List.forall_mem_cons.2 ⟨ha, List.forall_mem_singleton.2 hb⟩
  subst hr
  simp only [emitCol, hf, h col, List.forall_mem_append, List.forall_mem_flatMap]
  refine ⟨⟨⟨?_, List.forall_mem_map.2 fun i _ => two ⟨rfl, rfl⟩ ⟨rfl, rfl⟩⟩, ?_⟩, ?_⟩
  · split
    · exact two ⟨rfl, rfl⟩ ⟨rfl, rfl⟩
    · exact List.forall_mem_nil _
  · split
    · exact two ⟨rfl, rfl⟩ ⟨rfl, rfl⟩
    · exact List.forall_mem_nil _
  · split
    · exact List.forall_mem_singleton.2 ⟨rfl, rfl⟩
    · exact List.forall_mem_nil _

theorem rgWrite_good {cfg : WCfg} {u : RgSt} {rgi g : Nat} (h : UInv u rgi g) (last : List Nat) :
    ∀ e ∈ rgWrite cfg u rgi g last, e.GoodIn g :=
  List.forall_mem_flatMap.2 fun c _ => emitCol_good (rgPrep_ready h last) c

theorem rereadCol_same {cfg : WCfg} {u : RgSt} {rgi g : Nat} (h : Ready u rgi g) (col : Nat) :
    ∀ ab ∈ rereadCol cfg u rgi col, ab.1 = ab.2 := by
  obtain ⟨hr, hf, _, h⟩ := h
  intro ab hab
  unfold rereadCol at hab
  split at hab
  · simp only [List.mem_flatMap] at hab
    obtain ⟨⟨p, i⟩, hpi, hab⟩ := hab
    rw [List.mem_zipIdx_iff_getElem?] at hpi
    simp only at hpi
    rw [h col, List.take_of_length_le (by simp)] at hpi
    obtain ⟨_, rfl⟩ := List.getElem?_eq_some_iff.1 hpi
    simp only [List.mem_cons, List.not_mem_nil, or_false] at hab
    rcases hab with rfl | rfl <;> simp [pageOf, hr, hf]
  · cases hab

theorem rgReread_same {cfg : WCfg} {u : RgSt} {rgi g : Nat} (h : UInv u rgi g) (last : List Nat) :
    ∀ ab ∈ rgReread cfg u rgi g last, ab.1 = ab.2 :=
  List.forall_mem_flatMap.2 fun c _ => rereadCol_same (rgPrep_ready h last) c

theorem winv_flush {cfg : WCfg} {s : WSt} (h : WInv s) (last : List Nat) : WInv (wflush cfg s last) := by
  unfold wflush
  split
  · exact h
  · exact ⟨⟨rfl, rfl, rfl, fun _ => rfl⟩, fun _ _ => rfl, h.crg,
      List.forall_mem_append.2 ⟨h.log, rgWrite_good h.main.pages last⟩,
      List.forall_mem_append.2 ⟨h.re, rgReread_same h.main.pages last⟩⟩

theorem wflush_main_empty {cfg : WCfg} {s : WSt} (h : WInv s) (last : List Nat) (c : Nat) :
    (wflush cfg s last).main.buf c = [] := by
  unfold wflush
  split
  · rename_i hr
    exact h.nr (by simpa using hr) c
  · rfl

theorem wflush_gen {cfg : WCfg} (s : WSt) (last : List Nat) : (wflush cfg s last).gen = s.gen := by
  unfold wflush
  split <;> rfl

theorem wcommit_gen {cfg : WCfg} (f : Bool) (s : WSt) (id : Nat) (a b : List Nat) : (wcommit f cfg s id a b).gen = s.gen := by
  unfold wcommit
  simp only
  split <;> simp [wflush_gen]

theorem winv_commit {cfg : WCfg} {s : WSt} (h : WInv s) (id : Nat) (a b : List Nat) : WInv (wcommit true cfg s id a b) := by
  unfold wcommit
  have h1 := winv_flush (cfg := cfg) h a
  have hempty := wflush_main_empty (cfg := cfg) h a
  simp only
  split
  · exact h1
  · have hc := h1.crg id
    have hu : UInv ((wflush cfg s a).crg id) (wflush cfg s a).nrg (wflush cfg s a).gen :=
      fun c => by rw [hc.2.2 c, hc.2.1 c]; rfl
    refine ⟨⟨rfl, h1.main.fu, h1.main.na, h1.main.pages.of_buf_nil hempty _ _⟩, fun _ c => hempty c, fun i => ?_,
      List.forall_mem_append.2 ⟨h1.log, rgWrite_good hu b⟩, List.forall_mem_append.2 ⟨h1.re, rgReread_same hu b⟩⟩
    simp only
    split
    · exact ⟨rfl, fun _ => rfl, fun _ => rfl⟩
    · exact h1.crg i

theorem winv_reset {s : WSt} (h : WInv s) : WInv (wreset s) :=
  ⟨⟨rfl, rfl, rfl, fun _ => rfl⟩, fun _ _ => rfl, h.crg, fun _ he => by simp [wreset] at he, fun _ he => by simp [wreset] at he⟩

theorem winv_step {cfg : WCfg} {s : WSt} (h : WInv s) (o : WOp) : WInv (wstep cfg s o) := by
  cases o with
  | write =>
    simp only [wstep, wstepG]
    exact ⟨⟨h.main.rg, h.main.fu, h.main.na, h.main.pages⟩, fun hr => by simp at hr, h.crg, h.log, h.re⟩
  | page col =>
    simp only [wstep, wstepG]
    refine ⟨ready_page h.main col, fun hr => ?_, h.crg, h.log, h.re⟩
    simp [upage, h.main.na] at hr
  | flush last => exact winv_flush h last
  | cwrite id =>
    simp only [wstep, wstepG]
    refine ⟨h.main, h.nr, fun i => ?_, h.log, h.re⟩
    simp only
    split
    · exact h.crg id
    · exact h.crg i
  | cpage id col =>
    simp only [wstep, wstepG]
    refine ⟨h.main, h.nr, fun i => ?_, h.log, h.re⟩
    simp only
    split
    · obtain ⟨ha, hb, hn⟩ := h.crg id
      obtain ⟨h1, h2, h3⟩ := upage_await ha col
      exact ⟨h1, fun c => by rw [h2]; exact hb c, fun c => by rw [h3]; exact hn c⟩
    · exact h.crg i
  | commit id a b => exact winv_commit h id a b
  | reset => exact winv_reset h

theorem winv_run {cfg : WCfg} (ops : List WOp) : WInv (wrun cfg ops) :=
  List.foldlRecOn ops (wstep cfg) winv_init fun _ h o _ => winv_step h o

theorem wclose_good {cfg : WCfg} {s : WSt} (h : WInv s) : ∀ e ∈ wclose cfg s, e.GoodIn s.gen := by
  intro e he
  have hg := wflush_gen (cfg := cfg) s []
  simp only [wclose, List.mem_append, List.mem_flatMap, List.mem_map, List.mem_singleton] at he
  rcases he with ((he | ⟨i, _, j, _, rfl⟩) | ⟨i, _, j, _, rfl⟩) | rfl
  · rw [← hg]; exact (winv_flush h []).log e he
  all_goals simp [WEv.GoodIn, Module.used, Module.type, Module.ords, hg]

/-! MIRROR file.go `FilePages`, reader-side ordinal tracking.
One `FilePages` over the column chunk `(rg, col)` whose stream holds an optional dictionary page
followed by `npages` data pages (the order in which writeRowGroup lays them out, writer.go:1636-1660).
* `pos`   = what the stream (`f.section`/`f.rbuf`) is positioned on
* `ord`   = `dec.dataPageOrd`, `dictPending` = `dec.dictPagePending`      (file.go:1133-1134)
* `index` = `f.index`, `last` = `f.lastPageIndex` (with `f.lastPage != nil`), `serve` = `f.serveLastPage` -/

inductive Pos where
  | dict
  | data (i : Nat)
deriving DecidableEq, Repr

structure Chunk where
  rg : Nat
  col : Nat
  hasDict : Bool     -- `MetaData.DictionaryPageOffset != 0`
  npages : Nat

structure RSt where
  pos : Pos
  ord : Nat
  dictPending : Bool
  index : Nat
  last : Option Nat
  serve : Bool
  log : List Ev      -- slot = the module the stream is positioned on, used = AAD arguments of the open
deriving Repr

inductive ROp where
  /-- one iteration of the loop of `readPageInSequence` (file.go:1238-1365) on an encrypted column: one call
      of `readEncryptedPage` (1564-1612) and the bookkeeping that follows -/
  | step
  /-- the cached-page preamble of `readPageInSequence` (file.go:1223-1236) -/
  | serveLast
  /-- lazy `readDictionary` (file.go:1368-1429) through `ReadDictionary` or the first
      dictionary-encoded data page: a private reader positioned at the dictionary offset -/
  | readDict
  /-- `SeekToRow` without an offset index (file.go:1634-1651) -/
  | seekNoIndex
  /-- `SeekToRow` with an offset index; `target` is the page found by the binary search
      (file.go:1652-1724) -/
  | seekIndexed (target : Nat)
deriving DecidableEq, Repr

/-- file.go:1137-1178 `FilePages.init` -/
def rinit (c : Chunk) : RSt :=
  { pos := if c.hasDict then .dict else .data 0, ord := 0, dictPending := c.hasDict,
    index := 0, last := none, serve := false, log := [] }

/-- file.go:1564-1612 `readEncryptedPage` on the module pair `(mh, mb)` the stream is positioned
    on (the stream is on `nxt` afterwards), followed by the bookkeeping of ReadPage 1316-1323 -/
def radvance (c : Chunk) (s : RSt) (mh mb : Module) (nxt : Pos) : RSt :=
  if s.dictPending then
    -- 1570-1573: dictionary module types, page ordinal 0; 1605-1606; `page == nil` → continue
    { s with pos := nxt, dictPending := false,
             log := s.log ++ [Ev.mk mh ⟨.dictPageHeader, [c.rg, c.col, 0]⟩, Ev.mk mb ⟨.dictPage, [c.rg, c.col, 0]⟩] }
  else
    -- 1574-1578: data module types, `d.dataPageOrd`; 1607-1608 `d.dataPageOrd++`; 1316-1323
    { s with pos := nxt, ord := s.ord + 1, last := some s.index, index := s.index + 1,
             log := s.log ++ [Ev.mk mh ⟨.dataPageHeader, [c.rg, c.col, s.ord]⟩, Ev.mk mb ⟨.dataPage, [c.rg, c.col, s.ord]⟩] }

/-- one loop iteration of ReadPage: which modules are under the stream is a fact of the file
    layout (dictionary page first, then the data pages in order), not of the reader's counters -/
def rstepRead (c : Chunk) (s : RSt) : RSt :=
  match s.pos with
  | .dict => radvance c s (.dictPageHeader c.rg c.col) (.dictPage c.rg c.col) (.data 0)
  | .data i =>
    if i < c.npages then radvance c s (.dataPageHeader c.rg c.col i) (.dataPage c.rg c.col i) (.data (i + 1))
    else s   -- end of the chunk: io.EOF from the length read, nothing is opened

def rstep (c : Chunk) (s : RSt) : ROp → RSt
  | .step => rstepRead c s
  | .serveLast =>
    match s.serve, s.last with
    | true, some li => { s with serve := false, index := li + 1 }
    | _, _ => s
  | .readDict =>
    if c.hasDict then
      { s with log := s.log ++ [Ev.mk (.dictPageHeader c.rg c.col) ⟨.dictPageHeader, [c.rg, c.col, 0]⟩,
                                Ev.mk (.dictPage c.rg c.col) ⟨.dictPage, [c.rg, c.col, 0]⟩] }
    else s
  | .seekNoIndex =>
    -- file.go:1640-1650: data pages are numbered from 0 (as the offset index numbers them)
    { s with pos := .data 0, index := 0, ord := 0, dictPending := false, serve := false }
  | .seekIndexed target =>
    -- (failed reads, `f.desync`, file.go:1625-1632, are outside the model)
    -- file.go:1672-1684: a pending request for the cached page is superseded; the cached page is
    -- served only when the stream stands right behind it
    if s.last = some target ∧ s.index = target + 1 then { s with serve := true }
    else if s.index = target then { s with serve := false }    -- 1686-1689: already positioned
    else { s with index := target, ord := target, dictPending := false, pos := .data target, serve := false }  -- 1691-1720

def rrun (c : Chunk) (ops : List ROp) : RSt := ops.foldl (rstep c) (rinit c)

/-- the decryption counters say what the stream is positioned on -/
structure RInv (s : RSt) : Prop where
  sync : match s.pos with
    | .dict => s.dictPending = true ∧ s.ord = 0
    | .data i => s.dictPending = false ∧ s.ord = i
  log : ∀ e ∈ s.log, e.Good

theorem rinv_init (c : Chunk) : RInv (rinit c) := by
  refine ⟨?_, fun _ h => by simp [rinit] at h⟩
  unfold rinit
  cases c.hasDict <;> simp

theorem rinv_step (c : Chunk) {s : RSt} (h : RInv s) (o : ROp) : RInv (rstep c s o) := by
  obtain ⟨hs, hl⟩ := h
  have app {a b : Ev} (ha : a.Good) (hb : b.Good) : ∀ e ∈ s.log ++ [a, b], e.Good :=
    List.forall_mem_append.2 ⟨hl, List.forall_mem_cons.2 ⟨ha, List.forall_mem_singleton.2 hb⟩⟩
  cases o with
  | step =>
    simp only [rstep, rstepRead]
    cases hp : s.pos with
    | dict =>
      rw [hp] at hs
      simp only [radvance, hs.1, if_true]
      exact ⟨⟨rfl, hs.2⟩, app rfl rfl⟩
    | data i =>
      rw [hp] at hs
      obtain ⟨hd, rfl⟩ := hs
      simp only
      split
      · simp only [radvance, hd, Bool.false_eq_true, if_false]
        exact ⟨⟨rfl, rfl⟩, app rfl rfl⟩
      · exact ⟨by rw [hp]; exact ⟨hd, rfl⟩, hl⟩
  | serveLast =>
    simp only [rstep]
    split <;> exact ⟨hs, hl⟩
  | readDict =>
    simp only [rstep]
    split
    · exact ⟨hs, app rfl rfl⟩
    · exact ⟨hs, hl⟩
  | seekNoIndex => exact ⟨⟨rfl, rfl⟩, hl⟩
  | seekIndexed t =>
    simp only [rstep]
    split
    · exact ⟨hs, hl⟩
    · split
      · exact ⟨hs, hl⟩
      · exact ⟨⟨rfl, rfl⟩, hl⟩

theorem rinv_run (c : Chunk) (ops : List ROp) : RInv (rrun c ops) :=
  List.foldlRecOn ops (rstep c) (rinv_init c) fun _ h o _ => rinv_step c h o

structure AEAD (K N C : Type) where
  sealF : K → N → Bytes → Bytes → C           -- key, nonce, aad, plaintext
  openF : K → N → Bytes → C → Option Bytes   -- key, nonce, aad, ciphertext‖tag

/-- the ideal-AEAD hypotheses (symbolic / Dolev-Yao idealisation of AES-GCM) -/
structure Ideal {K N C : Type} (A : AEAD K N C) : Prop where
  open_seal : ∀ k n aad p, A.openF k n aad (A.sealF k n aad p) = some p
  /-- authenticity: only a ciphertext sealed under exactly this key, nonce and AAD opens -/
  open_only : ∀ k n aad c p, A.openF k n aad c = some p → c = A.sealF k n aad p
  /-- ciphertexts of different (key, nonce, aad, plaintext) are different: the free-algebra
      (Dolev-Yao) assumption, stronger than AEAD security -/
  seal_inj : ∀ k n aad p k' n' aad' p', A.sealF k n aad p = A.sealF k' n' aad' p' → k = k' ∧ n = n' ∧ aad = aad' ∧ p = p'

/-- module envelope `len ‖ nonce ‖ ciphertext ‖ tag` (encrypt.go:170-195): the nonce travels with
    the ciphertext; the length prefix is framing only -/
structure Env (N C : Type) where
  nonce : N
  ct : C

/-- encrypt.go:170-195 `encryptModule(key, aad, plaintext)` with the nonce made explicit -/
def sealModule {K N C} (A : AEAD K N C) (k : K) (n : N) (aad p : Bytes) : Env N C := ⟨n, A.sealF k n aad p⟩

/-- encrypt.go:201-232 `decryptModule(key, aad, envelope)` -/
def openModule {K N C} (A : AEAD K N C) (k : K) (aad : Bytes) (e : Env N C) : Option Bytes := A.openF k e.nonce aad e.ct

theorem Ideal.env_of_open {K N C} {A : AEAD K N C} (hI : Ideal A) {k : K} {aad q : Bytes} {e : Env N C}
    (h : openModule A k aad e = some q) : e = sealModule A k e.nonce aad q :=
  congrArg (Env.mk e.nonce) (hI.open_only _ _ _ _ _ h)

theorem Ideal.open_seal_eq {K N C} {A : AEAD K N C} (hI : Ideal A) {k k' : K} {n : N} {aad aad' p q : Bytes}
    (h : openModule A k aad (sealModule A k' n aad' p) = some q) : k' = k ∧ aad' = aad ∧ p = q := by
  obtain ⟨hk, _, ha, hp⟩ := hI.seal_inj _ _ _ _ _ _ _ _ (hI.open_only _ _ _ _ _ h)
  exact ⟨hk, ha, hp⟩

theorem Ideal.open_eq_none {K N C} {A : AEAD K N C} (hI : Ideal A) {k k' : K} {aad aad' : Bytes}
    (hne : k' ≠ k ∨ aad' ≠ aad) (n : N) (p : Bytes) : openModule A k aad (sealModule A k' n aad' p) = none :=
  Option.eq_none_iff_forall_ne_some.2 fun _ h =>
    hne.elim (· (hI.open_seal_eq h).1) (· (hI.open_seal_eq h).2.1)

theorem wclose_roundtrip {K N C} {A : AEAD K N C} (hI : Ideal A) {cfg : WCfg} {s : WSt} (h : WInv s)
    {ew : WEv} (hw : ew ∈ wclose cfg s) {er : Ev} (hr : er.Good) (hslot : ew.slot = er.slot)
    (pfx : Bytes) (fuOf : Nat → Bytes) (k : K) (n : N) (p : Bytes) :
    openModule A k (er.used.aad pfx (fuOf s.gen)) (sealModule A k n (ew.aad pfx fuOf) p) = some p := by
  obtain ⟨hu, hf⟩ := wclose_good h ew hw
  rw [WEv.aad, hf, hu, hslot, ← hr]
  exact hI.open_seal k n _ p

structure Sealing (K N : Type) where
  key : K
  nonce : N
  aad : Bytes
  plain : Bytes

def Sealing.env {K N C} (A : AEAD K N C) (s : Sealing K N) : Env N C := sealModule A s.key s.nonce s.aad s.plain

/-- what a storage adversary without the keys can place in a file: an envelope some honest
    writer produced (from this or any other file), or bytes that are not the output of `sealModule` -/
def Adv {K N C} (A : AEAD K N C) (W : List (Sealing K N)) (e : Env N C) : Prop :=
  (∃ s ∈ W, e = s.env A) ∨ (∀ k n aad p, e ≠ sealModule A k n aad p)

/-- the symbolic AEAD: a ciphertext is the tuple of what was sealed (shows `Ideal` is satisfiable) -/
def symAEAD : AEAD Nat Nat (Nat × Nat × Bytes × Bytes) where
  sealF k n aad p := (k, n, aad, p)
  openF k n aad c := if c.1 = k ∧ c.2.1 = n ∧ c.2.2.1 = aad then some c.2.2.2 else none

theorem symAEAD_ideal : Ideal symAEAD := by
  refine ⟨?_, ?_, ?_⟩
  · intro k n aad p; simp [symAEAD]
  · intro k n aad c p h
    obtain ⟨c1, c2, c3, c4⟩ := c
    simp only [symAEAD] at h ⊢
    split at h
    · rename_i hc
      obtain ⟨rfl, rfl, rfl⟩ := hc
      cases h; rfl
    · cases h
  · intro k n aad p k' n' aad' p' h
    simp only [symAEAD, Prod.mk.injEq] at h
    exact h

end PqModel.Aad
