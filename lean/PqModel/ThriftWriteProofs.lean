import PqModel.ThriftWrite
import PqModel.DeltaProofs

/-! Lemmas: the SPEC reader of `PqModel.Spec.Thrift` reads back what the MIRROR writer of
    `PqModel.ThriftWrite` emits. -/
open PqModel.Spec
namespace PqModel.ThriftWrite

/-- the bytes `bs` sit in `d` at offset `pos` -/
def At (d : ByteArray) (pos : Nat) (bs : List UInt8) : Prop :=
  ∃ pre rest, d.data.toList = pre ++ (bs ++ rest) ∧ pre.length = pos

theorem At.append {d : ByteArray} {pos : Nat} {a b : List UInt8} (h : At d pos (a ++ b)) :
    At d pos a ∧ At d (pos + a.length) b := by
  obtain ⟨pre, rest, hr, hp⟩ := h
  refine ⟨⟨pre, b ++ rest, by simp [hr], hp⟩, ⟨pre ++ a, rest, by simp [hr], by simp [hp]⟩⟩

theorem At.bound {d : ByteArray} {pos : Nat} {bs : List UInt8} (h : At d pos bs) :
    pos + bs.length ≤ d.size := by
  obtain ⟨pre, rest, hr, hp⟩ := h
  have := congrArg List.length hr
  simp at this
  have h2 : d.data.size = d.size := ByteArray.size_data
  omega

theorem At.cons {d : ByteArray} {pos : Nat} {b : UInt8} {bs : List UInt8} (h : At d pos (b :: bs)) :
    rdByte d pos = .ok (b, pos + 1) ∧ At d (pos + 1) bs := by
  have hb := h.bound
  have h2 := (At.append (a := [b]) (b := bs) h).2
  refine ⟨?_, h2⟩
  obtain ⟨pre, rest, hr, hp⟩ := h
  have hlt : pos < d.size := by simp at hb; omega
  simp only [rdByte, hlt, dite_true]
  rw [ByteArray.getElem_eq_getElem_data]
  have : d.data[pos]'(by rw [ByteArray.size_data]; exact hlt) = d.data.toList[pos]'(by simp [ByteArray.size_data]; exact hlt) := by simp
  rw [this]
  simp [hr, ← hp]

theorem At.extract {d : ByteArray} {pos : Nat} {bs : List UInt8} (h : At d pos bs) :
    rdBytes d pos bs.length = .ok (⟨bs.toArray⟩, pos + bs.length) := by
  have hb := h.bound
  obtain ⟨pre, rest, hr, hp⟩ := h
  simp only [rdBytes, hb, if_true]
  congr 2
  apply ByteArray.ext
  rw [ByteArray.data_extract]
  apply Array.ext'
  rw [Array.toList_extract]
  simp [List.extract, hr, ← hp]

theorem toUInt8_toNat (x : Nat) (h : x < 256) : x.toUInt8.toNat = x :=
  UInt8.toNat_ofNat_of_lt' h

theorem shl_split (x s : Nat) : (x % 128) <<< s + (x / 128) <<< (s + 7) = x <<< s := by
  rw [Nat.shiftLeft_eq, Nat.shiftLeft_eq, Nat.shiftLeft_eq, Nat.pow_add, ← Nat.mul_assoc, Nat.mul_right_comm,
    ← Nat.add_mul, Nat.mul_comm _ (2 ^ 7), Nat.mod_add_div]

theorem rdUvarint_put (d : ByteArray) : ∀ (f x fuel pos shift acc : Nat), f < fuel → x < 128 ^ (f + 1) →
    At d pos (putUvarint f x) →
    rdUvarint d fuel pos shift acc = .ok (acc + x <<< shift, pos + (putUvarint f x).length) := by
  intro f
  induction f with
  | zero =>
    intro x fuel pos shift acc hf hx h
    obtain ⟨fuel, rfl⟩ : ∃ k, fuel = k + 1 := ⟨fuel - 1, by omega⟩
    simp only [putUvarint] at h ⊢
    have hx' : x < 128 := by simpa using hx
    simp only [rdUvarint, h.cons.1, toUInt8_toNat x (by omega), hx', if_true, List.length_singleton]
    rw [Nat.mod_eq_of_lt hx']
  | succ f ih =>
    intro x fuel pos shift acc hf hx h
    obtain ⟨fuel, rfl⟩ : ∃ k, fuel = k + 1 := ⟨fuel - 1, by omega⟩
    simp only [putUvarint] at h ⊢
    split
    · rename_i hx'
      rw [if_pos hx'] at h
      simp only [rdUvarint, h.cons.1, toUInt8_toNat x (by omega), hx', if_true, List.length_singleton]
      rw [Nat.mod_eq_of_lt hx']
    · rename_i hx'
      rw [if_neg hx'] at h
      have hb : (x % 128 + 128).toUInt8.toNat = x % 128 + 128 := toUInt8_toNat _ (by omega)
      have hnot : ¬ (x % 128 + 128 < 128) := by omega
      have hx2 : x / 128 < 128 ^ (f + 1) := by
        rw [Nat.div_lt_iff_lt_mul (by omega)]
        rw [Nat.pow_succ] at hx; exact hx
      simp only [rdUvarint, h.cons.1, hb, hnot, if_false]
      rw [ih (x / 128) fuel (pos + 1) (shift + 7) _ (by omega) hx2 h.cons.2]
      simp only [List.length_cons, Nat.add_mod_right, Nat.mod_mod, Nat.add_assoc, shl_split, Nat.add_comm 1]

theorem putUvarint_pos (f x : Nat) : 0 < (putUvarint f x).length := by
  cases f <;> simp [putUvarint] <;> split <;> simp

theorem uvarint_put (d : ByteArray) (x pos : Nat) (hx : x < 2 ^ 64) (h : At d pos (uvarintBytes x)) :
    uvarint d pos = .ok (x, pos + (uvarintBytes x).length) := by
  have := rdUvarint_put d 9 x 10 pos 0 0 (by omega) (by omega) h
  simpa [uvarint, uvarintBytes] using this

theorem zigzag_eq_unzigzag (n : Nat) : zigzag n = PqModel.Delta.unzigzag n := by
  unfold zigzag PqModel.Delta.unzigzag
  by_cases h : n % 2 = 0
  · simp [h]
  · have h1 : n % 2 = 1 := by omega
    simp [h1]
    omega

theorem zigzag_zigzag64 (i : Int) (h1 : -9223372036854775808 ≤ i) (h2 : i < 9223372036854775808) :
    zigzag (PqModel.Delta.zigzag64 (BitVec.ofInt 64 i)) = i := by
  rw [zigzag_eq_unzigzag, PqModel.Delta.unzigzag_zigzag64, BitVec.toInt_ofInt]
  apply Int.bmod_eq_of_le <;> omega

theorem varint_put (d : ByteArray) (i : Int) (pos : Nat) (h1 : -9223372036854775808 ≤ i) (h2 : i < 9223372036854775808)
    (h : At d pos (varintBytes i)) :
    ∃ n, uvarint d pos = .ok (n, pos + (varintBytes i).length) ∧ zigzag n = i :=
  ⟨_, uvarint_put d _ pos (PqModel.Delta.zigzag64_lt _) h, zigzag_zigzag64 i h1 h2⟩

theorem int8_rt (i : Int) (h1 : -128 ≤ i) (h2 : i < 128) :
    (if (int8Byte i).toNat < 128 then ((int8Byte i).toNat : Int) else ((int8Byte i).toNat : Int) - 256) = i := by
  have : (int8Byte i).toNat = (i % 256).toNat := toUInt8_toNat _ (by omega)
  rw [this]
  split <;> omega

theorem le64_length (x : UInt64) : (le64 x).length = 8 := by simp [le64]

theorem range8 : List.range 8 = [0,1,2,3,4,5,6,7] := by decide

theorem le_bytes8 (b0 b1 b2 b3 b4 b5 b6 b7 : UInt8) : le ⟨#[b0,b1,b2,b3,b4,b5,b6,b7]⟩ 0 8 =
   b0.toNat + b1.toNat * 256 + b2.toNat * 65536 + b3.toNat * 16777216 + b4.toNat * 4294967296 + b5.toNat * 1099511627776 + b6.toNat * 281474976710656 + b7.toNat * 72057594037927936 := by
  simp only [le, range8, List.foldl]
  show 0 + b0.toNat <<< (8 * 0) + b1.toNat <<< (8 * 1) + b2.toNat <<< (8 * 2) + b3.toNat <<< (8 * 3) + b4.toNat <<< (8 * 4)
    + b5.toNat <<< (8 * 5) + b6.toNat <<< (8 * 6) + b7.toNat <<< (8 * 7) = _
  simp only [Nat.shiftLeft_eq]
  omega

theorem le_le64 (x : UInt64) : UInt64.ofNat (le ⟨(le64 x).toArray⟩ 0 8) = x := by
  -- `x % 256 ^ 8` unfolds into its eight digits
  have e : x.toNat % 256 ^ 8 = x.toNat := Nat.mod_eq_of_lt x.toNat_lt
  simp only [Nat.mod_pow_succ, Nat.pow_zero, Nat.mod_one, Nat.zero_add, Nat.one_mul] at e
  simp only [Nat.reducePow, Nat.mul_comm _ (_ % 256)] at e
  apply UInt64.toNat_inj.mp
  simp only [le64, range8, List.map, le_bytes8, UInt64.toNat_ofNat', Nat.shiftRight_eq_div_pow,
    toUInt8_toNat _ (Nat.mod_lt _ (Nat.zero_lt_succ 255)), Nat.reduceMul, Nat.reducePow]
  rw [e]
  exact Nat.mod_eq_of_lt x.toNat_lt

theorem or_nibble : ∀ k, k < 16 → ∀ t, t < 16 → (k * 16 ||| t) = k * 16 + t := by decide

theorem hdrByte_toNat (k t : Nat) (hk : k < 16) (ht : t < 16) :
    (((k * 16) % 256).toUInt8 ||| t.toUInt8).toNat = k * 16 + t := by
  rw [UInt8.toNat_or, toUInt8_toNat _ (Nat.mod_lt _ (by omega)), toUInt8_toNat _ (by omega),
    Nat.mod_eq_of_lt (by omega), or_nibble k hk t ht]

theorem writeFields_pos : ∀ (fs : List (FMeta × WVal)) (last : Nat), 0 < (writeFields last fs).length
  | [], _ => by simp [writeFields]
  | (m, v) :: fs, last => by
    simp only [writeFields]
    split
    · exact writeFields_pos fs last
    · have := writeFields_pos fs m.id
      simp only [List.length_append]; omega

theorem listHeader_pos (ety n : Nat) : 0 < (listHeader ety n).length := by
  unfold listHeader; split <;> simp

def isBool : WVal → Bool
  | .bool _ => true
  | _ => false

/-- what the non-bool branch of `writeElems` / `rdElems` needs of an element -/
theorem nonbool_facts (x : WVal) (h : isBool x = false) :
    lcode x = fcode x ∧ (fcode x == 1 || fcode x == 2) = false ∧ 0 < (writeVal x).length ∧
    (∀ xs, writeElems (x :: xs) = writeVal x ++ writeElems xs) := by
  cases x with
  | bool b => simp [isBool] at h
  | i8 i => simp [lcode, fcode, writeVal, writeElems]
  | i16 i => simp [lcode, fcode, writeVal, writeElems, varintBytes, uvarintBytes, putUvarint_pos]
  | i32 i => simp [lcode, fcode, writeVal, writeElems, varintBytes, uvarintBytes, putUvarint_pos]
  | i64 i => simp [lcode, fcode, writeVal, writeElems, varintBytes, uvarintBytes, putUvarint_pos]
  | double b => simp [lcode, fcode, writeVal, writeElems, le64_length]
  | bin b => simp [lcode, fcode, writeVal, writeElems, uvarintBytes]; have := putUvarint_pos 9 b.length; omega
  | list ety xs => simp [lcode, fcode, writeVal, writeElems]; have := listHeader_pos ety xs.length; omega
  | struct fs => simp [lcode, fcode, writeVal, writeElems, writeFields_pos]

/-- one round of `rdFields`, `let`s inlined and `fuel + 1 - 1` reduced -/
theorem rdFields_step (d : ByteArray) (fuel k pos : Nat) (last : Int) (acc : List (Nat × TVal)) :
    rdFields d (fuel + 1) (k + 1) pos last acc =
    match rdByte d pos with
    | .error e => .error e
    | .ok (h, pos) =>
      if h == 0 then .ok (.struct acc.reverse, pos) else
      match (if h.toNat / 16 == 0 then
          (match uvarint d pos with
          | .ok (n, pos) => (.ok (zigzag n, pos) : R Int)
          | .error e => .error e)
        else .ok (last + (h.toNat / 16 : Nat), pos)) with
      | .error e => .error e
      | .ok (id, pos) =>
        match rdVal d fuel (h.toNat % 16) pos with
        | .ok (v, pos) => rdFields d fuel k pos id ((id.toNat, v) :: acc)
        | .error e => .error e := by
  simp only [rdFields]
  rfl

theorem uint8_ne_zero (b : UInt8) (h : b.toNat ≠ 0) : (b == 0) = false := by
  simp only [beq_eq_false_iff_ne, ne_eq]
  intro hc; rw [hc] at h; exact h rfl

/-- `WriteField`: one byte `delta<<4 | type` if the id is at most 15 above the last, else type byte and zigzag-varint id -/
theorem fieldHeader_cases (last id ty : Nat) (h1 : last < id) (ht : ty < 16) :
    (∃ b : UInt8, id - last < 16 ∧ fieldHeader last id ty = [b] ∧ b.toNat = (id - last) * 16 + ty) ∨
    (15 < id - last ∧ fieldHeader last id ty = ty.toUInt8 :: varintBytes id ∧ ty.toUInt8.toNat = ty) := by
  unfold fieldHeader
  simp only
  by_cases hd : (id : Int) - (last : Int) ≤ 15
  · have hb : (((id : Int) - (last : Int)) * 16 % 256).toNat.toUInt8 = (((id - last) * 16) % 256).toUInt8 := by
      congr 1; omega
    rw [if_pos hd, if_pos hd, hb]
    exact Or.inl ⟨_, by omega, rfl, hdrByte_toNat (id - last) ty (by omega) ht⟩
  · rw [if_neg hd, if_neg (by omega)]
    exact Or.inr ⟨by omega, rfl, toUInt8_toNat _ (by omega)⟩

/-- `WriteList`: one byte `size<<4 | type` up to 14 elements, else `0xF0 | type` and varint size -/
theorem listHeader_cases (ety n : Nat) (he : ety < 16) :
    (∃ b : UInt8, n ≤ 14 ∧ listHeader ety n = [b] ∧ b.toNat = n * 16 + ety) ∨
    (∃ b : UInt8, 14 < n ∧ listHeader ety n = b :: uvarintBytes n ∧ b.toNat = 15 * 16 + ety) := by
  unfold listHeader
  by_cases hs : n ≤ 14
  · rw [if_pos hs]
    exact Or.inl ⟨_, hs, rfl, hdrByte_toNat n ety (by omega) he⟩
  · rw [if_neg hs]
    exact Or.inr ⟨_, by omega, rfl, by simpa using hdrByte_toNat 15 ety (by omega) he⟩

theorem fieldHeader_read (d : ByteArray) (last id ty pos : Nat) (h1 : last < id) (h2 : id ≤ 32767)
    (ht0 : 0 < ty) (ht : ty < 16) (h : At d pos (fieldHeader last id ty)) :
    ∃ hb : UInt8, rdByte d pos = .ok (hb, pos + 1) ∧ (hb == 0) = false ∧ hb.toNat % 16 = ty ∧
      (if hb.toNat / 16 == 0 then
          (match uvarint d (pos + 1) with
          | .ok (n, pos) => (.ok (zigzag n, pos) : R Int)
          | .error e => .error e)
        else .ok ((last : Int) + (hb.toNat / 16 : Nat), pos + 1)) = .ok ((id : Int), pos + (fieldHeader last id ty).length) := by
  rcases fieldHeader_cases last id ty h1 ht with ⟨b, hk, hb, hn⟩ | ⟨hk, hb, hn⟩ <;> rw [hb] at h ⊢
  · refine ⟨b, h.cons.1, uint8_ne_zero _ (by omega), by omega, ?_⟩
    have e1 : b.toNat / 16 = id - last := by omega
    have e2 : (id - last == 0) = false := by simp; omega
    have e3 : (last : Int) + ((id - last : Nat) : Int) = id := by omega
    simp only [e1, e2, e3, Bool.false_eq_true, if_false, List.length_singleton]
  · refine ⟨_, h.cons.1, uint8_ne_zero _ (by omega), by omega, ?_⟩
    have e1 : ty.toUInt8.toNat / 16 = 0 := by omega
    obtain ⟨n, hu, hz⟩ := varint_put d (id : Int) (pos + 1) (by omega) (by omega) h.cons.2
    simp only [e1, beq_self_eq_true, if_true, List.length_cons, hu, hz, Nat.add_assoc, Nat.add_comm 1]

theorem listHeader_read (d : ByteArray) (ety n pos : Nat) (he : ety < 16) (hn : n < 2147483648)
    (h : At d pos (listHeader ety n)) :
    ∃ hb : UInt8, rdByte d pos = .ok (hb, pos + 1) ∧ hb.toNat % 16 = ety ∧
      ((n ≤ 14 ∧ hb.toNat / 16 = n ∧ (listHeader ety n).length = 1) ∨
       (14 < n ∧ hb.toNat / 16 = 15 ∧ uvarint d (pos + 1) = .ok (n, pos + (listHeader ety n).length))) := by
  rcases listHeader_cases ety n he with ⟨b, hs, hb, hv⟩ | ⟨b, hs, hb, hv⟩ <;> rw [hb] at h ⊢
  · exact ⟨b, h.cons.1, by omega, Or.inl ⟨hs, by omega, rfl⟩⟩
  · refine ⟨b, h.cons.1, by omega, Or.inr ⟨hs, by omega, ?_⟩⟩
    rw [uvarint_put d n (pos + 1) (by omega) h.cons.2]
    simp only [List.length_cons]; congr 2; omega

theorem rdVal_list_step (d : ByteArray) (fuel pos : Nat) :
    rdVal d (fuel + 1) 9 pos =
    match rdByte d pos with
    | .error e => .error e
    | .ok (h, pos) =>
      if h.toNat / 16 == 15 then
        match uvarint d pos with
        | .ok (n, pos) => if n > d.size then .error "list longer than input" else rdElems d fuel (h.toNat % 16) n pos []
        | .error e => .error e
      else rdElems d fuel (h.toNat % 16) (h.toNat / 16) pos [] := by
  simp only [rdVal]
  rfl

theorem fieldHeader_pos (last id ty : Nat) : 0 < (fieldHeader last id ty).length := by
  unfold fieldHeader
  simp only
  split
  · simp
  · split <;> simp

theorem writeElems_length_ge : ∀ xs : List WVal, xs.length ≤ (writeElems xs).length
  | [] => by simp [writeElems]
  | x :: xs => by
    have ih := writeElems_length_ge xs
    cases hb : isBool x with
    | true =>
      cases x <;> simp [isBool] at hb
      simp only [writeElems, List.length_append, List.length_cons, List.length_nil]; omega
    | false =>
      obtain ⟨_, _, hp, he⟩ := nonbool_facts x hb
      rw [he xs]; simp only [List.length_append, List.length_cons]; omega

theorem fcode_range (v : WVal) : 0 < fcode v ∧ fcode v < 16 := by
  cases v <;> simp [fcode] <;> (rename_i b; cases b <;> simp)

mutual
theorem rdVal_write (d : ByteArray) : ∀ (v : WVal) (fuel pos : Nat), WfT v = true → At d pos (writeVal v) →
    2 * (writeVal v).length + 1 ≤ fuel →
    rdVal d fuel (fcode v) pos = .ok (erase v, pos + (writeVal v).length)
  | _, 0, _, _, _, hf => by omega
  | .bool b, fuel + 1, pos, _, _, hf => by
    cases b <;> simp [fcode, rdVal, erase, writeVal]
  | .i8 i, fuel + 1, pos, hw, h, hf => by
    simp only [WfT, decide_eq_true_eq] at hw
    simp only [writeVal] at h ⊢
    simp only [fcode, rdVal, h.cons.1, erase, List.length_singleton, int8_rt i hw.1 hw.2]
  | .i16 i, fuel + 1, pos, hw, h, hf | .i32 i, fuel + 1, pos, hw, h, hf | .i64 i, fuel + 1, pos, hw, h, hf => by
    simp only [WfT, decide_eq_true_eq] at hw
    simp only [writeVal] at h ⊢
    obtain ⟨n, hu, hz⟩ := varint_put d i pos (by omega) (by omega) h
    simp only [fcode, rdVal, hu, hz, erase]
  | .double b, fuel + 1, pos, hw, h, hf => by
    simp only [writeVal] at h ⊢
    have he := h.extract
    rw [le64_length] at he
    simp only [fcode, rdVal, he, erase, le_le64, le64_length]
  | .bin b, fuel + 1, pos, hw, h, hf => by
    simp only [WfT, decide_eq_true_eq] at hw
    simp only [writeVal] at h ⊢
    have hu := uvarint_put d b.length pos (by omega) h.append.1
    simp only [fcode, rdVal, hu, h.append.2.extract, erase, List.length_append, Nat.add_assoc]
  | .list ety xs, fuel + 1, pos, hw, h, hf => by
    simp only [WfT, Bool.and_eq_true, decide_eq_true_eq] at hw
    simp only [writeVal] at h hf ⊢
    simp only [List.length_append] at hf
    obtain ⟨hb, hr, hety, hcase⟩ := listHeader_read d ety xs.length pos hw.1.1 hw.1.2 h.append.1
    have hlen := writeElems_length_ge xs
    have hbound := h.append.2.bound
    have hp := listHeader_pos ety xs.length
    have ih := rdElems_write d xs fuel ety (pos + (listHeader ety xs.length).length) [] hw.2 h.append.2 (by omega)
    simp only [fcode, rdVal_list_step, hr, hety]
    rcases hcase with ⟨hs, hq, hl⟩ | ⟨hs, hq, hu⟩
    · have : (xs.length == 15) = false := by simp; omega
      simp only [hq, this, Bool.false_eq_true, if_false]
      rw [hl] at ih
      rw [ih]; simp only [erase, List.reverse_nil, List.nil_append, List.length_append, hl, Nat.add_assoc]
    · have hgt : ¬ (xs.length > d.size) := by omega
      simp only [hq, beq_self_eq_true, if_true, hu, hgt, if_false]
      rw [ih]; simp only [erase, List.reverse_nil, List.nil_append, List.length_append, Nat.add_assoc]
  | .struct fs, fuel + 1, pos, hw, h, hf => by
    simp only [WfT] at hw
    simp only [writeVal] at h hf ⊢
    have ih := rdFields_write d fs fuel d.size pos 0 [] hw h (by omega) (by have := h.bound; omega)
    simp only [fcode, rdVal, erase]
    simpa using ih
theorem rdElems_write (d : ByteArray) : ∀ (xs : List WVal) (fuel ety pos : Nat) (acc : List TVal),
    WfL ety xs = true → At d pos (writeElems xs) → 2 * (writeElems xs).length + 2 ≤ fuel →
    rdElems d fuel ety xs.length pos acc = .ok (.list (acc.reverse ++ eraseL xs), pos + (writeElems xs).length)
  | _, 0, _, _, _, _, _, hf => by omega
  | [], fuel + 1, ety, pos, acc, _, _, hf => by
    simp [rdElems, eraseL, writeElems]
  | x :: xs, fuel + 1, ety, pos, acc, hw, h, hf => by
    simp only [WfL, Bool.and_eq_true, decide_eq_true_eq] at hw
    obtain ⟨⟨hc, hwx⟩, hwl⟩ := hw
    cases hb : isBool x with
    | true =>
      cases x <;> simp [isBool] at hb
      rename_i b
      simp only [lcode] at hc
      subst hc
      simp only [writeElems] at h hf ⊢
      simp only [List.length_append, List.length_cons, List.length_nil] at hf
      have ih := rdElems_write d xs fuel 2 (pos + 1) (.bool b :: acc) hwl h.cons.2 (by omega)
      simp only [List.length_cons, rdElems, h.cons.1]
      simp only [Nat.add_sub_cancel]
      have hbb : ((if b = true then (1 : UInt8) else 0) == 1) = b := by cases b <;> decide
      simp only [beq_self_eq_true, Bool.or_true, if_true, hbb]
      rw [ih]
      simp only [eraseL, erase, List.reverse_cons, List.append_assoc, List.singleton_append, List.length_cons]
      congr 2; omega
    | false =>
      obtain ⟨hlc, hnb, hp, he⟩ := nonbool_facts x hb
      rw [he xs] at h hf ⊢
      simp only [List.length_append] at hf
      have hx := rdVal_write d x fuel pos hwx h.append.1 (by omega)
      have ih := rdElems_write d xs fuel ety (pos + (writeVal x).length) (erase x :: acc) hwl h.append.2 (by omega)
      rw [← hc, hlc] at ih ⊢
      simp only [List.length_cons, rdElems, hnb, Bool.false_eq_true, if_false, hx, Nat.add_sub_cancel]
      rw [ih]
      simp only [eraseL, List.reverse_cons, List.append_assoc, List.singleton_append, List.length_append, Nat.add_assoc]
theorem rdFields_write (d : ByteArray) : ∀ (fs : List (FMeta × WVal)) (fuel k pos last : Nat) (acc : List (Nat × TVal)),
    WfF last fs = true → At d pos (writeFields last fs) → 2 * (writeFields last fs).length ≤ fuel + 1 →
    (writeFields last fs).length ≤ k →
    rdFields d fuel k pos (last : Int) acc = .ok (.struct (acc.reverse ++ eraseF fs), pos + (writeFields last fs).length)
  | fs, 0, _, _, last, _, _, _, hf, _ | fs, _, 0, _, last, _, _, _, _, hf => by
    have := writeFields_pos fs last; omega
  | [], fuel + 1, k + 1, pos, last, acc, _, h, hf, hk => by
    simp only [writeFields, List.length_singleton] at h ⊢
    simp [rdFields_step, h.cons.1, eraseF]
  | (m, v) :: fs, fuel + 1, k + 1, pos, last, acc, hw, h, hf, hk => by
    simp only [WfF] at hw
    simp only [writeFields, eraseF] at h hf hk ⊢
    by_cases hom : m.omitted = true
    · simp only [hom, if_true] at hw h hf hk ⊢
      exact rdFields_write d fs (fuel + 1) (k + 1) pos last acc hw h hf hk
    · simp only [hom, if_false, Bool.false_eq_true] at hw h hf hk ⊢
      simp only [Bool.and_eq_true, decide_eq_true_eq] at hw
      obtain ⟨⟨⟨hlt, hmax⟩, hwv⟩, hwf⟩ := hw
      simp only [List.length_append] at hf hk
      have hfp := writeFields_pos fs m.id
      have hty := fcode_range v
      obtain ⟨hb, hr, hnz, hmod, hid⟩ := fieldHeader_read d last m.id (fcode v) pos hlt hmax hty.1 hty.2 h.append.1.append.1
      have hhp := fieldHeader_pos last m.id (fcode v)
      have hv := rdVal_write d v fuel (pos + (fieldHeader last m.id (fcode v)).length) hwv h.append.1.append.2 (by omega)
      have ih := rdFields_write d fs fuel k (pos + (fieldHeader last m.id (fcode v)).length + (writeVal v).length) m.id
        ((m.id, erase v) :: acc) hwf (by simpa [Nat.add_assoc] using h.append.2) (by omega) (by omega)
      rw [rdFields_step]
      simp only [hr, hnz, Bool.false_eq_true, if_false, hid, hmod, hv, Int.toNat_natCast]
      rw [ih]
      simp only [List.reverse_cons, List.append_assoc, List.singleton_append, List.length_append, Nat.add_assoc]
end

theorem readStruct_writeStruct (fs : List (FMeta × WVal)) (pre rest : List UInt8) (hw : WfF 0 fs = true) :
    readStruct ⟨(pre ++ (writeStruct fs ++ rest)).toArray⟩ pre.length =
      .ok (.struct (eraseF fs), pre.length + (writeStruct fs).length) := by
  have hat : At ⟨(pre ++ (writeStruct fs ++ rest)).toArray⟩ pre.length (writeFields 0 fs) :=
    ⟨pre, rest, rfl, rfl⟩
  have hb := hat.bound
  have := rdFields_write _ fs (2 * (ByteArray.mk (pre ++ (writeStruct fs ++ rest)).toArray).size + 64)
    (ByteArray.mk (pre ++ (writeStruct fs ++ rest)).toArray).size pre.length 0 [] hw hat (by omega) (by omega)
  simpa [readStruct, writeStruct] using this

end PqModel.ThriftWrite
