import PqModel.DeltaConfBytes

/-! # The Go encoders of `encoding/delta` are conformant (property C04, part delta)

`mirrorEncode xs` is the member of the family `ConfStream` (PqModel/DeltaConf.lean) with block size 128, four miniblocks, the
minimum as frame of reference, the widths `bits.Len` gives, zero width bytes and no body for the miniblocks the last block does
not need. So what is proved of the family holds of the encoders' output, byte arrays included. -/
namespace PqModel.Delta

theorem needed_split {n : Nat} : ∀ (mbs : List (List (BitVec n))) (rem : Nat), mbs ≠ [] → 0 < rem →
    (∀ mb ∈ mbs, mb.length = 32) → (∀ v ∈ mbs.flatten.drop rem, v = 0) →
    ∃ need rest, mbs = need ++ rest ∧ need ≠ [] ∧ (need.length - 1) * 32 < rem ∧
      (rest = [] ∨ rem ≤ need.length * 32) ∧ (∀ v ∈ rest.flatten, v = 0) ∧
      need.flatten.take rem = mbs.flatten.take rem
  | [], _, hne, _, _, _ => absurd rfl hne
  | mb :: tl, rem, _, hpos, hlen, hz => by
    have hl : mb.length = 32 := hlen mb (by simp)
    have hz' : ∀ v ∈ tl.flatten.drop (rem - 32), v = 0 := fun v hv =>
      hz v (by rw [List.flatten_cons, List.drop_append, hl]; exact List.mem_append_right _ hv)
    have htake : ∀ l : List (BitVec n), (mb ++ l).take rem = mb.take rem ++ l.take (rem - 32) := by
      intro l; rw [List.take_append, hl]
    by_cases hlast : rem ≤ 32 ∨ tl = []
    · refine ⟨[mb], tl, rfl, by simp, by simpa using hpos, ?_, ?_, ?_⟩
      · rcases hlast with h | h
        · exact Or.inr (by simpa using h)
        · exact Or.inl h
      · rcases hlast with h | h
        · rwa [show rem - 32 = 0 by omega, List.drop_zero] at hz'
        · subst h; simp
      · rw [List.flatten_cons, List.flatten_cons, htake, htake]
        rcases hlast with h | h
        · rw [show rem - 32 = 0 by omega]; rfl
        · subst h; rfl
    · obtain ⟨need, rest, hsplit, hne, hlt, hrest, hzero, htk⟩ :=
        needed_split tl (rem - 32) (fun h => hlast (Or.inr h)) (by omega)
          (fun m hm => hlen m (by simp [hm])) hz'
      have : 0 < need.length := List.length_pos_iff.mpr hne
      refine ⟨mb :: need, rest, by rw [hsplit]; rfl, by simp, ?_, ?_, hzero, ?_⟩
      · simp only [List.length_cons, Nat.add_sub_cancel]; omega
      · rcases hrest with h | h
        · exact Or.inl h
        · right; simp only [List.length_cons]; omega
      · rw [List.flatten_cons, List.flatten_cons, htake, htake, htk]

/-- the miniblock the encoder writes for `mb`, as a member of the family -/
def miniOf {n : Nat} (mb : List (BitVec n)) : ConfMini := ⟨miniWidth mb, mb.map BitVec.toNat⟩

theorem miniOf_bytes {n : Nat} (mb : List (BitVec n)) : (miniOf mb).bytes = packMini (miniWidth mb) mb :=
  (packMini_eq _ mb).symm

theorem miniOf_vals {n : Nat} : ∀ (mbs : List (List (BitVec n))),
    (mbs.map miniOf).flatMap (·.vals) = mbs.flatten.map BitVec.toNat
  | [] => rfl
  | mb :: mbs => by simp [miniOf, miniOf_vals mbs]

theorem cleared_facts {n : Nat} (chunk : List (BitVec n)) (last minD : BitVec n) (rem : Nat)
    (hk : chunk.length = min 128 rem) (cleared : List (BitVec n))
    (hc : (blockDelta chunk last).map (· - minD) ++ List.replicate (128 - chunk.length) 0 = cleared) :
    cleared.length = 128 ∧ (∀ v ∈ cleared.drop rem, v = 0) ∧
      cleared.take rem = (blockDelta chunk last).map (· - minD) := by
  have hl : ((blockDelta chunk last).map (· - minD)).length = chunk.length := by
    simp [blockDelta_length]
  subst hc
  refine ⟨by rw [List.length_append, hl, List.length_replicate]; omega, ?_, ?_⟩
  · intro v hv
    rw [List.drop_append, List.drop_of_length_le (by omega), List.nil_append] at hv
    exact List.eq_of_mem_replicate (List.mem_of_mem_drop hv)
  · rw [List.take_append, hl, List.take_of_length_le (by omega)]
    by_cases h128 : 128 ≤ rem
    · simp [show 128 - chunk.length = 0 by omega]
    · simp [show rem - chunk.length = 0 by omega]

theorem encBlock_conf {n : Nat} (hn : n ≤ 64) (chunk : List (BitVec n)) (last : BitVec n) (rem : Nat)
    (hk : chunk.length = min 128 rem) (hpos : 0 < rem) :
    ∃ b : ConfBlock, blockOK n 32 4 b rem ∧ b.bytes = (encBlock chunk last).1 ∧ b.vals n rem last = chunk := by
  simp only [encBlock]
  -- name the `let`s of `encBlock` in its own order: minimum, cleared deltas, the four miniblocks
  generalize blockMin (blockDelta (chunk ++ List.replicate (128 - chunk.length) 0) last) = minD
  have hcl : ((blockDelta (chunk ++ List.replicate (128 - chunk.length) 0) last).map (· - minD)).take chunk.length
      = (blockDelta chunk last).map (· - minD) := by
    rw [blockDelta_append, List.map_append, List.take_left' (by simp [blockDelta_length])]
  rw [hcl]
  generalize hc : (blockDelta chunk last).map (· - minD) ++ List.replicate (128 - chunk.length) 0 = cleared
  obtain ⟨hclen, hz, htk⟩ := cleared_facts chunk last minD rem hk cleared hc
  generalize hmbs : [0, 1, 2, 3].map (fun i => (cleared.drop (32 * i)).take 32) = mbs
  have hfl : mbs.flatten = cleared := by subst hmbs; exact minis_flatten cleared hclen
  have hml : ∀ mb ∈ mbs, mb.length = 32 := by subst hmbs; exact minis_length cleared hclen
  have hmn : mbs.length = 4 := by subst hmbs; rfl
  rw [← hfl] at hz htk
  obtain ⟨need, rest, hsplit, hne, hlt, hrest, hzero, htake⟩ :=
    needed_split mbs rem (by intro h; rw [h] at hmn; cases hmn) hpos hml hz
  subst hsplit
  refine ⟨{ minD := minD.signExtend 64, minis := need.map miniOf, stale := rest.map miniWidth }, ?_, ?_, ?_⟩
  · refine ⟨by simpa using hmn, by simpa using hne, by simpa using hlt, ?_, ?_, ?_⟩
    · simpa using hrest
    · intro s hs
      obtain ⟨mb, hmb, rfl⟩ := List.mem_map.mp hs
      rw [miniWidth_zero mb (fun v hv => hzero v (List.mem_flatten.mpr ⟨mb, hmb, hv⟩))]; decide
    · intro mi hmi
      obtain ⟨mb, hmb, rfl⟩ := List.mem_map.mp hmi
      refine ⟨miniWidth_le mb, by simpa [miniOf] using hml mb (by simp [hmb]), ?_⟩
      intro x hx
      obtain ⟨v, hv, rfl⟩ := List.mem_map.mp hx
      exact lt_miniWidth mb v hv
  · simp only [ConfBlock.bytes, ConfBlock.widths, ConfBlock.body, List.map_map, List.map_append,
      List.flatMap_append, packAll_zero rest hzero, List.append_nil, List.flatMap_map, List.append_assoc,
      miniOf_bytes]
    rfl
  · simp only [ConfBlock.vals, ConfBlock.raw, BitVec.toInt_signExtend_of_le hn, BitVec.ofInt_toInt]
    rw [miniOf_vals, ← List.map_take, htake, htk, List.map_map]
    exact recon_blockDelta minD chunk last

theorem encBlocks_conf {n : Nat} (hn : n ≤ 64) : ∀ (fuel : Nat) (rest : List (BitVec n)) (last : BitVec n),
    rest.length ≤ fuel →
    ∃ bs, blocksOK n 32 4 bs rest.length ∧ blocksBytes bs = encBlocks fuel rest last ∧
      blocksVals n bs rest.length last = rest
  | 0, rest, last, h => by
    have : rest = [] := List.eq_nil_of_length_eq_zero (by omega)
    subst this; exact ⟨[], rfl, rfl, rfl⟩
  | fuel + 1, [], last, _ => ⟨[], rfl, by simp [encBlocks, blocksBytes], rfl⟩
  | fuel + 1, a :: r, last, h => by
    have hk : ((a :: r).take 128).length = min 128 (r.length + 1) := by
      simp only [List.length_take, List.length_cons]
    obtain ⟨b, hb, hbytes, hvals⟩ := encBlock_conf hn ((a :: r).take 128) last (r.length + 1) hk (by omega)
    have hraw : (b.raw (r.length + 1)).length = min 128 (r.length + 1) := by
      rw [← b.vals_length n _ last, hvals, hk]
    simp only [encBlocks, List.isEmpty_cons, Bool.false_eq_true, if_false, List.length_cons]
    by_cases hlen : 128 ≤ r.length + 1
    · have hd : r.length + 1 - min 128 (r.length + 1) = ((a :: r).drop 128).length := by
        simp only [List.length_drop, List.length_cons]; omega
      obtain ⟨bs, h1, h2, h3⟩ := encBlocks_conf hn fuel ((a :: r).drop 128) (((a :: r).take 128).getLastD last)
        (by simp only [List.length_drop, List.length_cons] at *; omega)
      refine ⟨b :: bs, ⟨hb, by rw [hraw, hd]; exact h1⟩, ?_, ?_⟩
      · rw [encBlock_last _ _ (by rw [hk]; omega), ← h2, ← hbytes]; rfl
      · simp only [blocksVals, hvals, hraw, hd, h3, List.take_append_drop]
    · have hd : (a :: r).drop 128 = [] := List.drop_of_length_le (by simp only [List.length_cons]; omega)
      have ht : (a :: r).take 128 = a :: r := List.take_of_length_le (by simp only [List.length_cons]; omega)
      refine ⟨[b], ⟨hb, by rw [hraw]; show _ = 0; omega⟩, ?_, ?_⟩
      · rw [hd, encBlocks_nil, ← hbytes]; rfl
      · simp only [blocksVals, hvals, ht, List.append_nil]

theorem mirrorEncode_conf {n : Nat} (hn : n ≤ 64) (xs : List (BitVec n)) :
    ∃ s : ConfStream n, s.OK ∧ s.bytes = mirrorEncode xs ∧ s.values = xs ∧
      s.blockSize = 128 ∧ s.total = xs.length := by
  obtain ⟨bs, h1, h2, h3⟩ := encBlocks_conf hn xs.length xs.tail (xs.headD 0) (by simp)
  refine ⟨{ blockSize := 128, minis := 4, total := xs.length, first := xs.headD 0, blocks := bs },
    ⟨(by decide : 0 < 128), (by decide : 128 % 128 = 0), (by decide : 0 < 4), (by decide : 128 % 4 = 0),
      (by decide : 128 / 4 % 32 = 0), by simpa using h1⟩, ?_, ?_, rfl, rfl⟩
  · simp only [ConfStream.bytes, ConfStream.header, mirrorEncode, encHeader, List.append_assoc, h2]
    split
    · rename_i hlt
      rw [show xs.tail = [] from List.eq_nil_of_length_eq_zero (by simp; omega), encBlocks_nil]
    · rfl
  · cases xs with
    | nil => rfl
    | cons a rest => simpa [ConfStream.values] using h3

theorem mirrorEncode_valid {n : Nat} (hn : n ≤ 64) (xs : List (BitVec n)) : ValidDelta n xs (mirrorEncode xs) := by
  obtain ⟨s, hok, hb, hv, _⟩ := mirrorEncode_conf hn xs
  exact ⟨s, hok, hb, hv⟩

theorem specDecode_mirrorEncode {n : Nat} (hn : n ≤ 64) (xs : List (BitVec n)) (tail : List Nat) :
    specDecode n (mirrorEncode xs ++ tail) = .ok (xs, tail) :=
  validDelta_specDecode hn (mirrorEncode_valid hn xs) tail

theorem goDecode_mirrorEncode {n : Nat} (hn : n = 32 ∨ n = 64) (xs : List (BitVec n)) (tail : List Nat)
    (hl : xs.length < 2 ^ 31) :
    goDecode n (mirrorEncode xs ++ tail) = .ok (xs, tail) := by
  obtain ⟨s, hok, hb, hv, hbs, ht⟩ := mirrorEncode_conf (by omega) xs
  exact validDelta_goDecode hn s hok hb hv (by rw [hbs]; decide) (by rw [ht]; exact hl) tail

theorem mirrorEncodeDLBA_conf (vs : List (List Nat)) :
    ∃ s : ConfStream 32, s.OK ∧ s.values = lensOf vs ∧ mirrorEncodeDLBA vs = s.bytes ++ vs.flatten ∧
      s.blockSize = 128 ∧ s.total = vs.length := by
  obtain ⟨s, hok, hb, hv, hbs, ht⟩ := mirrorEncode_conf (by decide : 32 ≤ 64) (lensOf vs)
  exact ⟨s, hok, hv, by rw [hb]; rfl, hbs, by rw [ht]; simp [lensOf]⟩

theorem specDecodeDLBA_mirror (vs : List (List Nat)) (tail : List Nat) (h : ∀ v ∈ vs, v.length < 2 ^ 31) :
    specDecodeDLBA (mirrorEncodeDLBA vs ++ tail) = .ok (vs, tail) := by
  obtain ⟨s, hok, hv, hb, _⟩ := mirrorEncodeDLBA_conf vs
  rw [hb, List.append_assoc]; exact specDecodeDLBA_conf s vs tail hok hv h

theorem prefixesOK_dba : ∀ (vs : List (List Nat)) (prev : List Nat),
    prefixesOK prev (dbaPrefixes prev vs) vs ∧ cutSuffixes (dbaPrefixes prev vs) vs = dbaSuffixes prev vs
  | [], _ => ⟨trivial, rfl⟩
  | v :: vs, prev => by
    obtain ⟨ih1, ih2⟩ := prefixesOK_dba vs v
    simp only [dbaPrefixes, dbaSuffixes, cutSuffixes, prefixesOK, searchPrefixLength_eq, ih2]
    exact ⟨⟨⟨(commonPrefix_le prev v).1, commonPrefix_take prev v⟩, ih1⟩, trivial⟩

theorem mirrorEncodeDBA_conf (vs : List (List Nat)) :
    ∃ (sp ss : ConfStream 32) (ps : List Nat), sp.OK ∧ ss.OK ∧ sp.values = ps.map (BitVec.ofNat 32) ∧
      prefixesOK [] ps vs ∧ ss.values = lensOf (cutSuffixes ps vs) ∧
      mirrorEncodeDBA vs = sp.bytes ++ (ss.bytes ++ (cutSuffixes ps vs).flatten) ∧
      sp.blockSize = 128 ∧ sp.total = vs.length ∧ ss.blockSize = 128 ∧ ss.total = vs.length := by
  obtain ⟨hp, hcut⟩ := prefixesOK_dba vs []
  obtain ⟨sp, hsp, hbp, hvp, hb1, ht1⟩ := mirrorEncode_conf (by decide : 32 ≤ 64) ((dbaPrefixes [] vs).map (BitVec.ofNat 32))
  obtain ⟨ss, hss, hvs, hbs, hb2, ht2⟩ := mirrorEncodeDLBA_conf (dbaSuffixes [] vs)
  have hl := prefixesOK_length vs _ [] hp
  refine ⟨sp, ss, dbaPrefixes [] vs, hsp, hss, hvp, hp, by rw [hcut]; exact hvs, ?_, hb1,
    by rw [ht1, List.length_map, hl], hb2, by rw [ht2, ← hcut, cutSuffixes_length vs _ hl]⟩
  rw [hcut, hbp, ← hbs]; simp only [mirrorEncodeDBA, mirrorEncodeDLBA, List.append_assoc]; rfl

theorem specDecodeDBA_mirror (vs : List (List Nat)) (tail : List Nat) (h : ∀ v ∈ vs, v.length < 2 ^ 31) :
    specDecodeDBA (mirrorEncodeDBA vs ++ tail) = .ok (vs, tail) := by
  obtain ⟨sp, ss, ps, hsp, hss, hvp, hp, hvs, hb, _⟩ := mirrorEncodeDBA_conf vs
  rw [hb, List.append_assoc, List.append_assoc]; exact specDecodeDBA_conf sp ss ps vs tail hsp hss hvp hp hvs h

theorem goDecodeDLBA_mirror (vs : List (List Nat)) (tail : List Nat) (h31 : ∀ v ∈ vs, v.length < 2 ^ 31)
    (hn : vs.length < 2 ^ 31) (hb : vs.flatten.length < 2 ^ 32) :
    goDecodeDLBA (mirrorEncodeDLBA vs ++ tail) = .ok (vs.flatten, offsetsFrom 0 vs) := by
  obtain ⟨s, hok, hv, he, hbs, ht⟩ := mirrorEncodeDLBA_conf vs
  rw [he, List.append_assoc]
  exact goDecodeDLBA_conf s vs tail hok hv h31 (by rw [hbs]; decide) (by rw [ht]; exact hn) hb

theorem goDecodeDBA_mirror (vs : List (List Nat)) (tail : List Nat) (h31 : ∀ v ∈ vs, v.length < 2 ^ 31)
    (hn : vs.length < 2 ^ 31) : goDecodeDBA (mirrorEncodeDBA vs ++ tail) = .ok vs := by
  obtain ⟨sp, ss, ps, hsp, hss, hvp, hp, hvs, he, hb1, ht1, hb2, ht2⟩ := mirrorEncodeDBA_conf vs
  rw [he, List.append_assoc, List.append_assoc]
  exact goDecodeDBA_conf sp ss ps vs tail hsp hss hvp hp hvs h31 (by rw [hb1]; decide)
    (by rw [ht1]; exact hn) (by rw [hb2]; decide) (by rw [ht2]; exact hn)

end PqModel.Delta
