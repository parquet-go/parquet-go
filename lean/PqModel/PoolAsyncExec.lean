import PqModel.PoolAsync
import PqModel.AsyncExec

/-! Executable successor function of `PqModel.PoolAsync` (what `pqdriver` runs for the op
    `asyncown.run`) and its agreement with the relation `OStep`. -/
namespace PqModel.PoolAsync
open PqModel.Async

def onext? (U : Under) (o : O) : Lbl → Option O
  | .lib e c n => (next? U o.g e).map fun g' => { eff o c n e with g := g' }
  | .appRetain b =>
    if 0 < o.appc b then
      some { o with h := o.h.ref b, appc := fun j => o.appc j + cnt (some b) j }
    else none
  | .appRelease b =>
    if 0 < o.appc b then
      some { o with h := o.h.unref (some b), appc := fun j => o.appc j - cnt (some b) j }
    else none

theorem onext?_sound {U o l o'} (h : onext? U o l = some o') : OStep U o l o' := by
  cases l with
  | lib e c n =>
    simp only [onext?, Option.map_eq_some_iff] at h
    obtain ⟨g', hg, rfl⟩ := h
    exact .lib c n (next?_sound hg)
  | appRetain b =>
    simp only [onext?] at h
    split at h
    · cases h; exact .appRetain (by assumption)
    · cases h
  | appRelease b =>
    simp only [onext?] at h
    split at h
    · cases h; exact .appRelease (by assumption)
    · cases h

theorem onext?_complete {U o l o'} (h : OStep U o l o') : onext? U o l = some o' := by
  cases h with
  | lib c n hs => simp only [onext?, next?_complete hs, Option.map_some]
  | appRetain ha => simp only [onext?, if_pos ha]
  | appRelease ha => simp only [onext?, if_pos ha]

/-- run a label list; `.error i` = index of the first label that is not enabled -/
def orunFrom (U : Under) (o : O) (ls : List Lbl) (i : Nat) : Except Nat O :=
  match ls with
  | [] => .ok o
  | l :: rest =>
    match onext? U o l with
    | some o' => orunFrom U o' rest (i + 1)
    | none => .error i

theorem orunFrom_ok {U o ls i o'} (h : orunFrom U o ls i = .ok o') : OPath U o ls o' := by
  -- no label left; the first label is enabled; it is not
  fun_induction orunFrom U o ls i with
  | case1 => cases h; exact .nil
  | case2 o i l rest o1 h1 ih => exact .cons (onext?_sound h1) (ih h)
  | case3 => cases h

/-- test the final state of an accepted label list (for `decide` witnesses) -/
def ocheck (U : Under) (ls : List Lbl) (p : O → Bool) : Bool :=
  match orunFrom U init ls 0 with
  | .ok o => p o
  | .error _ => false

theorem ocheck_reach {U ls p} (h : ocheck U ls p = true) : ∃ o, OReach U o ∧ p o = true := by
  unfold ocheck at h
  split at h
  · rename_i o ho; exact ⟨o, ⟨ls, orunFrom_ok ho⟩, h⟩
  · cases h

end PqModel.PoolAsync
