import PqModel.PageLoad

/-! # The checksum a writer stores: which bytes of a page it covers (levels included)

MIRROR `(*writerBuffers).crc32` (writer.go:1940-1945) and the two places that put its result into a
page header (`writeDataPage` writer.go:2566-2568, `writeDictionaryPage` writer.go:2679-2681), with the
order in which `writeDataPage` stores the three buffers (repetitions, definitions, page: writer.go:2638-2651).

For a data page V2 the level bytes live in `wb.repetitions` / `wb.definitions`, OUTSIDE `wb.page`
(`prependLevelsToDataPageV1` moves them into `wb.page` only for V1, and `compress` only touches
`wb.page`): the stored body of a V2 page is `rep ‖ def ‖ values` and the values section can be empty
while the body is not (every value null, or only empty lists). The mirror carries one flag for the
variant of seeded/C13-7a: "the values section is empty, so nothing was encoded, return 0".

SPEC (parquet.thrift, `PageHeader.crc`): the CRC-32 of the page as stored in the file; for a data
page V2 over the concatenation of repetition levels, definition levels and (possibly compressed)
values — `coveredRange` states that range in byte offsets of the body.

Not modelled: how the level bytes are produced (RLE/bit-packing hybrid: C04), compression. -/
namespace PqModel.C13Levels
open PqModel.Crc PqModel.PageLoad

/-- `writerBuffers` at the moment `crc32()` is called: for V2 `page` is the (possibly compressed)
    values section; for V1 and dictionary pages `repetitions = definitions = []` -/
structure Buffers where
  repetitions : Bytes
  definitions : Bytes
  page : Bytes
  deriving DecidableEq, Repr

/-- what is stored after the page header (`writeDataPage`, writer.go:2638-2651: repetitions, definitions, page in this order) -/
def Buffers.body (b : Buffers) : Bytes := b.repetitions ++ b.definitions ++ b.page

/-- MIRROR `writerBuffers.size` writer.go:1947-1949 (becomes `CompressedPageSize`) -/
def Buffers.size (b : Buffers) : Nat := b.repetitions.length + b.definitions.length + b.page.length

/-- which `writerBuffers.crc32` is mirrored -/
structure WImpl where
  /-- the slipped variant: `if len(wb.page) == 0 { return 0 }` in front of the three updates -/
  zeroWhenValuesEmpty : Bool
  deriving DecidableEq, Repr

/-- MIRROR of the tree under verification -/
def wcurrent : WImpl := { zeroWhenValuesEmpty := false }
/-- the variant of seed C13-7a (regression facts only) -/
def wslipped : WImpl := { zeroWhenValuesEmpty := true }

/-- MIRROR `(*writerBuffers).crc32` writer.go:1940-1945 -/
def writerCrc (w : WImpl) (b : Buffers) : BitVec 32 :=
  if w.zeroWhenValuesEmpty && b.page.isEmpty then 0#32 else
  let c := crc32Update 0#32 b.repetitions     -- checksum = crc32.Update(checksum, crc32.IEEETable, wb.repetitions)
  let c := crc32Update c b.definitions        -- checksum = crc32.Update(checksum, crc32.IEEETable, wb.definitions)
  crc32Update c b.page                        -- checksum = crc32.Update(checksum, crc32.IEEETable, wb.page)

/-- MIRROR the header fields `writeDataPage` / `writeDictionaryPage` fill from the buffers:
    `CompressedPageSize = int32(buf.size())`, `CRC = int32(buf.crc32())` (a zero CRC is then not
    written: `PageLoad.Header.crc`) -/
def writerHeader (w : WImpl) (kind : PageKind) (b : Buffers) (dictEncoded : Bool := false) : Header :=
  { kind, compressedSize := b.size, crc := writerCrc w b, dictEncoded }

/-- SPEC: byte range `[lo, hi)` of the stored body of a data page V2 that the CRC covers, given the
    header's `repetition_levels_byte_length`, `definition_levels_byte_length` and the length of the
    values section: everything, the levels first. -/
def coveredRange (repLen defLen valuesLen : Nat) : Nat × Nat := (0, repLen + defLen + valuesLen)

/-- SPEC: the level section of a V2 body in the same coordinates -/
def levelRange (repLen defLen : Nat) : Nat × Nat := (0, repLen + defLen)

/-- SPEC: the CRC the format asks for -/
def specCrc (b : Buffers) : BitVec 32 := crc32 b.body

theorem body_length (b : Buffers) : b.body.length = b.size := by
  simp [Buffers.body, Buffers.size, Nat.add_assoc]

theorem writerCrc_current (b : Buffers) : writerCrc wcurrent b = crc32 b.body := by
  simp only [writerCrc, wcurrent, Bool.false_and, Buffers.body]
  exact crc32Update_append₃ ..

end PqModel.C13Levels
