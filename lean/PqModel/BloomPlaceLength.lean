import PqModel.BloomPlace

/-! # `bloom_filter_length` of deferred filters (C02)

A flag on the MIRROR of `writeDeferredBloomFilters` (`PqModel.BloomPlace.flushDeferred`,
writer.go:1304-1324): where `bloomFilterOffset := w.writer.offset` is taken. Inside the loop (the
code as it is) every filter's `BloomFilterLength` is the length of its own section
(`BloomPlace.flushDeferred_spec`: `l.len = sect.length`); taken once before the loop (seeded slip
C02-5a) the offsets stay right and every length after the first is measured from the start of the
FIRST deferred filter. The SPEC clause the file reader of C02 applies is `Spec.bloomSection`:
`bloom_filter_length` = thrift header + `numBytes` of the section found at `bloom_filter_offset`. -/
namespace PqModel.BloomPlace

/-- MIRROR with the SEEDED slip C02-5a: `first` = `w.writer.offset` read once before the loop;
    `BloomFilterOffset = w.writer.offset` (right), `BloomFilterLength = w.writer.offset - first`
    after the buffer is appended -/
def flushDeferredHoisted (first : Nat) : List (Nat × Nat × Nat) → Nat → MetaTab → Nat × MetaTab
  | [], off, m => (off, m)
  | (rg, col, len) :: rest, off, m =>
    flushDeferredHoisted first rest (off + len) (setLoc m rg col ⟨off, off + len - first⟩)

def stepHoisted (s : PState) : Ev → PState
  | .flush =>
    let r := flushDeferredHoisted s.offset s.deferred s.offset s.tab
    { offset := r.1, deferred := [], tab := r.2 }
  | e => step s e

/-- with a single deferred filter the slip is invisible: the two loops record the same -/
theorem flushDeferredHoisted_single (rg col len off : Nat) (m : MetaTab) :
    flushDeferredHoisted off [(rg, col, len)] off m = flushDeferred [(rg, col, len)] off m := by
  simp only [flushDeferredHoisted, flushDeferred]
  congr 2
  congr 1
  omega

end PqModel.BloomPlace
