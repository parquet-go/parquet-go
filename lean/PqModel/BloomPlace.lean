import PqModel.BloomWriter
import PqModel.ThriftWriteProofs

/-! # Where the writer puts bloom filter sections, and what the reader finds there (C07)

MIRROR of the filter loop at the end of `writeRowGroup` (`writer.go:1659-1733`, "for i, c := range rg.columns": verbatim
copied section / built section, written inline or buffered in `w.deferredBloomFilters`), of `writeDeferredBloomFilters`
(run by `Close` before the page indexes and the footer), of `writeBloomFilter` and of the reader (`readBloomFilter`,
`file.go:1037-1090`; the eager loop of `OpenFile`, `file.go:252-310`, decodes the same header at the same offset).

The thrift header bytes are those of the `PqModel.ThriftWrite` mirror of the compact encoder; they are
read back with the SPEC reader `PqModel.Spec.readStruct`. AES-GCM is abstract (`sealM`/`openM` with
the round trip as a hypothesis), gzip as in `BloomWriter.lean`.

Two levels: `step` works on offsets and lengths only (this is what L2 runs against the footers of real
files), `stepB` carries the bytes along and *uses `step`* for every number, so that the theorems about
bytes are theorems about the offsets `step` computes. -/
namespace PqModel.BloomPlace
open PqModel.Bloom PqModel.BloomWriter PqModel.ThriftWrite PqModel.Spec

/-- `BloomFilterOffset`, `BloomFilterLength` of a column chunk's metadata -/
structure Loc where
  off : Nat
  len : Nat
  deriving DecidableEq, Repr

abbrev MetaTab := Nat → Nat → Option Loc

/-- `w.rowGroups[rg].Columns[col].MetaData.BloomFilterOffset/Length = ...` -/
def setLoc (m : MetaTab) (rg col : Nat) (l : Loc) : MetaTab :=
  fun r c => if r = rg ∧ c = col then some l else m r c

/-- the placement-relevant part of `writer` -/
structure PState where
  /-- `w.writer.offset` -/
  offset : Nat
  /-- `w.deferredBloomFilters`: row group, column, number of buffered bytes -/
  deferred : List (Nat × Nat × Nat)
  tab : MetaTab

inductive Ev where
  /-- anything else written to the file (magic, pages) -/
  | data (n : Nat)
  /-- one iteration of the filter loop of `writeRowGroup` for a column that has a filter section of
      `len` bytes (copied or built); `deferred` = `DeferredBloomFiltersBuffers != nil` -/
  | filter (rg col len : Nat) (deferred : Bool)
  /-- `writeDeferredBloomFilters` -/
  | flush
  deriving Repr

/-- MIRROR `writeDeferredBloomFilters`, writer.go:1304-1324: for each buffered filter, in order,
    `bloomFilterOffset := w.writer.offset`, the buffer is appended (`ReadFrom`),
    `BloomFilterLength = w.writer.offset - bloomFilterOffset`. -/
def flushDeferred : List (Nat × Nat × Nat) → Nat → MetaTab → Nat × MetaTab
  | [], off, m => (off, m)
  | (rg, col, len) :: rest, off, m => flushDeferred rest (off + len) (setLoc m rg col ⟨off, len⟩)

/-- the SEEDED slip (C07-3b): the recorded offset is read once before the loop and never advanced -/
def flushDeferredStuck (first : Nat) : List (Nat × Nat × Nat) → Nat → MetaTab → Nat × MetaTab
  | [], off, m => (off, m)
  | (rg, col, len) :: rest, off, m => flushDeferredStuck first rest (off + len) (setLoc m rg col ⟨first, len⟩)

def step (s : PState) : Ev → PState
  | .data n => { s with offset := s.offset + n }
  | .filter rg col len true => { s with deferred := s.deferred ++ [(rg, col, len)] }
  | .filter rg col len false =>
    { s with offset := s.offset + len, tab := setLoc s.tab rg col ⟨s.offset, len⟩ }
  | .flush =>
    let r := flushDeferred s.deferred s.offset s.tab
    { offset := r.1, deferred := [], tab := r.2 }

def stepStuck (s : PState) : Ev → PState
  | .flush =>
    let r := flushDeferredStuck s.offset s.deferred s.offset s.tab
    { offset := r.1, deferred := [], tab := r.2 }
  | e => step s e

def pinit : PState := { offset := 0, deferred := [], tab := fun _ _ => none }

def run (evs : List Ev) : PState := evs.foldl step pinit

inductive EvB where
  | data (bs : List UInt8)
  | filter (rg col : Nat) (sect : List UInt8) (deferred : Bool)
  | flush

def EvB.toEv : EvB → Ev
  | .data bs => .data bs.length
  | .filter rg col s d => .filter rg col s.length d
  | .flush => .flush

abbrev Buffered := Nat × Nat × List UInt8

def bkey (b : Buffered) : Nat × Nat := (b.1, b.2.1)

structure BState where
  p : PState
  /-- everything written to the file so far -/
  out : List UInt8
  /-- the buffers of `w.deferredBloomFilters` -/
  bufs : List Buffered

def stepB (s : BState) (e : EvB) : BState :=
  { p := step s.p e.toEv,
    out := match e with
      | .data bs => s.out ++ bs
      | .filter _ _ sect false => s.out ++ sect
      | .filter _ _ _ true => s.out
      | .flush => s.out ++ s.bufs.flatMap (·.2.2),
    bufs := match e with
      | .filter rg col sect true => s.bufs ++ [(rg, col, sect)]
      | .flush => []
      | _ => s.bufs }

def binit : BState := { p := pinit, out := [], bufs := [] }

def runB (s : BState) (evs : List EvB) : BState := evs.foldl stepB s

/-- the filter sections an event list writes -/
def filtersOf : List EvB → List Buffered
  | [] => []
  | .filter rg col sect _ :: es => (rg, col, sect) :: filtersOf es
  | _ :: es => filtersOf es

theorem runB_p (s : BState) (evs : List EvB) : (runB s evs).p = (evs.map EvB.toEv).foldl step s.p := by
  induction evs generalizing s with
  | nil => rfl
  | cons e es ih => simp only [runB, List.foldl_cons, List.map_cons] at ih ⊢; rw [ih]; rfl

theorem fileSection_prefix (out post : List UInt8) (off len : Nat) (h : off + len ≤ out.length) :
    fileSection (out ++ post) off len = fileSection out off len :=
  SortBuf.slice_append_left post h

theorem key_inj_of_nodup {l : List Buffered} (h : (l.map bkey).Nodup) {a b : Buffered}
    (ha : a ∈ l) (hb : b ∈ l) (hk : bkey a = bkey b) : a = b := by
  induction l with
  | nil => cases ha
  | cons x xs ih =>
    simp only [List.map_cons, List.nodup_cons] at h
    rcases List.mem_cons.mp ha with rfl | ha'
    · rcases List.mem_cons.mp hb with rfl | hb'
      · rfl
      · exact absurd (hk ▸ List.mem_map_of_mem hb') h.1
    · rcases List.mem_cons.mp hb with rfl | hb'
      · exact absurd (hk ▸ List.mem_map_of_mem ha') h.1
      · exact ih h.2 ha' hb'

/-- a chunk's metadata names a region of the file that holds exactly `sect` -/
def Names (m : MetaTab) (file : List UInt8) (b : Buffered) : Prop :=
  ∃ l, m b.1 b.2.1 = some l ∧ l.len = b.2.2.length ∧ l.off + l.len ≤ file.length ∧
    fileSection file l.off l.len = b.2.2

theorem Names.grow {m : MetaTab} {file : List UInt8} {b : Buffered} (h : Names m file b) (post : List UInt8) :
    Names m (file ++ post) b := by
  obtain ⟨l, h1, h2, h3, h4⟩ := h
  refine ⟨l, h1, h2, by simp only [List.length_append]; omega, ?_⟩
  rw [fileSection_prefix _ _ _ _ h3, h4]

theorem setLoc_of_ne (m : MetaTab) {rg col r c : Nat} (l : Loc) (h : (r, c) ≠ (rg, col)) :
    setLoc m rg col l r c = m r c :=
  if_neg (fun hc => h (by rw [hc.1, hc.2]))

theorem Names.setOther {m : MetaTab} {file : List UInt8} {b : Buffered} (h : Names m file b)
    (rg col : Nat) (l' : Loc) (hk : bkey b ≠ (rg, col)) : Names (setLoc m rg col l') file b := by
  obtain ⟨l, h1, h2, h3, h4⟩ := h
  exact ⟨l, by rw [setLoc_of_ne m l' hk]; exact h1, h2, h3, h4⟩

theorem flushDeferred_spec : ∀ (bufs : List Buffered) (out : List UInt8) (m : MetaTab),
    (bufs.map bkey).Nodup →
    let r := flushDeferred (bufs.map (fun b => (b.1, b.2.1, b.2.2.length))) out.length m
    r.1 = (out ++ bufs.flatMap (·.2.2)).length ∧
    (∀ b ∈ bufs, Names r.2 (out ++ bufs.flatMap (·.2.2)) b) ∧
    (∀ rg col, (∀ b ∈ bufs, bkey b ≠ (rg, col)) → r.2 rg col = m rg col) := by
  intro bufs
  induction bufs with
  | nil =>
    intro out m _
    simp [flushDeferred]
  | cons b rest ih =>
    intro out m hnd
    simp only [List.map_cons, List.nodup_cons] at hnd
    obtain ⟨rg, col, sect⟩ := b
    have ih' := ih (out ++ sect) (setLoc m rg col ⟨out.length, sect.length⟩) hnd.2
    simp only [List.length_append] at ih'
    simp only [List.map_cons, flushDeferred, List.flatMap_cons]
    have hassoc : out ++ sect ++ rest.flatMap (·.2.2) = out ++ (sect ++ rest.flatMap (·.2.2)) :=
      List.append_assoc _ _ _
    rw [hassoc] at ih'
    obtain ⟨i1, i2, i3⟩ := ih'
    refine ⟨by rw [i1]; simp only [List.length_append]; omega, ?_, ?_⟩
    · intro b hb
      rcases List.mem_cons.mp hb with rfl | hb'
      · have hnot : ∀ b' ∈ rest, bkey b' ≠ (rg, col) := by
          intro b' hb' he
          exact hnd.1 (by have := List.mem_map_of_mem (f := bkey) hb'; rw [he] at this; exact this)
        refine ⟨⟨out.length, sect.length⟩, ?_, rfl, ?_, ?_⟩
        · rw [i3 rg col hnot]; simp [setLoc]
        · simp only [List.length_append]; omega
        · exact fileSection_at_end out sect _
      · exact i2 b hb'
    · intro rg' col' hno
      rw [i3 rg' col' (fun b hb => hno b (List.mem_cons_of_mem _ hb))]
      exact setLoc_of_ne m _ (Ne.symm (hno (rg, col, sect) (List.mem_cons_self ..)))

/-- invariant of the byte-level writer after the filter sections `done` went through the loop -/
structure InvB (s : BState) (done : List Buffered) : Prop where
  off : s.p.offset = s.out.length
  defer : s.p.deferred = s.bufs.map (fun b => (b.1, b.2.1, b.2.2.length))
  bufsDone : s.bufs.Sublist done
  placed : ∀ b ∈ done, b ∈ s.bufs ∨ Names s.p.tab s.out b

/-- A deferred section joins `bufs`; an inline one is named at `out.length`, the ones named before survive the
    growth of the file and the `setLoc` of another key; a flush names every buffer (`flushDeferred_spec`) and
    leaves the other entries alone (distinct keys). -/
theorem InvB.step {s : BState} {done : List Buffered} (inv : InvB s done) (e : EvB)
    (hnd : ((done ++ filtersOf [e]).map bkey).Nodup) : InvB (stepB s e) (done ++ filtersOf [e]) := by
  cases e with
  | data bs =>
    simp only [filtersOf, List.append_nil] at hnd ⊢
    refine ⟨?_, inv.defer, inv.bufsDone, ?_⟩
    · simp [stepB, EvB.toEv, PqModel.BloomPlace.step, inv.off]
    · intro b hb
      rcases inv.placed b hb with h | h
      · exact Or.inl h
      · exact Or.inr (h.grow bs)
  | filter rg col sect d =>
    simp only [filtersOf] at hnd ⊢
    have hfresh : ∀ b ∈ done, bkey b ≠ (rg, col) := by
      intro b hb he
      rw [List.map_append, List.nodup_append] at hnd
      exact hnd.2.2 _ (List.mem_map_of_mem hb) _ (List.mem_map_of_mem (List.mem_singleton.mpr rfl)) he
    cases d with
    | true =>
      refine ⟨inv.off, ?_, ?_, ?_⟩
      · simp [stepB, EvB.toEv, PqModel.BloomPlace.step, inv.defer]
      · exact List.Sublist.append inv.bufsDone (List.Sublist.refl _)
      · intro b hb
        rcases List.mem_append.mp hb with hb | hb
        · rcases inv.placed b hb with h | h
          · exact Or.inl (by simp only [stepB]; exact List.mem_append_left _ h)
          · exact Or.inr h
        · exact Or.inl (by simp only [stepB]; exact List.mem_append_right _ hb)
    | false =>
      refine ⟨?_, inv.defer, ?_, ?_⟩
      · simp [stepB, EvB.toEv, PqModel.BloomPlace.step, inv.off]
      · exact inv.bufsDone.trans (List.sublist_append_left _ _)
      · intro b hb
        rcases List.mem_append.mp hb with hb | hb
        · rcases inv.placed b hb with h | h
          · exact Or.inl h
          · right
            have := (h.grow sect).setOther rg col ⟨s.p.offset, sect.length⟩ (hfresh b hb)
            simpa [stepB, EvB.toEv, PqModel.BloomPlace.step] using this
        · right
          rw [List.mem_singleton.mp hb]
          refine ⟨⟨s.out.length, sect.length⟩, ?_, rfl, ?_, ?_⟩
          · simp [stepB, EvB.toEv, PqModel.BloomPlace.step, setLoc, inv.off]
          · simp [stepB]
          · have := fileSection_at_end s.out sect []
            simpa [stepB] using this
  | flush =>
    simp only [filtersOf, List.append_nil] at hnd ⊢
    have hbn : (s.bufs.map bkey).Nodup := (inv.bufsDone.map bkey).nodup hnd
    have spec := flushDeferred_spec s.bufs s.out s.p.tab hbn
    simp only at spec
    obtain ⟨f1, f2, f3⟩ := spec
    refine ⟨?_, by simp [stepB, EvB.toEv, PqModel.BloomPlace.step], List.nil_sublist _, ?_⟩
    · simp only [stepB, EvB.toEv, PqModel.BloomPlace.step, inv.defer, inv.off]
      exact f1
    · intro b hb
      right
      simp only [stepB, EvB.toEv, PqModel.BloomPlace.step, inv.defer, inv.off]
      by_cases hin : b ∈ s.bufs
      · exact f2 b hin
      · rcases inv.placed b hb with h | h
        · exact absurd h hin
        · have hno : ∀ b' ∈ s.bufs, bkey b' ≠ (b.1, b.2.1) := by
            intro b' hb' he
            have := key_inj_of_nodup hnd (inv.bufsDone.subset hb') hb he
            exact hin (this ▸ hb')
          obtain ⟨l, h1, h2, h3, h4⟩ := h.grow (s.bufs.flatMap (·.2.2))
          exact ⟨l, by rw [f3 b.1 b.2.1 hno]; exact h1, h2, h3, h4⟩

theorem filtersOf_cons (e : EvB) (es : List EvB) : filtersOf (e :: es) = filtersOf [e] ++ filtersOf es := by
  cases e <;> rfl

theorem filtersOf_append (es es' : List EvB) : filtersOf (es ++ es') = filtersOf es ++ filtersOf es' := by
  induction es with
  | nil => rfl
  | cons e es ih => rw [List.cons_append, filtersOf_cons, ih, filtersOf_cons e es, List.append_assoc]

theorem InvB.run : ∀ (evs : List EvB) (s : BState) (done : List Buffered), InvB s done →
    ((done ++ filtersOf evs).map bkey).Nodup → InvB (runB s evs) (done ++ filtersOf evs) := by
  intro evs
  induction evs with
  | nil => intro s done inv _; simpa [runB, filtersOf] using inv
  | cons e es ih =>
    intro s done inv hnd
    rw [filtersOf_cons, ← List.append_assoc] at hnd ⊢
    have hnd1 : ((done ++ filtersOf [e]).map bkey).Nodup :=
      ((List.sublist_append_left _ _).map bkey).nodup hnd
    exact ih (stepB s e) _ (inv.step e hnd1) hnd

theorem InvB.init : InvB binit [] :=
  ⟨rfl, rfl, List.Sublist.refl _, by intro b hb; cases hb⟩

/-- what `Close` leaves: all events, then `writeDeferredBloomFilters` -/
def closed (evs : List EvB) : BState := runB binit (evs ++ [.flush])

theorem closed_bufs (evs : List EvB) : (closed evs).bufs = [] := by
  simp [closed, runB, List.foldl_append, stepB]

def unionOf (k : Nat) : WVal := .struct [({ id := k }, .struct [])]

/-- the `format.BloomFilterHeader` the writer encodes (`bloomFilterHeader`, bloom.go): NumBytes,
    SplitBlockAlgorithm, XxHash, Uncompressed | Gzip (union members 1 | 2) -/
def headerTree (numBytes : Nat) (gzip : Bool) : List (FMeta × WVal) :=
  [ ({ id := 1, required := true }, .i32 numBytes),
    ({ id := 2, required := true }, unionOf 1),
    ({ id := 3, required := true }, unionOf 1),
    ({ id := 4, required := true }, unionOf (if gzip then 2 else 1)) ]

/-- MIRROR: the compact-protocol bytes of the header (`thrift.NewEncoder(...).Encode(&h)`) -/
def headerBytes (numBytes : Nat) (gzip : Bool) : List UInt8 := writeStruct (headerTree numBytes gzip)

def unionTag : Option TVal → Option Nat
  | some (.struct ((k, _) :: _)) => some k
  | _ => none

/-- SPEC reading of the header tree + MIRROR of `isSplitBlockAlgorithm`, `isXxHash` and the
    compression switch of `newBloomFilter`: anything else gives no filter -/
def headerOfTree (t : TVal) : Option (Nat × Bool) :=
  match TVal.int? (t.field? 1), unionTag (t.field? 2), unionTag (t.field? 3), unionTag (t.field? 4) with
  | some n, some 1, some 1, some 1 => if 0 ≤ n then some (n.toNat, false) else none
  | some n, some 1, some 1, some 2 => if 0 ≤ n then some (n.toNat, true) else none
  | _, _, _, _ => none

def parseHeader (file : ByteArray) (pos : Nat) : Option ((Nat × Bool) × Nat) :=
  match readStruct file pos with
  | .ok (t, pos') => (headerOfTree t).map (·, pos')
  | .error _ => none

/-- `NumBytes` is an `int32`: the round trip holds below 2^31. -/
theorem parseHeader_headerBytes (nb : Nat) (gz : Bool) (hnb : nb < 2147483648) (pre rest : List UInt8) :
    parseHeader ⟨(pre ++ (headerBytes nb gz ++ rest)).toArray⟩ pre.length =
      some ((nb, gz), pre.length + (headerBytes nb gz).length) := by
  have hw : WfF 0 (headerTree nb gz) = true := by
    cases gz <;> simp [headerTree, unionOf, WfF, WfT, FMeta.omitted] <;> omega
  unfold parseHeader headerBytes
  rw [readStruct_writeStruct _ _ _ hw]
  cases gz <;>
    simp [headerOfTree, headerTree, unionOf, eraseF, erase, FMeta.omitted, TVal.field?, TVal.int?, unionTag]

theorem putUvarint_length_le (f x : Nat) : (putUvarint f x).length ≤ f + 1 := by
  -- cases of `putUvarint`: no fuel; last byte; one byte, then the rest
  fun_induction putUvarint f x with
  | case1 => exact Nat.le_refl _
  | case2 => exact Nat.le_add_left _ _
  | case3 f x h ih => exact Nat.succ_le_succ ih

/-- 1 field header + at most 10 varint bytes for `NumBytes`, 3 × 4 bytes for the unions, 1 stop: 24 at most. -/
theorem headerBytes_length_lt (nb : Nat) (gz : Bool) : (headerBytes nb gz).length < 64 := by
  have := putUvarint_length_le 9 (PqModel.Delta.zigzag64 (BitVec.ofNat 64 nb))
  cases gz <;>
    simp [headerBytes, headerTree, unionOf, writeStruct, writeFields, writeVal, fieldHeader, fcode, FMeta.omitted,
      varintBytes, uvarintBytes] <;> omega

/-- MIRROR `writeBloomFilter`, writer.go:2463-2482 and 2508-2513 (unencrypted): header with `NumBytes = len(filterBytes)`, then the bytes -/
def plainSection (s : Stored) : List UInt8 :=
  headerBytes s.numBytes (s.compression == .gzip) ++ s.payload

/-- MIRROR `readBloomFilter` (file.go:1072-1083, unencrypted branch) + `newBloomFilter` (bloom.go:79-127): the header is decoded
    at `BloomFilterOffset`; the filter is the section of `NumBytes` bytes that follows it. -/
def readFilterAt (file : List UInt8) (off : Nat) : Option Stored :=
  match parseHeader ⟨file.toArray⟩ off with
  | some ((nb, gz), pos) =>
    some { compression := if gz then .gzip else .uncompressed, numBytes := nb, payload := file.drop pos }
  | none => none

theorem store_numBytes (enc : List UInt8 → List UInt8) (gz : Bool) (filter : List UInt8) :
    (store enc gz filter).numBytes = (store enc gz filter).payload.length := by
  cases gz <;> rfl

theorem store_compression (enc : List UInt8 → List UInt8) (gz : Bool) (filter : List UInt8) :
    ((store enc gz filter).compression == .gzip) = gz := by
  cases gz <;> rfl

theorem readCheck_more_payload (dec : List UInt8 → Option (List UInt8)) (s : Stored) (rest : List UInt8)
    (hn : s.numBytes = s.payload.length) (h : BitVec 64) :
    readCheck dec { s with payload := s.payload ++ rest } h = readCheck dec s h := by
  simp only [readCheck, hn, List.take_left' rfl, List.take_length]

theorem read_plain_section (enc : List UInt8 → List UInt8) (dec : List UInt8 → Option (List UInt8))
    (gz : Bool) (filter : List UInt8) (hsz : (store enc gz filter).numBytes < 2147483648)
    (pre rest : List UInt8) (h : BitVec 64) :
    (readFilterAt (pre ++ (plainSection (store enc gz filter) ++ rest)) pre.length).bind
        (fun s => readCheck dec s h) = readCheck dec (store enc gz filter) h := by
  unfold readFilterAt plainSection
  rw [List.append_assoc, parseHeader_headerBytes _ _ hsz]
  simp only [Option.bind_some]
  rw [← List.append_assoc pre, List.drop_left' (by simp)]
  have := readCheck_more_payload dec (store enc gz filter) rest (store_numBytes enc gz filter) h
  rw [← this]
  cases gz <;> rfl

def le32 (n : Nat) : List UInt8 :=
  [UInt8.ofNat (n % 256), UInt8.ofNat (n / 256 % 256), UInt8.ofNat (n / 65536 % 256), UInt8.ofNat (n / 16777216 % 256)]

theorem le32_eq (n : Nat) : le32 n = LE.leBytes 4 n := (LE.leBytes_four n).symm

/-- MIRROR `encryptModule`, encrypt.go:170-195: 4-byte little-endian length of `nonce ‖ ciphertext ‖ tag`, then that -/
def envelope (body : List UInt8) : List UInt8 := le32 body.length ++ body

/-- MIRROR `readDecryptedEnvelopeFrom` (file.go:1547-1559) + the length checks of `decryptModule`
    (encrypt.go:201-211; a module is at least the 12-byte nonce and the 16-byte tag):
    the module body and what follows it -/
def readEnvelope (bs : List UInt8) : Option (List UInt8 × List UInt8) :=
  match bs with
  | b0 :: b1 :: b2 :: b3 :: rest =>
    let n := b0.toNat + 256 * b1.toNat + 65536 * b2.toNat + 16777216 * b3.toNat
    if n ≤ rest.length ∧ 28 ≤ n then some (rest.take n, rest.drop n) else none
  | _ => none

theorem readEnvelope_envelope (body rest : List UInt8) (h1 : 28 ≤ body.length) (h2 : body.length < 4294967296) :
    readEnvelope (envelope body ++ rest) = some (body, rest) := by
  simp only [envelope, le32, List.cons_append, List.nil_append, readEnvelope, LE.leVal_four_bytes h2]
  simp only [List.length_append, Nat.le_add_right, h1, and_self, if_true, List.take_left' rfl, List.drop_left' rfl]

/-- AES-GCM under the key of the column and the AAD of the module (`bits` = bitset module, else header
    module; row group and column ordinals): `sealM` gives nonce ‖ ciphertext ‖ tag. Not modelled. -/
structure Aead where
  sealM : Bool → Nat → Nat → List UInt8 → List UInt8
  openM : Bool → Nat → Nat → List UInt8 → Option (List UInt8)

/-- ASSUMPTION on AES-GCM: opening what was sealed under the same AAD gives it back; 12-byte nonce and
    16-byte tag around a ciphertext as long as the plaintext -/
structure AeadOk (a : Aead) : Prop where
  roundTrip : ∀ m rg col p, a.openM m rg col (a.sealM m rg col p) = some p
  length : ∀ m rg col p, (a.sealM m rg col p).length = p.length + 28

/-- MIRROR `writeBloomFilter`, writer.go:2484-2506 (encrypted column): header module, then bitset module -/
def encSection (a : Aead) (rg col : Nat) (s : Stored) : List UInt8 :=
  envelope (a.sealM false rg col (headerBytes s.numBytes (s.compression == .gzip))) ++
    envelope (a.sealM true rg col s.payload)

/-- MIRROR `readBloomFilter` (file.go:1055-1070, `c.decryptionKey != nil`) + `newBloomFilterFromBytes` (bloom.go:134-163) +
    `FileBloomFilter.Check`: both modules are opened, a gzip bitset is decompressed eagerly, the filter
    is probed with the length of the (decompressed) bitset. `sizeOf` is that choice of size (the
    code: the length of the bytes probed). -/
def readEncCheckWith (sizeOf : Nat → List UInt8 → Nat) (a : Aead) (dec : List UInt8 → Option (List UInt8))
    (rg col : Nat) (file : List UInt8) (off : Nat) (h : BitVec 64) : Option Bool :=
  match readEnvelope (file.drop off) with
  | none => none
  | some (hdrBody, rest1) =>
    match a.openM false rg col hdrBody with
    | none => none
    | some hdrPlain =>
      match parseHeader ⟨hdrPlain.toArray⟩ 0 with
      | none => none
      | some ((nb, gz), _) =>
        match readEnvelope rest1 with
        | none => none
        | some (bitsBody, _) =>
          match a.openM true rg col bitsBody with
          | none => none
          | some bits =>
            if gz then
              match dec bits with
              | some d => some (checkSplitBlock d (sizeOf nb d) h)
              | none => none
            else some (checkSplitBlock bits bits.length h)

/-- length of an encrypted section: two envelopes, each 4 + 12 + plaintext + 16 bytes -/
def encSectionLength (numBytes : Nat) (gzip : Bool) : Nat :=
  (4 + ((headerBytes numBytes gzip).length + 28)) + (4 + (numBytes + 28))

theorem encSection_length (a : Aead) (ok : AeadOk a) (rg col : Nat) (s : Stored) (hn : s.numBytes = s.payload.length) :
    (encSection a rg col s).length = encSectionLength s.numBytes (s.compression == .gzip) := by
  simp only [encSection, envelope, le32, List.length_append, List.length_cons, List.length_nil, ok.length,
    encSectionLength, hn]

def readEncCheck := readEncCheckWith (fun _ d => d.length)

/-- the SEEDED slip (C07-3a): the gzip branch sizes the filter by `header.NumBytes` (the compressed length) -/
def readEncCheckCompressedSize := readEncCheckWith (fun nb _ => nb)

theorem read_enc_section_with (sizeOf : Nat → List UInt8 → Nat) (a : Aead) (ok : AeadOk a)
    (enc : List UInt8 → List UInt8) (dec : List UInt8 → Option (List UInt8))
    (gz : Bool) (filter : List UInt8) (hsz : (store enc gz filter).numBytes < 2147483648)
    (rg col : Nat) (pre rest : List UInt8) (h : BitVec 64) :
    readEncCheckWith sizeOf a dec rg col (pre ++ (encSection a rg col (store enc gz filter) ++ rest)) pre.length h =
      (if gz then
        match dec (enc filter) with
        | some d => some (checkSplitBlock d (sizeOf (enc filter).length d) h)
        | none => none
      else some (checkSplitBlock filter filter.length h)) := by
  have hl1 := ok.length false rg col (headerBytes (store enc gz filter).numBytes ((store enc gz filter).compression == .gzip))
  have hl2 := ok.length true rg col (store enc gz filter).payload
  have hpl := store_numBytes enc gz filter
  have hb := headerBytes_length_lt (store enc gz filter).numBytes ((store enc gz filter).compression == .gzip)
  unfold readEncCheckWith encSection
  rw [List.drop_left' rfl, List.append_assoc, readEnvelope_envelope _ _ (by omega) (by omega)]
  simp only [ok.roundTrip]
  have hp := parseHeader_headerBytes (store enc gz filter).numBytes ((store enc gz filter).compression == .gzip) hsz [] []
  simp only [List.nil_append, List.append_nil, List.length_nil, Nat.zero_add] at hp
  rw [hp]
  simp only
  rw [readEnvelope_envelope _ _ (by omega) (by omega)]
  simp only [ok.roundTrip, store_compression]
  cases gz <;> simp [store]

theorem read_enc_section (a : Aead) (ok : AeadOk a) (enc : List UInt8 → List UInt8) (dec : List UInt8 → Option (List UInt8))
    (gz : Bool) (filter : List UInt8) (hsz : (store enc gz filter).numBytes < 2147483648)
    (rg col : Nat) (pre rest : List UInt8) (h : BitVec 64) :
    readEncCheck a dec rg col (pre ++ (encSection a rg col (store enc gz filter) ++ rest)) pre.length h =
      readCheck dec (store enc gz filter) h := by
  unfold readEncCheck
  rw [read_enc_section_with _ a ok enc dec gz filter hsz]
  cases gz
  · simp only [readCheck, store, Bool.false_eq_true, if_false, List.take_length]
  · simp only [readCheck, store, if_true, List.take_length]
    cases dec (enc filter) <;> rfl

end PqModel.BloomPlace
