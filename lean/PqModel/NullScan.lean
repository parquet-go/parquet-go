import PqModel.Basics

/-! # Null bitmap of optional non-pointer fields: construction and word-at-a-time scan

MIRROR of the typed write path for a Go field carrying the `optional` tag on a non-pointer type
(`int32`, `float64`, `string`, `[16]byte`, …):

* `nullIndex`  — `null.go:21-31` (`nullIndex[T comparable]`, the portable generic kernel:
  bit `i` of the bitmap is set iff `rows[i] != zero`; floating point kinds are instantiated at the
  unsigned integer of the same width, `null_purego.go:59-65`, so the test is on the bit pattern);
* `scan`, `optionalRuns` — `column_buffer_write.go:368-458`, the closure returned by
  `writeRowsFuncOfOptional`: the `for i := 0; i < rows.Len();` loop with `x := i/64`, `y := i%64`,
  the labels `writeNulls` / `writeNonNulls`, `bits.TrailingZeros64` and the all-ones test.

`bitAt`, `Chain`, `Alternates` are SPEC side: what "the scan writes exactly the null pattern" means. -/
namespace PqModel.NullScan

-- the witness theorems of Props/C03 `decide` equalities of `Except Err (List Run)`
deriving instance DecidableEq for Except

/-- One call `writeRows(columns, nullLevels | levels, rows.Slice(i, j))`. -/
structure Run where
  isNull : Bool
  i : Nat
  j : Nat
deriving DecidableEq, Repr

/-- Why a run of the mirror did not produce a result: a Go index expression out of range (run-time
panic) or the fuel of the outer loop exhausted. `scan_spec` shows neither happens. -/
inductive Err where
  | index
  | fuel
deriving DecidableEq, Repr

def tzAux (w : BitVec 64) : Nat → Nat → Nat
  | 0, i => i
  | f + 1, i => if w.getLsbD i then i else tzAux w f (i + 1)

/-- `bits.TrailingZeros64` (64 for 0). -/
def tz (w : BitVec 64) : Nat := tzAux w 64 0

/-- `for x < len(bits) && bits[x] == c { x++ }`; the list is `bits[x:]`. -/
def skipEq (c : BitVec 64) : List (BitVec 64) → Nat → Nat
  | [], x => x
  | w :: ws, x => if w = c then skipEq c ws (x + 1) else x

/-- `column_buffer_write.go:411-417`: skip the all-zero words, then
`if x < len(nulls.bits) { y = bits.TrailingZeros64(nulls.bits[x]) % 64 }` (`y` is 0 on entry). -/
def afterSkip0 (ws : List (BitVec 64)) (x : Nat) : Nat × Nat :=
  let x' := skipEq 0#64 (ws.drop x) x
  match ws[x']? with
  | some w => (x', tz w % 64)
  | none => (x', 0)

/-- `column_buffer_write.go:398-417`: from `i` to the label `writeNulls`; result `(x, y)`.
`nulls.bits[x]` out of range is the Go run-time panic. -/
def findSet (ws : List (BitVec 64)) (i : Nat) : Except Err (Nat × Nat) :=
  let x := i / 64
  let y := i % 64
  if y ≠ 0 then
    match ws[x]? with
    | none => .error .index
    | some w =>
      let b := w >>> y
      if b = 0#64 then .ok (afterSkip0 ws (x + 1))
      else .ok (x, y + tz b)
  else .ok (afterSkip0 ws x)

/-- `column_buffer_write.go:439-445`. -/
def afterSkip1 (ws : List (BitVec 64)) (x : Nat) : Nat × Nat :=
  let x' := skipEq (BitVec.allOnes 64) (ws.drop x) x
  match ws[x']? with
  | some w => (x', tz (~~~w) % 64)
  | none => (x', 0)

/-- The all-ones test of `column_buffer_write.go:430`. `fixed = true`: `(1<<uint(64-y))-1` (as repaired);
`fixed = false`: `(1<<uint(y))-1` (before the repair). -/
def onesMask (fixed : Bool) (y : Nat) : BitVec 64 :=
  (1#64 <<< (if fixed then 64 - y else y)) - 1#64

/-- `column_buffer_write.go:429-445`: from the label `writeNulls` (after the write) to the label
`writeNonNulls`; `(x, y)` are the values the null phase left behind. -/
def findClear (fixed : Bool) (ws : List (BitVec 64)) (x y : Nat) : Except Err (Nat × Nat) :=
  if y ≠ 0 then
    match ws[x]? with
    | none => .error .index
    | some w =>
      let b := w >>> y
      if b = onesMask fixed y then .ok (afterSkip1 ws (x + 1))
      else .ok (x, y + tz (~~~b))
  else .ok (afterSkip1 ws x)

/-- `if j = x*64 + y; j > rows.Len() { j = rows.Len() }` -/
def clampJ (x y n : Nat) : Nat := if x * 64 + y > n then n else x * 64 + y

/-- One iteration of the outer loop (`column_buffer_write.go:396-456`): the runs written and the
new `i`. -/
def step (fixed : Bool) (ws : List (BitVec 64)) (n i : Nat) : Except Err (List Run × Nat) :=
  match findSet ws i with
  | .error e => .error e
  | .ok (x, y) =>
    -- writeNulls:
    let j := clampJ x y n
    let out1 := if i < j then [Run.mk true i j] else []
    let i1 := if i < j then j else i
    match findClear fixed ws x y with
    | .error e => .error e
    | .ok (x2, y2) =>
      -- writeNonNulls:
      let j2 := clampJ x2 y2 n
      let out2 := if i1 < j2 then [Run.mk false i1 j2] else []
      let i2 := if i1 < j2 then j2 else i1
      .ok (out1 ++ out2, i2)

/-- `for i := 0; i < rows.Len(); { … }` with an explicit fuel for the number of iterations. -/
def scan (fixed : Bool) (ws : List (BitVec 64)) (n : Nat) : Nat → Nat → Except Err (List Run)
  | 0, i => if i < n then .error .fuel else .ok []
  | fuel + 1, i =>
    if i < n then
      match step fixed ws n i with
      | .error e => .error e
      | .ok (out, i') =>
        match scan fixed ws n fuel i' with
        | .error e => .error e
        | .ok rest => .ok (out ++ rest)
    else .ok []

/-- The scan as repaired, fuel `n` (one iteration per row is always enough). -/
def nullRuns (ws : List (BitVec 64)) (n : Nat) : Except Err (List Run) := scan true ws n n 0

/-- The scan before the repair (mask `(1<<y)-1`). -/
def scanBeforeFix (ws : List (BitVec 64)) (n : Nat) : Except Err (List Run) := scan false ws n n 0

/-- The whole closure (`column_buffer_write.go:368-458`): with no rows there is one call of
`writeRows` at the parent's definition level with the empty array. -/
def optionalRuns (ws : List (BitVec 64)) (n : Nat) : Except Err (List Run) :=
  if n = 0 then .ok [⟨true, 0, 0⟩] else nullRuns ws n

/-- `bits[uint(i)/64] |= 1 << (uint(i)%64)` -/
def setBit (ws : List (BitVec 64)) (i : Nat) : List (BitVec 64) :=
  ws.modify (i / 64) (fun w => w ||| (1#64 <<< (i % 64)))

/-- `null.go:21-31`, loop of `nullIndex[T]` from row `i` on; `nonzero v` is `v != zero`. -/
def nullIndexFrom {α : Type} (nonzero : α → Bool) : List α → Nat → List (BitVec 64) → List (BitVec 64)
  | [], _, bits => bits
  | v :: vs, i, bits => nullIndexFrom nonzero vs (i + 1) (if nonzero v then setBit bits i else bits)

/-- `bitmap.reset(n)` (`bitmap.go:9-17`, `(n+63)/64` zero words) followed by `nullIndex[T]`. -/
def nullIndex {α : Type} (nonzero : α → Bool) (vs : List α) : List (BitVec 64) :=
  nullIndexFrom nonzero vs 0 (List.replicate ((vs.length + 63) / 64) 0#64)

/-- Bit `p` of the bitmap (set = the row is not null); words beyond the end read as zero. -/
def bitAt (ws : List (BitVec 64)) (p : Nat) : Bool := (ws.getD (p / 64) 0#64).getLsbD (p % 64)

/-- `runs` are contiguous from `s` to `e`, each non-empty, and every position of a run is null
(bit clear) exactly when the run is a null run. -/
def Chain (ws : List (BitVec 64)) : Nat → Nat → List Run → Prop
  | s, e, [] => s = e
  | s, e, r :: rs =>
    r.i = s ∧ r.i < r.j ∧ (∀ p, r.i ≤ p → p < r.j → bitAt ws p = !r.isNull) ∧ Chain ws r.j e rs

/-- Consecutive runs differ in kind (so every run is maximal). -/
def Alternates : List Run → Prop
  | r1 :: r2 :: rs => r1.isNull ≠ r2.isNull ∧ Alternates (r2 :: rs)
  | _ => True

theorem tzAux_spec (w : BitVec 64) (f i : Nat) :
    i ≤ tzAux w f i ∧ tzAux w f i ≤ i + f ∧
    (∀ k, i ≤ k → k < tzAux w f i → w.getLsbD k = false) ∧
    (tzAux w f i < i + f → w.getLsbD (tzAux w f i) = true) := by
  -- cases of `tzAux`: no fuel; bit `i` set; bit `i` clear, go on at `i + 1`
  fun_induction tzAux w f i with
  | case1 i => exact ⟨Nat.le_refl _, Nat.le_refl _, fun k h1 h2 => by omega, fun h => by omega⟩
  | case2 f i h => exact ⟨Nat.le_refl _, by omega, fun k h1 h2 => by omega, fun _ => h⟩
  | case3 f i h ih =>
    refine ⟨by omega, by omega, fun k h1 h2 => ?_, fun h1 => ih.2.2.2 (by omega)⟩
    by_cases hk : k = i
    · subst hk; simpa using h
    · exact ih.2.2.1 k (by omega) h2

theorem tz_le (w : BitVec 64) : tz w ≤ 64 := by
  have := (tzAux_spec w 64 0).2.1; simpa [tz] using this

theorem tz_below (w : BitVec 64) (k : Nat) (h : k < tz w) : w.getLsbD k = false :=
  (tzAux_spec w 64 0).2.2.1 k (Nat.zero_le _) h

theorem tz_set (w : BitVec 64) (h : tz w < 64) : w.getLsbD (tz w) = true :=
  (tzAux_spec w 64 0).2.2.2 (by simpa [tz] using h)

theorem tz_le_of_set (w : BitVec 64) (k : Nat) (h : w.getLsbD k = true) : tz w ≤ k := by
  rcases Nat.lt_or_ge k (tz w) with h' | h'
  · have := tz_below w k h'; simp [this] at h
  · exact h'

theorem ushr_eq_iff (w m : BitVec 64) (y : Nat) (c : Bool)
    (hm : ∀ i, i < 64 → m.getLsbD i = (decide (y + i < 64) && c)) :
    w >>> y = m ↔ ∀ k, y ≤ k → k < 64 → w.getLsbD k = c := by
  constructor
  · intro h k h1 h2
    have hk : (w >>> y).getLsbD (k - y) = m.getLsbD (k - y) := by rw [h]
    rw [BitVec.getLsbD_ushiftRight, hm _ (by omega), show y + (k - y) = k by omega] at hk
    simpa [h2] using hk
  · intro h
    apply BitVec.eq_of_getLsbD_eq
    intro i hi
    rw [BitVec.getLsbD_ushiftRight, hm i hi]
    by_cases h' : y + i < 64
    · rw [h _ (by omega) h']; simp [h']
    · rw [BitVec.getLsbD_of_ge _ _ (by omega)]; simp [h']

theorem ushr_eq_zero_iff (w : BitVec 64) (y : Nat) :
    w >>> y = 0#64 ↔ ∀ k, y ≤ k → k < 64 → w.getLsbD k = false :=
  ushr_eq_iff w 0#64 y false (fun _ _ => by rw [BitVec.getLsbD_zero, Bool.and_false])

theorem getLsbD_onesMask (m i : Nat) (hm : m < 64) :
    ((1#64 <<< m) - 1#64).getLsbD i = decide (i < m) := by
  rw [← BitVec.testBit_toNat]
  have h1 : ((1#64 <<< m) - 1#64).toNat = 2 ^ m - 1 := by
    rw [BitVec.toNat_sub, BitVec.toNat_shiftLeft]
    have hp : 2 ^ m < 2 ^ 64 := Nat.pow_lt_pow_right (by omega) hm
    have hpos : 0 < 2 ^ m := Nat.two_pow_pos m
    simp only [BitVec.toNat_ofNat, Nat.shiftLeft_eq]
    have e1 : 1 % 2 ^ 64 = 1 := by decide
    rw [e1, Nat.one_mul, Nat.mod_eq_of_lt hp]
    omega
  rw [h1, Nat.testBit_two_pow_sub_one]

theorem ushr_eq_mask_iff (w : BitVec 64) (y : Nat) (h0 : 0 < y) (h64 : y < 64) :
    w >>> y = onesMask true y ↔ ∀ k, y ≤ k → k < 64 → w.getLsbD k = true :=
  ushr_eq_iff w _ y true (fun i _ => by
    simp only [onesMask, if_true]
    rw [getLsbD_onesMask _ _ (by omega), Bool.and_true]
    exact decide_eq_decide.mpr (by omega))

theorem exists_bit_of_not_forall {w : BitVec 64} {y : Nat} {b : Bool}
    (h : ¬ ∀ k, y ≤ k → k < 64 → w.getLsbD k = !b) : ∃ k, y ≤ k ∧ k < 64 ∧ w.getLsbD k = b :=
  Classical.byContradiction fun hn => h fun k h1 h2 => Bool.eq_not_of_ne fun hb => hn ⟨k, h1, h2, hb⟩

/-- `v` marks, from bit `y` of `w` on, the bits of `w` equal to `b` (`v = w >>> y` for `b = true`,
its complement for `b = false`): then `y + tz v` is the first bit `b` of `w` at or after `y`. -/
theorem tz_marks (w v : BitVec 64) (y : Nat) (b : Bool)
    (hv : ∀ i, i < 64 → v.getLsbD i = (w.getLsbD (y + i) == b))
    (hex : ∃ k, y ≤ k ∧ k < 64 ∧ w.getLsbD k = b) :
    y + tz v < 64 ∧ w.getLsbD (y + tz v) = b ∧ ∀ k, y ≤ k → k < y + tz v → w.getLsbD k = !b := by
  obtain ⟨k0, hk1, hk2, hk3⟩ := hex
  have hle : tz v ≤ k0 - y := by
    apply tz_le_of_set
    rw [hv _ (by omega), show y + (k0 - y) = k0 by omega, hk3, beq_self_eq_true]
  have hlt : tz v < 64 := by omega
  have hs := tz_set v hlt
  rw [hv _ hlt, beq_iff_eq] at hs
  refine ⟨by omega, hs, ?_⟩
  intro k h1 h2
  have hk := tz_below v (k - y) (by omega)
  rw [hv _ (by omega), show y + (k - y) = k by omega] at hk
  exact Bool.eq_not_of_ne (ne_of_beq_false hk)

theorem tz_ushr (w : BitVec 64) (y : Nat) (h : w >>> y ≠ 0#64) :
    y + tz (w >>> y) < 64 ∧ w.getLsbD (y + tz (w >>> y)) = true ∧
      ∀ k, y ≤ k → k < y + tz (w >>> y) → w.getLsbD k = false :=
  tz_marks w _ y true (fun i _ => by rw [BitVec.getLsbD_ushiftRight, beq_true])
    (exists_bit_of_not_forall fun hall => h ((ushr_eq_zero_iff w y).mpr hall))

theorem tz_not_ushr (w : BitVec 64) (y : Nat) (h : ¬ ∀ k, y ≤ k → k < 64 → w.getLsbD k = true) :
    y + tz (~~~(w >>> y)) < 64 ∧ w.getLsbD (y + tz (~~~(w >>> y))) = false ∧
      ∀ k, y ≤ k → k < y + tz (~~~(w >>> y)) → w.getLsbD k = true :=
  tz_marks w _ y false
    (fun i hi => by rw [BitVec.getLsbD_not, BitVec.getLsbD_ushiftRight, beq_false]; simp [hi])
    (exists_bit_of_not_forall h)

theorem eq_allOnes_of_bits {w : BitVec 64} (h : ∀ k, k < 64 → w.getLsbD k = true) : w = BitVec.allOnes 64 :=
  BitVec.eq_of_getLsbD_eq fun i hi => by rw [h i hi, BitVec.getLsbD_allOnes]; exact (decide_eq_true hi).symm

theorem bitAt_of_word {ws : List (BitVec 64)} {p t : Nat} {w : BitVec 64}
    (ht : p / 64 = t) (hw : ws[t]? = some w) : bitAt ws p = w.getLsbD (p % 64) := by
  simp [bitAt, ht, hw]

theorem bitAt_word {ws : List (BitVec 64)} {x k : Nat} {w : BitVec 64} (hw : ws[x]? = some w) (hk : k < 64) :
    bitAt ws (64 * x + k) = w.getLsbD k := by
  rw [bitAt_of_word (show (64 * x + k) / 64 = x by omega) hw, show (64 * x + k) % 64 = k by omega]

theorem bitAt_word_range {ws : List (BitVec 64)} {x y y' : Nat} {w : BitVec 64} {b : Bool}
    (hw : ws[x]? = some w) (hy' : y' ≤ 64) (h : ∀ k, y ≤ k → k < y' → w.getLsbD k = b)
    (p : Nat) (h1 : 64 * x + y ≤ p) (h2 : p < 64 * x + y') : bitAt ws p = b := by
  obtain ⟨k, rfl⟩ : ∃ k, p = 64 * x + k := ⟨p - 64 * x, by omega⟩
  rw [bitAt_word hw (by omega)]
  exact h k (by omega) (by omega)

theorem skipEq_spec (c : BitVec 64) (l : List (BitVec 64)) (x : Nat) :
    ∃ n, skipEq c l x = x + n ∧ n ≤ l.length ∧ (∀ t, t < n → l[t]? = some c) ∧
      (n < l.length → ∃ w, l[n]? = some w ∧ w ≠ c) := by
  -- cases of `skipEq`: no word left; the word is `c`, go on; another word, stop
  fun_induction skipEq c l x with
  | case1 x => exact ⟨0, rfl, Nat.le_refl _, fun t h => absurd h (Nat.not_lt_zero t), fun h => absurd h (Nat.lt_irrefl 0)⟩
  | case2 l x ih =>
    obtain ⟨n, h1, h2, h3, h4⟩ := ih
    refine ⟨n + 1, by rw [h1]; omega, Nat.succ_le_succ h2, fun t ht => ?_, fun hlt => h4 (Nat.lt_of_succ_lt_succ hlt)⟩
    cases t with
    | zero => rfl
    | succ t => exact h3 t (Nat.lt_of_succ_lt_succ ht)
  | case3 w l x h =>
    exact ⟨0, rfl, Nat.zero_le _, fun t ht => absurd ht (Nat.not_lt_zero t), fun _ => ⟨w, rfl, h⟩⟩

theorem skip_ws (c : BitVec 64) (ws : List (BitVec 64)) (x : Nat) (hx : x ≤ ws.length) :
    x ≤ skipEq c (ws.drop x) x ∧ skipEq c (ws.drop x) x ≤ ws.length ∧
    (∀ t, x ≤ t → t < skipEq c (ws.drop x) x → ws[t]? = some c) ∧
    (skipEq c (ws.drop x) x < ws.length → ∃ w, ws[skipEq c (ws.drop x) x]? = some w ∧ w ≠ c) := by
  obtain ⟨n, h1, h2, h3, h4⟩ := skipEq_spec c (ws.drop x) x
  rw [List.length_drop] at h2 h4
  rw [h1]
  refine ⟨Nat.le_add_right _ _, by omega, fun t ht1 ht2 => ?_, fun hlt => ?_⟩
  · have := h3 (t - x) (by omega)
    rwa [List.getElem?_drop, show x + (t - x) = t by omega] at this
  · obtain ⟨w, hw, hne⟩ := h4 (by omega)
    exact ⟨w, by rwa [List.getElem?_drop] at hw, hne⟩

/-- Where a search from bit position `start` for a bit of value `b` stops: word `x`, bit `y`. Every
bit of `[start, 64x + y)` is `!b`, and either position `64x + y` is inside the bitmap and holds `b`,
or the bitmap is exhausted and the search ends at `(ws.length, 0)`. -/
structure Stops (ws : List (BitVec 64)) (b : Bool) (start x y : Nat) : Prop where
  le : start ≤ 64 * x + y
  before : ∀ p, start ≤ p → p < 64 * x + y → bitAt ws p = !b
  stop : (x < ws.length ∧ y < 64 ∧ bitAt ws (64 * x + y) = b) ∨ (x = ws.length ∧ y = 0)

theorem stops_pre {ws : List (BitVec 64)} {b : Bool} {start x y : Nat} (h : Stops ws b start x y) :
    y < 64 ∧ x ≤ ws.length ∧ (y ≠ 0 → x < ws.length) := by
  rcases h.stop with ⟨a, c, _⟩ | ⟨a, c⟩
  · exact ⟨c, Nat.le_of_lt a, fun _ => a⟩
  · exact ⟨by omega, Nat.le_of_eq a, fun h => absurd c h⟩

theorem stops_pos {ws : List (BitVec 64)} {b : Bool} {start x y : Nat} (h : Stops ws b start x y) :
    64 * x + y ≤ 64 * ws.length ∧ (64 * x + y < 64 * ws.length → bitAt ws (64 * x + y) = b) := by
  rcases h.stop with ⟨a, c, d⟩ | ⟨a, c⟩
  · exact ⟨by omega, fun _ => d⟩
  · exact ⟨by omega, fun h => by omega⟩

/-- `afterSkip0` is `c = 0`, `f = tz`; `afterSkip1` is `c` all ones, `f = tz ∘ ~~~` -/
def afterSkip (c : BitVec 64) (f : BitVec 64 → Nat) (ws : List (BitVec 64)) (x : Nat) : Nat × Nat :=
  let x' := skipEq c (ws.drop x) x
  match ws[x']? with
  | some w => (x', f w % 64)
  | none => (x', 0)

theorem afterSkip0_eq (ws : List (BitVec 64)) (x : Nat) : afterSkip0 ws x = afterSkip 0#64 tz ws x := rfl

theorem afterSkip1_eq (ws : List (BitVec 64)) (x : Nat) :
    afterSkip1 ws x = afterSkip (BitVec.allOnes 64) (fun w => tz (~~~w)) ws x := rfl

theorem afterSkip_stops {b : Bool} {c : BitVec 64} {f : BitVec 64 → Nat}
    (hc : ∀ k, k < 64 → c.getLsbD k = !b)
    (hf : ∀ w, w ≠ c → f w < 64 ∧ w.getLsbD (f w) = b ∧ ∀ k, k < f w → w.getLsbD k = !b)
    (ws : List (BitVec 64)) (x : Nat) (hx : x ≤ ws.length) :
    Stops ws b (64 * x) (afterSkip c f ws x).1 (afterSkip c f ws x).2 := by
  obtain ⟨h1, h2, h3, h4⟩ := skip_ws c ws x hx
  unfold afterSkip
  generalize skipEq c (ws.drop x) x = x' at h1 h2 h3 h4 ⊢
  have hskip : ∀ p, 64 * x ≤ p → p < 64 * x' → bitAt ws p = !b := fun p hp1 hp2 => by
    rw [bitAt_of_word rfl (h3 (p / 64) (by omega) (by omega))]
    exact hc _ (Nat.mod_lt _ (by decide))
  rcases Nat.lt_or_ge x' ws.length with hlt | hge
  · obtain ⟨w, hw, hne⟩ := h4 hlt
    obtain ⟨f1, f2, f3⟩ := hf w hne
    simp only [hw, Nat.mod_eq_of_lt f1]
    refine ⟨by omega, fun p hp1 hp2 => ?_, Or.inl ⟨hlt, f1, (bitAt_word hw f1).trans f2⟩⟩
    by_cases hp : p < 64 * x'
    · exact hskip p hp1 hp
    · exact bitAt_word_range (y := 0) hw (Nat.le_of_lt f1) (fun k _ hk => f3 k hk) p (by omega) hp2
  · have hw : ws[x']? = none := List.getElem?_eq_none hge
    simp only [hw]
    exact ⟨by omega, fun p hp1 hp2 => hskip p hp1 (by omega), Or.inr ⟨by omega, rfl⟩⟩

theorem afterSkip0_stops (ws : List (BitVec 64)) (x : Nat) (hx : x ≤ ws.length) :
    Stops ws true (64 * x) (afterSkip0 ws x).1 (afterSkip0 ws x).2 :=
  afterSkip0_eq ws x ▸ afterSkip_stops (fun _ _ => BitVec.getLsbD_zero)
    (fun w hne => by
      have ht := tz_ushr w 0 (by rw [BitVec.ushiftRight_zero]; exact hne)
      simp only [BitVec.ushiftRight_zero, Nat.zero_add] at ht
      exact ⟨ht.1, ht.2.1, fun k hk => ht.2.2 k (Nat.zero_le _) hk⟩)
    ws x hx

theorem afterSkip1_stops (ws : List (BitVec 64)) (x : Nat) (hx : x ≤ ws.length) :
    Stops ws false (64 * x) (afterSkip1 ws x).1 (afterSkip1 ws x).2 :=
  afterSkip1_eq ws x ▸ afterSkip_stops
    (fun k hk => by rw [BitVec.getLsbD_allOnes]; exact decide_eq_true hk)
    (fun w hne => by
      have ht := tz_not_ushr w 0 fun h => hne (eq_allOnes_of_bits fun k hk => h k (Nat.zero_le _) hk)
      simp only [BitVec.ushiftRight_zero, Nat.zero_add] at ht
      exact ⟨ht.1, ht.2.1, fun k hk => ht.2.2 k (Nat.zero_le _) hk⟩)
    ws x hx

/-- `findSet` is `m = 0`, `f = tz`, `afterSkip0`; `findClear` is `m` the all-ones test value, `f = tz ∘ ~~~`, `afterSkip1` -/
def findFrom (m : BitVec 64) (f : BitVec 64 → Nat) (after : Nat → Nat × Nat) (ws : List (BitVec 64)) (x y : Nat) :
    Except Err (Nat × Nat) :=
  if y ≠ 0 then
    match ws[x]? with
    | none => .error .index
    | some w =>
      let b := w >>> y
      if b = m then .ok (after (x + 1)) else .ok (x, y + f b)
  else .ok (after x)

theorem findSet_eq (ws : List (BitVec 64)) (i : Nat) :
    findSet ws i = findFrom 0#64 tz (afterSkip0 ws) ws (i / 64) (i % 64) := rfl

theorem findClear_eq (fixed : Bool) (ws : List (BitVec 64)) (x y : Nat) :
    findClear fixed ws x y = findFrom (onesMask fixed y) (fun v => tz (~~~v)) (afterSkip1 ws) ws x y := rfl

theorem findFrom_stops {b : Bool} {m : BitVec 64} {f : BitVec 64 → Nat} {after : Nat → Nat × Nat}
    {ws : List (BitVec 64)} {x y : Nat} (hy : y < 64) (hx : x ≤ ws.length) (hxy : y ≠ 0 → x < ws.length)
    (hafter : ∀ x, x ≤ ws.length → Stops ws b (64 * x) (after x).1 (after x).2)
    (hm : ∀ w : BitVec 64, y ≠ 0 → (w >>> y = m ↔ ∀ k, y ≤ k → k < 64 → w.getLsbD k = !b))
    (hf : ∀ w : BitVec 64, y ≠ 0 → w >>> y ≠ m → y + f (w >>> y) < 64 ∧ w.getLsbD (y + f (w >>> y)) = b ∧
      ∀ k, y ≤ k → k < y + f (w >>> y) → w.getLsbD k = !b) :
    ∃ x' y', findFrom m f after ws x y = .ok (x', y') ∧ Stops ws b (64 * x + y) x' y' := by
  unfold findFrom
  by_cases hy0 : y = 0
  · subst hy0
    exact ⟨_, _, if_neg (fun h => h rfl), hafter x hx⟩
  · have hxl : x < ws.length := hxy hy0
    have hw : ws[x]? = some ws[x] := List.getElem?_eq_getElem hxl
    rw [if_pos hy0, hw]
    generalize ws[x] = w at hw
    by_cases hb : w >>> y = m
    · have S := hafter (x + 1) hxl
      refine ⟨_, _, by simp only [hb, if_true], by have := S.le; omega, fun p hp1 hp2 => ?_, S.stop⟩
      by_cases hp : p < 64 * x + 64
      · exact bitAt_word_range hw (Nat.le_refl _) ((hm w hy0).mp hb) p hp1 hp
      · exact S.before p (by omega) hp2
    · obtain ⟨f1, f2, f3⟩ := hf w hy0 hb
      exact ⟨x, _, by simp only [hb, if_false], by omega, bitAt_word_range hw (Nat.le_of_lt f1) f3,
        Or.inl ⟨hxl, f1, (bitAt_word hw f1).trans f2⟩⟩

theorem findSet_spec (ws : List (BitVec 64)) (i : Nat) (hi : i < 64 * ws.length) :
    ∃ x y, findSet ws i = .ok (x, y) ∧ Stops ws true i x y := by
  have h := findFrom_stops (b := true) (m := 0#64) (f := tz) (after := afterSkip0 ws) (x := i / 64)
    (Nat.mod_lt i (by decide)) (by omega) (fun _ => by omega) (afterSkip0_stops ws)
    (fun w _ => ushr_eq_zero_iff w _) (fun w _ hb => tz_ushr w _ hb)
  rwa [Nat.div_add_mod, ← findSet_eq] at h

theorem findClear_spec (ws : List (BitVec 64)) (x y : Nat) (hy : y < 64)
    (hx : x ≤ ws.length) (hxy : y ≠ 0 → x < ws.length) :
    ∃ x' y', findClear true ws x y = .ok (x', y') ∧ Stops ws false (64 * x + y) x' y' :=
  findClear_eq true ws x y ▸ findFrom_stops (b := false) hy hx hxy (afterSkip1_stops ws)
    (fun w h0 => ushr_eq_mask_iff w y (Nat.pos_of_ne_zero h0) hy)
    (fun w h0 hb => tz_not_ushr w y fun h => hb ((ushr_eq_mask_iff w y (Nat.pos_of_ne_zero h0) hy).mpr h))

theorem clampJ_eq (x y n : Nat) : clampJ x y n = min (64 * x + y) n := by
  unfold clampJ; split <;> omega

theorem ite_lt_of_le {a b : Nat} (h : a ≤ b) : (if a < b then b else a) = b := by
  split <;> omega

/-- one iteration: a null run `[i, j1)` then a non-null run `[j1, j2)`, either possibly empty, with progress -/
theorem step_spec (ws : List (BitVec 64)) (n i : Nat) (hn : n ≤ 64 * ws.length) (hi : i < n) :
    ∃ j1 j2, i ≤ j1 ∧ j1 ≤ j2 ∧ j2 ≤ n ∧ i < j2 ∧
      step true ws n i = .ok ((if i < j1 then [Run.mk true i j1] else []) ++
        (if j1 < j2 then [Run.mk false j1 j2] else []), j2) ∧
      (∀ p, i ≤ p → p < j1 → bitAt ws p = false) ∧
      (∀ p, j1 ≤ p → p < j2 → bitAt ws p = true) ∧
      (j2 < n → j1 < j2 ∧ bitAt ws j2 = false) := by
  obtain ⟨x, y, hf, S1⟩ := findSet_spec ws i (by omega)
  obtain ⟨x2, y2, hc, S2⟩ := findClear_spec ws x y (stops_pre S1).1 (stops_pre S1).2.1 (stops_pre S1).2.2
  refine ⟨min (64 * x + y) n, min (64 * x2 + y2) n, ?_⟩
  simp only [step, hf, hc, clampJ_eq]
  -- from here on only the two stops as bit positions `P1 ≤ P2` matter
  obtain ⟨hL1, hb1⟩ := stops_pos S1
  obtain ⟨hL2, hb2⟩ := stops_pos S2
  have h1 := S1.le
  have h2 := S1.before
  have g1 := S2.le
  have g2 := S2.before
  clear S1 S2 hf hc
  generalize 64 * x + y = P1 at *
  generalize 64 * x2 + y2 = P2 at *
  -- the clear bit the second search stops at is not the set bit the first stopped at
  have hlt : P1 < 64 * ws.length → P1 < P2 := fun h => by
    refine Nat.lt_of_le_of_ne g1 fun e => ?_
    have hset := hb1 h
    rw [e, hb2 (e ▸ h)] at hset
    cases hset
  have hi1 : i ≤ min P1 n := by omega
  have h12 : min P1 n ≤ min P2 n := by omega
  refine ⟨hi1, h12, by omega, by omega, ?_, fun p hp1 hp2 => h2 p hp1 (by omega),
    fun p hp1 hp2 => g2 p (by omega) (by omega), fun hj => ?_⟩
  · rw [ite_lt_of_le hi1, ite_lt_of_le h12]
  · have e : min P2 n = P2 := by omega
    exact ⟨by omega, by rw [e]; exact hb2 (by omega)⟩

theorem chain_nil (ws : List (BitVec 64)) (s : Nat) : Chain ws s s [] := by simp [Chain]

theorem chain_cons {ws : List (BitVec 64)} {r : Run} {rs : List Run} {s e : Nat}
    (h1 : r.i = s) (h2 : r.i < r.j) (h3 : ∀ p, r.i ≤ p → p < r.j → bitAt ws p = !r.isNull)
    (h4 : Chain ws r.j e rs) : Chain ws s e (r :: rs) := by
  simp only [Chain]; exact ⟨h1, h2, h3, h4⟩

theorem chain_le {ws : List (BitVec 64)} : ∀ {runs : List Run} {s e : Nat}, Chain ws s e runs → s ≤ e
  | [], s, e, h => by simp only [Chain] at h; omega
  | r :: rs, s, e, h => by
    simp only [Chain] at h
    have := chain_le h.2.2.2
    omega

theorem chain_append {ws : List (BitVec 64)} : ∀ {a b : List Run} {s m e : Nat},
    Chain ws s m a → Chain ws m e b → Chain ws s e (a ++ b)
  | [], b, s, m, e, ha, hb => by simp only [Chain] at ha; subst ha; simpa using hb
  | r :: rs, b, s, m, e, ha, hb => by
    simp only [Chain, List.cons_append] at ha ⊢
    exact ⟨ha.1, ha.2.1, ha.2.2.1, chain_append ha.2.2.2 hb⟩

theorem chain_head {ws : List (BitVec 64)} {r : Run} {rs : List Run} {s e : Nat}
    (h : Chain ws s e (r :: rs)) : s < e ∧ bitAt ws s = !r.isNull := by
  simp only [Chain] at h
  have := chain_le h.2.2.2
  refine ⟨by omega, ?_⟩
  rw [← h.1]; exact h.2.2.1 r.i (Nat.le_refl _) h.2.1

theorem chain_optRun {ws : List (BitVec 64)} {null : Bool} {i j : Nat} (hij : i ≤ j)
    (hb : ∀ p, i ≤ p → p < j → bitAt ws p = !null) :
    Chain ws i j (if i < j then [Run.mk null i j] else []) := by
  by_cases c : i < j
  · rw [if_pos c]
    exact chain_cons rfl c hb (chain_nil _ _)
  · rw [if_neg c, Nat.le_antisymm hij (Nat.le_of_not_lt c)]
    exact chain_nil _ _

theorem scan_spec (ws : List (BitVec 64)) (n : Nat) (hn : n ≤ 64 * ws.length) :
    ∀ (fuel i : Nat), i ≤ n → n - i ≤ fuel →
      ∃ runs, scan true ws n fuel i = .ok runs ∧ Chain ws i n runs ∧ Alternates runs
  | 0, i, h1, h2 => by
    refine ⟨[], by simp only [scan]; rw [if_neg (by omega)], by simp only [Chain]; omega, by simp [Alternates]⟩
  | fuel + 1, i, h1, h2 => by
    by_cases hi : i < n
    · rcases step_spec ws n i hn hi with ⟨j1, j2, a1, a2, a3, a4, hstep, b1, b2, b3⟩
      rcases scan_spec ws n hn fuel j2 a3 (by omega) with ⟨rest, hrest, hchain, halt⟩
      refine ⟨((if i < j1 then [Run.mk true i j1] else []) ++
        (if j1 < j2 then [Run.mk false j1 j2] else [])) ++ rest,
        by simp only [scan]; rw [if_pos hi, hstep]; simp only [hrest], ?_, ?_⟩
      · exact chain_append (chain_append (chain_optRun a1 (by simpa using b1)) (chain_optRun a2 (by simpa using b2)))
          hchain
      · -- the next step starts with a null run (`b3`): kinds alternate across the seam
        cases rest with
        | nil =>
          by_cases c1 : i < j1 <;> by_cases c2 : j1 < j2 <;> simp [c1, c2, Alternates]
        | cons r rs =>
          have hh := chain_head hchain
          have hb := b3 hh.1
          have hr : r.isNull = true := by
            have := hh.2; rw [hb.2] at this
            cases hr : r.isNull with
            | true => rfl
            | false => rw [hr] at this; cases this
          by_cases c1 : i < j1 <;> simp [c1, hb.1, Alternates, hr, halt]
    · refine ⟨[], by simp only [scan]; rw [if_neg hi], by simp only [Chain]; omega, by simp [Alternates]⟩

theorem chain_flatten {ws : List (BitVec 64)} : ∀ {runs : List Run} {s e : Nat}, Chain ws s e runs →
    runs.flatMap (fun r => List.replicate (r.j - r.i) r.isNull) =
      (List.range' s (e - s)).map (fun p => !bitAt ws p)
  | [], s, e, h => by simp only [Chain] at h; subst h; simp
  | r :: rs, s, e, h => by
    have hle := chain_le h
    simp only [Chain] at h
    have hle2 := chain_le h.2.2.2
    have ih := chain_flatten h.2.2.2
    rw [List.flatMap_cons, ih]
    have hsplit : List.range' s (e - s) = List.range' s (r.j - s) ++ List.range' r.j (e - r.j) := by
      have e1 : e - s = (r.j - s) + (e - r.j) := by omega
      have e2 : List.range' r.j (e - r.j) = List.range' (s + (r.j - s)) (e - r.j) := by
        congr 1; omega
      rw [e1, e2, List.range'_append_1]
    rw [hsplit, List.map_append]
    congr 1
    apply List.ext_getElem
    · simp [h.1]
    · intro k hk1 hk2
      simp only [List.length_replicate] at hk1
      simp only [List.getElem_replicate, List.getElem_map, List.getElem_range', Nat.one_mul]
      rw [h.2.2.1 (s + k) (by omega) (by omega)]; simp

theorem length_setBit (ws : List (BitVec 64)) (i : Nat) : (setBit ws i).length = ws.length := by
  simp [setBit]

theorem bitAt_setBit (ws : List (BitVec 64)) (i p : Nat) (hi : i / 64 < ws.length) :
    bitAt (setBit ws i) p = (decide (p = i) || bitAt ws p) := by
  simp only [bitAt, setBit, List.getD_eq_getElem?_getD, List.getElem?_modify]
  by_cases hw : p / 64 = i / 64
  · have hlt : p / 64 < ws.length := by omega
    rw [List.getElem?_eq_getElem hlt]
    simp only [hw, if_true, Option.map_eq_map, Option.map_some, Option.getD_some,
      BitVec.getLsbD_or, getLsbD_one_shl (w := 64) _ (Nat.mod_lt p (by omega))]
    by_cases hp : p = i
    · subst hp; simp
    · have : p % 64 ≠ i % 64 := by omega
      simp [hp, this]
  · have hp : p ≠ i := by intro h; subst h; exact hw rfl
    have hne : ¬ (i / 64 = p / 64) := fun h => hw h.symm
    cases h : ws[p / 64]? <;> simp [hne, hp]

theorem nullIndexFrom_spec {α : Type} (nonzero : α → Bool) :
    ∀ (vs : List α) (i : Nat) (bits : List (BitVec 64)), i + vs.length ≤ 64 * bits.length →
      (nullIndexFrom nonzero vs i bits).length = bits.length ∧
      ∀ p, bitAt (nullIndexFrom nonzero vs i bits) p =
        (bitAt bits p || (decide (i ≤ p) && ((vs[p - i]?.map nonzero).getD false))) := by
  intro vs i bits
  fun_induction nullIndexFrom nonzero vs i bits with
  | case1 => simp
  | case2 v vs i bits ih =>
    intro h
    simp only [List.length_cons] at h
    have hb : (if nonzero v = true then setBit bits i else bits).length = bits.length := by
      split
      · exact length_setBit _ _
      · rfl
    have ih := ih (by rw [hb]; omega)
    refine ⟨by rw [ih.1, hb], ?_⟩
    intro p
    rw [ih.2 p]
    have hset : bitAt (if nonzero v = true then setBit bits i else bits) p =
        (bitAt bits p || (decide (p = i) && nonzero v)) := by
      split
      · rename_i hv
        rw [bitAt_setBit _ _ _ (by omega), hv]; simp [Bool.or_comm]
      · rename_i hv
        have : nonzero v = false := by simpa using hv
        simp [this]
    rw [hset]
    by_cases hp : p = i
    · subst hp
      have h1 : ¬ (p + 1 ≤ p) := by omega
      simp [h1]
    · by_cases hlt : i ≤ p
      · have e : p - i = (p - (i + 1)) + 1 := by omega
        have h1 : i + 1 ≤ p := by omega
        rw [e]; simp [hp, hlt, h1]
      · have h1 : ¬ (i + 1 ≤ p) := by omega
        simp [hp, hlt, h1]

theorem nullIndex_spec {α : Type} (nonzero : α → Bool) (vs : List α) :
    (nullIndex nonzero vs).length = (vs.length + 63) / 64 ∧
    vs.length ≤ 64 * (nullIndex nonzero vs).length ∧
    ∀ p, bitAt (nullIndex nonzero vs) p = (vs[p]?.map nonzero).getD false := by
  have h := nullIndexFrom_spec nonzero vs 0 (List.replicate ((vs.length + 63) / 64) 0#64)
    (by simp only [List.length_replicate]; omega)
  simp only [List.length_replicate] at h
  refine ⟨h.1, by rw [nullIndex, h.1]; omega, ?_⟩
  intro p
  rw [nullIndex, h.2 p]
  have hz : bitAt (List.replicate ((vs.length + 63) / 64) 0#64) p = false := by
    simp only [bitAt, List.getD_eq_getElem?_getD, List.getElem?_replicate]
    split <;> simp
  rw [hz]; simp

theorem nullIndexFrom_map {α β : Type} (nz : β → Bool) (g : α → β) : ∀ (vs : List α) (i : Nat) (bits : List (BitVec 64)),
    nullIndexFrom nz (vs.map g) i bits = nullIndexFrom (fun v => nz (g v)) vs i bits
  | [], _, _ => rfl
  | v :: vs, i, bits => by simp only [List.map_cons, nullIndexFrom]; exact nullIndexFrom_map nz g vs (i + 1) _

end PqModel.NullScan
