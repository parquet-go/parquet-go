import PqModel.MergeSpec
import PqModel.Compare

/-! # C09 C14 — `runLength` (gallop + binary search) returns the maximal qualifying prefix -/
namespace PqModel.Merge

theorem cmp_eq_cmpInt (a b : Row) : cmp a b = Compare.cmpInt a.key b.key := rfl

theorem cmp_mono {a b : Row} (bound : Row) (h : a.key ≤ b.key) : cmp a bound ≤ cmp b bound := by
  unfold cmp
  split <;> split <;> (try split) <;> (try split) <;> omega

theorem leMax_anti {a b : Row} (mx : Int) (bound : Row) (h : a.key ≤ b.key)
    (hb : leMax mx bound b = true) : leMax mx bound a = true := by
  simp only [leMax, decide_eq_true_eq] at *
  exact Int.le_trans (cmp_mono bound h) hb

theorem leMax_iff {mx : Int} {bound w : Row} : leMax mx bound w = true ↔ cmp w bound ≤ mx := by
  simp [leMax]

theorem leMax_zero {bound w : Row} : leMax 0 bound w = true ↔ w.key ≤ bound.key := by
  rw [leMax_iff]; exact Compare.cmpInt_le _ _

theorem leMax_neg {bound w : Row} : leMax (-1) bound w = true ↔ w.key < bound.key := by
  rw [leMax_iff, cmp_eq_cmpInt]
  have := Compare.cmpInt_lt w.key bound.key
  omega

theorem cmp_lt {a b : Row} : cmp a b < 0 ↔ a.key < b.key := Compare.cmpInt_lt _ _

theorem cmp_gt {a b : Row} : cmp a b > 0 ↔ b.key < a.key := Compare.cmpInt_gt _ _

theorem cmp_eq {a b : Row} : cmp a b = 0 ↔ a.key = b.key := Compare.cmpInt_eq _ _

theorem sortedK_getD {w : List Row} (hs : SortedK w) {i j : Nat} (hij : i ≤ j) (hj : j < w.length) :
    (w.getD i default).key ≤ (w.getD j default).key :=
  ListFacts.getD_mono (R := fun a b => a.key ≤ b.key) default (fun _ => Int.le_refl _) hs hij hj

section
variable (w : List Row) (bound : Row) (mx : Int)

/-- the predicate the search is about, by index -/
abbrev Qualifies (j : Nat) : Prop := leMax mx bound (w.getD j default) = true

theorem gallop_spec (f lo hi : Nat) (h1 : lo < hi) (h3 : lo < w.length) (h4 : Qualifies w bound mx lo)
    (h5 : w.length ≤ f + hi) :
    (gallop w bound mx f lo hi).1 < (gallop w bound mx f lo hi).2 ∧
    (gallop w bound mx f lo hi).1 < w.length ∧ Qualifies w bound mx (gallop w bound mx f lo hi).1 ∧
    (w.length ≤ (gallop w bound mx f lo hi).2 ∨ ¬ Qualifies w bound mx (gallop w bound mx f lo hi).2) := by
  fun_induction gallop w bound mx f lo hi with
  | case1 lo hi => exact ⟨h1, h3, h4, Or.inl (by omega)⟩
  | case2 f lo hi hc ih =>
    simp only [Bool.and_eq_true, decide_eq_true_eq] at hc
    exact ih (by omega) hc.1 hc.2 (by omega)
  | case3 f lo hi hc =>
    simp only [Bool.and_eq_true, decide_eq_true_eq, not_and] at hc
    refine ⟨h1, h3, h4, ?_⟩
    by_cases hl : hi < w.length
    · exact Or.inr (hc hl)
    · exact Or.inl (by omega)
theorem bsearch_spec (f lo hi : Nat) (h1 : lo < hi) (h2 : hi ≤ w.length)
    (h3 : Qualifies w bound mx lo) (h4 : hi = w.length ∨ ¬ Qualifies w bound mx hi) (h5 : hi - lo ≤ f + 1) :
    let r := bsearch w bound mx f lo hi
    1 ≤ r ∧ r ≤ w.length ∧ Qualifies w bound mx (r - 1) ∧ (r = w.length ∨ ¬ Qualifies w bound mx r) := by
  -- an interval of length one: `hi` is the boundary
  have stop : ∀ {lo hi : Nat}, lo < hi → ¬ lo + 1 < hi → hi ≤ w.length → Qualifies w bound mx lo →
      (hi = w.length ∨ ¬ Qualifies w bound mx hi) →
      1 ≤ hi ∧ hi ≤ w.length ∧ Qualifies w bound mx (hi - 1) ∧ (hi = w.length ∨ ¬ Qualifies w bound mx hi) := by
    intro lo hi h1 hlt h2 h3 h4
    obtain rfl : hi - 1 = lo := by omega
    exact ⟨by omega, h2, h3, h4⟩
  fun_induction bsearch w bound mx f lo hi with
  | case1 lo hi => exact stop h1 (by omega) h2 h3 h4
  | case2 f lo hi hlt mid hm ih =>
    obtain ⟨m1, m2⟩ : lo < mid ∧ mid < hi := by omega
    clear_value mid
    exact ih m2 h2 hm h4 (by omega)
  | case3 f lo hi hlt mid hm ih =>
    obtain ⟨m1, m2⟩ : lo < mid ∧ mid < hi := by omega
    clear_value mid
    exact ih m1 (by omega) h3 (Or.inr hm) (by omega)
  | case4 f lo hi hlt => exact stop h1 hlt h2 h3 h4
end

theorem runLength_boundary (w : List Row) (bound : Row) (mx : Int) :
    Boundary (fun j => leMax mx bound (w.getD j default)) w.length (runLength w bound mx) := by
  fun_cases runLength w bound mx with
  | case1 h0 =>
    simp only [Bool.or_eq_true, decide_eq_true_eq, Bool.not_eq_true'] at h0
    refine ⟨Nat.zero_le _, fun h => absurd h (Nat.lt_irrefl _), fun hlt => ?_⟩
    rcases h0 with h0 | h0
    · omega
    · exact h0
  | case2 h0 hlast => exact ⟨Nat.le_refl _, fun _ => hlast, fun h => absurd h (Nat.lt_irrefl _)⟩
  | case3 h0 hlast lo hi hg hi' =>
    simp only [Bool.or_eq_true, decide_eq_true_eq, Bool.not_eq_true', not_or, Bool.not_eq_false] at h0
    have hlen : 0 < w.length := by omega
    obtain ⟨g1, g2, g3, g4⟩ := gallop_spec w bound mx w.length 0 1 (by omega) hlen h0.2 (by omega)
    rw [hg] at g1 g2 g3 g4
    obtain ⟨b1, b2, b3, b4⟩ := bsearch_spec w bound mx w.length lo hi' (by omega) (by omega) g3
      (by
        rcases g4 with g4 | g4
        · exact Or.inl (by omega)
        · by_cases hh : hi < w.length
          · exact Or.inr (by rw [show hi' = hi from Nat.min_eq_left (by omega)]; exact g4)
          · exact Or.inl (by omega)) (by omega)
    refine ⟨b2, fun _ => b3, fun hlt => ?_⟩
    rcases b4 with b4 | b4
    · omega
    · simpa using b4

theorem runLength_le (w : List Row) (bound : Row) (mx : Int) : runLength w bound mx ≤ w.length :=
  (runLength_boundary w bound mx).1

theorem runLength_index (w : List Row) (bound : Row) (mx : Int) (hs : SortedK w) :
    runLength w bound mx ≤ w.length ∧
    (∀ j, j < runLength w bound mx → Qualifies w bound mx j) ∧
    (∀ j, runLength w bound mx ≤ j → j < w.length → ¬ Qualifies w bound mx j) := by
  obtain ⟨h2, h3⟩ := (runLength_boundary w bound mx).least
    (fun i j hij hj h => leMax_anti mx bound (sortedK_getD hs hij hj) h)
  exact ⟨runLength_le w bound mx, h2, fun j a b => by simpa using h3 j a b⟩

theorem mem_take_getD {w : List Row} {r : Nat} {x : Row} (h : x ∈ w.take r) :
    ∃ j, j < r ∧ w.getD j default = x := by
  obtain ⟨j, hj, rfl⟩ := List.mem_iff_getElem.mp h
  simp only [List.length_take] at hj
  refine ⟨j, by omega, ?_⟩
  simp [List.getD_eq_getElem?_getD, List.getElem?_eq_getElem (show j < w.length by omega), List.getElem_take]

theorem mem_drop_getD {w : List Row} {r : Nat} {x : Row} (h : x ∈ w.drop r) :
    ∃ j, r ≤ j ∧ j < w.length ∧ w.getD j default = x := by
  obtain ⟨j, hj, rfl⟩ := List.mem_iff_getElem.mp h
  simp only [List.length_drop] at hj
  refine ⟨r + j, by omega, by omega, ?_⟩
  simp [List.getD_eq_getElem?_getD, List.getElem?_eq_getElem (show r + j < w.length by omega)]

theorem runLength_spec' (w : List Row) (bound : Row) (mx : Int) (hs : SortedK w) :
    runLength w bound mx ≤ w.length ∧
    (∀ x ∈ w.take (runLength w bound mx), leMax mx bound x = true) ∧
    (∀ x ∈ w.drop (runLength w bound mx), leMax mx bound x = false) := by
  obtain ⟨h1, h2, h3⟩ := runLength_index w bound mx hs
  refine ⟨h1, ?_, ?_⟩
  · intro x hx
    obtain ⟨j, hj, rfl⟩ := mem_take_getD hx
    exact h2 j hj
  · intro x hx
    obtain ⟨j, hj, hj2, rfl⟩ := mem_drop_getD hx
    have := h3 j hj hj2
    simpa using this

end PqModel.Merge
