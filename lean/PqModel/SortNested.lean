import PqModel.SortRep

/-! # C10 model — how `Buffer.configure` sets up a sorting column (nested leaves)

`buffer.go:243-291`: for every leaf of the schema the buffer picks the column buffer kind (plain /
optional / repeated) from the leaf's *inherited* levels, the null ordering function handed to the
optional/repeated wrapper, and whether the sorted column is wrapped in `reversedColumnBuffer`.
A required leaf below an optional (or repeated) group has `maxDefinitionLevel > 0`
(`maxRepetitionLevel > 0`) although its own repetition is `required`: it is stored in an optional
(repeated) column buffer and holds a null in every row where the group is absent.

The variant that derives `nullable` from the leaf's own repetition only (`configureOwn`) is kept for the
negation witness; `ordTable` is the probe of the correspondence check, not library code. -/
namespace PqModel.SortBuf

/-- what `forEachLeafColumnOf` reports about a leaf: the levels accumulated over all ancestors and
    the leaf node's own repetition type -/
structure Leaf where
  maxRep : Nat
  maxDef : Nat
  ownOptional : Bool := false
  ownRepeated : Bool := false
deriving DecidableEq, Repr

/-- the column buffer kind chosen at `buffer.go:279-284` -/
inductive Wrap where
  | plain | optional | repeated
deriving DecidableEq, Repr

/-- the outcome of `configure` for one leaf: buffer kind; the null ordering function as its two
    degrees of freedom (`nullsGoFirst*` vs `nullsGoLast*`, `*Descending` or not); the
    `reversedColumnBuffer` wrapper around the sorted column -/
structure Conf where
  wrap : Wrap
  nullsFirst : Bool
  descValues : Bool
  reversed : Bool
deriving DecidableEq, Repr

/-- MIRROR `buffer.go:243-291` with the `nullable` flag as a parameter. `sc = none`: the leaf is
    not a sorting column (`sortingIndex == len(sortingColumns)`). -/
def configureWith (nullable : Bool) (l : Leaf) (sc : Option SortCol) : Conf :=
  let nf := match sc with | some s => s.nullsFirst | none => false
  let desc := match sc with | some s => s.desc | none => false
  { wrap := if 0 < l.maxRep then .repeated else if 0 < l.maxDef then .optional else .plain,
    nullsFirst := nf,
    descValues := nullable && desc,
    reversed := desc && !nullable }

/-- MIRROR `buffer.go:268`: `nullable := leaf.maxRepetitionLevel > 0 || leaf.maxDefinitionLevel > 0` -/
def configure (l : Leaf) (sc : Option SortCol) : Conf :=
  configureWith (decide (0 < l.maxRep) || decide (0 < l.maxDef)) l sc

/-- the variant that looks at the leaf's own repetition type only (`leaf.node.Optional() ||
    leaf.node.Repeated()`): wrong for required leaves inside optional/repeated groups -/
def configureOwn (l : Leaf) (sc : Option SortCol) : Conf :=
  configureWith (l.ownOptional || l.ownRepeated) l sc

/-- MIRROR `column_buffer.go:113-143`: the four null ordering functions, selected by two flags;
    `less` is the base column's `Less` on base indexes -/
def nullOrdFn (nullsFirst descValues : Bool) (less : Int → Int → Bool) (m d1 d2 : Nat) (i j : Int) : Bool :=
  let l := fun x y => if descValues then less y x else less x y
  if nullsFirst then nullsGoFirst l m d1 d2 i j else nullsGoLast l m d1 d2 i j

/-- the truth table the correspondence check probes a null ordering function with: maximum level 1,
    levels `(0,0) (0,1) (1,0) (1,1)`, base indexes `0, 1`, and a base column on which `Less(0,1)`
    holds and `Less(1,0)` does not -/
def ordTable (nullsFirst descValues : Bool) : List Bool :=
  [(0, 0), (0, 1), (1, 0), (1, 1)].map fun (d : Nat × Nat) =>
    nullOrdFn nullsFirst descValues (fun x y => decide (x = 0 ∧ y = 1)) 1 d.1 d.2 0 1

/-- `Less` of the column buffer itself (before any `reversedColumnBuffer`): a plain buffer compares
    values; an optional buffer goes through its null ordering function
    (`column_buffer_optional.go:134-145`) -/
def Col.lessRaw {V : Type} (lt : V → V → Bool) (nullsFirst descValues : Bool) : Col V → Nat → Nat → Bool
  | .req vals, i, j =>
    match vals[i]?, vals[j]? with
    | some a, some b => lt a b
    | _, _ => false
  | .opt m c, i, j =>
    match c.rows[i]?, c.rows[j]?, c.defs[i]?, c.defs[j]? with
    | some ri, some rj, some di, some dj => nullOrdFn nullsFirst descValues (baseLess lt c.base) m di dj ri rj
    | _, _, _, _ => false

/-- `buf.sorted[k].Less(i, j)`: the configured column, behind `reversedColumnBuffer` if chosen -/
def Col.lessConf {V : Type} (lt : V → V → Bool) (cf : Conf) (c : Col V) (i j : Nat) : Bool :=
  if cf.reversed then Col.lessRaw lt cf.nullsFirst cf.descValues c j i
  else Col.lessRaw lt cf.nullsFirst cf.descValues c i j

def RepCol.lessConf {V : Type} (lt : V → V → Bool) (cf : Conf) (m : Nat) (c : RepCol V) (i j : Nat) : Bool :=
  if cf.reversed then c.less lt cf.descValues cf.nullsFirst m j i
  else c.less lt cf.descValues cf.nullsFirst m i j

/-- the column buffer has the kind `configure` creates for the leaf -/
def Col.KindOf {V : Type} (l : Leaf) : Col V → Prop
  | .req _ => l.maxRep = 0 ∧ l.maxDef = 0
  | .opt m _ => l.maxRep = 0 ∧ m = l.maxDef ∧ 0 < l.maxDef

theorem Col.lessRaw_opt {V : Type} (lt : V → V → Bool) (nf desc : Bool) (m : Nat) (c : OptCol V) (i j : Nat) :
    Col.lessRaw lt nf desc (.opt m c) i j = Col.less lt desc nf (.opt m c) i j := by
  simp only [Col.lessRaw, Col.less, nullOrdFn]
  cases c.rows[i]? with
  | none => rfl
  | some _ =>
    cases c.rows[j]? with
    | none => rfl
    | some _ =>
      cases c.defs[i]? with
      | none => rfl
      | some _ => cases c.defs[j]? <;> rfl

/-- with the levels-based `nullable`, the configured `Less` is the `Less` of `SortCmp` (which
    `less_agrees` ties to the comparator), whatever the leaf's own repetition type -/
theorem Col.lessConf_configure {V : Type} (lt : V → V → Bool) (l : Leaf) (sc : SortCol) {c : Col V}
    (hk : c.KindOf l) (i j : Nat) :
    Col.lessConf lt (configure l (some sc)) c i j = Col.less lt sc.desc sc.nullsFirst c i j := by
  cases c with
  | req vals =>
    obtain ⟨h1, h2⟩ := hk
    simp only [Col.lessConf, configure, configureWith, h1, h2, Col.lessRaw, Col.less]
    cases vals[i]? <;> cases vals[j]? <;> cases sc.desc <;> rfl
  | opt m c =>
    obtain ⟨h1, h2, h3⟩ := hk
    have hn : (decide (0 < l.maxRep) || decide (0 < l.maxDef)) = true := by simp [h3]
    simp only [Col.lessConf, configure, configureWith, hn, Bool.true_and, Bool.not_true, Bool.and_false,
      Bool.false_eq_true, if_false]
    exact Col.lessRaw_opt lt sc.nullsFirst sc.desc m c i j

/-- a repeated leaf (own or inherited repetition) is never reversed: the direction goes into the
    null ordering function -/
theorem RepCol.lessConf_configure {V : Type} (lt : V → V → Bool) (l : Leaf) (sc : SortCol) (hr : 0 < l.maxRep)
    (m : Nat) (c : RepCol V) (i j : Nat) :
    RepCol.lessConf lt (configure l (some sc)) m c i j = c.less lt sc.desc sc.nullsFirst m i j := by
  have hn : (decide (0 < l.maxRep) || decide (0 < l.maxDef)) = true := by simp [hr]
  simp only [RepCol.lessConf, configure, configureWith, hn, Bool.true_and, Bool.not_true, Bool.and_false,
    Bool.false_eq_true, if_false]

theorem configure_wrap (l : Leaf) (sc : Option SortCol) :
    ((configure l sc).wrap = .plain ↔ l.maxRep = 0 ∧ l.maxDef = 0) ∧
    ((configure l sc).wrap = .optional ↔ l.maxRep = 0 ∧ 0 < l.maxDef) ∧
    ((configure l sc).wrap = .repeated ↔ 0 < l.maxRep) := by
  show ((if 0 < l.maxRep then Wrap.repeated else if 0 < l.maxDef then .optional else .plain) = .plain ↔ _) ∧
    ((if 0 < l.maxRep then Wrap.repeated else if 0 < l.maxDef then .optional else .plain) = .optional ↔ _) ∧
    ((if 0 < l.maxRep then Wrap.repeated else if 0 < l.maxDef then .optional else .plain) = .repeated ↔ _)
  by_cases hr : 0 < l.maxRep
  · rw [if_pos hr]
    exact ⟨⟨nofun, fun h => by omega⟩, ⟨nofun, fun h => by omega⟩, ⟨fun _ => hr, fun _ => rfl⟩⟩
  · rw [if_neg hr]
    by_cases hd : 0 < l.maxDef
    · rw [if_pos hd]
      exact ⟨⟨nofun, fun h => by omega⟩, ⟨fun _ => ⟨by omega, hd⟩, fun _ => rfl⟩, ⟨nofun, fun h => absurd h hr⟩⟩
    · rw [if_neg hd]
      exact ⟨⟨fun _ => by omega, fun _ => rfl⟩, ⟨nofun, fun h => absurd h.2 hd⟩, ⟨nofun, fun h => absurd h hr⟩⟩

theorem configure_reversed (l : Leaf) (sc : SortCol) :
    (configure l (some sc)).reversed = true ↔ sc.desc = true ∧ l.maxRep = 0 ∧ l.maxDef = 0 := by
  simp only [configure, configureWith]
  cases sc.desc <;> simp <;> omega

theorem lessChain_congr {V : Type} (cl1 cl2 : SortCol → Col V → Nat → Nat → Bool) (cols : List (Col V)) (i j : Nat) :
    ∀ (s : List SortCol), (∀ sc ∈ s, ∀ c, cols[sc.col]? = some c → ∀ x y, cl1 sc c x y = cl2 sc c x y) →
    lessChain cl1 cols s i j = lessChain cl2 cols s i j
  | [], _ => rfl
  | sc :: rest, h => by
    have ih := lessChain_congr cl1 cl2 cols i j rest (fun x hx => h x (by simp [hx]))
    simp only [lessChain]
    cases hc : cols[sc.col]? with
    | none => exact ih
    | some c =>
      simp only
      rw [h sc (by simp) c hc i j, h sc (by simp) c hc j i, ih]

/-- MIRROR `buffer.go:357-368` `Buffer.Less` over the sorted columns as `configure` set them up;
    `leaves k` describes the leaf of column `k` -/
def Buffer.lessConfigured {V : Type} (lt : V → V → Bool) (leaves : Nat → Leaf) (b : Buffer V) (i j : Nat) : Bool :=
  lessChain (fun sc c => Col.lessConf lt (configure (leaves sc.col) (some sc)) c) b.cols b.sorting i j

theorem Buffer.lessConfigured_eq {V : Type} (lt : V → V → Bool) (leaves : Nat → Leaf) (b : Buffer V)
    (hk : ∀ (k : Nat) (c : Col V), b.cols[k]? = some c → c.KindOf (leaves k)) (i j : Nat) :
    b.lessConfigured lt leaves i j = b.less lt i j :=
  lessChain_congr _ _ b.cols i j b.sorting (fun sc _ c hc x y => Col.lessConf_configure lt (leaves sc.col) sc (hk sc.col c hc) x y)

end PqModel.SortBuf
