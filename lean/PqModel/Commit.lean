/-! # Concurrently filled row groups committed in order (writer.go:675-680, 742-897, 1007-1012, 1524-1893)

`BeginRowGroup` gives every row group its own `ConcurrentRowGroupWriter` (own column writers, page
buffers, dictionaries, indexes: writer.go:742-897); `WriteRows`/`ColumnWriter.WriteRowValues` touch
only that state (writer.go:1015-1079). `Commit` (writer.go:1007-1012) runs `writer.writeRowGroup`
(writer.go:1524-1893), which reads the row group's state, appends its bytes at the file's current
offset (`fileOffset := w.writer.offset`, page offsets shifted by `dataPageOffset`,
writer.go:1587,1605-1609), appends the metadata to `w.rowGroups`, and resets the row group.

MIRROR at the granularity of whole calls: the state is one local state per row group (`R`) plus the
file state (`F`); a `fill i x` step is any call on row group `i` (abstract `fillStep`), `commit i`
is `commitStep`. The calls on one row group are sequential (the documentation requires it), calls
on different row groups interleave arbitrarily, `Commit` calls are serial. Both step functions are
parameters: the theorem holds for every writer whose fills touch only their own row group.
The concrete instance below (`RgBuf`, `FileSt`: bytes + offsets) is used for the non-vacuity examples. -/
namespace PqModel.Commit

inductive Ev (X : Type) where
  | fill (i : Nat) (x : X)   -- a write call on row group i
  | commit (i : Nat)         -- rg_i.Commit()
deriving DecidableEq, Repr

structure St (R F : Type) where
  rg : Nat → R
  file : F

variable {R F X : Type}

def setRg (rg : Nat → R) (i : Nat) (r : R) : Nat → R := fun j => if j = i then r else rg j

def step (fillStep : R → X → R) (commitStep : F → R → F) (r0 : R) (s : St R F) : Ev X → St R F
  | .fill i x => { s with rg := setRg s.rg i (fillStep (s.rg i) x) }
  | .commit i => { rg := setRg s.rg i r0, file := commitStep s.file (s.rg i) }  -- writer.go:1542 rg.reset()

def run (fillStep : R → X → R) (commitStep : F → R → F) (r0 : R) (s : St R F) (es : List (Ev X)) : St R F :=
  es.foldl (step fillStep commitStep r0) s

/-- the write calls on row group `i`, in schedule order -/
def fills (i : Nat) : List (Ev X) → List X
  | [] => []
  | .fill j x :: es => if j = i then x :: fills i es else fills i es
  | .commit _ :: es => fills i es

/-- a schedule that uses the API as documented: the commits are `m, m+1, …, n-1` in this order, and
    no row group is written after its commit -/
inductive WF : Nat → Nat → List (Ev X) → Prop where
  | nil {n} : WF n n []
  | fill {m n i x es} : WF m n es → WF m n (.fill i x :: es)
  | commit {m n es} : m < n → WF (m + 1) n es → fills m es = [] → WF m n (.commit m :: es)

/-- the file after filling and committing the row groups `m … m+len-1` one after the other -/
def serialFile (fillStep : R → X → R) (commitStep : F → R → F) (rg : Nat → R) (es : List (Ev X)) (f : F) :
    Nat → Nat → F
  | _, 0 => f
  | m, len + 1 =>
    serialFile fillStep commitStep rg es (commitStep f ((fills m es).foldl fillStep (rg m))) (m + 1) len

theorem serialFile_congr (fillStep : R → X → R) (commitStep : F → R → F) (rg rg' : Nat → R)
    (es es' : List (Ev X)) (f : F) (m len : Nat)
    (h : ∀ i, m ≤ i → i < m + len →
      (fills i es).foldl fillStep (rg i) = (fills i es').foldl fillStep (rg' i)) :
    serialFile fillStep commitStep rg es f m len = serialFile fillStep commitStep rg' es' f m len := by
  induction len generalizing m f with
  | zero => rfl
  | succ len ih =>
    simp only [serialFile]
    rw [h m (Nat.le_refl _) (by omega)]
    exact ih _ _ (fun i h1 h2 => h i (by omega) (by omega))

theorem run_file (fillStep : R → X → R) (commitStep : F → R → F) (r0 : R)
    {m n : Nat} {es : List (Ev X)} (hw : WF m n es) (s : St R F) :
    (run fillStep commitStep r0 s es).file = serialFile fillStep commitStep s.rg es s.file m (n - m) := by
  induction hw generalizing s with
  | nil => simp [run, serialFile]
  | @fill m n i x es hw ih =>
    simp only [run, List.foldl_cons] at ih ⊢
    rw [ih]
    simp only [step]
    apply serialFile_congr
    intro j _ _
    simp only [fills, setRg]
    by_cases hj : j = i
    · subst hj; simp
    · have : ¬ i = j := fun h => hj h.symm
      simp [hj, this]
  | @commit m n es hlt hw hnf ih =>
    simp only [run, List.foldl_cons] at ih ⊢
    rw [ih]
    have e : n - m = (n - (m + 1)) + 1 := by omega
    rw [e]
    simp only [serialFile, step, fills, hnf, List.foldl_nil]
    apply serialFile_congr
    intro j h1 _
    have : ¬ j = m := by omega
    simp [setRg, this, fills]

def serialSched (es : List (Ev X)) : Nat → Nat → List (Ev X)
  | _, 0 => []
  | m, len + 1 => (fills m es).map (Ev.fill m) ++ [Ev.commit m] ++ serialSched es (m + 1) len

theorem run_append (fillStep : R → X → R) (commitStep : F → R → F) (r0 : R) (s : St R F)
    (a b : List (Ev X)) :
    run fillStep commitStep r0 s (a ++ b) = run fillStep commitStep r0 (run fillStep commitStep r0 s a) b := by
  simp [run, List.foldl_append]

theorem run_fills (fillStep : R → X → R) (commitStep : F → R → F) (r0 : R) (s : St R F) (m : Nat)
    (xs : List X) :
    run fillStep commitStep r0 s (xs.map (Ev.fill m)) =
      { s with rg := setRg s.rg m (xs.foldl fillStep (s.rg m)) } := by
  induction xs generalizing s with
  | nil =>
    simp only [run, List.map_nil, List.foldl_nil]
    have : setRg s.rg m (s.rg m) = s.rg := by
      funext j; simp only [setRg]; split <;> simp_all
    rw [this]
  | cons x xs ih =>
    simp only [List.map_cons, run, List.foldl_cons] at ih ⊢
    rw [ih]
    simp only [step]
    congr 1
    funext j
    simp only [setRg]
    split <;> simp

/-- running the serial schedule gives the serial file (so `serialFile` is what a single goroutine
    filling and committing the row groups one after the other produces) -/
theorem run_serialSched (fillStep : R → X → R) (commitStep : F → R → F) (r0 : R) (es : List (Ev X))
    (s : St R F) (m len : Nat) :
    (run fillStep commitStep r0 s (serialSched es m len)).file =
      serialFile fillStep commitStep s.rg es s.file m len := by
  induction len generalizing s m with
  | zero => simp [serialSched, run, serialFile]
  | succ len ih =>
    simp only [serialSched, List.append_assoc, run_append, run_fills]
    rw [ih]
    simp only [run, List.foldl_cons, List.foldl_nil, step, serialFile]
    have e : setRg s.rg m (List.foldl fillStep (s.rg m) (fills m es)) m =
        List.foldl fillStep (s.rg m) (fills m es) := by simp [setRg]
    rw [e]
    apply serialFile_congr
    intro j h1 _
    have : ¬ j = m := by omega
    simp [setRg, this]

/-- row-group local state: the page buffer and the page offsets relative to it -/
structure RgBuf where
  bytes : List Nat
  pageOffs : List Nat
deriving DecidableEq, Repr

/-- file state: bytes written so far, and per committed row group (file offset, absolute page offsets) -/
structure FileSt where
  bytes : List Nat
  groups : List (Nat × List Nat)
deriving DecidableEq, Repr

def fillPage (r : RgBuf) (page : List Nat) : RgBuf :=
  { bytes := r.bytes ++ page, pageOffs := r.pageOffs ++ [r.bytes.length] }

/-- writer.go:1587 `fileOffset := w.writer.offset`; :1605-1609 offsets shifted, bytes copied -/
def commitBuf (f : FileSt) (r : RgBuf) : FileSt :=
  { bytes := f.bytes ++ r.bytes,
    groups := f.groups ++ [(f.bytes.length, r.pageOffs.map (· + f.bytes.length))] }

end PqModel.Commit
