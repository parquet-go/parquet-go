import PqModel.ThriftDecodeProofs

/-! Lemmas: on an ACCEPTED input the typed decoder never asked the allocator for more elements than the
    input has bytes (every list element consumes at least one byte), so the run under any allocator that grants
    `d.length` elements is the run under the allocator that grants everything. -/
namespace PqModel.ThriftDecode
open PqModel.IoFault (Bytes)
open PqModel.ThriftSkip

theorem items_len (d : Bytes) (ty : Nat) : ∀ (n f p q : Nat), skipT d f (.items ty n) p = .ok ((), q) →
    p + n ≤ q ∧ (n = 0 → q = p) ∧ (0 < n → q ≤ d.length) := by
  intro n
  induction n with
  | zero =>
    intro f p q h
    cases f with
    | zero => simp [skipT] at h
    | succ f =>
      simp only [skipT] at h
      cases h
      exact ⟨Nat.le_refl _, fun _ => rfl, fun h0 => absurd h0 (Nat.lt_irrefl 0)⟩
  | succ n ih =>
    intro f p q h
    cases f with
    | zero => simp [skipT] at h
    | succ f =>
      simp only [skipT] at h
      obtain ⟨_, p1, h1, h2⟩ := seq_ok h
      obtain ⟨hlt, hle⟩ := item_prog d f ty p _ p1 h1
      obtain ⟨i1, i2, i3⟩ := ih f p1 q h2
      refine ⟨by omega, fun h0 => by omega, fun _ => ?_⟩
      cases n with
      | zero => rw [i2 rfl]; exact hle
      | succ m => exact i3 (Nat.succ_pos m)

def LeT (r r' : TR) : Prop := ∀ q, r = .ok q → r' = .ok q

theorem LeT.refl (r : TR) : LeT r r := fun _ h => h

theorem lift_le {α} (r : PR α) (fe : SkErr → SkErr) {k k' : α → Nat → TR}
    (hk : ∀ a p, LeT (k a p) (k' a p)) : LeT (lift r fe k) (lift r fe k') := by
  intro q h
  cases r with
  | error e => simp [lift] at h
  | ok ap => obtain ⟨a, p⟩ := ap; exact hk a p q h

theorem seqT_le {r r' : TR} (fe : SkErr → SkErr) {k k' : Nat → TR}
    (hr : LeT r r') (hk : ∀ p, LeT (k p) (k' p)) : LeT (seqT r fe k) (seqT r' fe k') := by
  intro q h
  cases r with
  | error e => simp [seqT] at h
  | ok p =>
    rw [hr p rfl]
    exact hk p q h

theorem decT_alloc (d : Bytes) (mem : Option Nat) (hmem : ∀ n, n ≤ d.length → over mem n = false) :
    ∀ (f : Nat) (t : DTask) (pos : Nat), LeT (decT none d f t pos) (decT mem d f t pos) := by
  intro f t pos
  fun_induction decT none d f t pos
  all_goals simp only [decT]
  -- cases, in the order of `decT`'s text: fuel 0; `val` bool, i8, i16, i32, i64, double, binary, list, struct, union; `elems` 0 / n+1; `fields` (`ihs ihb ihv ihd`: see `decT_walk`)
  · exact LeT.refl _
  · exact LeT.refl _
  · exact LeT.refl _
  · exact LeT.refl _
  · exact LeT.refl _
  · exact LeT.refl _
  · exact LeT.refl _
  · exact LeT.refl _
  · rename_i f pos e ih
    refine lift_le _ _ fun l p => ?_
    generalize (if l.1 = 1 then 2 else l.1) = ty'
    by_cases hw : wire e ≠ ty'
    · simp only [if_pos hw]; exact LeT.refl _
    · intro q hk
      simp only [if_neg hw] at hk ⊢
      have hk' : decT none d f (.elems e l.2) p = .ok q := by simpa [over] using hk
      obtain ⟨f', hwalk⟩ := decT_walk none d f _ p q hk'
      simp only [erase] at hwalk
      obtain ⟨i1, _, i3⟩ := items_len d _ _ _ _ _ hwalk
      have hb : ¬ (d.length < l.2) := by
        intro hc
        have := i3 (by omega)
        omega
      rw [hmem l.2 (by omega)]
      exact ih l p q hk'
  · rename_i ih; exact ih
  · rename_i ih; exact ih
  · exact LeT.refl _
  · rename_i ih1 ih2; exact seqT_le _ ih1 fun p => ih2 p
  · rename_i f fs first last seen pos ihs ihb ihv ihd
    refine lift_le _ _ fun h p => ?_
    cases h with
    | none => exact LeT.refl _
    | some x =>
      obtain ⟨ty, raw, delta⟩ := x
      exact fields_cases₂ (lift_le _ _ fun _ q => ihs raw delta q) (fun _ => ihb p raw delta)
        fun fd _ _ => seqT_le _ (ihv p fd) fun q => ihd raw delta q

end PqModel.ThriftDecode
