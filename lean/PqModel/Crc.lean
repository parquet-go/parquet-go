import PqModel.Basics

namespace PqModel.Crc

/-! CRC-32 (IEEE, reflected): bit-serial register, burst detection (width ≤ 32), and the byte-wise
    algorithm proven equal to the bit-serial one. Spec side (written from the CRC definition).

    `stepBit` is linear over GF(2), so flipping the message by a pattern `E` changes the register by
    `run 0 E`, the response of the ZERO state to `E` (`run_xor`). With the set bits of `E` in a window of
    32 positions (`run0_window`): zeros before the first set bit keep the state 0; the 32 positions from
    it give a non-zero state (`run0_ne_zero`: the single-bit responses `iter L i P` are independent, the
    certificate below); the zeros after them only apply `L`, which is injective (`iterL_inj0`). -/

/-- the generator polynomial, reflected (bit `i` = coefficient of `x^(31-i)`) -/
def P : BitVec 32 := 0xEDB88320#32

def stepBit (s : BitVec 32) (c : Bool) : BitVec 32 :=
  (s >>> 1) ^^^ (if (s.getLsbD 0 != c) then P else 0#32)

def L (d : BitVec 32) : BitVec 32 := stepBit d false

def run (s : BitVec 32) (bits : List Bool) : BitVec 32 := bits.foldl stepBit s

def crcBits (bits : List Bool) : BitVec 32 := ~~~ (run 0xFFFFFFFF#32 bits)

def iter (f : α → α) : Nat → α → α
  | 0, x => x
  | n + 1, x => iter f n (f x)

def xorBits : List Bool → List Bool → List Bool
  | a :: as, b :: bs => (a != b) :: xorBits as bs
  | as, [] => as
  | [], _ => []

theorem xor_xor_xor_comm (p q x y : BitVec 32) : (p ^^^ x) ^^^ (q ^^^ y) = (p ^^^ q) ^^^ (x ^^^ y) := by
  ac_rfl

theorem stepBit_linear (s d : BitVec 32) (c e : Bool) :
    stepBit (s ^^^ d) (c != e) = stepBit s c ^^^ stepBit d e := by
  unfold stepBit
  rw [BitVec.ushiftRight_xor_distrib, BitVec.getLsbD_xor, xor_xor_xor_comm]
  congr 1
  cases s.getLsbD 0 <;> cases d.getLsbD 0 <;> cases c <;> cases e <;> simp

theorem stepBit_zero_false : stepBit 0#32 false = 0#32 := by decide
theorem stepBit_zero_true : stepBit 0#32 true = P := by decide

theorem L_linear (a b : BitVec 32) : L (a ^^^ b) = L a ^^^ L b := by
  have := stepBit_linear a b false false
  simpa [L] using this

theorem L_zero : L 0#32 = 0#32 := stepBit_zero_false

theorem iterL_linear : ∀ (n : Nat) (a b : BitVec 32), iter L n (a ^^^ b) = iter L n a ^^^ iter L n b
  | 0, _, _ => rfl
  | n + 1, a, b => by simp only [iter, L_linear, iterL_linear n]

theorem iterL_zero : ∀ n, iter L n 0#32 = 0#32
  | 0 => rfl
  | n + 1 => by simp only [iter, L_zero, iterL_zero n]

/-- `L` has trivial kernel: with low bit 0 the shift loses nothing; with low bit 1 bit 31 of `P` is
set and bit 31 of `d >>> 1` is not -/
theorem L_inj0 (d : BitVec 32) (h : L d = 0#32) : d = 0#32 := by
  unfold L stepBit at h
  have hbit : ∀ i, ((d >>> 1) ^^^ (if (d.getLsbD 0 != false) then P else 0#32)).getLsbD i = false := by
    intro i; rw [h]; simp
  cases h0 : d.getLsbD 0
  · apply BitVec.eq_of_getLsbD_eq
    intro i hi
    cases i with
    | zero => simpa using h0
    | succ i =>
      have := hbit i
      have h0' : d[0] = false := by simpa using h0
      simp [h0', BitVec.getLsbD_ushiftRight] at this
      simpa [Nat.add_comm] using this
  · have := hbit 31
    have h0' : d[0] = true := by simpa using h0
    simp [h0', P] at this

theorem iterL_inj0 : ∀ (n : Nat) (d : BitVec 32), iter L n d = 0#32 → d = 0#32
  | 0, _, h => h
  | n + 1, d, h => L_inj0 d (iterL_inj0 n (L d) h)

/-- superposition: the run from `s` is the free evolution of `s` plus the run from zero -/
theorem run_split : ∀ (e : List Bool) (s : BitVec 32), run s e = iter L e.length s ^^^ run 0#32 e
  | [], s => by simp [run, iter]
  | b :: e, s => by
    have h1 : run s (b :: e) = run (stepBit s b) e := rfl
    have h2 : run 0#32 (b :: e) = run (stepBit 0#32 b) e := rfl
    have hs : stepBit s b = L s ^^^ stepBit 0#32 b := by
      have := stepBit_linear s 0#32 false b
      simpa [L] using this
    rw [h1, h2, run_split e (stepBit s b), run_split e (stepBit 0#32 b), hs, iterL_linear]
    simp only [List.length_cons, iter]
    rw [BitVec.xor_assoc]

theorem run_append (s : BitVec 32) (a b : List Bool) : run s (a ++ b) = run (run s a) b := by
  simp [run, List.foldl_append]

theorem run_xor_xor : ∀ (a e : List Bool) (s d : BitVec 32), e.length = a.length →
    run (s ^^^ d) (xorBits a e) = run s a ^^^ run d e
  | [], [], _, _, _ => rfl
  | a :: as, b :: bs, s, d, h => by
    have h1 : run (s ^^^ d) (xorBits (a :: as) (b :: bs)) =
        run (stepBit (s ^^^ d) (a != b)) (xorBits as bs) := rfl
    rw [h1, stepBit_linear, run_xor_xor as bs _ _ (by simpa using h)]
    rfl
  | [], _ :: _, _, _, h => by simp at h
  | _ :: _, [], _, _, h => by simp at h

/-- flipping bits by pattern `e` changes the run by the zero-state response to `e` -/
theorem run_xor : ∀ (a e : List Bool) (s : BitVec 32), e.length = a.length →
    run s (xorBits a e) = run s a ^^^ run 0#32 e := by
  intro a e s h
  have := run_xor_xor a e s 0#32 h
  rwa [BitVec.xor_zero] at this

/-! ### independence certificate

Let `M` be the 32×32 matrix over GF(2) whose `i`-th column is `iter L i P`. `cols` lists the columns of
`M⁻¹` (column 0 first), got by Gaussian elimination outside Lean; only `cert_ok` is trusted: it checks
`M⁻¹ · (iter L i P) = 2^i` for the 32 values of `i`, by evaluation. -/

def cols : List (BitVec 32) := [0x82608EDB#32, 0xC350C9B6#32, 0x61A864DB#32, 0xB2B4BCB6#32, 0x595A5E5B#32, 0xAECDA1F6#32, 0x5766D0FB#32, 0xA9D3E6A6#32, 0x54E9F353#32, 0xA8147772#32, 0x540A3BB9#32, 0xA8659307#32, 0xD6524758#32, 0x6B2923AC#32, 0x359491D6#32, 0x1ACA48EB#32, 0x8F05AAAE#32, 0x4782D557#32, 0xA1A1E470#32, 0x50D0F238#32, 0x2868791C#32, 0x14343C8E#32, 0x0A1A1E47#32, 0x876D81F8#32, 0x43B6C0FC#32, 0x21DB607E#32, 0x10EDB03F#32, 0x8A1656C4#32, 0x450B2B62#32, 0x228595B1#32, 0x93224403#32, 0xCBF1ACDA#32]

/-- matrix (columns `cs`) times vector over GF(2) -/
def mulCols : List (BitVec 32) → Nat → BitVec 32 → BitVec 32
  | [], _, _ => 0#32
  | c :: cs, k, x => (if x.getLsbD k then c else 0#32) ^^^ mulCols cs (k + 1) x

theorem mulCols_xor (a b : BitVec 32) : ∀ (cs : List (BitVec 32)) (k : Nat),
    mulCols cs k (a ^^^ b) = mulCols cs k a ^^^ mulCols cs k b
  | [], _ => by simp [mulCols]
  | c :: cs, k => by
    simp only [mulCols, mulCols_xor a b cs, BitVec.getLsbD_xor, xor_xor_xor_comm]
    congr 1
    cases a.getLsbD k <;> cases b.getLsbD k <;> simp

theorem mulCols_zero : ∀ (cs : List (BitVec 32)) (k : Nat), mulCols cs k 0#32 = 0#32
  | [], _ => rfl
  | c :: cs, k => by simp [mulCols, mulCols_zero cs]

def certOk : Bool := (List.range 32).all fun i => mulCols cols 0 (iter L i P) == BitVec.twoPow 32 i

theorem cert_ok : certOk = true := by decide +kernel

theorem cert_at {i : Nat} (hi : i < 32) : mulCols cols 0 (iter L i P) = BitVec.twoPow 32 i :=
  eq_of_beq ((List.all_eq_true.mp cert_ok) i (List.mem_range.mpr hi))

theorem run0_cons (b : Bool) (e : List Bool) :
    run 0#32 (b :: e) = (if b then iter L e.length P else 0#32) ^^^ run 0#32 e := by
  have h : run 0#32 (b :: e) = run (stepBit 0#32 b) e := rfl
  rw [h, run_split]
  cases b
  · simp [stepBit_zero_false, iterL_zero]
  · simp [stepBit_zero_true]


/-- the response to at most 32 bits is a combination of `iter L i P` with `i < e.length`, so its image
under `M⁻¹` has no coordinate at or beyond `e.length` -/
theorem mulCols_run0 : ∀ (e : List Bool), e.length ≤ 32 → ∀ j, e.length ≤ j →
    (mulCols cols 0 (run 0#32 e)).getLsbD j = false
  | [], _, j, _ => by simp [run, mulCols_zero]
  | b :: e, hl, j, hj => by
    have hl' : e.length < 32 := by simp only [List.length_cons] at hl; omega
    have hj' : e.length < j := by simp only [List.length_cons] at hj; omega
    rw [run0_cons, mulCols_xor, BitVec.getLsbD_xor, mulCols_run0 e (by omega) j (by omega)]
    cases b
    · simp [mulCols_zero]
    · simp [cert_at hl', BitVec.getLsbD_twoPow]; omega

/-- where the certificate is used: coordinate `e.length` of the image is 1 from the leading bit
and 0 from the rest (`mulCols_run0`) -/
theorem run0_ne_zero (e : List Bool) (hl : e.length ≤ 31) : run 0#32 (true :: e) ≠ 0#32 := by
  intro h
  have hbit := congrArg (fun x => (mulCols cols 0 x).getLsbD e.length) h
  simp only [run0_cons, if_true, mulCols_xor, BitVec.getLsbD_xor, cert_at (show e.length < 32 by omega),
    mulCols_run0 e (by omega) e.length (Nat.le_refl _), mulCols_zero] at hbit
  simp [BitVec.getLsbD_twoPow] at hbit
  omega

theorem eq_zero_of_xor_eq_self (a d : BitVec 32) (h : a ^^^ d = a) : d = 0#32 := by
  have := congrArg (a ^^^ ·) h
  simpa [← BitVec.xor_assoc] using this

/-! ## Byte level

`crc32` below is the byte-wise reflected CRC-32/IEEE (xor the byte into the low 8 bits of the register,
shift 8 times; init and final xor 0xFFFFFFFF) — the textbook algorithm `hash/crc32` tabulates
(`simpleMakeTable`/`simpleUpdate`; the slicing-8 and CLMUL kernels Go actually runs on amd64 are tied to
it by the L2 check `C13/crc`, not proved). `crc32_eq_crcBits` connects it to the bit-serial register the
burst theorem is about; bits of a byte enter least-significant first. -/

/-- one shift of the register: `crc = crc>>1 ^ (poly if crc&1 == 1)` -/
def shift1 (s : BitVec 32) : BitVec 32 := (s >>> 1) ^^^ (if s.getLsbD 0 then P else 0#32)
/-- bytewise update: xor the byte into the low 8 bits, 8 shifts -/
def updByte (s : BitVec 32) (b : UInt8) : BitVec 32 := iter shift1 8 (s ^^^ b.toBitVec.setWidth 32)
/-- bits of a byte, least significant first (transmission order of the reflected CRC) -/
def byteBits (b : UInt8) : List Bool := (List.range 8).map (fun i => b.toBitVec.getLsbD i)
def bytesToBits : List UInt8 → List Bool
  | [] => []
  | b :: bs => byteBits b ++ bytesToBits bs
/-- `crc32.Update(crc, crc32.IEEETable, data)` -/
def crc32Update (crc : BitVec 32) (data : List UInt8) : BitVec 32 := ~~~ (data.foldl updByte (~~~ crc))
/-- `crc32.ChecksumIEEE(data)` -/
def crc32 (data : List UInt8) : BitVec 32 := crc32Update 0#32 data

theorem shift1_eq_L : shift1 = L := by
  funext s
  simp [shift1, L, stepBit]

theorem stepBit_self (s : BitVec 32) : stepBit s (s.getLsbD 0) = s >>> 1 := by simp [stepBit]

theorem run_own_bits (s : BitVec 32) : ∀ (n k : Nat),
    run (s >>> k) ((List.range' k n).map s.getLsbD) = s >>> (k + n)
  | 0, _ => rfl
  | n + 1, k => by
    have h0 : s.getLsbD k = (s >>> k).getLsbD 0 := by simp
    have h : run (s >>> k) ((List.range' k (n + 1)).map s.getLsbD) =
        run (stepBit (s >>> k) (s.getLsbD k)) ((List.range' (k + 1) n).map s.getLsbD) := rfl
    rw [h, h0, stepBit_self, ← BitVec.shiftRight_add, run_own_bits s n (k + 1), Nat.add_assoc,
      Nat.add_comm 1 n]

theorem byteBits_length (b : UInt8) : (byteBits b).length = 8 := by simp [byteBits]

/-- what makes the byte-wise algorithm right. By `run_own_bits` the register `b` fed its own 8 bits ends
at `b >>> 8 = 0`; split that run by superposition (`run_split`). -/
theorem byte_response (b : UInt8) : iter L 8 (b.toBitVec.setWidth 32) = run 0#32 (byteBits b) := by
  have hbits : (List.range' 0 8).map (b.toBitVec.setWidth 32).getLsbD = byteBits b := by
    simp only [byteBits, List.range_eq_range', List.map_inj_left, List.mem_range'_1]
    intro i hi
    simp [show i < 32 by omega]
  have hz : (b.toBitVec.setWidth 32) >>> 8 = 0#32 := by
    apply BitVec.eq_of_toNat_eq
    have := b.toNat_lt
    simp [Nat.shiftRight_eq_div_pow]
    omega
  have h := run_own_bits (b.toBitVec.setWidth 32) 8 0
  rw [hbits, BitVec.ushiftRight_zero, hz, run_split] at h
  rw [byteBits_length] at h
  exact BitVec.xor_eq_zero_iff.mp h

theorem updByte_eq_run (s : BitVec 32) (b : UInt8) : updByte s b = run s (byteBits b) := by
  unfold updByte
  rw [shift1_eq_L, iterL_linear, byte_response, run_split (byteBits b) s, byteBits_length]

theorem foldl_updByte_eq_run : ∀ (data : List UInt8) (s : BitVec 32),
    data.foldl updByte s = run s (bytesToBits data)
  | [], s => by simp [bytesToBits, run]
  | b :: bs, s => by
    simp only [List.foldl_cons, bytesToBits, run_append]
    rw [foldl_updByte_eq_run bs, updByte_eq_run]

theorem crc32_eq_crcBits (data : List UInt8) : crc32 data = crcBits (bytesToBits data) := by
  unfold crc32 crc32Update crcBits
  rw [foldl_updByte_eq_run]
  congr

/-- `writerBuffers.crc32` (writer.go:1940-1945) chains `Update` over rep, def, page: same as one pass over the concatenation -/
theorem crc32Update_append (crc : BitVec 32) (a b : List UInt8) :
    crc32Update (crc32Update crc a) b = crc32Update crc (a ++ b) := by
  simp [crc32Update, List.foldl_append]

def AllFalse (l : List Bool) : Prop := ∀ b ∈ l, b = false

theorem run_allFalse : ∀ (l : List Bool) (s : BitVec 32), AllFalse l → run s l = iter L l.length s
  | [], s, _ => rfl
  | b :: l, s, h => by
    have hb : b = false := h b (by simp)
    subst hb
    have h1 : run s (false :: l) = run (L s) l := rfl
    rw [h1, run_allFalse l _ (fun x hx => h x (by simp [hx]))]
    rfl

theorem split_first_true : ∀ (E : List Bool), (∃ k : Nat, E[k]? = some true) →
    ∃ A e, E = A ++ true :: e ∧ AllFalse A
  | [], h => by obtain ⟨k, hk⟩ := h; simp at hk
  | true :: E, _ => ⟨[], E, rfl, by intro b hb; simp at hb⟩
  | false :: E, h => by
    obtain ⟨k, hk⟩ := h
    cases k with
    | zero => simp at hk
    | succ k =>
      obtain ⟨A, e, hE, hA⟩ := split_first_true E ⟨k, by simpa using hk⟩
      refine ⟨false :: A, e, by simp [hE], ?_⟩
      intro b hb
      simp at hb
      cases hb with
      | inl h => exact h
      | inr h => exact hA b h

theorem run0_window (E : List Bool) (lo : Nat) (hne : ∃ k : Nat, E[k]? = some true)
    (hw : ∀ k : Nat, E[k]? = some true → lo ≤ k ∧ k < lo + 32) : run 0#32 E ≠ 0#32 := by
  obtain ⟨A, e, rfl, hA⟩ := split_first_true E hne
  have h0 := hw A.length (by simp)
  have hdrop : AllFalse (e.drop 31) := by
    intro b hb
    cases b with
    | false => rfl
    | true =>
      exfalso
      obtain ⟨k, hk⟩ := List.getElem?_of_mem hb
      have hk' : e[31 + k]? = some true := by simpa [List.getElem?_drop] using hk
      have := hw (A.length + (1 + (31 + k))) (by
        rw [List.getElem?_append_right (by omega)]
        have : A.length + (1 + (31 + k)) - A.length = (31 + k) + 1 := by omega
        rw [this]
        simpa using hk')
      omega
  have hsplit : A ++ true :: e = A ++ ((true :: e.take 31) ++ e.drop 31) := by
    simp [List.take_append_drop]
  rw [hsplit, run_append, run_append, run_allFalse _ _ hA, iterL_zero, run_allFalse _ _ hdrop]
  intro h
  exact run0_ne_zero (e.take 31) (by simp; omega) (iterL_inj0 _ _ h)

theorem xorBits_length : ∀ (a e : List Bool), e.length = a.length → (xorBits a e).length = a.length
  | [], [], _ => rfl
  | a :: as, b :: bs, h => by
    simp only [xorBits, List.length_cons]
    rw [xorBits_length as bs (by simpa using h)]
  | [], _ :: _, h => by simp at h
  | _ :: _, [], h => by simp at h

/-- from any start state (the incremental `crc32Update` starts from the checksum so far) -/
theorem run_window (s : BitVec 32) (a E : List Bool) (hlen : E.length = a.length) (lo : Nat)
    (hne : ∃ k : Nat, E[k]? = some true) (hw : ∀ k : Nat, E[k]? = some true → lo ≤ k ∧ k < lo + 32) :
    run s (xorBits a E) ≠ run s a := by
  intro h
  rw [run_xor a E _ hlen] at h
  exact run0_window E lo hne hw (eq_zero_of_xor_eq_self _ _ h)

/-- C13 core, general form: any window of 32 consecutive bit positions -/
theorem crcBits_window (a E : List Bool) (hlen : E.length = a.length) (lo : Nat)
    (hne : ∃ k : Nat, E[k]? = some true) (hw : ∀ k : Nat, E[k]? = some true → lo ≤ k ∧ k < lo + 32) :
    crcBits (xorBits a E) ≠ crcBits a :=
  fun h => run_window _ a E hlen lo hne hw (BitVec.not_inj.mp h)


def xorBytes : List UInt8 → List UInt8 → List UInt8
  | a :: as, b :: bs => (a ^^^ b) :: xorBytes as bs
  | as, [] => as
  | [], _ => []

/-- bit `k` of a byte string in CRC transmission order: byte `k / 8`, bit `k % 8` counted from the
    least significant bit (the reflected CRC shifts the low bit of every byte in first). -/
def bitAt (bs : List UInt8) (k : Nat) : Bool := (bs.getD (k / 8) 0).toBitVec.getLsbD (k % 8)

theorem byteBits_eq (b : UInt8) : byteBits b =
    [b.toBitVec.getLsbD 0, b.toBitVec.getLsbD 1, b.toBitVec.getLsbD 2, b.toBitVec.getLsbD 3,
     b.toBitVec.getLsbD 4, b.toBitVec.getLsbD 5, b.toBitVec.getLsbD 6, b.toBitVec.getLsbD 7] := by
  simp [byteBits, List.range, List.range.loop]

theorem byteBits_xor (a b : UInt8) : byteBits (a ^^^ b) = xorBits (byteBits a) (byteBits b) := by
  simp [byteBits_eq, xorBits]

theorem xorBits_append : ∀ (a1 e1 a2 e2 : List Bool), e1.length = a1.length →
    xorBits (a1 ++ a2) (e1 ++ e2) = xorBits a1 e1 ++ xorBits a2 e2
  | [], [], a2, e2, _ => by simp [xorBits]
  | a :: as, b :: bs, a2, e2, h => by
    simp only [List.cons_append, xorBits]
    rw [xorBits_append as bs a2 e2 (by simpa using h)]
  | [], _ :: _, _, _, h => by simp at h
  | _ :: _, [], _, _, h => by simp at h

theorem bytesToBits_eq_flatMap : ∀ bs, bytesToBits bs = bs.flatMap byteBits
  | [] => rfl
  | b :: bs => by rw [bytesToBits, List.flatMap_cons, bytesToBits_eq_flatMap bs]

theorem bytesToBits_length (bs : List UInt8) : (bytesToBits bs).length = 8 * bs.length := by
  rw [bytesToBits_eq_flatMap, Pieces.length_flatMap (fun b _ => byteBits_length b)]

theorem bytesToBits_append (a b : List UInt8) : bytesToBits (a ++ b) = bytesToBits a ++ bytesToBits b := by
  rw [bytesToBits_eq_flatMap, bytesToBits_eq_flatMap, bytesToBits_eq_flatMap, List.flatMap_append]

theorem bytesToBits_xor : ∀ (d e : List UInt8), e.length = d.length →
    bytesToBits (xorBytes d e) = xorBits (bytesToBits d) (bytesToBits e)
  | [], [], _ => by simp [xorBytes, bytesToBits, xorBits]
  | a :: as, b :: bs, h => by
    simp only [xorBytes, bytesToBits]
    rw [xorBits_append _ _ _ _ (by simp [byteBits_length]), byteBits_xor,
      bytesToBits_xor as bs (by simpa using h)]
  | [], _ :: _, h => by simp at h
  | _ :: _, [], h => by simp at h

theorem byteBits_getElem? (b : UInt8) (k : Nat) (hk : k < 8) :
    (byteBits b)[k]? = some (b.toBitVec.getLsbD k) := by
  simp [byteBits, hk]

theorem bytesToBits_getElem? (bs : List UInt8) (k : Nat) (h : k < 8 * bs.length) :
    (bytesToBits bs)[k]? = some (bitAt bs k) := by
  have hk : k / 8 < bs.length := by omega
  rw [bytesToBits_eq_flatMap, Pieces.getElem?_flatMap_div (fun b _ => byteBits_length b) (by decide),
    List.getElem?_eq_getElem hk, Option.bind_some, byteBits_getElem? _ _ (Nat.mod_lt k (by decide)), bitAt,
    ListFacts.getD_of_lt _ hk]

/-- `crcBits_window` on bytes; the window need not be byte aligned -/
theorem crc32_burst (data err : List UInt8) (hlen : err.length = data.length) (lo : Nat)
    (hne : ∃ k, k < 8 * err.length ∧ bitAt err k = true)
    (hw : ∀ k, k < 8 * err.length → bitAt err k = true → lo ≤ k ∧ k < lo + 32) :
    crc32 (xorBytes data err) ≠ crc32 data := by
  rw [crc32_eq_crcBits, crc32_eq_crcBits, bytesToBits_xor data err hlen]
  apply crcBits_window _ _ (by simp [bytesToBits_length, hlen]) lo
  · obtain ⟨k, hk, hb⟩ := hne
    exact ⟨k, by rw [bytesToBits_getElem? err k hk, hb]⟩
  · intro k hk
    have hlt : k < 8 * err.length := by
      have := (List.getElem?_eq_some_iff.mp hk).1
      simpa [bytesToBits_length] using this
    rw [bytesToBits_getElem? err k hlt] at hk
    exact hw k hlt (by simpa using hk)


theorem xorBits_allFalse : ∀ (a e : List Bool), AllFalse e → xorBits a e = a
  | [], [], _ => rfl
  | [], _ :: _, _ => rfl
  | _ :: _, [], _ => rfl
  | a :: as, b :: bs, h => by
    have hb : b = false := h b (by simp)
    subst hb
    simp only [xorBits]
    rw [xorBits_allFalse as bs (fun x hx => h x (by simp [hx]))]
    simp

theorem xorBits_cancel : ∀ (m m' : List Bool), m'.length = m.length → xorBits m (xorBits m m') = m'
  | [], [], _ => rfl
  | a :: as, b :: bs, h => by
    simp only [xorBits]
    rw [xorBits_cancel as bs (by simpa using h)]
    cases a <;> cases b <;> rfl
  | [], _ :: _, h => by simp at h
  | _ :: _, [], h => by simp at h

theorem allFalse_replicate (n : Nat) : AllFalse (List.replicate n false) := by
  intro b hb
  exact (List.mem_replicate.mp hb).2

theorem not_allFalse_exists (l : List Bool) (h : ¬ AllFalse l) : ∃ k : Nat, l[k]? = some true := by
  simp only [AllFalse, Classical.not_forall] at h
  obtain ⟨b, hb, hne⟩ := h
  obtain rfl : b = true := by simpa using hne
  exact List.mem_iff_getElem?.mp hb

theorem byteBits_inj (a b : UInt8) (h : byteBits a = byteBits b) : a = b := by
  apply UInt8.toBitVec_inj.mp
  apply BitVec.eq_of_getLsbD_eq
  intro i hi
  have := congrArg (·[i]?) h
  simpa [byteBits_getElem? _ i hi] using this

theorem bytesToBits_inj : ∀ (a b : List UInt8), a.length = b.length → bytesToBits a = bytesToBits b → a = b
  | [], [], _, _ => rfl
  | x :: a, y :: b, hl, h => by
    simp only [bytesToBits] at h
    have h' := List.append_inj h (by simp [byteBits_length])
    rw [byteBits_inj x y h'.1, bytesToBits_inj a b (by simpa using hl) h'.2]
  | [], _ :: _, h, _ => by simp at h
  | _ :: _, [], h, _ => by simp at h

theorem sandwich_window (A D C : List Bool) (hA : AllFalse A) (hC : AllFalse C) (k : Nat)
    (h : (A ++ D ++ C)[k]? = some true) : A.length ≤ k ∧ k < A.length + D.length := by
  by_cases h1 : k < A.length
  · rw [List.append_assoc, List.getElem?_append_left h1] at h
    have := hA true (List.mem_of_getElem? h)
    simp at this
  · by_cases h2 : k < A.length + D.length
    · omega
    · rw [List.getElem?_append_right (by simp; omega)] at h
      have := hC true (List.mem_of_getElem? h)
      simp at this

theorem xorBits_sandwich (pre mid post D : List Bool) (h : D.length = mid.length) :
    xorBits (pre ++ mid ++ post)
        (List.replicate pre.length false ++ D ++ List.replicate post.length false) =
      pre ++ xorBits mid D ++ post := by
  rw [xorBits_append _ _ _ _ (by simp [h]), xorBits_append _ _ _ _ (by simp),
    xorBits_allFalse _ _ (allFalse_replicate _), xorBits_allFalse _ _ (allFalse_replicate _)]

theorem run_sandwich (s : BitVec 32) (pre mid post D : List Bool) (hlen : D.length = mid.length)
    (h32 : D.length ≤ 32) (hne : ¬ AllFalse D) :
    run s (pre ++ xorBits mid D ++ post) ≠ run s (pre ++ mid ++ post) := by
  rw [← xorBits_sandwich pre mid post D hlen]
  apply run_window _ _ _ (by simp [hlen]) pre.length
  · obtain ⟨k, hk⟩ := not_allFalse_exists D hne
    have hk' : k < D.length := (List.getElem?_eq_some_iff.mp hk).1
    refine ⟨pre.length + k, ?_⟩
    rw [List.append_assoc, List.getElem?_append_right (by simp), List.getElem?_append_left (by simpa using hk')]
    simpa using hk
  · intro k hk
    have := sandwich_window _ D _ (allFalse_replicate _) (allFalse_replicate _) k hk
    simp only [List.length_replicate] at this
    omega

theorem crcBits_sandwich (pre mid post D : List Bool) (hlen : D.length = mid.length)
    (h32 : D.length ≤ 32) (hne : ¬ AllFalse D) :
    crcBits (pre ++ xorBits mid D ++ post) ≠ crcBits (pre ++ mid ++ post) :=
  fun h => run_sandwich _ pre mid post D hlen h32 hne (BitVec.not_inj.mp h)

/-- C13 core: any burst error of width ≤ 32 (first flipped bit at the burst start) changes the CRC. -/
theorem crc_burst (pre mid post e : List Bool) (he : (true :: e).length = mid.length)
    (hw : (true :: e).length ≤ 32) :
    crcBits (pre ++ xorBits mid (true :: e) ++ post) ≠ crcBits (pre ++ mid ++ post) :=
  crcBits_sandwich pre mid post (true :: e) he hw fun h => Bool.noConfusion (h true (by simp))

/-- Any alteration confined to at most four consecutive bytes (of any data, at any byte position)
    changes the CRC-32. -/
theorem crc32_window (pre mid mid' post : List UInt8) (hl : mid'.length = mid.length)
    (h4 : mid.length ≤ 4) (hne : mid' ≠ mid) :
    crc32 (pre ++ mid' ++ post) ≠ crc32 (pre ++ mid ++ post) := by
  have hlb : (bytesToBits mid').length = (bytesToBits mid).length := by simp [bytesToBits_length, hl]
  have hD := xorBits_length _ _ hlb
  have := crcBits_sandwich (bytesToBits pre) (bytesToBits mid) (bytesToBits post)
    (xorBits (bytesToBits mid) (bytesToBits mid')) hD (by rw [hD, bytesToBits_length]; omega)
    (fun hAll => hne (bytesToBits_inj _ _ hl (by
      have := xorBits_cancel _ _ hlb
      rw [xorBits_allFalse _ _ hAll] at this
      exact this.symm)))
  rwa [xorBits_cancel _ _ hlb, ← bytesToBits_append, ← bytesToBits_append, ← bytesToBits_append,
    ← bytesToBits_append, ← crc32_eq_crcBits, ← crc32_eq_crcBits] at this

theorem crc32_bit_flip (pre post : List UInt8) (b : UInt8) (j : Nat) (hj : j < 8) :
    crc32 (pre ++ [b ^^^ (1 <<< UInt8.ofNat j)] ++ post) ≠ crc32 (pre ++ [b] ++ post) := by
  apply crc32_window pre [b] [b ^^^ (1 <<< UInt8.ofNat j)] post rfl (by simp)
  intro h
  simp only [List.cons.injEq, and_true] at h
  have h1 : (b ^^^ (1 <<< UInt8.ofNat j)) ^^^ b = b ^^^ b := by rw [h]
  have h2 : (1 : UInt8) <<< UInt8.ofNat j = 0 := by
    have : (b ^^^ (1 <<< UInt8.ofNat j)) ^^^ b = 1 <<< UInt8.ofNat j := by
      rw [UInt8.xor_comm b, UInt8.xor_assoc, UInt8.xor_self, UInt8.xor_zero]
    rw [this, UInt8.xor_self] at h1
    exact h1
  have : j = 0 ∨ j = 1 ∨ j = 2 ∨ j = 3 ∨ j = 4 ∨ j = 5 ∨ j = 6 ∨ j = 7 := by omega
  rcases this with h' | h' | h' | h' | h' | h' | h' | h' <;> subst h' <;> revert h2 <;> decide


/-- the CRC-32/IEEE check value ("123456789") -/
example : crc32 [0x31, 0x32, 0x33, 0x34, 0x35, 0x36, 0x37, 0x38, 0x39] = 0xCBF43926#32 := by decide +kernel

end PqModel.Crc
