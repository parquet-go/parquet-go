import PqModel.SeekLayers

/-! # `rowGroupRows` over per-column page readers (C08)

Refinement step above `SeekLayers`: a row reader holds one value reader per leaf column
(`columnChunkValueReader`, column_chunk.go), each over its own `Pages` machine — the columns of a
row group have different page layouts, and for a `Reader` over several row groups every column is a
`multiPages` — and remembers in `rowIndex` the row they all stand on (row_group.go).

MIRROR at row granularity: `Col` with `Col.seek` / `colRead`, `seekAll` / `readAll` / `resetAll`, `rseek` / `rstep`.
SPEC: `RSpec` (a row counter), `RInv`, `Mode` (all columns accept, or all refuse, a seek beyond the end). -/
namespace PqModel.ReaderSeek
open PqModel.Seek (Op)
open PqModel.SeekLayers

universe u

/-- `columnChunkValueReader`: a pages reader and the page it holds (`buf` rows of it are left) -/
structure Col where
  m : Machine.{u}
  s : m.σ
  buf : Nat

namespace Col

/-- abstraction: the row this column stands on (clamped to the total: a lenient page reader may
    stand beyond its last row, and all positions at or beyond the end coincide) -/
def npos (c : Col.{u}) : Option Nat := (c.m.pos c.s).map (fun p => min (p - c.buf) c.m.total)

/-- a held page lies inside the column (`p ≤ total`), so behind it nothing is clamped -/
def Inv (c : Col.{u}) : Prop :=
  c.m.inv c.s ∧ (c.buf = 0 ∨ ∃ p, c.m.pos c.s = some p ∧ c.buf ≤ p ∧ p ≤ c.m.total)

def seekK (c : Col.{u}) (s1 : c.m.σ) : ROut → Col.{u} × ROut
  | .ok => ({ m := c.m, s := s1, buf := 0 }, .ok)
  | o => ({ m := c.m, s := s1, buf := c.buf }, o)

/-- MIRROR of `columnChunkValueReader.SeekToRow` (column_chunk.go:152-161): seek the pages, drop
    the held page -/
def seek (c : Col.{u}) (k : Nat) : Col.{u} × ROut :=
  seekK c (c.m.step c.s (.seek k)).1 (c.m.step c.s (.seek k)).2

theorem seek_m (c : Col.{u}) (k : Nat) : (c.seek k).1.m = c.m := by
  unfold seek seekK
  split <;> rfl

theorem seek_spec (c : Col.{u}) (k : Nat) (h : c.Inv) (hok : (c.m.step c.s (.seek k)).2 = .ok) :
    (c.seek k).2 = .ok ∧ (c.seek k).1.m = c.m ∧ (c.seek k).1.Inv ∧ (c.seek k).1.npos = some (min k c.m.total) := by
  obtain ⟨k', hp, hsame⟩ := c.m.seek_ok c.s h.1 k hok
  simp only [seek, hok, seekK]
  refine ⟨trivial, trivial, ⟨c.m.step_inv c.s (.seek k) h.1, Or.inl rfl⟩, ?_⟩
  simp only [npos, hp, Option.map_some, Nat.sub_zero]
  rcases hsame with rfl | ⟨a, b⟩
  · rfl
  · rw [Nat.min_eq_right a, Nat.min_eq_right b]

theorem seek_refused (c : Col.{u}) (k : Nat) (h : c.Inv) (herr : (c.m.step c.s (.seek k)).2 = .err) :
    (c.seek k).2 = .err ∧ (c.seek k).1.m = c.m ∧ (c.seek k).1.Inv ∧ (c.seek k).1.npos = c.npos := by
  have hp := c.m.seek_err c.s h.1 k herr
  simp only [seek, herr, seekK]
  refine ⟨trivial, trivial, ⟨c.m.step_inv c.s (.seek k) h.1, ?_⟩, ?_⟩
  · simpa only [hp] using h.2
  · simp only [npos, hp]

end Col

/-- what `ReadValues` does with the answer of `ReadPage`: hold the page (`inl`), or stop at EOF /
    on failure (`inr (_, failed)`) -/
def pageK (c : Col.{u}) (s1 : c.m.σ) : ROut → Col.{u} ⊕ (Col.{u} × Bool)
  | .rows _ n => .inl { m := c.m, s := s1, buf := n }
  | .eof => .inr ({ m := c.m, s := s1, buf := 0 }, false)
  | _ => .inr ({ m := c.m, s := s1, buf := 0 }, true)

/-- MIRROR of the column part of `ReadRows` (row_group.go, the loop over `rows` for one column) at
    row granularity: take `want` rows, fetching the next page whenever the held one is used up;
    returns the column, the rows delivered and whether a read failed -/
def colRead : Nat → Col.{u} → Nat → Nat → Col.{u} × Nat × Bool
  | 0, c, _, got => (c, got, false)
  | fuel + 1, c, want, got =>
    if want = 0 then (c, got, false)
    else if c.buf = 0 then
      match pageK c (c.m.step c.s .readPage).1 (c.m.step c.s .readPage).2 with
      | .inl c' => colRead fuel c' want got
      | .inr r => (r.1, got, r.2)
    else colRead fuel { m := c.m, s := c.s, buf := c.buf - min want c.buf } (want - min want c.buf) (got + min want c.buf)

/-- `inl`: a page is held, the column still on row `q`; `inr`: the column's end, or a failed read -/
theorem fetch_spec (c : Col.{u}) (q : Nat) (hi : c.Inv) (hb : c.buf = 0) (hq : c.npos = some q) :
    match pageK c (c.m.step c.s .readPage).1 (c.m.step c.s .readPage).2 with
    | .inl c' => c'.m = c.m ∧ c'.Inv ∧ c'.npos = some q ∧ c'.buf ≠ 0
    | .inr r => r.1.m = c.m ∧ r.1.Inv ∧ (r.2 = false → c.m.total ≤ q ∧ r.1.npos = some q) := by
  have hinv := c.m.step_inv c.s .readPage hi.1
  cases hp : c.m.pos c.s with
  | none => simp [Col.npos, hp] at hq
  | some p =>
    have hq' : min p c.m.total = q := by
      simpa only [Col.npos, hp, hb, Option.map_some, Nat.sub_zero, Option.some.injEq] using hq
    rcases c.m.read_some c.s hi.1 hp with ⟨ho, _⟩ | ⟨ho, hT, hp'⟩ | ⟨n, ho, hn, hle, hp'⟩
    · rw [ho]
      exact ⟨rfl, ⟨hinv, Or.inl rfl⟩, fun h => by cases h⟩
    · rw [ho]
      refine ⟨rfl, ⟨hinv, Or.inl rfl⟩, fun _ => ⟨by omega, ?_⟩⟩
      simp only [Col.npos, hp', Option.map_some, Nat.sub_zero, hq']
    · rw [ho]
      refine ⟨rfl, ⟨hinv, Or.inr ⟨p + n, hp', Nat.le_add_left _ _, hle⟩⟩, ?_, Nat.ne_of_gt hn⟩
      simp only [Col.npos, hp', Option.map_some, Nat.add_sub_cancel, hq']

theorem Col.consume_spec (c : Col.{u}) (q k : Nat) (hi : c.Inv) (hq : c.npos = some q) (hk : k ≤ c.buf)
    (hb : c.buf ≠ 0) :
    Col.Inv { m := c.m, s := c.s, buf := c.buf - k } ∧
    Col.npos { m := c.m, s := c.s, buf := c.buf - k } = some (q + k) ∧ q + c.buf ≤ c.m.total := by
  obtain ⟨hinv, hbuf⟩ := hi
  rcases hbuf with h0 | ⟨p, hp, hle, hpT⟩
  · exact absurd h0 hb
  · have hmin : ∀ x, min (p - x) c.m.total = p - x := fun x =>
      Nat.min_eq_left (Nat.le_trans (Nat.sub_le _ _) hpT)
    simp only [Col.npos, hp, Option.map_some, hmin, Option.some.injEq] at hq ⊢
    subst hq
    exact ⟨⟨hinv, Or.inr ⟨p, hp, Nat.le_trans (Nat.sub_le _ _) hle, hpT⟩⟩, by omega, by omega⟩

theorem ite_le_one (p : Prop) [Decidable p] : (if p then 1 else 0) ≤ 1 := by
  split <;> decide

/-- rows from the held page, then from the `rest - buf` rows behind it: together `min want rest` -/
theorem take_rows_arith (want buf rest : Nat) (h : buf ≤ rest) :
    min want buf + min (want - min want buf) (rest - min want buf) = min want rest := by
  rcases Nat.le_total want buf with h1 | h1
  · rw [Nat.min_eq_left h1, Nat.sub_self, Nat.zero_min, Nat.add_zero, Nat.min_eq_left (Nat.le_trans h1 h)]
  · rw [Nat.min_eq_right h1, ← Nat.add_min_add_left, Nat.add_sub_cancel' h1, Nat.add_sub_cancel' h]

theorem colRead_spec (fuel : Nat) (c : Col.{u}) (want got q : Nat) (hi : c.Inv) (hq : c.npos = some q)
    (hf : 2 * want + (if c.buf = 0 then 1 else 0) ≤ fuel) :
    (colRead fuel c want got).1.Inv ∧
    ((colRead fuel c want got).2.2 = false →
      (colRead fuel c want got).2.1 = got + min want (c.m.total - q) ∧
      (colRead fuel c want got).1.npos = some (q + min want (c.m.total - q))) := by
  -- out of fuel; nothing wanted; page fetched; end or failure; rows taken from the held page (a fetch and a take per row)
  fun_induction colRead fuel c want got generalizing q with
  | case1 c want got =>
    have : want = 0 := by omega
    subst this
    exact ⟨hi, fun _ => ⟨rfl, hq⟩⟩
  | case2 fuel c got => exact ⟨hi, fun _ => ⟨rfl, hq⟩⟩
  | case3 fuel c want got hw hb c' hc' ih =>
    have hfetch := fetch_spec c q hi hb hq
    rw [hc'] at hfetch
    obtain ⟨em, hi', hq', hb'⟩ := hfetch
    have := ih q hi' hq' (by rw [if_neg hb']; rw [if_pos hb] at hf; omega)
    rw [em] at this
    exact this
  | case4 fuel c want got hw hb r hr =>
    have hfetch := fetch_spec c q hi hb hq
    rw [hr] at hfetch
    obtain ⟨em, hi', hdone⟩ := hfetch
    refine ⟨hi', fun hf' => ?_⟩
    obtain ⟨hT, hq'⟩ := hdone hf'
    rw [Nat.sub_eq_zero_of_le hT, Nat.min_zero]
    exact ⟨rfl, hq'⟩
  | case5 fuel c want got hw hb ih =>
    obtain ⟨hi', hq', hT⟩ := Col.consume_spec c q (min want c.buf) hi hq (Nat.min_le_right _ _) hb
    have harith := take_rows_arith want c.buf (c.m.total - q) (Nat.le_sub_of_add_le' hT)
    have hk1 : 1 ≤ min want c.buf := Nat.le_min.mpr ⟨Nat.pos_of_ne_zero hw, Nat.pos_of_ne_zero hb⟩
    have hk2 : min want c.buf ≤ want := Nat.min_le_left _ _
    generalize min want c.buf = k at hi' hq' harith hk1 hk2 ih ⊢
    obtain ⟨a2, a3⟩ := ih (q + k) hi' hq'
      (by rw [if_neg hb] at hf; exact Nat.le_trans (Nat.add_le_add_left (ite_le_one _) _) (by omega))
    refine ⟨a2, fun hf' => ?_⟩
    obtain ⟨b1, b2⟩ := a3 hf'
    rw [b1, b2, Nat.sub_add_eq, Nat.add_assoc, Nat.add_assoc, harith]
    exact ⟨rfl, rfl⟩

theorem colRead_m : ∀ (fuel : Nat) (c : Col.{u}) (want got : Nat), (colRead fuel c want got).1.m = c.m
  | 0, _, _, _ => rfl
  | fuel + 1, c, want, got => by
    simp only [colRead]
    split
    · rfl
    · split
      · generalize c.m.step c.s .readPage = x
        obtain ⟨s1, o⟩ := x
        cases o with
        | rows st n => simp only [pageK]; exact colRead_m fuel _ want got
        | ok | err | eof | fail => rfl
      · exact colRead_m fuel _ _ _

structure RSt where
  rowIndex : Int        -- r.rowIndex, -1 before the first read
  cols : List Col.{u}   -- r.columns[i].reader
  err : Bool            -- r.err != nil

inductive ROp where
  | seek (k : Nat)
  | read (n : Nat)
  | reset
deriving Repr, DecidableEq

/-- MIRROR of the loop of `rowGroupRows.SeekToRow`: stops at the first column that refuses -/
def seekAll : List Col.{u} → Nat → List Col.{u} × Bool
  | [], _ => ([], true)
  | c :: cs, k =>
    match (c.seek k).2 with
    | .ok => ((c.seek k).1 :: (seekAll cs k).1, (seekAll cs k).2)
    | _ => ((c.seek k).1 :: cs, false)

/-- MIRROR of the column loop of `ReadRows`: `(columns, max rows delivered, failed)`; stops at the
    first column whose read fails -/
def readAll (n : Nat) : List Col.{u} → List Col.{u} × Nat × Bool
  | [] => ([], 0, false)
  | c :: cs =>
    -- fuel `2 * n + 1`: every row taken costs at most a fetch and a take (`colRead_spec`)
    if (colRead (2 * n + 1) c n 0).2.2 then ((colRead (2 * n + 1) c n 0).1 :: cs, 0, true)
    else ((colRead (2 * n + 1) c n 0).1 :: (readAll n cs).1,
          max (colRead (2 * n + 1) c n 0).2.1 (readAll n cs).2.1, (readAll n cs).2.2)

/-- MIRROR of `columnChunkValueReader.Reset` on every column: seek to 0 ignoring errors, drop the page -/
def resetAll (cs : List Col.{u}) : List Col.{u} :=
  cs.map fun c => { m := c.m, s := (c.m.step c.s (.seek 0)).1, buf := 0 }

/-- MIRROR of `rowGroupRows.SeekToRow` (repaired) -/
def rseek (s : RSt.{u}) (k : Nat) : RSt.{u} × ROut :=
  if (k : Int) ≠ s.rowIndex ∨ s.err = true then
    if (seekAll s.cols k).2 then ({ rowIndex := k, cols := (seekAll s.cols k).1, err := false }, .ok)
    else ({ s with cols := (seekAll s.cols k).1 }, .err)
  else (s, .ok)

/-- the part of `ReadRows` behind the first-call seek -/
def rreadK (s : RSt.{u}) (n : Nat) : RSt.{u} × ROut :=
  if (readAll n s.cols).2.2 then ({ s with cols := (readAll n s.cols).1, err := true }, .fail)
  else ({ s with cols := (readAll n s.cols).1, rowIndex := s.rowIndex + (readAll n s.cols).2.1 },
        .rows s.rowIndex.toNat (readAll n s.cols).2.1)

/-- MIRROR of `rowGroupRows` (repaired): SeekToRow / ReadRows / Reset -/
def rstep (s : RSt.{u}) : ROp → RSt.{u} × ROut
  | .seek k => rseek s k
  | .read n =>
    if s.err then (s, .fail)
    else if s.rowIndex < 0 then
      match (rseek s 0).2 with
      | .ok => rreadK (rseek s 0).1 n
      | o => ((rseek s 0).1, o)
    else rreadK s n
  | .reset => ({ rowIndex := 0, cols := resetAll s.cols, err := false }, .ok)

/-- SPEC: the reference row reader over `T` rows. Its position is the row index of the last
    accepted seek plus the rows delivered since; beyond the last row (`p > T`) reads deliver
    nothing. A seek may be refused only beyond the last row, and then nothing changes. -/
def RSpec (T : Nat) (n : Option Nat) (op : ROp) (n' : Option Nat) (out : ROut) : Prop :=
  match op with
  | .seek k => (out = .ok ∧ n' = some k) ∨ (out = .err ∧ n' = n ∧ T < k)
  | .reset => out = .ok ∧ n' = some 0
  | .read b =>
    match n with
    | none => out = .fail ∧ n' = none
    | some p => (out = .rows p (min b (T - p)) ∧ n' = some (p + min b (T - p))) ∨ (out = .fail ∧ n' = none)

def rpos (s : RSt.{u}) : Option Nat :=
  if s.err then none else some (if s.rowIndex < 0 then 0 else s.rowIndex.toNat)

def ColsAt (T : Nat) (cs : List Col.{u}) (q : Nat) : Prop :=
  ∀ c ∈ cs, c.m.total = T ∧ c.Inv ∧ c.npos = some q

/-- how the page readers of one row reader answer a seek beyond the last row: all alike
    (`true`: they accept it, `false`: they refuse it) -/
def Mode : Bool → Machine.{u} → Prop
  | true, m => m.Lenient
  | false, m => m.Strict

/-- invariant of the row reader: columns of `T` rows that all answer a seek beyond the end alike
    (`L`); unless a read failed, they all stand on `min p T` for the reader's position `p`
    (`rowIndex`, or `0` before the first read), and `p ≤ T` when such seeks are refused -/
def RInv (T : Nat) (L : Bool) (s : RSt.{u}) : Prop :=
  s.cols ≠ [] ∧ (∀ c ∈ s.cols, c.m.total = T ∧ c.Inv) ∧ (∀ m ∈ s.cols.map (·.m), Mode L m) ∧
  (s.err = false → ∃ p, (L = false → p ≤ T) ∧ ((s.rowIndex < 0 ∧ p = 0) ∨ s.rowIndex = (p : Int)) ∧
    ColsAt T s.cols (min p T))

theorem seekAll_m : ∀ (cs : List Col.{u}) (k : Nat), (seekAll cs k).1.map (·.m) = cs.map (·.m)
  | [], _ => rfl
  | c :: cs, k => by
    simp only [seekAll]
    split
    · simp only [List.map_cons, Col.seek_m, seekAll_m cs k]
    · simp only [List.map_cons, Col.seek_m]

theorem readAll_m (n : Nat) : ∀ (cs : List Col.{u}), (readAll n cs).1.map (·.m) = cs.map (·.m)
  | [] => rfl
  | c :: cs => by
    simp only [readAll]
    split
    · simp only [List.map_cons, colRead_m]
    · simp only [List.map_cons, colRead_m, readAll_m n cs]

theorem resetAll_m (cs : List Col.{u}) : (resetAll cs).map (·.m) = cs.map (·.m) := by
  simp [resetAll, List.map_map, Function.comp_def]

theorem colsAt_cons {T : Nat} {c : Col.{u}} {cs : List Col.{u}} {q : Nat} :
    ColsAt T (c :: cs) q ↔ (c.m.total = T ∧ c.Inv ∧ c.npos = some q) ∧ ColsAt T cs q :=
  List.forall_mem_cons

theorem accepts (T : Nat) (L : Bool) (k : Nat) (cs : List Col.{u}) (hall : ∀ c ∈ cs, c.m.total = T ∧ c.Inv)
    (hfar : ∀ m ∈ cs.map (·.m), Mode L m) (hk : k ≤ T ∨ L = true) :
    ∀ c ∈ cs, (c.m.step c.s (.seek k)).2 = .ok := by
  intro c hc
  obtain ⟨hT, hI⟩ := hall c hc
  rcases hk with hk | hL
  · exact (c.m.seek_le c.s hI.1 k (hT ▸ hk)).1
  · subst hL
    exact hfar c.m (List.mem_map.mpr ⟨c, hc, rfl⟩) c.s k hI.1

theorem seekAll_spec (T k : Nat) : ∀ (cs : List Col.{u}), (∀ c ∈ cs, c.m.total = T ∧ c.Inv) →
    (∀ c ∈ cs, (c.m.step c.s (.seek k)).2 = .ok) →
    (seekAll cs k).2 = true ∧ ((seekAll cs k).1 = [] ↔ cs = []) ∧ ColsAt T (seekAll cs k).1 (min k T)
  | [], _, _ => ⟨rfl, Iff.rfl, fun _ hc => nomatch hc⟩
  | c :: cs, h, hok => by
    obtain ⟨⟨hT, hI⟩, hcs⟩ := List.forall_mem_cons.mp h
    obtain ⟨hokc, hokcs⟩ := List.forall_mem_cons.mp hok
    obtain ⟨a1, a2, a3, a4⟩ := c.seek_spec k hI hokc
    obtain ⟨b1, _, b3⟩ := seekAll_spec T k cs hcs hokcs
    simp only [seekAll, a1]
    exact ⟨b1, by simp, colsAt_cons.mpr ⟨⟨a2 ▸ hT, a3, by rw [a4, hT]⟩, b3⟩⟩

theorem seekAll_refused (T k : Nat) (c : Col.{u}) (cs : List Col.{u})
    (hall : ∀ c' ∈ c :: cs, c'.m.total = T ∧ c'.Inv) (herr : (c.m.step c.s (.seek k)).2 = .err) :
    (seekAll (c :: cs) k).2 = false ∧ (seekAll (c :: cs) k).1 ≠ [] ∧
    (∀ c' ∈ (seekAll (c :: cs) k).1, c'.m.total = T ∧ c'.Inv) ∧
    ∀ q, ColsAt T (c :: cs) q → ColsAt T (seekAll (c :: cs) k).1 q := by
  obtain ⟨⟨hT, hI⟩, hcs⟩ := List.forall_mem_cons.mp hall
  obtain ⟨a1, a2, a3, a4⟩ := c.seek_refused k hI herr
  simp only [seekAll, a1]
  refine ⟨trivial, by simp, List.forall_mem_cons.mpr ⟨⟨a2 ▸ hT, a3⟩, hcs⟩, fun q hat => ?_⟩
  obtain ⟨⟨_, _, hN⟩, hat'⟩ := colsAt_cons.mp hat
  exact colsAt_cons.mpr ⟨⟨a2 ▸ hT, a3, a4 ▸ hN⟩, hat'⟩

/-- every column delivers the same `min n (T - q)` rows, so that is also their maximum -/
theorem readAll_spec (T n q : Nat) : ∀ (cs : List Col.{u}), ColsAt T cs q →
    (∀ c ∈ (readAll n cs).1, c.m.total = T ∧ c.Inv) ∧ ((readAll n cs).1 = [] ↔ cs = []) ∧
    ((readAll n cs).2.2 = false →
      (readAll n cs).2.1 ≤ min n (T - q) ∧ (cs ≠ [] → (readAll n cs).2.1 = min n (T - q)) ∧
      ColsAt T (readAll n cs).1 (q + min n (T - q)))
  | [], _ => ⟨fun _ hc => (nomatch hc), Iff.rfl,
    fun _ => ⟨Nat.zero_le _, fun h => absurd rfl h, fun _ hc => (nomatch hc)⟩⟩
  | c :: cs, h => by
    obtain ⟨⟨hT, hI, hN⟩, hrest⟩ := colsAt_cons.mp h
    have a1 := colRead_m (2 * n + 1) c n 0
    obtain ⟨a2, a3⟩ := colRead_spec (2 * n + 1) c n 0 q hI hN (by split <;> omega)
    obtain ⟨b1, b2, b3⟩ := readAll_spec T n q cs hrest
    simp only [readAll]
    split
    · exact ⟨List.forall_mem_cons.mpr ⟨⟨a1 ▸ hT, a2⟩, fun c' hc' => ⟨(hrest c' hc').1, (hrest c' hc').2.1⟩⟩,
        by simp, fun h => by cases h⟩
    · rename_i hf
      obtain ⟨c1, c2⟩ := a3 (by simpa using hf)
      rw [hT, Nat.zero_add] at c1
      rw [hT] at c2
      refine ⟨List.forall_mem_cons.mpr ⟨⟨a1 ▸ hT, a2⟩, b1⟩, by simp, fun hall => ?_⟩
      obtain ⟨d1, _, d3⟩ := b3 hall
      have hmax : max (colRead (2 * n + 1) c n 0).2.1 (readAll n cs).2.1 = min n (T - q) := by
        rw [c1]; exact Nat.max_eq_left d1
      exact ⟨Nat.le_of_eq hmax, fun _ => hmax, colsAt_cons.mpr ⟨⟨a1 ▸ hT, a2, c2⟩, d3⟩⟩

theorem resetAll_spec (T : Nat) (cs : List Col.{u}) (h : ∀ c ∈ cs, c.m.total = T ∧ c.Inv) :
    ColsAt T (resetAll cs) 0 := by
  intro c' hc'
  simp only [resetAll, List.mem_map] at hc'
  obtain ⟨c, hc, rfl⟩ := hc'
  obtain ⟨hT, hI⟩ := h c hc
  obtain ⟨_, k', hp, hsame⟩ := c.m.seek_le c.s hI.1 0 (Nat.zero_le _)
  refine ⟨hT, ⟨c.m.step_inv c.s (.seek 0) hI.1, Or.inl rfl⟩, ?_⟩
  simp only [Col.npos, hp, Option.map_some, Nat.sub_zero]
  rcases hsame with rfl | ⟨a, _⟩
  · rw [Nat.zero_min]
  · rw [Nat.le_zero.mp a, Nat.min_zero]

/-- last clause: what an attempted seek leaves (the first-call seek of `rstep` reads it) -/
theorem rseek_ok (T : Nat) (L : Bool) (s : RSt.{u}) (k : Nat) (hk : k ≤ T ∨ L = true) (h : RInv T L s) :
    RInv T L (rseek s k).1 ∧ (rseek s k).2 = .ok ∧ rpos (rseek s k).1 = some k ∧
    ((k : Int) ≠ s.rowIndex ∨ s.err = true →
      rseek s k = ({ rowIndex := k, cols := (seekAll s.cols k).1, err := false }, ROut.ok)) := by
  obtain ⟨hne, hall, hfar, hal⟩ := h
  have hacc := accepts T L k s.cols hall hfar hk
  obtain ⟨a1, a2, a3⟩ := seekAll_spec T k s.cols hall hacc
  unfold rseek
  split
  · simp only
    refine ⟨⟨?_, fun c hc => ⟨(a3 c hc).1, (a3 c hc).2.1⟩, by simpa only [seekAll_m] using hfar,
      fun _ => ⟨k, ?_, Or.inr rfl, a3⟩⟩, trivial, ?_, fun _ => trivial⟩
    · intro h; exact hne (a2.mp h)
    · intro hL
      rcases hk with hk | hk
      · exact hk
      · rw [hL] at hk; cases hk
    · simp only [rpos, Bool.false_eq_true, if_false]
      have : ¬ ((k : Int) < 0) := by omega
      simp [this]
  · rename_i hc
    have h1 : (k : Int) = s.rowIndex := Decidable.not_not.mp (not_or.mp hc).1
    have h2 : s.err = false := Bool.eq_false_iff.mpr (not_or.mp hc).2
    refine ⟨⟨hne, hall, hfar, hal⟩, rfl, ?_, fun h => absurd h hc⟩
    simp only [rpos, h2, Bool.false_eq_true, if_false]
    have : ¬ s.rowIndex < 0 := by omega
    simp only [this, if_false]
    congr 1; omega

theorem rseek_refused (T : Nat) (s : RSt.{u}) (k : Nat) (hk : T < k) (h : RInv T false s) :
    RInv T false (rseek s k).1 ∧ (rseek s k).2 = .err ∧ rpos (rseek s k).1 = rpos s := by
  obtain ⟨hne, hall, hfar, hal⟩ := h
  cases hcs : s.cols with
  | nil => exact absurd hcs hne
  | cons c cs =>
    rw [hcs] at hall
    obtain ⟨hT, hI⟩ := hall c List.mem_cons_self
    have herr : (c.m.step c.s (.seek k)).2 = .err :=
      hfar c.m (by simp [hcs]) c.s k hI.1 (by omega)
    obtain ⟨r1, r2, r3, r4⟩ := seekAll_refused T k c cs hall herr
    -- the seek is attempted: `rowIndex ≤ T < k` unless the reader is in the failed state
    have hatt : (k : Int) ≠ s.rowIndex ∨ s.err = true := by
      cases he : s.err with
      | true => exact Or.inr rfl
      | false =>
        obtain ⟨p, hp, hri, _⟩ := hal he
        have := hp rfl
        refine Or.inl ?_
        rcases hri with ⟨a, _⟩ | a <;> omega
    unfold rseek
    rw [if_pos hatt]
    simp only [hcs, r1, Bool.false_eq_true, if_false]
    refine ⟨⟨r2, r3, by simpa only [seekAll_m, hcs] using hfar, fun he => ?_⟩, trivial, rfl⟩
    obtain ⟨p, hp, hri, hat⟩ := hal he
    exact ⟨p, hp, hri, r4 _ (hcs ▸ hat)⟩

/-- a column on the clamped position `min p T` delivers what the reader at `p` announces, and ends clamped again -/
theorem read_arith (p n T : Nat) :
    min n (T - min p T) = min n (T - p) ∧ min p T + min n (T - p) = min (p + min n (T - p)) T := by
  rcases Nat.le_total p T with h | h
  · rw [Nat.min_eq_left h]
    exact ⟨rfl, (Nat.min_eq_left (Nat.add_le_of_le_sub' h (Nat.min_le_right _ _))).symm⟩
  · rw [Nat.min_eq_right h, Nat.sub_self, Nat.sub_eq_zero_of_le h, Nat.min_zero, Nat.add_zero,
      Nat.add_zero, Nat.min_eq_right h]
    exact ⟨rfl, rfl⟩

theorem rreadK_spec (T : Nat) (L : Bool) (s : RSt.{u}) (n : Nat) (h : RInv T L s) (herr : s.err = false)
    (hneg : ¬ s.rowIndex < 0) :
    RInv T L (rreadK s n).1 ∧ RSpec T (rpos s) (.read n) (rpos (rreadK s n).1) (rreadK s n).2 := by
  obtain ⟨hne, _, hfar, hal⟩ := h
  obtain ⟨p, hpL, hri, hat⟩ := hal herr
  have hri : s.rowIndex = (p : Int) := hri.resolve_left fun a => hneg a.1
  have hp0 : rpos s = some p := by
    simp only [rpos, herr, Bool.false_eq_true, if_false, hneg]
    congr 1; omega
  rw [hp0]
  obtain ⟨a1, a2, a3⟩ := readAll_spec T n (min p T) s.cols hat
  have hfar' : ∀ m ∈ (readAll n s.cols).1.map (·.m), Mode L m := by simpa only [readAll_m] using hfar
  unfold rreadK
  split
  · refine ⟨⟨fun h => hne (a2.mp h), a1, hfar', fun h => by cases h⟩, Or.inr ⟨rfl, ?_⟩⟩
    simp [rpos]
  · rename_i hf
    have hf' : (readAll n s.cols).2.2 = false := by simpa using hf
    obtain ⟨_, b1, b3⟩ := a3 hf'
    have hcnt : (readAll n s.cols).2.1 = min n (T - p) := by rw [b1 hne, (read_arith p n T).1]
    rw [(read_arith p n T).1, (read_arith p n T).2] at b3
    simp only [hcnt, hri]
    refine ⟨⟨fun h => hne (a2.mp h), a1, hfar', fun _ => ⟨p + min n (T - p), ?_, Or.inr rfl, b3⟩⟩,
      Or.inl ⟨by rw [Int.toNat_natCast], ?_⟩⟩
    · exact fun hL => Nat.add_le_of_le_sub' (hpL hL) (Nat.min_le_right _ _)
    · have hnn : ¬ ((p : Int) + ((min n (T - p) : Nat) : Int) < 0) := by omega
      simp only [rpos, herr, Bool.false_eq_true, if_false, hnn]
      congr 1

theorem rstep_spec (T : Nat) (L : Bool) (s : RSt.{u}) (op : ROp) (h : RInv T L s) :
    RInv T L (rstep s op).1 ∧ RSpec T (rpos s) op (rpos (rstep s op).1) (rstep s op).2 := by
  cases op with
  | seek k =>
    by_cases hk : k ≤ T ∨ L = true
    · obtain ⟨a, b, c, _⟩ := rseek_ok T L s k hk h
      exact ⟨a, Or.inl ⟨b, c⟩⟩
    · have hL : L = false := Bool.eq_false_iff.mpr (not_or.mp hk).2
      subst hL
      have hk' : T < k := Nat.lt_of_not_le (not_or.mp hk).1
      obtain ⟨a, b, c⟩ := rseek_refused T s k hk' h
      exact ⟨a, Or.inr ⟨b, c, hk'⟩⟩
  | reset =>
    obtain ⟨hne, hall, hfar, _⟩ := h
    have hr := resetAll_spec T s.cols hall
    refine ⟨⟨by simp [rstep, resetAll]; exact hne, fun c hc => ⟨(hr c hc).1, (hr c hc).2.1⟩,
      by simpa only [rstep, resetAll_m] using hfar,
      fun _ => ⟨0, fun _ => Nat.zero_le _, Or.inr rfl, by rw [Nat.zero_min]; exact hr⟩⟩, rfl, by simp [rstep, rpos]⟩
  | read n =>
    simp only [rstep]
    cases herr : s.err with
    | true => simp only [if_true]; exact ⟨h, by simp [RSpec, rpos, herr]⟩
    | false =>
      simp only [Bool.false_eq_true, if_false]
      split
      · rename_i hneg
        obtain ⟨a, b, c, d⟩ := rseek_ok T L s 0 (Or.inl (Nat.zero_le _)) h
        rw [b]
        simp only []  -- only reduces the `match` on `.ok`
        -- the seek was not skipped (rowIndex is negative): the reader stands on row 0, as it did before
        rw [show rpos s = some 0 by simp [rpos, herr, hneg], ← c]
        rw [d (Or.inl (by omega))] at a ⊢
        exact rreadK_spec T L _ n a rfl (Int.not_lt.mpr (Int.natCast_nonneg 0))
      · rename_i hneg
        exact rreadK_spec T L s n h herr hneg

def routs : RSt.{u} → List ROp → List ROut
  | _, [] => []
  | s, op :: ops => (rstep s op).2 :: routs (rstep s op).1 ops

inductive RRunOK (T : Nat) : Option Nat → List ROp → List ROut → Prop where
  | nil (n) : RRunOK T n [] []
  | cons {n op n' out ops os} : RSpec T n op n' out → RRunOK T n' ops os → RRunOK T n (op :: ops) (out :: os)

theorem rrun_refines (T : Nat) (L : Bool) : ∀ (ops : List ROp) (s : RSt.{u}), RInv T L s →
    RRunOK T (rpos s) ops (routs s ops)
  | [], _, _ => RRunOK.nil _
  | op :: ops, s, h => by
    obtain ⟨a, b⟩ := rstep_spec T L s op h
    exact RRunOK.cons b (rrun_refines T L ops _ a)

/-- a fresh row reader over the page readers of its columns -/
def rinit (ms : List Machine.{u}) : RSt.{u} :=
  { rowIndex := -1, cols := ms.map fun m => { m := m, s := m.init, buf := 0 }, err := false }

theorem rinit_inv (T : Nat) (L : Bool) (ms : List Machine.{u}) (hne : ms ≠ []) (hT : ∀ m ∈ ms, m.total = T)
    (hfar : ∀ m ∈ ms, Mode L m) : RInv T L (rinit ms) := by
  have hcols : ∀ c ∈ (rinit ms).cols, c.m.total = T ∧ c.Inv ∧ c.npos = some 0 := by
    intro c hc
    simp only [rinit, List.mem_map] at hc
    obtain ⟨m, hm, rfl⟩ := hc
    exact ⟨hT m hm, ⟨m.init_inv, Or.inl rfl⟩, by simp [Col.npos, m.init_pos]⟩
  refine ⟨by simp [rinit]; exact hne, fun c hc => ⟨(hcols c hc).1, (hcols c hc).2.1⟩, ?_,
    fun _ => ⟨0, fun _ => Nat.zero_le _, Or.inl ⟨by simp [rinit], rfl⟩, by rw [Nat.zero_min]; exact hcols⟩⟩
  intro m hm
  simp only [rinit, List.map_map, List.mem_map, Function.comp_def] at hm
  obtain ⟨m', hm', rfl⟩ := hm
  exact hfar m' hm'

end PqModel.ReaderSeek
