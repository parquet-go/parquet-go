import PqModel.AsyncInv

/-! Data invariant of asyncPages: while the producer works for the consumer's current version, its
    local state is the ghost sequential reader's state (one read ahead when it holds an item);
    ownership: every produced item is in exactly one place. -/
namespace PqModel.Async

def heldId (g : G) : List Nat := match g.ppc with | .send it => [it.id] | _ => []
def gotId (g : G) : List Nat := match g.cpc with | .got it => [it.id] | _ => []

/-- where the produced items are: released, handed to the caller, offered by the producer, or
    received and not yet tested -/
def owned (g : G) : List Nat := g.released ++ g.handed ++ heldId g ++ gotId g

def Own (g : G) : Prop := ∀ i, (owned g).count i = if i < g.nprod then 1 else 0

theorem own_init : Own init := by
  intro i; simp [owned, heldId, gotId, init]

/-- every step moves a serial number from one of the four places to another, except `bodyOffer`,
    which creates the next one -/
theorem own_step {U g e g'} (hi : Own g) (h : Step U g e g') : Own g' := by
  intro i
  specialize hi i
  simp only [owned, heldId, gotId, List.count_append] at hi ⊢
  -- handoff: held → got; deliver: got → handed; drop: got → released; closeRecv, selTake, selDone: held → released
  cases h <;> simp only [*, List.count_cons, List.count_nil, beq_iff_eq] at hi ⊢
  case bodyOffer =>
    rcases Nat.lt_trichotomy i g.nprod with lt | eq | gt
    · simp only [lt, Nat.lt_succ_of_lt lt, Nat.ne_of_gt lt, ↓reduceIte] at hi ⊢; omega
    · subst eq; simp only [Nat.lt_irrefl, Nat.lt_succ_self, ↓reduceIte] at hi ⊢; omega
    · simp only [Nat.not_lt_of_gt gt, show ¬ i < g.nprod + 1 by omega, Nat.ne_of_lt gt, ↓reduceIte] at hi ⊢
      omega
  all_goals omega

theorem own_reachable {U g} (h : Reachable U g) : Own g :=
  reachable_induction (P := Own) own_init (fun _ _ _ hi hs => own_step hi hs) g h

/-- producer-local state `P` and sequential reader state `S` agree, or `P` is `S` with its pending
    seek applied -/
def Sync (U : Under) (P S : Loc) : Prop :=
  S.ferr = none ∧ P.ferr = none ∧
  ((P.row = S.row ∧ (P.row = none → P.pos = S.pos)) ∨ body U S = (P, none))

theorem Sync.refl {U P} (h : P.ferr = none) : Sync U P P := ⟨h, h, Or.inl ⟨rfl, fun _ => rfl⟩⟩

theorem body_sync_none {U P S P'} (hs : Sync U P S) (hb : body U P = (P', none)) : Sync U P' S := by
  obtain ⟨hf, k, hr, hk, rfl⟩ := body_none hb
  obtain ⟨h1, h2, h3⟩ := hs
  refine ⟨h1, rfl, Or.inr ?_⟩
  rcases h3 with ⟨h3, _⟩ | h3
  · simp [body, h1, ← h3, hr, hk]
  · obtain ⟨_, _, _, _, rfl⟩ := body_none h3
    cases hr

theorem body_sync_some {U P S P' r} (hs : Sync U P S) (hb : body U P = (P', some r))
    (hf' : P'.ferr = none) : r = (lsRead U S).2 ∧ Sync U P' (lsRead U S).1 := by
  obtain ⟨hS, hP, h3⟩ := hs
  rcases h3 with ⟨h3, h4⟩ | h3
  · rcases hrow : P.row with _ | k
    · -- nothing pending: the two states are the same
      have : P = S := by
        obtain ⟨_, _, _⟩ := P; obtain ⟨_, _, _⟩ := S
        simp only at hS hP h3 h4 hrow
        subst hS hP hrow h3
        rw [h4 rfl]
      subst this
      simp only [lsRead, hb]
      exact ⟨trivial, Sync.refl hf'⟩
    · -- the same seek is pending in both: it fails in both (a success offers nothing)
      have hsr : S.row = some k := h3 ▸ hrow
      simp only [body, hP, hrow] at hb
      simp only [lsRead, body, hS, hsr]
      rcases hsk : U.sk k with _ | c | c <;> rw [hsk] at hb <;> simp at hb
      · obtain ⟨rfl, rfl⟩ := hb
        exact ⟨rfl, hS, hP, Or.inl ⟨h3, h4⟩⟩
      · obtain ⟨rfl, rfl⟩ := hb
        simp at hf'
  · -- the reader applies its pending seek and is where the producer is
    simp only [lsRead, h3, hb]
    exact ⟨trivial, Sync.refl hf'⟩

/-- the sequential state the producer is ahead of: the consumer's ghost state, advanced by the
    item the consumer has received but not yet tested when that item is current -/
def base (U : Under) (g : G) : Loc :=
  match g.cpc with
  | .got it => if it.ver = g.cver then (lsRead U g.spec).1 else g.spec
  | _ => g.spec

def Live (g : G) : Prop := g.cpc ≠ .closing ∧ g.cpc ≠ .closed

/-- while the producer works for the consumer's current version, without a sticky error and before
    `Close`, its local state is the sequential reader's (`base`), one read ahead when it offers an item -/
def InSync (U : Under) (g : G) : Prop :=
  g.pver = g.cver → g.loc.ferr = none → Live g →
    match g.ppc with
    | .send it => it.res = (lsRead U (base U g)).2 ∧ Sync U g.loc (lsRead U (base U g)).1
    | .final => True
    | .exited => True
    | _ => Sync U g.loc (base U g)

/-- the producer's data against the ghost sequential reader `spec`: they part only through a sticky
    fatal error of the wrapped reader (`spec_ferr`, `send_fatal`, `got_fatal`, second case of `got_res`) -/
structure Data (U : Under) (g : G) : Prop where
  ch_row : ∀ k v, g.seekCh = some (k, v) → g.spec.row = some k
  spec_ferr : g.loc.ferr = none → g.spec.ferr = none
  send_fatal : ∀ it, g.ppc = .send it → ∀ e, it.res = .fatal e ↔ g.loc.ferr = some e
  got_fatal : ∀ it, g.cpc = .got it → ∀ e, it.res = .fatal e → g.loc.ferr = some e
  got_res : ∀ it, g.cpc = .got it → it.ver = g.cver →
      it.res = (lsRead U g.spec).2 ∨ ∃ e, g.loc.ferr = some e ∧ it.res = .fatal e
  sync : InSync U g

theorem data_init {U} : Data U init := by
  constructor <;> simp [init, Sync, base, Live, InSync]

theorem base_ferr_none {U g} (hc : Ctl g) (hd : Data U g) (hv : g.pver = g.cver)
    (hf : g.loc.ferr = none) (hl : Live g) : (base U g).ferr = none := by
  have := hd.sync hv hf hl
  rcases hp : g.ppc with _ | _ | _ | it | _ | _ <;> rw [hp] at this <;> simp only at this
  · exact this.1
  · exact this.1
  · exact this.1
  · exact ferr_none_of_mono (fun _ => lsRead_ferr_mono) this.2.1
  · exact absurd hp (hc.not_fin hl).1
  · exact absurd hp (hc.not_fin hl).2

/-- steps that leave the seek channel content (except emptying it) and the ghost reader alone, keep a
    sticky error and hand the consumer no item: only the offer and `sync` have to be re-established -/
theorem data_frame {U g g'} (hd : Data U g)
    (e1 : g'.seekCh = g.seekCh ∨ g'.seekCh = none) (e2 : g'.spec = g.spec)
    (hferr : ∀ e, g.loc.ferr = some e → g'.loc.ferr = some e)
    (hsend : ∀ it, g'.ppc = .send it → ∀ e, it.res = .fatal e ↔ g'.loc.ferr = some e)
    (hgot : ∀ it, g'.cpc = .got it → g.cpc = .got it ∧ g'.cver = g.cver)
    (hsync : InSync U g') : Data U g' := by
  constructor
  · intro k v h
    rcases e1 with e1 | e1
    · rw [e1] at h; rw [e2]; exact hd.ch_row k v h
    · rw [e1] at h; cases h
  · rw [e2]; exact fun h => hd.spec_ferr (ferr_none_of_mono hferr h)
  · exact hsend
  · exact fun it h e he => hferr e (hd.got_fatal it (hgot it h).1 e he)
  · intro it h hv; rw [e2]; rw [(hgot it h).2] at hv
    rcases hd.got_res it (hgot it h).1 hv with h' | ⟨e, he, h'⟩
    · exact Or.inl h'
    · exact Or.inr ⟨e, hferr e he, h'⟩
  · exact hsync

theorem data_step {U g e g'} (hc : Ctl g) (hd : Data U g) (h : Step U g e g') : Data U g' := by
  cases h
  case handoff it h1 h2 =>
    have hv := hc.send_ver it h2
    constructor
    · exact hd.ch_row
    · exact hd.spec_ferr
    · intro it' h; simp at h
    · intro it' h e he; simp at h; subst h; exact (hd.send_fatal it h2 e).mp he
    · intro it' h hv'; simp only [CPc.got.injEq] at h; subst h
      simp only at hv'
      rcases hf : g.loc.ferr with _ | e
      · left
        have := hd.sync (by omega) hf (by simp [Live, h1])
        rw [h2] at this; simp only [base, h1] at this
        exact this.1
      · right; exact ⟨e, rfl, (hd.send_fatal it h2 e).mpr hf⟩
    · intro hv' hf hl
      simp only at hv' hf ⊢
      have := hd.sync hv' hf (by simp [Live, h1])
      rw [h2] at this; simp only [base, h1] at this
      simp only [base]
      rw [if_pos (by omega)]
      exact this.2
  case deliver it h1 h2 =>
    have hle := hc.got_ver it h1
    have hvl := hc.ver_le
    have hv : g.pver = g.cver := by omega
    have hb : base U g = (lsRead U g.spec).1 := by simp [base, h1, h2]
    constructor
    · intro k v h; simp only at h
      have := (hc.ch k v h).2.1; omega
    · intro hf; simp only at hf ⊢
      have := base_ferr_none hc hd hv hf (by simp [Live, h1])
      rwa [hb] at this
    · exact hd.send_fatal
    · intro it' h; simp at h
    · intro it' h; simp at h
    · intro hv' hf hl
      have := hd.sync hv hf (by simp [Live, h1])
      rw [hb] at this
      simpa [base] using this
  case pollTake k v _ hs | selTake _ k v _ hs =>
    -- the producer takes the seek: it is current again and has the reader's pending seek to apply
    obtain ⟨hv, hlt, hm⟩ := hc.ch k v hs
    have hr := hd.ch_row k v hs
    -- an item the consumer has received is outdated
    have old : ∀ it, g.cpc = .got it → ¬ it.ver = g.cver := fun it h => by
      have := hc.got_ver it h; omega
    refine data_frame hd (Or.inr rfl) rfl (fun _ h => h) (by simp) (fun _ h => ⟨h, rfl⟩) fun _ hf _ => ?_
    have fin : Sync U { g.loc with row := some k } g.spec :=
      ⟨hd.spec_ferr hf, hf, Or.inl ⟨hr.symm, by simp⟩⟩
    show Sync U _ (base U _)
    simp only [base]
    split
    · rename_i it h; rw [if_neg (old it h)]; exact fin
    · exact fin
  case bodyCont l hp hb =>
    refine data_frame hd (Or.inl rfl) rfl (fun e h => body_ferr_mono hb h)
      (fun it h => by simp only at h; rw [hp] at h; cases h) (fun _ h => ⟨h, rfl⟩) ?_
    · intro hv _ hl
      have := hd.sync hv (body_none hb).1 hl
      rw [hp] at this; simp only at this
      simp only [hp, base] at this ⊢
      exact body_sync_none this hb
  case bodyOffer l r hp hb =>
    have mono : ∀ e, g.loc.ferr = some e → l.ferr = some e := fun e h => body_ferr_mono hb h
    refine data_frame hd (Or.inl rfl) rfl mono
      (fun it h e => by simp only [PPc.send.injEq] at h; subst h; exact body_fatal hb e) (fun _ h => ⟨h, rfl⟩) ?_
    · intro hv hf hl
      simp only at hf hv ⊢
      have := hd.sync hv (ferr_none_of_mono mono hf) hl
      rw [hp] at this
      simp only [base] at this ⊢
      exact body_sync_some this hb hf
  case readClosed | seekClosed | closeAgain => exact hd
  case seekSend k hm =>
    -- the producer is behind until it takes this seek: nothing to say about `sync`
    have := (hc.mid hm).2
    exact ⟨fun k' v' h => by cases h; rfl, hd.spec_ferr, hd.send_fatal, nofun, nofun,
      fun hv => absurd hv (Nat.ne_of_lt this)⟩
  case readBegin h1 =>
    refine data_frame hd (Or.inl rfl) rfl (fun _ h => h) hd.send_fatal (by simp) ?_
    intro hv hf hl
    have := hd.sync hv hf (by simp [Live, h1])
    simpa [base, h1] using this
  case drop it h1 h2 =>
    refine data_frame hd (Or.inl rfl) rfl (fun _ h => h) hd.send_fatal (by simp) ?_
    intro hv hf hl
    have := hd.sync hv hf (by simp [Live, h1])
    simpa [base, h1, h2] using this
  case seekPollDrain kv h1 hs =>
    refine data_frame hd (Or.inr rfl) rfl (fun _ h => h) hd.send_fatal (by simp) ?_
    intro hv; have := (hc.ch kv.1 kv.2 hs).2.1; simp only at hv; omega
  case seekPollBump h1 hs =>
    refine data_frame hd (Or.inl rfl) rfl (fun _ h => h) hd.send_fatal (by simp) ?_
    intro hv; have := hc.ver_le; simp only at hv; omega
  case closeBegin | closeEnd =>
    exact data_frame hd (Or.inl rfl) rfl (fun _ h => h) hd.send_fatal (by simp) (by simp [InSync, Live])
  case closeRecv _ h1 _ | closeFinal h1 _ =>
    exact data_frame hd (Or.inl rfl) rfl (fun _ h => h) (by simp) (by simp [h1]) (by simp [InSync, Live, h1])
  case initPass h1 _ | pollEmpty h1 _ =>
    refine data_frame hd (Or.inl rfl) rfl (fun _ h => h) (by simp) (fun _ h => ⟨h, rfl⟩) ?_
    intro hv hf hl
    have := hd.sync hv hf hl
    rw [h1] at this
    simpa [base] using this
  case initDone | selDone =>
    exact data_frame hd (Or.inl rfl) rfl (fun _ h => h) (by simp) (fun _ h => ⟨h, rfl⟩) (by simp [InSync])

theorem data_reachable {U g} (h : Reachable U g) : Ctl g ∧ Data U g :=
  reachable_induction (P := fun g => Ctl g ∧ Data U g) ⟨ctl_init, data_init⟩
    (fun _ _ _ hi hs => ⟨ctl_step hi.1 hs, data_step hi.1 hi.2 hs⟩) g h

end PqModel.Async
