import PqModel.Basics

/-! # Level histograms and size statistics (C05)

MIRRORS of writer_statistics.go (`accumulateAndAppendPageLevelHistogram`, `computeUnencodedByteArraySize`)
and of the accumulation in writer.go `recordPageStats` / `writeRowGroup`. Levels are `Nat`s, a histogram is
a `List Nat` of length `maxLevel + 1`. -/
namespace PqModel.LevelStats

/-- `histogram[level]++` (an out-of-range level would panic in Go; here it leaves the list alone) -/
def bump : List Nat → Nat → List Nat
  | [], _ => []
  | x :: t, 0 => (x + 1) :: t
  | x :: t, l + 1 => x :: bump t l

/-- MIRROR writer_statistics.go:57 `accumulateAndAppendPageLevelHistogram`, the per-page part: a zeroed
    block of `maxLevel+1` counters, one increment per level -/
def pageHist (maxLevel : Nat) (levels : List Nat) : List Nat :=
  levels.foldl bump (List.replicate (maxLevel + 1) 0)

/-- the column-chunk part of the same loop: the running histogram is incremented by the same levels -/
def accumulate (col : List Nat) (levels : List Nat) : List Nat := levels.foldl bump col

/-- MIRROR writer.go `recordPageStats` over the pages of a chunk: `(chunk histogram, flat page histograms)`;
    the flat list is what goes to `ColumnIndex.{repetition,definition}_level_histogram` -/
def chunkHists (maxLevel : Nat) (pages : List (List Nat)) : List Nat × List Nat :=
  pages.foldl (fun (acc : List Nat × List Nat) lv => (accumulate acc.1 lv, acc.2 ++ pageHist maxLevel lv))
    (List.replicate (maxLevel + 1) 0, [])

/-- MIRROR writer_statistics.go:11-29 `computeUnencodedByteArraySize`: the bytes of the
    non-null values of a BYTE_ARRAY page, whether the page stores them or dictionary indexes to them -/
def pageUnencoded (vals : List (List Nat)) : Nat := (vals.map List.length).sum

/-- the same function BEFORE the fix: a dictionary-encoded page counted 0 -/
def pageUnencoded_before_fix (dictEncoded : Bool) (vals : List (List Nat)) : Nat :=
  if dictEncoded then 0 else (vals.map List.length).sum

/-- MIRROR writer.go `c.totalUnencodedByteArrayBytes += …` over the pages -/
def chunkUnencoded (pages : List (List (List Nat))) : Nat := pages.foldl (fun acc p => acc + pageUnencoded p) 0

theorem bump_length : ∀ (h : List Nat) (l : Nat), (bump h l).length = h.length
  | [], _ => rfl
  | _ :: _, 0 => rfl
  | _ :: t, l + 1 => by simp [bump, bump_length t l]

theorem bump_getD : ∀ (h : List Nat) (l j : Nat), l < h.length →
    (bump h l).getD j 0 = h.getD j 0 + (if j = l then 1 else 0)
  | [], _, _, hl => by simp at hl
  | x :: t, 0, j, _ => by
    cases j with
    | zero => simp [bump]
    | succ j' => simp [bump]
  | x :: t, l + 1, j, hl => by
    cases j with
    | zero => simp [bump]
    | succ j' =>
      have := bump_getD t l j' (by simpa using hl)
      simp only [bump, List.getD_cons_succ, this]
      congr 1
      by_cases h : j' = l <;> simp [h]

theorem bump_sum : ∀ (h : List Nat) (l : Nat), l < h.length → (bump h l).sum = h.sum + 1
  | [], _, hl => by simp at hl
  | x :: t, 0, _ => by simp [bump]; omega
  | x :: t, l + 1, hl => by
    have := bump_sum t l (by simpa using hl)
    simp only [bump, List.sum_cons, this]; omega

theorem foldl_bump_spec : ∀ (levels : List Nat) (h : List Nat), (∀ x ∈ levels, x < h.length) →
    (levels.foldl bump h).length = h.length ∧
    (∀ j, (levels.foldl bump h).getD j 0 = h.getD j 0 + levels.count j) ∧
    (levels.foldl bump h).sum = h.sum + levels.length
  | [], h, _ => by simp
  | l :: rest, h, hb => by
    have hl : l < h.length := hb l (by simp)
    have ih := foldl_bump_spec rest (bump h l) (fun x hx => by rw [bump_length]; exact hb x (by simp [hx]))
    simp only [List.foldl_cons]
    refine ⟨by rw [ih.1, bump_length], ?_, ?_⟩
    · intro j
      rw [ih.2.1 j, bump_getD h l j hl, List.count_cons]
      by_cases hjl : j = l
      · subst hjl; simp; omega
      · have : (l == j) = false := by simp; omega
        simp [hjl, this]
    · rw [ih.2.2, bump_sum h l hl]; simp; omega

theorem chunkHists_fold (maxLevel : Nat) : ∀ (pages : List (List Nat)) (acc : List Nat × List Nat),
    pages.foldl (fun (acc : List Nat × List Nat) lv => (accumulate acc.1 lv, acc.2 ++ pageHist maxLevel lv)) acc =
      (accumulate acc.1 pages.flatten, acc.2 ++ pages.flatMap (pageHist maxLevel))
  | [], acc => by simp [accumulate]
  | p :: rest, acc => by
    rw [List.foldl_cons, chunkHists_fold maxLevel rest]
    simp [accumulate, List.foldl_append, List.append_assoc]

theorem pageHist_spec (maxLevel : Nat) (levels : List Nat) (hb : ∀ x ∈ levels, x ≤ maxLevel) :
    (pageHist maxLevel levels).length = maxLevel + 1 ∧
    (∀ l, (pageHist maxLevel levels).getD l 0 = levels.count l) ∧
    (pageHist maxLevel levels).sum = levels.length := by
  have h := foldl_bump_spec levels (List.replicate (maxLevel + 1) 0)
    (fun x hx => by simp only [List.length_replicate]; have := hb x hx; omega)
  refine ⟨by simpa [pageHist] using h.1, fun l => ?_, ?_⟩
  · have z : (List.replicate (maxLevel + 1) 0).getD l 0 = 0 := by
      simp only [List.getD_eq_getElem?_getD, List.getElem?_replicate]; split <;> rfl
    rw [pageHist, h.2.1 l, z, Nat.zero_add]
  · simpa [pageHist] using h.2.2

theorem chunkHists_fst (maxLevel : Nat) (pages : List (List Nat)) :
    (chunkHists maxLevel pages).1 = pageHist maxLevel pages.flatten := by
  unfold chunkHists
  rw [chunkHists_fold]
  simp [accumulate, pageHist]

theorem chunkHists_snd (maxLevel : Nat) (pages : List (List Nat)) :
    (chunkHists maxLevel pages).2 = pages.flatMap (pageHist maxLevel) := by
  unfold chunkHists
  rw [chunkHists_fold]
  simp

theorem sum_page_counts (maxLevel l : Nat) : ∀ (pages : List (List Nat)), (∀ p ∈ pages, ∀ x ∈ p, x ≤ maxLevel) →
    (pages.map (fun p => (pageHist maxLevel p).getD l 0)).sum = pages.flatten.count l
  | [], _ => by simp
  | p :: rest, hb => by
    have h1 := (pageHist_spec maxLevel p (hb p (by simp))).2.1 l
    have h2 := sum_page_counts maxLevel l rest (fun q hq => hb q (by simp [hq]))
    simp only [List.map_cons, List.sum_cons, List.flatten_cons, List.count_append, h1, h2]

theorem flatMap_pageHist_length (maxLevel : Nat) (pages : List (List Nat)) (hb : ∀ p ∈ pages, ∀ x ∈ p, x ≤ maxLevel) :
    (pages.flatMap (pageHist maxLevel)).length = pages.length * (maxLevel + 1) := by
  rw [Pieces.length_flatMap (fun p hp => (pageHist_spec maxLevel p (hb p hp)).1), Nat.mul_comm]

theorem chunkUnencoded_fold : ∀ (pages : List (List (List Nat))) (acc : Nat),
    pages.foldl (fun acc p => acc + pageUnencoded p) acc = acc + (pages.map pageUnencoded).sum
  | [], acc => by simp
  | p :: rest, acc => by rw [List.foldl_cons, chunkUnencoded_fold rest]; simp; omega

/-- one entry of a column's level stream (Dremel triple): definition level, repetition level, the value if present -/
structure Entry (α : Type) where
  dfn : Nat
  rep : Nat
  val : Option α

/-- SPEC (Dremel encoding, what the shredder produces — C03 `shred_levels_wf`): levels within the column's
    maxima and a value is present exactly at the maximal definition level -/
def Entry.WF {α} (maxDef maxRep : Nat) (e : Entry α) : Prop :=
  e.dfn ≤ maxDef ∧ e.rep ≤ maxRep ∧ (e.val = none ↔ e.dfn ≠ maxDef)

structure PageLevelStats where
  numValues : Nat
  numNulls : Nat
  numRows : Nat
  defHist : List Nat
  repHist : List Nat
  unencoded : Nat
deriving DecidableEq, Repr

/-- MIRROR level.go:11-17 `countLevelsEqual` / `countLevelsNotEqual` -/
def countLevelsEqual (levels : List Nat) (v : Nat) : Nat := levels.count v
def countLevelsNotEqual (levels : List Nat) (v : Nat) : Nat := levels.length - countLevelsEqual levels v

/-- MIRROR of what the writer records for one page of a nested column (writer.go `writePage`/`recordPageStats`):
    `NumValues` = number of level entries, `NumNulls` = `countLevelsNotEqual(def, maxDef)` (page_optional.go:34,
    page_repeated.go:38), `NumRows` = `countLevelsEqual(rep, 0)` (page_repeated.go:33), the two level histograms
    (writer_statistics.go:57) and the unencoded byte-array size of the values present (writer_statistics.go:11-29) -/
def pageLevelStats (maxDef maxRep : Nat) (page : List (Entry (List Nat))) : PageLevelStats :=
  { numValues := page.length
    numNulls := countLevelsNotEqual (page.map (·.dfn)) maxDef
    numRows := countLevelsEqual (page.map (·.rep)) 0
    defHist := pageHist maxDef (page.map (·.dfn))
    repHist := pageHist maxRep (page.map (·.rep))
    unencoded := pageUnencoded (page.filterMap (·.val)) }

/-- MIRROR column_buffer.go:92-111 `nullableColumnIndex.NullCount` / `NullPage`: the column index an in-memory
    optional / repeated column chunk (Buffer, GenericBuffer) computes on the fly from the definition levels of its
    single page. `slip = false` is the code (`countLevelsNotEqual(definitionLevels, maxDefinitionLevel)`);
    `slip = true` is the variant that counts the entries at definition level 0 only, kept to show that the two
    differ as soon as a null sits at an intermediate level (`bufferIndex_levelZero_wrong`). -/
def bufferIndexNullCount (slip : Bool) (maxDef : Nat) (defs : List Nat) : Nat :=
  if slip then countLevelsEqual defs 0 else countLevelsNotEqual defs maxDef

def bufferIndexNullPage (slip : Bool) (maxDef : Nat) (defs : List Nat) : Bool :=
  bufferIndexNullCount slip maxDef defs == defs.length

theorem count_dfn_eq_present {α} (maxDef maxRep : Nat) : ∀ (page : List (Entry α)), (∀ e ∈ page, e.WF maxDef maxRep) →
    (page.map (·.dfn)).count maxDef = (page.filterMap (·.val)).length ∧
    (page.map (·.dfn)).count maxDef + page.countP (fun e => e.val.isNone) = page.length := by
  intro page h
  -- a value is present exactly at the maximal definition level
  have hc : (page.map (·.dfn)).count maxDef = page.countP (fun e => e.val.isSome) := by
    rw [List.count_eq_countP, List.countP_map]
    refine List.countP_congr fun e he => ?_
    have := (h e he).2.2
    cases hv : e.val <;> simp_all
  refine ⟨hc.trans List.length_filterMap_eq_countP.symm, ?_⟩
  rw [hc, List.length_eq_countP_add_countP (fun e : Entry α => e.val.isSome)]
  congr 1
  exact List.countP_congr fun e _ => by cases e.val <;> simp

end PqModel.LevelStats
