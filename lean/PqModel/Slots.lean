/-! Goroutines as a list of slots: a step of goroutine `i` replaces slot `i` (`gs.set i new`) and
    changes the shared state. Two kinds of clauses are preserved for one reason each: an assertion
    every slot makes about the shared state (the new slot establishes its own, the others' are
    stable under the change), and "at most one slot per key" (mutual exclusion, ownership). -/
namespace PqModel.Slots

variable {α β : Type _}

theorem getElem?_set_some {l : List α} {i j : Nat} {a x : α} (h : (l.set i a)[j]? = some x) :
    (j = i ∧ x = a) ∨ (j ≠ i ∧ l[j]? = some x) := by
  rw [List.getElem?_set] at h
  split at h
  · next e =>
    split at h
    · exact Or.inl ⟨e.symm, (Option.some.inj h).symm⟩
    · cases h
  · next e => exact Or.inr ⟨fun e' => e e'.symm, h⟩

theorem set_same {l : List α} {i : Nat} {a : α} (h : l[i]? = some a) : l.set i a = l := by
  obtain ⟨hi, rfl⟩ := List.getElem?_eq_some_iff.mp h
  exact List.set_getElem_self hi

theorem forall_mem {l : List α} {P : α → Prop} (h : ∀ x ∈ l, P x) :
    ∀ (j : Nat) x, l[j]? = some x → P x :=
  fun _ x hj => h x (List.mem_of_getElem? hj)

theorem forall_set {l : List α} {i : Nat} {a : α} {P Q : α → Prop}
    (h : ∀ (j : Nat) x, l[j]? = some x → P x) (ha : Q a)
    (stable : ∀ (j : Nat) x, j ≠ i → l[j]? = some x → P x → Q x) :
    ∀ (j : Nat) x, (l.set i a)[j]? = some x → Q x := by
  intro j x hj
  rcases getElem?_set_some hj with ⟨_, rfl⟩ | ⟨hne, hj⟩
  · exact ha
  · exact stable j x hne hj (h j x hj)

theorem forall_set_same {l : List α} {i : Nat} {a : α} {P : α → Prop}
    (h : ∀ (j : Nat) x, l[j]? = some x → P x) (ha : P a) : ∀ (j : Nat) x, (l.set i a)[j]? = some x → P x :=
  forall_set h ha fun _ _ _ _ h => h

theorem getElem?_set_other {l : List α} {i j : Nat} {a old x : α} (hi : l[i]? = some old)
    (hj : l[j]? = some x) (ne : x ≠ old) : (l.set i a)[j]? = some x := by
  rw [List.getElem?_set_ne (fun e => ne (Option.some.inj ((e ▸ hj).symm.trans hi)))]
  exact hj

/-- at most one slot per key; `f x = none`: the slot holds no key -/
def Distinct (f : α → Option β) (l : List α) : Prop :=
  ∀ (i j : Nat) x y b, l[i]? = some x → l[j]? = some y → f x = some b → f y = some b → i = j

theorem Distinct.of_none {f : α → Option β} {l : List α} (h : ∀ x ∈ l, f x = none) : Distinct f l :=
  fun _ _ x _ _ hx _ fx _ => by rw [h x (List.mem_of_getElem? hx)] at fx; cases fx

/-- slot `i` takes a key no other slot holds -/
theorem Distinct.set {f : α → Option β} {l : List α} {i : Nat} {a : α} (h : Distinct f l)
    (ha : ∀ (j : Nat) x b, j ≠ i → l[j]? = some x → f a = some b → f x ≠ some b) :
    Distinct f (l.set i a) := by
  intro j j' x y b hx hy fx fy
  rcases getElem?_set_some hx with ⟨rfl, rfl⟩ | ⟨hne, hx'⟩ <;>
    rcases getElem?_set_some hy with ⟨rfl, rfl⟩ | ⟨hne', hy'⟩
  · rfl
  · exact absurd fy (ha _ _ _ hne' hy' fx)
  · exact absurd fx (ha _ _ _ hne hx' fy)
  · exact h _ _ _ _ _ hx' hy' fx fy

/-- slot `i` keeps its key or drops it -/
theorem Distinct.set_of {f : α → Option β} {l : List α} {i : Nat} {a old : α}
    (h : Distinct f l) (hi : l[i]? = some old) (ha : ∀ b, f a = some b → f old = some b) :
    Distinct f (l.set i a) :=
  h.set fun j x b hne hx fa fx => hne (h j i x old b hx hi fx (ha b fa))

end PqModel.Slots
