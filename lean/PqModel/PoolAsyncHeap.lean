import PqModel.PoolAsync
import PqModel.Pool

/-! The storage operations of `PqModel.PoolAsync` are the buffer operations of `PqModel.Pool`
(MIRROR of buffer.go `ref` / `unref` / `bufferPool.get`, the ones the buffer-event replay `pool.trace` of the harness runs
against the library's recorded get/ref/unref events): a simulation. So what `Pool` proves about its
heap (`Props.C16.get_never_returns_aliased`: a later `get` returns only pooled buffers) applies to the storages
of the asynchronous reader: a storage that is not `pooled` here is not `inPool` there. -/
namespace PqModel.PoolAsync
open PqModel

structure Agree (h : Hp) (H : Pool.Heap) : Prop where
  bug : h.bug = true ↔ H.bug ≠ none
  n : H.nbufs = h.nbuf
  refc : ∀ b, (H.bufs b).refc = h.refc b
  -- below `nbuf` only: `Pool.Heap.init` has the unseen buffers pooled, `Hp` has them not
  pool : ∀ b, b < h.nbuf → (H.bufs b).inPool = h.pooled b

theorem agree_init : Agree init.h Pool.Heap.init := by
  constructor <;> simp [init, Pool.Heap.init]

theorem Agree.set {h h' : Hp} {H : Pool.Heap} (a : Agree h H) {b n : Nat} {x : Pool.Buf}
    (hbug : h'.bug = h.bug) (hn : n = h'.nbuf) (hold : ∀ j, j < h'.nbuf → j ≠ b → j < h.nbuf)
    (hoth : ∀ j, j ≠ b → h'.refc j = h.refc j ∧ h'.pooled j = h.pooled j)
    (hr : x.refc = h'.refc b) (hp : b < h'.nbuf → x.inPool = h'.pooled b) :
    Agree h' { H with bufs := Pool.upd H.bufs b x, nbufs := n } := by
  exact ⟨by rw [hbug]; exact a.bug, hn,
    Pool.upd_forall (P := fun j (y : Pool.Buf) => y.refc = h'.refc j) hr fun j e => by rw [(hoth j e).1]; exact a.refc j,
    Pool.upd_forall (P := fun j (y : Pool.Buf) => j < h'.nbuf → y.inPool = h'.pooled j) hp fun j e hj => by
      rw [(hoth j e).2]; exact a.pool j (hold j hj e)⟩

theorem agree_unref {h H b} (a : Agree h H) (hw : Pool.HW H) :
    Agree (h.unref (some b)) (H.unref b) := by
  have hr := a.refc b
  simp only [Hp.unref, Pool.Heap.unref, hr]
  split
  · exact ⟨by simp, a.n, a.refc, a.pool⟩
  · rename_i h0
    split
    · rename_i h1
      exact a.set rfl a.n (fun _ hj _ => hj) (fun j e => ⟨if_neg e, if_neg e⟩)
        (by simp only [↓reduceIte, h1]) (fun _ => by simp only [↓reduceIte, h1, decide_true])
    · rename_i h1
      have hnp : (H.bufs b).inPool = false := Pool.notPool_of_pos hw (by omega)
      exact a.set rfl a.n (fun _ hj _ => hj) (fun j e => ⟨if_neg e, if_neg e⟩)
        (by simp only [↓reduceIte]) (fun _ => by simp only [↓reduceIte, h1, decide_false]; exact hnp)

theorem agree_ref {h H b} (a : Agree h H) : Agree (h.ref b) (H.ref b) := by
  have hr := a.refc b
  simp only [Hp.ref, Pool.Heap.ref, hr]
  split
  · exact ⟨by simp, a.n, a.refc, a.pool⟩
  · exact a.set rfl a.n (fun _ hj _ => hj) (fun j e => ⟨if_neg e, rfl⟩) (by simp only [↓reduceIte])
      (a.pool b)

/-- decoding a page into a buffer nobody has seen (`bufferPool.get` answered by `newT`: the pick is
    not pooled), then `Retain` for the cache: `Hp.alloc`; without the Retain: `Hp.alloc1` -/
theorem agree_alloc {h H d} (a : Agree h H) (hw : Pool.HW H) :
    Agree h.alloc1 (H.get H.nbufs d).1 ∧ Agree h.alloc ((H.get H.nbufs d).1.ref H.nbufs) := by
  have hpl : (H.bufs H.nbufs).inPool = true := (hw.pool _).mpr (hw.fresh H.nbufs (Nat.le_refl _))
  have A1 : Agree h.alloc1 (H.get H.nbufs d).1 := by
    have e : (H.get H.nbufs d).1 = { H with bufs := Pool.upd H.bufs H.nbufs ⟨1, false, 0, d⟩,
                                            nbufs := max H.nbufs (H.nbufs + 1) } := by
      simp only [Pool.Heap.get, hpl, if_true]
    rw [e, a.n]
    exact a.set rfl (Nat.max_eq_right (Nat.le_succ _))
      (fun j hj e => Nat.lt_of_le_of_ne (Nat.le_of_lt_succ hj) e)
      (fun j e => ⟨if_neg e, if_neg e⟩) (if_pos rfl).symm (fun _ => (if_pos rfl).symm)
  refine ⟨A1, ?_⟩
  rw [Hp.alloc_eq, ← a.n]
  exact agree_ref A1

end PqModel.PoolAsync
