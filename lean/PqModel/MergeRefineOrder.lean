import PqModel.MergeRefineProof

/-! # C09 — the two order facts the sweep of `refineSegment` relies on, on the merge's own comparator

`cutAbove_conservative` / `cutBelow_conservative` speak about the first sorting column in sort order.
The planner's argument (merge_refine.go:15-24: "every row of a region compares at most equal to every
row of the following regions") needs them on `compare`, the lexicographic comparator of all sorting
columns: a strict inequality on the first column decides the comparison. So every row at or after `cutAbove(leftK)`
is after every row that is at most `leftK` (the row groups whose ranges ended), and every row before
`cutBelow(rightK)` is before every row that is at least `rightK` (those that start there or later). OPEN: the sweep
invariant that identifies, at every slice, the rows already planned with "at most `leftK`" and the rows still to
come with "at least `rightK`". -/
namespace PqModel.Refine
open PqModel.Compare

theorem colCmp_lt_of_ord (s : ColSpec) (x y : Int) (h : ord s.desc x < ord s.desc y) :
    colCmp s (some x) (some y) < 0 := by
  unfold colCmp
  cases hd : s.desc <;> cases hn : s.nullsFirst <;>
    simp only [hd, ord, Bool.false_eq_true, if_false, if_true, nullsFirst, nullsLast, descending, cmpInt] at h ⊢ <;>
    (split <;> (try split) <;> omega)

/-- a strict inequality on the first sorting column, in sort order, decides the whole comparison -/
theorem cmpRows_lt_of_first (s : ColSpec) (ss : List ColSpec) (a b : KeyRow) (x y : Int)
    (ha : a.getD 0 none = some x) (hb : b.getD 0 none = some y) (h : ord s.desc x < ord s.desc y) :
    cmpRows (s :: ss) a b < 0 := by
  unfold cmpRows
  simp only [colComparators]
  rw [cmpLex_lt]
  left
  simp only [onCol, ha, hb]
  exact colCmp_lt_of_ord s x y h

/-- the rows of a row group as the comparator sees them, tied to the first-column values `vals` that
    `PagesOk` is about -/
def FirstCol (desc : Bool) (rows : List KeyRow) (vals : List Int) : Prop :=
  rows.length = vals.length ∧
  ∀ r, r < rows.length → ∃ v, (rows.getD r []).getD 0 none = some v ∧ ord desc v = vals.getD r 0

theorem rows_from_cutAbove_after (s : ColSpec) (ss : List ColSpec) {t : Target} {vals : List Int}
    (h : PagesOk s.desc t vals) (rows : List KeyRow) (hf : FirstCol s.desc rows vals)
    (leftK : KeyRow) (kv : Int) (hk : leftK.getD 0 none = some kv)
    (a : KeyRow) (ha : cmpRows (s :: ss) a leftK ≤ 0)
    (r : Nat) (hr : cutAbove s.desc t leftK ≤ r) (hlt : r < t.numRows) :
    cmpRows (s :: ss) a (rows.getD r []) < 0 := by
  have hc := cutAbove_conservative h leftK kv hk r hr hlt
  obtain ⟨v, hv, hov⟩ := hf.2 r (by rw [hf.1, h.rows]; exact hlt)
  have := cmpRows_lt_of_first s ss leftK (rows.getD r []) kv v hk hv (by omega)
  exact (cmpRows_lawful (s :: ss)).lt_of_le_of_lt ha this

theorem rows_to_cutBelow_before (s : ColSpec) (ss : List ColSpec) {t : Target} {vals : List Int}
    (h : PagesOk s.desc t vals) (rows : List KeyRow) (hf : FirstCol s.desc rows vals)
    (rightK : KeyRow) (kv : Int) (hk : rightK.getD 0 none = some kv)
    (b : KeyRow) (hb : cmpRows (s :: ss) rightK b ≤ 0)
    (r : Nat) (hr : r < cutBelow s.desc t rightK) (hlt : r < t.numRows) :
    cmpRows (s :: ss) (rows.getD r []) b < 0 := by
  have hc := cutBelow_conservative h rightK kv hk r hr
  obtain ⟨v, hv, hov⟩ := hf.2 r (by rw [hf.1, h.rows]; exact hlt)
  have := cmpRows_lt_of_first s ss (rows.getD r []) rightK v kv hv hk (by omega)
  exact (cmpRows_lawful (s :: ss)).lt_of_lt_of_le this hb

end PqModel.Refine
