/-! # Little-endian byte strings and the numbers they denote (base 256, bytes as `UInt8`)

`leBytes n x` are the `n` low-order bytes of `x`, least significant first; `leVal bs` is the number with those
digits. The models define the two under their own names; each such definition is bridged to this pair by one lemma
next to it. The pair on bytes modelled as `Nat` (`Rle.leBytes`, `Rle.leNat`) has its lemmas in `BitsBytes.lean`. -/
namespace PqModel.LE

def leBytes : Nat → Nat → List UInt8
  | 0, _ => []
  | n + 1, x => UInt8.ofNat (x % 256) :: leBytes n (x / 256)

def leVal : List UInt8 → Nat
  | [] => 0
  | b :: bs => b.toNat + 256 * leVal bs

theorem toNat_ofNat_mod (x : Nat) : (UInt8.ofNat (x % 256)).toNat = x % 256 := by
  rw [UInt8.toNat_ofNat']; exact Nat.mod_mod _ 256

theorem two_pow_eight_mul (n : Nat) : 2 ^ (8 * n) = 256 ^ n := Nat.pow_mul 2 8 n

theorem leBytes_length : ∀ n x, (leBytes n x).length = n
  | 0, _ => rfl
  | n + 1, x => congrArg (· + 1) (leBytes_length n (x / 256))

theorem leVal_lt : ∀ bs : List UInt8, leVal bs < 256 ^ bs.length
  | [] => Nat.one_pos
  | b :: bs => by
    have ih := leVal_lt bs
    have hb := b.toNat_lt
    rw [leVal, List.length_cons, Nat.pow_succ]
    omega

theorem leVal_leBytes : ∀ n x, leVal (leBytes n x) = x % 256 ^ n
  | 0, x => (Nat.mod_one x).symm
  | n + 1, x => by
    rw [leBytes, leVal, leVal_leBytes n, toNat_ofNat_mod, Nat.pow_succ, Nat.mul_comm (256 ^ n) 256, Nat.mod_mul]

theorem leVal_leBytes_of_lt {n x : Nat} (h : x < 256 ^ n) : leVal (leBytes n x) = x := by
  rw [leVal_leBytes, Nat.mod_eq_of_lt h]

theorem leBytes_leVal : ∀ bs : List UInt8, leBytes bs.length (leVal bs) = bs
  | [] => rfl
  | b :: bs => by
    have hb := b.toNat_lt
    have h1 : (b.toNat + 256 * leVal bs) % 256 = b.toNat := by omega
    have h2 : (b.toNat + 256 * leVal bs) / 256 = leVal bs := by omega
    rw [leVal, List.length_cons, leBytes, h1, h2, leBytes_leVal bs, UInt8.ofNat_toNat]

theorem leBytes_inj {n x y : Nat} (hx : x < 256 ^ n) (hy : y < 256 ^ n) (h : leBytes n x = leBytes n y) : x = y := by
  rw [← leVal_leBytes_of_lt hx, ← leVal_leBytes_of_lt hy, h]

theorem leVal_append : ∀ a b : List UInt8, leVal (a ++ b) = leVal a + 256 ^ a.length * leVal b
  | [], b => by simp [leVal]
  | x :: a, b => by
    rw [List.cons_append, leVal, leVal, leVal_append a b, List.length_cons, Nat.pow_succ, Nat.mul_add,
      Nat.mul_comm (256 ^ a.length) 256, Nat.mul_assoc, Nat.add_assoc]

theorem leVal_replicate_zero : ∀ k : Nat, leVal (List.replicate k 0) = 0
  | 0 => rfl
  | k + 1 => by rw [List.replicate_succ, leVal, leVal_replicate_zero k]; rfl

theorem leVal_append_zeros (bs : List UInt8) (k : Nat) : leVal (bs ++ List.replicate k 0) = leVal bs := by
  rw [leVal_append, leVal_replicate_zero, Nat.mul_zero, Nat.add_zero]

theorem leBytes_two (n : Nat) : leBytes 2 n = [UInt8.ofNat (n % 256), UInt8.ofNat (n / 256 % 256)] := rfl

theorem leBytes_four (n : Nat) : leBytes 4 n =
    [UInt8.ofNat (n % 256), UInt8.ofNat (n / 256 % 256), UInt8.ofNat (n / 65536 % 256),
      UInt8.ofNat (n / 16777216 % 256)] := by
  simp only [leBytes, Nat.div_div_eq_div_mul]

theorem leVal_two (a b : UInt8) : leVal [a, b] = a.toNat + 256 * b.toNat := by
  simp only [leVal]; omega

theorem leVal_four (a b c d : UInt8) :
    leVal [a, b, c, d] = a.toNat + 256 * b.toNat + 65536 * c.toNat + 16777216 * d.toNat := by
  simp only [leVal]; omega

theorem leVal_four_bytes {n : Nat} (h : n < 4294967296) :
    (UInt8.ofNat (n % 256)).toNat + 256 * (UInt8.ofNat (n / 256 % 256)).toNat +
      65536 * (UInt8.ofNat (n / 65536 % 256)).toNat + 16777216 * (UInt8.ofNat (n / 16777216 % 256)).toNat = n := by
  rw [← leVal_four, ← leBytes_four, leVal_leBytes_of_lt h]

end PqModel.LE
