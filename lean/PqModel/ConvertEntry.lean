import PqModel.Convert

/-! # C12: the entry points that decide WHETHER a conversion is installed, and the deprecated
    `Reader` whose target type may change between `Read` calls

* MIRRORS of `EqualNodes` / `SameNodes` (node.go:608-693) on the named schemas of `Convert.lean`
  (`equalN`, `sameN`), and of the shape every reader entry point has (reader.go:63, :96, :349,
  :428; row.go:318; convert.go:415, :654): `if !EqualNodes(target, source) { convert }`
  (`readVia`).
* MIRROR of `reader.init/Reset/SeekToRow/ReadRows` and `Reader.Read/updateReadSchema`
  (reader.go:394-440, :496-562) as a small state machine over "which view were the cached rows
  opened on, and where do they stand" (`Rd`), plus the variant of `init` that keeps the cached
  rows (`Rd.initBeforeFix`).

SPEC side: `projN`/`shred` of `Convert.lean`; for the reader: the k-th `Read` call yields row k seen
through the target of THAT call. -/
namespace PqModel.Convert
open PqModel.Dremel

mutual
/-- MIRROR of `EqualNodes` (node.go:608-614, `groupNodesAreEqual` :640-653, `fieldsAreEqual`
    :678-693): same kind, same number of fields, and position by position the same name, the same
    repetition type and equal nodes. (Leaf types and logical types are not part of `PNode`.) -/
def equalN : PNode → PNode → Bool
  | .leaf, .leaf => true
  | .group a, .group b => equalF a b
  | _, _ => false
def equalF : PFields → PFields → Bool
  | .nil, .nil => true
  | .cons n1 r1 a as, .cons n2 r2 b bs => n1 == n2 && r1 == r2 && equalN a b && equalF as bs
  | _, _ => false
end

def lenF : PFields → Nat
  | .nil => 0
  | .cons _ _ _ fs => lenF fs + 1

mutual
/-- MIRROR of `SameNodes` (node.go:624-630, `groupNodesAreSame` :655-676): the same number of
    fields, and after sorting both field lists by name, position by position the same name, the
    same repetition type and `SameNodes` nodes. With unique field names (assumption of C12:
    `parquet.Group` is a map) sorting + positional comparison is the lookup by name used here. -/
def sameN : PNode → PNode → Bool
  | .leaf, .leaf => true
  | .group a, .group b => lenF a == lenF b && sameF a b
  | _, _ => false
def sameF : PFields → PFields → Bool
  | .nil, _ => true
  | .cons nm rp n fs, b =>
    (match getFld nm b with
     | some (rp', n') => rp == rp' && sameN n n'
     | none => false) && sameF fs b
end

/-- MIRROR of the reader entry points (reader.go:63-65, :96-98, :349-358, :428-436; row.go:318-331):
    the rows are handed out as they are stored when the guard says the schemas agree, else through
    `Convert(target, source)`. `guard` is `EqualNodes` in the code. -/
def readVia (guard : PNode → PNode → Bool) (src tgt : PNode) (row : Cols) : Cols :=
  if guard tgt src then row else convertRow src tgt row

def namesF : PFields → List Nat
  | .nil => []
  | .cons nm _ _ fs => nm :: namesF fs

mutual
/-- field names are unique within every group (C12 assumption) -/
def nodupN : PNode → Bool
  | .leaf => true
  | .group fs => nodupF fs
def nodupF : PFields → Bool
  | .nil => true
  | .cons nm _ n fs => !(namesF fs).contains nm && nodupN n && nodupF fs
end

mutual
theorem equalN_eq : ∀ (s t : PNode), equalN s t = true → s = t
  | .leaf, .leaf, _ => rfl
  | .leaf, .group _, h => by simp [equalN] at h
  | .group _, .leaf, h => by simp [equalN] at h
  | .group a, .group b, h => by
    simp only [equalN] at h
    rw [equalF_eq a b h]
theorem equalF_eq : ∀ (a b : PFields), equalF a b = true → a = b
  | .nil, .nil, _ => rfl
  | .nil, .cons _ _ _ _, h => by simp [equalF] at h
  | .cons _ _ _ _, .nil, h => by simp [equalF] at h
  | .cons n1 r1 x xs, .cons n2 r2 y ys, h => by
    simp only [equalF, Bool.and_eq_true, beq_iff_eq] at h
    obtain ⟨⟨⟨h1, h2⟩, h3⟩, h4⟩ := h
    rw [h1, h2, equalN_eq x y h3, equalF_eq xs ys h4]
end

mutual
theorem equalN_refl : ∀ (s : PNode), equalN s s = true
  | .leaf => rfl
  | .group a => by simp only [equalN]; exact equalF_refl a
theorem equalF_refl : ∀ (a : PFields), equalF a a = true
  | .nil => rfl
  | .cons n r x xs => by simp [equalF, equalN_refl x, equalF_refl xs]
end

/-- fields given as a plain list, put in front of `fs` -/
def appF : List (Nat × Rp × PNode) → PFields → PFields
  | [], fs => fs
  | (nm, rp, n) :: pre, fs => .cons nm rp n (appF pre fs)

theorem appF_snoc : ∀ (pre : List (Nat × Rp × PNode)) (nm : Nat) (rp : Rp) (n : PNode) (fs : PFields),
    appF (pre ++ [(nm, rp, n)]) fs = appF pre (.cons nm rp n fs)
  | [], _, _, _, _ => rfl
  | (_, _, _) :: pre, nm, rp, n, fs => by
    simp only [List.cons_append, appF]
    rw [appF_snoc pre nm rp n fs]

theorem findV_skip (nm : Nat) : ∀ (pre : List (Nat × Rp × PNode)) (pvs : List Val) (fs : PFields) (tvs : List Val),
    pvs.length = pre.length → (∀ x ∈ pre, x.1 ≠ nm) →
    findV nm (appF pre fs) (pvs ++ tvs) = findV nm fs tvs
  | [], pvs, fs, tvs, hl, _ => by
    have : pvs = [] := List.eq_nil_of_length_eq_zero (by simpa using hl)
    subst this
    rfl
  | (nm', rp, n) :: pre, pvs, fs, tvs, hl, hne => by
    cases pvs with
    | nil => simp at hl
    | cons p pvs =>
      have h1 : nm' ≠ nm := hne (nm', rp, n) (by simp)
      simp only [appF, List.cons_append, findV, if_neg h1]
      exact findV_skip nm pre pvs fs tvs (by simpa using hl) (fun x hx => hne x (by simp [hx]))

theorem sameKind_refl : ∀ (n : PNode), sameKind n n = true
  | .leaf => rfl
  | .group _ => rfl

mutual
/- `projF` looks every target field up in the WHOLE source list: `pre`/`pvs` are the fields (and
   values) already passed, kept in front so that the list searched stays the same. -/
theorem projN_self : ∀ (s : PNode) (v : Val), nodupN s = true → confN (eraseN s) v = true → projN s s v = v
  | .leaf, v, _, hc => by
    obtain ⟨x, rfl⟩ := confN_leaf hc
    rfl
  | .group fs, v, hn, hc => by
    obtain ⟨vs, rfl, hc⟩ := confN_group hc
    have := projF_self fs [] [] vs rfl (by simp) hn hc
    simp only [appF, List.nil_append] at this
    rw [projN, this]
theorem projF_self : ∀ (tfs : PFields) (pre : List (Nat × Rp × PNode)) (pvs tvs : List Val),
    pvs.length = pre.length → (∀ x ∈ pre, ¬ (namesF tfs).contains x.1 = true) →
    nodupF tfs = true → confF (eraseF tfs) tvs = true →
    projF (appF pre tfs) (pvs ++ tvs) tfs = tvs
  | .nil, _, _, tvs, _, _, _, hc => by
    simp only [eraseF, confF, List.isEmpty_iff] at hc
    simp [projF, hc]
  | .cons nm rp t tfs, pre, pvs, tvs, hl, hd, hn, hc => by
    obtain ⟨v, tvs, rfl, hcv, hcs⟩ := confF_cons hc
    simp only [nodupF, Bool.and_eq_true, Bool.not_eq_true'] at hn
    obtain ⟨⟨hnm, hnt⟩, hnf⟩ := hn
    -- the field itself is found behind the prefix ...
    have hfind : findV nm (appF pre (.cons nm rp t tfs)) (pvs ++ v :: tvs) = some (rp, t, v) := by
      rw [findV_skip nm pre pvs _ _ hl (fun x hx hxe => hd x hx (by simp [namesF, hxe]))]
      simp [findV]
    -- ... and joins the prefix for the remaining fields
    have htail : projF (appF pre (.cons nm rp t tfs)) (pvs ++ v :: tvs) tfs = tvs := by
      have := projF_self tfs (pre ++ [(nm, rp, t)]) (pvs ++ [v]) tvs (by simp [hl])
        (by
          intro x hx
          rcases List.mem_append.mp hx with hx | hx
          · have := hd x hx
            simp only [namesF, List.contains_cons, Bool.or_eq_true, not_or] at this
            exact this.2
          · rw [List.mem_singleton.mp hx]
            simpa [List.contains_iff_mem] using hnm)
        hnf hcs
      rw [appF_snoc, List.append_assoc] at this
      exact this
    simp only [projF, hfind, sameKind_refl, if_true, htail]
    congr 1
    cases rp with
    | req => exact projN_self t v hnt hcv
    | opt =>
      rcases confN_opt hcv with rfl | ⟨w, rfl, hcw⟩
      · rfl
      · simp only [projN_self t w hnt hcw]
    | rpt =>
      obtain ⟨ws, rfl, hcw⟩ := confN_rpt hcv
      simp only
      congr 1
      exact ListFacts.map_id_of (fun w hw => projN_self t w hnt (hcw w hw))
end

/-! ## the deprecated `Reader`: one row cursor, a target that may change between `Read` calls -/

/-- State of `Reader` as far as `Read` is concerned. `τ` names a target type (and with it the view
    = converted row group that `updateReadSchema` installs for it).
    `seen`: `Reader.seen`; `view`: `reader.rowGroup`; `rows`: `reader.rows` = the view the cached
    `Rows` were opened on and the row they stand at; `idx`: `reader.rowIndex`; `cur`:
    `Reader.rowIndex` (the shared cursor). -/
structure Rd (τ : Type) where
  seen : Option τ
  view : Option τ
  rows : Option (τ × Nat)
  idx : Nat
  cur : Nat

def Rd.fresh {τ : Type} : Rd τ := ⟨none, none, none, 0, 0⟩

/-- MIRROR of `reader.init` (reader.go:496-508): the cached rows are closed and
    forgotten, then `Reset` (rowIndex = 0). -/
def Rd.init {τ : Type} (st : Rd τ) (t : τ) : Rd τ :=
  { st with view := some t, rows := none, idx := 0 }

/-- MIRROR of `reader.init` before /repo 5bc718f: `Reset` (reader.go:510-530) rewinds rows that have a
    `Reset` method (rowGroupRows has) and keeps them, whatever row group they were opened on. -/
def Rd.initBeforeFix {τ : Type} (st : Rd τ) (t : τ) : Rd τ :=
  { st with view := some t, rows := st.rows.map (fun p => (p.1, 0)), idx := 0 }

/-- MIRROR of `reader.SeekToRow` (reader.go:549-562) -/
def Rd.seek {τ : Type} (st : Rd τ) (k : Nat) : Rd τ :=
  if k ≠ st.idx then { st with rows := st.rows.map (fun p => (p.1, k)), idx := k } else st

/-- MIRROR of `reader.ReadRows` (reader.go:532-547) for a buffer of one row out of `n`: opens the
    rows on the CURRENT view when none are cached (seeking to `rowIndex`), then reads one row.
    Result: the view and the index of the row handed out (`none` = io.EOF). -/
def Rd.readOne {τ : Type} (st : Rd τ) (n : Nat) : Option (τ × Nat) × Rd τ :=
  match st.view with
  | none => (none, st)
  | some v =>
    let (w, p) := match st.rows with
      | some r => r
      | none => (v, st.idx)
    if p < n then (some (w, p), { st with rows := some (w, p + 1), idx := st.idx + 1 })
    else (none, { st with rows := some (w, p) })

/-- MIRROR of `Reader.Read` (reader.go:394-423) with `updateReadSchema` (:425-440): a new target
    type installs its view through `init`; the shared cursor is sought; one row is read. -/
def Rd.read {τ : Type} [DecidableEq τ] (ini : Rd τ → τ → Rd τ) (n : Nat) (st : Rd τ) (t : τ) : Option (τ × Nat) × Rd τ :=
  let st := if st.seen = some t then st else { (ini st t) with seen := some t }
  let st := st.seek st.cur
  match st.readOne n with
  | (some r, st') => (some r, { st' with cur := st'.cur + 1 })
  | (none, st') => (none, st')

def Rd.run {τ : Type} [DecidableEq τ] (ini : Rd τ → τ → Rd τ) (n : Nat) : Rd τ → List τ → List (Option (τ × Nat))
  | _, [] => []
  | st, t :: ts => (Rd.read ini n st t).1 :: Rd.run ini n (Rd.read ini n st t).2 ts

/-- SPEC: the k-th call (counting from `k0`) yields row k through the target of that call, or
    io.EOF past the last row -/
def Rd.spec {τ : Type} (n : Nat) : Nat → List τ → List (Option (τ × Nat))
  | _, [] => []
  | k, t :: ts => (if k < n then some (t, k) else none) :: Rd.spec n (if k < n then k + 1 else k) ts

/-- invariant of the repaired reader between `Read` calls: cached rows, if any, were opened on the
    view of the type seen last and stand at the shared cursor -/
def Rd.ok {τ : Type} (st : Rd τ) : Prop :=
  st.view = st.seen ∧ st.idx = st.cur ∧ (∀ r, st.rows = some r → some r.1 = st.seen ∧ r.2 = st.cur)

theorem Rd.read_ok {τ : Type} [DecidableEq τ] (n : Nat) (st : Rd τ) (t : τ) (h : st.ok) :
    (Rd.read Rd.init n st t).1 = (if st.cur < n then some (t, st.cur) else none) ∧
    (Rd.read Rd.init n st t).2.ok ∧
    (Rd.read Rd.init n st t).2.cur = (if st.cur < n then st.cur + 1 else st.cur) := by
  obtain ⟨hv, hi, hr⟩ := h
  rcases st with ⟨seen, view, rows, idx, cur⟩
  simp only at hv hi hr
  subst hv hi
  by_cases hs : view = some t
  · -- same target as before
    subst hs
    cases rows with
    | none =>
      by_cases hlt : idx < n <;> simp [Rd.read, Rd.seek, Rd.readOne, Rd.ok, hlt]
    | some r =>
      obtain ⟨h1, h2⟩ := hr r rfl
      rcases r with ⟨w, p⟩
      simp only [Option.some.injEq] at h1
      simp only at h2
      subst h1 h2
      by_cases hlt : p < n <;> simp [Rd.read, Rd.seek, Rd.readOne, Rd.ok, hlt]
  · -- the target changes: init drops the cached rows; `idx = 0`: then `Rd.seek` to `cur = 0` is a no-op
    by_cases h0 : idx = 0
    · subst h0
      by_cases hlt : 0 < n <;> simp [Rd.read, Rd.init, Rd.seek, Rd.readOne, Rd.ok, hs, hlt]
    · by_cases hlt : idx < n <;> simp [Rd.read, Rd.init, Rd.seek, Rd.readOne, Rd.ok, hs, hlt, h0]

end PqModel.Convert
