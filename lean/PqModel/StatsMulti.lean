import PqModel.Stats

/-! # The column index of several row groups seen as one chunk (C05): order claims across chunk borders

`parquet.MultiRowGroup(...)` (and every merge that produces one) answers `ColumnChunk.ColumnIndex()` with a
`multiColumnIndex` (multi_row_group.go): the pages of the member chunks one after the other, each entry read
from the member's own index, and `IsAscending()` / `IsDescending()` RECOMPUTED: every member must make the
claim itself, and the members must line up at the borders. A reader prunes / binary-searches by that claim
exactly as by a file's `boundary_order`, so it is a "claimed boundary order" of C05.

MIRRORS: `ascSeams`/`descSeams`/`multiAsc`/`multiDesc` transliterate the REPAIRED `IsAscending`/`IsDescending`
(one pass carrying the bound of the last non-null page seen so far); `ascSeams_before_fix`/`descSeams_before_fix`
transliterate the code before the repair (adjacent members only; the descending check looked at the wrong ends).
SPEC: `multiPages` (the concatenation) and the `Pairwise` statements of `Props/C05Multi.lean`; `recordedBytes` = the
truncated entries of a BYTE_ARRAY member. -/
namespace PqModel.Stats

/-- what `multiColumnIndex` reads of one member chunk's `ColumnIndex`: one entry per page (`none` = `NullPage`)
    and the member's own `IsAscending()` / `IsDescending()` -/
structure MChunk (α : Type) where
  pages : List (Option (α × α))
  asc : Bool
  desc : Bool

/-- SPEC: the pages of the view are the members' pages one after the other (`mapPageIndex`, tied in C06) -/
def multiPages {α} (cs : List (MChunk α)) : List (Option (α × α)) := (cs.map (·.pages)).flatten

def lastOr {α} (p : α) : List α → α
  | [] => p
  | q :: qs => lastOr q qs

/-- MIRROR multi_row_group.go `(*multiColumnIndex).IsAscending` seam loop + `nonNullPageRange`; each member is
    given as the entries of its non-null pages (`pairsOf`), `prev` = `prevMax`/`hasPrev`. `cmp(prevMax, min) > 0`
    is `lt min prevMax`. A member without non-null page is skipped and does not reset `prev`. -/
def ascSeams {α} (lt : α → α → Bool) : Option α → List (List (α × α)) → Bool
  | _, [] => true
  | prev, [] :: rest => ascSeams lt prev rest
  | prev, (p :: ps) :: rest =>
    (match prev with
      | some m => !lt p.1 m
      | none => true) && ascSeams lt (some (lastOr p ps).2) rest

/-- MIRROR `(*multiColumnIndex).IsDescending` seam loop: `prev` = `prevMin`; `cmp(prevMin, max) < 0` is `lt prevMin max` -/
def descSeams {α} (lt : α → α → Bool) : Option α → List (List (α × α)) → Bool
  | _, [] => true
  | prev, [] :: rest => descSeams lt prev rest
  | prev, (p :: ps) :: rest =>
    (match prev with
      | some m => !lt m p.2
      | none => true) && descSeams lt (some (lastOr p ps).1) rest

/-- MIRROR `IsAscending()`: no member ⇒ false; every member claims ascending; the seams line up -/
def multiAsc {α} (o : ColOrder α) (cs : List (MChunk α)) : Bool :=
  !cs.isEmpty && cs.all (·.asc) && ascSeams o.lt none (cs.map (fun c => pairsOf c.pages))

/-- MIRROR `IsDescending()` -/
def multiDesc {α} (o : ColOrder α) (cs : List (MChunk α)) : Bool :=
  !cs.isEmpty && cs.all (·.desc) && descSeams o.lt none (cs.map (fun c => pairsOf c.pages))

/-- MIRROR of `IsAscending` before the repair: ADJACENT members only, a pair is compared when both have a
    non-null page (last of the current against first of the next) -/
def ascSeams_before_fix {α} (lt : α → α → Bool) : List (List (α × α)) → Bool
  | [] => true
  | [_] => true
  | cur :: nxt :: rest =>
    (match cur, nxt with
      | p :: ps, q :: _ => !lt q.1 (lastOr p ps).2
      | _, _ => true) && ascSeams_before_fix lt (nxt :: rest)

/-- MIRROR of `IsDescending` before the repair: the FIRST non-null page of the current member against the LAST
    non-null page of the next (`cmp(currMin, nextMax) < 0` ⇒ false) -/
def descSeams_before_fix {α} (lt : α → α → Bool) : List (List (α × α)) → Bool
  | [] => true
  | [_] => true
  | cur :: nxt :: rest =>
    (match cur, nxt with
      | p :: _, q :: qs => !lt p.1 (lastOr q qs).2
      | _, _ => true) && descSeams_before_fix lt (nxt :: rest)

def multiAsc_before_fix {α} (o : ColOrder α) (cs : List (MChunk α)) : Bool :=
  !cs.isEmpty && cs.all (·.asc) && ascSeams_before_fix o.lt (cs.map (fun c => pairsOf c.pages))

def multiDesc_before_fix {α} (o : ColOrder α) (cs : List (MChunk α)) : Bool :=
  !cs.isEmpty && cs.all (·.desc) && descSeams_before_fix o.lt (cs.map (fun c => pairsOf c.pages))

theorem lastOr_mem {α} : ∀ (ps : List α) (p : α), lastOr p ps ∈ p :: ps
  | [], p => by simp [lastOr]
  | q :: qs, p => by
    simp only [lastOr]
    exact List.mem_cons_of_mem _ (lastOr_mem qs q)

theorem le_lastOr {α} (R : α → α → Prop) (hrefl : ∀ a, R a a) :
    ∀ (ps : List α) (p : α), (p :: ps).Pairwise R → ∀ x ∈ p :: ps, R x (lastOr p ps)
  | [], p, _, x, hx => by
    simp only [List.mem_cons, List.not_mem_nil, or_false] at hx
    subst hx; exact hrefl _
  | q :: qs, p, hpw, x, hx => by
    simp only [lastOr]
    rcases List.pairwise_cons.mp hpw with ⟨hhead, htail⟩
    rcases List.mem_cons.mp hx with hx | hx
    · subst hx; exact hhead _ (lastOr_mem qs q)
    · exact le_lastOr R hrefl qs q htail x hx

theorem descSeams_eq_flip {α} (lt : α → α → Bool) : ∀ (L : List (List (α × α))) (prev : Option α),
    descSeams lt prev L = ascSeams (fun a b => lt b a) prev (L.map (fun l => l.map Prod.swap))
  | [], _ => rfl
  | [] :: rest, prev => by
    simp only [List.map_cons, List.map_nil, descSeams, ascSeams]
    exact descSeams_eq_flip lt rest prev
  | (p :: ps) :: rest, prev => by
    have hl : ∀ (qs : List (α × α)) (q : α × α), (lastOr q.swap (qs.map Prod.swap)) = (lastOr q qs).swap := by
      intro qs
      induction qs with
      | nil => intro q; rfl
      | cons r rs ih => intro q; simp only [List.map_cons, lastOr]; exact ih r
    simp only [List.map_cons, descSeams, ascSeams, hl, Prod.fst_swap, Prod.snd_swap]
    rw [descSeams_eq_flip lt rest]

def PairsAsc {α} (o : ColOrder α) (p q : α × α) : Prop := o.lt q.1 p.1 = false ∧ o.lt q.2 p.2 = false

/-- the second conjunct (everything lies above the carried bound `prev`) is what the induction needs -/
theorem ascSeams_sound {α} {o : ColOrder α} (h : Lawful o) : ∀ (L : List (List (α × α))) (prev : Option α),
    (∀ l ∈ L, ∀ p ∈ l, o.ok p.1 = true ∧ o.ok p.2 = true ∧ o.lt p.2 p.1 = false) →
    (∀ l ∈ L, l.Pairwise (PairsAsc o)) →
    ascSeams o.lt prev L = true →
    L.flatten.Pairwise (PairsAsc o) ∧ (∀ m, prev = some m → ∀ p ∈ L.flatten, o.lt p.1 m = false)
  | [], _, _, _, _ => by simp
  | [] :: rest, prev, hok, hs, hrun => by
    simp only [ascSeams] at hrun
    exact ascSeams_sound h rest prev (fun l hl => hok l (List.mem_cons_of_mem _ hl))
      (fun l hl => hs l (List.mem_cons_of_mem _ hl)) hrun
  | (p :: ps) :: rest, prev, hok, hs, hrun => by
    simp only [ascSeams, Bool.and_eq_true] at hrun
    obtain ⟨hprev, hrest⟩ := hrun
    have hokl := hok (p :: ps) (List.mem_cons_self ..)
    have hl := hs (p :: ps) (List.mem_cons_self ..)
    obtain ⟨ih1, ih2⟩ := ascSeams_sound h rest (some (lastOr p ps).2)
      (fun l hl => hok l (List.mem_cons_of_mem _ hl)) (fun l hl => hs l (List.mem_cons_of_mem _ hl)) hrest
    have ih2 := ih2 _ rfl
    have hgok := hokl _ (lastOr_mem ps p)
    -- every max of this member is below the last max
    have hmaxLast : ∀ x ∈ p :: ps, o.lt (lastOr p ps).2 x.2 = false :=
      le_lastOr (fun a b : α × α => o.lt b.2 a.2 = false) (fun a => h.irrefl _) ps p (hl.imp And.right)
    -- every entry of this member lies (min and max) below every min of the later members
    have hcross : ∀ x ∈ p :: ps, ∀ q ∈ rest.flatten, o.lt q.1 x.2 = false := fun x hx q hq =>
      h.le_trans hgok.2.1 (hmaxLast x hx) (ih2 q hq)
    have hokRest : ∀ q ∈ rest.flatten, o.ok q.1 = true ∧ o.ok q.2 = true ∧ o.lt q.2 q.1 = false := by
      intro q hq
      obtain ⟨l, hl, hql⟩ := List.mem_flatten.mp hq
      exact hok l (List.mem_cons_of_mem _ hl) q hql
    refine ⟨?_, ?_⟩
    · -- x.1 ≤ x.2 ≤ q.1 and x.2 ≤ q.1 ≤ q.2
      rw [List.flatten_cons, List.pairwise_append]
      exact ⟨hl, ih1, fun x hx q hq => ⟨h.le_trans (hokl x hx).2.1 (hokl x hx).2.2 (hcross x hx q hq),
        h.le_trans (hokRest q hq).1 (hcross x hx q hq) (hokRest q hq).2.2⟩⟩
    · intro m hm x hx
      subst hm
      simp only [Bool.not_eq_true'] at hprev
      -- m ≤ p.1 ≤ every min of this member
      have hhead : ∀ y ∈ p :: ps, o.lt y.1 m = false := by
        intro y hy
        rcases List.mem_cons.mp hy with hy | hy
        · subst hy; exact hprev
        · exact h.le_trans (hokl p (List.mem_cons_self ..)).1 hprev ((List.pairwise_cons.mp hl).1 y hy).1
      simp only [List.flatten_cons, List.mem_append] at hx
      rcases hx with hx | hx
      · exact hhead x hx
      · -- m ≤ p.1 ≤ p.2 ≤ x.1
        have hp := hokl p (List.mem_cons_self ..)
        have h1 : o.lt p.2 m = false := h.le_trans hp.1 hprev hp.2.2
        exact h.le_trans hp.2.1 h1 (hcross p (List.mem_cons_self ..) x hx)

theorem pairwise_pairsAsc {α} (o : ColOrder α) (l : List (α × α)) : l.Pairwise (PairsAsc o) ↔
    (l.map Prod.fst).Pairwise (fun a b => o.lt b a = false) ∧ (l.map Prod.snd).Pairwise (fun a b => o.lt b a = false) := by
  rw [List.pairwise_map, List.pairwise_map]; exact List.pairwise_and_iff

theorem pairsOf_flatten {α} (L : List (List (Option (α × α)))) : pairsOf L.flatten = (L.map pairsOf).flatten :=
  List.filterMap_flatten

/-- the entries a reader sees for a BYTE_ARRAY member: the exact page bounds truncated to the size limit -/
def recordedBytes (lim : Nat) (pages : List (Option (List Nat × List Nat))) : List (Option (List Nat × List Nat)) :=
  pages.map (fun p => p.map (fun ab => (truncMinLim ab.1 lim, truncMaxLim ab.2 lim)))

theorem nonNullOf_bytesIndexMins (lim : Nat) (pages : List (Option (List Nat × List Nat))) :
    nonNullOf pages (bytesIndexMins lim pages) = nonNullMins (recordedBytes lim pages) := by
  rw [bytesIndexMins, storedMins, List.map_map, nonNullOf_map, nonNullMins, recordedBytes, List.filterMap_map]
  exact congrArg (List.filterMap · pages) (funext fun p => by cases p <;> rfl)

theorem nonNullOf_bytesIndexMaxs (lim : Nat) (pages : List (Option (List Nat × List Nat))) :
    nonNullOf pages (bytesIndexMaxs lim pages) = nonNullMaxs (recordedBytes lim pages) := by
  rw [bytesIndexMaxs, storedMaxs, List.map_map, nonNullOf_map, nonNullMaxs, recordedBytes, List.filterMap_map]
  exact congrArg (List.filterMap · pages) (funext fun p => by cases p <;> rfl)

end PqModel.Stats
