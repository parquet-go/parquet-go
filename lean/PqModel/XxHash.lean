import PqModel.Basics
import PqModel.LittleEndian

/-! # XXH64 (seed 0) on byte lists, and the fixed-width specialisations of parquet-go

* SPEC part (`xxh64` and its helpers): written from the XXH64 specification
  (xxhash_spec.md, "XXH64 algorithm description"): 4 accumulators over 32-byte stripes,
  convergence with `mergeRound`, add the input length, consume the remaining input in 8-byte,
  then one 4-byte, then 1-byte steps, final avalanche. Seed fixed to 0 as the Parquet bloom filter
  spec requires.
* MIRROR part (`sum64Uint8/16/32/64/128`, `multiSum64*`): transliteration of
  `bloom/xxhash/sum64uint.go:3-37` and `bloom/xxhash/sum64uint_purego.go:5-53`.

All arithmetic is `UInt64` (wraparound). Recursion is structural on the byte list (one stripe of
32 bytes / 8 bytes / 1 byte per step), no fuel. -/
namespace PqModel.XxHash

/-- value of a little-endian byte string -/
def leToNat : List UInt8 → Nat
  | [] => 0
  | b :: bs => b.toNat + 256 * leToNat bs

/-- the `n` little-endian bytes of `x` (low bytes first; higher bytes dropped) -/
def leBytes : Nat → Nat → List UInt8
  | 0, _ => []
  | n + 1, x => UInt8.ofNat (x % 256) :: leBytes n (x / 256)

def u64le (bs : List UInt8) : UInt64 := UInt64.ofNat (leToNat bs)
def u32le (bs : List UInt8) : UInt32 := UInt32.ofNat (leToNat bs)

def le32 (v : UInt32) : List UInt8 := leBytes 4 v.toNat
def le64 (v : UInt64) : List UInt8 := leBytes 8 v.toNat

theorem leBytes_eq : ∀ n x, leBytes n x = LE.leBytes n x
  | 0, _ => rfl
  | n + 1, x => by rw [leBytes, LE.leBytes, leBytes_eq n]

theorem leToNat_eq : ∀ bs, leToNat bs = LE.leVal bs
  | [] => rfl
  | b :: bs => by rw [leToNat, LE.leVal, leToNat_eq bs]

theorem leToNat_leBytes_of_lt {n x : Nat} (h : x < 256 ^ n) : leToNat (leBytes n x) = x := by
  rw [leBytes_eq, leToNat_eq, LE.leVal_leBytes_of_lt h]

theorem u32le_le32 (v : UInt32) : u32le (le32 v) = v := by
  unfold u32le le32
  rw [leToNat_leBytes_of_lt (by have := v.toNat_lt; omega)]; exact UInt32.ofNat_toNat

theorem u64le_le64 (v : UInt64) : u64le (le64 v) = v := by
  unfold u64le le64
  rw [leToNat_leBytes_of_lt (by have := v.toNat_lt; omega)]; exact UInt64.ofNat_toNat

/-! ## XXH64 primitives (spec; same constants as `bloom/xxhash/xxhash.go:10-21`) -/

def prime1 : UInt64 := 0x9E3779B185EBCA87
def prime2 : UInt64 := 0xC2B2AE3D27D4EB4F
def prime3 : UInt64 := 0x165667B19E3779F9
def prime4 : UInt64 := 0x85EBCA77C2B2AE63
def prime5 : UInt64 := 0x27D4EB2F165667C5

/-- rotate left by `k` (0 < k < 64) -/
def rotl (x : UInt64) (k : UInt64) : UInt64 := (x <<< k) ||| (x >>> (64 - k))

def round (acc input : UInt64) : UInt64 := rotl (acc + input * prime2) 31 * prime1

def mergeRound (acc val : UInt64) : UInt64 := (acc ^^^ round 0 val) * prime1 + prime4

def avalanche (h0 : UInt64) : UInt64 :=
  let h1 := (h0 ^^^ (h0 >>> 33)) * prime2
  let h2 := (h1 ^^^ (h1 >>> 29)) * prime3
  h2 ^^^ (h2 >>> 32)

structure Acc where
  v1 : UInt64
  v2 : UInt64
  v3 : UInt64
  v4 : UInt64

/-- initial accumulators for seed 0 -/
def accInit : Acc := ⟨prime1 + prime2, prime2, 0, 0 - prime1⟩

/-- consume all complete 32-byte stripes; returns the accumulators and the remaining (< 32) bytes -/
def stripes (a : Acc) : List UInt8 → Acc × List UInt8
  | a0 :: a1 :: a2 :: a3 :: a4 :: a5 :: a6 :: a7 ::
    b0 :: b1 :: b2 :: b3 :: b4 :: b5 :: b6 :: b7 ::
    c0 :: c1 :: c2 :: c3 :: c4 :: c5 :: c6 :: c7 ::
    d0 :: d1 :: d2 :: d3 :: d4 :: d5 :: d6 :: d7 :: rest =>
      stripes ⟨round a.v1 (u64le [a0, a1, a2, a3, a4, a5, a6, a7]),
               round a.v2 (u64le [b0, b1, b2, b3, b4, b5, b6, b7]),
               round a.v3 (u64le [c0, c1, c2, c3, c4, c5, c6, c7]),
               round a.v4 (u64le [d0, d1, d2, d3, d4, d5, d6, d7])⟩ rest
  | bs => (a, bs)

def converge (a : Acc) : UInt64 :=
  let h := rotl a.v1 1 + rotl a.v2 7 + rotl a.v3 12 + rotl a.v4 18
  mergeRound (mergeRound (mergeRound (mergeRound h a.v1) a.v2) a.v3) a.v4

def step8 (h lane : UInt64) : UInt64 := rotl (h ^^^ round 0 lane) 27 * prime1 + prime4
def step4 (h : UInt64) (lane : UInt32) : UInt64 := rotl (h ^^^ (lane.toUInt64 * prime1)) 23 * prime2 + prime3
def step1 (h : UInt64) (b : UInt8) : UInt64 := rotl (h ^^^ (b.toUInt64 * prime5)) 11 * prime1

def tail1 (h : UInt64) : List UInt8 → UInt64
  | [] => h
  | b :: rest => tail1 (step1 h b) rest

def tail4 (h : UInt64) : List UInt8 → UInt64
  | b0 :: b1 :: b2 :: b3 :: rest => tail1 (step4 h (u32le [b0, b1, b2, b3])) rest
  | bs => tail1 h bs

def tail8 (h : UInt64) : List UInt8 → UInt64
  | b0 :: b1 :: b2 :: b3 :: b4 :: b5 :: b6 :: b7 :: rest =>
      tail8 (step8 h (u64le [b0, b1, b2, b3, b4, b5, b6, b7])) rest
  | bs => tail4 h bs

/-- SPEC: XXH64 with seed 0 of a byte string. -/
def xxh64 (bs : List UInt8) : UInt64 :=
  let n := bs.length
  if 32 ≤ n then
    let (a, rest) := stripes accInit bs
    avalanche (tail8 (converge a + UInt64.ofNat n) rest)
  else
    avalanche (tail8 (prime5 + UInt64.ofNat n) bs)

/-- `Sum64Uint8`, sum64uint.go:3-7 -/
def sum64Uint8 (v : UInt8) : UInt64 :=
  let h := prime5 + 1
  let h := h ^^^ (v.toUInt64 * prime5)
  avalanche (rotl h 11 * prime1)

/-- `Sum64Uint16`, sum64uint.go:9-16 -/
def sum64Uint16 (v : UInt16) : UInt64 :=
  let h := prime5 + 2
  let h := h ^^^ ((v &&& 0xFF).toUInt64 * prime5)
  let h := rotl h 11 * prime1
  let h := h ^^^ ((v >>> 8).toUInt64 * prime5)
  let h := rotl h 11 * prime1
  avalanche h

/-- `Sum64Uint32`, sum64uint.go:18-22 -/
def sum64Uint32 (v : UInt32) : UInt64 :=
  let h := prime5 + 4
  let h := h ^^^ (v.toUInt64 * prime1)
  avalanche (rotl h 23 * prime2 + prime3)

/-- `Sum64Uint64`, sum64uint.go:24-28 -/
def sum64Uint64 (v : UInt64) : UInt64 :=
  let h := prime5 + 8
  let h := h ^^^ round 0 v
  avalanche (rotl h 27 * prime1 + prime4)

/-- `Sum64Uint128`, sum64uint.go:30-37; the `[16]byte` argument is a byte list, `v[:8]` / `v[8:]`
    are `take 8` / `drop 8`. -/
def sum64Uint128 (v : List UInt8) : UInt64 :=
  let h := prime5 + 16
  let h := h ^^^ round 0 (u64le (v.take 8))
  let h := rotl h 27 * prime1 + prime4
  let h := h ^^^ round 0 (u64le (v.drop 8))
  let h := rotl h 27 * prime1 + prime4
  avalanche h

/-- `MultiSum64Uint*`, sum64uint_purego.go:5-53: `h[i] = Sum64UintN(v[i])` for `i < min(len h, len v)`;
    `cap` is `len(h)`. Returns the hashes written (the Go function returns their count). -/
def multiSum64 {α} (sum : α → UInt64) (cap : Nat) (v : List α) : List UInt64 :=
  (v.take cap).map sum

def multiSum64Uint8 := multiSum64 sum64Uint8
def multiSum64Uint16 := multiSum64 sum64Uint16
def multiSum64Uint32 := multiSum64 sum64Uint32
def multiSum64Uint64 := multiSum64 sum64Uint64
def multiSum64Uint128 := multiSum64 sum64Uint128

theorem sum64Uint8_eq (v : UInt8) : sum64Uint8 v = xxh64 [v] := rfl

theorem sum64Uint32_bytes (b0 b1 b2 b3 : UInt8) :
    sum64Uint32 (u32le [b0, b1, b2, b3]) = xxh64 [b0, b1, b2, b3] := rfl

theorem sum64Uint64_bytes (b0 b1 b2 b3 b4 b5 b6 b7 : UInt8) :
    sum64Uint64 (u64le [b0, b1, b2, b3, b4, b5, b6, b7]) = xxh64 [b0, b1, b2, b3, b4, b5, b6, b7] := rfl

theorem sum64Uint128_bytes (b0 b1 b2 b3 b4 b5 b6 b7 c0 c1 c2 c3 c4 c5 c6 c7 : UInt8) :
    sum64Uint128 [b0, b1, b2, b3, b4, b5, b6, b7, c0, c1, c2, c3, c4, c5, c6, c7]
      = xxh64 [b0, b1, b2, b3, b4, b5, b6, b7, c0, c1, c2, c3, c4, c5, c6, c7] := rfl

theorem sum64Uint128_eq (v : List UInt8) (h : v.length = 16) : sum64Uint128 v = xxh64 v := by
  obtain ⟨b0, b1, b2, b3, b4, b5, b6, b7, hb⟩ :=
    ListFacts.exists_of_length_eq_8 (v.take 8) (by rw [List.length_take]; omega)
  obtain ⟨c0, c1, c2, c3, c4, c5, c6, c7, hc⟩ :=
    ListFacts.exists_of_length_eq_8 (v.drop 8) (by rw [List.length_drop]; omega)
  rw [← List.take_append_drop 8 v, hb, hc]
  exact sum64Uint128_bytes _ _ _ _ _ _ _ _ _ _ _ _ _ _ _ _

end PqModel.XxHash
