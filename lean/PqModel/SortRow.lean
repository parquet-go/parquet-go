import PqModel.SortRep

/-! # C10 model — the row comparator on list-valued keys (`compare.go:424-500` in full) and `RowBuffer`
(`row_buffer.go:123-176`). -/
namespace PqModel.SortBuf

theorem cmpList_anti {V : Type} (c : Option V → Option V → Int) (ha : ∀ a b, c b a = - c a b) :
    ∀ (l1 l2 : List (Option V)), cmpList c l2 l1 = - cmpList c l1 l2
  | [], [] => rfl
  | [], _ :: _ => rfl
  | _ :: _, [] => rfl
  | a :: as, b :: bs => lex_anti (ha a b) (cmpList_anti c ha as bs)

theorem cmpList_trans {V : Type} (c : Option V → Option V → Int) (hc : CmpOk c) :
    ∀ (l1 l2 l3 : List (Option V)), cmpList c l1 l2 ≤ 0 → cmpList c l2 l3 ≤ 0 → cmpList c l1 l3 ≤ 0
  | [], _, [], _, _ => Int.le_refl 0
  | [], _, _ :: _, _, _ => (by decide : (-1 : Int) ≤ 0)
  | _ :: _, [], _, h, _ => absurd h (by decide : ¬ (1 : Int) ≤ 0)
  | _ :: _, _ :: _, [], _, h => absurd h (by decide : ¬ (1 : Int) ≤ 0)
  | a :: as, b :: bs, d :: ds, h12, h23 => hc.lex_trans a b d (cmpList_trans c hc as bs ds) h12 h23

theorem cmpList_ok {V : Type} (c : Option V → Option V → Int) (hc : CmpOk c) : CmpOk (cmpList c) :=
  ⟨fun a b => cmpList_anti c hc.anti a b, fun a b d => cmpList_trans c hc a b d⟩

/-- MIRROR `compare.go:478-499`: the row comparator `Schema.Comparator(sorting…)` on rows whose
    columns hold lists of values (one element for a non-repeated column) -/
def cmpRowsL {V : Type} (cmp : V → V → Int) : List SortCol → (Nat → List (Option V)) → (Nat → List (Option V)) → Int
  | [], _, _ => 0
  | sc :: rest, r1, r2 =>
    let c := cmpList (cmpCell cmp sc) (r1 sc.col) (r2 sc.col)
    if c ≠ 0 then c else cmpRowsL cmp rest r1 r2

/-- MIRROR `row_buffer.go:23-30`: the rows, each a slice of values; the field `compare`
    (`Schema.Comparator(sorting…)`) is the argument `cmp` of `less` -/
structure RowBuf (R : Type) where
  rows : List R

/-- MIRROR `row_buffer.go:150-176` `Write`/`WriteRows` -/
def RowBuf.write {R : Type} (b : RowBuf R) (rs : List R) : RowBuf R := ⟨b.rows ++ rs⟩

/-- MIRROR `row_buffer.go:129-131` `Less`: `compare(rows[i], rows[j]) < 0` -/
def RowBuf.less {R : Type} (cmp : R → R → Int) (b : RowBuf R) (i j : Nat) : Bool :=
  match b.rows[i]?, b.rows[j]? with
  | some x, some y => decide (cmp x y < 0)
  | _, _ => false

/-- MIRROR `row_buffer.go:136-138` `Swap` -/
def RowBuf.swap {R : Type} (b : RowBuf R) (i j : Nat) : RowBuf R := ⟨swapL b.rows i j⟩

def RowBuf.run {R : Type} (b : RowBuf R) (ops : List (Nat × Nat)) : RowBuf R :=
  ops.foldl (fun b p => b.swap p.1 p.2) b

theorem RowBuf.run_perm {R : Type} (ops : List (Nat × Nat)) (b : RowBuf R) : (b.run ops).rows.Perm b.rows :=
  List.foldlRecOn ops _ (motive := fun b' : RowBuf R => b'.rows.Perm b.rows) (List.Perm.refl _)
    fun _ hb _ _ => (swapL_perm _ _ _).trans hb

theorem RowBuf.less_eq {R : Type} (cmp : R → R → Int) (b : RowBuf R) {i j : Nat} (hi : i < b.rows.length)
    (hj : j < b.rows.length) : b.less cmp i j = decide (cmp b.rows[i] b.rows[j] < 0) := by
  simp only [RowBuf.less, List.getElem?_eq_getElem hi, List.getElem?_eq_getElem hj]

theorem RowBuf.sort_correct {R : Type} (cmp : R → R → Int) (hc : CmpOk cmp) (b0 : RowBuf R) (ops : List (Nat × Nat))
    (hfin : ∀ i, i + 1 < (b0.run ops).rows.length → (b0.run ops).less cmp (i + 1) i = false) :
    (b0.run ops).rows.Perm b0.rows ∧ (b0.run ops).rows.Pairwise (fun a b => cmp a b ≤ 0) := by
  refine ⟨RowBuf.run_perm ops b0, ?_⟩
  generalize b0.run ops = b at hfin ⊢
  rw [List.pairwise_iff_getElem]
  intro i j hi hj hij
  refine sorted_of_adjacent (fun a b => cmp a b ≤ 0) hc.trans b.rows.length (fun k _ => b.rows[k]) ?_ i j hij hj
  intro k hk
  have h := hfin k hk
  rw [RowBuf.less_eq cmp b hk (by omega), decide_eq_false_iff_not, hc.anti] at h
  omega

end PqModel.SortBuf
