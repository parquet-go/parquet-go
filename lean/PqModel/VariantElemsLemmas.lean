import PqModel.VariantElems
import PqModel.Basics

/-! Lemmas for `Props/C19Elems.lean`: the two-pointer walk of `processElements` against the
    "group starts inside the slot range" specification. -/
namespace PqModel.VariantWindow

/-- SPEC: number of group starts below slot `b` -/
def cnt (E : List Nat) (b : Nat) : Nat := (E.filter (· < b)).length

theorem cnt_le_length (E : List Nat) (b : Nat) : cnt E b ≤ E.length := List.length_filter_le _ _

theorem cnt_cons (x : Nat) (E : List Nat) (b : Nat) :
    cnt (x :: E) b = (if x < b then 1 else 0) + cnt E b := by
  by_cases hx : x < b <;> simp [cnt, hx] <;> omega

theorem cnt_zero_of_ge (E : List Nat) (b : Nat) (h : ∀ y ∈ E, b ≤ y) : cnt E b = 0 := by
  induction E with
  | nil => rfl
  | cons x E ih =>
    have hx : ¬ x < b := by have := h x (by simp); omega
    rw [cnt_cons, ih (fun y hy => h y (by simp [hy]))]; simp [hx]

theorem cnt_mono (E : List Nat) {b b' : Nat} (h : b ≤ b') : cnt E b ≤ cnt E b' := by
  induction E with
  | nil => simp [cnt]
  | cons x E ih => rw [cnt_cons, cnt_cons]; split <;> split <;> omega

theorem sorted_index (b : Nat) : ∀ (E : List Nat), E.Pairwise (· < ·) → ∀ i, i < E.length →
    (E.getD i 0 < b ↔ i < cnt E b) := by
  intro E
  induction E with
  | nil => intro _ i h; simp at h
  | cons x E ih =>
    intro hs i hi
    rw [List.pairwise_cons] at hs
    by_cases hx : x < b
    · cases i with
      | zero =>
        rw [cnt_cons, if_pos hx, List.getD_cons_zero]
        exact ⟨fun _ => by omega, fun _ => hx⟩
      | succ i =>
        simp only [List.getD_cons_succ, cnt_cons, hx, if_true]
        rw [ih hs.2 i (by simpa using hi)]; omega
    · have hz : cnt E b = 0 := cnt_zero_of_ge E b (fun y hy => by have := hs.1 y hy; omega)
      cases i with
      | zero => simp [cnt_cons, hx, hz]
      | succ i =>
        have hm := ListFacts.getD_mem 0 (by simpa using hi)
        have := hs.1 _ hm
        simp only [List.getD_cons_succ, cnt_cons, hx, if_false, hz]
        omega

theorem skipTo_cnt (E : List Nat) (n b : Nat) (hs : E.Pairwise (· < ·)) : ∀ (fuel h : Nat),
    h ≤ cnt E b → cnt E b - h ≤ fuel → skipTo (E ++ [n]) b fuel h = cnt E b := by
  have hcl := cnt_le_length E b
  have test : ∀ h, (h < (E ++ [n]).length - 1 ∧ (E ++ [n]).getD h 0 < b) ↔ h < cnt E b := by
    intro h
    constructor
    · intro ⟨hg, hc⟩
      have hh : h < E.length := by simpa using hg
      rw [ListFacts.getD_append_left 0 hh] at hc
      exact (sorted_index b E hs h hh).1 hc
    · intro hlt
      have hh : h < E.length := by omega
      exact ⟨by simp; omega, by rw [ListFacts.getD_append_left 0 hh]; exact (sorted_index b E hs h hh).2 hlt⟩
  intro fuel h h1 h2
  -- cases of `skipTo`: out of fuel; the test holds and the loop goes on; the test fails
  fun_induction skipTo (E ++ [n]) b fuel h
  case case1 => omega
  case case2 fuel h hc ih => have := (test h).1 hc; exact ih (by omega) (by omega)
  case case3 fuel h hc => have := mt (test h).2 hc; omega

/-- the `LocTypedList` entries come with increasing slot groups (`groupOf` of successive entries) -/
def incFrom : Nat → List (Option Nat) → Prop
  | _, [] => True
  | lo, none :: es => incFrom lo es
  | lo, some g :: es => lo ≤ g ∧ incFrom (g + 1) es

/-- SPEC: the element groups of an entry depend on its own slot range only: the groups of the
    deeper level whose first slot lies in `[startsP[g], startsP[g+1])`, if the list is present -/
def elemsSpec (startsP E : List Nat) (present : Nat → Bool) : List (Option Nat) → List (List Nat)
  | [] => []
  | none :: es => [] :: elemsSpec startsP E present es
  | some g :: es =>
    (if g + 1 < startsP.length ∧ present (startsP.getD g 0) = true then
      List.range' (cnt E (startsP.getD g 0)) (cnt E (startsP.getD (g + 1) 0) - cnt E (startsP.getD g 0))
     else []) :: elemsSpec startsP E present es

/-- the invariant (second hypothesis): the pointer `h` never overshoots the first element group of any later entry -/
theorem elemsLoop_spec (startsP E : List Nat) (n : Nat) (present : Nat → Bool)
    (hP : startsP.Pairwise (· < ·)) (hE : E.Pairwise (· < ·)) :
    ∀ (es : List (Option Nat)) (lo h : Nat), incFrom lo es →
      (∀ g, lo ≤ g → g < startsP.length → h ≤ cnt E (startsP.getD g 0)) →
      elemsLoop startsP (E ++ [n]) present es h = elemsSpec startsP E present es := by
  have hmono : ∀ {i j}, i ≤ j → j < startsP.length → startsP.getD i 0 ≤ startsP.getD j 0 :=
    ListFacts.getD_mono 0 Nat.le_refl (hP.imp Nat.le_of_lt)
  have hfuel : ∀ b k, cnt E b - k ≤ (E ++ [n]).length := by
    intro b k; have := cnt_le_length E b; simp; omega
  intro es lo h hinc hH
  -- cases of `elemsLoop`: no entry left; another kind of entry; a group beyond the presence column; a present list; an absent one
  fun_induction elemsLoop startsP (E ++ [n]) present es h generalizing lo
  case case1 => rfl
  case case2 es h ih => rw [elemsSpec, ih lo hinc hH]
  case case3 g es h hg ih =>
    have hng : ¬ (g + 1 < startsP.length ∧ present (startsP.getD g 0) = true) := by omega
    rw [elemsSpec, if_neg hng, ih (g + 1) hinc.2 (fun g' h1 h2 => hH g' (by have := hinc.1; omega) h2)]
  case case4 g es h hg gs ge h1 hp h2 ih =>
    have hg1 : g + 1 < startsP.length := by omega
    have e1 : h1 = cnt E gs := skipTo_cnt E n _ hE _ h (hH g hinc.1 (by omega)) (hfuel _ _)
    have e2 : h2 = cnt E ge := by
      show skipTo _ ge _ h1 = _
      rw [e1]
      exact skipTo_cnt E n _ hE _ _ (cnt_mono E (hmono (Nat.le_succ g) hg1)) (hfuel _ _)
    rw [elemsSpec, if_pos ⟨hg1, hp⟩, ih (g + 1) hinc.2 (fun g' ha hb =>
      e2 ▸ cnt_mono E (hmono ha hb)), e1, e2]
  case case5 g es h hg gs h1 hp ih =>
    have e1 : h1 = cnt E gs := skipTo_cnt E n _ hE _ h (hH g hinc.1 (by omega)) (hfuel _ _)
    rw [elemsSpec, if_neg (fun x => hp x.2), ih (g + 1) hinc.2 (fun g' ha hb =>
      e1 ▸ cnt_mono E (hmono (by omega) hb))]

end PqModel.VariantWindow
