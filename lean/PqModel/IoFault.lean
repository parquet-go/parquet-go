import PqModel.OpenTrailer

/-! # I/O fault model (C14)

MIRROR / abstract model of the byte path from the parquet writer to the destination `io.Writer`:

    API call (Write / Flush / WriteRowGroup / Close)
      └─ write plan: a list of operations, each at a *site* of writer.go
           ├─ intermediate stores (page buffers of the columns, deferred bloom-filter buffers)
           └─ offsetTrackingWriter  (writer.go:2990-3030)
                └─ optional bufio.Writer (sticky error, flushed by `close`)   (bufio/bufio.go, Go 1.24)
                     └─ the sink: any conforming io.Writer, as a state machine

`Bytes` and the reader side (the trailer checks of `OpenFile`) are in `PqModel/OpenTrailer.lean`.

What is mirror and what is spec is said on each definition.  Everything is total and computable;
loops carry explicit fuel. -/
namespace PqModel.IoFault

/-- result of one `Write(p)`: `n` bytes accepted, `err` = (err != nil) -/
structure Resp where
  n : Nat
  err : Bool
  deriving Repr, DecidableEq

/-- SPEC (package io): a destination writer is a deterministic state machine; it sees its own
state, how many bytes it holds so far, and the bytes offered. -/
structure SinkM (σ : Type) where
  step : σ → Nat → Bytes → σ × Resp

/-- SPEC: the `io.Writer` contract: `0 ≤ n ≤ len(p)` and `n < len(p) → err != nil`. -/
def Conforming {σ} (m : SinkM σ) : Prop :=
  ∀ s len p, (m.step s len p).2.n ≤ p.length ∧
    ((m.step s len p).2.n < p.length → (m.step s len p).2.err = true)

/-- the sink together with what the harness observes of it: the bytes it holds and the trace of
`Write` calls `(len offered, n accepted, err)`, newest first -/
structure Sk (σ : Type) where
  st : σ
  /-- the bytes held, newest first (so that a write costs its own length only) -/
  rev : Bytes
  /-- number of bytes held: `len = rev.length` from `initW` on (`Sk.write` adds the same to both); a proof that needs it carries it along `Reach` -/
  len : Nat
  trace : List (Nat × Nat × Bool)

def Sk.held {σ} (s : Sk σ) : Bytes := s.rev.reverse

def Sk.write {σ} (m : SinkM σ) (s : Sk σ) (p : Bytes) : Sk σ × Resp :=
  let r := m.step s.st s.len p
  ({ st := r.1, rev := (p.take r.2.n).reverse ++ s.rev, len := s.len + (p.take r.2.n).length,
     trace := (p.length, r.2.n, r.2.err) :: s.trace }, r.2)

theorem Sk.held_write {σ} (m : SinkM σ) (s : Sk σ) (p : Bytes) :
    (s.write m p).1.held = s.held ++ p.take (s.write m p).2.n := by
  simp [Sk.write, Sk.held]

theorem Sk.write_resp {σ} (m : SinkM σ) (s : Sk σ) (p : Bytes) :
    (s.write m p).2 = (m.step s.st s.len p).2 := rfl

/-- SPEC: the fault sinks of the enumeration.  Byte index `k` (0-based) can never be stored
(`k = none`: no fault).  A write that would cross `k` fails: with `short` it first accepts the
bytes below `k` (`0 ≤ n < len`, `err != nil`), without it accepts nothing.  With `sticky` every
write after the first failure fails too; without, a later smaller write that fits below `k`
is accepted again (a full disk: the *capacity* mode).  With `oneshot` only the first write that
would cross `k` fails and every later write is accepted whole (a *transient* failure: a conforming
io.Writer may fail one call and accept the next).  State: "a write has failed". -/
structure Fault where
  k : Option Nat
  short : Bool
  sticky : Bool
  oneshot : Bool
  deriving Repr, DecidableEq

def faultSink (f : Fault) : SinkM Bool where
  step failed len p :=
    if f.sticky && failed then (true, ⟨0, true⟩) else
    if f.oneshot && failed then (true, ⟨p.length, false⟩) else
    match f.k with
    | none => (failed, ⟨p.length, false⟩)
    | some k =>
      if len + p.length ≤ k then (failed, ⟨p.length, false⟩)
      else if f.short then (true, ⟨k - len, true⟩)
      else (true, ⟨0, true⟩)

theorem faultSink_conforming (f : Fault) : Conforming (faultSink f) := by
  intro s len p
  simp only [faultSink]
  split
  · simp
  · split
    · simp
    · split
      · simp
      · split
        · simp
        · split
          · constructor
            · simp only; omega
            · intro _; rfl
          · simp

/-- SPEC: fault points per `Write` *call* instead of per byte offset: the `i`-th call (0-based) of
the destination fails whatever it is offered, even nothing — rejected whole, or with `short` after
accepting half of it; with `sticky` every later call fails too, without it the failure is
transient.  State: (calls seen, "a call has failed"). -/
structure CallFault where
  i : Nat
  short : Bool
  sticky : Bool
  deriving Repr, DecidableEq

def callSink (f : CallFault) : SinkM (Nat × Bool) where
  step st _ p :=
    if f.sticky && st.2 then ((st.1 + 1, true), ⟨0, true⟩)
    else if st.1 = f.i then ((st.1 + 1, true), ⟨if f.short then p.length / 2 else 0, true⟩)
    else ((st.1 + 1, st.2), ⟨p.length, false⟩)

theorem callSink_conforming (f : CallFault) : Conforming (callSink f) := by
  intro s len p
  simp only [callSink]
  split
  · simp
  · split
    · refine ⟨?_, fun _ => rfl⟩
      split
      · exact Nat.div_le_self _ _
      · exact Nat.zero_le _
    · simp

/-- states of the sink reachable by further `Write` calls -/
inductive Reach {σ} (m : SinkM σ) : Sk σ → Sk σ → Prop where
  | refl (s) : Reach m s s
  | step {s t} (p : Bytes) : Reach m s t → Reach m s (t.write m p).1

theorem Reach.trans {σ} {m : SinkM σ} {a b c : Sk σ} (h1 : Reach m a b) (h2 : Reach m b c) :
    Reach m a c := by
  induction h2 with
  | refl => exact h1
  | step p _ ih => exact Reach.step p ih

theorem Reach.one {σ} (m : SinkM σ) (s : Sk σ) (p : Bytes) : Reach m s (s.write m p).1 :=
  Reach.step p (Reach.refl s)

theorem Reach.inv {σ} {m : SinkM σ} (P : Sk σ → Prop) (hP : ∀ s p, P s → P (s.write m p).1)
    {a b : Sk σ} (h : Reach m a b) (ha : P a) : P b := by
  induction h with
  | refl => exact ha
  | step p _ ih => exact hP _ p ih

theorem faultSink_bound (f : Fault) (k : Nat) (hk : f.k = some k) (hone : f.oneshot = false)
    {a b : Sk Bool}
    (h : Reach (faultSink f) a b) (hlen : a.len = a.held.length) (ha : a.held.length ≤ k) :
    b.held.length ≤ k := by
  have := Reach.inv (fun s => s.len = s.held.length ∧ s.held.length ≤ k) ?_ h ⟨hlen, ha⟩
  · exact this.2
  intro s p ⟨hl, hs⟩
  rw [Sk.held_write]
  simp only [Sk.write, faultSink, hk, hone, Bool.false_and, Bool.false_eq_true, if_false, Sk.held,
    List.length_reverse] at hl hs ⊢
  split
  · simp; omega
  · split
    · simp only [List.length_append, List.length_take, List.length_reverse]; omega
    · split
      · simp only [List.length_append, List.length_take, List.length_reverse]; omega
      · simp; omega

/-- `bufio.Writer`: `buf = b.buf[0:b.n]`, `cap = len(b.buf)`, `err = (b.err != nil)` -/
structure Bufio where
  cap : Nat
  buf : Bytes
  err : Bool
  deriving Repr, DecidableEq

def Bufio.avail (b : Bufio) : Nat := b.cap - b.buf.length

/-- MIRROR `(*Writer).Flush` (bufio/bufio.go:636-657, go1.24.9): returns the new state and `err != nil`.
A short count without error becomes `io.ErrShortWrite`; the unwritten tail is moved to the front
of the buffer; the error sticks. -/
def bufFlush {σ} (m : SinkM σ) (b : Bufio) (sk : Sk σ) : Bufio × Sk σ × Bool :=
  if b.err then (b, sk, true)
  else if b.buf.length = 0 then (b, sk, false)
  else
    let w := sk.write m b.buf
    if w.2.err || decide (w.2.n < b.buf.length) then
      ({ b with buf := b.buf.drop w.2.n, err := true }, w.1, true)
    else ({ b with buf := [] }, w.1, false)

/-- MIRROR the loop of `(*Writer).Write` (bufio/bufio.go:677-699)
`for len(p) > b.Available() && b.err == nil { … }`; state `(b, sink, rest of p, nn)`.
Out of fuel is reported as an error (it cannot happen with a conforming sink and fuel 3:
`bufWriteLoop_fuel`). -/
def bufWriteLoop {σ} (m : SinkM σ) : Nat → Bufio → Sk σ → Bytes → Nat → Bufio × Sk σ × Bytes × Nat
  | 0, b, sk, p, nn =>
    if p.length > b.avail ∧ b.err = false then ({ b with err := true }, sk, p, nn) else (b, sk, p, nn)
  | fuel + 1, b, sk, p, nn =>
    if p.length > b.avail ∧ b.err = false then
      if b.buf.length = 0 then
        -- large write, empty buffer: write directly from p
        let w := sk.write m p
        bufWriteLoop m fuel { b with err := w.2.err } w.1 (p.drop w.2.n) (nn + w.2.n)
      else
        let n := b.avail            -- copy(b.buf[b.n:], p) with len(p) > Available()
        let f := bufFlush m { b with buf := b.buf ++ p.take n } sk
        bufWriteLoop m fuel f.1 f.2.1 (p.drop n) (nn + n)
    else (b, sk, p, nn)

/-- MIRROR `(*Writer).Write` -/
def bufWrite {σ} (m : SinkM σ) (b : Bufio) (sk : Sk σ) (p : Bytes) : Bufio × Sk σ × Resp :=
  let l := bufWriteLoop m 3 b sk p 0
  if l.1.err then (l.1, l.2.1, ⟨l.2.2.2, true⟩)
  else ({ l.1 with buf := l.1.buf ++ l.2.2.1 }, l.2.1, ⟨l.2.2.2 + l.2.2.1.length, false⟩)

/-- MIRROR the loop of `(*Writer).WriteString` (bufio/bufio.go:748-781) for a sink that is not an
`io.StringWriter`: fill the buffer, flush, repeat. -/
def bufWriteStringLoop {σ} (m : SinkM σ) : Nat → Bufio → Sk σ → Bytes → Nat → Bufio × Sk σ × Bytes × Nat
  | 0, b, sk, p, nn =>
    if p.length > b.avail ∧ b.err = false then ({ b with err := true }, sk, p, nn) else (b, sk, p, nn)
  | fuel + 1, b, sk, p, nn =>
    if p.length > b.avail ∧ b.err = false then
      let n := b.avail
      let f := bufFlush m { b with buf := b.buf ++ p.take n } sk
      bufWriteStringLoop m fuel f.1 f.2.1 (p.drop n) (nn + n)
    else (b, sk, p, nn)

/-- MIRROR `(*Writer).WriteString`; fuel `len(s)+1` suffices when `cap ≥ 1`
(`bufWriteStringLoop_fuel`). -/
def bufWriteString {σ} (m : SinkM σ) (b : Bufio) (sk : Sk σ) (p : Bytes) : Bufio × Sk σ × Resp :=
  let l := bufWriteStringLoop m (p.length + 1) b sk p 0
  if l.1.err then (l.1, l.2.1, ⟨l.2.2.2, true⟩)
  else ({ l.1 with buf := l.1.buf ++ l.2.2.1 }, l.2.1, ⟨l.2.2.2 + l.2.2.1.length, false⟩)

/-- MIRROR the loop of `(*Writer).ReadFrom` (bufio/bufio.go:785-831; fuel: `bufReadFromLoop_fuel`) for a sink that is not an
`io.ReaderFrom` and a source `src` whose `Read(buf)` returns `min(len(buf), remaining)` bytes
(bytes.Reader, io.SectionReader, os.File): flush when full, read straight into the free part of
the buffer; at EOF "if we filled the buffer exactly, flush preemptively". -/
def bufReadFromLoop {σ} (m : SinkM σ) : Nat → Bufio → Sk σ → Bytes → Nat → Bufio × Sk σ × Resp
  | 0, b, sk, _, n => ({ b with err := true }, sk, ⟨n, true⟩)      -- io.ErrNoProgress (cap = 0 only)
  | fuel + 1, b, sk, src, n =>
    let f := if b.avail = 0 then bufFlush m b sk else (b, sk, false)
    if f.2.2 then (f.1, f.2.1, ⟨n, true⟩)
    else if src.length = 0 then
      if f.1.avail = 0 then
        let g := bufFlush m f.1 f.2.1
        (g.1, g.2.1, ⟨n, g.2.2⟩)
      else (f.1, f.2.1, ⟨n, false⟩)
    else
      let k := min src.length f.1.avail
      bufReadFromLoop m fuel { f.1 with buf := f.1.buf ++ src.take k } f.2.1 (src.drop k) (n + k)

/-- MIRROR `(*Writer).ReadFrom` -/
def bufReadFrom {σ} (m : SinkM σ) (b : Bufio) (sk : Sk σ) (src : Bytes) : Bufio × Sk σ × Resp :=
  if b.err then (b, sk, ⟨0, true⟩) else bufReadFromLoop m (src.length + 1) b sk src 0

theorem bufFlush_spec {σ} (m : SinkM σ) (b : Bufio) (sk : Sk σ) :
    (bufFlush m b sk).2.1.held ++ (bufFlush m b sk).1.buf = sk.held ++ b.buf ∧
    ((bufFlush m b sk).2.2 = false → (bufFlush m b sk).1.buf = [] ∧ (bufFlush m b sk).1.err = false) ∧
    ((bufFlush m b sk).2.2 = true → (bufFlush m b sk).1.err = true) ∧
    (b.err = true → bufFlush m b sk = (b, sk, true)) ∧
    Reach m sk (bufFlush m b sk).2.1 ∧ (bufFlush m b sk).1.cap = b.cap := by
  unfold bufFlush
  by_cases he : b.err = true
  · simp [he, Reach.refl]
  · by_cases h0 : b.buf.length = 0
    · have : b.buf = [] := List.eq_nil_of_length_eq_zero h0
      simp [he, this, Reach.refl]
    · simp only [he, h0, Bool.false_eq_true, if_false]
      split
      · refine ⟨?_, by simp, by simp, by simp, Reach.one m sk _, rfl⟩
        simp [Sk.held_write, List.append_assoc]
      · rename_i hne
        have hn : ¬ ((sk.write m b.buf).2.n < b.buf.length) := by
          intro h; apply hne; simp [h]
        refine ⟨?_, by simp, by simp, by simp, Reach.one m sk _, rfl⟩
        simp only [Sk.held_write, List.append_nil] at hn ⊢
        rw [List.take_of_length_le (by omega)]

structure LoopAt {σ} (m : SinkM σ) (b : Bufio) (sk : Sk σ) (p : Bytes) (nn : Nat)
    (l : Bufio × Sk σ × Bytes × Nat) (j : Nat) : Prop where
  le : j ≤ p.length
  rest : l.2.2.1 = p.drop j
  count : l.2.2.2 = nn + j
  deliv : l.2.1.held ++ l.1.buf = sk.held ++ b.buf ++ p.take j
  stuck : b.err = true → l = (b, sk, p, nn)
  reach : Reach m sk l.2.1

/-- what both loops guarantee of their result `l` when started on `(b, sk, p, nn)` -/
def LoopOK {σ} (m : SinkM σ) (b : Bufio) (sk : Sk σ) (p : Bytes) (nn : Nat)
    (l : Bufio × Sk σ × Bytes × Nat) : Prop := ∃ j, LoopAt m b sk p nn l j

theorem LoopOK.exit {σ} (m : SinkM σ) (b : Bufio) (sk : Sk σ) (p : Bytes) (nn : Nat) : LoopOK m b sk p nn (b, sk, p, nn) :=
  ⟨0, Nat.zero_le _, by simp, by simp, by simp, fun _ => rfl, Reach.refl _⟩

theorem LoopOK.noFuel {σ} (m : SinkM σ) {b : Bufio} (sk : Sk σ) {p : Bytes} (nn : Nat)
    (h : p.length > b.avail ∧ b.err = false) : LoopOK m b sk p nn ({ b with err := true }, sk, p, nn) :=
  ⟨0, Nat.zero_le _, by simp, by simp, by simp, by simp [h.2], Reach.refl _⟩

theorem LoopOK.flushStep {σ} {m : SinkM σ} {b : Bufio} {sk : Sk σ} {p : Bytes} {nn : Nat}
    {l : Bufio × Sk σ × Bytes × Nat} (hc : p.length > b.avail ∧ b.err = false)
    (h : LoopOK m (bufFlush m { b with buf := b.buf ++ p.take b.avail } sk).1
      (bufFlush m { b with buf := b.buf ++ p.take b.avail } sk).2.1 (p.drop b.avail) (nn + b.avail) l) :
    LoopOK m b sk p nn l := by
  obtain ⟨f1, _, _, _, f5, _⟩ := bufFlush_spec m { b with buf := b.buf ++ p.take b.avail } sk
  obtain ⟨j, h⟩ := h
  exact ⟨b.avail + j, {
    le := by have := h.le; simp only [List.length_drop] at this; omega
    rest := by rw [h.rest, List.drop_drop]
    count := by rw [h.count]; omega
    deliv := by rw [h.deliv, f1]; simp only [List.append_assoc, List.take_add]
    stuck := fun he => by rw [hc.2] at he; cases he
    reach := Reach.trans f5 h.reach }⟩

theorem LoopOK.directStep {σ} {m : SinkM σ} (hm : Conforming m) {b : Bufio} {sk : Sk σ} {p : Bytes} {nn : Nat}
    {l : Bufio × Sk σ × Bytes × Nat} (hc : p.length > b.avail ∧ b.err = false) (h0 : b.buf.length = 0)
    (h : LoopOK m { b with err := (sk.write m p).2.err } (sk.write m p).1 (p.drop (sk.write m p).2.n)
      (nn + (sk.write m p).2.n) l) :
    LoopOK m b sk p nn l := by
  have hb : b.buf = [] := List.eq_nil_of_length_eq_zero h0
  have hn : (sk.write m p).2.n ≤ p.length := (hm sk.st sk.len p).1
  obtain ⟨j, h⟩ := h
  exact ⟨(sk.write m p).2.n + j, {
    le := by have := h.le; simp only [List.length_drop] at this; omega
    rest := by rw [h.rest, List.drop_drop]
    count := by rw [h.count]; omega
    deliv := by rw [h.deliv]; simp only [Sk.held_write, hb, List.append_nil, List.append_assoc, List.take_add]
    stuck := fun he => by rw [hc.2] at he; cases he
    reach := Reach.trans (Reach.one m sk p) h.reach }⟩

theorem bufWriteLoop_spec {σ} (m : SinkM σ) (hm : Conforming m) (fuel : Nat) (b : Bufio) (sk : Sk σ) (p : Bytes) (nn : Nat) :
    LoopOK m b sk p nn (bufWriteLoop m fuel b sk p nn) := by
  fun_induction bufWriteLoop m fuel b sk p nn
  -- out of fuel / exit at fuel 0; direct write; fill and flush; exit
  · exact LoopOK.noFuel m _ _ ‹_›
  · exact LoopOK.exit m _ _ _ _
  · exact LoopOK.directStep hm ‹_› ‹_› ‹_›
  · exact LoopOK.flushStep ‹_› ‹_›
  · exact LoopOK.exit m _ _ _ _

theorem bufWriteStringLoop_spec {σ} (m : SinkM σ) (fuel : Nat) (b : Bufio) (sk : Sk σ) (p : Bytes) (nn : Nat) :
    LoopOK m b sk p nn (bufWriteStringLoop m fuel b sk p nn) := by
  fun_induction bufWriteStringLoop m fuel b sk p nn
  · exact LoopOK.noFuel m _ _ ‹_›
  · exact LoopOK.exit m _ _ _ _
  · exact LoopOK.flushStep ‹_› ‹_›
  · exact LoopOK.exit m _ _ _ _

theorem bufFlush_outcome {σ} (m : SinkM σ) (b : Bufio) (sk : Sk σ) :
    (bufFlush m b sk).1.err = true ∨ (bufFlush m b sk).1.buf = [] := by
  obtain ⟨_, f2, f3, _, _, _⟩ := bufFlush_spec m b sk
  cases h : (bufFlush m b sk).2.2 with
  | false => exact Or.inr (f2 h).1
  | true => exact Or.inl (f3 h)

theorem bufWriteLoop_done {σ} (m : SinkM σ) (b : Bufio) (sk : Sk σ) (p : Bytes) (nn : Nat)
    (h : ¬ (p.length > b.avail ∧ b.err = false)) :
    ∀ fuel, bufWriteLoop m fuel b sk p nn = (b, sk, p, nn)
  | 0 => by simp [bufWriteLoop, h]
  | fuel + 1 => by simp [bufWriteLoop, h]

theorem direct_write_done {σ} (m : SinkM σ) (hm : Conforming m) (b : Bufio) (sk : Sk σ) (p : Bytes) :
    ¬ ((p.drop (sk.write m p).2.n).length > ({ b with err := (sk.write m p).2.err } : Bufio).avail ∧
      ({ b with err := (sk.write m p).2.err } : Bufio).err = false) := by
  intro ⟨hlen, he⟩
  have hc := hm sk.st sk.len p
  have he' : (m.step sk.st sk.len p).2.err = false := he
  have : ¬ ((m.step sk.st sk.len p).2.n < p.length) := fun hh => by
    have := hc.2 hh; rw [he'] at this; cases this
  simp only [Sk.write_resp, List.length_drop] at hlen
  omega

theorem bufWriteLoop_fuel_empty {σ} (m : SinkM σ) (hm : Conforming m) (b : Bufio) (sk : Sk σ)
    (p : Bytes) (nn : Nat) (h0 : b.buf.length = 0) (f : Nat) :
    bufWriteLoop m (f + 1) b sk p nn = bufWriteLoop m 1 b sk p nn := by
  unfold bufWriteLoop
  split
  · dsimp only
    rw [bufWriteLoop_done m _ _ _ _ (direct_write_done m hm b sk p) f,
      bufWriteLoop_done m _ _ _ _ (direct_write_done m hm b sk p) 0]
  · rfl

/-- MIRROR adequacy: two rounds are all the `Write` loop can do, so its "out of fuel" branch is dead for the fuel 3 of `bufWrite`.
The first fills the buffer and flushes, which leaves an empty buffer or an error (`bufFlush_outcome`); on an empty buffer
the second writes `p` directly, which leaves nothing to write or an error (`direct_write_done`). -/
theorem bufWriteLoop_fuel {σ} (m : SinkM σ) (hm : Conforming m) (b : Bufio) (sk : Sk σ)
    (p : Bytes) (nn : Nat) (f : Nat) :
    bufWriteLoop m (f + 2) b sk p nn = bufWriteLoop m 2 b sk p nn := by
  unfold bufWriteLoop
  split
  · split
    · rw [bufWriteLoop_done m _ _ _ _ (direct_write_done m hm b sk p) (f + 1),
        bufWriteLoop_done m _ _ _ _ (direct_write_done m hm b sk p) 1]
    · rcases bufFlush_outcome m { b with buf := b.buf ++ p.take b.avail } sk with he | h0
      · rw [bufWriteLoop_done m _ _ _ _ (by simp [he]) (f + 1), bufWriteLoop_done m _ _ _ _ (by simp [he]) 1]
      · exact bufWriteLoop_fuel_empty m hm _ _ _ _ (by rw [h0]; rfl) f
  · rfl

theorem bufWriteStringLoop_done {σ} (m : SinkM σ) (b : Bufio) (sk : Sk σ) (p : Bytes) (nn : Nat)
    (h : ¬ (p.length > b.avail ∧ b.err = false)) :
    ∀ fuel, bufWriteStringLoop m fuel b sk p nn = (b, sk, p, nn)
  | 0 => by simp [bufWriteStringLoop, h]
  | fuel + 1 => by simp [bufWriteStringLoop, h]

theorem bufWriteStringLoop_fuel_aux {σ} (m : SinkM σ) :
    ∀ (fuel : Nat) (b : Bufio) (sk : Sk σ) (p : Bytes) (nn extra : Nat), 1 ≤ b.cap →
      (1 ≤ b.avail ∨ p.length + 1 ≤ fuel) → p.length ≤ fuel →
      bufWriteStringLoop m (fuel + extra) b sk p nn = bufWriteStringLoop m fuel b sk p nn := by
  intro fuel
  induction fuel with
  | zero =>
    intro b sk p nn extra _ _ hp
    have hd : ¬ (p.length > b.avail ∧ b.err = false) := by intro ⟨h, _⟩; omega
    rw [bufWriteStringLoop_done m b sk p nn hd, bufWriteStringLoop_done m b sk p nn hd]
  | succ fuel ih =>
    intro b sk p nn extra hcap hav hp
    by_cases hc : p.length > b.avail ∧ b.err = false
    · rw [show fuel + 1 + extra = (fuel + extra) + 1 by omega]
      unfold bufWriteStringLoop
      rw [if_pos hc, if_pos hc]
      show bufWriteStringLoop m (fuel + extra) (bufFlush m { b with buf := b.buf ++ p.take b.avail } sk).1
          (bufFlush m { b with buf := b.buf ++ p.take b.avail } sk).2.1 (p.drop b.avail) (nn + b.avail) =
        bufWriteStringLoop m fuel (bufFlush m { b with buf := b.buf ++ p.take b.avail } sk).1
          (bufFlush m { b with buf := b.buf ++ p.take b.avail } sk).2.1 (p.drop b.avail) (nn + b.avail)
      have hs := bufFlush_spec m { b with buf := b.buf ++ p.take b.avail } sk
      have ho := bufFlush_outcome m { b with buf := b.buf ++ p.take b.avail } sk
      generalize bufFlush m { b with buf := b.buf ++ p.take b.avail } sk = X at hs ho ⊢
      obtain ⟨_, _, _, _, _, hcap'⟩ := hs
      rcases ho with he | hb0
      · rw [bufWriteStringLoop_done m _ _ _ _ (by simp [he]), bufWriteStringLoop_done m _ _ _ _ (by simp [he])]
      · apply ih
        · rw [hcap']; exact hcap
        · left
          show 1 ≤ X.1.cap - X.1.buf.length
          rw [hb0, hcap']; simp only [List.length_nil]; omega
        · simp only [List.length_drop]
          cases hav with
          | inl h => omega
          | inr h => omega
    · rw [bufWriteStringLoop_done m b sk p nn hc, bufWriteStringLoop_done m b sk p nn hc]

/-- MIRROR adequacy: the `WriteString` loop needs at most `len(s) + 1` iterations when the buffer
has room for at least one byte (`bufio.NewWriterSize` never makes a smaller one) -/
theorem bufWriteStringLoop_fuel {σ} (m : SinkM σ) (b : Bufio) (sk : Sk σ) (p : Bytes) (nn extra : Nat)
    (hcap : 1 ≤ b.cap) :
    bufWriteStringLoop m (p.length + 1 + extra) b sk p nn = bufWriteStringLoop m (p.length + 1) b sk p nn :=
  bufWriteStringLoop_fuel_aux m (p.length + 1) b sk p nn extra hcap (Or.inr (Nat.le_refl _)) (Nat.le_succ _)

/-- the `let f` of the MIRROR `bufReadFromLoop`, named: `rfTop_spec` applies to that `f` because the two texts are the same term -/
def rfTop {σ} (m : SinkM σ) (b : Bufio) (sk : Sk σ) : Bufio × Sk σ × Bool :=
  if b.avail = 0 then bufFlush m b sk else (b, sk, false)

theorem rfTop_spec {σ} (m : SinkM σ) (b : Bufio) (sk : Sk σ) :
    (rfTop m b sk).2.1.held ++ (rfTop m b sk).1.buf = sk.held ++ b.buf ∧
    ((rfTop m b sk).2.2 = true → (rfTop m b sk).1.err = true) ∧ Reach m sk (rfTop m b sk).2.1 ∧
    (rfTop m b sk).1.cap = b.cap ∧ ((rfTop m b sk).2.2 = false → 1 ≤ b.cap → 1 ≤ (rfTop m b sk).1.avail) := by
  unfold rfTop
  split
  · obtain ⟨f1, f2, f3, _, f5, f6⟩ := bufFlush_spec m b sk
    refine ⟨f1, f3, f5, f6, fun h hc => ?_⟩
    show 1 ≤ (bufFlush m b sk).1.cap - (bufFlush m b sk).1.buf.length
    rw [(f2 h).1, f6]; simp only [List.length_nil]; omega
  · exact ⟨rfl, by simp, Reach.refl _, rfl, fun _ _ => by show 1 ≤ b.avail; omega⟩

/-- MIRROR adequacy: the `ReadFrom` loop needs at most `len(src) + 1` iterations when `cap ≥ 1` -/
theorem bufReadFromLoop_fuel {σ} (m : SinkM σ) :
    ∀ (fuel : Nat) (b : Bufio) (sk : Sk σ) (src : Bytes) (n extra : Nat), 1 ≤ b.cap →
      src.length + 1 ≤ fuel →
      bufReadFromLoop m (fuel + extra) b sk src n = bufReadFromLoop m fuel b sk src n := by
  intro fuel
  induction fuel with
  | zero => intro b sk src n extra _ h; omega
  | succ fuel ih =>
    intro b sk src n extra hcap hfuel
    rw [show fuel + 1 + extra = (fuel + extra) + 1 by omega]
    obtain ⟨_, _, _, hc, ha⟩ := rfTop_spec m b sk
    have hfeq : rfTop m b sk = (if b.avail = 0 then bufFlush m b sk else (b, sk, false)) := rfl
    unfold bufReadFromLoop
    simp only [← hfeq]
    split
    · rfl
    · rename_i he
      split
      · rfl
      · apply ih
        · show 1 ≤ (rfTop m b sk).1.cap
          rw [hc]; exact hcap
        · have := ha (by simpa using he) hcap
          simp only [List.length_drop]; omega

theorem flush_failure_sticks {σ} (m : SinkM σ) (b : Bufio) (sk : Sk σ) (he : b.err = false)
    (hn : b.buf.length ≠ 0)
    (hbad : (sk.write m b.buf).2.err = true ∨ (sk.write m b.buf).2.n < b.buf.length) :
    (bufFlush m b sk).1.err = true ∧ (bufFlush m b sk).2.2 = true := by
  unfold bufFlush
  have : ((sk.write m b.buf).2.err || decide ((sk.write m b.buf).2.n < b.buf.length)) = true := by
    cases hbad with
    | inl h => simp [h]
    | inr h => simp [h]
  simp [he, hn, this]

/-- `w.writer.writer`: the optional `bufio.Writer` (`WriteBufferSize > 0`, writer.go:1113-1119)
and the sink -/
structure Under (σ : Type) where
  bw : Option Bufio
  sk : Sk σ

/-- everything accepted by the chain and not lost: sink contents, then the buffered bytes -/
def Under.deliv {σ} (u : Under σ) : Bytes :=
  u.sk.held ++ (match u.bw with | some b => b.buf | none => [])

/-- the sticky error of the bufio.Writer -/
def Under.berr {σ} (u : Under σ) : Bool := match u.bw with | some b => b.err | none => false

/-- what every transfer primitive guarantees (`p` = bytes offered, `r` = its result) -/
structure PrimOK {σ} (m : SinkM σ) (u u' : Under σ) (p : Bytes) (r : Resp) : Prop where
  deliv : u'.deliv = u.deliv ++ p.take r.n
  le : r.n ≤ p.length
  full : r.err = false → r.n = p.length
  errOut : r.err = true → u.bw.isSome = true → u'.berr = true
  mono : u.berr = true → u' = u
  reach : Reach m u.sk u'.sk
  shape : u'.bw.isSome = u.bw.isSome

/-- the text behind the loops of the MIRRORs `bufWrite` and `bufWriteString`, named: `bufWrite m b sk p` unfolds to
    `bufDone (bufWriteLoop m 3 b sk p 0)`, which is where `LoopOK.done` applies -/
def bufDone {σ} (l : Bufio × Sk σ × Bytes × Nat) : Bufio × Sk σ × Resp :=
  if l.1.err then (l.1, l.2.1, ⟨l.2.2.2, true⟩)
  else ({ l.1 with buf := l.1.buf ++ l.2.2.1 }, l.2.1, ⟨l.2.2.2 + l.2.2.1.length, false⟩)

theorem LoopOK.done {σ} {m : SinkM σ} {b : Bufio} {sk : Sk σ} {p : Bytes} {l : Bufio × Sk σ × Bytes × Nat}
    (h : LoopOK m b sk p 0 l) :
    PrimOK m ⟨some b, sk⟩ ⟨some (bufDone l).1, (bufDone l).2.1⟩ p (bufDone l).2.2 ∧
    (b.err = true → (bufDone l).2.2.err = true) := by
  obtain ⟨j, h⟩ := h
  have hj := h.le
  unfold bufDone
  split
  · rename_i he
    refine ⟨⟨?_, ?_, ?_, ?_, ?_, h.reach, rfl⟩, fun _ => rfl⟩
    · simp only [Under.deliv]; rw [h.deliv, h.count]; simp
    · simp only; rw [h.count]; omega
    · intro h; simp at h
    · intro _ _; simpa [Under.berr] using he
    · intro hb; simp only [Under.berr] at hb; rw [h.stuck hb]
  · rename_i he
    refine ⟨⟨?_, ?_, ?_, ?_, ?_, h.reach, rfl⟩, fun hb => ?_⟩
    · simp only [Under.deliv]; rw [← List.append_assoc, h.deliv, h.count, h.rest]
      simp only [List.length_drop, Nat.zero_add]
      rw [show j + (p.length - j) = p.length by omega, List.take_length, List.append_assoc,
        List.take_append_drop]
    · simp only; rw [h.count, h.rest]; simp only [List.length_drop]; omega
    · intro _; simp only; rw [h.count, h.rest]; simp only [List.length_drop]; omega
    · intro h; simp at h
    · intro hb; simp only [Under.berr] at hb; rw [h.stuck hb] at he; simp [hb] at he
    · rw [h.stuck hb] at he; exact absurd hb he

/-- MIRROR `w.writer.writer.Write(p)` -/
def uWrite {σ} (m : SinkM σ) (u : Under σ) (p : Bytes) : Under σ × Resp :=
  match u.bw with
  | none => let w := u.sk.write m p; (⟨none, w.1⟩, w.2)
  | some b => let w := bufWrite m b u.sk p; (⟨some w.1, w.2.1⟩, w.2.2)

theorem uWrite_ok {σ} (m : SinkM σ) (hm : Conforming m) (u : Under σ) (p : Bytes) :
    PrimOK m u (uWrite m u p).1 p (uWrite m u p).2 := by
  obtain ⟨bw, sk⟩ := u
  cases bw with
  | none =>
    have hc := hm sk.st sk.len p
    refine ⟨?_, hc.1, ?_, ?_, ?_, Reach.one m sk p, rfl⟩
    · simp [uWrite, Under.deliv, Sk.held_write]
    · intro h
      have : ¬ ((m.step sk.st sk.len p).2.n < p.length) := fun hh => by
        have := hc.2 hh; simp [uWrite, Sk.write_resp] at h; simp [h] at this
      simp only [uWrite, Sk.write_resp]; omega
    · intro _ h; simp at h
    · intro h; simp [Under.berr] at h
  | some b => exact (bufWriteLoop_spec m hm 3 b sk p 0).done.1

/-- MIRROR `io.WriteString(w.writer.writer, s)` (offsetTrackingWriter.WriteString, writer.go:3006-3010):
the sink is not an `io.StringWriter`, so unbuffered this is `Write([]byte(s))`. -/
def uWriteString {σ} (m : SinkM σ) (u : Under σ) (p : Bytes) : Under σ × Resp :=
  match u.bw with
  | none => let w := u.sk.write m p; (⟨none, w.1⟩, w.2)
  | some b => let w := bufWriteString m b u.sk p; (⟨some w.1, w.2.1⟩, w.2.2)

theorem uWriteString_ok {σ} (m : SinkM σ) (hm : Conforming m) (u : Under σ) (p : Bytes) :
    PrimOK m u (uWriteString m u p).1 p (uWriteString m u p).2 := by
  obtain ⟨bw, sk⟩ := u
  cases bw with
  | none => exact uWrite_ok m hm ⟨none, sk⟩ p
  | some b => exact (bufWriteStringLoop_spec m (p.length + 1) b sk p 0).done.1

theorem bufReadFromLoop_spec {σ} (m : SinkM σ) (fuel : Nat) (b : Bufio) (sk : Sk σ) (src : Bytes) (n : Nat) :
    ∃ j, j ≤ src.length ∧
      (bufReadFromLoop m fuel b sk src n).2.2.n = n + j ∧
      (bufReadFromLoop m fuel b sk src n).2.1.held ++ (bufReadFromLoop m fuel b sk src n).1.buf
        = sk.held ++ b.buf ++ src.take j ∧
      ((bufReadFromLoop m fuel b sk src n).2.2.err = false → j = src.length) ∧
      ((bufReadFromLoop m fuel b sk src n).2.2.err = true →
        (bufReadFromLoop m fuel b sk src n).1.err = true) ∧
      Reach m sk (bufReadFromLoop m fuel b sk src n).2.1 := by
  -- out of fuel; the flush at the top fails; source empty and buffer full (flush); source empty; copy and go on
  fun_induction bufReadFromLoop m fuel b sk src n with
  | case1 => exact ⟨0, Nat.zero_le _, by simp, by simp, by simp, by simp, Reach.refl _⟩
  | case2 fuel b sk src n f he =>
    have hf1 : f.2.1.held ++ f.1.buf = sk.held ++ b.buf := (rfTop_spec m b sk).1
    have hf3 : Reach m sk f.2.1 := (rfTop_spec m b sk).2.2.1
    exact ⟨0, Nat.zero_le _, by simp, by simpa using hf1, by simp, fun _ => (rfTop_spec m b sk).2.1 he, hf3⟩
  | case3 fuel b sk src n f he h0 hav g =>
    have hf1 : f.2.1.held ++ f.1.buf = sk.held ++ b.buf := (rfTop_spec m b sk).1
    have hf3 : Reach m sk f.2.1 := (rfTop_spec m b sk).2.2.1
    obtain ⟨g1, _, g3, _, g5, _⟩ := bufFlush_spec m f.1 f.2.1
    have hs : src = [] := List.eq_nil_of_length_eq_zero h0
    refine ⟨0, Nat.zero_le _, by simp, ?_, by simp [hs], g3, Reach.trans hf3 g5⟩
    simp only [List.take_zero, List.append_nil]; rw [g1]; exact hf1
  | case4 fuel b sk src n f he h0 hav =>
    have hf1 : f.2.1.held ++ f.1.buf = sk.held ++ b.buf := (rfTop_spec m b sk).1
    have hf3 : Reach m sk f.2.1 := (rfTop_spec m b sk).2.2.1
    have hs : src = [] := List.eq_nil_of_length_eq_zero h0
    exact ⟨0, Nat.zero_le _, by simp, by simpa using hf1, by simp [hs], by simp, hf3⟩
  | case5 fuel b sk src n f he h0 k ih =>
    have hf1 : f.2.1.held ++ f.1.buf = sk.held ++ b.buf := (rfTop_spec m b sk).1
    have hf3 : Reach m sk f.2.1 := (rfTop_spec m b sk).2.2.1
    obtain ⟨j, hj, h1, h2, h3, h4, h5⟩ := ih
    refine ⟨k + j, ?_, ?_, ?_, ?_, h4, Reach.trans hf3 h5⟩
    · simp only [List.length_drop] at hj; omega
    · rw [h1]; omega
    · rw [h2, ← List.append_assoc, hf1]; simp only [List.append_assoc, List.take_add]
    · intro h; have := h3 h; simp only [List.length_drop] at this; omega

/-- the buffered case of `uReadFrom` below: `bufio.Writer.ReadFrom` -/
def uReadFromBuf {σ} (m : SinkM σ) (b : Bufio) (sk : Sk σ) (src : Bytes) : Under σ × Resp :=
  let w := bufReadFrom m b sk src; (⟨some w.1, w.2.1⟩, w.2.2)

theorem uReadFromBuf_ok {σ} (m : SinkM σ) (b : Bufio) (sk : Sk σ) (src : Bytes) :
    PrimOK m ⟨some b, sk⟩ (uReadFromBuf m b sk src).1 src (uReadFromBuf m b sk src).2 := by
  simp only [uReadFromBuf, bufReadFrom]
  split
  · rename_i he
    exact ⟨by simp [Under.deliv], by simp, by simp, fun _ _ => by simpa [Under.berr] using he,
      fun _ => rfl, Reach.refl _, rfl⟩
  · rename_i he
    obtain ⟨j, hj, h1, h2, h3, h4, h5⟩ := bufReadFromLoop_spec m (src.length + 1) b sk src 0
    refine ⟨?_, ?_, ?_, ?_, ?_, h5, rfl⟩
    · simp only [Under.deliv]; rw [h2, h1]; simp
    · rw [h1]; omega
    · intro h; rw [h1, h3 h]; omega
    · intro h _; simpa [Under.berr] using h4 h
    · intro h; simp only [Under.berr] at h; exact absurd h he

/-- MIRROR the copy loops that feed the chain chunk by chunk: `io.copyBuffer` (io.go:407-447;
`nr > 0` → `Write`, stop on `ew != nil` or `nr != nw` = `io.ErrShortWrite`) and
`(*memory.Buffer).WriteTo` (internal/memory/buffer.go:78-94), which behave alike on a conforming
writer. Returns the bytes written and `err != nil`. -/
def uCopy {σ} (m : SinkM σ) : Under σ → List Bytes → Nat → Under σ × Resp
  | u, [], written => (u, ⟨written, false⟩)
  | u, c :: cs, written =>
    if c.length = 0 then uCopy m u cs written else
    let w := uWrite m u c
    if w.2.err || decide (w.2.n ≠ c.length) then (w.1, ⟨written + w.2.n, true⟩)
    else uCopy m w.1 cs (written + w.2.n)

theorem uCopy_spec {σ} (m : SinkM σ) (hm : Conforming m) (chunks : List Bytes) (u : Under σ) (written : Nat) :
    ∃ j, (uCopy m u chunks written).2.n = written + j ∧
      PrimOK m u (uCopy m u chunks written).1 chunks.flatten ⟨j, (uCopy m u chunks written).2.err⟩ := by
  fun_induction uCopy m u chunks written
  -- no chunk left; an empty chunk is skipped; the write fails or is short; the write is complete
  · exact ⟨0, rfl, by simp, by simp, by simp, by simp, fun _ => rfl, Reach.refl _, rfl⟩
  · rename_i u c cs written h0 ih
    have hc : c = [] := List.eq_nil_of_length_eq_zero h0
    obtain ⟨j, hj, hp⟩ := ih
    exact ⟨j, hj, by simpa [hc] using hp⟩
  · rename_i u c cs written h0 w hbad
    have hw := uWrite_ok m hm u c
    have herr : (uWrite m u c).2.err = true := by
      cases he : (uWrite m u c).2.err with
      | true => rfl
      | false => have := hw.full he; simp [w, he, this] at hbad
    refine ⟨(uWrite m u c).2.n, rfl, ?_, ?_, by simp, ?_, hw.mono, hw.reach, hw.shape⟩
    · simp only [List.flatten_cons]
      rw [hw.deliv, List.take_append_of_le_length hw.le]
    · simp only [List.flatten_cons, List.length_append]; have := hw.le; omega
    · intro _ hb; exact hw.errOut herr hb
  · rename_i u c cs written h0 w hgood ih
    have hw := uWrite_ok m hm u c
    have he : (uWrite m u c).2.err = false := by
      cases he : (uWrite m u c).2.err with
      | true => simp [w, he] at hgood
      | false => rfl
    have hn := hw.full he
    obtain ⟨j, hj, hp⟩ := ih
    refine ⟨c.length + j, by rw [hj, hn]; omega, ?_, ?_, ?_, ?_, ?_, Reach.trans hw.reach hp.reach,
      by rw [hp.shape, hw.shape]⟩
    · rw [hp.deliv, hw.deliv, hn]
      simp only [List.flatten_cons, List.take_length, List.append_assoc, List.take_length_add_append]
    · simp only [List.flatten_cons, List.length_append]; have := hp.le; simp only at this; omega
    · intro h; have := hp.full h
      simp only [List.flatten_cons, List.length_append] at this ⊢; omega
    · intro h hb; exact hp.errOut h (by rw [hw.shape]; exact hb)
    · intro hb; have h1 := hw.mono hb; rw [hp.mono (by rw [h1]; exact hb), h1]

theorem uCopy_ok {σ} (m : SinkM σ) (hm : Conforming m) (u : Under σ) (chunks : List Bytes) :
    PrimOK m u (uCopy m u chunks 0).1 chunks.flatten (uCopy m u chunks 0).2 := by
  obtain ⟨j, hj, hp⟩ := uCopy_spec m hm chunks u 0
  have : (uCopy m u chunks 0).2 = ⟨j, (uCopy m u chunks 0).2.err⟩ := by
    cases h : (uCopy m u chunks 0).2 with
    | mk n e => rw [h] at hj; simp at hj; simp [hj]
  rw [this]; exact hp

/-- split `p` into pieces of `c` bytes (the last one shorter): the chunks of a `memory.Buffer`
(`c` = chunk size of the pool) or of `io.copyBuffer` (`c` = 32768) -/
def chunksOf (c : Nat) : Nat → Bytes → List Bytes
  | 0, p => [p]
  | fuel + 1, p => if p.length ≤ c ∨ c = 0 then [p] else p.take c :: chunksOf c fuel (p.drop c)

theorem chunksOf_flatten (c : Nat) (fuel : Nat) (p : Bytes) : (chunksOf c fuel p).flatten = p := by
  fun_induction chunksOf c fuel p
  · simp
  · simp
  · rename_i ih; simp [ih]

/-- MIRROR `w.buffer.Flush()` when `w.buffer != nil` (writer.go:1279-1281) -/
def uFlush {σ} (m : SinkM σ) (u : Under σ) : Under σ × Resp :=
  match u.bw with
  | none => (u, ⟨0, false⟩)
  | some b => let f := bufFlush m b u.sk; (⟨some f.1, f.2.1⟩, ⟨0, f.2.2⟩)

theorem uFlush_ok {σ} (m : SinkM σ) (u : Under σ) :
    PrimOK m u (uFlush m u).1 [] (uFlush m u).2 ∧
    ((uFlush m u).2.err = false → (uFlush m u).1.deliv = (uFlush m u).1.sk.held ∧ (uFlush m u).1.berr = false) ∧
    (u.berr = true → (uFlush m u).2.err = true) := by
  obtain ⟨bw, sk⟩ := u
  cases bw with
  | none =>
    exact ⟨⟨by simp [uFlush], by simp [uFlush], by simp [uFlush], by simp, fun _ => rfl, Reach.refl _, rfl⟩,
      by simp [uFlush, Under.deliv, Under.berr], by simp [Under.berr]⟩
  | some b =>
    obtain ⟨f1, f2, f3, f4, f5, _⟩ := bufFlush_spec m b sk
    refine ⟨⟨?_, by simp [uFlush], by simp [uFlush], ?_, ?_, f5, rfl⟩, ?_, ?_⟩
    · simpa [uFlush, Under.deliv] using f1
    · intro h _; simpa [uFlush, Under.berr] using f3 (by simpa [uFlush] using h)
    · intro h; simp only [Under.berr] at h; simp [uFlush, f4 h]
    · intro h
      have := f2 (by simpa [uFlush] using h)
      simp [uFlush, Under.deliv, Under.berr, this.1, this.2]
    · intro h; simp only [Under.berr] at h; simp [uFlush, f4 h]

/-- MIRROR `offsetTrackingWriter.ReadFrom` = `io.Copy(w.writer, r)` (writer.go:3012-3017) for a
source without `WriteTo` (the `io.SectionReader`s of the verbatim column copy, `copySection` at
writer.go:1600, 1611, 1697; an `*os.File` page buffer reaches the same code through `genericWriteTo`) -/
def uReadFrom {σ} (m : SinkM σ) (u : Under σ) (src : Bytes) : Under σ × Resp :=
  match u.bw with
  | none => uCopy m u (chunksOf 32768 src.length src) 0
  | some b => uReadFromBuf m b u.sk src

theorem uReadFrom_ok {σ} (m : SinkM σ) (hm : Conforming m) (u : Under σ) (src : Bytes) :
    PrimOK m u (uReadFrom m u src).1 src (uReadFrom m u src).2 := by
  obtain ⟨bw, sk⟩ := u
  cases bw with
  | none =>
    have := uCopy_ok m hm ⟨none, sk⟩ (chunksOf 32768 src.length src)
    rw [chunksOf_flatten] at this; exact this
  | some b => exact uReadFromBuf_ok m b sk src

theorem PrimOK.nil {σ} (m : SinkM σ) (u : Under σ) : PrimOK m u u [] ⟨0, false⟩ :=
  ⟨by simp, by simp, by simp, by simp, fun _ => rfl, Reach.refl _, rfl⟩

/-- state of `writer` as far as bytes are concerned: the chain, `w.writer.offset`, and the
intermediate stores (page buffer of column c, deferred bloom-filter buffers) by id -/
structure W (σ : Type) where
  u : Under σ
  offset : Nat
  stores : Nat → Bytes

def setStore (s : Nat → Bytes) (id : Nat) (v : Bytes) : Nat → Bytes := fun j => if j = id then v else s j

/-- one operation of a write plan; `site` names the call in writer.go -/
inductive Op where
  /-- `w.writer.Write(p)` (directly or under the thrift encoder) -/
  | write (site : String) (p : Bytes)
  /-- `w.writer.WriteString(s)`: the thrift encoder's strings (`io.WriteString(&w.writer, s)`,
      encoding/thrift/binary.go:371-374) -/
  | writeString (site : String) (p : Bytes)
  /-- `writeFileHeader` (writer.go:1289-1302): `WriteString(magic)` iff `w.writer.offset == 0` -/
  | header (site : String) (p : Bytes)
  /-- `w.writer.ReadFrom(r)`, r without WriteTo (verbatim column copy) -/
  | readFrom (site : String) (src : Bytes)
  /-- append to an intermediate store: `writePageTo` into the column's page buffer
      (writer.go:2747-2769), `writeBloomFilter(buf)` into a deferred buffer (writer.go:1708-1733).
      No sink I/O. -/
  | store (id : Nat) (p : Bytes)
  /-- `io.Copy(&w.writer, c.pageBuffer)` (writer.go:1659) / `w.writer.ReadFrom(bf.buf)`
      (writer.go:1317): hand the whole store to the chain and empty it. `some c`: the store has
      `WriteTo` and offers chunks of `c` bytes (memory.Buffer); `none`: through `ReadFrom` -/
  | drain (site : String) (id : Nat) (chunk : Option Nat)
  /-- `w.buffer.Flush()` when buffered (end of `close`, writer.go:1279-1281) -/
  | flushBuf (site : String)

def Op.site : Op → String
  | .write s _ | .writeString s _ | .header s _ | .readFrom s _ | .drain s _ _ | .flushBuf s => s
  | .store _ _ => ""

/-- offsetTrackingWriter: `w.offset += n` (writer.go:3000-3017) -/
def W.track {σ} (w : W σ) (x : Under σ × Resp) : W σ × Bool :=
  ({ w with u := x.1, offset := w.offset + x.2.n }, x.2.err)

/-- MIRROR: run one operation; the Bool is `err != nil` at the site -/
def execOp {σ} (m : SinkM σ) (w : W σ) : Op → W σ × Bool
  | .write _ p => w.track (uWrite m w.u p)
  | .writeString _ p => w.track (uWriteString m w.u p)
  | .header _ p => if w.offset = 0 then w.track (uWriteString m w.u p) else (w, false)
  | .readFrom _ src => w.track (uReadFrom m w.u src)
  | .store id p => ({ w with stores := setStore w.stores id (w.stores id ++ p) }, false)
  | .drain _ id (some c) =>
    W.track { w with stores := setStore w.stores id [] }
      (uCopy m w.u (chunksOf c (w.stores id).length (w.stores id)) 0)
  | .drain _ id none =>
    W.track { w with stores := setStore w.stores id [] } (uReadFrom m w.u (w.stores id))
  | .flushBuf _ => w.track (uFlush m w.u)

/-- SPEC: the bytes an operation hands to the chain when nothing fails -/
def Op.payload (offset : Nat) (stores : Nat → Bytes) : Op → Bytes
  | .write _ p => p
  | .writeString _ p => p
  | .header _ p => if offset = 0 then p else []
  | .readFrom _ src => src
  | .store _ _ => []
  | .drain _ id _ => stores id
  | .flushBuf _ => []

def Op.after (stores : Nat → Bytes) : Op → (Nat → Bytes)
  | .store id p => setStore stores id (stores id ++ p)
  | .drain _ id _ => setStore stores id []
  | _ => stores

theorem W.track_ok {σ} {m : SinkM σ} (w : W σ) (st : Nat → Bytes) {x : Under σ × Resp} {p : Bytes}
    (h : PrimOK m w.u x.1 p x.2) :
    PrimOK m w.u (W.track { w with stores := st } x).1.u p
      ⟨(W.track { w with stores := st } x).1.offset - w.offset, (W.track { w with stores := st } x).2⟩ ∧
    (W.track { w with stores := st } x).1.stores = st ∧
    w.offset ≤ (W.track { w with stores := st } x).1.offset := by
  simpa [W.track] using h

theorem execOp_ok {σ} (m : SinkM σ) (hm : Conforming m) (w : W σ) (op : Op) :
    PrimOK m w.u (execOp m w op).1.u (op.payload w.offset w.stores)
      ⟨(execOp m w op).1.offset - w.offset, (execOp m w op).2⟩ ∧
    (execOp m w op).1.stores = op.after w.stores ∧ w.offset ≤ (execOp m w op).1.offset := by
  cases op with
  | write s p => exact w.track_ok _ (uWrite_ok m hm w.u p)
  | writeString s p => exact w.track_ok _ (uWriteString_ok m hm w.u p)
  | header s p =>
    by_cases h0 : w.offset = 0
    · simpa [execOp, W.track, Op.payload, Op.after, h0] using uWriteString_ok m hm w.u p
    · simpa [execOp, Op.payload, Op.after, h0] using PrimOK.nil m w.u
  | readFrom s src => exact w.track_ok _ (uReadFrom_ok m hm w.u src)
  | store id p => simpa [execOp, Op.payload, Op.after] using PrimOK.nil m w.u
  | drain s id chunk =>
    cases chunk with
    | some c =>
      have := uCopy_ok m hm w.u (chunksOf c (w.stores id).length (w.stores id))
      rw [chunksOf_flatten] at this
      exact w.track_ok _ this
    | none => exact w.track_ok _ (uReadFrom_ok m hm w.u (w.stores id))
  | flushBuf s => exact w.track_ok _ (uFlush_ok m w.u).1

/-- MIRROR of the error handling around the sites: `if err != nil { return err }` where the
site propagates (`table site = true`), otherwise the error is dropped and the call goes on -/
def execCall {σ} (m : SinkM σ) (table : String → Bool) : W σ → List Op → W σ × Bool
  | w, [] => (w, false)
  | w, op :: rest =>
    if (execOp m w op).2 && table op.site then ((execOp m w op).1, true)
    else execCall m table (execOp m w op).1 rest

/-- a history of API calls (Write / Flush / WriteRowGroup / … / Close), each with its plan; the
caller goes on after an error (most general user) -/
def runCalls {σ} (m : SinkM σ) (table : String → Bool) : W σ → List (List Op) → W σ × List Bool
  | w, [] => (w, [])
  | w, c :: cs =>
    ((runCalls m table (execCall m table w c).1 cs).1,
      (execCall m table w c).2 :: (runCalls m table (execCall m table w c).1 cs).2)

/-- SPEC: the fault-free meaning of a plan: (bytes handed to the chain, final offset, final stores) -/
def ideal : Nat → (Nat → Bytes) → List Op → Bytes × Nat × (Nat → Bytes)
  | off, st, [] => ([], off, st)
  | off, st, op :: rest =>
    ((op.payload off st) ++ (ideal (off + (op.payload off st).length) (op.after st) rest).1,
      (ideal (off + (op.payload off st).length) (op.after st) rest).2)

theorem ideal_append : ∀ (a b : List Op) (off : Nat) (st : Nat → Bytes),
    ideal off st (a ++ b) =
      ((ideal off st a).1 ++ (ideal (ideal off st a).2.1 (ideal off st a).2.2 b).1,
        (ideal (ideal off st a).2.1 (ideal off st a).2.2 b).2)
  | [], b, off, st => by simp [ideal]
  | op :: a, b, off, st => by
    simp only [List.cons_append, ideal, ideal_append a b, List.append_assoc]

/-- `w'` is what the plan means when started from `w` -/
def Good {σ} (w w' : W σ) (ops : List Op) : Prop :=
  w'.u.deliv = w.u.deliv ++ (ideal w.offset w.stores ops).1 ∧
  w'.offset = (ideal w.offset w.stores ops).2.1 ∧ w'.stores = (ideal w.offset w.stores ops).2.2

theorem Good.nil {σ} (w : W σ) : Good w w [] := by simp [Good, ideal]

theorem Good.cons {σ} (m : SinkM σ) (hm : Conforming m) (w w' : W σ) (op : Op) (rest : List Op)
    (he : (execOp m w op).2 = false) (h : Good (execOp m w op).1 w' rest) : Good w w' (op :: rest) := by
  obtain ⟨hp, hs, ho⟩ := execOp_ok m hm w op
  have hn := hp.full he
  simp only at hn
  have hoff : (execOp m w op).1.offset = w.offset + (op.payload w.offset w.stores).length := by omega
  obtain ⟨g1, g2, g3⟩ := h
  rw [hoff, hs] at g1 g2 g3
  refine ⟨?_, ?_, ?_⟩
  · rw [g1, hp.deliv]; simp only [hn, List.take_length, ideal, List.append_assoc]
  · simpa [ideal] using g2
  · simpa [ideal] using g3

theorem Good.trans {σ} {a b c : W σ} {x y : List Op} (h1 : Good a b x) (h2 : Good b c y) :
    Good a c (x ++ y) := by
  obtain ⟨a1, a2, a3⟩ := h1
  obtain ⟨b1, b2, b3⟩ := h2
  rw [a2, a3] at b1 b2 b3
  refine ⟨?_, ?_, ?_⟩ <;> rw [ideal_append]
  · rw [b1, a1, List.append_assoc]
  · exact b2
  · exact b3

/-- what running `ops` from `w` to `w'` guarantees, `errs` being the results handed to the callers on the way: one statement
for a call and for a history of calls, closed under concatenation (`RunOK.trans`) -/
structure RunOK {σ} (m : SinkM σ) (table : String → Bool) (w w' : W σ) (ops : List Op) (errs : List Bool) : Prop where
  mono : w.u.berr = true → w'.u = w.u
  shape : w'.u.bw.isSome = w.u.bw.isSome
  reach : Reach m w.u.sk w'.u.sk
  /-- `table site = true`: the site propagates its error -/
  clean : (∀ op ∈ ops, table op.site = true ∨ ∃ id p, op = .store id p) → (∀ r ∈ errs, r = false) → Good w w' ops
  buffered : w.u.bw.isSome = true → w'.u.berr = false → (∀ r ∈ errs, r = false) ∧ Good w w' ops

theorem RunOK.refl {σ} (m : SinkM σ) (table : String → Bool) (w : W σ) {errs : List Bool}
    (h : ∀ r ∈ errs, r = false) : RunOK m table w w [] errs :=
  ⟨fun _ => rfl, rfl, Reach.refl _, fun _ _ => Good.nil w, fun _ _ => ⟨h, Good.nil w⟩⟩

theorem RunOK.trans {σ} {m : SinkM σ} {table : String → Bool} {a b c : W σ} {x y : List Op} {e1 e2 : List Bool}
    (h1 : RunOK m table a b x e1) (h2 : RunOK m table b c y e2) : RunOK m table a c (x ++ y) (e1 ++ e2) where
  mono hb := by rw [h2.mono (by rw [h1.mono hb]; exact hb), h1.mono hb]
  shape := by rw [h2.shape, h1.shape]
  reach := h1.reach.trans h2.reach
  clean hs hn :=
    (h1.clean (fun o ho => hs o (List.mem_append_left _ ho)) fun r hr => hn r (List.mem_append_left _ hr)).trans
      (h2.clean (fun o ho => hs o (List.mem_append_right _ ho)) fun r hr => hn r (List.mem_append_right _ hr))
  buffered hbuf hclear := by
    -- the error would have stuck from `b` on
    have hb1 : b.u.berr = false := by
      cases hb : b.u.berr with
      | false => rfl
      | true => rw [h2.mono hb, hb] at hclear; cases hclear
    obtain ⟨r1, g1⟩ := h1.buffered hbuf hb1
    obtain ⟨r2, g2⟩ := h2.buffered (by rw [h1.shape]; exact hbuf) hclear
    exact ⟨fun r hr => (List.mem_append.1 hr).elim (r1 r) (r2 r), g1.trans g2⟩

theorem RunOK.step {σ} {m : SinkM σ} (hm : Conforming m) (table : String → Bool) (w : W σ) (op : Op)
    (h : ((execOp m w op).2 && table op.site) = false) : RunOK m table w (execOp m w op).1 [op] [] := by
  have h1 := (execOp_ok m hm w op).1
  refine ⟨h1.mono, h1.shape, h1.reach, fun hs _ => Good.cons m hm w _ op [] ?_ (Good.nil _),
    fun hbuf hclear => ⟨nofun, Good.cons m hm w _ op [] ?_ (Good.nil _)⟩⟩
  · cases hs op (by simp) with
    | inl ht => simpa [ht] using h
    | inr hst => obtain ⟨id, p, rfl⟩ := hst; rfl
  · cases he : (execOp m w op).2 with
    | false => rfl
    | true => rw [h1.errOut he hbuf] at hclear; cases hclear

theorem RunOK.stop {σ} {m : SinkM σ} (hm : Conforming m) (table : String → Bool) (w : W σ) (op : Op) (rest : List Op)
    (h : ((execOp m w op).2 && table op.site) = true) : RunOK m table w (execOp m w op).1 (op :: rest) [true] := by
  have h1 := (execOp_ok m hm w op).1
  refine ⟨h1.mono, h1.shape, h1.reach, fun _ hn => by simpa using hn true, fun hbuf hclear => ?_⟩
  rw [h1.errOut (by simpa using (Bool.and_eq_true_iff.1 h).1) hbuf] at hclear
  cases hclear

theorem execCall_ok {σ} {m : SinkM σ} (hm : Conforming m) (table : String → Bool) (ops : List Op) (w : W σ) :
    RunOK m table w (execCall m table w ops).1 ops [(execCall m table w ops).2] := by
  fun_induction execCall m table w ops
  · exact RunOK.refl m table _ (by simp)
  · exact RunOK.stop hm table _ _ _ ‹_›
  · exact (RunOK.step hm table _ _ (Bool.eq_false_iff.2 ‹_›)).trans ‹_›
theorem execCall_append {σ} (m : SinkM σ) (table : String → Bool) :
    ∀ (a b : List Op) (w : W σ), execCall m table w (a ++ b) =
      if (execCall m table w a).2 then ((execCall m table w a).1, true)
      else execCall m table (execCall m table w a).1 b
  | [], b, w => by simp [execCall]
  | op :: a, b, w => by
    simp only [List.cons_append, execCall]
    split
    · simp
    · exact execCall_append m table a b _

theorem runCalls_append {σ} (m : SinkM σ) (table : String → Bool) :
    ∀ (a b : List (List Op)) (w : W σ), runCalls m table w (a ++ b) =
      ((runCalls m table (runCalls m table w a).1 b).1,
        (runCalls m table w a).2 ++ (runCalls m table (runCalls m table w a).1 b).2)
  | [], b, w => by simp [runCalls]
  | c :: a, b, w => by simp [runCalls, runCalls_append m table a b]

theorem runCalls_ok {σ} {m : SinkM σ} (hm : Conforming m) (table : String → Bool) :
    ∀ (calls : List (List Op)) (w : W σ),
      RunOK m table w (runCalls m table w calls).1 calls.flatten (runCalls m table w calls).2
  | [], w => RunOK.refl m table w nofun
  | c :: cs, w => (execCall_ok hm table c w).trans (runCalls_ok hm table cs _)

/-- MIRROR `(*writer).close` (writer.go:1265-1283) as a plan: `writeFileHeader`; `flush` (the
pending row group); `writeDeferredBloomFilters` (one `ReadFrom` per deferred buffer);
`writeFileFooter` (page indexes, footer, `len‖magic`); `w.buffer.Flush()`. -/
def closeSeq (magic : Bytes) (rowGroup : List Op) (blooms : List (Nat × Option Nat)) (footer : List Bytes)
    (flushSite : String) : List Op :=
  ([Op.header "writeFileHeader:w.writer.WriteString#1" magic] ++ rowGroup ++
    blooms.map (fun b => Op.drain "writeDeferredBloomFilters:w.writer.ReadFrom#1" b.1 b.2) ++
    footer.map (Op.write "writeFileFooter")) ++ [Op.flushBuf flushSite]

theorem uWrite_sticky {σ} (m : SinkM σ) (hm : Conforming m) (u : Under σ) (p : Bytes)
    (hb : u.berr = true) : (uWrite m u p).2.err = true := by
  obtain ⟨bw, sk⟩ := u
  cases bw with
  | none => simp [Under.berr] at hb
  | some b => exact (bufWriteLoop_spec m hm 3 b sk p 0).done.2 hb

theorem uWriteString_sticky {σ} (m : SinkM σ) (u : Under σ) (p : Bytes)
    (hb : u.berr = true) : (uWriteString m u p).2.err = true := by
  obtain ⟨bw, sk⟩ := u
  cases bw with
  | none => simp [Under.berr] at hb
  | some b => exact (bufWriteStringLoop_spec m (p.length + 1) b sk p 0).done.2 hb

theorem uReadFrom_sticky {σ} (m : SinkM σ) (u : Under σ) (src : Bytes)
    (hb : u.berr = true) : (uReadFrom m u src).2.err = true := by
  obtain ⟨bw, sk⟩ := u
  cases bw with
  | none => simp [Under.berr] at hb
  | some b =>
    simp only [Under.berr] at hb
    simp [uReadFrom, uReadFromBuf, bufReadFrom, hb]

/-- a call that ends with `w.buffer.Flush()` at a propagating site and returns nil leaves
nothing in the buffer and no sticky error -/
theorem close_flushes {σ} (m : SinkM σ) (table : String → Bool) (w : W σ) (pre : List Op)
    (s : String) (hs : table s = true)
    (h : (execCall m table w (pre ++ [Op.flushBuf s])).2 = false) :
    (execCall m table w pre).2 = false ∧
    (execCall m table w (pre ++ [Op.flushBuf s])).1.u.deliv
      = (execCall m table w (pre ++ [Op.flushBuf s])).1.u.sk.held ∧
    (execCall m table w (pre ++ [Op.flushBuf s])).1.u.berr = false := by
  rw [execCall_append] at h ⊢
  cases hp : (execCall m table w pre).2 with
  | true => simp [hp] at h
  | false =>
    simp only [hp, Bool.false_eq_true, if_false] at h ⊢
    have hf := (uFlush_ok m (execCall m table w pre).1.u).2.1
    simp only [execCall, execOp, W.track, Op.site, hs, Bool.and_true] at h ⊢
    cases he : (uFlush m (execCall m table w pre).1.u).2.err with
    | true => simp [he] at h
    | false => simpa [he] using hf he

/-- with the sticky error set, a call that ends with `w.buffer.Flush()` at a propagating site
returns non-nil -/
theorem close_sticky {σ} (m : SinkM σ) (hm : Conforming m) (table : String → Bool) (w : W σ)
    (pre : List Op) (s : String) (hs : table s = true) (hb : w.u.berr = true) :
    (execCall m table w (pre ++ [Op.flushBuf s])).2 = true := by
  rw [execCall_append]
  cases hp : (execCall m table w pre).2 with
  | true => simp
  | false =>
    have h1 := (execCall_ok hm table pre w).mono hb
    have hb1 : (execCall m table w pre).1.u.berr = true := by rw [h1]; exact hb
    have := (uFlush_ok m (execCall m table w pre).1.u).2.2 hb1
    simp [execCall, execOp, W.track, Op.site, hs, this]

/-- a fresh writer over a sink in state `s0`; `cap = some c`: `WriteBufferSize = c > 0` -/
def initW {σ} (s0 : σ) (cap : Option Nat) : W σ :=
  ⟨⟨cap.map (fun c => ⟨c, [], false⟩), ⟨s0, [], 0, []⟩⟩, 0, fun _ => []⟩

/-- SPEC: the complete file a history of calls describes -/
def planBytes (calls : List (List Op)) : Bytes := (ideal 0 (fun _ => []) calls.flatten).1

end PqModel.IoFault
