/-! # The leaf windows of the columnar `VariantReader`

MIRROR of `variant_column_reader.go`: how one leaf column of the variant subtree is cut into row
windows (`variantLeafReader.readWindow` / `ensurePage` / `setPage` + `checkPageValues` /
`consumeSlot`), the slot-group index of a window (`variantLeafWindow.starts` / `slotOf`) and the
`Next` / `SeekToRow` bookkeeping of the reader as one leaf sees it (`rowOffset`, `pendingSeek`, lazy
`open`).

Representation. A page is its level pairs and its dense (non-null) values. The Go reader keeps
`(page, ppos, pdense)` and indexes `pdefs[ppos]`, `preps[ppos]`, `values[pdense]`; the mirror keeps
the part of the page not consumed yet, already zipped (`cellsOf` = the `ppos`/`pdense` walk of
`consumeSlot`/`appendValue` done at `setPage` time), so `l.cur.head` is `(pdefs[ppos], preps[ppos],
values[pdense])`. A page without definition levels (`pdefs == nil`) is a page whose levels all equal
`maxDef`; without repetition levels, all `0`. A window is the list of the cells consumed, in order;
`defs`, `reps`, `denseIdx`, `values` of `variantLeafWindow` are views of it.

SPEC side (not a mirror): `Pages.SeekToRow(k)` followed by `ReadPage` is taken by its contract (C08:
seeking to a row = skipping to it): the cells delivered afterwards are the cells of rows `k..`, in
SOME pagination; `seekLeaf` picks the one-page pagination, and `readWindow_rows` shows the
pagination does not matter. -/
namespace PqModel.VariantWindow

/-- one slot of a leaf column: definition level, repetition level, payload (`none` = null slot) -/
structure Cell where
  d : Nat
  r : Nat
  v : Option Nat
deriving DecidableEq

/-- a data page as `setPage` sees it: `(def, rep)` per slot, and the decoded non-null values -/
structure Page where
  lv : List (Nat × Nat)
  vals : List Nat

/-- the `ppos`/`pdense` walk (`consumeSlot` variant_column_reader.go:1519-1536 with `appendValue`
    :1538-1588 taking `values[pdense]`): a slot carries a value iff its definition level is `maxDef` -/
def cellsOf (maxDef : Nat) : List (Nat × Nat) → List Nat → List Cell
  | [], _ => []
  | (d, r) :: lv, vs =>
    if d = maxDef then
      match vs with
      | v :: vs' => ⟨d, r, some v⟩ :: cellsOf maxDef lv vs'
      | [] => ⟨d, r, none⟩ :: cellsOf maxDef lv []
    else ⟨d, r, none⟩ :: cellsOf maxDef lv vs

/-- `countLevelsEqual(pdefs, maxDef)` -/
def countDef (maxDef : Nat) : List (Nat × Nat) → Nat
  | [] => 0
  | (d, _) :: lv => (if d = maxDef then 1 else 0) + countDef maxDef lv

/-- `checkPageValues` variant_column_reader.go:1461-1494: `have < needed` is ErrCorrupted -/
def pageOK (maxDef : Nat) (p : Page) : Bool := decide (countDef maxDef p.lv ≤ p.vals.length)

/-- `(page, ppos, pdense)` as the cells not consumed yet, and the pages `ReadPage` will still return -/
structure Leaf where
  cur : List Cell
  rest : List Page

inductive Err where
  | eof | corrupted | ended | fuel
deriving DecidableEq

/-- `ensurePage` variant_column_reader.go:1371-1390: while there is no current page or it is used up,
    read the next one (`setPage`, which checks it) -/
def ensurePage (maxDef : Nat) : List Page → List Cell → Except Err (List Cell × List Page)
  | rest, c :: cs => .ok (c :: cs, rest)
  | [], [] => .error .eof
  | p :: ps, [] => if pageOK maxDef p then ensurePage maxDef ps (cellsOf maxDef p.lv p.vals) else .error .corrupted

/-- the loop of `readWindow` variant_column_reader.go:1341-1368; `w` is the window filled so far
    (`consumeSlot` appends). The fuel bounds the number of iterations (one slot each). -/
def readLoop (maxDef nRows : Nat) : Nat → Leaf → List Cell → Nat → Bool → Except Err (List Cell × Leaf)
  | 0, _, _, _, _ => .error .fuel
  | fuel + 1, l, w, rowsDone, started =>
    match ensurePage maxDef l.rest l.cur with
    | .error .eof =>
      if (if started then rowsDone + 1 else rowsDone) = nRows then .ok (w, ⟨[], []⟩) else .error .ended
    | .error e => .error e
    | .ok ([], _) => .error .fuel
    | .ok (c :: cs, rest) =>
      if c.r = 0 then
        if started then
          if rowsDone + 1 = nRows then .ok (w, ⟨c :: cs, rest⟩)
          else readLoop maxDef nRows fuel ⟨cs, rest⟩ (w ++ [c]) (rowsDone + 1) true
        else readLoop maxDef nRows fuel ⟨cs, rest⟩ (w ++ [c]) rowsDone true
      else readLoop maxDef nRows fuel ⟨cs, rest⟩ (w ++ [c]) rowsDone started

/-- everything the leaf will still deliver -/
def stream (maxDef : Nat) (l : Leaf) : List Cell :=
  l.cur ++ (l.rest.map (fun p => cellsOf maxDef p.lv p.vals)).flatten

/-- `readWindow(nRows)` variant_column_reader.go:1321-1369 once the leaf is open and positioned
    (`w.reset()`, `rowsDone = 0`, `started = false`) -/
def readWindow (maxDef nRows : Nat) (l : Leaf) : Except Err (List Cell × Leaf) :=
  readLoop maxDef nRows ((stream maxDef l).length + 1) l [] 0 false

/-! ## views of a window -/

def winDefs (w : List Cell) : List Nat := w.map (·.d)

/-- `w.reps`: only recorded when the leaf is repeated (`maxRep > 0`) -/
def winReps (maxRep : Nat) (w : List Cell) : List Nat := if maxRep = 0 then [] else w.map (·.r)

/-- `w.denseIdx` / `w.dense`: slot → index of its value in the typed buffers, `-1` for null slots -/
def denseIdxFrom : Nat → List Cell → List Int
  | _, [] => []
  | k, c :: cs => if c.v.isSome then (k : Int) :: denseIdxFrom (k + 1) cs else (-1) :: denseIdxFrom k cs

def winValues (w : List Cell) : List Nat := w.filterMap (·.v)

/-! ## slot groups: `starts` / `slotOf` -/

/-- the loop of `starts` variant_column_reader.go:1248-1252: slots whose repetition level is ≤ depth -/
def startsFrom (depth : Nat) : Nat → List Nat → List Nat
  | _, [] => []
  | i, rp :: t => if rp ≤ depth then i :: startsFrom depth (i + 1) t else startsFrom depth (i + 1) t

/-- `variantLeafWindow.starts(depth)` variant_column_reader.go:1234-1258 (the cache is a pure memo) -/
def starts (reps : List Nat) (nslots depth : Nat) : List Nat :=
  (if reps = [] then List.range nslots else startsFrom depth 0 reps) ++ [nslots]

/-- `variantLeafWindow.slotOf(depth, g)` variant_column_reader.go:1218-1232 -/
def slotOf (reps : List Nat) (nslots depth g : Nat) : Option Nat :=
  if reps = [] then (if g ≥ nslots then none else some g)
  else
    let s := starts reps nslots depth
    if g ≥ s.length - 1 then none else s[g]?

/-! ## `Next` / `SeekToRow` as one leaf sees them -/

/-- SPEC (C08 contract of `Pages.SeekToRow`, not a mirror): drop the first `k` rows of a cell stream -/
def dropRows : Nat → List Cell → List Cell
  | 0, cs => cs
  | _ + 1, [] => []
  | k + 1, _ :: cs => dropRows k (cs.dropWhile (fun c => c.r ≠ 0))

def allCells (maxDef : Nat) (col : List Page) : List Cell :=
  (col.map (fun p => cellsOf maxDef p.lv p.vals)).flatten

/-- SPEC: the page source after `Pages.SeekToRow(k)`, as one page holding the rows `k..` -/
def seekLeaf (maxDef : Nat) (col : List Page) (k : Nat) : Leaf := ⟨dropRows k (allCells maxDef col), []⟩

/-- the reader fields one leaf depends on, and the leaf's own state.
    `attached`: some cursor of the tree uses the leaf (`collectLeaves` finds it; cursors are only
    ever added). `pendingSeek = none` is Go's `-1`. -/
structure St where
  numRows : Nat
  rowOffset : Nat
  failed : Bool
  attached : Bool
  opened : Bool
  pendingSeek : Option Nat
  leaf : Leaf

inductive Op where
  | next (n : Nat)
  | seek (k : Nat)
  | attach
deriving DecidableEq

/-- what a call shows: a window of the leaf, end of row group, an error, or nothing to see -/
inductive Out where
  | win (n : Nat) (w : List Cell)
  | rows (n : Nat)
  | eof
  | err
  | nothing
deriving DecidableEq

def init (numRows : Nat) : St :=
  { numRows, rowOffset := 0, failed := false, attached := false, opened := false, pendingSeek := none,
    leaf := ⟨[], []⟩ }

/-- the leaf as `readWindow` :1321-1336 finds it before the loop. `open()` :1307-1319: `l.pages =
    chunk.Pages()`, and `pendingSeek = rowOffset` when `rowOffset > 0` and no seek is pending; then a
    pending seek releases the current page and calls `pages.SeekToRow` -/
def positioned (maxDef : Nat) (col : List Page) (s : St) : Leaf :=
  let pending :=
    if s.opened then s.pendingSeek
    else if s.rowOffset > 0 ∧ s.pendingSeek = none then some s.rowOffset else s.pendingSeek
  match pending with
  | some k => seekLeaf maxDef col k
  | none => if s.opened then s.leaf else ⟨[], col⟩

/-- `VariantReader.Next` :341-372 (for one leaf: `readWindow` :1321-1339 with `open` :1307-1319),
    `VariantReader.SeekToRow` :390-404, and a cursor being created on the leaf. -/
def step (maxDef : Nat) (col : List Page) (s : St) : Op → St × Out
  | .attach => ({ s with attached := true }, .nothing)
  | .seek k =>
    if s.failed then (s, .err)
    else if k > s.numRows then (s, .err)
    else ({ s with rowOffset := k, pendingSeek := if s.opened then some k else s.pendingSeek }, .nothing)
  | .next n =>
    if s.failed then (s, .err)
    else if n = 0 then (s, .rows 0)
    else if s.numRows ≤ s.rowOffset then (s, .eof)
    else
      let n := if n > s.numRows - s.rowOffset then s.numRows - s.rowOffset else n
      if ¬ s.attached then ({ s with rowOffset := s.rowOffset + n }, .rows n)
      else
        let leaf := positioned maxDef col s
        match readWindow maxDef n leaf with
        | .error _ => ({ s with failed := true, opened := true, pendingSeek := none, leaf := leaf }, .err)
        | .ok (w, leaf') =>
          ({ s with rowOffset := s.rowOffset + n, opened := true, pendingSeek := none, leaf := leaf' }, .win n w)

def run (maxDef : Nat) (col : List Page) : St → List Op → List Out
  | _, [] => []
  | s, op :: ops => (step maxDef col s op).2 :: run maxDef col (step maxDef col s op).1 ops

end PqModel.VariantWindow
