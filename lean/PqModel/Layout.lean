/-! # File-layout accounting of the writer (C02)

Mirror of the bookkeeping in `writer.go`: `recordPageStats` (writer.go:2834: page location
offset = running `TotalCompressedSize`, `FirstRowIndex` = rows so far, sizes and value counts
accumulated), and `writeRowGroup` (dictionary page offset, data page offset, page locations
rebased from chunk-relative to absolute, chunks laid out back to back).

The mirror works with running accumulators exactly like the Go code; the *specification* side
(`pageStarts`, `specLocs`) is positional: "where the bytes really are". The theorems say the two
agree for every sequence of pages. -/
namespace PqModel.Layout

structure PageOp where
  isDict : Bool
  hdrLen : Nat      -- bytes of the thrift page header
  bodyLen : Nat     -- bytes of the (compressed) page body
  uncompLen : Nat   -- uncompressed body size announced in the header
  numValues : Nat
  numRows : Nat
deriving Repr, DecidableEq

def PageOp.size (p : PageOp) : Nat := p.hdrLen + p.bodyLen

structure PageLoc where
  offset : Nat
  size : Nat
  firstRow : Nat
deriving Repr, DecidableEq

/-- accumulators of a column writer while a chunk is written -/
structure Acc where
  totalCompressed : Nat := 0
  totalUncompressed : Nat := 0
  numValues : Nat := 0
  numRows : Nat := 0
  locs : List PageLoc := []      -- chunk-relative, data pages only (reverse order)
  dictSize : Nat := 0            -- compressed size of the dictionary page (0 = none)
deriving Repr

/-- `recordPageStats` for one page. The dictionary page is recorded with `page == nil`:
    only the two size totals move. -/
def record (a : Acc) (p : PageOp) : Acc :=
  if p.isDict then
    { a with totalCompressed := a.totalCompressed + p.size,
             totalUncompressed := a.totalUncompressed + (p.hdrLen + p.uncompLen),
             dictSize := p.size }
  else
    { a with totalCompressed := a.totalCompressed + p.size,
             totalUncompressed := a.totalUncompressed + (p.hdrLen + p.uncompLen),
             numValues := a.numValues + p.numValues,
             numRows := a.numRows + p.numRows,
             locs := ⟨a.totalCompressed, p.size, a.numRows⟩ :: a.locs }

def recordAll (ps : List PageOp) : Acc := ps.foldl record {}

structure ChunkMeta where
  dictOffset : Option Nat
  dataOffset : Nat
  totalCompressed : Nat
  totalUncompressed : Nat
  numValues : Nat
  numRows : Nat
  locs : List PageLoc           -- absolute offsets
deriving Repr, DecidableEq

/-- `writeRowGroup`: the chunk starts at file offset `start`; the dictionary page (if any) is the
    first page; page locations are rebased by the chunk start. -/
def finishChunk (start : Nat) (a : Acc) : ChunkMeta :=
  { dictOffset := if a.dictSize > 0 then some start else none,
    dataOffset := start + a.dictSize,
    totalCompressed := a.totalCompressed,
    totalUncompressed := a.totalUncompressed,
    numValues := a.numValues,
    numRows := a.numRows,
    locs := a.locs.reverse.map fun l => { l with offset := start + l.offset } }

def chunkMeta (start : Nat) (ps : List PageOp) : ChunkMeta := finishChunk start (recordAll ps)

/-- start offset of every page when the pages are laid out back to back from `start` -/
def pageStarts (start : Nat) : List PageOp → List Nat
  | [] => []
  | p :: ps => start :: pageStarts (start + p.size) ps

def totalSize (ps : List PageOp) : Nat := (ps.map PageOp.size).sum

/-- (absolute start, size, first row) of every DATA page, computed positionally -/
def specLocs (start row : Nat) : List PageOp → List PageLoc
  | [] => []
  | p :: ps =>
    if p.isDict then specLocs (start + p.size) row ps
    else ⟨start, p.size, row⟩ :: specLocs (start + p.size) (row + p.numRows) ps

def dataPages (ps : List PageOp) : List PageOp := ps.filter (fun p => !p.isDict)

/-- a chunk as the writer emits it: at most one dictionary page, and it comes first -/
def WellOrdered : List PageOp → Prop
  | [] => True
  | _ :: ps => ∀ q ∈ ps, q.isDict = false

theorem record_totals (a : Acc) (p : PageOp) :
    (record a p).totalCompressed = a.totalCompressed + p.size ∧
    (record a p).totalUncompressed = a.totalUncompressed + (p.hdrLen + p.uncompLen) ∧
    (record a p).numValues = a.numValues + (if p.isDict then 0 else p.numValues) ∧
    (record a p).numRows = a.numRows + (if p.isDict then 0 else p.numRows) := by
  unfold record
  split <;> simp [*]

theorem dataPages_sum_cons (f : PageOp → Nat) (p : PageOp) (ps : List PageOp) :
    ((dataPages (p :: ps)).map f).sum = (if p.isDict then 0 else f p) + ((dataPages ps).map f).sum := by
  unfold dataPages
  cases h : p.isDict <;> simp [h]

theorem foldl_record_acc (ps : List PageOp) (a : Acc) :
    (ps.foldl record a).totalCompressed = a.totalCompressed + totalSize ps ∧
    (ps.foldl record a).totalUncompressed =
      a.totalUncompressed + ((ps.map fun p => p.hdrLen + p.uncompLen).sum) ∧
    (ps.foldl record a).numValues = a.numValues + ((dataPages ps).map (·.numValues)).sum ∧
    (ps.foldl record a).numRows = a.numRows + ((dataPages ps).map (·.numRows)).sum := by
  induction ps generalizing a with
  | nil => simp [totalSize, dataPages]
  | cons p ps ih =>
    obtain ⟨h1, h2, h3, h4⟩ := record_totals a p
    obtain ⟨i1, i2, i3, i4⟩ := ih (record a p)
    simp only [List.foldl_cons, totalSize, List.map_cons, List.sum_cons, dataPages_sum_cons] at i1 ⊢
    omega

theorem foldl_record_locs (ps : List PageOp) (a : Acc) :
    (ps.foldl record a).locs.reverse =
      a.locs.reverse ++ specLocs a.totalCompressed a.numRows ps := by
  induction ps generalizing a with
  | nil => simp [specLocs]
  | cons p ps ih =>
    simp only [List.foldl_cons]
    rw [ih (record a p)]
    by_cases hd : p.isDict = true
    · simp [record, hd, specLocs]
    · have hd' : p.isDict = false := by simpa using hd
      simp [record, hd', specLocs]

theorem length_specLocs (start row : Nat) (ps : List PageOp) :
    (specLocs start row ps).length = (dataPages ps).length := by
  -- cases of `specLocs`: no page; a dictionary page (no entry); a data page
  fun_induction specLocs start row ps with
  | case1 => rfl
  | case2 start row p ps hd ih => rw [ih, dataPages, dataPages, List.filter_cons_of_neg (by simp [hd])]
  | case3 start row p ps hd ih =>
    rw [List.length_cons, ih, dataPages, dataPages, List.filter_cons_of_pos (by simpa using hd), List.length_cons]

theorem specLocs_shift (s start row : Nat) (ps : List PageOp) :
    (specLocs start row ps).map (fun l => { l with offset := s + l.offset }) =
      specLocs (s + start) row ps := by
  fun_induction specLocs start row ps with
  | case1 => rfl
  | case2 start row p ps hd ih => rw [ih, specLocs, if_pos hd, Nat.add_assoc]
  | case3 start row p ps hd ih => rw [List.map_cons, ih, specLocs, if_neg hd, Nat.add_assoc]

theorem foldl_record_dict (ps : List PageOp) (a : Acc) (h : ∀ q ∈ ps, q.isDict = false) :
    (ps.foldl record a).dictSize = a.dictSize := by
  induction ps generalizing a with
  | nil => rfl
  | cons p ps ih =>
    simp only [List.foldl_cons]
    rw [ih _ (fun q hq => h q (List.mem_cons_of_mem _ hq))]
    have := h p (List.mem_cons_self)
    simp [record, this]

/-- the metadata the writer computes for a chunk written at `start` describes the bytes present -/
theorem layout_wf (start : Nat) (ps : List PageOp) :
    (chunkMeta start ps).locs = specLocs start 0 ps ∧
    (chunkMeta start ps).totalCompressed = totalSize ps ∧
    (chunkMeta start ps).totalUncompressed = ((ps.map fun p => p.hdrLen + p.uncompLen).sum) ∧
    (chunkMeta start ps).numValues = ((dataPages ps).map (·.numValues)).sum ∧
    (chunkMeta start ps).numRows = ((dataPages ps).map (·.numRows)).sum := by
  have h1 := foldl_record_acc ps {}
  have h2 := foldl_record_locs ps {}
  simp only [chunkMeta, finishChunk, recordAll]
  refine ⟨?_, by simpa using h1.1, by simpa using h1.2.1, by simpa using h1.2.2.1, by simpa using h1.2.2.2⟩
  rw [h2]
  simp only [List.reverse_nil, List.nil_append]
  have := specLocs_shift start 0 0 ps
  simpa using this

/-- dictionary/data page offsets point at the first byte of the page they name (`dictSize = 0` encodes "no
    dictionary page" in `Acc`, so an empty dictionary page is indistinguishable from none: the middle case) -/
theorem offsets_wf (start : Nat) (ps : List PageOp) (hw : WellOrdered ps) :
    match ps with
    | [] => (chunkMeta start ps).dictOffset = none
    | p :: rest =>
      if p.isDict ∧ 0 < p.size then
        (chunkMeta start ps).dictOffset = some start ∧ (chunkMeta start ps).dataOffset = start + p.size
      else if p.isDict then True
      else (chunkMeta start ps).dictOffset = none ∧ (chunkMeta start ps).dataOffset = start := by
  cases ps with
  | nil => simp [chunkMeta, finishChunk, recordAll]
  | cons p rest =>
    have hrest : ∀ q ∈ rest, q.isDict = false := hw
    have hds := foldl_record_dict rest (record {} p) hrest
    simp only [chunkMeta, finishChunk, recordAll, List.foldl_cons]
    simp only [hds]
    by_cases hd : p.isDict = true
    · by_cases hs : 0 < p.size
      · simp [record, hd, hs]
      · simp [hd, hs]
    · have hd' : p.isDict = false := by simpa using hd
      simp [record, hd']

theorem specLocs_contiguous (start row : Nat) (ps : List PageOp) (h : ∀ q ∈ ps, q.isDict = false) :
    (specLocs start row ps).map (·.offset) = pageStarts start ps ∧
    (specLocs start row ps).map (·.size) = ps.map PageOp.size := by
  induction ps generalizing start row with
  | nil => simp [specLocs, pageStarts]
  | cons p ps ih =>
    have hp := h p List.mem_cons_self
    have := ih (start + p.size) (row + p.numRows) (fun q hq => h q (List.mem_cons_of_mem _ hq))
    simp [specLocs, pageStarts, hp, this.1, this.2]

/-- start offset of every chunk of a row group written at `start` -/
def chunkStarts (start : Nat) : List (List PageOp) → List Nat
  | [] => []
  | c :: cs => start :: chunkStarts (start + totalSize c) cs

/-- the writer's loop: running file offset advanced by each chunk's `total_compressed_size` -/
def rowGroupMetas (start : Nat) : List (List PageOp) → List ChunkMeta
  | [] => []
  | c :: cs =>
    let m := chunkMeta start c
    m :: rowGroupMetas (start + m.totalCompressed) cs

theorem rowGroup_wf (start : Nat) (cs : List (List PageOp)) :
    rowGroupMetas start cs = (List.zip (chunkStarts start cs) cs).map (fun sc => chunkMeta sc.1 sc.2) := by
  induction cs generalizing start with
  | nil => simp [rowGroupMetas, chunkStarts]
  | cons c cs ih =>
    simp only [rowGroupMetas, chunkStarts, List.zip_cons_cons, List.map_cons]
    rw [(layout_wf start c).2.1, ih]

-- non-vacuity: a chunk with a dictionary page and two data pages
example : chunkMeta 4 [⟨true, 10, 20, 25, 3, 0⟩, ⟨false, 12, 30, 40, 5, 5⟩, ⟨false, 11, 7, 9, 2, 2⟩] =
    { dictOffset := some 4, dataOffset := 34, totalCompressed := 90, totalUncompressed := 107,
      numValues := 7, numRows := 7, locs := [⟨34, 42, 0⟩, ⟨76, 18, 5⟩] } := by decide

end PqModel.Layout
