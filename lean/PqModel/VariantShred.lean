import PqModel.Variant

/-!
# Variant shredding, logical model (property C19, second half)

MIRROR of `variant_shredded_write.go` (`shreddedVariantGroup.write`, `writeList`, `writeObject`,
`variantToParquetValue`) and `variant_shredded_read.go` (`shreddedVariantGroup.read`, `readList`,
`readObject`) at the level of *logical slots*: one `(value, typed_value)` pair per variant group
occurrence. What is abstracted: the Dremel column streams and levels (`VariantLevels.lean`), and the
byte encoding of the `value` column (`variant.Encode`/`Decode`, covered by `decode_encode`): the
`value` column holds a `Value` here, and results are compared up to `canon`.
-/
namespace PqModel.Variant

/-- the shredded primitive column types accepted by `validateShreddedPrimitiveType`;
    decimals carry (precision, scale) and are tagged by their physical width. -/
inductive PType
  | bool | int8 | int16 | int32 | int64 | float | double | string | binary | date | uuid
  | ts | tsNtz | tsNanos | tsNtzNanos | time
  | dec4 (prec scale : Nat) | dec8 (prec scale : Nat) | dec16 (prec scale : Nat)
  deriving DecidableEq

/-- typed_value schema of one variant group: nothing, a primitive column, a LIST of element
    groups, or an object group with one field group per shredded field. -/
inductive Schema
  | untyped
  | prim (t : PType)
  | list (elem : Schema)
  | obj (fields : List (Key × Schema))

mutual
/-- one `(value, typed_value)` occurrence; `missing` = both null (an absent object field) -/
inductive Slot
  | missing
  | mk (value : Option Value) (typed : Typed)
inductive Typed
  | none
  | prim (p : Prim)
  | list (elems : List Slot)
  | obj (fields : List (Key × Slot))
end

/-- MIRROR variant_shredded_write.go:329-340 / 342-367 `decimal64FitsPrecision`,
    `decimal128FitsPrecision`: |unscaled| < 10^precision (always true once the precision exceeds
    what the width can hold). -/
def fitsPrec (limit prec : Nat) (x : Int) : Bool := prec ≥ limit || x.natAbs < 10 ^ prec

/-- MIRROR variant_shredded_write.go:212-313 `variantToParquetValue`: exact type match only. -/
def matchesP : PType → Prim → Bool
  | .bool, .bool _ => true
  | .int8, .int8 _ => true
  | .int16, .int16 _ => true
  | .int32, .int32 _ => true
  | .int64, .int64 _ => true
  | .float, .float _ => true
  | .double, .double _ => true
  | .string, .string _ => true
  | .binary, .binary _ => true
  | .date, .date _ => true
  | .uuid, .uuid _ => true
  | .ts, .ts _ => true
  | .tsNtz, .tsNtz _ => true
  | .tsNanos, .tsNanos _ => true
  | .tsNtzNanos, .tsNtzNanos _ => true
  | .time, .time _ => true
  | .dec4 p s, .dec4 sc x => s = sc.toNat && fitsPrec 19 p x.toInt
  | .dec8 p s, .dec8 sc x => s = sc.toNat && fitsPrec 19 p x.toInt
  | .dec16 p s, .dec16 sc x => s = sc.toNat && fitsPrec 39 p x.toInt
  | _, _ => false

/-- MIRROR variant_shredded_write.go:188-197 `findVariantField` (first match). -/
def findField (name : Key) : List (Key × Value) → Option Value
  | [] => none
  | (k, v) :: fs => if k = name then some v else findField name fs

def schemaNames (fields : List (Key × Schema)) : List Key := fields.map (·.1)

mutual
/-- MIRROR variant_shredded_write.go:81-129 `shreddedVariantGroup.write` with `present = true`. -/
def shred : Schema → Value → Slot
  | .untyped, v => .mk (some v) .none
  | .prim t, v =>
    match v with
    | .prim p => if matchesP t p then .mk none (.prim p) else .mk (some v) .none
    | _ => .mk (some v) .none
  | .list e, v =>
    match v with
    | .arr es => .mk none (.list (shredList e es))
    | _ => .mk (some v) .none
  | .obj fields, v =>
    match v with
    | .obj fs =>
      let residual := fs.filter fun f => !(schemaNames fields).contains f.1
      .mk (if residual.isEmpty then none else some (.obj residual)) (.obj (shredFields fields fs))
    | _ => .mk (some v) .none
/-- MIRROR variant_shredded_write.go:141-162 `writeList` -/
def shredList : Schema → List Value → List Slot
  | _, [] => []
  | e, x :: xs => shred e x :: shredList e xs
/-- MIRROR variant_shredded_write.go:165-171 `writeObject`, the loop over the schema fields -/
def shredFields : List (Key × Schema) → List (Key × Value) → List (Key × Slot)
  | [], _ => []
  | (name, s) :: rest, fs =>
    (name, match findField name fs with
           | some fv => shred s fv
           | none => .missing) :: shredFields rest fs
end

/-- result of reconstructing one occurrence: the Go triple `(value, present, err)` -/
inductive RRes
  | err
  | missing
  | val (v : Value)

def RRes.orNull : RRes → Option Value
  | .err => none
  | .missing => some (.prim .null)
  | .val v => some v

def valueCol : Option Value → RRes
  | none => .missing
  | some v => .val v

mutual
/-- MIRROR variant_shredded_read.go:250-347 `shreddedVariantGroup.read`. -/
def unshredR : Schema → Slot → RRes
  | _, .missing => .missing
  | .untyped, .mk val _ => valueCol val
  | .prim _, .mk val typed =>
    match typed with
    | .prim p => if val.isSome then .err else .val (.prim p)
    | _ => valueCol val
  | .list e, .mk val typed =>
    match typed with
    | .list slots =>
      match unshredList e slots with
      | none => .err
      | some es => if val.isSome then .err else .val (.arr es)
    | _ => valueCol val
  | .obj fields, .mk val typed =>
    match typed with
    | .obj tfs =>
      match unshredFields fields tfs with
      | none => .err
      | some ofs =>
        match val with
        | none => .val (.obj ofs)
        | some (.obj resid) =>
          .val (.obj (ofs ++ resid.filter fun f => !(schemaNames fields).contains f.1))
        | some _ => .err
    | _ => valueCol val
/-- MIRROR variant_shredded_read.go:352-392 `readList`: missing elements read as variant null -/
def unshredList : Schema → List Slot → Option (List Value)
  | _, [] => some []
  | e, s :: ss =>
    match (unshredR e s).orNull, unshredList e ss with
    | some v, some vs => some (v :: vs)
    | _, _ => none
/-- MIRROR variant_shredded_read.go:397-422 `readObject`: missing fields are omitted -/
def unshredFields : List (Key × Schema) → List (Key × Slot) → Option (List (Key × Value))
  | (name, s) :: rest, (_, sl) :: sls =>
    match unshredR s sl, unshredFields rest sls with
    | .err, _ => none
    | _, none => none
    | .missing, some fs => some fs
    | .val v, some fs => some ((name, v) :: fs)
  | _, _ => some []
end

/-- top level (row_variant.go:319-324): value and typed_value both null reads as variant null -/
def unshred (s : Schema) (sl : Slot) : Option Value := (unshredR s sl).orNull


/-! ### the parquet leaf value of a typed_value column -/

/-- a parquet leaf value, by physical type -/
inductive ColVal
  | bool (b : Bool)
  | i32 (x : BitVec 32)
  | i64 (x : BitVec 64)
  | f32 (x : BitVec 32)
  | f64 (x : BitVec 64)
  | bytes (b : Bytes)
  deriving DecidableEq

/-- MIRROR variant_shredded_write.go:212-313 `variantToParquetValue`: the leaf value written for a
    primitive that matches the column type (`none` = no match, falls back to `value`). int8/int16
    are widened to INT32, decimal16 is turned from little to big endian (315-322). -/
def toCol : PType → Prim → Option ColVal
  | .bool, .bool b => some (.bool b)
  | .int8, .int8 x => some (.i32 (x.signExtend 32))
  | .int16, .int16 x => some (.i32 (x.signExtend 32))
  | .int32, .int32 x => some (.i32 x)
  | .int64, .int64 x => some (.i64 x)
  | .float, .float x => some (.f32 x)
  | .double, .double x => some (.f64 x)
  | .string, .string s => some (.bytes s)
  | .binary, .binary b => some (.bytes b)
  | .date, .date x => some (.i32 x)
  | .uuid, .uuid x => some (.bytes (beN 16 x.toNat))
  | .ts, .ts x => some (.i64 x)
  | .tsNtz, .tsNtz x => some (.i64 x)
  | .tsNanos, .tsNanos x => some (.i64 x)
  | .tsNtzNanos, .tsNtzNanos x => some (.i64 x)
  | .time, .time x => some (.i64 x)
  | .dec4 p s, .dec4 sc x => if s = sc.toNat && fitsPrec 19 p x.toInt then some (.i32 x) else none
  | .dec8 p s, .dec8 sc x => if s = sc.toNat && fitsPrec 19 p x.toInt then some (.i64 x) else none
  | .dec16 p s, .dec16 sc x =>
    if s = sc.toNat && fitsPrec 39 p x.toInt then some (.bytes (beN 16 x.toNat)) else none
  | _, _ => none

/-- MIRROR variant_shredded_read.go:551-562 `bigEndianToLittleEndian16`: a big-endian two's
    complement integer of up to 16 bytes, sign-extended to 16 little-endian bytes. -/
def be16ToNat (b : Bytes) : Nat :=
  let fill : UInt8 := match b with
    | b0 :: _ => if b0 ≥ 0x80 then 0xFF else 0
    | [] => 0
  unLE (b.reverse ++ List.replicate (16 - b.length) fill)

/-- MIRROR variant_shredded_read.go:467-546 `parquetToVariantValue`: the variant primitive a leaf
    value of a typed_value column stands for. -/
def ofCol : PType → ColVal → Option Prim
  | .bool, .bool b => some (.bool b)
  | .int8, .i32 x => some (.int8 (x.setWidth 8))
  | .int16, .i32 x => some (.int16 (x.setWidth 16))
  | .int32, .i32 x => some (.int32 x)
  | .int64, .i64 x => some (.int64 x)
  | .float, .f32 x => some (.float x)
  | .double, .f64 x => some (.double x)
  | .string, .bytes s => some (.string s)
  | .binary, .bytes b => some (.binary b)
  | .date, .i32 x => some (.date x)
  | .uuid, .bytes b => if b.length = 16 then some (.uuid (BitVec.ofNat 128 (unLE b.reverse))) else none
  | .ts, .i64 x => some (.ts x)
  | .tsNtz, .i64 x => some (.tsNtz x)
  | .tsNanos, .i64 x => some (.tsNanos x)
  | .tsNtzNanos, .i64 x => some (.tsNtzNanos x)
  | .time, .i64 x => some (.time x)
  | .dec4 _ s, .i32 x => some (.dec4 (UInt8.ofNat s) x)
  | .dec8 _ s, .i64 x => some (.dec8 (UInt8.ofNat s) x)
  | .dec16 _ s, .bytes b =>
    if b.length ≤ 16 then some (.dec16 (UInt8.ofNat s) (BitVec.ofNat 128 (be16ToNat b))) else none
  | _, _ => none

/-! ### hypotheses of the round-trip theorem -/

mutual
/-- the keys of every object are pairwise distinct -/
def distinctKeys : Value → Bool
  | .prim _ => true
  | .arr es => distinctKeysL es
  | .obj fs => distinctKeysF fs && decide ((keysOf fs).Nodup)
def distinctKeysL : List Value → Bool
  | [] => true
  | e :: es => distinctKeys e && distinctKeysL es
def distinctKeysF : List (Key × Value) → Bool
  | [] => true
  | (_, v) :: fs => distinctKeys v && distinctKeysF fs
end

mutual
/-- a shredding schema is well formed when the field names of every object group are distinct
    (they are the keys of a Go map / the children of one Parquet group) -/
def wfS : Schema → Bool
  | .untyped => true
  | .prim _ => true
  | .list e => wfS e
  | .obj fs => wfSFields fs && decide ((schemaNames fs).Nodup)
def wfSFields : List (Key × Schema) → Bool
  | [] => true
  | (_, s) :: fs => wfS s && wfSFields fs
end

/-- the fields of `fs` that the schema shreds, in schema order -/
def selected (fields : List (Key × Schema)) (fs : List (Key × Value)) : List (Key × Value) :=
  fields.filterMap fun f => (findField f.1 fs).map fun v => (f.1, v)

/-! ### which leaf column holds a value (used by the correspondence check only) -/

mutual
/-- leaf columns below one variant group, in schema order: `value`, then the typed_value leaves -/
def numLeaves : Schema → Nat
  | .untyped => 1
  | .prim _ => 2
  | .list e => 1 + numLeaves e
  | .obj fs => 1 + numLeavesFields fs
def numLeavesFields : List (Key × Schema) → Nat
  | [] => 0
  | (_, s) :: fs => numLeaves s + numLeavesFields fs
end

def addVec : List Nat → List Nat → List Nat
  | a :: as, b :: bs => (a + b) :: addVec as bs
  | _, _ => []

def b2n (b : Bool) : Nat := if b then 1 else 0

mutual
/-- number of non-null values each leaf column receives for one slot -/
def leafCounts : Schema → Slot → List Nat
  | s, .missing => List.replicate (numLeaves s) 0
  | .untyped, .mk v _ => [b2n v.isSome]
  | .prim _, .mk v t => [b2n v.isSome, match t with | .prim _ => 1 | _ => 0]
  | .list e, .mk v t =>
    b2n v.isSome :: (match t with
      | .list slots => leafCountsList e slots
      | _ => List.replicate (numLeaves e) 0)
  | .obj fs, .mk v t =>
    b2n v.isSome :: (match t with
      | .obj tfs => leafCountsFields fs tfs
      | _ => List.replicate (numLeavesFields fs) 0)
def leafCountsList : Schema → List Slot → List Nat
  | e, [] => List.replicate (numLeaves e) 0
  | e, s :: ss => addVec (leafCounts e s) (leafCountsList e ss)
def leafCountsFields : List (Key × Schema) → List (Key × Slot) → List Nat
  | (_, s) :: fs, (_, sl) :: sls => leafCounts s sl ++ leafCountsFields fs sls
  | (_, s) :: fs, [] => List.replicate (numLeaves s) 0 ++ leafCountsFields fs []
  | [], _ => []
end


/-! ### what each leaf column holds (used by the correspondence check only) -/

/-- a non-null leaf value: `value` columns hold the variant encoding of the (residual) value against
    the row dictionary, typed columns hold `toCol` -/
inductive LeafVal
  | enc (b : Bytes)
  | col (c : ColVal)

def appendVec : List (List LeafVal) → List (List LeafVal) → List (List LeafVal)
  | a :: as, b :: bs => (a ++ b) :: appendVec as bs
  | _, _ => []

/-- MIRROR variant_shredded_write.go:131-138 `writeValueFallback` -/
def valCell (d : Dict) : Option Value → List LeafVal
  | none => []
  | some v => [.enc (enc d v)]

mutual
/-- the non-null values one slot contributes to each leaf column, in schema order -/
def leafValues (d : Dict) : Schema → Slot → List (List LeafVal)
  | s, .missing => List.replicate (numLeaves s) []
  | .untyped, .mk v _ => [valCell d v]
  | .prim t, .mk v ty =>
    [valCell d v, match ty with
      | .prim p => (match toCol t p with
        | some c => [.col c]
        | none => [])
      | _ => []]
  | .list e, .mk v ty =>
    valCell d v :: (match ty with
      | .list slots => leafValuesList d e slots
      | _ => List.replicate (numLeaves e) [])
  | .obj fs, .mk v ty =>
    valCell d v :: (match ty with
      | .obj tfs => leafValuesFields d fs tfs
      | _ => List.replicate (numLeavesFields fs) [])
def leafValuesList (d : Dict) : Schema → List Slot → List (List LeafVal)
  | e, [] => List.replicate (numLeaves e) []
  | e, s :: ss => appendVec (leafValues d e s) (leafValuesList d e ss)
def leafValuesFields (d : Dict) : List (Key × Schema) → List (Key × Slot) → List (List LeafVal)
  | (_, s) :: fs, (_, sl) :: sls => leafValues d s sl ++ leafValuesFields d fs sls
  | (_, s) :: fs, [] => List.replicate (numLeaves s) [] ++ leafValuesFields d fs []
  | [], _ => []
end

end PqModel.Variant
