import PqModel.DeltaProofs
import PqModel.BitsBytes

/-! # The word-level bit packing kernel of the DELTA_BINARY_PACKED encoder

MIRROR of `encodeMiniBlockInt32/64` (binary_packed_purego.go:9-28 / 30-49): the destination is
read and written as little-endian machine words; every value is OR-ed into the word holding its
first bit (`lo`) and, shifted the other way, into the next word (`hi`). In a zero-filled buffer this leaves the LSB-first
bit packing `packMini` of `PqModel/Delta.lean` whenever every value fits the width (`lt_miniWidth`: it does for the
widths the encoder computes). Generic in the word size `W = 8c`. -/
namespace PqModel.Delta
open PqModel.Bits

/-- `k` little-endian base-256 digits -/
def digits256 : Nat → Nat → List Nat
  | 0, _ => []
  | k + 1, N => N % 256 :: digits256 k (N / 256)

/-- `binary.LittleEndian.PutUint32/64` -/
def wordBytes {W : Nat} (x : BitVec W) : List Nat := digits256 (W / 8) x.toNat

def wordsToBytes {W : Nat} (ws : List (BitVec W)) : List Nat := ws.flatMap wordBytes

/-- MIRROR binary_packed_purego.go:9-28 (W = 32) / 30-49 (W = 64), the loop body for the values
`src` starting at `bitOffset = off`, on the destination seen as words:
`i := bitOffset / W; j := bitOffset % W; lo |= (value & bitMask) << j; hi |= value >> (W - j)`
(`bitMask = 1<<bitWidth - 1`; a Go shift by `W` gives 0, as `BitVec` shifts do). -/
def encodeMiniBlockWords {W : Nat} (w : Nat) : List (BitVec W) → Nat → List (BitVec W) → List (BitVec W)
  | [], _, dst => dst
  | v :: vs, off, dst =>
    encodeMiniBlockWords w vs (off + w)
      ((dst.set (off / W) (dst.getD (off / W) 0 ||| ((v &&& BitVec.ofNat W (2 ^ w - 1)) <<< (off % W)))).set
        (off / W + 1) (dst.getD (off / W + 1) 0 ||| (v >>> (W - off % W))))

/-- MIRROR of the call site binary_packed.go:110-116 / 156-162: the kernel runs on a zero-filled
buffer (`resize` zero-fills; `L` words, more than the miniblock needs) and the caller keeps
`miniBlockSize * bitWidth / 8` bytes. -/
def kernelBytes {W : Nat} (w L : Nat) (src : List (BitVec W)) : List Nat :=
  (wordsToBytes (encodeMiniBlockWords w src 0 (List.replicate L (0 : BitVec W)))).take (src.length * w / 8)

def val {W : Nat} : List (BitVec W) → Nat
  | [] => 0
  | x :: xs => x.toNat + 2 ^ W * val xs

theorem getD_val {W : Nat} : ∀ (ws : List (BitVec W)) (k : Nat),
    (ws.getD k 0).toNat = val ws / 2 ^ (W * k) % 2 ^ W
  | [], k => by simp [val]
  | x :: xs, 0 => by
    simp only [List.getD_cons_zero, val, Nat.mul_zero, Nat.pow_zero, Nat.div_one, Nat.add_mul_mod_self_left]
    exact (Nat.mod_eq_of_lt x.isLt).symm
  | x :: xs, k + 1 => by
    have hx := x.isLt
    have hp : 0 < 2 ^ W := Nat.two_pow_pos W
    simp only [List.getD_cons_succ, val, getD_val xs k]
    have e := two_pow_mul_succ W k
    rw [e, ← Nat.div_div_eq_div_mul]
    have : (x.toNat + 2 ^ W * val xs) / 2 ^ W = val xs := by
      rw [Nat.add_comm, Nat.mul_add_div hp, Nat.div_eq_of_lt hx, Nat.add_zero]
    rw [this]

theorem val_set {W : Nat} : ∀ (ws : List (BitVec W)) (k : Nat) (x : BitVec W), k < ws.length →
    val (ws.set k x) + (ws.getD k 0).toNat * 2 ^ (W * k) = val ws + x.toNat * 2 ^ (W * k)
  | [], k, x, h => by simp at h
  | y :: ys, 0, x, _ => by simp [val]; omega
  | y :: ys, k + 1, x, h => by
    have ih := val_set ys k x (by simpa using h)
    have e := two_pow_mul_succ W k
    -- the head word is untouched: multiply the induction hypothesis by `2 ^ W`; the products are named so that
    -- what is left is linear
    simp only [List.set_cons_succ, List.getD_cons_succ, val, e]
    generalize 2 ^ (W * k) = P at *
    generalize 2 ^ W = Q at *
    generalize val (ys.set k x) = A at *
    generalize val ys = B at *
    generalize (ys.getD k 0).toNat = c at *
    have : Q * A + c * (Q * P) = Q * B + x.toNat * (Q * P) := by
      have := congrArg (Q * ·) ih
      grind
    omega

theorem split_shift (v W j : Nat) (hj : j ≤ W) :
    (v % 2 ^ (W - j)) * 2 ^ j + 2 ^ W * (v / 2 ^ (W - j)) = v * 2 ^ j := by
  have e : 2 ^ W = 2 ^ (W - j) * 2 ^ j := by rw [← Nat.pow_add]; congr 1; omega
  have hd := Nat.div_add_mod v (2 ^ (W - j))
  rw [e]
  -- with `v = P * q + r` (`P = 2 ^ (W - j)`, `Q = 2 ^ j`) both sides are `(P * q + r) * Q`
  generalize 2 ^ (W - j) = P at *
  generalize 2 ^ j = Q at *
  generalize v / P = q at *
  generalize v % P = r at *
  subst hd
  grind

/-- OR-ing into word `k` bits that are not set there adds them at `2^(W*k)` -/
theorem val_or {W : Nat} (ws : List (BitVec W)) (k : Nat) (y : BitVec W) (hk : k < ws.length)
    (h : (ws.getD k 0 ||| y).toNat = (ws.getD k 0).toNat + y.toNat) :
    val (ws.set k (ws.getD k 0 ||| y)) = val ws + y.toNat * 2 ^ (W * k) := by
  have := val_set ws k (ws.getD k 0 ||| y) hk
  rw [h, Nat.add_mul] at this
  omega

/-- the part of `v << j` that stays in the word and the part `v >> (W-j)` that spills into the next -/
theorem lo_hi {W : Nat} (v : BitVec W) (j : Nat) (hj : j < W) :
    (v <<< j).toNat = (v.toNat % 2 ^ (W - j)) * 2 ^ j ∧ (v >>> (W - j)).toNat = v.toNat / 2 ^ (W - j) := by
  constructor
  · rw [BitVec.toNat_shiftLeft, Nat.shiftLeft_eq]
    have e : 2 ^ W = 2 ^ (W - j) * 2 ^ j := by rw [← Nat.pow_add]; congr 1; omega
    rw [e, Nat.mul_mod_mul_right]
  · rw [BitVec.toNat_ushiftRight, Nat.shiftRight_eq_div_pow]

/-- one value: OR-ing it into `lo` and `hi` adds `v * 2^off` to the buffer seen as a number -/
theorem val_step {W : Nat} (w : Nat) (dst : List (BitVec W)) (off : Nat) (v : BitVec W) (hW : 0 < W)
    (hw : w ≤ W) (hv : v.toNat < 2 ^ w) (hval : val dst < 2 ^ off) (hroom : off / W + 1 < dst.length) :
    val ((dst.set (off / W) (dst.getD (off / W) 0 ||| ((v &&& BitVec.ofNat W (2 ^ w - 1)) <<< (off % W)))).set
        (off / W + 1) (dst.getD (off / W + 1) 0 ||| (v >>> (W - off % W))))
      = val dst + v.toNat * 2 ^ off := by
  have hj : off % W < W := Nat.mod_lt _ hW
  have hoff : off = W * (off / W) + off % W := (Nat.div_add_mod off W).symm
  generalize off / W = i at *
  generalize off % W = j at *
  obtain ⟨hlo, hhi⟩ := lo_hi v j hj
  -- below bit `off` the buffer holds `val dst`: word `i` is below `2^j`, word `i + 1` is zero
  have hpi : 0 < 2 ^ (W * i) := Nat.two_pow_pos _
  have hlow : val dst / 2 ^ (W * i) < 2 ^ j := by
    rw [Nat.div_lt_iff_lt_mul hpi, ← Nat.pow_add, Nat.add_comm, ← hoff]; exact hval
  have ha : (dst.getD i 0).toNat < 2 ^ j := by
    rw [getD_val]; exact Nat.lt_of_le_of_lt (Nat.mod_le _ _) hlow
  have hb : dst.getD (i + 1) 0 = 0 := by
    apply BitVec.eq_of_toNat_eq
    rw [getD_val, Nat.div_eq_of_lt (Nat.lt_of_lt_of_le hval
      (Nat.pow_le_pow_right (by omega) (by rw [Nat.mul_succ]; omega)))]
    simp
  have hmask : v &&& BitVec.ofNat W (2 ^ w - 1) = v := by
    apply BitVec.eq_of_toNat_eq
    have h1 : 2 ^ w ≤ 2 ^ W := Nat.pow_le_pow_right (by omega) hw
    have h2 : 0 < 2 ^ w := Nat.two_pow_pos w
    rw [BitVec.toNat_and, BitVec.toNat_ofNat, Nat.mod_eq_of_lt (by omega), Nat.and_two_pow_sub_one_eq_mod,
      Nat.mod_eq_of_lt hv]
  have hor : (dst.getD i 0 ||| (v <<< j)).toNat = (dst.getD i 0).toNat + (v <<< j).toNat := by
    rw [BitVec.toNat_or, hlo, ← Nat.shiftLeft_eq, Nat.or_comm, ← Nat.shiftLeft_add_eq_or_of_lt ha, Nat.add_comm]
  have hget : dst.getD (i + 1) 0 = (dst.set i (dst.getD i 0 ||| (v <<< j))).getD (i + 1) 0 :=
    (ListFacts.getD_set_ne 0 _ (by omega)).symm
  rw [hmask, hget, val_or _ (i + 1) _ (by simpa using hroom) (by rw [← hget, hb]; simp),
    val_or dst i _ (by omega) hor, hlo, hhi, Nat.add_assoc]
  congr 1
  have hsp := split_shift v.toNat W j (by omega)
  have e1 := two_pow_mul_succ W i
  rw [hoff, Nat.pow_add, e1, Nat.mul_comm (2 ^ (W * i)) (2 ^ j), ← Nat.mul_assoc, ← Nat.mul_assoc, ← Nat.add_mul,
    Nat.mul_comm _ (2 ^ W), hsp]

theorem fromBits_packBits_cons (w v : Nat) (vs : List Nat) (hv : v < 2 ^ w) :
    fromBits (packBits w (v :: vs)) = v + 2 ^ w * fromBits (packBits w vs) := by
  simp only [packBits, List.map_cons, List.flatten_cons]
  rw [fromBits_append, toBits_length, fromBits_toBits w v hv]

theorem encodeMiniBlockWords_length {W : Nat} (w : Nat) (vs : List (BitVec W)) (off : Nat) (dst : List (BitVec W)) :
    (encodeMiniBlockWords w vs off dst).length = dst.length := by
  fun_induction encodeMiniBlockWords w vs off dst with
  | case1 => rfl
  | case2 v vs off dst ih => rw [ih, List.length_set, List.length_set]

theorem val_encodeMiniBlockWords {W : Nat} (w : Nat) (hw : w ≤ W) (hw0 : 0 < w)
    (vs : List (BitVec W)) (off : Nat) (dst : List (BitVec W))
    (hv : ∀ v ∈ vs, v.toNat < 2 ^ w) (hval : val dst < 2 ^ off) (hroom : off + w * vs.length + W ≤ W * dst.length) :
    val (encodeMiniBlockWords w vs off dst) = val dst + 2 ^ off * fromBits (packBits w (vs.map BitVec.toNat)) := by
  fun_induction encodeMiniBlockWords w vs off dst with
  | case1 => simp [packBits, fromBits]
  | case2 v vs off dst ih =>
    have hv0 : v.toNat < 2 ^ w := hv v (by simp)
    have hr : off / W + 1 < dst.length := by
      simp only [List.length_cons, Nat.mul_succ] at hroom
      have h1 : off + W < W * dst.length := by omega
      have h2 : W * (off / W) ≤ off := Nat.mul_div_le off W
      have h3 : W * (off / W + 1) < W * dst.length := by rw [Nat.mul_succ]; omega
      exact Nat.lt_of_mul_lt_mul_left h3
    have hstep := val_step w dst off v (by omega) hw hv0 hval hr
    have hnext : val dst + v.toNat * 2 ^ off < 2 ^ (off + w) := by
      rw [Nat.pow_add]
      have : (v.toNat + 1) * 2 ^ off ≤ 2 ^ w * 2 ^ off := Nat.mul_le_mul_right _ hv0
      rw [Nat.add_mul, Nat.mul_comm (2 ^ w)] at this
      omega
    rw [ih (fun x hx => hv x (by simp [hx])) (by rw [hstep]; exact hnext)
      (by simp only [List.length_set, List.length_cons, Nat.mul_succ] at hroom ⊢; omega)]
    rw [hstep, List.map_cons, fromBits_packBits_cons w _ _ hv0, Nat.pow_add]
    -- left: `v * 2^off + 2^off * 2^w * rest = 2^off * (v + 2^w * rest)`
    grind

theorem digits256_eq_leBytes : ∀ (k N : Nat), digits256 k N = Rle.leBytes k N
  | 0, _ => rfl
  | k + 1, N => by rw [digits256, Rle.leBytes, digits256_eq_leBytes k]

theorem wordsToBytes_eq {W : Nat} (c : Nat) (hW : W = 8 * c) : ∀ (ws : List (BitVec W)),
    wordsToBytes ws = digits256 (c * ws.length) (val ws)
  | [] => by simp [wordsToBytes, digits256]
  | x :: xs => by
    have ih := wordsToBytes_eq c hW xs
    have hc : W / 8 = c := by omega
    have hp : 2 ^ W = 256 ^ c := hW ▸ LE.two_pow_eight_mul c
    simp only [wordsToBytes, List.flatMap_cons, wordBytes, hc, List.length_cons, val, Nat.mul_succ] at ih ⊢
    rw [ih, Nat.add_comm (c * xs.length) c, hp, digits256_eq_leBytes, digits256_eq_leBytes, digits256_eq_leBytes,
      Rle.leBytes_append c _ _ _ (by rw [← hp]; exact x.isLt)]

theorem val_zeros {W : Nat} : ∀ (L : Nat), val (List.replicate L (0 : BitVec W)) = 0
  | 0 => rfl
  | L + 1 => by
    have ih := val_zeros (W := W) L
    simp only [List.replicate_succ, val, ih, Nat.mul_zero, Nat.add_zero]
    simp

/-- The kernel is LSB-first bit packing: for word size `W = 8c` (32 or 64), any width
`0 < w ≤ W`, any number of values that all fit `w` bits, and a zero-filled buffer of `L` words with
one word to spare: the bytes `kernelBytes` keeps are `packMini w src`. -/
theorem kernel_eq_packMini {W : Nat} (c : Nat) (hW : W = 8 * c) (w L : Nat) (src : List (BitVec W))
    (hw0 : 0 < w) (hw : w ≤ W) (hv : ∀ v ∈ src, v.toNat < 2 ^ w) (hL : w * src.length + W ≤ W * L)
    (h8 : (w * src.length) % 8 = 0) :
    kernelBytes w L src = packMini w src := by
  have hzero : val (List.replicate L (0 : BitVec W)) = 0 := val_zeros L
  have hval := val_encodeMiniBlockWords w hw hw0 src 0 (List.replicate L 0) hv (by rw [hzero]; simp)
    (by simpa using hL)
  rw [hzero] at hval
  simp only [Nat.zero_add, Nat.pow_zero, Nat.one_mul] at hval
  have hwne : ¬ w = 0 := by omega
  simp only [kernelBytes, packMini, hwne, if_false]
  rw [wordsToBytes_eq c hW, encodeMiniBlockWords_length, List.length_replicate, hval]
  have hlen : (packBits w (src.map BitVec.toNat)).length = w * src.length := by
    rw [packBits_length, List.length_map]
  rw [digits256_eq_leBytes, Rle.bitsToBytes_eq_leBytes _ _ (by rw [hlen]; omega), hlen]
  have hk : src.length * w / 8 = (w * src.length + 7) / 8 := by rw [Nat.mul_comm]; omega
  rw [hk]
  apply Rle.leBytes_take
  -- the kept bytes fit the buffer
  have : w * src.length + 8 * c ≤ 8 * c * L := by rw [← hW]; exact hL
  have h9 : 8 * ((w * src.length + 7) / 8) ≤ w * src.length + 7 := Nat.mul_div_le _ 8
  have h10 : 8 * (c * L) = 8 * c * L := by rw [Nat.mul_assoc]
  omega

/-- MIRROR binary_packed.go:110-116 / 156-162: `if bitWidth != 0 { encodeMiniBlock(dst[n:], miniBlock, bitWidth); n += miniBlockSize*bitWidth/8 }`
on the freshly zero-filled tail of `dst`. 66 words are more than enough: 32 values of at most `W` bits fill 32 words
of `W` bits, and the last `hi` store touches one word more (`kernel_eq_packMini` asks `w * 32 + W ≤ W * L`). -/
def kernelMini {n : Nat} (mb : List (BitVec n)) : List Nat :=
  if miniWidth mb = 0 then [] else kernelBytes (miniWidth mb) 66 mb

/-- `encBlock` (PqModel/Delta.lean) with the miniblock bodies produced by the word-level kernel. -/
def encBlockK {n : Nat} (chunk : List (BitVec n)) (last : BitVec n) : List Nat × BitVec n :=
  let block := chunk ++ List.replicate (128 - chunk.length) 0
  let deltas := blockDelta block last
  let minD := blockMin deltas
  let subbed := deltas.map (· - minD)
  let cleared := subbed.take chunk.length ++ List.replicate (128 - chunk.length) 0
  let minis := [0, 1, 2, 3].map (fun i => (cleared.drop (32 * i)).take 32)
  (varintEnc (minD.signExtend 64) ++ minis.map miniWidth ++ minis.flatMap kernelMini,
   block.getLastD last)

def encBlocksK {n : Nat} : Nat → List (BitVec n) → BitVec n → List Nat
  | 0, _, _ => []
  | f + 1, rest, last =>
    if rest.isEmpty then []
    else (encBlockK (rest.take 128) last).1 ++ encBlocksK f (rest.drop 128) (encBlockK (rest.take 128) last).2

/-- `mirrorEncode` with the word-level kernel: the transliteration of `encodeInt32Default` /
`encodeInt64Default` down to the word OR-ing. This is what the driver runs for `delta.enc32/64`. -/
def mirrorEncodeK {n : Nat} (xs : List (BitVec n)) : List Nat :=
  encHeader xs.length (xs.headD 0) ++
    (if xs.length < 2 then [] else encBlocksK xs.length xs.tail (xs.headD 0))

theorem kernelMini_eq {n : Nat} (c : Nat) (hn : n = 8 * c) (mb : List (BitVec n)) (hl : mb.length = 32) :
    kernelMini mb = packMini (miniWidth mb) mb := by
  unfold kernelMini
  by_cases h0 : miniWidth mb = 0
  · simp [h0, packMini]
  · simp only [h0, if_false]
    have hle := miniWidth_le mb
    exact kernel_eq_packMini c hn _ 66 mb (by omega) hle (lt_miniWidth mb) (by rw [hl]; omega) (by rw [hl]; omega)

theorem encBlockK_eq {n : Nat} (c : Nat) (hn : n = 8 * c) (chunk : List (BitVec n)) (last : BitVec n)
    (hc : chunk.length ≤ 128) : encBlockK chunk last = encBlock chunk last := by
  simp only [encBlockK, encBlock]
  congr 2
  apply ListFacts.flatMap_congr
  intro mb hmb
  apply kernelMini_eq c hn
  refine minis_length _ ?_ mb hmb
  simp only [List.length_append, List.length_take, List.length_map, blockDelta_length, List.length_replicate]
  omega

theorem encBlocksK_eq {n : Nat} (c : Nat) (hn : n = 8 * c) : ∀ (f : Nat) (rest : List (BitVec n)) (last : BitVec n),
    encBlocksK f rest last = encBlocks f rest last
  | 0, _, _ => rfl
  | f + 1, rest, last => by
    simp only [encBlocksK, encBlocks]
    rw [encBlockK_eq c hn (rest.take 128) last (by simp only [List.length_take]; omega), encBlocksK_eq c hn f]

theorem mirrorEncodeK_eq {n : Nat} (c : Nat) (hn : n = 8 * c) (xs : List (BitVec n)) :
    mirrorEncodeK xs = mirrorEncode xs := by
  simp only [mirrorEncodeK, mirrorEncode, encBlocksK_eq c hn]

end PqModel.Delta
