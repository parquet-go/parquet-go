import PqModel.Dremel

/-! # Level bounds of the shredded streams (C03 `shred_levels_wf`)

SPEC side: `boundsN n d k` lists, per leaf column of `n` in column order, the pair
`(max definition level, max repetition level)` of the column when `n` sits below `d`
optional-or-repeated and `k` repeated ancestors — the format's definition: one definition level per
optional or repeated node on the path, one repetition level per repeated node.
`FileModel.levelsN n k d` is the same table with the pair swapped (`FileModel.levelsN_eq_boundsN`). -/
namespace PqModel.Dremel

mutual
def boundsN : Node → (d k : Nat) → List (Nat × Nat)
  | .leaf, d, k => [(d, k)]
  | .group fs, d, k => boundsF fs d k
  | .opt n, d, k => boundsN n (d + 1) k
  | .rpt n, d, k => boundsN n (d + 1) (k + 1)
def boundsF : Fields → (d k : Nat) → List (Nat × Nat)
  | .nil, _, _ => []
  | .cons n fs, d, k => boundsN n d k ++ boundsF fs d k
end

def ColLe (c : List Triple) (b : Nat × Nat) : Prop := ∀ t ∈ c, t.dfn ≤ b.1 ∧ t.rep ≤ b.2

def ColOK (r : Nat) (c : List Triple) (b : Nat × Nat) : Prop :=
  (∃ t ts, c = t :: ts ∧ t.rep = r) ∧ ColLe c b

theorem colLe_nil (b : Nat × Nat) : ColLe [] b := fun _ ht => nomatch ht

theorem colLe_append {a a' : List Triple} {b : Nat × Nat} (h : ColLe a b) (h' : ColLe a' b) : ColLe (a ++ a') b :=
  fun u hu => (List.mem_append.mp hu).elim (h u) (h' u)

theorem colOK_append {r : Nat} {a a' : List Triple} {b : Nat × Nat} (h : ColOK r a b) (h' : ColLe a' b) :
    ColOK r (a ++ a') b := by
  obtain ⟨⟨t, ts, rfl, hr⟩, hle⟩ := h
  exact ⟨⟨t, ts ++ a', rfl, hr⟩, colLe_append hle h'⟩

mutual
theorem boundsN_length (n : Node) (d k : Nat) : (boundsN n d k).length = leavesN n := by
  cases n with
  | leaf => simp [boundsN, leavesN]
  | group fs => simpa [boundsN, leavesN] using boundsF_length fs d k
  | opt n => simpa [boundsN, leavesN] using boundsN_length n (d + 1) k
  | rpt n => simpa [boundsN, leavesN] using boundsN_length n (d + 1) (k + 1)
theorem boundsF_length (fs : Fields) (d k : Nat) : (boundsF fs d k).length = leavesF fs := by
  cases fs with
  | nil => simp [boundsF, leavesF]
  | cons n fs => simp [boundsF, leavesF, boundsN_length n d k, boundsF_length fs d k]
end

mutual
theorem absentN_levels (n : Node) (r d d' k' : Nat) (hd : d ≤ d') (hr : r ≤ k') :
    Pairs (ColOK r) (absentN n r d) (boundsN n d' k') := by
  cases n with
  | leaf =>
    simp only [absentN, boundsN]
    refine .cons ⟨⟨_, [], rfl, rfl⟩, ?_⟩ .nil
    intro t ht
    simp at ht; subst ht; exact ⟨hd, hr⟩
  | group fs => simpa [absentN, boundsN] using absentF_levels fs r d d' k' hd hr
  | opt n => simpa [absentN, boundsN] using absentN_levels n r d (d' + 1) k' (by omega) hr
  | rpt n => simpa [absentN, boundsN] using absentN_levels n r d (d' + 1) (k' + 1) (by omega) (by omega)
theorem absentF_levels (fs : Fields) (r d d' k' : Nat) (hd : d ≤ d') (hr : r ≤ k') :
    Pairs (ColOK r) (absentF fs r d) (boundsF fs d' k') := by
  cases fs with
  | nil => simp only [absentF, boundsF]; exact .nil
  | cons n fs =>
    simp only [absentF, boundsF]
    exact pairs_append (absentN_levels n r d d' k' hd hr) (absentF_levels fs r d d' k' hd hr)
end

mutual
theorem shredN_levels (n : Node) (r k d : Nat) (v : Val) (hr : r ≤ k) :
    Pairs (ColOK r) (shredN n r k d v) (boundsN n d k) := by
  cases n with
  | leaf =>
    have h : ∀ (o : Option Nat), Pairs (ColOK r) [[(⟨o, r, d⟩ : Triple)]] [(d, k)] := by
      intro o
      refine .cons ⟨⟨_, [], rfl, rfl⟩, ?_⟩ .nil
      intro t ht
      simp at ht; subst ht; exact ⟨Nat.le_refl _, hr⟩
    cases v <;> simp only [shredN, boundsN] <;> exact h _
  | group fs =>
    cases v with
    | struct vs => simpa [shredN, boundsN] using shredF_levels fs r k d vs hr
    | _ => simpa [shredN, boundsN] using absentF_levels fs r d d k (Nat.le_refl _) hr
  | opt n =>
    cases v with
    | some w => simpa [shredN, boundsN] using shredN_levels n r k (d + 1) w hr
    | _ => simpa [shredN, boundsN] using absentN_levels n r d (d + 1) k (by omega) hr
  | rpt n =>
    have habs := absentN_levels n r d (d + 1) (k + 1) (by omega) (by omega)
    cases v with
    | list ws =>
      cases ws with
      | nil => simpa [shredN, boundsN] using habs
      | cons w ws =>
        rw [shredN_rpt_cons, boundsN]
        apply pairs_zipApp_of (fun _ _ _ => colOK_append) (shredN_levels n r (k + 1) (d + 1) w (by omega))
        rw [← boundsN_length n (d + 1) (k + 1)]
        apply pairs_joinSegs_of colLe_nil (fun _ _ _ => colLe_append)
        intro s hs
        obtain ⟨w', _, rfl⟩ := List.mem_map.mp hs
        exact pairs_mono (fun _ _ h => h.2) (shredN_levels n (k + 1) (k + 1) (d + 1) w' (Nat.le_refl _))
    | _ => simpa [shredN, boundsN] using habs
theorem shredF_levels (fs : Fields) (r k d : Nat) (vs : List Val) (hr : r ≤ k) :
    Pairs (ColOK r) (shredF fs r k d vs) (boundsF fs d k) := by
  cases fs with
  | nil => simp only [shredF, boundsF]; exact .nil
  | cons n fs =>
    cases vs with
    | nil =>
      simp only [shredF, boundsF]
      exact pairs_append (absentN_levels n r d d k (Nat.le_refl _) hr)
        (absentF_levels fs r d d k (Nat.le_refl _) hr)
    | cons v vs' =>
      simp only [shredF, boundsF]
      exact pairs_append (shredN_levels n r k d v hr) (shredF_levels fs r k d vs' hr)
end

/-- not the invariant `Good` of Dremel.lean: only what block surgery on columns asks (no well-formedness needed) -/
theorem shredN_good {n : Node} {r k : Nat} (hr : r ≤ k) (d : Nat) (v : Val) :
    (shredN n r k d v).length = leavesN n ∧ ∀ c ∈ shredN n r k d v, c ≠ [] :=
  ⟨shredN_length n r k d v,
    pairs_left (fun c _ h => by obtain ⟨⟨t, ts, rfl, _⟩, _⟩ := h; exact List.cons_ne_nil t ts)
      (shredN_levels n r k d v hr)⟩

end PqModel.Dremel
