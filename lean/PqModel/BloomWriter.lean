import PqModel.Bloom
import PqModel.BloomSize
import PqModel.CopyPath

/-! # How the writer builds, sizes, stores and copies a column chunk's bloom filter (C07)

MIRROR of `NumSplitBlocksOf` / `splitBlockFilter.Size`, of the filter building of the column writer (`writeDataPage`,
`flushFilterPages` as repaired by fix d2487f3 and as it was before, `resizeBloomFilter`, `writePageToFilter`), of
`writeBloomFilter` + `newBloomFilter` + `FileBloomFilter.Check` (plain or gzip storage) and of the verbatim copy of the
filter section in `writeRowGroup`; the references are at the definitions.

The level of detail is the *value list of each page*: what a page's `Data()` holds is `pageData`
(Bloom.lean); encoding/decoding of pages is not modelled (re-reading a page yields the values that
were written: C04's subject). A filter under construction is `(size in bytes, hashes inserted)`. -/
namespace PqModel.BloomWriter
open PqModel.XxHash PqModel.Bloom

/-- SPEC-level arithmetic of `NumSplitBlocksOf` (no wraparound) -/
def numSplitBlocksOf (numValues bitsPerValue : Nat) : Nat :=
  ((numValues * bitsPerValue + 7) / 8 + 31) / 32

/-- MIRROR `NumSplitBlocksOf`, bloom/filter.go:35-39, in Go's 64-bit `uint` arithmetic -/
def numSplitBlocksOfGo (numValues bitsPerValue : UInt64) : UInt64 :=
  let numBytes := (numValues * bitsPerValue + 7) / 8
  (numBytes + 31) / 32

theorem numSplitBlocksOfGo_toNat (n b : Nat) (h : n * b + 7 < 2 ^ 64) :
    (numSplitBlocksOfGo (UInt64.ofNat n) (UInt64.ofNat b)).toNat = numSplitBlocksOf n b := by
  unfold numSplitBlocksOfGo numSplitBlocksOf
  have hmul : ((UInt64.ofNat n) * (UInt64.ofNat b)).toNat = n * b := by
    rw [UInt64.toNat_mul, UInt64.toNat_ofNat', UInt64.toNat_ofNat', ← Nat.mul_mod, Nat.mod_eq_of_lt (by omega)]
  have h7 : ((UInt64.ofNat n) * (UInt64.ofNat b) + 7).toNat = n * b + 7 := by
    rw [UInt64.toNat_add, hmul]
    exact Nat.mod_eq_of_lt h
  have hdiv : (((UInt64.ofNat n) * (UInt64.ofNat b) + 7) / 8).toNat = (n * b + 7) / 8 := by
    rw [UInt64.toNat_div, h7]; rfl
  have h31 : ((((UInt64.ofNat n) * (UInt64.ofNat b) + 7) / 8) + 31).toNat = (n * b + 7) / 8 + 31 := by
    rw [UInt64.toNat_add, hdiv]
    apply Nat.mod_eq_of_lt
    show (n * b + 7) / 8 + 31 < 2 ^ 64
    omega
  rw [UInt64.toNat_div, h31]; rfl

/-- the `BitVec 64` mirror of the same Go function on the copy path -/
theorem bloomSizeGo_eq (n b : Nat) :
    CopyPath.bloomSizeGo b n = 32 * (numSplitBlocksOfGo (UInt64.ofNat n) (UInt64.ofNat b)).toNat := rfl

/-- MIRROR `splitBlockFilter.Size`, bloom.go:205-207 (bytes) -/
def filterSize (bitsPerValue numValues : Nat) : Nat := 32 * numSplitBlocksOf numValues bitsPerValue

theorem filterSize_eq_copyPath (b n : Nat) : filterSize b n = PqModel.CopyPath.bloomSize b n := rfl

/-- one data page as the column writer sees it -/
structure WPage where
  /-- the non-null values of the page, in order -/
  values : List Value
  /-- `page.Dictionary() != nil`: the page holds dictionary indexes -/
  indexed : Bool
  deriving Repr

/-- what `flushFilterPages` depends on, at the end of a row group's column chunk -/
structure ChunkWrite where
  kind : Kind
  bits : Nat                        -- `bitsPerValue` of the configured filter
  pages : List WPage                -- data pages in write order (empty = `pageBuffer == nil`)
  dictionary : Option (List Value)  -- `c.dictionary` (its values, insertion order)
  switched : Bool                   -- `c.hasSwitchedToPlain`
  presized : Nat                    -- `len(c.filter)` in bytes while the pages were written (0 = not allocated)
  numValues : Nat                   -- `c.columnChunk.MetaData.NumValues` (nulls included)

/-- a filter under construction: size in bytes, hashes inserted so far -/
abbrev Built := Nat × List UInt64

/-- MIRROR `writePageToFilter`, writer.go: `pageType.Encode(c.filter, page.Data(), splitBlockEncoding)` -/
def pageHashes (kind : Kind) (values : List Value) : List UInt64 := hashWriteStaged (pageData kind values)

/-- STRATEGY 1 (incremental). MIRROR of `writeDataPage`, writer.go:
    `if page.Dictionary() == nil && len(c.filter) > 0 { c.writePageToFilter(page) }`, over all pages. -/
def incremental (c : ChunkWrite) : List UInt64 :=
  c.pages.flatMap (fun p => if !p.indexed && c.presized > 0 then pageHashes c.kind p.values else [])

/-- STRATEGY 3 (re-reading). MIRROR of the page loop of `flushFilterPages`: every page of the page
    buffer is decoded and inserted, except dictionary-encoded ones when `skipDictionaryPages`. -/
def reread (c : ChunkWrite) (skipIndexed : Bool) : List UInt64 :=
  c.pages.flatMap (fun p => if skipIndexed && p.indexed then [] else pageHashes c.kind p.values)

/-- MIRROR `flushFilterPages` as repaired (fix d2487f3), writer.go:2194-2367. Of a result `b` the file stores
    `filterBytes (build (b.1 / 32) (b.2.map UInt64.toBitVec))` (`Props.C07Place.builtBytes`). -/
def flushFilter (c : ChunkWrite) : Built :=
  match c.dictionary with
  | some d =>
    if !c.switched then
      -- STRATEGY 2 (from the dictionary): resize (which zeroes) to the dictionary length
      (filterSize c.bits d.length, pageHashes c.kind d)
    else if c.presized > 0 then
      -- fell back to PLAIN with a pre-sized filter: PLAIN pages were inserted as written
      (c.presized, incremental c ++ pageHashes c.kind d)
    else if c.pages.isEmpty then (0, [])
    else (filterSize c.bits c.numValues, pageHashes c.kind d ++ reread c true)
  | none =>
    if c.presized > 0 then (c.presized, incremental c)
    else if c.pages.isEmpty then (0, [])
    else (filterSize c.bits c.numValues, reread c false)

/-- `flushFilterPages` BEFORE fix d2487f3 (finding F23): with a dictionary the filter was always
    rebuilt from the dictionary alone, fallen back to PLAIN or not. -/
def flushFilterBeforeFix (c : ChunkWrite) : Built :=
  match c.dictionary with
  | some d => (filterSize c.bits d.length, pageHashes c.kind d)
  | none => flushFilter c

def ChunkWrite.values (c : ChunkWrite) : List Value := c.pages.flatMap (·.values)

/-- What the rest of the writer guarantees about a chunk (hypotheses of the theorems; the dictionary
    facts are the dictionary's contract, C04). -/
structure ChunkOk (c : ChunkWrite) : Prop where
  kinds : ∀ p ∈ c.pages, ∀ v ∈ p.values, v.kindOk c.kind = true
  /-- without a dictionary no page holds indexes -/
  noDict : c.dictionary = none → ∀ p ∈ c.pages, p.indexed = false
  /-- every value of an indexed page is in the dictionary -/
  covers : ∀ d, c.dictionary = some d → ∀ p ∈ c.pages, p.indexed = true → ∀ v ∈ p.values, v ∈ d
  dictKinds : ∀ d, c.dictionary = some d → ∀ v ∈ d, v.kindOk c.kind = true
  /-- the dictionary holds only values that were written to the chunk -/
  dictWritten : ∀ d, c.dictionary = some d → ∀ v ∈ d, v ∈ c.values
  /-- until the writer falls back, every page is dictionary-encoded -/
  allIndexed : c.switched = false → c.dictionary.isSome → ∀ p ∈ c.pages, p.indexed = true
  /-- `NumValues` counts every value (and the nulls) -/
  count : c.values.length ≤ c.numValues
  /-- a pre-sized filter is a whole number of blocks (`resizeBloomFilter(Size(n))`) -/
  presizedBlocks : c.presized % 32 = 0

/-- MIRROR `ConcurrentRowGroupWriter.configureBloomFilters`, writer.go:906-936, for one column that has a
    filter: `exact` = `chunkNumValuesIsExact(source chunk)`, `srcValues` = `source.NumValues()` (nulls
    included), `numRows` = rows of the source row group, `maxRows` = `MaxRowsPerRowGroup` of the
    writer, `repeated` = `maxRepetitionLevel > 0`. The result is `len(c.filter)` while the FIRST output
    row group of this `WriteRowGroup` call is written (0 = left unallocated); `ColumnWriter.reset`
    truncates the filter, so later output row groups of the same call are never pre-sized. -/
def presize (bits : Nat) (exact : Bool) (srcValues numRows maxRows : Nat) (repeated : Bool) : Nat :=
  if !exact then 0
  else if numRows > maxRows then
    if repeated then 0 else filterSize bits (min srcValues maxRows)
  else filterSize bits srcValues

inductive Compression where
  | uncompressed | gzip
  deriving DecidableEq, Repr

/-- the bloom filter section of a file after the thrift header: `header.NumBytes`, the header's
    compression, and the bytes that follow the header -/
structure Stored where
  compression : Compression
  numBytes : Nat
  payload : List UInt8
  deriving DecidableEq, Repr

/-- MIRROR `writeBloomFilter`, writer.go (unencrypted): gzip the bitset when the codec is gzip;
    `NumBytes` is the length of what is stored. `enc` stands for `gzip.Codec.Encode`. -/
def store (enc : List UInt8 → List UInt8) (gzip : Bool) (filter : List UInt8) : Stored :=
  if gzip then { compression := .gzip, numBytes := (enc filter).length, payload := enc filter }
  else { compression := .uncompressed, numBytes := filter.length, payload := filter }

/-- MIRROR `CheckSplitBlock(r, n, x)`, bloom/filter.go:74-80, with the size `n` as its own argument -/
def checkSplitBlock (bytes : List UInt8) (n : Nat) (h : BitVec 64) : Bool :=
  let blk := (bytes.drop (32 * blockIndex h (n / 32))).take 32
  blockCheckGo (parseWords 8 blk) (h.truncate 32)

theorem checkSplitBlock_length (bytes : List UInt8) (h : BitVec 64) :
    checkSplitBlock bytes bytes.length h = checkBytes bytes h := rfl

/-- MIRROR `newBloomFilter` + `FileBloomFilter.Check`, bloom.go:79-127: uncompressed = a section of
    `NumBytes` bytes checked with size `NumBytes`; gzip = the section is decompressed and checked with
    the DECOMPRESSED length. `none` = the read error of a failing decompression. -/
def readCheck (dec : List UInt8 → Option (List UInt8)) (s : Stored) (h : BitVec 64) : Option Bool :=
  let sect := s.payload.take s.numBytes
  match s.compression with
  | .uncompressed => some (checkSplitBlock sect s.numBytes h)
  | .gzip =>
    match dec sect with
    | some d => some (checkSplitBlock d d.length h)
    | none => none

/-- the slip a reader could make: probing the decompressed bytes with the COMPRESSED size -/
def readCheckCompressedSize (dec : List UInt8 → Option (List UInt8)) (s : Stored) (h : BitVec 64) : Option Bool :=
  let sect := s.payload.take s.numBytes
  match s.compression with
  | .uncompressed => some (checkSplitBlock sect s.numBytes h)
  | .gzip =>
    match dec sect with
    | some d => some (checkSplitBlock d s.numBytes h)
    | none => none

/-- ASSUMPTION about the gzip codec (third-party, not verified): decoding what was encoded gives it back -/
def GzipRoundTrip (enc : List UInt8 → List UInt8) (dec : List UInt8 → Option (List UInt8)) : Prop :=
  ∀ b, dec (enc b) = some b

def fileSection (file : List UInt8) (off len : Nat) : List UInt8 := (file.drop off).take len

theorem fileSection_at_end (out sect post : List UInt8) :
    fileSection (out ++ (sect ++ post)) out.length sect.length = sect := by
  rw [← List.append_assoc]; exact SortBuf.slice_mid out sect post

/-- MIRROR of the verbatim copy in `writeRowGroup`: the source range `[bloomOffset, bloomOffset+bloomLength)`
    is appended to the output (`io.Copy` / `ReadFrom`), `BloomFilterOffset` = the output offset before
    the copy, `BloomFilterLength` = `bloomLength`. Returns the new output and the recorded offset. -/
def copyFilterSection (out src : List UInt8) (off len : Nat) : List UInt8 × Nat :=
  (out ++ fileSection src off len, out.length)

end PqModel.BloomWriter
