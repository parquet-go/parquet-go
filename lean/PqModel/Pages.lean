/-! Pagination model for C01/C02: a column stream is cut into pages at arbitrary positions
    (the writer's heuristics — page buffer size, 64-row chunking, row-group limit, dictionary
    fallback — only choose WHERE to cut); reading concatenates the decoded pages. -/
namespace PqModel.Pages

/-- cut `xs` after `c₁`, then `c₂` further elements, ...; the remainder is the last page -/
def cutAt {α} : List Nat → List α → List (List α)
  | [], xs => [xs]
  | c :: cs, xs => xs.take c :: cutAt cs (xs.drop c)

theorem cutAt_flatten {α} (cuts : List Nat) (xs : List α) : (cutAt cuts xs).flatten = xs := by
  induction cuts generalizing xs with
  | nil => simp [cutAt]
  | cons c cs ih => simp [cutAt, ih, List.take_append_drop]

theorem mem_cutAt {α} : ∀ (cuts : List Nat) (xs : List α), ∀ p ∈ cutAt cuts xs, ∀ t ∈ p, t ∈ xs
  | [], xs, p, hp, t, ht => by simp only [cutAt, List.mem_singleton] at hp; subst hp; exact ht
  | c :: cs, xs, p, hp, t, ht => by
    simp only [cutAt, List.mem_cons] at hp
    rcases hp with rfl | hp
    · exact List.mem_of_mem_take ht
    · exact List.mem_of_mem_drop (mem_cutAt cs _ p hp t ht)

def readPages {α β} (dec : β → Option (List α)) : List β → Option (List α)
  | [] => some []
  | p :: ps =>
    match dec p, readPages dec ps with
    | some a, some b => some (a ++ b)
    | _, _ => none

theorem readPages_map {α β} (enc : List α → β) (dec : β → Option (List α))
    (hrt : ∀ p, dec (enc p) = some p) (ps : List (List α)) :
    readPages dec (ps.map enc) = some ps.flatten := by
  induction ps with
  | nil => simp [readPages]
  | cons p ps ih => simp [readPages, hrt, ih]

end PqModel.Pages
