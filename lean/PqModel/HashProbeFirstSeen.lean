import PqModel.HashProbeProofs
import PqModel.Plain
/-! Bridge from the numbering the hashprobe mirror maintains (`List (α × Nat)`, PqModel/HashProbe.lean) to the
table model the dictionary machines use (PqModel/DictReset.lean, `ProbeDict.table : List α` = the keys in
numbering order, probed with `Plain.insertAll`): a table representing `numbering d` answers `insertAll d`. -/
namespace PqModel.HashProbe
open PqModel.Plain

variable {α : Type} [DecidableEq α]

/-- the numbering of a table whose keys, in numbering order, are `d` -/
def numbering (d : List α) : List (α × Nat) := d.zipIdx

omit [DecidableEq α] in
theorem numbering_length (d : List α) : (numbering d).length = d.length := by simp [numbering]

theorem gfind_zipIdx : ∀ (d : List α) (n : Nat) (x : α), gfind x (d.zipIdx n) = (dictFind d x).map (· + n)
  | [], _, _ => rfl
  | y :: ys, n, x => by
    simp only [List.zipIdx_cons, gfind, dictFind]
    split
    · simp
    · rw [gfind_zipIdx ys (n + 1) x]
      cases dictFind ys x with
      | none => rfl
      | some i => simp only [Option.map_some]; congr 1; omega

theorem specProbe1_numbering (d : List α) (x : α) :
    specProbe1 (numbering d) x = (numbering (dictInsert1 d x).1, (dictInsert1 d x).2) := by
  unfold specProbe1 dictInsert1 numbering
  rw [gfind_zipIdx d 0 x]
  cases dictFind d x with
  | some i => simp
  | none => simp [List.zipIdx_append]

theorem specProbe_numbering : ∀ (xs : List α) (d : List α),
    specProbe (numbering d) xs = (numbering (insertAll d xs).1, (insertAll d xs).2)
  | [], _ => rfl
  | x :: xs, d => by
    simp only [specProbe, insertAll, specProbe1_numbering, specProbe_numbering xs]

theorem specSession_numbering : ∀ (calls : List (List α)) (d : List α),
    (specSession (numbering d) calls).flatten = (insertAll d calls.flatten).2
      ∧ (specSession (numbering d) calls).map List.length = calls.map List.length
  | [], _ => by simp [specSession, insertAll]
  | c :: cs, d => by
    have ih := specSession_numbering cs (insertAll d c).1
    simp only [specSession, specProbe_numbering, List.flatten_cons, List.map_cons, insertAll_append, ih,
      insertAll_length, and_self]

end PqModel.HashProbe
