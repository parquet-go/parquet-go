import PqModel.DeltaGo
import PqModel.DeltaProofs

/-! Lemmas relating the mirror of the Go decoders (`PqModel/DeltaGo.lean`) to the spec decoders. -/
namespace PqModel.Delta
open PqModel.Bits

theorem pow7_succ (i : Nat) : 2 ^ (7 * (i + 1)) = 128 * 2 ^ (7 * i) := two_pow_mul_succ 7 i

/-- one more byte `b ≥ 0x80` in front of a number `v`, at weight `P = 2^(7i)` -/
theorem uvarint_acc (x b v P : Nat) : x + (b - 128) * P + v * (128 * P) = x + (b - 128 + 128 * v) * P := by
  rw [Nat.add_mul, Nat.add_assoc]
  congr 1
  rw [Nat.mul_assoc, Nat.mul_comm v (128 * P), Nat.mul_assoc, Nat.mul_comm P v]

theorem goUvarintLoop_ok (bs : List Nat) (f i x v : Nat) (r : List Nat)
    (h : goUvarintLoop f i x bs = .ok (v, r)) :
    ∃ v', decUvarint bs = some (v', r) ∧ v = x + v' * 2 ^ (7 * i) := by
  -- cases of `goUvarintLoop`: input ends, out of fuel, index 10, tenth byte above 1, last byte, continuation byte
  fun_induction goUvarintLoop f i x bs with
  | case1 => cases h
  | case2 => cases h
  | case3 => cases h
  | case4 => cases h
  | case5 f i x b bs h10 hb h9 => cases h; exact ⟨b, by simp [decUvarint, hb], rfl⟩
  | case6 f i x b bs h10 hb ih =>
    obtain ⟨v'', hd, hv⟩ := ih h
    exact ⟨b - 128 + 128 * v'', by simp [decUvarint, hb, hd], by rw [hv, pow7_succ, uvarint_acc]⟩

theorem goUvarint_ok {bs : List Nat} {v : Nat} {r : List Nat} (h : goUvarint bs = .ok (v, r)) :
    decUvarint bs = some (v, r) := by
  obtain ⟨v', hd, hv⟩ := goUvarintLoop_ok bs 11 0 0 v r h
  simp at hv; subst hv; exact hd

/-- `11 ≤ f + i` (fuel `MaxVarintLen64 + 1` at `i = 0`): Go reaches its own stop at byte index 10 before the fuel ends -/
theorem goUvarintLoop_of_dec (bs : List Nat) (f i x v' : Nat) (r : List Nat)
    (h : decUvarint bs = some (v', r)) (hf : 11 ≤ f + i) :
    goUvarintLoop f i x bs = .ok (x + v' * 2 ^ (7 * i), r) ∨ goUvarintLoop f i x bs = .error .overflow := by
  -- cases of `decUvarint`: input ends, last byte, continuation byte with the rest read, with the rest failing
  fun_induction decUvarint bs generalizing f i x v' with
  | case1 => cases h
  | case2 b bs hb =>
    cases h
    cases f with
    | zero => simp [goUvarintLoop]
    | succ f =>
      simp only [goUvarintLoop, hb, if_true]
      by_cases hi : i = 10
      · simp [hi]
      · by_cases h9 : i = 9 ∧ 1 < b <;> simp [hi, h9]
  | case3 b bs hb v'' r' hd ih =>
    cases h
    cases f with
    | zero => simp [goUvarintLoop]
    | succ f =>
      simp only [goUvarintLoop, hb, if_false]
      by_cases hi : i = 10
      · simp [hi]
      · simp only [hi, if_false]
        rcases ih f (i + 1) (x + (b - 128) * 2 ^ (7 * i)) v'' hd (by omega) with ih | ih
        · left; rw [ih, pow7_succ, uvarint_acc]
        · right; exact ih
  | case4 => cases h

theorem goUvarint_of_dec {bs : List Nat} {v : Nat} {r : List Nat} (h : decUvarint bs = some (v, r)) :
    goUvarint bs = .ok (v, r) ∨ goUvarint bs = .error .overflow := by
  have := goUvarintLoop_of_dec bs 11 0 0 v r h (by omega)
  simpa [goUvarint] using this

theorem goVarint_of_spec {bs : List Nat} {z : Int} {r : List Nat} (h : specZigzag bs = .ok (z, r)) :
    goVarint bs = .ok (z, r) ∨ goVarint bs = .error .overflow := by
  simp only [specZigzag, specUleb] at h
  cases hd : decUvarint bs with
  | none => simp [hd] at h
  | some p =>
    obtain ⟨u, r'⟩ := p
    simp only [hd, Except.ok.injEq, Prod.mk.injEq] at h
    rcases goUvarint_of_dec hd with hg | hg
    · left; simp [goVarint, hg, h.1, h.2]
    · right; simp [goVarint, hg]

theorem decUvarint_length (bs : List Nat) (v : Nat) (r : List Nat) (h : decUvarint bs = some (v, r)) :
    r.length < bs.length := by
  fun_induction decUvarint bs generalizing v with
  | case1 => cases h
  | case2 b bs hb => cases h; simp
  | case3 b bs hb v' r' hd ih => cases h; have := ih v' hd; simp only [List.length_cons]; omega
  | case4 => cases h

/-- `x < 2^(64-7i)`: the bits a `uint64` has left after `i` groups; `10 - i < f`: fuel for Go's cap of ten bytes -/
theorem goUvarintLoop_uvarint (x : Nat) : ∀ (f i acc : Nat) (rest : List Nat), i ≤ 9 →
    x < 2 ^ (64 - 7 * i) → 10 - i < f →
    goUvarintLoop f i acc (uvarint x ++ rest) = .ok (acc + x * 2 ^ (7 * i), rest) := by
  induction x using Nat.strongRecOn with
  | _ x ih =>
    intro f i acc rest hi hlt hf
    obtain ⟨f, rfl⟩ : ∃ g, f = g + 1 := ⟨f - 1, by omega⟩
    have h10 : ¬ i = 10 := by omega
    rw [uvarint]
    by_cases hb : x < 128
    · have : ¬ (i = 9 ∧ 1 < x) := by
        intro ⟨h9, h1⟩; subst h9; simp at hlt; omega
      simp [hb, goUvarintLoop, h10, this]
    · have hnb : ¬ (x % 128 + 128 < 128) := by omega
      have hi9 : i ≠ 9 := by
        intro h9; subst h9; simp at hlt; omega
      have hpow : 2 ^ (64 - 7 * i) = 128 * 2 ^ (64 - 7 * (i + 1)) := by
        have : 64 - 7 * i = 7 + (64 - 7 * (i + 1)) := by omega
        rw [this, Nat.pow_add]
      simp only [hb, dite_false, List.cons_append, goUvarintLoop, h10, if_false, hnb]
      rw [ih (x / 128) (by omega) f (i + 1) _ rest (by omega) (by rw [hpow] at hlt; omega) (by omega), pow7_succ]
      have hx : x % 128 + 128 - 128 + 128 * (x / 128) = x := by omega
      rw [uvarint_acc, hx]

theorem goUvarint_uvarintEnc (x : Nat) (rest : List Nat) (h : x < 2 ^ 64) :
    goUvarint (uvarintEnc x ++ rest) = .ok (x, rest) := by
  have := goUvarintLoop_uvarint x 11 0 0 rest (by omega) (by simpa using h) (by omega)
  simpa [goUvarint, uvarintEnc, putUvarint_eq_uvarint x x (Nat.le_refl _)] using this

theorem goVarint_varintEnc {n : Nat} (hn : n ≤ 64) (x : BitVec n) (rest : List Nat) :
    goVarint (varintEnc (x.signExtend 64) ++ rest) = .ok (x.toInt, rest) := by
  simp [goVarint, varintEnc, goUvarint_uvarintEnc _ rest (zigzag64_lt _), unzigzag_zigzag64,
    BitVec.toInt_signExtend_of_le hn]

theorem decMinis_rest_length (vpm maxW : Nat) (ws : List Nat) (rem : Nat) (bs ds r : List Nat)
    (h : decMinis vpm maxW ws rem bs = .ok (ds, r)) : r.length ≤ bs.length := by
  -- cases of `decMinis`: no width left, nothing expected, width too large, body cut short, the rest fails, the rest succeeds
  fun_induction decMinis vpm maxW ws rem bs generalizing ds r with
  | case1 => cases h; exact Nat.le_refl _
  | case2 => cases h; exact Nat.le_refl _
  | case3 => cases h
  | case4 => cases h
  | case5 => cases h
  | case6 w ws rem bs _ _ _ more r' hrec ih =>
    cases h
    have := ih more r' hrec
    simp only [List.length_drop] at this
    omega

theorem goMinis_of_decMinis (n vpm : Nat) (ws : List Nat) (rem : Nat) (bs ds r : List Nat)
    (h : decMinis vpm n ws rem bs = .ok (ds, r)) (hpos : 0 < rem) :
    goMinis n vpm ws rem bs = .ok (ds, rem - ds.length, r) := by
  fun_induction decMinis vpm n ws rem bs generalizing ds r with
  | case1 rem bs => cases h; simp [goMinis]
  | case2 => omega
  | case3 => cases h
  | case4 => cases h
  | case5 => cases h
  | case6 w ws rem bs hr hw hlen more r' hrec ih =>
    cases h
    have hnow : ¬ (0 < min vpm rem ∧ n < w) := fun hc => hw hc.2
    have hdata : bs.take (vpm * w / 8) ++ List.replicate (vpm * w / 8 - (bs.take (vpm * w / 8)).length) 0
        = bs.take (vpm * w / 8) := by
      rw [List.length_take, Nat.min_eq_left (Nat.le_of_not_lt hlen), Nat.sub_self]; simp
    simp only [goMinis, hnow, if_false, hdata]
    by_cases hz : rem - min vpm rem = 0
    · rw [hz, decMinis_zero] at hrec
      cases hrec
      simp only [hz, if_true, List.append_nil, unpackBits_length]
    · simp only [hz, if_false, ih more r' hrec (by omega), List.length_append, unpackBits_length]
      congr 3; omega

theorem goRecon_eq {n : Nat} (minD : BitVec n) : ∀ (ds : List Nat) (last : BitVec n),
    goRecon minD last ds = recon minD last ds
  | [], _ => rfl
  | d :: ds, last => by
    have e : BitVec.ofNat n d + minD + last = last + minD + BitVec.ofNat n d := by ac_rfl
    simp only [goRecon, recon, e, goRecon_eq minD ds]

theorem recon_length {n : Nat} (minD : BitVec n) : ∀ (ds : List Nat) (last : BitVec n),
    (recon minD last ds).length = ds.length
  | [], _ => rfl
  | d :: ds, last => by simp [recon, recon_length minD ds]

theorem goBlocks_step (n vpm m : Nat) {rem : Nat} {last : BitVec n} {bs : List Nat} {vals : List (BitVec n)}
    {r : List Nat} (gf : Nat) (hd : decBlock n vpm m rem last bs = .ok (vals, r)) (hpos : 0 < rem)
    (hno : goVarint bs ≠ .error .overflow) :
    goBlocks n vpm m (gf + 1) rem last bs =
      (match goBlocks n vpm m gf (rem - vals.length) (vals.getLastD last) r with
       | .error e => .error e
       | .ok (more, r') => .ok (vals ++ more, r')) := by
  -- cases of `decBlock`: no min delta, width list cut short, the miniblocks fail, the block is read
  revert hd
  fun_cases decBlock n vpm m rem last bs with
  | case1 => intro h; cases h
  | case2 => intro h; cases h
  | case3 => intro h; cases h
  | case4 md bs1 hz _ ds r' hdm =>
    intro hd; cases hd
    have hne : bs.isEmpty = false := by
      cases bs with
      | nil => simp [specZigzag, specUleb, decUvarint] at hz
      | cons _ _ => rfl
    have hgm := goMinis_of_decMinis n vpm _ _ _ ds r hdm hpos
    have hrem : ¬ (rem = 0) := by omega
    rcases goVarint_of_spec hz with hv | hv
    · simp only [goBlocks, hrem, if_false, hne, Bool.false_eq_true, hv, hgm, goRecon_eq, recon_length]
      cases goBlocks n vpm m gf (rem - ds.length) ((recon (BitVec.ofInt n md) last ds).getLastD last) r <;> rfl
    · exact absurd hv hno

theorem decBlock_rest_length {n vpm m rem : Nat} {last : BitVec n} {bs r : List Nat} {vals : List (BitVec n)}
    (h : decBlock n vpm m rem last bs = .ok (vals, r)) : r.length < bs.length := by
  revert h
  fun_cases decBlock n vpm m rem last bs with
  | case1 => intro h; cases h
  | case2 => intro h; cases h
  | case3 => intro h; cases h
  | case4 md bs1 hz _ ds r' hdm =>
    intro h; cases h
    have h2 := decMinis_rest_length vpm n _ _ _ ds r hdm
    simp only [specZigzag, specUleb] at hz
    cases hd : decUvarint bs with
    | none => simp [hd] at hz
    | some q =>
      have h1 := decUvarint_length bs q.1 q.2 hd
      simp only [hd, Except.ok.injEq, Prod.mk.injEq] at hz
      rw [hz.2] at h1
      simp only [List.length_drop] at h2
      omega

/-- `bs.length < gf` is fuel enough: every block takes at least one byte (`decBlock_rest_length`) -/
theorem goBlocks_of_decBlocks (n vpm m : Nat) (fuel rem : Nat) (last : BitVec n) (bs : List Nat)
    (xs : List (BitVec n)) (r : List Nat) (gf : Nat)
    (h : decBlocks n vpm m fuel rem last bs = .ok (xs, r)) (hg : bs.length < gf) :
    goBlocks n vpm m gf rem last bs = .ok (xs, r) ∨ goBlocks n vpm m gf rem last bs = .error .overflow := by
  fun_induction decBlocks n vpm m fuel rem last bs generalizing xs r gf with
  | case1 => cases h; left; cases gf <;> simp [goBlocks]
  | case2 => cases h
  | case3 => cases h
  | case4 => cases h
  | case5 fuel rem last bs vals bs2 hb more r3 hrec ih =>
    cases h
    obtain ⟨gf, rfl⟩ : ∃ g, gf = g + 1 := ⟨gf - 1, by omega⟩
    have hlt := decBlock_rest_length hb
    by_cases hno : goVarint bs = .error .overflow
    · right
      cases bs with
      | nil => simp [goVarint, goUvarint, goUvarintLoop] at hno
      | cons b bs' => simp [goBlocks, hno]
    · rw [goBlocks_step n vpm m gf hb (by omega) hno]
      rcases ih more r3 gf hrec (by omega) with ih | ih
      · left; simp only [ih]
      · right; simp only [ih]

theorem goUvarint_of_specUleb {bs : List Nat} {v : Nat} {r : List Nat} (h : specUleb bs = .ok (v, r)) :
    goUvarint bs = .ok (v, r) ∨ goUvarint bs = .error .overflow := by
  simp only [specUleb] at h
  cases hd : decUvarint bs with
  | none => simp [hd] at h
  | some p =>
    simp only [hd, Except.ok.injEq] at h
    subst h
    exact goUvarint_of_dec hd

theorem goHeader_of_specHeader {bs : List Nat} {h : Header} {r : List Nat} (hs : specHeader bs = .ok (h, r)) :
    goHeader bs = .ok ({ blockSize := h.blockSize, minis := h.minis, total := h.total, first := h.first }, r) ∨
    ∃ e, goHeader bs = .error e ∧ e.isLimit = true := by
  -- cases of `specHeader`: one of the four reads fails (1-4), the geometry is refused (5), the header is read (6)
  revert hs
  fun_cases specHeader bs with
  | case1 => intro hs; cases hs
  | case2 => intro hs; cases hs
  | case3 => intro hs; cases hs
  | case4 => intro hs; cases hs
  | case5 => intro hs; cases hs
  | case6 b bs1 h1 m bs2 h2 t bs3 h3 f bs4 h4 hc =>
    intro hs; cases hs
    simp only [goHeader]
    rcases goUvarint_of_specUleb h1 with g1 | g1
    · rcases goUvarint_of_specUleb h2 with g2 | g2
      · rcases goUvarint_of_specUleb h3 with g3 | g3
        · rcases goVarint_of_spec h4 with g4 | g4
          · simp only [g1, g2, g3, g4]
            have hm0 : ¬ m = 0 := fun hm => hc (by simp [hm])
            have hb0 : ¬ (b = 0 ∨ b % 128 ≠ 0) := fun hb => hc (by rcases hb with hb | hb <;> simp [hb])
            have hq : ¬ ((b / m) % 32 ≠ 0) := fun hq => hc (by simp [hq])
            simp only [hm0, hb0, hq, if_false]
            by_cases c1 : 2 ^ 63 ≤ b
            · right; exact ⟨.negative, by simp [c1], rfl⟩
            · by_cases c2 : 65536 < b
              · right; exact ⟨.tooLarge, by simp [c1, c2], rfl⟩
              · by_cases c3 : 2 ^ 63 ≤ m
                · right; exact ⟨.negative, by simp [c1, c2, c3], rfl⟩
                · by_cases c4 : 2 ^ 63 ≤ t
                  · right; exact ⟨.negative, by simp [c1, c2, c3, c4], rfl⟩
                  · by_cases c5 : 2 ^ 31 - 1 < t
                    · right; exact ⟨.tooMany, by simp [c1, c2, c3, c4, c5], rfl⟩
                    · left; simp [c1, c2, c3, c4, c5]
          · right; exact ⟨.overflow, by simp [g1, g2, g3, g4], rfl⟩
        · right; exact ⟨.overflow, by simp [g1, g2, g3], rfl⟩
      · right; exact ⟨.overflow, by simp [g1, g2], rfl⟩
    · right; exact ⟨.overflow, by simp [g1], rfl⟩

theorem goDecode_of_specDecode (n : Nat) {bs : List Nat} {xs : List (BitVec n)} {r : List Nat}
    (hs : specDecode n bs = .ok (xs, r)) :
    goDecode n bs = .ok (xs, r) ∨ ∃ e, goDecode n bs = .error e ∧ e.isLimit = true := by
  revert hs
  fun_cases specDecode n bs with
  | case1 => intro hs; cases hs
  | case2 h src hh ht =>
    intro hs; cases hs
    rcases goHeader_of_specHeader hh with g | ⟨e, g, he⟩
    · left; simp only [goDecode, g, ht, if_true]
    · right; exact ⟨e, by simp only [goDecode, g], he⟩
  | case3 => intro hs; cases hs
  | case4 h src hh ht vs r' hb =>
    intro hs; cases hs
    rcases goHeader_of_specHeader hh with g | ⟨e, g, he⟩
    · by_cases hf : n = 32 ∧ (h.first < -(2 ^ 31) ∨ 2 ^ 31 - 1 < h.first)
      · right; exact ⟨.firstRange, by simp only [goDecode, g, ht, if_false, hf, and_self, if_true], rfl⟩
      · rcases goBlocks_of_decBlocks n _ _ _ _ _ src vs _ (src.length + 1) hb (by omega) with gb | gb
        · left; simp only [goDecode, g, ht, if_false, hf, gb]
        · right; exact ⟨.overflow, by simp only [goDecode, g, ht, if_false, hf, gb], rfl⟩
    · right; exact ⟨e, by simp only [goDecode, g], he⟩

theorem putUvarint_ne_nil : ∀ (f x : Nat), putUvarint f x ≠ []
  | 0, _ => by simp [putUvarint]
  | f + 1, x => by simp only [putUvarint]; split <;> simp

/-- the first value of an INT32 stream passes `decodeInt32`'s range check: it is an `int32` -/
theorem first_in_range {n : Nat} (a : BitVec n) :
    ¬ (n = 32 ∧ (a.toInt < -(2 ^ 31) ∨ 2 ^ 31 - 1 < a.toInt)) := by
  intro ⟨h32, hr⟩
  subst h32
  have h1 := BitVec.toInt_lt (x := a)
  have h2 := BitVec.le_toInt (x := a)
  simp at h1 h2
  omega

/-- the `data` expression of `goMinis` (take `size` bytes, complete with zeros) on an input followed by `k` zeros -/
theorem padded_take_zero_ext (src : List Nat) (k size : Nat) :
    (src ++ List.replicate k 0).take size ++ List.replicate (size - ((src ++ List.replicate k 0).take size).length) 0
      = src.take size ++ List.replicate (size - (src.take size).length) 0 := by
  by_cases h : size ≤ src.length
  · rw [List.take_append_of_le_length h]
  · have hlt : src.length < size := by omega
    rw [List.take_append, List.take_of_length_le (by omega), List.take_replicate]
    simp only [List.length_append, List.length_replicate, List.append_assoc, List.replicate_append_replicate]
    congr 2
    omega

/-- the `src.drop` expression of `goMinis` (what the next miniblock sees) on an input followed by `k` zeros -/
theorem drop_zero_ext (src : List Nat) (k size : Nat) :
    (src ++ List.replicate k 0).drop size = src.drop size ++ List.replicate (k - (size - src.length)) 0 := by
  rw [List.drop_append, List.drop_replicate]

theorem natLens_ok {ls : List (BitVec 32)} {lens : List Nat} (h : natLens ls = .ok lens) :
    (∀ l ∈ ls, l.msb = false) ∧ lens = ls.map BitVec.toNat := by
  simp only [natLens] at h
  split at h
  · next hall =>
    simp only [Except.ok.injEq] at h
    refine ⟨?_, h.symm⟩
    intro l hl
    have := (List.all_eq_true.mp hall) l hl
    simpa using this
  · cases h

theorem splitLens_ok (lens : List Nat) (src : List Nat) (vs : List (List Nat)) (r : List Nat)
    (h : splitLens lens src = .ok (vs, r)) : vs.map List.length = lens ∧ src = vs.flatten ++ r := by
  fun_induction splitLens lens src generalizing vs r with
  | case1 => cases h; simp
  | case2 => cases h
  | case3 => cases h
  | case4 l ls bs hlen vs' r' hrec ih =>
    cases h
    obtain ⟨ih1, ih2⟩ := ih vs' r' hrec
    refine ⟨?_, ?_⟩
    · simp only [List.map_cons, List.length_take, ih1]; congr 1; omega
    · simp only [List.flatten_cons, List.append_assoc, ← ih2, List.take_append_drop]

theorem offsetsFrom_last : ∀ (vs : List (List Nat)) (o d : Nat), (offsetsFrom o vs).getLastD d = o + vs.flatten.length
  | [], o, d => by simp [offsetsFrom]
  | v :: vs, o, d => by
    rw [offsetsFrom, List.getLastD_cons, offsetsFrom_last vs (o + v.length) o, List.flatten_cons, List.length_append,
      Nat.add_assoc]

theorem goLengthOffsets_of : ∀ (ls : List (BitVec 32)) (vs : List (List Nat)) (o : Nat),
    (∀ l ∈ ls, l.msb = false) → vs.map List.length = ls.map BitVec.toNat →
    o + vs.flatten.length < 2 ^ 32 → goLengthOffsets o ls = .ok (offsetsFrom o vs)
  | [], vs, o, _, hm, _ => by
    have : vs = [] := by cases vs <;> simp_all
    subst this; rfl
  | l :: ls, [], o, _, hm, _ => by simp at hm
  | l :: ls, v :: vs, o, hpos, hm, hb => by
    simp only [List.map_cons, List.cons.injEq] at hm
    have hl : l.msb = false := hpos l (by simp)
    simp only [List.flatten_cons, List.length_append] at hb
    have hmod : (o + l.toNat) % 2 ^ 32 = o + v.length := by
      rw [← hm.1]; exact Nat.mod_eq_of_lt (by omega)
    simp only [goLengthOffsets, hl, Bool.false_eq_true, if_false, hmod, offsetsFrom]
    rw [goLengthOffsets_of ls vs (o + v.length) (fun x hx => hpos x (by simp [hx])) hm.2 (by omega)]

theorem specDecodeDLBA_ok {bs : List Nat} {vs : List (List Nat)} {r : List Nat}
    (hs : specDecodeDLBA bs = .ok (vs, r)) :
    ∃ ls src, specDecode 32 bs = .ok (ls, src) ∧ (∀ l ∈ ls, l.msb = false) ∧
      splitLens (ls.map BitVec.toNat) src = .ok (vs, r) := by
  revert hs
  fun_cases specDecodeDLBA bs with
  | case1 => intro hs; cases hs
  | case2 => intro hs; cases hs
  | case3 ls src hd lens hn =>
    intro hs
    obtain ⟨hpos, hlens⟩ := natLens_ok hn
    exact ⟨ls, src, hd, hpos, hlens ▸ hs⟩

theorem specDecodeDBA_ok {bs : List Nat} {vs : List (List Nat)} {r : List Nat}
    (h : specDecodeDBA bs = .ok (vs, r)) :
    ∃ ps r1 ss, specDecode 32 bs = .ok (ps, r1) ∧ (∀ l ∈ ps, l.msb = false) ∧
      specDecodeDLBA r1 = .ok (ss, r) ∧ joinPrefix [] (ps.map BitVec.toNat) ss = .ok vs := by
  revert h
  fun_cases specDecodeDBA bs with
  | case1 => intro h; cases h
  | case2 => intro h; cases h
  | case3 => intro h; cases h
  | case4 => intro h; cases h
  | case5 ps r1 hd pn hn ss r' hl vs' hj =>
    intro h; cases h
    obtain ⟨hppos, hpn⟩ := natLens_ok hn
    exact ⟨ps, r1, ss, hd, hppos, hl, hpn ▸ hj⟩

theorem goJoin_of : ∀ (ps sl : List (BitVec 32)) (prev src : List Nat) (ss : List (List Nat)) (r' : List Nat)
    (vs : List (List Nat)), ps.length = sl.length → (∀ l ∈ ps, l.msb = false) → (∀ l ∈ sl, l.msb = false) →
    splitLens (sl.map BitVec.toNat) src = .ok (ss, r') → joinPrefix prev (ps.map BitVec.toNat) ss = .ok vs →
    goJoin prev ps sl src = .ok vs
  | [], [], prev, src, ss, r', vs, _, _, _, h1, h2 => by
    simp only [List.map_nil, splitLens, Except.ok.injEq, Prod.mk.injEq] at h1
    rw [← h1.1] at h2
    simp only [List.map_nil, joinPrefix, Except.ok.injEq] at h2
    simp [goJoin, h2]
  | [], _ :: _, _, _, _, _, _, hl, _, _, _, _ => by simp at hl
  | _ :: _, [], _, _, _, _, _, hl, _, _, _, _ => by simp at hl
  | p :: ps, s :: sl, prev, src, ss, r', vs, hl, hp, hsl, h1, h2 => by
    simp only [List.map_cons, splitLens] at h1
    split at h1
    · cases h1
    · next hlen =>
      split at h1
      · cases h1
      · next ss' r'' hrec =>
        simp only [Except.ok.injEq, Prod.mk.injEq] at h1
        rw [← h1.1] at h2
        simp only [List.map_cons, joinPrefix] at h2
        split at h2
        · cases h2
        · next hpl =>
          split at h2
          · cases h2
          · next vs' hj =>
            simp only [Except.ok.injEq] at h2
            have hpm : p.msb = false := hp p (by simp)
            have hsm : s.msb = false := hsl s (by simp)
            simp only [goJoin, hsm, hpm, Bool.false_eq_true, if_false, hlen, hpl]
            rw [goJoin_of ps sl _ _ ss' r'' vs' (by simpa using hl) (fun x hx => hp x (by simp [hx]))
              (fun x hx => hsl x (by simp [hx])) hrec hj]
            simp only [h2]

theorem joinPrefix_length (prev : List Nat) (ps : List Nat) (ss vs : List (List Nat))
    (h : joinPrefix prev ps ss = .ok vs) : ps.length = ss.length := by
  fun_induction joinPrefix prev ps ss generalizing vs with
  | case1 => rfl
  | case2 => cases h
  | case3 => cases h
  | case4 prev p ps s ss hpl vs' hj ih => simp only [List.length_cons, ih vs' hj]
  | case5 => cases h

theorem goDecodeDLBA_of {bs src r : List Nat} {ls : List (BitVec 32)} {vs : List (List Nat)}
    (g : goDecode 32 bs = .ok (ls, src)) (hpos : ∀ l ∈ ls, l.msb = false)
    (hsp : splitLens (ls.map BitVec.toNat) src = .ok (vs, r)) (hb : vs.flatten.length < 2 ^ 32) :
    goDecodeDLBA bs = .ok (vs.flatten, offsetsFrom 0 vs) := by
  obtain ⟨hmap, hsrc⟩ := splitLens_ok _ src vs r hsp
  have ho := goLengthOffsets_of ls vs 0 hpos hmap (by omega)
  have hlast := offsetsFrom_last vs 0 0
  simp only [Nat.zero_add] at hlast
  have hnt : ¬ (src.length < vs.flatten.length) := by rw [hsrc]; simp
  simp only [goDecodeDLBA, g, ho, hlast, hnt, if_false]
  rw [hsrc, List.take_left' rfl]

theorem goDecodeDBA_of {bs r1 r2 r : List Nat} {ps sl : List (BitVec 32)} {ss vs : List (List Nat)}
    (g1 : goDecode 32 bs = .ok (ps, r1)) (g2 : goDecode 32 r1 = .ok (sl, r2))
    (hp : ∀ l ∈ ps, l.msb = false) (hs : ∀ l ∈ sl, l.msb = false)
    (hsp : splitLens (sl.map BitVec.toNat) r2 = .ok (ss, r))
    (hj : joinPrefix [] (ps.map BitVec.toNat) ss = .ok vs) : goDecodeDBA bs = .ok vs := by
  have hcount : ps.length = sl.length := by
    have h3 := congrArg List.length (splitLens_ok _ r2 ss r hsp).1
    have hlen := joinPrefix_length [] _ ss vs hj
    simp only [List.length_map] at h3 hlen
    omega
  simp only [goDecodeDBA, g1, g2, hcount, ne_eq, not_true_eq_false, if_false]
  exact goJoin_of ps sl [] r2 ss r vs hcount hp hs hsp hj

end PqModel.Delta
