import PqModel.Rle
import PqModel.LittleEndian

/-! Bit lists, byte lists and the numbers they denote (C04 rle). Slicing a bit list is quotient and
remainder of its number; the bytes of a bit list are the little-endian bytes of its number
(`bitsToBytes_eq_leBytes`), given enough fuel. -/
namespace PqModel.Rle
open PqModel.Bits

theorem fromBits_toBits8 (b : Nat) (h : b < 256) : fromBits (toBits 8 b) = b :=
  fromBits_toBits 8 b (by simpa using h)

theorem two_pow_8 : (2 : Nat) ^ 8 = 256 := by decide

theorem leBytes_length : ∀ (k v : Nat), (leBytes k v).length = k
  | 0, _ => rfl
  | k + 1, v => by simp [leBytes, leBytes_length k]

theorem leBytes_lt : ∀ (k v : Nat), ∀ b ∈ leBytes k v, b < 256
  | 0, _, b, hb => by simp [leBytes] at hb
  | k + 1, v, b, hb => by
    simp only [leBytes, List.mem_cons] at hb
    rcases hb with rfl | hb
    · omega
    · exact leBytes_lt k _ b hb

theorem leNat_leBytes : ∀ (k v : Nat), leNat (leBytes k v) = v % 256 ^ k
  | 0, v => by simp [leBytes, leNat, Nat.mod_one]
  | k + 1, v => by
    simp only [leBytes, leNat, leNat_leBytes k, Nat.pow_succ]
    rw [Nat.mul_comm (256 ^ k) 256, Nat.mod_mul]

theorem leBytes_leNat : ∀ src : List Nat, (∀ b ∈ src, b < 256) → leBytes src.length (leNat src) = src
  | [], _ => rfl
  | b :: src, h => by
    have hb := h b (by simp)
    have ih := leBytes_leNat src (fun x hx => h x (by simp [hx]))
    simp only [List.length_cons, leBytes, leNat]
    have e1 : (b + 256 * leNat src) % 256 = b := by omega
    have e2 : (b + 256 * leNat src) / 256 = leNat src := by omega
    rw [e1, e2, ih]

theorem leNat_append : ∀ (a b : List Nat), leNat (a ++ b) = leNat a + 2 ^ (8 * a.length) * leNat b
  | [], b => by simp [leNat]
  | x :: a, b => by
    have e : 8 * (a.length + 1) = 8 + 8 * a.length := by omega
    simp only [List.cons_append, leNat, leNat_append a b, List.length_cons, e, Nat.pow_add, two_pow_8]
    rw [Nat.mul_add, Nat.mul_assoc, Nat.add_assoc]

theorem leBytes_take : ∀ (k k' N : Nat), k' ≤ k → (leBytes k N).take k' = leBytes k' N
  | _, 0, _, _ => by simp [leBytes]
  | 0, k' + 1, _, h => by omega
  | k + 1, k' + 1, N, h => by
    simp only [leBytes, List.take_succ_cons, leBytes_take k k' (N / 256) (by omega)]

theorem leBytes_append : ∀ (a b x V : Nat), x < 256 ^ a →
    leBytes (a + b) (x + 256 ^ a * V) = leBytes a x ++ leBytes b V
  | 0, b, x, V, h => by
    have : x = 0 := by simpa using h
    simp [this, leBytes]
  | a + 1, b, x, V, h => by
    have e : a + 1 + b = (a + b) + 1 := by omega
    rw [e]
    simp only [leBytes, List.cons_append]
    rw [Nat.pow_succ] at h
    have h1 : (x + 256 ^ (a + 1) * V) % 256 = x % 256 := by
      rw [Nat.pow_succ, Nat.mul_comm (256 ^ a) 256, Nat.mul_assoc, Nat.add_mul_mod_self_left]
    have h2 : (x + 256 ^ (a + 1) * V) / 256 = x / 256 + 256 ^ a * V := by
      rw [Nat.pow_succ, Nat.mul_comm (256 ^ a) 256, Nat.mul_assoc, Nat.add_comm,
        Nat.mul_add_div (by decide), Nat.add_comm]
    rw [h1, h2, leBytes_append a b (x / 256) V (by omega)]

theorem leNat_lt (out : List Nat) (h : ∀ b ∈ out, b < 256) : leNat out < 256 ^ out.length := by
  have := leNat_leBytes out.length (leNat out)
  rw [leBytes_leNat out h] at this
  rw [this]; exact Nat.mod_lt _ (Nat.pow_pos (by decide))

theorem leBytes_add (out : List Nat) (k B : Nat) (h : ∀ b ∈ out, b < 256) :
    leBytes (out.length + k) (leNat out + 2 ^ (8 * out.length) * B) = out ++ leBytes k B := by
  rw [LE.two_pow_eight_mul, leBytes_append _ _ _ _ (leNat_lt out h), leBytes_leNat out h]

theorem mod_pow_of_le (v w k : Nat) (h : w ≤ 8 * k) : v % 256 ^ k % 2 ^ w = v % 2 ^ w := by
  rw [← LE.two_pow_eight_mul]
  exact Nat.mod_mod_of_dvd _ (Nat.pow_dvd_pow 2 h)

theorem packBits_append (w : Nat) (a b : List Nat) : packBits w (a ++ b) = packBits w a ++ packBits w b := by
  simp [packBits]

theorem bytesToBits_eq_packBits : bytesToBits = packBits 8 := rfl

theorem bytesToBits_append (a b : List Nat) : bytesToBits (a ++ b) = bytesToBits a ++ bytesToBits b :=
  packBits_append 8 a b

theorem bytesToBits_cons (b : Nat) (p : List Nat) : bytesToBits (b :: p) = toBits 8 b ++ bytesToBits p := by
  simp [bytesToBits]

theorem bytesToBits_length (l : List Nat) : (bytesToBits l).length = 8 * l.length :=
  packBits_length 8 l

theorem bytesToBits_drop (k : Nat) (p : List Nat) : (bytesToBits p).drop (8 * k) = bytesToBits (p.drop k) :=
  Pieces.drop_flatMap k (fun b _ => toBits_length 8 b)

theorem bytesToBits_take (k : Nat) (p : List Nat) : (bytesToBits p).take (8 * k) = bytesToBits (p.take k) :=
  Pieces.take_flatMap k (fun b _ => toBits_length 8 b)

theorem fromBits_bytesToBits : ∀ bytes : List Nat, (∀ b ∈ bytes, b < 256) →
    fromBits (bytesToBits bytes) = leNat bytes
  | [], _ => rfl
  | b :: bs, h => by
    rw [bytesToBits_cons, fromBits_append, toBits_length, fromBits_toBits8 b (h b (by simp)),
      fromBits_bytesToBits bs (fun x hx => h x (by simp [hx])), two_pow_8, leNat]

theorem leNat_drop_take (src : List Nat) (hb : ∀ b ∈ src, b < 256) (a b : Nat) :
    leNat ((src.drop a).take b) = field (leNat src) (8 * a) (8 * b) := by
  rw [← fromBits_bytesToBits _ (fun x hx => hb x (List.mem_of_mem_drop (List.mem_of_mem_take hx))),
    ← bytesToBits_take, ← bytesToBits_drop, fromBits_drop_take, fromBits_bytesToBits src hb]

theorem leNat_drop (src : List Nat) (hb : ∀ b ∈ src, b < 256) (a : Nat) :
    leNat (src.drop a) = leNat src / 2 ^ (8 * a) := by
  rw [← fromBits_bytesToBits _ (fun x hx => hb x (List.mem_of_mem_drop hx)), ← bytesToBits_drop, fromBits_drop,
    fromBits_bytesToBits src hb]

theorem leNat_append_zeros (src : List Nat) : ∀ k : Nat, leNat (src ++ List.replicate k 0) = leNat src
  | 0 => by simp
  | k + 1 => by
    rw [List.replicate_succ', ← List.append_assoc, leNat_append, leNat_append_zeros src k]; rfl

theorem bitsToBytes_eq_leBytes (f : Nat) (bits : List Bool) (h : (bits.length + 7) / 8 ≤ f) :
    bitsToBytes f bits = leBytes ((bits.length + 7) / 8) (fromBits bits) := by
  -- cases of `bitsToBytes`: no fuel; no bits left; one byte, then the rest
  fun_induction bitsToBytes f bits with
  | case1 bits => rw [List.eq_nil_of_length_eq_zero (by omega : bits.length = 0)]; rfl
  | case2 f bits he => rw [List.isEmpty_iff.mp he]; rfl
  | case3 f bits he ih =>
    have hpos : 0 < bits.length := List.length_pos_iff.mpr (fun h0 => he (List.isEmpty_iff.mpr h0))
    have hk : (bits.length + 7) / 8 = ((bits.drop 8).length + 7) / 8 + 1 := by rw [List.length_drop]; omega
    rw [hk, leBytes, ih (by rw [hk] at h; omega), fromBits_take 8, fromBits_drop 8, two_pow_8]

theorem bitsToBytes_lt (f : Nat) (bs : List Bool) : ∀ b ∈ bitsToBytes f bs, b < 256 := by
  fun_induction bitsToBytes f bs with
  | case1 => intro b hb; cases hb
  | case2 => intro b hb; cases hb
  | case3 f bs _ ih =>
    intro b hb
    rcases List.mem_cons.mp hb with rfl | hb
    · have h8 : (bs.take 8).length ≤ 8 := by rw [List.length_take]; omega
      exact Nat.lt_of_lt_of_le (fromBits_lt (bs.take 8)) (Nat.pow_le_pow_right (by decide) h8)
    · exact ih b hb

theorem bitsToBytes_append_aligned : ∀ (k f : Nat) (a b : List Bool), a.length = 8 * k →
    k + (b.length + 7) / 8 ≤ f → bitsToBytes f (a ++ b) = bitsToBytes k a ++ bitsToBytes (f - k) b
  | 0, f, a, b, hl, _ => by
    have : a = [] := by cases a <;> simp_all
    subst this; simp [bitsToBytes]
  | k + 1, 0, _, _, _, hf => by omega
  | k + 1, f + 1, a, b, hl, hf => by
    have hne : (a ++ b).isEmpty = false := by cases a <;> simp_all
    have hne' : a.isEmpty = false := by cases a <;> simp_all
    simp only [bitsToBytes, hne, hne', Bool.false_eq_true, if_false, List.cons_append]
    rw [List.take_append_of_le_length (by omega), List.drop_append_of_le_length (by omega)]
    rw [bitsToBytes_append_aligned k f (a.drop 8) b (by rw [List.length_drop]; omega) (by omega)]
    have : f + 1 - (k + 1) = f - k := by omega
    rw [this]

theorem bitsToBytes_bytesToBits (src : List Nat) (hb : ∀ b ∈ src, b < 256) (f : Nat) (hf : src.length ≤ f) :
    bitsToBytes f (bytesToBits src) = src := by
  have e : (8 * src.length + 7) / 8 = src.length := by omega
  rw [bitsToBytes_eq_leBytes f _ (by rw [bytesToBits_length]; omega), bytesToBits_length, e,
    fromBits_bytesToBits src hb, leBytes_leNat src hb]

/-- `bitsToBytes` with the bit count as fuel: what `packBytes` and `goDecodeBits` spell out -/
def bytesOf (bits : List Bool) : List Nat := bitsToBytes bits.length bits

theorem bitsToBytes_eq_bytesOf (f : Nat) (bits : List Bool) (h : (bits.length + 7) / 8 ≤ f) :
    bitsToBytes f bits = bytesOf bits := by
  rw [bytesOf, bitsToBytes_eq_leBytes f bits h, bitsToBytes_eq_leBytes _ bits (by omega)]

theorem bytesOf_eq_leBytes (bits : List Bool) :
    bytesOf bits = leBytes ((bits.length + 7) / 8) (fromBits bits) :=
  bitsToBytes_eq_leBytes _ bits (by omega)

theorem bytesOf_length (bits : List Bool) : (bytesOf bits).length = (bits.length + 7) / 8 := by
  rw [bytesOf_eq_leBytes, leBytes_length]

theorem bytesOf_append (a b : List Bool) (h : a.length % 8 = 0) :
    bytesOf (a ++ b) = bytesOf a ++ bytesOf b := by
  unfold bytesOf
  rw [bitsToBytes_append_aligned (a.length / 8) _ a b (by omega) (by rw [List.length_append]; omega),
    bitsToBytes_eq_bytesOf _ a (by omega), bitsToBytes_eq_bytesOf _ b (by rw [List.length_append]; omega)]
  rfl

theorem bytesOf_single (R : List Bool) (hne : R ≠ []) (h8 : R.length ≤ 8) : bytesOf R = [fromBits R] := by
  have e : (R.length + 7) / 8 = 1 := by
    cases R with
    | nil => exact absurd rfl hne
    | cons _ _ => simp only [List.length_cons] at h8 ⊢; omega
  have hlt : fromBits R < 256 :=
    Nat.lt_of_lt_of_le (fromBits_lt R) (by rw [← two_pow_8]; exact Nat.pow_le_pow_right (by decide) h8)
  rw [bytesOf_eq_leBytes, e, leBytes, leBytes, Nat.mod_eq_of_lt hlt]

theorem bytesOf_bytesToBits (src : List Nat) (hb : ∀ b ∈ src, b < 256) : bytesOf (bytesToBits src) = src :=
  bitsToBytes_bytesToBits src hb _ (by rw [bytesToBits_length]; omega)

theorem bytesOf_split (bits : List Bool) (h : bits.length % 8 ≠ 0) :
    ∃ A R, bits = A ++ R ∧ A.length % 8 = 0 ∧ (bytesOf A).length = bits.length / 8 ∧
      R.length = bits.length % 8 ∧ bytesOf bits = bytesOf A ++ [fromBits R] := by
  have hA : (bits.take (8 * (bits.length / 8))).length = 8 * (bits.length / 8) := by
    rw [List.length_take]; omega
  have hR : (bits.drop (8 * (bits.length / 8))).length = bits.length % 8 := by
    rw [List.length_drop]; omega
  refine ⟨_, _, (List.take_append_drop (8 * (bits.length / 8)) bits).symm, by omega,
    by rw [bytesOf_length, hA]; omega, hR, ?_⟩
  conv => lhs; rw [← List.take_append_drop (8 * (bits.length / 8)) bits]
  rw [bytesOf_append _ _ (by omega), bytesOf_single (bits.drop (8 * (bits.length / 8)))
    (by intro h0; rw [h0] at hR; simp at hR; omega) (by omega)]

end PqModel.Rle
