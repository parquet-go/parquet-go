import PqModel.VariantWindow

/-! The window loop of the columnar VariantReader against the row structure of the column, and the slot-group index
    against the group structure of a window (the `Next`/`SeekToRow` invariant `Good`: `VariantWindowHist.lean`). -/
namespace PqModel.VariantWindow

/-- every page passes `checkPageValues` -/
def restOK (maxDef : Nat) (rest : List Page) : Prop := ∀ p ∈ rest, pageOK maxDef p = true

/-- a row of a leaf column: it starts at repetition level 0 and nowhere else -/
def rowOK : List Cell → Bool
  | [] => false
  | c :: t => c.r == 0 && t.all (fun x => x.r != 0)

theorem stream_eq (maxDef : Nat) (l : Leaf) : stream maxDef l = l.cur ++ allCells maxDef l.rest := rfl

theorem ensurePage_nil (maxDef : Nat) (rest : List Page) (cur : List Cell) (hok : restOK maxDef rest)
    (h : cur ++ allCells maxDef rest = []) : ensurePage maxDef rest cur = .error .eof := by
  -- branches of `ensurePage` (here and in `ensurePage_cons`): 1 the current page has cells left, 2 no page left,
  -- 3 the next page passes `pageOK` and is entered, 4 it does not
  fun_induction ensurePage maxDef rest cur
  case case1 => simp at h
  case case2 => rfl
  case case3 p ps hp ih => exact ih (fun q hq => hok q (by simp [hq])) (by simpa [allCells] using h)
  case case4 p ps hp => exact absurd (hok p (by simp)) hp

theorem ensurePage_cons (maxDef : Nat) (rest : List Page) (cur : List Cell) (c : Cell) (s : List Cell)
    (hok : restOK maxDef rest) (h : cur ++ allCells maxDef rest = c :: s) :
    ∃ cs rest', ensurePage maxDef rest cur = .ok (c :: cs, rest') ∧ cs ++ allCells maxDef rest' = s ∧
      restOK maxDef rest' := by
  fun_induction ensurePage maxDef rest cur
  case case1 rest c0 cs0 =>
    simp only [List.cons_append, List.cons.injEq] at h
    exact ⟨cs0, rest, by rw [h.1], h.2, hok⟩
  case case2 => simp [allCells] at h
  case case3 p ps hp ih => exact ih (fun q hq => hok q (by simp [hq])) (by simpa [allCells] using h)
  case case4 p ps hp => exact absurd (hok p (by simp)) hp

theorem rowOK_cons {row : List Cell} (h : rowOK row = true) :
    ∃ c t, row = c :: t ∧ c.r = 0 ∧ ∀ x ∈ t, x.r ≠ 0 := by
  cases row with
  | nil => simp [rowOK] at h
  | cons c t =>
    simp [rowOK] at h
    exact ⟨c, t, rfl, h.1, h.2⟩

/-- from the middle of row `j` (`tail` = what is left of it), with `m` more rows to take -/
theorem readLoop_rows (maxDef n : Nat) : ∀ (fuel : Nat) (l : Leaf) (w : List Cell) (j m : Nat)
    (tail : List Cell) (rs : List (List Cell)),
    restOK maxDef l.rest → stream maxDef l = tail ++ rs.flatten → (∀ x ∈ tail, x.r ≠ 0) →
    (∀ row ∈ rs, rowOK row = true) → n = j + 1 + m → (stream maxDef l).length < fuel →
    ∃ l', stream maxDef l' = (rs.drop m).flatten ∧ restOK maxDef l'.rest ∧
      readLoop maxDef n fuel l w j true =
        if m ≤ rs.length then .ok (w ++ tail ++ (rs.take m).flatten, l') else .error .ended := by
  intro fuel
  induction fuel with
  | zero => intro l w j m tail rs _ _ _ _ _ hf; omega
  | succ fuel ih =>
    intro l w j m tail rs hok hs ht hrs hn hf
    rw [stream_eq] at hs
    have next : ∀ x s, l.cur ++ allCells maxDef l.rest = x :: s → ∃ cs rest',
        ensurePage maxDef l.rest l.cur = .ok (x :: cs, rest') ∧ stream maxDef ⟨cs, rest'⟩ = s ∧
        restOK maxDef rest' ∧ (stream maxDef ⟨cs, rest'⟩).length < fuel := by
      intro x s hxs
      obtain ⟨cs, rest', he, hcs, hok'⟩ := ensurePage_cons maxDef l.rest l.cur x s hok hxs
      refine ⟨cs, rest', he, hcs, hok', ?_⟩
      rw [stream_eq, hxs] at hf
      rw [stream_eq]; simp only [hcs]; simp at hf; omega
    cases tail with
    | cons x tail' =>
      obtain ⟨cs, rest', he, hcs, hok', hlen⟩ := next x (tail' ++ rs.flatten) (by simpa using hs)
      have hx : x.r ≠ 0 := ht x (by simp)
      obtain ⟨l', h2, h3, h1⟩ := ih ⟨cs, rest'⟩ (w ++ [x]) j m tail' rs hok' hcs
        (fun y hy => ht y (by simp [hy])) hrs hn hlen
      refine ⟨l', h2, h3, ?_⟩
      simp only [readLoop, he, hx, if_false]
      rw [h1]; simp
    | nil =>
      cases rs with
      | nil =>
        have he := ensurePage_nil maxDef l.rest l.cur hok (by simpa using hs)
        refine ⟨⟨[], []⟩, by simp [stream], by intro p hp; simp at hp, ?_⟩
        simp only [readLoop, he]
        by_cases hm : m = 0 <;> simp [hm, hn] <;> omega
      | cons row rs' =>
        obtain ⟨c, t, hrow, hc, htl⟩ := rowOK_cons (hrs row (by simp))
        subst hrow
        obtain ⟨cs, rest', he, hcs, hok', hlen⟩ := next c (t ++ rs'.flatten) (by simpa using hs)
        cases m with
        | zero =>
          refine ⟨⟨c :: cs, rest'⟩, by rw [stream_eq]; simp [← hcs, stream_eq], hok', ?_⟩
          simp only [readLoop, he, hc, if_true]
          simp [hn]
        | succ m' =>
          obtain ⟨l', h2, h3, h1⟩ := ih ⟨cs, rest'⟩ (w ++ [c]) (j + 1) m' t rs' hok' hcs
            htl (fun r hr => hrs r (by simp [hr])) (by omega) hlen
          refine ⟨l', by simpa using h2, h3, ?_⟩
          have hne : ¬ (j + 1 = n) := by omega
          simp only [readLoop, he, hc, if_true, hne, if_false]
          rw [h1]; simp

theorem readWindow_rows (maxDef n : Nat) (l : Leaf) (rows : List (List Cell))
    (hok : restOK maxDef l.rest) (hs : stream maxDef l = rows.flatten)
    (hrows : ∀ row ∈ rows, rowOK row = true) (hn : 0 < n) :
    ∃ l', stream maxDef l' = (rows.drop n).flatten ∧ restOK maxDef l'.rest ∧
      readWindow maxDef n l = if n ≤ rows.length then .ok ((rows.take n).flatten, l') else .error .ended := by
  cases rows with
  | nil =>
    have he := ensurePage_nil maxDef l.rest l.cur hok (by rw [← stream_eq]; simpa using hs)
    refine ⟨⟨[], []⟩, by simp [stream], by intro p hp; simp at hp, ?_⟩
    simp only [readWindow, readLoop, he]
    have : ¬ (0 = n) := by omega
    simp [this]; omega
  | cons row rs =>
    obtain ⟨c, t, hrow, hc, htl⟩ := rowOK_cons (hrows row (by simp))
    subst hrow
    have hs' := hs
    rw [stream_eq] at hs'
    obtain ⟨cs, rest', he, hcs, hok'⟩ := ensurePage_cons maxDef l.rest l.cur c (t ++ rs.flatten) hok (by simpa using hs')
    obtain ⟨m, rfl⟩ : ∃ m, n = m + 1 := ⟨n - 1, by omega⟩
    have hlen : (stream maxDef ⟨cs, rest'⟩).length < (stream maxDef l).length := by
      rw [hs, stream_eq]; simp only [hcs]; simp
    obtain ⟨l', h2, h3, h1⟩ := readLoop_rows maxDef (m + 1) (stream maxDef l).length ⟨cs, rest'⟩ ([] ++ [c]) 0 m t rs
      hok' (by rw [stream_eq]; exact hcs) htl (fun r hr => hrows r (by simp [hr])) (by omega) hlen
    refine ⟨l', by simpa using h2, h3, ?_⟩
    simp only [readWindow, readLoop, he, hc, if_true]
    simp only [Bool.false_eq_true, if_false]
    rw [h1]; simp

/-- a depth-`d` group of a window: its first slot has repetition level ≤ d, the others > d -/
def grpOK (depth : Nat) : List Nat → Bool
  | [] => false
  | r :: t => decide (r ≤ depth) && t.all (fun x => decide (depth < x))

/-- first slot of every group, counting from `i` -/
def offsets : Nat → List (List Nat) → List Nat
  | _, [] => []
  | i, g :: gs => i :: offsets (i + g.length) gs

theorem startsFrom_tail (depth : Nat) : ∀ (t : List Nat) (i : Nat) (more : List Nat),
    (∀ x ∈ t, depth < x) → startsFrom depth i (t ++ more) = startsFrom depth (i + t.length) more := by
  intro t
  induction t with
  | nil => intro i more _; simp
  | cons x t ih =>
    intro i more h
    have hx : ¬ x ≤ depth := by have := h x (by simp); omega
    simp only [List.cons_append, startsFrom, hx, if_false]
    rw [ih (i + 1) more (fun y hy => h y (by simp [hy]))]
    simp; congr 1; omega

theorem startsFrom_groups (depth : Nat) : ∀ (gs : List (List Nat)) (i : Nat),
    (∀ g ∈ gs, grpOK depth g = true) → startsFrom depth i gs.flatten = offsets i gs := by
  intro gs
  induction gs with
  | nil => intro i _; simp [startsFrom, offsets]
  | cons g gs ih =>
    intro i h
    have hg := h g (by simp)
    cases g with
    | nil => simp [grpOK] at hg
    | cons r t =>
      simp [grpOK] at hg
      simp only [List.flatten_cons, List.cons_append, startsFrom, hg.1, if_true, offsets]
      rw [startsFrom_tail depth t (i + 1) gs.flatten hg.2, ih _ (fun g' hg' => h g' (by simp [hg']))]
      simp; congr 1; omega

theorem offsets_length : ∀ (gs : List (List Nat)) (i : Nat), (offsets i gs).length = gs.length := by
  intro gs; induction gs with
  | nil => intro i; rfl
  | cons g gs ih => intro i; simp [offsets, ih]

theorem offsets_get : ∀ (gs : List (List Nat)) (i k : Nat), k < gs.length →
    (offsets i gs)[k]? = some (i + (gs.take k).flatten.length) := by
  intro gs
  induction gs with
  | nil => intro i k h; simp at h
  | cons g gs ih =>
    intro i k h
    cases k with
    | zero => simp [offsets]
    | succ k =>
      simp only [offsets, List.getElem?_cons_succ]
      rw [ih (i + g.length) k (by simpa using h)]
      simp; omega

theorem dropWhile_tail (t more : List Cell) (ht : ∀ x ∈ t, x.r ≠ 0)
    (hm : more = [] ∨ ∃ c s, more = c :: s ∧ c.r = 0) :
    (t ++ more).dropWhile (fun c => c.r ≠ 0) = more := by
  rw [List.dropWhile_append_of_pos (fun x hx => decide_eq_true (ht x hx))]
  rcases hm with rfl | ⟨c, s, rfl, hc⟩
  · rfl
  · exact List.dropWhile_cons_of_neg (by simp [hc])

theorem flatten_rows_head (rs : List (List Cell)) (h : ∀ row ∈ rs, rowOK row = true) :
    rs.flatten = [] ∨ ∃ c s, rs.flatten = c :: s ∧ c.r = 0 := by
  cases rs with
  | nil => left; rfl
  | cons row rs =>
    obtain ⟨c, t, hrow, hc, _⟩ := rowOK_cons (h row (by simp))
    right; exact ⟨c, t ++ rs.flatten, by simp [hrow], hc⟩

theorem dropRows_rows : ∀ (k : Nat) (rows : List (List Cell)), (∀ row ∈ rows, rowOK row = true) →
    dropRows k rows.flatten = (rows.drop k).flatten := by
  intro k
  induction k with
  | zero => intro rows _; simp [dropRows]
  | succ k ih =>
    intro rows h
    cases rows with
    | nil => simp [dropRows]
    | cons row rs =>
      obtain ⟨c, t, hrow, hc, htl⟩ := rowOK_cons (h row (by simp))
      subst hrow
      have hrs : ∀ row ∈ rs, rowOK row = true := fun r hr => h r (by simp [hr])
      simp only [List.flatten_cons, List.cons_append, dropRows, List.drop_succ_cons]
      rw [dropWhile_tail t rs.flatten htl (flatten_rows_head rs hrs)]
      exact ih rs hrs

end PqModel.VariantWindow
