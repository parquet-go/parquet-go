import PqModel.Rle

/-! Legacy BIT_PACKED levels (C04 rle): the MSB-first packing of `encodeBitPacked` is read back by the
SPEC decoder; `bytesToBitsMsb ∘ bitsToBytesMsb` gives the bits back, zero padded. -/
namespace PqModel.Rle
open PqModel.Bits

theorem toBitsMsb_length (w x : Nat) : (toBitsMsb w x).length = w := by
  simp [toBitsMsb, toBits_length]

theorem packMsb_length (w : Nat) (xs : List Nat) : ((xs.map (toBitsMsb w)).flatten).length = xs.length * w := by
  rw [Nat.mul_comm]; exact Pieces.length_flatMap (fun x _ => toBitsMsb_length w x)

theorem unpackMsb_pack (w : Nat) : ∀ (xs : List Nat) (pad : List Bool), (∀ x ∈ xs, x < 2 ^ w) →
    unpackMsb w xs.length ((xs.map (toBitsMsb w)).flatten ++ pad) = xs
  | [], _, _ => rfl
  | x :: xs, pad, h => by
    have hx := h x (by simp)
    have ih := unpackMsb_pack w xs pad (fun y hy => h y (by simp [hy]))
    simp only [List.map_cons, List.flatten_cons, List.length_cons, unpackMsb, List.append_assoc]
    rw [List.take_left' (toBitsMsb_length w x), List.drop_left' (toBitsMsb_length w x), ih]
    simp [toBitsMsb, fromBits_toBits w x hx]

theorem bitsToBytesMsb_nil (f : Nat) : bitsToBytesMsb f [] = [] := by cases f <;> simp [bitsToBytesMsb]

theorem bitsToBytesMsb_length (f : Nat) (bs : List Bool) (h : bs.length ≤ f) :
    (bitsToBytesMsb f bs).length = (bs.length + 7) / 8 := by
  -- cases of `bitsToBytesMsb`: no fuel; no bits left; one byte, then the rest
  fun_induction bitsToBytesMsb f bs with
  | case1 bs => rw [List.eq_nil_of_length_eq_zero (Nat.le_zero.mp h)]; rfl
  | case2 f bs he => rw [List.isEmpty_iff.mp he]; rfl
  | case3 f bs he ih =>
    have hpos : 0 < bs.length := List.length_pos_iff.mpr (fun h0 => he (List.isEmpty_iff.mpr h0))
    rw [List.length_cons, ih (by rw [List.length_drop]; omega), List.length_drop]
    omega

/-- each byte holds the next 8 bits (the last one zero padded), first bit in the most significant place:
`toBitsMsb 8` of it gives them back -/
theorem bytes_bits_msb (f : Nat) (bs : List Bool) (h : bs.length ≤ f) :
    ∃ pad, bytesToBitsMsb (bitsToBytesMsb f bs) = bs ++ pad := by
  -- cases of `bitsToBytesMsb`: no fuel; no bits left; one byte, then the rest
  fun_induction bitsToBytesMsb f bs with
  | case1 bs => exact ⟨[], by rw [List.eq_nil_of_length_eq_zero (Nat.le_zero.mp h)]; rfl⟩
  | case2 f bs he => exact ⟨[], by rw [List.isEmpty_iff.mp he]; rfl⟩
  | case3 f bs he ih =>
    have hpos : 0 < bs.length := List.length_pos_iff.mpr (fun h0 => he (List.isEmpty_iff.mpr h0))
    obtain ⟨pad, hp⟩ := ih (by simp only [List.length_drop]; omega)
    have hc : ((bs.take 8 ++ List.replicate (8 - (bs.take 8).length) false).reverse).length ≤ 8 := by
      simp only [List.length_reverse, List.length_append, List.length_replicate, List.length_take]; omega
    have hc8 : (bs.take 8 ++ List.replicate (8 - (bs.take 8).length) false).length = 8 := by
      simp only [List.length_append, List.length_replicate, List.length_take]; omega
    simp only [bytesToBitsMsb, List.map_cons, List.flatten_cons] at hp ⊢
    rw [hp, toBitsMsb, toBits_fromBits 8 _ hc]
    simp only [List.length_reverse, hc8, Nat.sub_self, List.replicate_zero, List.append_nil,
      List.reverse_reverse]
    by_cases h8 : 8 ≤ bs.length
    · refine ⟨pad, ?_⟩
      have : (bs.take 8).length = 8 := by simp only [List.length_take]; omega
      simp only [this, Nat.sub_self, List.replicate_zero, List.append_nil]
      rw [← List.append_assoc, List.take_append_drop]
    · have hd : bs.drop 8 = [] := by simp; omega
      have ht : bs.take 8 = bs := List.take_of_length_le (by omega)
      refine ⟨List.replicate (8 - bs.length) false ++ pad, ?_⟩
      rw [ht, hd]
      simp

theorem bitpacked_roundtrip_lemma (w : Nat) (xs : List Nat) (hw : 1 ≤ w) (hne : xs ≠ [])
    (hx : ∀ x ∈ xs, x < 2 ^ w) :
    specDecodeBitPacked w xs.length (encodeBitPacked w xs) = .ok xs := by
  have h0 : ¬ (w = 0 ∨ xs = []) := by
    intro h; rcases h with h | h
    · omega
    · exact hne h
  simp only [specDecodeBitPacked, encodeBitPacked, h0, if_false]
  have hl : ¬ 8 * (bitsToBytesMsb ((xs.map (toBitsMsb w)).flatten).length ((xs.map (toBitsMsb w)).flatten)).length
      < xs.length * w := by
    rw [bitsToBytesMsb_length _ _ (Nat.le_refl _), packMsb_length]; omega
  simp only [hl, if_false]
  obtain ⟨pad, hp⟩ := bytes_bits_msb _ ((xs.map (toBitsMsb w)).flatten) (Nat.le_refl _)
  rw [hp, unpackMsb_pack w xs pad hx]

end PqModel.Rle
