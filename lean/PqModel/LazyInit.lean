import PqModel.Slots

/-! # Lazily initialised shared state: once-guarded loads and copy-on-write caches

Two publication protocols of the library that are neither a lock-protected map (`Registry.lean`)
nor a CAS on a pointer (`CasPublish.lean`).

## `OnceLoad` — MIRROR of the lazily loaded gzip bloom filter (bloom.go `newBloomFilter`,
case `*format.BloomFilterGzip`; the same shape as schema.go `onceValue.load`)

```
var ( once sync.Once; decompressed []byte; decompErr error )
lazyCheck := func(...) {
    once.Do(func() { ... file.ReadAt ...; decompressed, decompErr = gunzip(buf) })   -- guard + loader
    if decompErr != nil { return false, decompErr }                                   -- probe
    return bloom.CheckSplitBlock(bytes.NewReader(decompressed), ...)                  -- probe
}
```

k callers of `Check` on one column chunk, all interleavings. `sync.Once.Do` is modelled as what its
documentation promises: the first caller runs the function, every other caller *returns only after
that run has completed*. The `wait` flag of the step relation selects this behaviour; `wait = false`
is the variant in which a late caller does not wait (a flag set by compare-and-swap in front of the
loader): the code as it is has `wait = true`.

The loader writes the captured variables over a *window* (`loading`), a caller reads them in `probe`;
a probe while another caller is loading is a read concurrent with a write.

## `CowCache` — MIRROR of the copy-on-write caches (column_buffer_reflect.go `structFieldsCache`
in `writeValueFuncOfGroup`; schema.go `cacheMap.load`)

```
cached := cache.Load()                       -- load
tbl, ok := cached[t]
if !ok {
    tbl = make(...)                          -- alloc: a new, empty table ...
    newMap := copy(cached) + {t ↦ tbl}       --        ... in a NEW outer map
    for f in fields(t) { tbl[f.name] = ... } -- fill (one step per field)
    cache.Store(newMap)                      -- store
}
... tbl[name] ...                            -- use: look the fields up
```

The outer map is a value (it is never written after it was built: a new one is made for every
insertion); the per-type table is a mutable object that is filled field by field. `early = true`
selects the variant that stores the new outer map before the table is filled. -/
namespace PqModel.OnceLoad

inductive OPc where
  | start
  | loading                  -- inside the function given to once.Do (ReadAt, gunzip, assignment)
  | probe                    -- past the guard, before reading decompErr / decompressed
  | done (r : Option Nat)    -- what the caller probed: `none` = the zero values (nil slice, nil error)
deriving DecidableEq, Repr

inductive Guard where
  | idle | running | finished
deriving DecidableEq, Repr

structure St where
  guard : Guard
  var : Option Nat     -- decompressed / decompErr; `none` = still the zero values
  loads : Nat          -- ghost: how often the loader body was entered
  cs : List OPc
deriving DecidableEq, Repr

def init (k : Nat) : St := { guard := .idle, var := none, loads := 0, cs := List.replicate k .start }

/-- one atomic step of caller `i`; `v` is what the loader produces (filter bits or the error) -/
inductive Step (wait : Bool) (v : Nat) : St → St → Prop where
  /-- once.Do, first caller: enters the loader -/
  | first {s} {i : Nat} : s.cs[i]? = some .start → s.guard = .idle →
      Step wait v s { s with guard := .running, loads := s.loads + 1, cs := s.cs.set i .loading }
  /-- end of the loader: the variables are assigned, once.Do returns -/
  | finish {s} {i : Nat} : s.cs[i]? = some .loading →
      Step wait v s { s with guard := .finished, var := some v, cs := s.cs.set i .probe }
  /-- once.Do, the run has completed: returns at once -/
  | late {s} {i : Nat} : s.cs[i]? = some .start → s.guard = .finished →
      Step wait v s { s with cs := s.cs.set i .probe }
  /-- VARIANT (`wait = false`): the guard is taken, the run has not completed, the caller goes on -/
  | lateNoWait {s} {i : Nat} : wait = false → s.cs[i]? = some .start → s.guard = .running →
      Step wait v s { s with cs := s.cs.set i .probe }
  /-- reads decompErr / decompressed and answers from them -/
  | probe {s} {i : Nat} : s.cs[i]? = some .probe →
      Step wait v s { s with cs := s.cs.set i (.done s.var) }

inductive Reach (wait : Bool) (v : Nat) (k : Nat) : St → Prop where
  | init : Reach wait v k (init k)
  | step {s s'} : Reach wait v k s → Step wait v s s' → Reach wait v k s'

/-- a caller reads the variables while another caller is still inside the loader -/
def Conflict (s : St) : Prop :=
  ∃ (i j : Nat), i ≠ j ∧ s.cs[i]? = some .loading ∧ s.cs[j]? = some .probe

structure OInv (v : Nat) (s : St) : Prop where
  idle : s.guard = .idle → s.loads = 0 ∧ s.var = none ∧ ∀ (i : Nat) pc, s.cs[i]? = some pc → pc = .start
  run : s.guard = .running → s.loads = 1 ∧ (∃ (i : Nat), s.cs[i]? = some .loading) ∧
      ∀ (i : Nat) pc, s.cs[i]? = some pc → pc = .start ∨ pc = .loading
  one : ∀ (i j : Nat), s.cs[i]? = some .loading → s.cs[j]? = some .loading → i = j
  ld : ∀ (i : Nat), s.cs[i]? = some .loading → s.guard = .running
  fin : s.guard = .finished → s.loads = 1 ∧ s.var = some v
  res : ∀ (i : Nat) r, s.cs[i]? = some (.done r) → r = some v

def Local (v : Nat) (guard : Guard) : OPc → Prop
  | .start => True
  | .loading => guard = .running
  | .probe => guard = .finished
  | .done r => guard = .finished ∧ r = some v

theorem Local.idle {v} : ∀ {pc}, Local v .idle pc → pc = .start
  | .start, _ => rfl
  | .loading, h => nomatch h
  | .probe, h => nomatch h
  | .done _, h => nomatch h.1

theorem Local.running {v} : ∀ {pc}, Local v .running pc → pc = .start ∨ pc = .loading
  | .start, _ => .inl rfl
  | .loading, _ => .inr rfl
  | .probe, h => nomatch h
  | .done _, h => nomatch h.1

/-- the key for `Slots.Distinct`: at most one caller is inside the loader -/
def loader : OPc → Option Unit
  | .loading => some ()
  | _ => none

def Vars (v : Nat) (s : St) : Guard → Prop
  | .idle => s.loads = 0 ∧ s.var = none
  | .running => s.loads = 1 ∧ ∃ (i : Nat), s.cs[i]? = some .loading
  | .finished => s.loads = 1 ∧ s.var = some v

open PqModel.Slots in
/-- `OInv` caller by caller, the form preserved step by step; clients use `OInv` (`Rep.oinv`) -/
structure Rep (v : Nat) (s : St) : Prop where
  loc : ∀ (i : Nat) pc, s.cs[i]? = some pc → Local v s.guard pc
  one : Distinct loader s.cs
  vars : Vars v s s.guard

theorem Rep.oinv {v s} (h : Rep v s) : OInv v s := by
  have hv := h.vars
  refine ⟨fun hg => ?_, fun hg => ?_, fun i j hi hj => h.one i j _ _ () hi hj rfl rfl, fun i hi => h.loc i _ hi,
    fun hg => ?_, fun i r hi => (h.loc i _ hi).2⟩
  · rw [hg] at hv
    exact ⟨hv.1, hv.2, fun i pc hi => (hg ▸ h.loc i pc hi).idle⟩
  · rw [hg] at hv
    exact ⟨hv.1, hv.2, fun i pc hi => (hg ▸ h.loc i pc hi).running⟩
  · rw [hg] at hv; exact hv

open PqModel.Slots in
theorem rep_step {v : Nat} {s s'} (hr : Rep v s) (h : Step true v s s') : Rep v s' := by
  have hv := hr.vars
  cases h
  case lateNoWait i hw _ _ => cases hw
  case first i hs hg =>
    -- the guard was idle: everybody is at `start`
    have all : ∀ (j : Nat) pc, s.cs[j]? = some pc → pc = .start :=
      fun j pc hj => (hg ▸ hr.loc j pc hj).idle
    rw [hg] at hv
    refine ⟨forall_set hr.loc rfl (fun j pc _ hj _ => all j pc hj ▸ trivial),
      hr.one.set (fun j pc b _ hj _ e => by rw [all j pc hj] at e; cases e), ?_, ?_⟩
    · show s.loads + 1 = 1; rw [hv.1]
    · exact ⟨i, by simp [(List.getElem?_eq_some_iff.mp hs).1]⟩
  case finish i hs =>
    have hg : s.guard = .running := hr.loc i _ hs
    rw [hg] at hv
    refine ⟨forall_set hr.loc rfl (fun j pc ne hj hl => ?_), hr.one.set_of hs nofun, hv.1, rfl⟩
    -- the guard is running and the loader is caller `i`: the others are at `start`
    rcases (hg ▸ hl).running with rfl | rfl
    · trivial
    · exact absurd (hr.one j i _ _ () hj hs rfl rfl) ne
  case late i hs hg =>
    exact ⟨forall_set_same hr.loc hg, hr.one.set_of hs nofun, by rw [hg] at hv ⊢; exact hv⟩
  case probe i hs =>
    have hg : s.guard = .finished := hr.loc i _ hs
    have hv' := hv
    rw [hg] at hv'
    exact ⟨forall_set_same hr.loc ⟨hg, hv'.2⟩, hr.one.set_of hs nofun, hg ▸ hv'⟩

open PqModel.Slots in
theorem rep_init (v k : Nat) : Rep v (init k) :=
  ⟨forall_mem fun _ h => List.eq_of_mem_replicate h ▸ trivial,
    .of_none fun _ h => List.eq_of_mem_replicate h ▸ rfl, ⟨rfl, rfl⟩⟩

theorem oinv_reach {v k s} (hr : Reach true v k s) : OInv v s := by
  refine Rep.oinv ?_
  induction hr with
  | init => exact rep_init v k
  | step _ hs ih => exact rep_step ih hs

theorem oinv_no_conflict {v s} (hi : OInv v s) : ¬ Conflict s := by
  intro ⟨i, j, _, hl, hp⟩
  have hg := hi.ld i hl
  rcases (hi.run hg).2.2 j _ hp with h | h <;> cases h

theorem cs_length {wait v s s'} (h : Step wait v s s') : s'.cs.length = s.cs.length := by
  cases h <;> simp

/-- while some caller has not returned, some step is enabled: a caller that finds the guard taken
    waits for a loader that can always finish -/
theorem progress {v s} (hi : OInv v s) {i : Nat} {pc} (h : s.cs[i]? = some pc) (hn : ∀ r, pc ≠ .done r) :
    ∃ s', Step true v s s' := by
  cases pc with
  | loading => exact ⟨_, .finish h⟩
  | probe => exact ⟨_, .probe h⟩
  | done r => exact absurd rfl (hn r)
  | start =>
    rcases hg : s.guard with _ | _ | _
    · exact ⟨_, .first h hg⟩
    · obtain ⟨j, hj⟩ := (hi.run hg).2.1
      exact ⟨_, .finish hj⟩
    · exact ⟨_, .late h hg⟩

inductive Act where
  | enter (i : Nat)    -- the caller reaches the guard
  | finish (i : Nat)   -- the loader of caller i completes
  | probe (i : Nat)    -- caller i reads the variables and answers
deriving DecidableEq, Repr

/-- `none` = the action is not enabled. For `enter` on a running guard with `wait = true` this is the
    caller blocked inside `once.Do`. -/
def exec (wait : Bool) (v : Nat) (s : St) : Act → Option St
  | .enter i =>
    if s.cs[i]? = some .start then
      match s.guard with
      | .idle => some { s with guard := .running, loads := s.loads + 1, cs := s.cs.set i .loading }
      | .finished => some { s with cs := s.cs.set i .probe }
      | .running => if wait then none else some { s with cs := s.cs.set i .probe }
    else none
  | .finish i =>
    if s.cs[i]? = some .loading then some { s with guard := .finished, var := some v, cs := s.cs.set i .probe } else none
  | .probe i =>
    if s.cs[i]? = some .probe then some { s with cs := s.cs.set i (.done s.var) } else none

theorem exec_sound {wait v s a s'} (h : exec wait v s a = some s') : Step wait v s s' := by
  revert h
  fun_cases exec wait v s a <;> intro h <;> cases h
  · exact .first ‹_› ‹_›
  · exact .late ‹_› ‹_›
  · exact .lateNoWait (by simpa using ‹¬wait = true›) ‹_› ‹_›
  · exact .finish ‹_›
  · exact .probe ‹_›

theorem exec_complete {wait v s s'} (h : Step wait v s s') : ∃ a, exec wait v s a = some s' := by
  cases h
  case first i hs hg => exact ⟨.enter i, by simp [exec, hs, hg]⟩
  case finish i hs => exact ⟨.finish i, by simp [exec, hs]⟩
  case late i hs hg => exact ⟨.enter i, by simp [exec, hs, hg]⟩
  case lateNoWait i hw hs hg => exact ⟨.enter i, by simp [exec, hs, hg, hw]⟩
  case probe i hs => exact ⟨.probe i, by simp [exec, hs]⟩

/-- outcome tokens of a schedule; a disabled action leaves the state as it is -/
def runActs (wait : Bool) (v : Nat) : St → List Act → List String × St
  | s, [] => ([], s)
  | s, a :: as =>
    match exec wait v s a with
    | none =>
      let tok := match a with
        | .enter i => if s.cs[i]? = some .start then "blocked" else "bad"
        | _ => "bad"
      let r := runActs wait v s as
      (tok :: r.1, r.2)
    | some s' =>
      let tok := match a with
        | .enter i => if s'.cs[i]? = some .loading then "load" else "pass"
        | .finish _ => "ok"
        | .probe _ => match s.var with
          | some x => s!"r{x}"
          | none => "rnil"
      let r := runActs wait v s' as
      (tok :: r.1, r.2)

end PqModel.OnceLoad

namespace PqModel.CowCache

inductive CPc where
  | start
  | alloc (snap : List (Nat × Nat))                          -- Load missed; `snap` = the map it loaded
  | filling (m : List (Nat × Nat)) (t : Nat) (j : Nat) (stored : Bool)   -- new outer map `m`, own table `t`, `j` fields inserted
  | storing (m : List (Nat × Nat)) (t : Nat)                 -- table complete, before Store
  | use (t : Nat)                                            -- about to look the fields up in table `t`
  | done (r : Nat)                                           -- number of fields it found
deriving DecidableEq, Repr

structure Gor where
  key : Nat
  pc : CPc
deriving DecidableEq, Repr

structure St where
  pub : List (Nat × Nat)    -- the published outer map: key ↦ table id (first match wins)
  filled : Nat → Nat        -- per table: number of fields inserted so far
  fresh : Nat
  gs : List Gor

def init (keys : List Nat) : St :=
  { pub := [], filled := fun _ => 0, fresh := 0, gs := keys.map fun k => ⟨k, .start⟩ }

def bump (f : Nat → Nat) (t : Nat) : Nat → Nat := fun x => if x = t then f x + 1 else f x

/-- one atomic step of goroutine `i`; every struct type has `size` fields -/
inductive Step (early : Bool) (size : Nat) : St → St → Prop where
  /-- cache.Load() and the outer lookup: hit -/
  | loadHit {s} {i : Nat} {k t} : s.gs[i]? = some ⟨k, .start⟩ → s.pub.lookup k = some t →
      Step early size s { s with gs := s.gs.set i ⟨k, .use t⟩ }
  /-- cache.Load() and the outer lookup: miss -/
  | loadMiss {s} {i : Nat} {k} : s.gs[i]? = some ⟨k, .start⟩ → s.pub.lookup k = none →
      Step early size s { s with gs := s.gs.set i ⟨k, .alloc s.pub⟩ }
  /-- a new empty table inside a new outer map (copy of the loaded one) -/
  | alloc {s} {i : Nat} {k snap} : s.gs[i]? = some ⟨k, .alloc snap⟩ →
      Step early size s { s with gs := s.gs.set i ⟨k, .filling ((k, s.fresh) :: snap) s.fresh 0 false⟩,
                                 fresh := s.fresh + 1 }
  /-- VARIANT (`early = true`): Store before the table is filled -/
  | storeEarly {s} {i : Nat} {k m t} : early = true → s.gs[i]? = some ⟨k, .filling m t 0 false⟩ →
      Step early size s { s with pub := m, gs := s.gs.set i ⟨k, .filling m t 0 true⟩ }
  /-- insert one field into the own table -/
  | fill {s} {i : Nat} {k m t j st} : s.gs[i]? = some ⟨k, .filling m t j st⟩ → j < size → (early = true → st = true) →
      Step early size s { s with filled := bump s.filled t, gs := s.gs.set i ⟨k, .filling m t (j + 1) st⟩ }
  /-- the loop is over -/
  | filled {s} {i : Nat} {k m t st} : s.gs[i]? = some ⟨k, .filling m t size st⟩ → (early = true → st = true) →
      Step early size s { s with gs := s.gs.set i ⟨k, if st then .use t else .storing m t⟩ }
  /-- cache.Store(newMap) -/
  | store {s} {i : Nat} {k m t} : s.gs[i]? = some ⟨k, .storing m t⟩ →
      Step early size s { s with pub := m, gs := s.gs.set i ⟨k, .use t⟩ }
  /-- look every field up in the table -/
  | use {s} {i : Nat} {k t} : s.gs[i]? = some ⟨k, .use t⟩ →
      Step early size s { s with gs := s.gs.set i ⟨k, .done (s.filled t)⟩ }

inductive Reach (early : Bool) (size : Nat) (keys : List Nat) : St → Prop where
  | init : Reach early size keys (init keys)
  | step {s s'} : Reach early size keys s → Step early size s s' → Reach early size keys s'

/-- goroutine `j` reads table `t` while goroutine `i` is still inserting into it -/
def Conflict (size : Nat) (s : St) : Prop :=
  ∃ (i j : Nat) (ki kj : Nat) (m : List (Nat × Nat)) (t n : Nat) (st : Bool), i ≠ j ∧
    s.gs[i]? = some ⟨ki, .filling m t n st⟩ ∧ n < size ∧ s.gs[j]? = some ⟨kj, .use t⟩

/-- every table an outer map mentions is complete -/
def AllC (size : Nat) (filled : Nat → Nat) (m : List (Nat × Nat)) : Prop :=
  ∀ kt ∈ m, filled kt.2 = size

theorem bump_full {size : Nat} {f : Nat → Nat} {t t' : Nat} (ht : f t < size) (e : f t' = size) :
    bump f t t' = size :=
  (if_neg (fun e' => by subst e'; omega)).trans e

theorem allc_bump {size : Nat} {f : Nat → Nat} {m : List (Nat × Nat)} {t : Nat} (h : AllC size f m) (ht : f t < size) :
    AllC size (bump f t) m :=
  fun kt hk => bump_full ht (h kt hk)

open PqModel.Slots

/-- what a goroutine relies on while it fills its own table `t` (`j` fields in); `unstored`: as the code
    stands (`early = false`) the new outer map `m` is not published before the table is complete -/
structure Filling (size : Nat) (filled : Nat → Nat) (fresh key : Nat) (m : List (Nat × Nat)) (t j : Nat)
    (st : Bool) : Prop where
  unstored : st = false
  count : filled t = j
  le : j ≤ size
  lt : t < fresh
  map : ∃ snap, m = (key, t) :: snap ∧ AllC size filled snap

def Local (size : Nat) (filled : Nat → Nat) (fresh : Nat) (g : Gor) : Prop :=
  match g.pc with
  | .start => True
  | .alloc snap => AllC size filled snap
  | .filling m t j st => Filling size filled fresh g.key m t j st
  | .storing m t => filled t = size ∧ AllC size filled m
  | .use t => filled t = size
  | .done r => r = size

def fills (g : Gor) : Option Nat :=
  match g.pc with
  | .filling _ t _ _ => some t
  | _ => none

/-- a table is written only by the goroutine that allocated it (`own`) and published only when complete
    (`pubC`) -/
structure CInv (size : Nat) (s : St) : Prop where
  pubC : AllC size s.filled s.pub
  loc : ∀ (i : Nat) g, s.gs[i]? = some g → Local size s.filled s.fresh g
  own : Distinct fills s.gs
  freshC : ∀ t, s.fresh ≤ t → s.filled t = 0

theorem cinv_init (size : Nat) (keys : List Nat) : CInv size (init keys) :=
  ⟨nofun, forall_mem fun g hg => by obtain ⟨k, _, rfl⟩ := List.mem_map.mp hg; trivial,
    .of_none fun g hg => by obtain ⟨k, _, rfl⟩ := List.mem_map.mp hg; rfl, fun _ _ => rfl⟩

theorem Local.fills_lt {size filled fresh g t} (h : Local size filled fresh g) (hf : fills g = some t) :
    t < fresh := by
  obtain ⟨k, pc⟩ := g
  cases pc <;> cases hf
  exact Filling.lt h

theorem Local.after_bump {size filled fresh g t} (h : Local size filled fresh g) (ht : filled t < size)
    (hf : fills g ≠ some t) : Local size (bump filled t) fresh g := by
  obtain ⟨k, pc⟩ := g
  cases pc
  case start => trivial
  case alloc snap => exact allc_bump h ht
  case filling m t' j st =>
    obtain ⟨a, b, c, d, snap, e, f⟩ := h
    exact ⟨a, (if_neg (fun (e' : t' = t) => hf (e' ▸ rfl))).trans b, c, d, snap, e, allc_bump f ht⟩
  case storing m t' => exact ⟨bump_full ht h.1, allc_bump h.2 ht⟩
  case use t' => exact bump_full ht h
  case done r => exact h

theorem cinv_step {size : Nat} {s s'} (hi : CInv size s) (h : Step false size s s') : CInv size s' := by
  cases h
  case storeEarly i k m t he _ => cases he
  case loadHit i k t hs hl =>
    -- the table found in the published map is complete
    obtain ⟨l₁, l₂, e, _⟩ := List.lookup_eq_some_iff.mp hl
    exact { hi with loc := forall_set_same hi.loc (hi.pubC (k, t) (e ▸ by simp))
                    own := hi.own.set_of hs nofun }
  case loadMiss i k hs hl =>
    exact { hi with loc := forall_set_same hi.loc hi.pubC, own := hi.own.set_of hs nofun }
  case alloc i k snap hs =>
    -- the new table is fresh: empty, and nobody else is filling it
    refine ⟨hi.pubC, forall_set hi.loc ?_ ?_, hi.own.set ?_, fun t ht => hi.freshC t (Nat.le_of_succ_le ht)⟩
    · exact ⟨rfl, hi.freshC _ (Nat.le_refl _), Nat.zero_le _, Nat.lt_succ_self _, snap, rfl, hi.loc i _ hs⟩
    · intro j g _ _ hg
      obtain ⟨k', pc⟩ := g
      cases pc <;> first | exact hg | exact ⟨hg.unstored, hg.count, hg.le, Nat.lt_succ_of_lt hg.lt, hg.map⟩
    · intro j g b _ hg e1 e2
      cases e1
      exact Nat.lt_irrefl _ ((hi.loc j g hg).fills_lt e2)
  case fill i k m t j st hs hj _ =>
    obtain ⟨a, b, c, d, snap, e, f⟩ := hi.loc i _ hs
    have hlt : s.filled t < size := by omega
    refine ⟨allc_bump hi.pubC hlt, forall_set hi.loc ?_ ?_, hi.own.set_of hs (fun _ h => h), ?_⟩
    · exact ⟨a, by simp [bump, b], hj, d, snap, e, allc_bump f hlt⟩
    · exact fun j g ne hg hl => hl.after_bump hlt (fun hf => ne (hi.own j i g _ t hg hs hf rfl))
    · intro t' (ht' : s.fresh ≤ t')
      exact (if_neg (by omega)).trans (hi.freshC t' ht')
  case filled i k m t st hs _ =>
    obtain ⟨rfl, b, c, d, snap, e, f⟩ := hi.loc i _ hs
    have e : m = (k, t) :: snap := e
    subst e
    have hm : AllC size s.filled ((k, t) :: snap) := by
      intro kt hk
      rcases List.mem_cons.mp hk with rfl | h
      · exact b
      · exact f kt h
    exact { hi with loc := forall_set_same hi.loc ⟨b, hm⟩, own := hi.own.set_of hs nofun }
  case store i k m t hs =>
    obtain ⟨a, b⟩ := hi.loc i _ hs
    exact { hi with pubC := b, loc := forall_set_same hi.loc a, own := hi.own.set_of hs nofun }
  case use i k t hs =>
    have full : s.filled t = size := hi.loc i _ hs
    exact { hi with loc := forall_set_same hi.loc full
                    own := hi.own.set_of hs nofun }

theorem cinv_reach {size keys s} (hr : Reach false size keys s) : CInv size s := by
  induction hr with
  | init => exact cinv_init size keys
  | step _ hs ih => exact cinv_step ih hs

theorem cinv_no_conflict {size s} (hi : CInv size s) : ¬ Conflict size s := by
  intro ⟨i, j, ki, kj, m, t, n, st, _, hf, hn, hu⟩
  have a : s.filled t = n := Filling.count (hi.loc i _ hf)
  have b : s.filled t = size := hi.loc j _ hu
  omega

end PqModel.CowCache
