import PqModel.ColWriter
import PqModel.FlatPage

/-! # C11 — the invariant of a `ColumnWriter` history -/
namespace PqModel.ColWriter

theorem bufLen_append (k : Kind) (a b : List Val) : bufLen k (a ++ b) = bufLen k a + bufLen k b := by
  cases k <;> simp [bufLen, List.countP_append]

theorem bufLen_nil (k : Kind) : bufLen k [] = 0 := by cases k <;> simp [bufLen]

theorem headOK_nil (k : Kind) : headOK k [] = true := by cases k <;> rfl

theorem headOK_append {k : Kind} {a b : List Val} (ha : headOK k a = true) (hb : headOK k b = true) :
    headOK k (a ++ b) = true := by
  cases a with
  | nil => simpa using hb
  | cons v t => cases k <;> simp_all [headOK]

theorem headOK_flatten {k : Kind} : ∀ {l : List (List Val)}, (∀ r ∈ l, headOK k r = true) →
    headOK k l.flatten = true := by
  intro l
  induction l with
  | nil => intro _; exact headOK_nil k
  | cons r rest ih =>
    intro h
    exact headOK_append (h r List.mem_cons_self) (ih fun r' hr' => h r' (List.mem_cons_of_mem _ hr'))

theorem eq_nil_of_len_zero {k : Kind} {b : List Val} (hh : headOK k b = true) (hl : bufLen k b = 0) :
    b = [] := by
  cases b with
  | nil => rfl
  | cons v t =>
    cases k with
    | flat => simp [bufLen] at hl
    | optional => simp [bufLen] at hl
    | repeated =>
      simp only [headOK] at hh
      simp [bufLen, hh] at hl

theorem prefixSums_eq : ∀ (acc : Nat) (l : List Nat), prefixSums acc l = SortBuf.prefixSums acc l
  | _, [] => rfl
  | acc, x :: l => congrArg (acc :: ·) (prefixSums_eq (acc + x) l)

theorem sum_map_bufLen (k : Kind) (ps : List (List Val)) : (ps.map (bufLen k)).sum = bufLen k ps.flatten := by
  induction ps with
  | nil => simp [bufLen_nil]
  | cons p ps ih => simp [bufLen_append, ih]

theorem writesOf_append (a b : List Op) : writesOf (a ++ b) = writesOf a ++ writesOf b := by
  induction a with
  | nil => rfl
  | cons op a ih => cases op <;> simp [writesOf, ih]

/-- The invariant: `all` is everything handed to the writer so far. -/
structure Good (k : Kind) (c : CW) (all : List Val) : Prop where
  /-- pages then buffer hold the values written, in order -/
  stream : c.pages.flatten ++ c.vals = all
  /-- the buffer starts at the beginning of a row -/
  head : headOK k c.vals = true
  /-- every page holds something and starts at the beginning of a row -/
  pagesOK : ∀ p ∈ c.pages, p ≠ [] ∧ headOK k p = true
  /-- `numRows` is the rows of the pages -/
  rows : c.numRows = (c.pages.map (bufLen k)).sum
  /-- `NumValues` is the values of the pages -/
  nvals : c.numValues = (c.pages.map List.length).sum
  /-- `FirstRowIndex` of page i is the rows of the pages before it -/
  first : c.firstRow = prefixSums 0 (c.pages.map (bufLen k))

theorem good_fresh (k : Kind) : Good k fresh [] :=
  ⟨rfl, headOK_nil k, by simp [fresh], rfl, rfl, rfl⟩

theorem good_flush {k : Kind} {c : CW} {all : List Val} (h : Good k c all) :
    Good k (flush k c) all ∧ (flush k c).vals = [] := by
  unfold flush
  cases hb : c.buf with
  | none => exact ⟨h, by simp [CW.vals, hb]⟩
  | some b =>
    have hv : c.vals = b := by simp [CW.vals, hb]
    have hh := h.head
    have hs := h.stream
    rw [hv] at hh hs
    by_cases hl : bufLen k b > 0
    · have hne : b ≠ [] := by
        intro he; subst he; simp [bufLen_nil] at hl
      have hlen : ¬ b.length = 0 := by simpa using hne
      simp only [hl, if_true, writeDataPage, hlen, if_false]
      refine ⟨⟨?_, ?_, ?_, ?_, ?_, ?_⟩, ?_⟩
      · simpa [CW.vals] using hs
      · simpa [CW.vals] using headOK_nil k
      · intro p hp
        simp only [List.mem_append, List.mem_singleton] at hp
        rcases hp with hp | rfl
        · exact h.pagesOK p hp
        · exact ⟨hne, hh⟩
      · simp [h.rows]
      · simp [h.nvals]
      · simp only [List.map_append, List.map_cons, List.map_nil, prefixSums_eq, SortBuf.prefixSums_append, h.first, h.rows]
        simp
      · simp [CW.vals]
    · have : b = [] := eq_nil_of_len_zero hh (by omega)
      simp only [hl, if_false]
      exact ⟨h, by rw [hv, this]⟩

theorem Good.written {k : Kind} {c : CW} {all : List Val} (h : Good k c all) : written k c = all := by
  obtain ⟨hf, he⟩ := good_flush h
  have := hf.stream
  rwa [he, List.append_nil] at this

theorem totalRowCount_good {k : Kind} {c : CW} {cur : List Val} (h : Good k c cur) :
    totalRowCount k c = bufLen k cur := by
  unfold totalRowCount
  rw [h.rows, sum_map_bufLen, ← bufLen_append, h.stream]

theorem good_append {k : Kind} {c : CW} {all vs : List Val} (h : Good k c all) (hvs : headOK k vs = true) :
    Good k { c with buf := some (c.vals ++ vs) } (all ++ vs) :=
  ⟨by simp [CW.vals, ← h.stream], by simpa [CW.vals] using headOK_append h.head hvs,
    h.pagesOK, h.rows, h.nvals, h.first⟩

theorem good_write {k : Kind} {c : CW} {all : List Val} (bufferSize : Nat) {vs : List Val}
    (h : Good k c all) (hvs : headOK k vs = true) :
    Good k (writeRowValues k bufferSize c vs).1 (all ++ vs) := by
  unfold writeRowValues
  simp only
  split
  · exact (good_flush (good_append h hvs)).1
  · exact good_append h hvs

theorem good_close {k : Kind} {c : CW} {all : List Val} (h : Good k c all) :
    Good k (close k c) all ∧ (close k c).vals = [] := by
  unfold close
  cases hb : c.buf with
  | none => exact ⟨h, by simp [CW.vals, hb]⟩
  | some b =>
    obtain ⟨hg, he⟩ := good_flush h
    refine ⟨⟨?_, ?_, hg.pagesOK, hg.rows, hg.nvals, hg.first⟩, ?_⟩
    · have := hg.stream
      rw [he] at this
      simpa [CW.vals] using this
    · simpa [CW.vals] using headOK_nil k
    · simp [CW.vals]

theorem good_run {k : Kind} (bufferSize : Nat) : ∀ (ops : List Op) {c : CW} {all : List Val},
    Good k c all → (∀ vs, Op.write vs ∈ ops → headOK k vs = true) →
    Good k (run k bufferSize c ops) (all ++ (writesOf ops).flatten) := by
  intro ops
  induction ops with
  | nil => intro c all h _; simpa [run, writesOf] using h
  | cons op ops ih =>
    intro c all h hw
    have hrest := fun vs hm => hw vs (List.mem_cons_of_mem _ hm)
    cases op with
    | write vs =>
      simpa [run, step, writesOf, List.append_assoc] using ih (good_write bufferSize h (hw vs List.mem_cons_self)) hrest
    | flush => simpa [run, step, writesOf] using ih (good_flush h).1 hrest
    | close => simpa [run, step, writesOf] using ih (good_close h).1 hrest

theorem rowPathOps_nil (fuel : Nat) : rowPathOps fuel [] = [] := by
  cases fuel <;> rfl

theorem rowPathOps_succ (fuel : Nat) {rows : List (List Val)} (h : rows ≠ []) :
    rowPathOps (fuel + 1) rows =
      (if (rows.take 64).flatten.isEmpty then [] else [Op.write (rows.take 64).flatten]) ++
        rowPathOps fuel (rows.drop 64) := by
  simp [rowPathOps, h]

theorem rowPathOps_heads {k : Kind} (fuel : Nat) (rows : List (List Val)) :
    (∀ r ∈ rows, headOK k r = true) → ∀ vs, Op.write vs ∈ rowPathOps fuel rows → headOK k vs = true := by
  fun_induction rowPathOps fuel rows with
  | case1 => intro _ vs hm; cases hm
  | case2 => intro _ vs hm; cases hm
  | case3 fuel rows _ vs' ih =>
    intro hr vs hm
    rcases List.mem_append.1 hm with hm | hm
    · split at hm
      · cases hm
      · rw [Op.write.inj (List.mem_singleton.1 hm)]
        exact headOK_flatten fun r hm' => hr r (List.mem_of_mem_take hm')
    · exact ih (fun r hm' => hr r (List.mem_of_mem_drop hm')) vs hm

theorem rowPathOps_stream (fuel : Nat) (rows : List (List Val)) : rows.length < fuel →
    (writesOf (rowPathOps fuel rows)).flatten = rows.flatten := by
  fun_induction rowPathOps fuel rows with
  | case1 => intro h; cases h
  | case2 fuel rows he => intro _; rw [List.isEmpty_iff.mp he]; rfl
  | case3 fuel rows he vs' ih =>
    intro h
    have hpos : 0 < rows.length := List.length_pos_iff.mpr (by simpa [List.isEmpty_iff] using he)
    rw [writesOf_append, List.flatten_append, ih (by rw [List.length_drop]; omega),
      ← List.take_append_drop 64 rows, List.flatten_append, List.take_append_drop]
    split
    · next hv => rw [show (rows.take 64).flatten = [] from List.isEmpty_iff.mp hv]; rfl
    · simp [writesOf, vs']

end PqModel.ColWriter
