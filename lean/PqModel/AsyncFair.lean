import PqModel.AsyncTrace

/-! Termination of `ReadPage` under fairness.

While the consumer waits in `ReadPage` the only cycle is offer → rendezvous → stale → drop → offer …,
taken when the producer's `select` after the loop body chooses `read <-` although the `seek` case is
ready. Every other step lowers the potential `phi ≤ 9`, a `drop` raises it by at most 3: a wait with
`d` drops lasts at most `9 + 4·d` steps, and an infinite wait starves the ready `seek` case forever. -/
namespace PqModel.Async

def isDeliver : Ev → Bool
  | .deliver _ _ => true
  | _ => false

def isDrop : Ev → Bool
  | .drop _ => true
  | _ => false

def drops (es : List Ev) : Nat := (es.filter isDrop).length

/-- The ranking argument behind the termination of `ReadPage` and of `Close`: along a path on which
    `inv` holds and no `stop` event occurs, if every step lowers `rank`, except the `mark`ed ones,
    which may raise it by less than `d`, then the path has at most `rank + d·marks` steps. -/
theorem Path.ranked {U} {inv : G → Prop} {rank : G → Nat} {mark stop : Ev → Bool} {d : Nat}
    (hstep : ∀ {g e g'}, inv g → Step U g e g' → stop e = false →
      inv g' ∧ rank g' + 1 ≤ rank g + (if mark e then d else 0))
    {g es g'} (hp : Path U g es g') (hi : inv g) (hns : ∀ e ∈ es, stop e = false) :
    es.length + rank g' ≤ rank g + d * (es.filter mark).length ∧ inv g' := by
  induction hp with
  | nil => exact ⟨by simp, hi⟩
  | @cons g e g1 es g2 s _ ih =>
    obtain ⟨hi1, hr⟩ := hstep hi s (hns e List.mem_cons_self)
    obtain ⟨i1, i2⟩ := ih hi1 (fun e he => hns e (List.mem_cons_of_mem _ he))
    refine ⟨?_, i2⟩
    simp only [List.filter_cons, List.length_cons]
    cases hm : mark e <;> simp only [hm, Bool.false_eq_true, if_false, if_true, List.length_cons] at hr ⊢
    · omega
    · rw [Nat.mul_succ]; omega

/-- producer part of the potential: the number of steps the producer and the rendezvous still
    need before a delivery, plus 3 for an offer of an outdated version (it will be dropped) -/
def prank (U : Under) (g : G) : Nat :=
  match g.ppc with
  | .waitInit => 5
  | .poll => 4
  | .top => (if (body U g.loc).2 = none then 1 else 0) + (if g.pver = g.cver then 2 else 5)
  | .send _ => if g.pver = g.cver then 1 else 4
  | _ => 0

/-- consumer part: a waiting consumer still has the rendezvous, the version test and the return to go -/
def crank (g : G) : Nat :=
  match g.cpc with
  | .reading => 3
  | _ => 0

def phi (U : Under) (g : G) : Nat := prank U g + crank g

def Waiting (g : G) : Prop := g.cpc = .reading ∨ ∃ it, g.cpc = .got it

theorem Waiting.not_at {g : G} {c : CPc} (hw : Waiting g) (h : g.cpc = c) (h1 : c ≠ .reading)
    (h2 : ∀ it, c ≠ .got it) : False := by
  rcases hw with e | ⟨it, e⟩
  · exact h1 (h.symm.trans e)
  · exact h2 it (h.symm.trans e)

theorem phi_to_top {U} {g g' : G} (hp : g'.ppc = .top) (hv : g'.pver = g'.cver) (hc : crank g' = crank g)
    (h4 : prank U g = 4) : phi U g' + 1 ≤ phi U g := by
  have : prank U g' ≤ 3 := by simp only [prank, hp, hv]; split <;> simp
  simp only [phi, hc, h4]; omega

theorem phi_le {U g} : phi U g ≤ 9 := by
  simp only [phi, prank, crank]
  split <;> split <;> (try split) <;> (try split) <;> omega

/-- every step taken while the consumer waits, other than the delivery, keeps it waiting and
    decreases the potential, except `drop`, which raises it by at most 3 -/
theorem phi_step {U g e g'} (hc : Ctl g) (hw : Waiting g) (h : Step U g e g') (hd : isDeliver e = false) :
    Waiting g' ∧ phi U g' + 1 ≤ phi U g + (if isDrop e then 4 else 0) := by
  have nodone : g.doneClosed = true → False := fun hdn =>
    (hc.done_c hdn).elim (hw.not_at · nofun nofun) (hw.not_at · nofun nofun)
  cases h
  case deliver => simp [isDeliver] at hd
  case initDone h1 h2 => exact (nodone h2).elim
  case selDone it h1 h2 => exact (nodone h2).elim
  case pollTake k v h1 h2 => exact ⟨hw, phi_to_top rfl (hc.ch k v h2).1 rfl (by simp [prank, h1])⟩
  case pollEmpty h1 h2 =>
    exact ⟨hw, phi_to_top rfl (hc.cur h2 (fun h3 => hw.not_at h3 nofun nofun)) rfl (by simp [prank, h1])⟩
  case selTake it k v h1 h2 =>
    obtain ⟨hv, hlt, _⟩ := hc.ch k v h2
    exact ⟨hw, phi_to_top rfl hv rfl (by simp only [prank, h1]; rw [if_neg (by omega)])⟩
  case bodyCont l h1 h2 =>
    obtain ⟨l2, r, h3⟩ := body_none_then_some h2
    refine ⟨hw, ?_⟩
    simp only [isDrop, phi, prank, crank, h1, h2, h3]
    simp
    (repeat' split) <;> omega
  -- readBegin, readClosed, the seek and the close steps need the consumer outside `reading`/`got`
  all_goals try (exfalso; simp [Waiting, *] at hw; done)
  -- handoff, drop, initPass, bodyOffer: compute the potential before and after
  all_goals
    refine ⟨by first | exact hw | simp [Waiting], ?_⟩
    simp only [isDrop, phi, prank, crank, *]
    simp
    try ((repeat' split) <;> omega)

theorem phi_ranked {U g e g'} (hi : Ctl g ∧ Waiting g) (s : Step U g e g') (hd : isDeliver e = false) :
    (Ctl g' ∧ Waiting g') ∧ phi U g' + 1 ≤ phi U g + (if isDrop e then 4 else 0) :=
  have h := phi_step hi.1 hi.2 s hd
  ⟨⟨ctl_step hi.1 s, h.1⟩, h.2⟩

theorem wait_bounded {U g es g'} (hc : Ctl g) (hw : Waiting g) (hp : Path U g es g')
    (hnd : ∀ e ∈ es, isDeliver e = false) :
    es.length + phi U g' ≤ phi U g + 4 * drops es ∧ Waiting g' :=
  (Path.ranked phi_ranked hp ⟨hc, hw⟩ hnd).imp_right (·.2)

/-- an infinite run: a step at every index (the scheduler never stops both goroutines) -/
structure Run (U : Under) where
  st : Nat → G
  ev : Nat → Ev
  step : ∀ n, Step U (st n) (ev n) (st (n + 1))

def Run.prefixEvents {U} (ρ : Run U) : Nat → List Ev
  | 0 => []
  | n + 1 => ρ.prefixEvents n ++ [ρ.ev n]

theorem Run.prefix_path {U} (ρ : Run U) (n : Nat) : Path U (ρ.st 0) (ρ.prefixEvents n) (ρ.st n) := by
  induction n with
  | zero => exact .nil
  | succ n ih => exact ih.snoc (ρ.step n)

theorem Run.reachable {U} (ρ : Run U) (hr : Reachable U (ρ.st 0)) (n : Nat) : Reachable U (ρ.st n) := by
  obtain ⟨es0, p0⟩ := hr
  exact ⟨_, p0.append (ρ.prefix_path n)⟩

theorem Run.prefix_length {U} (ρ : Run U) (n : Nat) : (ρ.prefixEvents n).length = n := by
  induction n with
  | zero => rfl
  | succ n ih => simp [Run.prefixEvents, ih]

theorem Run.prefix_mem {U} (ρ : Run U) (n : Nat) (e : Ev) (h : e ∈ ρ.prefixEvents n) : ∃ m, m < n ∧ ρ.ev m = e := by
  induction n with
  | zero => simp [Run.prefixEvents] at h
  | succ n ih =>
    simp only [Run.prefixEvents, List.mem_append, List.mem_singleton] at h
    rcases h with h | h
    · obtain ⟨m, hm, he⟩ := ih h; exact ⟨m, by omega, he⟩
    · exact ⟨n, by omega, h.symm⟩

theorem Run.prefix_filter_le {U} (ρ : Run U) (p : Ev → Bool) (N : Nat)
    (hN : ∀ n, N ≤ n → p (ρ.ev n) = false) (n : Nat) :
    ((ρ.prefixEvents n).filter p).length ≤ N := by
  induction n with
  | zero => simp [Run.prefixEvents]
  | succ n ih =>
    simp only [Run.prefixEvents, List.filter_append, List.length_append] at ih ⊢
    by_cases hn : N ≤ n
    · simp [hN n hn]; exact ih
    · have : (ρ.prefixEvents n).length = n := ρ.prefix_length n
      have hle : (List.filter p (ρ.prefixEvents n)).length ≤ n := by
        have := List.length_filter_le p (ρ.prefixEvents n); omega
      have h1 : (List.filter p [ρ.ev n]).length ≤ 1 := by
        have := List.length_filter_le p [ρ.ev n]; simpa using this
      omega

theorem Run.stops {U} (ρ : Run U) {inv : G → Prop} {rank : G → Nat} {mark stop : Ev → Bool} {d : Nat}
    (hstep : ∀ {g e g'}, inv g → Step U g e g' → stop e = false →
      inv g' ∧ rank g' + 1 ≤ rank g + (if mark e then d else 0))
    (hi : inv (ρ.st 0)) (N : Nat) (hN : ∀ n, N ≤ n → mark (ρ.ev n) = false) :
    ∃ n, n < rank (ρ.st 0) + 1 + d * N ∧ stop (ρ.ev n) = true := by
  apply Classical.byContradiction
  intro hno
  have hns : ∀ e ∈ ρ.prefixEvents (rank (ρ.st 0) + 1 + d * N), stop e = false := by
    intro e he
    obtain ⟨m, hm, rfl⟩ := ρ.prefix_mem _ e he
    exact Bool.eq_false_iff.mpr fun hd => hno ⟨m, hm, hd⟩
  have hb := (Path.ranked hstep (ρ.prefix_path _) hi hns).1
  have hl := ρ.prefix_length (rank (ρ.st 0) + 1 + d * N)
  have hd := Nat.mul_le_mul_left d (ρ.prefix_filter_le mark N hN (rank (ρ.st 0) + 1 + d * N))
  omega

end PqModel.Async
