import PqModel.CompareTypes

/-! # C09 / C10 — the row comparator over TYPED key columns (compare.go), on the mirrored `Type.Compare`

MIRROR of how `compareRowsFuncOf` (compare.go:182-212) puts the per-type comparisons of
`CompareTypes.lean` together for non-repeated sorting columns (one value per row and leaf column):

* `compareRowsFuncOfColumnIndexes` (compare.go:397-420): all sorting columns required → per column the
  positional arm `compareRowsFuncOfIndexAscending/Descending` on `row[columnIndex]`, chained by
  `compareRowsFuncOfIndexColumns` (compare.go:217-226);
* `compareRowsFuncOfColumnValues` (compare.go:425-503): `leaf.node.Type().Compare`, wrapped by
  `CompareDescending` if the sorting column is descending, then — only if `maxDefinitionLevel > 0` — by
  `CompareNullsFirst/Last`; the first non-zero column comparison decides.

The merge (C09) and sort (C10) theorems take the comparator of the key columns as a hypothesis
(`Compare.Lawful c`, `VOrd`, `Ranked`). Here the comparator is the composition of the mirrored pieces, for every
leaf type, so that the hypothesis can be discharged. Not mirrored here: the scan that finds the values of a
column in a row with repeated columns (compare.go:452-476) and repeated sorting columns (`SortRow.cmpRowsL`).

Both `Lawful` are open here: on a `ColOrder` it is `Stats.Lawful`, on a three-way `c` it is `Compare.Lawful`;
`lawful_cmp_on` leads from the first to the second. -/
namespace PqModel.CompareRows
open PqModel PqModel.Compare PqModel.CompareTypes PqModel.Stats

def valNaN (t : LeafType) (v : Val) : Bool :=
  match t with
  | .float => ieeeIsNaN 8 23 v.float
  | .double => ieeeIsNaN 11 52 v.double
  | _ => false

/-- SPEC-side auxiliary (not library code): `Type.Compare` with the float types compared by their sign-magnitude
    key `Stats.fKey` whatever the bits (NaN patterns get the rank of their bits). Lawful for every type; equal to
    `typeCompare` off NaN. It is the lawful comparator the float theorems are transported through. -/
def typeCompareT (t : LeafType) (a b : Val) : Int :=
  match t with
  | .float => cmpInt (fKey 8 23 a.float) (fKey 8 23 b.float)
  | .double => cmpInt (fKey 11 52 a.double) (fKey 11 52 b.double)
  | t => typeCompare t a b

theorem compareFloat_eq_key (e m : Nat) (a b : BitVec (1 + e + m))
    (ha : ieeeIsNaN e m a = false) (hb : ieeeIsNaN e m b = false) :
    compareFloat e m a b = cmpInt (fKey e m a) (fKey e m b) := by
  rw [ieeeIsNaN_eq] at ha hb
  simp only [compareFloat, ieeeLt_eq, float, ofKey, ha, hb, three, cmpInt, Bool.not_false, Bool.true_and,
    decide_eq_true_eq]

theorem typeCompare_eq_T (t : LeafType) (a b : Val) (ha : valNaN t a = false) (hb : valNaN t b = false) :
    typeCompare t a b = typeCompareT t a b := by
  cases t
  case float => exact compareFloat_eq_key 8 23 _ _ ha hb
  case double => exact compareFloat_eq_key 11 52 _ _ ha hb
  all_goals rfl

/-- a sorting column resolved against the schema (compare.go:183-199): the leaf's type, the `SortingColumn` flags,
    whether the leaf is nullable (`maxDefinitionLevel > 0`) and its column index -/
structure KeyCol where
  typ : LeafType
  desc : Bool
  nullsFirst : Bool
  optional : Bool
  index : Nat
deriving DecidableEq

/-- a row over non-repeated leaf columns: one value per column, `none` = the null `Value` -/
abbrev TRow := List (Option Val)

/-- the null `Value` read by an accessor: all fields zero (value.go: `Value{}`) -/
instance : Inhabited Val := ⟨⟨0, []⟩⟩

def cell (r : TRow) (i : Nat) : Option Val := r.getD i none

/-- a comparison of values applied without a null wrapper (required column: the value is read as it is) -/
def unwrapped (c : Val → Val → Int) : Option Val → Option Val → Int := onCol (fun v => v.getD default) c

/-- MIRROR compare.go:429-445, parametric in the per-type comparison `tc` (`tc = typeCompare` is the library):
    `Type.Compare`, `CompareDescending` if descending, then `CompareNullsFirst/Last` only for a nullable leaf -/
def valueCmpWith (tc : LeafType → Val → Val → Int) (k : KeyCol) : Option Val → Option Val → Int :=
  let c := if k.desc then descending (tc k.typ) else tc k.typ
  if k.optional then (if k.nullsFirst then nullsFirst c else nullsLast c) else unwrapped c

/-- MIRROR compare.go:478-503 for non-repeated columns (`values1`, `values2` have one element): the first column
    whose comparison is non-zero decides -/
def cmpRowsValuesWith (tc : LeafType → Val → Val → Int) (ks : List KeyCol) : TRow → TRow → Int :=
  cmpLex (ks.map fun k => onCol (fun r => cell r k.index) (valueCmpWith tc k))

/-- MIRROR compare.go:397-420 + 217-226: the positional arms on `row[columnIndex]`, chained -/
def cmpRowsIndexes (ks : List KeyCol) : TRow → TRow → Int :=
  cmpLex (ks.map fun k => onCol (fun r => cell r k.index)
    (unwrapped (if k.desc then armDescending k.typ else armAscending k.typ)))

abbrev cmpRowsValues := cmpRowsValuesWith typeCompare

/-- MIRROR compare.go:182-212 `compareRowsFuncOf` over a schema without repeated leaves: the positional path iff
    no sorting column is nullable -/
def compareRowsFuncOf (ks : List KeyCol) : TRow → TRow → Int :=
  if ks.all (fun k => !k.optional) then cmpRowsIndexes ks else cmpRowsValues ks

/-- compare.go:412-419: zero sorting columns → `compareRowsUnordered`, one → the arm itself -/
theorem cmpLex_nil_singleton {ρ : Type} (c : ρ → ρ → Int) (a b : ρ) : cmpLex [] a b = 0 ∧ cmpLex [c] a b = c a b := by
  simp only [cmpLex, true_and]; split <;> omega

theorem cmpLex_cons_congr {ρ : Type} {c c' : ρ → ρ → Int} {cs cs' : List (ρ → ρ → Int)} {a b : ρ}
    (h1 : c a b = c' a b) (h2 : cmpLex cs a b = cmpLex cs' a b) : cmpLex (c :: cs) a b = cmpLex (c' :: cs') a b := by
  simp only [cmpLex, h1, h2]

/-- MIRROR of `Less(i, j)` of the base column buffer that `Type.NewColumnBuffer` creates for the leaf type, on the
    two values compared: `memory.SliceBuffer[T].Less` = Go `<` on `T` (internal/memory/slice_buffer.go:214-217) for
    int32 / int64 / uint32 / uint64 / float / double (column_buffer_int32.go:58, _int64.go:59, _uint32.go:59,
    _uint64.go:59, _float.go:58, _double.go:58), `a != b && !a` (column_buffer_boolean.go:64-68),
    `bytes.Compare(..) < 0` (column_buffer_byte_array.go:128, column_buffer_fixed_len_byte_array.go:74),
    `lessBE128` (column_buffer_be128.go:58). Which buffer a logical type gets: DATE, TIMESTAMP, non-binary DECIMAL,
    STRING, ENUM, JSON, BSON, GEOMETRY, GEOGRAPHY, UUID, INTERVAL delegate to the physical type named in their
    `NewColumnBuffer` (type_date.go:53, type_timestamp.go:194, type_decimal.go:91, type_string.go:61, type_enum.go:52,
    type_json.go:53, type_bson.go:52, type_geometry.go:57, type_geography.go:63, type_uuid.go:50, type_interval.go:74);
    TIME and INT(bitWidth, isSigned) to their `baseType()` (type_time.go:182-188, type_int_logical.go:98-112). -/
def bufferLess (t : LeafType) (a b : Val) : Bool :=
  match t with
  | .int32 | .date | .decimalInt32 => a.int32.slt b.int32
  | .uint32 => a.uint32.ult b.uint32
  | .int64 | .timestamp | .decimalInt64 => a.int64.slt b.int64
  | .uint64 => a.uint64.ult b.uint64
  | .float => ieeeLt 8 23 a.float b.float
  | .double => ieeeLt 11 52 a.double b.double
  | .boolean => a.boolean != b.boolean && !a.boolean
  | .byteArray | .string | .fixedLenByteArray | .enum | .geography | .bson | .geometry | .json | .interval =>
    decide (bytesCompare a.byteArray b.byteArray < 0)
  | .be128 | .uuid => lessBE128 a.be128 b.be128
  | .time useInt32 => if useInt32 then a.int32.slt b.int32 else a.int64.slt b.int64
  | .int bitWidth isSigned =>
    if isSigned then (if bitWidth = 64 then a.int64.slt b.int64 else a.int32.slt b.int32)
    else (if bitWidth = 64 then a.uint64.ult b.uint64 else a.uint32.ult b.uint32)

/-! `typeOrder t` is, for every leaf type, one of the column orders of `Stats.lean` pulled back along the accessor that
reads the value (the cases of `typeOrder_lawful` are the table). -/

def typeOrder (t : LeafType) : ColOrder Val := { lt := bufferLess t, ok := fun v => !valNaN t v }

/-- be128 / UUID as compare.go:147-180 compares them, on values of any length: high half, then low half -/
def be128Order : ColOrder (List Nat) :=
  { lt := fun a b => decide (beNat (a.take 8) < beNat (b.take 8) ∨
      beNat (a.take 8) = beNat (b.take 8) ∧ beNat (a.drop 8) < beNat (b.drop 8)), ok := fun _ => true }

theorem be128Order_lawful : Lawful be128Order where
  irrefl a := by simp [be128Order]
  trans a b c := by simp only [be128Order, decide_eq_true_eq]; omega
  negtrans a b c _ := by simp only [be128Order, decide_eq_true_eq]; omega
  nan a b _ := ⟨rfl, rfl⟩

theorem be128_eq (a b : List Nat) :
    compareBE128 a b = be128Order.cmp a b ∧ lessBE128 a b = be128Order.lt a b := by
  simp only [compareBE128, lessBE128, be128Order, three, decide_eq_true_eq, gt_iff_lt]
  by_cases h1 : beNat (a.take 8) < beNat (b.take 8)
  · simp [h1]
  · by_cases h2 : beNat (b.take 8) < beNat (a.take 8)
    · simp [h1, h2]; omega
    · have e : beNat (a.take 8) = beNat (b.take 8) := by omega
      simp [e]

theorem compareBE128_eq (a b : List Nat) : compareBE128 a b = be128Order.cmp a b := (be128_eq a b).1
theorem lessBE128_eq (a b : List Nat) : lessBE128 a b = be128Order.lt a b := (be128_eq a b).2

theorem slt_eq {w} (x y : BitVec w) : x.slt y = (sint w).lt x y := by simp [sint, ofKey, BitVec.slt]
theorem ult_eq {w} (x y : BitVec w) : x.ult y = (uint w).lt x y := by simp [uint, ofKey, BitVec.ult]

theorem bytesLess_eq (x y : List Nat) : decide (bytesCompare x y < 0) = Stats.bytes.lt x y := by
  rw [bytesCompare_eq, Bool.eq_iff_iff, decide_eq_true_eq]; exact three_lt _ _

theorem typeOrder_lawful (t : LeafType) : Lawful (typeOrder t) := by
  have via : ∀ {β : Type} {o : ColOrder β}, Lawful o → ∀ f : Val → β, (∀ a b, bufferLess t a b = o.lt (f a) (f b)) →
      (∀ a, (!valNaN t a) = o.ok (f a)) → Lawful (typeOrder t) := fun h f hl hk => h.of_comap f hl hk
  cases t
  case int32 | date | decimalInt32 => exact via (sint_lawful 32) Val.int32 (fun _ _ => slt_eq _ _) (fun _ => rfl)
  case uint32 => exact via (uint_lawful 32) Val.int32 (fun _ _ => ult_eq _ _) (fun _ => rfl)
  case int64 | timestamp | decimalInt64 => exact via (sint_lawful 64) Val.int64 (fun _ _ => slt_eq _ _) (fun _ => rfl)
  case uint64 => exact via (uint_lawful 64) Val.int64 (fun _ _ => ult_eq _ _) (fun _ => rfl)
  case float =>
    exact via (float_lawful 8 23) Val.float (fun _ _ => ieeeLt_eq 8 23 _ _) (fun _ => congrArg not (ieeeIsNaN_eq 8 23 _))
  case double =>
    exact via (float_lawful 11 52) Val.double (fun _ _ => ieeeLt_eq 11 52 _ _) (fun _ => congrArg not (ieeeIsNaN_eq 11 52 _))
  case boolean =>
    refine via (ofKey_lawful (fun b : Bool => (b.toNat : Int)) (fun _ => false)) Val.boolean (fun a b => ?_) (fun _ => rfl)
    show (a.boolean != b.boolean && !a.boolean) = _
    cases a.boolean <;> cases b.boolean <;> rfl
  case be128 | uuid => exact via be128Order_lawful Val.bytes (fun _ _ => lessBE128_eq _ _) (fun _ => rfl)
  case time u =>
    cases u
    · exact via (sint_lawful 64) Val.int64 (fun a b => by simp only [bufferLess, Bool.false_eq_true, if_false, slt_eq])
        (fun _ => rfl)
    · exact via (sint_lawful 32) Val.int32 (fun a b => by simp only [bufferLess, if_true, slt_eq]) (fun _ => rfl)
  case int bw sg =>
    by_cases h : bw = 64 <;> cases sg
    · exact via (uint_lawful 64) Val.int64 (fun a b => by simp only [bufferLess, h, Bool.false_eq_true, if_false, if_true, ult_eq])
        (fun _ => rfl)
    · exact via (sint_lawful 64) Val.int64 (fun a b => by simp only [bufferLess, h, if_true, slt_eq]) (fun _ => rfl)
    · exact via (uint_lawful 32) Val.int32 (fun a b => by simp only [bufferLess, h, Bool.false_eq_true, if_false, ult_eq])
        (fun _ => rfl)
    · exact via (sint_lawful 32) Val.int32 (fun a b => by simp only [bufferLess, h, if_true, if_false, slt_eq]) (fun _ => rfl)
  all_goals exact via bytes_lawful Val.bytes (fun _ _ => bytesLess_eq _ _) (fun _ => rfl)

/-- NaN included: `compareInt32` … `compareFloat64` are written that way in compare.go -/
theorem typeCompare_eq (t : LeafType) (a b : Val) : typeCompare t a b = (typeOrder t).cmp a b := by
  show typeCompare t a b = three (bufferLess t a b) (bufferLess t b a)
  cases t
  case boolean =>
    show compareBool a.boolean b.boolean = three (a.boolean != b.boolean && !a.boolean) (b.boolean != a.boolean && !b.boolean)
    cases a.boolean <;> cases b.boolean <;> rfl
  case be128 | uuid =>
    show compareBE128 a.bytes b.bytes = three (lessBE128 a.bytes b.bytes) (lessBE128 b.bytes a.bytes)
    rw [lessBE128_eq, lessBE128_eq]; exact compareBE128_eq _ _
  case time u => cases u <;> simp only [typeCompare, bufferLess, if_true, if_false, Bool.false_eq_true] <;> rfl
  case int bw sg =>
    unfold typeCompare intTypeCompare bufferLess
    by_cases h : bw = 64 <;> cases sg <;> simp only [h, if_true, if_false, Bool.false_eq_true] <;> rfl
  case byteArray | string | fixedLenByteArray | enum | geography | bson | geometry | json | interval =>
    show bytesCompare a.bytes b.bytes =
      three (decide (bytesCompare a.bytes b.bytes < 0)) (decide (bytesCompare b.bytes a.bytes < 0))
    rw [bytesLess_eq, bytesLess_eq]; exact bytesCompare_eq _ _
  all_goals rfl

theorem lessBE128_iff (a b : List Nat) : lessBE128 a b = true ↔ compareBE128 a b < 0 := by
  rw [lessBE128_eq, compareBE128_eq]; exact (three_lt _ _).symm

/-- the consistency `VOrd.lt_iff` that the C10 buffer theorems assume -/
theorem bufferLess_iff (t : LeafType) (a b : Val) : bufferLess t a b = true ↔ typeCompare t a b < 0 := by
  rw [typeCompare_eq]; exact (three_lt _ _).symm

theorem typeCompare_anti (t : LeafType) (a b : Val) : typeCompare t b a = - typeCompare t a b := by
  rw [typeCompare_eq, typeCompare_eq]; exact cmp_anti (typeOrder_lawful t) a b

theorem typeCompare_lawful_on (t : LeafType) {σ : Type} (get : σ → Val) (h : ∀ s, valNaN t (get s) = false) :
    Lawful (onCol get (typeCompare t)) :=
  lawful_cmp_on (typeOrder_lawful t) get (fun s => by show (!valNaN t (get s)) = true; rw [h]; rfl) (typeCompare_eq t)

theorem valNaN_of_not_float {t : LeafType} (hf : t.isFloat = false) (v : Val) : valNaN t v = false := by
  cases t <;> first | rfl | cases hf

theorem typeCompare_arms_lawful {t : LeafType} (hf : t.isFloat = false)
    (h : ∀ a b, armAscending t a b = typeCompare t a b ∧ armDescending t a b = - typeCompare t a b) :
    Lawful (typeCompare t) ∧ Lawful (armAscending t) ∧ Lawful (armDescending t) := by
  have base : Lawful (typeCompare t) := typeCompare_lawful_on t id (valNaN_of_not_float hf)
  have e1 : armAscending t = typeCompare t := funext fun a => funext fun b => (h a b).1
  have e2 : armDescending t = descending (typeCompare t) := funext fun a => funext fun b => (h a b).2
  exact ⟨base, e1 ▸ base, e2 ▸ descending_lawful base⟩

theorem compareBE128_lawful : Lawful compareBE128 := lawful_three be128Order_lawful (fun _ => rfl) compareBE128_eq

end PqModel.CompareRows
