import PqModel.RowStarts

namespace PqModel.Seek

/-! # `repeatedPage.Slice` on level lists (page_repeated.go:60-112)

`FilePages.ReadPage` returns `page.Slice(skip, numRows)` when a seek lands inside a page; for a
column below a repeated field the slice bounds are found by scanning the repetition levels.

* MIRROR: `scanZero` (both `for` loops, lines 81-89 and 91-99), `sliceIdx`, `sliceRepeated`.
* SPEC: on any level list the two scans find the starts of rows `i` and `j` (`nthZero`,
  `RowStarts.lean`); when the page is a list of rows, each a level list `0 :: t` with `t` free of
  zeros (possibly behind the tail of a row begun on the previous page), the slice `i..j` is the
  concatenation of rows `i..j-1`. -/

/-- MIRROR of one scan loop: `k` is the index of the head of the list, `cnt` is `rowIndex0`,
    `dflt` the value the result variable was initialised with (`len(repetitionLevels)`). -/
def scanZero (target : Nat) : List Nat → Nat → Nat → Nat → Nat × Nat
  | [], _, cnt, dflt => (dflt, cnt)
  | x :: xs, k, cnt, dflt =>
    if x = 0 then
      if cnt = target then (k, cnt) else scanZero target xs (k + 1) (cnt + 1) dflt
    else scanZero target xs (k + 1) cnt dflt

/-- MIRROR of lines 77-99: `(rowIndex1, rowIndex2)` -/
def sliceIdx (rep : List Nat) (i j : Nat) : Nat × Nat :=
  let r1 := scanZero i rep 0 0 rep.length
  let r2 := scanZero j (rep.drop r1.1) r1.1 r1.2 rep.length
  (r1.1, r2.1)

/-- MIRROR of lines 100-111: the sliced level lists and the bounds handed to `base.Slice`
    (indexes into the non-null values) -/
def sliceRepeated (maxDef : Nat) (rep dfn : List Nat) (i j : Nat) : (List Nat × List Nat) × (Nat × Nat) :=
  let ab := sliceIdx rep i j
  let a := ab.1
  let b := ab.2
  let nulls1 := ((dfn.take a).filter (· ≠ maxDef)).length
  let nulls2 := (((dfn.drop a).take (b - a)).filter (· ≠ maxDef)).length
  (((rep.drop a).take (b - a), (dfn.drop a).take (b - a)), (a - nulls1, b - (nulls1 + nulls2)))

/-- SPEC: a row of repetition levels -/
def RowWF (r : List Nat) : Prop := ∃ t, r = 0 :: t ∧ ∀ x ∈ t, x ≠ 0

open PqModel.SeekUnaligned (zeros nthZero nthZero_le nthZero_ge nthZero_append nthZero_drop zeros_drop_nthZero
  zeros_append zeros_eq_zero)

theorem scanZero_nth (t : Nat) (l : List Nat) (k cnt d : Nat) (h : cnt ≤ t) :
    scanZero t l k cnt d =
      if t - cnt < zeros l then (k + nthZero l (t - cnt), t) else (d, cnt + zeros l) := by
  fun_induction scanZero t l k cnt d with
  | case1 k cnt d => simp [zeros]
  | case2 xs k d => simp [zeros, nthZero]
  | case3 xs k cnt d hc ih =>
    have hne : t - cnt ≠ 0 := by omega
    rw [ih (by omega)]
    simp only [zeros, nthZero, if_true, if_neg hne]
    by_cases h1 : t - (cnt + 1) < zeros xs
    · rw [if_pos h1, if_pos (by omega), show t - cnt - 1 = t - (cnt + 1) by omega]
      congr 1; omega
    · rw [if_neg h1, if_neg (by omega)]
      congr 1; omega
  | case4 x xs k cnt d hx ih =>
    rw [ih h]
    simp only [zeros, nthZero, if_neg hx, Nat.zero_add]
    split
    · congr 1; omega
    · rfl

/-- whatever the level list: it may begin inside a row, and rows need no shape -/
theorem sliceIdx_eq (l : List Nat) (i j : Nat) (hij : i ≤ j) : sliceIdx l i j = (nthZero l i, nthZero l j) := by
  unfold sliceIdx
  have h1 := scanZero_nth i l 0 0 l.length (Nat.zero_le _)
  simp only [Nat.sub_zero, Nat.zero_add] at h1
  rcases Nat.lt_or_ge i (zeros l) with hi | hi
  · rw [if_pos hi] at h1
    simp only [h1, scanZero_nth j (l.drop (nthZero l i)) (nthZero l i) i l.length hij,
      zeros_drop_nthZero l i hi]
    rcases Nat.lt_or_ge j (zeros l) with hj | hj
    · rw [if_pos (by omega), nthZero_drop l i j hij hi]
    · rw [if_neg (by omega), nthZero_ge l j hj]
  · rw [if_neg (by omega)] at h1
    simp only [h1, List.drop_eq_nil_of_le (Nat.le_refl _), scanZero, nthZero_ge l i hi,
      nthZero_ge l j (Nat.le_trans hi hij)]

theorem flatten_split {α} (rows : List (List α)) (n : Nat) :
    rows.flatten = (rows.take n).flatten ++ (rows.drop n).flatten := by
  rw [← List.flatten_append, List.take_append_drop]

theorem flatten_take_length_le (rows : List (List Nat)) (n : Nat) :
    (rows.take n).flatten.length ≤ rows.flatten.length := by
  rw [flatten_split rows n, List.length_append]
  exact Nat.le_add_right _ _

theorem drop_flatten_take {α} (rows : List (List α)) (n : Nat) :
    rows.flatten.drop (rows.take n).flatten.length = (rows.drop n).flatten := by
  rw [flatten_split rows n]
  exact List.drop_left' rfl

theorem take_flatten_take {α} (rows : List (List α)) (n : Nat) :
    rows.flatten.take (rows.take n).flatten.length = (rows.take n).flatten := by
  rw [flatten_split rows n]
  exact List.take_left' rfl

theorem take_split {α} (l : List α) (i j : Nat) (hij : i ≤ j) :
    l.take j = l.take i ++ (l.drop i).take (j - i) := by
  rw [← List.take_add, Nat.add_sub_cancel' hij]

theorem stream_rows_slice {α} (frag : List α) (rows : List (List α)) (i j : Nat) (hij : i ≤ j) :
    ((frag ++ rows.flatten).drop (frag.length + (rows.take i).flatten.length)).take
        ((frag.length + (rows.take j).flatten.length) - (frag.length + (rows.take i).flatten.length))
      = ((rows.drop i).take (j - i)).flatten := by
  rw [← List.drop_drop, List.drop_left' rfl, drop_flatten_take, Nat.add_sub_add_left,
    take_split rows i j hij, List.flatten_append, List.length_append, Nat.add_sub_cancel_left,
    take_flatten_take]

theorem rows_starts : ∀ (rows : List (List Nat)), (∀ r ∈ rows, RowWF r) →
    zeros rows.flatten = rows.length ∧ ∀ n, nthZero rows.flatten n = (rows.take n).flatten.length
  | [], _ => ⟨rfl, fun n => by simp [nthZero]⟩
  | r :: rs, h => by
    obtain ⟨t, rfl, ht⟩ := h r (by simp)
    obtain ⟨ih1, ih2⟩ := rows_starts rs (fun r hr => h r (by simp [hr]))
    have hz : zeros (0 :: t) = 1 := by simp only [zeros, if_true, zeros_eq_zero t ht]
    refine ⟨by rw [List.flatten_cons, zeros_append, hz, ih1, List.length_cons, Nat.add_comm], fun n => ?_⟩
    rw [List.flatten_cons, nthZero_append, hz]
    cases n with
    | zero => simp [nthZero]
    | succ n =>
      rw [if_neg (by omega), Nat.add_sub_cancel, ih2, List.take_succ_cons, List.flatten_cons,
        List.length_append]

theorem frag_rows_starts (frag : List Nat) (hf : ∀ x ∈ frag, x ≠ 0) (rows : List (List Nat))
    (h : ∀ r ∈ rows, RowWF r) (n : Nat) :
    nthZero (frag ++ rows.flatten) n = frag.length + (rows.take n).flatten.length := by
  rw [nthZero_append, zeros_eq_zero frag hf, if_neg (Nat.not_lt_zero _), Nat.sub_zero, (rows_starts rows h).2]

theorem defined_add_nulls (md : Nat) (l : List Nat) :
    (l.filter (· == md)).length + (l.filter (· ≠ md)).length = l.length := by
  rw [← List.countP_eq_length_filter, ← List.countP_eq_length_filter, List.length_eq_countP_add_countP (· == md)]
  congr 2
  funext x
  simp

/-- `i - numNulls1`, `j - (numNulls1 + numNulls2)` are the numbers of stored values in front of
    slots `a` and `b` -/
theorem null_bounds (md : Nat) (dfn : List Nat) (a b : Nat) (hab : a ≤ b) (hb : b ≤ dfn.length) :
    (a - ((dfn.take a).filter (· ≠ md)).length,
      b - (((dfn.take a).filter (· ≠ md)).length + (((dfn.drop a).take (b - a)).filter (· ≠ md)).length))
      = (((dfn.take a).filter (· == md)).length, ((dfn.take b).filter (· == md)).length) := by
  have e1 := defined_add_nulls md (dfn.take a)
  have e2 := defined_add_nulls md ((dfn.drop a).take (b - a))
  rw [List.length_take, Nat.min_eq_left (Nat.le_trans hab hb)] at e1
  rw [List.length_take, List.length_drop, Nat.min_eq_left (Nat.sub_le_sub_right hb a)] at e2
  rw [take_split dfn a b hab, List.filter_append, List.length_append]
  congr 1 <;> omega

end PqModel.Seek
