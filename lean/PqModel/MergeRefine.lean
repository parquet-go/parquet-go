import PqModel.Compare

/-! # C09 — MIRROR of the planner of `MergeRowGroups`: row-group ranges over several pages
    (merge.go:241-373), segment detection (merge.go:180-239) and segment refinement
    (merge_refine.go: `newCutLookups`, `cutAbove`, `cutBelow`, `refineSegment`)

(MergeRanges.lean is the single-page, one-column planner; no lemma connects the two.) A row group is the page statistics of its sorting columns (`PageStat`: null page, has nulls,
min, max of integer keys), the first-row indexes of the pages of the first sorting column and its
number of rows. Keys are `KeyRow`s compared with `cmpRows` (compare.go). `sort.Search` is modelled
by its contract (first index whose predicate holds), `slices.SortFunc` on at most 12 elements and
`slices.SortStableFunc` by stable insertion. -/
namespace PqModel.Refine
open PqModel.Compare

structure PageStat where
  nullPage : Bool
  hasNulls : Bool
  min : Option Int
  max : Option Int
deriving Inhabited

structure Target where
  idx : Nat
  numRows : Nat
  /-- pages of every sorting column -/
  cols : List (List PageStat)
  /-- `OffsetIndex.FirstRowIndex` of the pages of the first sorting column -/
  firstRows : List Nat
  /-- merge.go `rowGroupInterleavesChunks`: the row group is (or wraps) a merged row group, whose
      `Rows()` interleave the rows of its members while its column chunks, hence its pages, list the
      members one after the other -/
  interleaved : Bool := false
  /-- merge_refine.go `rowGroupDropsRows`: the row group is (or wraps) a deduplicating view, whose
      `Rows()` leave out rows that its column chunks hold -/
  dropsRows : Bool := false
  /-- row_range.go `supportsRowRanges`: `rowRangeOf` can present a range of the rows of the row group -/
  supportsRanges : Bool := true
deriving Inhabited

/-- position of a first-column value in sort order -/
def ord (desc : Bool) (v : Int) : Int := if desc then -v else v

/-- merge.go (rowGroupRangeOfSortedColumns, interleaved row groups): every non-null page is consulted,
    the earliest first bound and the latest last bound in sort order are retained. (`last = none`
    cannot happen for a page index whose non-null pages carry both bounds; the model takes the first
    bound it meets.) -/
def scanRange (desc : Bool) (pages : List PageStat) (first : Int) (last : Option Int) : Int × Option Int :=
  pages.foldl (fun acc p =>
    if p.nullPage then acc else
    ((match (if desc then p.max else p.min) with
      | some v => if ord desc v < ord desc acc.1 then v else acc.1
      | none => acc.1),
     (match (if desc then p.min else p.max), acc.2 with
      | some v, some a => if ord desc v > ord desc a then some v else some a
      | some v, none => some v
      | none, a => a))) (first, last)

/-- merge.go:284-351 for one sorting column: bound of the first / last row from the first / last
    non-null page; `none` = "no valid pages" -/
def colRange (s : ColSpec) (pages : List PageStat) (interleaved : Bool := false) : Option (Option Int × Option Int) :=
  let firstOf := fun (p : PageStat) => if p.nullPage then none else (if s.desc then p.max else p.min)
  let lastOf := fun (p : PageStat) => if p.nullPage then none else (if s.desc then p.min else p.max)
  match pages.findSome? firstOf with
  | none => none
  | some first0 =>
    let last0 := pages.reverse.findSome? lastOf
    let first := if interleaved then (scanRange s.desc pages first0 last0).1 else first0
    let last := if interleaved then (scanRange s.desc pages first0 last0).2 else last0
    -- merge.go:354-367: the bound on the side of the nulls is null when the column holds nulls
    if pages.any (fun p => p.nullPage || p.hasNulls) then
      if s.nullsFirst then some (none, last) else some (some first, none)
    else some (some first, last)

/-- merge.go:241-373 `rowGroupRangeOfSortedColumns` -/
def rowGroupRange (interleaved : Bool := false) : List ColSpec → List (List PageStat) → Option (KeyRow × KeyRow)
  | [], _ => some ([], [])
  | s :: ss, pages :: rest =>
    if pages.isEmpty then none else
    match colRange s pages interleaved, rowGroupRange interleaved ss rest with
    | some (a, b), some (mn, mx) => some (a :: mn, b :: mx)
    | _, _ => none
  | _ :: _, [] => none

structure RG where
  t : Target
  lo : KeyRow
  hi : KeyRow
deriving Inhabited

/-- insertion step of a stable insertion sort: `x` moves left past the strictly greater elements -/
def insertBy {β : Type} (lt : β → β → Bool) (x : β) : List β → List β
  | [] => [x]
  | y :: ys => if lt x y then x :: y :: ys else y :: insertBy lt x ys

def sortBy {β : Type} (lt : β → β → Bool) (l : List β) : List β := l.foldl (fun acc x => insertBy lt x acc) []

/-- merge.go:217-237 -/
def sweep (c : KeyRow → KeyRow → Int) : List RG → List RG → KeyRow → List (List RG)
  | [], cur, _ => [cur.reverse]
  | r :: rs, cur, mx =>
    if c r.lo mx ≤ 0 then sweep c rs (r :: cur) (if c r.hi mx > 0 then r.hi else mx)
    else cur.reverse :: sweep c rs [r] r.hi

def rangesOf (specs : List ColSpec) : List Target → Option (List RG)
  | [] => some []
  | t :: rest =>
    if t.numRows = 0 then rangesOf specs rest
    else
      match rowGroupRange t.interleaved specs t.cols, rangesOf specs rest with
      | some (a, b), some rs => some ({ t := t, lo := a, hi := b } :: rs)
      | _, _ => none

/-- merge.go:180-239: `none` = bounds unavailable (everything is merged as one segment) -/
def segmentsOf (specs : List ColSpec) (ts : List Target) : Option (List (List RG)) :=
  match rangesOf specs ts with
  | none => none
  | some [] => some []
  | some [r] => some [[r]]
  | some rs =>
    match sortBy (fun a b => decide (cmpRows specs a.lo b.lo < 0)) rs with
    | [] => some []
    | r :: rest => some (sweep (cmpRows specs) rest [r] r.hi)

/-! ## cut lookups (merge_refine.go:137-230) -/

/-- first-column page bounds in sort order: (earliest, latest) -/
def pageBounds (desc : Bool) (p : PageStat) : Int × Int :=
  if desc then (ord desc (p.max.getD 0), ord desc (p.min.getD 0)) else (p.min.getD 0, p.max.getD 0)

/-- `sort.Search(n, f)`: the first index whose predicate holds, `n` if none -/
def searchFirst {β : Type} (f : β → Bool) : List β → Nat
  | [] => 0
  | x :: xs => if f x then 0 else searchFirst f xs + 1

/-- merge_refine.go:137-174: the lookups exist iff the first sorting column has pages, an offset
    index of the same length and no null page. `strict = false` is the code as it is (only pages that
    are entirely null are refused); `strict = true` also refuses pages that hold some nulls
    (proposed_fixes/C09_cut_lookups_nulls.diff). An interleaved row group has no lookups: they search
    the pages and turn them into row positions, both of which need the pages in row order; neither
    has a deduplicating view: the row positions of the offset index count the rows of the chunks; nor
    a row group whose rows `rowRangeOf` cannot slice (`supportsRowRanges`, library fix 35e9777). -/
def hasCuts (strict : Bool) (t : Target) : Bool :=
  match t.cols with
  | [] => false
  | pages :: _ => !pages.isEmpty && pages.length == t.firstRows.length &&
      !pages.any (fun p => p.nullPage || (strict && p.hasNulls)) && !t.interleaved && !t.dropsRows && t.supportsRanges

def pageEnd (t : Target) (p : Nat) : Nat :=
  if p + 1 < t.firstRows.length then t.firstRows.getD (p + 1) 0 else t.numRows

/-- merge_refine.go:198-210 -/
def cutAbove (desc : Bool) (t : Target) (key : KeyRow) : Nat :=
  match key.getD 0 none with
  | none => t.numRows
  | some kv =>
    let p := searchFirst (fun pg : PageStat => decide ((pageBounds desc pg).1 > ord desc kv)) (t.cols.getD 0 [])
    if p = 0 then 0 else pageEnd t (p - 1)

/-- merge_refine.go:215-227 -/
def cutBelow (desc : Bool) (t : Target) (key : KeyRow) : Nat :=
  match key.getD 0 none with
  | none => 0
  | some kv =>
    let p := searchFirst (fun pg : PageStat => decide ((pageBounds desc pg).2 ≥ ord desc kv)) (t.cols.getD 0 [])
    if p = (t.cols.getD 0 []).length then t.numRows else t.firstRows.getD p 0

/-! ## refineSegment (merge_refine.go:237-402) -/

structure Part where
  /-- position of the row group in the segment -/
  index : Nat
  off : Nat
  len : Nat
deriving DecidableEq, Inhabited

structure Event where
  key : KeyRow
  start : Bool
  index : Nat
deriving Inhabited

/-- merge_refine.go:255-270: by key, starts before ends -/
def eventLt (c : KeyRow → KeyRow → Int) (a b : Event) : Bool :=
  if c a.key b.key ≠ 0 then decide (c a.key b.key < 0) else a.start && !b.start

structure St where
  plan : List (List Part)
  region : List Part
  cursors : List Nat
  active : List Nat
  sliced : Bool
  pendingLone : Option Nat
  pendingLeftK : Option KeyRow

def minStreamedRegionRows : Nat := 1024

/-- merge_refine.go:308-322 -/
def closeRegion (s : St) : St :=
  match s.region with
  | [] => s
  | [p] => { s with plan := s.plan ++ [[p]], region := [] }
  | ps => { s with plan := s.plan ++ [sortBy (fun a b => decide (a.index < b.index)) ps], region := [] }

/-- merge_refine.go:295-306 -/
def remainder (ts : List RG) (s : St) (i : Nat) : St :=
  let n := (ts.getD i default).t.numRows
  let off := s.cursors.getD i 0
  if off ≥ n then s
  else { s with cursors := s.cursors.set i n, region := s.region ++ [{ index := i, off := off, len := n - off }] }

/-- merge_refine.go:335-338, 343: start of the lone slice of row group `i` -/
def loneOff (desc : Bool) (t : Target) (s : St) (i : Nat) : Nat :=
  max (match s.pendingLeftK with | some k => cutAbove desc t k | none => 0) (s.cursors.getD i 0)

/-- merge_refine.go:339-342, 344: end of the lone slice -/
def loneEnd (desc : Bool) (t : Target) (rightK : Option KeyRow) : Nat :=
  min (match rightK with | some k => cutBelow desc t k | none => t.numRows) t.numRows

/-- merge_refine.go:349-363: the rows of `i` before the slice join the region, the region is closed,
    the slice `[off, e)` becomes a segment of its own -/
def sliceLone (s : St) (i off e : Nat) : St :=
  let s2 : St := if off > s.cursors.getD i 0 then
      { s with region := s.region ++ [{ index := i, off := s.cursors.getD i 0, len := off - s.cursors.getD i 0 }] }
    else s
  { closeRegion s2 with plan := (closeRegion s2).plan ++ [[{ index := i, off := off, len := e - off }]],
                        cursors := (closeRegion s2).cursors.set i e, sliced := true }

/-- merge_refine.go:328-364 -/
def resolveLone (strict desc : Bool) (ts : List RG) (s : St) (rightK : Option KeyRow) : St :=
  match s.pendingLone with
  | none => s
  | some i =>
    if !hasCuts strict (ts.getD i default).t then { s with pendingLone := none }
    else if loneEnd desc (ts.getD i default).t rightK <
        loneOff desc (ts.getD i default).t s i + minStreamedRegionRows then { s with pendingLone := none }
    else sliceLone { s with pendingLone := none } i (loneOff desc (ts.getD i default).t s i)
      (loneEnd desc (ts.getD i default).t rightK)

/-- merge_refine.go:366-395: one event of the sweep -/
def stepEvent (strict desc : Bool) (ts : List RG) (s : St) (ev : Event) : St :=
  if ev.start then
    let s := if s.pendingLone.isSome then resolveLone strict desc ts s (some ev.key) else s
    let s := { s with active := s.active ++ [ev.index] }
    if s.active.length = 1 then { s with pendingLone := some ev.index, pendingLeftK := none } else s
  else
    let s := if s.pendingLone = some ev.index then resolveLone strict desc ts s none else s
    let s := { s with active := s.active.erase ev.index }
    let s := remainder ts s ev.index
    if s.active.length = 1 && s.pendingLone.isNone then
      { s with pendingLone := s.active.head?, pendingLeftK := some ev.key }
    else s

def eventsOf (ts : List RG) : List Event :=
  (List.range ts.length).flatMap (fun i =>
    [{ key := (ts.getD i default).lo, start := true, index := i },
     { key := (ts.getD i default).hi, start := false, index := i }])

/-- merge_refine.go:279-293 -/
def St.init (n : Nat) : St :=
  { plan := [], region := [], cursors := List.replicate n 0, active := [], sliced := false,
    pendingLone := none, pendingLeftK := none }

/-- merge_refine.go:237-402: `none` = no refinement applies -/
def refineSegment (strict : Bool) (specs : List ColSpec) (ts : List RG) : Option (List (List Part)) :=
  if ts.length < 2 then none else
  let desc := (specs.getD 0 { desc := false, nullsFirst := false }).desc
  let events := sortBy (eventLt (cmpRows specs)) (eventsOf ts)
  let s := closeRegion (events.foldl (stepEvent strict desc ts) (St.init ts.length))
  if s.sliced then some s.plan else none

/-- merge.go:96-119: the plan of `MergeRowGroups` without duplicate dropping: for every final
    segment the number of row groups it merges and its number of rows -/
def planOf (strict : Bool) (specs : List ColSpec) (ts : List Target) : List (Nat × Nat) :=
  match segmentsOf specs ts with
  | none => [(ts.length, (ts.map (·.numRows)).sum)]
  | some segs =>
    segs.flatMap (fun seg =>
      match seg with
      | [r] => [(1, r.t.numRows)]
      | _ =>
        match refineSegment strict specs seg with
        | some plan => plan.map (fun parts => (parts.length, (parts.map (·.len)).sum))
        | none => [(seg.length, (seg.map (·.t.numRows)).sum)])

end PqModel.Refine
