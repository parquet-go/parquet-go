/-! # The value-level inner loop of `rowGroupRows.ReadRows` (C08)

`ReaderSeek.lean` counts rows per page. Here is what happens underneath, for one column
(row_group.go:311-362): values arrive from `columnChunkValueReader.ReadValues` in batches — cut
wherever a page or the value buffer (`bufsize`) ends, possibly in the middle of a row — and the
loop over `rows` rebuilds rows from repetition levels: the first value of a row is taken
unconditionally (`numValuesInRow := 1`), the following ones as long as their repetition level is
not 0, across as many refills as it takes (`numValuesInRow = 0` on the continuation batches).

* MIRROR: `cont`/`scan` (the `for numValuesInRow < len(values) && ...` loop), `refill`
  (`if c.offset == c.length { ReadValues }`), `rowLoop` (the `for { }` of one row), `colRows`
  (the `for rowIndex := range rows` of one column), `rowCount`.
* SPEC: a column is a list of rows, each a value of repetition level 0 followed by values of
  non-zero level (`RowWF`); reading `n` rows must deliver the first `n` of them, whatever the
  batching.

Not modelled: a failing `ReadValues` (covered at row granularity by `ReaderSeek.colRead`), the
concatenation of the columns' values into one `Row` (an append per column, in column order). -/
namespace PqModel.ReadRowsValues

variable {α : Type} (rep : α → Nat)

/-- a column's value reader: `buf` = `b[c.offset:c.length]`, `src` = what the following
    `ReadValues` calls will deliver (then `(0, io.EOF)`) -/
structure ColV (α : Type) where
  buf : List α
  src : List (List α)

/-- the values the column will still deliver -/
def ColV.stream (c : ColV α) : List α := c.buf ++ c.src.flatten

/-- MIRROR of `for n < len(values) && values[n].repetitionLevel != 0 { n++ }` (row_group.go:342-344),
    counted from the front of `values[n:]` -/
def cont : List α → Nat
  | [] => 0
  | v :: vs => if rep v = 0 then 0 else cont vs + 1

def scan (values : List α) (nv : Nat) : Nat := nv + cont rep (values.drop nv)

/-- MIRROR of `if c.offset == c.length { n, err := c.reader.ReadValues(b); ... }`
    (row_group.go:325-339); `none`: `n == 0 && err == io.EOF` -/
def refill (c : ColV α) : Option (ColV α) :=
  match c.buf with
  | [] =>
    match c.src with
    | [] => none
    | b :: rest => some ⟨b, rest⟩
  | _ :: _ => some c

/-- MIRROR of the `for { }` that assembles one row of one column (row_group.go:324-360):
    `(column, values appended to the row, eof)`; `nv` is `numValuesInRow` on entry (1, then 0) -/
def rowLoop : Nat → ColV α → Nat → List α → ColV α × List α × Bool
  | 0, c, _, acc => (c, acc, false)
  | fuel + 1, c, nv, acc =>
    match refill c with
    | none => (c, acc, true)
    | some c1 =>
      if scan rep c1.buf nv = 0 then (c1, acc, false)
      else if scan rep c1.buf nv ≠ c1.buf.length then
        (⟨c1.buf.drop (scan rep c1.buf nv), c1.src⟩, acc ++ c1.buf.take (scan rep c1.buf nv), false)
      else rowLoop fuel ⟨[], c1.src⟩ 0 (acc ++ c1.buf.take (scan rep c1.buf nv))

/-- MIRROR of `for rowIndex := range rows` for one column: what is appended to each of the `n` rows
    (fuel: a round for the held buffer, one per batch of `src`, one that meets the end: `rowLoop_spec`) -/
def colRows : Nat → ColV α → ColV α × List (List α)
  | 0, c => (c, [])
  | n + 1, c =>
    ((colRows n (rowLoop rep (c.src.length + 2) c 1 []).1).1,
     (rowLoop rep (c.src.length + 2) c 1 []).2.1 :: (colRows n (rowLoop rep (c.src.length + 2) c 1 []).1).2)

/-- MIRROR of `rowCount = max(rowCount, rowIndex+1)`, executed whenever values are appended to
    `rows[rowIndex]`: one more than the last index that received something -/
def rowCount : List (List α) → Nat
  | [] => 0
  | r :: rs => if rowCount rs = 0 then (if r = [] then 0 else 1) else rowCount rs + 1

/-- a row of a column: a value with repetition level 0, then values with non-zero levels -/
def RowWF (r : List α) : Prop := ∃ v t, r = v :: t ∧ rep v = 0 ∧ ∀ x ∈ t, rep x ≠ 0

/-- what follows a complete row: nothing, or the first value of the next row -/
def StartsRow (l : List α) : Prop := ∀ v tl, l = v :: tl → rep v = 0

theorem startsRow_flatten (rows : List (List α)) (h : ∀ r ∈ rows, RowWF rep r) : StartsRow rep rows.flatten := by
  intro v tl hl
  cases rows with
  | nil => simp at hl
  | cons r rs =>
    obtain ⟨v', t, rfl, hv, _⟩ := h r (by simp)
    simp at hl
    rw [← hl.1]; exact hv

theorem cont_all (t rest : List α) (ht : ∀ x ∈ t, rep x ≠ 0) : cont rep (t ++ rest) = t.length + cont rep rest := by
  induction t with
  | nil => simp
  | cons x t ih =>
    have hx : rep x ≠ 0 := ht x (by simp)
    simp only [List.cons_append, cont, hx, if_false, List.length_cons]
    rw [ih (fun y hy => ht y (by simp [hy]))]
    omega

theorem cont_stop (l : List α) (h : StartsRow rep l) : cont rep l = 0 := by
  cases l with
  | nil => rfl
  | cons v tl => simp [cont, h v tl rfl]

/-- one pass of the body on a buffer `hd ++ B'` (`X`: the batches not yet read, `hd`: the values taken
    unconditionally) whose stream continues the row with `t`: either the
    row ends inside the buffer (`rest`, not empty, begins the next row), or the whole buffer belongs
    to it -/
theorem scan_split (hd B' X t tail : List α)
    (hs : B' ++ X = t ++ tail) (ht : ∀ x ∈ t, rep x ≠ 0) (htail : StartsRow rep tail) :
    (∃ rest, rest ≠ [] ∧ B' = t ++ rest ∧ tail = rest ++ X ∧
      scan rep (hd ++ B') hd.length = hd.length + t.length) ∨
    (∃ t2, t = B' ++ t2 ∧ X = t2 ++ tail ∧ scan rep (hd ++ B') hd.length = hd.length + B'.length) := by
  have hscan : scan rep (hd ++ B') hd.length = hd.length + cont rep B' := by
    simp only [scan, List.drop_left]
  have hall : ∀ l : List α, (∀ x ∈ l, rep x ≠ 0) → cont rep l = l.length := fun l hl => by
    simpa [cont] using cont_all rep l [] hl
  rcases List.append_eq_append_iff.mp hs with ⟨a', h1, h2⟩ | ⟨c', h1, h2⟩
  · -- t = B' ++ a'
    exact Or.inr ⟨a', h1, h2, by rw [hscan, hall B' (fun x hx => ht x (by rw [h1]; simp [hx]))]⟩
  · -- B' = t ++ c'
    cases c' with
    | nil =>
      rw [List.append_nil] at h1
      exact Or.inr ⟨[], by simp [h1], by simpa using h2.symm, by rw [hscan, h1, hall t ht]⟩
    | cons c0 cs =>
      refine Or.inl ⟨c0 :: cs, by simp, h1, h2, ?_⟩
      rw [hscan, h1, cont_all rep t (c0 :: cs) ht, cont_stop rep _ (fun v tl hv => ?_), Nat.add_zero]
      exact htail v (tl ++ X) (by rw [h2, hv]; rfl)

theorem refill_none {c : ColV α} (h : refill c = none) : c.buf = [] ∧ c.src = [] := by
  unfold refill at h
  cases hb : c.buf with
  | nil =>
    cases hs : c.src with
    | nil => exact ⟨rfl, rfl⟩
    | cons b rest => simp [hb, hs] at h
  | cons _ _ => simp [hb] at h

theorem refill_some {c c1 : ColV α} (hne : ∀ b ∈ c.src, b ≠ []) (h : refill c = some c1) :
    c1.stream = c.stream ∧ c1.buf ≠ [] ∧ (∀ b ∈ c1.src, b ≠ []) ∧
    c1.src.length + (if c.buf = [] then 1 else 0) = c.src.length := by
  unfold refill at h
  cases hb : c.buf with
  | nil =>
    cases hs : c.src with
    | nil => simp [hb, hs] at h
    | cons b rest =>
      simp only [hb, hs, Option.some.injEq] at h
      subst h
      exact ⟨by simp [ColV.stream, hb, hs], hne b (by simp [hs]), fun b' hb' => hne b' (by simp [hs, hb']), by simp⟩
  | cons x xs =>
    simp only [hb, Option.some.injEq] at h
    subst h
    exact ⟨rfl, by simp [hb], hne, by simp⟩

theorem rowLoop_eof (fuel : Nat) (c : ColV α) (nv : Nat) (acc : List α) (h : c.stream = [])
    (hne : ∀ b ∈ c.src, b ≠ []) :
    rowLoop rep (fuel + 1) c nv acc = (c, acc, true) := by
  cases hr : refill c with
  | none => simp only [rowLoop, hr]
  | some c1 =>
    obtain ⟨hst, hB, _⟩ := refill_some hne hr
    rw [h] at hst
    exact absurd (List.append_eq_nil_iff.mp hst).1 hB

/-- the loop of one row: the column's stream is `hd ++ t ++ tail` with `hd` the `nv ≤ 1` values
    taken unconditionally, `t` continuation values, and `tail` starting a row (or empty); the loop
    appends exactly `hd ++ t` and leaves the column on `tail`, whatever the batching -/
theorem rowLoop_spec : ∀ (fuel : Nat) (c : ColV α) (hd t tail acc : List α),
    c.stream = hd ++ t ++ tail → hd.length ≤ 1 → (∀ x ∈ t, rep x ≠ 0) → StartsRow rep tail →
    (∀ b ∈ c.src, b ≠ []) → c.src.length + (if c.buf = [] then 1 else 2) ≤ fuel →
    (rowLoop rep fuel c hd.length acc).2.1 = acc ++ hd ++ t ∧
    (rowLoop rep fuel c hd.length acc).1.stream = tail ∧
    (∀ b ∈ (rowLoop rep fuel c hd.length acc).1.src, b ≠ []) ∧
    (rowLoop rep fuel c hd.length acc).1.src.length ≤ c.src.length ∧
    ((rowLoop rep fuel c hd.length acc).2.2 = true → tail = [])
  | 0, c, _, _, _, _, _, _, _, _, _, hf => by split at hf <;> omega
  | fuel + 1, c, hd, t, tail, acc, hs, hh, ht, htail, hne, hf => by
    cases hr : refill c with
    | none =>
      obtain ⟨hb, hsrc⟩ := refill_none hr
      have hst : c.stream = [] := by simp [ColV.stream, hb, hsrc]
      rw [hst, List.nil_eq, List.append_eq_nil_iff, List.append_eq_nil_iff] at hs
      obtain ⟨⟨rfl, rfl⟩, rfl⟩ := hs
      simp only [rowLoop, hr]
      exact ⟨by simp, hst, hne, Nat.le_refl _, by simp⟩
    | some c1 =>
      obtain ⟨hst, hB, hne1, hlen1⟩ := refill_some hne hr
      have hf1 : c1.src.length + 2 ≤ fuel + 1 := by
        by_cases hb : c.buf = []
        · rw [if_pos hb] at hf hlen1; omega
        · rw [if_neg hb] at hf hlen1; omega
      have hle1 : c1.src.length ≤ c.src.length := by omega
      have hsplit : ∃ B', c1.buf = hd ++ B' ∧ B' ++ c1.src.flatten = t ++ tail := by
        rw [← hst, ColV.stream] at hs
        match hd, hh with
        | [], _ => exact ⟨c1.buf, by simp, by simpa using hs⟩
        | [v], _ =>
          cases hb1 : c1.buf with
          | nil => exact absurd hb1 hB
          | cons b0 B'' =>
            rw [hb1] at hs
            simp only [List.cons_append, List.nil_append, List.cons.injEq] at hs
            exact ⟨B'', by rw [hs.1]; rfl, hs.2⟩
        | _ :: _ :: _, hh => simp at hh
      obtain ⟨B', hbuf, hrest⟩ := hsplit
      simp only [rowLoop, hr]
      rcases scan_split rep hd B' c1.src.flatten t tail hrest ht htail with
        ⟨rest, hrne, rfl, rfl, hsc⟩ | ⟨t2, ht2, hX, hsc⟩
      · -- the row ends inside the buffer
        rw [hbuf, hsc]
        by_cases h0 : hd.length + t.length = 0
        · have hd0 : hd = [] := List.eq_nil_of_length_eq_zero (Nat.eq_zero_of_add_eq_zero h0).1
          have t0 : t = [] := List.eq_nil_of_length_eq_zero (Nat.eq_zero_of_add_eq_zero h0).2
          subst hd0; subst t0
          rw [if_pos h0]
          exact ⟨by simp, by simpa [ColV.stream] using congrArg (· ++ c1.src.flatten) hbuf, hne1, hle1,
            fun h => by cases h⟩
        · have hne' : hd.length + t.length ≠ (hd ++ (t ++ rest)).length := by
            have := List.length_pos_iff.mpr hrne
            simp only [List.length_append]; omega
          rw [if_neg h0, if_pos hne', ← List.append_assoc hd t rest, List.take_left' List.length_append,
            List.drop_left' List.length_append]
          exact ⟨(List.append_assoc _ _ _).symm, rfl, hne1, hle1, fun h => by cases h⟩
      · -- the whole buffer belongs to the row: go on with the next batch
        rw [hbuf, hsc]
        have h0 : hd.length + B'.length ≠ 0 := fun h =>
          hB (hbuf ▸ List.eq_nil_of_length_eq_zero (List.length_append ▸ h))
        rw [if_neg h0]
        have heq : ¬ (hd.length + B'.length ≠ (hd ++ B').length) := by simp
        rw [if_neg heq]
        have hrec := rowLoop_spec fuel ⟨[], c1.src⟩ [] t2 tail
          (acc ++ (hd ++ B').take (hd.length + B'.length))
          (by simp [ColV.stream, hX]) (by simp) (fun x hx => ht x (by rw [ht2]; simp [hx])) htail hne1
          (by simp only [if_true]; omega)
        simp only [List.length_nil] at hrec
        obtain ⟨r1, r2, r3, r4, r5⟩ := hrec
        refine ⟨?_, r2, r3, Nat.le_trans r4 hle1, r5⟩
        rw [r1, List.take_of_length_le (by simp), ht2]
        simp [List.append_assoc]

theorem read_row (c : ColV α) (r : List α) (rs : List (List α)) (hr : RowWF rep r) (hrs : ∀ x ∈ rs, RowWF rep x)
    (hs : c.stream = (r :: rs).flatten) (hne : ∀ b ∈ c.src, b ≠ []) :
    (rowLoop rep (c.src.length + 2) c 1 []).2.1 = r ∧
    (rowLoop rep (c.src.length + 2) c 1 []).1.stream = rs.flatten ∧
    (∀ b ∈ (rowLoop rep (c.src.length + 2) c 1 []).1.src, b ≠ []) := by
  obtain ⟨v, t, rfl, _, ht⟩ := hr
  have := rowLoop_spec rep (c.src.length + 2) c [v] t rs.flatten []
    (by rw [hs]; simp) (by simp) ht (startsRow_flatten rep rs hrs) hne (by split <;> omega)
  obtain ⟨a, b, c', _, _⟩ := this
  exact ⟨by simpa using a, b, c'⟩

theorem rowCount_replicate (k : Nat) : rowCount (List.replicate k ([] : List α)) = 0 := by
  induction k with
  | zero => rfl
  | succ k ih => simp [List.replicate_succ, rowCount, ih]

theorem rowCount_rows (rows : List (List α)) (k : Nat) (h : ∀ r ∈ rows, r ≠ []) :
    rowCount (rows ++ List.replicate k []) = rows.length := by
  induction rows with
  | nil => simpa using rowCount_replicate k
  | cons r rs ih =>
    have ih' := ih (fun x hx => h x (by simp [hx]))
    simp only [List.cons_append, rowCount, ih', List.length_cons]
    split
    · rename_i h0
      simp [h r (by simp), h0]
    · rfl

theorem colRows_spec : ∀ (n : Nat) (c : ColV α) (rows : List (List α)), (∀ r ∈ rows, RowWF rep r) →
    c.stream = rows.flatten → (∀ b ∈ c.src, b ≠ []) →
    (colRows rep n c).2 = rows.take n ++ List.replicate (n - rows.length) [] ∧
    (colRows rep n c).1.stream = (rows.drop n).flatten ∧ (∀ b ∈ (colRows rep n c).1.src, b ≠ [])
  | 0, c, rows, _, hs, hne => ⟨by simp [colRows], by simpa [colRows] using hs, hne⟩
  | n + 1, c, [], _, hs, hne => by
    have h1 : rowLoop rep (c.src.length + 2) c 1 [] = (c, [], true) :=
      rowLoop_eof rep _ c 1 [] (by simpa using hs) hne
    obtain ⟨a, c', d⟩ := colRows_spec n c [] (by simp) hs hne
    simp only [colRows, h1]
    exact ⟨by rw [a]; simp [List.replicate_succ], by simpa using c', d⟩
  | n + 1, c, r :: rs, hwf, hs, hne => by
    obtain ⟨hr, hrs⟩ := List.forall_mem_cons.mp hwf
    obtain ⟨a1, a2, a3⟩ := read_row rep c r rs hr hrs hs hne
    obtain ⟨b1, b3, b4⟩ := colRows_spec n (rowLoop rep (c.src.length + 2) c 1 []).1 rs hrs a2 a3
    simp only [colRows]
    exact ⟨by rw [a1, b1]; simp, by simpa using b3, b4⟩

theorem read_rows_values : ∀ (n : Nat) (c : ColV α) (rows : List (List α)), (∀ r ∈ rows, RowWF rep r) →
    c.stream = rows.flatten → (∀ b ∈ c.src, b ≠ []) →
    (colRows rep n c).2 = rows.take n ++ List.replicate (n - rows.length) [] ∧
    rowCount (colRows rep n c).2 = min n rows.length ∧
    (colRows rep n c).1.stream = (rows.drop n).flatten ∧ (∀ b ∈ (colRows rep n c).1.src, b ≠ []) := by
  intro n c rows hwf hs hne
  obtain ⟨h1, h2, h3⟩ := colRows_spec rep n c rows hwf hs hne
  refine ⟨h1, ?_, h2, h3⟩
  -- the rows delivered are not empty, the padding is: the count is the number of rows delivered
  rw [h1, rowCount_rows _ _ (fun x hx => ?_), List.length_take]
  obtain ⟨v, t, rfl, _, _⟩ := hwf x (List.mem_of_mem_take hx)
  exact List.cons_ne_nil _ _

/-- rows `[0,1,1] [0] [0,1]` (repetition levels) delivered as `[0,1] [1,0,0] [1]`: rows span batches -/
def demo : ColV Nat := { buf := [], src := [[0, 1], [1, 0, 0], [1]] }

example : (colRows id 2 demo).2 = [[0, 1, 1], [0]] := by decide
example : (colRows id 5 demo).2 = [[0, 1, 1], [0], [0, 1], [], []] := by decide
example : rowCount (colRows id 5 demo).2 = 3 := by decide
example : ∀ r ∈ [[0, 1, 1], [0], [0, 1]], RowWF id r := by
  intro r hr
  simp at hr
  rcases hr with rfl | rfl | rfl
  · exact ⟨0, [1, 1], rfl, rfl, by decide⟩
  · exact ⟨0, [], rfl, rfl, by decide⟩
  · exact ⟨0, [1], rfl, rfl, by decide⟩

end PqModel.ReadRowsValues
