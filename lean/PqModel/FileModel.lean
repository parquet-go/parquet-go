import PqModel.DremelLevels
import PqModel.Pages
import PqModel.Plain

/-! # File model for C01: a nondeterministic writer and a reader

SPEC side (written from the Dremel paper / the Parquet format documents and the property text, not
from the Go code). The writer is *nondeterministic in every heuristic choice*: how the rows are
partitioned into row groups, where each column chunk is cut into pages, how many leading pages of a
chunk are dictionary-encoded before the column falls back to its plain value encoding, and which
codecs are used, are all parameters. The codecs (level codec, value codec, dictionary page codec,
dictionary index codec, compressor) are abstract functions with explicit round-trip hypotheses
(`ColCodec.OK`); `Props/C01.lean` instantiates them with the concrete C04 functions.

    rows --shredN--> per-row column segments --concatenate--> per-column streams of triples
         --partition into row groups--> per row group, per column: cut into pages
         --page = (num_values, rep levels, def levels, non-null values)--> encoded/compressed

The reader decodes every page, concatenates per column within and across row groups, splits the
column streams back into rows at `rep = 0` and assembles every row with `asmN`.

From `TripleOK` on the file is the round-trip chain page → chunk → columns → row groups → file
(`readFileWith_writeFile_on`), in the generality of codecs with page limits (`ColCodec.OKOn`, `pagesOK`).
`levelsN` is `DremelLevels.boundsN` with the pair swapped (`levelsN_eq_boundsN`); the level lemmas of the
two files share names and differ in content (`LvOK`: conforming values, value present iff `dfn` maximal). -/
namespace PqModel.FileModel
open PqModel.Dremel PqModel.Pages PqModel.Plain

mutual
/-- SPEC: (max repetition level, max definition level) of every leaf column, in leaf order, below a
    node reached at repetition depth `k` and definition level `d`. -/
def levelsN : Node → (k d : Nat) → List (Nat × Nat)
  | .leaf, k, d => [(k, d)]
  | .group fs, k, d => levelsF fs k d
  | .opt n, k, d => levelsN n k (d + 1)
  | .rpt n, k, d => levelsN n (k + 1) (d + 1)
def levelsF : Fields → (k d : Nat) → List (Nat × Nat)
  | .nil, _, _ => []
  | .cons n fs, k, d => levelsN n k d ++ levelsF fs k d
end

/-- every max level of the schema is at most `B` (decidable; `B = 255` for byte-wide RLE levels) -/
def levelsBounded (B : Nat) (n : Node) : Bool :=
  (levelsN n 0 0).all fun lv => decide (lv.1 ≤ B) && decide (lv.2 ≤ B)

/-- a data page before it is packed for storage: header value count, the three encoded sections,
    and whether the value section holds dictionary indexes (RLE_DICTIONARY) or the column's value
    encoding -/
structure Page (β : Type) where
  nvals : Nat
  reps : β
  defs : β
  isDict : Bool
  vals : β

/-- The codecs of one column. `β` is the type of encoded byte sections, `γ` of stored pages.
    * `encL m` / `decL m cnt`: level codec for levels `≤ m`; the decoder is told the value count of
      the page header (as a Parquet page reader is);
    * `encV` / `decV cnt`: the column's value encoding (PLAIN, DELTA_*, …) on the non-null values;
    * `encD` / `decD cnt`: encoding of the dictionary page (PLAIN in Parquet);
    * `encI` / `decI cnt`: encoding of dictionary indexes (RLE_DICTIONARY), for indexes `< dictLimit`;
    * `comp` / `decomp`: the compressor, as applied to the dictionary page (`id`/`some` when the
      column is uncompressed);
    * `pack` / `unpack`: how a data page is laid out for storage: header, and the compressor over
      the whole body (data page v1), over the value section only (v2), or not at all;
    * `okV`: the value domain of the column's physical type (e.g. `x < 2^64` for INT64). -/
structure ColCodec (β γ : Type) where
  encL : Nat → List Nat → β
  decL : Nat → Nat → β → Option (List Nat)
  okV : Nat → Bool
  encV : List Nat → β
  decV : Nat → β → Option (List Nat)
  encD : List Nat → β
  decD : Nat → β → Option (List Nat)
  dictLimit : Nat
  encI : List Nat → β
  decI : Nat → β → Option (List Nat)
  comp : β → β
  decomp : β → Option β
  pack : Page β → γ
  unpack : γ → Option (Page β)

/-- The round-trip hypotheses on a column's codecs; `B` bounds the levels the level codec must
    handle. These are exactly the shapes of the C04 theorems. -/
structure ColCodec.OK {β γ : Type} (c : ColCodec β γ) (B : Nat) : Prop where
  lvl : ∀ m xs, m ≤ B → (∀ x ∈ xs, x ≤ m) → c.decL m xs.length (c.encL m xs) = some xs
  val : ∀ xs, (∀ x ∈ xs, c.okV x = true) → c.decV xs.length (c.encV xs) = some xs
  dct : ∀ xs, (∀ x ∈ xs, c.okV x = true) → c.decD xs.length (c.encD xs) = some xs
  idx : ∀ xs, (∀ x ∈ xs, x < c.dictLimit) → c.decI xs.length (c.encI xs) = some xs
  cmp : ∀ b, c.decomp (c.comp b) = some b
  pg : ∀ p, c.unpack (c.pack p) = some p

/-- The same hypotheses restricted to ADMISSIBLE pages, for codecs with a size limit of the format:
    `okP xs` says the value list `xs` of one page is admissible for the value encoding (e.g. the RLE
    boolean body fits the 4-byte length prefix), `okS reps defs` that the two encoded level sections
    are admissible for the storage framing (data page v1: each fits its 4-byte length prefix),
    `okN k` that a page may hold `k` levels / `k` values (the page header's `num_values` is an
    `int32`, and the Go RLE decoders refuse runs longer than `MaxInt32`).
    `ColCodec.OK` is the case where every page is admissible (`OK.toOn`). -/
structure ColCodec.OKOn {β γ : Type} (c : ColCodec β γ) (B : Nat) (okN : Nat → Bool)
    (okP : List Nat → Bool) (okS : β → β → Bool) : Prop where
  lvl : ∀ m xs, m ≤ B → (∀ x ∈ xs, x ≤ m) → okN xs.length = true → c.decL m xs.length (c.encL m xs) = some xs
  val : ∀ xs, (∀ x ∈ xs, c.okV x = true) → okP xs = true → c.decV xs.length (c.encV xs) = some xs
  dct : ∀ xs, (∀ x ∈ xs, c.okV x = true) → c.decD xs.length (c.encD xs) = some xs
  idx : ∀ xs, (∀ x ∈ xs, x < c.dictLimit) → okN xs.length = true → c.decI xs.length (c.encI xs) = some xs
  cmp : ∀ b, c.decomp (c.comp b) = some b
  pg : ∀ p : Page β, okS p.reps p.defs = true → c.unpack (c.pack p) = some p

theorem ColCodec.OK.toOn {β γ : Type} {c : ColCodec β γ} {B : Nat} (h : c.OK B) :
    c.OKOn B (fun _ => true) (fun _ => true) (fun _ _ => true) :=
  ⟨fun m xs hm hx _ => h.lvl m xs hm hx, fun xs hx _ => h.val xs hx, h.dct, fun xs hx _ => h.idx xs hx, h.cmp,
    fun p _ => h.pg p⟩

/-- a column chunk: optional dictionary page (entry count, stored bytes) and the data pages -/
structure Chunk (β γ : Type) where
  dict : Option (Nat × β)
  pages : List γ

/-- the writer's free choices for one column chunk: where to cut pages (`cutAt` semantics: successive
    page lengths in triples, the remainder is the last page) and how many leading pages are
    dictionary-encoded before the column falls back to its value encoding (0 = no dictionary) -/
structure ChunkCfg where
  cuts : List Nat
  dictPages : Nat
deriving Inhabited

/-- the writer's free choices for one row group: its row count and the per-column choices -/
structure GroupCfg where
  rows : Nat
  col : Nat → ChunkCfg

def pageVals (p : List Triple) : List Nat := p.filterMap (·.val)

def mkPage {β γ} (c : ColCodec β γ) (lv : Nat × Nat) (p : List Triple) (isDict : Bool) (body : β) : Page β :=
  { nvals := p.length
    reps := c.encL lv.1 (p.map (·.rep))
    defs := c.encL lv.2 (p.map (·.dfn))
    isDict := isDict
    vals := body }

def plainPage {β γ} (c : ColCodec β γ) (lv : Nat × Nat) (p : List Triple) : γ :=
  c.pack (mkPage c lv p false (c.encV (pageVals p)))

/-- Encode the pages of a chunk. `d` is the dictionary built so far (it only grows, first-occurrence
    order: `insertAll`), `k` the number of pages still to be dictionary-encoded. The column falls
    back to the value encoding for the REST of the chunk when `k` runs out (any choice of the
    caller) or when the dictionary would exceed `dictLimit` entries. Returns the pages and the final
    dictionary. -/
def encPages {β γ} (c : ColCodec β γ) (lv : Nat × Nat) : List Nat → Nat → List (List Triple) → List γ × List Nat
  | d, _, [] => ([], d)
  | d, 0, p :: ps => ((p :: ps).map (plainPage c lv), d)
  | d, k + 1, p :: ps =>
    let ins := insertAll d (pageVals p)
    if ins.1.length ≤ c.dictLimit then
      let r := encPages c lv ins.1 k ps
      (c.pack (mkPage c lv p true (c.encI ins.2)) :: r.1, r.2)
    else ((p :: ps).map (plainPage c lv), d)

def writeChunk {β γ} (c : ColCodec β γ) (lv : Nat × Nat) (cfg : ChunkCfg) (s : List Triple) : Chunk β γ :=
  let r := encPages c lv [] cfg.dictPages (cutAt cfg.cuts s)
  { dict := if cfg.dictPages = 0 then none else some (r.2.length, c.comp (c.encD r.2))
    pages := r.1 }

def writeCols {β γ} (cd : Nat → ColCodec β γ) (cfg : Nat → ChunkCfg) : Nat → List (Nat × Nat) → Cols → List (Chunk β γ)
  | j, lv :: lvs, s :: ss => writeChunk (cd j) lv (cfg j) s :: writeCols cd cfg (j + 1) lvs ss
  | _, _, _ => []

/-- the column streams of a list of rows: per column, the concatenation of the rows' segments -/
def colStreams (n : Node) (rows : List Val) : Cols :=
  joinSegs (leavesN n) (rows.map (shredN n 0 0 0))

/-- ANY partition of the rows into row groups: group `i` takes `gs[i].rows` rows (fewer if the rows
    run out); rows left over when the list ends form a last group with default choices
    (`ChunkCfg` default: no cuts = one page per chunk, no dictionary). -/
def partitionRows : List GroupCfg → List Val → List ((Nat → ChunkCfg) × List Val)
  | [], [] => []
  | [], r :: rs => [(fun _ => default, r :: rs)]
  | g :: gs, rows => (g.col, rows.take g.rows) :: partitionRows gs (rows.drop g.rows)

abbrev File (β γ : Type) := List (List (Chunk β γ))

def writeFile {β γ} (n : Node) (cd : Nat → ColCodec β γ) (gs : List GroupCfg) (rows : List Val) : File β γ :=
  (partitionRows gs rows).map fun g => writeCols cd g.1 0 (levelsN n 0 0) (colStreams n g.2)

def pageAligned : List Triple → Bool
  | [] => true
  | t :: _ => t.rep == 0

def colsAligned (cfg : Nat → ChunkCfg) : Nat → Cols → Bool
  | _, [] => true
  | j, s :: ss => (cutAt (cfg j).cuts s).all pageAligned && colsAligned cfg (j + 1) ss

/-- every page of every chunk of every row group starts at a row boundary -/
def cutsAligned (n : Node) (gs : List GroupCfg) (rows : List Val) : Bool :=
  (partitionRows gs rows).all fun g => colsAligned g.1 0 (colStreams n g.2)

/-- every leaf value of column `j` lies in the value domain `ok j` of that column -/
def valsIn (ok : Nat → Nat → Bool) : Nat → Cols → Bool
  | _, [] => true
  | j, c :: cs =>
    c.all (fun t => match t.val with | some x => ok j x | none => true) && valsIn ok (j + 1) cs

/-- page `p` of a column with levels `lv` is admissible: its value list for the value encoding,
    its two encoded level sections for the storage framing -/
def pageOK {β γ} (c : ColCodec β γ) (okN : Nat → Bool) (okP : List Nat → Bool) (okS : β → β → Bool)
    (lv : Nat × Nat) (p : List Triple) : Bool :=
  okP (p.filterMap (·.val)) && okS (c.encL lv.1 (p.map (·.rep))) (c.encL lv.2 (p.map (·.dfn))) &&
    (okN p.length && okN (p.filterMap (·.val)).length)

def colsPagesOK {β γ} (cd : Nat → ColCodec β γ) (nk : Nat → Bool) (pk : Nat → List Nat → Bool) (sk : Nat → β → β → Bool)
    (cfg : Nat → ChunkCfg) : Nat → List (Nat × Nat) → Cols → Bool
  | j, lv :: lvs, s :: ss =>
    (cutAt (cfg j).cuts s).all (pageOK (cd j) nk (pk j) (sk j) lv) && colsPagesOK cd nk pk sk cfg (j + 1) lvs ss
  | _, _, _ => true

/-- every page of every chunk of every row group the writer produces is admissible (decidable: it
    runs the writer's cuts) -/
def pagesOK {β γ} (n : Node) (cd : Nat → ColCodec β γ) (nk : Nat → Bool) (pk : Nat → List Nat → Bool) (sk : Nat → β → β → Bool)
    (gs : List GroupCfg) (rows : List Val) : Bool :=
  (partitionRows gs rows).all fun g => colsPagesOK cd nk pk sk g.1 0 (levelsN n 0 0) (colStreams n g.2)

theorem colsPagesOK_true {β γ} (cd : Nat → ColCodec β γ) (cfg : Nat → ChunkCfg) :
    ∀ (lvs : List (Nat × Nat)) (ss : Cols) (j : Nat),
    colsPagesOK cd (fun _ => true) (fun _ _ => true) (fun _ _ _ => true) cfg j lvs ss = true
  | [], _, _ => by simp [colsPagesOK]
  | _ :: _, [], _ => by simp [colsPagesOK]
  | lv :: lvs, s :: ss, j => by
    simp only [colsPagesOK, Bool.and_eq_true, List.all_eq_true]
    exact ⟨fun p _ => by simp [pageOK], colsPagesOK_true cd cfg lvs ss (j + 1)⟩

/-- rebuild the triples of a page from its levels and its non-null values: a value is present
    exactly where the definition level is the column's maximum -/
def mkTriples (md : Nat) : List Nat → List Nat → List Nat → Option (List Triple)
  | [], [], [] => some []
  | r :: rs, d :: ds, vs =>
    if d = md then
      match vs with
      | v :: vs' => (mkTriples md rs ds vs').map (⟨some v, r, d⟩ :: ·)
      | [] => none
    else (mkTriples md rs ds vs).map (⟨none, r, d⟩ :: ·)
  | _, _, _ => none

def lookupAll (D : List Nat) : List Nat → Option (List Nat)
  | [] => some []
  | i :: is =>
    match D[i]?, lookupAll D is with
    | some v, some vs => some (v :: vs)
    | _, _ => none

/-- decode one page; with `strict` a page that does not start at a row boundary is rejected -/
def readPage {β γ} (strict : Bool) (c : ColCodec β γ) (lv : Nat × Nat) (D : List Nat) (g : γ) :
    Option (List Triple) :=
  (c.unpack g).bind fun pg =>
  (c.decL lv.1 pg.nvals pg.reps).bind fun reps =>
  (c.decL lv.2 pg.nvals pg.defs).bind fun defs =>
  (if pg.isDict then (c.decI (defs.filter (· == lv.2)).length pg.vals).bind (lookupAll D)
   else c.decV (defs.filter (· == lv.2)).length pg.vals).bind fun vals =>
  (mkTriples lv.2 reps defs vals).bind fun p =>
  if !strict || pageAligned p then some p else none

def readChunk {β γ} (strict : Bool) (c : ColCodec β γ) (lv : Nat × Nat) (ch : Chunk β γ) : Option (List Triple) :=
  (match ch.dict with
   | none => some []
   | some (cnt, b) => (c.decomp b).bind (c.decD cnt)).bind fun D =>
  readPages (readPage strict c lv D) ch.pages

def readCols {β γ} (strict : Bool) (cd : Nat → ColCodec β γ) : Nat → List (Nat × Nat) → List (Chunk β γ) → Option Cols
  | _, [], [] => some []
  | j, lv :: lvs, ch :: chs =>
    match readChunk strict (cd j) lv ch, readCols strict cd (j + 1) lvs chs with
    | some a, some b => some (a :: b)
    | _, _ => none
  | _, _, _ => none

def readGroups {β γ} (strict : Bool) (n : Node) (cd : Nat → ColCodec β γ) : File β γ → Option (List Cols)
  | [] => some []
  | g :: gs =>
    match readCols strict cd 0 (levelsN n 0 0) g, readGroups strict n cd gs with
    | some a, some b => some (a :: b)
    | _, _ => none

/-- split the file's column streams into rows: the row count is the number of `rep = 0` entries of
    the first column, each row's segment in each column runs to the next `rep = 0` -/
def splitRows (cols : Cols) : List Cols := splitAll 0 (countElems 0 cols) cols

def readFileWith {β γ} (strict : Bool) (n : Node) (cd : Nat → ColCodec β γ) (f : File β γ) : Option (List Val) :=
  (readGroups strict n cd f).map fun gcols =>
    (splitRows (joinSegs (leavesN n) gcols)).map (asmN n 0 0)

/-- the reader that insists on pages starting at row boundaries -/
def readFile {β γ} (n : Node) (cd : Nat → ColCodec β γ) (f : File β γ) : Option (List Val) :=
  readFileWith true n cd f

/-- what the writer knows about every triple of column with levels `lv` and codec `c` -/
def TripleOK {β γ} (c : ColCodec β γ) (lv : Nat × Nat) (t : Triple) : Prop :=
  t.rep ≤ lv.1 ∧ t.dfn ≤ lv.2 ∧ (t.val.isSome = true ↔ t.dfn = lv.2) ∧ ∀ x, t.val = some x → c.okV x = true

def StreamOK {β γ} (c : ColCodec β γ) (lv : Nat × Nat) (s : List Triple) : Prop := ∀ t ∈ s, TripleOK c lv t

section
variable {β γ : Type} {c : ColCodec β γ} {lv : Nat × Nat} {t : Triple}
theorem TripleOK.rep_le (h : TripleOK c lv t) : t.rep ≤ lv.1 := h.1
theorem TripleOK.def_le (h : TripleOK c lv t) : t.dfn ≤ lv.2 := h.2.1
theorem TripleOK.val_iff (h : TripleOK c lv t) : t.val.isSome = true ↔ t.dfn = lv.2 := h.2.2.1
theorem TripleOK.val_ok (h : TripleOK c lv t) : ∀ x, t.val = some x → c.okV x = true := h.2.2.2
end

theorem pageOK_parts {β γ} {c : ColCodec β γ} {okN : Nat → Bool} {okP : List Nat → Bool} {okS : β → β → Bool}
    {lv : Nat × Nat} {p : List Triple} (h : pageOK c okN okP okS lv p = true) :
    okP (pageVals p) = true ∧ okS (c.encL lv.1 (p.map (·.rep))) (c.encL lv.2 (p.map (·.dfn))) = true ∧
      okN p.length = true ∧ okN (pageVals p).length = true := by
  simp only [pageOK, Bool.and_eq_true] at h
  exact ⟨h.1.1, h.1.2, h.2.1, h.2.2⟩

theorem count_defs (md : Nat) : ∀ (p : List Triple), (∀ t ∈ p, (t.val.isSome = true ↔ t.dfn = md)) →
    ((p.map (·.dfn)).filter (· == md)).length = (pageVals p).length
  | [], _ => rfl
  | t :: p, h => by
    have ih := count_defs md p (fun u hu => h u (by simp [hu]))
    have ht := h t (by simp)
    simp only [pageVals] at ih ⊢
    cases hv : t.val with
    | none =>
      have : ¬ t.dfn = md := fun e => by have := ht.2 e; simp [hv] at this
      simp [hv, this, ih]
    | some x =>
      have : t.dfn = md := ht.1 (by simp [hv])
      simp [hv, this, ih]

theorem mkTriples_self (md : Nat) : ∀ (p : List Triple), (∀ t ∈ p, (t.val.isSome = true ↔ t.dfn = md)) →
    mkTriples md (p.map (·.rep)) (p.map (·.dfn)) (pageVals p) = some p
  | [], _ => rfl
  | t :: p, h => by
    have ih := mkTriples_self md p (fun u hu => h u (by simp [hu]))
    have ht := h t (by simp)
    obtain ⟨v, r, d⟩ := t
    cases v with
    | none =>
      have : ¬ d = md := fun e => by have := ht.2 e; simp at this
      simp only [pageVals, List.map_cons, List.filterMap_cons, mkTriples] at ih ⊢
      rw [if_neg this, ih]; rfl
    | some x =>
      have : d = md := ht.1 (by simp)
      simp only [pageVals, List.map_cons, List.filterMap_cons, mkTriples] at ih ⊢
      rw [if_pos this, ih]; rfl

theorem pageVals_ok {β γ} {c : ColCodec β γ} {lv : Nat × Nat} {p : List Triple} (hp : StreamOK c lv p) :
    ∀ x ∈ pageVals p, c.okV x = true := by
  intro x hx
  simp only [pageVals, List.mem_filterMap] at hx
  obtain ⟨t, ht, hv⟩ := hx
  exact (hp t ht).val_ok x hv

theorem readPage_mkPage {β γ} {c : ColCodec β γ} {B : Nat} {okN : Nat → Bool} {okP : List Nat → Bool} {okS : β → β → Bool}
    (hc : c.OKOn B okN okP okS) {lv : Nat × Nat}
    (h1 : lv.1 ≤ B) (h2 : lv.2 ≤ B) (strict : Bool) (D : List Nat) (p : List Triple)
    (hp : StreamOK c lv p) (hq : pageOK c okN okP okS lv p = true) (ha : strict = true → pageAligned p = true)
    (isD : Bool) (body : β)
    (hbody : (if isD then (c.decI (pageVals p).length body).bind (lookupAll D)
      else c.decV (pageVals p).length body) = some (pageVals p)) :
    readPage strict c lv D (c.pack (mkPage c lv p isD body)) = some p := by
  obtain ⟨_, hokS, hokN, _⟩ := pageOK_parts hq
  have hr : c.decL lv.1 p.length (c.encL lv.1 (p.map (·.rep))) = some (p.map (·.rep)) := by
    simpa using hc.lvl lv.1 (p.map (·.rep)) h1 (List.forall_mem_map.mpr fun t ht => (hp t ht).rep_le)
      (by simpa using hokN)
  have hd : c.decL lv.2 p.length (c.encL lv.2 (p.map (·.dfn))) = some (p.map (·.dfn)) := by
    simpa using hc.lvl lv.2 (p.map (·.dfn)) h2 (List.forall_mem_map.mpr fun t ht => (hp t ht).def_le)
      (by simpa using hokN)
  have hcnt := count_defs lv.2 p (fun t ht => (hp t ht).val_iff)
  simp only [readPage, hc.pg (mkPage c lv p isD body) hokS, Option.bind_some]
  simp only [mkPage, Option.bind_some, hr, hd, hcnt, hbody, mkTriples_self lv.2 p (fun t ht => (hp t ht).val_iff)]
  cases strict with
  | false => simp
  | true => simp [ha rfl]

theorem readPage_plain {β γ} {c : ColCodec β γ} {B : Nat} {okN : Nat → Bool} {okP : List Nat → Bool} {okS : β → β → Bool}
    (hc : c.OKOn B okN okP okS) {lv : Nat × Nat}
    (h1 : lv.1 ≤ B) (h2 : lv.2 ≤ B) (strict : Bool) (D : List Nat) (p : List Triple)
    (hp : StreamOK c lv p) (hq : pageOK c okN okP okS lv p = true) (ha : strict = true → pageAligned p = true) :
    readPage strict c lv D (plainPage c lv p) = some p := by
  obtain ⟨hokP, _, _, _⟩ := pageOK_parts hq
  exact readPage_mkPage hc h1 h2 strict D p hp hq ha false _ (hc.val _ (pageVals_ok hp) hokP)

theorem readPage_dict {β γ} {c : ColCodec β γ} {B : Nat} {okN : Nat → Bool} {okP : List Nat → Bool} {okS : β → β → Bool}
    (hc : c.OKOn B okN okP okS) {lv : Nat × Nat}
    (h1 : lv.1 ≤ B) (h2 : lv.2 ≤ B) (strict : Bool) (D : List Nat) (p : List Triple)
    (hp : StreamOK c lv p) (hq : pageOK c okN okP okS lv p = true)
    (ha : strict = true → pageAligned p = true) (idx : List Nat)
    (hlen : idx.length = (pageVals p).length) (hlim : ∀ i ∈ idx, i < c.dictLimit)
    (hlook : lookupAll D idx = some (pageVals p)) :
    readPage strict c lv D (c.pack (mkPage c lv p true (c.encI idx))) = some p := by
  obtain ⟨_, _, _, hokNv⟩ := pageOK_parts hq
  have hn : okN idx.length = true := hlen ▸ hokNv
  exact readPage_mkPage hc h1 h2 strict D p hp hq ha true _
    (by rw [if_pos rfl, ← hlen, hc.idx idx hlim hn, Option.bind_some, hlook])

theorem getElem?_of_prefix {α} {d D : List α} (h : d <+: D) {i : Nat} {v : α} (hv : d[i]? = some v) :
    D[i]? = some v := by
  obtain ⟨e, rfl⟩ := h
  rw [List.getElem?_append_left (ListFacts.lt_of_getElem?_eq_some hv), hv]

theorem lookupAll_of_map {d D : List Nat} (h : d <+: D) : ∀ (idx xs : List Nat),
    idx.map (d[·]?) = xs.map some → lookupAll D idx = some xs
  | [], [], _ => rfl
  | [], _ :: _, h' => by simp at h'
  | _ :: _, [], h' => by simp at h'
  | i :: idx, x :: xs, h' => by
    simp only [List.map_cons, List.cons.injEq] at h'
    simp only [lookupAll, getElem?_of_prefix h h'.1, lookupAll_of_map h idx xs h'.2]

theorem lookup_insertAll (d xs D : List Nat) (h : (insertAll d xs).1 <+: D) :
    lookupAll D (insertAll d xs).2 = some xs :=
  lookupAll_of_map h _ _ (insertAll_lookup d xs)

theorem readPages_plain {β γ} {c : ColCodec β γ} {B : Nat} {okN : Nat → Bool} {okP : List Nat → Bool} {okS : β → β → Bool}
    (hc : c.OKOn B okN okP okS) {lv : Nat × Nat}
    (h1 : lv.1 ≤ B) (h2 : lv.2 ≤ B) (strict : Bool) (D : List Nat) : ∀ (ps : List (List Triple)),
    (∀ p ∈ ps, StreamOK c lv p) → (∀ p ∈ ps, pageOK c okN okP okS lv p = true) →
    (strict = true → ∀ p ∈ ps, pageAligned p = true) →
    readPages (readPage strict c lv D) (ps.map (plainPage c lv)) = some ps.flatten
  | [], _, _, _ => rfl
  | p :: ps, hp, hk, ha => by
    simp only [List.map_cons, readPages, List.flatten_cons,
      readPage_plain hc h1 h2 strict D p (hp p (by simp)) (hk p (by simp)) (fun hs => ha hs p (by simp)),
      readPages_plain hc h1 h2 strict D ps (fun q hq => hp q (by simp [hq]))
        (fun q hq => hk q (by simp [hq])) (fun hs q hq => ha hs q (by simp [hq]))]

-- cases of `encPages`: no page; `k = 0`; a dictionary page (limit kept) then the rest; fallback at the limit
theorem encPages_prefix {β γ} (c : ColCodec β γ) (lv : Nat × Nat) (ps : List (List Triple)) (d : List Nat) (k : Nat) :
    d <+: (encPages c lv d k ps).2 := by
  fun_induction encPages c lv d k ps with
  | case1 => exact List.prefix_refl _
  | case2 => exact List.prefix_refl _
  | case3 d k p ps ins _ r ih => exact List.IsPrefix.trans (insertAll_prefix d _) ih
  | case4 => exact List.prefix_refl _

theorem encPages_mem {β γ} (c : ColCodec β γ) (lv : Nat × Nat) (ps : List (List Triple)) (d : List Nat) (k : Nat) :
    ∀ y ∈ (encPages c lv d k ps).2, y ∈ d ∨ ∃ p ∈ ps, y ∈ pageVals p := by
  fun_induction encPages c lv d k ps with
  | case1 => exact fun y hy => Or.inl hy
  | case2 => exact fun y hy => Or.inl hy
  | case3 d k p ps ins _ r ih =>
    intro y hy
    rcases ih y hy with h | ⟨q, hq, h⟩
    · rcases Plain.mem_insertAll d _ y h with h | h
      · exact Or.inl h
      · exact Or.inr ⟨p, by simp, h⟩
    · exact Or.inr ⟨q, by simp [hq], h⟩
  | case4 => exact fun y hy => Or.inl hy

theorem readPages_encPages {β γ} {c : ColCodec β γ} {B : Nat} {okN : Nat → Bool} {okP : List Nat → Bool} {okS : β → β → Bool}
    (hc : c.OKOn B okN okP okS) {lv : Nat × Nat}
    (h1 : lv.1 ≤ B) (h2 : lv.2 ≤ B) (strict : Bool) (D : List Nat) :
    ∀ (ps : List (List Triple)) (d : List Nat) (k : Nat),
    (∀ p ∈ ps, StreamOK c lv p) → (∀ p ∈ ps, pageOK c okN okP okS lv p = true) →
    (strict = true → ∀ p ∈ ps, pageAligned p = true) →
    (encPages c lv d k ps).2 <+: D →
    readPages (readPage strict c lv D) (encPages c lv d k ps).1 = some ps.flatten := by
  intro ps d k
  fun_induction encPages c lv d k ps with
  | case1 => exact fun _ _ _ _ => rfl
  | case2 d p ps => exact fun hp hk ha _ => readPages_plain hc h1 h2 strict D (p :: ps) hp hk ha
  | case3 d k p ps ins hlim r ih =>
    intro hp hk ha hD
    have hpre : (insertAll d (pageVals p)).1 <+: D := List.IsPrefix.trans (encPages_prefix c lv ps _ k) hD
    have hpg := readPage_dict hc h1 h2 strict D p (hp p (by simp)) (hk p (by simp)) (fun hs => ha hs p (by simp))
      (insertAll d (pageVals p)).2 (insertAll_length d _)
      (fun i hi => Nat.lt_of_lt_of_le (Plain.insertAll_index_lt d _ i hi) hlim)
      (lookup_insertAll d _ D hpre)
    have ih := ih (fun q hq => hp q (by simp [hq])) (fun q hq => hk q (by simp [hq]))
      (fun hs q hq => ha hs q (by simp [hq])) hD
    simp only [readPages, ins, r, hpg, ih, List.flatten_cons]
  | case4 d k p ps => exact fun hp hk ha _ => readPages_plain hc h1 h2 strict D (p :: ps) hp hk ha

theorem readChunk_writeChunk_on {β γ} {c : ColCodec β γ} {B : Nat} {okN : Nat → Bool} {okP : List Nat → Bool} {okS : β → β → Bool}
    (hc : c.OKOn B okN okP okS) {lv : Nat × Nat}
    (h1 : lv.1 ≤ B) (h2 : lv.2 ≤ B) (strict : Bool) (cfg : ChunkCfg) (s : List Triple)
    (hs : StreamOK c lv s) (hk : (cutAt cfg.cuts s).all (pageOK c okN okP okS lv) = true)
    (ha : strict = true → (cutAt cfg.cuts s).all pageAligned = true) :
    readChunk strict c lv (writeChunk c lv cfg s) = some s := by
  have hp : ∀ p ∈ cutAt cfg.cuts s, StreamOK c lv p :=
    fun p hp t ht => hs t (mem_cutAt cfg.cuts s p hp t ht)
  have ha' : strict = true → ∀ p ∈ cutAt cfg.cuts s, pageAligned p = true :=
    fun h => List.all_eq_true.mp (ha h)
  have hk' : ∀ p ∈ cutAt cfg.cuts s, pageOK c okN okP okS lv p = true := List.all_eq_true.mp hk
  have hrd := fun D hD => readPages_encPages hc h1 h2 strict D (cutAt cfg.cuts s) [] cfg.dictPages hp hk' ha' hD
  simp only [cutAt_flatten] at hrd
  simp only [readChunk, writeChunk]
  by_cases hd0 : cfg.dictPages = 0
  · -- no dictionary page: the reader's dictionary is empty, and so is the writer's
    rw [hd0] at hrd
    have he : (encPages c lv [] 0 (cutAt cfg.cuts s)).2 = [] := by cases cutAt cfg.cuts s <;> rfl
    simp only [hd0, if_true, Option.bind_some]
    exact hrd [] (by rw [he]; exact List.prefix_refl _)
  · have hok : ∀ x ∈ (encPages c lv [] cfg.dictPages (cutAt cfg.cuts s)).2, c.okV x = true := by
      intro x hx
      rcases encPages_mem c lv _ [] _ x hx with h | ⟨p, hp', h⟩
      · simp at h
      · exact pageVals_ok (hp p hp') x h
    simp only [hd0, if_false, hc.cmp, Option.bind_some, hc.dct _ hok]
    exact hrd _ (List.prefix_refl _)

theorem readChunk_writeChunk {β γ} {c : ColCodec β γ} {B : Nat} (hc : c.OK B) {lv : Nat × Nat}
    (h1 : lv.1 ≤ B) (h2 : lv.2 ≤ B) (strict : Bool) (cfg : ChunkCfg) (s : List Triple)
    (hs : StreamOK c lv s) (ha : strict = true → (cutAt cfg.cuts s).all pageAligned = true) :
    readChunk strict c lv (writeChunk c lv cfg s) = some s :=
  readChunk_writeChunk_on hc.toOn h1 h2 strict cfg s hs
    (List.all_eq_true.mpr (fun p _ => by simp [pageOK])) ha

/-- level facts of one column against the schema's `(max rep, max def)` -/
def LvOK (lv : Nat × Nat) (c : List Triple) : Prop :=
  ∀ t ∈ c, t.rep ≤ lv.1 ∧ t.dfn ≤ lv.2 ∧ (t.val.isSome = true ↔ t.dfn = lv.2)

theorem pairs_length {α β : Type} {R : α → β → Prop} {a : List α} {b : List β} (h : Pairs R a b) :
    a.length = b.length :=
  Dremel.pairs_length h

theorem pairs_zipApp {lvs : List (Nat × Nat)} {A B : Cols} (ha : Pairs LvOK lvs A) (hb : Pairs LvOK lvs B) :
    Pairs LvOK lvs (zipApp A B) := by
  induction ha generalizing B with
  | nil => cases hb; exact Pairs.nil
  | cons h _ ih =>
    cases hb with
    | cons h' hb' =>
      refine Pairs.cons ?_ (ih hb')
      intro t ht
      rcases List.mem_append.mp ht with ht | ht
      · exact h t ht
      · exact h' t ht

theorem pairs_replicate : ∀ (lvs : List (Nat × Nat)), Pairs LvOK lvs (List.replicate lvs.length [])
  | [] => Pairs.nil
  | _ :: lvs => by
    simp only [List.length_cons, List.replicate_succ]
    exact Pairs.cons (by intro t ht; simp at ht) (pairs_replicate lvs)

theorem pairs_joinSegs {lvs : List (Nat × Nat)} : ∀ (segs : List Cols), (∀ s ∈ segs, Pairs LvOK lvs s) →
    Pairs LvOK lvs (joinSegs lvs.length segs)
  | [], _ => pairs_replicate lvs
  | s :: segs, h =>
    pairs_zipApp (h s (by simp)) (pairs_joinSegs segs (fun x hx => h x (by simp [hx])))

mutual
theorem levelsN_eq_boundsN (n : Node) (k d : Nat) : levelsN n k d = (boundsN n d k).map Prod.swap := by
  cases n with
  | leaf => rfl
  | group fs => exact levelsF_eq_boundsF fs k d
  | opt n => exact levelsN_eq_boundsN n k (d + 1)
  | rpt n => exact levelsN_eq_boundsN n (k + 1) (d + 1)
theorem levelsF_eq_boundsF (fs : Fields) (k d : Nat) : levelsF fs k d = (boundsF fs d k).map Prod.swap := by
  cases fs with
  | nil => rfl
  | cons n fs => rw [levelsF, boundsF, List.map_append, levelsN_eq_boundsN n k d, levelsF_eq_boundsF fs k d]
end

theorem levelsN_length (n : Node) (k d : Nat) : (levelsN n k d).length = leavesN n := by
  rw [levelsN_eq_boundsN, List.length_map, boundsN_length]

theorem levelsF_length (fs : Fields) (k d : Nat) : (levelsF fs k d).length = leavesF fs := by
  rw [levelsF_eq_boundsF, List.length_map, boundsF_length]

mutual
theorem absentN_levels (n : Node) (r d k' d' : Nat) (hr : r ≤ k') (hd : d < d') :
    Pairs LvOK (levelsN n k' d') (absentN n r d) := by
  cases n with
  | leaf =>
    simp only [levelsN, absentN]
    refine Pairs.cons ?_ Pairs.nil
    intro t ht
    simp only [List.mem_singleton] at ht
    subst ht
    exact ⟨hr, by simp; omega, by simp; omega⟩
  | group fs => simpa [levelsN, absentN] using absentF_levels fs r d k' d' hr hd
  | opt n => simpa [levelsN, absentN] using absentN_levels n r d k' (d' + 1) hr (by omega)
  | rpt n => simpa [levelsN, absentN] using absentN_levels n r d (k' + 1) (d' + 1) (by omega) (by omega)
theorem absentF_levels (fs : Fields) (r d k' d' : Nat) (hr : r ≤ k') (hd : d < d') :
    Pairs LvOK (levelsF fs k' d') (absentF fs r d) := by
  cases fs with
  | nil => simpa [levelsF, absentF] using Pairs.nil
  | cons n fs =>
    simp only [levelsF, absentF]
    exact pairs_append (absentN_levels n r d k' d' hr hd) (absentF_levels fs r d k' d' hr hd)
end

mutual
theorem shredN_levels (n : Node) (r k d : Nat) (v : Val) (hr : r ≤ k) (hc : confN n v = true) :
    Pairs LvOK (levelsN n k d) (shredN n r k d v) := by
  cases n with
  | leaf =>
    obtain ⟨x, rfl⟩ := confN_leaf hc
    simp only [levelsN, shredN]
    refine Pairs.cons ?_ Pairs.nil
    intro t ht
    simp only [List.mem_singleton] at ht
    subst ht
    exact ⟨hr, by simp, by simp⟩
  | group fs =>
    obtain ⟨vs, rfl, hc⟩ := confN_group hc
    simpa [levelsN, shredN] using shredF_levels fs r k d vs hr hc
  | opt n =>
    rcases confN_opt hc with rfl | ⟨w, rfl, hc⟩
    · simpa [levelsN, shredN] using absentN_levels n r d k (d + 1) hr (by omega)
    · simpa [levelsN, shredN] using shredN_levels n r k (d + 1) w hr hc
  | rpt n =>
    obtain ⟨ws, rfl, hws⟩ := confN_rpt hc
    cases ws with
    | nil => simpa [levelsN, shredN] using absentN_levels n r d (k + 1) (d + 1) (by omega) (by omega)
    | cons w ws =>
      rw [shredN_rpt_cons]
      simp only [levelsN]
      refine pairs_zipApp (shredN_levels n r (k + 1) (d + 1) w (by omega) (hws w (by simp))) ?_
      rw [← levelsN_length n (k + 1) (d + 1)]
      apply pairs_joinSegs
      intro s hs
      obtain ⟨w', hw', rfl⟩ := List.mem_map.mp hs
      exact shredN_levels n (k + 1) (k + 1) (d + 1) w' (Nat.le_refl _) (hws w' (by simp [hw']))
theorem shredF_levels (fs : Fields) (r k d : Nat) (vs : List Val) (hr : r ≤ k) (hc : confF fs vs = true) :
    Pairs LvOK (levelsF fs k d) (shredF fs r k d vs) := by
  cases fs with
  | nil => simpa [levelsF, shredF] using Pairs.nil
  | cons n fs =>
    obtain ⟨v, vs', rfl, hv, hvs⟩ := confF_cons hc
    simp only [levelsF, shredF]
    exact pairs_append (shredN_levels n r k d v hr hv) (shredF_levels fs r k d vs' hr hvs)
end

theorem valsIn_zipApp (ok : Nat → Nat → Bool) : ∀ (j : Nat) (A B : Cols),
    valsIn ok j A = true → valsIn ok j B = true → valsIn ok j (zipApp A B) = true
  | _, [], _, _, _ => by simp [zipApp, valsIn]
  | _, _ :: _, [], _, _ => by simp [zipApp, valsIn]
  | j, a :: A, b :: B, ha, hb => by
    simp only [valsIn, Bool.and_eq_true, zipApp, List.all_append] at ha hb ⊢
    exact ⟨⟨ha.1, hb.1⟩, valsIn_zipApp ok (j + 1) A B ha.2 hb.2⟩

theorem valsIn_replicate (ok : Nat → Nat → Bool) : ∀ (m j : Nat), valsIn ok j (List.replicate m []) = true
  | 0, _ => rfl
  | m + 1, j => by simp [List.replicate_succ, valsIn, valsIn_replicate ok m (j + 1)]

theorem valsIn_joinSegs (ok : Nat → Nat → Bool) (m j : Nat) : ∀ (segs : List Cols),
    (∀ s ∈ segs, valsIn ok j s = true) → valsIn ok j (joinSegs m segs) = true
  | [], _ => valsIn_replicate ok m j
  | s :: segs, h =>
    valsIn_zipApp ok j s _ (h s (by simp)) (valsIn_joinSegs ok m j segs (fun x hx => h x (by simp [hx])))

theorem readCols_writeCols_on {β γ} {cd : Nat → ColCodec β γ} {B : Nat} {nk : Nat → Bool} {pk : Nat → List Nat → Bool}
    {sk : Nat → β → β → Bool} (strict : Bool) (cfg : Nat → ChunkCfg)
    {lvs : List (Nat × Nat)} {ss : Cols} (hp : Pairs LvOK lvs ss) :
    ∀ (j : Nat), (∀ i, i < lvs.length → (cd (j + i)).OKOn B nk (pk (j + i)) (sk (j + i))) →
    (∀ lv ∈ lvs, lv.1 ≤ B ∧ lv.2 ≤ B) →
    valsIn (fun j => (cd j).okV) j ss = true → colsPagesOK cd nk pk sk cfg j lvs ss = true →
    (strict = true → colsAligned cfg j ss = true) →
    readCols strict cd j lvs (writeCols cd cfg j lvs ss) = some ss := by
  induction hp with
  | nil => intros; rfl
  | @cons lv s lvs' ss' h _ ih =>
    intro j hcd hB hv hk ha
    simp only [valsIn, Bool.and_eq_true] at hv
    simp only [colsPagesOK, Bool.and_eq_true] at hk
    have hs : StreamOK (cd j) lv s := by
      intro t ht
      have hl := h t ht
      refine ⟨hl.1, hl.2.1, hl.2.2, ?_⟩
      intro x hx
      have := List.all_eq_true.mp hv.1 t ht
      simpa [hx] using this
    have hch := readChunk_writeChunk_on (hcd 0 (by simp)) (hB lv (by simp)).1 (hB lv (by simp)).2
      strict (cfg j) s hs hk.1 (fun hst => by
        have := ha hst
        simp only [colsAligned, Bool.and_eq_true] at this
        exact this.1)
    have hrest := ih (j + 1)
      (fun i hi => by
        have := hcd (i + 1) (by simp; omega)
        have e : j + (i + 1) = j + 1 + i := by omega
        rwa [e] at this)
      (fun lv' hlv' => hB lv' (by simp [hlv'])) hv.2 hk.2
      (fun hst => by
        have := ha hst
        simp only [colsAligned, Bool.and_eq_true] at this
        exact this.2)
    simp only [writeCols, readCols, Nat.add_zero] at hch ⊢
    rw [hch, hrest]

theorem readCols_writeCols {β γ} {cd : Nat → ColCodec β γ} {B : Nat} (strict : Bool) (cfg : Nat → ChunkCfg)
    {lvs : List (Nat × Nat)} {ss : Cols} (hp : Pairs LvOK lvs ss) :
    ∀ (j : Nat), (∀ i, i < lvs.length → (cd (j + i)).OK B) → (∀ lv ∈ lvs, lv.1 ≤ B ∧ lv.2 ≤ B) →
    valsIn (fun j => (cd j).okV) j ss = true → (strict = true → colsAligned cfg j ss = true) →
    readCols strict cd j lvs (writeCols cd cfg j lvs ss) = some ss :=
  fun j hcd hB hv ha =>
    readCols_writeCols_on (nk := fun _ => true) (pk := fun _ _ => true) (sk := fun _ _ _ => true) strict cfg hp j
      (fun i hi => (hcd i hi).toOn) hB hv (colsPagesOK_true cd cfg lvs ss j) ha

theorem colStreams_ok (n : Node) (ok : Nat → Nat → Bool) (rs : List Val)
    (hconf : ∀ v ∈ rs, confN n v = true) (hdom : ∀ v ∈ rs, valsIn ok 0 (shredN n 0 0 0 v) = true) :
    Pairs LvOK (levelsN n 0 0) (colStreams n rs) ∧ valsIn ok 0 (colStreams n rs) = true := by
  refine ⟨?_, ?_⟩
  · unfold colStreams
    rw [← levelsN_length n 0 0]
    apply pairs_joinSegs
    intro s hs
    obtain ⟨v, hv, rfl⟩ := List.mem_map.mp hs
    exact shredN_levels n 0 0 0 v (Nat.le_refl _) (hconf v hv)
  · apply valsIn_joinSegs
    intro s hs
    obtain ⟨v, hv, rfl⟩ := List.mem_map.mp hs
    exact hdom v hv

theorem partitionRows_flatten : ∀ (gs : List GroupCfg) (rows : List Val),
    ((partitionRows gs rows).map (·.2)).flatten = rows
  | [], [] => rfl
  | [], r :: rs => by simp [partitionRows]
  | g :: gs, rows => by
    simp [partitionRows, partitionRows_flatten gs (rows.drop g.rows), List.take_append_drop]

theorem partitionRows_mem (gs : List GroupCfg) (rows : List Val) :
    ∀ g ∈ partitionRows gs rows, ∀ v ∈ g.2, v ∈ rows := by
  intro g hg v hv
  rw [← partitionRows_flatten gs rows]
  exact List.mem_flatten.mpr ⟨g.2, List.mem_map.mpr ⟨g, hg, rfl⟩, hv⟩

theorem readGroups_write {β γ} {cd : Nat → ColCodec β γ} {B : Nat} {nk : Nat → Bool} {pk : Nat → List Nat → Bool}
    {sk : Nat → β → β → Bool} (strict : Bool) (n : Node)
    (hcd : ∀ j, j < leavesN n → (cd j).OKOn B nk (pk j) (sk j)) (hB : levelsBounded B n = true) :
    ∀ (gl : List ((Nat → ChunkCfg) × List Val)),
    (∀ g ∈ gl, ∀ v ∈ g.2, confN n v = true ∧ valsIn (fun j => (cd j).okV) 0 (shredN n 0 0 0 v) = true) →
    (∀ g ∈ gl, colsPagesOK cd nk pk sk g.1 0 (levelsN n 0 0) (colStreams n g.2) = true) →
    (strict = true → ∀ g ∈ gl, colsAligned g.1 0 (colStreams n g.2) = true) →
    readGroups strict n cd (gl.map fun g => writeCols cd g.1 0 (levelsN n 0 0) (colStreams n g.2)) =
      some (gl.map fun g => colStreams n g.2)
  | [], _, _, _ => rfl
  | g :: gl, h, hk, ha => by
    have hg := colStreams_ok n (fun j => (cd j).okV) g.2 (fun v hv => (h g (by simp) v hv).1)
      (fun v hv => (h g (by simp) v hv).2)
    have hB' : ∀ lv ∈ levelsN n 0 0, lv.1 ≤ B ∧ lv.2 ≤ B := by
      intro lv hlv
      have := List.all_eq_true.mp hB lv hlv
      simpa using this
    have hcols := readCols_writeCols_on strict g.1 hg.1 0
      (fun i hi => by rw [levelsN_length] at hi; simpa using hcd i hi) hB' hg.2 (hk g (by simp))
      (fun hst => ha hst g (by simp))
    have ih := readGroups_write strict n hcd hB gl (fun g' hg' => h g' (by simp [hg']))
      (fun g' hg' => hk g' (by simp [hg'])) (fun hst g' hg' => ha hst g' (by simp [hg']))
    simp only [List.map_cons, readGroups, hcols, ih]

theorem joinSegs_flatten (m : Nat) : ∀ (gss : List (List Cols)), (∀ gs ∈ gss, ∀ s ∈ gs, s.length = m) →
    joinSegs m (gss.map (joinSegs m)) = joinSegs m gss.flatten
  | [], _ => rfl
  | gs :: gss, h => by
    have hlen : ∀ s ∈ gss.flatten, s.length = m := fun s hs => by
      obtain ⟨gs', hgs', hs'⟩ := List.mem_flatten.mp hs
      exact h gs' (by simp [hgs']) s hs'
    rw [List.flatten_cons, joinSegs_append _ _ hlen, ← joinSegs_flatten m gss (fun g hg => h g (by simp [hg]))]
    rfl

theorem splitRows_joinSegs {m d : Nat} (hm : 0 < m) : ∀ (segs : List Cols), (∀ s ∈ segs, SegCols m 0 d s) →
    splitRows (joinSegs m segs) = segs
  | [], _ => by
    cases m with
    | zero => omega
    | succ m' => simp [splitRows, joinSegs, List.replicate_succ, countElems, splitAll]
  | A :: segs, h => by
    have hA := h A (by simp)
    have hg : ∀ c ∈ A, GoodSeg 0 c := fun c hc => goodCol_goodSeg (hA.2 c hc)
    have hs : ∀ s ∈ segs, SegCols m 0 d s := fun s hs => h s (by simp [hs])
    show splitAll 0 (countElems 0 (zipApp A (joinSegs m segs))) (zipApp A (joinSegs m segs)) = A :: segs
    rw [countElems_join hm hA.1 hg hs, splitAll_join hA.1 hg hs]

/-- the composition: row groups read back, their streams concatenate to the streams of all rows
    (`joinSegs_flatten`), split at `rep = 0` (`splitRows_joinSegs`) and assemble (`assemble_shred`) -/
theorem readFileWith_writeFile_on {β γ} (strict : Bool) (n : Node) (cd : Nat → ColCodec β γ) (B : Nat)
    (nk : Nat → Bool) (pk : Nat → List Nat → Bool) (sk : Nat → β → β → Bool)
    (gs : List GroupCfg) (rows : List Val)
    (hwf : wfN n = true) (hconf : ∀ v ∈ rows, confN n v = true)
    (hB : levelsBounded B n = true) (hcd : ∀ j, j < leavesN n → (cd j).OKOn B nk (pk j) (sk j))
    (hdom : ∀ v ∈ rows, valsIn (fun j => (cd j).okV) 0 (shredN n 0 0 0 v) = true)
    (hpages : pagesOK n cd nk pk sk gs rows = true)
    (hcuts : strict = true → cutsAligned n gs rows = true) :
    readFileWith strict n cd (writeFile n cd gs rows) = some rows := by
  have hm := wf_leaves_posN n hwf
  have hrd := readGroups_write strict n hcd hB (partitionRows gs rows)
    (fun g hg v hv => ⟨hconf v (partitionRows_mem gs rows g hg v hv), hdom v (partitionRows_mem gs rows g hg v hv)⟩)
    (List.all_eq_true.mp hpages)
    (fun hst => List.all_eq_true.mp (hcuts hst))
  have hseg : ∀ v, SegCols (leavesN n) 0 0 (shredN n 0 0 0 v) :=
    fun v => (shredN_spec n 0 0 0 v hwf (Nat.le_refl _)).1
  have hjoin : joinSegs (leavesN n) ((partitionRows gs rows).map fun g => colStreams n g.2) =
      joinSegs (leavesN n) (rows.map (shredN n 0 0 0)) := by
    have e : ((partitionRows gs rows).map fun g => colStreams n g.2) =
        (((partitionRows gs rows).map (·.2)).map (List.map (shredN n 0 0 0))).map (joinSegs (leavesN n)) := by
      simp [colStreams, List.map_map, Function.comp_def]
    rw [e, joinSegs_flatten, ← List.map_flatten, partitionRows_flatten]
    intro ss hss s hs
    obtain ⟨rs, _, rfl⟩ := List.mem_map.mp hss
    obtain ⟨v, _, rfl⟩ := List.mem_map.mp hs
    exact (hseg v).1
  simp only [readFileWith, writeFile, hrd, Option.map_some, hjoin]
  rw [splitRows_joinSegs hm _ (fun s hs => by obtain ⟨v, _, rfl⟩ := List.mem_map.mp hs; exact hseg v)]
  rw [List.map_map]
  exact congrArg some (ListFacts.map_id_of (fun v hv => assemble_shred n v hwf (hconf v hv)))

theorem readFileWith_writeFile {β γ} (strict : Bool) (n : Node) (cd : Nat → ColCodec β γ) (B : Nat)
    (gs : List GroupCfg) (rows : List Val)
    (hwf : wfN n = true) (hconf : ∀ v ∈ rows, confN n v = true)
    (hB : levelsBounded B n = true) (hcd : ∀ j, j < leavesN n → (cd j).OK B)
    (hdom : ∀ v ∈ rows, valsIn (fun j => (cd j).okV) 0 (shredN n 0 0 0 v) = true)
    (hcuts : strict = true → cutsAligned n gs rows = true) :
    readFileWith strict n cd (writeFile n cd gs rows) = some rows :=
  readFileWith_writeFile_on strict n cd B (fun _ => true) (fun _ _ => true) (fun _ _ _ => true) gs rows hwf hconf hB
    (fun j hj => (hcd j hj).toOn) hdom
    (List.all_eq_true.mpr (fun g _ => colsPagesOK_true cd g.1 _ _ 0)) hcuts

end PqModel.FileModel
