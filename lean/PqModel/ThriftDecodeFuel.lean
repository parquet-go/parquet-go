import PqModel.ThriftDecodeProofs

/-! Lemmas: the fuel of the typed decoder mirror: a run with `needD t rem` units never answers `fuel`, and a run that did
    not answer `fuel` answers the same with more (`decStruct`'s own fuel is above `needD`: `typed_never_out_of_fuel`). -/
namespace PqModel.ThriftDecode
open PqModel.IoFault (Bytes)
open PqModel.ThriftSkip

abbrev fuelErr : TR := .error (.sk .fuel)

theorem lift_nofuel {α} {r : PR α} (fe : SkErr → SkErr) [hfe : FuelOnly fe] {k : α → Nat → TR}
    (hr : r ≠ .error .fuel) (hk : ∀ a p, r = .ok (a, p) → k a p ≠ fuelErr) : lift r fe k ≠ fuelErr := by
  cases r with
  | error e =>
    simp only [lift]
    intro h
    injection h with h
    injection h with h
    exact hr (by rw [hfe.keep e h])
  | ok ap => obtain ⟨a, p⟩ := ap; exact hk a p rfl

theorem seqT_nofuel {r : TR} (fe : SkErr → SkErr) [hfe : FuelOnly fe] {k : Nat → TR}
    (hr : r ≠ fuelErr) (hk : ∀ p, r = .ok p → k p ≠ fuelErr) : seqT r fe k ≠ fuelErr := by
  cases r with
  | error e =>
    simp only [seqT]
    intro h
    injection h with h
    cases e with
    | sk e' =>
      simp only [mapE] at h
      injection h with h
      exact hr (by rw [hfe.keep e' h])
    | missing id => simp [mapE] at h
    | oom n => simp [mapE] at h
  | ok p => exact hk p rfl

theorem okT_nofuel (p : Nat) : (Except.ok p : TR) ≠ fuelErr := by intro h; cases h

theorem readBinary_nofuel (d : Bytes) (pos : Nat) : readBinary d pos ≠ .error .fuel := by
  unfold readBinary
  refine seq_nofuel _ (readUvarint_nofuel _ d pos) fun n p _ => ?_
  split <;> intro h <;> cases h

theorem readFieldT_nofuel (d : Bytes) (pos : Nat) : readFieldT d pos ≠ .error .fuel := by
  unfold readFieldT
  refine seq_nofuel _ (readByte_nofuel d pos) fun b p _ => ?_
  exact ite_nofuel _ (ok_nofuel _) (ite_nofuel _ (ok_nofuel _)
    (seq_nofuel _ (readVarint_nofuel _ _ d p) fun _ q _ => ok_nofuel _))

theorem readFieldT_prog (d : Bytes) (pos : Nat) : Prog d pos (readFieldT d pos) := by
  intro h p e
  exact readField_prog d pos _ p (readFieldT_walk d pos h p e)

theorem decT_val_prog (mem : Option Nat) (d : Bytes) (f : Nat) (t : Ty) (pos q : Nat)
    (h : decT mem d f (.val t) pos = .ok q) : pos < q ∧ q ≤ d.length := by
  obtain ⟨f', h'⟩ := decT_walk mem d f _ pos q h
  exact item_prog d f' _ pos _ q h'

/-- fuel that suffices for a task with `rem` bytes left: `elems` (7) → `val` (6) → `fields` (5), above the
    walk's weights (`need`), since the decoder falls back to the walk on the same fuel. `fuelD d = 8·|d| + 32` is above
    all three at offset 0; the factor 2 of `fuelD` is generous, `4·|d| + 5` would do. -/
def needD : DTask → Nat → Nat
  | .val _, rem => 4 * rem + 6
  | .elems _ _, rem => 4 * rem + 7
  | .fields _ _ _ _, rem => 4 * rem + 5

theorem decT_nofuel (mem : Option Nat) (d : Bytes) (f : Nat) (t : DTask) (pos : Nat) (hpos : pos ≤ d.length)
    (hn : needD t (d.length - pos) ≤ f) : decT mem d f t pos ≠ fuelErr := by
  fun_induction decT mem d f t pos
  -- cases, in the order of `decT`'s text: fuel 0; `val` bool, i8, i16, i32, i64, double, binary, list, struct, union; `elems` 0 / n+1; `fields` (`ihs ihb ihv ihd`: see `decT_walk`)
  · rename_i t _; cases t <;> simp [needD] at hn
  all_goals simp only [needD] at hn
  · exact lift_nofuel _ (readByte_nofuel d _) fun _ p _ => okT_nofuel _
  · exact lift_nofuel _ (readByte_nofuel d _) fun _ p _ => okT_nofuel _
  · exact lift_nofuel _ (readVarint_nofuel _ _ d _) fun _ p _ => okT_nofuel _
  · exact lift_nofuel _ (readVarint_nofuel _ _ d _) fun _ p _ => okT_nofuel _
  · exact lift_nofuel _ (readVarint_nofuel _ _ d _) fun _ p _ => okT_nofuel _
  · exact lift_nofuel _ (readFloat_nofuel d _) fun _ p _ => okT_nofuel _
  · exact lift_nofuel _ (readBinary_nofuel d _) fun _ p _ => okT_nofuel _
  · rename_i f pos e ih
    refine lift_nofuel _ (readList_nofuel d pos) fun l p hr => ?_
    have hp := readList_prog d pos l p hr
    generalize (if l.1 = 1 then 2 else l.1) = ty'
    by_cases hw : wire e ≠ ty'
    · simp only [if_pos hw]
      exact lift_nofuel _ (skipT_nofuel d f (.items ty' l.2) p hp.2 (fuel_consume hn hp.1 hp.2 (by decide))) fun _ q _ => okT_nofuel _
    · simp only [if_neg hw]
      split
      · intro h; cases h
      · exact ih l p hp.2 (fuel_consume hn hp.1 hp.2 (by decide))
  · rename_i ih; exact ih hpos (fuel_wrap hn (by decide))
  · rename_i ih; exact ih hpos (fuel_wrap hn (by decide))
  · exact okT_nofuel _
  · rename_i f t n pos ih1 ih2
    refine seqT_nofuel _ (ih1 hpos (fuel_wrap hn (by decide))) fun p e => ?_
    have := decT_val_prog mem d f t pos p e
    exact ih2 p this.2 (fuel_consume hn this.1 this.2 (by decide))
  · rename_i f fs first last seen pos ihs ihb ihv ihd
    refine lift_nofuel _ (readFieldT_nofuel d pos) fun h p e => ?_
    have h1 := readFieldT_prog d pos h p e
    cases h with
    | none =>
      simp only
      split
      · intro h; cases h
      · exact okT_nofuel _
    | some x =>
      obtain ⟨ty, raw, delta⟩ := x
      simp only
      refine fields_cases (P := fun r => r ≠ fuelErr) ?_ (fun _ => ?_) fun fd _ _ => ?_
      · refine lift_nofuel _ (skipT_nofuel d f _ p h1.2 (fuel_consume hn h1.1 h1.2 (by decide))) fun _ q e2 => ?_
        have h2 := skipT_mono d f _ p _ q e2
        exact ihs raw delta q (h2.2 h1.2) (fuel_consume hn (Nat.lt_of_lt_of_le h1.1 h2.1) (h2.2 h1.2) (by decide))
      · exact ihb p raw delta h1.2 (fuel_consume hn h1.1 h1.2 (by decide))
      · refine seqT_nofuel _ (ihv p fd h1.2 (fuel_consume hn h1.1 h1.2 (by decide))) fun q e2 => ?_
        have h2 := decT_val_prog mem d f _ p q e2
        exact ihd raw delta q h2.2 (fuel_consume hn (Nat.lt_trans h1.1 h2.1) h2.2 (by decide))

def SameT (r r' : TR) : Prop := r ≠ fuelErr → r' = r

theorem SameT.refl (r : TR) : SameT r r := fun _ => rfl

theorem lift_same {α} {r r' : PR α} (fe : SkErr → SkErr) [hfe : FuelOnly fe] {k k' : α → Nat → TR}
    (hr : Same r r') (hk : ∀ a p, SameT (k a p) (k' a p)) : SameT (lift r fe k) (lift r' fe k') := by
  intro h
  cases r with
  | error e =>
    have : (Except.error e : PR α) ≠ .error .fuel := by
      intro he
      injection he with he
      subst he
      simp only [lift, hfe.fix] at h
      exact h rfl
    rw [hr this]
    rfl
  | ok ap =>
    obtain ⟨a, p⟩ := ap
    rw [hr (by intro he; cases he)]
    simp only [lift] at h ⊢
    exact hk a p h

theorem seqT_same {r r' : TR} (fe : SkErr → SkErr) [hfe : FuelOnly fe] {k k' : Nat → TR}
    (hr : SameT r r') (hk : ∀ p, SameT (k p) (k' p)) : SameT (seqT r fe k) (seqT r' fe k') := by
  intro h
  cases r with
  | error e =>
    have : (Except.error e : TR) ≠ fuelErr := by
      intro he
      injection he with he
      subst he
      simp only [seqT, mapE, hfe.fix] at h
      exact h rfl
    rw [hr this]
    rfl
  | ok p =>
    rw [hr (by intro he; cases he)]
    simp only [seqT] at h ⊢
    exact hk p h

theorem decT_same (mem : Option Nat) (d : Bytes) : ∀ (f f' : Nat) (t : DTask) (pos : Nat), f ≤ f' →
    SameT (decT mem d f t pos) (decT mem d f' t pos) := by
  intro f
  induction f with
  | zero => intro f' t pos _ h; exact absurd (decT_zero mem d t pos) h
  | succ f ih =>
    intro f' t pos hf
    obtain ⟨f', rfl⟩ : ∃ k, f' = k + 1 := ⟨f' - 1, by omega⟩
    have hs := fun t pos => skipT_same d f f' t pos (by omega)
    replace ih := fun t pos => ih f' t pos (by omega)
    cases t with
    | val t =>
      cases t with
      | list e =>
        simp only [decT]
        refine lift_same _ (Same.refl _) fun l p => ?_
        generalize (if l.1 = 1 then 2 else l.1) = ty'
        split
        · exact lift_same _ (hs _ p) fun _ q => SameT.refl _
        · split
          · exact SameT.refl _
          · exact ih _ p
      | struct fs | union ms => simp only [decT]; exact ih _ pos
      | _ => simp only [decT]; exact SameT.refl _
    | elems t n =>
      cases n with
      | zero => simp only [decT]; exact SameT.refl _
      | succ n => simp only [decT]; exact seqT_same _ (ih _ pos) fun p => ih _ p
    | fields fs first last seen =>
      simp only [decT]
      refine lift_same _ (Same.refl _) fun h p => ?_
      cases h with
      | none => exact SameT.refl _
      | some x =>
        obtain ⟨ty, raw, delta⟩ := x
        exact fields_cases₂ (lift_same _ (hs _ p) fun _ q => ih _ q) (fun _ => ih _ p)
          fun fd _ _ => seqT_same _ (ih _ p) fun q => ih _ q

theorem decT_fuel_irrelevant (mem : Option Nat) (d : Bytes) (t : DTask) (pos : Nat) {f f' : Nat} (h : f ≤ f')
    (hn : decT mem d f t pos ≠ fuelErr) : decT mem d f' t pos = decT mem d f t pos :=
  decT_same mem d f f' t pos h hn

end PqModel.ThriftDecode
