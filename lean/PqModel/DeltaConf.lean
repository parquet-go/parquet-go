import PqModel.DeltaGoProofs
import PqModel.Basics

/-! # SPEC: the family of ALL conformant DELTA_BINARY_PACKED streams (property C04, part delta)

`PqModel/Delta.lean` holds the spec *decoder*. This file describes, from Encodings.md only, what a
conformant *writer* may emit — every freedom the text leaves:

* any block size that is a positive multiple of 128 and any miniblock count dividing it with a
  miniblock size that is a multiple of 32 (`ConfStream.blockSize/minis`);
* per block any frame of reference ("min delta": it need not be the minimum, arithmetic wraps),
  `ConfBlock.minD`;
* per needed miniblock any bit width up to the physical type's that holds its packed values, and
  ANY padding values after the last real value of the last needed miniblock (`ConfMini`);
* in the last block, for the miniblocks that are not needed: a width byte of ANY value and no body
  ("their value should be zero, but readers must accept arbitrary values as well"; parquet-java
  leaves stale widths there), `ConfBlock.stale`.

A stream is given by its *content* (`ConfStream`), rendered to bytes by `ConfStream.bytes`; its
meaning `ConfStream.values` is written with the spec-side `recon` (running sum of min delta + packed
value, two's complement wrap-around). `ConfStream.OK` is the (decidable) well-formedness condition.
`ValidDelta n xs bs` = "bs is a conformant encoding of xs".

The spec decoder reads every stream of the family back to its meaning and hands back what follows; so does the mirror of
the Go decoder, with Go's two resource limits as hypotheses and NO error alternative. Varints are in shortest form. -/
namespace PqModel.Delta
open PqModel.Bits

/-- SPEC. One needed miniblock: its bit width and the `values per miniblock` packed values
(deltas minus min delta; in the last needed miniblock the tail is padding of any content). -/
structure ConfMini where
  w : Nat
  vals : List Nat
  deriving Repr

/-- SPEC. `vals` bit-packed LSB first at width `w`. -/
def ConfMini.bytes (mi : ConfMini) : List Nat :=
  bitsToBytes (packBits mi.w mi.vals).length (packBits mi.w mi.vals)

/-- SPEC. `mi` fits an `maxW`-bit type and a geometry of `vpm` values per miniblock. -/
def miniOK (maxW vpm : Nat) (mi : ConfMini) : Prop :=
  mi.w ≤ maxW ∧ mi.vals.length = vpm ∧ ∀ v ∈ mi.vals, v < 2 ^ mi.w

instance (maxW vpm : Nat) (mi : ConfMini) : Decidable (miniOK maxW vpm mi) := by
  unfold miniOK; infer_instance

/-- SPEC. One block: `<min delta> <bit widths of all miniblocks> <needed miniblocks>`. `stale` are
the width bytes of the miniblocks that are not needed. -/
structure ConfBlock where
  minD : BitVec 64
  minis : List ConfMini
  stale : List Nat
  deriving Repr

def ConfBlock.widths (b : ConfBlock) : List Nat := b.minis.map (·.w) ++ b.stale

def ConfBlock.body (b : ConfBlock) : List Nat := b.minis.flatMap (·.bytes)

def ConfBlock.bytes (b : ConfBlock) : List Nat := varintEnc b.minD ++ (b.widths ++ b.body)

/-- the packed values of the block that are real when `rem` values are still expected -/
def ConfBlock.raw (b : ConfBlock) (rem : Nat) : List Nat := (b.minis.flatMap (·.vals)).take rem

/-- SPEC. meaning of a block: value = previous value + min delta + packed value (wrapping) -/
def ConfBlock.vals (n : Nat) (b : ConfBlock) (rem : Nat) (last : BitVec n) : List (BitVec n) :=
  recon (BitVec.ofInt n b.minD.toInt) last (b.raw rem)

/-- SPEC. well-formedness of a block when `rem > 0` values are still expected: one width byte per
miniblock of the geometry; at least one miniblock, every listed miniblock is needed (values remain
when the last one starts); unneeded miniblocks exist only when the needed ones hold all remaining
values; the unneeded width bytes are bytes. -/
def blockOK (n vpm m : Nat) (b : ConfBlock) (rem : Nat) : Prop :=
  b.minis.length + b.stale.length = m ∧ b.minis ≠ [] ∧ (b.minis.length - 1) * vpm < rem ∧
  (b.stale = [] ∨ rem ≤ b.minis.length * vpm) ∧ (∀ s ∈ b.stale, s < 256) ∧
  ∀ mi ∈ b.minis, miniOK n vpm mi

instance (n vpm m : Nat) (b : ConfBlock) (rem : Nat) : Decidable (blockOK n vpm m b rem) := by
  unfold blockOK; infer_instance

/-- SPEC. blocks follow one another until no value is expected any more -/
def blocksOK (n vpm m : Nat) : List ConfBlock → Nat → Prop
  | [], rem => rem = 0
  | b :: bs, rem => blockOK n vpm m b rem ∧ blocksOK n vpm m bs (rem - (b.raw rem).length)

instance blocksOK.dec (n vpm m : Nat) : ∀ (bs : List ConfBlock) (rem : Nat), Decidable (blocksOK n vpm m bs rem)
  | [], rem => by unfold blocksOK; infer_instance
  | b :: bs, rem => by
    unfold blocksOK
    exact @instDecidableAnd _ _ _ (blocksOK.dec n vpm m bs _)

def blocksBytes (bs : List ConfBlock) : List Nat := bs.flatMap (·.bytes)

/-- SPEC. meaning of a sequence of blocks (deltas of a block are relative to the last value of the
previous block) -/
def blocksVals (n : Nat) : List ConfBlock → Nat → BitVec n → List (BitVec n)
  | [], _, _ => []
  | b :: bs, rem, last =>
    b.vals n rem last ++ blocksVals n bs (rem - (b.raw rem).length) ((b.vals n rem last).getLastD last)

/-- SPEC. a whole stream: `<block size> <miniblocks per block> <total count> <first value>` and
the blocks. -/
structure ConfStream (n : Nat) where
  blockSize : Nat
  minis : Nat
  total : Nat
  first : BitVec n
  blocks : List ConfBlock

def ConfStream.header {n : Nat} (s : ConfStream n) : List Nat :=
  uvarintEnc s.blockSize ++ (uvarintEnc s.minis ++ (uvarintEnc s.total ++ varintEnc (s.first.signExtend 64)))

def ConfStream.bytes {n : Nat} (s : ConfStream n) : List Nat := s.header ++ blocksBytes s.blocks

/-- SPEC. the values the stream encodes -/
def ConfStream.values {n : Nat} (s : ConfStream n) : List (BitVec n) :=
  if s.total = 0 then [] else s.first :: blocksVals n s.blocks (s.total - 1) s.first

/-- SPEC. legal geometry, and blocks for exactly `total - 1` deltas -/
def ConfStream.OK {n : Nat} (s : ConfStream n) : Prop :=
  0 < s.blockSize ∧ s.blockSize % 128 = 0 ∧ 0 < s.minis ∧ s.blockSize % s.minis = 0 ∧
  (s.blockSize / s.minis) % 32 = 0 ∧
  blocksOK n (s.blockSize / s.minis) s.minis s.blocks (s.total - 1)

instance {n : Nat} (s : ConfStream n) : Decidable s.OK := by unfold ConfStream.OK; infer_instance

/-- SPEC. `bs` is a conformant DELTA_BINARY_PACKED encoding of `xs` for an `n`-bit type. -/
def ValidDelta (n : Nat) (xs : List (BitVec n)) (bs : List Nat) : Prop :=
  ∃ s : ConfStream n, s.OK ∧ s.bytes = bs ∧ s.values = xs

theorem ConfMini.bytes_length (mi : ConfMini) (vpm : Nat) (hl : mi.vals.length = vpm) (h8 : vpm % 8 = 0) :
    mi.bytes.length = vpm * mi.w / 8 := by
  unfold ConfMini.bytes
  rw [bitsToBytes_length _ _ (Nat.le_refl _), packBits_length, hl]
  obtain ⟨k, hk⟩ : ∃ k, vpm = 8 * k := ⟨vpm / 8, by omega⟩
  subst hk
  have e1 : mi.w * (8 * k) = 8 * (k * mi.w) := by
    rw [Nat.mul_comm mi.w, Nat.mul_assoc]
  have e2 : 8 * k * mi.w = 8 * (k * mi.w) := Nat.mul_assoc _ _ _
  rw [e1, e2]; omega

theorem ConfMini.unpack (mi : ConfMini) (vpm : Nat) (hl : mi.vals.length = vpm)
    (hv : ∀ v ∈ mi.vals, v < 2 ^ mi.w) :
    unpackBits mi.w vpm (bytesToBits mi.bytes) = mi.vals := by
  have := unpack_pack_bytes mi.w mi.vals hv
  rw [hl] at this
  exact this

/-- the miniblocks of a block: all needed ones are read, the stale width bytes are skipped without
consuming anything, whatever they hold -/
theorem decMinis_conf (vpm maxW : Nat) (h8 : vpm % 8 = 0) :
    ∀ (ms : List ConfMini) (stale : List Nat) (rem : Nat) (tail : List Nat),
    (∀ mi ∈ ms, miniOK maxW vpm mi) → (ms = [] ∨ (ms.length - 1) * vpm < rem) →
    (stale = [] ∨ rem ≤ ms.length * vpm) →
    decMinis vpm maxW (ms.map (·.w) ++ stale) rem (ms.flatMap (·.bytes) ++ tail)
      = .ok ((ms.flatMap (·.vals)).take rem, tail)
  | [], stale, rem, tail, _, _, hs => by
    rcases hs with hs | hs
    · subst hs; simp [decMinis]
    · have : rem = 0 := by simpa using hs
      subst this
      cases stale <;> simp [decMinis]
  | mi :: ms, stale, rem, tail, hok, hneed, hs => by
    obtain ⟨hw, hl, hvs⟩ := hok mi (by simp)
    have hrem : ¬ rem = 0 := by
      rcases hneed with h | h
      · cases h
      · omega
    have hwm : ¬ maxW < mi.w := by omega
    have hbl := mi.bytes_length vpm hl h8
    have hnt : ¬ ((mi.bytes ++ (ms.flatMap (·.bytes) ++ tail)).length < vpm * mi.w / 8) := by
      simp only [List.length_append]; omega
    have hneed' : ms = [] ∨ (ms.length - 1) * vpm < rem - min vpm rem := by
      cases ms with
      | nil => exact Or.inl rfl
      | cons m2 ms' =>
        right
        rcases hneed with h | h
        · cases h
        · simp only [List.length_cons, Nat.add_sub_cancel] at h ⊢
          rw [Nat.succ_mul] at h
          omega
    have hs' : stale = [] ∨ rem - min vpm rem ≤ ms.length * vpm := by
      rcases hs with h | h
      · exact Or.inl h
      · right
        simp only [List.length_cons, Nat.succ_mul] at h
        omega
    have ih := decMinis_conf vpm maxW h8 ms stale (rem - min vpm rem) tail
      (fun m hm => hok m (by simp [hm])) hneed' hs'
    simp only [List.map_cons, List.cons_append, decMinis, hrem, if_false, hwm, List.flatMap_cons,
      List.append_assoc, hnt]
    rw [List.take_left' hbl, List.drop_left' hbl, ih]
    rw [unpackBits_take mi.w (min vpm rem) vpm _ (Nat.min_le_left _ _), mi.unpack vpm hl hvs]
    simp only [Except.ok.injEq, Prod.mk.injEq, and_true]
    rw [List.take_append, hl, show rem - min vpm rem = rem - vpm by omega,
      (List.take_eq_take_iff (i := min vpm rem) (j := rem)).mpr (by rw [hl]; omega)]

theorem ConfBlock.widths_length (b : ConfBlock) : b.widths.length = b.minis.length + b.stale.length := by
  simp [ConfBlock.widths]

theorem decBlock_conf (n vpm m : Nat) (h8 : vpm % 8 = 0) (b : ConfBlock) (rem : Nat) (last : BitVec n)
    (tail : List Nat) (hb : blockOK n vpm m b rem) :
    decBlock n vpm m rem last (b.bytes ++ tail) = .ok (b.vals n rem last, tail) := by
  obtain ⟨hlen, _, hneed, hst, _, hok⟩ := hb
  have hz : specZigzag (varintEnc b.minD ++ (b.widths ++ (b.body ++ tail))) = .ok (b.minD.toInt, b.widths ++ (b.body ++ tail)) := by
    have := specZigzag_varintEnc (Nat.le_refl 64) b.minD (b.widths ++ (b.body ++ tail))
    rw [BitVec.signExtend_eq] at this
    exact this
  have hwl : b.widths.length = m := by rw [b.widths_length]; exact hlen
  have hnt : ¬ ((b.widths ++ (b.body ++ tail)).length < m) := by
    simp only [List.length_append]; omega
  simp only [decBlock, ConfBlock.bytes, List.append_assoc, hz, hnt, if_false]
  rw [List.take_left' hwl, List.drop_left' hwl]
  have := decMinis_conf vpm n h8 b.minis b.stale rem tail hok (Or.inr hneed) hst
  simp only [ConfBlock.widths, ConfBlock.body, this, ConfBlock.vals, ConfBlock.raw]

theorem ConfBlock.raw_pos (n vpm m : Nat) (hv : 0 < vpm) (b : ConfBlock) (rem : Nat)
    (hb : blockOK n vpm m b rem) : 0 < (b.raw rem).length := by
  obtain ⟨_, hne, hneed, _, _, hok⟩ := hb
  have hfl := Pieces.length_flatMap (g := (·.vals)) (fun mi hm => (hok mi hm).2.1)
  simp only [ConfBlock.raw, List.length_take, hfl]
  have hl : 0 < b.minis.length := List.length_pos_iff.mpr hne
  obtain ⟨k, hk⟩ : ∃ k, b.minis.length = k + 1 := ⟨b.minis.length - 1, by omega⟩
  rw [hk, Nat.mul_succ]
  omega

theorem ConfBlock.vals_length (n : Nat) (b : ConfBlock) (rem : Nat) (last : BitVec n) :
    (b.vals n rem last).length = (b.raw rem).length := recon_length _ _ _

theorem ConfBlock.raw_le (b : ConfBlock) (rem : Nat) : (b.raw rem).length ≤ rem := by
  simp only [ConfBlock.raw, List.length_take]; omega

theorem blockOK_pos {n vpm m : Nat} {b : ConfBlock} {rem : Nat} (hb : blockOK n vpm m b rem) : 0 < rem := by
  obtain ⟨_, _, hneed, _⟩ := hb; omega

theorem blocksOK_zero {n vpm m : Nat} {bs : List ConfBlock} (h : blocksOK n vpm m bs 0) : bs = [] := by
  cases bs with
  | nil => rfl
  | cons b bs => exact absurd (blockOK_pos h.1) (by omega)

theorem decBlocks_conf (n vpm m : Nat) (hv : 0 < vpm) (h8 : vpm % 8 = 0) :
    ∀ (bs : List ConfBlock) (fuel rem : Nat) (last : BitVec n) (tail : List Nat),
    blocksOK n vpm m bs rem → rem ≤ fuel →
    decBlocks n vpm m fuel rem last (blocksBytes bs ++ tail) = .ok (blocksVals n bs rem last, tail)
  | [], fuel, rem, last, tail, h, _ => by
    have : rem = 0 := h
    subst this
    cases fuel <;> simp [decBlocks, blocksVals, blocksBytes]
  | b :: bs, fuel, rem, last, tail, h, hf => by
    obtain ⟨hb, hrest⟩ := h
    have hpos := blockOK_pos hb
    obtain ⟨rem', hr⟩ : ∃ r, rem = r + 1 := ⟨rem - 1, by omega⟩
    obtain ⟨fuel', hfu⟩ : ∃ f, fuel = f + 1 := ⟨fuel - 1, by omega⟩
    subst hr; subst hfu
    have hrp := b.raw_pos n vpm m hv (rem' + 1) hb
    have hrl := b.raw_le (rem' + 1)
    have ih := decBlocks_conf n vpm m hv h8 bs fuel' (rem' + 1 - (b.raw (rem' + 1)).length)
      ((b.vals n (rem' + 1) last).getLastD last) tail hrest (by omega)
    simp only [blocksBytes] at ih ⊢
    simp only [List.flatMap_cons, List.append_assoc, decBlocks]
    rw [decBlock_conf n vpm m h8 b (rem' + 1) last _ hb]
    simp only [b.vals_length, ih, blocksVals]

theorem ConfStream.vpm_pos {n : Nat} (s : ConfStream n) (h : s.OK) : 0 < s.blockSize / s.minis := by
  obtain ⟨hb, _, hm, hd, _, _⟩ := h
  have : s.minis ≤ s.blockSize := Nat.le_of_dvd hb (Nat.dvd_of_mod_eq_zero hd)
  exact Nat.div_pos this hm

theorem specDecode_conf {n : Nat} (hn : n ≤ 64) (s : ConfStream n) (tail : List Nat) (h : s.OK) :
    specDecode n (s.bytes ++ tail) = .ok (s.values, tail) := by
  have hv := s.vpm_pos h
  obtain ⟨hb, hb128, hm, hd, h32, hbl⟩ := h
  have hc : ¬ (s.blockSize = 0 ∨ s.blockSize % 128 ≠ 0 ∨ s.minis = 0 ∨ s.blockSize % s.minis ≠ 0 ∨
      (s.blockSize / s.minis) % 32 ≠ 0) := by omega
  simp only [specDecode, specHeader, ConfStream.bytes, ConfStream.header, List.append_assoc,
    specUleb_uvarintEnc, specZigzag_varintEnc hn, hc, if_false, BitVec.ofInt_toInt, ConfStream.values]
  by_cases ht : s.total = 0
  · rw [ht] at hbl
    simp [ht, blocksOK_zero hbl, blocksBytes]
  · simp only [ht, if_false]
    rw [decBlocks_conf n _ _ hv (by omega) s.blocks s.total (s.total - 1) s.first tail hbl (by omega)]

theorem validDelta_specDecode {n : Nat} (hn : n ≤ 64) {xs : List (BitVec n)} {bs : List Nat}
    (h : ValidDelta n xs bs) (tail : List Nat) : specDecode n (bs ++ tail) = .ok (xs, tail) := by
  obtain ⟨s, hok, hb, hx⟩ := h
  rw [← hb, ← hx]; exact specDecode_conf hn s tail hok

theorem varintEnc_ne_nil (x : BitVec 64) : varintEnc x ≠ [] := by
  simp only [varintEnc, uvarintEnc]; exact putUvarint_ne_nil _ _

theorem ConfBlock.bytes_pos (b : ConfBlock) : 0 < b.bytes.length := by
  have := List.length_pos_iff.mpr (varintEnc_ne_nil b.minD)
  simp only [ConfBlock.bytes, List.length_append]; omega

theorem goBlocks_conf (n vpm m : Nat) (h8 : vpm % 8 = 0) :
    ∀ (bs : List ConfBlock) (rem : Nat) (last : BitVec n) (tail : List Nat) (gf : Nat),
    blocksOK n vpm m bs rem → (blocksBytes bs ++ tail).length < gf →
    goBlocks n vpm m gf rem last (blocksBytes bs ++ tail) = .ok (blocksVals n bs rem last, tail)
  | [], rem, last, tail, gf, h, _ => by
    have : rem = 0 := h
    subst this
    cases gf <;> simp [goBlocks, blocksVals, blocksBytes]
  | b :: bs, rem, last, tail, 0, _, hg => by omega
  | b :: bs, rem, last, tail, g + 1, h, hg => by
    obtain ⟨hb, hrest⟩ := h
    have hpos := blockOK_pos hb
    have hbp := b.bytes_pos
    simp only [blocksBytes, List.flatMap_cons, List.append_assoc, List.length_append] at hg ⊢
    have hd := decBlock_conf n vpm m h8 b rem last (bs.flatMap (·.bytes) ++ tail) hb
    -- side condition of `goBlocks_step`: the block's own `minD` varint is canonical
    have hno : goVarint (b.bytes ++ (bs.flatMap (·.bytes) ++ tail)) ≠ .error .overflow := by
      have := goVarint_varintEnc (Nat.le_refl 64) b.minD (b.widths ++ b.body ++ (bs.flatMap (·.bytes) ++ tail))
      rw [BitVec.signExtend_eq] at this
      simp only [ConfBlock.bytes, List.append_assoc] at this ⊢
      rw [this]; simp
    rw [goBlocks_step n vpm m g hd hpos hno, b.vals_length]
    have ih := goBlocks_conf n vpm m h8 bs (rem - (b.raw rem).length)
      ((b.vals n rem last).getLastD last) tail g hrest (by
        simp only [blocksBytes, List.length_append]; omega)
    simp only [blocksBytes] at ih
    simp only [ih, blocksVals]

theorem goDecode_conf {n : Nat} (hn : n = 32 ∨ n = 64) (s : ConfStream n) (tail : List Nat) (h : s.OK)
    (hbs : s.blockSize ≤ 65536) (ht : s.total < 2 ^ 31) :
    goDecode n (s.bytes ++ tail) = .ok (s.values, tail) := by
  have hn64 : n ≤ 64 := by omega
  obtain ⟨hb, hb128, hm, hd, h32, hbl⟩ := h
  have hmle : s.minis ≤ s.blockSize := Nat.le_of_dvd hb (Nat.dvd_of_mod_eq_zero hd)
  have g1 : ∀ rest, goUvarint (uvarintEnc s.blockSize ++ rest) = .ok (s.blockSize, rest) :=
    fun rest => goUvarint_uvarintEnc _ rest (by omega)
  have g2 : ∀ rest, goUvarint (uvarintEnc s.minis ++ rest) = .ok (s.minis, rest) :=
    fun rest => goUvarint_uvarintEnc _ rest (by omega)
  have g3 : ∀ rest, goUvarint (uvarintEnc s.total ++ rest) = .ok (s.total, rest) :=
    fun rest => goUvarint_uvarintEnc _ rest (by omega)
  have c0 : ¬ s.minis = 0 := by omega
  have c1 : ¬ (2 ^ 63 ≤ s.blockSize) := by omega
  have c2 : ¬ (s.blockSize = 0 ∨ s.blockSize % 128 ≠ 0) := by omega
  have c3 : ¬ (65536 < s.blockSize) := by omega
  have c4 : ¬ (2 ^ 63 ≤ s.minis) := by omega
  have c5 : ¬ ((s.blockSize / s.minis) % 32 ≠ 0) := by omega
  have c6 : ¬ (2 ^ 63 ≤ s.total) := by omega
  have c7 : ¬ (2 ^ 31 - 1 < s.total) := by omega
  simp only [goDecode, goHeader, ConfStream.bytes, ConfStream.header, List.append_assoc, g1, g2, g3,
    goVarint_varintEnc hn64, c0, c1, c2, c3, c4, c5, c6, c7, if_false, first_in_range s.first, BitVec.ofInt_toInt,
    ConfStream.values]
  by_cases ht0 : s.total = 0
  · rw [ht0] at hbl
    simp [ht0, blocksOK_zero hbl, blocksBytes]
  · simp only [ht0, if_false]
    rw [goBlocks_conf n _ _ (by omega) s.blocks (s.total - 1) s.first tail _ hbl (by omega)]

theorem validDelta_goDecode {n : Nat} (hn : n = 32 ∨ n = 64) {xs : List (BitVec n)} {bs : List Nat}
    (s : ConfStream n) (hok : s.OK) (hb : s.bytes = bs) (hx : s.values = xs)
    (hbs : s.blockSize ≤ 65536) (ht : s.total < 2 ^ 31) (tail : List Nat) :
    goDecode n (bs ++ tail) = .ok (xs, tail) := by
  rw [← hb, ← hx]; exact goDecode_conf hn s tail hok hbs ht

end PqModel.Delta
