import PqModel.IoFault

/-! # Source-side faults on the verbatim copy path of `WriteRowGroup` (C14)

`writeRowGroup` (writer.go) streams the dictionary page, the data pages and the bloom filter of a
column chunk that is copied verbatim with

    w.writer.copySection(source, off, length)
      = n, err := w.writer.ReadFrom(io.NewSectionReader(source, off, length))
        if err == nil && n != length { err = io.ErrUnexpectedEOF }

`ReadFrom` is `io.Copy` (unbuffered) or `bufio.Writer.ReadFrom` (buffered): both take `io.EOF` from
their input for its regular end.  This file models the *source* of that copy as something that may
stop early; that the length check is what turns a premature end into an error is
`Props.C14.copy_nil_complete` / `copy_fault_reported`.

MIRROR: `copySection`.  SPEC: `SrcFault` / `srcDelivered` (package io: what an `io.SectionReader`
over a failing `io.ReaderAt` hands to its reader). -/
namespace PqModel.IoFault

/-- SPEC: a fault of the source `io.ReaderAt` as seen through the `io.SectionReader` of one copy:
only the first `cut` bytes of the section are delivered, then the stream ends — with `io.EOF`
(`eof = true`: a short read along with io.EOF, the source "ends early") or with another error. -/
structure SrcFault where
  cut : Nat
  eof : Bool
  deriving Repr, DecidableEq

/-- SPEC: (bytes delivered before the stream ends, "it ended with an error other than io.EOF").
A fault beyond the end of the section is never met. -/
def srcDelivered (data : Bytes) : Option SrcFault → Bytes × Bool
  | none => (data, false)
  | some f => if f.cut < data.length then (data.take f.cut, !f.eof) else (data, false)

/-- MIRROR `(*offsetTrackingWriter).copySection` (writer.go:3024-3030; its `ReadFrom` is `io.Copy`, writer.go:3012-3017): copy what the source delivers through the chain
(`uReadFrom`: `io.copyBuffer` unbuffered, `bufio.Writer.ReadFrom` buffered); the result is the
writer's error, else the source's error unless it is io.EOF (`io.Copy`: `if er != EOF { err = er }`),
else — `checked` — `io.ErrUnexpectedEOF` when `n != length`.
`checked = false` is the same site with the count of `ReadFrom` dropped (a bare `w.writer.ReadFrom(section)`): every theorem
fixes `true`; `false` is there for the counter-example in `Props.C14` that shows what the check is for.
For a source error other than io.EOF the mirror is exact on `(n, err, bytes accepted by the chain)`;
`bufio.Writer.ReadFrom` then skips the "buffer exactly full" flush that `uReadFrom` performs. -/
def copySection {σ} (m : SinkM σ) (checked : Bool) (w : W σ) (data : Bytes) (f : Option SrcFault) :
    W σ × Bool :=
  let d := srcDelivered data f
  let x := uReadFrom m w.u d.1
  ((w.track x).1, x.2.err || d.2 || (checked && decide (x.2.n ≠ data.length)))

theorem srcDelivered_prefix (data : Bytes) (f : Option SrcFault) :
    ∃ j, j ≤ data.length ∧ (srcDelivered data f).1 = data.take j ∧
      (j = data.length → (srcDelivered data f).2 = false) := by
  cases f with
  | none => exact ⟨data.length, Nat.le_refl _, by simp [srcDelivered], fun _ => rfl⟩
  | some f =>
    by_cases h : f.cut < data.length
    · exact ⟨f.cut, Nat.le_of_lt h, by simp [srcDelivered, h], fun e => by omega⟩
    · exact ⟨data.length, Nat.le_refl _, by simp [srcDelivered, h], fun _ => by simp [srcDelivered, h]⟩

theorem copySection_sticky {σ} (m : SinkM σ) (hm : Conforming m) (w : W σ) (data : Bytes)
    (f : Option SrcFault) (checked : Bool) (hb : w.u.berr = true) :
    (copySection m checked w data f).2 = true ∧ (copySection m checked w data f).1.u = w.u := by
  have h1 := uReadFrom_sticky m w.u (srcDelivered data f).1 hb
  have h2 := (uReadFrom_ok m hm w.u (srcDelivered data f).1).mono hb
  exact ⟨by simp [copySection, h1], by simp [copySection, W.track, h2]⟩

end PqModel.IoFault
