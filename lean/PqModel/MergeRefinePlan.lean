import PqModel.MergeRefineProof
import PqModel.MergePlan

/-! # C09 — the slices computed by `refineSegment` reassemble every row group, so a key-ordered
    refined plan is a merge of the *whole* row groups -/
namespace PqModel.Refine
open PqModel.Merge PqModel.Compare

section
variable {α : Type}

/-- the rows of every row group that a region of the plan reads: `rows[i][off, off+len)` for the
    part of `i` in the region, nothing if it has none -/
def slicesOf (rows : List (List α)) (k : Nat) (R : List Part) : List (List α) :=
  (List.range k).map (fun i =>
    match R.find? (fun p => p.index == i) with
    | some p => ((rows.getD i []).drop p.off).take p.len
    | none => [])

theorem walk_mono (i : Nat) (l : List Part) (c e : Nat) (h : Refine.walk i c l = some e) : c ≤ e := by
  fun_induction Refine.walk i c l with
  | case1 c => cases h; exact Nat.le_refl _
  | case2 p ps hi ih => have := ih h; omega
  | case3 c p ps hi hoff => cases h
  | case4 c p ps hi ih => exact ih h

/-- what region `R` reads of row group `i`: `slicesOf rows k R` is `(List.range k).map (sliceAt rows R)` by `rfl` -/
def sliceAt (rows : List (List α)) (R : List Part) (i : Nat) : List α :=
  match R.find? (fun p => p.index == i) with
  | some p => ((rows.getD i []).drop p.off).take p.len
  | none => []

/-- what a region with distinct row groups reads of row group `i` is the stretch the walk crosses -/
theorem sliceAt_of_walk (rows : List (List α)) (i : Nat) (R : List Part)
    (hnd : (R.map (·.index)).Nodup) (c c1 : Nat) (hw : Refine.walk i c R = some c1) :
    sliceAt rows R i = ((rows.getD i []).drop c).take (c1 - c) := by
  unfold sliceAt
  cases hf : R.find? (fun p => p.index == i) with
  | none =>
    have habs : ∀ p ∈ R, p.index ≠ i := by
      intro p hp hpi
      have := List.find?_eq_none.mp hf p hp
      simp [hpi] at this
    rw [walk_absent i R c habs] at hw
    cases hw; simp
  | some p =>
    have hp := List.mem_of_find?_eq_some hf
    have hpi : p.index = i := by simpa using List.find?_some hf
    rw [walk_present i R c p hnd hp hpi] at hw
    split at hw
    · rename_i hoff
      cases hw
      simp only [hoff]
      congr 1; omega
    · cases hw

theorem flatten_slices (rows : List (List α)) (i : Nat) : ∀ (plan : List (List Part)),
    (∀ R ∈ plan, (R.map (·.index)).Nodup) → ∀ (c e : Nat), Refine.walk i c plan.flatten = some e →
    (plan.map (fun R => sliceAt rows R i)).flatten = ((rows.getD i []).drop c).take (e - c)
  | [], _, c, e, hw => by
    simp only [List.flatten_nil, Refine.walk, Option.some.injEq] at hw
    subst hw; simp
  | R :: plan, hnd, c, e, hw => by
    simp only [List.flatten_cons] at hw
    rw [walk_append] at hw
    cases h1 : Refine.walk i c R with
    | none => rw [h1] at hw; simp at hw
    | some c1 =>
      rw [h1] at hw
      simp only [Option.bind_some] at hw
      have ih := flatten_slices rows i plan (fun R' hR' => hnd R' (by simp [hR'])) c1 e hw
      have hs := sliceAt_of_walk rows i R (hnd R (by simp)) c c1 h1
      simp only [List.map_cons, List.flatten_cons, hs, ih]
      have m1 := walk_mono i R c c1 h1
      have m2 := walk_mono i plan.flatten c1 e hw
      have : e - c = (c1 - c) + (e - c1) := by omega
      rw [this, List.take_add, List.drop_drop]
      congr 3
      omega

theorem cuts_partition_rows (strict : Bool) (specs : List ColSpec) (ts : List RG) (plan : List (List Part))
    (h : refineSegment strict specs ts = some plan) (rows : List (List α)) (hlen : rows.length = ts.length)
    (hrows : ∀ i, i < ts.length → (rows.getD i []).length = numRowsOf ts i) :
    joinSegmentsG ts.length (plan.map (slicesOf rows ts.length)) = rows := by
  obtain ⟨hw, hnd⟩ := refineSegment_partition strict specs ts plan h
  have e : plan.map (slicesOf rows ts.length) =
      plan.map (fun R => (List.range ts.length).map (sliceAt rows R)) := rfl
  rw [e, joinSegmentsG_map]
  apply List.ext_getElem
  · simp [hlen]
  · intro i h1 h2
    have hi : i < ts.length := by simpa using h1
    simp only [List.getElem_map, List.getElem_range]
    rw [flatten_slices rows i plan (fun R hR => (hnd R hR).1) 0 _ (hw i hi)]
    have := hrows i hi
    simp only [List.getD_eq_getElem?_getD, List.getElem?_eq_getElem h2, Option.getD_some] at this ⊢
    simp [← this]

/-- PARTIAL: the key order of the regions is a hypothesis (`hgood`; it holds for a lone slice trivially and for merged
    regions by `mergeC_sorted_complete_stable`). OPEN: deriving it from the sweep of `refineSegment` and `PagesOk`;
    what is missing is said at `Props.C09.cuts_form_good_plan_partial`. -/
theorem cuts_form_good_plan_partial (strict : Bool) (specs : List ColSpec) (ts : List RG) (plan : List (List Part))
    (h : refineSegment strict specs ts = some plan) (rows : List (List α)) (hlen : rows.length = ts.length)
    (hrows : ∀ i, i < ts.length → (rows.getD i []).length = numRowsOf ts i)
    (le : α → α → Prop) (tag : α → Nat) (outs : List (List α))
    (hgood : PlanGoodBy le tag ts.length (plan.map (slicesOf rows ts.length)) outs) :
    IsMergeBy le tag rows outs.flatten := by
  have := planBy_isMerge _ _ hgood
  rwa [cuts_partition_rows strict specs ts plan h rows hlen hrows] at this

end

end PqModel.Refine
