/-! # `booleanPage.Slice`: the bit-offset arithmetic (C08)

The base page of a boolean column keeps its values bit-packed and slices without moving bits: the
sliced page shares the bytes from `(i + offset) / 8` on and remembers the bit `offset` of its first
value inside the first byte (page_boolean.go:104-122); `valueAt` adds the offset back
(page_boolean.go:50-55).

* MIRROR: `BoolPg`, `valueAt`, `sliceBool`, `dataBits` (`Data()`: the bytes as they are,
  page_boolean.go:46), `boolValues` (what `Values()` delivers: `valueAt 0 … numValues-1`,
  page_boolean.go:147-157).
* SPEC: values `i..j-1` of the list of values; `packBits` = PLAIN bit-packing, LSB first. -/
namespace PqModel.PageSlice

structure BoolPg where
  bits : List Nat      -- bytes
  offset : Nat
  numValues : Nat
deriving DecidableEq, Repr

/-- MIRROR of `booleanPage.valueAt` (page_boolean.go:50-55); 1 = true -/
def valueAt (p : BoolPg) (i : Nat) : Nat :=
  (p.bits[(p.offset + i) / 8]?.getD 0 / 2 ^ ((p.offset + i) % 8)) % 2

/-- MIRROR of `booleanPage.Slice` (page_boolean.go:104-122) -/
def sliceBool (p : BoolPg) (i j : Nat) : BoolPg :=
  let low := i + p.offset
  let high := j + p.offset
  let off := low / 8
  let end_ := if high % 8 ≠ 0 then high / 8 + 1 else high / 8
  ⟨(p.bits.drop off).take (end_ - off), low % 8, j - i⟩

/-- MIRROR of `booleanPageValues.ReadValues` in total -/
def boolValues (p : BoolPg) : List Nat := (List.range p.numValues).map (valueAt p)

/-- MIRROR of `booleanPage.Data()`: the shared bytes, whatever the offset -/
def dataBits (p : BoolPg) : List Nat := p.bits

/-- the bytes cover the values -/
def BoolPg.WF (p : BoolPg) : Prop := p.offset + p.numValues ≤ 8 * p.bits.length

theorem le_mul_byteEnd (H : Nat) : H ≤ 8 * (if H % 8 ≠ 0 then H / 8 + 1 else H / 8) := by
  split <;> omega

/-- bit `k` behind bit `L`: its byte and its place in the byte, counted from the byte of `L` -/
theorem bit_split (L k : Nat) : L / 8 + (L % 8 + k) / 8 = (L + k) / 8 ∧ (L % 8 + k) % 8 = (L + k) % 8 := by
  have h : L + k = 8 * (L / 8) + (L % 8 + k) := by rw [← Nat.add_assoc, Nat.div_add_mod]
  rw [h, Nat.mul_add_div (by decide), Nat.mul_add_mod]
  exact ⟨rfl, rfl⟩

theorem valueAt_slice (p : BoolPg) (i j k : Nat) (hk : k < j - i) :
    valueAt (sliceBool p i j) k = valueAt p (i + k) := by
  unfold valueAt sliceBool
  simp only
  obtain ⟨hidx, hbit⟩ := bit_split (i + p.offset) k
  -- the bit lies in front of bit `j + offset`, hence in the bytes kept
  have hlt : ((i + p.offset) % 8 + k) / 8 <
      (if (j + p.offset) % 8 ≠ 0 then (j + p.offset) / 8 + 1 else (j + p.offset) / 8) - (i + p.offset) / 8 := by
    rw [Nat.lt_sub_iff_add_lt', hidx]
    exact Nat.div_lt_of_lt_mul (Nat.lt_of_lt_of_le (by omega) (le_mul_byteEnd _))
  rw [List.getElem?_take, if_pos hlt, List.getElem?_drop, hidx, hbit,
    show i + p.offset + k = p.offset + (i + k) by omega]

/-- SPEC: PLAIN bit-packing of 0/1 values, least significant bit first -/
def packByte : List Nat → Nat
  | [] => 0
  | b :: bs => b % 2 + 2 * packByte bs

def packBits : Nat → List Nat → List Nat
  | 0, _ => []
  | fuel + 1, vs => if vs.isEmpty then [] else packByte (vs.take 8) :: packBits fuel (vs.drop 8)

end PqModel.PageSlice
