import PqModel.Basics

namespace PqModel.Seek

/-! # FilePages.SeekToRow / ReadPage at page granularity (C08)

A column chunk is the list of the row counts of its data pages (`Chunk.rows`), whether the chunk
metadata records a dictionary page offset (`Chunk.dict`, Go `f.dictOffset > 0`) and the data pages
whose checksum does not match their body (`Chunk.bad`: `ReadPage` consumes such a page and fails
with ErrCorrupted). Stream positions are counted in data pages instead of bytes: `St.pos` is the
page the section reader / bufio reader will actually decode next, `St.index` is what the code
*believes* that page to be (`f.index`). The cached page is `St.last = some (lastPageIndex, page
actually cached)`. `St.lost` is `f.desync` (set by a failed `ReadPage`); the code before the
repairs has no such field, there it is a ghost that nothing reads.

* MIRROR (the Go code before the repairs): `seekAsis`, `readLoop`, `readPage`, `stepAsis`.
* MIRROR of the repaired code (the `fix:` commits on FilePages.SeekToRow/ReadPage): `seekFixed`,
  `stepFixed` (`ReadPage` differs only by setting `desync` on failure).
* SPEC (written from the property statement): `SpecOK`, `RunOK` — a reader is a row counter whose
  position is undefined (`none`) between a failed read and the next seek.

Not modelled (tied by L1 only): byte offsets and the in-buffer Discard (all three ways of moving
the stream are `pos := t`), data pages that do not start on a row boundary (the writer of this
library never produces them), pages with zero rows, negative row indexes, encryption ordinals,
reference counts of the cached page, failures other than a consumed page with a wrong checksum. -/

structure Chunk where
  rows : List Nat    -- row count of every data page, in file order
  dict : Bool        -- f.dictOffset > 0
  bad  : List Nat := []  -- data pages whose checksum does not match
deriving Repr, DecidableEq

structure St where
  hasIndex : Bool             -- f.chunk.offsetIndex.Load() != nil
  index : Nat                 -- f.index: believed index of the next page in the stream
  pos   : Nat                 -- actual stream position, in data pages
  skip  : Nat                 -- f.skip
  last  : Option (Nat × Nat)  -- (f.lastPageIndex, page actually held by f.lastPage)
  serve : Bool                -- f.serveLastPage
  lost  : Bool := false       -- f.desync: a ReadPage failed since the last seek
deriving Repr, DecidableEq

inductive Op where
  | seek (k : Nat)
  | readPage
  | loadIndex                 -- FileColumnChunk.OffsetIndex() on a file opened with SkipPageIndex
deriving Repr, DecidableEq

inductive Out where
  | ok
  | err
  | eof
  | page (p start len : Nat)  -- rows start..start+len-1, cut from data page p
  | corrupt                   -- ReadPage failed: checksum mismatch (ErrCorrupted)
deriving Repr, DecidableEq

/-- pages[i].FirstRowIndex -/
def firstRow (rows : List Nat) (i : Nat) : Nat := (rows.take i).sum

/-- `sort.Search(len(pages), pages[i].FirstRowIndex > k) - 1` as a linear scan -/
def findPage (rows : List Nat) (k : Nat) : Nat → Nat → Nat
  | 0, acc => acc
  | fuel + 1, acc =>
    if acc + 1 < rows.length ∧ firstRow rows (acc + 1) ≤ k then findPage rows k fuel (acc + 1) else acc

def target (rows : List Nat) (k : Nat) : Nat := findPage rows k rows.length 0

/-- `FilePages.init` -/
def init (hasIndex : Bool) : St :=
  { hasIndex := hasIndex, index := 0, pos := 0, skip := 0, last := none, serve := false, lost := false }

/-- MIRROR of `FilePages.SeekToRow` before the repairs.
    No offset index: rewind to dataOffset, `skip = rowIndex`, `index = 0|1`; empty page list;
    target and skip; cached-page shortcut (returns before touching the stream and never clears
    the flag); believed position equals the target; move the stream (Discard / Seek+Reset, all
    `pos := t` here). -/
def seekAsis (c : Chunk) (s : St) (k : Nat) : St × Out :=
  if s.hasIndex = false then
    ({ s with pos := 0, skip := k, index := if c.dict then 1 else 0 }, .ok)
  else if c.rows.isEmpty then
    if k = 0 then ({ s with skip := 0 }, .ok) else (s, .err)
  else
    let t := target c.rows k
    let s := { s with skip := k - firstRow c.rows t }
    match s.last with
    | some (li, _) =>
      if t = li then ({ s with serve := true }, .ok)
      else if s.index = t then (s, .ok) else ({ s with index := t, pos := t }, .ok)
    | none => if s.index = t then (s, .ok) else ({ s with index := t, pos := t }, .ok)

/-- the `desync` block of the repaired `SeekToRow`: after a failed read drop the page cache -/
def resync (s : St) : St :=
  if s.lost then { s with lost := false, last := none, serve := false } else s

/-- MIRROR of the repaired `SeekToRow`: after a failed `ReadPage` (`desync`) the cache is dropped
    and the `index == target` shortcut is not taken; every successful seek clears
    `serveLastPage`; the cached page is served only when the stream is positioned right behind it
    (`f.index == target+1`), otherwise the page is read again from the stream; the no-index path
    numbers data pages from 0 like the index path does. -/
def seekFixed (c : Chunk) (s0 : St) (k : Nat) : St × Out :=
  let desync := s0.lost
  let s := resync s0
  if s.hasIndex = false then
    ({ s with pos := 0, skip := k, index := 0, serve := false }, .ok)
  else if c.rows.isEmpty then
    if k = 0 then ({ s with skip := 0 }, .ok) else (s, .err)
  else
    let t := target c.rows k
    let s := { s with skip := k - firstRow c.rows t, serve := false }
    match s.last with
    | some (li, _) =>
      if t = li ∧ s.index = t + 1 then ({ s with serve := true }, .ok)
      else if s.index = t ∧ desync = false then (s, .ok) else ({ s with index := t, pos := t }, .ok)
    | none => if s.index = t ∧ desync = false then (s, .ok) else ({ s with index := t, pos := t }, .ok)

/-- MIRROR of the `for` loop of `FilePages.ReadPage`: decode the page under the stream (EOF when
    there is none; a page whose checksum does not match is consumed and the read fails, leaving
    `index` and the cache alone), cache it with the believed index, then return it, skip it
    entirely or return its tail. -/
def readLoop (rows bad : List Nat) : Nat → St → St × Out
  | 0, s => (s, .eof)
  | fuel + 1, s =>
    match rows[s.pos]? with
    | none => (s, .eof)
    | some nr =>
      if s.pos ∈ bad then ({ s with pos := s.pos + 1, lost := true }, .corrupt) else
      let s' := { s with last := some (s.index, s.pos), index := s.index + 1, pos := s.pos + 1 }
      if s.skip = 0 then (s', .page s.pos (firstRow rows s.pos) nr)
      else if nr ≤ s.skip then readLoop rows bad fuel { s' with skip := s.skip - nr }
      else ({ s' with skip := 0 }, .page s.pos (firstRow rows s.pos + s.skip) (nr - s.skip))

/-- MIRROR of `FilePages.ReadPage`; the first branch is the cached-page preamble. Fuel `rows.length + 1`:
    every turn of the loop consumes a page, one more turn meets the end. -/
def readPage (rows bad : List Nat) (s : St) : St × Out :=
  match s.serve, s.last with
  | true, some (li, lp) =>
    let s := { s with serve := false, index := li + 1 }
    let nr := rows.getD lp 0
    if s.skip < nr then ({ s with skip := 0 }, .page lp (firstRow rows lp + s.skip) (nr - s.skip))
    else readLoop rows bad (rows.length + 1) { s with skip := s.skip - nr }
  | _, _ => readLoop rows bad (rows.length + 1) s

def stepAsis (c : Chunk) (s : St) : Op → St × Out
  | .seek k => seekAsis c s k
  | .readPage => readPage c.rows c.bad s
  | .loadIndex => ({ s with hasIndex := true }, .ok)

def stepFixed (c : Chunk) (s : St) : Op → St × Out
  | .seek k => seekFixed c s k
  | .readPage => readPage c.rows c.bad s
  | .loadIndex => ({ s with hasIndex := true }, .ok)

/-- run a history, collecting the state and output after every op -/
def run (step : St → Op → St × Out) : St → List Op → List (St × Out)
  | _, [] => []
  | s, op :: ops => let r := step s op; r :: run step r.1 ops

def outs (step : St → Op → St × Out) (s : St) (ops : List Op) : List Out :=
  (run step s ops).map (·.2)

/-! ### SPEC: a sequential reader is a row counter -/

def total (c : Chunk) : Nat := c.rows.sum

/-- One step of the reference reader standing before row `n` (`none`: a read failed and no seek
    has happened since, the position is undefined). A seek moves it to `k` (it may be refused only
    when `k` is beyond the last row, and then nothing changes). A read delivers the rest of the
    page that contains row `n` — never from a corrupted page —, EOF exactly when no row is left, or
    fails, which it may only do when a corrupted page starts at or before row `n` (and must do when
    row `n` lies in one); after a failure the position is undefined. -/
def SpecOK (c : Chunk) (n : Option Nat) (op : Op) (n' : Option Nat) (out : Out) : Prop :=
  match op with
  | .seek k => (out = .ok ∧ n' = some k) ∨ (out = .err ∧ n' = n ∧ total c < k)
  | .loadIndex => out = .ok ∧ n' = n
  | .readPage =>
    match n with
    | none => n' = none
    | some n =>
      match out with
      | .corrupt => n' = none ∧ ∃ q ∈ c.bad, q < c.rows.length ∧ firstRow c.rows q ≤ n
      | .eof => total c ≤ n ∧ n' = some n
      | .page p st len => n < total c ∧ p = target c.rows n ∧ p ∉ c.bad ∧ st = n ∧
          len = firstRow c.rows (p + 1) - n ∧ n' = some (firstRow c.rows (p + 1)) ∧
          n < firstRow c.rows (p + 1) ∧ firstRow c.rows (p + 1) ≤ total c
      | _ => False

inductive RunOK (c : Chunk) : Option Nat → List Op → List Out → Prop where
  | nil (n) : RunOK c n [] []
  | cons {n op n' out ops os} : SpecOK c n op n' out → RunOK c n' ops os → RunOK c n (op :: ops) (out :: os)

/-! ### the findings on the mirror of the unchanged code -/

def c10 : Chunk := { rows := List.replicate 10 10, dict := false }

/-- history A: the cached-page shortcut leaves the stream where the previous seek put it -/
def histA : List Op := [.seek 20, .readPage, .seek 70, .seek 25, .readPage, .readPage]
/-- history B: a stale `serveLastPage` survives the next seek -/
def histB : List Op := [.seek 20, .readPage, .seek 25, .seek 72, .readPage]
/-- history C: page numbers of the no-index path count the dictionary page; the offset index is
    loaded lazily afterwards (file opened with SkipPageIndex, then `ColumnChunk.OffsetIndex()`) -/
def c10d : Chunk := { rows := List.replicate 10 10, dict := true }
def histC : List Op := [.seek 5, .readPage, .loadIndex, .seek 12, .readPage]
/-- history D: page 1 fails its checksum; the retry seek into it takes the `index == target`
    shortcut although the stream is already behind that page -/
def c3bad : Chunk := { rows := [100, 100, 100], dict := false, bad := [1] }
def histD : List Op := [.readPage, .readPage, .seek 150, .readPage]

example : outs (stepAsis c10) (init true) histA = [.ok, .page 2 20 10, .ok, .ok, .page 2 25 5, .page 7 70 10] := by decide +kernel
example : outs (stepFixed c10) (init true) histA = [.ok, .page 2 20 10, .ok, .ok, .page 2 25 5, .page 3 30 10] := by decide +kernel
example : outs (stepAsis c10) (init true) histB = [.ok, .page 2 20 10, .ok, .ok, .page 2 22 8] := by decide +kernel
example : outs (stepFixed c10) (init true) histB = [.ok, .page 2 20 10, .ok, .ok, .page 7 72 8] := by decide +kernel
example : outs (stepAsis c10d) (init false) histC = [.ok, .page 0 5 5, .ok, .ok, .page 0 2 8] := by decide +kernel
example : outs (stepFixed c10d) (init false) histC = [.ok, .page 0 5 5, .ok, .ok, .page 1 12 8] := by decide +kernel
example : outs (stepAsis c3bad) (init true) histD = [.page 0 0 100, .corrupt, .ok, .page 2 250 50] := by decide +kernel
example : outs (stepFixed c3bad) (init true) histD = [.page 0 0 100, .corrupt, .ok, .corrupt] := by decide +kernel

/-! ### the readers against the SPEC -/

theorem firstRow_succ (rows : List Nat) (i nr : Nat) (h : rows[i]? = some nr) :
    firstRow rows (i + 1) = firstRow rows i + nr := by
  simp only [firstRow, List.take_add, List.sum_append, List.take_one, List.head?_drop, h]; simp

theorem firstRow_all (rows : List Nat) : ∀ i, rows.length ≤ i → firstRow rows i = rows.sum := by
  intro i hi; simp [firstRow, List.take_of_length_le hi]

theorem firstRow_zero (rows : List Nat) : firstRow rows 0 = 0 := by simp [firstRow]

theorem firstRow_mono (rows : List Nat) {i j : Nat} (h : i ≤ j) : firstRow rows i ≤ firstRow rows j := by
  obtain ⟨d, rfl⟩ := Nat.exists_eq_add_of_le h
  simp only [firstRow, List.take_add, List.sum_append]; omega

theorem firstRow_le_sum (rows : List Nat) (i : Nat) : firstRow rows i ≤ rows.sum := by
  have := firstRow_mono rows (Nat.le_max_left i rows.length)
  rwa [firstRow_all rows _ (Nat.le_max_right ..)] at this

theorem findPage_spec (rows : List Nat) (k : Nat) (fuel acc : Nat) : firstRow rows acc ≤ k →
    (acc < rows.length ∨ acc = 0) →
    firstRow rows (findPage rows k fuel acc) ≤ k ∧
      (findPage rows k fuel acc < rows.length ∨ findPage rows k fuel acc = 0) := by
  -- out of fuel; the next page still starts at or before `k`; it does not
  fun_induction findPage rows k fuel acc with
  | case1 acc => exact fun h hb => ⟨h, hb⟩
  | case2 fuel acc hc ih => exact fun _ _ => ih hc.2 (Or.inl hc.1)
  | case3 fuel acc hc => exact fun h hb => ⟨h, hb⟩

theorem findPage_max (rows : List Nat) (k : Nat) (fuel acc : Nat) : rows.length ≤ acc + 1 + fuel →
    findPage rows k fuel acc + 1 < rows.length → k < firstRow rows (findPage rows k fuel acc + 1) := by
  fun_induction findPage rows k fuel acc with
  | case1 acc => exact fun hf h => by omega
  | case2 fuel acc hc ih => exact fun hf h => ih (by omega) h
  | case3 fuel acc hc =>
    intro _ h
    rcases Nat.lt_or_ge k (firstRow rows (acc + 1)) with h1 | h1
    · exact h1
    · exact absurd ⟨h, h1⟩ hc

theorem target_spec (rows : List Nat) (k : Nat) :
    firstRow rows (target rows k) ≤ k ∧ (target rows k < rows.length ∨ target rows k = 0) :=
  findPage_spec rows k rows.length 0 (by simp [firstRow]) (Or.inr rfl)

theorem target_upper (rows : List Nat) (k : Nat) (hk : k < rows.sum) :
    k < firstRow rows (target rows k + 1) := by
  rcases Nat.lt_or_ge (target rows k + 1) rows.length with h | h
  · exact findPage_max rows k rows.length 0 (by omega) h
  · rw [firstRow_all rows _ h]; exact hk

theorem target_unique (rows : List Nat) (k p : Nat) (hk : k < rows.sum)
    (h1 : firstRow rows p ≤ k) (h2 : k < firstRow rows (p + 1)) : target rows k = p := by
  have a1 := (target_spec rows k).1
  have a2 := target_upper rows k hk
  rcases Nat.lt_trichotomy (target rows k) p with h | h | h
  · have := firstRow_mono rows (show target rows k + 1 ≤ p by omega); omega
  · exact h
  · have := firstRow_mono rows (show p + 1 ≤ target rows k by omega); omega

/-- what `ReadPage` relies on: only the actual stream position and the actually cached page
    (which was read successfully, hence is not a corrupted one) -/
def RInv (rows bad : List Nat) (s : St) : Prop :=
  s.pos ≤ rows.length ∧
  (∀ li lp, s.last = some (li, lp) → lp < rows.length ∧ lp ∉ bad) ∧
  (s.serve = true → ∃ li lp, s.last = some (li, lp) ∧ s.pos = lp + 1)

theorem RInv.cached {rows bad : List Nat} {s : St} (h : RInv rows bad s) :
    ∀ li lp, s.last = some (li, lp) → lp < rows.length ∧ lp ∉ bad := h.2.1

theorem RInv.served {rows bad : List Nat} {s : St} (h : RInv rows bad s) :
    s.serve = true → ∃ li lp, s.last = some (li, lp) ∧ s.pos = lp + 1 := h.2.2

/-- believed (`index`, `lastPageIndex`) and actual (`pos`, cached page) page numbers agree -/
def Agree (s : St) : Prop :=
  s.index = s.pos ∧ ∀ li lp, s.last = some (li, lp) → li = lp

/-- the next row this reader will deliver (meaningful while `lost = false`) -/
def next (rows : List Nat) (s : St) : Nat :=
  match s.serve, s.last with
  | true, some (_, lp) => firstRow rows lp + s.skip
  | _, _ => firstRow rows s.pos + s.skip

/-- abstraction: the reader's row position, undefined between a failed read and the next seek -/
def npos (rows : List Nat) (s : St) : Option Nat := if s.lost then none else some (next rows s)

theorem npos_of_lost_false (rows : List Nat) (s : St) (h : s.lost = false) : npos rows s = some (next rows s) := by
  simp [npos, h]

/-- outcome of a read that starts before row `start`, `lost0` being `desync` before the read -/
def ReadOK (rows bad : List Nat) (lost0 : Bool) (start : Nat) (r : St × Out) : Prop :=
  RInv rows bad r.1 ∧ r.1.serve = false ∧
  match r.2 with
  | .page p st len => r.1.lost = lost0 ∧ p ∉ bad ∧ st = start ∧ 0 < len ∧ next rows r.1 = st + len ∧
      st + len ≤ rows.sum ∧ firstRow rows p ≤ st ∧ st + len = firstRow rows (p + 1)
  | .eof => r.1.lost = lost0 ∧ rows.sum ≤ start ∧ next rows r.1 = start
  | .corrupt => r.1.lost = true ∧ ∃ q ∈ bad, q < rows.length ∧ firstRow rows q ≤ start
  | _ => False

theorem next_of_serve_false (rows : List Nat) (s : St) (h : s.serve = false) :
    next rows s = firstRow rows s.pos + s.skip := by
  unfold next; rw [h]

theorem ReadOK.delivered {rows bad : List Nat} {s2 : St} {l0 : Bool} {p nr sk : Nat}
    (hget : rows[p]? = some nr) (hpb : p ∉ bad) (hsk : sk < nr) (e1 : s2.pos = p + 1) (e2 : s2.serve = false)
    (e3 : s2.skip = 0) (e4 : s2.lost = l0)
    (hl : ∀ li lp, s2.last = some (li, lp) → lp < rows.length ∧ lp ∉ bad) :
    ReadOK rows bad l0 (firstRow rows p + sk) (s2, .page p (firstRow rows p + sk) (nr - sk)) := by
  have hfs := firstRow_succ rows p nr hget
  have hle := firstRow_le_sum rows (p + 1)
  refine ⟨⟨by rw [e1]; exact ListFacts.lt_of_getElem?_eq_some hget, hl, fun h => by rw [e2] at h; cases h⟩, e2, e4, hpb, rfl,
    by omega, ?_, by omega, by omega, by omega⟩
  rw [next_of_serve_false rows s2 e2, e1, e3]; omega

theorem readLoop_spec (rows bad : List Nat) (hpos : ∀ r ∈ rows, 0 < r) :
    ∀ (fuel : Nat) (s : St), s.pos ≤ rows.length → s.serve = false →
      (∀ li lp, s.last = some (li, lp) → lp < rows.length ∧ lp ∉ bad) →
      rows.length - s.pos < fuel →
      ReadOK rows bad s.lost (firstRow rows s.pos + s.skip) (readLoop rows bad fuel s) := by
  intro fuel s
  -- cases of `readLoop`: out of fuel; no page; a corrupted page; `skip = 0`; the page is skipped whole (5); its tail is returned
  fun_induction readLoop rows bad fuel s with
  | case1 s => intro _ _ _ hf; omega
  | case2 fuel s hr =>
    intro hi hs hl _
    have hge : rows.length ≤ s.pos := by
      rcases Nat.lt_or_ge s.pos rows.length with h | h
      · rw [List.getElem?_eq_getElem h] at hr; cases hr
      · exact h
    refine ⟨⟨hi, hl, fun h => by rw [hs] at h; cases h⟩, hs, rfl, ?_, ?_⟩
    · rw [firstRow_all rows s.pos hge]; omega
    · exact next_of_serve_false rows s hs
  | case3 fuel s nr hr hb =>
    intro hi hs hl _
    have hlt := ListFacts.lt_of_getElem?_eq_some hr
    exact ⟨⟨hlt, hl, fun h => by rw [hs] at h; cases h⟩, hs, rfl, s.pos, hb, hlt, by omega⟩
  | case4 fuel s nr hr hb s' h0 =>
    intro _ hs _ _
    rw [h0]
    exact .delivered hr hb (hpos nr (List.mem_of_getElem? hr)) rfl hs h0 rfl
      fun li lp h => by cases h; exact ⟨ListFacts.lt_of_getElem?_eq_some hr, hb⟩
  | case5 fuel s nr hr hb s' h0 hle' ih =>
    intro hi hs hl hf
    have hlt := ListFacts.lt_of_getElem?_eq_some hr
    have hfs := firstRow_succ rows s.pos nr hr
    have := ih hlt hs (by intro li lp h; cases h; exact ⟨hlt, hb⟩) (by show rows.length - (s.pos + 1) < fuel; omega)
    have he : firstRow rows (s.pos + 1) + (s.skip - nr) = firstRow rows s.pos + s.skip := by omega
    rw [← he]; exact this
  | case6 fuel s nr hr hb s' h0 hgt =>
    intro _ hs _ _
    exact .delivered hr hb (by omega) rfl hs rfl rfl
      fun li lp h => by cases h; exact ⟨ListFacts.lt_of_getElem?_eq_some hr, hb⟩

theorem readPage_spec (rows bad : List Nat) (hpos : ∀ r ∈ rows, 0 < r) (s : St) (h : RInv rows bad s) :
    ReadOK rows bad s.lost (next rows s) (readPage rows bad s) := by
  obtain ⟨hi, hl, hsv⟩ := h
  unfold readPage
  cases hs : s.serve with
  | false =>
    have := readLoop_spec rows bad hpos (rows.length + 1) s hi hs hl (by omega)
    have hn := next_of_serve_false rows s hs
    cases hlast : s.last <;> simpa [hn] using this
  | true =>
    obtain ⟨li, lp, hlast, hidx⟩ := hsv hs
    obtain ⟨hlp, hlb⟩ := hl li lp hlast
    have hn : next rows s = firstRow rows lp + s.skip := by simp [next, hs, hlast]
    rw [hn]
    simp only [hlast]
    have hget := ListFacts.getElem?_getD 0 hlp
    generalize rows.getD lp 0 = nr at hget
    split
    · rename_i hlt
      exact .delivered hget hlb hlt hidx rfl rfl rfl fun a b h => by cases h; exact ⟨hlp, hlb⟩
    · rename_i hge
      have hfs := firstRow_succ rows lp _ hget
      have := readLoop_spec rows bad hpos (rows.length + 1)
        { s with serve := false, index := li + 1, skip := s.skip - nr } hi rfl hl (by simp; omega)
      have he : firstRow rows s.pos + (s.skip - nr) = firstRow rows lp + s.skip := by
        rw [hidx]; omega
      simpa [he, hlast] using this

theorem Agree.advance {s s' : St} (h : Agree s) (hi : s'.index = s.index + 1) (hp : s'.pos = s.pos + 1)
    (hl : s'.last = some (s.index, s.pos)) : Agree s' := by
  refine ⟨by rw [hi, hp, h.1], fun li lp hh => ?_⟩
  rw [hl] at hh; cases hh; exact h.1

theorem readLoop_agree (rows bad : List Nat) (fuel : Nat) (s : St) : (s.lost = false → Agree s) →
    (readLoop rows bad fuel s).1.lost = false → Agree (readLoop rows bad fuel s).1 := by
  fun_induction readLoop rows bad fuel s with
  | case1 s => exact fun h hl => h hl
  | case2 fuel s hr => exact fun h hl => h hl
  | case3 fuel s nr hr hb => exact fun _ hl => nomatch hl
  | case4 fuel s nr hr hb s' h0 => exact fun h hl => (h hl).advance rfl rfl rfl
  | case5 fuel s nr hr hb s' h0 hle ih => exact fun h hl => ih (fun hl' => (h hl').advance rfl rfl rfl) hl
  | case6 fuel s nr hr hb s' h0 hgt => exact fun h hl => (h hl).advance rfl rfl rfl

theorem readLoop_hasIndex (rows bad : List Nat) (fuel : Nat) (s : St) :
    (readLoop rows bad fuel s).1.hasIndex = s.hasIndex := by
  fun_induction readLoop rows bad fuel s with
  | case5 _ _ _ _ _ _ _ _ ih => exact ih
  | _ => rfl

theorem readPage_hasIndex (rows bad : List Nat) (s : St) : (readPage rows bad s).1.hasIndex = s.hasIndex := by
  fun_cases readPage rows bad s
  · rfl
  · exact readLoop_hasIndex ..
  · exact readLoop_hasIndex ..

theorem readPage_agree (rows bad : List Nat) (s : St) (hr : RInv rows bad s) (h : s.lost = false → Agree s)
    (hl : (readPage rows bad s).1.lost = false) : Agree (readPage rows bad s).1 := by
  -- serving the cached page `(li, lp)`: the stream stands right behind it
  have cached : ∀ li lp, s.last = some (li, lp) → s.serve = true → s.lost = false →
      Agree { s with serve := false, index := li + 1 } := fun li lp hlast hs hl' => by
    obtain ⟨li', lp', h1, h2⟩ := hr.served hs
    rw [hlast] at h1; cases h1
    have := (h hl').2 li lp hlast
    exact ⟨by show li + 1 = s.pos; omega, (h hl').2⟩
  revert hl
  fun_cases readPage rows bad s
  · rename_i li lp hlast hs _ _ _; exact fun hl => cached li lp hlast hs hl
  · rename_i li lp hlast hs _ _ _
    exact fun hl => readLoop_agree rows bad _ _ (fun hl' => cached li lp hlast hs hl') hl
  · exact fun hl => readLoop_agree rows bad _ s h hl

theorem ReadOK.lost {rows bad : List Nat} {l0 : Bool} {start : Nat} {r : St × Out}
    (h : ReadOK rows bad l0 start r) : r.1.lost = l0 ∨ (r.1.lost = true ∧ rows ≠ []) := by
  obtain ⟨_, _, h3⟩ := h
  split at h3
  · exact .inl h3.1
  · exact .inl h3.1
  · obtain ⟨hl, q, _, hq, _⟩ := h3
    exact .inr ⟨hl, fun hnil => by simp [hnil] at hq⟩
  · exact h3.elim

theorem ReadOK.page_own {rows bad : List Nat} {l0 : Bool} {start : Nat} {r : St × Out} {p st len : Nat}
    (h : ReadOK rows bad l0 start r) (hr : r.2 = .page p st len) :
    p ∉ bad ∧ firstRow rows p ≤ st ∧ st + len = firstRow rows (p + 1) := by
  have h3 := h.2.2
  rw [hr] at h3
  obtain ⟨_, hb, _, _, _, _, h1, h2⟩ := h3
  exact ⟨hb, h1, h2⟩

theorem readOK_lost (rows bad : List Nat) (start : Nat) (r : St × Out) (h : ReadOK rows bad true start r) :
    r.1.lost = true :=
  h.lost.elim id (·.1)

theorem readOK_spec (c : Chunk) (n : Nat) (r : St × Out) (h : ReadOK c.rows c.bad false n r) :
    SpecOK c (some n) .readPage (npos c.rows r.1) r.2 := by
  obtain ⟨_, _, h3⟩ := h
  have htot : total c = c.rows.sum := rfl
  unfold SpecOK
  cases ho : r.2 with
  | ok => simp [ho] at h3
  | err => simp [ho] at h3
  | corrupt =>
    simp only [ho] at h3
    simp only [npos, h3.1]
    exact ⟨rfl, h3.2⟩
  | eof =>
    simp only [ho] at h3
    rw [npos_of_lost_false _ _ h3.1, h3.2.2]
    exact ⟨by omega, rfl⟩
  | page p st len =>
    simp only [ho] at h3
    obtain ⟨e0, eb, e1, e2, e3, e4, e5, e6⟩ := h3
    subst e1
    have ht : target c.rows st = p := target_unique c.rows st p (by omega) e5 (by omega)
    rw [npos_of_lost_false _ _ e0, e3, e6]
    exact ⟨by omega, ht.symm, eb, rfl, by omega, rfl, by omega, by omega⟩

/-- invariant of the repaired reader; the last clause (a position is lost only on a chunk that has pages)
    is what makes a refused seek, which happens on an empty chunk only, leave `resync s = s` -/
def SInv (c : Chunk) (s : St) : Prop :=
  RInv c.rows c.bad s ∧ (s.lost = false → Agree s) ∧ (s.lost = true → c.rows ≠ [])

/-- outcome of a seek to row `k` from state `s`: it succeeds and the reader stands on row `k`, or it is
    refused, nothing changes and `k` lies behind the last row -/
def SeekOK (c : Chunk) (s : St) (k : Nat) (r : St × Out) : Prop :=
  (r.2 = .ok ∧ r.1.lost = false ∧ next c.rows r.1 = k) ∨ (r.2 = .err ∧ r.1 = s ∧ total c < k)

theorem SInv.rinv {c : Chunk} {s : St} (h : SInv c s) : RInv c.rows c.bad s := h.1
theorem SInv.agree {c : Chunk} {s : St} (h : SInv c s) : s.lost = false → Agree s := h.2.1
theorem SInv.pages {c : Chunk} {s : St} (h : SInv c s) : s.lost = true → c.rows ≠ [] := h.2.2

/-- `s'`: the state the seek leaves, on page `t`; `s`: the state whose cache it keeps; `s0`: the state it started from -/
theorem SeekOK.at_page {c : Chunk} {s0 s s' : St} {k : Nat} (t : Nat)
    (hl : ∀ li lp, s.last = some (li, lp) → lp < c.rows.length ∧ lp ∉ c.bad) (e1 : s'.last = s.last)
    (e2 : s'.serve = false) (e3 : s'.lost = false) (e4 : s'.pos = t) (htn : t ≤ c.rows.length)
    (ht : firstRow c.rows t ≤ k) (e5 : s'.skip = k - firstRow c.rows t) :
    RInv c.rows c.bad s' ∧ SeekOK c s0 k (s', .ok) := by
  refine ⟨⟨e4 ▸ htn, e1 ▸ hl, fun h => by rw [e2] at h; cases h⟩, Or.inl ⟨rfl, e3, ?_⟩⟩
  rw [next_of_serve_false _ _ e2, e4, e5]; omega

theorem SeekOK.at_start {c : Chunk} {s0 s s' : St} {k : Nat}
    (hl : ∀ li lp, s.last = some (li, lp) → lp < c.rows.length ∧ lp ∉ c.bad) (e1 : s'.last = s.last)
    (e2 : s'.serve = false) (e3 : s'.lost = false) (e4 : s'.pos = 0) (e5 : s'.skip = k) :
    RInv c.rows c.bad s' ∧ SeekOK c s0 k (s', .ok) :=
  SeekOK.at_page 0 hl e1 e2 e3 e4 (Nat.zero_le _) (by rw [firstRow_zero]; omega) (by rw [firstRow_zero]; exact e5)

theorem last_none_of_nil {rows bad : List Nat} {s : St} (hr : RInv rows bad s) (hnil : rows = []) :
    s.last = none := by
  cases hl : s.last with
  | none => rfl
  | some p => have := (hr.cached p.1 p.2 hl).1; rw [hnil] at this; cases this

theorem SeekOK.no_pages {c : Chunk} {s : St} {k : Nat} (hr : RInv c.rows c.bad s) (hl : s.lost = false)
    (hnil : c.rows = []) :
    (k = 0 → SeekOK c s k ({ s with skip := 0 }, .ok)) ∧ (¬ k = 0 → SeekOK c s k (s, .err)) := by
  refine ⟨fun hk => Or.inl ⟨rfl, hl, ?_⟩, fun hk => Or.inr ⟨rfl, rfl, ?_⟩⟩
  · simp [next, last_none_of_nil hr hnil, hnil, firstRow, hk]
  · simp [total, hnil]; omega

theorem SeekOK.sinv {c : Chunk} {s : St} {k : Nat} {r : St × Out} (hl : s.lost = false)
    (hi : RInv c.rows c.bad r.1 ∧ SeekOK c s k r) (ha : Agree r.1) : SInv c r.1 :=
  have : r.1.lost = false := hi.2.elim (·.2.1) (fun h => h.2.1 ▸ hl)
  ⟨hi.1, fun _ => ha, fun h => by rw [this] at h; cases h⟩

theorem seekFixed_ok (c : Chunk) (s : St) (k : Nat) (hne : c.rows ≠ []) : (seekFixed c s k).2 = .ok := by
  fun_cases seekFixed c s k
  case case2 | case3 => rename_i he _; exact absurd (List.isEmpty_iff.mp he) hne
  all_goals rfl

theorem seekFixed_spec (c : Chunk) (s : St) (k : Nat) (h : SInv c s) :
    SInv c (seekFixed c s k).1 ∧ SeekOK c s k (seekFixed c s k) := by
  obtain ⟨hr0, hag0, hne⟩ := h
  -- behind the `desync` block the position is defined; page numbers agree there, or the cache is empty
  obtain ⟨hr, hlost, hd0, hagree, hag, hdf⟩ : RInv c.rows c.bad (resync s) ∧ (resync s).lost = false ∧
      (s.lost = false → resync s = s) ∧ (s.lost = false → Agree (resync s)) ∧
      (∀ li lp, (resync s).last = some (li, lp) → li = lp) ∧
      (c.rows = [] ∨ (resync s).last ≠ none → s.lost = false) := by
    cases hl : s.lost with
    | false =>
      have : resync s = s := by simp [resync, hl]
      rw [this]; exact ⟨hr0, hl, fun _ => rfl, fun _ => hag0 hl, (hag0 hl).2, fun _ => rfl⟩
    | true =>
      have : resync s = { s with lost := false, last := none, serve := false } := by simp [resync, hl]
      rw [this]
      exact ⟨⟨hr0.1, nofun, nofun⟩, rfl, nofun, nofun, nofun, fun h => h.elim (absurd · (hne hl)) (absurd rfl)⟩
  -- enough from `resync s`: a refused seek means no pages, then the position was never lost (`hdf`) and `resync s = s` (`hd0`)
  suffices h : (RInv c.rows c.bad (seekFixed c s k).1 ∧ SeekOK c (resync s) k (seekFixed c s k)) ∧
      Agree (seekFixed c s k).1 from
    have hnil (e : (seekFixed c s k).2 = .err) : c.rows = [] :=
      Decidable.byContradiction fun hne => by rw [seekFixed_ok c s k hne] at e; cases e
    ⟨SeekOK.sinv hlost h.1 h.2, h.1.2.imp_right fun e => ⟨e.1, e.2.1.trans (hd0 (hdf (.inl (hnil e.1)))), e.2.2⟩⟩
  have hlast := hr.cached
  have ht := target_spec c.rows k
  have htn : target c.rows k ≤ c.rows.length := by omega
  -- the stream is at the target page already (`stay`), or it is moved there
  have stay (he : (resync s).index = target c.rows k ∧ s.lost = false) := (hagree he.2).1.symm.trans he.1
  -- the eight branches of `seekFixed`: no offset index; no pages, `k = 0`; no pages, `k ≠ 0`; with a cached
  -- page: it is served (4), the stream stays (5), it is moved (6); without one: stays (7), moved (8)
  fun_cases seekFixed c s k
  · exact ⟨SeekOK.at_start hlast rfl rfl hlost rfl rfl, rfl, hag⟩
  · rename_i _ he hk
    have hnil : c.rows = [] := by simpa using he
    exact ⟨⟨hr, (SeekOK.no_pages hr hlost hnil).1 hk⟩, hagree (hdf (.inl hnil))⟩
  · rename_i _ he hk
    have hnil : c.rows = [] := by simpa using he
    exact ⟨⟨hr, (SeekOK.no_pages hr hlost hnil).2 hk⟩, hagree (hdf (.inl hnil))⟩
  · -- the cached page is the target and the stream stands right behind it
    rename_i li lp hl he
    have hl' : (resync s).last = some (li, lp) := hl
    have h1 : target c.rows k = li := he.1
    have h2 : (resync s).index = target c.rows k + 1 := he.2
    have hli := hag li lp hl'
    have hpos := (hagree (hdf (.inr (by rw [hl']; exact nofun)))).1
    refine ⟨⟨⟨hr.1, hlast, fun _ => ⟨li, lp, hl', ?_⟩⟩, Or.inl ⟨rfl, hlost, ?_⟩⟩, hpos, hag⟩
    · show (resync s).pos = lp + 1; omega
    · show next c.rows { resync s with skip := k - firstRow c.rows (target c.rows k), serve := true } = k
      simp only [next, hl', ← hli, ← h1]; omega
  case case5 | case7 =>
    rename_i he
    exact ⟨SeekOK.at_page _ hlast rfl rfl hlost (stay he) htn ht.1 rfl, (hagree he.2).1, hag⟩
  case case6 | case8 => exact ⟨SeekOK.at_page _ hlast rfl rfl hlost rfl htn ht.1 rfl, rfl, hag⟩

theorem init_inv (c : Chunk) (hi : Bool) : SInv c (init hi) := by
  simp [SInv, RInv, Agree, init]

theorem stepFixed_inv (c : Chunk) (hpos : ∀ r ∈ c.rows, 0 < r) (s : St) (op : Op) (h : SInv c s) :
    SInv c (stepFixed c s op).1 := by
  cases op with
  | seek k => exact (seekFixed_spec c s k h).1
  | readPage =>
    have hr := readPage_spec c.rows c.bad hpos s h.rinv
    refine ⟨hr.1, fun hl => readPage_agree c.rows c.bad s h.rinv h.agree hl, fun hl => ?_⟩
    exact hr.lost.elim (fun e => h.pages (e ▸ hl)) (·.2)
  | loadIndex => exact h

theorem SeekOK.spec {c : Chunk} {s : St} {k : Nat} {r : St × Out} (h : SeekOK c s k r) :
    SpecOK c (npos c.rows s) (.seek k) (npos c.rows r.1) r.2 :=
  h.elim (fun ⟨h1, h2, h3⟩ => .inl ⟨h1, by rw [npos_of_lost_false _ _ h2, h3]⟩)
    (fun ⟨h1, h2, h3⟩ => .inr ⟨h1, by rw [h2], h3⟩)

theorem SpecOK.read_in_bad {c : Chunk} {n q : Nat} {n' : Option Nat} {out : Out}
    (h : SpecOK c (some n) .readPage n' out) (hq : q ∈ c.bad) (h1 : firstRow c.rows q ≤ n)
    (h2 : n < firstRow c.rows (q + 1)) : out = .corrupt := by
  have hs := firstRow_le_sum c.rows (q + 1)
  cases out with
  | corrupt => rfl
  | eof => exact absurd h.1 (by simp only [total]; omega)
  | page p st len =>
    obtain ⟨_, hp, hnb, _⟩ := h
    exact absurd hq (target_unique c.rows n q (by omega) h1 h2 ▸ hp ▸ hnb)
  | ok | err => exact h.elim

theorem readPage_step_spec (c : Chunk) (hpos : ∀ r ∈ c.rows, 0 < r) (s : St) (h : RInv c.rows c.bad s) :
    SpecOK c (npos c.rows s) .readPage (npos c.rows (readPage c.rows c.bad s).1) (readPage c.rows c.bad s).2 := by
  have hr := readPage_spec c.rows c.bad hpos s h
  cases hl : s.lost with
  | false =>
    rw [npos_of_lost_false _ _ hl]
    rw [hl] at hr
    exact readOK_spec c _ _ hr
  | true =>
    rw [hl] at hr
    simp [npos, hl, readOK_lost _ _ _ _ hr, SpecOK]

theorem stepFixed_spec (c : Chunk) (hpos : ∀ r ∈ c.rows, 0 < r) (s : St) (op : Op) (h : SInv c s) :
    SpecOK c (npos c.rows s) op (npos c.rows (stepFixed c s op).1) (stepFixed c s op).2 := by
  cases op with
  | seek k => exact SeekOK.spec (seekFixed_spec c s k h).2
  | readPage => exact readPage_step_spec c hpos s h.rinv
  | loadIndex => exact ⟨rfl, rfl⟩

/-! ### the code before the repairs, away from the paths on which it goes wrong -/

/-- the op does not take a path on which the unchanged code goes wrong: no seek after a failed
    read; a seek (with offset index) does not target the page recorded as cached; the offset index
    is not loaded lazily after the no-index path numbered the pages of a chunk with a dictionary -/
def safeOp (c : Chunk) (s : St) : Op → Bool
  | .seek k => !s.lost && (!s.hasIndex || (match s.last with
      | some (li, _) => target c.rows k != li
      | none => true))
  | .readPage => true
  | .loadIndex => !c.dict || s.hasIndex

def SafeOp (c : Chunk) (s : St) (op : Op) : Prop := safeOp c s op = true

theorem safeOp_seek (c : Chunk) (s : St) (k : Nat) (h : SafeOp c s (.seek k)) :
    s.lost = false ∧ (s.hasIndex = true → ∀ li lp, s.last = some (li, lp) → target c.rows k ≠ li) := by
  simp only [SafeOp, safeOp, Bool.and_eq_true, Bool.not_eq_true', Bool.or_eq_true] at h
  refine ⟨h.1, ?_⟩
  intro hi li lp hl
  have h2 := h.2
  simp [hi, hl] at h2
  exact h2

theorem safeOp_load (c : Chunk) (s : St) (h : SafeOp c s .loadIndex) : s.hasIndex = true ∨ c.dict = false := by
  simp [SafeOp, safeOp] at h
  exact h.symm

/-- invariant of the unchanged reader along safe histories: the flag is never set, and (while no
    read has failed) page numbers agree whenever they can ever be looked at (there is an offset
    index, or one may still be loaded because the chunk has no dictionary) -/
def AInv (c : Chunk) (s : St) : Prop :=
  RInv c.rows c.bad s ∧ s.serve = false ∧
  (s.lost = false → (s.hasIndex = true ∨ c.dict = false) → Agree s)

theorem seekAsis_spec (c : Chunk) (s : St) (k : Nat) (h : AInv c s) (hs : SafeOp c s (.seek k)) :
    (RInv c.rows c.bad (seekAsis c s k).1 ∧ SeekOK c s k (seekAsis c s k)) ∧ (seekAsis c s k).1.serve = false ∧
    ((seekAsis c s k).1.lost = false → ((seekAsis c s k).1.hasIndex = true ∨ c.dict = false) →
      Agree (seekAsis c s k).1) := by
  obtain ⟨hr, hsv, hagree0⟩ := h
  have hlast := hr.cached
  obtain ⟨hlost, hsafe⟩ := safeOp_seek c s k hs
  have hagree := hagree0 hlost
  have ht := target_spec c.rows k
  have htn : target c.rows k ≤ c.rows.length := by omega
  -- with an offset index page numbers agree: the stream may be at the target page already (`stay`)
  have hag (hi : ¬ s.hasIndex = false) : Agree s := hagree (.inl (by simpa using hi))
  have stay (hi : ¬ s.hasIndex = false) (he : s.index = target c.rows k) := (hag hi).1.symm.trans he
  -- the eight branches of `seekAsis` are those of `seekFixed` (`seekFixed_spec`); (4) is the cached-page shortcut
  fun_cases seekAsis c s k
  · -- no offset index: rewind; the believed index counts the dictionary page
    rename_i hni
    refine ⟨SeekOK.at_start hlast rfl hsv hlost rfl rfl, hsv, fun _ hp => ?_⟩
    have hdict : c.dict = false := hp.elim (fun h => by rw [hni] at h; cases h) id
    exact ⟨by simp [hdict], (hagree (.inr hdict)).2⟩
  · rename_i _ he hk
    have hnil : c.rows = [] := by simpa using he
    exact ⟨⟨hr, (SeekOK.no_pages hr hlost hnil).1 hk⟩, hsv, hagree0⟩
  · rename_i _ he hk
    have hnil : c.rows = [] := by simpa using he
    exact ⟨⟨hr, (SeekOK.no_pages hr hlost hnil).2 hk⟩, hsv, hagree0⟩
  · -- the cached-page shortcut: excluded
    rename_i hi _ _ _ lp hl
    exact absurd rfl (hsafe (by simpa using hi) _ lp hl)
  case case5 | case7 =>
    rename_i he
    exact ⟨SeekOK.at_page _ hlast rfl hsv hlost (stay ‹_› he) htn ht.1 rfl, hsv, fun _ _ => hag ‹_›⟩
  case case6 | case8 =>
    exact ⟨SeekOK.at_page _ hlast rfl hsv hlost rfl htn ht.1 rfl, hsv, fun _ _ => ⟨rfl, (hag ‹_›).2⟩⟩

theorem init_ainv (c : Chunk) (hi : Bool) : AInv c (init hi) := by
  simp [AInv, RInv, Agree, init]

theorem stepAsis_inv (c : Chunk) (hpos : ∀ r ∈ c.rows, 0 < r) (s : St) (op : Op) (h : AInv c s)
    (hs : SafeOp c s op) : AInv c (stepAsis c s op).1 := by
  cases op with
  | seek k => exact ⟨(seekAsis_spec c s k h hs).1.1, (seekAsis_spec c s k h hs).2⟩
  | readPage =>
    have hr := readPage_spec c.rows c.bad hpos s h.1
    refine ⟨hr.1, hr.2.1, fun hl hp => ?_⟩
    rw [show (stepAsis c s .readPage).1.hasIndex = s.hasIndex from readPage_hasIndex ..] at hp
    exact readPage_agree c.rows c.bad s h.1 (fun hl0 => h.2.2 hl0 hp) hl
  | loadIndex => exact ⟨h.1, h.2.1, fun hl _ => h.2.2 hl (safeOp_load c s hs)⟩

theorem stepAsis_spec (c : Chunk) (hpos : ∀ r ∈ c.rows, 0 < r) (s : St) (op : Op) (h : AInv c s)
    (hs : SafeOp c s op) :
    SpecOK c (npos c.rows s) op (npos c.rows (stepAsis c s op).1) (stepAsis c s op).2 := by
  cases op with
  | seek k => exact (seekAsis_spec c s k h hs).1.2.spec
  | readPage => exact readPage_step_spec c hpos s h.1
  | loadIndex => exact ⟨rfl, rfl⟩

/-- every op of the history is admissible (`ok`) in the state it is applied to -/
def AllOk (step : St → Op → St × Out) (ok : St → Op → Bool) : St → List Op → Bool
  | _, [] => true
  | s, op :: ops => ok s op && AllOk step ok (step s op).1 ops

theorem run_refines (c : Chunk) (step : St → Op → St × Out) (I : St → Prop) (ok : St → Op → Bool)
    (hinv : ∀ s op, I s → ok s op = true → I (step s op).1)
    (hspec : ∀ s op, I s → ok s op = true →
      SpecOK c (npos c.rows s) op (npos c.rows (step s op).1) (step s op).2) :
    ∀ (ops : List Op) (s : St), I s → AllOk step ok s ops = true →
      RunOK c (npos c.rows s) ops (outs step s ops)
  | [], s, _, _ => RunOK.nil _
  | op :: ops, s, hI, hok => by
    simp only [AllOk, Bool.and_eq_true] at hok
    have ih := run_refines c step I ok hinv hspec ops (step s op).1 (hinv s op hI hok.1) hok.2
    exact RunOK.cons (hspec s op hI hok.1) ih

theorem allOk_true (step : St → Op → St × Out) : ∀ (ops : List Op) (s : St),
    AllOk step (fun _ _ => true) s ops = true
  | [], _ => rfl
  | op :: ops, s => by simp [AllOk, allOk_true step ops]

theorem npos_init (rows : List Nat) (hi : Bool) : npos rows (init hi) = some 0 := by
  simp [npos, next, init, firstRow_zero]

inductive ReachFixed (c : Chunk) (hi : Bool) : St → Prop where
  | init : ReachFixed c hi (init hi)
  | step {s : St} (op : Op) : ReachFixed c hi s → ReachFixed c hi (stepFixed c s op).1

theorem reachFixed_inv (c : Chunk) (hpos : ∀ r ∈ c.rows, 0 < r) (hi : Bool) (s : St)
    (h : ReachFixed c hi s) : SInv c s := by
  induction h with
  | init => exact init_inv c hi
  | step op _ ih => exact stepFixed_inv c hpos _ op ih

/-- decidable check of a trace against the reference reader, complete for `RunOK` (`runOK_check`); its
    only use is the contrapositive: a trace that fails it is refuted -/
def checkRun (c : Chunk) : Option Nat → List Op → List Out → Bool
  | _, [], [] => true
  | _, .seek k :: ops, .ok :: os => checkRun c (some k) ops os
  | n, .seek k :: ops, .err :: os => decide (total c < k) && checkRun c n ops os
  | n, .loadIndex :: ops, .ok :: os => checkRun c n ops os
  | none, .readPage :: ops, _ :: os => checkRun c none ops os
  | some n, .readPage :: ops, .corrupt :: os =>
    c.bad.any (fun q => decide (q < c.rows.length ∧ firstRow c.rows q ≤ n)) && checkRun c none ops os
  | some n, .readPage :: ops, .eof :: os => decide (total c ≤ n) && checkRun c (some n) ops os
  | some n, .readPage :: ops, .page p st len :: os =>
    decide (n < total c ∧ p = target c.rows n ∧ p ∉ c.bad ∧ st = n ∧ len = firstRow c.rows (p + 1) - n) &&
    checkRun c (some (firstRow c.rows (p + 1))) ops os
  | _, _, _ => false

theorem runOK_check (c : Chunk) : ∀ (n : Option Nat) (ops : List Op) (os : List Out),
    RunOK c n ops os → checkRun c n ops os = true := by
  intro n ops os h
  induction h with
  | nil n => cases n <;> rfl
  | @cons n op n' out ops os h1 _ ih =>
    cases op with
    | seek k =>
      rcases h1 with ⟨rfl, rfl⟩ | ⟨rfl, rfl, h3⟩
      · simpa [checkRun] using ih
      · simp [checkRun, h3, ih]
    | loadIndex =>
      obtain ⟨rfl, rfl⟩ := h1
      simpa [checkRun] using ih
    | readPage =>
      cases n with
      | none =>
        simp only [SpecOK] at h1
        subst h1
        simpa [checkRun] using ih
      | some n =>
        simp only [SpecOK] at h1
        cases out with
        | ok => exact absurd h1 (by simp)
        | err => exact absurd h1 (by simp)
        | corrupt =>
          obtain ⟨rfl, q, hq, h2, h3⟩ := h1
          simp only [checkRun, Bool.and_eq_true]
          exact ⟨List.any_eq_true.mpr ⟨q, hq, by simp [h2, h3]⟩, ih⟩
        | eof =>
          obtain ⟨h2, rfl⟩ := h1
          simp [checkRun, h2, ih]
        | page p st len =>
          obtain ⟨a, b, d, e, f, rfl, _, _⟩ := h1
          simp only [checkRun, Bool.and_eq_true]
          exact ⟨by simp [a, ← b, d, e, f], ih⟩

end PqModel.Seek
