import PqModel.InsertSort
namespace PqModel.Reset

/-! # C17 — the writer state that influences output bytes, and `Reset`

MIRROR of parquet-go's `writer` / `ColumnWriter` state as far as it influences what the NEXT
file's bytes are, of `(*writer).reset` (writer.go 1219-1263), `(*ColumnWriter).reset`
(writer.go 2085-2143), `(*RowGroup).Reset` (format/parquet.go 1150-1162) and
`(*ColumnChunk).Reset` / `(*ColumnMetaData).Reset` (format/reset.go 80-124).

Go slices are modelled as SHARED CELLS wherever the code copies slice headers shallowly: a
`Slice` is an id into a heap of backing arrays plus a length. `newConcurrentRowGroupWriter` puts
the column writer's own `columnPath` / `encodings` slice headers into its `format.ColumnChunk`
(writer.go 866-875), `writeRowGroup` copies those structs into `w.rowGroups`
(`slices.Clone(rg.columnChunk)`, writer.go 1852) and stores the header of
`w.sortingColumns` in every committed row group (writer.go 1800, 1877 / 1886): all of them keep pointing
at the live writer's arrays. `format`'s in-place `Reset` methods `clear` such arrays.

Two mirrors are kept side by side (`Mirror`): `asIs` transliterates the code before the repairs
F10 (reset clears arrays the live writer shares), F24 (the retained plain fallback buffer is not
emptied), F25 (`readsAllocation`: page statistics read whether a buffer was ever allocated) and
F26 (the live chunk's bloom filter length is not cleared); `fixed` transliterates the repaired
code. `current` (end of the file) is the one the library has.

Byte strings (path elements, metadata keys) are lists of byte values. Buffer / dictionary / page
contents are lists of numbers: only their being empty or not matters to reset.

After the model: the invariants of a history, the observation of a reset writer, the order of the footer's
key/value metadata (`leBytes` is the ORDER on byte strings here, not `LE.leBytes`). -/

abbrev Str := List Nat

/-- A Go slice header: backing array (cell id in the heap) and length. A nil slice is any cell
with length 0. Capacity is not modelled. -/
structure Slice where
  cell : Nat
  len : Nat
deriving DecidableEq

def Slice.detached : Slice := ⟨0, 0⟩

structure SortCol where
  columnIdx : Nat
  descending : Bool
  nullsFirst : Bool
deriving DecidableEq

def SortCol.zero : SortCol := ⟨0, false, false⟩

/-- the backing arrays that several slice headers may share -/
structure Heap where
  strs : List (List Str)
  encs : List (List Nat)
  sorts : List (List SortCol)
deriving DecidableEq

/-- Go's `clear(s)` on the first `n` elements of a backing array -/
def clearPrefix {α} (z : α) : Nat → List α → List α
  | 0, l => l
  | _ + 1, [] => []
  | n + 1, _ :: xs => z :: clearPrefix z n xs

def modifyAt {α} (f : α → α) : Nat → List α → List α
  | _, [] => []
  | 0, x :: xs => f x :: xs
  | i + 1, x :: xs => x :: modifyAt f i xs

def Heap.derefStrs (h : Heap) (s : Slice) : List Str := (h.strs.getD s.cell []).take s.len
def Heap.derefEncs (h : Heap) (s : Slice) : List Nat := (h.encs.getD s.cell []).take s.len
def Heap.derefSorts (h : Heap) (s : Slice) : List SortCol := (h.sorts.getD s.cell []).take s.len

/-- `clear(s)` for a `[]string` -/
def Heap.clearStrs (h : Heap) (s : Slice) : Heap :=
  { h with strs := modifyAt (clearPrefix [] s.len) s.cell h.strs }

/-- `clear(s)` for a `[]format.SortingColumn` -/
def Heap.clearSorts (h : Heap) (s : Slice) : Heap :=
  { h with sorts := modifyAt (clearPrefix SortCol.zero s.len) s.cell h.sorts }

structure KV where
  key : Str
  value : Str
deriving DecidableEq

/-- what never changes after construction (slice HEADERS, not the arrays behind them) -/
structure ColStable where
  columnPath : Slice        -- c.columnPath
  encodings : Slice         -- c.encodings
  chunkPath : Slice         -- c.columnChunk.MetaData.PathInSchema (same header as columnPath)
  chunkEncoding : Slice     -- c.columnChunk.MetaData.Encoding (same header as encodings)
  originalType : Nat
  originalEncoding : Nat
  chunkType : Nat
  chunkCodec : Nat
  histLen : Nat             -- len of the level histograms (max level + 1, 0 when absent)
deriving DecidableEq

/-- what writing changes -/
structure ColVol where
  columnType : Nat
  encoding : Nat
  hasSwitchedToPlain : Bool
  onPlainBuffer : Bool          -- c.columnBuffer == c.plainColumnBuffer
  buffered : List Nat           -- rows held by the original (dictionary-indexed) column buffer
  plainBuffered : List Nat      -- rows held by the retained plain fallback buffer
  indexer : List Nat            -- ColumnIndexer accumulators (one entry per page)
  dict : List Nat               -- dictionary contents
  pageBuffer : Option (List Nat) -- encoded pages held in a pool buffer; none = released
  numPages : Nat
  filterLen : Nat               -- len(c.filter)
  numRows : Nat
  numValues : Nat               -- live column chunk accumulators ...
  totalUncompressed : Nat
  totalCompressed : Nat
  dataPageOffset : Nat
  dictPageOffset : Nat
  stats : Option (Nat × Nat × Nat)  -- null count, min, max
  encodingStats : List Nat
  bloomOffset : Nat
  pageLocations : List Nat
  totalUnencoded : Nat
  levelHist : List Nat          -- repetition / definition level histograms (cleared in place)
  pageLevelHists : List Nat
  bufAllocated : Bool           -- the column buffer's backing array exists (capacity is kept on purpose)
  bloomLength : Nat             -- live chunk's BloomFilterLength: only overwritten when a filter is written
  sizeStats : List Nat          -- NOT reset: overwritten by writeRowGroup (writer.go 1630)
  /-- `c.geospatialAccumulator` and the live chunk's `GeospatialStatistics` (GEOMETRY / GEOGRAPHY
  columns; geospatial_statistics.go 15-27) as a bit mask: 1 hasValues, 2 hasGeomTypes, 4 parseError,
  8 hasZ, 16 hasM, 32 a bound differs from its initial +Inf or -Inf, 64 the type set is not empty,
  128 the live column chunk holds statistics. 0 = as constructed (and: no accumulator). -/
  geo : Nat
deriving DecidableEq

structure Col where
  st : ColStable
  vol : ColVol
deriving DecidableEq

/-- the volatile state of a freshly constructed column writer -/
def ColVol.fresh (st : ColStable) : ColVol :=
  { columnType := st.originalType, encoding := st.originalEncoding, hasSwitchedToPlain := false,
    onPlainBuffer := false, buffered := [], plainBuffered := [], indexer := [], dict := [],
    pageBuffer := none, numPages := 0, filterLen := 0, numRows := 0, numValues := 0,
    totalUncompressed := 0, totalCompressed := 0, dataPageOffset := 0, dictPageOffset := 0,
    stats := none, encodingStats := [], bloomOffset := 0, pageLocations := [], totalUnencoded := 0,
    levelHist := List.replicate st.histLen 0, pageLevelHists := [], bufAllocated := false,
    bloomLength := 0, sizeStats := [], geo := 0 }

/-- MIRROR `(*ColumnWriter).reset`, writer.go 2085-2143, before the F24 repair -/
def colResetAsIs (c : Col) : Col :=
  let v := c.vol
  { c with vol := { v with
      columnType := if v.hasSwitchedToPlain then c.st.originalType else v.columnType
      encoding := if v.hasSwitchedToPlain then c.st.originalEncoding else v.encoding
      hasSwitchedToPlain := false
      onPlainBuffer := false          -- c.columnBuffer = c.originalColumnBuffer
      buffered := []                  -- c.columnBuffer.Reset(): the ORIGINAL buffer only
      indexer := []                   -- c.columnIndex.Reset()
      dict := []                      -- c.dictionary.Reset()
      pageBuffer := none
      numPages := 0
      filterLen := 0                  -- c.filter = c.filter[:0]
      numRows := 0
      numValues := 0
      totalUncompressed := 0
      totalCompressed := 0
      dataPageOffset := 0
      dictPageOffset := 0
      stats := none
      encodingStats := []
      bloomOffset := 0
      pageLocations := []
      totalUnencoded := 0
      levelHist := v.levelHist.map (fun _ => 0)   -- clear(c.repetitionLevelHistogram) keeps the length
      pageLevelHists := []
      geo := 0 } }                    -- GeospatialStatistics = {}; c.geospatialAccumulator.reset()
                                      -- (geospatial_statistics.go 35-46: every flag, every bound, a new type set)

/-- MIRROR of the repaired `(*ColumnWriter).reset`: additionally `c.plainColumnBuffer.Reset()`
(F24) and `c.columnChunk.MetaData.BloomFilterLength = 0` (F26) -/
def colResetFixed (c : Col) : Col :=
  let c' := colResetAsIs c
  { c' with vol := { c'.vol with plainBuffered := [], bloomLength := 0 } }

/-- a committed `format.ColumnChunk` (struct copy of the live one: same slice headers) -/
structure CChunk where
  path : Slice
  encoding : Slice
  snap : List Nat        -- the numbers copied at commit time
deriving DecidableEq

structure RowGroup where
  columns : List CChunk
  sorting : Slice        -- header of w.sortingColumns
  nums : List Nat        -- NumRows, sizes, offsets, ordinal
deriving DecidableEq

structure Writer where
  heap : Heap
  cols : List Col                 -- w.currentRowGroup.columns
  numRows : Nat                   -- w.currentRowGroup.numRows
  offset : Nat                    -- w.writer.offset
  pending : List Nat              -- bytes held by w.buffer (bufio)
  metadata : List KV              -- w.metadata
  sorting : Slice                 -- w.sortingColumns
  rowGroups : List RowGroup       -- w.rowGroups (the live length; ordinals are its indexes)
  columnIndexes : List (List Nat)
  offsetIndexes : List (List Nat)
  deferred : List Nat             -- w.deferredBloomFilters
  deferredSize : Nat
  fileMetaData : Option (Nat × Nat)  -- w.fileMetaData: none = zero value; (rows, row groups)
  /-- `SortingWriter.dedupe.lastRow` (dedupe.go 68-76): the last row the duplicate dropper has seen.
  State of the sorting writer that wraps this writer (empty for a plain writer); the next sorted
  chunk drops a leading row equal to it. `SortingWriter.Reset` / `resetSortingBuffer`
  (sorting.go 136-150) do NOT clear it. -/
  dedupeLastRow : List Nat
deriving DecidableEq

/-- MIRROR `(*ColumnMetaData).Reset` format/reset.go 97-124 through `(*ColumnChunk).Reset` 80-93:
`clear(c.PathInSchema)` zeroes the strings of the array behind the header; `c.Encoding[:0]` only
shortens this copy's header. The other fields are scalars of the copy. -/
def chunkResetHeap (h : Heap) (c : CChunk) : Heap := h.clearStrs c.path

/-- MIRROR `(*RowGroup).Reset` format/parquet.go 1150-1162: every column chunk, then
`clear(r.SortingColumns)`. The emptied struct stays in the spare capacity of `w.rowGroups`; here only
the heap remains of it. That the struct is reused by the next `writeRowGroup`, and what it then
contributes (F27), is the subject of `ResetSlots.lean`. -/
def rowGroupResetHeap (h : Heap) (rg : RowGroup) : Heap :=
  (rg.columns.foldl chunkResetHeap h).clearSorts rg.sorting

/-- the repair of F10 in `(*writer).reset`: drop the shared headers before the in-place Reset -/
def RowGroup.detach (rg : RowGroup) : RowGroup :=
  { rg with columns := rg.columns.map (fun c => { c with path := Slice.detached, encoding := Slice.detached }),
            sorting := Slice.detached }

structure Mirror where
  colReset : Col → Col
  rowGroupReset : Heap → RowGroup → Heap
  /-- does any code path let the bytes depend on whether a column buffer's backing array is
  allocated? Before the F25 repair `makePageStatistics` (writer.go 2809-2832) does: the min/max of
  a page whose bound is the empty byte string is `Value.Bytes()` — nil (field absent) when the
  buffer has never held data, empty-but-present when it has. -/
  readsAllocation : Bool
  /-- `dedupe.lastRow` after `SortingWriter.sortAndWriteBufferedRows` (sorting.go 195-227) handled a
  chunk whose last row is the argument: the code sets it in `deduplicate` and clears it again in
  the deferred `w.dedupe.reset()`, so nothing is carried to the next chunk (or file) -/
  dedupeAfterChunk : List Nat → List Nat

def asIs : Mirror := ⟨colResetAsIs, rowGroupResetHeap, true, fun _ => []⟩
def fixed : Mirror := ⟨colResetFixed, fun h rg => rowGroupResetHeap h rg.detach, false, fun _ => []⟩
/-- a variant of `fixed` without the deferred `w.dedupe.reset()` ("carry the last row to the next
chunk"): harmless inside one file (the final merge drops duplicates anyway), refuted across
`Reset` in Props/C17 -/
def dedupeCarry : Mirror := { fixed with dedupeAfterChunk := fun last => last }
/-- a variant of `fixed` whose `geospatialBBoxAccumulator.reset` re-initialises the M bounds but
leaves the `hasM` flag (bit 16) set: refuted in Props/C17 -/
def geoKeepsHasM : Mirror :=
  { fixed with colReset := fun c =>
      let c' := colResetFixed c
      { c' with vol := { c'.vol with geo := if c.vol.geo / 16 % 2 = 1 then 16 else 0 } } }

/-- MIRROR `(*writer).reset`, writer.go 1219-1263 -/
def resetWith (M : Mirror) (s : Writer) : Writer :=
  { s with
    deferred := []                               -- bf.reset(); w.deferredBloomFilters[:0]
    deferredSize := 0
    offset := 0                                  -- w.writer.Reset(...)
    pending := []                                -- w.buffer.Reset(writer)
    cols := s.cols.map M.colReset                -- w.currentRowGroup.reset()
    numRows := 0
    heap := s.rowGroups.foldl M.rowGroupReset s.heap   -- w.rowGroups[i].Reset()
    rowGroups := []
    columnIndexes := []
    offsetIndexes := []
    fileMetaData := none }

structure ColCfg where
  path : List Str
  typ : Nat
  encoding : Nat
  encodings : List Nat
  codec : Nat
  histLen : Nat
deriving DecidableEq

structure Cfg where
  cols : List ColCfg
  sorting : List SortCol
  metadata : List KV       -- config.KeyValueMetadata after sortKeyValueMetadata
deriving DecidableEq

def initCol (i : Nat) (cc : ColCfg) : Col :=
  let st : ColStable :=
    { columnPath := ⟨i, cc.path.length⟩, encodings := ⟨i, cc.encodings.length⟩,
      chunkPath := ⟨i, cc.path.length⟩, chunkEncoding := ⟨i, cc.encodings.length⟩,
      originalType := cc.typ, originalEncoding := cc.encoding, chunkType := cc.typ,
      chunkCodec := cc.codec, histLen := cc.histLen }
  { st := st, vol := ColVol.fresh st }

def initCols : Nat → List ColCfg → List Col
  | _, [] => []
  | i, cc :: rest => initCol i cc :: initCols (i + 1) rest

/-- MIRROR `newWriter` + `newConcurrentRowGroupWriter` (writer.go 1112-1217, 742-897): one
array per column path / encodings list, one for the sorting columns -/
def initWith (cfg : Cfg) (md : List KV) : Writer :=
  { heap := { strs := cfg.cols.map (·.path), encs := cfg.cols.map (·.encodings), sorts := [cfg.sorting] }
    cols := initCols 0 cfg.cols, numRows := 0, offset := 0, pending := [], metadata := md,
    sorting := ⟨0, cfg.sorting.length⟩, rowGroups := [], columnIndexes := [], offsetIndexes := [],
    deferred := [], deferredSize := 0, fileMetaData := none, dedupeLastRow := [] }

def init (cfg : Cfg) : Writer := initWith cfg cfg.metadata

/-- how a `writeRowGroup` that has rows to write ends -/
inductive FlushKind
  | failed (offset : Nat) (defs : List Nat) (nFlushed : Nat)      -- an error on the way, after the
                                                                  -- first nFlushed columns flushed their page
  | committed (offset : Nat) (defs : List Nat) (snap : List Nat)  -- row group appended
deriving DecidableEq

inductive Op
  /-- Write / WriteRows: buffering, page flushes, dictionary growth and overflow — any new
  volatile state per column (also the state an error leaves behind) -/
  | write (rows : Nat) (effs : List ColVol)
  | flush (k : FlushKind)
  /-- Close: flush, deferred blooms, footer (which may fail) -/
  | close (k : FlushKind) (footerOk : Bool) (offset : Nat)
  /-- Close on a writer that has not written its file header yet, and the header write fails:
  `(*Writer).Close` (writer.go 472-482) first closes every column writer (`(*ColumnWriter).Close`,
  writer.go 2441-2450: the buffered rows become a page in the column's page buffer — any new volatile
  state per column, a dictionary fallback included), then `(*writer).close` begins with
  `w.writeFileHeader()` (writer.go 1266-1268) BEFORE the flush and returns its error: no row group
  reset runs, the recorded pages stay in the writer; the sink offset moves by what the sink took -/
  | closeHeaderFailed (effs : List ColVol) (offset : Nat)
  | setKV (key value : Str)
  /-- SortingWriter: a buffered chunk is sorted, de-duplicated and written to the temporary
  writer; `last` is the chunk's last row -/
  | sortChunk (last : List Nat)
  | reset
deriving DecidableEq

/-- `= ResetBuf.fit l n` -/
def normLen (n : Nat) (l : List Nat) : List Nat := (l ++ List.replicate n 0).take n

/-- a write leaves any volatile state, except what the code ties together: the level histograms
keep their length, and type/encoding differ from the original ones only after a fallback -/
def applyEffect (c : Col) (e : ColVol) : Col :=
  { c with vol := { e with
      columnType := if e.hasSwitchedToPlain then e.columnType else c.st.originalType
      encoding := if e.hasSwitchedToPlain then e.encoding else c.st.originalEncoding
      levelHist := normLen c.st.histLen e.levelHist } }

def applyEffects : List Col → List ColVol → List Col
  | [], _ => []
  | cs, [] => cs
  | c :: cs, e :: es => applyEffect c e :: applyEffects cs es

/-- MIRROR `(*ColumnWriter).totalRowCount` -/
def totalRowCount (c : Col) : Nat :=
  c.vol.numRows + (if c.vol.onPlainBuffer then c.vol.plainBuffered.length else c.vol.buffered.length)

def rowsToFlush (s : Writer) : Nat :=
  match s.cols with
  | [] => 0
  | c :: _ => totalRowCount c

/-- MIRROR the buffer side of `(*ColumnWriter).Flush` (writer.go 2154-2192): the page is cut from
the CURRENT column buffer, which is then emptied (`defer c.columnBuffer.Reset()`); the other
effects (page buffer, statistics, a possible fallback) are wiped by the `rg.reset()` that follows -/
def colFlushBuffer (c : Col) : Col :=
  { c with vol := if c.vol.onPlainBuffer then { c.vol with plainBuffered := [] } else { c.vol with buffered := [] } }

def flushBuffers : Nat → List Col → List Col
  | 0, cs => cs
  | _ + 1, [] => []
  | n + 1, c :: cs => colFlushBuffer c :: flushBuffers n cs

/-- MIRROR `(*writer).writeRowGroup`, writer.go 1524-1893, as far as state is concerned: nothing
without rows; otherwise every column flushes its last page, the deferred `rg.reset()` always
runs, and on success the row group — struct copies of the live column chunks and the header of
`w.sortingColumns` — is appended. The one list `snap` stands for every number copied at commit time
(each chunk's, the row group's, the entry of either index list): reset only has to drop them. -/
def flushStep (M : Mirror) (s : Writer) (k : FlushKind) : Writer :=
  if rowsToFlush s = 0 then s else
  match k with
  | .failed off defs n =>
    { s with offset := off, deferred := s.deferred ++ defs
             cols := (flushBuffers n s.cols).map M.colReset, numRows := 0 }
  | .committed off defs snap =>
    { s with offset := off, deferred := s.deferred ++ defs, deferredSize := s.deferredSize + defs.length
             rowGroups := s.rowGroups ++
               [{ columns := s.cols.map (fun c => ⟨c.st.chunkPath, c.st.chunkEncoding, snap⟩),
                  sorting := s.sorting, nums := snap }]
             columnIndexes := s.columnIndexes ++ [snap], offsetIndexes := s.offsetIndexes ++ [snap]
             cols := (flushBuffers s.cols.length s.cols).map M.colReset, numRows := 0 }

def FlushKind.isFailed : FlushKind → Bool
  | .failed .. => true
  | .committed .. => false

/-- MIRROR `(*writer).close`, writer.go 1265-1282. `fileMetaData = some (rows, row groups)`: the row
count is not tracked (always 0), the field only has to differ from the zero value reset restores. -/
def closeStep (M : Mirror) (s : Writer) (k : FlushKind) (footerOk : Bool) (off : Nat) : Writer :=
  let s1 := flushStep M s k
  if rowsToFlush s ≠ 0 ∧ k.isFailed then s1 else
  let s2 := { s1 with deferred := [], deferredSize := 0, offset := off }
  if footerOk then { s2 with fileMetaData := some (0, s2.rowGroups.length) } else s2

/-- MIRROR `(*Writer).SetKeyValueMetadata`, writer.go 656-668 -/
def setKV (key value : Str) : List KV → List KV
  | [] => [⟨key, value⟩]
  | kv :: rest => if kv.key = key then ⟨key, value⟩ :: rest else kv :: setKV key value rest

def step (M : Mirror) (s : Writer) : Op → Writer
  | .write rows effs => { s with cols := applyEffects s.cols effs, numRows := rows }
  | .flush k => flushStep M s k
  | .close k ok off => closeStep M s k ok off
  | .closeHeaderFailed effs off => { s with cols := applyEffects s.cols effs, offset := off }
  | .setKV k v => { s with metadata := setKV k v s.metadata }
  | .sortChunk last => { s with dedupeLastRow := M.dedupeAfterChunk last }
  | .reset => resetWith M s

def run (M : Mirror) (cfg : Cfg) (ops : List Op) : Writer := ops.foldl (step M) (init cfg)

/-- the size statistics, which writeRowGroup overwrites before encoding them (writer.go 1630), are
masked; so is the allocation flag when no code path reads it (`ra = false`) -/
def ColVol.observed (ra : Bool) (v : ColVol) : ColVol :=
  { v with sizeStats := [], bufAllocated := ra && v.bufAllocated }

structure ColObs where
  path : List Str            -- what c.columnPath reads now (through the heap)
  chunkPath : List Str       -- what the live column chunk's PathInSchema reads now
  encodings : List Nat
  chunkEncoding : List Nat
  st : ColStable
  vol : ColVol
deriving DecidableEq

structure RowGroupObs where
  columns : List (List Str × List Nat × List Nat)
  sorting : List SortCol
  nums : List Nat
deriving DecidableEq

structure Obs where
  cols : List ColObs
  numRows : Nat
  offset : Nat
  pending : List Nat
  metadata : List KV
  sorting : List SortCol
  rowGroups : List RowGroupObs
  columnIndexes : List (List Nat)
  offsetIndexes : List (List Nat)
  deferred : List Nat
  deferredSize : Nat
  fileMetaData : Option (Nat × Nat)
  dedupeLastRow : List Nat
deriving DecidableEq

def observeCol (ra : Bool) (h : Heap) (c : Col) : ColObs :=
  { path := h.derefStrs c.st.columnPath, chunkPath := h.derefStrs c.st.chunkPath,
    encodings := h.derefEncs c.st.encodings, chunkEncoding := h.derefEncs c.st.chunkEncoding,
    st := c.st, vol := c.vol.observed ra }

def observeRowGroup (h : Heap) (rg : RowGroup) : RowGroupObs :=
  { columns := rg.columns.map (fun c => (h.derefStrs c.path, h.derefEncs c.encoding, c.snap)),
    sorting := h.derefSorts rg.sorting, nums := rg.nums }

def observe (M : Mirror) (s : Writer) : Obs :=
  { cols := s.cols.map (observeCol M.readsAllocation s.heap), numRows := s.numRows, offset := s.offset,
    pending := s.pending, metadata := s.metadata, sorting := s.heap.derefSorts s.sorting,
    rowGroups := s.rowGroups.map (observeRowGroup s.heap), columnIndexes := s.columnIndexes,
    offsetIndexes := s.offsetIndexes, deferred := s.deferred, deferredSize := s.deferredSize,
    fileMetaData := s.fileMetaData, dedupeLastRow := s.dedupeLastRow }

/-- what `applyEffect` guarantees about a column -/
def ColOK (c : Col) : Prop :=
  c.vol.levelHist.length = c.st.histLen ∧
  (c.vol.hasSwitchedToPlain = false → c.vol.columnType = c.st.originalType ∧ c.vol.encoding = c.st.originalEncoding)

def AllOK (s : Writer) : Prop := ∀ c ∈ s.cols, ColOK c

/-- the part of the state no operation is supposed to change -/
structure Stable where
  heap : Heap
  cols : List ColStable
  sorting : Slice
deriving DecidableEq

def stableOf (s : Writer) : Stable := ⟨s.heap, s.cols.map (·.st), s.sorting⟩

theorem clearPrefix_zero {α} (z : α) (l : List α) : clearPrefix z 0 l = l := by
  cases l <;> rfl

theorem modifyAt_id {α} (f : α → α) (hf : ∀ x, f x = x) (i : Nat) (l : List α) : modifyAt f i l = l := by
  induction l generalizing i with
  | nil => cases i <;> rfl
  | cons x xs ih =>
    cases i with
    | zero => simp [modifyAt, hf]
    | succ i => simp [modifyAt, ih]

theorem clearStrs_len0 (h : Heap) (s : Slice) (hs : s.len = 0) : h.clearStrs s = h := by
  simp only [Heap.clearStrs, hs, modifyAt_id _ (clearPrefix_zero _)]

theorem clearSorts_len0 (h : Heap) (s : Slice) (hs : s.len = 0) : h.clearSorts s = h := by
  simp only [Heap.clearSorts, hs, modifyAt_id _ (clearPrefix_zero _)]

theorem foldl_fixed {α β} (f : β → α → β) (b : β) (l : List α) (hf : ∀ a, f b a = b) : l.foldl f b = b :=
  List.foldlRecOn l f (motive := (· = b)) rfl fun _ hb a _ => hb ▸ hf a

theorem fixed_rowGroupReset (h : Heap) (rg : RowGroup) : fixed.rowGroupReset h rg = h := by
  simp only [fixed, rowGroupResetHeap, RowGroup.detach]
  rw [clearSorts_len0 _ _ rfl, List.foldl_map]
  exact foldl_fixed _ _ _ (fun c => clearStrs_len0 _ _ rfl)

theorem normLen_length (n : Nat) (l : List Nat) : (normLen n l).length = n := by
  simp [normLen, List.length_take]

theorem colOK_applyEffect (c : Col) (e : ColVol) : ColOK (applyEffect c e) := by
  refine ⟨by simp [applyEffect, normLen_length], ?_⟩
  intro h
  simp only [applyEffect] at h ⊢
  simp [h]

theorem colOK_resetAsIs (c : Col) (h : ColOK c) : ColOK (colResetAsIs c) := by
  refine ⟨by simpa [colResetAsIs] using h.1, ?_⟩
  intro _
  simp only [colResetAsIs]
  by_cases hs : c.vol.hasSwitchedToPlain = true
  · simp [hs]
  · have := h.2 (by simpa using hs)
    simp [hs, this.1, this.2]

theorem colOK_resetFixed (c : Col) (h : ColOK c) : ColOK (colResetFixed c) :=
  colOK_resetAsIs c h

theorem colReset_st_asIs (c : Col) : (colResetAsIs c).st = c.st := rfl
theorem colReset_st_fixed (c : Col) : (colResetFixed c).st = c.st := rfl

theorem colOK_fresh (st : ColStable) : ColOK ⟨st, ColVol.fresh st⟩ := by
  simp [ColOK, ColVol.fresh]

theorem initCols_fresh (i : Nat) (ccs : List ColCfg) : ∀ c ∈ initCols i ccs, c.vol = ColVol.fresh c.st := by
  fun_induction initCols i ccs with
  | case1 => intro c hc; cases hc
  | case2 i cc rest ih =>
    intro c hc
    rcases List.mem_cons.mp hc with rfl | hc
    · rfl
    · exact ih c hc

theorem initCols_ok (i : Nat) (ccs : List ColCfg) : ∀ c ∈ initCols i ccs, ColOK c := by
  intro c hc
  obtain ⟨st, vol⟩ := c
  have h : vol = ColVol.fresh st := initCols_fresh i ccs _ hc
  rw [h]
  exact colOK_fresh st

theorem observed_resetFixed (c : Col) (h : ColOK c) :
    (colResetFixed c).vol.observed false = (ColVol.fresh c.st).observed false := by
  have hl : c.vol.levelHist.map (fun _ => 0) = List.replicate c.st.histLen 0 := by
    rw [← h.1]
    exact List.map_const' ..
  simp only [colResetFixed, colResetAsIs, ColVol.observed, ColVol.fresh, hl]
  by_cases hs : c.vol.hasSwitchedToPlain = true
  · simp [hs]
  · have := h.2 (by simpa using hs)
    simp [hs, this.1, this.2]

theorem observed_resetAsIs (c : Col) (h : ColOK c) (hp : c.vol.plainBuffered = [])
    (ha : c.vol.bufAllocated = false) (hb : c.vol.bloomLength = 0) :
    (colResetAsIs c).vol.observed true = (ColVol.fresh c.st).observed true := by
  -- `fixed` differs only in `plainBuffered`, `bloomLength` (pinned by `hp`, `hb`); `ha`: the flag not masked here
  have := observed_resetFixed c h
  simpa [colResetFixed, ColVol.observed, colResetAsIs, hp, ha, hb, ColVol.fresh] using this

/-- the observation of a writer whose columns all look fresh, as a function of the stable part -/
def freshObs (ra : Bool) (st : Stable) (md : List KV) : Obs :=
  { cols := st.cols.map (fun cs => observeCol ra st.heap ⟨cs, ColVol.fresh cs⟩), numRows := 0, offset := 0,
    pending := [], metadata := md, sorting := st.heap.derefSorts st.sorting, rowGroups := [],
    columnIndexes := [], offsetIndexes := [], deferred := [], deferredSize := 0, fileMetaData := none,
    dedupeLastRow := [] }

theorem observe_initWith (M : Mirror) (cfg : Cfg) (md : List KV) :
    observe M (initWith cfg md) = freshObs M.readsAllocation (stableOf (initWith cfg md)) md := by
  simp only [observe, freshObs, stableOf, initWith, List.map_map, List.map_nil]
  congr 1
  apply List.map_congr_left
  intro c hc
  simp [observeCol, initCols_fresh 0 cfg.cols c hc]


/-- what the proofs need of a mirror's column reset -/
structure Mirror.Good (M : Mirror) : Prop where
  st : ∀ c, (M.colReset c).st = c.st
  ok : ∀ c, ColOK c → ColOK (M.colReset c)
  /-- excludes `dedupeCarry` -/
  dedupe : ∀ l, M.dedupeAfterChunk l = []

theorem asIs_good : asIs.Good := ⟨colReset_st_asIs, colOK_resetAsIs, fun _ => rfl⟩
theorem fixed_good : fixed.Good := ⟨colReset_st_fixed, colOK_resetFixed, fun _ => rfl⟩

def Kept (cs cs' : List Col) : Prop :=
  cs'.map (·.st) = cs.map (·.st) ∧ ((∀ c ∈ cs, ColOK c) → ∀ c ∈ cs', ColOK c)

theorem Kept.refl (cs : List Col) : Kept cs cs := ⟨rfl, id⟩

theorem Kept.trans {a b c : List Col} (h1 : Kept a b) (h2 : Kept b c) : Kept a c :=
  ⟨h2.1.trans h1.1, fun h => h2.2 (h1.2 h)⟩

theorem Kept.cons {c c' : Col} {cs cs' : List Col} (hst : c'.st = c.st) (hok : ColOK c → ColOK c')
    (h : Kept cs cs') : Kept (c :: cs) (c' :: cs') :=
  ⟨by rw [List.map_cons, List.map_cons, hst, h.1], fun hall => List.forall_mem_cons.2
    ⟨hok (hall c List.mem_cons_self), h.2 fun x hx => hall x (List.mem_cons_of_mem _ hx)⟩⟩

theorem kept_map (f : Col → Col) (hst : ∀ c, (f c).st = c.st) (hok : ∀ c, ColOK c → ColOK (f c)) :
    ∀ cs, Kept cs (cs.map f)
  | [] => .refl []
  | c :: cs => .cons (hst c) (hok c) (kept_map f hst hok cs)

theorem kept_applyEffects : ∀ (cs : List Col) (es : List ColVol), Kept cs (applyEffects cs es)
  | [], _ => .refl []
  | c :: cs, [] => .refl (c :: cs)
  | c :: cs, e :: es => .cons rfl (fun _ => colOK_applyEffect c e) (kept_applyEffects cs es)

theorem colOK_flushBuffer (c : Col) (h : ColOK c) : ColOK (colFlushBuffer c) := by
  unfold colFlushBuffer ColOK
  split <;> exact h

theorem kept_flushBuffers : ∀ (n : Nat) (cs : List Col), Kept cs (flushBuffers n cs)
  | 0, cs => .refl cs
  | _ + 1, [] => .refl []
  | n + 1, c :: cs => .cons rfl (colOK_flushBuffer c) (kept_flushBuffers n cs)

theorem flushStep_frame (M : Mirror) (s : Writer) (k : FlushKind) :
    (flushStep M s k).metadata = s.metadata ∧ (flushStep M s k).dedupeLastRow = s.dedupeLastRow ∧
    (flushStep M s k).heap = s.heap ∧ (flushStep M s k).sorting = s.sorting := by
  unfold flushStep
  split
  · exact ⟨rfl, rfl, rfl, rfl⟩
  · cases k <;> exact ⟨rfl, rfl, rfl, rfl⟩

theorem flushStep_cols (M : Mirror) (s : Writer) (k : FlushKind) :
    (flushStep M s k).cols = s.cols ∨ ∃ n, (flushStep M s k).cols = (flushBuffers n s.cols).map M.colReset := by
  unfold flushStep
  split
  · exact Or.inl rfl
  · cases k <;> exact Or.inr ⟨_, rfl⟩

theorem closeStep_frame (M : Mirror) (s : Writer) (k : FlushKind) (ok : Bool) (off : Nat) :
    (closeStep M s k ok off).metadata = (flushStep M s k).metadata ∧
    (closeStep M s k ok off).dedupeLastRow = (flushStep M s k).dedupeLastRow ∧
    (closeStep M s k ok off).heap = (flushStep M s k).heap ∧
    (closeStep M s k ok off).sorting = (flushStep M s k).sorting ∧
    (closeStep M s k ok off).cols = (flushStep M s k).cols ∧
    (closeStep M s k ok off).rowGroups = (flushStep M s k).rowGroups := by
  unfold closeStep
  simp only
  split
  · exact ⟨rfl, rfl, rfl, rfl, rfl, rfl⟩
  · split <;> exact ⟨rfl, rfl, rfl, rfl, rfl, rfl⟩

theorem kept_flushStep (M : Mirror) (hM : M.Good) (s : Writer) (k : FlushKind) :
    Kept s.cols (flushStep M s k).cols := by
  rcases flushStep_cols M s k with h | ⟨n, h⟩ <;> rw [h]
  · exact .refl _
  · exact (kept_flushBuffers n s.cols).trans (kept_map _ hM.st hM.ok _)

theorem step_keeps (M : Mirror) (hM : M.Good) (s : Writer) (op : Op)
    (hheap : op = .reset → s.rowGroups.foldl M.rowGroupReset s.heap = s.heap) :
    (step M s op).heap = s.heap ∧ (step M s op).sorting = s.sorting ∧ Kept s.cols (step M s op).cols := by
  cases op with
  | write rows effs => exact ⟨rfl, rfl, kept_applyEffects ..⟩
  | flush k => exact ⟨(flushStep_frame M s k).2.2.1, (flushStep_frame M s k).2.2.2, kept_flushStep M hM s k⟩
  | close k ok off =>
    obtain ⟨_, _, hh, hs, hc, _⟩ := closeStep_frame M s k ok off
    exact ⟨hh.trans (flushStep_frame M s k).2.2.1, hs.trans (flushStep_frame M s k).2.2.2,
      hc ▸ kept_flushStep M hM s k⟩
  | closeHeaderFailed effs off => exact ⟨rfl, rfl, kept_applyEffects ..⟩
  | setKV k v => exact ⟨rfl, rfl, .refl _⟩
  | sortChunk last => exact ⟨rfl, rfl, .refl _⟩
  | reset => exact ⟨hheap rfl, rfl, kept_map _ hM.st hM.ok _⟩

theorem fixed_heap (s : Writer) : s.rowGroups.foldl fixed.rowGroupReset s.heap = s.heap :=
  foldl_fixed _ _ _ (fixed_rowGroupReset s.heap)

theorem observe_resetWith (M : Mirror) (s : Writer)
    (hheap : s.rowGroups.foldl M.rowGroupReset s.heap = s.heap)
    (hcols : ∀ c ∈ s.cols, (M.colReset c).st = c.st ∧
      (M.colReset c).vol.observed M.readsAllocation = (ColVol.fresh c.st).observed M.readsAllocation)
    (hd : s.dedupeLastRow = []) :
    observe M (resetWith M s) = freshObs M.readsAllocation (stableOf s) s.metadata := by
  simp only [observe, resetWith, freshObs, stableOf, hheap, hd, List.map_map, List.map_nil]
  congr 1
  apply List.map_congr_left
  intro c hc
  simp only [Function.comp, observeCol, (hcols c hc).1, (hcols c hc).2]

/-- committing operations: a flush or close that appends a row group when there are rows -/
def Op.commits : Op → Bool
  | .flush (.committed ..) => true
  | .close (.committed ..) _ _ => true
  | _ => false

theorem rowGroups_flushStep_failed (M : Mirror) (s : Writer) (off : Nat) (defs : List Nat) (n : Nat) :
    (flushStep M s (.failed off defs n)).rowGroups = s.rowGroups := by
  unfold flushStep
  split <;> rfl

theorem rowGroups_step_noCommit (M : Mirror) (s : Writer) (op : Op) (hc : op.commits = false)
    (h : s.rowGroups = []) : (step M s op).rowGroups = [] := by
  cases op with
  | write rows effs => exact h
  | flush k =>
    cases k with
    | failed off defs n => exact (rowGroups_flushStep_failed M s off defs n).trans h
    | committed off defs snap => cases hc
  | close k ok off =>
    cases k with
    | failed off' defs n =>
      exact ((closeStep_frame M s _ ok off).2.2.2.2.2.trans (rowGroups_flushStep_failed M s off' defs n)).trans h
    | committed off' defs snap => cases hc
  | closeHeaderFailed effs off => exact h
  | setKV k v => exact h
  | sortChunk last => exact h
  | reset => rfl

theorem run_invariant (ops : List Op) (M : Mirror) (hM : M.Good) (cfg : Cfg)
    (P : Writer → Prop) (hP : ∀ s op, P s → op ∈ ops → P (step M s op))
    (heap : ∀ s, P s → s.rowGroups.foldl M.rowGroupReset s.heap = s.heap)
    (s0 : Writer) (h0 : P s0 ∧ stableOf s0 = stableOf (init cfg) ∧ AllOK s0) :
    P (ops.foldl (step M) s0) ∧ stableOf (ops.foldl (step M) s0) = stableOf (init cfg) ∧
      AllOK (ops.foldl (step M) s0) := by
  refine List.foldlRecOn ops (step M) (motive := fun s => P s ∧ stableOf s = stableOf (init cfg) ∧ AllOK s) h0
    fun s hs op ho => ?_
  obtain ⟨hh, hso, hc⟩ := step_keeps M hM s op fun _ => heap s hs.1
  refine ⟨hP s op hs.1 ho, ?_, hc.2 hs.2.2⟩
  rw [← hs.2.1]
  simp only [stableOf, hh, hso, hc.1]

theorem dedupe_step (M : Mirror) (hM : M.Good) (s : Writer) (op : Op) (h : s.dedupeLastRow = []) :
    (step M s op).dedupeLastRow = [] := by
  cases op with
  | write rows effs => exact h
  | flush k => exact (flushStep_frame M s k).2.1.trans h
  | close k ok off => exact ((closeStep_frame M s k ok off).2.1.trans (flushStep_frame M s k).2.1).trans h
  | closeHeaderFailed effs off => exact h
  | setKV k v => exact h
  | sortChunk last => exact hM.dedupe last
  | reset => exact h

theorem init_allOK (cfg : Cfg) : AllOK (init cfg) := initCols_ok 0 cfg.cols

/-- C17 for any mirror; `P`: an invariant of the history under which resetting the committed row groups
    leaves the shared arrays alone -/
theorem reset_observe {M : Mirror} (hM : M.Good) (cfg : Cfg) (ops : List Op) (P : Writer → Prop) (h0 : P (init cfg))
    (hP : ∀ s op, P s → op ∈ ops → P (step M s op))
    (heap : ∀ s, P s → s.rowGroups.foldl M.rowGroupReset s.heap = s.heap)
    (hcol : ∀ c ∈ (run M cfg ops).cols, ColOK c →
      (M.colReset c).vol.observed M.readsAllocation = (ColVol.fresh c.st).observed M.readsAllocation) :
    observe M (resetWith M (run M cfg ops)) = observe M (initWith cfg (run M cfg ops).metadata) := by
  have h := run_invariant ops M hM cfg (fun s => P s ∧ s.dedupeLastRow = [])
    (fun s op hs ho => ⟨hP s op hs.1 ho, dedupe_step M hM s op hs.2⟩)
    (fun s hs => heap s hs.1) (init cfg) ⟨⟨h0, rfl⟩, rfl, init_allOK cfg⟩
  change (P (run M cfg ops) ∧ _) ∧ stableOf (run M cfg ops) = _ ∧ AllOK (run M cfg ops) at h
  rw [observe_resetWith M _ (heap _ h.1.1) (fun c hc => ⟨hM.st c, hcol c hc (h.2.2 c hc)⟩) h.1.2,
    observe_initWith, h.2.1]
  rfl

def Op.isSetKV : Op → Bool
  | .setKV .. => true
  | _ => false

theorem metadata_step (M : Mirror) (s : Writer) (op : Op) (h : Op.isSetKV op = false) :
    (step M s op).metadata = s.metadata := by
  cases op with
  | write rows effs => rfl
  | flush k => exact (flushStep_frame M s k).1
  | close k ok off => exact (closeStep_frame M s k ok off).1.trans (flushStep_frame M s k).1
  | closeHeaderFailed effs off => rfl
  | setKV k v => cases h
  | sortChunk last => rfl
  | reset => rfl

theorem metadata_run (M : Mirror) (ops : List Op) (h : ∀ op ∈ ops, Op.isSetKV op = false)
    (s0 : Writer) : (ops.foldl (step M) s0).metadata = s0.metadata :=
  List.foldlRecOn ops (step M) (motive := fun s => s.metadata = s0.metadata) rfl
    fun s hs op ho => (metadata_step M s op (h op ho)).trans hs


/-- `strings.Compare(a, b) <= 0` -/
def leBytes : Str → Str → Bool
  | [], _ => true
  | _ :: _, [] => false
  | a :: as, b :: bs => decide (a < b) || (a == b && leBytes as bs)

theorem leBytes_iff_le : ∀ (a b : Str), leBytes a b = true ↔ a ≤ b
  | [], b => by simp [leBytes]
  | _ :: _, [] => by simp [leBytes]
  | x :: xs, y :: ys => by simp [leBytes, List.cons_le_cons_iff, leBytes_iff_le xs ys]

theorem leBytes_total (a b : Str) : (leBytes a b || leBytes b a) = true := by
  simpa [leBytes_iff_le] using List.le_total a b

theorem leBytes_antisymm (a b : Str) (h1 : leBytes a b = true) (h2 : leBytes b a = true) : a = b :=
  List.le_antisymm ((leBytes_iff_le a b).1 h1) ((leBytes_iff_le b a).1 h2)

theorem leBytes_trans (a b c : Str) (h1 : leBytes a b = true) (h2 : leBytes b c = true) : leBytes a c = true :=
  (leBytes_iff_le a c).2 (List.le_trans ((leBytes_iff_le a b).1 h1) ((leBytes_iff_le b c).1 h2))

theorem leBytes_refl (a : Str) : leBytes a a = true :=
  (leBytes_iff_le a a).2 (List.le_refl a)

/-- the comparison of `sortKeyValueMetadata` (file.go 659-666) as `<= 0` -/
def leKV (a b : KV) : Bool :=
  if a.key = b.key then leBytes a.value b.value else leBytes a.key b.key

theorem leKV_total (a b : KV) : (leKV a b || leKV b a) = true := by
  unfold leKV
  by_cases h : a.key = b.key
  · simp only [h, if_true]
    exact leBytes_total _ _
  · have h' : ¬ b.key = a.key := fun e => h e.symm
    simp only [h, h', if_false]
    exact leBytes_total _ _

theorem leKV_antisymm (a b : KV) (h1 : leKV a b = true) (h2 : leKV b a = true) : a = b := by
  unfold leKV at h1 h2
  cases a with | mk ak av =>
  cases b with | mk bk bv =>
  simp only at h1 h2
  by_cases h : ak = bk
  · subst h
    simp only [if_true] at h1 h2
    rw [leBytes_antisymm _ _ h1 h2]
  · have h' : ¬ bk = ak := fun e => h e.symm
    simp only [h, h', if_false] at h1 h2
    exact absurd (leBytes_antisymm _ _ h1 h2) h

theorem leKV_trans (a b c : KV) (h1 : leKV a b = true) (h2 : leKV b c = true) : leKV a c = true := by
  unfold leKV at h1 h2 ⊢
  by_cases hab : a.key = b.key
  · by_cases hbc : b.key = c.key
    · have hac : a.key = c.key := hab.trans hbc
      simp only [hab, hbc, if_true] at h1 h2 ⊢
      exact leBytes_trans _ _ _ h1 h2
    · have hac : ¬ a.key = c.key := fun e => hbc (hab.symm.trans e)
      simp only [hbc, hac, if_false] at h2 ⊢
      rw [hab]; exact h2
  · by_cases hbc : b.key = c.key
    · have hac : ¬ a.key = c.key := fun e => hab (e.trans hbc.symm)
      simp only [hab, hac, if_false] at h1 ⊢
      rw [← hbc]; exact h1
    · simp only [hab, hbc, if_false] at h1 h2
      have hle := leBytes_trans _ _ _ h1 h2
      by_cases hac : a.key = c.key
      · -- a.key ≤ b.key ≤ c.key = a.key forces a.key = b.key
        exfalso
        rw [← hac] at h2
        exact hab (leBytes_antisymm _ _ h1 h2)
      · simp only [hac, if_false]; exact hle

def insertKV (a : KV) : List KV → List KV
  | [] => [a]
  | b :: l => if leKV a b then a :: b :: l else b :: insertKV a l

/-- MIRROR `sortKeyValueMetadata` as an insertion sort (any correct sort gives the same list, see
`kv_sorted`; Go's `slices.SortFunc` is a pattern-defeating quicksort) -/
def sortKV : List KV → List KV
  | [] => []
  | a :: l => insertKV a (sortKV l)

theorem insertKV_eq (a : KV) (l : List KV) : insertKV a l = InsertSort.insertBy leKV a l := by
  induction l <;> simp [insertKV, InsertSort.insertBy, *]

theorem sortKV_eq (l : List KV) : sortKV l = InsertSort.sortBy leKV l := by
  induction l <;> simp [sortKV, InsertSort.sortBy, insertKV_eq, *]

theorem sortKV_perm (l : List KV) : (sortKV l).Perm l :=
  sortKV_eq l ▸ InsertSort.sortBy_perm leKV l

theorem sortKV_sorted (l : List KV) : (sortKV l).Pairwise (fun x y => leKV x y = true) :=
  sortKV_eq l ▸ InsertSort.sortBy_sorted_of_total (fun a b => Bool.or_eq_true_iff.mp (leKV_total a b)) (leKV_trans _ _ _) l

/-- MIRROR of `newWriter`'s metadata list: the configured map in some iteration order, sorted -/
def cfgMetadata (mapOrder : List KV) : List KV := sortKV mapOrder

/-- the current mirror: the library as it stands -/
def current : Mirror := fixed
/-- printable name of `current` (for the driver) -/
def currentName : String := "fixed"

end PqModel.Reset
