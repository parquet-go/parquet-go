import PqModel.Stats

/-! # The statistics record of one column chunk as the writer builds it (C05), and re-encoded copies.

MIRRORS of writer.go (`writeDataPage` → `recordPageStats`, `writeRowGroup`) and writer_reencode.go. -/
namespace PqModel.Stats

/-- MIRROR writer.go `ColumnWriter.writeDataPage` / `recordPageStats` / `writer.writeRowGroup` for one column chunk
    whose pages hold `pages` (`none` = null): per page the indexer is told `(numValues, numNulls, Bounds())`
    (`pageStats`), `null_counts` gets the page's null count, the chunk min/max are the `recordPageStats` fold of
    the page bounds (`foldChunk`), the chunk null count is the running sum. Byte-array index entries are truncated
    afterwards (`widenIndex`; `Props.C05.truncatedIndex_sound`). -/
def writerRecord {α} (o : ColOrder α) (pages : List (List (Option α))) (offsets : List Nat) : ChunkRecord α :=
  { pages := pages
    index := pages.map (fun vals => (pageStats o vals).bounds)
    nullCounts := pages.map (fun vals => (pageStats o vals).numNulls)
    chunk := foldChunk o (pages.map (fun vals => (pageStats o vals).bounds))
    chunkNulls := (pages.map (fun vals => (pageStats o vals).numNulls)).sum
    offsets := offsets }

/-- MIRROR writer_reencode.go:195-268 `writeRowGroupByColumn` / `copyColumnValues` (and the row-oriented fallback
    `CopyRows` of `WriteRowGroup`): the values of the source chunk are read back in order and handed to the
    destination column writer, which cuts its OWN pages (`newPages`, any cut of the same value sequence) and
    computes every statistic again; nothing of the source's metadata is reused. -/
def reencode {α} (o : ColOrder α) (_src : ChunkRecord α) (newPages : List (List (Option α))) (offsets : List Nat) :
    ChunkRecord α := writerRecord o newPages offsets

/-- the truncation of byte-array bounds, as any `f` on the entries -/
def widenIndex {α} (f : α × α → α × α) (c : ChunkRecord α) : ChunkRecord α :=
  { c with index := c.index.map (fun e => e.map f) }

theorem countP_none_flatten {α} : ∀ pages : List (List (Option α)),
    (pages.map (fun vals => vals.countP (· = none))).sum = pages.flatten.countP (· = none)
  | [] => rfl
  | p :: rest => by
    simp only [List.map_cons, List.sum_cons, List.flatten_cons, List.countP_append, countP_none_flatten rest]

end PqModel.Stats
