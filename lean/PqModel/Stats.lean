import PqModel.Trunc
import PqModel.Basics

/-! # Statistics and page indexes (C05): column orders, page bounds, chunk fold, boundary order, truncation limits
(over `Trunc.lean`), the chunk record `ChunkRecord` (its writer side: StatsRecord.lean; `cmpDecimal`'s lemmas: StatsDecimal.lean).

Naming: a *mirror* transliterates Go code of parquet-go as it is (doc comment carries `file:line`),
a *spec* definition is written from the Parquet format documents / the property statement only. -/
namespace PqModel.Stats

/-! ## Column orders

`lt` is what the Go code evaluates (`<` on ints/floats, `bytes.Compare(a,b) < 0`,
`Type.Compare(a,b) < 0`); `ok v = false` exactly for the values that take no part in the order
(float NaN). Values are bit patterns (`BitVec 32/64`) or byte strings (`List Nat`, bytes ≤ 255). -/

structure ColOrder (α : Type) where
  lt : α → α → Bool
  ok : α → Bool

def ColOrder.le {α} (o : ColOrder α) (a b : α) : Bool := !o.lt b a

/-- SPEC. What a Parquet column order has to be on the values that take part in it: a strict weak
    order (a total preorder: `-0.0`/`+0.0` are distinct bit patterns that compare equal). NaN compares false with
    everything, so "incomparable" is transitive only through a `b` with `ok b` (`negtrans`). -/
structure Lawful {α} (o : ColOrder α) : Prop where
  irrefl : ∀ a, o.lt a a = false
  trans : ∀ a b c, o.lt a b = true → o.lt b c = true → o.lt a c = true
  negtrans : ∀ a b c, o.ok b = true → o.lt a c = true → o.lt a b = true ∨ o.lt b c = true
  nan : ∀ a b, o.lt a b = true → o.ok a = true ∧ o.ok b = true

/-- max = min of the flipped order -/
def ColOrder.flip {α} (o : ColOrder α) : ColOrder α := { lt := fun a b => o.lt b a, ok := o.ok }

theorem Lawful.flip {α} {o : ColOrder α} (h : Lawful o) : Lawful o.flip where
  irrefl := h.irrefl
  trans := fun a b c h1 h2 => h.trans c b a h2 h1
  negtrans := fun a b c hb hac => (h.negtrans c b a hb hac).symm
  nan := fun a b hab => (h.nan b a hab).symm

theorem ColOrder.flip_ok {α} (o : ColOrder α) (a : α) : o.flip.ok a = o.ok a := rfl
theorem ColOrder.flip_lt {α} (o : ColOrder α) (a b : α) : o.flip.lt a b = o.lt b a := rfl

theorem Lawful.asymm {α} {o : ColOrder α} (h : Lawful o) {a b : α} (hab : o.lt a b = true) : o.lt b a = false := by
  cases hba : o.lt b a with
  | false => rfl
  | true => have := h.trans a b a hab hba; rw [h.irrefl] at this; cases this

/-- `x ≤ y` is written `lt y x = false` -/
theorem Lawful.le_trans {α} {o : ColOrder α} (h : Lawful o) {a b c : α} (hb : o.ok b = true)
    (hab : o.lt b a = false) (hbc : o.lt c b = false) : o.lt c a = false := by
  cases hca : o.lt c a with
  | false => rfl
  | true =>
    rcases h.negtrans c b a hb hca with h' | h'
    · rw [hbc] at h'; cases h'
    · rw [hab] at h'; cases h'

def ofKey {α} (key : α → Int) (nan : α → Bool) : ColOrder α :=
  { lt := fun a b => !nan a && !nan b && decide (key a < key b), ok := fun a => !nan a }

theorem ofKey_lawful {α} (key : α → Int) (nan : α → Bool) : Lawful (ofKey key nan) where
  irrefl := by intro a; simp [ofKey]
  trans := by
    intro a b c; simp only [ofKey, Bool.and_eq_true, Bool.not_eq_true', decide_eq_true_eq]
    intro ⟨⟨ha, _⟩, h1⟩ ⟨⟨_, hc⟩, h2⟩; exact ⟨⟨ha, hc⟩, by omega⟩
  negtrans := by
    intro a b c; simp only [ofKey, Bool.and_eq_true, Bool.not_eq_true', decide_eq_true_eq]
    intro hb ⟨⟨ha, hc⟩, h1⟩
    by_cases h : key a < key b
    · exact Or.inl ⟨⟨ha, hb⟩, h⟩
    · exact Or.inr ⟨⟨hb, hc⟩, by omega⟩
  nan := by
    intro a b; simp only [ofKey, Bool.and_eq_true, Bool.not_eq_true', decide_eq_true_eq]
    intro ⟨⟨ha, hb⟩, _⟩; exact ⟨ha, hb⟩

def ColOrder.comap {α β} (o : ColOrder β) (f : α → β) : ColOrder α :=
  { lt := fun a b => o.lt (f a) (f b), ok := fun a => o.ok (f a) }

theorem Lawful.of_comap {α β} {o : ColOrder β} (h : Lawful o) (f : α → β) {o' : ColOrder α}
    (hlt : ∀ a b, o'.lt a b = o.lt (f a) (f b)) (hok : ∀ a, o'.ok a = o.ok (f a)) : Lawful o' where
  irrefl a := by rw [hlt]; exact h.irrefl _
  trans a b c := by rw [hlt, hlt, hlt]; exact h.trans _ _ _
  negtrans a b c := by rw [hok, hlt, hlt, hlt]; exact h.negtrans _ _ _
  nan a b := by rw [hlt, hok, hok]; exact h.nan _ _

theorem Lawful.comap {α β} {o : ColOrder β} (h : Lawful o) (f : α → β) : Lawful (o.comap f) :=
  h.of_comap f (fun _ _ => rfl) (fun _ => rfl)

/-- INT32 / INT64 signed (compare.go:70-90 `compareInt32/64`) -/
def sint (w : Nat) : ColOrder (BitVec w) := ofKey (fun b => b.toInt) (fun _ => false)
/-- UINT32 / UINT64 logical types (compare.go:125-145 `compareUint32/64`) -/
def uint (w : Nat) : ColOrder (BitVec w) := ofKey (fun b => (b.toNat : Int)) (fun _ => false)

/-- IEEE-754 NaN on the bit pattern: exponent all ones, mantissa non-zero. `e` exponent bits, `m` mantissa bits. -/
def fIsNaN (e m : Nat) (b : BitVec (1 + e + m)) : Bool :=
  decide (b.toNat % 2 ^ (e + m) > (2 ^ e - 1) * 2 ^ m)

/-- sign-magnitude rank of a non-NaN float: `-0.0` and `+0.0` get the same rank, as Go's `<` sees them -/
def fKey (e m : Nat) (b : BitVec (1 + e + m)) : Int :=
  if b.toNat < 2 ^ (e + m) then (b.toNat % 2 ^ (e + m) : Nat) else -((b.toNat % 2 ^ (e + m) : Nat) : Int)

/-- FLOAT / DOUBLE: Go's `<` on float32/float64 (compare.go:103-123), on bit patterns -/
def float (e m : Nat) : ColOrder (BitVec (1 + e + m)) := ofKey (fKey e m) (fIsNaN e m)

abbrev f32 : ColOrder (BitVec 32) := float 8 23
abbrev f64 : ColOrder (BitVec 64) := float 11 52

theorem sint_lawful (w) : Lawful (sint w) := ofKey_lawful _ _
theorem uint_lawful (w) : Lawful (uint w) := ofKey_lawful _ _
theorem float_lawful (e m) : Lawful (float e m) := ofKey_lawful _ _

/-- strict unsigned lexicographic order: `bytes.Compare(a, b) < 0` -/
def lexLt (a b : List Nat) : Bool := !Trunc.lexLe b a

/-- BYTE_ARRAY / FIXED_LEN_BYTE_ARRAY / be128: unsigned lexicographic bytes -/
def bytes : ColOrder (List Nat) := { lt := lexLt, ok := fun _ => true }

theorem bytes_lawful : Lawful bytes where
  irrefl := by intro a; simp [bytes, lexLt, Trunc.lexLe_refl]
  trans := by
    intro a b c; simp only [bytes, lexLt, Bool.not_eq_true']
    intro h1 h2
    -- a < b < c : if c ≤ a then c ≤ a ≤ b (since ¬ b ≤ a gives a ≤ b) so c ≤ b, contradiction
    cases h : Trunc.lexLe c a with
    | false => rfl
    | true =>
      have hab : Trunc.lexLe a b = true := (Trunc.lexLe_total a b).resolve_right (by simp [h1])
      have := Trunc.lexLe_trans c a b h hab
      simp [this] at h2
  negtrans := by
    intro a b c _; simp only [bytes, lexLt, Bool.not_eq_true']
    intro hac
    cases h1 : Trunc.lexLe b a with
    | false => exact Or.inl rfl
    | true =>
      cases h2 : Trunc.lexLe c b with
      | false => exact Or.inr rfl
      | true => have := Trunc.lexLe_trans c b a h2 h1; simp [this] at hac
  nan := by intro a b _; simp [bytes]

theorem lexLt_cons (x y : Nat) (as bs : List Nat) :
    lexLt (x :: as) (y :: bs) = (decide (x < y) || (decide (x = y) && lexLt as bs)) := by
  simp only [lexLt, Trunc.lexLe_cons]
  rcases Nat.lt_trichotomy x y with h | rfl | h
  · simp [h, Nat.lt_asymm h, Nat.ne_of_gt h]
  · simp
  · simp [h, Nat.lt_asymm h, Nat.ne_of_gt h]

theorem lexLt_cons_of_lt {x y : Nat} (h : x < y) (as bs : List Nat) : lexLt (x :: as) (y :: bs) = true := by
  simp only [lexLt_cons, decide_eq_true h, Bool.true_or]

theorem lexLt_cons_of_gt {x y : Nat} (h : y < x) (as bs : List Nat) : lexLt (x :: as) (y :: bs) = false := by
  simp only [lexLt_cons, decide_eq_false (Nat.lt_asymm h), decide_eq_false (Nat.ne_of_gt h), Bool.false_and,
    Bool.or_false]

theorem lexLt_cons_add (k x y : Nat) (as bs : List Nat) :
    lexLt ((x + k) :: as) ((y + k) :: bs) = lexLt (x :: as) (y :: bs) := by
  simp only [lexLt_cons, Nat.add_lt_add_iff_right, Nat.add_right_cancel_iff]

/-- SPEC (LogicalTypes.md, DECIMAL on FIXED_LEN_BYTE_ARRAY): signed big-endian two's complement of
    equal width = unsigned order after flipping the sign bit of the first byte. -/
def flipSign : List Nat → List Nat
  | [] => []
  | b :: rest => (if b < 128 then b + 128 else b - 128) :: rest

def decimalFixed : ColOrder (List Nat) := bytes.comap flipSign
theorem decimalFixed_lawful : Lawful decimalFixed := bytes_lawful.comap flipSign

/-- MIRROR type_decimal.go:121-159 `compareDecimalByteArrays` + `compareDecimalPadded`
    (variable width, sign extension), as a three-way result; the `Nat` is `len(a) - len(b)`, so the second clause
    is not reached from `cmpDecimal`. -/
def cmpPadded (pad : Nat) : List Nat → Nat → List Nat → Int
  | a, 0, b => if lexLt a b then -1 else if lexLt b a then 1 else 0
  | [], _ + 1, _ => 0
  | c :: a, k + 1, b => if c < pad then -1 else if c > pad then 1 else cmpPadded pad a k b

def cmpDecimal (a b : List Nat) : Int :=
  let negA := match a with | x :: _ => decide (x ≥ 128) | [] => false
  let negB := match b with | x :: _ => decide (x ≥ 128) | [] => false
  if negA && !negB then -1
  else if !negA && negB then 1
  else
    let pad := if negA then 255 else 0
    if a.length < b.length then -(cmpPadded pad b (b.length - a.length) a)
    else cmpPadded pad a (a.length - b.length) b

/-- MIRROR page_bounds_purego.go:9-24 `boundsInt32` (identical shape: `boundsInt64/Uint32/Uint64/
    Float32/Float64`, page_bounds.go:5-25 `boundsFixedLenByteArray`): one pass, two independent updates. -/
def boundsLoop {α} (lt : α → α → Bool) (mn mx : α) : List α → α × α
  | [] => (mn, mx)
  | v :: rest => boundsLoop lt (if lt v mn then v else mn) (if lt mx v then v else mx) rest

def bounds {α} (lt : α → α → Bool) : List α → Option (α × α)
  | [] => none
  | x :: rest => some (boundsLoop lt x x rest)

/-- MIRROR page_byte_array.go `byteArrayPage.bounds`: `switch { case v < min: …; case v > max: … }`
    (the max test is skipped when the min was replaced). -/
def boundsSwitchLoop {α} (lt : α → α → Bool) (mn mx : α) : List α → α × α
  | [] => (mn, mx)
  | v :: rest =>
    if lt v mn then boundsSwitchLoop lt v mx rest
    else if lt mx v then boundsSwitchLoop lt mn v rest
    else boundsSwitchLoop lt mn mx rest

def boundsSwitch {α} (lt : α → α → Bool) : List α → Option (α × α)
  | [] => none
  | x :: rest => some (boundsSwitchLoop lt x x rest)

/-- MIRROR page_float.go:61-90 / page_double.go `Bounds`: the loop after the first non-NaN value -/
def boundsNaNLoop {α} (o : ColOrder α) (lo hi : α) : List α → α × α
  | [] => (lo, hi)
  | v :: rest =>
    if !o.ok v then boundsNaNLoop o lo hi rest
    else boundsNaNLoop o (if o.lt v lo then v else lo) (if o.lt hi v then v else hi) rest

/-- MIRROR page_float.go:61-90 `floatPage.Bounds` (and `doublePage.Bounds`): skip leading NaNs; an
    all-NaN page reports its first value (a NaN) as both bounds; otherwise NaNs are ignored. -/
def boundsNaN {α} (o : ColOrder α) (xs : List α) : Option (α × α) :=
  match xs with
  | [] => none
  | x0 :: _ =>
    match xs.dropWhile (fun v => !o.ok v) with
    | [] => some (x0, x0)
    | y :: rest => some (boundsNaNLoop o y y rest)

def minLoop {α} (o : ColOrder α) (lo : α) : List α → α
  | [] => lo
  | v :: rest => if !o.ok v then minLoop o lo rest else minLoop o (if o.lt v lo then v else lo) rest

theorem boundsNaNLoop_eq {α} (o : ColOrder α) (xs : List α) (lo hi : α) :
    boundsNaNLoop o lo hi xs = (minLoop o lo xs, minLoop o.flip hi xs) := by
  -- cases of `boundsNaNLoop`: no value left; a NaN skipped; a value taken
  fun_induction boundsNaNLoop o lo hi xs with
  | case1 => rfl
  | case2 lo hi v rest hv ih => simp only [minLoop, ColOrder.flip_ok, hv, if_true]; exact ih
  | case3 lo hi v rest hv ih =>
    simp only [minLoop, ColOrder.flip_ok, ColOrder.flip_lt, hv, Bool.false_eq_true, if_false]; exact ih

theorem minLoop_cons {α} {o : ColOrder α} (h : Lawful o) (lo v : α) (rest : List α) :
    minLoop o lo (v :: rest) = minLoop o (if o.lt v lo then v else lo) rest := by
  simp only [minLoop]
  cases hv : o.ok v with
  | true => simp
  | false =>
    have : o.lt v lo = false := by
      cases hc : o.lt v lo with
      | false => rfl
      | true => have := (h.nan _ _ hc).1; simp [hv] at this
    simp [this]

theorem mem_cons_cons_of {α} {m c lo v : α} {rest : List α} (hm : m ∈ c :: rest) (hc : c = lo ∨ c = v) :
    m ∈ lo :: v :: rest := by
  simp only [List.mem_cons] at hm ⊢
  rcases hm with rfl | hm
  · exact hc.elim Or.inl (fun e => Or.inr (Or.inl e))
  · exact Or.inr (Or.inr hm)

theorem minLoop_mem {α} (o : ColOrder α) (xs : List α) (lo : α) : minLoop o lo xs ∈ lo :: xs := by
  fun_induction minLoop o lo xs with
  | case1 => exact List.mem_cons_self
  | case2 lo v rest _ ih => exact mem_cons_cons_of ih (Or.inl rfl)
  | case3 lo v rest _ ih => exact mem_cons_cons_of ih (by split <;> simp)

/-- SPEC. `m` is a least one among the values of `xs` that take part in the order. -/
structure IsMin {α} (o : ColOrder α) (xs : List α) (m : α) : Prop where
  mem : m ∈ xs
  ok : o.ok m = true
  le : ∀ v ∈ xs, o.ok v = true → o.lt v m = false

theorem minLoop_spec {α} {o : ColOrder α} (h : Lawful o) : ∀ (xs : List α) (lo : α), o.ok lo = true →
    IsMin o (lo :: xs) (minLoop o lo xs)
  | [], lo, hlo => ⟨List.mem_cons_self, hlo, fun w hw _ => by rw [List.mem_singleton.mp hw]; exact h.irrefl lo⟩
  | v :: rest, lo, hlo => by
    have hmem := minLoop_mem o (v :: rest) lo
    rw [minLoop_cons h] at hmem ⊢
    -- the loop goes on with a candidate `c` that takes part in the order and is below `lo` and `v`
    have step : ∀ c, minLoop o c rest ∈ lo :: v :: rest → o.ok c = true → o.lt lo c = false → o.lt v c = false →
        IsMin o (lo :: v :: rest) (minLoop o c rest) := by
      intro c hm hc hlo_c hv_c
      obtain ⟨_, h2, h3⟩ := minLoop_spec h rest c hc
      have hcm := h3 c List.mem_cons_self hc
      refine ⟨hm, h2, fun w hw hwok => ?_⟩
      rcases List.mem_cons.mp hw with rfl | hw
      · exact h.le_trans hc hcm hlo_c
      · rcases List.mem_cons.mp hw with rfl | hw
        · exact h.le_trans hc hcm hv_c
        · exact h3 w (List.mem_cons_of_mem _ hw) hwok
    by_cases hlt : o.lt v lo = true
    · rw [if_pos hlt] at hmem ⊢
      exact step v hmem (h.nan _ _ hlt).1 (h.asymm hlt) (h.irrefl v)
    · rw [if_neg hlt] at hmem ⊢
      exact step lo hmem hlo (h.irrefl lo) (by simpa using hlt)

/-- SPEC. `(mn, mx)` are exact bounds of the values of `xs` that take part in the order. -/
structure IsBounds {α} (o : ColOrder α) (xs : List α) (mn mx : α) : Prop where
  min_mem : mn ∈ xs
  max_mem : mx ∈ xs
  min_ok : o.ok mn = true
  max_ok : o.ok mx = true
  lower : ∀ v ∈ xs, o.ok v = true → o.lt v mn = false
  upper : ∀ v ∈ xs, o.ok v = true → o.lt mx v = false

theorem dropWhile_nil_all {α} (p : α → Bool) : ∀ l : List α, l.dropWhile p = [] → ∀ x ∈ l, p x = true := by
  intro l h x hx
  have e := List.takeWhile_append_dropWhile (p := p) (l := l)
  rw [h, List.append_nil] at e
  exact List.all_eq_true.mp List.all_takeWhile x (e ▸ hx)

theorem dropWhile_eq_nil_of_all {α} (p : α → Bool) : ∀ xs : List α, (∀ v ∈ xs, p v = true) → xs.dropWhile p = [] :=
  fun _ h => by simpa using List.dropWhile_append_of_pos (l₂ := []) h

theorem dropWhile_not_ok {α} (o : ColOrder α) {xs : List α} {y : α} {rest : List α}
    (hd : xs.dropWhile (fun v => !o.ok v) = y :: rest) :
    o.ok y = true ∧ (∀ a ∈ y :: rest, a ∈ xs) ∧ ∀ a ∈ xs, o.ok a = true → a ∈ y :: rest := by
  refine ⟨?_, fun a ha => (List.dropWhile_suffix _).mem (hd ▸ ha), fun a ha hok => ?_⟩
  · have := List.head?_dropWhile_not (fun v => !o.ok v) xs
    rw [hd] at this
    simpa using this
  · rw [← List.takeWhile_append_dropWhile (p := fun v => !o.ok v) (l := xs), List.mem_append] at ha
    rcases ha with ha | ha
    · have := List.all_eq_true.mp List.all_takeWhile a ha
      simp [hok] at this
    · rwa [hd] at ha

theorem dropWhile_not_ok_ne_nil {α} (o : ColOrder α) {xs : List α} (hex : ∃ v ∈ xs, o.ok v = true) :
    ∃ y rest, xs.dropWhile (fun v => !o.ok v) = y :: rest := by
  obtain ⟨v, hv, hok⟩ := hex
  cases hd : xs.dropWhile (fun v => !o.ok v) with
  | nil => have := dropWhile_nil_all _ xs hd v hv; simp [hok] at this
  | cons y rest => exact ⟨y, rest, rfl⟩

theorem minLoop_dropWhile {α} {o : ColOrder α} (h : Lawful o) {xs : List α} {y : α} {rest : List α}
    (hd : xs.dropWhile (fun v => !o.ok v) = y :: rest) : IsMin o xs (minLoop o y rest) := by
  obtain ⟨hy, hsub, hsup⟩ := dropWhile_not_ok o hd
  obtain ⟨h1, h2, h3⟩ := minLoop_spec h rest y hy
  exact ⟨hsub _ h1, h2, fun v hv hok => h3 v (hsup v hv hok) hok⟩

theorem boundsNaN_isBounds {α} {o : ColOrder α} (h : Lawful o) (xs : List α)
    (hex : ∃ v ∈ xs, o.ok v = true) :
    ∃ mn mx, boundsNaN o xs = some (mn, mx) ∧ IsBounds o xs mn mx := by
  obtain ⟨y, rest, hd⟩ := dropWhile_not_ok_ne_nil o hex
  have hmn := minLoop_dropWhile h hd
  have hmx := minLoop_dropWhile h.flip (o := o.flip) hd
  cases xs with
  | nil => cases hd
  | cons x0 xt =>
    refine ⟨minLoop o y rest, minLoop o.flip y rest, by simp only [boundsNaN, hd, boundsNaNLoop_eq], ?_⟩
    exact { min_mem := hmn.mem, max_mem := hmx.mem, min_ok := hmn.ok, max_ok := hmx.ok,
            lower := hmn.le, upper := hmx.le }

theorem boundsNaN_mem {α} (o : ColOrder α) {xs : List α} {p : α × α} (hb : boundsNaN o xs = some p) :
    p.1 ∈ xs ∧ p.2 ∈ xs := by
  obtain ⟨mn, mx⟩ := p
  cases xs with
  | nil => cases hb
  | cons x0 xt =>
    simp only [boundsNaN] at hb
    cases hd : List.dropWhile (fun v => !o.ok v) (x0 :: xt) with
    | nil =>
      rw [hd] at hb
      simp only [Option.some.injEq, Prod.mk.injEq] at hb
      exact ⟨hb.1 ▸ List.mem_cons_self, hb.2 ▸ List.mem_cons_self⟩
    | cons y rest =>
      rw [hd] at hb
      simp only [boundsNaNLoop_eq, Option.some.injEq, Prod.mk.injEq] at hb
      have hsub : ∀ a ∈ y :: rest, a ∈ x0 :: xt := fun a ha => (List.dropWhile_suffix _).mem (hd ▸ ha)
      exact ⟨hb.1 ▸ hsub _ (minLoop_mem o rest y), hb.2 ▸ hsub _ (minLoop_mem o.flip rest y)⟩

/-- all-NaN page: both bounds are the first value (a NaN), as the Go doc comment says -/
theorem boundsNaN_allNaN {α} (o : ColOrder α) (x0 : α) (xt : List α)
    (hall : ∀ v ∈ x0 :: xt, o.ok v = false) : boundsNaN o (x0 :: xt) = some (x0, x0) := by
  simp only [boundsNaN]
  rw [dropWhile_eq_nil_of_all _ _ (fun v hv => by simp [hall v hv])]

theorem boundsNaN_nil {α} (o : ColOrder α) : boundsNaN o [] = none := rfl

theorem boundsNaN_eq_none {α} (o : ColOrder α) (xs : List α) : boundsNaN o xs = none ↔ xs = [] := by
  cases xs with
  | nil => simp [boundsNaN]
  | cons x0 xt => simp only [boundsNaN]; split <;> simp

theorem boundsNaNLoop_eq_boundsLoop {α} (o : ColOrder α) (hok : ∀ v, o.ok v = true) :
    ∀ (xs : List α) (lo hi : α), boundsNaNLoop o lo hi xs = boundsLoop o.lt lo hi xs
  | [], _, _ => rfl
  | v :: rest, lo, hi => by
    simp only [boundsNaNLoop, boundsLoop, hok v, Bool.not_true, Bool.false_eq_true, if_false]
    exact boundsNaNLoop_eq_boundsLoop o hok rest _ _

theorem boundsNaN_eq_bounds {α} (o : ColOrder α) (hok : ∀ v, o.ok v = true) (xs : List α) :
    boundsNaN o xs = bounds o.lt xs := by
  cases xs with
  | nil => rfl
  | cons x xt =>
    simp only [boundsNaN, bounds, List.dropWhile, hok x, Bool.not_true]
    rw [boundsNaNLoop_eq_boundsLoop o hok]

theorem boundsSwitchLoop_eq {α} {o : ColOrder α} (h : Lawful o) (xs : List α) (mn mx : α) (hle : o.lt mx mn = false) :
    boundsSwitchLoop o.lt mn mx xs = boundsLoop o.lt mn mx xs := by
  -- cases of the `switch`: no value left; `v < mn`; `mx < v`; neither
  fun_induction boundsSwitchLoop o.lt mn mx xs with
  | case1 => rfl
  | case2 mn mx v rest h1 ih =>
    have h2 : o.lt mx v = false := by
      cases hc : o.lt mx v with
      | false => rfl
      | true => have := h.trans _ _ _ hc h1; simp [this] at hle
    rw [boundsLoop, if_pos h1, h2, if_neg Bool.false_ne_true]
    exact ih h2
  | case3 mn mx v rest h1 h2 ih => rw [boundsLoop, if_neg h1, if_pos h2]; exact ih (Bool.eq_false_iff.mpr h1)
  | case4 mn mx v rest h1 h2 ih => rw [boundsLoop, if_neg h1, if_neg h2]; exact ih hle

theorem boundsSwitch_eq_bounds {α} {o : ColOrder α} (h : Lawful o) (xs : List α) :
    boundsSwitch o.lt xs = bounds o.lt xs := by
  cases xs with
  | nil => rfl
  | cons x xt => simp only [boundsSwitch, bounds]; rw [boundsSwitchLoop_eq h xt x x (h.irrefl x)]

/-- the base page of an optional column holds the non-null values only (page_optional.go `Bounds`) -/
def nonNull {α} (vals : List (Option α)) : List α := vals.filterMap id

/-- MIRROR column_index.go:304 `baseColumnIndexer.observe` + writer.go:2834 `recordPageStats`: per page
    `(nullPage, nullCount, bounds)`; `numValues` counts nulls too. -/
structure PageStats (α : Type) where
  numValues : Nat
  numNulls : Nat
  nullPage : Bool
  bounds : Option (α × α)

def pageStats {α} (o : ColOrder α) (vals : List (Option α)) : PageStats α :=
  let numNulls := (vals.filter Option.isNone).length
  { numValues := vals.length, numNulls := numNulls, nullPage := vals.length == numNulls,
    bounds := boundsNaN o (nonNull vals) }

theorem numNulls_eq_countP {α} (o : ColOrder α) (vals : List (Option α)) :
    (pageStats o vals).numNulls = vals.countP (· = none) := by
  simp only [pageStats, List.countP_eq_length_filter]
  congr 1
  apply List.filter_congr
  intro x _; cases x <;> simp

/-- MIRROR of writer.go `recordPageStats` (min/max part) BEFORE the fix "chunk statistics replace a
    NaN bound": pages without bounds leave the chunk statistics alone; the first page with bounds
    initialises them; later pages replace max when `Compare(max, existing) > 0` and min when
    `Compare(min, existing) < 0`. -/
def foldStep_before_fix {α} (lt : α → α → Bool) (acc : Option (α × α)) (pg : Option (α × α)) : Option (α × α) :=
  match pg with
  | none => acc
  | some (pmn, pmx) =>
    match acc with
    | none => some (pmn, pmx)
    | some (emn, emx) => some (if lt pmn emn then pmn else emn, if lt emx pmx then pmx else emx)

def foldChunk_before_fix {α} (lt : α → α → Bool) (pages : List (Option (α × α))) : Option (α × α) :=
  pages.foldl (foldStep_before_fix lt) none

def pairsOf {α} (pages : List (Option (α × α))) : List (α × α) := pages.filterMap id

theorem foldl_pairsOf {α} (step : Option (α × α) → Option (α × α) → Option (α × α)) (hnone : ∀ acc, step acc none = acc) :
    ∀ (pages : List (Option (α × α))) (acc : Option (α × α)),
      pages.foldl step acc = (pairsOf pages).foldl (fun a p => step a (some p)) acc
  | [], _ => rfl
  | none :: t, acc => by
    simp only [List.foldl, pairsOf, List.filterMap_cons, id, hnone]
    exact foldl_pairsOf step hnone t acc
  | some p :: t, acc => by
    simp only [List.foldl, pairsOf, List.filterMap_cons, id]
    exact foldl_pairsOf step hnone t _

/-- MIRROR writer.go `recordPageStats` (min/max part, as repaired): like the above, and an existing
    bound that is NaN (`isNaNValue`, left by an all-NaN page) is replaced by the next page's bound. -/
def foldStep {α} (o : ColOrder α) (acc : Option (α × α)) (pg : Option (α × α)) : Option (α × α) :=
  match pg with
  | none => acc
  | some (pmn, pmx) =>
    match acc with
    | none => some (pmn, pmx)
    | some (emn, emx) =>
      some (if !o.ok emn || o.lt pmn emn then pmn else emn, if !o.ok emx || o.lt emx pmx then pmx else emx)

def foldChunk {α} (o : ColOrder α) (pages : List (Option (α × α))) : Option (α × α) :=
  pages.foldl (foldStep o) none

def minLoopR {α} (o : ColOrder α) (lo : α) : List α → α
  | [] => lo
  | v :: rest => minLoopR o (if !o.ok lo || o.lt v lo then v else lo) rest

theorem foldl_pairs_some {α} (o : ColOrder α) : ∀ (ps : List (α × α)) (a b : α),
    ps.foldl (fun acc p => foldStep o acc (some p)) (some (a, b)) =
      some (minLoopR o a (ps.map Prod.fst), minLoopR o.flip b (ps.map Prod.snd))
  | [], _, _ => rfl
  | (pmn, pmx) :: t, a, b => by
    rw [List.foldl_cons]
    have e : foldStep o (some (a, b)) (some (pmn, pmx)) =
        some (if !o.ok a || o.lt pmn a then pmn else a, if !o.ok b || o.lt b pmx then pmx else b) := rfl
    rw [e, foldl_pairs_some o t]
    rfl

theorem foldChunk_eq {α} (o : ColOrder α) (pages : List (Option (α × α))) :
    foldChunk o pages =
      match pairsOf pages with
      | [] => none
      | p0 :: pt => some (minLoopR o p0.1 (pt.map Prod.fst), minLoopR o.flip p0.2 (pt.map Prod.snd)) := by
  unfold foldChunk
  rw [foldl_pairsOf _ (fun _ => rfl)]
  cases hps : pairsOf pages with
  | nil => rfl
  | cons p0 pt =>
    obtain ⟨a, b⟩ := p0
    simp only [List.foldl, foldStep]
    exact foldl_pairs_some o pt a b

theorem foldStep_before_fix_eq {α} (lt : α → α → Bool) :
    foldStep_before_fix lt = foldStep ⟨lt, fun _ => true⟩ := by
  funext acc pg
  cases pg <;> cases acc <;> rfl

theorem minLoopR_noNaN {α} {o : ColOrder α} (h : Lawful o) : ∀ (xs : List α) (lo : α),
    minLoopR ⟨o.lt, fun _ => true⟩ lo xs = minLoop o lo xs
  | [], _ => rfl
  | v :: rest, lo => by rw [minLoop_cons h]; exact minLoopR_noNaN h rest _

theorem foldChunk_before_fix_eq {α} {o : ColOrder α} (h : Lawful o) (pages : List (Option (α × α))) :
    foldChunk_before_fix o.lt pages =
      match pairsOf pages with
      | [] => none
      | p0 :: pt => some (minLoop o p0.1 (pt.map Prod.fst), minLoop o.flip p0.2 (pt.map Prod.snd)) := by
  have e : foldChunk_before_fix o.lt pages = foldChunk ⟨o.lt, fun _ => true⟩ pages := by
    unfold foldChunk_before_fix foldChunk; rw [foldStep_before_fix_eq]
  rw [e, foldChunk_eq]
  cases pairsOf pages with
  | nil => rfl
  | cons p0 pt => exact congrArg some (Prod.ext (minLoopR_noNaN h _ _) (minLoopR_noNaN h.flip _ _))

theorem foldChunk_before_fix_spec {α} {o : ColOrder α} (h : Lawful o) (pages : List (Option (α × α)))
    (p0 : α × α) (pt : List (α × α)) (hps : pairsOf pages = p0 :: pt)
    (hok : o.ok p0.1 = true ∧ o.ok p0.2 = true) :
    ∃ cmn cmx, foldChunk_before_fix o.lt pages = some (cmn, cmx) ∧
      IsMin o ((pairsOf pages).map Prod.fst) cmn ∧ IsMin o.flip ((pairsOf pages).map Prod.snd) cmx := by
  rw [foldChunk_before_fix_eq h, hps]
  exact ⟨_, _, rfl, minLoop_spec h _ _ hok.1, minLoop_spec h.flip _ _ hok.2⟩

theorem foldChunk_before_fix_none {α} {o : ColOrder α} (h : Lawful o) (pages : List (Option (α × α)))
    (hps : pairsOf pages = []) : foldChunk_before_fix o.lt pages = none := by
  rw [foldChunk_before_fix_eq h, hps]

theorem minLoopR_mem {α} (o : ColOrder α) : ∀ (xs : List α) (lo : α), minLoopR o lo xs ∈ lo :: xs
  | [], lo => by simp [minLoopR]
  | v :: rest, lo => mem_cons_cons_of (minLoopR_mem o rest _) (by split <;> simp)

theorem minLoopR_eq {α} {o : ColOrder α} (h : Lawful o) : ∀ (xs : List α) (lo y : α) (rest : List α),
    (lo :: xs).dropWhile (fun v => !o.ok v) = y :: rest → minLoopR o lo xs = minLoop o y rest
  | [], lo, y, rest, hd => by
    simp only [List.dropWhile] at hd
    split at hd
    · simp at hd
    · simp only [List.cons.injEq] at hd
      rw [← hd.1, ← hd.2]; rfl
  | v :: t, lo, y, rest, hd => by
    simp only [minLoopR]
    cases hlo : o.ok lo with
    | true =>
      simp only [List.dropWhile, hlo, Bool.not_true] at hd
      simp only [List.cons.injEq] at hd
      rw [← hd.1, ← hd.2, minLoop_cons h]
      simp only [Bool.not_true, Bool.false_or]
      have hok' : o.ok (if o.lt v lo = true then v else lo) = true := by
        split
        · rename_i hlt; exact (h.nan _ _ hlt).1
        · exact hlo
      exact minLoopR_eq h t _ _ t (by simp [List.dropWhile, hok'])
    | false =>
      simp only [List.dropWhile, hlo, Bool.not_false] at hd
      simp only [Bool.not_false, Bool.true_or, if_true]
      exact minLoopR_eq h t v y rest hd

theorem minLoopR_spec {α} {o : ColOrder α} (h : Lawful o) (lo : α) (xs : List α)
    (hex : ∃ v ∈ lo :: xs, o.ok v = true) : IsMin o (lo :: xs) (minLoopR o lo xs) := by
  obtain ⟨y, rest, hd⟩ := dropWhile_not_ok_ne_nil o hex
  rw [minLoopR_eq h xs lo y rest hd]
  exact minLoop_dropWhile h hd

theorem foldChunk_spec {α} {o : ColOrder α} (h : Lawful o) (pages : List (Option (α × α)))
    (hmn : ∃ v ∈ (pairsOf pages).map Prod.fst, o.ok v = true)
    (hmx : ∃ v ∈ (pairsOf pages).map Prod.snd, o.ok v = true) :
    ∃ cmn cmx, foldChunk o pages = some (cmn, cmx) ∧
      IsMin o ((pairsOf pages).map Prod.fst) cmn ∧ IsMin o.flip ((pairsOf pages).map Prod.snd) cmx := by
  rw [foldChunk_eq]
  cases hps : pairsOf pages with
  | nil => rw [hps] at hmn; obtain ⟨_, hv, _⟩ := hmn; cases hv
  | cons p0 pt =>
    rw [hps] at hmn hmx
    exact ⟨_, _, rfl, minLoopR_spec h _ _ hmn, minLoopR_spec h.flip _ _ hmx⟩

theorem foldChunk_none {α} (o : ColOrder α) (pages : List (Option (α × α)))
    (hps : pairsOf pages = []) : foldChunk o pages = none := by
  rw [foldChunk_eq, hps]

theorem mem_nonNull {α} {vals : List (Option α)} {v : α} : v ∈ nonNull vals ↔ some v ∈ vals := by
  simp [nonNull, List.mem_filterMap]

theorem mem_pairsOf {α} {pages : List (Option (α × α))} {p : α × α} : p ∈ pairsOf pages ↔ some p ∈ pages := by
  simp [pairsOf, List.mem_filterMap]

theorem pageStats_isBounds {α} {o : ColOrder α} (h : Lawful o) (vals : List (Option α))
    (hex : ∃ v, some v ∈ vals ∧ o.ok v = true) :
    ∃ mn mx, (pageStats o vals).bounds = some (mn, mx) ∧ IsBounds o (nonNull vals) mn mx :=
  let ⟨v, hv, hok⟩ := hex
  boundsNaN_isBounds h (nonNull vals) ⟨v, mem_nonNull.mpr hv, hok⟩

theorem pageStats_bound {α} {o : ColOrder α} (h : Lawful o) {vals : List (Option α)} {mn mx v : α}
    (hb : (pageStats o vals).bounds = some (mn, mx)) (hv : some v ∈ vals) (hok : o.ok v = true) :
    o.lt v mn = false ∧ o.lt mx v = false := by
  obtain ⟨mn', mx', hb', hib⟩ := pageStats_isBounds h vals ⟨v, hv, hok⟩
  rw [hb] at hb'
  cases hb'
  exact ⟨hib.lower v (mem_nonNull.mpr hv) hok, hib.upper v (mem_nonNull.mpr hv) hok⟩

theorem chunkBounds_of_pages {α} {o : ColOrder α} (h : Lawful o) (pgs : List (List (Option α))) {cmn cmx : α}
    (hmn : IsMin o ((pairsOf (pgs.map (fun vals => (pageStats o vals).bounds))).map Prod.fst) cmn)
    (hmx : IsMin o.flip ((pairsOf (pgs.map (fun vals => (pageStats o vals).bounds))).map Prod.snd) cmx) :
    (∃ vals ∈ pgs, some cmn ∈ vals) ∧ (∃ vals ∈ pgs, some cmx ∈ vals) ∧
    ∀ vals ∈ pgs, ∀ v, some v ∈ vals → o.ok v = true → o.lt v cmn = false ∧ o.lt cmx v = false := by
  have hpair : ∀ p, p ∈ pairsOf (pgs.map (fun vals => (pageStats o vals).bounds)) ↔
      ∃ vals ∈ pgs, (pageStats o vals).bounds = some p := fun p => mem_pairsOf.trans List.mem_map
  refine ⟨?_, ?_, ?_⟩
  · obtain ⟨p, hp, rfl⟩ := List.mem_map.mp hmn.mem
    obtain ⟨vals, hv, hb⟩ := (hpair p).mp hp
    exact ⟨vals, hv, mem_nonNull.mp (boundsNaN_mem o (xs := nonNull vals) hb).1⟩
  · obtain ⟨p, hp, rfl⟩ := List.mem_map.mp hmx.mem
    obtain ⟨vals, hv, hb⟩ := (hpair p).mp hp
    exact ⟨vals, hv, mem_nonNull.mp (boundsNaN_mem o (xs := nonNull vals) hb).2⟩
  · intro vals hv v hvin hvok
    obtain ⟨mn, mx, hb, hib⟩ := pageStats_isBounds h vals ⟨v, hvin, hvok⟩
    have hp := (hpair (mn, mx)).mpr ⟨vals, hv, hb⟩
    have hv' := mem_nonNull.mpr hvin
    exact ⟨h.le_trans hib.min_ok (hmn.le mn (List.mem_map.mpr ⟨_, hp, rfl⟩) hib.min_ok) (hib.lower v hv' hvok),
      h.le_trans hib.max_ok (hib.upper v hv' hvok) (hmx.le mx (List.mem_map.mpr ⟨_, hp, rfl⟩) hib.max_ok)⟩

/-- MIRROR column_index.go:726 `truncateLargeMinByteArrayValue` -/
abbrev truncMin := Trunc.truncMin
/-- MIRROR column_index.go `truncateLargeMaxByteArrayValue` + `incrementByteArrayInplace` BEFORE the fix:
    on full overflow the kept prefix was restored to 0xFF..FF and returned. -/
abbrev truncMax_before_fix := Trunc.truncMaxBuggy
/-- MIRROR column_index.go `truncateLargeMaxByteArrayValue` (as repaired, like parquet-java's
    `BinaryTruncator`): when the increment of the kept prefix overflows the untruncated value is kept -/
abbrev truncMax := Trunc.truncMaxFixed

/-- `sizeLimit > 0` guard of the byte-array indexers (column_index.go:549, 605) -/
def truncMinLim (v : List Nat) (lim : Nat) : List Nat := if lim > 0 then truncMin v lim else v
def truncMaxLim (v : List Nat) (lim : Nat) : List Nat := if lim > 0 then truncMax v lim else v

theorem truncMinLim_le (v : List Nat) (lim : Nat) : Trunc.lexLe (truncMinLim v lim) v = true := by
  unfold truncMinLim; split
  · exact Trunc.truncMin_le v lim
  · exact Trunc.lexLe_refl v

theorem truncMaxLim_ge (v : List Nat) (lim : Nat) (hb : ∀ b ∈ v, b ≤ 255) :
    Trunc.lexLe v (truncMaxLim v lim) = true := by
  unfold truncMaxLim; split
  · exact Trunc.truncMaxFixed_ge v lim hb
  · exact Trunc.lexLe_refl v

theorem truncMax_before_fix_allFF (v : List Nat) (n : Nat) (hlen : n < v.length) (hff : ∀ b ∈ v.take n, b = 255) :
    truncMax_before_fix v n = v.take n := by
  simp only [truncMax_before_fix, Trunc.truncMaxBuggy]
  have hc := (Trunc.incr_carry_iff (v.take n)).mpr hff
  have hl := Trunc.incr_length (v.take n)
  cases hi : Trunc.incr (v.take n) with
  | mk r c =>
    rw [hi] at hc hl
    simp only at hc hl
    subst hc
    simp only [hlen, if_true]
    rw [List.map_const', hl]
    exact (List.eq_replicate_iff.mpr ⟨rfl, hff⟩).symm

/-- MIRROR order_purego.go:27-34 `orderIsAscending`: no adjacent pair with `data[i-1] > data[i]` -/
def isAscBy {α} (lt : α → α → Bool) : List α → Bool
  | a :: b :: rest => !lt b a && isAscBy lt (b :: rest)
  | _ => true

/-- MIRROR order_purego.go:36-43 `orderIsDescending`: no adjacent pair with `data[i-1] < data[i]` -/
def isDescBy {α} (lt : α → α → Bool) : List α → Bool
  | a :: b :: rest => !lt a b && isDescBy lt (b :: rest)
  | _ => true

/-- MIRROR order_purego.go:15-25 `orderOf` (the assembly kernels of order_amd64.go are tied to it by differential testing, DESIGN.md level L2) -/
def orderOf {α} (lt : α → α → Bool) (xs : List α) : Int :=
  if xs.length > 1 then (if isAscBy lt xs then 1 else if isDescBy lt xs then -1 else 0) else 0

/-- MIRROR order.go:75 `skipBytesStreak`: drop the leading run of values equal to the first one,
    keeping one of them (`eq` is `bytes.Equal`) -/
def skipStreak {α} (eq : α → α → Bool) : List α → List α
  | [] => []
  | x0 :: rest => x0 :: rest.dropWhile (fun x => eq x x0)

/-- MIRROR order.go:52 `orderOfBytes` -/
def orderOfBytes (xs : List (List Nat)) : Int :=
  if xs.length < 2 then 0 else
  match skipStreak (fun a b => a == b) xs with
  | a :: b :: rest =>
    if lexLt a b then (if isAscBy lexLt (b :: rest) then 1 else 0)
    else if lexLt b a then (if isDescBy lexLt (b :: rest) then -1 else 0)
    else 0
  | _ => 1

/-- MIRROR order.go:9-39 `orderOfBool` with `streakOfTrue/False` as `takeWhile` lengths -/
def orderOfBool (xs : List Bool) : Int :=
  if xs.length < 2 then 0 else
  let n := xs.length
  match xs with
  | true :: _ =>
    let i := (xs.takeWhile (· == true)).length
    if i == n then 1
    else
      let i2 := i + ((xs.drop i).takeWhile (· == false)).length
      if i2 != n then 0 else -1
  | _ =>
    let i := (xs.takeWhile (· == false)).length
    let i2 := i + ((xs.drop i).takeWhile (· == true)).length
    if i2 != n then 0 else 1

/-- MIRROR column_index.go:800 `boundaryOrderOf`: 1 = ASCENDING, 2 = DESCENDING, 0 = UNORDERED -/
def boundaryOrderOf (minOrder maxOrder : Int) : Nat :=
  if minOrder = maxOrder then (if minOrder > 0 then 1 else if minOrder < 0 then 2 else 0) else 0

/-- MIRROR of the typed indexers' `IndexPage` (column_index.go:339 etc.): a null page has
    `min = max = Value{}` whose typed accessor yields the zero value `z` -/
def storedMins {α} (z : α) (pages : List (Option (α × α))) : List α := pages.map (fun p => (p.getD (z, z)).1)
def storedMaxs {α} (z : α) (pages : List (Option (α × α))) : List α := pages.map (fun p => (p.getD (z, z)).2)

/-- MIRROR `ColumnIndex()` of the numeric indexers BEFORE the fix "no boundary order when a bound is
    NaN": boundary order over the stored values, null pages included. -/
def indexOrder_before_fix {α} (o : ColOrder α) (z : α) (pages : List (Option (α × α))) : Nat :=
  boundaryOrderOf (orderOf o.lt (storedMins z pages)) (orderOf o.lt (storedMaxs z pages))

/-- MIRROR `ColumnIndex()` of the numeric indexers (as repaired): the float/double indexers claim no order
    when `containsNaN(minValues) || containsNaN(maxValues)`; for the integer indexers `ok` is constantly
    true and the guard is vacuous. -/
def indexOrder {α} (o : ColOrder α) (z : α) (pages : List (Option (α × α))) : Nat :=
  if (storedMins z pages).all o.ok && (storedMaxs z pages).all o.ok then
    boundaryOrderOf (orderOf o.lt (storedMins z pages)) (orderOf o.lt (storedMaxs z pages))
  else 0

/-- MIRROR `byteArrayColumnIndexer.ColumnIndex` (column_index.go:546): null pages store the empty
    string, every entry is truncated, then `orderOfBytes` on the truncated entries -/
def bytesIndexMins (lim : Nat) (pages : List (Option (List Nat × List Nat))) : List (List Nat) :=
  (storedMins [] pages).map (truncMinLim · lim)
def bytesIndexMaxs (lim : Nat) (pages : List (Option (List Nat × List Nat))) : List (List Nat) :=
  (storedMaxs [] pages).map (truncMaxLim · lim)
def bytesIndexOrder (lim : Nat) (pages : List (Option (List Nat × List Nat))) : Nat :=
  boundaryOrderOf (orderOfBytes (bytesIndexMins lim pages)) (orderOfBytes (bytesIndexMaxs lim pages))

/-- MIRROR column_index.go:780 `splitFixedLenByteArrays`: `len(data)/size` chunks -/
def splitFixed (size : Nat) : Nat → List Nat → List (List Nat)
  | 0, _ => []
  | k + 1, data => data.take size :: splitFixed size k (data.drop size)

/-- MIRROR `fixedLenByteArrayColumnIndexer.IndexPage/ColumnIndex` BEFORE parquet-go commit 0506fde: the bounds were
    appended to one flat buffer (`Value{}.byteArray()` is empty for a null page) and split again. -/
def flbaIndexMins_before_fix (size lim : Nat) (pages : List (Option (List Nat × List Nat))) : List (List Nat) :=
  let flat := (storedMins [] pages).flatten
  (splitFixed size (flat.length / size) flat).map (truncMinLim · lim)

/-- MIRROR `be128ColumnIndexer.IndexPage` BEFORE parquet-go commit 0506fde: null bounds were skipped -/
def be128IndexMins_before_fix (pages : List (Option (List Nat × List Nat))) : List (List Nat) :=
  (pairsOf pages).map Prod.fst

/-- MIRROR `fixedLenByteArrayColumnIndexer` (as repaired, `appendValue`): a null page stores `size` zero
    bytes; every entry is truncated like the byte-array indexer's; `orderOfBytes` on the result.
    `be128ColumnIndexer` is the instance `size = 16`, `lim = 0` (no truncation). -/
def flbaIndexMins (size lim : Nat) (pages : List (Option (List Nat × List Nat))) : List (List Nat) :=
  (storedMins (List.replicate size 0) pages).map (truncMinLim · lim)
def flbaIndexMaxs (size lim : Nat) (pages : List (Option (List Nat × List Nat))) : List (List Nat) :=
  (storedMaxs (List.replicate size 0) pages).map (truncMaxLim · lim)
def flbaIndexOrder (size lim : Nat) (pages : List (Option (List Nat × List Nat))) : Nat :=
  boundaryOrderOf (orderOfBytes (flbaIndexMins size lim pages)) (orderOfBytes (flbaIndexMaxs size lim pages))

theorem isAscBy_pairwise {α} {o : ColOrder α} (h : Lawful o) : ∀ xs : List α, (∀ x ∈ xs, o.ok x = true) →
    isAscBy o.lt xs = true → xs.Pairwise (fun a b => o.lt b a = false)
  | [], _, _ => List.Pairwise.nil
  | [a], _, _ => by simp
  | a :: b :: rest, hok, hasc => by
    simp only [isAscBy, Bool.and_eq_true, Bool.not_eq_true'] at hasc
    have ih := isAscBy_pairwise h (b :: rest) (fun x hx => hok x (by simp [hx])) hasc.2
    refine List.pairwise_cons.mpr ⟨fun c hc => ?_, ih⟩
    rcases List.mem_cons.mp hc with rfl | hc
    · exact hasc.1
    · exact h.le_trans (hok b (by simp)) hasc.1 ((List.pairwise_cons.mp ih).1 c hc)

theorem isDescBy_eq_flip {α} (lt : α → α → Bool) : ∀ xs : List α, isDescBy lt xs = isAscBy (fun a b => lt b a) xs
  | [] => rfl
  | [_] => rfl
  | a :: b :: rest => by simp only [isDescBy, isAscBy]; rw [isDescBy_eq_flip lt (b :: rest)]

theorem isDescBy_pairwise {α} {o : ColOrder α} (h : Lawful o) (xs : List α) (hok : ∀ x ∈ xs, o.ok x = true)
    (hd : isDescBy o.lt xs = true) : xs.Pairwise (fun a b => o.lt a b = false) := by
  rw [isDescBy_eq_flip] at hd
  exact isAscBy_pairwise h.flip xs hok hd

theorem orderOf_sound {α} {o : ColOrder α} (h : Lawful o) (xs : List α) (hok : ∀ x ∈ xs, o.ok x = true) :
    (0 < orderOf o.lt xs → xs.Pairwise (fun a b => o.lt b a = false)) ∧
    (orderOf o.lt xs < 0 → xs.Pairwise (fun a b => o.lt a b = false)) := by
  unfold orderOf
  split
  · cases h1 : isAscBy o.lt xs with
    | true => exact ⟨fun _ => isAscBy_pairwise h xs hok h1, fun hneg => by simp at hneg⟩
    | false =>
      cases h2 : isDescBy o.lt xs with
      | true => exact ⟨fun hpos => by simp at hpos, fun _ => isDescBy_pairwise h xs hok h2⟩
      | false => exact ⟨fun hpos => by simp at hpos, fun hneg => by simp at hneg⟩
  · exact ⟨fun hpos => by simp at hpos, fun hneg => by simp at hneg⟩

/-- mins / maxs of the non-null pages, in page order (the reader's view: null pages have no bounds) -/
def nonNullMins {α} (pages : List (Option (α × α))) : List α := pages.filterMap (fun p => p.map Prod.fst)
def nonNullMaxs {α} (pages : List (Option (α × α))) : List α := pages.filterMap (fun p => p.map Prod.snd)

theorem nonNullMins_eq {α} (pages : List (Option (α × α))) : nonNullMins pages = (pairsOf pages).map Prod.fst := by
  simp only [nonNullMins, pairsOf, List.map_filterMap, id]

theorem nonNullMaxs_eq {α} (pages : List (Option (α × α))) : nonNullMaxs pages = (pairsOf pages).map Prod.snd := by
  simp only [nonNullMaxs, pairsOf, List.map_filterMap, id]

/-- index entries of the non-null pages (entries are aligned with pages) -/
def nonNullOf {α β} (pages : List (Option β)) (entries : List α) : List α :=
  (pages.zip entries).filterMap (fun pe => if pe.1.isSome then some pe.2 else none)

theorem nonNullOf_sublist {α β} : ∀ (pages : List (Option β)) (entries : List α),
    (nonNullOf pages entries).Sublist entries
  | [], _ => by simp [nonNullOf]
  | _ :: _, [] => by simp [nonNullOf]
  | none :: ps, e :: es => (nonNullOf_sublist ps es).cons e
  | some _ :: ps, e :: es => (nonNullOf_sublist ps es).cons_cons e

theorem nonNullOf_map {α β} (g : Option β → α) (pages : List (Option β)) :
    nonNullOf pages (pages.map g) = pages.filterMap (fun p => if p.isSome then some (g p) else none) := by
  induction pages with
  | nil => rfl
  | cons p ps ih =>
    simp only [nonNullOf, List.map_cons, List.zip_cons_cons, List.filterMap_cons] at ih ⊢
    rw [ih]

theorem nonNullOf_storedMins {α} (z : α) (pages : List (Option (α × α))) :
    nonNullOf pages (storedMins z pages) = nonNullMins pages := by
  rw [storedMins, nonNullOf_map]
  exact congrArg (List.filterMap · pages) (funext fun p => by cases p <;> rfl)

theorem nonNullOf_storedMaxs {α} (z : α) (pages : List (Option (α × α))) :
    nonNullOf pages (storedMaxs z pages) = nonNullMaxs pages := by
  rw [storedMaxs, nonNullOf_map]
  exact congrArg (List.filterMap · pages) (funext fun p => by cases p <;> rfl)

theorem forall_mem_storedMins {α} {P : α → Prop} {z : α} {pages : List (Option (α × α))} (hz : P z)
    (hp : ∀ p ∈ pairsOf pages, P p.1) : ∀ x ∈ storedMins z pages, P x := by
  intro x hx
  obtain ⟨p, hp', rfl⟩ := List.mem_map.mp hx
  cases p with
  | none => exact hz
  | some q => exact hp q (mem_pairsOf.mpr hp')

theorem forall_mem_storedMaxs {α} {P : α → Prop} {z : α} {pages : List (Option (α × α))} (hz : P z)
    (hp : ∀ p ∈ pairsOf pages, P p.2) : ∀ x ∈ storedMaxs z pages, P x := by
  intro x hx
  obtain ⟨p, hp', rfl⟩ := List.mem_map.mp hx
  cases p with
  | none => exact hz
  | some q => exact hp q (mem_pairsOf.mpr hp')

theorem boundaryOrderOf_one {a b : Int} (h : boundaryOrderOf a b = 1) : a = b ∧ a > 0 := by
  unfold boundaryOrderOf at h
  split at h
  · split at h
    · exact ⟨by assumption, by assumption⟩
    · split at h <;> simp at h
  · simp at h

theorem boundaryOrderOf_two {a b : Int} (h : boundaryOrderOf a b = 2) : a = b ∧ a < 0 := by
  unfold boundaryOrderOf at h
  split at h
  · split at h
    · simp at h
    · split at h
      · exact ⟨by assumption, by assumption⟩
      · simp at h
  · simp at h

theorem boundaryOrderOf_sound {α β} {R R' : α → α → Prop} (pages : List (Option β)) {mins maxs : List α}
    {a b : Int} (hmin : (0 < a → mins.Pairwise R) ∧ (a < 0 → mins.Pairwise R'))
    (hmax : (0 < b → maxs.Pairwise R) ∧ (b < 0 → maxs.Pairwise R')) :
    (boundaryOrderOf a b = 1 → (nonNullOf pages mins).Pairwise R ∧ (nonNullOf pages maxs).Pairwise R) ∧
    (boundaryOrderOf a b = 2 → (nonNullOf pages mins).Pairwise R' ∧ (nonNullOf pages maxs).Pairwise R') := by
  constructor
  · intro hbo
    obtain ⟨rfl, hpos⟩ := boundaryOrderOf_one hbo
    exact ⟨(hmin.1 hpos).sublist (nonNullOf_sublist pages mins), (hmax.1 hpos).sublist (nonNullOf_sublist pages maxs)⟩
  · intro hbo
    obtain ⟨rfl, hneg⟩ := boundaryOrderOf_two hbo
    exact ⟨(hmin.2 hneg).sublist (nonNullOf_sublist pages mins), (hmax.2 hneg).sublist (nonNullOf_sublist pages maxs)⟩

/-- what `skipBytesStreak` removed were copies of the first value -/
theorem pairwise_of_skipStreak {α} [BEq α] [LawfulBEq α] {R : α → α → Prop} (hrefl : ∀ a, R a a) :
    ∀ xs : List α, (skipStreak (fun a b => a == b) xs).Pairwise R → xs.Pairwise R
  | [], _ => List.Pairwise.nil
  | x0 :: rest, hp => by
    have hp' : (x0 :: rest.dropWhile (fun x => x == x0)).Pairwise R := hp
    obtain ⟨hhead, htail⟩ := List.pairwise_cons.mp hp'
    have hcopies : ∀ e ∈ x0 :: rest.takeWhile (fun x => x == x0), e = x0 := by
      intro e he
      rcases List.mem_cons.mp he with rfl | he
      · rfl
      · exact eq_of_beq (List.all_eq_true.mp List.all_takeWhile e he)
    rw [← List.takeWhile_append_dropWhile (p := fun x => x == x0) (l := rest), ← List.cons_append,
      List.pairwise_append]
    refine ⟨List.pairwise_of_forall_mem_list fun a ha b hb => ?_, htail, fun a ha b hb => ?_⟩
    · rw [hcopies a ha, hcopies b hb]; exact hrefl x0
    · rw [hcopies a ha]; exact hhead b hb

theorem orderOfBytes_sound (xs : List (List Nat)) :
    (0 < orderOfBytes xs → xs.Pairwise (fun a b => lexLt b a = false)) ∧
    (orderOfBytes xs < 0 → xs.Pairwise (fun a b => lexLt a b = false)) := by
  -- on what the streak skip leaves, a claim is the result of the adjacent-pair scan
  have key : (0 < orderOfBytes xs → isAscBy lexLt (skipStreak (fun a b => a == b) xs) = true) ∧
      (orderOfBytes xs < 0 → isDescBy lexLt (skipStreak (fun a b => a == b) xs) = true) := by
    unfold orderOfBytes
    split
    · exact ⟨fun h => absurd h (by decide), fun h => absurd h (by decide)⟩
    · generalize skipStreak (fun a b => a == b) xs = s
      match s with
      | [] => exact ⟨fun _ => rfl, fun _ => rfl⟩
      | [_] => exact ⟨fun _ => rfl, fun _ => rfl⟩
      | a :: b :: rest =>
        simp only [isAscBy, isDescBy]
        cases hab : lexLt a b with
        | true =>
          have hba : lexLt b a = false := bytes_lawful.asymm (o := bytes) hab
          rw [hba]
          cases isAscBy lexLt (b :: rest) <;> simp
        | false =>
          cases hba : lexLt b a with
          | true => cases isDescBy lexLt (b :: rest) <;> simp
          | false => simp
  have hall : ∀ x ∈ skipStreak (fun a b => a == b) xs, bytes.ok x = true := fun _ _ => rfl
  exact ⟨fun hpos => pairwise_of_skipStreak (fun a => bytes_lawful.irrefl a) xs
      (isAscBy_pairwise bytes_lawful _ hall (key.1 hpos)),
    fun hneg => pairwise_of_skipStreak (fun a => bytes_lawful.irrefl a) xs
      (isDescBy_pairwise bytes_lawful _ hall (key.2 hneg))⟩

/-- `compareBool(a, b) < 0` (compare.go:59-68): false < true -/
def boolLt (a b : Bool) : Bool := !a && b

theorem boolLt_eq (a b : Bool) : (ofKey (fun b : Bool => if b then 1 else 0) (fun _ => false)).lt a b = boolLt a b := by
  cases a <;> cases b <;> rfl

theorem takeWhile_length_le {α} (p : α → Bool) : ∀ l : List α, (l.takeWhile p).length ≤ l.length :=
  fun _ => (List.takeWhile_prefix p).length_le

theorem pairwise_of_streaks (R : Bool → Bool → Prop) (u v : Bool) (l : List Bool)
    (h : (l.takeWhile (· == u)).length + ((l.drop (l.takeWhile (· == u)).length).takeWhile (· == v)).length = l.length)
    (huu : R u u) (huv : R u v) (hvv : R v v) : l.Pairwise R := by
  have hd := ListFacts.drop_length_takeWhile (· == u) l
  have hl : l.length = (l.takeWhile (· == u)).length + (l.dropWhile (· == u)).length := by
    rw [← List.length_append, List.takeWhile_append_dropWhile]
  rw [hd] at h
  -- the `v`-streak of the rest is as long as the rest, so it is the rest
  have hq := (List.takeWhile_prefix (· == v) (l := l.dropWhile (· == u))).eq_of_length (by omega)
  have ha : ∀ x ∈ l.takeWhile (· == u), x = u := fun x hx =>
    eq_of_beq (List.all_eq_true.mp List.all_takeWhile x hx)
  have hb : ∀ x ∈ l.dropWhile (· == u), x = v := fun x hx =>
    eq_of_beq (List.all_eq_true.mp List.all_takeWhile x (hq ▸ hx))
  rw [← List.takeWhile_append_dropWhile (p := (· == u)) (l := l), List.pairwise_append]
  refine ⟨List.pairwise_of_forall_mem_list ?_, List.pairwise_of_forall_mem_list ?_, ?_⟩
  · intro x hx y hy; rw [ha x hx, ha y hy]; exact huu
  · intro x hx y hy; rw [hb x hx, hb y hy]; exact hvv
  · intro x hx y hy; rw [ha x hx, hb y hy]; exact huv

/-- `orderOfBool` claims ascending only for `false* true*`, descending only for `true* false*` -/
theorem orderOfBool_sound (xs : List Bool) :
    (0 < orderOfBool xs → xs.Pairwise (fun a b => boolLt b a = false)) ∧
    (orderOfBool xs < 0 → xs.Pairwise (fun a b => boolLt a b = false)) := by
  unfold orderOfBool
  split
  · simp
  · cases xs with
    | nil => simp
    | cons x0 rest =>
      cases x0 with
      | true =>
        simp only
        split
        · rename_i hall
          -- the `true`-streak is the whole list
          refine ⟨fun _ => pairwise_of_streaks _ true true _ ?_ rfl rfl rfl, fun h => by simp at h⟩
          simp only [beq_iff_eq] at hall
          rw [hall, List.drop_length]; rfl
        · split
          · simp
          · rename_i hne
            exact ⟨fun h => by simp at h,
              fun _ => pairwise_of_streaks _ true false _ (by simpa using hne) rfl rfl rfl⟩
      | false =>
        simp only
        split
        · simp
        · rename_i hne
          exact ⟨fun _ => pairwise_of_streaks _ false true _ (by simpa using hne) rfl rfl rfl,
            fun h => by simp at h⟩

/-- MIRROR `booleanColumnIndexer.ColumnIndex` (column_index.go:345): null pages store `false` -/
def boolIndexOrder (pages : List (Option (Bool × Bool))) : Nat :=
  boundaryOrderOf (orderOfBool (storedMins false pages)) (orderOfBool (storedMaxs false pages))

/-- INT96 as its three little-endian 32-bit words `(i[0], i[1], i[2])` -/
abbrev I96 := Nat × Nat × Nat

/-- MIRROR deprecated/int96.go:35-62 `Int96.Negative` / `Int96.Less`: sign of the top word first, then the words
    from the most significant one, unsigned -/
def int96Less (a b : I96) : Bool :=
  let negA := decide (a.2.2 ≥ 2 ^ 31)
  let negB := decide (b.2.2 ≥ 2 ^ 31)
  if negA && !negB then true
  else if !negA && negB then false
  else if a.2.2 < b.2.2 then true
  else if a.2.2 > b.2.2 then false
  else if a.2.1 < b.2.1 then true
  else if a.2.1 > b.2.1 then false
  else if a.1 < b.1 then true
  else false

/-- SPEC: the value of a 96-bit two's complement integer -/
def int96Key (a : I96) : Int :=
  ((a.1 + 2 ^ 32 * a.2.1 + 2 ^ 64 * a.2.2 : Nat) : Int) - (if a.2.2 ≥ 2 ^ 31 then 2 ^ 96 else 0)

def int96 : ColOrder I96 := ofKey int96Key (fun _ => false)
theorem int96_lawful : Lawful int96 := ofKey_lawful _ _

theorem lexStep (x y : Nat) (r : Bool) :
    (if x < y then true else if x > y then false else r) = (decide (x < y) || (decide (x = y) && r)) := by
  rcases Nat.lt_trichotomy x y with h | rfl | h
  · simp [h]
  · simp
  · simp [h, Nat.lt_asymm h, Nat.ne_of_gt h]

theorem signStep (na nb r : Bool) :
    (if na && !nb then true else if !na && nb then false else r) = ((na && !nb) || ((na == nb) && r)) := by
  cases na <;> cases nb <;> simp

/-- SPEC: the unsigned value of a big-endian byte string; `decimalValue`: its two's complement value (DECIMAL on BYTE_ARRAY) -/
def beUnsigned : List Nat → Nat
  | [] => 0
  | b :: rest => b * 256 ^ rest.length + beUnsigned rest

def decimalValue : List Nat → Int
  | [] => 0
  | b :: rest => ((beUnsigned (b :: rest) : Nat) : Int) - (if b ≥ 128 then 256 ^ (rest.length + 1) else 0)

/-- DECIMAL on BYTE_ARRAY / FIXED_LEN_BYTE_ARRAY: order of the represented integers (SPEC; the mirror
    `cmpDecimal` is tied to it by `cmpDecimal_spec` of StatsDecimal.lean) -/
def decimalBinary : ColOrder (List Nat) := ofKey decimalValue (fun _ => false)
theorem decimalBinary_lawful : Lawful decimalBinary := ofKey_lawful _ _

/-- what the statistics of one column chunk say, next to the pages they describe -/
structure ChunkRecord (α : Type) where
  pages : List (List (Option α))        -- the values of each data page (`none` = null)
  index : List (Option (α × α))         -- column index entries, `none` = null page
  nullCounts : List Nat                 -- column index null_counts
  chunk : Option (α × α)                -- chunk statistics min/max
  chunkNulls : Nat
  offsets : List Nat                    -- offset index: page offsets in the file

/-- SPEC: the statistics bound the data of the chunk -/
structure ChunkRecord.Sound {α} (o : ColOrder α) (c : ChunkRecord α) : Prop where
  aligned : c.index.length = c.pages.length ∧ c.nullCounts.length = c.pages.length
  nulls : ∀ (i : Nat) (vals : List (Option α)), c.pages[i]? = some vals → c.nullCounts[i]? = some (vals.countP (· = none))
  nullPage : ∀ (i : Nat) (vals : List (Option α)), c.pages[i]? = some vals → (c.index[i]? = some none ↔ ∀ v ∈ vals, v = none)
  bound : ∀ (i : Nat) vals mn mx, c.pages[i]? = some vals → c.index[i]? = some (some (mn, mx)) →
    ∀ v, some v ∈ vals → o.ok v = true → o.lt v mn = false ∧ o.lt mx v = false
  chunkBound : ∀ mn mx, c.chunk = some (mn, mx) → ∀ vals ∈ c.pages, ∀ v, some v ∈ vals → o.ok v = true →
    o.lt v mn = false ∧ o.lt mx v = false
  chunkNullsExact : c.chunkNulls = ((c.pages.map (fun vals => vals.countP (· = none))).sum)

/-- MIRROR writer_copy.go `loadCopiedChunk` + writer.go `writeRowGroup` (copied column): the page bytes are
    streamed unchanged, column index / statistics / size statistics are clones of the source's, and the page
    locations are rebased from the source's data page offset to the destination's (`off - srcDataOffset` is
    natural-number subtraction: the offsets of a chunk's pages are at or after its data page offset). -/
def copyVerbatim {α} (c : ChunkRecord α) (srcDataOffset dstDataOffset : Nat) : ChunkRecord α :=
  { pages := c.pages, index := c.index, nullCounts := c.nullCounts, chunk := c.chunk, chunkNulls := c.chunkNulls,
    offsets := c.offsets.map (fun off => off - srcDataOffset + dstDataOffset) }

end PqModel.Stats
