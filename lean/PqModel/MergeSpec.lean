import PqModel.Merge
import PqModel.MergePlan

/-! # C09 C10 C14 — SPEC side: what a correct merge is, independent of how the readers work.

`Emits ins out ins'`: `out` is produced from the inputs `ins` by repeatedly removing the head of
some input that is minimal among all current heads; `ins'` is what is left. Every such schedule is
sorted (if the inputs are), loses/duplicates nothing and keeps every input's order. The mirror
proofs show that each `ReadRows` call of both readers is such a schedule. The segment plans at the end are those of
MergePlan.lean at `le := key order`, `tag := inp`. -/
namespace PqModel.Merge

abbrev SortedK (l : List Row) : Prop := l.Pairwise (fun a b => a.key ≤ b.key)

inductive Emits : List (List Row) → List Row → List (List Row) → Prop where
  | nil {ins : List (List Row)} : Emits ins [] ins
  | step {ins : List (List Row)} {i : Nat} {x : Row} {rest out : List Row} {ins' : List (List Row)} :
      ins[i]? = some (x :: rest) →
      (∀ (j : Nat) (l : List Row) (y : Row), ins[j]? = some l → l.head? = some y → x.key ≤ y.key) →
      Emits (ins.set i rest) out ins' → Emits ins (x :: out) ins'

theorem Emits.trans {a b c : List (List Row)} {o1 o2 : List Row}
    (h1 : Emits a o1 b) (h2 : Emits b o2 c) : Emits a (o1 ++ o2) c := by
  induction h1 with
  | nil => simpa using h2
  | step hi hmin _ ih => exact Emits.step hi hmin (ih h2)

theorem Emits.length {a b : List (List Row)} {o : List Row} (h : Emits a o b) : b.length = a.length := by
  induction h with
  | nil => rfl
  | step _ _ _ ih => simpa using ih

theorem emits_prefix {ins : List (List Row)} {i : Nat} (p rest : List Row)
    (hi : ins[i]? = some (p ++ rest))
    (hmin : ∀ x ∈ p, ∀ (j : Nat) (l : List Row) (y : Row), j ≠ i → ins[j]? = some l → l.head? = some y → x.key ≤ y.key) :
    Emits ins p (ins.set i rest) := by
  induction p generalizing ins with
  | nil =>
    have hlt := ListFacts.lt_of_getElem?_eq_some hi
    have hget : ins[i] = rest := by
      have := List.getElem?_eq_getElem hlt
      rw [this] at hi; simpa using hi
    have : ins.set i rest = ins := by
      rw [← hget]; exact List.set_getElem_self hlt
    rw [this]; exact Emits.nil
  | cons x p ih =>
    have hlt := ListFacts.lt_of_getElem?_eq_some hi
    refine Emits.step (i := i) (rest := p ++ rest) (by simpa using hi) ?_ ?_
    · intro j l y hj hy
      by_cases hji : j = i
      · subst hji
        rw [hi] at hj
        have : l = x :: (p ++ rest) := by simpa using hj.symm
        subst this
        simp at hy; subst hy; exact Int.le_refl _
      · exact hmin x (by simp) j l y hji hj hy
    · have := ih (ins := ins.set i (p ++ rest)) (by simp [hlt]) (by
        intro x' hx' j l y hji hj hy
        rw [List.getElem?_set] at hj
        have : ¬ i = j := fun h => hji h.symm
        simp [this] at hj
        exact hmin x' (by simp [hx']) j l y hji hj hy)
      simpa using this

def WellTagged (ins : List (List Row)) : Prop :=
  ∀ (i : Nat) (l : List Row), ins[i]? = some l → ∀ x ∈ l, x.inp = i

/-- rows of input `i` in an output -/
def proj (i : Nat) (out : List Row) : List Row := out.filter (fun r => r.inp == i)

theorem wellTagged_set {ins : List (List Row)} {i : Nat} {x : Row} {rest : List Row}
    (hw : WellTagged ins) (hi : ins[i]? = some (x :: rest)) : WellTagged (ins.set i rest) := by
  intro j l hj y hy
  rw [List.getElem?_set] at hj
  by_cases h : i = j
  · subst h
    simp [ListFacts.lt_of_getElem?_eq_some hi] at hj
    subst hj
    exact hw i _ hi y (by simp [hy])
  · simp [h] at hj
    exact hw j l hj y hy

theorem emits_wellTagged {ins ins' : List (List Row)} {out : List Row} (h : Emits ins out ins') :
    WellTagged ins → WellTagged ins' := by
  induction h with
  | nil => exact id
  | step hi _ _ ih => intro hw; exact ih (wellTagged_set hw hi)

theorem sortedK_head_le {x y : Row} {l : List Row} (hs : SortedK l) (hh : l.head? = some x) (hy : y ∈ l) :
    x.key ≤ y.key := by
  cases l with
  | nil => simp at hh
  | cons a as =>
    simp at hh; subst hh
    rcases List.mem_cons.mp hy with rfl | hy
    · exact Int.le_refl _
    · exact (List.pairwise_cons.mp hs).1 y hy

theorem emits_iff {ins ins' : List (List Row)} {out : List Row} :
    Emits ins out ins' ↔ ∃ t, t.map (·.2) = out ∧ EmitsBy (fun a b : Row => a.key ≤ b.key) ins t ins' := by
  constructor
  · intro h
    induction h with
    | nil => exact ⟨[], rfl, .nil⟩
    | @step _ i x _ _ _ hi hmin _ ih =>
      obtain ⟨t, rfl, ht⟩ := ih
      exact ⟨(i, x) :: t, rfl, .step hi hmin ht⟩
  · rintro ⟨t, rfl, h⟩
    induction h with
    | nil => exact .nil
    | step hi hmin _ ih => exact .step hi hmin ih

theorem emitsBy_tags {ins ins' : List (List Row)} {t : List (Nat × Row)}
    (h : EmitsBy (fun a b : Row => a.key ≤ b.key) ins t ins') :
    WellTagged ins → ∀ i, t.filter (fun p => p.1 == i) = t.filter (fun p => p.2.inp == i) := by
  induction h with
  | nil => intro _ _; rfl
  | @step ins i0 x rest out ins' hi _ _ ih =>
    intro hw i
    have hx : x.inp = i0 := hw i0 _ hi x (by simp)
    simp [List.filter_cons, hx, ih (wellTagged_set hw hi) i]

theorem emits_proj {ins ins' : List (List Row)} {out : List Row} (h : Emits ins out ins') :
    WellTagged ins → ∀ (i : Nat) (l : List Row), ins[i]? = some l →
      ∃ l', ins'[i]? = some l' ∧ proj i out ++ l' = l := by
  obtain ⟨t, rfl, ht⟩ := emits_iff.mp h
  intro hw i l hl
  obtain ⟨l', h1, h2⟩ := emitsBy_proj ht i l hl
  refine ⟨l', h1, ?_⟩
  rw [← h2, emitsBy_tags ht hw i, proj, List.filter_map]; rfl

theorem emits_sorted {ins ins' : List (List Row)} {out : List Row} (h : Emits ins out ins') :
    (∀ l ∈ ins, SortedK l) →
      SortedK out ∧ (∀ x ∈ out, ∀ l ∈ ins', ∀ y ∈ l, x.key ≤ y.key) ∧ (∀ l ∈ ins', SortedK l) := by
  obtain ⟨t, rfl, ht⟩ := emits_iff.mp h
  exact emitsBy_sorted (le := fun a b : Row => a.key ≤ b.key) (fun _ _ _ => Int.le_trans) ht

theorem emits_perm {ins ins' : List (List Row)} {out : List Row} (h : Emits ins out ins') :
    (out ++ ins'.flatten).Perm ins.flatten := by
  obtain ⟨t, rfl, ht⟩ := emits_iff.mp h
  exact emitsBy_perm ht

/-- `out` is a sorted, complete, per-input-stable merge of `ins` -/
structure IsMerge (ins : List (List Row)) (out : List Row) : Prop where
  sorted : SortedK out
  perm : out.Perm ins.flatten
  stable : ∀ (i : Nat) (l : List Row), ins[i]? = some l → proj i out = l

theorem isMerge_of_emits {ins ins' : List (List Row)} {out : List Row}
    (h : Emits ins out ins') (hdone : ∀ l ∈ ins', l = [])
    (hs : ∀ l ∈ ins, SortedK l) (hw : WellTagged ins) : IsMerge ins out := by
  have hfl : ins'.flatten = [] := by
    simp only [List.flatten_eq_nil_iff]; exact hdone
  refine ⟨(emits_sorted h hs).1, ?_, ?_⟩
  · have := emits_perm h
    rwa [hfl, List.append_nil] at this
  · intro i l hl
    obtain ⟨l', hl', hp⟩ := emits_proj h hw i l hl
    have : l' = [] := hdone l' (List.mem_of_getElem? hl')
    subst this
    simpa using hp

/-- input-wise concatenation of the parts of two consecutive segments -/
def zipParts : List (List Row) → List (List Row) → List (List Row)
  | a :: as, b :: bs => (a ++ b) :: zipParts as bs
  | _, _ => []

/-- the parts of all segments, input-wise concatenated (`k` inputs) -/
def joinSegments (k : Nat) : List (List (List Row)) → List (List Row)
  | [] => List.replicate k []
  | s :: ss => zipParts s (joinSegments k ss)

/-- a refinement plan: per segment its parts (one per input, possibly empty) and its output -/
structure Plan (k : Nat) where
  parts : List (List (List Row))
  outs : List (List Row)

/-- every segment is merged correctly on its own, and segments are ordered in key space -/
def Plan.Good {k : Nat} : List (List (List Row)) → List (List Row) → Prop
  | [], [] => True
  | s :: ss, o :: os => s.length = k ∧ IsMerge s o ∧ (∀ x ∈ o, ∀ o' ∈ os, ∀ y ∈ o', x.key ≤ y.key) ∧ Plan.Good (k := k) ss os
  | _, _ => False

theorem zipParts_eq : ∀ (A B : List (List Row)), zipParts A B = zipPartsG A B
  | a :: as, b :: bs => by rw [zipParts, zipPartsG, zipParts_eq as bs]
  | [], _ => rfl
  | _ :: _, [] => rfl

theorem joinSegments_eq (k : Nat) : ∀ (segs : List (List (List Row))), joinSegments k segs = joinSegmentsG k segs
  | [] => rfl
  | s :: ss => by rw [joinSegments, joinSegmentsG, zipParts_eq, joinSegments_eq k ss]

theorem isMerge_iff {ins : List (List Row)} {out : List Row} :
    IsMerge ins out ↔ IsMergeBy (fun a b : Row => a.key ≤ b.key) (·.inp) ins out :=
  ⟨fun h => ⟨h.sorted, h.perm, h.stable⟩, fun h => ⟨h.sorted, h.perm, h.stable⟩⟩

theorem planGood_iff {k : Nat} : ∀ (segs : List (List (List Row))) (outs : List (List Row)),
    Plan.Good (k := k) segs outs ↔ PlanGoodBy (fun a b : Row => a.key ≤ b.key) (·.inp) k segs outs
  | [], [] => Iff.rfl
  | [], _ :: _ => Iff.rfl
  | _ :: _, [] => Iff.rfl
  | s :: ss, o :: os => by
    simp only [Plan.Good, PlanGoodBy, isMerge_iff, planGood_iff ss os]

end PqModel.Merge
