/-! # Dropping duplicates from a sorted sequence (`dedupe.go:78-107` `deduplicate`)

The library has one `deduplicate`; it is mirrored on the rows of a sort run (`dedupRun`, C10) and on the tagged rows of
the merge model (`Merge.dedupeBatch`, C09, whose first component is `dedupRun Merge.cmp`). What it does on a sorted
sequence is proved here once, against any integer `rank` on which "`cmp = 0`" is "same rank".
Namespace `SortBuf`: `SortWriter.lean` (C10) uses `SortBuf.dedupRun`. -/
namespace PqModel.SortBuf

/-- MIRROR `dedupe.go:78-107` `deduplicate` as `sorting.go:203-206` uses it on a sorted run
    (`lastRow` reset per run) -/
def dedupRun {R : Type} (cmp : R → R → Int) : Option R → List R → List R
  | _, [] => []
  | none, x :: xs => x :: dedupRun cmp (some x) xs
  | some l, x :: xs => if cmp x l = 0 then dedupRun cmp (some l) xs else x :: dedupRun cmp (some x) xs

theorem dedupRun_spec {R : Type} {cmp : R → R → Int} {rank : R → Int}
    (h : ∀ a b, cmp a b = 0 ↔ rank a = rank b) :
    ∀ (l : List R) (last : Option R), l.Pairwise (fun a b => rank a ≤ rank b) → (∀ la ∈ last, ∀ x ∈ l, rank la ≤ rank x) →
    (dedupRun cmp last l).Sublist l ∧ (dedupRun cmp last l).Pairwise (fun a b => rank a < rank b) ∧
    (∀ la ∈ last, ∀ y ∈ dedupRun cmp last l, rank la < rank y) ∧
    (∀ x ∈ l, (∃ y ∈ dedupRun cmp last l, rank y = rank x) ∨ (∃ la ∈ last, rank la = rank x))
  | [], last, _, _ => by simp [dedupRun]
  | x :: xs, last, hs, hl => by
    obtain ⟨hx, hs'⟩ := List.pairwise_cons.mp hs
    have keep : (∀ la ∈ last, rank la < rank x) →
        (x :: dedupRun cmp (some x) xs).Sublist (x :: xs) ∧
        (x :: dedupRun cmp (some x) xs).Pairwise (fun a b => rank a < rank b) ∧
        (∀ la ∈ last, ∀ y ∈ x :: dedupRun cmp (some x) xs, rank la < rank y) ∧
        (∀ z ∈ x :: xs, (∃ y ∈ x :: dedupRun cmp (some x) xs, rank y = rank z) ∨ (∃ la ∈ last, rank la = rank z)) := by
      intro hlt
      obtain ⟨a, b, c, d⟩ := dedupRun_spec h xs (some x) hs' (fun la hla y hy => by cases hla; exact hx y hy)
      refine ⟨a.cons_cons x, List.pairwise_cons.mpr ⟨c x rfl, b⟩, ?_, ?_⟩
      · intro la hla y hy
        rcases List.mem_cons.mp hy with rfl | hy
        · exact hlt la hla
        · exact Int.lt_trans (hlt la hla) (c x rfl y hy)
      · intro z hz
        rcases List.mem_cons.mp hz with rfl | hz
        · exact Or.inl ⟨z, List.mem_cons_self, rfl⟩
        · rcases d z hz with ⟨y, hy, e⟩ | ⟨la, hla, e⟩
          · exact Or.inl ⟨y, List.mem_cons_of_mem _ hy, e⟩
          · cases hla; exact Or.inl ⟨x, List.mem_cons_self, e⟩
    cases last with
    | none => exact keep (fun la hla => by cases hla)
    | some l =>
      simp only [dedupRun]
      by_cases he : cmp x l = 0
      · rw [if_pos he]
        obtain ⟨a, b, c, d⟩ := dedupRun_spec h xs (some l) hs' (fun la hla y hy => hl la hla y (List.mem_cons_of_mem _ hy))
        refine ⟨a.cons x, b, c, fun z hz => ?_⟩
        rcases List.mem_cons.mp hz with rfl | hz
        · exact Or.inr ⟨l, rfl, ((h z l).mp he).symm⟩
        · exact d z hz
      · rw [if_neg he]
        refine keep (fun la hla => ?_)
        cases hla
        have := hl l rfl x List.mem_cons_self
        have hne : rank x ≠ rank l := fun e => he ((h x l).mpr e)
        omega

end PqModel.SortBuf
