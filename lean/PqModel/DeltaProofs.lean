import PqModel.Delta
import PqModel.Basics

/-! Facts about the pieces of the Go DELTA encoders; the round trips are in DeltaMirrorConf.lean. -/
namespace PqModel.Delta
open PqModel.Bits

theorem putUvarint_eq_uvarint : ∀ (f x : Nat), x ≤ f → putUvarint f x = uvarint x
  | 0, x, h => by
    have : x = 0 := by omega
    subst this; rw [uvarint]; rfl
  | f + 1, x, h => by
    rw [uvarint, putUvarint]
    by_cases hx : x < 128
    · simp [hx]
    · simp only [hx, if_false, dite_false]
      rw [putUvarint_eq_uvarint f (x / 128) (by omega)]

theorem putUvarint_roundtrip (f x : Nat) (rest : List Nat) (h : x ≤ f) :
    decUvarint (putUvarint f x ++ rest) = some (x, rest) := by
  rw [putUvarint_eq_uvarint f x h]; exact uvarint_roundtrip x rest

theorem specUleb_uvarintEnc (x : Nat) (rest : List Nat) :
    specUleb (uvarintEnc x ++ rest) = .ok (x, rest) := by
  simp [specUleb, uvarintEnc, putUvarint_roundtrip x x rest (Nat.le_refl _)]

theorem unzigzag_zigzag64 (y : BitVec 64) : unzigzag (zigzag64 y) = y.toInt := by
  unfold unzigzag zigzag64
  have hm := BitVec.msb_eq_decide y
  have hlt := y.isLt
  rw [BitVec.toInt_eq_msb_cond]
  cases hmsb : y.msb
  · simp only [hmsb, Bool.false_eq_true, if_false] at hm ⊢
    have h1 : y.toNat < 2 ^ 63 := by simpa using hm.symm
    simp only [BitVec.toNat_shiftLeft, Nat.shiftLeft_eq]
    omega
  · simp only [hmsb, if_true] at hm ⊢
    have h1 : 2 ^ 63 ≤ y.toNat := by simpa using hm.symm
    simp only [BitVec.toNat_not, BitVec.toNat_shiftLeft, Nat.shiftLeft_eq]
    omega

theorem zigzag64_lt (y : BitVec 64) : zigzag64 y < 2 ^ 64 := by
  unfold zigzag64; exact BitVec.isLt _

theorem specZigzag_varintEnc {n : Nat} (hn : n ≤ 64) (x : BitVec n) (rest : List Nat) :
    specZigzag (varintEnc (x.signExtend 64) ++ rest) = .ok (x.toInt, rest) := by
  simp [specZigzag, varintEnc, specUleb_uvarintEnc, unzigzag_zigzag64, BitVec.toInt_signExtend_of_le hn]

theorem lt_bitLenF : ∀ (f x : Nat), x ≤ f → x < 2 ^ bitLenF f x
  | 0, x, h => by simp [bitLenF]; omega
  | f + 1, x, h => by
    simp only [bitLenF]
    by_cases hx : x = 0
    · simp [hx]
    · simp only [hx, if_false]
      have := lt_bitLenF f (x / 2) (by omega)
      rw [Nat.pow_succ]; omega

theorem lt_bitLen (x : Nat) : x < 2 ^ bitLen x := lt_bitLenF x x (Nat.le_refl _)

theorem bitLenF_le : ∀ (f x w : Nat), x < 2 ^ w → bitLenF f x ≤ w
  | 0, _, _, _ => by simp [bitLenF]
  | f + 1, x, w, h => by
    simp only [bitLenF]
    by_cases hx : x = 0
    · simp [hx]
    · simp only [hx, if_false]
      cases w with
      | zero => simp at h; omega
      | succ w =>
        have := bitLenF_le f (x / 2) w (by rw [Nat.pow_succ] at h; omega)
        omega

theorem bitLen_le {x w : Nat} (h : x < 2 ^ w) : bitLen x ≤ w := bitLenF_le x x w h

theorem bitLen_zero : bitLen 0 = 0 := by simp [bitLen, bitLenF]

theorem foldl_width_ge {n : Nat} : ∀ (mb : List (BitVec n)) (w0 : Nat),
    w0 ≤ mb.foldl (fun w v => if bitLen v.toNat > w then bitLen v.toNat else w) w0 ∧
    ∀ v ∈ mb, bitLen v.toNat ≤ mb.foldl (fun w v => if bitLen v.toNat > w then bitLen v.toNat else w) w0
  | [], w0 => by simp
  | a :: mb, w0 => by
    simp only [List.foldl_cons, List.mem_cons]
    generalize hs : (if bitLen a.toNat > w0 then bitLen a.toNat else w0) = s
    have hs' : w0 ≤ s ∧ bitLen a.toNat ≤ s := by subst hs; split <;> omega
    have ih := foldl_width_ge mb s
    refine ⟨by omega, ?_⟩
    intro v hv
    rcases hv with rfl | hv
    · omega
    · exact ih.2 v hv

theorem foldl_width_le {n : Nat} (B : Nat) : ∀ (mb : List (BitVec n)) (w0 : Nat),
    w0 ≤ B → (∀ v ∈ mb, bitLen v.toNat ≤ B) →
    mb.foldl (fun w v => if bitLen v.toNat > w then bitLen v.toNat else w) w0 ≤ B
  | [], w0, h, _ => by simpa
  | a :: mb, w0, h, hv => by
    simp only [List.foldl_cons]
    apply foldl_width_le B mb
    · have := hv a (by simp); split <;> omega
    · intro v hm; exact hv v (by simp [hm])

theorem lt_miniWidth {n : Nat} (mb : List (BitVec n)) : ∀ v ∈ mb, v.toNat < 2 ^ miniWidth mb := by
  intro v hv
  have h1 := (foldl_width_ge mb 0).2 v hv
  have h2 := lt_bitLen v.toNat
  exact Nat.lt_of_lt_of_le h2 (Nat.pow_le_pow_right (by omega) h1)

theorem miniWidth_le {n : Nat} (mb : List (BitVec n)) : miniWidth mb ≤ n :=
  foldl_width_le n mb 0 (Nat.zero_le _) (fun v _ => bitLen_le v.isLt)

theorem miniWidth_zero {n : Nat} (mb : List (BitVec n)) (h : ∀ v ∈ mb, v = 0) : miniWidth mb = 0 := by
  have := foldl_width_le 0 mb 0 (Nat.le_refl _) (fun v hv => by rw [h v hv]; simp [bitLen_zero])
  unfold miniWidth; omega

theorem packMini_eq {n : Nat} (w : Nat) (mb : List (BitVec n)) :
    packMini w mb = bitsToBytes (packBits w (mb.map BitVec.toNat)).length (packBits w (mb.map BitVec.toNat)) := by
  unfold packMini
  rw [packBits_length, List.length_map]
  by_cases hw : w = 0
  · subst hw; simp [packBits, bitsToBytes]
  · simp [hw]

theorem decMinis_zero (vpm maxW : Nat) (ws bs : List Nat) : decMinis vpm maxW ws 0 bs = .ok ([], bs) := by
  cases ws <;> simp [decMinis]

theorem packAll_zero {n : Nat} : ∀ (mbs : List (List (BitVec n))), (∀ v ∈ mbs.flatten, v = 0) →
    mbs.flatMap (fun mb => packMini (miniWidth mb) mb) = []
  | [], _ => rfl
  | mb :: mbs, h => by
    have h1 : miniWidth mb = 0 := miniWidth_zero mb (fun v hv => h v (by simp [hv]))
    have ih := packAll_zero mbs (fun v hv => h v (by
      simp only [List.flatten_cons, List.mem_append]; exact Or.inr hv))
    rw [List.flatMap_cons, ih, h1]; simp [packMini]

theorem recon_blockDelta {n : Nat} (minD : BitVec n) : ∀ (chunk : List (BitVec n)) (last : BitVec n),
    recon minD last ((blockDelta chunk last).map (fun d => (d - minD).toNat)) = chunk
  | [], _ => rfl
  | v :: vs, last => by
    simp only [blockDelta, List.map_cons, recon]
    have : last + minD + BitVec.ofNat n (v - last - minD).toNat = v := by
      -- the identity of the delta round trip: `last + m + (v - last - m) = v`
      rw [BitVec.ofNat_toNat, BitVec.setWidth_eq, BitVec.add_comm, BitVec.add_comm last minD,
        ← BitVec.add_assoc, BitVec.sub_add_cancel, BitVec.sub_add_cancel]
    rw [this, recon_blockDelta minD vs v]

theorem blockDelta_length {n : Nat} : ∀ (a : List (BitVec n)) (last : BitVec n), (blockDelta a last).length = a.length
  | [], _ => rfl
  | v :: vs, _ => by simp [blockDelta, blockDelta_length vs v]

theorem blockDelta_append {n : Nat} : ∀ (a b : List (BitVec n)) (last : BitVec n),
    blockDelta (a ++ b) last = blockDelta a last ++ blockDelta b (a.getLastD last)
  | [], b, last => by simp [blockDelta]
  | v :: vs, b, last => by
    simp only [List.cons_append, blockDelta, blockDelta_append vs b v]
    cases vs <;> simp [List.getLastD]

theorem minis_flatten {α : Type} (l : List α) (h : l.length = 128) :
    ([0, 1, 2, 3].map (fun i => (l.drop (32 * i)).take 32)).flatten = l := by
  simp only [List.map_cons, List.map_nil, List.flatten_cons, List.flatten_nil, List.append_nil, Nat.mul_zero, List.drop_zero]
  have e1 : l = l.take 32 ++ l.drop 32 := (List.take_append_drop 32 l).symm
  have e2 : l.drop 32 = (l.drop 32).take 32 ++ l.drop 64 := by
    have := (List.take_append_drop 32 (l.drop 32)).symm; rwa [List.drop_drop] at this
  have e3 : l.drop 64 = (l.drop 64).take 32 ++ l.drop 96 := by
    have := (List.take_append_drop 32 (l.drop 64)).symm; rwa [List.drop_drop] at this
  have e4 : (l.drop 96).take 32 = l.drop 96 := List.take_of_length_le (by simp; omega)
  conv => rhs; rw [e1, e2, e3]
  simp [e4]

theorem minis_length {α : Type} (l : List α) (h : l.length = 128) :
    ∀ mb ∈ [0, 1, 2, 3].map (fun i => (l.drop (32 * i)).take 32), mb.length = 32 := by
  intro mb hmb
  simp only [List.map_cons, List.map_nil, List.mem_cons, List.not_mem_nil, or_false] at hmb
  rcases hmb with rfl | rfl | rfl | rfl <;> simp <;> omega

/-- the `lastValue` the Go loop carries to the next block is the last value of a full block -/
theorem encBlock_last {n : Nat} (chunk : List (BitVec n)) (last : BitVec n) (h : chunk.length = 128) :
    (encBlock chunk last).2 = chunk.getLastD last := by
  simp [encBlock, h]

theorem encBlocks_nil {n : Nat} : ∀ (f : Nat) (last : BitVec n), encBlocks f ([] : List (BitVec n)) last = []
  | 0, _ => rfl
  | _ + 1, _ => by simp [encBlocks]

theorem natLens_ofNat (ls : List Nat) (h : ∀ l ∈ ls, l < 2 ^ 31) :
    natLens (ls.map (BitVec.ofNat 32)) = .ok ls := by
  have hall : (ls.map (BitVec.ofNat 32)).all (fun l => !l.msb) = true := by
    simp only [List.all_map, List.all_eq_true, Function.comp_def]
    intro l hl
    have := h l hl
    simp only [BitVec.msb_eq_decide, BitVec.toNat_ofNat, Bool.not_eq_true', decide_eq_false_iff_not]
    omega
  have hmap : (ls.map (BitVec.ofNat 32)).map BitVec.toNat = ls :=
    ListFacts.map_map_cancel fun l hl => by have := h l hl; simp only [BitVec.toNat_ofNat]; omega
  simp [natLens, hall, hmap]

theorem splitLens_flatten : ∀ (vs : List (List Nat)) (tail : List Nat),
    splitLens (vs.map List.length) (vs.flatten ++ tail) = .ok (vs, tail)
  | [], tail => by simp [splitLens]
  | v :: vs, tail => by
    have hnt : ¬ ((v ++ (vs.flatten ++ tail)).length < v.length) := by simp only [List.length_append]; omega
    simp only [List.map_cons, List.flatten_cons, List.append_assoc, splitLens, hnt, if_false,
      List.take_left' rfl, List.drop_left' rfl, splitLens_flatten vs tail]

theorem le_lastOff : ∀ (o : Nat) (rest : List Nat), nondecreasing (o :: rest) = true → o ≤ lastOff o rest
  | _, [], _ => by simp [lastOff]
  | o, b :: r, h => by
    simp only [nondecreasing, Bool.and_eq_true, decide_eq_true_eq] at h
    have := le_lastOff b r h.2
    simp only [lastOff]; omega

theorem window_facts (src : List Nat) : ∀ (o : Nat) (rest : List Nat), nondecreasing (o :: rest) = true →
    lastOff o rest ≤ src.length →
    (((o :: rest).zip rest).map (fun ab => BitVec.ofNat 32 (ab.2 - ab.1))
        = (windowValues src (o :: rest)).map (fun v => BitVec.ofNat 32 v.length)) ∧
    (windowValues src (o :: rest)).flatten = (src.drop o).take (lastOff o rest - o)
  | o, [], _, _ => by simp [windowValues, lastOff]
  | o, b :: r, h, hl => by
    have hle := le_lastOff o (b :: r) h
    simp only [nondecreasing, Bool.and_eq_true, decide_eq_true_eq] at h
    have hb := le_lastOff b r h.2
    simp only [lastOff] at hl hle ⊢
    obtain ⟨ih1, ih2⟩ := window_facts src b r h.2 hl
    simp only [windowValues, List.tail_cons, List.zip_cons_cons, List.map_cons, List.flatten_cons] at ih1 ih2 ⊢
    refine ⟨?_, ?_⟩
    · rw [ih1]
      congr 2
      simp only [List.length_take, List.length_drop]; omega
    · rw [ih2]
      have e : lastOff b r - o = (b - o) + (lastOff b r - b) := by omega
      rw [e, List.take_add, List.drop_drop]
      have : o + (b - o) = b := by omega
      rw [this]

theorem mirrorEncodeDLBARaw_eq (src : List Nat) (o : Nat) (rest : List Nat)
    (hm : nondecreasing (o :: rest) = true) (hl : lastOff o rest ≤ src.length) :
    mirrorEncodeDLBARaw src (o :: rest) = mirrorEncodeDLBA (windowValues src (o :: rest)) := by
  obtain ⟨h1, h2⟩ := window_facts src o rest hm hl
  simp only [mirrorEncodeDLBARaw, mirrorEncodeDLBA, h1, h2]

theorem commonPrefix_le : ∀ (a b : List Nat), commonPrefix a b ≤ a.length ∧ commonPrefix a b ≤ b.length
  | [], _ => by simp [commonPrefix]
  | _ :: _, [] => by simp [commonPrefix]
  | a :: as, b :: bs => by
    have := commonPrefix_le as bs
    simp only [commonPrefix, List.length_cons]
    split <;> omega

theorem commonPrefix_take : ∀ (a b : List Nat), a.take (commonPrefix a b) = b.take (commonPrefix a b)
  | [], _ => by simp [commonPrefix]
  | _ :: _, [] => by simp [commonPrefix]
  | a :: as, b :: bs => by
    simp only [commonPrefix]
    split
    · next h => subst h; simp [commonPrefix_take as bs]
    · simp

theorem commonPrefix_of_take_ne : ∀ (m : Nat) (a b : List Nat), a.take m ≠ b.take m →
    commonPrefix a b = commonPrefix (a.take m) (b.take m)
  | 0, _, _, h => by simp at h
  | m + 1, [], [], h => by simp at h
  | m + 1, [], _ :: _, _ => by simp [commonPrefix]
  | m + 1, _ :: _, [], _ => by simp [commonPrefix]
  | m + 1, x :: xs, y :: ys, h => by
    simp only [List.take_succ_cons, commonPrefix]
    split
    · next hxy =>
      subst hxy
      rw [commonPrefix_of_take_ne m xs ys (by
        intro he; apply h; simp [he])]
    · rfl

theorem commonPrefix_of_take_eq : ∀ (m : Nat) (a b : List Nat), a.take m = b.take m →
    m ≤ a.length → m ≤ b.length → commonPrefix a b = commonPrefix (a.drop m) (b.drop m) + m
  | 0, _, _, _, _, _ => by simp
  | m + 1, [], _, _, h, _ => by simp at h
  | m + 1, _ :: _, [], _, _, h => by simp at h
  | m + 1, x :: xs, y :: ys, he, ha, hb => by
    simp only [List.take_succ_cons, List.cons.injEq] at he
    simp only [List.length_cons] at ha hb
    simp only [commonPrefix, he.1, if_true, List.drop_succ_cons]
    rw [commonPrefix_of_take_eq m xs ys he.2 (by omega) (by omega)]
    omega

theorem wordSearch_eq : ∀ (k : Nat) (a b : List Nat), 8 * k ≤ a.length → 8 * k ≤ b.length →
    wordSearch k a b = commonPrefix a b
  | 0, _, _, _, _ => rfl
  | k + 1, a, b, ha, hb => by
    simp only [wordSearch]
    split
    · next he =>
      rw [wordSearch_eq k _ _ (by simp only [List.length_drop]; omega) (by simp only [List.length_drop]; omega),
        commonPrefix_of_take_eq 8 a b he (by omega) (by omega)]
    · next hne => exact (commonPrefix_of_take_ne 8 a b hne).symm

theorem searchPrefixLength_eq (a b : List Nat) : searchPrefixLength a b = commonPrefix a b := by
  unfold searchPrefixLength wordSearchPrefixLength
  apply wordSearch_eq <;> omega

theorem chunksOf_flatten (size f : Nat) (src : List Nat) (hs : 0 < size) (h : src.length ≤ f)
    (hm : src.length % size = 0) : (chunksOf size f src).flatten = src := by
  fun_induction chunksOf size f src with
  | case1 src => simp [List.eq_nil_of_length_eq_zero (Nat.le_zero.mp h)]
  | case2 f src hc =>
    have : src.length = 0 := by
      rcases hc with hc | hc
      · rwa [Nat.mod_eq_of_lt hc] at hm
      · omega
    simp [List.eq_nil_of_length_eq_zero this]
  | case3 f src hc ih =>
    rw [List.flatten_cons, ih (by simp only [List.length_drop]; omega)
      (by simp only [List.length_drop]; exact Nat.sub_mod_eq_zero_of_mod_eq (by simp [hm])), List.take_append_drop]

theorem chunksOf_length (size f : Nat) (src : List Nat) : ∀ v ∈ chunksOf size f src, v.length = size := by
  fun_induction chunksOf size f src with
  | case1 => simp
  | case2 => simp
  | case3 f src hc ih =>
    intro v hv
    rcases List.mem_cons.mp hv with rfl | hv
    · simp only [List.length_take]; omega
    · exact ih v hv

end PqModel.Delta
