import PqModel.Convert

/-! # C12: the column-chunk view of a converted row group, the sorting columns it declares, and
    reading converted rows in batches

MIRRORS of `ConvertRowGroup` (convert.go:653-759: which chunk serves which target column, the
carry-over of sorting columns), `findAdjacentColumnChunk` (convert.go:604-649),
`missingPageValues.ReadValues` (convert.go:908-1043), `forwardRowSeeker.ReadRows` (row.go:256-280)
and `convertedRows.ReadRows` (convert.go:1085-1095), at the level of per-column streams. -/
namespace PqModel.Convert
open PqModel.Dremel

/-! ## column chunks -/

/-- `missingPageValues.ReadValues` for a column the source lacks: `numValues = numRows` entries at
    most; without an adjacent chunk (always the case for `maxRepetitionLevel = 0`) one entry per row,
    zero at level 0 for a column with max definition level 0, else null at `maxDef - 1`; with an
    adjacent chunk the adjacent's levels are mirrored (definition level capped at `maxDef - 1`). -/
def missingCol (numRows tr td : Nat) (adj : Option (List Triple)) : List Triple :=
  match (if tr > 0 then adj else none) with
  | none => List.replicate numRows ⟨if td = 0 then some 0 else none, 0, td - 1⟩
  | some a => (a.take numRows).map fun t => ⟨none, t.rep, if t.dfn < td then t.dfn else td - 1⟩

/-- MIRROR of `missingPage.Slice(i, j)` followed by `Values()` (convert.go:873-898) for a column
    without adjacent chunk (`maxRepetitionLevel = 0`): a fresh `missingColumnChunk` of `j - i` rows
    with the type, column and levels of the page copied field by field. `copyDef` = the struct
    literal copies `maxDefinitionLevel` (`true` = the code, unlike the other slip flags); `false` = the field is left out
    (slip of seed C12-5b: the slice reads as a REQUIRED column). -/
def missingSlice (copyDef : Bool) (td i j : Nat) : List Triple :=
  missingCol (j - i) 0 (if copyDef then td else 0) none

/-- `findAdjacentColumnChunk`: among the target leaves with the same parent path (the fields
    `all` of the enclosing target group) and the same max repetition level that exist in the
    source, the LAST one (the `return` only leaves the callback); `self` is skipped. -/
def adjOf (self : Nat) (selfRpt : Bool) (lv : Lv) (s : Src) : PFields → Option (List Triple) → Option (List Triple)
  | .nil, acc => acc
  | .cons nm rp n fs, acc =>
    adjOf self selfRpt lv s fs
      (match n with
       | .leaf =>
         if nm ≠ self ∧ (rp == .rpt) = selfRpt then
           (match (stepS nm rp lv s).2 with
            | .on .leaf blk _ => some (blk.headD [])
            | _ => acc)
         else acc
       | .group _ => acc)

mutual
/-- `convertedRowGroup.ColumnChunks()` before /repo 2c2062a (regression fact): a target column that
    exists in the source is served by the source chunk as it is (`convertedColumnChunk` only rewrites the column index: no level tables,
    no type conversion); the others by a `missingColumnChunk`. `all` = the fields of the enclosing
    target group. The walk (`stepS`) is the one of the row conversion. -/
def chunkN_before_fix (numRows : Nat) : PNode → Rp → Lv → Src → Option (List Triple) → Cols
  | .leaf, _, lv, s, adj =>
    match s with
    | .on .leaf blk _ => [blk.headD []]
    | _ => [missingCol numRows lv.tr lv.td adj]
  | .group tfs, _, lv, s, _ => chunkF_before_fix numRows tfs tfs lv s
def chunkF_before_fix (numRows : Nat) (all : PFields) : PFields → Lv → Src → Cols
  | .nil, _, _ => []
  | .cons nm trp tn tfs, lv, s =>
    chunkN_before_fix numRows tn trp (stepS nm trp lv s).1 (stepS nm trp lv s).2 (adjOf nm (trp == .rpt) lv s all none)
      ++ chunkF_before_fix numRows all tfs lv s
end

/-- the per-column streams of the converted row group's chunks, given the source chunks' streams -/
def chunkView_before_fix (src tgt : PNode) (cols : Cols) (numRows : Nat) : Cols :=
  chunkN_before_fix numRows tgt .req lv0 (.on src cols none) none

/-- convert.go:1283-1296 `convertedValueReader.ReadValues`: the chunk of a target column
    that exists in the source is the source chunk as it is when the column is `direct` (no
    conversion function installed: level tables the identity, same type), else every value read
    goes through `conversionColumn.convert`: the level tables, the zero fix-up of a column whose max
    definition level is 0, the typed zero for nulls at the max definition level. No placeholder:
    an empty chunk stays empty. -/
def chunkLeaf (lv : Lv) (src : List Triple) : List Triple :=
  if isDirect lv.R (lv.sr + 1) && isDirect lv.D (lv.sd + 1) then src
  else zeroCol lv.td (fixup (decide (lv.td > 0)) (convLevels lv src))

mutual
/-- `convertedRowGroup.ColumnChunks()`: a target column that
    exists in the source is served by the source chunk seen through the column's conversion
    (`chunkLeaf`); the others by a `missingColumnChunk`. `all` = the fields of the enclosing
    target group. The walk (`stepS`) is the one of the row conversion. Type conversion is not
    modelled here (ConvValue.lean). -/
def chunkN (numRows : Nat) : PNode → Rp → Lv → Src → Option (List Triple) → Cols
  | .leaf, _, lv, s, adj =>
    match s with
    | .on .leaf blk _ => [chunkLeaf lv (blk.headD [])]
    | _ => [missingCol numRows lv.tr lv.td adj]
  | .group tfs, _, lv, s, _ => chunkF numRows tfs tfs lv s
def chunkF (numRows : Nat) (all : PFields) : PFields → Lv → Src → Cols
  | .nil, _, _ => []
  | .cons nm trp tn tfs, lv, s =>
    chunkN numRows tn trp (stepS nm trp lv s).1 (stepS nm trp lv s).2 (adjOf nm (trp == .rpt) lv s all none)
      ++ chunkF numRows all tfs lv s
end

/-- the per-column streams of the converted row group's chunks, given the source chunks' streams -/
def chunkView (src tgt : PNode) (cols : Cols) (numRows : Nat) : Cols :=
  chunkN numRows tgt .req lv0 (.on src cols none) none

/-- column streams of a row group: the rows' streams concatenated column by column -/
def joinRows (m : Nat) (rows : List Cols) : Cols := joinSegs m rows

/-- what reading the converted row group ROW by row yields (`convertedRows`), as column streams -/
def rowView (src tgt : PNode) (vs : List Val) : Cols :=
  joinRows (leavesP tgt) (vs.map fun v => convertRow src tgt (shred src v))

mutual
/-- `permN src tgt`: the target only deletes and permutes fields (no repetition type changes, no
    added fields): the condition under which the chunk view is the row view. -/
def permN : PNode → PNode → Bool
  | .leaf, .leaf => true
  | .group sfs, .group tfs => permF sfs tfs
  | _, _ => false
def permF (sfs : PFields) : PFields → Bool
  | .nil => true
  | .cons nm trp t tfs =>
    (match getFld nm sfs with
     | some (srp, s) => decide (srp = trp) && permN s t
     | none => false) && permF sfs tfs
end

/-! ## sorting columns -/

/-- convert.go:729-735: `for _, col := range rowGroup.SortingColumns() { if !hasColumnPath(schema,
    col.Path()) { break }; sorting = append(sorting, col) }` over abstract sorting columns -/
def carrySorting {κ : Type} (survives : κ → Bool) : List κ → List κ
  | [] => []
  | c :: cs => if survives c then c :: carrySorting survives cs else []

/-- the slip `continue` for `break` -/
def carrySortingContinue {κ : Type} (survives : κ → Bool) : List κ → List κ
  | [] => []
  | c :: cs => if survives c then c :: carrySortingContinue survives cs else carrySortingContinue survives cs

/-- lexicographic "not after" for a list of key comparators -/
def lexLE {ρ : Type} : List (ρ → ρ → Ordering) → ρ → ρ → Bool
  | [], _, _ => true
  | k :: ks, a, b =>
    match k a b with
    | .lt => true
    | .gt => false
    | .eq => lexLE ks a b

/-- adjacent rows are in order -/
def SortedBy {ρ : Type} (ks : List (ρ → ρ → Ordering)) : List ρ → Prop
  | a :: b :: rest => lexLE ks a b = true ∧ SortedBy ks (b :: rest)
  | _ => True

/-! ## reading in batches -/

inductive ReadOut (α : Type) where
  | rows (xs : List α)
  | panic
deriving DecidableEq, Repr

/-- state of `forwardRowSeeker` over an underlying reader that still holds `rest` (an underlying
    `ReadRows(buf)` hands out `rest.take |buf|`; an empty batch is the end) -/
structure Fwd (α : Type) where
  rest : List α
  seek : Nat
  index : Nat
deriving DecidableEq, Repr

/-- row.go:282-293 `SeekToRow` (forward only) -/
def Fwd.seekTo {α : Type} (st : Fwd α) (row : Nat) : Option (Fwd α) :=
  if row ≥ st.index then some { st with seek := row } else none

/-- row.go:256 `forwardRowSeeker.ReadRows` before /repo c3e3444 (regression fact):
    * `index` advanced only while rows were being skipped, not on plain reads;
    * when the seek target lay inside the batch (`skip < n`) the copy loop
      `for i, j := 0, skip; j < n; i++` never advanced `j`: `i` ran past the buffer and the call
      panicked (index out of range). -/
def Fwd.readBeforeFix {α : Type} (cap : Nat) : Nat → Fwd α → ReadOut α × Fwd α
  | 0, st => (.rows [], st)
  | fuel + 1, st =>
    if 0 < (st.rest.take cap).length ∧ st.index < st.seek then
      if st.seek - st.index ≥ (st.rest.take cap).length then
        Fwd.readBeforeFix cap fuel { rest := st.rest.drop cap, seek := st.seek, index := st.index + (st.rest.take cap).length }
      else (.panic, { rest := st.rest.drop cap, seek := st.seek, index := st.index + (st.rest.take cap).length })
    else (.rows (st.rest.take cap), { st with rest := st.rest.drop cap })

/-- row.go:256-280 `forwardRowSeeker.ReadRows`: batches that lie entirely before the
    seek target are skipped (`continue`), the batch holding it loses its first `skip` rows (`i`
    and `j` advance together), and `index` counts every row handed out by the underlying
    reader. `fuel` bounds the outer `for`. -/
def Fwd.read {α : Type} (cap : Nat) : Nat → Fwd α → ReadOut α × Fwd α
  | 0, st => (.rows [], st)
  | fuel + 1, st =>
    if 0 < (st.rest.take cap).length ∧ st.index < st.seek then
      if st.seek - st.index ≥ (st.rest.take cap).length then
        Fwd.read cap fuel { rest := st.rest.drop cap, seek := st.seek, index := st.index + (st.rest.take cap).length }
      else (.rows ((st.rest.take cap).drop (st.seek - st.index)),
        { rest := st.rest.drop cap, seek := st.seek, index := st.index + (st.rest.take cap).length })
    else (.rows (st.rest.take cap), { rest := st.rest.drop cap, seek := st.seek, index := st.index + (st.rest.take cap).length })

/-- convert.go:1085-1095 `convertedRows.ReadRows`: read a batch, convert it in place -/
def convRead {α β : Type} (f : α → β) (cap fuel : Nat) (st : Fwd α) : ReadOut β × Fwd α :=
  match Fwd.read cap fuel st with
  | (.rows xs, st') => (.rows (xs.map f), st')
  | (.panic, st') => (.panic, st')

/-- a consumer that calls `ReadRows` with buffers of sizes `caps` and appends what it gets
    (`CopyRows`, `ReadRowsFrom`); `none` = a call panicked -/
def drain {α β : Type} (f : α → β) : List Nat → Fwd α → Option (List β)
  | [], _ => some []
  | cap :: caps, st =>
    match convRead f cap (st.rest.length + 1) st with
    | (.rows xs, st') => (drain f caps st').map (xs ++ ·)
    | (.panic, _) => none

/-- a history of calls on the reader returned by `ConvertRowReader` -/
inductive Op where
  | read (cap : Nat)
  | seek (row : Nat)
deriving DecidableEq, Repr

/-- what the reads of a history deliver (a refused `SeekToRow` leaves the state alone) -/
def runHist {α : Type} : List Op → Fwd α → List (List α)
  | [], _ => []
  | .seek k :: ops, st =>
    match st.seekTo k with
    | some st' => runHist ops st'
    | none => runHist ops st
  | .read cap :: ops, st =>
    match Fwd.read cap (st.rest.length + 1) st with
    | (.rows xs, st') => xs :: runHist ops st'
    | (.panic, st') => [] :: runHist ops st'

/-- SPEC of a forward-seekable reader over the rows `all`, with `p` the position of the next row:
    a read delivers rows `p, p+1, ...` (possibly fewer than asked for, none only at the end) and
    moves `p` behind them; `SeekToRow k` with `k ≥ p` moves `p` to `k` (a backward seek puts no
    obligation on the rest of the history). -/
def Refines {α : Type} (all : List α) : Nat → List Op → List (List α) → Prop
  | _, [], outs => outs = []
  | p, .seek k :: ops, outs => k ≥ p → Refines all k ops outs
  | p, .read _ :: ops, xs :: outs =>
    xs = (all.drop p).take xs.length ∧ (xs = [] → all.drop p = []) ∧ Refines all (p + xs.length) ops outs
  | _, .read _ :: _, [] => False

end PqModel.Convert
