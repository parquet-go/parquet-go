/-! # Source faults under the readers built on top of a file (C14)

Two places where the library decides "this input is finished" while a failing source is behind it.

* `mergedRowReader2.ReadRows` (merge.go:660-770) with `bufferedRowReader.read` (merge.go:1073-1101). The mirror keeps
  the refill / error skeleton and the emission order; the run-detection gallop `emitRun` is replaced by the row-by-row
  loop it is an optimisation of (no lemma links it to C09's `Merge.M2`; the Go harness compares every `ReadRows` call
  with this model). `seeded = true`: the `err != io.EOF` test of the second input removed (seeded change C14-4a).
* `bloom.CheckSplitBlock` (bloom/filter.go:73-79): one 32-byte `ReadAt` into a pooled block that is not cleared
  (`probe`; `clearEOF = true` is seeded change C14-4b).

Rows are integers (the sort key); the output carries the index of the input a row came from, so
that "nothing missing, nothing altered, order kept" is an equation per input (`proj`). -/
namespace PqModel.IoFault.Rd

inductive Res | nil | eof | err
  deriving DecidableEq, Repr

/-- SPEC: a `RowReader` over a source that may fail. `rows`: not yet delivered. `failIn = some k`:
the source fails once `k` more rows have been delivered (sticky: every later call answers the error
again). `eager`: io.EOF comes along with the last rows instead of on the next call. `errWithRows`:
the error comes along with the last rows that could be delivered. -/
structure Src where
  rows : List Int
  failIn : Option Nat
  eager : Bool
  errWithRows : Bool
  deriving DecidableEq, Repr

def Src.avail (s : Src) : Nat :=
  match s.failIn with
  | none => s.rows.length
  | some k => min k s.rows.length

def Src.after (s : Src) (n : Nat) : Src :=
  { s with rows := s.rows.drop n, failIn := s.failIn.map (· - n) }

/-- the result that goes with `n` rows, `s'` being the source afterwards -/
def Src.res (s s' : Src) (n : Nat) : Res :=
  if s'.failIn = some 0 then (if n = 0 ∨ s.errWithRows = true then .err else .nil)
  else if s'.rows = [] then (if n = 0 ∨ s.eager = true then .eof else .nil)
  else .nil

/-- SPEC: one `ReadRows(buf)` with `len(buf) = cap` -/
def Src.read (s : Src) (cap : Nat) : (List Int × Res) × Src :=
  ((s.rows.take (min cap s.avail), s.res (s.after (min cap s.avail)) (min cap s.avail)),
    s.after (min cap s.avail))

/-- the fault lies before the end of the rows: the source cannot deliver everything -/
def Src.Bites (s : Src) : Prop := ∃ k, s.failIn = some k ∧ k < s.rows.length

/-- MIRROR `bufferedRowReader` (merge.go:1035-1041): `win` = `buf[off:end]`, `size` = `len(buf)`
(0 = nil). -/
structure Buf where
  src : Src
  win : List Int
  size : Nat
  full : Bool
  deriving DecidableEq, Repr

/-- `len(r.buf)` after the allocation / growth at the head of `read` (merge.go:1074-1083) -/
def Buf.nextSize (b : Buf) : Nat :=
  if b.size = 0 then 24
  else if b.full = true ∧ b.win = [] ∧ b.size < 192 then min (2 * b.size) 192 else b.size

/-- the tail of `read` (merge.go:1088-1100) once the source has answered `r` -/
def Buf.readWith (b : Buf) (size : Nat) (r : (List Int × Res) × Src) : Res × Buf :=
  if r.1.1 = [] then
    (if r.1.2 = .nil then .err else r.1.2, { b with src := r.2, size := size })
  else
    (.nil, { src := r.2, win := b.win ++ r.1.1, size := size,
             full := decide (b.win.length + r.1.1.length = size) })

/-- MIRROR `bufferedRowReader.read` (merge.go:1073-1101), called on an empty window only (both call
sites test `empty()`, and an exhausted window has `off = end = 0`). A source that answers
`(0, nil)` a hundred times is `io.ErrNoProgress` (the scripted source does not change when it
delivers nothing). -/
def Buf.read (b : Buf) : Res × Buf :=
  b.readWith b.nextSize (b.src.read (b.nextSize - b.win.length))

/-- MIRROR of the refill at the head of `ReadRows` (merge.go:671-689): `none` = `return 0, err`.
`dropAny` = the `err != io.EOF` test is missing (every error of the refill is the end of the input). -/
def refill (dropAny : Bool) (present : Bool) (b : Buf) : Option (Bool × Buf) :=
  if present = true ∧ b.win = [] then
    match b.read with
    | (.nil, b') => some (true, b')
    | (.eof, b') => some (false, b')
    | (.err, b') => if dropAny then some (false, b') else none
  else some (present, b)

/-- MIRROR of the comparison loop (merge.go:712-767) without the gallop: `fuel` = `len(rows) - n`.
Ties emit the row of input 0, then — if there is room — the row of input 1. -/
def loop2 : Nat → List Int → List Int → List (Bool × Int) × List Int × List Int
  | fuel + 1, x :: w0, y :: w1 =>
    if x < y then
      if w0 = [] then ([(false, x)], [], y :: w1)
      else let r := loop2 fuel w0 (y :: w1); ((false, x) :: r.1, r.2)
    else if y < x then
      if w1 = [] then ([(true, y)], x :: w0, [])
      else let r := loop2 fuel (x :: w0) w1; ((true, y) :: r.1, r.2)
    else
      match fuel with
      | 0 => ([(false, x)], w0, y :: w1)
      | f + 1 =>
        if w0 = [] ∨ w1 = [] then ([(false, x), (true, y)], w0, w1)
        else let r := loop2 f w0 w1; ((false, x) :: (true, y) :: r.1, r.2)
  | _, w0, w1 => ([], w0, w1)

structure M2 where
  b0 : Buf
  b1 : Buf
  r0 : Bool
  r1 : Bool
  initialized : Bool
  deriving DecidableEq, Repr

def Buf.fresh (s : Src) : Buf := ⟨s, [], 0, false⟩
def M2.new (s0 s1 : Src) : M2 := ⟨Buf.fresh s0, Buf.fresh s1, false, false, false⟩

/-- MIRROR `mergedRowReader2.initialize` (merge.go:645-658) -/
def M2.init (m : M2) : Res × M2 :=
  let x0 := m.b0.read
  if x0.1 = .err then (.err, { m with b0 := x0.2, initialized := true })
  else
    let x1 := m.b1.read
    if x1.1 = .err then (.err, { m with b0 := x0.2, b1 := x1.2, r0 := decide (x0.1 = .nil), initialized := true })
    else (.nil, { b0 := x0.2, b1 := x1.2, r0 := decide (x0.1 = .nil), r1 := decide (x1.1 = .nil), initialized := true })

def tag (t : Bool) (l : List Int) : List (Bool × Int) := l.map (fun x => (t, x))

/-- `ReadRows` after the `initialized` block (merge.go:668-770) -/
def M2.body (seeded : Bool) (m : M2) (cap : Nat) : (List (Bool × Int) × Res) × M2 :=
  match refill false m.r0 m.b0 with
  | none => (([], .err), m)
  | some (r0, b0) =>
    match refill seeded m.r1 m.b1 with
    | none => (([], .err), { m with r0 := r0, b0 := b0 })
    | some (r1, b1) =>
      match r0, r1 with
      | false, false => (([], .eof), { m with r0 := false, b0 := b0, r1 := false, b1 := b1 })
      | false, true =>
        ((tag true (b1.win.take cap), .nil),
          { m with r0 := false, b0 := b0, r1 := true, b1 := { b1 with win := b1.win.drop cap } })
      | true, false =>
        ((tag false (b0.win.take cap), .nil),
          { m with r0 := true, b0 := { b0 with win := b0.win.drop cap }, r1 := false, b1 := b1 })
      | true, true =>
        (((loop2 cap b0.win b1.win).1, .nil),
          { m with r0 := true, b0 := { b0 with win := (loop2 cap b0.win b1.win).2.1 }, r1 := true,
                   b1 := { b1 with win := (loop2 cap b0.win b1.win).2.2 } })

/-- MIRROR `mergedRowReader2.ReadRows` (merge.go:660-770), `cap = len(rows)`. -/
def M2.readRows (seeded : Bool) (m : M2) (cap : Nat) : (List (Bool × Int) × Res) × M2 :=
  if m.initialized = true then m.body seeded cap
  else if m.init.1 ≠ .nil then (([], m.init.1), m.init.2)
  else m.init.2.body seeded cap

/-- a consumer: `ReadRows` with the given buffer lengths until a call answers io.EOF or an error -/
def session (seeded : Bool) : List Nat → M2 → List (List (Bool × Int)) × Res × M2
  | [], m => ([], .nil, m)
  | c :: cs, m =>
    let x := m.readRows seeded c
    if x.1.2 ≠ .nil then ([x.1.1], x.1.2, x.2)
    else let r := session seeded cs x.2; (x.1.1 :: r.1, r.2)

/-- the rows of input `t` in the output, in output order -/
def proj (t : Bool) (out : List (Bool × Int)) : List Int := (out.filter (fun p => p.1 == t)).map (·.2)

section projBy
variable {ι : Type} [DecidableEq ι]

/-- `proj` is this for two inputs, `RdK.projK` for any number -/
def projBy (i : ι) (out : List (ι × Int)) : List Int := (out.filter (fun p => p.1 == i)).map (·.2)

theorem projBy_append (i : ι) (a b : List (ι × Int)) : projBy i (a ++ b) = projBy i a ++ projBy i b := by
  simp [projBy]

theorem projBy_tag_same (i : ι) : ∀ (l : List Int), projBy i (l.map (fun x => (i, x))) = l
  | [] => rfl
  | x :: xs => by
    have ih := projBy_tag_same i xs
    simp only [projBy, List.map_cons, List.filter_cons, beq_self_eq_true, if_true] at ih ⊢
    rw [ih]

theorem projBy_tag_other {i j : ι} (h : j ≠ i) : ∀ (l : List Int), projBy i (l.map (fun x => (j, x))) = []
  | [] => rfl
  | x :: xs => by
    have ih := projBy_tag_other h xs
    have hji : (j == i) = false := beq_false_of_ne h
    simp only [projBy, List.map_cons, List.filter_cons, hji, Bool.false_eq_true, if_false] at ih ⊢
    exact ih

end projBy

theorem proj_append (t : Bool) (a b : List (Bool × Int)) : proj t (a ++ b) = proj t a ++ proj t b :=
  projBy_append t a b

@[simp] theorem proj_nil (t : Bool) : proj t [] = [] := rfl

theorem proj_cons (t u : Bool) (x : Int) (out : List (Bool × Int)) :
    proj t ((u, x) :: out) = if u = t then x :: proj t out else proj t out := by
  by_cases h : u = t <;> simp [proj, h]

theorem proj_tag_same (t : Bool) (l : List Int) : proj t (tag t l) = l := projBy_tag_same t l

theorem proj_tag_other (t u : Bool) (h : u ≠ t) (l : List Int) : proj t (tag u l) = [] := projBy_tag_other h l

theorem Src.read_rows (s : Src) (cap : Nat) : (s.read cap).1.1 ++ (s.read cap).2.rows = s.rows := by
  simp [Src.read, Src.after]

theorem Src.read_eof (s : Src) (cap : Nat) (h : (s.read cap).1.2 = .eof) : (s.read cap).2.rows = [] := by
  simp only [Src.read, Src.res] at h ⊢
  by_cases h1 : (s.after (min cap s.avail)).failIn = some 0
  · rw [if_pos h1] at h
    by_cases h2 : min cap s.avail = 0 ∨ s.errWithRows = true
    · rw [if_pos h2] at h; cases h
    · rw [if_neg h2] at h; cases h
  · rw [if_neg h1] at h
    by_cases h3 : (s.after (min cap s.avail)).rows = []
    · exact h3
    · rw [if_neg h3] at h; cases h

theorem Src.read_bites (s : Src) (cap : Nat) (h : s.Bites) : (s.read cap).2.Bites := by
  obtain ⟨k, hk, hlt⟩ := h
  refine ⟨k - min cap (min k s.rows.length), ?_, ?_⟩
  · simp [Src.read, Src.after, Src.avail, hk]
  · simp only [Src.read, Src.after, Src.avail, hk, List.length_drop]; omega

theorem Src.Bites.rows_ne {s : Src} (h : s.Bites) : s.rows ≠ [] := by
  obtain ⟨k, _, hlt⟩ := h
  intro e; rw [e] at hlt; simp at hlt

theorem Buf.read_rows (b : Buf) : b.read.2.win ++ b.read.2.src.rows = b.win ++ b.src.rows := by
  have := Src.read_rows b.src (b.nextSize - b.win.length)
  unfold Buf.read Buf.readWith
  generalize b.src.read (b.nextSize - b.win.length) = r at this ⊢
  by_cases he : r.1.1 = []
  · rw [if_pos he]; rw [he] at this; simp only [List.nil_append] at this; simp [this]
  · rw [if_neg he]; simp only [List.append_assoc]; rw [this]

theorem Buf.read_eof (b : Buf) (h : b.read.1 = .eof) : b.read.2.win = b.win ∧ b.read.2.src.rows = [] := by
  have := Src.read_eof b.src (b.nextSize - b.win.length)
  unfold Buf.read Buf.readWith at h ⊢
  generalize b.src.read (b.nextSize - b.win.length) = r at this h ⊢
  by_cases he : r.1.1 = []
  · rw [if_pos he] at h ⊢
    by_cases hn : r.1.2 = .nil
    · simp only [hn, if_true] at h; cases h
    · simp only [hn, if_false] at h; exact ⟨rfl, this h⟩
  · rw [if_neg he] at h; cases h

/-- a read into an empty window that answers neither rows nor an error (io.EOF): nothing is left -/
theorem Buf.read_dropped {b : Buf} (hw : b.win = []) (he : b.read.1 ≠ .err) (hn : b.read.1 ≠ .nil) :
    b.read.2.win = [] ∧ b.read.2.src.rows = [] := by
  have := Buf.read_eof b (by cases hx : b.read.1 <;> simp_all)
  exact ⟨by rw [this.1, hw], this.2⟩

theorem Buf.read_src (b : Buf) : ∃ c, b.read.2.src = (b.src.read c).2 := by
  refine ⟨b.nextSize - b.win.length, ?_⟩
  unfold Buf.read Buf.readWith
  split <;> rfl

/-- along `loop2`, every branch emits the head of a window (`proj_cons`) and goes on with the rest -/
theorem loop2_proj (fuel : Nat) (w0 w1 : List Int) :
    proj false (loop2 fuel w0 w1).1 ++ (loop2 fuel w0 w1).2.1 = w0 ∧
    proj true (loop2 fuel w0 w1).1 ++ (loop2 fuel w0 w1).2.2 = w1 := by
  fun_induction loop2 fuel w0 w1 <;> simp_all +zetaDelta [proj_cons]

/-- the invariant of input `t` of a merge, over its source `s`, after the output `out` -/
structure Inv1 (t init present : Bool) (b : Buf) (s : Src) (out : List (Bool × Int)) : Prop where
  h : proj t out ++ (b.win ++ b.src.rows) = s.rows
  d : init = true → present = false → b.win = [] ∧ b.src.rows = []
  f : s.Bites → b.src.Bites
  w : init = false → b.win = []

def Inv (m : M2) (s0 s1 : Src) (out : List (Bool × Int)) : Prop :=
  Inv1 false m.initialized m.r0 m.b0 s0 out ∧ Inv1 true m.initialized m.r1 m.b1 s1 out

theorem Inv.new (s0 s1 : Src) : Inv (M2.new s0 s1) s0 s1 [] :=
  ⟨⟨by simp [M2.new, Buf.fresh], by simp [M2.new], id, fun _ => rfl⟩,
   ⟨by simp [M2.new, Buf.fresh], by simp [M2.new], id, fun _ => rfl⟩⟩

theorem Inv.of_init {m : M2} {s0 s1 : Src} {out : List (Bool × Int)} (hi : m.initialized = true)
    (h0 : Inv1 false true m.r0 m.b0 s0 out) (h1 : Inv1 true true m.r1 m.b1 s1 out) : Inv m s0 s1 out := by
  unfold Inv; rw [hi]; exact ⟨h0, h1⟩

theorem Buf.read_bites (b : Buf) (h : b.src.Bites) : b.read.2.src.Bites := by
  obtain ⟨c, hc⟩ := Buf.read_src b
  rw [hc]; exact Src.read_bites _ _ h

theorem Inv1.read {t present : Bool} {b : Buf} {s : Src} {out : List (Bool × Int)}
    (h : Inv1 t false present b s out) (he : b.read.1 ≠ .err) :
    Inv1 t true (decide (b.read.1 = .nil)) b.read.2 s out :=
  ⟨by rw [Buf.read_rows]; exact h.h, fun _ hr => Buf.read_dropped (h.w rfl) he (by simpa using hr),
   fun hb => Buf.read_bites _ (h.f hb), fun h => by cases h⟩

theorem Inv1.afterRefill {t present p : Bool} {b b' : Buf} {s : Src} {out : List (Bool × Int)}
    (h : Inv1 t true present b s out) (hr : refill false present b = some (p, b')) : Inv1 t true p b' s out := by
  unfold refill at hr
  split at hr
  · rename_i hc
    have hrows := Buf.read_rows b
    have hb := fun hb => Buf.read_bites b (h.f hb)
    split at hr
    · rename_i b2 hx
      cases hr
      have e : b.read.2 = b' := by rw [hx]
      exact ⟨by rw [← e, hrows]; exact h.h, by simp, e ▸ hb, fun h => by cases h⟩
    · -- the refill answered io.EOF: the input is dropped, nothing is left of it
      rename_i b2 hx
      cases hr
      have e : b.read.2 = b' := by rw [hx]
      have := Buf.read_eof b (by rw [hx])
      exact ⟨by rw [← e, hrows]; exact h.h, fun _ _ => by rw [← e, this.1]; exact ⟨hc.2, this.2⟩, e ▸ hb,
        fun h => by cases h⟩
    · simp at hr
  · rename_i hc
    cases hr
    exact h

theorem Inv1.emit {t p : Bool} {b : Buf} {s : Src} {out : List (Bool × Int)} (h : Inv1 t true p b s out)
    (em : List (Bool × Int)) (w' : List Int) (he : proj t em ++ w' = b.win) :
    Inv1 t true p { b with win := w' } s (out ++ em) := by
  refine ⟨?_, fun _ hp => ?_, h.f, fun h => by cases h⟩
  · rw [proj_append, List.append_assoc, ← List.append_assoc (proj t em), he]; exact h.h
  · have := h.d rfl hp
    rw [this.1] at he
    exact ⟨(List.append_eq_nil_iff.mp he).2, this.2⟩

theorem M2.init_ok (m : M2) (s0 s1 : Src) (out : List (Bool × Int)) (hinv : Inv m s0 s1 out)
    (hni : m.initialized = false) (h : m.init.1 = .nil) :
    Inv m.init.2 s0 s1 out ∧ m.init.2.initialized = true := by
  obtain ⟨I0, I1⟩ := hinv
  rw [hni] at I0 I1
  unfold M2.init at h ⊢
  by_cases e0 : m.b0.read.1 = .err
  · simp [e0] at h
  · by_cases e1 : m.b1.read.1 = .err
    · simp [e0, e1] at h
    · simp only [e0, e1, if_false]
      exact ⟨Inv.of_init rfl (I0.read e0) (I1.read e1), trivial⟩

theorem M2.body_ok (m : M2) (s0 s1 : Src) (out : List (Bool × Int)) (cap : Nat)
    (hinv : Inv m s0 s1 out) (hi : m.initialized = true) (hne : (m.body false cap).1.2 ≠ .err) :
    Inv (m.body false cap).2 s0 s1 (out ++ (m.body false cap).1.1) ∧
    ((m.body false cap).1.2 = .eof → (m.body false cap).2.r0 = false ∧ (m.body false cap).2.r1 = false) ∧
    (m.body false cap).2.initialized = true := by
  obtain ⟨I0, I1⟩ := hinv
  rw [hi] at I0 I1
  unfold M2.body at hne ⊢
  cases hr0 : refill false m.r0 m.b0 with
  | none => simp [hr0] at hne
  | some p0 =>
    obtain ⟨r0, b0⟩ := p0
    cases hr1 : refill false m.r1 m.b1 with
    | none => simp [hr0, hr1] at hne
    | some p1 =>
      obtain ⟨r1, b1⟩ := p1
      have J0 := I0.afterRefill hr0
      have J1 := I1.afterRefill hr1
      have same := fun (t : Bool) (w : List Int) => show proj t (tag t (w.take cap)) ++ w.drop cap = w by
        rw [proj_tag_same, List.take_append_drop]
      have other := fun (t u : Bool) (hu : u ≠ t) (w l : List Int) => show proj t (tag u l) ++ w = w by
        rw [proj_tag_other t u hu]; rfl
      have hl := loop2_proj cap b0.win b1.win
      cases r0 <;> cases r1 <;> simp only []
      · exact ⟨Inv.of_init hi (J0.emit [] _ rfl) (J1.emit [] _ rfl), by simp, hi⟩
      · exact ⟨Inv.of_init hi (J0.emit _ _ (other _ _ (by decide) _ _)) (J1.emit _ _ (same _ _)), by simp, hi⟩
      · exact ⟨Inv.of_init hi (J0.emit _ _ (same _ _)) (J1.emit _ _ (other _ _ (by decide) _ _)), by simp, hi⟩
      · exact ⟨Inv.of_init hi (J0.emit _ _ hl.1) (J1.emit _ _ hl.2), by simp, hi⟩

theorem M2.init_nil_or_err (m : M2) : m.init.1 = .nil ∨ m.init.1 = .err := by
  fun_cases M2.init m
  · exact Or.inr rfl
  · exact Or.inr rfl
  · exact Or.inl rfl

theorem M2.readRows_ok (m : M2) (s0 s1 : Src) (out : List (Bool × Int)) (cap : Nat)
    (hinv : Inv m s0 s1 out) (hne : (m.readRows false cap).1.2 ≠ .err) :
    Inv (m.readRows false cap).2 s0 s1 (out ++ (m.readRows false cap).1.1) ∧
    ((m.readRows false cap).1.2 = .eof →
      (m.readRows false cap).2.r0 = false ∧ (m.readRows false cap).2.r1 = false) ∧
    (m.readRows false cap).2.initialized = true := by
  by_cases hi : m.initialized = true
  · have e : m.readRows false cap = m.body false cap := by simp only [M2.readRows, hi, if_true]
    rw [e] at hne ⊢
    exact M2.body_ok m s0 s1 out cap hinv hi hne
  · rcases m.init_nil_or_err with h1 | h1
    · have e : m.readRows false cap = m.init.2.body false cap := by simp [M2.readRows, hi, h1]
      rw [e] at hne ⊢
      obtain ⟨hinv', hi'⟩ := M2.init_ok m s0 s1 out hinv (by simpa using hi) h1
      exact M2.body_ok m.init.2 s0 s1 out cap hinv' hi' hne
    · exact absurd (by simp [M2.readRows, hi, h1]) hne

theorem session_eof (caps : List Nat) (m : M2) (s0 s1 : Src) (out : List (Bool × Int))
    (hinv : Inv m s0 s1 out) (h : (session false caps m).2.1 = .eof) :
    proj false (out ++ (session false caps m).1.flatten) = s0.rows ∧
    proj true (out ++ (session false caps m).1.flatten) = s1.rows ∧ ¬ s0.Bites ∧ ¬ s1.Bites := by
  -- cases: no call left; a call that answers io.EOF or an error; a call that answers nil, and the session goes on
  fun_induction session false caps m generalizing out with
  | case1 => cases h
  | case2 c cs m x hn =>
    have h : x.1.2 = .eof := h
    obtain ⟨hinv', he, hi'⟩ := M2.readRows_ok m s0 s1 out c hinv (by rw [h]; decide)
    obtain ⟨hr0, hr1⟩ := he h
    obtain ⟨hw0, hs0⟩ := hinv'.1.d hi' hr0
    obtain ⟨hw1, hs1⟩ := hinv'.2.d hi' hr1
    have a0 := hinv'.1.h
    have a1 := hinv'.2.h
    rw [hw0, hs0] at a0
    rw [hw1, hs1] at a1
    simp only [List.flatten_cons, List.flatten_nil, List.append_nil] at a0 a1 ⊢
    exact ⟨a0, a1, fun hb => (hinv'.1.f hb).rows_ne hs0, fun hb => (hinv'.2.f hb).rows_ne hs1⟩
  | case3 c cs m x hn r ih =>
    have hn' : (m.readRows false c).1.2 = .nil := Decidable.not_not.mp hn
    obtain ⟨hinv', _, _⟩ := M2.readRows_ok m s0 s1 out c hinv (by rw [hn']; decide)
    have := ih _ hinv' h
    simpa [List.flatten_cons, List.append_assoc] using this

/-- MIRROR `bloom.CheckSplitBlock` (bloom/filter.go:73-79): the block comes from a pool and still
holds `stale`; `ReadAt` stores the first `n` bytes of the block `blk` of the filter over it and
answers `r`; the probe is evaluated on whatever the buffer holds and handed out together with `r`.
`clearEOF = true`: io.EOF of the `ReadAt` is cleared without looking at `n` (seeded change C14-4b). -/
def probe (clearEOF : Bool) (chk : List UInt8 → Bool) (stale blk : List UInt8) (n : Nat) (r : Res) :
    Bool × Res :=
  (chk (blk.take n ++ stale.drop n), if clearEOF = true ∧ r = .eof then .nil else r)

end PqModel.IoFault.Rd
