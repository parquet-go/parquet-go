import PqModel.Dremel
import PqModel.NullScan

/-! # The typed write path at the level of column streams (C03 `typed_eq_reflect`)

MIRROR of `column_buffer_write.go`: the `writeRowsFunc` closures that `writeRowsFuncOf*` build for a
Go type, composed over the level bookkeeping of the leaf column buffers
(`column_buffer_optional.go:218-250`, `column_buffer_repeated.go:295-321`).

Abstractions (what is NOT mirrored): a `sparse.Array` of Go values is a `List Val` (offsets,
strides and `unsafe` casts are not modelled); the effect of a `writeRowsFunc` call on the column
buffers is the list of triples it appends to each of the leaf columns below its node, in column
order (the `columnIndex` lookup is the position in that order); calls in sequence append
(`zipApp`). The zero value of an `optional` non-pointer field is `Val.none`, a nil pointer / nil
slice is `Val.none`, a value that is present is `Val.some _` — the documented Go mapping, applied by
the harness when it abstracts Go values. -/
namespace PqModel.TypedPath
open PqModel.Dremel PqModel.NullScan

/-- `writeRowsFunc`: `(columns, levels{repetitionLevel, repetitionDepth, definitionLevel}, rows)`;
the result is what the call appends to the leaf columns below the node. -/
abbrev WriteRows := (rep depth dfn : Nat) → List Val → Cols

def payload : Val → Option Nat
  | .prim x => some x
  | _ => none

/-- `writeRowsFuncOfRequired` (`column_buffer_write.go:117-126`) over `writeValues` of the leaf's column
buffer, `dm` its maximum definition level: the plain buffer for `dm = 0`, else
`optionalColumnBuffer.writeValues` (`column_buffer_optional.go:218-250`) /
`repeatedColumnBuffer.writeValues` (`column_buffer_repeated.go:295-321`). -/
def wrLeaf (dm : Nat) : WriteRows := fun r _ d vs =>
  [match vs with
   | [] => if dm = 0 then [] else [⟨none, r, d⟩]
   | _ :: _ => vs.map fun v => ⟨if d = dm then payload v else none, r, d⟩]

def isSome : Val → Bool
  | .some _ => true
  | _ => false

/-- the Go value of an optional non-pointer field is the field itself; a row of a null run holds
the zero value of the Go type (zero scalar, nil map), abstracted as `Val.none` -/
def unopt : Val → Val
  | .some w => w
  | _ => .none

/-- `rows.Slice(i, j)` -/
def sliceRows (vs : List Val) (i j : Nat) : List Val := (vs.drop i).take (j - i)

/-- `writeRowsFuncOfOptional`, the bitmap branch (`column_buffer_write.go:367-458`). `nonzero` is the null
index kernel of `nullIndexFuncOf` (`null.go:60-135`): bit set = the row does not hold the zero value of
its Go type. -/
def wrOptionalWith (nonzero : Val → Bool) (m : Nat) (inner : WriteRows) : WriteRows := fun r k d vs =>
  if vs.isEmpty then inner r k d []
  else
    match nullRuns (nullIndex nonzero vs) vs.length with
    | .ok runs =>
      joinSegs m (runs.map fun run =>
        inner r k (if run.isNull then d else d + 1) ((sliceRows vs run.i run.j).map unopt))
    | .error _ => List.replicate m []

/-- the wrapper with the kernels as they are: zero value = `Val.none` (nil for maps; for a
non-pointer struct the zero struct, `null.go` `nullIndexFuncOfStruct`, the predicate `isNullValue`
of the reflection paths) -/
def wrOptional (m : Nat) (inner : WriteRows) : WriteRows := wrOptionalWith isSome m inner

/-- `nullIndexStruct` before /repo bf8591b (`bytealg.Broadcast(bits, 0xFF)`): every row of a
non-pointer struct field with the `optional` tag counted as present. -/
def wrOptionalAllPresent (m : Nat) (inner : WriteRows) : WriteRows := wrOptionalWith (fun _ => true) m inner

/-- `writeRowsFuncOfPointer` for an optional schema node (`column_buffer_write.go:565-618`, the closure 598-616). -/
def wrPointer (m : Nat) (inner : WriteRows) : WriteRows := fun r k d vs =>
  if vs.isEmpty then inner r k d []
  else
    joinSegs m (vs.map fun v =>
      match v with
      | .some w => inner r k (d + 1) [w]
      | _ => inner r k d [])

/-- `writeRowsFuncOfSlice` (`column_buffer_write.go:620-679`, the closure 646-677); `get` reads the elements of the Go
slice out of the abstract value. -/
def wrSlice (m : Nat) (get : Val → List Val) (inner : WriteRows) : WriteRows := fun r k d vs =>
  if vs.isEmpty then inner r k d []
  else
    joinSegs m (vs.map fun v =>
      match get v with
      | [] => inner r (k + 1) d []
      | w :: ws =>
        zipApp (inner r (k + 1) (d + 1) [w])
          (if ws.isEmpty then List.replicate m [] else inner (k + 1) (k + 1) (d + 1) ws))

/-- `writeRowsFuncOfOptional`, the slice branch (`column_buffer_write.go:341-365`): one call per
row, the nil slice goes down as it is at the parent's definition level. -/
def wrOptionalSlice (m : Nat) (inner : WriteRows) : WriteRows := fun r k d vs =>
  if vs.isEmpty then inner r k d []
  else
    joinSegs m (vs.map fun v =>
      match v with
      | .some w => inner r k (d + 1) [w]
      | _ => inner r k d [Val.none])

def fieldsOf : Val → List Val
  | .struct vs => vs
  | _ => []

def hd : List Val → Val
  | v :: _ => v
  | [] => .none

/-- elements of a repeated field (`[]T` without the list tag): `Val.list ws` -/
def elemsS : Val → List Val
  | .list ws => ws
  | _ => []

/-- elements of a `list`-tagged slice: the value of `group (LIST) { repeated group list { element } }`
is `struct [list [struct [e₁], …]]` -/
def elemsL (v : Val) : List Val := (elemsS (hd (fieldsOf v))).map fun w => hd (fieldsOf w)

/-- entries of a Go map on `group (MAP) { repeated group key_value { key; value } }`: the value is
`struct [list [struct [k₁, v₁], …]]`, the entries in the order the typed path emits them
(`makeMapFunc` sorts the keys, `column_buffer_reflect.go:195-219`) -/
def elemsM (v : Val) : List Val := elemsS (hd (fieldsOf v))

/-- keys of a list of map entries (`keys` of `makeMap(m).entries()`) -/
def keysOf (es : List Val) : List Val := (es.map fieldsOf).map hd
def valsOf (es : List Val) : List Val := ((es.map fieldsOf).map List.tail).map hd

/-- MIRROR `writeRowsFuncOfMap`, MAP logical type (`column_buffer_write.go:918-990`, the closure 955-989).
`mk`/`mv` are the numbers of leaf columns below key and value (keys and values write disjoint columns,
so the interleaving of the four calls does not show in the per-column effect). -/
def wrMap (mk mv : Nat) (keyW valW : WriteRows) : WriteRows := fun r k d vs =>
  if vs.isEmpty then keyW r k d [] ++ valW r k d []
  else
    joinSegs (mk + mv) (vs.map fun v =>
      match elemsM v with
      | [] => keyW r (k + 1) d [] ++ valW r (k + 1) d []
      | e :: es =>
        zipApp (keyW r (k + 1) (d + 1) (keysOf [e]) ++ valW r (k + 1) (d + 1) (valsOf [e]))
          (if es.isEmpty then List.replicate (mk + mv) []
           else keyW (k + 1) (k + 1) (d + 1) (keysOf es) ++ valW (k + 1) (k + 1) (d + 1) (valsOf es)))

/- Go types with a typed write path, by wrapper -/
mutual
inductive TNode where
  /-- a basic type on a required leaf (`writeRowsFuncOfRequired` and the int widenings) -/
  | leaf
  /-- a basic type with the `optional` tag: `writeRowsFuncOfOptional` (bitmap scan) over the leaf -/
  | optLeaf
  /-- a struct: `writeRowsFuncOfStruct` -/
  | struct (fs : TFields)
  /-- `*T` on an optional node: `writeRowsFuncOfPointer` -/
  | ptr (n : TNode)
  /-- `[]T` on a repeated node: `writeRowsFuncOfSlice` -/
  | slice (n : TNode)
  /-- `[]T` with the `list` tag: `writeRowsFuncOfSlice` at `path.list.element` -/
  | list (n : TNode)
  /-- `[]T` with the `optional` and `list` tags: slice branch of `writeRowsFuncOfOptional` over `list` -/
  | optList (n : TNode)
  /-- `map[K]V` on a MAP node: `writeRowsFuncOfMap` -/
  | map (kn vn : TNode)
  /-- `map[K]V` with the `optional` tag: bitmap branch of `writeRowsFuncOfOptional` (pointer null
  index: the nil map is null, the empty non-nil map is present) over `writeRowsFuncOfMap` -/
  | optMap (kn vn : TNode)
  /-- a non-pointer struct with the `optional` tag: bitmap branch of `writeRowsFuncOfOptional`
  (null index of the struct type: the zero struct is null) over `writeRowsFuncOfStruct` -/
  | optStruct (fs : TFields)
inductive TFields where
  | nil
  | cons (n : TNode) (fs : TFields)
end

/-- schema node of the element wrapped as a LIST: `group (LIST) { repeated group list { element } }` -/
def listNode (e : Node) : Node := .group (.cons (.rpt (.group (.cons e .nil))) .nil)

/-- `group key_value { key; value }` -/
def pairNode (k v : Node) : Node := .group (.cons k (.cons v .nil))

/-- schema node of a MAP: `group (MAP) { repeated group key_value { key; value } }` -/
def mapNode (k v : Node) : Node := .group (.cons (.rpt (pairNode k v)) .nil)

/- the schema `SchemaOf` derives for the Go type -/
mutual
def erase : TNode → Node
  | .leaf => .leaf
  | .optLeaf => .opt .leaf
  | .struct fs => .group (eraseF fs)
  | .ptr n => .opt (erase n)
  | .slice n => .rpt (erase n)
  | .list n => listNode (erase n)
  | .optList n => .opt (listNode (erase n))
  | .map kn vn => mapNode (erase kn) (erase vn)
  | .optMap kn vn => .opt (mapNode (erase kn) (erase vn))
  | .optStruct fs => .opt (.group (eraseF fs))
def eraseF : TFields → Fields
  | .nil => .nil
  | .cons n fs => .cons (erase n) (eraseF fs)
end

/- `writeRowsFuncOf t schema path`: `dm` is the number of optional/repeated ancestors of the node
(so that a leaf below knows its column's maximum definition level). `tyF` is the body of
`writeRowsFuncOfStruct` (`column_buffer_write.go:733-743`) from field i on: every field gets
`rows.Offset(field offset)`; its rows are the lists of remaining field values. -/
mutual
def tyN : TNode → (dm : Nat) → WriteRows
  | .leaf, dm => wrLeaf dm
  | .optLeaf, dm => wrOptional 1 (wrLeaf (dm + 1))
  | .struct fs, dm => fun r k d vs => tyF fs dm r k d (vs.map fieldsOf)
  | .ptr n, dm => wrPointer (leavesN (erase n)) (tyN n (dm + 1))
  | .slice n, dm => wrSlice (leavesN (erase n)) elemsS (tyN n (dm + 1))
  | .list n, dm => wrSlice (leavesN (erase n)) elemsL (tyN n (dm + 1))
  | .optList n, dm =>
    wrOptionalSlice (leavesN (erase n)) (wrSlice (leavesN (erase n)) elemsL (tyN n (dm + 2)))
  | .map kn vn, dm =>
    wrMap (leavesN (erase kn)) (leavesN (erase vn)) (tyN kn (dm + 1)) (tyN vn (dm + 1))
  | .optMap kn vn, dm =>
    wrOptional (leavesN (erase kn) + leavesN (erase vn))
      (wrMap (leavesN (erase kn)) (leavesN (erase vn)) (tyN kn (dm + 2)) (tyN vn (dm + 2)))
  | .optStruct fs, dm =>
    wrOptional (leavesF (eraseF fs)) (fun r k d vs => tyF fs (dm + 1) r k d (vs.map fieldsOf))
def tyF : TFields → (dm : Nat) → (rep depth dfn : Nat) → List (List Val) → Cols
  | .nil, _ => fun _ _ _ _ => []
  | .cons n fs, dm => fun r k d vss =>
    tyN n dm r k d (vss.map hd) ++ tyF fs dm r k d (vss.map List.tail)
end

/-- `GenericWriter[T].Write` / `GenericBuffer[T].Write` on a batch (`writer.go:251-281`,
`buffer.go:128-133`, `buffer.go:84-90`): nothing for an empty batch, else one call of the row
type's `writeRowsFunc` with `columnLevels{}`. -/
def typedWrite (n : TNode) (batch : List Val) : Cols :=
  if batch.isEmpty then List.replicate (leavesN (erase n)) [] else tyN n 0 0 0 0 batch

theorem flatMap_singleton {α β : Type} (f : α → β) : ∀ (l : List α), l.flatMap (fun v => [f v]) = l.map f :=
  fun _ => List.map_eq_flatMap.symm

theorem shredF_cons (n : Node) (fs : Fields) (r k d : Nat) (vs : List Val) :
    shredF (.cons n fs) r k d vs = shredN n r k d (hd vs) ++ shredF fs r k d vs.tail := by
  cases vs with
  | nil => simp [shredF, hd, shredN_none, shredF_nil]
  | cons v vs' => simp [shredF, hd]

theorem shredN_group (fs : Fields) (r k d : Nat) (v : Val) :
    shredN (.group fs) r k d v = shredF fs r k d (fieldsOf v) := by
  cases v <;> simp [shredN, fieldsOf, shredF_nil]

theorem shredN_opt (n : Node) (r k d : Nat) (v : Val) :
    shredN (.opt n) r k d v =
      match v with
      | .some w => shredN n r k (d + 1) w
      | _ => absentN n r d := by
  cases v <;> simp [shredN]

theorem shredN_rpt (n : Node) (r k d : Nat) (v : Val) :
    shredN (.rpt n) r k d v =
      match elemsS v with
      | [] => absentN n r d
      | w :: ws => zipApp (shredN n r (k + 1) (d + 1) w)
          (joinSegs (leavesN n) (ws.map (shredN n (k + 1) (k + 1) (d + 1)))) := by
  cases v with
  | list ws =>
    cases ws with
    | nil => simp [shredN, elemsS]
    | cons w ws => exact shredN_rpt_cons n r k d w ws
  | _ => simp [shredN, elemsS]

theorem leavesN_listNode (e : Node) : leavesN (listNode e) = leavesN e := by
  simp [listNode, leavesN, leavesF]

theorem absentN_listNode (e : Node) (r d : Nat) : absentN (listNode e) r d = absentN e r d := by
  simp [listNode, absentN, absentF]

theorem shredN_group1 (e : Node) (r k d : Nat) (v : Val) :
    shredN (.group (.cons e .nil)) r k d v = shredN e r k d (hd (fieldsOf v)) := by
  rw [shredN_group, shredF_cons]; simp [shredF]

theorem shredN_listNode (e : Node) (r k d : Nat) (v : Val) :
    shredN (listNode e) r k d v =
      match elemsL v with
      | [] => absentN e r d
      | w :: ws => zipApp (shredN e r (k + 1) (d + 1) w)
          (joinSegs (leavesN e) (ws.map (shredN e (k + 1) (k + 1) (d + 1)))) := by
  unfold listNode
  rw [shredN_group1, shredN_rpt]
  unfold elemsL
  cases elemsS (hd (fieldsOf v)) with
  | nil => simp [absentN, absentF]
  | cons w ws =>
    simp only [List.map_cons, List.map_map]
    rw [shredN_group1]
    have hl : leavesN (.group (.cons e .nil)) = leavesN e := by simp [leavesN, leavesF]
    have hm : ws.map (shredN (.group (.cons e .nil)) (k + 1) (k + 1) (d + 1)) =
        ws.map (shredN e (k + 1) (k + 1) (d + 1) ∘ fun w => hd (fieldsOf w)) := by
      apply List.map_congr_left
      intro x _
      simp [shredN_group1]
    rw [hl, hm]

/-- `f dm` is the `writeRowsFunc` of a node with schema `n` below `dm` optional/repeated ancestors.
(A) a non-empty batch at the node's full definition level writes the shredded rows, row after row;
(B) the empty array at a lower definition level writes the absent node;
(C) rows holding the zero value of the Go type (`Val.none`: zero scalar, zero struct, nil pointer /
slice / map) at a lower definition level — what a null run of an enclosing `optional` wrapper hands
down — write the absent node once per row. -/
def Sound (n : Node) (f : Nat → WriteRows) : Prop :=
  ∀ dm r k,
    (∀ vs, vs ≠ [] → f dm r k dm vs = joinSegs (leavesN n) (vs.map (shredN n r k dm))) ∧
    (∀ d, d < dm → f dm r k d [] = absentN n r d) ∧
    (∀ d, d < dm → ∀ c, f dm r k d (List.replicate (c + 1) Val.none) =
      joinSegs (leavesN n) (List.replicate (c + 1) (absentN n r d)))

theorem joinSegs_replicate_one (t : Triple) : ∀ c, joinSegs 1 (List.replicate c [[t]]) = [List.replicate c t]
  | 0 => by simp [joinSegs]
  | c + 1 => by
    simp only [List.replicate_succ, joinSegs_cons, joinSegs_replicate_one t c, zipApp, List.cons_append,
      List.nil_append]

theorem joinSegs_replicate_append {m1 m2 : Nat} {a b : Cols} (ha : a.length = m1) (hb : b.length = m2)
    (c : Nat) :
    joinSegs (m1 + m2) (List.replicate c (a ++ b)) =
      joinSegs m1 (List.replicate c a) ++ joinSegs m2 (List.replicate c b) := by
  have h := joinSegs_append_cols (fun _ : Unit => a) (fun _ => b) (List.replicate c ())
    (fun _ _ => ha) (fun _ _ => hb)
  simpa only [List.map_replicate] using h

theorem joinSegs_replicate_nil : ∀ c, joinSegs 0 (List.replicate c ([] : Cols)) = []
  | 0 => rfl
  | c + 1 => by simp [List.replicate_succ, joinSegs_cons, zipApp]

theorem wrLeaf_sound : Sound .leaf wrLeaf := by
  intro dm r k
  refine ⟨?_, ?_, ?_⟩
  · intro vs hvs
    have hrhs : vs.map (shredN .leaf r k dm) = vs.map (fun v => [[(⟨payload v, r, dm⟩ : Triple)]]) := by
      apply List.map_congr_left
      intro v _
      cases v <;> simp [shredN, payload]
    rw [hrhs]
    have := joinSegs_one_col (fun v => [(⟨payload v, r, dm⟩ : Triple)]) vs
    simp only [leavesN]
    rw [this]
    cases vs with
    | nil => exact absurd rfl hvs
    | cons v vs' =>
      simp only [wrLeaf, if_true]
      rw [flatMap_singleton]
  · intro d hd
    have : dm ≠ 0 := by omega
    simp [wrLeaf, this, absentN]
  · intro d hd c
    have hne : d ≠ dm := by omega
    simp only [leavesN, absentN]
    rw [joinSegs_replicate_one]
    simp [wrLeaf, List.replicate_succ, hne]

theorem wrPointer_sound {n : Node} {f : Nat → WriteRows} (h : Sound n f) :
    Sound (.opt n) (fun dm => wrPointer (leavesN n) (f (dm + 1))) := by
  intro dm r k
  refine ⟨?_, ?_, ?_⟩
  · intro vs hvs
    simp only [wrPointer, List.isEmpty_eq_false_iff.mpr hvs, leavesN, Bool.false_eq_true, if_false]
    congr 1
    apply List.map_congr_left
    intro v _
    rw [shredN_opt]
    cases v with
    | some w =>
      -- `simp only []` (here and below) only reduces a `match` on a constructor or the β-redex `(fun dm => …) (dm + 1)`
      simp only []
      rw [(h (dm + 1) r k).1 [w] (by simp)]
      exact joinSegs_singleton (shredN_length n r k (dm + 1) w)
    | _ => exact (h (dm + 1) r k).2.1 dm (by omega)
  · intro d hd
    simp only [wrPointer, List.isEmpty_nil, if_true, absentN]
    exact (h (dm + 1) r k).2.1 d (by omega)
  · intro d hd c
    simp only [wrPointer, List.isEmpty_eq_false_iff.mpr List.replicate_succ_ne_nil, Bool.false_eq_true, if_false,
      List.map_replicate, absentN, leavesN]
    rw [(h (dm + 1) r k).2.1 d (by omega)]

theorem wrSlice_rows {e : Node} {f : Nat → WriteRows} (h : Sound e f) (get : Val → List Val)
    (S : Nat → Nat → Nat → Val → Cols)
    (hS : ∀ r k d v, S r k d v =
      match get v with
      | [] => absentN e r d
      | w :: ws => zipApp (shredN e r (k + 1) (d + 1) w)
          (joinSegs (leavesN e) (ws.map (shredN e (k + 1) (k + 1) (d + 1)))))
    (dm r k : Nat) (vs : List Val) (hvs : vs ≠ []) :
    wrSlice (leavesN e) get (f (dm + 1)) r k dm vs = joinSegs (leavesN e) (vs.map (S r k dm)) := by
  simp only [wrSlice, List.isEmpty_eq_false_iff.mpr hvs, Bool.false_eq_true, if_false]
  congr 1
  apply List.map_congr_left
  intro v _
  rw [hS]
  cases get v with
  | nil => exact (h (dm + 1) r (k + 1)).2.1 dm (by omega)
  | cons w ws =>
    simp only []
    rw [(h (dm + 1) r (k + 1)).1 [w] (by simp)]
    have e1 : joinSegs (leavesN e) ([w].map (shredN e r (k + 1) (dm + 1))) = shredN e r (k + 1) (dm + 1) w :=
      joinSegs_singleton (shredN_length e r (k + 1) (dm + 1) w)
    rw [e1]
    cases ws with
    | nil => simp [joinSegs]
    | cons w' ws' =>
      simp only [List.isEmpty_cons]
      rw [(h (dm + 1) (k + 1) (k + 1)).1 (w' :: ws') (by simp)]
      rfl

theorem wrSlice_empty (m : Nat) (get : Val → List Val) (inner : WriteRows) (r k d : Nat) :
    wrSlice m get inner r k d [] = inner r k d [] := by
  simp [wrSlice]

theorem wrSlice_zeros {e : Node} {f : Nat → WriteRows} (h : Sound e f) (get : Val → List Val)
    (hget : get Val.none = []) (dm r k d c : Nat) (hd : d < dm + 1) :
    wrSlice (leavesN e) get (f (dm + 1)) r k d (List.replicate (c + 1) Val.none) =
      joinSegs (leavesN e) (List.replicate (c + 1) (absentN e r d)) := by
  simp only [wrSlice, List.isEmpty_eq_false_iff.mpr List.replicate_succ_ne_nil, Bool.false_eq_true, if_false,
    List.map_replicate, hget]
  rw [(h (dm + 1) r (k + 1)).2.1 d hd]

theorem elemsS_none : elemsS Val.none = [] := rfl
theorem elemsL_none : elemsL Val.none = [] := by simp [elemsL, fieldsOf, hd, elemsS]
theorem elemsM_none : elemsM Val.none = [] := by simp [elemsM, fieldsOf, hd, elemsS]

/-- The slice wrapper over a sound element writer is sound for every node `N` that shreds like a
repeated `e` whose elements `get` reads: `.rpt e` with `elemsS`, `listNode e` with `elemsL`, and
`mapNode K V` with `elemsM` over the writer of the key/value pair. -/
theorem wrSlice_sound_of {e N : Node} {f : Nat → WriteRows} (h : Sound e f) (get : Val → List Val)
    (hget : get Val.none = []) (hl : leavesN N = leavesN e) (ha : ∀ r d, absentN N r d = absentN e r d)
    (hS : ∀ r k d v, shredN N r k d v =
      match get v with
      | [] => absentN e r d
      | w :: ws => zipApp (shredN e r (k + 1) (d + 1) w)
          (joinSegs (leavesN e) (ws.map (shredN e (k + 1) (k + 1) (d + 1))))) :
    Sound N (fun dm => wrSlice (leavesN e) get (f (dm + 1))) := by
  intro dm r k
  refine ⟨fun vs hvs => ?_, fun d hd => ?_, fun d hd c => ?_⟩
  · rw [hl]
    exact wrSlice_rows h get (shredN N) hS dm r k vs hvs
  · show wrSlice (leavesN e) get (f (dm + 1)) r k d [] = _
    rw [wrSlice_empty, ha]
    exact (h (dm + 1) r k).2.1 d (by omega)
  · rw [hl, ha]
    exact wrSlice_zeros h get hget dm r k d c (by omega)

theorem wrSlice_sound {e : Node} {f : Nat → WriteRows} (h : Sound e f) :
    Sound (.rpt e) (fun dm => wrSlice (leavesN e) elemsS (f (dm + 1))) :=
  wrSlice_sound_of h elemsS elemsS_none rfl (fun _ _ => rfl) (shredN_rpt e)

theorem wrList_sound {e : Node} {f : Nat → WriteRows} (h : Sound e f) :
    Sound (listNode e) (fun dm => wrSlice (leavesN e) elemsL (f (dm + 1))) :=
  wrSlice_sound_of h elemsL elemsL_none (leavesN_listNode e) (absentN_listNode e) (shredN_listNode e)

/-- the slice branch of `writeRowsFuncOfOptional` over ANY sound writer (`wrOptList_sound` is its one instance) -/
theorem wrOptionalSlice_sound {n : Node} {f : Nat → WriteRows} (h : Sound n f) :
    Sound (.opt n) (fun dm => wrOptionalSlice (leavesN n) (f (dm + 1))) := by
  intro dm r k
  have habs : ∀ d, d < dm + 1 → f (dm + 1) r k d [Val.none] = absentN n r d := fun d hd =>
    ((h (dm + 1) r k).2.2 d hd 0).trans (joinSegs_singleton (absentN_length n r d))
  refine ⟨fun vs hvs => ?_, fun d hd => (h (dm + 1) r k).2.1 d (by omega), fun d hd c => ?_⟩
  · simp only [wrOptionalSlice, List.isEmpty_eq_false_iff.mpr hvs, leavesN, Bool.false_eq_true, if_false]
    refine congrArg _ (List.map_congr_left fun v _ => ?_)
    rw [shredN_opt]
    cases v with
    | some w => exact ((h (dm + 1) r k).1 [w] (by simp)).trans (joinSegs_singleton (shredN_length n r k (dm + 1) w))
    | _ => exact habs dm (by omega)
  · simp only [wrOptionalSlice, List.isEmpty_eq_false_iff.mpr List.replicate_succ_ne_nil, Bool.false_eq_true,
      if_false, List.map_replicate, leavesN, absentN]
    rw [habs d (by omega)]

theorem wrOptList_sound {e : Node} {f : Nat → WriteRows} (h : Sound e f) :
    Sound (.opt (listNode e))
      (fun dm => wrOptionalSlice (leavesN e) (wrSlice (leavesN e) elemsL (f (dm + 2)))) := by
  have := wrOptionalSlice_sound (wrList_sound h)
  rwa [leavesN_listNode] at this

theorem mem_sliceRows {vs : List Val} {i j : Nat} {v : Val} (h : v ∈ sliceRows vs i j) :
    ∃ p, i ≤ p ∧ p < j ∧ vs[p]? = some v := by
  rcases List.mem_iff_getElem?.mp h with ⟨q, hq⟩
  simp only [sliceRows, List.getElem?_take, List.getElem?_drop] at hq
  split at hq
  · exact ⟨i + q, by omega, by omega, hq⟩
  · cases hq

theorem sliceRows_append (vs : List Val) {s j e : Nat} (h1 : s ≤ j) (h2 : j ≤ e) :
    sliceRows vs s j ++ sliceRows vs j e = sliceRows vs s e := by
  simp only [sliceRows]
  rw [show e - s = (j - s) + (e - j) by omega, List.take_add, List.drop_drop,
    show s + (j - s) = j by omega]

theorem sliceRows_length (vs : List Val) {i j : Nat} (h : j ≤ vs.length) :
    (sliceRows vs i j).length = j - i := by
  simp only [sliceRows, List.length_take, List.length_drop]; omega

def SoundF (fs : Fields) (g : Nat → Nat → Nat → Nat → List (List Val) → Cols) : Prop :=
  ∀ dm r k,
    (∀ vss, vss ≠ [] → g dm r k dm vss = joinSegs (leavesF fs) (vss.map (shredF fs r k dm))) ∧
    (∀ d, d < dm → g dm r k d [] = absentF fs r d) ∧
    (∀ d, d < dm → ∀ c, g dm r k d (List.replicate (c + 1) []) =
      joinSegs (leavesF fs) (List.replicate (c + 1) (absentF fs r d)))

theorem joinSegs_zero {α : Type} (xs : List α) : joinSegs 0 (xs.map fun _ => ([] : Cols)) = [] := by
  rw [List.map_const']
  exact joinSegs_replicate_nil _

def wrPair (fk fv : Nat → WriteRows) : Nat → WriteRows := fun dm r k d vs =>
  fk dm r k d (keysOf vs) ++ fv dm r k d (valsOf vs)

theorem leavesN_pairNode (K V : Node) : leavesN (pairNode K V) = leavesN K + leavesN V := by
  simp [pairNode, leavesN, leavesF]

theorem leavesN_mapNode (K V : Node) : leavesN (mapNode K V) = leavesN K + leavesN V := by
  simp [mapNode, pairNode, leavesN, leavesF]

theorem absentN_mapNode (K V : Node) (r d : Nat) :
    absentN (mapNode K V) r d = absentN K r d ++ absentN V r d := by
  simp [mapNode, pairNode, absentN, absentF]

theorem absentN_pairNode (K V : Node) (r d : Nat) :
    absentN (pairNode K V) r d = absentN K r d ++ absentN V r d := by
  simp [pairNode, absentN, absentF]

theorem soundF_nil : SoundF .nil (fun _ _ _ _ _ => []) := by
  intro dm r k
  refine ⟨fun vss _ => ?_, fun d _ => rfl, fun d _ c => ?_⟩
  · have : vss.map (shredF .nil r k dm) = vss.map (fun _ => ([] : Cols)) :=
      List.map_congr_left (fun vs _ => by simp [shredF])
    rw [leavesF, this, joinSegs_zero]
  · simp only [leavesF, absentF]
    exact (joinSegs_replicate_nil (c + 1)).symm

/-- `writeRowsFuncOfStruct`, one field; sibling fields write disjoint columns -/
theorem soundF_cons {n : Node} {fs : Fields} {f : Nat → WriteRows}
    {g : Nat → Nat → Nat → Nat → List (List Val) → Cols} (hn : Sound n f) (hf : SoundF fs g) :
    SoundF (.cons n fs) (fun dm r k d vss => f dm r k d (vss.map hd) ++ g dm r k d (vss.map List.tail)) := by
  intro dm r k
  have hn := hn dm r k
  have hf := hf dm r k
  refine ⟨?_, ?_, ?_⟩
  · intro vss hvss
    simp only [leavesF]
    rw [hn.1 (vss.map hd) (mt List.map_eq_nil_iff.mp hvss), hf.1 (vss.map List.tail) (mt List.map_eq_nil_iff.mp hvss),
      List.map_map, List.map_map]
    have hrhs : vss.map (shredF (.cons n fs) r k dm) =
        vss.map (fun vs => (shredN n r k dm ∘ hd) vs ++ (shredF fs r k dm ∘ List.tail) vs) :=
      List.map_congr_left (fun vs _ => by simp [shredF_cons])
    rw [hrhs]
    exact (joinSegs_append_cols _ _ vss
      (fun vs _ => shredN_length n r k dm (hd vs))
      (fun vs _ => shredF_length fs r k dm vs.tail)).symm
  · intro d hd'
    simp only [absentF, List.map_nil]
    rw [hn.2.1 d hd', hf.2.1 d hd']
  · intro d hd' c
    simp only [leavesF, absentF, List.map_replicate, hd, List.tail_nil]
    rw [hn.2.2 d hd' c, hf.2.2 d hd' c]
    exact (joinSegs_replicate_append (absentN_length n r d) (absentF_length fs r d) (c + 1)).symm

theorem struct_sound {fs : Fields} {g : Nat → Nat → Nat → Nat → List (List Val) → Cols} (h : SoundF fs g) :
    Sound (.group fs) (fun dm r k d vs => g dm r k d (vs.map fieldsOf)) := by
  intro dm r k
  have h' := h dm r k
  refine ⟨?_, ?_, ?_⟩
  · intro vs hvs
    simp only [leavesN]
    rw [h'.1 (vs.map fieldsOf) (mt List.map_eq_nil_iff.mp hvs), List.map_map]
    congr 1
    apply List.map_congr_left
    intro v _
    simp [shredN_group]
  · intro d hd
    simp only [absentN, List.map_nil]
    exact h'.2.1 d hd
  · intro d hd c
    simp only [leavesN, absentN, List.map_replicate, fieldsOf]
    exact h'.2.2 d hd c

theorem pair_sound {K V : Node} {fk fv : Nat → WriteRows} (hk : Sound K fk) (hv : Sound V fv) :
    Sound (pairNode K V) (wrPair fk fv) := by
  intro dm r k
  simpa only [wrPair, keysOf, valsOf, pairNode, List.append_nil] using
    struct_sound (soundF_cons hk (soundF_cons hv soundF_nil)) dm r k

theorem shredN_mapNode (K V : Node) (r k d : Nat) (v : Val) :
    shredN (mapNode K V) r k d v =
      match elemsM v with
      | [] => absentN (pairNode K V) r d
      | w :: ws => zipApp (shredN (pairNode K V) r (k + 1) (d + 1) w)
          (joinSegs (leavesN (pairNode K V)) (ws.map (shredN (pairNode K V) (k + 1) (k + 1) (d + 1)))) := by
  unfold mapNode elemsM
  rw [shredN_group1, shredN_rpt]

theorem wrMap_eq_wrSlice (mk mv : Nat) (keyW valW : WriteRows) (r k d : Nat) (vs : List Val) :
    wrMap mk mv keyW valW r k d vs =
      wrSlice (mk + mv) elemsM (fun r k d xs => keyW r k d (keysOf xs) ++ valW r k d (valsOf xs)) r k d vs := by
  simp only [wrMap, wrSlice, keysOf, valsOf, List.map_nil]

theorem wrMap_sound {K V : Node} {fk fv : Nat → WriteRows} (hk : Sound K fk) (hv : Sound V fv) :
    Sound (mapNode K V) (fun dm => wrMap (leavesN K) (leavesN V) (fk (dm + 1)) (fv (dm + 1))) := by
  have h := wrSlice_sound_of (N := mapNode K V) (pair_sound hk hv) elemsM elemsM_none
    (by rw [leavesN_mapNode, leavesN_pairNode]) (fun r d => by rw [absentN_mapNode, absentN_pairNode])
    (shredN_mapNode K V)
  intro dm r k
  have h' := h dm r k
  rw [leavesN_pairNode] at h'
  simp only [wrMap_eq_wrSlice]
  exact h'

/-- the induction over the runs of a `Chain`, once: per run ⇒ over `[s, e)` -/
theorem chain_join {m : Nat} {F : Val → Cols} (hF : ∀ v, (F v).length = m) {W : Run → Cols} {vs : List Val}
    {ws : List (BitVec 64)}
    (hW : ∀ run : Run, run.i < run.j → run.j ≤ vs.length →
      (∀ p, run.i ≤ p → p < run.j → bitAt ws p = !run.isNull) →
      W run = joinSegs m ((sliceRows vs run.i run.j).map F)) :
    ∀ (runs : List Run) (s e : Nat), Chain ws s e runs → e ≤ vs.length →
      joinSegs m (runs.map W) = joinSegs m ((sliceRows vs s e).map F)
  | [], s, e, hc, _ => by
    simp only [Chain] at hc
    subst hc
    simp [joinSegs, sliceRows]
  | run :: rs, s, e, hc, he => by
    simp only [Chain] at hc
    obtain ⟨hs, hlt, hb, hrest⟩ := hc
    have hle := chain_le hrest
    have hys : ∀ s' ∈ (sliceRows vs run.j e).map F, s'.length = m := fun s' hs' => by
      obtain ⟨v, _, rfl⟩ := List.mem_map.mp hs'
      exact hF v
    rw [List.map_cons, joinSegs_cons, chain_join hF hW rs run.j e hrest he, hW run hlt (by omega) hb, ← hs,
      ← joinSegs_append _ _ hys, ← List.map_append, sliceRows_append vs (by omega) hle]

theorem isSome_of_run {vs : List Val} {ws : List (BitVec 64)} (hbits : ∀ p v, vs[p]? = some v → bitAt ws p = isSome v)
    {run : Run} (hb : ∀ p, run.i ≤ p → p < run.j → bitAt ws p = !run.isNull) :
    ∀ v ∈ sliceRows vs run.i run.j, isSome v = !run.isNull := fun v hv => by
  obtain ⟨p, hp1, hp2, hp3⟩ := mem_sliceRows hv
  rw [← hbits p v hp3, hb p hp1 hp2]

theorem sliceRows_ne_nil (vs : List Val) {i j : Nat} (hlt : i < j) (hj : j ≤ vs.length) : sliceRows vs i j ≠ [] :=
  fun h0 => by
    have hlen := sliceRows_length vs (i := i) hj
    rw [h0, List.length_nil] at hlen
    omega

theorem map_unopt_of_null {vs : List Val} (h : ∀ v ∈ vs, isSome v = false) :
    vs.map unopt = List.replicate vs.length Val.none := by
  apply List.eq_replicate_iff.mpr
  refine ⟨by simp, ?_⟩
  intro b hb
  rcases List.mem_map.mp hb with ⟨v, hv, rfl⟩
  have := h v hv
  cases v <;> simp [isSome] at this <;> rfl

theorem chain_write_rows {n : Node} {f : Nat → WriteRows} (h : Sound n f)
    (vs : List Val) (ws : List (BitVec 64)) (r k dm : Nat)
    (hbits : ∀ p v, vs[p]? = some v → bitAt ws p = isSome v) :
    ∀ (runs : List Run) (s e : Nat), Chain ws s e runs → e ≤ vs.length →
      joinSegs (leavesN n) (runs.map fun run =>
        f (dm + 1) r k (if run.isNull then dm else dm + 1) ((sliceRows vs run.i run.j).map unopt)) =
      joinSegs (leavesN n) ((sliceRows vs s e).map (shredN (.opt n) r k dm)) :=
  chain_join (fun v => shredN_length (.opt n) r k dm v) fun run hlt hj hb => by
    have hne := sliceRows_ne_nil vs hlt hj
    have hall := isSome_of_run hbits hb
    cases hn : run.isNull with
    | true =>
      rw [hn] at hall
      obtain ⟨c, hc⟩ : ∃ c, (sliceRows vs run.i run.j).length = c + 1 :=
        ⟨_, (Nat.succ_pred_eq_of_pos (List.length_pos_iff.mpr hne)).symm⟩
      rw [if_pos rfl, map_unopt_of_null hall, hc, (h (dm + 1) r k).2.2 dm (Nat.lt_succ_self dm) c, ← hc,
        ← List.map_const']
      congr 1
      apply List.map_congr_left
      intro v hv
      have := hall v hv
      rw [shredN_opt]
      cases v <;> simp [isSome] at this <;> rfl
    | false =>
      rw [hn] at hall
      rw [if_neg Bool.false_ne_true, (h (dm + 1) r k).1 _ (mt List.map_eq_nil_iff.mp hne), List.map_map]
      congr 1
      apply List.map_congr_left
      intro v hv
      have := hall v hv
      rw [shredN_opt]
      cases v <;> simp [isSome] at this
      simp [unopt]

/-- no bit set ⇒ every run of the scan is a null run ⇒ the inner writer sees every row once -/
theorem chain_write_zeros (m : Nat) (g : Nat → List Val → Cols) (a : Cols) (d : Nat)
    (hg : ∀ c, g d (List.replicate (c + 1) Val.none) = joinSegs m (List.replicate (c + 1) a))
    (ha : a.length = m) (vs : List Val) (hall : ∀ v ∈ vs, isSome v = false) (ws : List (BitVec 64))
    (hbits : ∀ p, p < vs.length → bitAt ws p = false) :
    ∀ (runs : List Run) (s e : Nat), Chain ws s e runs → e ≤ vs.length →
      joinSegs m (runs.map fun run =>
        g (if run.isNull then d else d + 1) ((sliceRows vs run.i run.j).map unopt)) =
      joinSegs m (List.replicate (e - s) a) := fun runs s e hc he => by
  have h := chain_join (F := fun _ => a) (fun _ => ha) (vs := vs) (ws := ws)
    (W := fun run => g (if run.isNull then d else d + 1) ((sliceRows vs run.i run.j).map unopt))
    (fun run hlt hj hb => by
      have hnull : run.isNull = true := by
        have h1 := hb run.i (Nat.le_refl _) hlt
        rw [hbits run.i (by omega)] at h1
        cases hr : run.isNull with
        | true => rfl
        | false => rw [hr] at h1; cases h1
      have hall' : ∀ v ∈ sliceRows vs run.i run.j, isSome v = false := fun v hv => by
        obtain ⟨p, _, _, hp⟩ := mem_sliceRows hv
        exact hall v (List.mem_of_getElem? hp)
      obtain ⟨c, hc⟩ : ∃ c, run.j - run.i = c + 1 := ⟨run.j - run.i - 1, by omega⟩
      simp only [hnull, if_true]
      rw [map_unopt_of_null hall', List.map_const', sliceRows_length vs hj, hc, hg c])
    runs s e hc he
  rw [h, List.map_const', sliceRows_length vs he]

/-- the bitmap branch of `writeRowsFuncOfOptional` over ANY sound writer -/
theorem wrOptional_sound {n : Node} {f : Nat → WriteRows} (h : Sound n f) :
    Sound (.opt n) (fun dm => wrOptional (leavesN n) (f (dm + 1))) := by
  intro dm r k
  refine ⟨?_, ?_, ?_⟩
  · intro vs hvs
    have hidx := nullIndex_spec isSome vs
    rcases scan_spec (nullIndex isSome vs) vs.length hidx.2.1 vs.length 0 (Nat.zero_le _) (by omega)
      with ⟨runs, hruns, hchain, _⟩
    have hbits : ∀ p v, vs[p]? = some v → bitAt (nullIndex isSome vs) p = isSome v := by
      intro p v hp
      rw [hidx.2.2 p, hp]; rfl
    have hw := chain_write_rows h vs (nullIndex isSome vs) r k dm hbits runs 0 vs.length hchain (Nat.le_refl _)
    simp only [wrOptional, wrOptionalWith, List.isEmpty_eq_false_iff.mpr hvs, Bool.false_eq_true, if_false, nullRuns, hruns]
    rw [hw]
    simp [sliceRows, leavesN]
  · intro d hd'
    simp only [wrOptional, wrOptionalWith, List.isEmpty_nil, if_true, absentN]
    exact (h (dm + 1) r k).2.1 d (by omega)
  · intro d hd' c
    generalize hvs : List.replicate (c + 1) Val.none = vs
    have hne : vs ≠ [] := by rw [← hvs]; exact List.replicate_succ_ne_nil
    have hlen : vs.length = c + 1 := by rw [← hvs]; simp
    have hall : ∀ v ∈ vs, isSome v = false := by
      intro v hv
      rw [← hvs] at hv
      rw [(List.mem_replicate.mp hv).2]; rfl
    have hidx := nullIndex_spec isSome vs
    rcases scan_spec (nullIndex isSome vs) vs.length hidx.2.1 vs.length 0 (Nat.zero_le _) (by omega)
      with ⟨runs, hruns, hchain, _⟩
    have hbits : ∀ p, p < vs.length → bitAt (nullIndex isSome vs) p = false := by
      intro p hp
      rw [hidx.2.2 p, List.getElem?_eq_getElem hp]
      exact hall _ (List.getElem_mem hp)
    have hw := chain_write_zeros (leavesN n) (f (dm + 1) r k) (absentN n r d) d
      (fun c => (h (dm + 1) r k).2.2 d (by omega) c) (absentN_length n r d) vs hall
      (nullIndex isSome vs) hbits runs 0 vs.length hchain (Nat.le_refl _)
    simp only [wrOptional, wrOptionalWith, List.isEmpty_eq_false_iff.mpr hne, Bool.false_eq_true, if_false, nullRuns, hruns]
    rw [hw, hlen]
    simp [leavesN, absentN]

theorem wrOptMap_sound {K V : Node} {fk fv : Nat → WriteRows} (hk : Sound K fk) (hv : Sound V fv) :
    Sound (.opt (mapNode K V)) (fun dm => wrOptional (leavesN K + leavesN V)
      (wrMap (leavesN K) (leavesN V) (fk (dm + 2)) (fv (dm + 2)))) := by
  have h := wrOptional_sound (wrMap_sound hk hv)
  intro dm r k
  have h' := h dm r k
  rw [leavesN_mapNode] at h'
  exact h'

theorem wrOptStruct_sound {fs : Fields} {g : Nat → Nat → Nat → Nat → List (List Val) → Cols}
    (h : SoundF fs g) :
    Sound (.opt (.group fs))
      (fun dm => wrOptional (leavesF fs) (fun r k d vs => g (dm + 1) r k d (vs.map fieldsOf))) := by
  have h1 := wrOptional_sound (struct_sound h)
  intro dm r k
  have h' := h1 dm r k
  simp only [leavesN] at h'
  exact h'

mutual
theorem tyN_sound (n : TNode) : Sound (erase n) (tyN n) := by
  cases n with
  | leaf => exact wrLeaf_sound
  | optLeaf => exact wrOptional_sound wrLeaf_sound
  | struct fs => exact struct_sound (tyF_sound fs)
  | ptr n => exact wrPointer_sound (tyN_sound n)
  | slice n => exact wrSlice_sound (tyN_sound n)
  | list n => exact wrList_sound (tyN_sound n)
  | optList n => exact wrOptList_sound (tyN_sound n)
  | map kn vn => exact wrMap_sound (tyN_sound kn) (tyN_sound vn)
  | optMap kn vn => exact wrOptMap_sound (tyN_sound kn) (tyN_sound vn)
  | optStruct fs => exact wrOptStruct_sound (tyF_sound fs)
theorem tyF_sound (fs : TFields) : SoundF (eraseF fs) (tyF fs) := by
  cases fs with
  | nil => exact soundF_nil
  | cons n fs => exact soundF_cons (tyN_sound n) (tyF_sound fs)
end

theorem typedWrite_eq_shred (n : TNode) (batch : List Val) :
    typedWrite n batch =
      joinSegs (leavesN (erase n)) (batch.map (shredN (erase n) 0 0 0)) := by
  unfold typedWrite
  cases batch with
  | nil => simp [joinSegs]
  | cons v vs =>
    simp only [List.isEmpty_cons, Bool.false_eq_true, if_false]
    exact (tyN_sound n 0 0 0).1 (v :: vs) (by simp)

end PqModel.TypedPath
