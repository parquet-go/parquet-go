import PqModel.ThriftSkipProofs

/-! The fuel of the walk: progress and bounds of the readers (from the cut theorem); a run with `need t rem` units never
    answers `fuel`, and a run that did not answer `fuel` answers the same with more; hence `skipStruct`'s own fuel decides. -/
namespace PqModel.ThriftSkip
open PqModel.IoFault (Bytes)

class FuelOnly (fe : SkErr → SkErr) : Prop where
  keep : ∀ e, fe e = .fuel → e = .fuel
  fix : fe .fuel = .fuel

instance : FuelOnly id := ⟨fun _ h => h, rfl⟩
instance : FuelOnly dontExpectEOF := ⟨fun e h => by cases e <;> simp [dontExpectEOF] at h ⊢, rfl⟩
instance (c : Prop) [Decidable c] (f g : SkErr → SkErr) [FuelOnly f] [FuelOnly g] : FuelOnly (if c then f else g) := by
  split <;> assumption

theorem seq_nofuel {α β} {r : PR α} (fe : SkErr → SkErr) [hfe : FuelOnly fe] {k : α → Nat → PR β}
    (hr : r ≠ .error .fuel) (hk : ∀ a p, r = .ok (a, p) → k a p ≠ .error .fuel) :
    seq r fe k ≠ .error .fuel := by
  cases r with
  | error e =>
    simp only [seq]
    intro h
    injection h with h
    exact hr (by rw [hfe.keep e h])
  | ok ap => obtain ⟨a, p⟩ := ap; exact hk a p rfl

def Prog {α} (d : Bytes) (pos : Nat) (r : PR α) : Prop := ∀ a p, r = .ok (a, p) → pos < p ∧ p ≤ d.length

def Mono {α} (d : Bytes) (pos : Nat) (r : PR α) : Prop := ∀ a p, r = .ok (a, p) → pos ≤ p ∧ (pos ≤ d.length → p ≤ d.length)

/-- the cut theorem with the cut at the end of the input -/
theorem mono_of_rel {α} {d : Bytes} {pos : Nat} {r : PR α} (h : Rel pos d.length r r) : Mono d pos r := by
  intro a p e
  obtain ⟨h1, h2⟩ := h a p e
  refine ⟨h1, fun hp => ?_⟩
  apply Nat.le_of_not_lt
  intro hlt
  obtain ⟨err, he, _⟩ := (h2 hp).2 hlt
  rw [he] at e
  cases e

theorem skipT_mono (d : Bytes) (f : Nat) (t : Task) (pos : Nat) : Mono d pos (skipT d f t pos) := by
  have h := skipT_rel d d.length f t pos
  rw [List.take_length] at h
  exact mono_of_rel h

def Fails {α} (r : PR α) : Prop := ∀ y, r ≠ .ok y

/-- the cut at the start: a parser that fails on an input ending where it starts has read a byte when it succeeds -/
theorem prog_of_rel {α} {d : Bytes} {pos : Nat} (P : Bytes → PR α) (hrel : ∀ m, Rel pos m (P d) (P (d.take m)))
    (hfail : Fails (P (d.take pos))) : Prog d pos (P d) := by
  intro a p e
  by_cases hpos : pos ≤ d.length
  · have hl := hrel d.length
    rw [List.take_length] at hl
    refine ⟨Nat.lt_of_not_le fun hle => hfail _ (((hrel pos a p e).2 (Nat.le_refl _)).1 hle), (mono_of_rel hl a p e).2 hpos⟩
  · have := hfail (a, p)
    rw [List.take_of_length_le (by omega), e] at this
    exact absurd rfl this

theorem seq_fails {α β} {r : PR α} {fe : SkErr → SkErr} {k : α → Nat → PR β} (h : Fails r) : Fails (seq r fe k) := by
  cases r with
  | error e => intro y hy; cases hy
  | ok y => exact absurd rfl (h y)

theorem readByte_fails (d : Bytes) (pos : Nat) : Fails (readByte (d.take pos) pos) := by
  simp [Fails, readByte, List.getElem?_take_eq_none (Nat.le_refl _)]

theorem readUvarint_fails (mx : Nat) (d : Bytes) (pos : Nat) : Fails (readUvarint mx (d.take pos) pos) := by
  simp [Fails, readUvarint, goUvarint, uvLoop, List.getElem?_take_eq_none (Nat.le_refl _)]

theorem readVarint_fails (lo hi : Int) (d : Bytes) (pos : Nat) : Fails (readVarint lo hi (d.take pos) pos) := by
  simp [Fails, readVarint, goUvarint, uvLoop, List.getElem?_take_eq_none (Nat.le_refl _)]

theorem readFloat_fails (d : Bytes) (pos : Nat) : Fails (readFloat (d.take pos) pos) := by
  simp only [Fails, readFloat, List.length_take]
  rw [if_pos (by omega)]
  nofun

theorem readField_prog (d : Bytes) (pos : Nat) : Prog d pos (readField d pos) :=
  prog_of_rel (readField · pos) (readField_rel d pos) (seq_fails (readByte_fails d pos))

theorem readList_prog (d : Bytes) (pos : Nat) : Prog d pos (readList d pos) :=
  prog_of_rel (readList · pos) (readList_rel d pos) (seq_fails (readByte_fails d pos))

theorem readMap_prog (d : Bytes) (pos : Nat) : Prog d pos (readMap d pos) :=
  prog_of_rel (readMap · pos) (readMap_rel d pos) (seq_fails (readUvarint_fails _ d pos))

theorem val_fails (d : Bytes) (f ty pos : Nat) (h1 : ty ≠ 1) (h2 : ty ≠ 2) :
    Fails (skipT (d.take pos) f (.val ty) pos) := by
  cases f with
  | zero => nofun
  | succ f =>
    simp only [skipT]
    -- bullets: `ty` = 1..13 (TRUE FALSE I8 I16 I32 I64 DOUBLE BINARY LIST SET MAP STRUCT UUID), then every other code
    split
    · exact absurd rfl h1
    · exact absurd rfl h2
    · exact seq_fails (readByte_fails d pos)
    · exact seq_fails (readVarint_fails _ _ d pos)
    · exact seq_fails (readVarint_fails _ _ d pos)
    · exact seq_fails (readVarint_fails _ _ d pos)
    · exact readFloat_fails d pos
    · exact seq_fails (readUvarint_fails _ d pos)
    · exact seq_fails (seq_fails (readByte_fails d pos))
    · exact seq_fails (seq_fails (readByte_fails d pos))
    · exact seq_fails (seq_fails (readUvarint_fails _ d pos))
    · cases f with
      | zero => nofun
      | succ f => simp only [skipT]; exact seq_fails (seq_fails (readByte_fails d pos))
    · exact seq_fails (readFloat_fails d pos)
    · nofun

theorem item_prog (d : Bytes) (f ty pos : Nat) : Prog d pos (skipT d f (.item ty) pos) := by
  refine prog_of_rel (skipT · f (.item ty) pos) (fun m => skipT_rel d m f _ pos) ?_
  cases f with
  | zero => nofun
  | succ f =>
    simp only [skipT]
    split
    · exact seq_fails (readByte_fails d pos)
    · rename_i hb
      simp only [Bool.or_eq_true, beq_iff_eq, not_or] at hb
      exact val_fails d f ty pos hb.1 hb.2

theorem fields_prog (d : Bytes) (f : Nat) (first : Bool) (pos : Nat) : Prog d pos (skipT d f (.fields first) pos) := by
  refine prog_of_rel (skipT · f (.fields first) pos) (fun m => skipT_rel d m f _ pos) ?_
  cases f with
  | zero => nofun
  | succ f => simp only [skipT]; exact seq_fails (seq_fails (readByte_fails d pos))

/-- why `4·rem + w` units of fuel suffice: a call either consumes a byte (and the next task may weigh
    up to 3 more) or stays where it is and hands on to a lighter task -/
theorem fuel_consume {L pos p f w w' : Nat} (hn : 4 * (L - pos) + w ≤ f + 1) (hp : pos < p) (hL : p ≤ L)
    (hw : w' ≤ w + 3) : 4 * (L - p) + w' ≤ f := by omega

theorem fuel_wrap {r f w w' : Nat} (hn : 4 * r + w ≤ f + 1) (hw : w' < w) : 4 * r + w' ≤ f := by omega

/-- fuel that suffices for a task with `rem` bytes left. The weights follow the chain of calls that do not
    consume: `items`/`pairs` (6) → `item` (5) → `val` (4) → `fields` (3), and `fields` reads a byte. -/
def need : Task → Nat → Nat
  | .val _, rem => 4 * rem + 4
  | .item _, rem => 4 * rem + 5
  | .items _ _, rem => 4 * rem + 6
  | .pairs _ _ _, rem => 4 * rem + 6
  | .fields _, rem => 4 * rem + 3

theorem readByte_nofuel (d : Bytes) (pos : Nat) : readByte d pos ≠ .error .fuel := by
  unfold readByte; split <;> intro h <;> cases h
theorem readUvarint_nofuel (mx : Nat) (d : Bytes) (pos : Nat) : readUvarint mx d pos ≠ .error .fuel := by
  unfold readUvarint; split
  · intro h; cases h
  · intro h; cases h
  · split <;> intro h <;> cases h
theorem readVarint_nofuel (lo hi : Int) (d : Bytes) (pos : Nat) : readVarint lo hi d pos ≠ .error .fuel := by
  unfold readVarint; split
  · intro h; cases h
  · intro h; cases h
  · split <;> intro h <;> cases h
theorem readFloat_nofuel (d : Bytes) (pos : Nat) : readFloat d pos ≠ .error .fuel := by
  unfold readFloat; split <;> intro h <;> cases h
theorem discard_nofuel (n : Nat) (d : Bytes) (pos : Nat) : discard n d pos ≠ .error .fuel := by
  unfold discard; split <;> intro h <;> cases h
theorem ok_nofuel {α} (y : α × Nat) : (Except.ok y : PR α) ≠ .error .fuel := by intro h; cases h
theorem ite_nofuel {α} (c : Prop) [Decidable c] {r1 r2 : PR α} (h1 : r1 ≠ .error .fuel) (h2 : r2 ≠ .error .fuel) :
    (if c then r1 else r2) ≠ .error .fuel := by split <;> assumption

theorem skipBinary_nofuel (d : Bytes) (pos : Nat) : skipBinary d pos ≠ .error .fuel := by
  unfold skipBinary
  exact seq_nofuel _ (readUvarint_nofuel _ d pos) fun n p _ =>
    ite_nofuel _ (ok_nofuel _) (seq_nofuel _ (discard_nofuel n d p) fun _ q _ => ok_nofuel _)
theorem readField_nofuel (d : Bytes) (pos : Nat) : readField d pos ≠ .error .fuel := by
  unfold readField
  exact seq_nofuel _ (readByte_nofuel d pos) fun b p _ =>
    ite_nofuel _ (ok_nofuel _) (ite_nofuel _ (ok_nofuel _) (seq_nofuel _ (readVarint_nofuel _ _ d p) fun _ q _ => ok_nofuel _))
theorem readList_nofuel (d : Bytes) (pos : Nat) : readList d pos ≠ .error .fuel := by
  unfold readList
  exact seq_nofuel _ (readByte_nofuel d pos) fun b p _ =>
    ite_nofuel _ (ok_nofuel _) (seq_nofuel _ (readUvarint_nofuel _ d p) fun _ q _ => ok_nofuel _)
theorem readMap_nofuel (d : Bytes) (pos : Nat) : readMap d pos ≠ .error .fuel := by
  unfold readMap
  exact seq_nofuel _ (readUvarint_nofuel _ d pos) fun n p _ =>
    ite_nofuel _ (ok_nofuel _) (seq_nofuel _ (readByte_nofuel d p) fun _ q _ => ok_nofuel _)

theorem skipT_nofuel (d : Bytes) (f : Nat) (t : Task) (pos : Nat) (hpos : pos ≤ d.length)
    (hn : need t (d.length - pos) ≤ f) : skipT d f t pos ≠ .error .fuel := by
  fun_induction skipT d f t pos
  -- the cases of `skipT` in the order of its text: fuel 0; `val` 1..13 and the other codes; `item` bool / not; `items` 0 / n+1; `pairs` 0 / n+1; `fields`
  · rename_i t _; cases t <;> simp [need] at hn
  all_goals simp only [need] at hn
  · exact ok_nofuel _
  · exact ok_nofuel _
  · exact seq_nofuel _ (readByte_nofuel d _) fun _ p _ => ok_nofuel _
  · exact seq_nofuel _ (readVarint_nofuel _ _ d _) fun _ p _ => ok_nofuel _
  · exact seq_nofuel _ (readVarint_nofuel _ _ d _) fun _ p _ => ok_nofuel _
  · exact seq_nofuel _ (readVarint_nofuel _ _ d _) fun _ p _ => ok_nofuel _
  · exact readFloat_nofuel d _
  · exact skipBinary_nofuel d _
  · rename_i f pos ih
    refine seq_nofuel _ (readList_nofuel d pos) fun l p e => ?_
    have := readList_prog d pos l p e
    exact ih l p this.2 (fuel_consume hn this.1 this.2 (by decide))
  · rename_i f pos ih
    refine seq_nofuel _ (readList_nofuel d pos) fun l p e => ?_
    have := readList_prog d pos l p e
    exact ih l p this.2 (fuel_consume hn this.1 this.2 (by decide))
  · rename_i f pos ih
    refine seq_nofuel _ (readMap_nofuel d pos) fun mp p e => ?_
    have := readMap_prog d pos mp p e
    cases mp with
    | none => exact ok_nofuel _
    | some x => obtain ⟨kt, vt, n⟩ := x; exact ih p kt vt n this.2 (fuel_consume hn this.1 this.2 (by decide))
  · rename_i f pos ih
    exact ih hpos (fuel_wrap hn (by decide))
  · exact seq_nofuel _ (readFloat_nofuel d _) fun _ p _ => readFloat_nofuel d p
  · nofun
  · exact seq_nofuel _ (readByte_nofuel d _) fun _ p _ => ok_nofuel _
  · rename_i f ty pos _ ih
    exact ih hpos (fuel_wrap hn (by decide))
  · exact ok_nofuel _
  · rename_i f ty n pos ih1 ih2
    refine seq_nofuel _ (ih1 hpos (fuel_wrap hn (by decide))) fun _ p e => ?_
    have := item_prog d f ty pos _ p e
    exact ih2 p this.2 (fuel_consume hn this.1 this.2 (by decide))
  · exact ok_nofuel _
  · rename_i f kt vt n pos ih1 ih2 ih3
    refine seq_nofuel _ (ih1 hpos (fuel_wrap hn (by decide))) fun _ p e => ?_
    have h1 := item_prog d f kt pos _ p e
    refine seq_nofuel _ (ih2 p h1.2 (fuel_consume hn h1.1 h1.2 (by decide))) fun _ q e2 => ?_
    have h2 := item_prog d f vt p _ q e2
    exact ih3 q h2.2 (fuel_consume hn (Nat.lt_trans h1.1 h2.1) h2.2 (by decide))
  · rename_i f first pos ih1 ih2
    refine seq_nofuel _ (readField_nofuel d pos) fun h p e => ?_
    have h1 := readField_prog d pos h p e
    cases h with
    | none => exact ok_nofuel _
    | some ty =>
      refine seq_nofuel _ (ih1 p ty h1.2 (fuel_consume hn h1.1 h1.2 (by decide))) fun _ q e2 => ?_
      have h2 := skipT_mono d f _ p _ q e2
      exact ih2 q (h2.2 h1.2) (fuel_consume hn (Nat.lt_of_lt_of_le h1.1 h2.1) (h2.2 h1.2) (by decide))

def Same {α} (r r' : PR α) : Prop := r ≠ .error .fuel → r' = r

theorem Same.refl {α} (r : PR α) : Same r r := fun _ => rfl

theorem seq_same {α β} {r r' : PR α} (fe : SkErr → SkErr) [hfe : FuelOnly fe] {k k' : α → Nat → PR β}
    (hr : Same r r') (hk : ∀ a p, Same (k a p) (k' a p)) : Same (seq r fe k) (seq r' fe k') := by
  intro h
  cases r with
  | error e =>
    have : (Except.error e : PR α) ≠ .error .fuel := by
      intro he
      injection he with he
      subst he
      simp only [seq, hfe.fix] at h
      exact h rfl
    rw [hr this]
    rfl
  | ok ap =>
    obtain ⟨a, p⟩ := ap
    rw [hr (by intro he; cases he)]
    simp only [seq] at h ⊢
    exact hk a p h

theorem skipT_same (d : Bytes) : ∀ (f f' : Nat) (t : Task) (pos : Nat), f ≤ f' →
    Same (skipT d f t pos) (skipT d f' t pos) := by
  intro f
  induction f with
  | zero => intro f' t pos _ h; exact absurd (skipT_zero d t pos) h
  | succ f ih =>
    intro f' t pos hf
    obtain ⟨f', rfl⟩ : ∃ k, f' = k + 1 := ⟨f' - 1, by omega⟩
    replace ih := fun t pos => ih f' t pos (by omega)
    cases t with
    | val ty =>
      simp only [skipT]
      -- only LIST, SET, MAP and STRUCT (codes 9-12, the four bullets left) recurse; the other types are the same term at both fuels
      split <;> try exact Same.refl _
      · exact seq_same _ (Same.refl _) fun l p => ih _ p
      · exact seq_same _ (Same.refl _) fun l p => ih _ p
      · refine seq_same _ (Same.refl _) fun mp p => ?_
        cases mp with
        | none => exact Same.refl _
        | some x => obtain ⟨kt, vt, n⟩ := x; exact ih _ p
      · exact ih _ pos
    | item ty =>
      simp only [skipT]
      split
      · exact Same.refl _
      · exact ih _ pos
    | items ty n =>
      cases n with
      | zero => simp only [skipT]; exact Same.refl _
      | succ n => simp only [skipT]; exact seq_same _ (ih _ pos) fun _ p => ih _ p
    | pairs kt vt n =>
      cases n with
      | zero => simp only [skipT]; exact Same.refl _
      | succ n =>
        simp only [skipT]
        exact seq_same _ (ih _ pos) fun _ p => seq_same _ (ih _ p) fun _ q => ih _ q
    | fields first =>
      simp only [skipT]
      refine seq_same _ (Same.refl _) fun h p => ?_
      cases h with
      | none => exact Same.refl _
      | some ty => exact seq_same _ (ih _ p) fun _ q => ih _ q

/-- once the walk did not run out of fuel, any larger fuel gives the same answer -/
theorem skipT_fuel_irrelevant (d : Bytes) (t : Task) (pos : Nat) {f f' : Nat} (h : f ≤ f')
    (hn : skipT d f t pos ≠ .error .fuel) : skipT d f' t pos = skipT d f t pos :=
  skipT_same d f f' t pos h hn

theorem skipT_fuel_mono (d : Bytes) (t : Task) (pos : Nat) {f f' : Nat} (h : f ≤ f') (y : Unit × Nat)
    (hy : skipT d f t pos = .ok y) : skipT d f' t pos = .ok y := by
  rw [skipT_fuel_irrelevant d t pos h (by rw [hy]; exact ok_nofuel y), hy]

theorem skipStruct_nofuel (d : Bytes) : skipT d (fuelFor d) (.fields true) 0 ≠ .error .fuel :=
  skipT_nofuel d (fuelFor d) (.fields true) 0 (Nat.zero_le _) (by simp only [need, fuelFor]; omega)

theorem skipStruct_eq_of_fuel (d : Bytes) (f : Nat) (h : fuelFor d ≤ f) :
    skipT d f (.fields true) 0 = skipT d (fuelFor d) (.fields true) 0 :=
  skipT_fuel_irrelevant d _ 0 h (skipStruct_nofuel d)

end PqModel.ThriftSkip
