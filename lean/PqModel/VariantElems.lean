/-! # Element groups of a typed list in the columnar VariantReader

MIRROR of the `LocTypedList` branch of `VariantCursor.processElements`
(variant_column_reader.go:982-1024): the two-pointer walk over `startsP = plw.starts(p.depth)` (the
slot groups of the list cursor in its presence leaf) and `startsE = plw.starts(c.depth)` (the slot
groups one repetition level deeper = the elements), which gives every entry of the list cursor the
element groups `h` that lie inside its own slot range, and `listOffsets`.
Both `starts` arrays end with the sentinel `numSlots`. -/
namespace PqModel.VariantWindow

/-- `for h < len(startsE)-1 && startsE[h] < bound { h++ }` (:1003-1005 and, with the body that
    appends an entry for `h`, :1007-1011); fuel = an upper bound of the iterations -/
def skipTo (startsE : List Nat) (bound : Nat) : Nat → Nat → Nat
  | 0, h => h
  | fuel + 1, h =>
    if h < startsE.length - 1 ∧ startsE.getD h 0 < bound then skipTo startsE bound fuel (h + 1) else h

/-- one entry per element of the result: the element groups appended for that entry of the list
    cursor. `entries`: `some g` = an entry tagged LocTypedList with slot group `g`, `none` = any other
    entry (the residual branch is modelled in VariantCursor.lean); `present s` = `plw.defs[s] >=
    p.elemsDefAbs`. -/
def elemsLoop (startsP startsE : List Nat) (present : Nat → Bool) : List (Option Nat) → Nat → List (List Nat)
  | [], _ => []
  | none :: es, h => [] :: elemsLoop startsP startsE present es h
  | some g :: es, h =>
    if g ≥ startsP.length - 1 then [] :: elemsLoop startsP startsE present es h
    else
      let gs := startsP.getD g 0
      let ge := startsP.getD (g + 1) 0
      let h1 := skipTo startsE gs startsE.length h
      if present gs then
        let h2 := skipTo startsE ge startsE.length h1
        List.range' h1 (h2 - h1) :: elemsLoop startsP startsE present es h2
      else [] :: elemsLoop startsP startsE present es h1

/-- `p.listOffsets` :992, :1021: the running number of element entries -/
def listOffsetsFrom : Nat → List (List Nat) → List Nat
  | k, [] => [k]
  | k, l :: ls => k :: listOffsetsFrom (k + l.length) ls

end PqModel.VariantWindow
