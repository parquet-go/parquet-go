import PqModel.HashProbeProofs
/-! The group of `table32` / `table64` as the Go struct — ALL `G` key and value slots plus `bits` — and the step
the probing loop takes at one group (hashprobe.go:299-322, :544-567), proved equal to the step on the occupied
prefix that `locate` / `probeKey` of PqModel/HashProbe.lean take. This discharges the
reading "the key scan over all G slots is the first match in the occupied prefix": an unoccupied slot may
well hold the probed key (the zero key after `make`/`reset`), the `index < n` test rejects it. -/
namespace PqModel.HashProbe

set_option linter.unusedSectionVars false
variable {α : Type} [DecidableEq α]

/-- `table32Group` / `table64Group`: `keys [G]`, `values [G]`, `n = OnesCount32(bits)` (`bits = 2^n - 1`) -/
structure ArrGroup (α : Type) where
  keys : List α
  vals : List Nat
  n : Nat
  deriving DecidableEq

/-- `index := G; for j, k := range group.keys { if k == key { index = j; break } }` (all slots) -/
def scanIndex (key : α) : List α → Nat
  | [] => 0
  | k :: ks => if k = key then 0 else scanIndex key ks + 1

inductive GroupStep (β : Type) where
  | found (v : Nat)
  | full
  | put (g : β)
  deriving DecidableEq

def GroupStep.map {β γ : Type} (f : β → γ) : GroupStep β → GroupStep γ
  | .found v => .found v
  | .full => .full
  | .put g => .put (f g)

/-- MIRROR of the loop body at one group (hashprobe.go:299-322): `if n := OnesCount32(group.bits); index < n
    { value = group.values[index] } else { if n == G { hash++; continue }; … group.keys[n] = key … }` -/
def arrStep (G : Nat) (g : ArrGroup α) (key : α) (numKeys : Nat) : GroupStep (ArrGroup α) :=
  let index := scanIndex key g.keys
  if index < g.n then .found (g.vals.getD index 0)
  else if g.n = G then .full
  else .put { keys := g.keys.set g.n key, vals := g.vals.set g.n numKeys, n := g.n + 1 }

/-- the step of `locate` / `probeKey` at one group of the prefix model -/
def prefStep (G : Nat) (g : List (α × Nat)) (key : α) (numKeys : Nat) : GroupStep (List (α × Nat)) :=
  match gfind key g with
  | some v => .found v
  | none => if g.length = G then .full else .put (g ++ [(key, numKeys)])

/-- the occupied prefix -/
def ArrGroup.abs (g : ArrGroup α) : List (α × Nat) := (g.keys.take g.n).zip (g.vals.take g.n)

def ArrGroup.WF (G : Nat) (g : ArrGroup α) : Prop := g.keys.length = G ∧ g.vals.length = G ∧ g.n ≤ G

theorem gfind_prefix : ∀ (ks : List α) (vs : List Nat) (n : Nat) (key : α), n ≤ ks.length → n ≤ vs.length →
    gfind key ((ks.take n).zip (vs.take n))
      = if scanIndex key ks < n then some (vs.getD (scanIndex key ks) 0) else none
  | _, _, 0, _, _, _ => by simp [gfind]
  | [], _, n + 1, _, h, _ => by simp at h
  | _ :: _, [], n + 1, _, _, h => by simp at h
  | k :: ks, v :: vs, n + 1, key, h1, h2 => by
    by_cases e : k = key
    · have es : scanIndex key (k :: ks) = 0 := by simp [scanIndex, e]
      rw [es]; simp [gfind, e]
    · have es : scanIndex key (k :: ks) = scanIndex key ks + 1 := by simp [scanIndex, e]
      rw [es]
      simp only [List.take_succ_cons, List.zip_cons_cons, gfind, if_neg e, Nat.add_lt_add_iff_right,
        List.getD_cons_succ]
      exact gfind_prefix ks vs n key (by simpa using h1) (by simpa using h2)

theorem take_succ_set {β : Type} : ∀ (l : List β) (n : Nat) (x : β), n < l.length →
    (l.set n x).take (n + 1) = l.take n ++ [x]
  | [], _, _, h => by simp at h
  | _ :: _, 0, _, _ => by simp
  | a :: l, n + 1, x, h => by
    simp only [List.set_cons_succ, List.take_succ_cons, List.cons_append]
    rw [take_succ_set l n x (by simpa using h)]

theorem abs_length (G : Nat) (g : ArrGroup α) (hw : g.WF G) : g.abs.length = g.n := by
  obtain ⟨a, b, c⟩ := hw
  simp only [ArrGroup.abs, List.length_zip, List.length_take]; omega

/-- the zero key is not found in a group that holds it only in an unoccupied slot: it is inserted -/
example : arrStep 4 ({ keys := [5, 0, 0, 0], vals := [0, 0, 0, 0], n := 1 } : ArrGroup Nat) 0 1
    = .put { keys := [5, 0, 0, 0], vals := [0, 1, 0, 0], n := 2 } := by decide

/-! ### table128: one slot = a group of one entry -/

/-- a slot of `table128`: `tableKeys[j]` and `tableValues[j]` (0 = empty, otherwise the number plus one) -/
def abs128 (s : α × Nat) : List (α × Nat) := if s.2 = 0 then [] else [(s.1, s.2 - 1)]

/-- MIRROR of the loop body of `multiProbe128Default` at one slot (hashprobe.go:762-778): `if v == 0 {
    values[i] = tableLen; tableLen++; tableKeys[j] = key; tableValues[j] = tableLen } else if key ==
    tableKeys[j] { values[i] = v - 1 } else { hash++ }` -/
def slotStep128 (s : α × Nat) (key : α) (tableLen : Nat) : GroupStep (α × Nat) :=
  if s.2 = 0 then .put (key, tableLen + 1)
  else if key = s.1 then .found (s.2 - 1)
  else .full

end PqModel.HashProbe
