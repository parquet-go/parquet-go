import PqModel.DictReset
import PqModel.HashProbeFirstSeen

/-! # The probe-table dictionaries stated OVER the hashprobe table mirror (property C04, part "plain")

`DictReset.lean` mirrors the Insert/Reset state machine of the seven probe-table dictionary types
(int32/int64/float/double/uint32/uint64/be128) with the table as a LIST ORACLE (`ProbeDict.table : Option
(List α)`, probed with `Plain.insertAll`). `HashProbe.lean` mirrors the real open-addressing tables. This file
states the same Go code (`dictionary_int32.go:42-109`, same code in `dictionary_{int64,float,double,uint32,
uint64}.go`, `dictionary_be128.go:40-128`) over the TABLE MIRROR: `d.table` is a `HashProbe.Table`, `init`
is `NewXxxTable` + the `Probe` loop over the page, `insert` is the chunk loop over `ProbeArray`, `Reset` is
`table.Reset()`.

Reading of the code:
* `Cfg` collects what differs between the types: the group size `G` (7 / 4 / 1), the clamp of the requested
  capacity in `makeTableNN` (`if cap < 7` / `4` / `8`, hashprobe.go:183, :428, :622), the sizing oracle `sz`
  (`tableSizeAndMaxLen`), and the stream of seeds `randSeed()` returns: `seeds k` is the hash function keyed by
  the k-th seed drawn, an ARBITRARY function. `tick` counts the seeds drawn so far: `NewXxxTable` draws one,
  every `Probe`/`ProbeArray` call is given the one its `grow` would draw (as in `HashProbe.session`).
* `ProbeArray` returns `t.len - baseLength` (hashprobe.go:289); the mirror reads it off the two tables.
* `Insert(indexes, values)`: `indexes` has the length of the batch (what `init` sees as `len(indexes)`).
* the `init` loop `for i := 0; i < len(values); i += n` (dictionary_int32.go:46-51) is mirrored AS IT IS with
  fuel = `len(values)`: for `n ≥ 1` every round consumes a value; for `n = 0` (an EMPTY batch inserted first
  into a dictionary created over a NON-EMPTY page) `i` never moves and the real loop never ends
  (`initLoop_zero_hangs`: `none` for every fuel). -/
namespace PqModel.DictTable
open PqModel.Plain PqModel.DictReset PqModel.HashProbe

variable {α : Type} [DecidableEq α]

/-- what distinguishes the probe-table dictionary types, and the seeds the run will draw -/
structure Cfg (α : Type) where
  /-- group size of the table: 7 (table32), 4 (table64), 1 (table128) -/
  G : Nat
  /-- `if cap < minCap { cap = minCap }` of `makeTableNN`: 7, 4, 8 -/
  minCap : Nat
  /-- `tableSizeAndMaxLen(groupSize, cap, maxLoad)`: number of groups, maxLen -/
  sz : Nat → Nat × Nat
  /-- the hash function keyed by the k-th seed `randSeed()` returns -/
  seeds : Nat → α → Nat

/-- the page `values`, the table pointer (`none` = nil) and the number of seeds drawn so far -/
structure TableDict (α : Type) where
  values : List α
  table : Option (Table α)
  tick : Nat

/-- `newInt32Dictionary` (dictionary_int32.go:18-28): the page as read, `table == nil` -/
def tableNew (page : List α) (tick : Nat) : TableDict α := { values := page, table := none, tick := tick }

/-- MIRROR of `for i := 0; i < len(values); i += n { j := min(i+n, len(values));
    d.table.Probe(values[i:j:j], indexes[:n:n]) }` (dictionary_int32.go:48-51); `rest` is `values[i:]`.
    `none` = the loop has not ended within `fuel` rounds -/
def initLoop (c : Cfg α) (n : Nat) : Nat → Table α → Nat → List α → Option (Table α × Nat)
  | _, t, k, [] => some (t, k)
  | 0, _, _, _ :: _ => none
  | fuel + 1, t, k, x :: xs =>
    match probeArray c.G c.sz (c.seeds k) t ((x :: xs).take n) with
    | none => none
    | some (t1, _) => initLoop c n fuel t1 (k + 1) ((x :: xs).drop n)

/-- MIRROR of `int32Dictionary.init(indexes)` (dictionary_int32.go:42-52; be128: dictionary_be128.go:76-85):
    `hashprobe.NewInt32Table(len(values), maxLoad)` (capacity clamped by `makeTable32`), `n := min(len(values),
    len(indexes))`, then the loop -/
def tableInit (c : Cfg α) (values : List α) (tick numIndexes : Nat) : Option (Table α × Nat) :=
  initLoop c (min values.length numIndexes) values.length
    (mkTable c.sz (c.seeds tick) (max values.length c.minCap)) (tick + 1) values

/-- MIRROR of the chunk loop of `int32Dictionary.insert` (dictionary_int32.go:76-86; be128:
    dictionary_be128.go:59-73, :96-106): `if d.table.ProbeArray(chunk, indexes[i:j:j]) > 0 { append loop }`,
    over the REAL table -/
def tableChunks (c : Cfg α) (values : List α) (t : Table α) (k : Nat) :
    List (List α) → Option ((List α × Table α × Nat) × List Nat)
  | [] => some ((values, t, k), [])
  | ch :: cs =>
    match probeArray c.G c.sz (c.seeds k) t ch with
    | none => none
    | some (t1, idx) =>
      let v := if t1.len - t.len > 0 then appendLoop values ch idx else values
      match tableChunks c v t1 (k + 1) cs with
      | none => none
      | some (r, idxs) => some (r, idx ++ idxs)

/-- `if d.table == nil { d.init(indexes) }` (dictionary_int32.go:70-72) -/
def tableEnsure (c : Cfg α) (g : TableDict α) (numIndexes : Nat) : Option (Table α × Nat) :=
  match g.table with
  | some t => some (t, g.tick)
  | none => tableInit c g.values g.tick numIndexes

/-- MIRROR of `int32Dictionary.insert` (dictionary_int32.go:55-87) over the table mirror -/
def tableInsert (c : Cfg α) (g : TableDict α) (chunks : List (List α)) : Option (TableDict α × List Nat) :=
  match tableEnsure c g chunks.flatten.length with
  | none => none
  | some (t, k) =>
    match tableChunks c g.values t k chunks with
    | none => none
    | some ((v, t', k'), idx) => some ({ values := v, table := some t', tick := k' }, idx)

/-- MIRROR of `int32Dictionary.Reset` (dictionary_int32.go:104-109): `d.values.Reset(); if d.table != nil {
    d.table.Reset() }` with `table32.reset` (hashprobe.go:241-247) -/
def tableReset (g : TableDict α) : TableDict α := { g with values := [], table := g.table.map reset }

/-- a `Reset` that forgets `d.table.Reset()` -/
def tableResetKeepingTable (g : TableDict α) : TableDict α := { g with values := [] }

/-- the session with that `Reset` -/
def tableRunKeepingTable (c : Cfg α) : TableDict α → List (Op α) → Option (TableDict α × List (List Nat))
  | g, [] => some (g, [])
  | g, .reset :: ops => (tableRunKeepingTable c (tableResetKeepingTable g) ops).map fun r => (r.1, [] :: r.2)
  | g, .insert cs :: ops =>
    match tableInsert c g cs with
    | none => none
    | some (g1, out) => (tableRunKeepingTable c g1 ops).map fun r => (r.1, out :: r.2)

def tableStep (c : Cfg α) (g : TableDict α) : Op α → Option (TableDict α × List Nat)
  | .insert cs => tableInsert c g cs
  | .reset => some (tableReset g, [])

/-- a session of `Insert` / `Reset` calls on the composed mirror (dictionary type → table → groups); `none` =
    some call never returns -/
def tableRun (c : Cfg α) : TableDict α → List (Op α) → Option (TableDict α × List (List Nat))
  | g, [] => some (g, [])
  | g, op :: ops =>
    match tableStep c g op with
    | none => none
    | some (g1, out) =>
      match tableRun c g1 ops with
      | none => none
      | some (g2, outs) => some (g2, out :: outs)

/-- the table-level state `s` represents the list-oracle state `g` of `DictReset.lean`: same page, and the
    real table represents the numbering of the oracle's key list -/
def Rep (c : Cfg α) (s : TableDict α) (g : ProbeDict α) : Prop :=
  s.values = g.values ∧
  match s.table, g.table with
  | none, none => True
  | some t, some d => TInv c.G t (numbering d)
  | _, _ => False

/-- the first call of the session is not an `Insert` of an empty batch -/
def firstOk : List (Op α) → Prop
  | .insert cs :: _ => cs.flatten ≠ []
  | _ => True

theorem Rep.cases {c : Cfg α} {s : TableDict α} {g : ProbeDict α} (hr : Rep c s g) :
    (s.table = none ∧ g.table = none) ∨
      ∃ t d, s.table = some t ∧ g.table = some d ∧ TInv c.G t (numbering d) := by
  obtain ⟨_, ht⟩ := hr
  cases hs : s.table <;> cases hg : g.table <;> simp only [hs, hg] at ht
  · exact Or.inl ⟨rfl, rfl⟩
  · exact Or.inr ⟨_, _, rfl, rfl, ht⟩

theorem initLoop_zero_hangs (c : Cfg α) : ∀ (fuel : Nat) (t : Table α) (k : Nat) (x : α) (xs : List α),
    initLoop c 0 fuel t k (x :: xs) = none
  | 0, _, _, _, _ => rfl
  | fuel + 1, t, k, x, xs => by
    simp only [initLoop, List.take_zero, List.drop_zero]
    cases probeArray c.G c.sz (c.seeds k) t [] with
    | none => rfl
    | some r => exact initLoop_zero_hangs c fuel r.1 (k + 1) x xs

theorem initLoop_refines (c : Cfg α) (hsz : SizingOk c.G c.sz) (n : Nat) (hn : 1 ≤ n) :
    ∀ (fuel : Nat) (t : Table α) (k : Nat) (rest d : List α), TInv c.G t (numbering d) → rest.length ≤ fuel →
      ∃ t' k', initLoop c n fuel t k rest = some (t', k') ∧ TInv c.G t' (numbering (insertAll d rest).1)
  | fuel, t, k, [], d, ti, _ => ⟨t, k, by cases fuel <;> rfl, ti⟩
  | 0, _, _, _ :: _, _, _, hl => by simp at hl
  | fuel + 1, t, k, x :: xs, d, ti, hl => by
    obtain ⟨t1, e1, ti1⟩ := probeArray_refines hsz (c.seeds k) ti ((x :: xs).take n)
    rw [specProbe_numbering] at e1 ti1
    have hd : ((x :: xs).drop n).length ≤ fuel := by
      simp only [List.length_drop, List.length_cons] at hl ⊢; omega
    obtain ⟨t', k', e2, ti2⟩ := initLoop_refines c hsz n hn fuel t1 (k + 1) ((x :: xs).drop n) _ ti1 hd
    refine ⟨t', k', by simp only [initLoop, e1, e2], ?_⟩
    have := insertAll_append d ((x :: xs).take n) ((x :: xs).drop n)
    rw [List.take_append_drop] at this
    rw [this]; exact ti2

theorem tableChunks_refines (c : Cfg α) (hsz : SizingOk c.G c.sz) :
    ∀ (cs : List (List α)) (values : List α) (t : Table α) (k : Nat) (d : List α), TInv c.G t (numbering d) →
      ∃ t' k', tableChunks c values t k cs
          = some (((probeChunks values d cs).1.1, t', k'), (probeChunks values d cs).2)
        ∧ TInv c.G t' (numbering (probeChunks values d cs).1.2)
  | [], values, t, k, d, ti => ⟨t, k, rfl, ti⟩
  | ch :: cs, values, t, k, d, ti => by
    obtain ⟨t1, e1, ti1⟩ := probeArray_refines hsz (c.seeds k) ti ch
    rw [specProbe_numbering] at e1 ti1
    have hcnt : (t1.len - t.len > 0) ↔ d.length < (insertAll d ch).1.length := by
      rw [ti1.len, ti.len, numbering_length, numbering_length]; omega
    obtain ⟨t', k', e2, ti2⟩ := tableChunks_refines c hsz cs
      (if d.length < (insertAll d ch).1.length then appendLoop values ch (insertAll d ch).2 else values)
      t1 (k + 1) _ ti1
    refine ⟨t', k', ?_, ?_⟩
    · simp only [tableChunks, e1, hcnt, e2, probeChunks]
    · simpa only [probeChunks] using ti2

/-- `if d.table == nil { d.init(indexes) }` yields a table representing `probeTable` of the oracle state,
    unless it is the hanging case -/
theorem tableEnsure_refines (c : Cfg α) (hsz : SizingOk c.G c.sz) (s : TableDict α) (g : ProbeDict α)
    (hr : Rep c s g) (numIndexes : Nat) (hok : s.table = none → s.values ≠ [] → numIndexes ≠ 0) :
    ∃ t k, tableEnsure c s numIndexes = some (t, k) ∧ TInv c.G t (numbering (probeTable g)) := by
  have hv := hr.1
  rcases hr.cases with ⟨hs, hg⟩ | ⟨t, d, hs, hg, ht⟩
  · have ti0 := mkTable_inv (G := c.G) hsz (c.seeds s.tick) (max s.values.length c.minCap)
    by_cases hne : s.values = []
    · refine ⟨_, _, by simp only [tableEnsure, hs, tableInit, hne, initLoop]; rfl, ?_⟩
      simpa [probeTable, hg, ← hv, hne, insertAll, numbering] using ti0
    · have hn : 1 ≤ min s.values.length numIndexes := by
        have := hok hs hne
        have : s.values.length ≠ 0 := fun h => hne (List.eq_nil_of_length_eq_zero h)
        omega
      obtain ⟨t', k', e, ti⟩ := initLoop_refines c hsz _ hn s.values.length _ (s.tick + 1) s.values []
        (by simpa [numbering] using ti0) (Nat.le_refl _)
      exact ⟨t', k', by simp only [tableEnsure, hs, tableInit, e], by simpa [probeTable, hg, ← hv] using ti⟩
  · exact ⟨t, s.tick, by simp [tableEnsure, hs], by simpa [probeTable, hg] using ht⟩

theorem tableInsert_refines (c : Cfg α) (hsz : SizingOk c.G c.sz) (s : TableDict α) (g : ProbeDict α)
    (hr : Rep c s g) (cs : List (List α)) (hok : s.table = none → s.values ≠ [] → cs.flatten ≠ []) :
    ∃ s', tableInsert c s cs = some (s', (probeInsert g cs).2) ∧ Rep c s' (probeInsert g cs).1
      ∧ s'.table ≠ none := by
  obtain ⟨t, k, e1, ti⟩ := tableEnsure_refines c hsz s g hr cs.flatten.length
    (fun h1 h2 h3 => hok h1 h2 (List.eq_nil_of_length_eq_zero h3))
  obtain ⟨t', k', e2, ti2⟩ := tableChunks_refines c hsz cs s.values t k _ ti
  rw [hr.1] at e2 ti2
  refine ⟨{ values := (probeChunks g.values (probeTable g) cs).1.1, table := some t', tick := k' }, ?_, ?_,
    by simp⟩
  · simp only [tableInsert, e1, hr.1, e2, probeInsert]
  · exact ⟨rfl, by simpa [probeInsert] using ti2⟩

theorem tableReset_refines (c : Cfg α) (s : TableDict α) (g : ProbeDict α) (hr : Rep c s g) :
    Rep c (tableReset s) (probeReset g) := by
  refine ⟨rfl, ?_⟩
  rcases hr.cases with ⟨hs, hg⟩ | ⟨t, d, hs, hg, ht⟩
  · simp [tableReset, probeReset, hs, hg]
  · simpa [tableReset, probeReset, hs, hg, numbering] using reset_inv ht

theorem tableRun_refines (c : Cfg α) (hsz : SizingOk c.G c.sz) :
    ∀ (ops : List (Op α)) (s : TableDict α) (g : ProbeDict α), Rep c s g →
      (s.table = none → s.values ≠ [] → firstOk ops) →
      ∃ s', tableRun c s ops = some (s', (probeMachine.run g ops).2) ∧ Rep c s' (probeMachine.run g ops).1
  | [], s, g, hr, _ => ⟨s, rfl, hr⟩
  | .reset :: ops, s, g, hr, _ => by
    obtain ⟨s', e, hr'⟩ := tableRun_refines c hsz ops (tableReset s) (probeReset g)
      (tableReset_refines c s g hr) (fun _ h => absurd rfl h)
    exact ⟨s', by simp only [tableRun, tableStep, e]; rfl, hr'⟩
  | .insert cs :: ops, s, g, hr, hok => by
    obtain ⟨s1, e1, hr1, hne⟩ := tableInsert_refines c hsz s g hr cs hok
    obtain ⟨s', e, hr'⟩ := tableRun_refines c hsz ops s1 (probeInsert g cs).1 hr1 (fun h => absurd h hne)
    exact ⟨s', by simp only [tableRun, tableStep, e1, e]; rfl, hr'⟩

/-- the hanging call: `Insert` of an empty batch as the first call on a dictionary created over a non-empty
    page (`table == nil`, `n = min(len(values), 0) = 0`) -/
theorem tableInsert_empty_hangs (c : Cfg α) (x : α) (xs : List α) (tick : Nat) (cs : List (List α))
    (he : cs.flatten = []) : tableInsert c (tableNew (x :: xs) tick) cs = none := by
  simp only [tableInsert, tableEnsure, tableNew, tableInit, he, List.length_nil, Nat.min_zero,
    initLoop_zero_hangs]

omit [DecidableEq α] in
theorem firstOk_append (pre post : List (Op α)) (h : firstOk pre) : firstOk (pre ++ .reset :: post) := by
  cases pre with
  | nil => trivial
  | cons op pre => cases op <;> exact h

/-- a small configuration in the theorems' domain: groups of two entries, capacity clamp 2, growth threshold = the whole
    room, colliding hash functions that change with every seed -/
def cfg1 : Cfg Nat :=
  { G := 2, minCap := 2, sz := fun n => (2 ^ (n / 2), 2 * 2 ^ (n / 2)), seeds := fun k x => (x + k) % 3 }

theorem cfg1_ok : SizingOk cfg1.G cfg1.sz := by
  intro n
  refine ⟨⟨n / 2, rfl⟩, ?_, Nat.le_refl _⟩
  have := Nat.lt_two_pow_self (n := n / 2)
  show n ≤ 2 * 2 ^ (n / 2)
  omega

end PqModel.DictTable
