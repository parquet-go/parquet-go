import PqModel.RowsRefineDefs

/-! Refinement `RowsBuf` → `RowsState`: what `Groups` and `WfPages` give — a seek (`seekCursor`) on
    well-formed pages leaves a stream that starts with the row sought (`seek_lands`). -/
namespace PqModel.RowsRefine
open PqModel.RowsBuf

theorem Groups.row_bounds {a b vs} (h : Groups a b vs) : a ≤ b ∧ ∀ v ∈ vs, a ≤ v.row ∧ v.row < b := by
  induction h with
  | nil a => exact ⟨Nat.le_refl _, fun v hv => by cases hv⟩
  | cons hr _ hg _ ih =>
    refine ⟨by omega, ?_⟩
    intro w hw
    simp only [List.mem_cons, List.mem_append] at hw
    rcases hw with hw | hw | hw
    · subst hw; omega
    · have := (hg w hw).1; omega
    · have := ih.2 w hw; omega

theorem Groups.lt_of_ne_nil {p b : Nat} {S : List Val} (h : Groups p b S) (hne : S ≠ []) : p < b := by
  cases S with
  | nil => exact absurd rfl hne
  | cons v S =>
    have := (h.row_bounds).2 v (by simp)
    omega

theorem groups_scan {p b : Nat} {S : List Val} (h : Groups p b S) (hne : S ≠ []) :
    Groups (p + 1) b (S.drop (scanRow 1 S)) ∧ ∀ v ∈ S.take (scanRow 1 S), v.row = p := by
  cases h with
  | nil => exact absurd rfl hne
  | @cons _ _ v g rest hv hr hg hrest =>
    have htw : (g ++ rest).takeWhile (fun v => v.rep != 0) = g := by
      rw [List.takeWhile_append_of_pos (fun w hw => by simpa using (hg w hw).2)]
      cases hrest with
      | nil => simp
      | cons hv' hr' _ _ => simp [hr']
    have hsc : scanRow 1 (v :: (g ++ rest)) = g.length + 1 := by
      simp only [scanRow, List.drop_succ_cons, List.drop_zero, htw]; omega
    rw [hsc]
    refine ⟨by simpa using hrest, ?_⟩
    intro w hw
    simp only [List.take_succ_cons, List.take_left', List.mem_cons] at hw
    rcases hw with rfl | hw
    · exact hv
    · exact (hg w hw).1

theorem Groups.append {a m b X Y} (h1 : Groups a m X) (h2 : Groups m b Y) : Groups a b (X ++ Y) := by
  induction h1 with
  | nil a => simpa using h2
  | cons hr hp hg _ ih =>
    have := Groups.cons hr hp hg (ih h2)
    simpa [List.append_assoc] using this

theorem Groups.filter_ge {a b vs} (h : Groups a b vs) (k : Nat) (hak : a ≤ k) (hkb : k ≤ b) :
    Groups k b (vs.filter fun v => decide (k ≤ v.row)) := by
  induction h with
  | nil a =>
    have : k = a := by omega
    subst this
    exact Groups.nil _
  | @cons a b v g rest hr hp hg hrest ih =>
    by_cases hk : k = a
    · subst hk
      have hall := (Groups.cons hr hp hg hrest).row_bounds.2
      have : (v :: (g ++ rest)).filter (fun v => decide (k ≤ v.row)) = v :: (g ++ rest) := by
        apply List.filter_eq_self.2
        intro w hw
        have := hall w hw
        simp; omega
      rw [this]
      exact Groups.cons hr hp hg hrest
    · have hg' : g.filter (fun v => decide (k ≤ v.row)) = [] := by
        apply List.filter_eq_nil_iff.2
        intro w hw
        have := (hg w hw).1
        simp; omega
      have hv : decide (k ≤ v.row) = false := by simp; omega
      rw [List.filter_cons, hv, List.filter_append, hg']
      simpa using ih (by omega) hkb

theorem WfPages.le {f total : Nat} {ps : List Page} (h : WfPages f ps total) : f ≤ total := by
  induction ps generalizing f with
  | nil => simp only [WfPages] at h; omega
  | cons p ps ih =>
    simp only [WfPages] at h
    have := ih h.2.2.2
    omega

/-- `skip = k - f` rows into pages that start at row `f`, the stream starts with row `k`: pages that
    lie in front of `k` are skipped as a whole -/
theorem pstreamFrom_lands {f total k : Nat} {ps : List Page} (h : WfPages f ps total) (hfk : f ≤ k)
    (hkt : k ≤ total) : Lands k total (pstreamFrom ps (k - f)) := by
  induction ps generalizing f k with
  | nil => exact ⟨k, .nil _, hkt, fun _ => by simp only [WfPages] at h; omega⟩
  | cons p ps ih =>
    obtain ⟨hf, hn, hg, hw⟩ := h
    unfold pstreamFrom
    split
    · exact ⟨k, .nil _, hkt, nofun⟩
    · split
      · obtain ⟨b, hb1, hb2, hb3⟩ := ih hw (Nat.le_refl _) hw.le
        rw [Nat.sub_self] at hb1 hb3
        refine ⟨b, ?_, hb2, hb3⟩
        rw [hf, Nat.add_sub_cancel' hfk]
        exact (hg.filter_ge k hfk (by omega)).append hb1
      · rw [Nat.sub_sub]
        exact ih hw (by omega) hkt

theorem WfPages.drop {f total : Nat} {ps : List Page} (h : WfPages f ps total) (t : Nat) (p : Page)
    (hp : ps[t]? = some p) : WfPages p.firstRow (ps.drop t) total := by
  induction ps generalizing f t with
  | nil => cases hp
  | cons q ps ih =>
    cases t with
    | zero => cases hp; exact h.1 ▸ h
    | succ t => exact ih h.2.2.2 t hp

theorem target_le (k : Nat) (ps : List Page) (h0 : ∀ p, ps.head? = some p → p.firstRow ≤ k) (p : Page)
    (hp : ps[(ps.takeWhile fun p => decide (p.firstRow ≤ k)).length - 1]? = some p) : p.firstRow ≤ k := by
  induction ps with
  | nil => cases hp
  | cons p0 ps ih =>
    rw [List.takeWhile_cons, decide_eq_true (h0 p0 rfl)] at hp
    simp only [if_true, List.length_cons, Nat.add_sub_cancel] at hp
    cases ps with
    | nil => cases hp; exact h0 _ rfl
    | cons q ps =>
      by_cases hq : q.firstRow ≤ k
      · refine ih (fun _ e => by cases e; exact hq) ?_
        rw [List.takeWhile_cons, decide_eq_true hq] at hp ⊢
        simpa using hp
      · rw [List.takeWhile_cons, decide_eq_false hq] at hp
        cases hp; exact h0 _ rfl

theorem seek_lands (pages : List Page) (total k : Nat) (h : WfPages 0 pages total) (hk : k ≤ total) :
    Lands k total (pstream pages (seekCursor pages k)) := by
  unfold pstream seekCursor
  generalize ht : (pages.takeWhile fun p => decide (p.firstRow ≤ k)).length - 1 = t
  show Lands k total (pstreamFrom (pages.drop t) (k - ((pages[t]?).map (·.firstRow)).getD 0))
  cases hp : pages[t]? with
  | none =>
    -- no page at the index picked: there is no page at all
    have := (List.takeWhile_sublist (fun p : Page => decide (p.firstRow ≤ k)) (l := pages)).length_le
    have hnil : pages = [] := List.eq_nil_of_length_eq_zero (by have := List.getElem?_eq_none_iff.mp hp; omega)
    subst hnil
    rw [List.drop_nil]
    exact pstreamFrom_lands (f := 0) h (Nat.zero_le k) hk
  | some p =>
    have hle := target_le k pages (fun q hq => by
      cases pages with
      | nil => cases hq
      | cons q' _ => cases hq; exact h.1 ▸ Nat.zero_le _) p (ht ▸ hp)
    exact pstreamFrom_lands (h.drop t p hp) hle hk

theorem init_lands (pages : List Page) (total : Nat) (h : WfPages 0 pages total) :
    Lands 0 total (pstream pages { next := 0, skip := 0 }) :=
  pstreamFrom_lands h (Nat.le_refl _) (Nat.zero_le _)

end PqModel.RowsRefine
