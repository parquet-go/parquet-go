import PqModel.ThriftDecode
import PqModel.ThriftSkipAcc

/-! Lemmas: the typed decoder mirror (`ThriftDecode.decT`) reads what the structure walk
    (`ThriftSkip.skipT`) reads - every accepting run of `decT` is an accepting run of the walk with the
    same end offset. -/
namespace PqModel.ThriftDecode
open PqModel.IoFault (Bytes)
open PqModel.ThriftSkip
open PqModel.ThriftSkipWrite (Acc acc_item_of_val acc_val_of_item acc_item_bool acc_items_nil acc_items_cons
  acc_fields_stop acc_fields_cons acc_val_list acc_val_struct)

theorem decT_zero (mem : Option Nat) (d : Bytes) (t : DTask) (pos : Nat) :
    decT mem d 0 t pos = .error (.sk .fuel) := rfl

theorem lift_ok {α} {r : PR α} {fe : SkErr → SkErr} {k : α → Nat → TR} {q : Nat}
    (h : lift r fe k = .ok q) : ∃ a p, r = .ok (a, p) ∧ k a p = .ok q := by
  cases r with
  | error e => simp [lift] at h
  | ok ap => obtain ⟨a, p⟩ := ap; exact ⟨a, p, rfl, h⟩

theorem seqT_ok {r : TR} {fe : SkErr → SkErr} {k : Nat → TR} {q : Nat}
    (h : seqT r fe k = .ok q) : ∃ p, r = .ok p ∧ k p = .ok q := by
  cases r with
  | error e => simp [seqT] at h
  | ok p => exact ⟨p, rfl, h⟩

/-- the three things `structDecoder.decode` does with a field header: an unknown or type-mismatched field is skipped (`s`),
    a coalesced bool has no bytes (`b`), a known field of the announced type is decoded (`v fd`). The `match` in the statement
    is the text of the `some (ty, raw, delta)` branch of `decT` (task `fields`) and has to follow it: `refine fields_cases …`
    unifies with the unfolded `decT`. -/
theorem fields_cases₂ {R : TR → TR → Prop} {fs : List FieldD} {fid : Int} {ty : Nat}
    {s s' b b' : TR} {v v' : FieldD → TR} (hs : R s s') (hb : ty = 1 ∨ ty = 2 → R b b')
    (hv : ∀ fd, ty = wire fd.2.2 → ¬ (ty = 1 ∨ ty = 2) → R (v fd) (v' fd)) :
    R (match lookup fs fid with
       | none => s
       | some fd =>
         if ty ≠ wire fd.2.2 ∧ ¬(ty = 1 ∧ wire fd.2.2 = 2) then s else if ty = 1 ∨ ty = 2 then b else v fd)
      (match lookup fs fid with
       | none => s'
       | some fd =>
         if ty ≠ wire fd.2.2 ∧ ¬(ty = 1 ∧ wire fd.2.2 = 2) then s' else if ty = 1 ∨ ty = 2 then b' else v' fd) := by
  cases lookup fs fid with
  | none => exact hs
  | some fd =>
    dsimp only
    split
    · exact hs
    · rename_i hm
      split
      · exact hb ‹_›
      · rename_i h12
        exact hv fd (Decidable.byContradiction fun hne => hm ⟨hne, fun hc => h12 (Or.inl hc.1)⟩) h12

theorem fields_cases {P : TR → Prop} {fs : List FieldD} {fid : Int} {ty : Nat}
    {s b : TR} {v : FieldD → TR} (hs : P s) (hb : ty = 1 ∨ ty = 2 → P b)
    (hv : ∀ fd, ty = wire fd.2.2 → ¬ (ty = 1 ∨ ty = 2) → P (v fd)) :
    P (match lookup fs fid with
       | none => s
       | some fd =>
         if ty ≠ wire fd.2.2 ∧ ¬(ty = 1 ∧ wire fd.2.2 = 2) then s else if ty = 1 ∨ ty = 2 then b else v fd) :=
  fields_cases₂ (R := fun a _ => P a) (s' := s) (b' := b) (v' := v) hs hb hv

theorem readField_eq (d : Bytes) (pos : Nat) :
    readField d pos = seq (readFieldT d pos) id fun h p => .ok (h.map (·.1), p) := by
  unfold readField readFieldT
  cases readByte d pos with
  | error e => rfl
  | ok bp =>
    obtain ⟨b, p⟩ := bp
    simp only [seq]
    split
    · rfl
    · split
      · split <;> rfl
      · cases readInt16 d p <;> rfl

theorem readFieldT_walk (d : Bytes) (pos : Nat) (h : Option (Nat × Int × Bool)) (p : Nat)
    (e : readFieldT d pos = .ok (h, p)) : readField d pos = .ok (h.map (·.1), p) := by
  rw [readField_eq, e]; rfl

theorem readBinary_walk (d : Bytes) (pos q : Nat) (e : readBinary d pos = .ok ((), q)) :
    skipBinary d pos = .ok ((), q) := by
  unfold readBinary at e
  unfold skipBinary
  cases hu : readUvarint maxInt32 d pos with
  | error x => rw [hu] at e; simp [seq] at e
  | ok np =>
    obtain ⟨n, p⟩ := np
    rw [hu] at e
    simp only [seq] at e ⊢
    split at e
    · cases e
    · rename_i hle
      cases e
      by_cases hn : n = 0
      · subst hn; simp
      · have : (n == 0) = false := by simp [hn]
        simp only [this]
        unfold ThriftSkip.discard
        have hd : ¬ (d.length - p < n) := by omega
        simp [hd]

theorem item_true_eq_bool (d : Bytes) (f p : Nat) : skipT d f (.item 1) p = skipT d f (.item 2) p := by
  cases f <;> simp [skipT]

theorem items_true_eq_bool (d : Bytes) : ∀ (f n p : Nat), skipT d f (.items 1 n) p = skipT d f (.items 2 n) p := by
  intro f
  induction f with
  | zero => intro n p; simp [skipT]
  | succ f ih =>
    intro n p
    cases n with
    | zero => simp [skipT]
    | succ n =>
      simp only [skipT]
      rw [item_true_eq_bool]
      congr
      funext _ q
      exact ih n q

/-- what the walk does where the typed decoder does `t` -/
def erase : DTask → Task
  | .val t => .item (wire t)
  | .elems t n => .items (wire t) n
  | .fields _ first _ _ => .fields first

theorem scalar_item (d : Bytes) (ty pos q : Nat) {α} (r : PR α) (h1 : ty ≠ 1) (h2 : ty ≠ 2)
    (hv : skipT d 1 (.val ty) pos = seq r id fun _ p => .ok ((), p))
    (h : lift r id (fun _ p => .ok p) = .ok q) : Acc d (.item ty) pos q := by
  obtain ⟨a, p, hr, hk⟩ := lift_ok h
  cases hk
  exact acc_item_of_val h1 h2 ⟨1, by rw [hv, hr]; rfl⟩

theorem decT_walk (mem : Option Nat) (d : Bytes) : ∀ (f : Nat) (t : DTask) (pos q : Nat),
    decT mem d f t pos = .ok q → ∃ f', skipT d f' (erase t) pos = .ok ((), q) := by
  intro f t pos q h
  show Acc d (erase t) pos q
  fun_induction decT mem d f t pos generalizing q
  -- cases, in the order of `decT`'s text: fuel 0; `val` bool, i8, i16, i32, i64, double, binary, list, struct, union; `elems` 0 / n+1; `fields`
  · cases h
  · obtain ⟨a, p, hr, hk⟩ := lift_ok h
    cases hk
    exact acc_item_bool hr
  · exact scalar_item d 3 _ q _ (by decide) (by decide) (by simp [skipT]) h
  · exact scalar_item d 4 _ q _ (by decide) (by decide) (by simp [skipT]) h
  · exact scalar_item d 5 _ q _ (by decide) (by decide) (by simp [skipT]) h
  · exact scalar_item d 6 _ q _ (by decide) (by decide) (by simp [skipT]) h
  · obtain ⟨a, p, hr, hk⟩ := lift_ok h
    cases hk
    exact acc_item_of_val (ty := 7) (by decide) (by decide) ⟨1, by simp [skipT, hr]⟩
  · obtain ⟨a, p, hr, hk⟩ := lift_ok h
    cases hk
    exact acc_item_of_val (ty := 8) (by decide) (by decide) ⟨1, by simp [skipT, readBinary_walk d _ _ hr]⟩
  · rename_i f pos e ih
    obtain ⟨l, p, hr, hk⟩ := lift_ok h
    have key : Acc d (.items l.1 l.2) p q := by
      generalize hty : (if l.1 = 1 then 2 else l.1) = ty' at hk
      -- the walk skips TRUE elements as it skips BOOL elements
      have hit : ∀ f1 y, skipT d f1 (.items ty' l.2) p = .ok y → skipT d f1 (.items l.1 l.2) p = .ok y := by
        intro f1 y hs
        by_cases h1 : l.1 = 1
        · rw [h1, items_true_eq_bool]; rw [if_pos h1] at hty; rw [hty]; exact hs
        · rw [if_neg h1] at hty; rw [hty]; exact hs
      -- `decT`'s branches in order: element type mismatch (`skipListItems`), allocator refuses, element loop
      split at hk
      · obtain ⟨_, q', hs, hq⟩ := lift_ok hk
        cases hq
        exact ⟨f, hit _ _ hs⟩
      · rename_i hw
        split at hk
        · cases hk
        · obtain ⟨f1, h1⟩ := ih l p q hk
          simp only [erase] at h1
          rw [Decidable.of_not_not hw] at h1
          exact ⟨f1, hit _ _ h1⟩
    exact acc_item_of_val (ty := 9) (by decide) (by decide) (acc_val_list hr key)
  · rename_i ih; exact acc_item_of_val (ty := 12) (by decide) (by decide) (acc_val_struct (ih q h))
  · rename_i ih; exact acc_item_of_val (ty := 12) (by decide) (by decide) (acc_val_struct (ih q h))
  · cases h
    exact acc_items_nil d _ _
  · rename_i ih1 ih2
    obtain ⟨p, hp, hk⟩ := seqT_ok h
    exact acc_items_cons (ih1 p hp) (ih2 p q hk)
  · -- the hypotheses for `decT`'s recursive calls: `ihs` rest after a skipped field, `ihb` rest after a coalesced bool, `ihv` the value, `ihd` rest after it
    rename_i f fs first last seen pos ihs ihb ihv ihd
    obtain ⟨hd, p, hr, hk⟩ := lift_ok h
    have hr' := readFieldT_walk d pos hd p hr
    cases hd with
    | none =>
      simp only at hk
      split at hk
      · cases hk
      · cases hk
        exact acc_fields_stop hr'
    | some x =>
      obtain ⟨ty, raw, delta⟩ := x
      simp only [Option.map] at hr'
      revert hk
      simp only
      refine fields_cases (P := fun r => r = .ok q → Acc d (.fields first) pos q) ?_ ?_ fun fd hty h12 => ?_
      · intro hs
        obtain ⟨_, q', hs1, hs2⟩ := lift_ok hs
        exact acc_fields_cons hr' ⟨f, hs1⟩ (ihs raw delta q' q hs2)
      · intro h12 hk
        refine acc_fields_cons hr' ⟨1, ?_⟩ (ihb p raw delta q hk)
        rcases h12 with h12 | h12 <;> subst h12 <;> simp [skipT]
      · intro hk
        obtain ⟨q', hq1, hq2⟩ := seqT_ok hk
        have h1 : Acc d (.item ty) p q' := by rw [hty]; exact ihv p fd q' hq1
        exact acc_fields_cons hr' (acc_val_of_item (fun hc => h12 (Or.inl hc)) (fun hc => h12 (Or.inr hc)) h1)
          (ihd raw delta q' q hq2)

def missingIds (fs : List FieldD) (seen : List Int) : List Int :=
  (fs.filter fun fd => fd.2.1 && !seen.contains fd.1).map (·.1)

theorem firstMissing_eq_min (fs : List FieldD) (seen : List Int) : firstMissing fs seen = (missingIds fs seen).min? := by
  have key : ∀ (fs : List FieldD) (acc : Option Int),
      fs.foldl (fun acc fd =>
        if fd.2.1 && !seen.contains fd.1 then
          (match acc with
           | none => some fd.1
           | some a => some (if fd.1 < a then fd.1 else a))
        else acc) acc = (acc.toList ++ missingIds fs seen).min? := by
    intro fs
    induction fs with
    | nil => intro acc; cases acc <;> rfl
    | cons fd fs ih =>
      intro acc
      rw [List.foldl_cons, ih]
      unfold missingIds
      rw [List.filter_cons]
      split
      · cases acc with
        | none => rfl
        | some a =>
          simp only [Option.toList_some, List.map_cons, List.singleton_append, List.min?_cons', List.foldl_cons]
          rw [show (if fd.1 < a then fd.1 else a) = min a fd.1 by omega]
      · rfl
  exact key fs none

theorem firstMissing_some (fs : List FieldD) (seen : List Int) (id : Int) (h : firstMissing fs seen = some id) :
    ∃ fd ∈ fs, fd.2.1 = true ∧ fd.1 ∉ seen ∧ fd.1 = id := by
  rw [firstMissing_eq_min] at h
  obtain ⟨fd, hfd, rfl⟩ := List.mem_map.1 (List.min?_mem h)
  obtain ⟨hm, hc⟩ := List.mem_filter.1 hfd
  exact ⟨fd, hm, by simpa using hc⟩

end PqModel.ThriftDecode
