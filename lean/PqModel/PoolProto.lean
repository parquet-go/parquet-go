import PqModel.Slots

/-! # get → use → put under concurrency: `memory.Pool` as used by `compress.Compressor`,
`compress.Decompressor` and `Schema.Reconstruct`

MIRROR of the pool protocol (internal/memory/pool.go:11-25: `Get` = `sync.Pool.Get`, then `newT()` if
it returned nil, else `resetT(v)`; `Put` = `sync.Pool.Put`) and of the three call sites, each as a
*program*: the sequence of touches of the pooled object and of `Put` that one call performs after
its `Get`:

* `Compressor.Encode` (compress/compress.go:58-88) — `encodeProg`
* `Decompressor.Decode` (compress/compress.go:99-156) — `decodeProg`
* `Schema.Reconstruct` (schema.go:370-403, pool at schema.go:422-437) — `reconstructProg`

Further down, programs over the same protocol for the values buffer of a page: under the row reader
(`rowReaderProg`) and under the page wrappers of row group views (`viewReaderProg`).

k goroutines each run one program; all interleavings of their atomic steps. `sync.Pool` is a bag:
`Get` may return ANY pooled object or nothing (per-P caches, GC), the GC may drop pooled objects.
What the Go memory model adds on top (a touch that overlaps a touch by another goroutine is a data
race) is not modelled; the model says who may still touch which object. -/
namespace PqModel.PoolProto

inductive Op where
  | use  -- a read or write of the pooled object's state
  | put  -- Pool.Put(obj)
deriving DecidableEq, Repr

/-- one goroutine -/
inductive GS where
  | start (prog : List Op)                -- before Pool.Get
  | holding (obj : Nat) (rest : List Op)  -- between Get and Put
  | released (obj : Nat) (rest : List Op) -- after Put, still holding the pointer
  | done
deriving DecidableEq, Repr

structure St where
  pool : List Nat     -- the objects inside sync.Pool
  fresh : Nat         -- allocation counter
  gs : List GS
deriving DecidableEq, Repr

def init (progs : List (List Op)) : St := { pool := [], fresh := 0, gs := progs.map .start }

inductive Step : St → St → Prop where
  /-- pool.go:12-14: `sync.Pool.Get` returned nil, `newT()` allocates -/
  | getNew {s} {i : Nat} {p} : s.gs[i]? = some (.start p) →
      Step s { s with gs := s.gs.set i (.holding s.fresh p), fresh := s.fresh + 1 }
  /-- pool.go:12,15-16: `sync.Pool.Get` returned a pooled object (any one); `resetT` is the
      program's first touch -/
  | getPooled {s} {i : Nat} {p o} : s.gs[i]? = some (.start p) → o ∈ s.pool →
      Step s { s with gs := s.gs.set i (.holding o p), pool := s.pool.erase o }
  /-- the owner touches the object -/
  | use {s} {i : Nat} {o r} : s.gs[i]? = some (.holding o (.use :: r)) →
      Step s { s with gs := s.gs.set i (.holding o r) }
  /-- pool.go:21-24 -/
  | put {s} {i : Nat} {o r} : s.gs[i]? = some (.holding o (.put :: r)) →
      Step s { s with gs := s.gs.set i (.released o r), pool := o :: s.pool }
  /-- the call returns without putting the object back (Decode's error paths, compress.go:115-118,
      125-127): the object is garbage -/
  | finishHolding {s} {i : Nat} {o} : s.gs[i]? = some (.holding o []) →
      Step s { s with gs := s.gs.set i .done }
  | finishReleased {s} {i : Nat} {o} : s.gs[i]? = some (.released o []) →
      Step s { s with gs := s.gs.set i .done }
  /-- a touch AFTER the put: what a program with a put before its last use does -/
  | useAfterPut {s} {i : Nat} {o r} : s.gs[i]? = some (.released o (.use :: r)) →
      Step s { s with gs := s.gs.set i (.released o r) }
  /-- a second put of the same object -/
  | putAfterPut {s} {i : Nat} {o r} : s.gs[i]? = some (.released o (.put :: r)) →
      Step s { s with gs := s.gs.set i (.released o r), pool := o :: s.pool }
  /-- the GC empties (part of) the pool -/
  | gc {s o} : o ∈ s.pool → Step s { s with pool := s.pool.erase o }

inductive Reach (progs : List (List Op)) : St → Prop where
  | init : Reach progs (init progs)
  | step {s s'} : Reach progs s → Step s s' → Reach progs s'

/-- the discipline: no touch and no second put after the put -/
def disc : List Op → Bool
  | [] => true
  | .use :: r => disc r
  | .put :: r => r.isEmpty

/-- goroutine state `g` may still touch object `o` -/
def Touches (g : GS) (o : Nat) : Prop :=
  match g with
  | .holding o' _ => o' = o
  | .released o' r => o' = o ∧ Op.use ∈ r
  | _ => False

instance (g : GS) (o : Nat) : Decidable (Touches g o) := by
  unfold Touches; split <;> infer_instance

/-- at most one goroutine may touch an object -/
def Exclusive (s : St) : Prop :=
  ∀ (i j : Nat) gi gj o, i ≠ j → s.gs[i]? = some gi → s.gs[j]? = some gj → Touches gi o → ¬ Touches gj o

/-- an object inside the pool is touched by nobody -/
def PoolQuiet (s : St) : Prop :=
  ∀ (i : Nat) g o, s.gs[i]? = some g → Touches g o → o ∉ s.pool

/-- the put is the last thing the owner does with the object -/
def PutLast (s : St) : Prop :=
  ∀ (i : Nat) o r, s.gs[i]? = some (.released o r) → r = []

section invariant
open PqModel.Slots

/-- what a goroutine relies on: its program respects the discipline, the object it holds is
    allocated and outside the pool, after the put nothing is left to do -/
def Local (pool : List Nat) (fresh : Nat) : GS → Prop
  | .start p => disc p = true
  | .holding o r => o ∉ pool ∧ o < fresh ∧ disc r = true
  | .released _ r => r = []
  | .done => True

def holds : GS → Option Nat
  | .holding o _ => some o
  | _ => none

structure PInv (s : St) : Prop where
  loc : ∀ (i : Nat) g, s.gs[i]? = some g → Local s.pool s.fresh g
  own : Distinct holds s.gs
  pool_nodup : s.pool.Nodup
  pool_lt : ∀ o, o ∈ s.pool → o < s.fresh

theorem pinv_init {progs : List (List Op)} (hd : ∀ p ∈ progs, disc p = true) : PInv (init progs) := by
  refine ⟨forall_mem fun g hg => ?_, .of_none fun g hg => ?_, List.nodup_nil, nofun⟩
  all_goals obtain ⟨p, hp, rfl⟩ := List.mem_map.mp hg
  · exact hd p hp
  · rfl

theorem Local.mono {pool pool' : List Nat} {fresh fresh' g} (h : Local pool fresh g)
    (hp : ∀ o, o ∈ pool' → o ∈ pool) (hf : fresh ≤ fresh') : Local pool' fresh' g := by
  cases g <;> first | exact h | exact ⟨fun m => h.1 (hp _ m), Nat.lt_of_lt_of_le h.2.1 hf, h.2.2⟩

theorem pinv_step {s s'} (hi : PInv s) (h : Step s s') : PInv s' := by
  have erase : ∀ o a, a ∈ s.pool.erase o → a ∈ s.pool := fun _ _ => List.mem_of_mem_erase
  cases h
  case getNew i p hs =>
    have hlt : ∀ (j : Nat) g, s.gs[j]? = some g → holds g ≠ some s.fresh := by
      intro j g hg e
      cases g <;> cases e
      exact Nat.lt_irrefl _ (hi.loc j _ hg).2.1
    exact ⟨forall_set hi.loc ⟨fun m => Nat.lt_irrefl _ (hi.pool_lt _ m), Nat.lt_succ_self _, hi.loc i _ hs⟩
        (fun _ _ _ _ h => h.mono (fun _ m => m) (Nat.le_succ _)),
      hi.own.set (fun j g b _ hg e => by cases e; exact hlt j g hg), hi.pool_nodup,
      fun o m => Nat.lt_succ_of_lt (hi.pool_lt o m)⟩
  case getPooled i p o hs ho =>
    refine ⟨forall_set hi.loc ⟨fun m => (hi.pool_nodup.mem_erase_iff.mp m).1 rfl, hi.pool_lt o ho, hi.loc i _ hs⟩
        (fun _ _ _ _ h => h.mono (erase o) (Nat.le_refl _)),
      hi.own.set ?_, hi.pool_nodup.erase o, fun a m => hi.pool_lt a (erase o a m)⟩
    -- whoever holds an object holds it outside the pool
    intro j g b _ hg e1 e2
    cases e1
    cases g <;> cases e2
    exact (hi.loc j _ hg).1 ho
  case use i o r hs =>
    have old : Local s.pool s.fresh (.holding o (.use :: r)) := hi.loc i _ hs
    exact { hi with loc := forall_set_same hi.loc old
                    own := hi.own.set_of hs (fun _ h => h) }
  case put i o r hs =>
    obtain ⟨hout, hlt, hd⟩ := hi.loc i _ hs
    refine ⟨forall_set hi.loc (List.isEmpty_iff.mp hd) ?_, hi.own.set_of hs nofun,
      List.nodup_cons.mpr ⟨hout, hi.pool_nodup⟩, ?_⟩
    · -- the others hold other objects
      intro j g ne hg hl
      cases g <;> try exact hl
      case holding o' r' =>
        refine ⟨fun m => ?_, hl.2⟩
        rcases List.mem_cons.mp m with rfl | m
        · exact ne (hi.own j i _ _ _ hg hs rfl rfl)
        · exact hl.1 m
    · intro a m
      rcases List.mem_cons.mp m with rfl | m
      · exact hlt
      · exact hi.pool_lt a m
  case finishHolding i o hs | finishReleased i o hs =>
    exact { hi with loc := forall_set_same hi.loc trivial, own := hi.own.set_of hs nofun }
  case useAfterPut i o r hs | putAfterPut i o r hs => cases (hi.loc i _ hs : _ :: r = [])
  case gc o ho =>
    exact ⟨fun j g hg => (hi.loc j g hg).mono (erase o) (Nat.le_refl _), hi.own, hi.pool_nodup.erase o,
      fun a m => hi.pool_lt a (erase o a m)⟩

theorem pinv_reach {progs s} (hd : ∀ p ∈ progs, disc p = true) (h : Reach progs s) : PInv s := by
  induction h with
  | init => exact pinv_init hd
  | step _ hs ih => exact pinv_step ih hs

/-- only a goroutine that holds an object may touch it: after its put nothing is left to do -/
theorem Touches.holding {pool fresh g o} (t : Touches g o) (h : Local pool fresh g) :
    ∃ r, g = .holding o r := by
  cases g <;> simp only [Touches] at t
  case holding o' r => exact ⟨r, t ▸ rfl⟩
  case released o' r => cases (h : r = []); simp at t

theorem pinv_exclusive {s} (hi : PInv s) : Exclusive s ∧ PoolQuiet s ∧ PutLast s := by
  refine ⟨fun i j gi gj o hij hgi hgj ti tj => ?_, fun i g o hg t => ?_, fun i _ _ h => hi.loc i _ h⟩
  · obtain ⟨_, rfl⟩ := ti.holding (hi.loc i _ hgi)
    obtain ⟨_, rfl⟩ := tj.holding (hi.loc j _ hgj)
    exact hij (hi.own i j _ _ _ hgi hgj rfl rfl)
  · obtain ⟨_, rfl⟩ := t.holding (hi.loc i _ hg)
    exact (hi.loc i _ hg).1

end invariant

/-- The converse of `pinv_exclusive` as a schedule: a program that touches its object after the put
    (`n` touches, the put, then `r` with a touch in it), next to any second program `q`. Goroutine 0
    allocates object 0, touches it `n` times and puts it back: object 0 is in the pool while its
    former owner will touch it. Goroutine 1 then obtains object 0: both may touch it. -/
theorem slip_reachable (n : Nat) (r q : List Op) (hu : Op.use ∈ r) :
    (∃ s, Reach [List.replicate n .use ++ .put :: r, q] s ∧ ¬ PoolQuiet s ∧ ¬ PutLast s) ∧
    (∃ s, Reach [List.replicate n .use ++ .put :: r, q] s ∧ ¬ Exclusive s ∧ ¬ PutLast s) := by
  have uses : ∀ m, Reach [List.replicate n .use ++ .put :: r, q]
        ⟨[], 1, [.holding 0 (List.replicate m .use ++ .put :: r), .start q]⟩ →
      Reach [List.replicate n .use ++ .put :: r, q] ⟨[], 1, [.holding 0 (.put :: r), .start q]⟩ := by
    intro m
    induction m with
    | zero => exact id
    | succ m ih => exact fun h => ih (h.step (.use (i := 0) rfl))
  have s1 := uses n (Reach.init.step (.getNew (i := 0) rfl))
  have s2 : Reach _ ⟨[0], 1, [.released 0 r, .start q]⟩ := s1.step (.put (i := 0) rfl)
  have s3 : Reach _ ⟨[], 1, [.released 0 r, .holding 0 q]⟩ :=
    s2.step (.getPooled (i := 1) (o := 0) rfl (List.mem_singleton.mpr rfl))
  have last : ∀ s : St, s.gs[0]? = some (.released 0 r) → ¬ PutLast s :=
    fun s h0 h => by rw [h 0 0 r h0] at hu; cases hu
  exact ⟨⟨_, s2, fun h => h 0 _ 0 rfl ⟨rfl, hu⟩ (List.mem_singleton.mpr rfl), last _ rfl⟩,
    ⟨_, s3, fun h => h 0 1 _ _ 0 (by decide) rfl rfl ⟨rfl, hu⟩ rfl, last _ rfl⟩⟩

/-- `Compressor.Encode`, compress/compress.go:58-88: reset closure (:69-72, run by Get on a pooled
    writer), `Write` (:81), `Close` (:84), `output.Bytes()` (:82/85/87), then the deferred closure:
    `w.output = …` (:76), `w.writer.Reset(io.Discard)` (:77), `Put` (:78) -/
def encodeProg : List Op := [.use, .use, .use, .use, .use, .use, .put]

/-- `Decompressor.Decode`, compress/compress.go:99-156: reset closure (:110-113), `n` calls of
    `Read` (:140), then the deferred closure: `input.Reset(nil)` (:121); on success
    `reader.Reset(nil)` (:128) and `Put` (:129); after a decode error (:125-127) or a failed
    constructor/Reset (:115-118) the reader is NOT put back -/
def decodeProg (n : Nat) (ok : Bool) : List Op :=
  .use :: List.replicate n .use ++ (if ok then [.use, .use, .put] else [.use])

/-- `Schema.Reconstruct`, schema.go:388-402: reset closure (:435), `reserve` (:392), filling
    `columns` (:393-398, `n` writes), `funcs.reconstruct` reading `columns` (:400), `release` (:401) -/
def reconstructProg (n : Nat) : List Op :=
  .use :: .use :: List.replicate n .use ++ [.use, .put]

theorem disc_replicate_append (n : Nat) (r : List Op) : disc (List.replicate n .use ++ r) = disc r := by
  induction n with
  | zero => rfl
  | succ n ih => simp [List.replicate_succ, disc, ih]

theorem disc_replicate_use (n : Nat) : disc (List.replicate n .use) = true := by
  simpa [disc] using disc_replicate_append n []

theorem encodeProg_disc : disc encodeProg = true := by decide

theorem decodeProg_disc (n : Nat) (ok : Bool) : disc (decodeProg n ok) = true := by
  cases ok <;> simp [decodeProg, disc, disc_replicate_append]

theorem reconstructProg_disc (n : Nat) : disc (reconstructProg n) = true := by
  simp [reconstructProg, disc, disc_replicate_append]

/-- `Encode` with `defer c.writers.Put(w)` registered after the cleanup closure (defers run LIFO):
    the writer is put back first, then `w.output = …` and `w.writer.Reset(io.Discard)` run -/
def encodeSlip : List Op := [.use, .use, .use, .use, .put, .use, .use]

/-- `Reconstruct` with `b.release()` moved in front of `funcs.reconstruct` -/
def reconstructSlip (n : Nat) : List Op :=
  .use :: .use :: List.replicate n .use ++ [.put, .use]

/-! ## The row reader's page buffers (MIRROR of column_chunk.go:84-157, row_group.go:218-231, buffer.go:604-618)

The values buffer of a decoded page comes from the process-wide `buffers` pool. A
`columnChunkValueReader` holds one page at a time; `ReadValues` hands out `Value`s which, for
BYTE_ARRAY / FIXED_LEN_BYTE_ARRAY columns, point INTO that buffer, and the rows built from them
stay with the caller. The reader lets go of the page in `clear()` — reached from `ReadValues` at the
end of the page (:138), `SeekToRow` (:152), `Reset` (:109) and `Close` (:119). For byte-array
columns `newRowGroupRows` sets `detach` (row_group.go:228) and `clear` calls
`releaseAndDetachValues`: the values buffer is NOT put back (left to the GC), so the caller's rows
stay valid "past the page lifetime" (buffer.go:690-704). For the other column kinds the `Value`s are
copies and `clear` puts the buffer back.

As a program on the values buffer of one page: `nRead + 1` touches while the page is decoded and
read, the release action of the path that ends the page, then `nKept` touches by the caller through
the rows it kept (only byte-array columns: the rows of other columns do not reference the buffer).
`honours` says whether the release path honours `detach`. -/
def rowReaderProg (byteArray honours : Bool) (nRead nKept : Nat) : List Op :=
  .use :: List.replicate nRead .use ++
    (if byteArray then
      (if honours then List.replicate nKept .use else .put :: List.replicate nKept .use)
    else [.put])

theorem rowReaderProg_disc (byteArray : Bool) (nRead nKept : Nat) :
    disc (rowReaderProg byteArray true nRead nKept) = true := by
  cases byteArray <;> simp [rowReaderProg, disc, disc_replicate_append, disc_replicate_use]

theorem rowReaderSlip_disc (nRead nKept : Nat) :
    disc (rowReaderProg true false nRead (nKept + 1)) = false := by
  simp [rowReaderProg, disc, disc_replicate_append, List.replicate_succ]

/-! ## Page wrappers between the row reader and the buffer (MIRROR of convert.go:1117-1190)

A row reader assembled from `ColumnChunks()` of a VIEW of row groups does not hold the decoded page
itself but a wrapper around it: `ConvertRowGroup` installs a `convertedPage` for every column whose
index differs between source and target (it re-numbers the values), and views nest. `clear()` calls
`releaseAndDetachValues` on the outermost wrapper; the values buffer is left to the GC only if EVERY
wrapper on the way passes the request on as `releaseAndDetachValues(p.page)`. A wrapper that answers
with a plain `Release(p.page)` (or has no `ReleaseAndDetachValues` at all: `releaseAndDetachValues`
then does nothing and `Release` would) turns the request into a put. `wrappers` lists, from the
outside in, whether each wrapper forwards the detach. -/
def chainHonours (wrappers : List Bool) : Bool := wrappers.all id

def viewReaderProg (wrappers : List Bool) (byteArray : Bool) (nRead nKept : Nat) : List Op :=
  rowReaderProg byteArray (chainHonours wrappers) nRead nKept

/-- no wrappers: the row reader over the file's own column chunks -/
theorem viewReaderProg_nil (byteArray : Bool) (nRead nKept : Nat) :
    viewReaderProg [] byteArray nRead nKept = rowReaderProg byteArray true nRead nKept := rfl

theorem viewReaderProg_disc (wrappers : List Bool) (h : ∀ w ∈ wrappers, w = true)
    (byteArray : Bool) (nRead nKept : Nat) :
    disc (viewReaderProg wrappers byteArray nRead nKept) = true := by
  have hc : chainHonours wrappers = true := by
    simp only [chainHonours, List.all_eq_true]
    intro w hw; simp [h w hw]
  simp only [viewReaderProg, hc]
  exact rowReaderProg_disc _ _ _

theorem viewReaderSlip_disc (wrappers : List Bool) (h : false ∈ wrappers) (nRead nKept : Nat) :
    disc (viewReaderProg wrappers true nRead (nKept + 1)) = false := by
  have hc : chainHonours wrappers = false := by
    simp only [chainHonours, List.all_eq_false]
    exact ⟨false, h, by simp⟩
  simp only [viewReaderProg, hc]
  exact rowReaderSlip_disc _ _

end PqModel.PoolProto
