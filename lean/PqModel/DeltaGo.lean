import PqModel.Delta

/-! # MIRROR of the portable Go *decoders* of `encoding/delta` (property C04, part delta).

Everything in this file but `offsetsFrom` (the offsets of values laid back to back) transliterates Go code (file:line in each
doc comment). The spec side is in
`PqModel/Delta.lean`; the theorems relating the two are in `PqModel/DeltaGoProofs.lean` and
`PqModel/Props/C04Delta.lean`.

Modelling decisions (each tied by the L2 comparison with the real decoders):
* a byte slice is a `List Nat` and the decoders are functions of its *contents*: the bytes between
  `len` and `cap` that `decodeInt32` can reach for a truncated final miniblock (it tests `cap`,
  binary_packed.go:322, where `decodeInt64` tests `len`) are modelled as zeros, which is what
  `decodeInt64` does and what the harness provides;
* `bitpack.Unpack` (third-party module) is modelled as LSB-first unpacking for widths up to the
  type's width (its portable kernels are mirrored and proved to be that: `C04Delta.unpack32/64_kernel`);
  for a larger width its result is implementation defined (assembly and portable
  kernels differ): the mirror answers `overwide` and the harness does not compare such streams;
* `b & 0x7f` of `binary.Uvarint` is written `b - 128` (equal for a byte `≥ 0x80`), `x | b<<s` as
  `x + b * 2^s` (the bits are disjoint). -/
namespace PqModel.Delta
open PqModel.Bits

inductive GoErr where
  | eof           -- "decoding …: unexpected EOF"
  | overflow      -- varint longer than 10 bytes / more than 64 bits
  | badHeader     -- invalid number of mini blocks / block size / mini block size
  | negative      -- a header field does not fit a (non-negative) Go `int`
  | tooLarge      -- block size > 65536
  | tooMany       -- more than MaxInt32 values
  | firstRange    -- INT32: first value out of range
  | missing       -- "%d missing values"
  | overwide      -- NOT a Go error: a used miniblock has a width above the type's (unmodelled, see above)
  | negLength     -- invalid negative value length
  | lengthOOB     -- value length is larger than the input size
  | negPrefix     -- invalid negative prefix length
  | prefixOOB     -- prefix length larger than the last value
  | countMismatch -- length of prefix and suffix mismatch
  deriving DecidableEq, Repr

/-- the errors that are Go's documented resource limits / range checks (a conformant stream can
only be rejected with one of these) -/
def GoErr.isLimit : GoErr → Bool
  | .overflow | .negative | .tooLarge | .tooMany | .firstRange => true
  | _ => false

/-- MIRROR `binary.Uvarint` (Go stdlib, called from binary_packed.go:468-477 `decodeUvarint`):
`i` is the byte index, `x` the accumulated value; at most `MaxVarintLen64 = 10` bytes, the tenth at
most 1. First argument: fuel (11 suffices). -/
def goUvarintLoop : Nat → Nat → Nat → List Nat → Except GoErr (Nat × List Nat)
  | _, _, _, [] => .error .eof
  | 0, _, _, _ :: _ => .error .overflow
  | f + 1, i, x, b :: bs =>
    if i = 10 then .error .overflow
    else if b < 128 then
      if i = 9 ∧ 1 < b then .error .overflow else .ok (x + b * 2 ^ (7 * i), bs)
    else goUvarintLoop f (i + 1) (x + (b - 128) * 2 ^ (7 * i)) bs

def goUvarint (bs : List Nat) : Except GoErr (Nat × List Nat) := goUvarintLoop 11 0 0 bs

/-- MIRROR `binary.Varint` via binary_packed.go:479-488 `decodeVarint`: `x := int64(ux >> 1); if
ux&1 != 0 { x = ^x }`, i.e. `unzigzag`. -/
def goVarint (bs : List Nat) : Except GoErr (Int × List Nat) :=
  match goUvarint bs with
  | .error e => .error e
  | .ok (u, r) => .ok (unzigzag u, r)

structure GoHeader where
  blockSize : Nat
  minis : Nat
  total : Nat
  first : Int
  deriving Repr

/-- MIRROR binary_packed.go:409-452 `decodeBinaryPackedHeader`. The three counts are `uint64`
converted to `int`: a value `≥ 2^63` is negative there, which the checks `blockSize <= 0`,
`numMiniBlocks <= 0`, `totalValues < 0` catch (class `negative`). Note that the mini block size is
`blockSize / numMiniBlocks` (integer division): `blockSize % numMiniBlocks` is not checked. -/
def goHeader (bs : List Nat) : Except GoErr (GoHeader × List Nat) :=
  match goUvarint bs with
  | .error e => .error e
  | .ok (b, bs1) =>
  match goUvarint bs1 with
  | .error e => .error e
  | .ok (m, bs2) =>
  match goUvarint bs2 with
  | .error e => .error e
  | .ok (t, bs3) =>
  match goVarint bs3 with
  | .error e => .error e
  | .ok (f, bs4) =>
    if m = 0 then .error .badHeader
    else if 2 ^ 63 ≤ b then .error .negative
    else if b = 0 ∨ b % 128 ≠ 0 then .error .badHeader
    else if 65536 < b then .error .tooLarge
    else if 2 ^ 63 ≤ m then .error .negative
    else if (b / m) % 32 ≠ 0 then .error .badHeader
    else if 2 ^ 63 ≤ t then .error .negative
    else if 2 ^ 31 - 1 < t then .error .tooMany
    else .ok ({ blockSize := b, minis := m, total := t, first := f }, bs4)

/-- MIRROR binary_packed.go:311-338 / 374-400, the loop over the width bytes of one block:
`n := min(numValuesInMiniBlock, totalValues)`; a miniblock of width `w ≠ 0` takes
`numValuesInMiniBlock*w/8` bytes of `src` — or what is left of it, completed with zeros in a scratch
buffer — and `bitpack.Unpack` reads `n` values from it; width 0 leaves the zero-filled output as it
is; the loop stops as soon as all values have been read. Returns the unpacked values, the number
of values still missing and the rest of `src`. -/
def goMinis (n vpm : Nat) : List Nat → Nat → List Nat → Except GoErr (List Nat × Nat × List Nat)
  | [], tot, src => .ok ([], tot, src)
  | w :: ws, tot, src =>
    if 0 < min vpm tot ∧ n < w then .error .overwide
    else
      let data := src.take (vpm * w / 8)
      let vals := unpackBits w (min vpm tot) (bytesToBits (data ++ List.replicate (vpm * w / 8 - data.length) 0))
      if tot - min vpm tot = 0 then .ok (vals, 0, src.drop (vpm * w / 8))
      else
        match goMinis n vpm ws (tot - min vpm tot) (src.drop (vpm * w / 8)) with
        | .error e => .error e
        | .ok (more, tot', r) => .ok (vals ++ more, tot', r)

/-- MIRROR binary_packed_purego.go:51-58 / 60-67 `decodeBlockInt32/64`:
`block[i] += minDelta; block[i] += lastValue; lastValue = block[i]` (wrapping). -/
def goRecon {n : Nat} (minD : BitVec n) : BitVec n → List Nat → List (BitVec n)
  | _, [] => []
  | last, d :: ds => (BitVec.ofNat n d + minD + last) :: goRecon minD (BitVec.ofNat n d + minD + last) ds

/-- MIRROR binary_packed.go:303-340 / 367-402 `for totalValues > 0 && len(src) > 0 { … }` with
`decodeBinaryPackedBlock` (454-466: min delta, then `numMiniBlocks` width bytes or fewer if `src`
is shorter) and the final `if totalValues > 0 { "missing values" }`. `int32(minDelta)` is
`BitVec.ofInt n`. First argument: fuel (every iteration consumes at least the varint:
`len(src) + 1` suffices). -/
def goBlocks (n vpm m : Nat) : Nat → Nat → BitVec n → List Nat → Except GoErr (List (BitVec n) × List Nat)
  | 0, tot, _, src => if tot = 0 then .ok ([], src) else .error .missing
  | f + 1, tot, last, src =>
    if tot = 0 then .ok ([], src)
    else if src.isEmpty then .error .missing
    else
      match goVarint src with
      | .error e => .error e
      | .ok (md, src1) =>
        match goMinis n vpm (src1.take m) tot (src1.drop m) with
        | .error e => .error e
        | .ok (raw, tot', src2) =>
          match goBlocks n vpm m f tot' ((goRecon (BitVec.ofInt n md) last raw).getLastD last) src2 with
          | .error e => .error e
          | .ok (more, r) => .ok (goRecon (BitVec.ofInt n md) last raw ++ more, r)

/-- MIRROR binary_packed.go:279-344 `decodeInt32` (n = 32) and 346-407 `decodeInt64` (n = 64):
header, nothing for no value, the INT32 range check of the first value, the block loop. Returns
the values and the rest of `src`. -/
def goDecode (n : Nat) (bs : List Nat) : Except GoErr (List (BitVec n) × List Nat) :=
  match goHeader bs with
  | .error e => .error e
  | .ok (h, src) =>
    if h.total = 0 then .ok ([], src)
    else if n = 32 ∧ (h.first < -(2 ^ 31) ∨ 2 ^ 31 - 1 < h.first) then .error .firstRange
    else
      match goBlocks n (h.blockSize / h.minis) h.minis (src.length + 1) (h.total - 1) (BitVec.ofInt n h.first) src with
      | .error e => .error e
      | .ok (vs, r) => .ok (BitVec.ofInt n h.first :: vs, r)

def goDecode32 := goDecode 32
def goDecode64 := goDecode 64

/-- MIRROR length_byte_array_purego.go:11-24 `decodeByteArrayLengths`: `lastOffset` is a `uint32`
(wraps); a negative length stops the loop. Returns the offsets (one more than lengths). -/
def goLengthOffsets : Nat → List (BitVec 32) → Except GoErr (List Nat)
  | last, [] => .ok [last]
  | last, l :: ls =>
    if l.msb then .error .negLength
    else
      match goLengthOffsets ((last + l.toNat) % 2 ^ 32) ls with
      | .error e => .error e
      | .ok os => .ok (last :: os)

/-- MIRROR length_byte_array.go:37-63 `DecodeByteArray`: lengths through `decodeInt32`, offsets,
`int(lastOffset) > len(src)` check, `src[:lastOffset]`. Returns the value bytes and the offsets. -/
def goDecodeDLBA (bs : List Nat) : Except GoErr (List Nat × List Nat) :=
  match goDecode 32 bs with
  | .error e => .error e
  | .ok (ls, src) =>
    match goLengthOffsets 0 ls with
    | .error e => .error e
    | .ok os =>
      if src.length < os.getLastD 0 then .error .lengthOOB
      else .ok (src.take (os.getLastD 0), os)

/-- MIRROR byte_array_purego.go:5-34 `decodeByteArray` (and 36-63 `decodeFixedLenByteArray`, the
same loop without offsets): per value the checks `n < 0`, `n > len(src)`, `p < 0`,
`p > len(lastValue)`, then `dst = append(dst, lastValue[:p]...)`, `append(dst, src[:n]...)`. The
destination is modelled as the list of values appended so far (`dst` is their concatenation, the
offsets their boundaries). `prefix = prefix[:len(suffix)]`: the lists have equal length here. -/
def goJoin : List Nat → List (BitVec 32) → List (BitVec 32) → List Nat → Except GoErr (List (List Nat))
  | lastV, p :: ps, s :: ss, src =>
    if s.msb then .error .negLength
    else if src.length < s.toNat then .error .lengthOOB
    else if p.msb then .error .negPrefix
    else if lastV.length < p.toNat then .error .prefixOOB
    else
      match goJoin (lastV.take p.toNat ++ src.take s.toNat) ps ss (src.drop s.toNat) with
      | .error e => .error e
      | .ok vs => .ok ((lastV.take p.toNat ++ src.take s.toNat) :: vs)
  | _, _, _, _ => .ok []

/-- MIRROR byte_array.go:124-146 `DecodeByteArray` (148-174 `DecodeFixedLenByteArray` runs the same
steps and returns the concatenation): prefix lengths and suffix lengths through `decodeInt32`, the
count check, the copy loop. -/
def goDecodeDBA (bs : List Nat) : Except GoErr (List (List Nat)) :=
  match goDecode 32 bs with
  | .error e => .error e
  | .ok (ps, src1) =>
    match goDecode 32 src1 with
    | .error e => .error e
    | .ok (ss, src2) =>
      if ps.length ≠ ss.length then .error .countMismatch
      else goJoin [] ps ss src2

/-- the offsets of `vs` laid out back to back from offset `o` -/
def offsetsFrom (o : Nat) : List (List Nat) → List Nat
  | [] => [o]
  | v :: vs => o :: offsetsFrom (o + v.length) vs

end PqModel.Delta
