/-! # Logical-type conversions of `time.Time` leaves (C01): TIMESTAMP(MILLIS/MICROS/NANOS) and DATE

A Go `time.Time` field is stored as an INT64 count of units since the Unix epoch (TIMESTAMP) or an
INT32 count of days (DATE) and rebuilt from it on read. This file holds

* MIRRORS of the write conversions: `Time.UnixMilli/UnixMicro/UnixNano` (Go `time` package) as used
  by `writeRowsFuncOfTime` (column_buffer_write.go:1094-1168), `writeTime` (column_buffer_reflect.go:
  232-250) and `makeValue` (value.go:297-304); `daysSinceUnixEpoch` (convert.go:1750-1758);
* MIRRORS of the read conversions: `timestampType.AssignValue` (type_timestamp.go:218-257) through
  `timestampToTime` (:263-272: `time.UnixMilli(v)`, `time.UnixMicro(v)`, `time.Unix(0, v)`), the same before
  /repo 53f5646 (`time.Unix(0, v * unit)` in `int64`), `dateType.AssignValue` (type_date.go:88,101);
* the SPEC reading (LogicalTypes.md: "the number of milli/micro/nanoseconds / days from the Unix
  epoch"): `unitsOf`, `floorTo`, `dayOf`.

An instant is what `Time.Unix()` and `Time.Nanosecond()` return: seconds since the epoch (any sign)
and the nanoseconds within that second. Go's `time.UnixMilli(v)` is `Unix(v/1e3, (v%1e3)*1e6)` with
truncating `/`, `%` followed by `Unix`'s normalisation (`nsec < 0 → nsec += 1e9, sec--`): that is
floor division, which is how it is written here. -/
namespace PqModel.LogicalTime

structure Instant where
  sec : Int
  nsec : Nat
deriving DecidableEq, Repr

inductive TUnit where
  | milli | micro | nano
deriving DecidableEq, Repr

/-- units per second -/
def TUnit.perSec : TUnit → Nat
  | .milli => 1000
  | .micro => 1000000
  | .nano => 1000000000

/-- nanoseconds per unit -/
def TUnit.nanos : TUnit → Nat
  | .milli => 1000000
  | .micro => 1000
  | .nano => 1

/-- SPEC: the number of whole units from the epoch to the instant (floor) -/
def unitsOf (u : TUnit) (t : Instant) : Int := t.sec * u.perSec + (t.nsec / u.nanos : Nat)

/-- SPEC: the instant cut down to its unit -/
def floorTo (u : TUnit) (t : Instant) : Instant := ⟨t.sec, t.nsec / u.nanos * u.nanos⟩

/-- MIRROR of `Time.UnixMilli` / `UnixMicro` / `UnixNano`: `sec*perSec + nsec/nanos` computed in
    `int64` ("the result is undefined if the Unix time cannot be represented by an int64": it
    wraps) -/
def toUnit (u : TUnit) (t : Instant) : BitVec 64 := BitVec.ofInt 64 (unitsOf u t)

/-- MIRROR of `timestampToTime` (type_timestamp.go:263-272): `time.UnixMilli(v)`, `time.UnixMicro(v)`,
    `time.Unix(0, v)` -/
def ofUnit (u : TUnit) (v : BitVec 64) : Instant :=
  ⟨v.toInt / u.perSec, (v.toInt % u.perSec).toNat * u.nanos⟩

/-- MIRROR of the read conversion before /repo 53f5646 (then inline in `AssignValue`):
    `nanos := src.int64() * int64(timeUnitDuration(unit)); time.Unix(0, nanos)` — the product wraps -/
def ofUnitOld (u : TUnit) (v : BitVec 64) : Instant := ofUnit .nano (v * BitVec.ofNat 64 u.nanos)

/-! ## DATE -/

/-- SPEC: the day (UTC) that holds the instant, counted from 1970-01-01 -/
def dayOf (t : Instant) : Int := t.sec / 86400

/-- MIRROR of `daysSinceUnixEpoch` (convert.go:1750-1758) followed by the `int32(...)` conversion of its
    callers -/
def toDays (t : Instant) : BitVec 32 := BitVec.ofInt 32 (dayOf t)

/-- MIRROR of `dateType.AssignValue`: `time.Unix(int64(days)*86400, 0)` -/
def ofDays (d : BitVec 32) : Instant := ⟨d.toInt * 86400, 0⟩

/-- MIRROR of `daysSinceUnixEpoch` before /repo 53f5646, `int(t.Sub(unixEpoch).Hours()) / 24`, for an
    instant exactly `h` hours from the epoch (then `Hours()` is exact in `float64`): `Sub` saturates
    at ±(2^63-1) ns, `int(..)` and `/` truncate toward zero -/
def toDaysOldHours (h : Int) : Int :=
  let d := h * 3600000000000
  let sat := if d > 9223372036854775807 then 9223372036854775807
             else if d < -9223372036854775808 then -9223372036854775808 else d
  Int.tdiv (Int.tdiv sat 3600000000000) 24

end PqModel.LogicalTime
