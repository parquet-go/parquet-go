import PqModel.MergeKFault

/-! # C14 — the k-way merge reader after an error: nothing more is handed out

A consumer may call `ReadRows` again after an error. The SPEC source `Rd.Src` is sticky (once the
fault is reached every call answers the error). `Stuck`: the buffer of the winner is empty and its
source sits on the fault. That is the state after every call that answered an error from the loop (an
error of `initialize` leaves `count = 0`), and from it every call hands out no rows. Needs no invariant:
it holds from ANY state of the mirror. -/
namespace PqModel.IoFault.RdK
open PqModel.IoFault.Rd

def Stuck (b : Buf) : Prop := b.win = [] ∧ b.src.failIn = some 0

theorem nextSize_pos (b : Buf) : 0 < b.nextSize := by
  simp only [Buf.nextSize]
  split
  · omega
  · split <;> omega

theorem stuck_read {b : Buf} (h : Stuck b) : b.read.1 = .err ∧ Stuck b.read.2 := by
  obtain ⟨hw, hf⟩ := h
  simp [Buf.read, Buf.readWith, Src.read, Src.res, Src.after, Src.avail, hf, Stuck]
  exact hw

theorem take_nil_zero (s : Src) (cap : Nat) (h : s.rows.take (min cap s.avail) = []) :
    min cap s.avail = 0 := by
  rcases List.take_eq_nil_iff.mp h with a | a
  · exact a
  · have : s.avail = 0 := by
      simp only [Src.avail]; split <;> simp [a]
    omega

/-- a source that answers no rows into a buffer with room answers io.EOF, or the error it is stuck
on — never `(0, nil)` -/
theorem Src.read_empty (s : Src) (cap : Nat) (hc : 0 < cap) (he : (s.read cap).1.1 = []) :
    ((s.read cap).1.2 = .eof ∧ (s.read cap).2.failIn ≠ some 0) ∨
    ((s.read cap).1.2 = .err ∧ (s.read cap).2.failIn = some 0) := by
  have hn0 := take_nil_zero s cap (by simpa [Src.read] using he)
  have hav : s.avail = 0 := by omega
  simp only [Src.read, Src.res, hn0]
  by_cases hz : (s.after 0).failIn = some 0
  · right; simp [hz]
  · left
    have hrows : (s.after 0).rows = [] := by
      simp only [Src.after, List.drop_zero]
      simp only [Src.after] at hz
      cases hfi : s.failIn with
      | none => simp only [Src.avail, hfi] at hav; exact List.length_eq_zero_iff.mp hav
      | some k =>
        simp only [Src.avail, hfi] at hav
        rw [hfi] at hz
        simp only [Option.map_some] at hz
        have : k ≠ 0 := by intro e; subst e; simp at hz
        exact List.length_eq_zero_iff.mp (by omega)
    simp [hz, hrows]

theorem read_err_stuck {b : Buf} (hw : b.win = []) (h : b.read.1 = .err) : Stuck b.read.2 := by
  have hp := nextSize_pos b
  simp only [Buf.read, Buf.readWith, hw, List.length_nil, Nat.sub_zero] at h ⊢
  split
  · rename_i hnil
    simp only [hnil, if_true] at h
    rcases Src.read_empty b.src b.nextSize hp hnil with ⟨a, _⟩ | ⟨_, a⟩
    · simp [a] at h
    · exact ⟨rfl, a⟩
  · rename_i hnil
    simp [hnil] at h

/-- the winner is in range, the merge is not over, and the winner's buffer is stuck on the fault -/
def StuckSt (st : MK) : Prop :=
  st.count ≠ 0 ∧ 0 ≤ st.winner ∧ st.winner.toNat < st.bufs.length ∧ Stuck st.cur

theorem cur_setBuf {st : MK} (hw : st.winner.toNat < st.bufs.length) (c : Buf) : (st.setBuf c).cur = c := by
  simp only [MK.cur, MK.setBuf]; exact getD_set_eq c hw

theorem loop_stuck {st : MK} (h : StuckSt st) (f m : Nat) :
    (MK.loop f m st).1.1 = [] ∧ ((MK.loop f m st).1.2 = .nil ∨ (MK.loop f m st).1.2 = .err) ∧
    StuckSt (MK.loop f m st).2 ∧ (MK.loop f m st).2.initialized = st.initialized := by
  obtain ⟨hc, hw0, hw, hs⟩ := h
  obtain ⟨hr1, hr2⟩ := stuck_read hs
  fun_cases MK.loop f m st
  case case1 => exact ⟨rfl, Or.inl rfl, ⟨hc, hw0, hw, hs⟩, rfl⟩
  case case2 => simp [hc, StuckSt, hw0, hw, hs]
  case case3 => omega
  case case4 | case5 => rename (st.cur.read = _) => hr; rw [hr] at hr1; cases hr1
  case case6 =>
    -- the refill answers the error again
    rename (st.cur.read = _) => hr
    rw [hr] at hr2
    refine ⟨rfl, Or.inr rfl, ⟨hc, hw0, by simpa [MK.setBuf] using hw, ?_⟩, rfl⟩
    rw [cur_setBuf hw]; exact hr2
  case case7 | case8 | case9 | case10 =>
    -- the winner's window is empty
    rename (st.cur.win = _) => hwin
    rw [hs.1] at hwin; cases hwin

theorem loop_err (f m : Nat) (st : MK) :
    (MK.loop f m st).2.initialized = st.initialized ∧
    ((MK.loop f m st).1.2 = .err → StuckSt (MK.loop f m st).2) := by
  fun_induction MK.loop f m st with
  | case1 | case3 | case7 | case8 => exact ⟨rfl, fun h => by cases h⟩  -- answers nil or panic, no call inside
  | case2 => exact ⟨rfl, fun h => by split at h <;> cases h⟩
  | case4 | case5 => rename_i ih; exact ih
  | case6 f m st hc hwin hempty c' hr =>
    -- the refill answered an error: the winner's buffer is empty and its source sits on the fault
    have hw : st.winner.toNat < st.bufs.length := by omega
    refine ⟨rfl, fun _ => ⟨fun e => hc (Or.inr e), by simp only [MK.setBuf]; omega,
      by simpa [MK.setBuf] using hw, ?_⟩⟩
    rw [cur_setBuf hw]
    have := read_err_stuck hempty (by rw [hr])
    rw [hr] at this; exact this
  | case9 | case10 => rename_i ih; exact ⟨ih.1, fun h => ih.2 h⟩

/-- nothing more will be handed out: the merge is over (`count = 0`) or stuck on a fault -/
def Dead (st : MK) : Prop := st.initialized = true ∧ (st.count = 0 ∨ StuckSt st)

theorem init_initialized (st : MK) : st.init.2.initialized = true := by
  simp only [MK.init]; split
  · rfl
  · split <;> rfl

theorem init_err_count (st : MK) (h : st.init.1 ≠ .nil) : st.init.2.count = 0 := by
  simp only [MK.init] at h ⊢; split
  · rfl
  · rename_i he; simp only [he, if_false] at h; split at h <;> simp at h

theorem readRows_err_dead (st : MK) (cap : Nat) (h : (st.readRows cap).1.2 = .err) :
    Dead (st.readRows cap).2 := by
  simp only [MK.readRows] at h ⊢
  split
  · rename_i hi
    simp only [hi, if_true] at h
    have := loop_err (st.fuel cap) cap st
    exact ⟨by rw [this.1, hi], Or.inr (this.2 h)⟩
  · split
    · rename_i hi hn
      simp only [hi, hn, if_true, Bool.false_eq_true, if_false] at h
      have := loop_err (st.fuel cap) cap st.init.2
      exact ⟨by rw [this.1, init_initialized], Or.inr (this.2 (by simpa using h))⟩
    · rename_i hi hn
      exact ⟨init_initialized st, Or.inl (init_err_count st hn)⟩

theorem dead_readRows {st : MK} (h : Dead st) (cap : Nat) :
    (st.readRows cap).1.1 = [] ∧ Dead (st.readRows cap).2 ∧
    (st.count ≠ 0 → (st.readRows cap).1.2 = .nil ∨ (st.readRows cap).1.2 = .err) ∧
    (st.count ≠ 0 → (st.readRows cap).2.count ≠ 0) := by
  obtain ⟨hi, hd⟩ := h
  simp only [MK.readRows, hi, if_true]
  rcases hd with h0 | hs
  · have e : MK.loop (st.fuel cap) cap st = (([], .eof), st) := by
      simp only [MK.fuel]; rw [MK.loop]; simp [h0]
    rw [e]
    exact ⟨rfl, ⟨hi, Or.inl h0⟩, fun hc => absurd h0 hc, fun hc => absurd h0 hc⟩
  · obtain ⟨a, b, c, d⟩ := loop_stuck hs (st.fuel cap) cap
    exact ⟨a, ⟨by rw [d, hi], Or.inr c⟩, fun _ => b, fun _ => c.1⟩

theorem sessionAll_dead (caps : List Nat) (st : MK) (h : Dead st) :
    ∀ x ∈ sessionAll caps st, x.1 = [] ∧ (st.count ≠ 0 → x.2 = .nil ∨ x.2 = .err) := by
  fun_induction sessionAll caps st with
  | case1 => simp
  | case2 c cs st ih =>
    obtain ⟨a, b, d, e⟩ := dead_readRows h c
    intro x hx
    rcases List.mem_cons.mp hx with rfl | hx
    · exact ⟨a, d⟩
    · exact ⟨(ih b x hx).1, fun hc => (ih b x hx).2 (e hc)⟩

end PqModel.IoFault.RdK
