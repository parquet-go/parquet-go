import PqModel.Merge

/-! # C09 — MIRROR of `mergedRowReader2` as it was before `read` retried, over sources that answer `(0, nil)`

`bufferedRowReader.read` (before library commit 0f6ccd1) treated `(0, nil)` as a successful refill: the buffer stays
empty (`off = end = 0`) but the reader stays live, and `head()` then returns `buf[0]`, the first row
of the previous fill. For the two-input reader `head`, `next` and `emitRun`'s `window()[:1]` then
behave as if the window were that stale row, while `empty()` stays true (the next `ReadRows` call
reads again): modelled as the window `[slot0]` with the flag `ghost`.
A refill-stream entry `0` stands for a `(0, nil)` answer (in `Merge.lean` it is clamped to 1:
the main theorems assume sources that deliver a row per successful read). -/
namespace PqModel.Merge

structure BufZ where
  b : Buf
  /-- `buf[0]`: first row of the last fill -/
  slot0 : Row
  /-- the window is the stale `buf[0]` of a buffer that is really empty -/
  ghost : Bool

/-- `bufferedRowReader.read` before the retry loop (today merge.go:1073-1101), source may answer `(0, nil)` -/
def BufZ.read (z : BufZ) : Option BufZ :=
  match z.b.sizes, z.b.src with
  | 0 :: rest, _ :: _ =>
    some { z with b := { z.b with sizes := rest, win := [z.slot0], cap := z.b.nextCap, full := false }, ghost := true }
  | _, _ =>
    match { z.b with win := [] }.read with
    | none => none
    | some b' => some { b := b', slot0 := b'.win.headD z.slot0, ghost := false }

/-- the buffer after rows were consumed: a ghost row that was emitted is gone -/
def BufZ.after (z : BufZ) (b' : Buf) : BufZ := { z with b := b', ghost := z.ghost && !b'.win.isEmpty }

def refillZ : Option BufZ → Option BufZ
  | none => none
  | some z => if z.b.empty || z.ghost then z.read else some z

structure M2Z where
  r0 : Option BufZ
  r1 : Option BufZ
  prev : Int
  streak : Nat
  initialized : Bool

/-- merge.go:660-774 -/
def M2Z.readRows (st : M2Z) (m : Nat) : List Row × Bool × M2Z :=
  let st := if st.initialized then st
            else { st with r0 := st.r0.bind BufZ.read, r1 := st.r1.bind BufZ.read, initialized := true }
  match refillZ st.r0, refillZ st.r1 with
  | none, none => ([], true, { st with r0 := none, r1 := none })
  | none, some b =>
    ((emitSingle m b.b).1, false, { st with r0 := none, r1 := some (b.after (emitSingle m b.b).2) })
  | some a, none =>
    ((emitSingle m a.b).1, false, { st with r0 := some (a.after (emitSingle m a.b).2), r1 := none })
  | some a, some b =>
    let l := M2.loop m m a.b b.b st.prev st.streak
    (l.1, false, { st with r0 := some (a.after l.2.1), r1 := some (b.after l.2.2.1),
                           prev := l.2.2.2.1, streak := l.2.2.2.2 })

def M2Z.session : M2Z → List Nat → List (List Row)
  | _, [] => []
  | st, m :: ms =>
    if (st.readRows m).2.1 then [(st.readRows m).1]
    else (st.readRows m).1 :: M2Z.session (st.readRows m).2.2 ms

def M2Z.new (a b : List Row) (ra rb : List Nat) : M2Z :=
  { r0 := some { b := Buf.fresh a ra, slot0 := default, ghost := false }, r1 := some { b := Buf.fresh b rb, slot0 := default, ghost := false },
    prev := 0, streak := 0, initialized := false }

end PqModel.Merge
