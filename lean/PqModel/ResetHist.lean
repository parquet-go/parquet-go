import PqModel.LevelStats

/-! # C17 — level histograms and size statistics across `Reset` (state → bytes)

`Reset.lean` treats `levelHist` / `pageLevelHists` / `totalUnencoded` as opaque fields that the column
reset empties. This file models what those fields are made of and how the NEXT file's bytes are computed
from them, including the one thing `Reset.lean` leaves out: SPARE CAPACITY. `(*ColumnWriter).reset`
(writer.go 2139-2142) keeps the backing arrays of the per-page histograms (`s = s[:0]`), so the counts of
the previous row group / file stay in memory behind the slice; `accumulateAndAppendPageLevelHistogram`
(writer_statistics.go 56-75) re-extends the slice over that memory (`slices.Grow(s, n)[:len+n]`).

MIRROR (as the code is): `CapSlice.extend` (slices.Grow + reslice), `appendPage` (writer_statistics.go
56-75), `LevelHist.reset` (writer.go 2139-2142), `step` on `.page` (writer.go 2834-2939 `recordPageStats`),
`emit` (writer.go 1613-1629 `writeRowGroup`: what goes into ColumnIndex / SizeStatistics).
Reference: `LevelStats.chunkHists` (and the sum of the pages' unencoded bytes), C05's mirror of the same accumulation over plain lists
(no capacity, no earlier content); that it is the count of each level per page and per chunk is
`Props.C05.histogram_exact` / `chunkHistogram_exact` (for levels within `0..maxLevel`). -/

namespace PqModel.ResetHist
open PqModel.LevelStats

/-- A Go `[]int64` together with its spare capacity: `live` = elements `[0, len)`,
`spare` = elements `[len, cap)` of the same backing array (what a later reslice would expose). -/
structure CapSlice where
  live : List Nat
  spare : List Nat
deriving DecidableEq

/-- a nil slice -/
def CapSlice.empty : CapSlice := ⟨[], []⟩

/-- `s[:0]`: same backing array, every element becomes spare capacity -/
def CapSlice.truncate (s : CapSlice) : CapSlice := ⟨[], s.live ++ s.spare⟩

/-- MIRROR `slices.Grow(s, n)[:len(s)+n]` (go/src/slices/slices.go `Grow`: when the capacity does not
suffice, `append(s[:cap(s)], make([]E, n-spare)...)[:len(s)]` — the new array starts with a copy of the
WHOLE old array, spare part included, followed by zeroed memory; `extra` is however much capacity the
runtime's size classes add on top). The elements the reslice exposes are therefore the old spare elements
first, zeros after them. -/
def CapSlice.extend (s : CapSlice) (n extra : Nat) : CapSlice :=
  if n ≤ s.spare.length then ⟨s.live ++ s.spare.take n, s.spare.drop n⟩
  else ⟨s.live ++ (s.spare ++ List.replicate (n - s.spare.length) 0), List.replicate extra 0⟩

/-- `clear(s[start:])` -/
def CapSlice.clearFrom (s : CapSlice) (start : Nat) : CapSlice :=
  ⟨s.live.take start ++ List.replicate (s.live.length - start) 0, s.spare⟩

/-- MIRROR `accumulateAndAppendPageLevelHistogram`, writer_statistics.go 56-75.
`clr = true` is the code as it stands; `clr = false` drops the `clear(...)` line ("Grow returns zeroed
memory"). Returns the updated column histogram and the updated per-page histograms. -/
def appendPage (clr : Bool) (col : List Nat) (ph : CapSlice) (levels : List Nat) (maxLevel extra : Nat) :
    List Nat × CapSlice :=
  let start := ph.live.length
  let g := ph.extend (maxLevel + 1) extra
  let g := if clr then g.clearFrom start else g
  (levels.foldl bump col, ⟨g.live.take start ++ levels.foldl bump (g.live.drop start), g.spare⟩)

/-- the histogram state of one level kind (repetition or definition) of one column writer -/
structure LevelHist where
  maxLevel : Nat
  col : List Nat        -- c.repetitionLevelHistogram / c.definitionLevelHistogram
  pages : CapSlice      -- c.pageRepetitionLevelHistograms / c.pageDefinitionLevelHistograms
deriving DecidableEq

/-- MIRROR writer.go 826-832: `make([]int64, maxLevel+1)`, page histograms nil -/
def LevelHist.fresh (maxLevel : Nat) : LevelHist := ⟨maxLevel, List.replicate (maxLevel + 1) 0, CapSlice.empty⟩

/-- MIRROR writer.go 2139-2142: `clear(c.xLevelHistogram)`; `c.pageXLevelHistograms[:0]` -/
def LevelHist.reset (h : LevelHist) : LevelHist :=
  { h with col := h.col.map (fun _ => 0), pages := h.pages.truncate }

/-- one recorded page of this level kind: its levels, and the capacity slack should the slice grow
    (`PageIn.rep` / `extraRep` or `dfn` / `extraDef`) -/
def LevelHist.page (clr : Bool) (h : LevelHist) (levels : List Nat) (extra : Nat) : LevelHist :=
  let r := appendPage clr h.col h.pages levels h.maxLevel extra
  { h with col := r.1, pages := r.2 }

/-- the pages `(levels, capacity slack)` of one level kind recorded in order -/
def LevelHist.record (h : LevelHist) (pages : List (List Nat × Nat)) : LevelHist :=
  pages.foldl (fun h p => h.page true p.1 p.2) h

theorem LevelHist.record_nil (h : LevelHist) : h.record [] = h := rfl

theorem LevelHist.record_cons (h : LevelHist) (p : List Nat × Nat) (ps : List (List Nat × Nat)) :
    h.record (p :: ps) = (h.page true p.1 p.2).record ps := rfl

/-- the size-statistics state of a column writer; a level kind is present when its max level is > 0
(writer.go 826-832, 2893-2911) -/
structure ColStats where
  rep : Option LevelHist
  dfn : Option LevelHist
  unencoded : Nat          -- c.totalUnencodedByteArrayBytes
deriving DecidableEq

def ColStats.fresh (maxRep maxDef : Nat) : ColStats :=
  { rep := if maxRep = 0 then none else some (LevelHist.fresh maxRep),
    dfn := if maxDef = 0 then none else some (LevelHist.fresh maxDef), unencoded := 0 }

/-- one recorded data page: its repetition levels, definition levels, the unencoded BYTE_ARRAY bytes it
holds, and the capacity slack the runtime adds should a page-histogram slice have to grow -/
structure PageIn where
  rep : List Nat
  dfn : List Nat
  bytes : Nat
  extraRep : Nat := 0
  extraDef : Nat := 0
deriving DecidableEq

inductive Op
  | page (p : PageIn)
  /-- `(*ColumnWriter).reset`: by `Writer.Reset`, and after every row group (`defer rg.reset()`) -/
  | reset
deriving DecidableEq

/-- MIRROR `recordPageStats` writer.go 2834-2939 / `(*ColumnWriter).reset` writer.go 2139-2142 -/
def step (clr : Bool) (s : ColStats) : Op → ColStats
  | .page p => { rep := s.rep.map (fun h => h.page clr p.rep p.extraRep),
                 dfn := s.dfn.map (fun h => h.page clr p.dfn p.extraDef),
                 unencoded := s.unencoded + p.bytes }
  | .reset => { rep := s.rep.map LevelHist.reset, dfn := s.dfn.map LevelHist.reset, unencoded := 0 }

def run (clr : Bool) (s : ColStats) (ops : List Op) : ColStats := ops.foldl (step clr) s

/-- what `writeRowGroup` serialises from this state (writer.go 1613-1629) -/
structure Emitted where
  sizeUnencoded : Nat                       -- SizeStatistics.unencoded_byte_array_data_bytes
  sizeRep : Option (List Nat)               -- SizeStatistics.repetition_level_histogram
  sizeDef : Option (List Nat)               -- SizeStatistics.definition_level_histogram
  indexRep : Option (List Nat)              -- ColumnIndex.repetition_level_histograms
  indexDef : Option (List Nat)              -- ColumnIndex.definition_level_histograms
deriving DecidableEq

def emit (s : ColStats) : Emitted :=
  { sizeUnencoded := s.unencoded, sizeRep := s.rep.map (·.col), sizeDef := s.dfn.map (·.col),
    indexRep := s.rep.map (·.pages.live), indexDef := s.dfn.map (·.pages.live) }

/-- C05's `LevelStats` on exactly these pages -/
def specEmit (maxRep maxDef : Nat) (pages : List PageIn) : Emitted :=
  { sizeUnencoded := (pages.map (·.bytes)).sum,
    sizeRep := if maxRep = 0 then none else some (chunkHists maxRep (pages.map (·.rep))).1,
    sizeDef := if maxDef = 0 then none else some (chunkHists maxDef (pages.map (·.dfn))).1,
    indexRep := if maxRep = 0 then none else some (chunkHists maxRep (pages.map (·.rep))).2,
    indexDef := if maxDef = 0 then none else some (chunkHists maxDef (pages.map (·.dfn))).2 }

theorem extend_live (s : CapSlice) (n extra : Nat) :
    ∃ x, x.length = n ∧ (s.extend n extra).live = s.live ++ x := by
  unfold CapSlice.extend
  split
  · next h => exact ⟨s.spare.take n, by rw [List.length_take]; exact Nat.min_eq_left h, rfl⟩
  · next h =>
    refine ⟨s.spare ++ List.replicate (n - s.spare.length) 0, ?_, rfl⟩
    rw [List.length_append, List.length_replicate]
    omega

theorem appendPage_live (col : List Nat) (ph : CapSlice) (levels : List Nat) (maxLevel extra : Nat) :
    (appendPage true col ph levels maxLevel extra).2.live = ph.live ++ pageHist maxLevel levels := by
  obtain ⟨x, hx, he⟩ := extend_live ph (maxLevel + 1) extra
  simp only [appendPage, if_true, CapSlice.clearFrom, he, pageHist]
  simp [hx]

theorem appendPage_col (clr : Bool) (col : List Nat) (ph : CapSlice) (levels : List Nat) (maxLevel extra : Nat) :
    (appendPage clr col ph levels maxLevel extra).1 = accumulate col levels := rfl

theorem pages_fold (h : LevelHist) (pages : List (List Nat × Nat)) :
    let h' := h.record pages
    (h'.col, h'.pages.live) =
      (pages.map (·.1)).foldl (fun (acc : List Nat × List Nat) lv =>
        (accumulate acc.1 lv, acc.2 ++ pageHist h.maxLevel lv)) (h.col, h.pages.live) := by
  induction pages generalizing h with
  | nil => rfl
  | cons p rest ih =>
    simp only [LevelHist.record_cons, List.foldl_cons, List.map_cons]
    rw [ih (LevelHist.page true h p.1 p.2)]
    simp only [LevelHist.page, appendPage_live, appendPage_col]

theorem page_col_length (clr : Bool) (h : LevelHist) (levels : List Nat) (extra : Nat) :
    (h.page clr levels extra).col.length = h.col.length :=
  List.foldlRecOn levels bump (motive := (·.length = h.col.length)) rfl fun c hc l _ => (bump_length c l).trans hc

/-- the well-formedness every operation keeps: the column histogram has `maxLevel + 1` counters -/
def LevelHist.OK (h : LevelHist) : Prop := h.col.length = h.maxLevel + 1

/-- no counts; the spare capacity is NOT part of cleanliness -/
def LevelHist.Clean (h : LevelHist) : Prop := h.col = List.replicate (h.maxLevel + 1) 0 ∧ h.pages.live = []

theorem reset_clean (h : LevelHist) (hl : h.OK) : h.reset.Clean := by
  refine ⟨?_, rfl⟩
  show h.col.map (fun _ => 0) = List.replicate (h.maxLevel + 1) 0
  rw [← hl]
  exact List.map_const' ..

def KindIs (P : LevelHist → Prop) (max : Nat) : Option LevelHist → Prop
  | none => max = 0
  | some h => max ≠ 0 ∧ h.maxLevel = max ∧ P h

theorem KindIs.fresh {P : LevelHist → Prop} (max : Nat) (h : P (LevelHist.fresh max)) :
    KindIs P max (if max = 0 then none else some (LevelHist.fresh max)) := by
  split
  · assumption
  · exact ⟨‹_›, rfl, h⟩

theorem KindIs.map {P Q : LevelHist → Prop} {max : Nat} {o : Option LevelHist} (h : KindIs P max o)
    (f : LevelHist → LevelHist) (hf : ∀ x, P x → (f x).maxLevel = x.maxLevel ∧ Q (f x)) :
    KindIs Q max (o.map f) := by
  cases o with
  | none => exact h
  | some x => exact ⟨h.1, (hf x h.2.2).1.trans h.2.1, (hf x h.2.2).2⟩

def ColStats.OK (maxRep maxDef : Nat) (s : ColStats) : Prop :=
  KindIs LevelHist.OK maxRep s.rep ∧ KindIs LevelHist.OK maxDef s.dfn

def ColStats.Clean (maxRep maxDef : Nat) (s : ColStats) : Prop :=
  KindIs LevelHist.Clean maxRep s.rep ∧ KindIs LevelHist.Clean maxDef s.dfn ∧ s.unencoded = 0

theorem fresh_ok (maxRep maxDef : Nat) : (ColStats.fresh maxRep maxDef).OK maxRep maxDef :=
  ⟨.fresh maxRep List.length_replicate, .fresh maxDef List.length_replicate⟩

theorem fresh_clean (maxRep maxDef : Nat) : (ColStats.fresh maxRep maxDef).Clean maxRep maxDef :=
  ⟨.fresh maxRep ⟨rfl, rfl⟩, .fresh maxDef ⟨rfl, rfl⟩, rfl⟩

theorem step_ok (clr : Bool) (maxRep maxDef : Nat) (s : ColStats) (op : Op) (h : s.OK maxRep maxDef) :
    (step clr s op).OK maxRep maxDef := by
  cases op with
  | page p =>
    exact ⟨h.1.map _ fun x hx => ⟨rfl, (page_col_length clr x _ _).trans hx⟩,
      h.2.map _ fun x hx => ⟨rfl, (page_col_length clr x _ _).trans hx⟩⟩
  | reset =>
    exact ⟨h.1.map _ fun x hx => ⟨rfl, (List.length_map _).trans hx⟩,
      h.2.map _ fun x hx => ⟨rfl, (List.length_map _).trans hx⟩⟩

theorem run_ok (clr : Bool) (maxRep maxDef : Nat) (ops : List Op) (s : ColStats) (h : s.OK maxRep maxDef) :
    (run clr s ops).OK maxRep maxDef :=
  List.foldlRecOn ops (step clr) h fun s hs op _ => step_ok clr maxRep maxDef s op hs

theorem reset_makes_clean (clr : Bool) (maxRep maxDef : Nat) (s : ColStats) (h : s.OK maxRep maxDef) :
    (step clr s .reset).Clean maxRep maxDef :=
  ⟨h.1.map _ fun x hx => ⟨rfl, reset_clean x hx⟩, h.2.map _ fun x hx => ⟨rfl, reset_clean x hx⟩, rfl⟩

theorem kind_after_clean (h : LevelHist) (hc : h.Clean) (pages : List (List Nat × Nat)) :
    let h' := h.record pages
    h'.col = (chunkHists h.maxLevel (pages.map (·.1))).1 ∧ h'.pages.live = (chunkHists h.maxLevel (pages.map (·.1))).2 := by
  have := pages_fold h pages
  simp only [hc.1, hc.2] at this
  simp only [chunkHists]
  exact ⟨congrArg Prod.fst this, congrArg Prod.snd this⟩

theorem KindIs.emit {max : Nat} {o : Option LevelHist} (h : KindIs LevelHist.Clean max o) (pages : List (List Nat × Nat)) :
    let o' := o.map fun h => h.record pages
    o'.map (·.col) = (if max = 0 then none else some (chunkHists max (pages.map (·.1))).1) ∧
    o'.map (·.pages.live) = (if max = 0 then none else some (chunkHists max (pages.map (·.1))).2) := by
  cases o with
  | none => simp [show max = 0 from h]
  | some x =>
    obtain ⟨hne, hm, hc⟩ := h
    have k := kind_after_clean x hc pages
    rw [hm] at k
    simp [hne, k.1, k.2]

theorem run_pages_proj (s : ColStats) (pages : List PageIn) :
    run true s (pages.map Op.page) =
      { rep := s.rep.map (fun h => h.record (pages.map fun p => (p.rep, p.extraRep))),
        dfn := s.dfn.map (fun h => h.record (pages.map fun p => (p.dfn, p.extraDef))),
        unencoded := s.unencoded + (pages.map (·.bytes)).sum } := by
  induction pages generalizing s with
  | nil => cases s; simp [run, LevelHist.record_nil]
  | cons p rest ih =>
    have := ih (step true s (.page p))
    simp only [run, List.map_cons, List.foldl_cons] at this ⊢
    rw [this]
    simp only [step, Option.map_map, List.sum_cons, Nat.add_assoc]
    rfl

theorem emit_clean (maxRep maxDef : Nat) (s : ColStats) (h : s.Clean maxRep maxDef) (pages : List PageIn) :
    emit (run true s (pages.map Op.page)) = specEmit maxRep maxDef pages := by
  obtain ⟨h1, h2, h3⟩ := h
  have kr := h1.emit (pages.map fun p => (p.rep, p.extraRep))
  have kd := h2.emit (pages.map fun p => (p.dfn, p.extraDef))
  simp only [List.map_map, Function.comp_def] at kr kd
  rw [run_pages_proj]
  simp only [emit, specEmit, kr.1, kr.2, kd.1, kd.2, h3, Nat.zero_add]

end PqModel.ResetHist
