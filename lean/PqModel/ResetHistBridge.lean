import PqModel.Reset
import PqModel.ResetHist

/-! # C17 — `Reset.lean`'s histogram fields are the live parts of `ResetHist`'s state

`Reset.ColVol` carries `levelHist` (the repetition histogram followed by the definition histogram, as
the hook `VerifWriterObservation` prints them), `pageLevelHists` and `totalUnencoded` as plain lists /
numbers. `ResetHist.ColStats` refines them (one `LevelHist` per level kind, slices with their spare
capacity). `Refines` relates the two; that the column resets of both models preserve it is
`Props.C17Hist.reset_models_agree`, so the fresh-writer
observation that `reset_equiv` (Props/C17) establishes for these fields is the `Clean` state from which
`stats_after_reset` (Props/C17Hist) computes the bytes. -/

namespace PqModel.ResetHist
open PqModel.Reset

def optCol : Option LevelHist → List Nat
  | none => []
  | some h => h.col

def optLive : Option LevelHist → List Nat
  | none => []
  | some h => h.pages.live

/-- the abstraction relation: what `Reset.ColVol` records of a `ColStats` -/
def Refines (v : ColVol) (s : ColStats) : Prop :=
  v.levelHist = optCol s.rep ++ optCol s.dfn ∧
  v.pageLevelHists = optLive s.rep ++ optLive s.dfn ∧
  v.totalUnencoded = s.unencoded

/-- the repaired column reset differs from the as-is one in `plainBuffered` and `bloomLength` only, which
    `Refines` does not read -/
theorem refines_resetFixed_iff (c : Col) (s : ColStats) :
    Refines (colResetFixed c).vol s ↔ Refines (colResetAsIs c).vol s := Iff.rfl

theorem optCol_reset (o : Option LevelHist) : optCol (o.map LevelHist.reset) = (optCol o).map (fun _ => 0) := by
  cases o <;> rfl

theorem optLive_reset (o : Option LevelHist) : optLive (o.map LevelHist.reset) = [] := by
  cases o <;> rfl

/-- a fresh `Reset` column refines a fresh `ResetHist` state when the histogram length is the two
kinds' lengths together (`VerifColumnConfig` reports `len(rep) + len(def)` as `histLen`) -/
theorem refines_fresh (st : ColStable) (maxRep maxDef : Nat)
    (hl : st.histLen = (if maxRep = 0 then 0 else maxRep + 1) + (if maxDef = 0 then 0 else maxDef + 1)) :
    Refines (ColVol.fresh st) (ColStats.fresh maxRep maxDef) := by
  refine ⟨?_, ?_, rfl⟩
  · simp only [ColVol.fresh, ColStats.fresh, hl]
    by_cases h1 : maxRep = 0 <;> by_cases h2 : maxDef = 0 <;>
      simp [h1, h2, optCol, LevelHist.fresh, List.replicate_append_replicate]
  · simp only [ColVol.fresh, ColStats.fresh]
    by_cases h1 : maxRep = 0 <;> by_cases h2 : maxDef = 0 <;>
      simp [h1, h2, optLive, LevelHist.fresh, CapSlice.empty]

end PqModel.ResetHist
