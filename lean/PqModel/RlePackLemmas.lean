import PqModel.RleLemmas
import PqModel.RleDecode

/-! `bitpack.Pack` (portable `packInt32Default`, C04 rle): the bytes written so far followed by the buffered
bits always denote the number of the packed bit string (`PackInv`); at the end that is `packBytes`. -/
namespace PqModel.Rle
open PqModel.Bits

structure PackInv (w : Nat) (st : PackSt) (xs : List Nat) : Prop where
  len : 8 * st.out.length + st.bits = xs.length * w
  /-- the flush loop leaves fewer than 32 bits -/
  lt32 : st.bits < 32
  buf : st.buffer < 2 ^ st.bits
  /-- bytes written, then the buffer above them, read as ONE little-endian number, are the number of the packed bit string -/
  num : leNat st.out + 2 ^ (8 * st.out.length) * st.buffer = fromBits (packBits w (xs.map (· % 2 ^ w)))
  bytes : ∀ b ∈ st.out, b < 256

theorem packFlush_small (f : Nat) (st : PackSt) (h : st.bits < 32) : packFlush f st = st := by
  cases f with
  | zero => rfl
  | succ f =>
    have : ¬ st.bits ≥ 32 := by omega
    simp [packFlush, this]

/-- `buffer |= x << bufferedBits` keeps the buffer within `bufferedBits + w` bits -/
theorem add_shl_lt {b x n w : Nat} (hb : b < 2 ^ n) (hx : x < 2 ^ w) : b + x * 2 ^ n < 2 ^ (n + w) := by
  have h1 : (x + 1) * 2 ^ n ≤ 2 ^ w * 2 ^ n := Nat.mul_le_mul_right _ hx
  rw [Nat.add_mul, Nat.one_mul] at h1
  rw [Nat.pow_add, Nat.mul_comm (2 ^ n)]
  omega

/-- `PackInv.lt32` and `PackInv.len` after one flush of 32 bits (`o` bytes written, `n` bits buffered, `w` new ones).
Over variables and outside `packStep_inv`: there `omega` would also read `hnum`, and is slow. -/
theorem flush_arith {o n w X : Nat} (hn : n < 32) (hw : w ≤ 32) (hge : n + w ≥ 32)
    (hlen : 8 * o + (n + w) = X) : n + w - 32 < 32 ∧ 8 * (o + 4) + (n + w - 32) = X := by
  omega

theorem packStep_inv (w : Nat) (hw : w ≤ 32) (st : PackSt) (xs : List Nat) (v : Nat)
    (h : PackInv w st xs) : PackInv w (packStep w st v) (xs ++ [v]) := by
  obtain ⟨hlen, hlt, hbuf, hnum, hbytes⟩ := h
  unfold packStep
  have hx : v % 2 ^ w < 2 ^ w := Nat.mod_lt _ (Nat.two_pow_pos w)
  -- the number denoted by the bit string grows by `x * 2 ^ (xs.length * w)`
  have hN : fromBits (packBits w ((xs ++ [v]).map (· % 2 ^ w))) =
      fromBits (packBits w (xs.map (· % 2 ^ w))) + 2 ^ (xs.length * w) * (v % 2 ^ w) := by
    rw [List.map_append, packBits_append, fromBits_append, packBits_length, List.length_map, Nat.mul_comm w]
    simp [packBits, fromBits_toBits w _ hx]
  have hlen' : 8 * st.out.length + (st.bits + w) = (xs ++ [v]).length * w := by
    rw [List.length_append, List.length_singleton, Nat.add_mul, Nat.one_mul]; omega
  generalize v % 2 ^ w = x at hx hN ⊢
  -- after `buffer |= x << bufferedBits; bufferedBits += w`
  have hb1 : st.buffer + x * 2 ^ st.bits < 2 ^ (st.bits + w) := add_shl_lt hbuf hx
  have hnum1 : leNat st.out + 2 ^ (8 * st.out.length) * (st.buffer + x * 2 ^ st.bits) =
      fromBits (packBits w ((xs ++ [v]).map (· % 2 ^ w))) := by
    rw [hN, ← hnum, ← hlen, Nat.pow_add, Nat.mul_add, Nat.add_assoc]
    congr 2
    ac_rfl
  generalize hB : st.buffer + x * 2 ^ st.bits = B at hb1 hnum1 ⊢
  by_cases hge : st.bits + w ≥ 32
  · obtain ⟨hb32, hlen32⟩ := flush_arith hlt hw hge hlen'
    have hsplit : 2 ^ (st.bits + w) = 2 ^ 32 * 2 ^ (st.bits + w - 32) := by
      rw [← Nat.pow_add, Nat.add_sub_cancel' hge]
    have hno : ¬ (st.bits + w - 32 ≥ 32) := Nat.not_le.mpr hb32
    simp only [packFlush, hge, hno, if_true, if_false]
    have ho : (st.out ++ leBytes 4 (B % 2 ^ 32)).length = st.out.length + 4 := by
      rw [List.length_append, leBytes_length]
    refine ⟨?_, hb32, ?_, ?_, ?_⟩
    · show 8 * (st.out ++ leBytes 4 (B % 2 ^ 32)).length + (st.bits + w - 32) = _
      rw [ho]; exact hlen32
    · exact Nat.div_lt_of_lt_mul (by rw [← hsplit]; exact hb1)
    · show leNat (st.out ++ leBytes 4 (B % 2 ^ 32)) +
          2 ^ (8 * (st.out ++ leBytes 4 (B % 2 ^ 32)).length) * (B / 2 ^ 32) = _
      rw [ho]
      rw [leNat_append, leNat_leBytes, ← hnum1]
      have hr : B % 2 ^ 32 % 256 ^ 4 = B % 2 ^ 32 := by
        rw [← LE.two_pow_eight_mul 4]; exact Nat.mod_mod _ _
      have e : 8 * (st.out.length + 4) = 8 * st.out.length + 32 := Nat.mul_add 8 _ 4
      rw [hr, e, Nat.pow_add, Nat.add_assoc, Nat.mul_assoc, ← Nat.mul_add, Nat.mod_add_div]
    · intro b hb
      rw [List.mem_append] at hb
      rcases hb with hb | hb
      · exact hbytes b hb
      · exact leBytes_lt _ _ b hb
  · have hlt' : st.bits + w < 32 := Nat.not_le.mp hge
    rw [packFlush_small 2 _ hlt']
    exact ⟨hlen', hlt', hb1, hnum1, hbytes⟩

theorem packFold_inv (w : Nat) (hw : w ≤ 32) : ∀ (src xs : List Nat) (st : PackSt), PackInv w st xs →
    PackInv w (src.foldl (packStep w) st) (xs ++ src)
  | [], xs, st, h => by simpa using h
  | v :: src, xs, st, h => by
    have := packFold_inv w hw src (xs ++ [v]) (packStep w st v) (packStep_inv w hw st xs v h)
    simpa using this

theorem goPackInt32_eq (w : Nat) (hw : w ≤ 32) (src : List Nat) : goPackInt32 w src = packBytes w src := by
  have hinv := packFold_inv w hw src [] { buffer := 0, bits := 0, out := [] }
    ⟨by simp, by simp, by simp, by simp [leNat, packBits, fromBits], by simp⟩
  simp only [List.nil_append] at hinv
  obtain ⟨hlen, hlt, hbuf, hnum, hbytes⟩ := hinv
  unfold goPackInt32
  generalize List.foldl (packStep w) { buffer := 0, bits := 0, out := [] } src = st at *
  have hres : (if st.bits > 0 then st.out ++ leBytes ((st.bits + 7) / 8) st.buffer else st.out) =
      st.out ++ leBytes ((st.bits + 7) / 8) st.buffer := by
    split
    · rfl
    · have : st.bits = 0 := by omega
      simp [this, leBytes]
  simp only [hres]
  simp only [packBytes]
  rw [bitsToBytes_eq_leBytes _ _ (by omega), ← hnum, packBits_length, List.length_map, Nat.mul_comm w]
  have e : (src.length * w + 7) / 8 = st.out.length + (st.bits + 7) / 8 := by rw [← hlen]; omega
  rw [e, leBytes_add st.out _ _ hbytes]

end PqModel.Rle
