/-! # C10 model — where the `SortingWriter` cuts its sort runs

MIRROR of `sorting.go:152-185` (`Write`/`WriteRows` → `writeRows`), `:132-134` (`Flush`),
`:195-229` (`sortAndWriteBufferedRows`: an empty buffer writes nothing; otherwise the buffered rows
become one row group of the temporary file and the buffer is reset) and of the `Flush` at the start
of `Close` (`:72-75`). The state keeps the rows in arrival order; sorting, duplicate dropping and
the encoding of a run are applied later (`dedupRun` of `Dedupe.lean`; the run sorter is the
parameter `sortRun` of the theorems of `Props/C10.lean`).
`maxRows` is `sortRowCount` (a natural number here; the library accepts any `int64` and does not
terminate on `Write` for `sortRowCount = 0`, see `sorting_writer_zero_run_size_spins`; negative counts panic). -/
namespace PqModel.SortBuf

/-- `SortingWriter`: the row buffer and the rows of every temporary row group written so far -/
structure SW (R : Type) where
  buf : List R
  runs : List (List R)

def SW.empty {R : Type} : SW R := ⟨[], []⟩

/-- MIRROR `sorting.go:195-229` `sortAndWriteBufferedRows` -/
def SW.flush {R : Type} (w : SW R) : SW R :=
  if w.buf.isEmpty then w else { buf := [], runs := w.runs ++ [w.buf] }

/-- MIRROR `sorting.go:158-185` `writeRows`: while rows remain — flush if the buffer holds
    `maxRows` rows or more; hand `rows[wn : min(wn + maxRows - NumRows, numRows)]` to the row buffer.
    One unit of fuel per loop iteration; returns the state and the rows not yet taken. -/
def SW.writeLoop {R : Type} (maxRows : Nat) : Nat → SW R → List R → SW R × List R
  | 0, w, rows => (w, rows)
  | fuel + 1, w, rows =>
    if rows.isEmpty then (w, rows)
    else
      let w1 := if maxRows ≤ w.buf.length then w.flush else w
      let n := maxRows - w1.buf.length
      SW.writeLoop maxRows fuel { w1 with buf := w1.buf ++ rows.take n } (rows.drop n)

inductive SWOp (R : Type) where
  | write (rows : List R)
  | flush

def SW.step {R : Type} (maxRows : Nat) (w : SW R) : SWOp R → SW R
  | .write rows => (w.writeLoop maxRows rows.length rows).1
  | .flush => w.flush

def SW.run {R : Type} (maxRows : Nat) (w : SW R) (ops : List (SWOp R)) : SW R := ops.foldl (SW.step maxRows) w

/-- MIRROR `sorting.go:72-75`: `Close` starts with `Flush` -/
def SW.close {R : Type} (w : SW R) : SW R := w.flush

/-- the runs `Close` merges, for a history of calls on a fresh writer -/
def cutRuns {R : Type} (maxRows : Nat) (ops : List (SWOp R)) : List (List R) := ((SW.empty.run maxRows ops).close).runs

/-- SPEC: the rows written, in the order written -/
def written {R : Type} : List (SWOp R) → List R
  | [] => []
  | .write rows :: t => rows ++ written t
  | .flush :: t => written t

def SW.content {R : Type} (w : SW R) : List R := w.runs.flatten ++ w.buf

def SW.Ok {R : Type} (maxRows : Nat) (w : SW R) : Prop :=
  w.buf.length ≤ maxRows ∧ ∀ r ∈ w.runs, r ≠ [] ∧ r.length ≤ maxRows

def SW.Full {R : Type} (maxRows : Nat) (w : SW R) : Prop := ∀ r ∈ w.runs, r.length = maxRows

theorem SW.flush_content {R : Type} (w : SW R) : w.flush.content = w.content := by
  unfold SW.flush SW.content
  split
  · rfl
  · simp

theorem SW.flush_buf {R : Type} (w : SW R) : w.flush.buf = [] := by
  unfold SW.flush
  split
  · next h => simpa using h
  · rfl

theorem SW.mem_flush_runs {R : Type} {w : SW R} {r : List R} (hr : r ∈ w.flush.runs) :
    r ∈ w.runs ∨ (r = w.buf ∧ w.buf ≠ []) := by
  unfold SW.flush at hr
  split at hr
  · exact Or.inl hr
  · next hb =>
    rcases List.mem_append.mp hr with hr | hr
    · exact Or.inl hr
    · exact Or.inr ⟨by simpa using hr, by intro e; simp [e] at hb⟩

theorem SW.Ok.flush {R : Type} {maxRows : Nat} {w : SW R} (h : w.Ok maxRows) : w.flush.Ok maxRows := by
  refine ⟨by rw [w.flush_buf]; exact Nat.zero_le _, fun r hr => ?_⟩
  rcases SW.mem_flush_runs hr with hr | ⟨rfl, hne⟩
  · exact h.2 r hr
  · exact ⟨hne, h.1⟩

theorem SW.Ok.preflush {R : Type} {maxRows : Nat} (h1 : 1 ≤ maxRows) {w : SW R} (h : w.Ok maxRows) :
    (if maxRows ≤ w.buf.length then w.flush else w).Ok maxRows ∧
    (if maxRows ≤ w.buf.length then w.flush else w).content = w.content ∧
    (if maxRows ≤ w.buf.length then w.flush else w).buf.length < maxRows ∧
    (w.Full maxRows → (if maxRows ≤ w.buf.length then w.flush else w).Full maxRows) := by
  by_cases hc : maxRows ≤ w.buf.length
  · rw [if_pos hc]
    refine ⟨h.flush, w.flush_content, by rw [w.flush_buf]; exact h1, fun hf r hr => ?_⟩
    rcases SW.mem_flush_runs hr with hr | ⟨rfl, _⟩
    · exact hf r hr
    · exact Nat.le_antisymm h.1 hc
  · rw [if_neg hc]
    exact ⟨h, rfl, by omega, id⟩

theorem SW.writeLoop_spec {R : Type} {maxRows : Nat} (h1 : 1 ≤ maxRows) (fuel : Nat) (w : SW R) (rows : List R)
    (hok : w.Ok maxRows) (hl : rows.length ≤ fuel) :
    (w.writeLoop maxRows fuel rows).2 = [] ∧ (w.writeLoop maxRows fuel rows).1.content = w.content ++ rows ∧
    (w.writeLoop maxRows fuel rows).1.Ok maxRows ∧ (w.Full maxRows → (w.writeLoop maxRows fuel rows).1.Full maxRows) := by
  -- cases of `writeLoop`: out of fuel; no rows left; one iteration (pre-flush, take) and the rest
  fun_induction SW.writeLoop maxRows fuel w rows with
  | case1 w rows =>
    have : rows = [] := List.eq_nil_of_length_eq_zero (by omega)
    subst this
    exact ⟨rfl, (List.append_nil _).symm, hok, id⟩
  | case2 fuel w rows he =>
    have : rows = [] := by simpa using he
    subst this
    exact ⟨rfl, (List.append_nil _).symm, hok, id⟩
  | case3 fuel w rows he w1 n ih =>
    have hpos : 0 < rows.length := List.length_pos_iff.mpr (by simpa using he)
    obtain ⟨ok1, c1, lt1, f1⟩ := hok.preflush h1
    rw [show (if maxRows ≤ w.buf.length then w.flush else w) = w1 from rfl] at ok1 c1 lt1 f1
    have hn : n = maxRows - w1.buf.length := rfl
    have ok2 : ({ w1 with buf := w1.buf ++ rows.take n } : SW R).Ok maxRows := by
      refine ⟨?_, ok1.2⟩
      simp only [List.length_append, List.length_take]
      omega
    obtain ⟨i1, i2, i3, i4⟩ := ih ok2 (by rw [List.length_drop]; omega)
    refine ⟨i1, ?_, i3, fun hf => i4 (f1 hf)⟩
    rw [i2, ← c1]
    simp only [SW.content, List.append_assoc, List.take_append_drop]

theorem SW.Ok.step {R : Type} {maxRows : Nat} (h1 : 1 ≤ maxRows) {w : SW R} (h : w.Ok maxRows) (op : SWOp R) :
    (w.step maxRows op).Ok maxRows ∧
    (w.step maxRows op).content = w.content ++ (match op with | .write rows => rows | .flush => []) := by
  cases op with
  | write rows =>
    obtain ⟨_, b, c, _⟩ := SW.writeLoop_spec h1 rows.length w rows h (Nat.le_refl _)
    exact ⟨c, b⟩
  | flush => exact ⟨h.flush, by simp [SW.step, SW.flush_content]⟩

theorem SW.run_spec {R : Type} {maxRows : Nat} (h1 : 1 ≤ maxRows) : ∀ (ops : List (SWOp R)) (w : SW R), w.Ok maxRows →
    (w.run maxRows ops).Ok maxRows ∧ (w.run maxRows ops).content = w.content ++ written ops
  | [], w, h => by simp [SW.run, written, h]
  | op :: ops, w, h => by
    obtain ⟨o1, c1⟩ := h.step h1 op
    obtain ⟨o2, c2⟩ := SW.run_spec h1 ops (w.step maxRows op) o1
    simp only [SW.run, List.foldl_cons] at o2 c2 ⊢
    refine ⟨o2, ?_⟩
    rw [c2, c1]
    cases op <;> simp [written]

theorem SW.Ok.empty {R : Type} (maxRows : Nat) : (SW.empty : SW R).Ok maxRows := ⟨by simp [SW.empty], by simp [SW.empty]⟩

end PqModel.SortBuf
