import PqModel.Bits

/-! # RLE / bit-packed hybrid (C04, part rle)

Bytes are `Nat`s below 256, values are `Nat`s (an `int32` enters as its `uint32` bit pattern),
booleans are 0/1.

* **SPEC** (written from parquet-format `Encodings.md` only): `decodeRuns`, `specDecode`,
  `specDecodeBoolean`, `specDecodeLevelsV1`, `specDecodeDict`, the grammar `ValidRle`.
* **MIRROR** (transliteration of `encoding/rle/rle.go`, portable code): `encodeLevels`
  (`encodeBytes`), `encodeInt32`, `encodeBits`/`encodeBoolean`, `encodeDict`. The Go loops append
  to `dst` run by run; the mirror returns the list of runs (`Run`) in the same order and
  `serialize` writes each run the way `appendRunLength*` / `appendBitPacked*` do.
  Bit-packed payloads are written as `packBytes` (LSB-first packing of the values masked to the bit
  width). That this is what the portable kernels compute is proved (`Props/C04Rle.lean`) about their transliterations
  in `RleDecode.lean`: `encodeBytesBitpackDefault` (`levels_pack_kernel`) and the third-party
  `bitpack.Pack` / `packInt32Default` (`int32_pack_kernel`); likewise for the decoding kernels
  (`levels_unpack_kernel`, `int32_unpack_kernel`). The assembly kernels (BMI2 / AVX2 / bitpack amd64)
  are tied by L2 only. The Go boolean decoder (`goUvarint`, `goDecodeBitsLoop`, `goDecodeBoolean`, bit level)
  and the legacy BIT_PACKED levels are at the end of this file; the other Go DECODERS (`decodeBytes`,
  `decodeInt32`, dictionary indexes) are mirrored in `RleDecode.lean`, the byte level of the boolean decoder
  in `RleBoolBytes.lean`, the BIT_PACKED decoder in `BitPackedDecode.lean`.
-/
namespace PqModel.Rle
open PqModel.Bits

inductive Err where
  | truncHeader | truncBitPacked | truncRleValue | truncPrefix | fuel | width | invalidBitWidth
  | runTooLong
  deriving DecidableEq

def Err.name : Err → String
  | .truncHeader => "trunc-header" | .truncBitPacked => "trunc-bitpacked"
  | .truncRleValue => "trunc-rle-value" | .truncPrefix => "trunc-prefix" | .fuel => "fuel"
  | .width => "width" | .invalidBitWidth => "invalid-bit-width" | .runTooLong => "run-too-long"

/-- little-endian number of a byte string -/
def leNat : List Nat → Nat
  | [] => 0
  | b :: bs => b + 256 * leNat bs

/-- the `k` low bytes of `v`, little-endian -/
def leBytes : Nat → Nat → List Nat
  | 0, _ => []
  | k + 1, v => v % 256 :: leBytes k (v / 256)

def b2n (b : Bool) : Nat := if b then 1 else 0

/-! ## SPEC decoder -/

/-- SPEC. `rle-bit-packed-hybrid := <run>*`, `run := varint-header (bit-packed-run | rle-run)`.
`header & 1 = 1`: bit-packed run of `(header >> 1) * 8` values at width `w`, LSB first, in
`(header >> 1) * w` bytes. Otherwise an RLE run of `header >> 1` copies of the value stored in
`ceil(w/8)` bytes little-endian (masked to `w` bits, note N1). Decoding stops as soon as `need`
values have been produced (a reader knows the value count from the page header), trailing bytes
and the padding values of the last bit-packed run are ignored. `fuel` bounds the number of runs. -/
def decodeRuns (w : Nat) : Nat → Nat → List Nat → Except Err (List Nat)
  | 0, need, _ => if need = 0 then .ok [] else .error .fuel
  | f + 1, need, bs =>
    if need = 0 then .ok [] else
    match decUvarint bs with
    | none => .error .truncHeader
    | some (h, rest) =>
      if h % 2 = 1 then
        let nb := (h / 2) * w
        if rest.length < nb then .error .truncBitPacked else
        let k := min need (8 * (h / 2))
        (decodeRuns w f (need - k) (rest.drop nb)).map
          (unpackBits w k (bytesToBits (rest.take nb)) ++ ·)
      else
        let vb := (w + 7) / 8
        if rest.length < vb then .error .truncRleValue else
        let k := min need (h / 2)
        (decodeRuns w f (need - k) (rest.drop vb)).map
          (List.replicate k (leNat (rest.take vb) % 2 ^ w) ++ ·)

/-- SPEC: `n` values of width `w` from a hybrid stream (no length prefix: data page v2 levels,
the body of the other variants). -/
def specDecode (w n : Nat) (bs : List Nat) : Except Err (List Nat) :=
  decodeRuns w (bs.length + 1) n bs

/-- SPEC: `<length: 4 bytes little endian> <hybrid stream of length bytes>` at width `w`
(data page v1 levels). -/
def specDecodeLevelsV1 (w n : Nat) (bs : List Nat) : Except Err (List Nat) :=
  if bs.length < 4 then .error .truncPrefix else
  let len := leNat (bs.take 4)
  if (bs.drop 4).length < len then .error .truncPrefix else
  specDecode w n ((bs.drop 4).take len)

/-- SPEC: RLE-encoded BOOLEAN values: width 1, 4-byte little-endian length prefix. -/
def specDecodeBoolean (n : Nat) (bs : List Nat) : Except Err (List Nat) :=
  specDecodeLevelsV1 1 n bs

/-- SPEC: RLE_DICTIONARY index page: `<bit width: 1 byte> <hybrid stream>`; width at most 32. -/
def specDecodeDict (n : Nat) (bs : List Nat) : Except Err (List Nat) :=
  match bs with
  | [] => if n = 0 then .ok [] else .error .truncHeader
  | w :: rest => if w > 32 then .error .width else specDecode w n rest

/-! ## Runs: the grammar of conformant streams, and the output unit of the mirror encoders -/

inductive Run where
  /-- `count` copies of the value whose stored bytes are `value` -/
  | rle (count : Nat) (value : List Nat)
  /-- `groups * 8` values, already packed -/
  | bp (groups : Nat) (packed : List Nat)

/-- what `appendRunLength*` / `appendBitPacked*` write (rle.go:492-534): uvarint header, payload -/
def Run.bytes : Run → List Nat
  | .rle c v => uvarint (2 * c) ++ v
  | .bp g p => uvarint (2 * g + 1) ++ p

/-- SPEC reading of one run at width `w` -/
def Run.values (w : Nat) : Run → List Nat
  | .rle c v => List.replicate c (leNat v % 2 ^ w)
  | .bp g p => unpackBits w (8 * g) (bytesToBits p)

def Run.WF (w : Nat) : Run → Prop
  | .rle _ v => v.length = (w + 7) / 8
  | .bp g p => p.length = g * w

def serialize (rs : List Run) : List Nat := (rs.map Run.bytes).flatten

def runsValues (w : Nat) (rs : List Run) : List Nat := (rs.map (Run.values w)).flatten

/-- SPEC grammar: `bytes` is a conformant hybrid encoding of `xs` at width `w`, for any
segmentation into runs (zero-length runs and non-canonical high bits in RLE values allowed). -/
def ValidRle (w : Nat) (xs bytes : List Nat) : Prop :=
  ∃ rs : List Run, (∀ r ∈ rs, r.WF w) ∧ runsValues w rs = xs ∧ serialize rs = bytes

/-! ## MIRROR encoders -/

/-- Model of the bit-packing kernels (`encodeBytesBitpackDefault` rle.go:572-590, `bitpack.Pack`):
every value masked to `w` bits, packed LSB first, zero padded to a byte. -/
def packBytes (w : Nat) (vals : List Nat) : List Nat :=
  bitsToBytes (packBits w (vals.map (· % 2 ^ w))).length (packBits w (vals.map (· % 2 ^ w)))

/-- `unsafecast.Slice[uint64](src)` / `[][8]int32`: `n` groups of 8 values -/
def groups8 : Nat → List Nat → List (List Nat)
  | 0, _ => []
  | n + 1, xs => xs.take 8 :: groups8 n (xs.drop 8)

/-- MIRROR rle.go:189-198 and 237-246: the tail (`len(src) % 8` values) becomes RLE runs of equal
neighbours; `enc v` are the stored bytes of the value. -/
def tailLoop (enc : Nat → List Nat) : Nat → List Nat → List Run
  | 0, _ => []
  | _ + 1, [] => []
  | f + 1, a :: rest =>
    let k := (rest.takeWhile (· == a)).length
    .rle (k + 1) (enc a) :: tailLoop enc f (rest.drop k)

/-- MIRROR rle.go:178: `for j < len(words) && words[j] != broadcast8x1(words[j-1])` -/
def scanLevels : List Nat → List (List Nat) → Nat
  | _, [] => 0
  | prev, g :: gs => if g != List.replicate 8 (prev.headD 0) then 1 + scanLevels g gs else 0

/-- MIRROR of the loop shared by `encodeBytes` (rle.go:165-186, 8-byte words) and `encodeInt32`
(rle.go:217-234, `[8]int32` words). `g :: gs` is `words[i:]`.
`pattern := broadcast(words[i][0])`; `for j < len(words) && words[j] == pattern { j++ }`;
if the run is not empty it is emitted as an RLE run of `8*(j-i)` values with stored bytes `enc v`,
otherwise `j++`, `scan` advances `j` over the words to bit-pack and `words[i:j]` is bit-packed. -/
def groupLoop (enc : Nat → List Nat) (scan : List Nat → List (List Nat) → Nat) (w : Nat) :
    Nat → List (List Nat) → List Run
  | 0, _ => []
  | _ + 1, [] => []
  | f + 1, g :: gs =>
    let v := g.headD 0
    let k := ((g :: gs).takeWhile (· == List.replicate 8 v)).length
    if 0 < k then .rle (8 * k) (enc v) :: groupLoop enc scan w f ((g :: gs).drop k)
    else
      let m := 1 + scan g gs
      .bp m (packBytes w ((g :: gs).take m).flatten) :: groupLoop enc scan w f ((g :: gs).drop m)

/-- MIRROR rle.go:165-186: RLE value is `byte(pattern)` (one byte), the bit-packed scan is
`scanLevels`. -/
def levelsLoop (w : Nat) : Nat → List (List Nat) → List Run :=
  groupLoop (fun v => [v]) scanLevels w

/-- MIRROR rle.go:141-201 `encodeBytes` (levels; `src` are bytes). Values that do not fit `w` bits
are NOT rejected when `w > 0`. -/
def encodeLevels (w : Nat) (src : List Nat) : Except Err (List Nat) :=
  if w > 8 then .error .invalidBitWidth else
  if w = 0 then
    if src.all (· == 0) then .ok (uvarint (2 * src.length)) else .error .invalidBitWidth
  else
    let n := src.length / 8
    .ok (serialize (levelsLoop w n (groups8 n src) ++ tailLoop (fun v => [v]) (src.length % 8) (src.drop (8 * n))))

/-- `words[n] == broadcast8x4(words[n][0])` (rle_purego.go:17) -/
def constGroup (g : List Nat) : Bool := g == List.replicate 8 (g.headD 0)

/-- the lane-local variant of the group test of `encodeInt32IndexEqual8ContiguousAVX2`
(rle_amd64.s:62-84): with `VPSHUFD $0`, which broadcasts within each 128-bit lane, elements 0-3 are
compared with element 0 and 4-7 with element 4. The kernel in /repo uses `VPBROADCASTD` (line 70),
which is `constGroup`. -/
def constGroupAVX2 (g : List Nat) : Bool :=
  g == List.replicate 4 (g.headD 0) ++ List.replicate 4 (g.getD 4 0)

/-- MIRROR rle.go:217-234 (`encodeInt32`): the RLE value is the low `ByteCount(w)` bytes of the
little-endian `uint32`; the scan is `j += encodeInt32IndexEqual8Contiguous(words[j:])`, the number
of leading words failing the group test `stop` (`constGroup` portable, `constGroupAVX2` assembly). -/
def int32Loop (stop : List Nat → Bool) (w : Nat) : Nat → List (List Nat) → List Run :=
  groupLoop (leBytes ((w + 7) / 8)) (fun _ gs => (gs.takeWhile (fun g => !stop g)).length) w

/-- MIRROR rle.go:203-249 `encodeInt32` (`src` as uint32 patterns). -/
def encodeInt32With (stop : List Nat → Bool) (w : Nat) (src : List Nat) : Except Err (List Nat) :=
  if w > 32 then .error .invalidBitWidth else
  if w = 0 then
    if src.all (· == 0) then .ok (uvarint (2 * src.length)) else .error .invalidBitWidth
  else
    let n := src.length / 8
    .ok (serialize (int32Loop stop w n (groups8 n src) ++
      tailLoop (leBytes ((w + 7) / 8)) (src.length % 8) (src.drop (8 * n))))

def encodeInt32 := encodeInt32With constGroup
def encodeInt32AVX2 := encodeInt32With constGroupAVX2

/-- MIRROR rle.go:127: `for j < len(src) && (src[j-1] != src[j] || (src[j] != 0 && src[j] == 0xFF))` -/
def scanBits : Nat → List Nat → Nat
  | _, [] => 0
  | prev, b :: bs => if prev != b || (b != 0 && b == 0xFF) then 1 + scanBits b bs else 0

/-- MIRROR rle.go:106-137 (`encodeBits`, main loop); `a :: rest` is `src[i:]`. -/
def bitsLoop : Nat → List Nat → List Run
  | 0, _ => []
  | _ + 1, [] => []
  | f + 1, a :: rest =>
    let n := 1 + (rest.takeWhile (· == a)).length
    if (a == 0 || a == 0xFF) && n > 1 then .rle (8 * n) [a] :: bitsLoop f ((a :: rest).drop n)
    else
      let j := 1 + scanBits a rest
      let j' := if j > 1 && j < (a :: rest).length then j - 1 else j
      .bp j' ((a :: rest).take j') :: bitsLoop f ((a :: rest).drop j')

/-- MIRROR rle.go:97-139 `encodeBits` (`src` = booleans packed 8 per byte, LSB first). -/
def encodeBits (src : List Nat) : List Nat :=
  match src with
  | [] => uvarint 0
  | a :: _ =>
    if src.all (· == 0) || src.all (· == 0xFF) then uvarint (2 * (8 * src.length)) ++ [a]
    else serialize (bitsLoop src.length src)

/-- MIRROR rle.go:48-56 `EncodeBoolean`: 4-byte little-endian length (`uint32`), then `encodeBits`. -/
def encodeBoolean (src : List Nat) : List Nat :=
  leBytes 4 (encodeBits src).length ++ encodeBits src

/-- `bits.Len32` -/
def bitLen (x : Nat) : Nat := if x = 0 then 0 else x.log2 + 1

/-- MIRROR dictionary.go:51-59 `maxLenInt32` -/
def maxLen (xs : List Nat) : Nat := xs.foldl (fun m x => max m (bitLen x)) 0

/-- MIRROR dictionary.go:23-28 `DictionaryEncoding.EncodeInt32` -/
def encodeDict (src : List Nat) : Except Err (List Nat) :=
  (encodeInt32 (maxLen src) src).map (maxLen src :: ·)

/-! ## MIRROR of the (repaired) boolean decoder `decodeBits` -/

/-- MIRROR `encoding/binary.Uvarint`: at most 10 bytes, the 10th at most 1; `none` = the Go
function returned `n <= 0` (input exhausted or overflow). The accumulated `x | b<<s` is written
arithmetically (the shifted groups do not overlap). `i` is the byte index. -/
def goUvarint : Nat → List Nat → Option (Nat × List Nat)
  | _, [] => none
  | i, b :: bs =>
    if i = 10 then none
    else if b < 0x80 then (if i = 9 ∧ b > 1 then none else some (b, bs))
    else match goUvarint (i + 1) bs with
      | some (v, r) => some (b - 128 + 128 * v, r)
      | none => none

/-- MIRROR rle.go `decodeBits` after the repair (RLE runs expanded per value, bit offset carried
across runs). ABSTRACTION: `dst` is modelled as the list of the `nbits` bits it holds;
`appendBitsAt` (shifting a bit-packed run in at a non-aligned offset) and `appendBitRun` are list
appends. The byte-level shifting itself is mirrored in `RleBoolBytes.lean` and proved to compute these
bits (`goDecodeBooleanBytes_eq`). A zero-length
run is skipped without reading a value, a missing RLE value byte reads as 0, as in the Go code. -/
def goDecodeBitsLoop : Nat → List Bool → List Nat → Except Err (List Bool)
  | 0, bits, src => if src.isEmpty then .ok bits else .error .fuel
  | f + 1, bits, src =>
    if src.isEmpty then .ok bits else
    match goUvarint 0 src with
    | none => .error .truncHeader
    | some (u, rest) =>
      if u / 2 = 0 then goDecodeBitsLoop f bits rest
      else if u / 2 > 2 ^ 31 - 1 then .error .runTooLong
      else if u % 2 = 1 then
        if rest.length < u / 2 then .error .truncBitPacked
        else goDecodeBitsLoop f (bits ++ bytesToBits (rest.take (u / 2))) (rest.drop (u / 2))
      else
        goDecodeBitsLoop f (bits ++ List.replicate (u / 2) (rest.headD 0 % 2 == 1)) (rest.drop 1)

/-- the values `decodeBits` produces (one per bit of its output, padding excluded) -/
def goDecodeBitValues (src : List Nat) : Except Err (List Nat) :=
  (goDecodeBitsLoop (src.length + 1) [] src).map (·.map b2n)

/-- the bytes `decodeBits` returns: the bits packed 8 per byte, LSB first, zero padded -/
def goDecodeBits (src : List Nat) : Except Err (List Nat) :=
  (goDecodeBitsLoop (src.length + 1) [] src).map (fun bits => bitsToBytes bits.length bits)

/-- MIRROR rle.go:68-82 `DecodeBoolean` -/
def goDecodeBoolean (src : List Nat) : Except Err (List Nat) :=
  if src.length = 4 then .ok [] else
  if src.length < 4 then .error .truncPrefix else
  if (src.drop 4).length < leNat (src.take 4) then .error .truncPrefix else
  goDecodeBits ((src.drop 4).take (leNat (src.take 4)))

/-- what the Go boolean decoder additionally requires of a run: RLE runs are not empty (it does not
consume the value of an empty run) and no run announces more than `math.MaxInt32` values/bytes -/
def Run.GoOK : Run → Prop
  | .rle c _ => 1 ≤ c ∧ c ≤ 2 ^ 31 - 1
  | .bp g _ => g ≤ 2 ^ 31 - 1

/-! ## Legacy BIT_PACKED levels (encoding/bitpacked) -/

/-- the `w` low bits of `x`, most significant first -/
def toBitsMsb (w x : Nat) : List Bool := (toBits w x).reverse

/-- bytes from bits, first bit = most significant bit of the byte, zero padded -/
def bitsToBytesMsb : Nat → List Bool → List Nat
  | 0, _ => []
  | f + 1, bs =>
    if bs.isEmpty then [] else
    fromBits ((bs.take 8 ++ List.replicate (8 - (bs.take 8).length) false).reverse) :: bitsToBytesMsb f (bs.drop 8)

def bytesToBitsMsb (bytes : List Nat) : List Bool := (bytes.map (toBitsMsb 8)).flatten

def unpackMsb (w : Nat) : Nat → List Bool → List Nat
  | 0, _ => []
  | n + 1, bits => fromBits (bits.take w).reverse :: unpackMsb w n (bits.drop w)

/-- SPEC (Encodings.md, "Bit-packed (Deprecated)"): values packed back to back, each from its most
significant bit, bytes filled from the most significant bit. -/
def specDecodeBitPacked (w n : Nat) (bs : List Nat) : Except Err (List Nat) :=
  if 8 * bs.length < n * w then .error .truncBitPacked
  else .ok (unpackMsb w n (bytesToBitsMsb bs))

/-- MODEL of bitpacked.go:38-73 `encodeLevels` for in-range values (`w > 0`, non-empty input; the
Go code does not mask, so out-of-range values are outside this model). -/
def encodeBitPacked (w : Nat) (src : List Nat) : List Nat :=
  if w = 0 ∨ src = [] then [0] else
  let bits := (src.map (toBitsMsb w)).flatten
  bitsToBytesMsb bits.length bits

end PqModel.Rle
