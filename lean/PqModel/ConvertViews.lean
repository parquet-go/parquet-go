/-! # C12 — row groups that are views of other views

`MergeRowGroups`, `MultiRowGroup`, `ConvertRowGroup` and the merge planner's row ranges build row
groups out of row groups. Each such view has two faces: `Rows()` (what a reader of rows gets) and
`ColumnChunks()` (what a consumer reading the chunks one after the other gets). The two agree only
for some kinds of row groups, and the library decides at run time which face of a member it reads.

MIRROR: `chunks`, `inOrder`, `rows`, `rangeOf`, `supports` (multi_row_group.go:125-165
`multiRowGroup.Rows` / `rowGroupReadsChunksInOrder`; convert.go:653-759, 761-809, 1064-1071 `ConvertRowGroup`
/ `maskMissingRowGroupColumns` / `convertedRowGroup.Rows`; row_range.go `rowRangeRowGroup.Rows`,
`rowRangeOf`, `supportsRowRanges`).
SPEC: `sem` — the rows a view stands for, written from the meaning of the constructors
(concatenate / convert row by row / rows `[off, off+len)`).

A row is an abstract `α`. A conversion is the pair `(f, g)`: `f` is what `conversion.Convert` does to
a row, `g` what the column-chunk face of the converted row group shows for it (`g = f` for
targets that delete/permute/widen columns: `chunk_view_eq_row_view`; not for added columns). -/
namespace PqModel.ConvertViews

mutual
inductive View (α : Type) where
  /-- a row group that is not a view of others: `transparent` = it carries the
      `chunkTransparentRowGroup` marker (file row group, Buffer, GenericBuffer; the plain `*rowGroup`
      of `AsyncRowGroup` has none yet `supportsRowRanges` accepts it: no leaf here); `rows` / `chunks` = what its `Rows()` / its chunks read in order yield (they may
      differ for a merged, deduplicating or application-defined row group) -/
  | leaf (transparent : Bool) (rows chunks : List α)
  /-- `ConvertRowGroup(v, conv)` when the schemas differ -/
  | conv (f g : α → α) (v : View α)
  /-- `*multiRowGroup` (`MultiRowGroup`, `MergeRowGroups` without sorting columns) -/
  | multi (vs : Views α)
  /-- `*rowRangeRowGroup`: rows `[off, off+len)` read through the column chunks of its base -/
  | range (off len : Nat) (v : View α)
inductive Views (α : Type) where
  | nil
  | cons (v : View α) (vs : Views α)
end

variable {α : Type}

mutual
/-- MIRROR: the column chunks read one after the other (`multiColumnChunk` concatenates,
    `convertedColumnChunk`/`missingColumnChunk` show `g`, `rangeColumnChunk` seeks and stops). -/
def chunks : View α → List α
  | .leaf _ _ cs => cs
  | .conv _ g v => (chunks v).map g
  | .multi vs => chunksL vs
  | .range off len v => ((chunks v).drop off).take len
def chunksL : Views α → List α
  | .nil => []
  | .cons v vs => chunks v ++ chunksL vs
end

mutual
/-- MIRROR of `rowGroupReadsChunksInOrder` (multi_row_group.go:152-165). `anyMember = false` is the
    code (ALL members of a nested multi row group); `anyMember = true` is the slip "some member".
    A row range carries the marker (row_range.go:104), a converted row group does not. -/
def inOrder (anyMember : Bool) : View α → Bool
  | .leaf t _ _ => t
  | .conv _ _ _ => false
  | .multi vs => if anyMember then inOrderAny anyMember vs else inOrderAll anyMember vs
  | .range _ _ _ => true
def inOrderAll (anyMember : Bool) : Views α → Bool
  | .nil => true
  | .cons v vs => inOrder anyMember v && inOrderAll anyMember vs
def inOrderAny (anyMember : Bool) : Views α → Bool
  | .nil => false
  | .cons v vs => inOrder anyMember v || inOrderAny anyMember vs
end

mutual
/-- MIRROR of `Rows()`; for a converted row group a mirror of the code ONLY under `wf` (source
    reads its chunks in order):
    * converted row group: the conversion over `NewRowGroupRowReader` of the (masked) SOURCE
      chunks, as `ConvertRowGroup` did for every source before /repo 719e818; since then any other
      source is kept and read through its own `Rows()` (convert.go:738-747);
    * multi row group: the concatenated chunks when every member reads its chunks in order,
      else the members' own `Rows()` one after the other (multi_row_group.go:125-146);
    * row range: `NewRowGroupRowReader` over the range chunks. -/
def rows (anyMember : Bool) : View α → List α
  | .leaf _ rs _ => rs
  | .conv f _ v => (chunks v).map f
  | .multi vs => if inOrderAll anyMember vs then chunksL vs else rowsL anyMember vs
  | .range off len v => ((chunks v).drop off).take len
def rowsL (anyMember : Bool) : Views α → List α
  | .nil => []
  | .cons v vs => rows anyMember v ++ rowsL anyMember vs
end

/-- the members test of `multiRowGroup.Rows` is `rowGroupReadsChunksInOrder` of each member -/
theorem inOrderAll_code (vs : Views α) : inOrderAll false vs = inOrder false (.multi vs) := by
  simp [inOrder]

mutual
/-- SPEC: the rows a view stands for. -/
def sem : View α → List α
  | .leaf _ rs _ => rs
  | .conv f _ v => (sem v).map f
  | .multi vs => semL vs
  | .range off len v => ((sem v).drop off).take len
def semL : Views α → List α
  | .nil => []
  | .cons v vs => sem v ++ semL vs
end

mutual
/-- Well-formed compositions: a leaf marked transparent really reads its chunks in order; a
    conversion and a row range are only put on top of row groups that read their chunks in order
    (what `newRowRangeRowGroup` silently assumes; for conversions see `rows`). -/
def wf : View α → Prop
  | .leaf t rs cs => t = true → cs = rs
  | .conv _ _ v => wf v ∧ inOrder false v = true
  | .multi vs => wfL vs
  | .range _ _ v => wf v ∧ inOrder false v = true
def wfL : Views α → Prop
  | .nil => True
  | .cons v vs => wf v ∧ wfL vs
end

/-- MIRROR of `rowRangeOf` (row_range.go): the range of a converted row group is taken below the
    conversion. -/
def rangeOf (off len : Nat) : View α → View α
  | .conv f g v => .conv f g (rangeOf off len v)
  | v => .range off len v

/-- MIRROR of `supportsRowRanges` (row_range.go:85-93) under `wf` only: the code asks the SOURCE of a
    converted row group (then the masked plain `*rowGroup`: true). -/
def supports : View α → Bool
  | .conv _ _ _ => true
  | v => inOrder false v

/-- the row ranges of the merge planner before /repo 35e9777: `newRowRangeRowGroup` on whatever the
    segment holds -/
def rangeBeforeFix (off len : Nat) (v : View α) : View α := .range off len v

mutual
theorem chunks_eq_sem : (v : View α) → wf v → inOrder false v = true → chunks v = sem v
  | .leaf t rs cs, h, ht => by
    simp only [inOrder] at ht
    simp only [wf] at h
    simp only [chunks, sem]
    exact h ht
  | .conv _ _ _, _, ht => by simp [inOrder] at ht
  | .multi vs, h, ht => by
    simp only [inOrder] at ht
    simp only [wf] at h
    simp only [chunks, sem]
    exact chunksL_eq_semL vs h (by simpa using ht)
  | .range off len v, h, _ => by
    simp only [wf] at h
    simp only [chunks, sem]
    rw [chunks_eq_sem v h.1 h.2]
theorem chunksL_eq_semL : (vs : Views α) → wfL vs → inOrderAll false vs = true → chunksL vs = semL vs
  | .nil, _, _ => rfl
  | .cons v vs, h, ht => by
    simp only [wfL] at h
    simp only [inOrderAll, Bool.and_eq_true] at ht
    simp only [chunksL, semL]
    rw [chunks_eq_sem v h.1 ht.1, chunksL_eq_semL vs h.2 ht.2]
end

mutual
theorem rows_eq_sem : (v : View α) → wf v → rows false v = sem v
  | .leaf _ _ _, _ => rfl
  | .conv f g v, h => by
    simp only [wf] at h
    simp only [rows, sem]
    rw [chunks_eq_sem v h.1 h.2]
  | .multi vs, h => by
    simp only [wf] at h
    simp only [rows, sem]
    split
    · rename_i ht
      exact chunksL_eq_semL vs h ht
    · exact rowsL_eq_semL vs h
  | .range off len v, h => by
    simp only [wf] at h
    simp only [rows, sem]
    rw [chunks_eq_sem v h.1 h.2]
theorem rowsL_eq_semL : (vs : Views α) → wfL vs → rowsL false vs = semL vs
  | .nil, _ => rfl
  | .cons v vs, h => by
    simp only [wfL] at h
    simp only [rowsL, semL]
    rw [rows_eq_sem v h.1, rowsL_eq_semL vs h.2]
end

theorem rangeOf_of_inOrder (off len : Nat) (v : View α) (h : inOrder false v = true) :
    rangeOf off len v = .range off len v := by
  cases v <;> simp_all [rangeOf, inOrder]

theorem rangeOf_wf_sem (off len : Nat) (v : View α) (h : wf v) (hs : supports v = true) :
    wf (rangeOf off len v) ∧ sem (rangeOf off len v) = ((sem v).drop off).take len := by
  cases v with
  | conv f g v =>
    -- the range goes below the conversion, whose source reads its chunks in order
    simp only [wf] at h
    rw [rangeOf, rangeOf_of_inOrder off len v h.2]
    simp only [wf, sem, inOrder]
    exact ⟨⟨⟨h.1, h.2⟩, trivial⟩, by rw [List.map_take, List.map_drop]⟩
  | _ => exact ⟨by simp only [rangeOf, wf]; exact ⟨h, hs⟩, rfl⟩

end PqModel.ConvertViews
