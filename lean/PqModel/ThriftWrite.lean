import PqModel.Spec.Thrift
import PqModel.Delta

/-! MIRROR of the library's Thrift COMPACT protocol ENCODER on a typed value tree
    (`encoding/thrift/compact.go` `compactWriter`, `encoding/thrift/encode.go` `structEncoder.encode`,
    `encodeFuncSliceOf`, `thrift.Slice.EncodeFunc`, `unionEncoder.encode`). That the SPEC reader
    `PqModel.Spec.readStruct` reads the mirror's bytes back is proved in `ThriftWriteProofs.lean`.

    The tree `WVal` is what the Go encoder is handed after reflection: every field that is not a nil
    pointer / unset `Null[T]` / nil `Slice[T]` / unset union, with its id, its `required` and
    `writezero` tag options and whether `reflect.Value.IsZero` holds (the encoder asks the Go runtime
    for that; it is an input here). Which of those fields are written is decided by the mirror
    (`FMeta.omitted`). Sets and maps are not modelled (package `format` has none). -/
namespace PqModel.ThriftWrite
open PqModel.Spec

/-- a struct field as `structEncoder.encode` sees it (encode.go:289-311) -/
structure FMeta where
  id : Nat
  required : Bool := false
  writezero : Bool := false
  zero : Bool := false

/-- MIRROR encode.go:309 `if !f.flags.Have(Required) && !f.flags.Have(WriteZero) && x.IsZero() { continue }` -/
def FMeta.omitted (m : FMeta) : Bool := !m.required && !m.writezero && m.zero

inductive WVal where
  | bool (b : Bool)
  | i8 (i : Int)
  | i16 (i : Int)
  | i32 (i : Int)
  | i64 (i : Int)
  | double (bits : UInt64)
  | bin (b : List UInt8)
  | list (ety : Nat) (xs : List WVal)   -- `ety`: compact type code of the element type (`TypeOf(elem)`)
  | struct (fs : List (FMeta × WVal))
deriving Inhabited

/-! ## scalars -/

/-- MIRROR of `binary.PutUvarint` (used by compact.go:347-350 `writeUvarint`): the first argument is
    fuel for the `for x >= 0x80` loop; 9 rounds leave less than 2 of a 64-bit value. -/
def putUvarint : Nat → Nat → List UInt8
  | 0, x => [x.toUInt8]
  | f + 1, x => if x < 128 then [x.toUInt8] else (x % 128 + 128).toUInt8 :: putUvarint f (x / 128)

def uvarintBytes (x : Nat) : List UInt8 := putUvarint 9 x

/-- MIRROR compact.go:352-355 `writeVarint` = `binary.PutVarint` (zigzag of the int64, then uvarint);
    `WriteInt16/32/64` all widen to int64 first (compact.go:262-272). -/
def varintBytes (i : Int) : List UInt8 := uvarintBytes (PqModel.Delta.zigzag64 (BitVec.ofInt 64 i))

/-- MIRROR `binaryWriter.WriteInt8`: the byte `byte(v)` -/
def int8Byte (i : Int) : UInt8 := (i % 256).toNat.toUInt8

/-- MIRROR compact.go:274-277 `WriteFloat64`: 8 bytes little endian -/
def le64 (x : UInt64) : List UInt8 :=
  (List.range 8).map (fun i => ((x.toNat >>> (8 * i)) % 256).toUInt8)

/-- the compact type code a value carries in a FIELD header (encode.go:324-327: a true bool field
    becomes type TRUE = 1, BOOL = FALSE = 2) -/
def fcode : WVal → Nat
  | .bool true => 1 | .bool false => 2
  | .i8 _ => 3 | .i16 _ => 4 | .i32 _ => 5 | .i64 _ => 6
  | .double _ => 7 | .bin _ => 8 | .list _ _ => 9 | .struct _ => 12

/-- the code of the element type in a LIST header (`TypeOf`: bool is BOOL = 2) -/
def lcode : WVal → Nat
  | .bool _ => 2
  | v => fcode v

/-- MIRROR encode.go:316-321 (`delta := field.ID - lastFieldID; if delta <= 15 { field.ID = delta }`)
    followed by compact.go:311-320 `WriteField` (`if f.ID <= 15` one byte `ID<<4 | type`, else the
    type byte and the id as zigzag varint). Ids are int16 in Go; the arithmetic here is exact for
    ids in 0..32767. -/
def fieldHeader (last id ty : Nat) : List UInt8 :=
  let delta : Int := (id : Int) - (last : Int)
  let fid : Int := if delta ≤ 15 then delta else (id : Int)
  if fid ≤ 15 then [(((fid * 16) % 256).toNat.toUInt8) ||| ty.toUInt8]
  else ty.toUInt8 :: varintBytes id

/-- MIRROR compact.go:322-330 `WriteList` -/
def listHeader (ety n : Nat) : List UInt8 :=
  if n ≤ 14 then [((n * 16) % 256).toUInt8 ||| ety.toUInt8]
  else (0xF0 ||| ety.toUInt8) :: uvarintBytes n

mutual
/-- MIRROR: the bytes of a value in field position (a bool has none: it is the header's type) -/
def writeVal : WVal → List UInt8
  | .bool _ => []
  | .i8 i => [int8Byte i]
  | .i16 i => varintBytes i
  | .i32 i => varintBytes i
  | .i64 i => varintBytes i
  | .double b => le64 b
  | .bin b => uvarintBytes b.length ++ b
  | .list ety xs => listHeader ety xs.length ++ writeElems xs
  | .struct fs => writeFields 0 fs
/-- MIRROR encode.go:165-192 / list.go:24-40: the elements back to back; a bool element is one
    byte 1/0 (`binaryWriter.WriteBool`) -/
def writeElems : List WVal → List UInt8
  | [] => []
  | x :: xs => (match x with
      | .bool b => [if b then 1 else 0]
      | v => writeVal v) ++ writeElems xs
/-- MIRROR encode.go:283-349 `structEncoder.encode`: fields in ascending id order, omitted ones
    skipped, stop byte -/
def writeFields (last : Nat) : List (FMeta × WVal) → List UInt8
  | [] => [0]
  | (m, v) :: fs =>
    if m.omitted then writeFields last fs
    else fieldHeader last m.id (fcode v) ++ writeVal v ++ writeFields m.id fs
end

/-- what `Marshal` returns for a struct value -/
def writeStruct (fs : List (FMeta × WVal)) : List UInt8 := writeFields 0 fs

mutual
/-- the untyped tree a reader should see -/
def erase : WVal → TVal
  | .bool b => .bool b
  | .i8 i => .int i
  | .i16 i => .int i
  | .i32 i => .int i
  | .i64 i => .int i
  | .double b => .double b
  | .bin b => .bin ⟨b.toArray⟩
  | .list _ xs => .list (eraseL xs)
  | .struct fs => .struct (eraseF fs)
def eraseL : List WVal → List TVal
  | [] => []
  | x :: xs => erase x :: eraseL xs
def eraseF : List (FMeta × WVal) → List (Nat × TVal)
  | [] => []
  | (m, v) :: fs => if m.omitted then eraseF fs else (m.id, erase v) :: eraseF fs
end

mutual
/-- well-formed trees: ints within their width, lengths within int32 (`WriteLength` refuses more),
    list elements of the announced element type, written field ids ascending in 1..32767 -/
def WfT : WVal → Bool
  | .bool _ => true
  | .i8 i => decide (-128 ≤ i ∧ i < 128)
  | .i16 i => decide (-32768 ≤ i ∧ i < 32768)
  | .i32 i => decide (-2147483648 ≤ i ∧ i < 2147483648)
  | .i64 i => decide (-9223372036854775808 ≤ i ∧ i < 9223372036854775808)
  | .double _ => true
  | .bin b => decide (b.length < 2147483648)
  | .list ety xs => decide (ety < 16) && decide (xs.length < 2147483648) && WfL ety xs
  | .struct fs => WfF 0 fs
def WfL (ety : Nat) : List WVal → Bool
  | [] => true
  | x :: xs => decide (lcode x = ety) && WfT x && WfL ety xs
def WfF (last : Nat) : List (FMeta × WVal) → Bool
  | [] => true
  | (m, v) :: fs =>
    if m.omitted then WfF last fs
    else decide (last < m.id ∧ m.id ≤ 32767) && WfT v && WfF m.id fs
end

end PqModel.ThriftWrite
