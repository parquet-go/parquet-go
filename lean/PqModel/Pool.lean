import PqModel.Basics

/-! # Pool — ownership protocol of the refcounted, pooled page buffers (property C16)

MIRROR of the protocol in `buffer.go` (refcounted `buffer[T]`, `bufferPool.get/put`, `bufferedPage`
`Retain/Release/ReleaseAndDetachValues/Slice`), `file.go` (`FilePages.ReadPage` with the `lastPage`
cache, `SeekToRow`, `Close`) and `column_chunk.go` (`columnChunkValueReader`, `clear`, `detach`),
plus GHOST state that the Go code does not have: who owns which reference (`held`), references
dropped on purpose without a decrement (`leak`), the caller-visible slices that point into pooled
storage (`aliases`) and the caller-owned copies (`goVals`).

What replaces the runtime: `sync.Pool` and the GC are a set of pooled buffers; `get` may hand out
ANY pooled buffer (the `pick` argument is the nondeterministic choice) and overwrites it; putting a
buffer in the pool overwrites it with 0xA5 (the verif poison hook). Decoding is abstracted to
"the buffer now holds these bytes". -/
namespace PqModel.Pool

abbrev BufId := Nat
abbrev PageId := Nat
abbrev RdrId := Nat

def poison : UInt8 := 0xA5

def upd {α : Type} (f : Nat → α) (i : Nat) (v : α) : Nat → α := fun j => if j = i then v else f j

@[simp] theorem upd_same {α : Type} (f : Nat → α) (i : Nat) (v : α) : upd f i v i = v := by simp [upd]
theorem upd_other {α : Type} (f : Nat → α) {i j : Nat} (v : α) (h : j ≠ i) : upd f i v j = f j := by
  simp [upd, h]

theorem upd_forall {α : Type} {f : Nat → α} {i : Nat} {v : α} {P : Nat → α → Prop}
    (hv : P i v) (ho : ∀ j, j ≠ i → P j (f j)) : ∀ j, P j (upd f i v j) :=
  forall_of_point i (by rw [upd_same]; exact hv) fun j h => by rw [upd_other _ _ h]; exact ho j h

/-- `buffer[T]` (buffer.go:489-495) + pool membership. `puts` is ghost (puts since the last get). -/
structure Buf where
  refc   : Nat
  inPool : Bool
  puts   : Nat
  data   : List UInt8
deriving DecidableEq, Repr

/-- what the panics of buffer.go would report -/
inductive Bug where
  | underflow  -- "BUG: buffer reference count underflow" (unref of a buffer with refc 0)
  | refDead    -- "BUG: buffer reference count overflow" (ref of a buffer with refc 0)
deriving DecidableEq, Repr

/-- Buffers `≥ nbufs` have never been handed out: they stand for what `pool.Get`'s `newT` makes. -/
structure Heap where
  bufs  : BufId → Buf
  nbufs : Nat
  bug   : Option Bug

def Heap.init : Heap := { bufs := fun _ => ⟨0, true, 0, []⟩, nbufs := 0, bug := none }

/-- MIRROR buffer.ref (buffer.go:507-512) -/
def Heap.ref (h : Heap) (b : BufId) : Heap :=
  if (h.bufs b).refc = 0 then { h with bug := some .refDead }
  else { h with bufs := upd h.bufs b { h.bufs b with refc := (h.bufs b).refc + 1 } }

/-- MIRROR buffer.unref (buffer.go:514-526; `bufferPool.put`, buffer.go:564-572, is `inPool := true`):
    at zero the storage goes back to the slice pool (`data.Reset`, poisoned by the verif hook) -/
def Heap.unref (h : Heap) (b : BufId) : Heap :=
  if (h.bufs b).refc = 0 then { h with bug := some .underflow }
  else if (h.bufs b).refc = 1 then
    { h with bufs := upd h.bufs b ⟨0, true, (h.bufs b).puts + 1, List.replicate (h.bufs b).data.length poison⟩ }
  else { h with bufs := upd h.bufs b { h.bufs b with refc := (h.bufs b).refc - 1 } }

/-- MIRROR bufferPool.get (buffer.go:540-562): any pooled buffer (`pick`), else a new one; the
    reference count is stored as 1 and the storage is overwritten (`d` = what gets decoded into it) -/
def Heap.get (h : Heap) (pick : BufId) (d : List UInt8) : Heap × BufId :=
  let b := if (h.bufs pick).inPool then pick else h.nbufs
  ({ h with bufs := upd h.bufs b ⟨1, false, 0, d⟩, nbufs := max h.nbufs (b + 1) }, b)

def Heap.refAll (h : Heap) (bs : List BufId) : Heap := bs.foldl Heap.ref h
def Heap.unrefAll (h : Heap) (bs : List BufId) : Heap := bs.foldl Heap.unref h

def Heap.getAll (h : Heap) : List (BufId × List UInt8) → Heap × List BufId
  | [] => (h, [])
  | (pick, d) :: rest =>
    let r := h.get pick d
    let r' := Heap.getAll r.1 rest
    (r'.1, r.2 :: r'.2)

/-- `puts` (at most one put per get) is what `alias_safe` reports as "no double free" -/
structure HW (h : Heap) : Prop where
  pool  : ∀ b, (h.bufs b).inPool = true ↔ (h.bufs b).refc = 0
  puts  : ∀ b, (h.bufs b).puts ≤ 1 ∧ ((h.bufs b).inPool = false → (h.bufs b).puts = 0)
  fresh : ∀ b, h.nbufs ≤ b → (h.bufs b).refc = 0

theorem HW_init : HW Heap.init := ⟨by simp [Heap.init], by simp [Heap.init], by simp [Heap.init]⟩

theorem notPool_of_pos {h : Heap} (hw : HW h) {b : BufId} (h1 : 1 ≤ (h.bufs b).refc) :
    (h.bufs b).inPool = false := by
  cases hp : (h.bufs b).inPool with
  | false => rfl
  | true => have := (hw.pool b).1 hp; omega

theorem HW.set {h : Heap} (hw : HW h) (b0 : BufId) {x : Buf} {n : Nat} (hn : h.nbufs ≤ n)
    (hp : x.inPool = true ↔ x.refc = 0) (hq : x.puts ≤ 1 ∧ (x.inPool = false → x.puts = 0))
    (hf : n ≤ b0 → x.refc = 0) : HW { h with bufs := upd h.bufs b0 x, nbufs := n } :=
  ⟨upd_forall (P := fun _ (y : Buf) => y.inPool = true ↔ y.refc = 0) hp fun j _ => hw.pool j,
   upd_forall (P := fun _ (y : Buf) => y.puts ≤ 1 ∧ (y.inPool = false → y.puts = 0)) hq fun j _ => hw.puts j,
   upd_forall (P := fun j (y : Buf) => n ≤ j → y.refc = 0) hf fun j _ hj => hw.fresh j (Nat.le_trans hn hj)⟩

theorem ref_spec {h : Heap} (hw : HW h) {b0 : BufId} (h1 : 1 ≤ (h.bufs b0).refc) :
    HW (h.ref b0) ∧ (h.ref b0).bug = h.bug ∧
    ∀ b, ((h.ref b0).bufs b).refc = (h.bufs b).refc + (if b = b0 then 1 else 0) ∧
         ((h.ref b0).bufs b).data = (h.bufs b).data := by
  have e : h.ref b0 = { h with bufs := upd h.bufs b0 { h.bufs b0 with refc := (h.bufs b0).refc + 1 } } :=
    if_neg (Nat.ne_of_gt h1)
  have hnp := notPool_of_pos hw h1
  rw [e]
  refine ⟨hw.set b0 (Nat.le_refl _) ?_ (hw.puts b0) (fun hb => ?_), rfl,
    upd_forall (P := fun b (y : Buf) => y.refc = (h.bufs b).refc + (if b = b0 then 1 else 0) ∧
      y.data = (h.bufs b).data) ?_ ?_⟩
  · exact ⟨fun hp => absurd (hnp ▸ hp) Bool.false_ne_true, fun hz => absurd hz (Nat.succ_ne_zero _)⟩
  · have := hw.fresh b0 hb; omega
  · exact ⟨by rw [if_pos rfl], rfl⟩
  · exact fun j hj => ⟨by rw [if_neg hj]; rfl, rfl⟩

theorem unref_spec {h : Heap} (hw : HW h) {b0 : BufId} (h1 : 1 ≤ (h.bufs b0).refc) :
    HW (h.unref b0) ∧ (h.unref b0).bug = h.bug ∧
    ∀ b, ((h.unref b0).bufs b).refc = (h.bufs b).refc - (if b = b0 then 1 else 0) ∧
         (1 ≤ ((h.unref b0).bufs b).refc → ((h.unref b0).bufs b).data = (h.bufs b).data) := by
  have hnp := notPool_of_pos hw h1
  let P : BufId → Buf → Prop := fun b y =>
    y.refc = (h.bufs b).refc - (if b = b0 then 1 else 0) ∧ (1 ≤ y.refc → y.data = (h.bufs b).data)
  have hoth : ∀ j, j ≠ b0 → P j (h.bufs j) := fun j hj => ⟨by rw [if_neg hj]; rfl, fun _ => rfl⟩
  by_cases h11 : (h.bufs b0).refc = 1
  · -- the last reference: the buffer is put
    have e : h.unref b0 = { h with
        bufs := upd h.bufs b0 ⟨0, true, (h.bufs b0).puts + 1, List.replicate (h.bufs b0).data.length poison⟩ } := by
      simp [Heap.unref, h11]
    rw [e]
    refine ⟨hw.set b0 (Nat.le_refl _) (by simp) ?_ (fun _ => rfl), rfl, upd_forall (P := P) ?_ hoth⟩
    · have := (hw.puts b0).2 hnp
      exact ⟨by show (h.bufs b0).puts + 1 ≤ 1; omega, fun hf => absurd hf (by simp)⟩
    · exact ⟨by rw [if_pos rfl, h11], fun hp => absurd hp (by simp)⟩
  · have e : h.unref b0 = { h with bufs := upd h.bufs b0 { h.bufs b0 with refc := (h.bufs b0).refc - 1 } } := by
      simp [Heap.unref, Nat.ne_of_gt h1, h11]
    rw [e]
    refine ⟨hw.set b0 (Nat.le_refl _) ?_ (hw.puts b0) (fun hb => ?_), rfl, upd_forall (P := P) ?_ hoth⟩
    · exact ⟨fun hp => absurd (hnp ▸ hp) Bool.false_ne_true, fun hz => absurd hz (by simp only; omega)⟩
    · have := hw.fresh b0 hb; omega
    · exact ⟨by rw [if_pos rfl], fun _ => rfl⟩

theorem get_spec {h : Heap} (hw : HW h) (pick : BufId) (d : List UInt8) :
    HW (h.get pick d).1 ∧ (h.get pick d).1.bug = h.bug ∧ h.nbufs ≤ (h.get pick d).1.nbufs ∧
    (h.bufs (h.get pick d).2).refc = 0 ∧ (h.get pick d).1.bufs (h.get pick d).2 = ⟨1, false, 0, d⟩ ∧
    ∀ b, b ≠ (h.get pick d).2 → (h.get pick d).1.bufs b = h.bufs b := by
  -- the buffer handed out is pooled or new: nobody holds a reference on it
  have hz : (h.bufs (h.get pick d).2).refc = 0 := by
    show (h.bufs (if (h.bufs pick).inPool then pick else h.nbufs)).refc = 0
    split
    · next hp => exact (hw.pool _).1 hp
    · exact hw.fresh _ (Nat.le_refl _)
  refine ⟨hw.set _ (Nat.le_max_left _ _) (by simp) (by simp) (fun hb => ?_), rfl, Nat.le_max_left _ _, hz,
    upd_same _ _ _, fun b hb => upd_other _ _ hb⟩
  exact absurd (Nat.le_trans (Nat.le_max_right _ _) hb) (Nat.not_succ_le_self _)

theorem count_cons_ite (x b : BufId) (xs : List BufId) :
    (x :: xs).count b = xs.count b + (if b = x then 1 else 0) := by
  rw [List.count_cons]
  by_cases hb : b = x
  · subst hb; simp
  · have : (x == b) = false := by simp; exact fun h => hb h.symm
    simp [hb, this]

theorem refAll_spec (bs : List BufId) : ∀ {h : Heap}, HW h → (∀ b, b ∈ bs → 1 ≤ (h.bufs b).refc) →
    HW (h.refAll bs) ∧ (h.refAll bs).bug = h.bug ∧
    ∀ b, ((h.refAll bs).bufs b).refc = (h.bufs b).refc + bs.count b ∧
         ((h.refAll bs).bufs b).data = (h.bufs b).data := by
  induction bs with
  | nil => intro h hw _; exact ⟨hw, rfl, fun b => ⟨rfl, rfl⟩⟩
  | cons x xs ih =>
    intro h hw hpos
    have s1 := ref_spec hw (hpos x List.mem_cons_self)
    have s2 := ih s1.1 fun b hb => by
      have := (s1.2.2 b).1; have := hpos b (List.mem_cons_of_mem _ hb); omega
    rw [show h.refAll (x :: xs) = (h.ref x).refAll xs from rfl]
    refine ⟨s2.1, s2.2.1.trans s1.2.1, fun b => ?_⟩
    have a1 := s1.2.2 b
    have a2 := s2.2.2 b
    exact ⟨by rw [a2.1, a1.1, count_cons_ite, Nat.add_assoc, Nat.add_comm (xs.count b)], a2.2.trans a1.2⟩

theorem unrefAll_spec (bs : List BufId) : ∀ {h : Heap}, HW h → (∀ b, bs.count b ≤ (h.bufs b).refc) →
    HW (h.unrefAll bs) ∧ (h.unrefAll bs).bug = h.bug ∧
    ∀ b, ((h.unrefAll bs).bufs b).refc = (h.bufs b).refc - bs.count b ∧
         (1 ≤ ((h.unrefAll bs).bufs b).refc → ((h.unrefAll bs).bufs b).data = (h.bufs b).data) := by
  induction bs with
  | nil => intro h hw _; exact ⟨hw, rfl, fun b => ⟨rfl, fun _ => rfl⟩⟩
  | cons x xs ih =>
    intro h hw hle
    have hx : 1 ≤ (h.bufs x).refc := by have := hle x; rw [count_cons_ite, if_pos rfl] at this; omega
    have s1 := unref_spec hw hx
    have hle' : ∀ b, xs.count b ≤ ((h.unref x).bufs b).refc := fun b => by
      have := (s1.2.2 b).1; have := hle b; rw [count_cons_ite] at this; omega
    have s2 := ih s1.1 hle'
    rw [show h.unrefAll (x :: xs) = (h.unref x).unrefAll xs from rfl]
    refine ⟨s2.1, s2.2.1.trans s1.2.1, fun b => ?_⟩
    have a1 := s1.2.2 b
    have a2 := s2.2.2 b
    refine ⟨by rw [a2.1, a1.1, count_cons_ite, Nat.sub_sub, Nat.add_comm (xs.count b)],
      fun hp => (a2.2 hp).trans (a1.2 ?_)⟩
    exact Nat.le_trans (a2.1 ▸ hp) (Nat.sub_le _ _)

theorem getAll_spec (specs : List (BufId × List UInt8)) {h : Heap} (hw : HW h) :
    HW (h.getAll specs).1 ∧ (h.getAll specs).1.bug = h.bug ∧
    (h.getAll specs).2.Nodup ∧
    (∀ b, b ∈ (h.getAll specs).2 → (h.bufs b).refc = 0 ∧ ((h.getAll specs).1.bufs b).refc = 1) ∧
    (∀ b, b ∉ (h.getAll specs).2 → (h.getAll specs).1.bufs b = h.bufs b) := by
  fun_induction Heap.getAll h specs with
  | case1 h => simp; exact hw
  | case2 h pick d rest r r' ih =>
    have s1 := get_spec hw pick d
    have s2 := ih s1.1
    obtain ⟨hw1, hb1, _, hz1, hv1, ho1⟩ := s1
    obtain ⟨hw2, hb2, hnd2, hin2, hout2⟩ := s2
    have hnotin : r.2 ∉ (r.1.getAll rest).2 := by
      intro hm; have := (hin2 _ hm).1; rw [hv1] at this; simp at this
    refine ⟨hw2, by rw [hb2, hb1], ?_, ?_, ?_⟩
    · exact List.nodup_cons.2 ⟨hnotin, hnd2⟩
    · intro b hb
      simp at hb
      rcases hb with hb | hb
      · subst hb
        refine ⟨hz1, ?_⟩
        rw [hout2 _ hnotin, hv1]
      · have hne : b ≠ r.2 := fun hh => hnotin (hh ▸ hb)
        have := hin2 b hb
        rw [ho1 b hne] at this; exact this
    · intro b hb
      simp at hb
      rw [hout2 b hb.2, ho1 b hb.1]

/-- MIRROR `bufferedPage` (buffer.go:580-586): the buffer backing the values, and the other buffers
    (offsets, definition and repetition levels). `ptr`: Values read from the page point into
    `values` (byte arrays / fixed-length byte arrays that are not dictionary-indexed). -/
structure Page where
  values : BufId
  others : List BufId
  ptr    : Bool
deriving DecidableEq, Repr

def Page.all (p : Page) : List BufId := p.values :: p.others

/-- GHOST who holds a reference on a page object -/
inductive Owner where
  | caller             -- the application (a page returned by ReadPage / Slice, or Retain)
  | last (r : RdrId)   -- FilePages.lastPage of reader r
  | cur (r : RdrId)    -- columnChunkValueReader.page of reader r
deriving DecidableEq, Repr

structure Claim where
  owner : Owner
  page  : PageId
deriving DecidableEq, Repr

/-- GHOST documented lifetime of a caller-visible slice into pooled storage -/
inductive Life where
  | page (p : PageId)          -- values read from page p: while the caller holds a reference on p
  | call (r : RdrId) (g : Nat) -- values returned by a value reader without detach: until the reader
                               -- leaves the page (which only a later call on the same reader does)
  | forever                    -- rows returned by a row reader (detached values buffer)
deriving DecidableEq, Repr

structure Alias where
  buf  : BufId
  life : Life
  snap : List UInt8   -- what the caller saw when it got the slice
deriving DecidableEq, Repr

/-- MIRROR the fields of `FilePages` (file.go:1092-1124) and `columnChunkValueReader`
    (column_chunk.go:84-89) that take part in the protocol; `gen` is ghost -/
structure Rdr where
  lastPage  : Option PageId
  serveLast : Bool
  closed    : Bool
  cur       : Option PageId
  gen       : Nat
deriving DecidableEq, Repr

structure State where
  heap    : Heap
  pages   : PageId → Page
  npages  : Nat
  rdrs    : RdrId → Rdr
  det     : RdrId → Bool        -- columnChunkValueReader.detach (row_group.go:222-229), fixed per reader
  held    : List Claim          -- ghost
  leak    : BufId → Nat         -- ghost: references given up without a decrement (ReleaseAndDetachValues)
  aliases : List Alias          -- ghost
  goVals  : List (List UInt8)   -- caller-owned memory: strings / []byte made by AssignValue and Clone

def State.init (det : RdrId → Bool) : State :=
  { heap := Heap.init, pages := fun _ => ⟨0, [], false⟩, npages := 0,
    rdrs := fun _ => ⟨none, false, false, none, 0⟩, det := det, held := [], leak := fun _ => 0,
    aliases := [], goVals := [] }

def occ (pg : Page) (b : BufId) : Nat := pg.all.count b

def refs (held : List Claim) (pages : PageId → Page) (b : BufId) : Nat :=
  (held.map fun c => occ (pages c.page) b).sum

theorem refs_cons (c : Claim) (h : List Claim) (pages : PageId → Page) (b : BufId) :
    refs (c :: h) pages b = occ (pages c.page) b + refs h pages b := by simp [refs]

theorem refs_erase {c : Claim} {h : List Claim} (pages : PageId → Page) (b : BufId) (hc : c ∈ h) :
    refs h pages b = occ (pages c.page) b + refs (h.erase c) pages b := by
  induction h with
  | nil => cases hc
  | cons x xs ih =>
    by_cases hx : x = c
    · subst hx; simp [refs]
    · have hc' : c ∈ xs := by
        rcases List.mem_cons.1 hc with h1 | h1
        · exact absurd h1.symm hx
        · exact h1
      have hbeq : (x == c) = false := by simp [hx]
      rw [List.erase_cons, hbeq]
      simp only [Bool.false_eq_true, if_false]
      rw [refs_cons, refs_cons, ih hc']; omega

theorem occ_le_refs {c : Claim} {h : List Claim} (pages : PageId → Page) (b : BufId) (hc : c ∈ h) :
    occ (pages c.page) b ≤ refs h pages b := by
  rw [refs_erase pages b hc]; omega

theorem refs_congr {h : List Claim} {pages pages' : PageId → Page} (b : BufId)
    (hp : ∀ c, c ∈ h → pages' c.page = pages c.page) : refs h pages' b = refs h pages b := by
  induction h with
  | nil => rfl
  | cons x xs ih =>
    rw [refs_cons, refs_cons, hp x (by simp), ih (fun c hc => hp c (by simp [hc]))]

theorem occ_pos {pg : Page} {b : BufId} (hb : b ∈ pg.all) : 1 ≤ occ pg b := by
  simp only [occ]; exact List.count_pos_iff.2 hb

/-- MIRROR bufferedPage.Slice = newBufferedPage on the same buffers (buffer.go:588-611) -/
def State.slice (s : State) (o : Owner) (p : PageId) : State :=
  { s with heap := s.heap.refAll (s.pages p).all,
           pages := upd s.pages s.npages (s.pages p), npages := s.npages + 1,
           held := ⟨o, s.npages⟩ :: s.held }

/-- MIRROR bufferedPage.Retain (buffer.go:613-619) -/
def State.retain (s : State) (o : Owner) (p : PageId) : State :=
  { s with heap := s.heap.refAll (s.pages p).all, held := ⟨o, p⟩ :: s.held }

/-- MIRROR bufferedPage.Release (buffer.go:621-627) -/
def State.release (s : State) (o : Owner) (p : PageId) : State :=
  { s with heap := s.heap.unrefAll (s.pages p).all, held := s.held.erase ⟨o, p⟩ }

/-- MIRROR bufferedPage.ReleaseAndDetachValues (buffer.go:632-644): the values buffer is not
    decremented (it is left to the garbage collector) -/
def State.detachRel (s : State) (o : Owner) (p : PageId) : State :=
  { s with heap := s.heap.unrefAll (s.pages p).others, held := s.held.erase ⟨o, p⟩,
           leak := upd s.leak (s.pages p).values (s.leak (s.pages p).values + 1) }

/-- nondeterministic content of one page decode: which pooled buffers `get` hands out and what
    is decoded into them -/
structure DecodeSpec where
  values : BufId × List UInt8
  others : List (BufId × List UInt8)
  ptr    : Bool

/-- MIRROR Column.decodeDataPage + newBufferedPage (column.go:856-922, buffer.go:588-601), net
    effect: every buffer of the new page has been got (1), referenced by the page (2) and released
    by the deferred unref (1); `getAll` of a non-empty list is non-empty, `headD 0` is its head -/
def State.decode (s : State) (o : Owner) (d : DecodeSpec) : State :=
  { s with heap := (s.heap.getAll (d.values :: d.others)).1,
           pages := upd s.pages s.npages
             ⟨(s.heap.getAll (d.values :: d.others)).2.headD 0, (s.heap.getAll (d.values :: d.others)).2.tail, d.ptr⟩,
           npages := s.npages + 1, held := ⟨o, s.npages⟩ :: s.held }

/-- a buffer that is got and released inside one library call (compressed page bytes of
    FilePages.readPage file.go:1506-1543, decompression and level scratch, writer page buffers) -/
def State.transient (s : State) (t : BufId × List UInt8) : State :=
  { s with heap := (s.heap.get t.1 t.2).1.unref (s.heap.get t.1 t.2).2 }

def Alias.live (s : State) (a : Alias) : Prop :=
  match a.life with
  | .page p => (⟨.caller, p⟩ : Claim) ∈ s.held
  | .call r g => (s.rdrs r).gen = g
  | .forever => True

/-- `.call` carries `g ≤ gen`, and `.forever` the leak, so that the clause survives `clearCur`
    (the reader ends its generation, a detaching one leaks the values buffer: `Mono.cur`) -/
def aliasOk (s : State) (a : Alias) : Prop :=
  match a.life with
  | .page p => p < s.npages ∧ (s.pages p).values = a.buf
  | .call r g => g ≤ (s.rdrs r).gen ∧
      ((s.rdrs r).gen = g → ∃ p, (s.rdrs r).cur = some p ∧ (s.pages p).values = a.buf)
  | .forever => 1 ≤ s.leak a.buf ∨
      ∃ r p, (s.rdrs r).cur = some p ∧ (s.pages p).values = a.buf ∧ s.det r = true

/-- everything but the content clause -/
structure Inv0 (s : State) : Prop where
  hw     : HW s.heap
  nobug  : s.heap.bug = none
  count  : ∀ b, (s.heap.bufs b).refc = refs s.held s.pages b + s.leak b
  claims : ∀ c, c ∈ s.held → c.page < s.npages
  last   : ∀ r p, (s.rdrs r).lastPage = some p → (⟨.last r, p⟩ : Claim) ∈ s.held
  cur    : ∀ r p, (s.rdrs r).cur = some p → (⟨.cur r, p⟩ : Claim) ∈ s.held
  ok     : ∀ a, a ∈ s.aliases → aliasOk s a

structure Inv (s : State) : Prop extends Inv0 s where
  data : ∀ a, a ∈ s.aliases → a.live s → (s.heap.bufs a.buf).data = a.snap

variable {s s' : State}

theorem claim_pos (i : Inv0 s) {c : Claim} (hc : c ∈ s.held) {b : BufId}
    (hb : b ∈ (s.pages c.page).all) : 1 ≤ (s.heap.bufs b).refc := by
  have h1 := occ_le_refs s.pages b hc
  have h2 := occ_pos hb
  have := i.count b; omega

theorem values_pos (i : Inv0 s) {c : Claim} (hc : c ∈ s.held) : 1 ≤ (s.heap.bufs (s.pages c.page).values).refc :=
  claim_pos i hc List.mem_cons_self

theorem live_pos {s : State} (i : Inv0 s) {a : Alias} (ha : a ∈ s.aliases) (hl : a.live s) :
    1 ≤ (s.heap.bufs a.buf).refc := by
  have ok := i.ok a ha
  unfold aliasOk at ok
  unfold Alias.live at hl
  split at ok
  · next p hp =>
    rw [hp] at hl
    exact ok.2 ▸ values_pos i hl
  · next r g hp =>
    rw [hp] at hl
    obtain ⟨p, hc, hv⟩ := ok.2 hl
    exact hv ▸ values_pos i (i.cur r p hc)
  · rcases ok with h | ⟨r, p, hc, hv, _⟩
    · have := i.count a.buf; omega
    · exact hv ▸ values_pos i (i.cur r p hc)

/-- frame of a step that touches only the heap, new page objects, references and `leak` -/
structure Frame (s s' : State) : Prop where
  np   : s.npages ≤ s'.npages
  pg   : ∀ p, p < s.npages → s'.pages p = s.pages p
  cg   : ∀ r, (s'.rdrs r).cur = (s.rdrs r).cur ∧ (s'.rdrs r).gen = (s.rdrs r).gen
  det  : s'.det = s.det
  leak : ∀ b, s.leak b ≤ s'.leak b
  al   : s'.aliases = s.aliases
  go   : s'.goVals = s.goVals

theorem Frame.heap_held {s : State} (H : Heap) (held : List Claim) : Frame s { s with heap := H, held := held } :=
  ⟨Nat.le_refl _, fun _ _ => rfl, fun _ => ⟨rfl, rfl⟩, rfl, fun _ => Nat.le_refl _, rfl, rfl⟩

theorem Frame.refl (s : State) : Frame s s := Frame.heap_held s.heap s.held

theorem Frame.trans {s'' : State} (a : Frame s s') (b : Frame s' s'') : Frame s s'' :=
  ⟨Nat.le_trans a.np b.np, fun p hp => by rw [b.pg p (Nat.lt_of_lt_of_le hp a.np), a.pg p hp],
   fun r => ⟨by rw [(b.cg r).1, (a.cg r).1], by rw [(b.cg r).2, (a.cg r).2]⟩, by rw [b.det, a.det], fun x => Nat.le_trans (a.leak x) (b.leak x),
   by rw [b.al, a.al], by rw [b.go, a.go]⟩

theorem cur_lt (i : Inv0 s) {r : RdrId} {p : PageId} (h : (s.rdrs r).cur = some p) :
    p < s.npages := i.claims _ (i.cur r p h)

/-- What the lifetimes of the aliases need of a step: a reader keeps its current page or ends its
    generation, and a detaching reader that lets go of a page leaks the values buffer. -/
structure Mono (s s' : State) : Prop where
  np   : s.npages ≤ s'.npages
  pg   : ∀ p, p < s.npages → s'.pages p = s.pages p
  gen  : ∀ r, (s.rdrs r).gen ≤ (s'.rdrs r).gen
  cur  : ∀ r p, (s.rdrs r).cur = some p → (s'.rdrs r).cur = some p ∨
           ((s.rdrs r).gen < (s'.rdrs r).gen ∧ (s.det r = true → 1 ≤ s'.leak (s.pages p).values))
  det  : s'.det = s.det
  leak : ∀ b, s.leak b ≤ s'.leak b
  al   : s'.aliases = s.aliases

theorem Frame.mono (f : Frame s s') : Mono s s' :=
  ⟨f.np, f.pg, fun r => Nat.le_of_eq (f.cg r).2.symm, fun r _ h => .inl ((f.cg r).1 ▸ h), f.det, f.leak, f.al⟩

theorem aliasOk_mono (i : Inv0 s) (m : Mono s s') {a : Alias} (h : aliasOk s a) :
    aliasOk s' a := by
  have pgc : ∀ {r p}, (s.rdrs r).cur = some p → s'.pages p = s.pages p := fun hc => m.pg _ (cur_lt i hc)
  unfold aliasOk at h ⊢
  split
  · next p hp =>
    rw [hp] at h
    exact ⟨Nat.lt_of_lt_of_le h.1 m.np, (m.pg p h.1).symm ▸ h.2⟩
  · next r g hp =>
    rw [hp] at h
    refine ⟨Nat.le_trans h.1 (m.gen r), fun hg => ?_⟩
    have hge : (s.rdrs r).gen = g := Nat.le_antisymm (hg ▸ m.gen r) h.1
    obtain ⟨p, hc, hv⟩ := h.2 hge
    rcases m.cur r p hc with hc' | ⟨hlt, _⟩
    · exact ⟨p, hc', (pgc hc).symm ▸ hv⟩
    · omega
  · next hp =>
    rw [hp] at h
    rcases h with h | ⟨r, p, hc, hv, hd⟩
    · exact .inl (Nat.le_trans h (m.leak _))
    · rcases m.cur r p hc with hc' | ⟨_, hlk⟩
      · exact .inr ⟨r, p, hc', (pgc hc).symm ▸ hv, m.det ▸ hd⟩
      · exact .inl (hv ▸ hlk hd)

/-- The invariant after a `Mono` step whose bookkeeping clauses hold: the caller gets no claim on an
    old page it did not hold (dead aliases would revive), and buffers change content only at refcount 0. -/
theorem Inv.step (i : Inv s) (m : Mono s s') (hw : HW s'.heap) (nobug : s'.heap.bug = none)
    (count : ∀ b, (s'.heap.bufs b).refc = refs s'.held s'.pages b + s'.leak b)
    (claims : ∀ c, c ∈ s'.held → c.page < s'.npages)
    (last : ∀ r p, (s'.rdrs r).lastPage = some p → (⟨.last r, p⟩ : Claim) ∈ s'.held)
    (cur : ∀ r p, (s'.rdrs r).cur = some p → (⟨.cur r, p⟩ : Claim) ∈ s'.held)
    (held : ∀ p, p < s.npages → (⟨.caller, p⟩ : Claim) ∈ s'.held → (⟨.caller, p⟩ : Claim) ∈ s.held)
    (hfr : ∀ b, 1 ≤ (s.heap.bufs b).refc → 1 ≤ (s'.heap.bufs b).refc →
      (s'.heap.bufs b).data = (s.heap.bufs b).data) : Inv s' := by
  have i0 : Inv0 s' := ⟨hw, nobug, count, claims, last, cur,
    fun a ha => aliasOk_mono i.toInv0 m (i.ok a (m.al ▸ ha))⟩
  refine { toInv0 := i0, data := fun a ha hl => ?_ }
  have ha0 : a ∈ s.aliases := m.al ▸ ha
  have hl0 : a.live s := by
    have ok := i.ok a ha0
    unfold aliasOk at ok
    unfold Alias.live at hl ⊢
    split
    · next p hp => rw [hp] at hl ok; exact held p ok.1 hl
    · next r g hp => rw [hp] at hl ok; exact Nat.le_antisymm (hl ▸ m.gen r) ok.1
    · trivial
  rw [hfr a.buf (live_pos i.toInv0 ha0 hl0) (live_pos i0 ha hl)]
  exact i.data a ha0 hl0

/-- Taking a claim `c`: each buffer of its page got a reference per occurrence, referenced buffers keep
    their content, nothing else moved; the caller's claim on an old page must be a `Retain`. -/
theorem claim_inv (i : Inv s) (fr : Frame s s') {c : Claim}
    (hheld : s'.held = c :: s.held) (hlt : c.page < s'.npages)
    (hlast : ∀ r, (s'.rdrs r).lastPage = (s.rdrs r).lastPage) (hleak : s'.leak = s.leak)
    (hw : HW s'.heap) (hbug : s'.heap.bug = s.heap.bug)
    (hrefc : ∀ b, (s'.heap.bufs b).refc = (s.heap.bufs b).refc + occ (s'.pages c.page) b)
    (hdata : ∀ b, 1 ≤ (s.heap.bufs b).refc → (s'.heap.bufs b).data = (s.heap.bufs b).data)
    (hcal : c.owner = .caller → c.page < s.npages → (⟨.caller, c.page⟩ : Claim) ∈ s.held) :
    Inv s' := by
  refine i.step fr.mono hw (hbug.trans i.nobug) (fun b => ?_) (fun c' hc' => ?_)
    (fun r q h => hheld ▸ List.mem_cons_of_mem _ (i.last r q (hlast r ▸ h)))
    (fun r q h => hheld ▸ List.mem_cons_of_mem _ (i.cur r q ((fr.cg r).1 ▸ h)))
    (fun q hq hm => ?_) (fun b h1 _ => hdata b h1)
  · rw [hrefc b, hheld, refs_cons, refs_congr b (fun c' hc' => fr.pg c'.page (i.claims c' hc')),
      i.count b, hleak]
    omega
  · rcases List.mem_cons.1 (hheld ▸ hc') with h | h
    · exact h ▸ hlt
    · exact Nat.lt_of_lt_of_le (i.claims c' h) fr.np
  · rcases List.mem_cons.1 (hheld ▸ hm) with h | h
    · subst h; exact hcal rfl hq
    · exact h

theorem retain_inv (i : Inv s) {o o' : Owner} {p : PageId}
    (hc : (⟨o', p⟩ : Claim) ∈ s.held) (hcal : o = .caller → (⟨.caller, p⟩ : Claim) ∈ s.held) :
    Inv (s.retain o p) ∧ Frame s (s.retain o p) := by
  have sp := refAll_spec (s.pages p).all i.hw fun b hb => claim_pos i.toInv0 hc hb
  have fr : Frame s (s.retain o p) := Frame.heap_held _ _
  exact ⟨claim_inv i fr (c := ⟨o, p⟩) rfl (i.claims ⟨o', p⟩ hc) (fun _ => rfl) rfl sp.1 sp.2.1
    (fun b => (sp.2.2 b).1) (fun b _ => (sp.2.2 b).2) (fun h _ => hcal h), fr⟩

theorem slice_inv (i : Inv s) (o : Owner) {o' : Owner} {p : PageId}
    (hc : (⟨o', p⟩ : Claim) ∈ s.held) :
    Inv (s.slice o p) ∧ Frame s (s.slice o p) := by
  have sp := refAll_spec (s.pages p).all i.hw fun b hb => claim_pos i.toInv0 hc hb
  have fr : Frame s (s.slice o p) :=
    ⟨Nat.le_succ _, fun q hq => upd_other _ _ (Nat.ne_of_lt hq), fun _ => ⟨rfl, rfl⟩, rfl,
     fun _ => Nat.le_refl _, rfl, rfl⟩
  refine ⟨claim_inv i fr (c := ⟨o, s.npages⟩) rfl (Nat.lt_succ_self _) (fun _ => rfl) rfl sp.1 sp.2.1
    (fun b => ?_) (fun b _ => (sp.2.2 b).2) (fun _ h => absurd h (Nat.lt_irrefl _)), fr⟩
  show _ = _ + occ (upd s.pages s.npages (s.pages p) s.npages) b
  rw [upd_same]; exact (sp.2.2 b).1

/-- Giving up the claim `c`: the buffers `bs` are unreferenced, the page's other references are
    written off as leaked, the reader fields may change along (`clear`). -/
theorem drop_inv (i : Inv s) (m : Mono s s') {c : Claim} (hc : c ∈ s.held)
    (bs : List BufId) (hheap : s'.heap = s.heap.unrefAll bs) (hheld : s'.held = s.held.erase c)
    (hbal : ∀ b, bs.count b + s'.leak b = occ (s.pages c.page) b + s.leak b)
    (hl : ∀ r q, (s'.rdrs r).lastPage = some q → (⟨.last r, q⟩ : Claim) ∈ s'.held)
    (hcu : ∀ r q, (s'.rdrs r).cur = some q → (⟨.cur r, q⟩ : Claim) ∈ s'.held) : Inv s' := by
  have hk : ∀ b, (s.heap.bufs b).refc = bs.count b + (refs (s.held.erase c) s.pages b + s'.leak b) := fun b => by
    have := hbal b; have := refs_erase s.pages b hc; have := i.count b; omega
  have sp := unrefAll_spec bs i.hw fun b => hk b ▸ Nat.le_add_right _ _
  have hold : ∀ c', c' ∈ s'.held → c' ∈ s.held := fun c' h => List.mem_of_mem_erase (hheld ▸ h)
  refine i.step m (hheap ▸ sp.1) (by rw [hheap, sp.2.1]; exact i.nobug) (fun b => ?_)
    (fun c' hc' => Nat.lt_of_lt_of_le (i.claims c' (hold c' hc')) m.np) hl hcu
    (fun q _ hm => hold _ hm) (fun b _ h2 => ?_)
  · rw [hheap, (sp.2.2 b).1, hk b, Nat.add_sub_cancel_left,
      refs_congr b fun c' hc' => m.pg c'.page (i.claims c' (hold c' hc')), hheld]
  · rw [hheap] at h2 ⊢; exact (sp.2.2 b).2 h2

theorem drop_frame (i : Inv s) (fr : Frame s s') {c : Claim} (hc : c ∈ s.held)
    (bs : List BufId) (hheap : s'.heap = s.heap.unrefAll bs) (hheld : s'.held = s.held.erase c)
    (hbal : ∀ b, bs.count b + s'.leak b = occ (s.pages c.page) b + s.leak b) (hrd : s'.rdrs = s.rdrs)
    (hl : ∀ r, c.owner = .last r → (s.rdrs r).lastPage ≠ some c.page)
    (hcu : ∀ r, c.owner = .cur r → (s.rdrs r).cur ≠ some c.page) : Inv s' := by
  refine drop_inv i fr.mono hc bs hheap hheld hbal (fun r q h => ?_) (fun r q h => ?_)
  · rw [hrd] at h; rw [hheld]
    exact (List.mem_erase_of_ne fun he => by subst he; exact hl r rfl h).2 (i.last r q h)
  · rw [hrd] at h; rw [hheld]
    exact (List.mem_erase_of_ne fun he => by subst he; exact hcu r rfl h).2 (i.cur r q h)

theorem release_inv (i : Inv s) {o : Owner} {p : PageId}
    (hc : (⟨o, p⟩ : Claim) ∈ s.held)
    (hl : ∀ r, o = .last r → (s.rdrs r).lastPage ≠ some p)
    (hcu : ∀ r, o = .cur r → (s.rdrs r).cur ≠ some p) :
    Inv (s.release o p) ∧ Frame s (s.release o p) :=
  have fr : Frame s (s.release o p) := Frame.heap_held _ _
  ⟨drop_frame i fr hc (s.pages p).all rfl rfl (fun _ => rfl) rfl hl hcu, fr⟩

theorem occ_others (pg : Page) (b : BufId) :
    occ pg b = pg.others.count b + (if pg.values = b then 1 else 0) := by
  rw [occ, Page.all, count_cons_ite]
  by_cases h : pg.values = b
  · rw [if_pos h, if_pos h.symm]
  · rw [if_neg h, if_neg fun e => h e.symm]

theorem detachRel_leak (s : State) (o : Owner) (p : PageId) (b : BufId) :
    (s.detachRel o p).leak b = s.leak b + (if (s.pages p).values = b then 1 else 0) := by
  show upd s.leak (s.pages p).values (s.leak (s.pages p).values + 1) b = _
  by_cases h : (s.pages p).values = b
  · subst h; simp
  · rw [upd_other _ _ (fun hh => h hh.symm)]; simp [h]

theorem detachRel_bal (s : State) (o : Owner) (p : PageId) (b : BufId) :
    (s.pages p).others.count b + (s.detachRel o p).leak b = occ (s.pages p) b + s.leak b := by
  rw [detachRel_leak, occ_others]; omega

theorem detachRel_inv {s : State} (i : Inv s) {o : Owner} {p : PageId}
    (hc : (⟨o, p⟩ : Claim) ∈ s.held)
    (hl : ∀ r, o = .last r → (s.rdrs r).lastPage ≠ some p)
    (hcu : ∀ r, o = .cur r → (s.rdrs r).cur ≠ some p) :
    Inv (s.detachRel o p) ∧ Frame s (s.detachRel o p) ∧ 1 ≤ (s.detachRel o p).leak (s.pages p).values := by
  have fr : Frame s (s.detachRel o p) :=
    ⟨Nat.le_refl _, fun _ _ => rfl, fun _ => ⟨rfl, rfl⟩, rfl, fun b => by rw [detachRel_leak]; omega, rfl, rfl⟩
  exact ⟨drop_frame i fr hc (s.pages p).others rfl rfl (detachRel_bal s o p) rfl hl hcu, fr,
    by rw [detachRel_leak, if_pos rfl]; omega⟩

theorem getAll_cons_all (h : Heap) (x : BufId × List UInt8) (xs : List (BufId × List UInt8)) :
    (h.getAll (x :: xs)).2.headD 0 :: (h.getAll (x :: xs)).2.tail = (h.getAll (x :: xs)).2 := by
  obtain ⟨a, b⟩ := x; rfl

theorem decode_inv (i : Inv s) (o : Owner) (d : DecodeSpec) :
    Inv (s.decode o d) ∧ Frame s (s.decode o d) := by
  have sp := getAll_spec (d.values :: d.others) i.hw
  generalize hids : (s.heap.getAll (d.values :: d.others)).2 = ids at sp
  obtain ⟨hw', hbug, hnd, hin, hout⟩ := sp
  -- the buffers of the new page are the distinct buffers just got
  have hocc : ∀ b, occ ((s.decode o d).pages s.npages) b = if b ∈ ids then 1 else 0 := by
    intro b
    show occ (upd s.pages s.npages _ s.npages) b = _
    rw [upd_same, occ, Page.all, getAll_cons_all, hids, hnd.count]
  have fr : Frame s (s.decode o d) :=
    ⟨Nat.le_succ _, fun q hq => upd_other _ _ (Nat.ne_of_lt hq), fun _ => ⟨rfl, rfl⟩, rfl,
     fun _ => Nat.le_refl _, rfl, rfl⟩
  refine ⟨claim_inv i fr (c := ⟨o, s.npages⟩) rfl (Nat.lt_succ_self _) (fun _ => rfl) rfl hw' hbug
    (fun b => ?_) (fun b h1 => ?_) (fun _ h => absurd h (Nat.lt_irrefl _)), fr⟩
  · rw [hocc b]
    by_cases hb : b ∈ ids
    · rw [if_pos hb]; exact (hin b hb).2.trans (by rw [(hin b hb).1])
    · rw [if_neg hb]; exact congrArg Buf.refc (hout b hb)
  · exact congrArg Buf.data (hout b fun hb => by have := (hin b hb).1; omega)

theorem transient_inv (i : Inv s) (t : BufId × List UInt8) :
    Inv (s.transient t) ∧ Frame s (s.transient t) := by
  have g := get_spec i.hw t.1 t.2
  generalize hr : s.heap.get t.1 t.2 = r at g
  obtain ⟨hw1, hb1, _, hz1, hv1, ho1⟩ := g
  have u := unref_spec hw1 (b0 := r.2) (by rw [hv1]; exact Nat.le_refl _)
  have e : s.transient t = { s with heap := r.1.unref r.2 } := by simp [State.transient, hr]
  rw [e]
  have fr : Frame s { s with heap := r.1.unref r.2 } := Frame.heap_held _ s.held
  have hrefc : ∀ b, ((r.1.unref r.2).bufs b).refc = (s.heap.bufs b).refc := by
    intro b
    rw [(u.2.2 b).1]
    by_cases hb : b = r.2
    · subst hb; rw [hv1, hz1]; simp
    · rw [ho1 b hb]; simp [hb]
  refine ⟨i.step fr.mono u.1 (by show (r.1.unref r.2).bug = none; rw [u.2.1, hb1]; exact i.nobug)
    (fun b => (hrefc b).trans (i.count b)) i.claims i.last i.cur (fun _ _ h => h) fun b hp hp' => ?_, fr⟩
  have hb : b ≠ r.2 := fun hb => by subst hb; omega
  show ((r.1.unref r.2).bufs b).data = _
  rw [(u.2.2 b).2 hp', ho1 b hb]

def State.setRdr (s : State) (r : RdrId) (x : Rdr) : State := { s with rdrs := upd s.rdrs r x }

theorem setRdr_keeps (i : Inv s) (r : RdrId) (x : Rdr) (hgen : x.gen = (s.rdrs r).gen)
    (hlast : ∀ p, x.lastPage = some p → (⟨.last r, p⟩ : Claim) ∈ s.held)
    (hcur : ∀ p, x.cur = some p → (⟨.cur r, p⟩ : Claim) ∈ s.held)
    (hkeep : ∀ p, (s.rdrs r).cur = some p → x.cur = some p) : Inv (s.setRdr r x) :=
  i.step
    ⟨Nat.le_refl _, fun _ _ => rfl,
     upd_forall (P := fun r' (y : Rdr) => (s.rdrs r').gen ≤ y.gen) (Nat.le_of_eq hgen.symm) fun _ _ => Nat.le_refl _,
     fun r' p h => .inl (upd_forall (P := fun r' (y : Rdr) => (s.rdrs r').cur = some p → y.cur = some p)
       (hkeep p) (fun _ _ h => h) r' h),
     rfl, fun _ => Nat.le_refl _, rfl⟩
    i.hw i.nobug i.count i.claims
    (upd_forall (P := fun r' (y : Rdr) => ∀ p, y.lastPage = some p → (⟨.last r', p⟩ : Claim) ∈ s.held)
      hlast fun r' _ => i.last r')
    (upd_forall (P := fun r' (y : Rdr) => ∀ p, y.cur = some p → (⟨.cur r', p⟩ : Claim) ∈ s.held)
      hcur fun r' _ => i.cur r')
    (fun _ _ h => h) (fun _ _ _ => rfl)

theorem setRdr_inv (i : Inv s) (r : RdrId) (x : Rdr)
    (hcur : x.cur = (s.rdrs r).cur) (hgen : x.gen = (s.rdrs r).gen)
    (hlast : ∀ p, x.lastPage = some p → (⟨.last r, p⟩ : Claim) ∈ s.held) :
    Inv (s.setRdr r x) ∧ Frame s (s.setRdr r x) :=
  ⟨setRdr_keeps i r x hgen hlast (fun p h => i.cur r p (hcur ▸ h)) (fun _ h => hcur ▸ h),
   Nat.le_refl _, fun _ _ => rfl,
   upd_forall (P := fun r' (y : Rdr) => y.cur = (s.rdrs r').cur ∧ y.gen = (s.rdrs r').gen) ⟨hcur, hgen⟩
     fun _ _ => ⟨rfl, rfl⟩,
   rfl, fun _ => Nat.le_refl _, rfl, rfl⟩

/-- MIRROR `Release(f.lastPage); f.lastPage = nil` (file.go:1152-1153, 1314-1316, 1738-1739) -/
def State.releaseLast (s : State) (r : RdrId) : State :=
  match (s.rdrs r).lastPage with
  | none => s
  | some p => (s.release (.last r) p).setRdr r { s.rdrs r with lastPage := none }

theorem releaseLast_inv (i : Inv s) (r : RdrId) :
    Inv (s.releaseLast r) ∧ Frame s (s.releaseLast r) ∧
    (∀ c, c ∈ s.held → (∀ p, c ≠ ⟨.last r, p⟩) → c ∈ (s.releaseLast r).held) := by
  unfold State.releaseLast
  split
  · exact ⟨i, Frame.refl s, fun c hc _ => hc⟩
  · next p hp =>
    -- same final state as clearing the field first
    show Inv ((s.setRdr r { s.rdrs r with lastPage := none }).release (.last r) p) ∧ Frame s _ ∧ _
    have a := setRdr_inv i r { s.rdrs r with lastPage := none } rfl rfl (fun q h => nomatch h)
    have b := release_inv a.1 (o := .last r) (i.last r p hp)
      (fun r' hr' h => by cases hr'; rw [show (s.setRdr r _).rdrs r = _ from upd_same _ _ _] at h; cases h)
      (fun r' hr' => nomatch hr')
    exact ⟨b.1, a.2.trans b.2, fun c hc hne => (List.mem_erase_of_ne (hne p)).2 hc⟩

/-- MIRROR `f.lastPage = page; Retain(page)` (file.go:1319-1320) -/
def State.retainLast (s : State) (r : RdrId) (p : PageId) : State :=
  (s.retain (.last r) p).setRdr r { s.rdrs r with lastPage := some p }

theorem retainLast_inv (i : Inv s) (r : RdrId) {o : Owner} {p : PageId}
    (hc : (⟨o, p⟩ : Claim) ∈ s.held) :
    Inv (s.retainLast r p) ∧ Frame s (s.retainLast r p) ∧ (∀ c, c ∈ s.held → c ∈ (s.retainLast r p).held) := by
  have a := retain_inv i (o := .last r) hc (fun h => nomatch h)
  have b := setRdr_inv a.1 r { s.rdrs r with lastPage := some p } rfl rfl
    (fun q h => by cases h; exact List.mem_cons_self)
  exact ⟨b.1, a.2.trans b.2, fun c hc => List.mem_cons_of_mem _ hc⟩

inductive Action where
  | ret       -- return the decoded page (file.go:1324-1345)
  | skip      -- the page lies before the row that was seeked to: Release, next page (file.go:1336-1339, 1355-1356)
  | sliceRet  -- return a Slice of it and Release the page (file.go:1346-1348, 1358-1361)
deriving DecidableEq, Repr

/-- one turn of the loop of FilePages.ReadPage -/
structure Iter where
  transients : List (BufId × List UInt8)  -- page bytes read from the file, decompression scratch, ...
  page       : Option DecodeSpec          -- none: a dictionary page (decoded into garbage-collected memory)
  action     : Action

def State.transients (s : State) (ts : List (BufId × List UInt8)) : State := ts.foldl State.transient s

theorem transients_inv (ts : List (BufId × List UInt8)) (i : Inv s) :
    Inv (s.transients ts) ∧ Frame s (s.transients ts) :=
  List.foldlRecOn ts _ (motive := fun s' => Inv s' ∧ Frame s s') ⟨i, Frame.refl s⟩
    fun _ a t _ => ⟨(transient_inv a.1 t).1, a.2.trans (transient_inv a.1 t).2⟩

/-- MIRROR one turn of the loop of FilePages.readPageInSequence (file.go:1237-1365) for a consumer `o` -/
def State.iter (s : State) (r : RdrId) (o : Owner) (it : Iter) : State × Option PageId :=
  let s1 := s.transients it.transients
  match it.page with
  | none => (s1, none)
  | some d =>
    let np := s1.npages
    let s4 := ((s1.decode o d).releaseLast r).retainLast r np
    match it.action with
    | .ret => (s4, some np)
    | .skip => (s4.release o np, none)
    | .sliceRet => ((s4.slice o np).release o np, some s4.npages)

structure Post (s : State) (o : Owner) (res : State × Option PageId) : Prop where
  inv : Inv res.1
  fr  : Frame s res.1
  ret : ∀ q, res.2 = some q → (⟨o, q⟩ : Claim) ∈ res.1.held

theorem iter_post (i : Inv s) (r : RdrId) {o : Owner} (ho : ∀ r', o ≠ .last r')
    (it : Iter) : Post s o (s.iter r o it) := by
  have t := transients_inv it.transients i
  unfold State.iter
  cases hpage : it.page with
  | none => exact ⟨t.1, t.2, fun q h => nomatch h⟩
  | some d =>
    simp only
    generalize hs1 : s.transients it.transients = s1 at t
    have a := decode_inv t.1 o d
    have b := releaseLast_inv a.1 r
    have hm3 := b.2.2 ⟨o, s1.npages⟩ List.mem_cons_self (fun p h => ho r (congrArg Claim.owner h))
    have c := retainLast_inv b.1 r hm3
    have hm4 := c.2.2 _ hm3
    have hn4 : s1.npages < (((s1.decode o d).releaseLast r).retainLast r s1.npages).npages :=
      Nat.lt_of_lt_of_le (Nat.lt_succ_self _) (Nat.le_trans b.2.1.np c.2.1.np)
    generalize ((s1.decode o d).releaseLast r).retainLast r s1.npages = s4 at c hm4 hn4
    have f4 : Frame s s4 := t.2.trans (a.2.trans (b.2.1.trans c.2.1))
    -- the consumer's own current page is an older page object
    have hcur : ∀ (s' : State), Frame s s' → ∀ r', o = .cur r' → (s'.rdrs r').cur ≠ some s1.npages := by
      intro s' f r' _ h
      rw [(f.cg r').1] at h
      exact absurd (Nat.lt_of_lt_of_le (cur_lt i.toInv0 h) t.2.np) (Nat.lt_irrefl _)
    have hlast : ∀ (s' : State) r', o = .last r' → (s'.rdrs r').lastPage ≠ some s1.npages :=
      fun s' r' h => absurd h (ho r')
    cases it.action with
    | ret => exact ⟨c.1, f4, fun q h => by cases h; exact hm4⟩
    | skip =>
      have e := release_inv c.1 hm4 (hlast s4) (hcur s4 f4)
      exact ⟨e.1, f4.trans e.2, fun q h => nomatch h⟩
    | sliceRet =>
      have d5 := slice_inv c.1 o hm4
      have e := release_inv d5.1 (List.mem_cons_of_mem _ hm4) (hlast _) (hcur _ (f4.trans d5.2))
      refine ⟨e.1, f4.trans (d5.2.trans e.2), fun q h => ?_⟩
      cases h
      exact (List.mem_erase_of_ne fun hh => Nat.ne_of_gt hn4 (congrArg Claim.page hh)).2 List.mem_cons_self

def State.loop (s : State) (r : RdrId) (o : Owner) : List Iter → State × Option PageId
  | [] => (s, none)   -- io.EOF or a decoding error
  | it :: rest =>
    match (s.iter r o it).2 with
    | some q => ((s.iter r o it).1, some q)
    | none => State.loop (s.iter r o it).1 r o rest

theorem loop_post (its : List Iter) {s : State} (i : Inv s) (r : RdrId) {o : Owner}
    (ho : ∀ r', o ≠ .last r') : Post s o (s.loop r o its) := by
  -- no turn left; this turn returns a page; it does not
  fun_induction State.loop s r o its with
  | case1 s => exact ⟨i, Frame.refl s, fun q h => nomatch h⟩
  | case2 s it rest q h =>
    have a := iter_post i r ho it
    exact ⟨a.inv, a.fr, fun q' h' => by cases h'; exact a.ret q h⟩
  | case3 s it rest h ih =>
    have a := iter_post i r ho it
    have b := ih a.inv
    exact ⟨b.inv, a.fr.trans b.fr, b.ret⟩

/-- MIRROR FilePages.readPageInSequence (file.go:1214-1366; `ReadPage`, file.go:1190-1202, wraps it and sets the
    unmodelled `desync` flag on errors); the cached-page preamble is file.go:1223-1236. `within`: the row seeked to lies in the cached
    page (`f.skip < numRows`); `its`: the turns of the loop until a page is returned. -/
def State.readPage (s : State) (r : RdrId) (o : Owner) (within : Bool) (its : List Iter) :
    State × Option PageId :=
  if (s.rdrs r).closed then (s, none) else
  match (s.rdrs r).serveLast, (s.rdrs r).lastPage with
  | true, some lp =>
    let s1 := s.setRdr r { s.rdrs r with serveLast := false }
    if within then (s1.slice o lp, some s1.npages) else s1.loop r o its
  | _, _ => s.loop r o its

theorem readPage_post (i : Inv s) (r : RdrId) {o : Owner}
    (ho : ∀ r', o ≠ .last r') (within : Bool) (its : List Iter) :
    Post s o (s.readPage r o within its) := by
  unfold State.readPage
  split
  · exact ⟨i, Frame.refl s, fun q h => nomatch h⟩
  · split
    · next hs hl =>
      have a := setRdr_inv i r { s.rdrs r with serveLast := false } rfl rfl (i.last r)
      simp only
      split
      · have b := slice_inv a.1 o (o' := .last r) (i.last r _ hl)
        exact ⟨b.1, a.2.trans b.2, fun q h => by cases h; exact List.mem_cons_self⟩
      · have b := loop_post its a.1 r ho
        exact ⟨b.inv, a.2.trans b.fr, b.ret⟩
    · exact loop_post its i r ho

/-- MIRROR FilePages.SeekToRow (file.go:1614-1725), the part that matters for ownership: when the row
    lies in the cached page the flag is set (file.go:1681-1683). Not modelled: the `desync` path
    (file.go:1625-1632), which releases the cached page after a failed ReadPage -/
def State.seekPages (s : State) (r : RdrId) (same : Bool) : State :=
  if (s.rdrs r).closed then s
  else if same && (s.rdrs r).lastPage.isSome then s.setRdr r { s.rdrs r with serveLast := true }
  else s

theorem seekPages_inv (i : Inv s) (r : RdrId) (same : Bool) : Inv (s.seekPages r same) := by
  unfold State.seekPages
  split
  · exact i
  · split
    · exact (setRdr_inv i r { s.rdrs r with serveLast := true } rfl rfl (i.last r)).1
    · exact i

/-- MIRROR FilePages.Close (file.go:1728-1746) -/
def State.closePages (s : State) (r : RdrId) : State :=
  (s.releaseLast r).setRdr r { (s.releaseLast r).rdrs r with closed := true, serveLast := false }

theorem closePages_inv (i : Inv s) (r : RdrId) : Inv (s.closePages r) :=
  have a := (releaseLast_inv i r).1
  (setRdr_inv a r { (s.releaseLast r).rdrs r with closed := true, serveLast := false } rfl rfl (a.last r)).1

/-- MIRROR columnChunkValueReader.clear (column_chunk.go:91-101) -/
def State.clearCur (s : State) (r : RdrId) : State :=
  match (s.rdrs r).cur with
  | none => s
  | some p =>
    if s.det r then
      { s.detachRel (.cur r) p with
        rdrs := upd s.rdrs r { s.rdrs r with cur := none, gen := (s.rdrs r).gen + 1 } }
    else
      { s.release (.cur r) p with
        rdrs := upd s.rdrs r { s.rdrs r with cur := none, gen := (s.rdrs r).gen + 1 } }

theorem clearCur_inv (i : Inv s) (r : RdrId) : Inv (s.clearCur r) := by
  unfold State.clearCur
  split
  · exact i
  · next p hcur =>
    -- in both branches reader `r` gives up its claim on `p` and ends its generation
    have key : ∀ (bs : List BufId) (lk : BufId → Nat),
        (∀ b, bs.count b + lk b = occ (s.pages p) b + s.leak b) → (∀ b, s.leak b ≤ lk b) →
        (s.det r = true → 1 ≤ lk (s.pages p).values) →
        Inv { s with heap := s.heap.unrefAll bs, held := s.held.erase ⟨.cur r, p⟩, leak := lk,
                     rdrs := upd s.rdrs r { s.rdrs r with cur := none, gen := (s.rdrs r).gen + 1 } } := by
      intro bs lk hbal hlk hdl
      refine drop_inv i ⟨Nat.le_refl _, fun _ _ => rfl, ?_, fun r' q h => ?_, rfl, hlk, rfl⟩
        (i.cur r p hcur) bs rfl rfl hbal ?_ ?_
      · exact upd_forall (P := fun r' (y : Rdr) => (s.rdrs r').gen ≤ y.gen) (Nat.le_succ _) fun _ _ => Nat.le_refl _
      · show (upd s.rdrs r _ r').cur = some q ∨ (_ < (upd s.rdrs r _ r').gen ∧ _)
        by_cases hr : r' = r
        · subst hr; rw [hcur] at h; cases h
          rw [upd_same]; exact .inr ⟨Nat.lt_succ_self _, hdl⟩
        · rw [upd_other _ _ hr]; exact .inl h
      · exact upd_forall (P := fun r' (y : Rdr) => ∀ q, y.lastPage = some q →
            (⟨.last r', q⟩ : Claim) ∈ s.held.erase ⟨.cur r, p⟩)
          (fun q h => (List.mem_erase_of_ne (fun he => by cases he)).2 (i.last r q h))
          (fun r' _ q h => (List.mem_erase_of_ne (fun he => by cases he)).2 (i.last r' q h))
      · exact upd_forall (P := fun r' (y : Rdr) => ∀ q, y.cur = some q →
            (⟨.cur r', q⟩ : Claim) ∈ s.held.erase ⟨.cur r, p⟩)
          (fun q h => nomatch h)
          (fun r' hr q h => (List.mem_erase_of_ne
            (fun he => hr (by injection he with h1; injection h1))).2 (i.cur r' q h))
    split
    · exact key (s.pages p).others _ (detachRel_bal s (.cur r) p) (fun b => by rw [detachRel_leak]; omega)
        (fun _ => by rw [detachRel_leak, if_pos rfl]; omega)
    · next hdet => exact key (s.pages p).all _ (fun _ => rfl) (fun _ => Nat.le_refl _) (fun h => absurd h hdet)

/-- `r.page = p` (column_chunk.go:130-137) -/
def State.setCur (s : State) (r : RdrId) (q : PageId) : State :=
  { s with rdrs := upd s.rdrs r { s.rdrs r with cur := some q } }

theorem setCur_inv (i : Inv s) {r : RdrId} {q : PageId} (hnone : (s.rdrs r).cur = none)
    (hc : (⟨.cur r, q⟩ : Claim) ∈ s.held) : Inv (s.setCur r q) :=
  setRdr_keeps i r { s.rdrs r with cur := some q } rfl (i.last r) (fun p h => by cases h; exact hc)
    (fun p h => by rw [hnone] at h; cases h)

/-- MIRROR `if r.values == nil { p, err := r.pages.ReadPage(); ...; r.page = p }` (column_chunk.go:130-137) -/
def State.fetch (s : State) (r : RdrId) (within : Bool) (its : List Iter) : State :=
  match (s.rdrs r).cur with
  | some _ => s
  | none =>
    match (s.readPage r (.cur r) within its).2 with
    | some q => (s.readPage r (.cur r) within its).1.setCur r q
    | none => (s.readPage r (.cur r) within its).1

theorem fetch_inv (i : Inv s) (r : RdrId) (within : Bool) (its : List Iter) :
    Inv (s.fetch r within its) := by
  unfold State.fetch
  split
  · exact i
  · next hnone =>
    have a := readPage_post i r (o := .cur r) (fun r' h => by cases h) within its
    split
    · next q hq =>
      exact setCur_inv a.inv (by rw [(a.fr.cg r).1]; exact hnone) (a.ret q hq)
    · exact a.inv

theorem addAlias_inv (i : Inv s) (a : Alias) (hok : aliasOk s a)
    (hsnap : (s.heap.bufs a.buf).data = a.snap) : Inv { s with aliases := a :: s.aliases } :=
  ⟨⟨i.hw, i.nobug, i.count, i.claims, i.last, i.cur, List.forall_mem_cons.2 ⟨hok, i.ok⟩⟩,
   List.forall_mem_cons.2 ⟨fun _ => hsnap, i.data⟩⟩

/-- the value reader returns Values of its current page (column_chunk.go:140-143): for a
    pointer-carrying page they point into the values buffer -/
def State.aliasCur (s : State) (r : RdrId) : State :=
  match (s.rdrs r).cur with
  | none => s
  | some p =>
    if (s.pages p).ptr then
      { s with aliases := ⟨(s.pages p).values, if s.det r then .forever else .call r (s.rdrs r).gen,
                           (s.heap.bufs (s.pages p).values).data⟩ :: s.aliases }
    else s

theorem aliasCur_inv (i : Inv s) (r : RdrId) : Inv (s.aliasCur r) := by
  unfold State.aliasCur
  split
  · exact i
  · next p hp =>
    split
    · refine addAlias_inv i _ ?_ rfl
      unfold aliasOk
      by_cases hd : s.det r = true
      · simp only [hd, if_true]; exact Or.inr ⟨r, p, hp, rfl, hd⟩
      · simp only [hd]; exact ⟨Nat.le_refl _, fun _ => ⟨p, hp, rfl⟩⟩
    · exact i

/-- one turn of the loop of columnChunkValueReader.ReadValues -/
structure Round where
  within : Bool
  its    : List Iter
  yields : Bool   -- the current page still has values (return them) / is exhausted (clear, next turn)

/-- MIRROR columnChunkValueReader.ReadValues (column_chunk.go:123-150) -/
def State.vrRead (s : State) (r : RdrId) : List Round → State
  | [] => s
  | rd :: rest =>
    match ((s.fetch r rd.within rd.its).rdrs r).cur with
    | none => s.fetch r rd.within rd.its   -- ReadPage failed or io.EOF: the error is returned
    | some _ =>
      if rd.yields then (s.fetch r rd.within rd.its).aliasCur r
      else State.vrRead ((s.fetch r rd.within rd.its).clearCur r) r rest

theorem vrRead_inv (rounds : List Round) : ∀ {s : State}, Inv s → ∀ r, Inv (s.vrRead r rounds) := by
  induction rounds with
  | nil => intro s i r; exact i
  | cons rd rest ih =>
    intro s i r
    have a := fetch_inv i r rd.within rd.its
    unfold State.vrRead
    split
    · exact a
    · split
      · exact aliasCur_inv a r
      · exact ih (clearCur_inv a r) r

/-- MIRROR columnChunkValueReader.SeekToRow / Reset (column_chunk.go:103-111, 152-161) -/
def State.vrSeek (s : State) (r : RdrId) (same : Bool) : State := (s.seekPages r same).clearCur r

/-- MIRROR columnChunkValueReader.Close (column_chunk.go:113-122) -/
def State.vrClose (s : State) (r : RdrId) : State := (s.closePages r).clearCur r

/-- MIRROR byteArrayType.AssignValue (type_byte_array.go:57-81): `string(v)` / `copyBytes(v)`
    allocate caller-owned memory and copy the bytes of the current page's values buffer -/
def State.copyCur (s : State) (r : RdrId) : State :=
  match (s.rdrs r).cur with
  | none => s
  | some p => { s with goVals := s.goVals ++ [(s.heap.bufs (s.pages p).values).data] }

/-- MIRROR Value.Clone / Row.Clone (value.go:901-907): copy of what alias number k points to -/
def State.cloneAlias (s : State) (k : Nat) : State :=
  match s.aliases[k]? with
  | none => s
  | some a => { s with goVals := s.goVals ++ [(s.heap.bufs a.buf).data] }

theorem goVals_inv (i : Inv s) (g : List (List UInt8)) : Inv { s with goVals := g } :=
  ⟨⟨i.hw, i.nobug, i.count, i.claims, i.last, i.cur, i.ok⟩, i.data⟩

inductive Op where
  /- pages API of a column chunk -/
  | readPage (r : RdrId) (within : Bool) (its : List Iter)  -- Pages.ReadPage, page handed to the caller
  | seekPages (r : RdrId) (same : Bool)                     -- Pages.SeekToRow
  | closePages (r : RdrId)                                  -- Pages.Close
  | retain (p : PageId)                                     -- parquet.Retain(page)
  | release (p : PageId)                                    -- parquet.Release(page)
  | slice (p : PageId)                                      -- page.Slice(i, j)
  | pageValues (p : PageId)                                 -- page.Values().ReadValues(...)
  /- value reader / row reader of a column -/
  | vrRead (r : RdrId) (rounds : List Round)                -- ReadValues / one column's part of ReadRows
  | vrSeek (r : RdrId) (same : Bool)                        -- SeekToRow
  | vrReset (r : RdrId) (same : Bool)                       -- Reset of a value / row reader (rewind): SeekToRow(0) then clear;
                                                            -- the reader keeps its `det` flag (column_chunk.go:103-111)
  | vrClose (r : RdrId)                                     -- Close
  | readGo (r : RdrId) (rounds : List Round)                -- GenericReader.Read / Read[T]: read, then AssignValue
  | clone (k : Nat)                                         -- Value.Clone / Row.Clone
  /- anything else in the process that uses the pools: other readers' scratch buffers, writers -/
  | churn (ts : List (BufId × List UInt8))

def hasCaller (s : State) (p : PageId) : Bool := decide ((⟨.caller, p⟩ : Claim) ∈ s.held)

def State.step (s : State) : Op → State
  | .readPage r within its => (s.readPage r .caller within its).1
  | .seekPages r same => s.seekPages r same
  | .closePages r => s.closePages r
  | .retain p => if hasCaller s p then s.retain .caller p else s
  | .release p => if hasCaller s p then s.release .caller p else s
  | .slice p => if hasCaller s p then s.slice .caller p else s
  | .pageValues p =>
    if hasCaller s p && (s.pages p).ptr then
      { s with aliases := ⟨(s.pages p).values, .page p, (s.heap.bufs (s.pages p).values).data⟩ :: s.aliases }
    else s
  | .vrRead r rounds => s.vrRead r rounds
  | .vrSeek r same => s.vrSeek r same
  | .vrReset r same => s.vrSeek r same
  | .vrClose r => s.vrClose r
  | .readGo r rounds => (s.vrRead r rounds).copyCur r
  | .clone k => s.cloneAlias k
  | .churn ts => s.transients ts

def State.run (s : State) (ops : List Op) : State := ops.foldl State.step s

theorem Inv_init (det : RdrId → Bool) : Inv (State.init det) :=
  { hw := HW_init, nobug := rfl, count := fun _ => rfl, claims := fun _ h => (by cases h),
    last := fun _ _ h => (by cases h), cur := fun _ _ h => (by cases h),
    ok := fun _ h => (by cases h), data := fun _ h => (by cases h) }

theorem step_inv {s : State} (i : Inv s) (op : Op) : Inv (s.step op) := by
  have caller : ∀ {p}, hasCaller s p = true → (⟨.caller, p⟩ : Claim) ∈ s.held := of_decide_eq_true
  cases op with
  | readPage r within its => exact (readPage_post i r (o := .caller) (fun r' h => by cases h) within its).inv
  | seekPages r same => exact seekPages_inv i r same
  | closePages r => exact closePages_inv i r
  | retain p => exact ite_ind (P := Inv) (fun h => (retain_inv i (caller h) fun _ => caller h).1) i
  | release p =>
    exact ite_ind (P := Inv)
      (fun h => (release_inv i (caller h) (fun r h => by cases h) (fun r h => by cases h)).1) i
  | slice p => exact ite_ind (P := Inv) (fun h => (slice_inv i .caller (caller h)).1) i
  | pageValues p =>
    refine ite_ind (P := Inv) (fun h => addAlias_inv i _ ⟨i.claims _ (caller ?_), rfl⟩ rfl) i
    rw [Bool.and_eq_true] at h; exact h.1
  | vrRead r rounds => exact vrRead_inv rounds i r
  | vrSeek r same => exact clearCur_inv (seekPages_inv i r same) r
  | vrReset r same => exact clearCur_inv (seekPages_inv i r same) r
  | vrClose r => exact clearCur_inv (closePages_inv i r) r
  | readGo r rounds =>
    have a := vrRead_inv rounds i r
    show Inv ((s.vrRead r rounds).copyCur r)
    unfold State.copyCur
    split
    · exact a
    · exact goVals_inv a _
  | clone k =>
    show Inv (s.cloneAlias k)
    unfold State.cloneAlias
    split
    · exact i
    · exact goVals_inv i _
  | churn ts => exact (transients_inv ts i).1

theorem run_append (s : State) (ops later : List Op) : s.run (ops ++ later) = (s.run ops).run later :=
  List.foldl_append ..

theorem run_inv (ops : List Op) : ∀ {s : State}, Inv s → Inv (s.run ops) :=
  fun i => List.foldlRecOn ops _ (motive := Inv) i fun _ i op _ => step_inv i op

/-! `Stable q r s s'`: the step keeps the caller's reference on page `q` and does not end the lifetime
generation of reader `r`. No invariant is needed: it is read off the definitions. -/

structure Stable (q : PageId) (r : RdrId) (s s' : State) : Prop where
  np   : s.npages ≤ s'.npages
  keep : q < s.npages → (⟨.caller, q⟩ : Claim) ∈ s.held → (⟨.caller, q⟩ : Claim) ∈ s'.held
  gen  : (s'.rdrs r).gen = (s.rdrs r).gen
  go   : ∃ l, s'.goVals = s.goVals ++ l
  al   : ∃ l, s'.aliases = l ++ s.aliases

theorem Stable.refl {q : PageId} {r : RdrId} : Stable q r s s :=
  ⟨Nat.le_refl _, fun _ h => h, rfl, ⟨[], (List.append_nil _).symm⟩, ⟨[], rfl⟩⟩

theorem Stable.trans {q : PageId} {r : RdrId} {s'' : State} (a : Stable q r s s')
    (b : Stable q r s' s'') : Stable q r s s'' :=
  ⟨Nat.le_trans a.np b.np, fun hq h => b.keep (Nat.lt_of_lt_of_le hq a.np) (a.keep hq h),
   by rw [b.gen, a.gen], by
     obtain ⟨l1, h1⟩ := a.go; obtain ⟨l2, h2⟩ := b.go
     exact ⟨l1 ++ l2, by rw [h2, h1, List.append_assoc]⟩, by
     obtain ⟨l1, h1⟩ := a.al; obtain ⟨l2, h2⟩ := b.al
     exact ⟨l2 ++ l1, by rw [h2, h1, List.append_assoc]⟩⟩

section
variable {q : PageId} {r : RdrId}

theorem Stable.same {s' : State} (np : s.npages ≤ s'.npages)
    (keep : (⟨.caller, q⟩ : Claim) ∈ s.held → (⟨.caller, q⟩ : Claim) ∈ s'.held)
    (gen : (s'.rdrs r).gen = (s.rdrs r).gen) (go : s'.goVals = s.goVals) (al : s'.aliases = s.aliases) :
    Stable q r s s' :=
  ⟨np, fun _ => keep, gen, ⟨[], by rw [go, List.append_nil]⟩, ⟨[], al⟩⟩

theorem Stable.cons {s' : State} {c : Claim} (np : s.npages ≤ s'.npages) (hh : s'.held = c :: s.held)
    (hr : s'.rdrs = s.rdrs) (go : s'.goVals = s.goVals) (al : s'.aliases = s.aliases) : Stable q r s s' :=
  .same np (fun h => hh ▸ List.mem_cons_of_mem _ h) (by rw [hr]) go al

theorem Stable.addGo (l : List (List UInt8)) : Stable q r s { s with goVals := s.goVals ++ l } :=
  ⟨Nat.le_refl _, fun _ h => h, rfl, ⟨l, rfl⟩, ⟨[], rfl⟩⟩

theorem Stable.addAlias (a : Alias) : Stable q r s { s with aliases := a :: s.aliases } :=
  ⟨Nat.le_refl _, fun _ h => h, rfl, ⟨[], (List.append_nil _).symm⟩, ⟨[a], rfl⟩⟩

theorem transient_stable (t : BufId × List UInt8) : Stable q r s (s.transient t) :=
  -- stated of the record update: else the unifier compares the two heaps before the other fields
  show Stable q r s { s with heap := _ } from .same (Nat.le_refl _) id rfl rfl rfl

theorem transients_stable (ts : List (BufId × List UInt8)) : Stable q r s (s.transients ts) :=
  List.foldlRecOn ts _ (motive := Stable q r s) .refl fun _ a t _ => a.trans (transient_stable t)

theorem release_stable (o : Owner) (p : PageId) (hne : o = .caller → p ≠ q) : Stable q r s (s.release o p) :=
  .same (Nat.le_refl _) (fun h => (List.mem_erase_of_ne fun he => by
      injection he with h1 h2; exact hne h1.symm h2.symm).2 h) rfl rfl rfl

theorem Stable.release_new {s' : State} (a : Stable q r s s') (o : Owner) {p : PageId} (hp : s.npages ≤ p) :
    Stable q r s (s'.release o p) :=
  ⟨a.np, fun hq h => (List.mem_erase_of_ne fun he => by cases he; exact absurd hq (Nat.not_lt.2 hp)).2 (a.keep hq h),
   a.gen, a.go, a.al⟩

theorem setRdr_stable (r' : RdrId) (x : Rdr) (hg : x.gen = (s.rdrs r').gen := by rfl) :
    Stable q r s (s.setRdr r' x) :=
  .same (Nat.le_refl _) id (upd_forall (P := fun r (y : Rdr) => y.gen = (s.rdrs r).gen) hg (fun _ _ => rfl) r)
    rfl rfl

theorem releaseLast_stable (r' : RdrId) : Stable q r s (s.releaseLast r') := by
  unfold State.releaseLast
  split
  · exact .refl
  · exact (release_stable _ _ (fun h => by cases h)).trans (setRdr_stable r' _)

theorem retainLast_stable (r' : RdrId) (p : PageId) : Stable q r s (s.retainLast r' p) := by
  unfold State.retainLast
  exact (show Stable q r s (s.retain (.last r') p) from .cons (Nat.le_refl _) rfl rfl rfl rfl).trans
    (setRdr_stable r' _)

theorem iter_stable (r' : RdrId) (o : Owner) (it : Iter) : Stable q r s (s.iter r' o it).1 := by
  have t : Stable q r s (s.transients it.transients) := transients_stable _
  unfold State.iter
  cases it.page with
  | none => exact t
  | some d =>
    simp only
    generalize s.transients it.transients = s1 at t
    have a : Stable q r s (((s1.decode o d).releaseLast r').retainLast r' s1.npages) :=
      t.trans ((Stable.cons (s' := s1.decode o d) (Nat.le_succ _) rfl rfl rfl rfl).trans
        ((releaseLast_stable r').trans (retainLast_stable r' _)))
    cases it.action with
    | ret => exact a
    | skip => exact a.release_new o t.np
    | sliceRet => exact (a.trans (.cons (s' := State.slice _ o s1.npages) (Nat.le_succ _) rfl rfl rfl rfl)).release_new o t.np

theorem loop_stable (r' : RdrId) (o : Owner) (its : List Iter) (s : State) : Stable q r s (s.loop r' o its).1 := by
  fun_induction State.loop s r' o its with
  | case1 => exact .refl
  | case2 s it => exact iter_stable r' o it
  | case3 s it _ _ ih => exact (iter_stable r' o it).trans ih

theorem readPage_stable (r' : RdrId) (o : Owner) (within : Bool) (its : List Iter) :
    Stable q r s (s.readPage r' o within its).1 := by
  unfold State.readPage
  split
  · exact .refl
  · split
    · simp only
      split
      · exact (setRdr_stable r' _).trans (.cons (Nat.le_succ _) rfl rfl rfl rfl)
      · exact (setRdr_stable r' _).trans (loop_stable r' o its _)
    · exact loop_stable r' o its s

theorem seekPages_stable (r' : RdrId) (same : Bool) : Stable q r s (s.seekPages r' same) := by
  unfold State.seekPages
  split
  · exact .refl
  · split
    · exact setRdr_stable r' _
    · exact .refl

theorem closePages_stable (r' : RdrId) : Stable q r s (s.closePages r') :=
  (releaseLast_stable r').trans (setRdr_stable r' _)

theorem clearCur_stable {r' : RdrId} (hr : r ≠ r') : Stable q r s (s.clearCur r') := by
  unfold State.clearCur
  split
  · exact .refl
  · split <;>
      exact .same (Nat.le_refl _) (fun h => (List.mem_erase_of_ne (fun he => by cases he)).2 h)
        (congrArg Rdr.gen (upd_other _ _ hr)) rfl rfl

theorem fetch_stable (r' : RdrId) (within : Bool) (its : List Iter) : Stable q r s (s.fetch r' within its) := by
  unfold State.fetch
  split
  · exact .refl
  · split
    · exact (readPage_stable r' _ within its).trans (setRdr_stable r' _)
    · exact readPage_stable r' _ within its

theorem aliasCur_stable (r' : RdrId) : Stable q r s (s.aliasCur r') := by
  unfold State.aliasCur
  split
  · exact .refl
  · split
    · exact .addAlias _
    · exact .refl

theorem vrRead_stable {r' : RdrId} (hr : r ≠ r') (rounds : List Round) :
    ∀ s : State, Stable q r s (s.vrRead r' rounds) := by
  induction rounds with
  | nil => intro s; exact .refl
  | cons rd rest ih =>
    intro s
    have a : Stable q r s (s.fetch r' rd.within rd.its) := fetch_stable r' rd.within rd.its
    unfold State.vrRead
    split
    · exact a
    · split
      · exact a.trans (aliasCur_stable r')
      · exact a.trans ((clearCur_stable hr).trans (ih _))

end

/-- the calls on a value reader r: only they can end the lifetime of Values it returned -/
def Op.onReader (r : RdrId) : Op → Bool
  | .vrRead r' _ => r' == r
  | .vrSeek r' _ => r' == r
  | .vrReset r' _ => r' == r
  | .vrClose r' => r' == r
  | .readGo r' _ => r' == r
  | _ => false

theorem step_stable (q : PageId) (r : RdrId) (s : State) (op : Op) (hrel : op ≠ .release q)
    (hrd : op.onReader r = false) : Stable q r s (s.step op) := by
  cases op with
  | readPage r' within its => exact readPage_stable r' _ within its
  | seekPages r' same => exact seekPages_stable r' same
  | closePages r' => exact closePages_stable r'
  | retain p => exact ite_ind (P := Stable q r s) (fun _ => .cons (Nat.le_refl _) rfl rfl rfl rfl) .refl
  | release p =>
    exact ite_ind (P := Stable q r s) (fun _ => release_stable _ _ fun _ h => hrel (by rw [h])) .refl
  | slice p => exact ite_ind (P := Stable q r s) (fun _ => .cons (Nat.le_succ _) rfl rfl rfl rfl) .refl
  | pageValues p => exact ite_ind (P := Stable q r s) (fun _ => .addAlias _) .refl
  | vrRead r' rounds => exact vrRead_stable (ne_of_beq_false hrd).symm rounds s
  | vrSeek r' same => exact (seekPages_stable r' same).trans (clearCur_stable (ne_of_beq_false hrd).symm)
  | vrReset r' same => exact (seekPages_stable r' same).trans (clearCur_stable (ne_of_beq_false hrd).symm)
  | vrClose r' => exact (closePages_stable r').trans (clearCur_stable (ne_of_beq_false hrd).symm)
  | readGo r' rounds =>
    refine (vrRead_stable (ne_of_beq_false hrd).symm rounds s).trans ?_
    show Stable q r _ ((s.vrRead r' rounds).copyCur r')
    unfold State.copyCur
    split
    · exact .refl
    · exact .addGo _
  | clone k =>
    show Stable q r s (s.cloneAlias k)
    unfold State.cloneAlias
    split
    · exact .refl
    · exact .addGo _
  | churn ts => exact transients_stable ts

/- `goVals` does not depend on the page and the reader `Stable` speaks of: `step_stable` is read at a
   page and a reader the operation does not mention (`Op.pg + 1`, `Op.rdr + 1`). -/

def Op.rdr : Op → RdrId
  | .vrRead r _ => r
  | .vrSeek r _ => r
  | .vrReset r _ => r
  | .vrClose r => r
  | .readGo r _ => r
  | _ => 0

def Op.pg : Op → PageId
  | .release p => p
  | _ => 0

theorem release_fresh (op : Op) : op ≠ .release (op.pg + 1) := by
  cases op <;> simp [Op.pg]

theorem onReader_fresh (op : Op) : op.onReader (op.rdr + 1) = false := by
  cases op <;> simp [Op.onReader, Op.rdr]

theorem step_goVals (s : State) (op : Op) : ∃ l, (s.step op).goVals = s.goVals ++ l :=
  (step_stable (op.pg + 1) (op.rdr + 1) s op (release_fresh op) (onReader_fresh op)).go

theorem run_goVals (ops : List Op) : ∀ s : State, ∃ l, (s.run ops).goVals = s.goVals ++ l :=
  fun s => List.foldlRecOn ops _ (motive := fun s' => ∃ l, s'.goVals = s.goVals ++ l) ⟨[], (List.append_nil _).symm⟩
    fun s' ⟨l1, h1⟩ op _ => (step_goVals s' op).elim fun l2 h2 => ⟨l1 ++ l2, by rw [h2, h1, List.append_assoc]⟩

end PqModel.Pool
