import PqModel.Basics

/-! # C09 C10 C14 — SPEC: what a merge is, over an arbitrary order and tagging

The inputs can be read back from a merge (`demux`: input `i` = the rows tagged `i`, in output order); the output is not
determined by the inputs (ties across inputs are free). So `IsMergeBy` is: sorted, tags in range, `demux = ins`, and
composing merges (the segment plans of merge_refine.go, nested merges) is an equation between `demux`es. `EmitsBy` is
the schedule form: repeatedly remove a head that is minimal among all current heads. -/
namespace PqModel.Merge

theorem getElem?_map_range {β : Type} (f : Nat → β) {n i : Nat} {x : β}
    (h : ((List.range n).map f)[i]? = some x) : i < n ∧ x = f i := by
  have hi : i < n := by simpa using ListFacts.lt_of_getElem?_eq_some h
  rw [List.getElem?_map, List.getElem?_range hi] at h
  exact ⟨hi, (Option.some.inj h).symm⟩

section plans
variable {α : Type}

structure IsMergeBy (le : α → α → Prop) (tag : α → Nat) (ins : List (List α)) (out : List α) : Prop where
  sorted : out.Pairwise le
  perm : out.Perm ins.flatten
  stable : ∀ (i : Nat) (l : List α), ins[i]? = some l → out.filter (fun r => tag r == i) = l

/-- the form of the definition that evaluation can check on concrete lists -/
theorem IsMergeBy.of_lt {le : α → α → Prop} {tag : α → Nat} {ins : List (List α)} {out : List α}
    (hs : out.Pairwise le) (hp : out.Perm ins.flatten)
    (hst : ∀ i, i < ins.length → out.filter (fun r => tag r == i) = ins.getD i []) : IsMergeBy le tag ins out :=
  ⟨hs, hp, fun i l hl => by
    obtain ⟨hi, _⟩ := List.getElem?_eq_some_iff.mp hl
    rw [hst i hi, List.getD_eq_getElem?_getD, hl]; rfl⟩

def demux (tag : α → Nat) (k : Nat) (out : List α) : List (List α) :=
  (List.range k).map (fun i => out.filter (fun r => tag r == i))

theorem demux_get {tag : α → Nat} {k i : Nat} {out l : List α} (h : (demux tag k out)[i]? = some l) :
    i < k ∧ l = out.filter (fun r => tag r == i) := getElem?_map_range _ h

theorem filter_lt_succ_perm (tag : α → Nat) (k : Nat) : ∀ (out : List α),
    (out.filter (fun r => decide (tag r < k + 1))).Perm
      (out.filter (fun r => decide (tag r < k)) ++ out.filter (fun r => tag r == k))
  | [] => by simp
  | x :: xs => by
    have ih := filter_lt_succ_perm tag k xs
    simp only [List.filter_cons]
    rcases Nat.lt_trichotomy (tag x) k with h | h | h
    · have h1 : decide (tag x < k + 1) = true := by simp; omega
      have h2 : decide (tag x < k) = true := by simp; omega
      have h3 : (tag x == k) = false := by simp; omega
      simp only [h1, h2, h3, if_true, Bool.false_eq_true, if_false, List.cons_append]
      exact List.Perm.cons x ih
    · have h1 : decide (tag x < k + 1) = true := by simp; omega
      have h2 : decide (tag x < k) = false := by simp; omega
      have h3 : (tag x == k) = true := by simp; omega
      simp only [h1, h2, h3, if_true, Bool.false_eq_true, if_false]
      exact (List.Perm.cons x ih).trans List.perm_middle.symm
    · have h1 : decide (tag x < k + 1) = false := by simp; omega
      have h2 : decide (tag x < k) = false := by simp; omega
      have h3 : (tag x == k) = false := by simp; omega
      simp only [h1, h2, h3, Bool.false_eq_true, if_false]
      exact ih

theorem filters_perm_lt (tag : α → Nat) (out : List α) : ∀ (k : Nat),
    (out.filter (fun r => decide (tag r < k))).Perm (demux tag k out).flatten
  | 0 => by simp [demux]
  | k + 1 => by
    rw [demux, List.range_succ, List.map_append, List.flatten_append]
    simp only [List.map_cons, List.map_nil, List.flatten_cons, List.flatten_nil, List.append_nil]
    exact (filter_lt_succ_perm tag k out).trans (List.Perm.append_right _ (filters_perm_lt tag out k))

theorem filters_perm (tag : α → Nat) (k : Nat) (out : List α) (h : ∀ x ∈ out, tag x < k) :
    out.Perm (demux tag k out).flatten := by
  have := filters_perm_lt tag out k
  rwa [List.filter_eq_self.mpr (by intro x hx; simpa using h x hx)] at this

theorem isMergeBy_demux {le : α → α → Prop} {tag : α → Nat} {k : Nat} {out : List α}
    (hs : out.Pairwise le) (ht : ∀ x ∈ out, tag x < k) : IsMergeBy le tag (demux tag k out) out :=
  ⟨hs, filters_perm tag k out ht, fun _ _ hl => (demux_get hl).2.symm⟩

theorem IsMergeBy.tag_lt {le : α → α → Prop} {tag : α → Nat} {ins : List (List α)} {out : List α}
    (h : IsMergeBy le tag ins out) : ∀ x ∈ out, tag x < ins.length := by
  intro x hx
  obtain ⟨l, hl, hxl⟩ := List.mem_flatten.mp (h.perm.subset hx)
  obtain ⟨i, hi⟩ := List.getElem?_of_mem hl
  rw [← h.stable i l hi] at hxl
  have : tag x = i := by simpa using (List.mem_filter.mp hxl).2
  exact this ▸ ListFacts.lt_of_getElem?_eq_some hi

theorem IsMergeBy.demux_eq {le : α → α → Prop} {tag : α → Nat} {ins : List (List α)} {out : List α}
    (h : IsMergeBy le tag ins out) : demux tag ins.length out = ins := by
  apply List.ext_getElem
  · simp [demux]
  · intro i h1 h2
    simp only [demux, List.getElem_map, List.getElem_range]
    exact h.stable i _ (by simp [h2])

theorem isMergeBy_iff_demux {le : α → α → Prop} {tag : α → Nat} {ins : List (List α)} {out : List α} :
    IsMergeBy le tag ins out ↔
      out.Pairwise le ∧ (∀ x ∈ out, tag x < ins.length) ∧ demux tag ins.length out = ins := by
  constructor
  · exact fun h => ⟨h.sorted, h.tag_lt, h.demux_eq⟩
  · rintro ⟨hs, ht, hd⟩
    have := isMergeBy_demux (le := le) hs ht
    rwa [hd] at this

/-- `G`: over any row type (MergeSpec.lean has these on mirror rows) -/
def zipPartsG : List (List α) → List (List α) → List (List α)
  | a :: as, b :: bs => (a ++ b) :: zipPartsG as bs
  | _, _ => []

def joinSegmentsG (k : Nat) : List (List (List α)) → List (List α)
  | [] => List.replicate k []
  | s :: ss => zipPartsG s (joinSegmentsG k ss)

def PlanGoodBy (le : α → α → Prop) (tag : α → Nat) (k : Nat) : List (List (List α)) → List (List α) → Prop
  | [], [] => True
  | s :: ss, o :: os => s.length = k ∧ IsMergeBy le tag s o ∧ (∀ x ∈ o, ∀ o' ∈ os, ∀ y ∈ o', le x y) ∧
      PlanGoodBy le tag k ss os
  | _, _ => False

theorem zipPartsG_map {ι : Type} (f g : ι → List α) : ∀ (l : List ι),
    zipPartsG (l.map f) (l.map g) = l.map (fun i => f i ++ g i)
  | [] => rfl
  | i :: l => by simp only [List.map_cons, zipPartsG, zipPartsG_map f g l]

theorem joinSegmentsG_map {ι : Type} (k : Nat) (f : ι → Nat → List α) : ∀ (Rs : List ι),
    joinSegmentsG k (Rs.map (fun R => (List.range k).map (f R))) =
      (List.range k).map (fun i => (Rs.map (fun R => f R i)).flatten)
  | [] => by simp [joinSegmentsG, List.map_const']
  | R :: Rs => by
    simp only [List.map_cons, joinSegmentsG, joinSegmentsG_map k f Rs, zipPartsG_map, List.flatten_cons]

theorem demux_append (tag : α → Nat) (k : Nat) (a b : List α) :
    demux tag k (a ++ b) = zipPartsG (demux tag k a) (demux tag k b) := by
  simp only [demux, zipPartsG_map, List.filter_append]

theorem demux_nil (tag : α → Nat) (k : Nat) : demux tag k [] = List.replicate k [] := by
  simp [demux, List.map_const']

theorem planBy_demux {le : α → α → Prop} {tag : α → Nat} {k : Nat} :
    ∀ (segs : List (List (List α))) (outs : List (List α)), PlanGoodBy le tag k segs outs →
      outs.flatten.Pairwise le ∧ (∀ x ∈ outs.flatten, tag x < k) ∧ demux tag k outs.flatten = joinSegmentsG k segs
  | [], [], _ => ⟨List.Pairwise.nil, by simp, demux_nil tag k⟩
  | [], _ :: _, h => by simp [PlanGoodBy] at h
  | _ :: _, [], h => by simp [PlanGoodBy] at h
  | s :: ss, o :: os, ⟨hlen, hm, hord, hrest⟩ => by
    obtain ⟨is, it, id⟩ := planBy_demux ss os hrest
    have mt := hm.tag_lt
    have md := hm.demux_eq
    rw [hlen] at mt md
    simp only [List.flatten_cons, joinSegmentsG, demux_append, md, id]
    refine ⟨List.pairwise_append.mpr ⟨hm.sorted, is, fun x hx y hy => ?_⟩, fun x hx => ?_, trivial⟩
    · obtain ⟨o', ho', hy'⟩ := List.mem_flatten.mp hy
      exact hord x hx o' ho' y hy'
    · rcases List.mem_append.mp hx with hx | hx
      · exact mt x hx
      · exact it x hx

theorem planBy_isMerge {le : α → α → Prop} {tag : α → Nat} {k : Nat}
    (segs : List (List (List α))) (outs : List (List α))
    (h : PlanGoodBy le tag k segs outs) : IsMergeBy le tag (joinSegmentsG k segs) outs.flatten := by
  obtain ⟨hs, ht, hd⟩ := planBy_demux segs outs h
  rw [← hd]
  exact isMergeBy_demux hs ht

end plans

section nested
variable {α : Type}

/-- the inputs of inner merge `j` in the numbering of all leaves: the leaves of group `j` in place, the others empty -/
def maskGroup (g : Nat → Nat) (j : Nat) (leaves : List (List α)) : List (List α) :=
  (List.range leaves.length).map (fun i => if g i = j then leaves.getD i [] else [])

theorem maskGroup_get (g : Nat → Nat) (j : Nat) (leaves : List (List α)) (i : Nat) (l : List α)
    (hl : leaves[i]? = some l) (hg : g i = j) : (maskGroup g j leaves)[i]? = some l := by
  have hi : i < leaves.length := ListFacts.lt_of_getElem?_eq_some hl
  simp only [maskGroup, List.getElem?_map, List.getElem?_range hi, Option.map_some, hg, if_true]
  simp [List.getD_eq_getElem?_getD, hl]

/-- a merge of merges is a merge of the leaves; the statement composes, so it covers merge trees of any depth -/
theorem isMergeBy_nested {le : α → α → Prop} {tag : α → Nat} (g : Nat → Nat)
    (leaves mids : List (List α)) (out : List α)
    (hinner : ∀ j (m : List α), mids[j]? = some m → IsMergeBy le tag (maskGroup g j leaves) m)
    (hg : ∀ i, i < leaves.length → g i < mids.length)
    (houter : IsMergeBy le (fun r => g (tag r)) mids out) :
    IsMergeBy le tag leaves out := by
  have hmid : ∀ j, j < mids.length → mids[j]? = some (mids.getD j []) := fun j hj => by
    simp [List.getD_eq_getElem?_getD, hj]
  refine isMergeBy_iff_demux.mpr ⟨houter.sorted, ?_, ?_⟩
  · -- every row of the output carries the tag of a leaf: it lies in the inner merge of its group
    intro x hx
    have hm := hmid _ (houter.tag_lt x hx)
    have hxm : x ∈ mids.getD (g (tag x)) [] := by
      rw [← houter.stable _ _ hm]; exact List.mem_filter.mpr ⟨hx, by simp⟩
    have := (hinner _ _ hm).tag_lt x hxm
    rwa [maskGroup, List.length_map, List.length_range] at this
  · -- per-leaf stability: the rows of leaf `i` are those of its group, filtered once more
    apply List.ext_getElem
    · simp [demux]
    · intro i h1 hi
      have hm := hmid _ (hg i hi)
      have h2 := (hinner (g i) _ hm).stable i _ (maskGroup_get g (g i) leaves i _ (List.getElem?_eq_getElem hi) rfl)
      simp only [demux, List.getElem_map, List.getElem_range]
      rw [← h2, ← houter.stable (g i) _ hm, List.filter_filter]
      apply List.filter_congr
      intro x _
      by_cases hx : tag x = i
      · simp [hx]
      · simp [hx]

example : IsMergeBy (fun a b : Nat × Nat => a.1 ≤ b.1) (fun r => r.2)
    [[(1, 0), (4, 0)], [(2, 1)], [(3, 2)]] [(1, 0), (2, 1), (3, 2), (4, 0)] := by
  apply isMergeBy_nested (fun i => if i = 2 then 1 else 0) _ [[(1, 0), (2, 1), (4, 0)], [(3, 2)]]
  · intro j m hm
    match j, hm with
    | 0, hm => cases hm; exact .of_lt (by decide) (by decide) (by decide)
    | 1, hm => cases hm; exact .of_lt (by decide) (by decide) (by decide)
    | j + 2, hm => simp at hm
  · decide
  · exact .of_lt (by decide) (by decide) (by decide)

end nested

section schedule
variable {α : Type}

inductive EmitsBy (le : α → α → Prop) : List (List α) → List (Nat × α) → List (List α) → Prop where
  | nil {ins : List (List α)} : EmitsBy le ins [] ins
  | step {ins : List (List α)} {i : Nat} {x : α} {rest : List α} {out : List (Nat × α)} {ins' : List (List α)} :
      ins[i]? = some (x :: rest) →
      (∀ (j : Nat) (l : List α) (y : α), ins[j]? = some l → l.head? = some y → le x y) →
      EmitsBy le (ins.set i rest) out ins' → EmitsBy le ins ((i, x) :: out) ins'

theorem emitsBy_proj {le : α → α → Prop} {ins ins' : List (List α)} {out : List (Nat × α)}
    (h : EmitsBy le ins out ins') : ∀ (i : Nat) (l : List α), ins[i]? = some l →
      ∃ l', ins'[i]? = some l' ∧ (out.filter (fun t => t.1 == i)).map (·.2) ++ l' = l := by
  induction h with
  | nil => intro i l hl; exact ⟨l, hl, by simp⟩
  | @step ins i0 x rest out ins' hi _ _ ih =>
    intro i l hl
    have hlt := ListFacts.lt_of_getElem?_eq_some hi
    by_cases he : i0 = i
    · subst he
      obtain ⟨l', hl', hp⟩ := ih i0 rest (by simp [hlt])
      refine ⟨l', hl', ?_⟩
      rw [hi] at hl; cases hl
      simp [← hp]
    · obtain ⟨l', hl', hp⟩ := ih i l (by rw [List.getElem?_set]; simp [he, hl])
      refine ⟨l', hl', ?_⟩
      simp [he, ← hp]

theorem flatten_set_perm {ins : List (List α)} {i : Nat} {x : α} {rest : List α}
    (hi : ins[i]? = some (x :: rest)) : (x :: (ins.set i rest).flatten).Perm ins.flatten := by
  induction ins generalizing i with
  | nil => simp at hi
  | cons a as ih =>
    cases i with
    | zero => simp at hi; subst hi; simp
    | succ i =>
      simp only [List.getElem?_cons_succ] at hi
      simp only [List.set_cons_succ, List.flatten_cons]
      exact (List.perm_middle.symm).trans (List.Perm.append_left a (ih hi))

theorem emitsBy_perm {le : α → α → Prop} {ins ins' : List (List α)} {out : List (Nat × α)}
    (h : EmitsBy le ins out ins') : (out.map (·.2) ++ ins'.flatten).Perm ins.flatten := by
  induction h with
  | nil => simp
  | step hi _ _ ih => exact (List.Perm.cons _ ih).trans (flatten_set_perm hi)

theorem min_le_all {le : α → α → Prop} (htr : ∀ a b c, le a b → le b c → le a c)
    {ins : List (List α)} {x : α} (hs : ∀ l ∈ ins, l.Pairwise le)
    (hmin : ∀ (j : Nat) (l : List α) (y : α), ins[j]? = some l → l.head? = some y → le x y) :
    ∀ l ∈ ins, ∀ y ∈ l, le x y := by
  intro l hl y hy
  obtain ⟨j, hj⟩ := List.getElem?_of_mem hl
  cases l with
  | nil => cases hy
  | cons z zs =>
    have hxz := hmin j _ z hj rfl
    rcases List.mem_cons.mp hy with rfl | hy
    · exact hxz
    · exact htr _ _ _ hxz ((List.pairwise_cons.mp (hs _ hl)).1 y hy)

theorem emitsBy_sorted {le : α → α → Prop} (htr : ∀ a b c, le a b → le b c → le a c)
    {ins ins' : List (List α)} {out : List (Nat × α)} (h : EmitsBy le ins out ins') :
    (∀ l ∈ ins, l.Pairwise le) →
      (out.map (·.2)).Pairwise le ∧ (∀ x ∈ out.map (·.2), ∀ l ∈ ins', ∀ y ∈ l, le x y) ∧
      (∀ l ∈ ins', l.Pairwise le) := by
  induction h with
  | nil => intro hs; exact ⟨List.Pairwise.nil, by simp, hs⟩
  | @step ins i0 x rest out ins' hi hmin hrest ih =>
    intro hs
    have hall := min_le_all htr hs hmin
    have hsx := hs _ (List.mem_of_getElem? hi)
    have hs' : ∀ l ∈ ins.set i0 rest, l.Pairwise le := fun l hl =>
      (List.mem_or_eq_of_mem_set hl).elim (hs l) (fun e => e ▸ (List.pairwise_cons.mp hsx).2)
    obtain ⟨h1, h2, h3⟩ := ih hs'
    -- everything emitted later, and everything left at the end, was in `ins` (by `emitsBy_perm`)
    have hm : ∀ y, y ∈ out.map (·.2) ++ ins'.flatten → le x y := by
      intro y hy
      obtain ⟨l, hl, hyl⟩ := List.mem_flatten.mp ((emitsBy_perm hrest).mem_iff.mp hy)
      rcases List.mem_or_eq_of_mem_set hl with h | h
      · exact hall l h y hyl
      · subst h; exact hall _ (List.mem_of_getElem? hi) y (List.mem_cons_of_mem _ hyl)
    refine ⟨List.pairwise_cons.mpr ⟨fun y hy => hm y (List.mem_append_left _ hy), h1⟩, ?_, h3⟩
    intro y hy l hl z hz
    rcases List.mem_cons.mp hy with rfl | hy
    · exact hm z (List.mem_append_right _ (List.mem_flatten.mpr ⟨l, hl, hz⟩))
    · exact h2 y hy l hl z hz

end schedule

end PqModel.Merge
