/-! # Values stored back to back in one flat array, described by offsets

`byteArrayPage`, `byteArrayColumnBuffer`, the DELTA_LENGTH_BYTE_ARRAY decoder and the bloom filter writer all see a
list of byte strings as (flat bytes, offsets): value `i` is `flat[offsets[i] : offsets[i+1]]`. The offsets of a
back-to-back layout are the prefix sums of the lengths; cutting the flat array there gives the values back.
Namespace `SortBuf`: `SortBytes.lean` (C10) uses these names. -/
namespace PqModel.SortBuf

def slice {B : Type} (vals : List B) (o l : Nat) : List B := (vals.drop o).take l

/-- MIRROR `byteArrayPage.index(i) = values[offsets[i] : offsets[i+1]]` for every value of a page -/
def slices {B : Type} (vals : List B) : List Nat → List (List B)
  | a :: b :: tl => slice vals a (b - a) :: slices vals (b :: tl)
  | _ => []

def prefixSums : Nat → List Nat → List Nat
  | _, [] => []
  | e, l :: ls => e :: prefixSums (e + l) ls

theorem slice_length {B : Type} {vals : List B} {o l : Nat} (h : o + l ≤ vals.length) : (slice vals o l).length = l := by
  simp only [slice, List.length_take, List.length_drop]
  omega

theorem slice_append_left {B : Type} {vals : List B} (ext : List B) {o l : Nat} (h : o + l ≤ vals.length) :
    slice (vals ++ ext) o l = slice vals o l := by
  unfold slice
  rw [List.drop_append_of_le_length (by omega), List.take_append_of_le_length (by simp only [List.length_drop]; omega)]

theorem slice_mid {B : Type} (pre x post : List B) : slice (pre ++ x ++ post) pre.length x.length = x := by
  unfold slice
  rw [List.append_assoc, List.drop_left, List.take_left]

theorem length_prefixSums (ls : List Nat) : ∀ e, (prefixSums e ls).length = ls.length := by
  induction ls with
  | nil => intro e; rfl
  | cons l ls ih => intro e; simp [prefixSums, ih]

theorem prefixSums_append (ls : List Nat) (x : Nat) : ∀ e, prefixSums e (ls ++ [x]) = prefixSums e ls ++ [e + ls.sum] := by
  induction ls with
  | nil => intro e; simp [prefixSums]
  | cons l ls ih => intro e; simp only [List.cons_append, prefixSums, ih, List.sum_cons]; rw [Nat.add_assoc]

theorem prefixSums_bound : ∀ (ls : List Nat) (e : Nat), ∀ p ∈ (prefixSums e ls).zip ls, p.1 + p.2 ≤ e + ls.sum
  | [], _, p, hp => by simp [prefixSums] at hp
  | l :: ls, e, p, hp => by
    simp only [prefixSums, List.zip_cons_cons, List.mem_cons, List.sum_cons] at hp ⊢
    rcases hp with rfl | hp
    · simp only; omega
    · have := prefixSums_bound ls (e + l) p hp
      omega

theorem map_slice_flatten {B : Type} (xs : List (List B)) : ∀ (pre post : List B),
    ((prefixSums pre.length (xs.map List.length)).zip (xs.map List.length)).map
      (fun p => slice (pre ++ xs.flatten ++ post) p.1 p.2) = xs := by
  induction xs with
  | nil => intro pre post; rfl
  | cons x xs ih =>
    intro pre post
    simp only [List.map_cons, prefixSums, List.zip_cons_cons, List.flatten_cons]
    congr 1
    · rw [← List.append_assoc pre x, List.append_assoc (pre ++ x)]
      exact slice_mid pre x (xs.flatten ++ post)
    · have h := ih (pre ++ x) post
      rw [List.length_append] at h
      rw [← List.append_assoc pre x]
      exact h

theorem slices_prefixSums {B : Type} (vals : List B) : ∀ (ls : List Nat) (e : Nat),
    slices vals (prefixSums e ls ++ [e + ls.sum]) = ((prefixSums e ls).zip ls).map (fun p => slice vals p.1 p.2)
  | [], _ => rfl
  | l :: ls, e => by
    have ih := slices_prefixSums vals ls (e + l)
    rw [List.sum_cons, ← Nat.add_assoc]
    cases ls with
    | nil => simp [prefixSums, slices]
    | cons l' ls' =>
      simp only [prefixSums, List.cons_append, slices, List.zip_cons_cons, List.map_cons] at ih ⊢
      rw [ih, Nat.add_sub_cancel_left]

theorem slices_flatten {B : Type} (xs : List (List B)) (pre post : List B) :
    slices (pre ++ xs.flatten ++ post)
      (prefixSums pre.length (xs.map List.length) ++ [pre.length + (xs.map List.length).sum]) = xs := by
  rw [slices_prefixSums]
  exact map_slice_flatten xs pre post

end PqModel.SortBuf
