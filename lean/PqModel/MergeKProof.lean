import PqModel.MergeLoser
import PqModel.Merge2Proof

/-! # C09 — the k-way reader `mergedRowReader`: every `ReadRows` call is an `Emits` schedule -/
namespace PqModel.Merge

theorem runOf_le (bound : Option Row) (w : List Row) : runOf bound w ≤ w.length := by
  cases bound with
  | none => exact Nat.le_refl _
  | some b => exact runLength_le w b 0

theorem runOf_bound (bound : Option Row) (w : List Row) (hs : SortedK w) :
    ∀ y ∈ w.take (runOf bound w), ∀ b, bound = some b → y.key ≤ b.key := by
  intro y hy b hb
  subst hb
  exact leMax_zero.mp ((runLength_spec' w b 0 hs).2.1 y hy)

theorem Buf.advance_advance (c : Buf) (a b : Nat) : ((c.advance a).1.advance b).1 = (c.advance (a + b)).1 := by
  simp [Buf.advance, List.drop_drop]

theorem Buf.advance_win (c : Buf) (n : Nat) : (c.advance n).1.win = c.win.drop n := rfl

theorem runEmit_spec (bound : Option Row) (f m : Nat) (c : Buf) (hw : c.win ≠ []) (hs : SortedK c.win) :
    ∃ n, (runEmit bound f m c).1 = c.win.take n ∧ (runEmit bound f m c).2.1 = (c.advance n).1 ∧
      (∀ y ∈ c.win.take n, ∀ b, bound = some b → y.key ≤ b.key) ∧
      ((runEmit bound f m c).2.2 = true → (c.advance n).1.win = []) ∧
      ((runEmit bound f m c).2.2 = false → (c.advance n).1.win ≠ []) := by
  have pre : ∀ (m : Nat) (c : Buf) (run : Nat), run = runOf bound (c.win.take m) → SortedK c.win →
      (c.win.take m).take run = c.win.take run ∧ ∀ y ∈ c.win.take run, ∀ b, bound = some b → y.key ≤ b.key := by
    intro m c run e hs
    subst e
    have hsw : SortedK (c.win.take m) := List.Pairwise.sublist (List.take_sublist _ _) hs
    have hle := runOf_le bound (c.win.take m)
    have htake : (c.win.take m).take (runOf bound (c.win.take m)) = c.win.take (runOf bound (c.win.take m)) := by
      simp only [List.length_take] at hle
      rw [List.take_take]; congr 1; omega
    exact ⟨htake, htake ▸ runOf_bound bound (c.win.take m) hsw⟩
  -- cases: out of fuel; no room; the run uses up the buffer; the bound is crossed; the window is exhausted, go on
  fun_induction runEmit bound f m c with
  | case1 | case2 => exact ⟨0, by simp, rfl, by simp, by simp, fun _ => hw⟩
  | case3 f m c hm run hmore =>
    obtain ⟨htake, hbd⟩ := pre m c run rfl hs
    exact ⟨run, htake, rfl, hbd, fun _ => (Buf.advance_done c run).mp hmore, fun h => by simp at h⟩
  | case4 f m c hm run hmore hfull =>
    obtain ⟨htake, hbd⟩ := pre m c run rfl hs
    exact ⟨run, htake, rfl, hbd, fun h => by simp at h, fun _ => mt (Buf.advance_done c run).mpr hmore⟩
  | case5 f m c hm run hmore hfull r ih =>
    obtain ⟨htake, hbd⟩ := pre m c run rfl hs
    have hne : (c.advance run).1.win ≠ [] := mt (Buf.advance_done c run).mpr hmore
    obtain ⟨n, e1, e2, e3, e4, e5⟩ := ih hne (List.Pairwise.sublist (List.drop_sublist _ _) hs)
    refine ⟨run + n, ?_, ?_, ?_, ?_, ?_⟩
    · simp only [r, htake, e1, Buf.advance_win]; rw [List.take_add]
    · simp only [r, e2, Buf.advance_advance]
    · intro y hy b hb
      rw [List.take_add, List.mem_append] at hy
      rcases hy with hy | hy
      · exact hbd y hy b hb
      · exact e3 y hy b hb
    · rw [← Buf.advance_advance]; exact e4
    · rw [← Buf.advance_advance]; exact e5

theorem countP_flip {p p' : Nat → Bool} {w0 : Nat} : ∀ (l : List Nat), l.Nodup → w0 ∈ l →
    p w0 = true → p' w0 = false → (∀ x, x ≠ w0 → p' x = p x) → l.countP p' + 1 = l.countP p
  | [], _, h, _, _, _ => by simp at h
  | a :: t, hnd, hmem, h1, h2, hag => by
    have hnd' := List.nodup_cons.mp hnd
    by_cases ha : a = w0
    · subst ha
      have : t.countP p' = t.countP p := by
        apply List.countP_congr
        intro x hx
        have : x ≠ a := fun h => hnd'.1 (h ▸ hx)
        rw [hag x this]
      simp [h1, h2, this]
    · have hm : w0 ∈ t := by
        rcases List.mem_cons.mp hmem with h | h
        · exact absurd h.symm ha
        · exact h
      have ih := countP_flip t hnd'.2 hm h1 h2 hag
      simp only [List.countP_cons, hag a ha]
      omega

theorem countP_range_ne_zero {p : Nat → Bool} {k : Nat} : (List.range k).countP p ≠ 0 ↔ ∃ x, x < k ∧ p x = true := by
  constructor
  · intro h
    have := List.countP_pos_iff.mp (Nat.pos_of_ne_zero h)
    obtain ⟨x, hx, hp⟩ := this
    exact ⟨x, List.mem_range.mp hx, hp⟩
  · intro ⟨x, hx, hp⟩
    exact Nat.ne_of_gt (List.countP_pos_iff.mpr ⟨x, List.mem_range.mpr hx, hp⟩)


def MK.rems (st : MK) : List (List Row) := st.bufs.map Buf.rem

/-- the tree of `st` is valid for heads `H` that agree with the buffers of all live inputs other than
    the current winner `w0` (whose buffer may have been consumed since the last replay) -/
structure Live (st : MK) (H : Heads) (win : Nat → Int) (w0 : Nat) : Prop where
  tinv : TInv st.bufs.length H st.losers win
  root : win 0 = (w0 : Int)
  winner : st.winner = (w0 : Int)
  leafpos : st.winnerLeaf = (st.bufs.length : Int) + (w0 : Int)
  bound : ∀ x, H.alive x = true → x < st.bufs.length
  link : ∀ x, x ≠ w0 → H.alive x = true → ∃ c, st.bufs[x]? = some c ∧ c.win ≠ [] ∧ c.head.key = H.key x
  dead : ∀ x, x < st.bufs.length → H.alive x = false → ∃ c, st.bufs[x]? = some c ∧ c.rem = []
  count : st.count = (List.range st.bufs.length).countP H.alive

/-- the buffered head of the winner is minimal (vacuous while its buffer is empty) -/
def MinOk (st : MK) (H : Heads) (w0 : Nat) : Prop :=
  ∀ c, st.bufs[w0]? = some c → c.win ≠ [] → ∀ x, x ≠ w0 → H.alive x = true → c.head.key ≤ H.key x

/-- the winner has rows buffered (true after every replay) -/
def Buffered (st : MK) (w0 : Nat) : Prop := ∃ c, st.bufs[w0]? = some c ∧ c.win ≠ []

def KInv (st : MK) : Prop :=
  (st.count = 0 → ∀ b ∈ st.bufs, b.rem = []) ∧
  (st.count ≠ 0 → ∃ H win w0, Live st H win w0 ∧ MinOk st H w0)

theorem headOf_eq {bufs : List Buf} {x : Nat} {c : Buf} (h : bufs[x]? = some c) : headOf bufs (x : Int) = c.head := by
  simp [headOf, List.getD_eq_getElem?_getD, h]

section live
variable {st : MK} {H : Heads} {win : Nat → Int} {w0 : Nat}

theorem Live.w0_lt (hl : Live st H win w0) : w0 < st.bufs.length := (hl.tinv.chain 0 w0 hl.root).2.1

theorem Live.w0_alive (hl : Live st H win w0) : H.alive w0 = true := (hl.tinv.chain 0 w0 hl.root).1

theorem Live.cur (hl : Live st H win w0) : st.bufs[w0]? = some st.cur := by
  have := hl.w0_lt
  simp [MK.cur, hl.winner, List.getD_eq_getElem?_getD, List.getElem?_eq_getElem this]

theorem setBuf_bufs (hl : Live st H win w0) (c' : Buf) : (st.setBuf c').bufs = st.bufs.set w0 c' := by
  simp [MK.setBuf, hl.winner]

theorem setBuf_get_ne (hl : Live st H win w0) (c' : Buf) {x : Nat} (hx : x ≠ w0) :
    (st.setBuf c').bufs[x]? = st.bufs[x]? := by
  rw [setBuf_bufs hl, List.getElem?_set]; simp [Ne.symm hx]

theorem setBuf_get_eq (hl : Live st H win w0) (c' : Buf) : (st.setBuf c').bufs[w0]? = some c' := by
  rw [setBuf_bufs hl, List.getElem?_set]; simp [hl.w0_lt]

theorem setBuf_len (hl : Live st H win w0) (c' : Buf) : (st.setBuf c').bufs.length = st.bufs.length := by
  rw [setBuf_bufs hl]; simp

theorem Live.setBuf (hl : Live st H win w0) (c' : Buf) : Live (st.setBuf c') H win w0 := by
  have hlen := setBuf_len hl c'
  refine ⟨by rw [hlen]; exact hl.tinv, hl.root, hl.winner, by rw [hlen]; exact hl.leafpos,
    by rw [hlen]; exact hl.bound, ?_, ?_, by rw [hlen]; exact hl.count⟩
  · intro x hx ha
    rw [setBuf_get_ne hl c' hx]; exact hl.link x hx ha
  · intro x hx ha
    have : x ≠ w0 := by intro h; subst h; rw [hl.w0_alive] at ha; cases ha
    rw [setBuf_get_ne hl c' this]; exact hl.dead x (by rw [← hlen]; exact hx) ha

theorem Live.streak (hl : Live st H win w0) (s : Nat) : Live { st with streak := s } H win w0 :=
  ⟨hl.tinv, hl.root, hl.winner, hl.leafpos, hl.bound, hl.link, hl.dead, hl.count⟩

theorem replayGames_eq (st : MK) : st.replayGames =
    { st with losers := (replayLoop st.bufs st.bufs.length ((st.winnerLeaf.toNat - 1) / 2) st.winner st.losers).2,
              winner := (replayLoop st.bufs st.bufs.length ((st.winnerLeaf.toNat - 1) / 2) st.winner st.losers).1,
              winnerLeaf := (st.bufs.length : Int) +
                (replayLoop st.bufs st.bufs.length ((st.winnerLeaf.toNat - 1) / 2) st.winner st.losers).1 } := rfl

/-- the tree is valid for heads `H'` that are *fresh*: they agree with the buffer of EVERY live input, the winner
    included (`hfull`), as after `initialize` and after every replay -/
theorem fresh_of_tinv {st2 : MK} {H' : Heads} {w' : Nat → Int}
    (htinv : TInv st2.bufs.length H' st2.losers w') (hwin : w' 0 = st2.winner)
    (hleaf : st2.winnerLeaf = (st2.bufs.length : Int) + st2.winner)
    (hbound : ∀ x, H'.alive x = true → x < st2.bufs.length)
    (hfull : ∀ x, H'.alive x = true → ∃ c, st2.bufs[x]? = some c ∧ c.win ≠ [] ∧ c.head.key = H'.key x)
    (hdead : ∀ x, x < st2.bufs.length → H'.alive x = false → ∃ c, st2.bufs[x]? = some c ∧ c.rem = [])
    (hcount : st2.count = (List.range st2.bufs.length).countP H'.alive)
    (hsome : ∃ x, x < st2.bufs.length ∧ H'.alive x = true) :
    ∃ w1, Live st2 H' w' w1 ∧ MinOk st2 H' w1 ∧ Buffered st2 w1 := by
  obtain ⟨x0, hx0, ha0⟩ := hsome
  obtain ⟨w1, hw1, hal1, hlt1⟩ := htinv.winner_alive x0 hx0 ha0
  have hbuf : Buffered st2 w1 := by
    obtain ⟨c1, hc1, hw1', _⟩ := hfull w1 hal1
    exact ⟨c1, hc1, hw1'⟩
  refine ⟨w1, ⟨htinv, hw1, by rw [← hwin, hw1], by rw [hleaf, ← hwin, hw1], hbound,
    fun x _ ha => hfull x ha, hdead, hcount⟩, ?_, hbuf⟩
  intro c hc _ x hx ha
  have hmin := htinv.tree_min x (hbound x ha) ha
  rw [hw1, pk_nat hal1, leInf_some] at hmin
  obtain ⟨c1, hc1, _, hk1⟩ := hfull w1 hal1
  rw [hc] at hc1; cases hc1
  omega

/-- `H'`: the heads now, `n`: the live inputs now; the replay starts with `w0` if it is still live, else with `-1` -/
theorem Live.replay (hl : Live st H win w0) (H' : Heads) (n : Nat)
    (hag : ∀ x, x ≠ w0 → H'.alive x = H.alive x ∧ H'.key x = H.key x)
    (hfull : ∀ x, H'.alive x = true → ∃ c, st.bufs[x]? = some c ∧ c.win ≠ [] ∧ c.head.key = H'.key x)
    (hdead : ∀ x, x < st.bufs.length → H'.alive x = false → ∃ c, st.bufs[x]? = some c ∧ c.rem = [])
    (hcount : n = (List.range st.bufs.length).countP H'.alive) (hn : n ≠ 0) :
    let st1 : MK := { st with winner := if H'.alive w0 = true then (w0 : Int) else -1, count := n }
    ∃ win' w1, Live st1.replayGames H' win' w1 ∧ MinOk st1.replayGames H' w1 ∧ Buffered st1.replayGames w1 := by
  intro st1
  have hrep := replay_inv (H' := H') (bufs := st.bufs) hl.tinv hl.root hag (by
    intro x ha
    obtain ⟨c, h1, _, h3⟩ := hfull x ha
    rw [headOf_eq h1, h3])
  simp only at hrep
  have hoff : par (st.bufs.length + w0) = (st1.winnerLeaf.toNat - 1) / 2 := by
    show par (st.bufs.length + w0) = (st.winnerLeaf.toNat - 1) / 2
    rw [hl.leafpos]; simp only [par]; congr 2
  rw [hoff] at hrep
  obtain ⟨w', htinv, hwin⟩ := hrep
  obtain ⟨w1, h⟩ := fresh_of_tinv (st2 := st1.replayGames) (H' := H') (w' := w') htinv hwin rfl
    (fun x ha => by obtain ⟨c, hc, _⟩ := hfull x ha; exact ListFacts.lt_of_getElem?_eq_some hc)
    hfull hdead hcount (countP_range_ne_zero.mp (hcount ▸ hn))
  exact ⟨w', w1, h⟩

theorem Live.replay_fresh (hl : Live st H win w0) (c' : Buf) (hc : st.bufs[w0]? = some c') (hc' : c'.win ≠ []) :
    ∃ H' win' w1, Live st.replayGames H' win' w1 ∧ MinOk st.replayGames H' w1 ∧ Buffered st.replayGames w1 := by
  let H' : Heads := { alive := H.alive, key := fun x => if x = w0 then c'.head.key else H.key x }
  have h := hl.replay H' st.count (by intro x hx; simp [H', hx])
    (by
      intro x ha
      by_cases hx : x = w0
      · subst hx; exact ⟨c', hc, hc', by simp [H']⟩
      · obtain ⟨c, h1, h2, h3⟩ := hl.link x hx ha
        exact ⟨c, h1, h2, by simp [H', hx, h3]⟩)
    hl.dead hl.count (hl.count ▸ countP_range_ne_zero.mpr ⟨w0, hl.w0_lt, hl.w0_alive⟩)
  rw [if_pos (show H'.alive w0 = true from hl.w0_alive), ← hl.winner] at h
  exact ⟨H', h⟩

theorem Live.replay_eof (hl : Live st H win w0) (hrem : st.cur.rem = []) :
    let st1 : MK := { st with winner := -1, count := st.count - 1 }
    (st.count - 1 = 0 → ∀ b ∈ st.bufs, b.rem = []) ∧
    (st.count - 1 ≠ 0 → ∃ H' win' w1, Live st1.replayGames H' win' w1 ∧ MinOk st1.replayGames H' w1 ∧
      Buffered st1.replayGames w1) := by
  intro st1
  let H' : Heads := { alive := fun x => if x = w0 then false else H.alive x, key := H.key }
  have hcnt : (List.range st.bufs.length).countP H'.alive + 1 = st.count := by
    rw [hl.count]
    exact countP_flip _ List.nodup_range (List.mem_range.mpr hl.w0_lt) hl.w0_alive (by simp [H'])
      (by intro x hx; simp [H', hx])
  have hdead : ∀ x, x < st.bufs.length → H'.alive x = false → ∃ c, st.bufs[x]? = some c ∧ c.rem = [] := by
    intro x hx ha
    by_cases hxw : x = w0
    · subst hxw; exact ⟨st.cur, hl.cur, hrem⟩
    · exact hl.dead x hx (by simpa [H', hxw] using ha)
  constructor
  · intro h0 b hb
    obtain ⟨x, hx, rfl⟩ := List.mem_iff_getElem.mp hb
    have hnone : H'.alive x = false := by
      have := List.countP_eq_zero.mp (show (List.range st.bufs.length).countP H'.alive = 0 by omega) x
        (List.mem_range.mpr hx)
      simpa using this
    obtain ⟨c, hc, hcr⟩ := hdead x hx hnone
    rw [List.getElem?_eq_getElem hx] at hc
    cases hc; exact hcr
  · intro hne
    have h := hl.replay H' (st.count - 1) (by intro x hx; simp [H', hx])
      (by
        intro x ha
        have hx : x ≠ w0 := by intro h; subst h; simp [H'] at ha
        exact hl.link x hx (by simpa [H', hx] using ha))
      hdead (by omega) hne
    rw [if_neg (show ¬ H'.alive w0 = true by simp [H'])] at h
    exact ⟨H', h⟩


theorem cur_setBuf (hl : Live st H win w0) (c' : Buf) : (st.setBuf c').cur = c' := by
  have := setBuf_get_eq hl c'
  have hw : (st.setBuf c').winner = (w0 : Int) := hl.winner
  simp [MK.cur, hw, List.getD_eq_getElem?_getD, this]

theorem rems_setBuf (hl : Live st H win w0) (c' : Buf) : (st.setBuf c').rems = st.rems.set w0 c'.rem := by
  simp [MK.rems, setBuf_bufs hl, List.map_set]

theorem rems_setBuf_same (hl : Live st H win w0) (c' : Buf) (h : c'.rem = st.cur.rem) :
    (st.setBuf c').rems = st.rems := by
  rw [rems_setBuf hl, h]
  have hlt := hl.w0_lt
  have hc := hl.cur
  rw [List.getElem?_eq_getElem hlt] at hc
  have hget : st.bufs[w0] = st.cur := by simpa using hc
  have : st.cur.rem = st.rems[w0]'(by simpa [MK.rems] using hlt) := by
    simp only [MK.rems, List.getElem_map, hget]
  rw [this]; exact List.set_getElem_self _

theorem Live.emits (hl : Live st H win w0) (n : Nat)
    (hle : ∀ y ∈ st.cur.win.take n, ∀ x, x ≠ w0 → H.alive x = true → y.key ≤ H.key x) :
    Emits st.rems (st.cur.win.take n) (st.setBuf (st.cur.advance n).1).rems := by
  have h := emits_advance st.bufs w0 st.cur n hl.cur (by
    intro y hy j c' y' hj hcj hy'
    have hjlt : j < st.bufs.length := ListFacts.lt_of_getElem?_eq_some hcj
    cases ha : H.alive j with
    | true =>
      obtain ⟨c'', h1, h2, h3⟩ := hl.link j hj ha
      rw [hcj] at h1; cases h1
      rw [Buf.head_rem h2] at hy'; cases hy'
      rw [h3]; exact hle y hy j hj ha
    | false =>
      obtain ⟨c'', h1, h2⟩ := hl.dead j hjlt ha
      rw [hcj] at h1; cases h1
      rw [h2] at hy'; cases hy')
  simpa only [MK.rems, setBuf_bufs hl] using h

end live

theorem KInv.streak {st : MK} (h : KInv st) (s : Nat) : KInv { st with streak := s } := by
  refine ⟨h.1, ?_⟩
  intro hc
  obtain ⟨H, win, w0, hl, hm⟩ := h.2 hc
  exact ⟨H, win, w0, hl.streak s, hm⟩

/-- `replayKeep` and `replayCount` are `replayGames` up to the streak counter -/
theorem replayKeep_eq (st : MK) (p : Int) : ∃ s, st.replayKeep p = { st.replayGames with streak := s } := by
  unfold MK.replayKeep; split
  · exact ⟨0, rfl⟩
  · exact ⟨st.replayGames.streak, rfl⟩

theorem replayCount_eq (st : MK) (p : Int) : ∃ s, st.replayCount p = { st.replayGames with streak := s } := by
  unfold MK.replayCount; split
  · exact ⟨_, rfl⟩
  · exact ⟨0, rfl⟩

theorem kinv_of_live {st : MK} {H : Heads} {win : Nat → Int} {w0 : Nat}
    (hl : Live st H win w0) (hm : MinOk st H w0) (hc : st.count ≠ 0) : KInv st :=
  ⟨fun h => absurd h hc, fun _ => ⟨H, win, w0, hl, hm⟩⟩

theorem minOk_empty {st : MK} {H : Heads} {win : Nat → Int} {w0 : Nat} (hl : Live st H win w0) (c' : Buf)
    (hc' : c'.win = []) : MinOk (st.setBuf c') H w0 := by
  intro c hc hw
  rw [setBuf_get_eq hl c'] at hc; cases hc
  exact absurd hc' hw

theorem cur_of_buffered {st : MK} {H : Heads} {win : Nat → Int} {w1 : Nat}
    (hl : Live st H win w1) (hb : Buffered st w1) : st.cur.win ≠ [] := by
  obtain ⟨c, hc, hw⟩ := hb
  have := hl.cur
  rw [hc] at this; cases this; exact hw

theorem MK.loop_done {f m : Nat} {st : MK} (h : m = 0 ∨ st.count = 0) : MK.loop f m st = ([], st) := by
  cases f with
  | zero => rfl
  | succ f => rw [MK.loop, if_pos (by simpa using h)]

section
variable {st : MK} {H : Heads} {win : Nat → Int} {w0 : Nat}

theorem Live.emits_head (hl : Live st H win w0) (hmin : MinOk st H w0) (hcw : st.cur.win ≠ []) :
    Emits st.rems [st.cur.head] (st.setBuf (st.cur.advance 1).1).rems := by
  have := hl.emits 1 (by
    intro y hy x hx ha
    rw [Buf.take_one hcw, List.mem_singleton] at hy
    exact hy ▸ hmin st.cur hl.cur hcw x hx ha)
  rwa [Buf.take_one hcw] at this

/-- run mode: the rows `runEmit` takes are at most `runBound`, the least head of the other live inputs -/
theorem Live.emits_run (hl : Live st H win w0) (m : Nat) (hw : st.cur.win ≠ []) (hs : ∀ l ∈ st.rems, SortedK l) :
    Emits st.rems (runEmit st.runBound m m st.cur).1 (st.setBuf (runEmit st.runBound m m st.cur).2.1).rems ∧
    ((runEmit st.runBound m m st.cur).2.2 = true → (runEmit st.runBound m m st.cur).2.1.win = []) ∧
    ((runEmit st.runBound m m st.cur).2.2 = false → (runEmit st.runBound m m st.cur).2.1.win ≠ []) := by
  obtain ⟨n, e1, e2, e3, e4, e5⟩ := runEmit_spec st.runBound m m st.cur hw
    (Buf.win_sorted (hs _ (List.mem_map.mpr ⟨_, List.mem_of_getElem? hl.cur, rfl⟩)))
  have hrb : st.runBound = runBoundLoop st.bufs st.losers st.bufs.length (par (st.bufs.length + w0)) none := by
    simp only [MK.runBound, hl.leafpos, par]; congr 2
  have hbmin := (runBound_min (bufs := st.bufs) hl.tinv hl.root (by
    intro x hx ha
    obtain ⟨c, h1, _, h3⟩ := hl.link x hx ha
    rw [headOf_eq h1, h3])).1
  rw [← hrb] at hbmin
  rw [e1, e2]
  refine ⟨hl.emits n (fun y hy x hx ha => ?_), e2 ▸ e4, e2 ▸ e5⟩
  obtain ⟨b, hb1, hb2⟩ := hbmin x (hl.bound x ha) hx ha
  exact Int.le_trans (e3 y hy b hb1) hb2
end

/-- With room in the output, an iteration that finds the winner buffered emits a row; one that has to refill it
    first is followed by such an iteration, unless the last input ended: hence the fuel `2 * m + 2` of `MK.readRows`
    (`M2.readRows` passes `m`: one iteration per row at least). Only progress (last clause, `2 ≤ f`) is proved from
    it, not that the fuel never runs out. -/
theorem MK.loop_spec (f m : Nat) (st : MK) (hk : KInv st) (hs : ∀ l ∈ st.rems, SortedK l) :
    Emits st.rems (MK.loop f m st).1 (MK.loop f m st).2.rems ∧ KInv (MK.loop f m st).2 ∧
    (MK.loop f m st).2.initialized = st.initialized ∧
    (m ≠ 0 → st.count ≠ 0 → st.cur.win ≠ [] → f ≠ 0 → (MK.loop f m st).1 ≠ []) ∧
    (m ≠ 0 → 2 ≤ f → (MK.loop f m st).1 ≠ [] ∨ (MK.loop f m st).2.count = 0) := by
  have live : ∀ {m : Nat} {st : MK}, ¬ (decide (m = 0) || decide (st.count = 0)) = true →
      m ≠ 0 ∧ st.count ≠ 0 := fun h => by simpa using h
  have goOn : ∀ {st Y : MK} {e : List Row} {r : List Row × MK} {P1 P2 : Prop}, Emits st.rems e Y.rems →
      Y.initialized = st.initialized →
      Emits Y.rems r.1 r.2.rems ∧ KInv r.2 ∧ r.2.initialized = Y.initialized ∧ P1 ∧ P2 →
      Emits st.rems (e ++ r.1) r.2.rems ∧ KInv r.2 ∧ r.2.initialized = st.initialized :=
    fun hE hi ih => ⟨hE.trans ih.1, ih.2.1, ih.2.2.1.trans hi⟩
  have head : ∀ {m : Nat} {st : MK}, KInv st → ¬ (decide (m = 0) || decide (st.count = 0)) = true →
      ¬ st.cur.empty = true → st.count ≠ 0 ∧ ∃ H win w0, Live st H win w0 ∧
        Emits st.rems [st.cur.head] (st.setBuf (st.cur.advance 1).1).rems := by
    intro m st hk h hempty
    obtain ⟨H, win, w0, hl, hmin⟩ := hk.2 (live h).2
    exact ⟨(live h).2, H, win, w0, hl, hl.emits_head hmin (by simpa [Buf.empty] using hempty)⟩
  -- an output `x :: l` discharges both progress clauses, whatever their premises are
  have hne : ∀ (x : Row) (l : List Row) {P Q R S P' Q' R' : Prop}, (P → Q → R → S → x :: l ≠ []) ∧
      (P' → Q' → x :: l ≠ [] ∨ R') :=
    fun _ _ => ⟨fun _ _ _ _ => List.cons_ne_nil _ _, fun _ _ => Or.inl (List.cons_ne_nil _ _)⟩
  fun_induction MK.loop f m st with
  | case1 m st => exact ⟨Emits.nil, hk, rfl, fun _ _ _ h => absurd rfl h, fun _ h => by omega⟩
  | case2 f m st h =>
    have hdone : m = 0 ∨ st.count = 0 := by simpa using h
    exact ⟨Emits.nil, hk, rfl, fun h1 h2 => absurd hdone (by simp [h1, h2]),
      fun h1 _ => Or.inr (hdone.resolve_left h1)⟩
  | case3 f m st h hempty c' hread ih =>
    -- the winner's buffer is empty and its source has rows: refill
    obtain ⟨hm, hc⟩ := live h
    obtain ⟨H, win, w0, hl, hmin⟩ := hk.2 hc
    have hwin : st.cur.win = [] := by simpa [Buf.empty] using hempty
    obtain ⟨s, es⟩ := replayKeep_eq (st.setBuf c') st.winner
    rw [es] at ih ⊢
    obtain ⟨H', win', w1, hl', hm', hb'⟩ :=
      (hl.setBuf c').replay_fresh c' (setBuf_get_eq hl c') (Buf.read_win hread)
    have hE : Emits st.rems [] (st.setBuf c').rems := by
      rw [rems_setBuf_same hl c' (Buf.read_rem hread)]; exact Emits.nil
    have ih := ih ((kinv_of_live hl' hm' hc).streak s) (emits_sorted hE hs).2.2
    obtain ⟨g1, g2, g3⟩ := goOn hE rfl ih
    exact ⟨g1, g2, g3, fun _ _ h => absurd hwin h,
      fun _ h2 => Or.inl (ih.2.2.2.1 hm hc (cur_of_buffered (hl'.streak s) hb') (by omega))⟩
  | case4 f m st h hempty hread ih =>
    -- the winner's buffer is empty and its source has ended: drop the input
    obtain ⟨hm, hc⟩ := live h
    obtain ⟨H, win, w0, hl, hmin⟩ := hk.2 hc
    have hwin : st.cur.win = [] := by simpa [Buf.empty] using hempty
    obtain ⟨s, es⟩ := replayKeep_eq { st with winner := -1, count := st.count - 1 } (-1)
    rw [es] at ih ⊢
    obtain ⟨h0, h1⟩ := hl.replay_eof (by simp [Buf.rem, hwin, Buf.read_none hread])
    have ih := ih ⟨h0, fun hc1 => by
        obtain ⟨H', win', w1, hl', hm', _⟩ := h1 hc1
        exact ⟨H', win', w1, hl'.streak s, hm'⟩⟩ hs
    obtain ⟨g1, g2, g3⟩ := goOn (st := st) (Y := { st with winner := -1, count := st.count - 1 }) Emits.nil rfl ih
    refine ⟨g1, g2, g3, fun _ _ h => absurd hwin h, fun _ h2 => ?_⟩
    by_cases hc1 : st.count - 1 = 0
    · exact Or.inr (by rw [MK.loop_done (Or.inr hc1)]; exact hc1)
    · obtain ⟨H', win', w1, hl', _, hb'⟩ := h1 hc1
      exact Or.inl (ih.2.2.2.1 hm hc1 (cur_of_buffered (hl'.streak s) hb') (by omega))
  | case5 f m st h hempty st1 hmore =>
    -- that was the last buffered row: return
    obtain ⟨hc, H, win, w0, hl, hE0⟩ := head hk h hempty
    have hw1 : (st.cur.advance 1).1.win = [] := (Buf.advance_done _ _).mp hmore
    exact ⟨hE0, kinv_of_live (hl.setBuf _) (minOk_empty hl _ hw1) hc, rfl, hne _ _⟩
  | case6 f m st h hempty st1 hmore hrun e hret =>
    -- run mode, and the run used up the buffer: return
    obtain ⟨hc, H, win, w0, hl, hE0⟩ := head hk h hempty
    have hl1 := hl.setBuf (st.cur.advance 1).1
    have hr := hl1.emits_run (m - 1)
    rw [cur_setBuf hl] at hr
    obtain ⟨hE1, hfull, _⟩ := hr (mt (Buf.advance_done _ _).mpr hmore)
      (emits_sorted hE0 hs).2.2
    exact ⟨hE0.trans hE1, kinv_of_live (hl1.setBuf _) (minOk_empty hl1 _ (hfull hret)) hc, rfl, hne _ _⟩
  | case7 f m st h hempty st1 hmore hrun e hret r ih =>
    -- run mode, rows left in the buffer: replay the games and go on
    obtain ⟨hc, H, win, w0, hl, hE0⟩ := head hk h hempty
    have hl1 := hl.setBuf (st.cur.advance 1).1
    have hr := hl1.emits_run (m - 1)
    rw [cur_setBuf hl] at hr
    obtain ⟨hE1, _, hleft⟩ := hr (mt (Buf.advance_done _ _).mpr hmore)
      (emits_sorted hE0 hs).2.2
    obtain ⟨H', win', w1, hl', hm', _⟩ :=
      ((hl1.setBuf e.2.1).streak 0).replay_fresh _ (setBuf_get_eq hl1 _) (hleft (by simpa using hret))
    have hE := hE0.trans hE1
    obtain ⟨g1, g2, g3⟩ := goOn hE rfl (ih (kinv_of_live hl' hm' hc) (emits_sorted hE hs).2.2)
    exact ⟨g1, g2, g3, hne _ _⟩
  | case8 f m st h hempty st1 hmore hrun r ih =>
    -- replay the games and go on
    obtain ⟨hc, H, win, w0, hl, hE0⟩ := head hk h hempty
    obtain ⟨s, es⟩ := replayCount_eq (st.setBuf (st.cur.advance 1).1) st.winner
    simp only [r, st1, es] at ih ⊢
    obtain ⟨H', win', w1, hl', hm', _⟩ := (hl.setBuf (st.cur.advance 1).1).replay_fresh _ (setBuf_get_eq hl _)
      (mt (Buf.advance_done _ _).mpr hmore)
    obtain ⟨g1, g2, g3⟩ := goOn hE0 rfl (ih ((kinv_of_live hl' hm' hc).streak s) (emits_sorted hE0 hs).2.2)
    exact ⟨g1, g2, g3, hne _ _⟩

theorem readOr_rem (b : Buf) : (readOr b).rem = b.rem := by
  unfold readOr
  cases hr : b.read with
  | none => rfl
  | some b' => simp [Buf.read_rem hr]

theorem aliveAt_lt {bufs : List Buf} {i : Nat} (h : aliveAt bufs i = true) : i < bufs.length := by
  unfold aliveAt at h
  split at h
  · rename_i b hb; exact ListFacts.lt_of_getElem?_eq_some hb
  · cases h

theorem readOr_dead {bufs : List Buf} {x : Nat} (hx : x < bufs.length) (hw : bufs[x].win = [])
    (h : aliveAt bufs x = false) : (readOr bufs[x]).rem = [] := by
  unfold aliveAt at h
  rw [List.getElem?_eq_getElem hx] at h
  simp only at h
  have hnone : bufs[x].read = none := by
    cases hr : bufs[x].read with
    | none => rfl
    | some _ => rw [hr] at h; cases h
  rw [readOr_rem]
  simp [Buf.rem, hw, Buf.read_none hnone]

theorem initialize_rems (st : MK) : st.initialize.rems = st.rems := by
  have : (st.bufs.map readOr).map Buf.rem = st.bufs.map Buf.rem := by
    rw [List.map_map]
    exact List.map_congr_left (fun b _ => readOr_rem b)
  unfold MK.initialize
  simp only
  split <;> simpa [MK.rems] using this

theorem initialize_kinv (st : MK) (hw : ∀ b ∈ st.bufs, b.win = []) : KInv st.initialize := by
  have hlen : (st.bufs.map readOr).length = st.bufs.length := by simp
  have hget : ∀ (x : Nat) (b : Buf), st.bufs[x]? = some b → (st.bufs.map readOr)[x]? = some (readOr b) := by
    intro x b hb; simp [hb]
  unfold MK.initialize
  simp only
  split
  · rename_i hpos
    let H : Heads := { alive := aliveAt st.bufs,
                       key := fun x => ((st.bufs.map readOr).getD x (Buf.fresh [] [])).head.key }
    have hfull : ∀ x, H.alive x = true → ∃ c, (st.bufs.map readOr)[x]? = some c ∧ c.win ≠ [] ∧ c.head.key = H.key x := by
      intro x ha
      have ha' : aliveAt st.bufs x = true := ha
      unfold aliveAt at ha'
      split at ha'
      · rename_i b hb
        obtain ⟨b', hb'⟩ := Option.isSome_iff_exists.mp ha'
        refine ⟨readOr b, hget x b hb, ?_, ?_⟩
        · simp only [readOr, hb', Option.getD_some]; exact Buf.read_win hb'
        · simp [H, List.getD_eq_getElem?_getD, hb]
      · cases ha'
    have hdead : ∀ x, x < (st.bufs.map readOr).length → H.alive x = false →
        ∃ c, (st.bufs.map readOr)[x]? = some c ∧ c.rem = [] := by
      intro x hx ha
      rw [hlen] at hx
      exact ⟨readOr st.bufs[x], hget x _ (List.getElem?_eq_getElem hx), readOr_dead hx (hw _ (List.getElem_mem hx)) ha⟩
    have hleaves : LeavesOk (st.bufs.map readOr)
        ((List.range st.bufs.length).map (fun i => if aliveAt st.bufs i then (i : Int) else -1)) H := by
      refine ⟨by simp, ?_, ?_⟩
      · intro x hx
        rw [hlen] at hx
        simp [List.getD_eq_getElem?_getD, hx, H]
      · intro x ha
        obtain ⟨c, h1, _, h3⟩ := hfull x ha
        rw [headOf_eq h1, h3]
    obtain ⟨htinv, hroot⟩ := init_inv hleaves (List.replicate st.bufs.length 0) (by simp)
    rw [hlen] at htinv hroot
    have hsome : ∃ x, x < st.bufs.length ∧ aliveAt st.bufs x = true :=
      countP_range_ne_zero.mp (by omega)
    -- `st2` of `fresh_of_tinv` is read off the goal
    refine Exists.elim (fresh_of_tinv (H' := H) (w' := initW (st.bufs.map readOr)
        ((List.range st.bufs.length).map (fun i => if aliveAt st.bufs i then (i : Int) else -1)))
        ?htinv hroot ?hleaf ?hbound hfull hdead ?hcount ?hsome) (fun w1 h => kinv_of_live h.1 h.2.1 ?hne)
    case htinv => simpa [hlen] using htinv
    case hleaf => simp [hlen]
    case hbound => intro x ha; rw [hlen]; exact aliveAt_lt ha
    case hcount => simp [hlen, H]
    case hsome => simpa [hlen] using hsome
    case hne => show (List.range st.bufs.length).countP (aliveAt st.bufs) ≠ 0; omega
  · rename_i hpos
    have hz : (List.range st.bufs.length).countP (aliveAt st.bufs) = 0 := by omega
    refine ⟨fun _ => ?_, fun h => absurd rfl h⟩
    intro b hb
    simp only [List.mem_map] at hb
    obtain ⟨b0, hb0, rfl⟩ := hb
    obtain ⟨x, hx, rfl⟩ := List.mem_iff_getElem.mp hb0
    have hdeadx : aliveAt st.bufs x = false := by
      have := List.countP_eq_zero.mp hz x (List.mem_range.mpr hx)
      simpa using this
    exact readOr_dead hx (hw _ hb0) hdeadx

theorem initialize_init (st : MK) : st.initialize.initialized = true := by
  unfold MK.initialize; simp only; split <;> rfl

theorem replayGames_init (st : MK) : st.replayGames.initialized = st.initialized := rfl

/-- state invariant of the k-way reader between `ReadRows` calls -/
def MK.Ok (st : MK) : Prop :=
  (st.initialized = false → ∀ b ∈ st.bufs, b.win = []) ∧ (st.initialized = true → KInv st)

theorem MK.readRows_spec (st : MK) (m : Nat) (hok : st.Ok) (hs : ∀ l ∈ st.rems, SortedK l) :
    Emits st.rems (st.readRows m).1 (st.readRows m).2.2.rems ∧ (st.readRows m).2.2.Ok ∧
    ((st.readRows m).2.1 = true → ∀ l ∈ (st.readRows m).2.2.rems, l = []) ∧
    (1 ≤ m → (st.readRows m).2.1 = true ∨ (st.readRows m).1 ≠ []) := by
  obtain ⟨st1, hst1, hrem1, hk1, hi1⟩ : ∃ st1, st1 = (if st.initialized then st else st.initialize) ∧
      st1.rems = st.rems ∧ KInv st1 ∧ st1.initialized = true := by
    refine ⟨_, rfl, ?_, ?_, ?_⟩
    · split
      · rfl
      · exact initialize_rems st
    · split
      · rename_i h; exact hok.2 h
      · rename_i h; exact initialize_kinv st (hok.1 (by simpa using h))
    · split
      · assumption
      · exact initialize_init st
  have hunf : st.readRows m = ((MK.loop (2 * m + 2) m st1).1, decide ((MK.loop (2 * m + 2) m st1).2.count = 0),
      (MK.loop (2 * m + 2) m st1).2) := by
    rw [hst1]; rfl
  rw [hunf]
  obtain ⟨hE, hK, hinit, _, hprog⟩ := MK.loop_spec (2 * m + 2) m st1 hk1 (hrem1 ▸ hs)
  rw [hi1] at hinit
  have hok' : (MK.loop (2 * m + 2) m st1).2.Ok :=
    ⟨fun h => (by rw [hinit] at h; cases h), fun _ => hK⟩
  refine ⟨hrem1 ▸ hE, hok', ?_, ?_⟩
  · intro heof l hl
    simp only [decide_eq_true_eq] at heof
    simp only [MK.rems, List.mem_map] at hl
    obtain ⟨b, hb, rfl⟩ := hl
    exact hK.1 heof b hb
  · intro hm
    rcases hprog (by omega) (by omega) with h | h
    · exact Or.inr h
    · exact Or.inl (by simpa using h)

end PqModel.Merge
