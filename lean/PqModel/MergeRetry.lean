import PqModel.Merge

/-! # C09 — MIRROR of the retry loop of `bufferedRowReader.read` (merge.go:1084-1094) and its effect

A `RowReader` may answer `(0, nil)` ("less rows than requested and no error", row.go:141). In the
refill-size stream of a `Buf` such an answer is the entry `0`. `read` reads again, at most 100 more
times, then gives up with `io.ErrNoProgress`. `Buf.readE` transliterates this; `Buf.read`
(Merge.lean) is the same function on a stream without zero entries, where it clamps an entry to 1.

As long as no more than 100 zero entries follow each other, `readE` is `read` on the stream with the zero entries
removed, so every theorem about sessions over all refill streams covers sources that answer `(0, nil)`. The code
before the retry existed is mirrored in MergeZero.lean (the seeded change C09-3b removes the loop). -/
namespace PqModel.Merge

inductive ReadRes where
  | rows (b : Buf)
  | eof
  | noProgress

/-- 0 = rows, 1 = io.EOF, 2 = io.ErrNoProgress -/
def ReadRes.kind : ReadRes → Nat
  | .rows _ => 0
  | .eof => 1
  | .noProgress => 2

def ReadRes.buf? : ReadRes → Option Buf
  | .rows b => some b
  | _ => none

/-- merge.go:1088-1094: consume `(0, nil)` answers; the fuel is the number of `ReadRows` calls `read`
    makes at most (1 + 100 retries); `none` = all of them answered `(0, nil)` -/
def skipZeros : Nat → List Nat → Option (List Nat)
  | 0, _ => none
  | _ + 1, [] => some []
  | f + 1, s :: rest => if s = 0 then skipZeros f rest else some (s :: rest)

/-- merge.go:1073-1101 over a source whose refill-stream entry `0` is a `(0, nil)` answer
    (an exhausted source answers `(0, io.EOF)` whatever the stream says) -/
def Buf.readE (b : Buf) : ReadRes :=
  match b.src with
  | [] => .eof
  | _ :: _ =>
    match skipZeros 101 b.sizes with
    | none => .noProgress
    | some sizes =>
      match ({ b with sizes := sizes } : Buf).read with
      | some b' => .rows b'
      | none => .eof

/-- number of leading `(0, nil)` answers -/
def zeroRun : List Nat → Nat
  | 0 :: rest => zeroRun rest + 1
  | _ => 0

/-- the refill stream without its `(0, nil)` answers -/
def squashSizes (sizes : List Nat) : List Nat := sizes.filter (fun s => s != 0)

def Buf.squash (b : Buf) : Buf := { b with sizes := squashSizes b.sizes }

/-- no source stalls: never more than 100 `(0, nil)` answers in a row -/
def NoStall : List Nat → Prop
  | [] => True
  | s :: rest => zeroRun (s :: rest) ≤ 100 ∧ NoStall rest

theorem skipZeros_some (f : Nat) (sizes : List Nat) (h : zeroRun sizes < f) :
    ∃ r, skipZeros f sizes = some r ∧ squashSizes r = squashSizes sizes ∧ r.head?.all (· ≠ 0) ∧
      (∃ z, sizes = List.replicate z 0 ++ r) := by
  fun_induction skipZeros f sizes with
  | case1 => omega
  | case2 f => exact ⟨[], rfl, rfl, by simp, 0, by simp⟩
  | case3 f rest ih =>
    obtain ⟨r, h1, h2, h3, z, h4⟩ := ih (by simp only [zeroRun] at h; omega)
    refine ⟨r, h1, ?_, h3, z + 1, ?_⟩
    · rw [h2]; simp [squashSizes]
    · rw [h4]; simp [List.replicate_succ]
  | case4 f s rest hs => exact ⟨s :: rest, rfl, rfl, by simpa using hs, 0, by simp⟩

theorem skipZeros_none (f : Nat) (sizes : List Nat) (h : f ≤ zeroRun sizes) : skipZeros f sizes = none := by
  fun_induction skipZeros f sizes with
  | case1 => rfl
  | case2 f => simp [zeroRun] at h
  | case3 f rest ih => exact ih (by simp only [zeroRun] at h; omega)
  | case4 f s rest hs =>
    cases s with
    | zero => exact absurd rfl hs
    | succ s => simp [zeroRun] at h

/-- `Buf.read` looks at the head of the stream and keeps its tail: it commutes with removing the
    zero entries behind a non-zero head -/
theorem read_squash_head (b : Buf) (hh : b.sizes.head?.all (· ≠ 0)) :
    (b.squash).read = b.read.map Buf.squash := by
  unfold Buf.read
  cases hsrc : b.src with
  | nil => simp [Buf.squash, hsrc]
  | cons x xs =>
    cases hs : b.sizes with
    | nil => simp [Buf.squash, hsrc, hs, squashSizes, Buf.nextCap]
    | cons s rest =>
      have hs0 : s ≠ 0 := by simpa [hs] using hh
      have : squashSizes (s :: rest) = s :: squashSizes rest := by simp [squashSizes, hs0]
      simp [Buf.squash, hsrc, hs, this, Buf.nextCap]

/-- `(0, nil)` answers are invisible: if at most 100 of them follow each other at the head of the
    stream, `read` (with its retry loop) behaves as `Buf.read` on the stream without them -/
theorem readE_squash (b : Buf) (h : zeroRun b.sizes ≤ 100) :
    match b.readE with
    | .rows b' => b.squash.read = some b'.squash
    | .eof => b.squash.read = none
    | .noProgress => False := by
  rcases b with ⟨src, sizes, win, cap, full⟩
  cases src with
  | nil => simp [Buf.readE, Buf.read, Buf.squash]
  | cons x xs =>
    obtain ⟨r, h1, h2, h3, _⟩ := skipZeros_some 101 sizes (by simp only at h; omega)
    simp only [Buf.readE, h1]
    have hb : ({ src := x :: xs, sizes := r, win := win, cap := cap, full := full } : Buf).squash =
        ({ src := x :: xs, sizes := sizes, win := win, cap := cap, full := full } : Buf).squash := by
      simp [Buf.squash, h2]
    have := read_squash_head { src := x :: xs, sizes := r, win := win, cap := cap, full := full } h3
    rw [hb] at this
    cases hr : ({ src := x :: xs, sizes := r, win := win, cap := cap, full := full } : Buf).read with
    | none => simp [this, hr]
    | some b' => simp [this, hr]

/-- a source that answers `(0, nil)` 101 times in a row: `io.ErrNoProgress`, the buffer is untouched -/
theorem readE_stall (b : Buf) (h : 101 ≤ zeroRun b.sizes) (hsrc : b.src ≠ []) : b.readE = .noProgress := by
  unfold Buf.readE
  cases hs : b.src with
  | nil => exact absurd hs hsrc
  | cons x xs => simp [skipZeros_none 101 b.sizes h]

/-- the hypothesis travels with the stream: what `read` leaves is a suffix -/
theorem NoStall.tail : ∀ {sizes : List Nat}, NoStall sizes → NoStall sizes.tail
  | [], _ => trivial
  | _ :: _, h => h.2

theorem NoStall.head {sizes : List Nat} (h : NoStall sizes) : zeroRun sizes ≤ 100 := by
  cases sizes with
  | nil => simp [zeroRun]
  | cons s rest => exact h.1

example : NoStall [0, 0, 3, 0, 1] := by simp [NoStall, zeroRun]
example : ((Buf.fresh [⟨1, 0, 0⟩, ⟨2, 0, 1⟩, ⟨3, 0, 2⟩] [0, 0, 2, 0, 1]).readE.buf?.map
    (fun b' => (b'.win.map (·.key), b'.sizes))) = some ([1, 2], [0, 1]) := by decide
example : (Buf.fresh [] [0, 0, 2]).readE.kind = 1 := by decide
example : (Buf.fresh [⟨1, 0, 0⟩] (List.replicate 101 0 ++ [5])).readE.kind = 2 := by decide
example : (Buf.fresh [⟨1, 0, 0⟩] (List.replicate 100 0 ++ [5])).readE.kind = 0 := by decide

end PqModel.Merge
