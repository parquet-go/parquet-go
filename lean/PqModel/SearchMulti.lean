import PqModel.Search

/-! # The column-index views `Find` is called on: `multiColumnIndex` (multi_row_group.go)

A `multiColumnChunk` (MultiRowGroup, MergeRowGroups, merged/converted wrappers that embed a
multiRowGroup) answers `ColumnIndex()` with a `multiColumnIndex`: the page lists of the per-chunk
column indexes one after the other, and order flags RECOMPUTED from the chunks' flags and one
comparison per chunk border.

SPEC: `concat` / `concatNulls` (plain list concatenation), `findMulti` (`Find` on the concatenation), `Ascending`;
every other definition is a MIRROR (`crossAscOK`, `crossDescOK`, `pairsAll`, `multiIs…_before_fix`: of the loops before
repair 5dcb05b). -/
namespace PqModel.Search

/-- One chunk's column index as the `ColumnIndex` interface shows it: `nulls[i]` = `NullPage(i)`,
    `ix` = `MinValue(i)`/`MaxValue(i)` (`none` = the null `Value{}`), `asc`/`desc` = what the chunk's
    own `IsAscending()`/`IsDescending()` answer. -/
structure Chunk where
  nulls : List Bool
  ix : Index
  asc : Bool
  desc : Bool

def Chunk.n (c : Chunk) : Nat := c.ix.n

/-- every accessor of the chunk's index answers for the same number of pages (in Go all of them are indexed by
    `0 .. NumPages()-1`) -/
def Chunk.WF (c : Chunk) : Prop := c.ix.maxs.length = c.ix.mins.length ∧ c.nulls.length = c.ix.mins.length

instance (c : Chunk) : Decidable c.WF := by unfold Chunk.WF; exact inferInstance

def concat (cs : List Chunk) : Index :=
  { mins := cs.flatMap (fun c => c.ix.mins), maxs := cs.flatMap (fun c => c.ix.maxs) }

def concatNulls (cs : List Chunk) : List Bool := cs.flatMap (fun c => c.nulls)

def total (cs : List Chunk) : Nat := (cs.map Chunk.n).sum

/-- multi_row_group.go:364-379 `mapPageIndex`, in-bounds part: the first chunk `i` with
    `offsets[i] <= p < offsets[i+1]` (`off` = `offsets[i]`, built as `offsets[i+1] = offsets[i] + NumPages`,
    multi_row_group.go:220-224) and the local page number. The Go code returns the chunk NUMBER and then
    indexes `m.indexes[chunkIndex]`; the mirror returns that chunk. -/
def mapPage : List Chunk → Nat → Nat → Option (Chunk × Nat)
  | [], _, _ => none
  | c :: cs, off, p => if off ≤ p ∧ p < off + c.n then some (c, p - off) else mapPage cs (off + c.n) p

def emptyChunk : Chunk := { nulls := [], ix := { mins := [], maxs := [] }, asc := false, desc := false }

/-- `mapPageIndex` with its out-of-bounds fallback (multi_row_group.go:370-378): the last page of the
    last chunk, or (0,0) -/
def mapPageGo (cs : List Chunk) (p : Nat) : Chunk × Nat :=
  match mapPage cs 0 p with
  | some r => r
  | none =>
    let l := cs.getLastD emptyChunk
    if cs.length > 0 ∧ l.n > 0 then (l, l.n - 1) else (cs.headD emptyChunk, 0)

/-- multi_row_group.go:386-399 `NullPage`, `MinValue`, `MaxValue` -/
def multiNullAt (cs : List Chunk) (p : Nat) : Bool := let r := mapPageGo cs p; r.1.nulls.getD r.2 false
def multiMinAt (cs : List Chunk) (p : Nat) : Bound := let r := mapPageGo cs p; minAt r.1.ix r.2
def multiMaxAt (cs : List Chunk) (p : Nat) : Bound := let r := mapPageGo cs p; maxAt r.1.ix r.2

/-- what a caller that walks `0 .. NumPages()-1` sees (`numPages` = sum of the chunks' `NumPages()`,
    multi_row_group.go:210-218) -/
def multiView (cs : List Chunk) : Index :=
  { mins := (List.range (total cs)).map (multiMinAt cs), maxs := (List.range (total cs)).map (multiMaxAt cs) }

def multiViewNulls (cs : List Chunk) : List Bool := (List.range (total cs)).map (multiNullAt cs)

/-- multi_row_group.go:475-486 `nonNullPageRange`, the last page: `last = numPages - 1; for last >= first && index.NullPage(last) { last-- }`
    (the same answer as scanning down to 0 whenever the chunk has a non-null page; otherwise both sides skip the chunk) -/
def lastNonNullAux (nulls : List Bool) : Nat → Option Nat
  | 0 => none
  | k + 1 => if nulls.getD k false then lastNonNullAux nulls k else some k

def lastNonNull (c : Chunk) : Option Nat := lastNonNullAux c.nulls c.n

/-- multi_row_group.go:475-486 `nonNullPageRange`, the first page: `for first < numPages && index.NullPage(first) { first++ }` -/
def firstNonNullAux (nulls : List Bool) (n : Nat) : Nat → Nat → Option Nat
  | 0, _ => none
  | fuel + 1, i => if i < n then (if nulls.getD i false then firstNonNullAux nulls n fuel (i + 1) else some i) else none

def firstNonNull (c : Chunk) : Option Nat := firstNonNullAux c.nulls c.n c.n 0

/-- multi_row_group.go:418-433 the seam loop of the REPAIRED `multiColumnIndex.IsAscending` (library commit 5dcb05b)
    with `nonNullPageRange` (:475-486): one pass carrying `prevMax`/`hasPrev` = the max of the last non-null page
    seen so far; a chunk without non-null page (`firstPage > lastPage`) is skipped and does not reset it;
    `cmp(prevMax, MinValue(firstPage)) > 0 → not ascending`. `cmp` is the raw `typ.Compare`, which reads a null
    `Value{}` as the zero value (rank `z`). -/
def ascSeams (z : Int) : Option Int → List Chunk → Bool
  | _, [] => true
  | prev, c :: rest =>
    match firstNonNull c, lastNonNull c with
    | some f, some l =>
      (match prev with
        | some m => !decide (m > stored z (minAt c.ix f))
        | none => true) && ascSeams z (some (stored z (maxAt c.ix l))) rest
    | _, _ => ascSeams z prev rest

/-- multi_row_group.go:455-470 the seam loop of the repaired `IsDescending`: carries `prevMin`;
    `cmp(prevMin, MaxValue(firstPage)) < 0 → not descending` -/
def descSeams (z : Int) : Option Int → List Chunk → Bool
  | _, [] => true
  | prev, c :: rest =>
    match firstNonNull c, lastNonNull c with
    | some f, some l =>
      (match prev with
        | some m => !decide (m < stored z (maxAt c.ix f))
        | none => true) && descSeams z (some (stored z (minAt c.ix l))) rest
    | _, _ => descSeams z prev rest

/-- multi_row_group.go:401-436 `multiColumnIndex.IsAscending` (`m.typ` is the type of the first chunk and is
    never nil when there is a chunk; with no chunk `ColumnIndex()` answers `emptyColumnIndex`, flags false) -/
def multiIsAscending (z : Int) (cs : List Chunk) : Bool :=
  !cs.isEmpty && cs.all (·.asc) && ascSeams z none cs

/-- multi_row_group.go:438-473 `multiColumnIndex.IsDescending` -/
def multiIsDescending (z : Int) (cs : List Chunk) : Bool :=
  !cs.isEmpty && cs.all (·.desc) && descSeams z none cs

/-! the loops BEFORE repair 5dcb05b: adjacent chunks, no carried bound (for the regression facts of `Props/C06.lean`) -/

/-- before 5dcb05b: `cmp(currMax, nextMin) > 0 → not ascending`, last non-null page of chunk i against the first
    non-null page of chunk i+1; skipped when either chunk has none -/
def crossAscOK (z : Int) (a b : Chunk) : Bool :=
  match lastNonNull a, firstNonNull b with
  | some i, some j => !decide (stored z (maxAt a.ix i) > stored z (minAt b.ix j))
  | _, _ => true

/-- before 5dcb05b: `cmp(currMin, nextMax) < 0 → not descending`, FIRST non-null page of chunk i against the LAST
    non-null page of chunk i+1 (the wrong ends) -/
def crossDescOK (z : Int) (a b : Chunk) : Bool :=
  match firstNonNull a, lastNonNull b with
  | some i, some j => !decide (stored z (minAt a.ix i) < stored z (maxAt b.ix j))
  | _, _ => true

/-- `for i := range len(m.indexes) - 1 { ... indexes[i], indexes[i+1] ... }` -/
def pairsAll (f : Chunk → Chunk → Bool) : List Chunk → Bool
  | a :: b :: rest => f a b && pairsAll f (b :: rest)
  | _ => true

def multiIsAscending_before_fix (z : Int) (cs : List Chunk) : Bool :=
  !cs.isEmpty && cs.all (·.asc) && pairsAll (crossAscOK z) cs

def multiIsDescending_before_fix (z : Int) (cs : List Chunk) : Bool :=
  !cs.isEmpty && cs.all (·.desc) && pairsAll (crossDescOK z) cs

/-- search.go:31-50 `Find` on any `ColumnIndex`: the guard reads `NullPage(i)`, the searches read the bounds -/
def findView (nf asc : Bool) (nulls : List Bool) (ix : Index) (v : Int) : Nat :=
  if asc && !nulls.any id then binarySearch nf ix v else linearSearch nf ix v

/-- `Find(multiColumnIndex, v, cmp)` as the code runs it: every access goes through `mapPageIndex` -/
def findMultiGo (nf : Bool) (z : Int) (cs : List Chunk) (v : Int) : Nat :=
  findView nf (multiIsAscending z cs) (multiViewNulls cs) (multiView cs) v

/-- the same on the concatenation (equal to `findMultiGo` for well-formed chunks: `findMultiGo_eq`) -/
def findMulti (nf : Bool) (z : Int) (cs : List Chunk) (v : Int) : Nat :=
  findView nf (multiIsAscending z cs) (concatNulls cs) (concat cs) v

theorem total_cons (c : Chunk) (cs : List Chunk) : total (c :: cs) = c.n + total cs := by
  simp [total]

theorem length_flatMap {α} (f : Chunk → List α) (cs : List Chunk) (h : ∀ c ∈ cs, (f c).length = c.n) :
    (cs.flatMap f).length = total cs := by
  rw [List.flatMap_def, List.length_flatten, List.map_map, total]
  exact congrArg List.sum (List.map_congr_left h)

theorem concat_n (cs : List Chunk) : (concat cs).n = total cs :=
  length_flatMap (·.ix.mins) cs fun _ _ => rfl

theorem concat_maxs_length (cs : List Chunk) (hwf : ∀ c ∈ cs, c.WF) :
    (concat cs).maxs.length = (concat cs).mins.length :=
  (length_flatMap (·.ix.maxs) cs fun c hc => (hwf c hc).1).trans (concat_n cs).symm

theorem concatNulls_length (cs : List Chunk) (hwf : ∀ c ∈ cs, c.WF) :
    (concatNulls cs).length = total cs :=
  length_flatMap (·.nulls) cs fun c hc => (hwf c hc).2

/-- `f` = any accessor with one answer per page of each chunk (mins, maxs, null flags) -/
theorem mapPage_flatMap {α} (f : Chunk → List α) (d : α) : ∀ (cs : List Chunk) (off p : Nat),
    (∀ c ∈ cs, (f c).length = c.n) → p < total cs →
    ∃ c l, mapPage cs off (off + p) = some (c, l) ∧ c ∈ cs ∧ l < c.n ∧
      (f c).getD l d = (cs.flatMap f).getD p d
  | [], _, p, _, hp => absurd hp (Nat.not_lt_zero p)
  | c :: cs, off, p, hlen, hp => by
    have hc := hlen c (List.mem_cons_self ..)
    rw [mapPage, List.flatMap_cons]
    by_cases hlt : p < c.n
    · rw [if_pos ⟨Nat.le_add_right .., Nat.add_lt_add_left hlt off⟩, Nat.add_sub_cancel_left]
      exact ⟨c, p, rfl, List.mem_cons_self .., hlt, (ListFacts.getD_append_left d (hc ▸ hlt)).symm⟩
    · have hge : c.n ≤ p := Nat.le_of_not_lt hlt
      rw [total_cons] at hp
      obtain ⟨c', l, h1, h2, h3, h4⟩ := mapPage_flatMap f d cs (off + c.n) (p - c.n)
        (fun c' hc' => hlen c' (List.mem_cons_of_mem _ hc')) (Nat.sub_lt_left_of_lt_add hge hp)
      rw [Nat.add_assoc, Nat.add_sub_cancel' hge] at h1
      rw [if_neg fun h => hlt (Nat.lt_of_add_lt_add_left h.2)]
      refine ⟨c', l, h1, List.mem_cons_of_mem _ h2, h3, ?_⟩
      rw [h4, ListFacts.getD_append_right d (hc ▸ hge), hc]

theorem mapPage_concat (cs : List Chunk) (off p : Nat) (hwf : ∀ c ∈ cs, c.WF) (hp : p < total cs) :
    ∃ c l, mapPage cs off (off + p) = some (c, l) ∧ c ∈ cs ∧ l < c.n ∧
      minAt c.ix l = minAt (concat cs) p ∧ maxAt c.ix l = maxAt (concat cs) p ∧
      c.nulls.getD l false = (concatNulls cs).getD p false := by
  obtain ⟨c, l, h1, hc, hl, h4⟩ := mapPage_flatMap (·.ix.mins) none cs off p (fun _ _ => rfl) hp
  obtain ⟨_, _, h1', _, _, h5⟩ := mapPage_flatMap (·.ix.maxs) none cs off p (fun c hc => (hwf c hc).1) hp
  cases h1'.symm.trans h1
  obtain ⟨_, _, h1', _, _, h6⟩ := mapPage_flatMap (·.nulls) false cs off p (fun c hc => (hwf c hc).2) hp
  cases h1'.symm.trans h1
  exact ⟨c, l, h1, hc, hl, h4, h5, h6⟩

theorem map_range_eq {α} (d : α) {g : Nat → α} {l : List α} {n : Nat} (hn : l.length = n)
    (h : ∀ p, p < n → g p = l.getD p d) : (List.range n).map g = l := by
  subst hn
  apply List.ext_getElem
  · rw [List.length_map, List.length_range]
  · intro i _ h2
    rw [List.getElem_map, List.getElem_range, h i h2, ListFacts.getD_of_lt d h2]

theorem multiAt_view (cs : List Chunk) (hwf : ∀ c ∈ cs, c.WF) (p : Nat) (hp : p < total cs) :
    multiMinAt cs p = minAt (concat cs) p ∧ multiMaxAt cs p = maxAt (concat cs) p ∧
      multiNullAt cs p = (concatNulls cs).getD p false := by
  obtain ⟨c, l, h1, _, _, h⟩ := mapPage_concat cs 0 p hwf hp
  rw [Nat.zero_add] at h1
  simp only [multiMinAt, multiMaxAt, multiNullAt, mapPageGo, h1]
  exact h

/-- MIRROR = SPEC: walking the multi index page by page through `mapPageIndex` reads exactly the
    concatenation of the chunk indexes (bounds and null-page flags). -/
theorem multiView_eq_concat (cs : List Chunk) (hwf : ∀ c ∈ cs, c.WF) :
    multiView cs = concat cs ∧ multiViewNulls cs = concatNulls cs := by
  have key := multiAt_view cs hwf
  rw [multiView, multiViewNulls, map_range_eq none (concat_n cs) fun p hp => (key p hp).1,
    map_range_eq none ((concat_maxs_length cs hwf).trans (concat_n cs)) fun p hp => (key p hp).2.1,
    map_range_eq false (concatNulls_length cs hwf) fun p hp => (key p hp).2.2]
  exact ⟨rfl, rfl⟩

theorem findMultiGo_eq (nf : Bool) (z : Int) (cs : List Chunk) (v : Int) (hwf : ∀ c ∈ cs, c.WF) :
    findMultiGo nf z cs v = findMulti nf z cs v := by
  obtain ⟨h1, h2⟩ := multiView_eq_concat cs hwf
  simp only [findMultiGo, findMulti, h1, h2]

theorem any_id_false_getD (l : List Bool) (i : Nat) (h : l.any id = false) : l.getD i false = false := by
  rw [List.getD_eq_getElem?_getD]
  cases hx : l[i]? with
  | none => rfl
  | some b => exact Bool.eq_false_iff.mpr (List.any_eq_false.mp h b (List.mem_of_getElem? hx))

theorem lastNonNull_of_no_null (c : Chunk) (hnn : c.nulls.any id = false) (hn : 0 < c.n) :
    lastNonNull c = some (c.n - 1) := by
  unfold lastNonNull
  obtain ⟨k, hk⟩ : ∃ k, c.n = k + 1 := ⟨c.n - 1, by omega⟩
  rw [hk]
  simp only [lastNonNullAux, any_id_false_getD c.nulls k hnn, Nat.add_sub_cancel]
  rfl

theorem firstNonNull_of_no_null (c : Chunk) (hnn : c.nulls.any id = false) (hn : 0 < c.n) :
    firstNonNull c = some 0 := by
  unfold firstNonNull
  obtain ⟨k, hk⟩ : ∃ k, c.n = k + 1 := ⟨c.n - 1, by omega⟩
  rw [hk]
  simp only [firstNonNullAux, any_id_false_getD c.nulls 0 hnn]
  simp

theorem chunk_between (z : Int) (c : Chunk) (hwf : c.WF)
    (hasc : isAsc (c.ix.mins.map (stored z)) = true ∧ isAsc (c.ix.maxs.map (stored z)) = true)
    (hle : ∀ i, i < c.n → stored z (minAt c.ix i) ≤ stored z (maxAt c.ix i)) (x : Int)
    (hx : x ∈ c.ix.mins.map (stored z) ∨ x ∈ c.ix.maxs.map (stored z)) :
    stored z (minAt c.ix 0) ≤ x ∧ x ≤ stored z (maxAt c.ix (c.n - 1)) := by
  have key : ∀ i, i < c.n → stored z (minAt c.ix 0) ≤ stored z (minAt c.ix i) ∧
      stored z (maxAt c.ix i) ≤ stored z (maxAt c.ix (c.n - 1)) := fun i hi => by
    have h1 := isAsc_getD (stored z none) hasc.1 (Nat.zero_le i) (by rw [List.length_map]; exact hi)
    have h2 := isAsc_getD (stored z none) hasc.2 (Nat.le_sub_one_of_lt hi)
      (by rw [List.length_map, hwf.1]; exact Nat.sub_one_lt_of_lt hi)
    rw [ListFacts.getD_map, ListFacts.getD_map] at h1 h2
    exact ⟨h1, h2⟩
  cases hx with
  | inl hx =>
    obtain ⟨i, hi, rfl⟩ := mem_map_getD none hx
    exact ⟨(key i hi).1, Int.le_trans (hle i hi) (key i hi).2⟩
  | inr hx =>
    obtain ⟨i, hi, rfl⟩ := mem_map_getD none hx
    rw [hwf.1] at hi
    exact ⟨Int.le_trans (key i hi).1 (hle i hi), (key i hi).2⟩

/-- Invariant: every bound is at or above the carried `prev` (the max of the last page seen so far); a chunk without
    pages adds nothing and keeps `prev`. -/
theorem seams_sorted (z : Int) : ∀ (cs : List Chunk) (prev : Option Int),
    (∀ c ∈ cs, c.WF) → (∀ c ∈ cs, c.nulls.any id = false) →
    (∀ c ∈ cs, isAsc (c.ix.mins.map (stored z)) = true ∧ isAsc (c.ix.maxs.map (stored z)) = true) →
    (∀ c ∈ cs, ∀ i, i < c.n → stored z (minAt c.ix i) ≤ stored z (maxAt c.ix i)) →
    ascSeams z prev cs = true →
    isAsc (cs.flatMap fun c => c.ix.mins.map (stored z)) = true ∧
    isAsc (cs.flatMap fun c => c.ix.maxs.map (stored z)) = true ∧
    ∀ m, prev = some m → ∀ c ∈ cs, ∀ x, x ∈ c.ix.mins.map (stored z) ∨ x ∈ c.ix.maxs.map (stored z) → m ≤ x
  | [], _, _, _, _, _, _ => ⟨rfl, rfl, fun _ _ _ hc => nomatch hc⟩
  | c :: rest, prev, hwf, hnn, hasc, hle, hs => by
    have hc := List.mem_cons_self (a := c) (l := rest)
    have ih := fun prev' => seams_sorted z rest prev' (fun c' h => hwf c' (List.mem_cons_of_mem _ h))
      (fun c' h => hnn c' (List.mem_cons_of_mem _ h)) (fun c' h => hasc c' (List.mem_cons_of_mem _ h))
      (fun c' h => hle c' (List.mem_cons_of_mem _ h))
    simp only [List.flatMap_cons]
    by_cases hp : 0 < c.n
    · have hb := chunk_between z c (hwf c hc) (hasc c hc) (hle c hc)
      simp only [ascSeams, firstNonNull_of_no_null c (hnn c hc) hp, lastNonNull_of_no_null c (hnn c hc) hp,
        Bool.and_eq_true] at hs
      obtain ⟨ih1, ih2, ih3⟩ := ih _ hs.2
      -- everything in the later chunks is at or above the max of the last page of `c`
      have hrest : ∀ (f : Chunk → List Int), (∀ c' ∈ rest, ∀ y ∈ f c', stored z (maxAt c.ix (c.n - 1)) ≤ y) →
          ∀ y ∈ rest.flatMap f, stored z (maxAt c.ix (c.n - 1)) ≤ y := fun f h y hy => by
        obtain ⟨c', hc', hy'⟩ := List.mem_flatMap.mp hy
        exact h c' hc' y hy'
      refine ⟨isAsc_append_of_le (hasc c hc).1 ih1 fun x hx y hy => Int.le_trans (hb x (.inl hx)).2
          (hrest _ (fun c' hc' y hy => ih3 _ rfl c' hc' y (.inl hy)) y hy),
        isAsc_append_of_le (hasc c hc).2 ih2 fun x hx y hy => Int.le_trans (hb x (.inr hx)).2
          (hrest _ (fun c' hc' y hy => ih3 _ rfl c' hc' y (.inr hy)) y hy), fun m hm c' hc' x hx => ?_⟩
      -- the seam check: `prev ≤ min` of the first page of `c`
      have hml : m ≤ stored z (minAt c.ix 0) := by
        have := hs.1
        rw [hm] at this
        simp only [Bool.not_eq_true', decide_eq_false_iff_not, Int.not_lt] at this
        exact this
      cases List.mem_cons.mp hc' with
      | inl e => exact Int.le_trans hml (hb x (e ▸ hx)).1
      | inr h =>
        have h0 := hb _ (.inl (List.mem_map.mpr ⟨_, List.getElem_mem (l := c.ix.mins) hp, rfl⟩))
        exact Int.le_trans hml (Int.le_trans (Int.le_trans h0.1 h0.2) (ih3 _ rfl c' h x hx))
    · have hn : c.ix.mins.length = 0 := Nat.eq_zero_of_not_pos hp
      have hm := List.eq_nil_of_length_eq_zero hn
      have hx := List.eq_nil_of_length_eq_zero ((hwf c hc).1.trans hn)
      have hf : firstNonNull c = none := by rw [firstNonNull, show c.n = 0 from hn]; rfl
      rw [ascSeams, hf] at hs
      obtain ⟨ih1, ih2, ih3⟩ := ih _ hs
      rw [hm, hx]
      refine ⟨ih1, ih2, fun m hm' c' hc' x hx' => ?_⟩
      cases List.mem_cons.mp hc' with
      | inl e => subst e; rw [hm, hx] at hx'; cases hx' <;> contradiction
      | inr h => exact ih3 m hm' c' h x hx'

theorem hasNull_concat (cs : List Chunk) (h : ∀ c ∈ cs, hasNull c.ix = false) : hasNull (concat cs) = false := by
  induction cs with
  | nil => rfl
  | cons c cs ih =>
    have hc := h c (by simp)
    have ht := ih (fun c' hc' => h c' (by simp [hc']))
    simp only [hasNull, concat, List.flatMap_cons, List.any_append, Bool.or_eq_false_iff] at hc ht ⊢
    exact ⟨⟨hc.1, ht.1⟩, ⟨hc.2, ht.2⟩⟩

theorem no_null_chunks (cs : List Chunk) (h : (concatNulls cs).any id = false) :
    ∀ c ∈ cs, c.nulls.any id = false := by
  intro c hc
  simp only [concatNulls, List.any_flatMap, List.any_eq_false] at h
  simpa using h c hc

/-- on chunks without null page and with at least one page the carried bound is the max of the previous chunk's
    last page: the seam loop and the adjacent-pair loop agree -/
theorem ascSeams_eq_pairsAll (z : Int) : ∀ (cs : List Chunk) (a : Chunk),
    (∀ c ∈ a :: cs, c.nulls.any id = false ∧ 0 < c.n) →
    ascSeams z (some (stored z (maxAt a.ix (a.n - 1)))) cs = pairsAll (crossAscOK z) (a :: cs)
  | [], _, _ => rfl
  | b :: rest, a, h => by
    have ha := h a (by simp)
    have hb := h b (by simp)
    have ih := ascSeams_eq_pairsAll z rest b (fun c hc => h c (List.mem_cons_of_mem _ hc))
    simp only [ascSeams, pairsAll, crossAscOK, firstNonNull_of_no_null b hb.1 hb.2, lastNonNull_of_no_null b hb.1 hb.2,
      lastNonNull_of_no_null a ha.1 ha.2, ih]

theorem ascSeams_none_eq_pairsAll (z : Int) (cs : List Chunk) (h : ∀ c ∈ cs, c.nulls.any id = false ∧ 0 < c.n) :
    ascSeams z none cs = pairsAll (crossAscOK z) cs := by
  cases cs with
  | nil => rfl
  | cons a rest =>
    have ha := h a (by simp)
    simp only [ascSeams, firstNonNull_of_no_null a ha.1 ha.2, lastNonNull_of_no_null a ha.1 ha.2, Bool.true_and]
    exact ascSeams_eq_pairsAll z rest a h

end PqModel.Search
