import PqModel.PoolProto
/-! # The row reader's per-chunk `detach` flag over a column chunk that MIXES page kinds

MIRROR of `columnChunkValueReader` (column_chunk.go:84-148) at the level of `PoolProto`: the reader
state that matters for the ownership of the pages' values buffers is ONE flag per column chunk,
`detach` (set once by `newRowGroupRows`, row_group.go:222-229, for BYTE_ARRAY and
FIXED_LEN_BYTE_ARRAY columns), read by `clear()` (column_chunk.go:91-101) every time the reader lets
go of a page. A chunk is a list of pages; a dictionary-encoded chunk whose dictionary outgrew
`DictionaryMaxBytes` continues with PLAIN pages (writer.go:2161-2190, 2773-2806), so the pages of one
chunk differ in where their values point:

* values of a page that has a dictionary point into the dictionary (owned by the pages reader, not
  pooled per page): rows the caller keeps do not touch the page's values buffer (it holds indexes);
* values of a PLAIN page point into the page's values buffer.

`chunkProgs` threads the flag through the pages and gives, per page, the program on that page's
values buffer (`PoolProto.rowReaderProg`: decode/read touches, the release action, the caller's
touches through kept rows). `slip = false` is the code as it is: fetching a page does not write the
flag (column_chunk.go:130-137). `slip = true` is the variant that clears the flag when a
FIXED_LEN_BYTE_ARRAY page has a dictionary ("its buffer only holds indexes") and never sets it again. -/
namespace PqModel.PoolMixed
open PqModel.PoolProto

structure PageD where
  hasDict : Bool  -- `p.Dictionary() != nil`
  nRead : Nat     -- ReadValues calls served from the page
  nKept : Nat     -- rows of this page the caller still uses after the reader let go of the page
deriving DecidableEq, Repr

/-- touches of the PAGE's values buffer through the rows the caller kept -/
def PageD.keptTouches (p : PageD) : Nat := if p.hasDict then 0 else p.nKept

/-- MIRROR column_chunk.go:130-137 (`slip = false`: `r.page = p; r.values = p.Values()`, the flag is
    not written); `slip = true`: the variant with
    `if r.detach && p.Dictionary() != nil && p.Type().Kind() == FixedLenByteArray { r.detach = false }` -/
def flagAfterFetch (slip fixedLen detach : Bool) (p : PageD) : Bool :=
  if slip && detach && p.hasDict && fixedLen then false else detach

/-- the programs on the values buffers of the pages of one chunk, in page order; the release of a
    page honours the flag as it stands when `clear()` runs (after the fetch of that page) -/
def chunkProgs (slip fixedLen : Bool) : Bool → List PageD → List (List Op)
  | _, [] => []
  | detach, p :: ps =>
    rowReaderProg true (flagAfterFetch slip fixedLen detach p) p.nRead p.keptTouches ::
      chunkProgs slip fixedLen (flagAfterFetch slip fixedLen detach p) ps

theorem chunkProgs_const {slip detach : Bool} (h : (slip && detach) = false) (fixedLen : Bool) (ps : List PageD) :
    chunkProgs slip fixedLen detach ps = ps.map fun p => rowReaderProg true detach p.nRead p.keptTouches := by
  induction ps with
  | nil => rfl
  | cons p ps ih => simp [chunkProgs, flagAfterFetch, h, ih]

/-- the code as it is: the flag set by `newRowGroupRows` stands for every page of the chunk -/
theorem chunkProgs_mirror (fixedLen : Bool) (ps : List PageD) :
    chunkProgs false fixedLen true ps = ps.map fun p => rowReaderProg true true p.nRead p.keptTouches :=
  chunkProgs_const rfl fixedLen ps

/-- a cleared flag stays cleared: nothing sets it again -/
theorem chunkProgs_cleared (slip fixedLen : Bool) (ps : List PageD) :
    chunkProgs slip fixedLen false ps = ps.map fun p => rowReaderProg true false p.nRead p.keptTouches :=
  chunkProgs_const (Bool.and_false _) fixedLen ps

/-- the variant: after a dictionary page of a fixed-length column the flag is cleared, whatever
    came before -/
theorem chunkProgs_slip_after_dict (detach : Bool) (pre : List PageD) (d : PageD) (hd : d.hasDict = true)
    (rest : List PageD) :
    ∃ front, chunkProgs true true detach (pre ++ d :: rest) = front ++ chunkProgs true true false rest := by
  induction pre generalizing detach with
  | nil =>
    refine ⟨[rowReaderProg true false d.nRead d.keptTouches], ?_⟩
    cases detach <;> simp [chunkProgs, flagAfterFetch, hd]
  | cons p pre ih =>
    obtain ⟨front, h⟩ := ih (flagAfterFetch true true detach p)
    exact ⟨rowReaderProg true (flagAfterFetch true true detach p) p.nRead p.keptTouches :: front, by
      simp [chunkProgs, h]⟩

/-- the variant does not change anything for BYTE_ARRAY columns -/
theorem chunkProgs_slip_byte_array (detach : Bool) (ps : List PageD) :
    chunkProgs true false detach ps = chunkProgs false false detach ps := by
  induction ps generalizing detach with
  | nil => rfl
  | cons p ps ih => simp [chunkProgs, flagAfterFetch, ih]

end PqModel.PoolMixed
