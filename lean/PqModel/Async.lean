/-! # asyncPages (page.go:121-328) as a labelled transition system

Row indexes are `Nat`: `SeekToRow` refuses negative ones before anything else (page.go:219-223).

MIRROR of `page.go` (every transition carries the `file:line` it transliterates), plus a ghost
*sequential reader* (`spec`) and ghost ownership lists (`released`, `handed`) that no transition
reads.

Two processes share four channels and nothing else:

* the **consumer** (the goroutine calling `ReadPage`, `SeekToRow`, `Close`; the methods are not
  safe for concurrent use, so there is one consumer), program counter `CPc`;
* the **producer** (`readPages`, page.go:253-324), program counter `PPc`;
* `read` (unbuffered, page.go:122): a rendezvous, modelled as one joint step (`handoff`,
  `closeRecv`, `closeFinal`); `seek` (capacity 1, page.go:123): `seekCh : Option (row × version)`;
  `init`/`done` (closed once, page.go:124-125): `initClosed`/`doneClosed`.

Interleaving semantics: in every state every enabled step of either process may fire. A Go `select`
with several ready cases is a nondeterministic choice (`handoff`/`selTake`/`selDone`,
`initPass`/`initDone`).

The wrapped `Pages` value is abstracted to `Under`: a position (a row index), `rd p` = outcome of
`ReadPage` at position `p`, `next p` = position after reading the page at `p`, `sk k` = outcome of
`SeekToRow k` (a successful seek is *absolute*: it sets the position to `k` whatever the state was;
this is C08's abstraction of `FilePages`). A page is identified by the position it was read from.

Granularity decisions (each merges steps no other process can observe in between):
`pages.start()` (page.go:246-251) is merged into the step that precedes/follows it (`readBegin`,
`seekSend`) because while `init` is open the producer is blocked on it and when it is closed
`start` is a no-op; `close(init); close(done)` (page.go:165-172) is one step because a producer that
has seen `init` but not yet `done` behaves like one that has not looked at `done` yet; the deferred
`read <- final; close(read)` (page.go:255-257) is one step; the consumer's receive and its version
test are SEPARATE steps (`handoff` then `deliver`/`drop`), so the producer may run in between. -/
namespace PqModel.Async

/-- what `ReadPage` hands to its caller: `(page, err)` (page.go:205) -/
inductive Res where
  | page (pos : Nat)   -- a page, read from position `pos`, nil error
  | eof                -- (nil, io.EOF)
  | soft (code : Nat)  -- (nil, err) with err recoverable: `ErrSeekOutOfRange` (page.go:327)
  | fatal (code : Nat) -- (nil, err) with `isFatalError err` (page.go:326-328)
deriving DecidableEq, Repr

inductive Rd where | page | eof | fatal (code : Nat)
deriving DecidableEq, Repr

inductive Sk where | ok | soft (code : Nat) | fatal (code : Nat)
deriving DecidableEq, Repr

/-- the wrapped `Pages` (abstract, see the header) -/
structure Under where
  next : Nat → Nat
  rd   : Nat → Rd
  sk   : Nat → Sk

/-- the variables that drive the producer's loop body: the position of the wrapped reader,
    `seekTo.rowIndex` (`none` = -1, page.go:283,298) and the sticky fatal `err` (page.go:287,294).
    The ghost sequential reader has the same shape. -/
structure Loc where
  pos  : Nat
  row  : Option Nat
  ferr : Option Nat
deriving DecidableEq, Repr

/-- MIRROR page.go:290-305, one iteration of the loop body up to the `select`:
    `none` = the `continue` of line 300, `some r` = the `(page, err)` offered on `read`. -/
def body (U : Under) (l : Loc) : Loc × Option Res :=
  match l.ferr with
  | some e => (l, some (.fatal e))                                 -- :294 isFatalError(err): skip
  | none =>
    match l.row with
    | some k =>                                                    -- :295 seekTo.rowIndex >= 0
      match U.sk k with                                            -- :296
      | .ok => ({ pos := k, row := none, ferr := none }, none)     -- :297-300
      | .soft c => (l, some (.soft c))                             -- rowIndex stays >= 0: retried
      | .fatal c => ({ l with ferr := some c }, some (.fatal c))
    | none =>
      match U.rd l.pos with                                        -- :303
      | .page => ({ l with pos := U.next l.pos }, some (.page l.pos))
      | .eof => (l, some .eof)
      | .fatal c => ({ l with ferr := some c }, some (.fatal c))

/-! ## The sequential reference (SPEC side)
`SeekToRow k` records the target, `ReadPage` applies a pending target and reads: this is what one
goroutine calling the wrapped reader lazily would see. -/

def lsSeek (k : Nat) (l : Loc) : Loc := { l with row := some k }

/-- the loop body run to its first output (at most two iterations: a successful seek, then a read) -/
def lsRead (U : Under) (l : Loc) : Loc × Res :=
  match body U l with
  | (l1, some r) => (l1, r)
  | (l1, none) =>
    match body U l1 with
    | (l2, some r) => (l2, r)
    | (l2, none) => (l2, .eof) -- unreachable (`body_none_then_some`)

/-- something travelling over `read`: `asyncPage{page, err, version}` (page.go:152-156) plus a
    ghost serial number -/
structure Item where
  res : Res
  ver : Nat
  id  : Nat
deriving DecidableEq, Repr

inductive CPc where
  | idle            -- between calls
  | seekMid         -- in SeekToRow, after the flush `select` (page.go:227-233), before the send (:240)
  | reading         -- in ReadPage, blocked on `<-pages.read` (page.go:190)
  | got (it : Item) -- in ReadPage, received `p`, before the version test (page.go:203)
  | closing         -- in Close, in `for p := range pages.read` (page.go:173)
  | closed          -- Close returned
deriving DecidableEq, Repr

inductive PPc where
  | waitInit         -- blocked in the first select (page.go:263-269)
  | poll             -- before the non-blocking select on seek (page.go:279-285)
  | top              -- start of the loop body (page.go:289)
  | send (it : Item) -- in the select of page.go:308-322, offering `it`
  | final            -- in the deferred function, offering the final item (page.go:255)
  | exited           -- `read` closed (page.go:257)
deriving DecidableEq, Repr

structure G where
  cpc : CPc
  cver : Nat                    -- pages.version (consumer only)
  initClosed : Bool
  doneClosed : Bool
  seekCh : Option (Nat × Nat)   -- (rowIndex, version)
  ppc : PPc
  loc : Loc                     -- wrapped reader position, seekTo.rowIndex, fatal err
  pver : Nat                    -- seekTo.version
  nprod : Nat                   -- ghost: items produced so far (next serial number)
  spec : Loc                    -- ghost: the sequential reader after the consumer's completed calls
  released : List Nat           -- ghost: serials passed to Release
  handed : List Nat             -- ghost: serials returned to the caller of ReadPage
deriving DecidableEq, Repr

/-- the events of the trace hook (`trace_verif.go`), one per transition -/
inductive Ev where
  | readBegin | handoff | deliver (r : Res) (v : Nat) | drop (v : Nat) | readClosed
  | seekPoll (drained : Bool) | seekSend (k v : Nat) | seekClosed
  | closeBegin | closeRecv | closeFinal | closeEnd | closeAgain
  | initPass | initDone | pollTake (k v : Nat) | pollEmpty
  | bodyCont | bodyOffer (r : Res) (v : Nat) | selTake (k v : Nat) | selDone
deriving DecidableEq, Repr

def init : G :=
  { cpc := .idle, cver := 0, initClosed := false, doneClosed := false, seekCh := none,
    ppc := .waitInit, loc := ⟨0, none, none⟩, pver := 0, nprod := 0,
    spec := ⟨0, none, none⟩, released := [], handed := [] }

inductive Step (U : Under) : G → Ev → G → Prop where
  /-- consumer, page.go:186-190: ReadPage calls start() (closes init) and blocks on `read` -/
  | readBegin {g} : g.cpc = .idle →
      Step U g .readBegin { g with cpc := .reading, initClosed := true }
  /-- page.go:190 with page.go:309-313: rendezvous on `read`; the producer goes round its loop -/
  | handoff {g it} : g.cpc = .reading → g.ppc = .send it →
      Step U g .handoff { g with cpc := .got it, ppc := .top }
  /-- consumer, page.go:203-205: version matches, ReadPage returns `(p.page, p.err)` -/
  | deliver {g it} : g.cpc = .got it → it.ver = g.cver →
      Step U g (.deliver it.res it.ver)
        { g with cpc := .idle, handed := it.id :: g.handed, spec := (lsRead U g.spec).1 }
  /-- consumer, page.go:203,208-210: stale version, Release(p.page) and wait again -/
  | drop {g it} : g.cpc = .got it → it.ver ≠ g.cver →
      Step U g (.drop it.ver) { g with cpc := .reading, released := it.id :: g.released }
  /-- consumer, page.go:188-194 after Close: `read` is closed, ReadPage returns io.EOF -/
  | readClosed {g} : g.cpc = .closed → Step U g .readClosed g
  /-- consumer, page.go:227-229: SeekToRow drains a seek the producer has not taken -/
  | seekPollDrain {g kv} : g.cpc = .idle → g.seekCh = some kv →
      Step U g (.seekPoll true) { g with cpc := .seekMid, seekCh := none }
  /-- consumer, page.go:230-232: nothing to drain, `pages.version++` -/
  | seekPollBump {g} : g.cpc = .idle → g.seekCh = none →
      Step U g (.seekPoll false) { g with cpc := .seekMid, cver := g.cver + 1 }
  /-- consumer, page.go:240-243: the (never blocking) send, then start() -/
  | seekSend {g k} : g.cpc = .seekMid →
      Step U g (.seekSend k g.cver)
        { g with cpc := .idle, seekCh := some (k, g.cver), initClosed := true, spec := lsSeek k g.spec }
  /-- consumer, page.go:215-218 after Close: io.ErrClosedPipe -/
  | seekClosed {g} : g.cpc = .closed → Step U g .seekClosed g
  /-- consumer, page.go:163-173: Close closes init and done, then ranges over `read` -/
  | closeBegin {g} : g.cpc = .idle →
      Step U g .closeBegin { g with cpc := .closing, initClosed := true, doneClosed := true }
  /-- page.go:173-175 with page.go:309-313: Close receives an item and releases it -/
  | closeRecv {g it} : g.cpc = .closing → g.ppc = .send it →
      Step U g .closeRecv { g with ppc := .top, released := it.id :: g.released }
  /-- page.go:173-179 with page.go:255-257: the final item `{err: pages.Close(), version: -1}`
      is received, `read` is closed -/
  | closeFinal {g} : g.cpc = .closing → g.ppc = .final →
      Step U g .closeFinal { g with ppc := .exited }
  /-- consumer, page.go:173,182-183: the range loop ends on the closed channel, `seek = nil` -/
  | closeEnd {g} : g.cpc = .closing → g.ppc = .exited →
      Step U g .closeEnd { g with cpc := .closed }
  /-- consumer, page.go:163-184 on a closed reader: nothing to do -/
  | closeAgain {g} : g.cpc = .closed → Step U g .closeAgain g
  /-- producer, page.go:264 -/
  | initPass {g} : g.ppc = .waitInit → g.initClosed = true →
      Step U g .initPass { g with ppc := .poll }
  /-- producer, page.go:266-268: `return`, the deferred function runs -/
  | initDone {g} : g.ppc = .waitInit → g.doneClosed = true →
      Step U g .initDone { g with ppc := .final }
  /-- producer, page.go:280: a SeekToRow issued before the first read is picked up -/
  | pollTake {g k v} : g.ppc = .poll → g.seekCh = some (k, v) →
      Step U g (.pollTake k v)
        { g with ppc := .top, seekCh := none, loc := { g.loc with row := some k }, pver := v }
  /-- producer, page.go:282-283: `seekTo.rowIndex = -1`, `seekTo.version` is the zero value -/
  | pollEmpty {g} : g.ppc = .poll → g.seekCh = none →
      Step U g .pollEmpty { g with ppc := .top }
  /-- producer, page.go:294-300: pending seek applied, `continue` -/
  | bodyCont {g l} : g.ppc = .top → body U g.loc = (l, none) →
      Step U g .bodyCont { g with loc := l }
  /-- producer, page.go:294-313: `(page, err)` computed, offered on `read` tagged `seekTo.version` -/
  | bodyOffer {g l r} : g.ppc = .top → body U g.loc = (l, some r) →
      Step U g (.bodyOffer r g.pver)
        { g with loc := l, ppc := .send ⟨r, g.pver, g.nprod⟩, nprod := g.nprod + 1 }
  /-- producer, page.go:315-317: a seek arrives while offering: Release(page), new seekTo -/
  | selTake {g it k v} : g.ppc = .send it → g.seekCh = some (k, v) →
      Step U g (.selTake k v)
        { g with ppc := .top, seekCh := none, loc := { g.loc with row := some k }, pver := v,
                 released := it.id :: g.released }
  /-- producer, page.go:318-321: done is closed: Release(page), return -/
  | selDone {g it} : g.ppc = .send it → g.doneClosed = true →
      Step U g .selDone { g with ppc := .final, released := it.id :: g.released }

inductive Path (U : Under) : G → List Ev → G → Prop where
  | nil {g} : Path U g [] g
  | cons {g e g' es g''} : Step U g e g' → Path U g' es g'' → Path U g (e :: es) g''

def Reachable (U : Under) (g : G) : Prop := ∃ es, Path U init es g

theorem Path.snoc {U g es g' e g''} (h : Path U g es g') (s : Step U g' e g'') :
    Path U g (es ++ [e]) g'' := by
  induction h with
  | nil => exact .cons s .nil
  | cons s' _ ih => exact .cons s' (ih s)

theorem Path.append {U g es g' es' g''} (h : Path U g es g') (h' : Path U g' es' g'') :
    Path U g (es ++ es') g'' := by
  induction h with
  | nil => exact h'
  | cons s' _ ih => exact .cons s' (ih h')

theorem reachable_induction {U : Under} {P : G → Prop} (h0 : P init)
    (hs : ∀ g e g', P g → Step U g e g' → P g') : ∀ g, Reachable U g → P g := by
  intro g ⟨es, hp⟩
  have : ∀ g0 es g, Path U g0 es g → P g0 → P g := by
    intro g0 es g hp
    induction hp with
    | nil => exact id
    | cons s _ ih => exact fun h => ih (hs _ _ _ h s)
  exact this _ _ _ hp h0

/-- the successor of `g` under event `e`, if `e` is enabled -/
def next? (U : Under) (g : G) (e : Ev) : Option G :=
  match e with
  | .readBegin => if g.cpc = .idle then some { g with cpc := .reading, initClosed := true } else none
  | .handoff =>
    match g.ppc with
    | .send it => if g.cpc = .reading then some { g with cpc := .got it, ppc := .top } else none
    | _ => none
  | .deliver r v =>
    match g.cpc with
    | .got it =>
      if it.ver = g.cver ∧ r = it.res ∧ v = it.ver then
        some { g with cpc := .idle, handed := it.id :: g.handed, spec := (lsRead U g.spec).1 }
      else none
    | _ => none
  | .drop v =>
    match g.cpc with
    | .got it =>
      if it.ver ≠ g.cver ∧ v = it.ver then
        some { g with cpc := .reading, released := it.id :: g.released }
      else none
    | _ => none
  | .readClosed => if g.cpc = .closed then some g else none
  | .seekPoll true =>
    if g.cpc = .idle ∧ g.seekCh.isSome then some { g with cpc := .seekMid, seekCh := none } else none
  | .seekPoll false =>
    if g.cpc = .idle ∧ g.seekCh = none then some { g with cpc := .seekMid, cver := g.cver + 1 } else none
  | .seekSend k v =>
    if g.cpc = .seekMid ∧ v = g.cver then
      some { g with cpc := .idle, seekCh := some (k, g.cver), initClosed := true, spec := lsSeek k g.spec }
    else none
  | .seekClosed => if g.cpc = .closed then some g else none
  | .closeBegin =>
    if g.cpc = .idle then some { g with cpc := .closing, initClosed := true, doneClosed := true } else none
  | .closeRecv =>
    match g.ppc with
    | .send it =>
      if g.cpc = .closing then some { g with ppc := .top, released := it.id :: g.released } else none
    | _ => none
  | .closeFinal => if g.cpc = .closing ∧ g.ppc = .final then some { g with ppc := .exited } else none
  | .closeEnd => if g.cpc = .closing ∧ g.ppc = .exited then some { g with cpc := .closed } else none
  | .closeAgain => if g.cpc = .closed then some g else none
  | .initPass => if g.ppc = .waitInit ∧ g.initClosed = true then some { g with ppc := .poll } else none
  | .initDone => if g.ppc = .waitInit ∧ g.doneClosed = true then some { g with ppc := .final } else none
  | .pollTake k v =>
    if g.ppc = .poll ∧ g.seekCh = some (k, v) then
      some { g with ppc := .top, seekCh := none, loc := { g.loc with row := some k }, pver := v }
    else none
  | .pollEmpty => if g.ppc = .poll ∧ g.seekCh = none then some { g with ppc := .top } else none
  | .bodyCont =>
    match body U g.loc with
    | (l, none) => if g.ppc = .top then some { g with loc := l } else none
    | _ => none
  | .bodyOffer r v =>
    match body U g.loc with
    | (l, some r') =>
      if g.ppc = .top ∧ r = r' ∧ v = g.pver then
        some { g with loc := l, ppc := .send ⟨r', g.pver, g.nprod⟩, nprod := g.nprod + 1 }
      else none
    | _ => none
  | .selTake k v =>
    match g.ppc with
    | .send it =>
      if g.seekCh = some (k, v) then
        some { g with ppc := .top, seekCh := none, loc := { g.loc with row := some k }, pver := v,
                      released := it.id :: g.released }
      else none
    | _ => none
  | .selDone =>
    match g.ppc with
    | .send it =>
      if g.doneClosed = true then some { g with ppc := .final, released := it.id :: g.released } else none
    | _ => none

end PqModel.Async
