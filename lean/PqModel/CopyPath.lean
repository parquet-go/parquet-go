/-! # C11 — the decision cascade of `Writer.WriteRowGroup` (copy / re-encode fast paths)

MIRROR (transliteration of the Go code as written; every mirror function carries its Go range,
  line numbers of the repaired tree):
  `chunkTransparent`, `segmentsOf`, `encodingStatsMatch`, `bloomSize`, `bloomFilterIsCopyable`,
  `columnChunkIsCopyable`, `copyable`, `columnOrientedChunk`, `columnOrientedRG`, `reencodable`,
  `splittable`, `flush`/`packLoop`/`pack`, `choosePathV`, `plan`, `copied`.
  The mirror exists in two variants (`Variant.asIs` = the library before the two repairs reported under
  C11, `Variant.repaired` = with `statisticsSettingsMatch` and `rowGroupReadsChunksInOrder`); `currentMirror` says which one the
  library under test implements (the driver answers with that one).
SPEC (written from the property statement / the Parquet metadata only):
  `Conforms` (`ConformsCore` ∧ `ConformsStats`), `RG.chunkRowsOf`, `RG.rowsOf` on leaves, `WellFormed`,
  `Step.out`.

Enumerations are the thrift codes of format/parquet.go:
  physical type 0..7 (6 = BYTE_ARRAY, 7 = FIXED_LEN_BYTE_ARRAY); page type 0 = DATA_PAGE,
  1 = INDEX_PAGE, 2 = DICTIONARY_PAGE, 3 = DATA_PAGE_V2; encoding 0 = PLAIN, 8 = RLE_DICTIONARY;
  codec 0 = UNCOMPRESSED. -/
namespace PqModel.CopyPath

/-- Version of the library the mirror transliterates: `asIs` = before the repairs reported under
    C11 (F9: copy predicate ignores the statistics settings; multi row group reads wrapper
    children's chunks), `repaired` = with both `fix:` commits. -/
inductive Variant | asIs | repaired
  deriving DecidableEq, Repr

/-- which variant the library under test implements (switched together with the `fix:` commits) -/
def currentMirror : Variant := .repaired

/-! ## Source side: what the predicates read from one source column chunk -/

/-- one `format.PageEncodingStats` entry of the chunk metadata -/
structure EncStat where
  pageType : Nat
  encoding : Nat
  count    : Nat
  deriving DecidableEq, Repr

/-- decoded `format.BloomFilterHeader` of the source chunk -/
structure BloomHeader where
  numBytes     : Nat
  splitBlock   : Bool   -- isSplitBlockAlgorithm
  xxhash       : Bool   -- isXxHash
  uncompressed : Bool   -- header.Compression is BloomFilterUncompressed
  deriving DecidableEq, Repr

/-- one data page of the chunk as it is stored: its header and its column-index entry -/
structure PageInfo where
  ptype     : Nat    -- header type (0 or 3)
  encoding  : Nat    -- header encoding
  hasStats  : Bool   -- the page header carries a non-empty Statistics struct
  nullPage  : Bool   -- column index null_pages[i]
  nullCount : Nat    -- column index null_counts[i]
  minLen    : Nat    -- len(column index min_values[i])
  maxLen    : Nat    -- len(column index max_values[i])
  deriving DecidableEq, Repr

structure ChunkMeta where
  type              : Nat
  codec             : Nat
  encStats          : List EncStat
  columnIndexOffset : Nat
  offsetIndexOffset : Nat
  bloomOffset       : Nat
  bloomLength       : Int                 -- `BloomFilterLength` (int32, may be ≤ 0 / absent)
  bloomHeader       : Option BloomHeader  -- none: header cannot be decoded
  encrypted         : Bool                -- src.decryptionKey != nil
  numValues         : Nat
  nullCount         : Nat                 -- chunk Statistics.NullCount
  rows              : Nat                 -- rows of the source row group
  hasDictPage       : Bool                -- the chunk stores a dictionary page
  pages             : List PageInfo       -- the data pages
  hasMinMax         : Bool                -- chunk Statistics.MinValue / MaxValue non-empty
  hasDeprecated     : Bool                -- chunk Statistics.Min / Max (deprecated) non-empty
  deriving DecidableEq, Repr

/-- `src.chunk.ColumnIndexOffset != 0`: the chunk has a column index (a column written with
    `SkipPageBounds` has none) -/
def ChunkMeta.hasColumnIndex (c : ChunkMeta) : Bool := c.columnIndexOffset != 0

/-- dynamic type of a `ColumnChunk` (the type switch of `columnOrientedChunk`) -/
inductive Chunk where
  | file (m : ChunkMeta)   -- *FileColumnChunk
  | buffer                 -- a ColumnBuffer
  | range (base : Chunk)   -- *rangeColumnChunk
  | other                  -- multiColumnChunk, convertedColumnChunk, missingColumnChunk, foreign ...
  deriving DecidableEq, Repr

/-! ## Destination side -/

structure DstCol where
  kind             : Nat          -- format.Type(dst.columnType.Kind())
  codec            : Nat          -- dst.compression.CompressionCodec()
  encoding         : Nat          -- dst.encoding.Encoding()
  dict             : Bool         -- dst.dictionary != nil
  pageType         : Nat          -- dst.header.page.Type
  filterBpv        : Option Nat   -- dst.columnFilter (split block filter, bits per value)
  filterCompressed : Bool         -- dst.bloomFilterCompression is a real codec
  encrypted        : Bool         -- dst.encKey != nil
  pageStats        : Bool         -- writePageStats  (DataPageStatistics ∧ ¬SkipPageStatistics)
  pageBounds       : Bool         -- writePageBounds (¬SkipPageBounds)
  deprecatedStats  : Bool         -- writeDeprecatedStatistics
  indexLimit       : Nat          -- size limit of dst.columnIndex (byte array / fixed-len indexers;
                                  -- 0 = the column's indexer does not truncate)
  deriving DecidableEq, Repr

structure DstCfg where
  disableCopy     : Bool   -- disableWriteCopy
  disableReencode : Bool   -- disableWriteReencode
  encrypting      : Bool   -- w.writer.encryption != nil
  maxRows         : Nat    -- w.writer.currentRowGroup.maxRows
  cols            : List DstCol
  deriving DecidableEq, Repr


/-! ## Row groups -/

/-- dynamic type of a non-segmented `RowGroup` -/
inductive LeafKind where
  | file          -- *FileRowGroup                  (chunkTransparentMarker)
  | buffer        -- *Buffer / *GenericBuffer[T]    (chunkTransparentMarker)
  | range         -- *rowRangeRowGroup              (chunkTransparentMarker)
  | merged        -- *mergedRowGroup: implements orderedRowGroupSegments, returns nil
  | sortedDedup   -- *sortedSegmentRowGroup with dropDuplicatedRows: returns nil
  | dedup         -- *dedupRowGroup
  | converted     -- *convertedRowGroup
  | foreign       -- a RowGroup implemented outside the package
  | other         -- emptyRowGroup, RowBuffer, ...
  deriving DecidableEq, Repr

inductive SegKind where
  | multi    -- *multiRowGroup: Rows() reads the concatenated column chunks
  | sorted   -- *sortedSegmentRowGroup without dropDuplicatedRows: Rows() concatenates segment Rows()
  deriving DecidableEq, Repr

/-- A row group as the writer sees it. `chunkRows` is what reading the column chunks in order
    yields, `rows` is what `Rows()` yields (they may differ for wrappers). -/
inductive RG (α : Type) where
  | leaf (kind : LeafKind) (numRows : Nat) (chunks : List Chunk) (chunkRows rows : List α)
  | seg  (kind : SegKind) (children : List (RG α))

variable {α : Type}

/-- writer_copy.go:154-156 `chunkTransparentMarker` implementers (buffer.go:149,460, file.go:784,
    row_range.go:104) -/
def LeafKind.marker : LeafKind → Bool
  | .file | .buffer | .range => true
  | _ => false

/-- writer_copy.go:182-185 `chunkTransparentRowGroup` -/
def chunkTransparent : RG α → Bool
  | .leaf k _ _ _ _ => k.marker
  | .seg _ _ => false

/-- writer_copy.go:69-71 + merge.go:393, merge.go:429-434, multi_row_group.go:170:
    `rowGroup.(orderedRowGroupSegments)` then `rowGroupSegments()`; `none` = not implemented -/
def segmentsOf : RG α → Option (List (RG α))
  | .seg _ cs => some cs
  | .leaf .merged _ _ _ _ => some []
  | .leaf .sortedDedup _ _ _ _ => some []
  | .leaf _ _ _ _ _ => none

mutual
/-- `NumRows()` -/
def RG.numRows : RG α → Nat
  | .leaf _ n _ _ _ => n
  | .seg _ cs => numRowsL cs
def numRowsL : List (RG α) → Nat
  | [] => 0
  | c :: cs => c.numRows + numRowsL cs
end

/-- `ColumnChunks()` (a segmented row group exposes multiColumnChunks, which the cascade never looks at: none listed) -/
def RG.chunks : RG α → List Chunk
  | .leaf _ _ cs _ _ => cs
  | .seg _ _ => []

mutual
/-- SPEC: the rows obtained by reading the column chunks in order -/
def RG.chunkRowsOf : RG α → List α
  | .leaf _ _ _ cr _ => cr
  | .seg _ cs => chunkRowsL cs
def chunkRowsL : List (RG α) → List α
  | [] => []
  | c :: cs => c.chunkRowsOf ++ chunkRowsL cs
end

mutual
/-- `rowGroupReadsChunksInOrder` (multi_row_group.go:152-165, the repaired variant's): the row
    group types whose `Rows()` is their column chunks read in order -/
def readsInOrder : RG α → Bool
  | .leaf k _ _ _ _ => k.marker
  | .seg .multi cs => readsInOrderL cs
  | .seg .sorted _ => false
def readsInOrderL : List (RG α) → Bool
  | [] => true
  | c :: cs => readsInOrder c && readsInOrderL cs
end

mutual
/-- The rows `Rows()` yields. Leaves: SPEC (whatever the type implements). Segmented row groups:
    MIRROR of merge.go:436-453 (`sortedSegmentRowGroup`: concatenation of the segments' `Rows()`)
    and of `multiRowGroup.Rows()` (multi_row_group.go:127-147): before the repair always
    `NewRowGroupRowReader(m)`, i.e. the concatenated column chunks; after it the children's own
    `Rows()` unless every child reads its chunks in order. -/
def RG.rowsOf (v : Variant) : RG α → List α
  | .leaf _ _ _ _ r => r
  | .seg .multi cs =>
    match v with
    | .asIs => chunkRowsL cs
    | .repaired => if readsInOrderL cs then chunkRowsL cs else rowsL v cs
  | .seg .sorted cs => rowsL v cs
def rowsL (v : Variant) : List (RG α) → List α
  | [] => []
  | c :: cs => c.rowsOf v ++ rowsL v cs
end

mutual
def RG.depth : RG α → Nat
  | .leaf _ _ _ _ _ => 0
  | .seg _ cs => depthL cs + 1
def depthL : List (RG α) → Nat
  | [] => 0
  | c :: cs => max c.depth (depthL cs)
end

/-! ## MIRROR: copy eligibility (writer_copy.go) -/

/-- writer_copy.go:378-411 `encodingStatsMatch` loop; `saw` = sawDict -/
def encodingStatsLoop (d : DstCol) : List EncStat → Bool → Bool
  | [], saw => d.dict == saw
  | s :: rest, saw =>
    if s.pageType = 2 then
      if !d.dict then false else encodingStatsLoop d rest true
    else if s.pageType = 0 ∨ s.pageType = 3 then
      if s.pageType ≠ d.pageType then false
      else if s.encoding ≠ d.encoding then false
      else encodingStatsLoop d rest saw
    else false

/-- writer_copy.go:378-411 -/
def encodingStatsMatch (stats : List EncStat) (d : DstCol) : Bool :=
  if stats.isEmpty then false else encodingStatsLoop d stats false

/-- bloom.go:205-207 + bloom/filter.go:35-39 `splitBlockFilter.Size` (BlockSize = 32); the Go
    arithmetic is on `uint`, modelled without wraparound -/
def bloomSize (bitsPerValue numValues : Nat) : Nat :=
  32 * ((((numValues * bitsPerValue) + 7) / 8 + 31) / 32)

/-- writer_copy.go:426-451 `bloomFilterIsCopyable` (called only with a configured filter) -/
def bloomFilterIsCopyable (d : DstCol) (bpv : Nat) (c : ChunkMeta) : Bool :=
  if c.bloomOffset = 0 ∨ c.bloomLength ≤ 0 then false
  else if d.filterCompressed then false
  else match c.bloomHeader with
    | none => false
    | some h =>
      if !h.splitBlock || !h.xxhash then false
      else if !h.uncompressed then false
      else h.numBytes == bloomSize bpv c.numValues

/-- writer_copy.go:351-354 -/
def PageInfo.trivialStats (p : PageInfo) : Bool :=
  !p.nullPage && p.nullCount == 0 && p.minLen == 0 && p.maxLen == 0

/-- REPAIRED variant only — writer_copy.go:264-373 `statisticsSettingsMatch` and
    `columnIndexSizeLimitOf` (added by the F9 repair; `d.indexLimit` is the latter's result): the
    destination's statistics settings must be seen to hold on the source chunk. -/
def statisticsSettingsMatch (d : DstCol) (c : ChunkMeta) : Bool :=
  -- column index and chunk-level bounds (SkipPageBounds)
  if d.pageBounds != c.hasColumnIndex then false
  else if !d.pageBounds && c.hasMinMax then false
  else if d.pageBounds && !c.hasMinMax && decide (c.numValues > c.nullCount) then false
  -- deprecated Min/Max (DeprecatedDataPageStatistics)
  else if !d.deprecatedStats && c.hasDeprecated then false
  else if d.deprecatedStats && c.hasMinMax && !c.hasDeprecated then false
  -- column index value lengths (ColumnIndexSizeLimit)
  else if decide (d.indexLimit > 0) &&
      c.pages.any (fun p => decide (p.minLen > d.indexLimit) || decide (p.maxLen > d.indexLimit)) then false
  -- page header statistics (DataPageStatistics / SkipPageStatistics)
  else if c.pages.any (fun p => if d.pageStats then !p.hasStats && !p.trivialStats else p.hasStats) then false
  else true

/-- writer_copy.go:204-248 `columnChunkIsCopyable` (lines 241-246 exist in the repaired variant only) -/
def columnChunkIsCopyable (v : Variant) (d : DstCol) (c : ChunkMeta) : Bool :=
  if c.encrypted then false
  else if d.encrypted then false
  else if c.type ≠ d.kind then false
  else if c.codec ≠ d.codec then false
  else if (match d.filterBpv with | some bpv => !bloomFilterIsCopyable d bpv c | none => false) then false
  else if c.columnIndexOffset = 0 ∨ c.offsetIndexOffset = 0 then false
  else if !encodingStatsMatch c.encStats d then false
  else match v with
    | .asIs => true
    | .repaired => statisticsSettingsMatch d c

/-- writer_copy.go:136-145 the per-column loop of `copyableColumnChunks` -/
def allCopyable (v : Variant) : List DstCol → List Chunk → Bool
  | d :: ds, .file m :: cs => columnChunkIsCopyable v d m && allCopyable v ds cs
  | [], [] => true
  | _, _ => false

/-- writer_copy.go:107-147 `copyableColumnChunks` -/
def copyable (v : Variant) (g : DstCfg) (rg : RG α) : Bool :=
  if g.disableCopy then false
  else if g.encrypting then false
  else if rg.numRows > g.maxRows then false
  else if !chunkTransparent rg then false
  else if rg.chunks.length ≠ g.cols.length then false
  else allCopyable v g.cols rg.chunks

/-! ## MIRROR: re-encode eligibility and segment packing (writer_reencode.go) -/

/-- writer_reencode.go:68-79 `columnOrientedChunk` -/
def columnOrientedChunk : Chunk → Bool
  | .file _ => true
  | .buffer => true
  | .range base => columnOrientedChunk base
  | .other => false

/-- writer_reencode.go:45-63 `columnOrientedRowGroup` -/
def columnOrientedRG (g : DstCfg) (rg : RG α) : Bool :=
  if !chunkTransparent rg then false
  else if rg.chunks.length = 0 ∨ rg.chunks.length ≠ g.cols.length then false
  else if !rg.chunks.all columnOrientedChunk then false
  else if rg.numRows > g.maxRows then false
  else true

/-- writer_reencode.go:83-88 `reencodableRowGroup` -/
def reencodable (g : DstCfg) (rg : RG α) : Bool :=
  if g.disableReencode then false else columnOrientedRG g rg

/-- writer_copy.go:80-101 `splittableCopyableSegments` -/
def splittable (v : Variant) (g : DstCfg) (rg : RG α) : Option (List (RG α)) :=
  if g.disableCopy && g.disableReencode then none
  else match segmentsOf rg with
    | none => none
    | some segs =>
      if segs.length ≤ 1 then none
      else if segs.any (fun s => copyable v g s || reencodable g s) then some segs
      else none

/-- one `flushPending` / individual write of `writeSegmentsPacked` -/
inductive Batch (α : Type) where
  | single (rg : RG α)          -- `w.WriteRowGroup(seg)`
  | packed (rgs : List (RG α))  -- `w.packSegmentsByColumn(pending, …)`

def Batch.members : Batch α → List (RG α)
  | .single rg => [rg]
  | .packed rgs => rgs

/-- writer_reencode.go:107-124 `flushPending` -/
def flush : List (RG α) → List (Batch α)
  | [] => []
  | [x] => [.single x]
  | xs => [.packed xs]

/-- writer_reencode.go:126-149 the loop of `writeSegmentsPacked` (state: pending, pendingRows) -/
def packLoop (g : DstCfg) : List (RG α) → List (RG α) → Nat → List (Batch α)
  | [], pending, _ => flush pending
  | s :: rest, pending, pr =>
    if columnOrientedRG g s then
      if pr > 0 ∧ pr + s.numRows > g.maxRows then
        flush pending ++ packLoop g rest [s] s.numRows
      else packLoop g rest (pending ++ [s]) (pr + s.numRows)
    else flush pending ++ .single s :: packLoop g rest [] 0

/-- writer_reencode.go:98-150 `writeSegmentsPacked` -/
def pack (g : DstCfg) (segs : List (RG α)) : List (Batch α) := packLoop g segs [] 0

/-! ## MIRROR: `WriteRowGroup` (writer.go:549-602) -/

inductive Path | segments | verbatim | reencode | rows
  deriving DecidableEq, Repr

/-- writer.go:564-601: which branch one call of `WriteRowGroup` takes -/
def choosePathV (v : Variant) (g : DstCfg) (rg : RG α) : Path :=
  match splittable v g rg with
  | some _ => .segments
  | none =>
    if copyable v g rg then .verbatim
    else if reencodable g rg then .reencode
    else .rows

/-- the cascade of the library under test -/
def choosePath (g : DstCfg) (rg : RG α) : Path := choosePathV currentMirror g rg

/-- what ends up in the file, one entry per output write -/
inductive Step (α : Type) where
  | verbatim (rg : RG α)          -- chunks spliced (loadCopiedChunks)
  | reencode (rgs : List (RG α))  -- chunks re-encoded column by column (writeRowGroupByColumn / packSegmentsByColumn)
  | rows (rg : RG α)              -- CopyRows from `Rows()`

/-- writer.go:549-602 with the recursion of writer_reencode.go:116,140 unrolled; `fuel` bounds
    the nesting of segmented row groups (`RG.depth`); without fuel the row path is the answer. -/
def plan (v : Variant) (g : DstCfg) : Nat → RG α → List (Step α)
  | 0, rg => [.rows rg]
  | fuel + 1, rg =>
    match splittable v g rg with
    | some segs =>
      (pack g segs).flatMap fun b =>
        match b with
        | .single s => plan v g fuel s
        | .packed ss => [.reencode ss]
    | none =>
      if copyable v g rg then [.verbatim rg]
      else if reencodable g rg then [.reencode [rg]]
      else [.rows rg]

/-- SPEC: the rows a step stores -/
def Step.out (v : Variant) : Step α → List α
  | .verbatim rg => rg.chunkRowsOf
  | .reencode rgs => chunkRowsL rgs
  | .rows rg => rg.rowsOf v

def outputOf (v : Variant) (steps : List (Step α)) : List α := steps.flatMap (Step.out v)

/-- copyPathCounter increments (writer_copy.go:530: one per copied column chunk) -/
def copyCount (steps : List (Step α)) : Nat :=
  (steps.map fun s => match s with | .verbatim rg => rg.chunks.length | _ => 0).sum

/-- reencodePathCounter increments (writer_reencode.go:168,204: one per re-encoded output row group) -/
def reencodeCount (steps : List (Step α)) : Nat :=
  (steps.map fun s => match s with | .reencode _ => 1 | _ => 0).sum

/-- writer_copy.go:518-524: the bloom filter is carried over only when the destination column is
    configured with one; everything else of the chunk is spliced / copied as is. -/
def copied (d : DstCol) (c : ChunkMeta) : ChunkMeta :=
  match d.filterBpv with
  | some _ => c
  | none => { c with bloomOffset := 0, bloomLength := 0, bloomHeader := none }

/-! ## SPEC: what a chunk written by the row path under `dst` looks like (metadata level) -/

/-- The source's `EncodingStats` describe its pages (a property of every file written by a
    conforming writer; the copy predicate relies on it). -/
def EncStatsFaithful (c : ChunkMeta) : Prop :=
  (∀ p ∈ c.pages, p.ptype ≠ 2 ∧ ∃ s ∈ c.encStats, s.pageType = p.ptype ∧ s.encoding = p.encoding) ∧
  (c.hasDictPage = true ↔ ∃ s ∈ c.encStats, s.pageType = 2)

/-- the bloom filter section really is what offset/length/header say (absent when the offset is 0) -/
def BloomFaithful (c : ChunkMeta) : Prop :=
  c.bloomOffset = 0 → c.bloomHeader = none

structure ConformsCore (g : DstCfg) (d : DstCol) (c : ChunkMeta) : Prop where
  type      : c.type = d.kind
  codec     : c.codec = d.codec
  plaintext : c.encrypted = false ∧ g.encrypting = false ∧ d.encrypted = false
  pages     : ∀ p ∈ c.pages, p.ptype = d.pageType ∧
                (p.encoding = d.encoding ∨ (d.dict = true ∧ p.encoding = 0))
  dict      : c.hasDictPage = d.dict
  index     : c.offsetIndexOffset ≠ 0
  bloom     : match d.filterBpv with
              | none => c.bloomHeader = none
              | some bpv => ∃ h, c.bloomHeader = some h ∧ h.splitBlock = true ∧ h.xxhash = true ∧
                  h.uncompressed = !d.filterCompressed ∧
                  (h.numBytes = bloomSize bpv c.numValues ∨
                    (d.dict = true ∧ ∃ n, n ≤ c.numValues ∧ h.numBytes = bloomSize bpv n))
  rows      : c.rows ≤ g.maxRows

structure ConformsStats (d : DstCol) (c : ChunkMeta) : Prop where
  pageStats  : ∀ p ∈ c.pages, if d.pageStats then p.hasStats = true ∨ p.trivialStats = true
                 else p.hasStats = false
  indexLimit : d.indexLimit > 0 →
                 ∀ p ∈ c.pages, p.minLen ≤ d.indexLimit ∧ p.maxLen ≤ d.indexLimit
  colIndex   : c.hasColumnIndex = d.pageBounds   -- a column index iff page bounds are written
  noBounds   : d.pageBounds = false → c.hasMinMax = false
  bounds     : d.pageBounds = true → c.numValues > c.nullCount → c.hasMinMax = true
  noDeprec   : d.deprecatedStats = false → c.hasDeprecated = false
  deprec     : d.deprecatedStats = true → c.hasMinMax = true → c.hasDeprecated = true

/-- SPEC: the output chunk honours every destination setting -/
def Conforms (g : DstCfg) (d : DstCol) (c : ChunkMeta) : Prop :=
  ConformsCore g d c ∧ ConformsStats d c

/-- the metadata of the `.file` chunks of a row group, in order (other chunks are skipped) -/
def fileMetas : List Chunk → List ChunkMeta
  | .file m :: cs => m :: fileMetas cs
  | _ :: cs => fileMetas cs
  | [] => []

mutual
/-- SPEC: the library's contract for its own row group types: for the marker types `Rows()` is the
    chunks read in order. Wrappers (dedup, converted, foreign, merged) are unconstrained.
    For `.asIs` a `MultiRowGroup` is only meaningful over children whose `Rows()` is their chunks read
    in order (`multi_over_wrapper_diverges`). -/
def WellFormed (v : Variant) : RG α → Prop
  | .leaf k _ _ cr r => k.marker = true → r = cr
  | .seg .multi cs =>
    match v with
    | .asIs => WellFormedFaithfulL v cs
    | .repaired => WellFormedL v cs
  | .seg .sorted cs => WellFormedL v cs
def WellFormedL (v : Variant) : List (RG α) → Prop
  | [] => True
  | c :: cs => WellFormed v c ∧ WellFormedL v cs
def WellFormedFaithfulL (v : Variant) : List (RG α) → Prop
  | [] => True
  | c :: cs => (WellFormed v c ∧ c.rowsOf v = c.chunkRowsOf) ∧ WellFormedFaithfulL v cs
end

/-- positional pairing of two lists (core has no `List.Forall₂`) -/
inductive Forall2 {β γ : Type} (R : β → γ → Prop) : List β → List γ → Prop where
  | nil : Forall2 R [] []
  | cons {b c bs cs} : R b c → Forall2 R bs cs → Forall2 R (b :: bs) (c :: cs)

end PqModel.CopyPath
