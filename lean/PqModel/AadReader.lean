import PqModel.Aad

/-! # Modular encryption: the page reader at the level of its API

MIRROR of `FilePages.ReadPage` / `SeekToRow` / `ReadDictionary` (file.go:1180-1366, 1614-1726) on an
encrypted column chunk, as COMPOSITIONS of the steps of `Aad.rstep` (one `readEncryptedPage`, the
cached-page preamble, the out-of-band `readDictionary`, the two kinds of seek), with the two pieces
of state that decide WHICH modules one API call opens and which `rstep` leaves to its caller:

* `skip`       = `f.skip`: rows still to be skipped after a seek — without an offset index a seek
                 rewinds to the first data page and `ReadPage` opens (and drops) every page before
                 the target row;
* `dictLoaded` = `f.dictionary != nil`: a dictionary-encoded data page decoded while no dictionary
                 is loaded makes `readDataPageV1/V2` call `readDictionary` (file.go:1448, 1463) — the
                 out-of-band read of the dictionary modules, which happens exactly when the reader
                 did not meet the dictionary page on the stream (a seek into a later page; any seek
                 on a file opened with `SkipPageIndex`).

What is a fact of the FILE and not of the reader is in `PChunk`: rows per data page, which data
pages are dictionary-encoded (a chunk falls back to PLAIN when the dictionary grows too large), and
whether an offset index is loaded. The result of a call (`PRes`) is what a caller can observe: which
data page it got and how many of its rows were cut off in front. -/
namespace PqModel.Aad

structure PChunk where
  c : Chunk
  rows : List Nat         -- rows of every data page, in order
  dictEnc : List Bool     -- data page i is dictionary-encoded
  -- `c.npages` entries each are meant; nothing requires it (`getD`: 0 rows / not dictionary-encoded)
  indexed : Bool          -- `f.chunk.offsetIndex.Load() != nil`

structure PSt where
  r : RSt
  skip : Nat
  dictLoaded : Bool
deriving Repr

inductive POp where
  | readPage
  | seek (row : Nat)
  | readDictionary
deriving DecidableEq, Repr

inductive PRes where
  | page (i : Nat) (cut : Nat)   -- data page `i` without its first `cut` rows
  | eof
  | done                           -- SeekToRow / ReadDictionary returned nil
deriving DecidableEq, Repr

def pinit (pc : PChunk) : PSt := { r := rinit pc.c, skip := 0, dictLoaded := false }

/-- the loop of `readPageInSequence` (file.go:1238-1365); `fuel` bounds the iterations: `readPage` passes
    `npages + 2` = the dictionary page, one per data page, and the iteration that meets the end of the
    chunk (the fuel-0 branch answers `.eof` too; that it is not reached from there is no theorem) -/
def readLoop (pc : PChunk) : Nat → PSt → PSt × PRes
  | 0, s => (s, .eof)
  | fuel + 1, s =>
    match s.r.pos with
    | .dict =>
      -- 1246-1254, 1295-1312: the dictionary page on the stream is opened, decoded unless a
      -- dictionary is loaded already, and the loop continues
      readLoop pc fuel { s with r := rstep pc.c s.r .step, dictLoaded := true }
    | .data i =>
      if i < pc.c.npages then
        let r1 := rstep pc.c s.r .step
        -- 1443-1465: a dictionary-encoded page without a loaded dictionary reads it out of band
        let lazy := pc.dictEnc.getD i false && !s.dictLoaded
        let r2 := if lazy then rstep pc.c r1 .readDict else r1
        let dl := s.dictLoaded || lazy
        if s.skip = 0 then ({ r := r2, skip := 0, dictLoaded := dl }, .page i 0)       -- 1324-1349
        else
          let n := pc.rows.getD i 0
          if n ≤ s.skip then readLoop pc fuel { r := r2, skip := s.skip - n, dictLoaded := dl }  -- 1354-1355, 1363
          else ({ r := r2, skip := 0, dictLoaded := dl }, .page i s.skip)              -- 1356-1361
      else (s, .eof)   -- the length read of the next envelope meets the end of the chunk

/-- `ReadPage` (file.go:1190-1202) → `readPageInSequence`: the cached-page preamble (1223-1236), then
    the loop -/
def readPage (pc : PChunk) (s : PSt) : PSt × PRes :=
  match s.r.serve, s.r.last with
  | true, some li =>
    let s1 : PSt := { s with r := rstep pc.c s.r .serveLast }
    let n := pc.rows.getD li 0
    if s.skip < n then ({ s1 with skip := 0 }, .page li s.skip)
    else readLoop pc (pc.c.npages + 2) { s1 with skip := s.skip - n }
  | _, _ => readLoop pc (pc.c.npages + 2) s

def firstRow (rows : List Nat) (i : Nat) : Nat := (rows.take i).foldl (· + ·) 0

/-- `sort.Search(len(pages), FirstRowIndex > row) - 1` (file.go:1663-1665) for `npages ≥ 1`: the
    last page whose first row is ≤ row -/
def targetPage (rows : List Nat) (row : Nat) : Nat :=
  ((List.range rows.length).filter (fun i => firstRow rows i ≤ row)).getLast?.getD 0

/-- `SeekToRow` (file.go:1614-1726), on a chunk with at least one data page -/
def seek (pc : PChunk) (s : PSt) (row : Nat) : PSt :=
  if pc.indexed then
    let t := targetPage pc.rows row
    { s with r := rstep pc.c s.r (.seekIndexed t), skip := row - firstRow pc.rows t }
  else
    { s with r := rstep pc.c s.r .seekNoIndex, skip := row }

/-- `ReadDictionary` (file.go:1180-1187) -/
def readDictionary (pc : PChunk) (s : PSt) : PSt :=
  if !s.dictLoaded && pc.c.hasDict then { s with r := rstep pc.c s.r .readDict, dictLoaded := true }
  else s

def pstep (pc : PChunk) (s : PSt) : POp → PSt × PRes
  | .readPage => readPage pc s
  | .seek row => (seek pc s row, .done)
  | .readDictionary => (readDictionary pc s, .done)

/-- a history of API calls: final state, and per call the result with the number of modules the
    reader has opened so far (so that the call that opens a given module can be named) -/
def prunFrom (pc : PChunk) : PSt → List POp → List (PRes × Nat) → PSt × List (PRes × Nat)
  | s, [], acc => (s, acc.reverse)
  | s, o :: ops, acc =>
    let (s', res) := pstep pc s o
    prunFrom pc s' ops ((res, s'.r.log.length) :: acc)

def prun (pc : PChunk) (ops : List POp) : PSt × List (PRes × Nat) := prunFrom pc (pinit pc) ops []

/-- the API calls are compositions of `rstep`s, so whatever holds of every `rrun` holds of every `prun` (`prun_reach`) -/
def Reach (c : Chunk) (s s' : RSt) : Prop := ∃ ops : List ROp, s' = ops.foldl (rstep c) s

theorem Reach.refl (c : Chunk) (s : RSt) : Reach c s s := ⟨[], rfl⟩

theorem Reach.step {c : Chunk} {s s' : RSt} (h : Reach c s s') (o : ROp) : Reach c s (rstep c s' o) := by
  obtain ⟨ops, rfl⟩ := h
  exact ⟨ops ++ [o], by rw [List.foldl_append]; rfl⟩

theorem readLoop_reach (pc : PChunk) (fuel : Nat) (s : PSt) {s0 : RSt} (h : Reach pc.c s0 s.r) :
    Reach pc.c s0 (readLoop pc fuel s).1.r := by
  have lazyDict (b : Bool) {r : RSt} (hr : Reach pc.c s0 r) : Reach pc.c s0 (if b = true then rstep pc.c r .readDict else r) := by
    split
    · exact hr.step .readDict
    · exact hr
  fun_induction readLoop pc fuel s
  case case1 => exact h                                   -- no fuel
  case case2 ih => exact ih (h.step .step)                -- the dictionary page, then on
  case case3 => exact lazyDict _ (h.step .step)           -- a data page, nothing to skip: returned whole
  case case4 ih => exact ih (lazyDict _ (h.step .step))   -- a data page skipped entirely, then on
  case case5 => exact lazyDict _ (h.step .step)           -- a data page returned without its first `skip` rows
  case case6 => exact h                                   -- behind the last data page: end of the chunk

theorem readPage_reach (pc : PChunk) (s : PSt) {s0 : RSt} (h : Reach pc.c s0 s.r) : Reach pc.c s0 (readPage pc s).1.r := by
  unfold readPage
  split
  · simp only []
    split
    · exact h.step .serveLast
    · exact readLoop_reach pc _ _ (h.step .serveLast)
  · exact readLoop_reach pc _ _ h

theorem pstep_reach (pc : PChunk) (s : PSt) (o : POp) {s0 : RSt} (h : Reach pc.c s0 s.r) : Reach pc.c s0 (pstep pc s o).1.r := by
  cases o with
  | readPage => exact readPage_reach pc s h
  | seek row =>
    simp only [pstep, seek]
    split
    · exact h.step (.seekIndexed _)
    · exact h.step .seekNoIndex
  | readDictionary =>
    simp only [pstep, readDictionary]
    split
    · exact h.step .readDict
    · exact h

theorem prunFrom_reach (pc : PChunk) (ops : List POp) {s0 : RSt} : ∀ (s : PSt) (acc : List (PRes × Nat)), Reach pc.c s0 s.r →
    Reach pc.c s0 (prunFrom pc s ops acc).1.r := by
  induction ops with
  | nil => intro s acc h; exact h
  | cons o ops ih =>
    intro s acc h
    simp only [prunFrom]
    exact ih _ _ (pstep_reach pc s o h)

theorem prun_reach (pc : PChunk) (ops : List POp) : ∃ rops, (prun pc ops).1.r = rrun pc.c rops :=
  prunFrom_reach pc ops _ _ (Reach.refl pc.c (rinit pc.c))

end PqModel.Aad
