import PqModel.Basics
namespace PqModel.Bits

/-! # Bits, bytes and the numbers they denote

LSB-first bit packing (numbers ↔ bit lists ↔ bytes) as encoding/rle, encoding/delta and bitpack use it; `field N o w`,
the bits `[o, o+w)` of a number, for the word-level kernels; ULEB128. -/

def toBits : Nat → Nat → List Bool
  | 0, _ => []
  | w + 1, x => (x % 2 == 1) :: toBits w (x / 2)

def fromBits : List Bool → Nat
  | [] => 0
  | b :: bs => (if b then 1 else 0) + 2 * fromBits bs

theorem toBits_length : ∀ w x, (toBits w x).length = w
  | 0, _ => rfl
  | w + 1, x => by simp [toBits, toBits_length w]

theorem fromBits_toBits : ∀ (w x : Nat), x < 2 ^ w → fromBits (toBits w x) = x
  | 0, x, h => by simp at h; simp [toBits, fromBits, h]
  | w + 1, x, h => by
    have h2 : x / 2 < 2 ^ w := by
      rw [Nat.pow_succ] at h; omega
    simp only [toBits, fromBits, fromBits_toBits w (x / 2) h2]
    by_cases hx : x % 2 = 1 <;> simp [hx] <;> omega

theorem toBits_fromBits : ∀ (w : Nat) (bs : List Bool), bs.length ≤ w →
    toBits w (fromBits bs) = bs ++ List.replicate (w - bs.length) false
  | 0, bs, h => by
    have : bs = [] := by cases bs <;> simp_all
    subst this; rfl
  | w + 1, [], _ => by
    have := toBits_fromBits w [] (by simp)
    simp only [fromBits, List.length_nil, Nat.sub_zero, List.nil_append] at this ⊢
    simp [toBits, List.replicate_succ, this]
  | w + 1, b :: bs, h => by
    have hl : bs.length ≤ w := by simpa using h
    have ih := toBits_fromBits w bs hl
    have hdiv : ((if b then 1 else 0) + 2 * fromBits bs) / 2 = fromBits bs := by cases b <;> simp <;> omega
    have hmod : (((if b then 1 else 0) + 2 * fromBits bs) % 2 == 1) = b := by cases b <;> simp <;> omega
    simp only [fromBits, toBits, hdiv, hmod, ih, List.cons_append, List.length_cons, Nat.add_sub_add_right]

theorem two_pow_mul_succ (a k : Nat) : 2 ^ (a * (k + 1)) = 2 ^ a * 2 ^ (a * k) := by
  rw [Nat.mul_succ, Nat.pow_add, Nat.mul_comm]

theorem fromBits_lt : ∀ (bs : List Bool), fromBits bs < 2 ^ bs.length
  | [] => by simp [fromBits]
  | b :: bs => by
    have := fromBits_lt bs
    simp only [fromBits, List.length_cons, Nat.pow_succ]
    cases b <;> simp <;> omega

theorem testBit_fromBits : ∀ (bs : List Bool) (i : Nat), (fromBits bs).testBit i = bs[i]?.getD false
  | [], i => by simp [fromBits]
  | b :: bs, 0 => by cases b <;> simp [fromBits, Nat.testBit_zero] <;> omega
  | b :: bs, i + 1 => by
    have h : ((if b then 1 else 0) + 2 * fromBits bs) / 2 = fromBits bs := by cases b <;> simp <;> omega
    rw [fromBits, Nat.testBit_succ, h, testBit_fromBits bs i, List.getElem?_cons_succ]

theorem fromBits_append : ∀ (a b : List Bool), fromBits (a ++ b) = fromBits a + 2 ^ a.length * fromBits b
  | [], b => by simp [fromBits]
  | x :: a, b => by
    simp only [List.cons_append, fromBits, fromBits_append a b, List.length_cons, Nat.pow_succ]
    grind

theorem fromBits_drop : ∀ (o : Nat) (bs : List Bool), fromBits (bs.drop o) = fromBits bs / 2 ^ o
  | 0, bs => by simp
  | o + 1, [] => by simp [fromBits]
  | o + 1, b :: bs => by
    have e : ((if b = true then 1 else 0) + 2 * fromBits bs) / 2 = fromBits bs := by
      cases b <;> simp <;> omega
    rw [List.drop_succ_cons, fromBits_drop o bs, fromBits, Nat.pow_succ, Nat.mul_comm (2 ^ o) 2,
      ← Nat.div_div_eq_div_mul, e]

theorem fromBits_take (w : Nat) (bs : List Bool) : fromBits (bs.take w) = fromBits bs % 2 ^ w := by
  have h := fromBits_append (bs.take w) (bs.drop w)
  rw [List.take_append_drop] at h
  by_cases hw : w ≤ bs.length
  · have hl : (bs.take w).length = w := by rw [List.length_take]; omega
    have hlt := fromBits_lt (bs.take w)
    rw [hl] at h hlt
    rw [h, Nat.add_mul_mod_self_left, Nat.mod_eq_of_lt hlt]
  · have hlt := fromBits_lt bs
    rw [List.take_of_length_le (by omega), Nat.mod_eq_of_lt
      (Nat.lt_of_lt_of_le hlt (Nat.pow_le_pow_right (by omega) (by omega)))]

theorem fromBits_take_add (l : List Bool) (m n : Nat) (h : m ≤ l.length) :
    fromBits (l.take (m + n)) = fromBits (l.take m) + 2 ^ m * fromBits ((l.drop m).take n) := by
  rw [List.take_add, fromBits_append, List.length_take, Nat.min_eq_left h]

/-! A buffer of bits, bytes or words denotes a number (`fromBits`, little-endian); the bits `[o, o+w)` of it are
`field N o w`. Fields are total (bits beyond the buffer are zero), so reading needs no length hypotheses. -/

def field (N o w : Nat) : Nat := N / 2 ^ o % 2 ^ w

theorem testBit_field (N o w i : Nat) : (field N o w).testBit i = (decide (i < w) && N.testBit (o + i)) := by
  rw [field, Nat.testBit_mod_two_pow, Nat.testBit_div_two_pow, Nat.add_comm]

theorem field_split (N o m n : Nat) : field N o (m + n) = field N o m + 2 ^ m * field N (o + m) n := by
  rw [field, field, field, Nat.pow_add, Nat.mod_mul, Nat.pow_add, Nat.div_div_eq_div_mul]

theorem field_shr_mod (N a m j w : Nat) : field N a m / 2 ^ j % 2 ^ w = field N (a + j) (min w (m - j)) := by
  show field (field N a m) j w = _
  apply Nat.eq_of_testBit_eq
  intro i
  -- bit `i` of either side is bit `a + j + i` of `N`, provided `i < w` and `j + i < m`
  have h : (i < w ∧ j + i < m) ↔ i < min w (m - j) := by omega
  rw [testBit_field, testBit_field, testBit_field, ← Bool.and_assoc, ← Bool.decide_and, decide_eq_decide.mpr h,
    Nat.add_assoc]

theorem field_mod (N a m k : Nat) : field N a m % 2 ^ k = field N a (min k m) := by
  have := field_shr_mod N a m 0 k
  rwa [Nat.pow_zero, Nat.div_one, Nat.add_zero, Nat.sub_zero] at this

theorem field_div (N a o w : Nat) : field (N / 2 ^ a) o w = field N (a + o) w := by
  rw [field, field, Nat.div_div_eq_div_mul, ← Nat.pow_add]

theorem fromBits_drop_take (l : List Bool) (o w : Nat) : fromBits ((l.drop o).take w) = field (fromBits l) o w := by
  rw [fromBits_take, fromBits_drop, field]

def packBits (w : Nat) (xs : List Nat) : List Bool := (xs.map (toBits w)).flatten

def unpackBits (w : Nat) : Nat → List Bool → List Nat
  | 0, _ => []
  | n + 1, bits => fromBits (bits.take w) :: unpackBits w n (bits.drop w)

theorem unpack_pack (w : Nat) : ∀ (xs : List Nat) (pad : List Bool), (∀ x ∈ xs, x < 2 ^ w) →
    unpackBits w xs.length (packBits w xs ++ pad) = xs
  | [], _, _ => rfl
  | x :: xs, pad, h => by
    have hx := h x (by simp)
    have ih := unpack_pack w xs pad (fun y hy => h y (by simp [hy]))
    simp only [packBits, List.map_cons, List.flatten_cons, List.length_cons, unpackBits, List.append_assoc]
    rw [List.take_left' (toBits_length w x), List.drop_left' (toBits_length w x), fromBits_toBits w x hx]
    simp only [packBits] at ih
    rw [ih]

theorem packBits_length (w : Nat) (xs : List Nat) : (packBits w xs).length = w * xs.length :=
  Pieces.length_flatMap (fun x _ => toBits_length w x)

theorem unpackBits_length (w : Nat) : ∀ (k : Nat) (bits : List Bool), (unpackBits w k bits).length = k
  | 0, _ => rfl
  | k + 1, bits => by simp [unpackBits, unpackBits_length w k]

theorem unpackBits_take (w : Nat) : ∀ (k n : Nat) (bits : List Bool), k ≤ n →
    unpackBits w k bits = (unpackBits w n bits).take k
  | 0, _, _, _ => by simp [unpackBits]
  | k + 1, 0, _, h => by omega
  | k + 1, n + 1, bits, h => by
    simp only [unpackBits, List.take_succ_cons]
    rw [unpackBits_take w k n _ (by omega)]

/-- The first argument is fuel: every value from `⌈length / 8⌉` on gives the same bytes. -/
def bitsToBytes : Nat → List Bool → List Nat
  | 0, _ => []
  | f + 1, bs => if bs.isEmpty then [] else fromBits (bs.take 8) :: bitsToBytes f (bs.drop 8)

theorem bitsToBytes_length (f : Nat) (bs : List Bool) (h : bs.length ≤ f) :
    (bitsToBytes f bs).length = (bs.length + 7) / 8 := by
  -- cases of `bitsToBytes`: no fuel; no bits left; one byte, then the rest
  fun_induction bitsToBytes f bs with
  | case1 bs => rw [List.eq_nil_of_length_eq_zero (Nat.le_zero.mp h)]; rfl
  | case2 f bs he => rw [List.isEmpty_iff.mp he]; rfl
  | case3 f bs he ih =>
    have hpos : 0 < bs.length := List.length_pos_iff.mpr (fun h0 => he (List.isEmpty_iff.mpr h0))
    rw [List.length_cons, ih (by rw [List.length_drop]; omega), List.length_drop]
    omega

def bytesToBits (bytes : List Nat) : List Bool := (bytes.map (toBits 8)).flatten

theorem bytes_bits (f : Nat) (bs : List Bool) (h : bs.length ≤ f) :
    ∃ pad, bytesToBits (bitsToBytes f bs) = bs ++ pad := by
  fun_induction bitsToBytes f bs with
  | case1 bs => exact ⟨[], by rw [List.eq_nil_of_length_eq_zero (Nat.le_zero.mp h)]; rfl⟩
  | case2 f bs he => exact ⟨[], by rw [List.isEmpty_iff.mp he]; rfl⟩
  | case3 f bs he ih =>
    have hlen : 0 < bs.length := List.length_pos_iff.mpr (fun h0 => he (List.isEmpty_iff.mpr h0))
    obtain ⟨pad, hp⟩ := ih (by rw [List.length_drop]; omega)
    simp only [bytesToBits, List.map_cons, List.flatten_cons] at hp ⊢
    rw [hp, toBits_fromBits 8 (bs.take 8) (by rw [List.length_take]; omega)]
    by_cases h8 : 8 ≤ bs.length
    · refine ⟨pad, ?_⟩
      have : (bs.take 8).length = 8 := by rw [List.length_take]; omega
      simp [this, ← List.append_assoc, List.take_append_drop]
    · refine ⟨List.replicate (8 - bs.length) false ++ pad, ?_⟩
      rw [List.take_of_length_le (by omega), List.drop_of_length_le (by omega)]
      simp

theorem unpack_pack_bytes (w : Nat) (xs : List Nat) (h : ∀ x ∈ xs, x < 2 ^ w) :
    unpackBits w xs.length (bytesToBits (bitsToBytes (packBits w xs).length (packBits w xs))) = xs := by
  obtain ⟨pad, hp⟩ := bytes_bits _ (packBits w xs) (Nat.le_refl _)
  rw [hp]
  exact unpack_pack w xs pad h

/-- SPEC: unsigned LEB128 of `n`, shortest form (what `binary.PutUvarint` writes) -/
def uvarint (n : Nat) : List Nat :=
  if h : n < 128 then [n] else (n % 128 + 128) :: uvarint (n / 128)
termination_by n
decreasing_by omega

/-- SPEC reading of unsigned LEB128: any number of 7-bit groups, padded forms accepted, the value and the bytes that
follow. Go's `binary.Uvarint` (10-byte limit) is `Rle.goUvarint`, `Delta.goUvarintLoop`. -/
def decUvarint : List Nat → Option (Nat × List Nat)
  | [] => none
  | b :: bs =>
    if b < 128 then some (b, bs)
    else match decUvarint bs with
      | some (v, r) => some (b - 128 + 128 * v, r)
      | none => none

theorem uvarint_roundtrip (n : Nat) (rest : List Nat) : decUvarint (uvarint n ++ rest) = some (n, rest) := by
  induction n using Nat.strongRecOn with
  | _ n ih =>
    rw [uvarint]
    by_cases h : n < 128
    · simp [h, decUvarint]
    · simp only [h, dite_false, List.cons_append, decUvarint]
      have : ¬ (n % 128 + 128 < 128) := by omega
      simp only [this, if_false]
      rw [ih (n / 128) (by omega)]
      simp; omega

#print axioms unpack_pack_bytes
#print axioms uvarint_roundtrip

end PqModel.Bits
