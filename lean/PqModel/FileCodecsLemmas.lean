import PqModel.FileCodecsGo
import PqModel.RleDecodeLemmas
import PqModel.FlatPage

/-! # The codec tables of the C01 file model, row by row

`valCodecOf` (SPEC decoders) and `goValCodecOf` (Go decoders) are one table: `c.val` and `c.goVal stale` are one of
twelve rows (physical type, SPEC codec, Go codec), PLAIN of the type also when the combination is not in the table.
`table_cases` is that as a case principle; its users give one fact per row. -/
namespace PqModel.FileModel
open PqModel PqModel.Bits

theorem unpackSections_packSections (lvComp : Bool) {comp : List Nat → List Nat}
    {decomp : List Nat → Option (List Nat)} (hcmp : ∀ b, decomp (comp b) = some b) (p : Page (List Nat)) :
    unpackSections lvComp decomp (packSections lvComp comp p) = some p := by
  cases lvComp <;> simp [packSections, unpackSections, hcmp]

theorem bind_ok_elim {ε α β : Type} {e : Except ε α} {f : α → Except ε β} {y : β} (h : e >>= f = .ok y) :
    ∃ b, e = .ok b ∧ f b = .ok y := by
  cases e with
  | error a => cases h
  | ok b => exact ⟨b, rfl, h⟩

theorem levelWidth {m : Nat} {xs : List Nat} (hm : m ≤ 255) (hx : ∀ x ∈ xs, x ≤ m) :
    Rle.maxLen [m] ≤ 8 ∧ ∀ x ∈ xs, x < 2 ^ Rle.maxLen [m] :=
  ⟨Rle.maxLen_le [m] 8 (fun x hx' => by
      rw [List.mem_singleton.mp hx']
      exact Nat.lt_of_le_of_lt hm (by decide)),
    fun x hx' => Nat.lt_of_le_of_lt (hx x hx') (Rle.lt_pow_maxLen [m] m (List.mem_singleton.mpr rfl))⟩

theorem rleL_ok (m : Nat) (xs : List Nat) (hm : m ≤ 255) (hx : ∀ x ∈ xs, x ≤ m) :
    rleDecL m xs.length (rleEncL m xs) = some xs := by
  obtain ⟨hw, hlt⟩ := levelWidth hm hx
  have hrt : Rle.encodeLevels (Rle.maxLen [m]) xs >>= Rle.specDecode (Rle.maxLen [m]) xs.length = .ok (xs.take xs.length) := by
    rw [Rle.encodeLevels_eq_encodeWith]
    exact Rle.encodeWith_roundtrip hw (fun h1 => Rle.encOK_levels _ h1 hw) Rle.scanLevels_le xs xs.length hlt (Nat.le_refl _)
  obtain ⟨bs, he, hd⟩ := bind_ok_elim hrt
  simp only [rleEncL, rleDecL, he, hd, List.take_length]

/-- levels that are all `≤ 0` are what a reader makes up for a column without stored levels -/
theorem replicate_zero_of_le {xs : List Nat} (hx : ∀ x ∈ xs, x ≤ 0) : List.replicate xs.length 0 = xs :=
  (List.eq_replicate_iff.mpr ⟨rfl, fun x hx' => Nat.le_zero.mp (hx x hx')⟩).symm

theorem supported_flba {c : ColSpec} (h : c.supported = true) {n : Nat} (hn : c.t = .flba n) :
    0 < n ∧ n < 2 ^ 31 := by
  obtain ⟨t, e⟩ := c
  subst hn
  simpa only [Bool.and_eq_true, decide_eq_true_eq] using ((Bool.and_eq_true _ _).mp h).2

theorem table_cases (stale : Plain.Bytes) {P : PType → ValCodec → ValCodec → Prop}
    (plain : ∀ t, P t (plainOf t) (goPlainOf t))
    (rle : P .boolean rleBool goRleBool)
    (delta32 : P .int32 delta32 goDelta32)
    (delta64 : P .int64 delta64 goDelta64)
    (bssInt32 : P .int32 (bssFixed 4) (goBssFixed 4))
    (bssInt64 : P .int64 (bssFixed 8) (goBssFixed 8))
    (bssFloat : P .float (bssFixed 4) (goBssFixed 4))
    (bssDouble : P .double (bssFixed 8) (goBssFixed 8))
    (bssFlba : ∀ n, P (.flba n) (bssFixed n) (goBssFLBA n stale))
    (dlba : P .byteArray dlba goDlba)
    (dba : P .byteArray dba goDba)
    (dbaFlba : ∀ n, P (.flba n) (dbaFixed n) (goDbaFixed n)) :
    ∀ c : ColSpec, P c.t c.val (c.goVal stale)
  -- per encoding at most one row has the type at hand, so no alternative is tried on a wrong codec
  | ⟨t, .plain⟩ => by cases t <;> exact plain _
  | ⟨t, .rle⟩ => by cases t <;> first | exact rle | exact plain _
  | ⟨t, .deltaBinaryPacked⟩ => by cases t <;> first | exact delta32 | exact delta64 | exact plain _
  | ⟨t, .deltaLengthByteArray⟩ => by cases t <;> first | exact dlba | exact plain _
  | ⟨t, .deltaByteArray⟩ => by cases t <;> first | exact dba | exact dbaFlba _ | exact plain _
  | ⟨t, .byteStreamSplit⟩ => by
    cases t <;> first | exact bssInt32 | exact bssInt64 | exact bssFloat | exact bssDouble | exact bssFlba _ | exact plain _

theorem plainOf_okP (t : PType) (xs : List Nat) : (plainOf t).okP xs = true := by cases t <;> rfl

theorem goPlainOf_okP (t : PType) (xs : List Nat) : (goPlainOf t).okP xs = true := by cases t <;> rfl

theorem goPlainOf_okV (t : PType) : (goPlainOf t).okV = (plainOf t).okV := by cases t <;> rfl

/-- equal but for the byte array encodings with INT32 lengths -/
theorem val_okV_plainOf (c : ColSpec) (x : Nat) : c.val.okV x = true → (plainOf c.t).okV x = true :=
  have lt31 : decide ((bytesOfNat x).length < 2 ^ 31) = true → decide ((bytesOfNat x).length < 2 ^ 32) = true :=
    fun h => decide_eq_true (Nat.lt_trans (of_decide_eq_true h) (by decide))
  table_cases [] (P := fun t v _ => v.okV x = true → (plainOf t).okV x = true)
    (plain := fun _ h => h) (rle := fun h => h) (delta32 := fun h => h) (delta64 := fun h => h)
    (bssInt32 := fun h => h) (bssInt64 := fun h => h) (bssFloat := fun h => h) (bssDouble := fun h => h)
    (bssFlba := fun _ h => h) (dlba := lt31) (dba := lt31) (dbaFlba := fun _ h => h) c

theorem goVal_okV (stale : Plain.Bytes) (c : ColSpec) : (c.goVal stale).okV = c.val.okV :=
  table_cases stale (P := fun _ v g => g.okV = v.okV)
    (plain := goPlainOf_okV) (rle := rfl) (delta32 := rfl) (delta64 := rfl) (bssInt32 := rfl) (bssInt64 := rfl)
    (bssFloat := rfl) (bssDouble := rfl) (bssFlba := fun _ => rfl) (dlba := rfl) (dba := rfl) (dbaFlba := fun _ => rfl) c

theorem offsetsFrom_eq_prefixSums : ∀ (vs : List (List Nat)) (o : Nat),
    Delta.offsetsFrom o vs = SortBuf.prefixSums o (vs.map List.length) ++ [o + (vs.map List.length).sum]
  | [], _ => rfl
  | v :: vs, o => by
    simp only [Delta.offsetsFrom, List.map_cons, SortBuf.prefixSums, List.sum_cons, List.cons_append, offsetsFrom_eq_prefixSums vs,
      Nat.add_assoc]

theorem sliceOffs_eq_slices (flat : List Nat) : ∀ (offs : List Nat), sliceOffs flat offs = SortBuf.slices flat offs
  | [] => rfl
  | [_] => rfl
  | a :: b :: tl => by
    have ih := sliceOffs_eq_slices flat (b :: tl)
    simp only [sliceOffs, sliceFrom, SortBuf.slices, SortBuf.slice] at ih ⊢
    rw [ih]

end PqModel.FileModel
