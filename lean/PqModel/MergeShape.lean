/-! # C09 — the row-group views the merge planner meets, what their `Rows()` deliver and what their
    column chunks hold

MIRROR of the three structural predicates the planner and `ConvertRowGroup` rely on:
`rowGroupInterleavesChunks` (merge.go:158-176), `rowGroupDropsRows` (merge_refine.go) and
`rowGroupReadsChunksInOrder` (multi_row_group.go:149-166), over the row-group types of merge.go,
multi_row_group.go, row_range.go and convert.go as an inductive tree (`Shape`).

SPEC side: two readings of such a tree. `chunks` — the rows obtained by reading its column chunks one
after the other, which is what page indexes, offset-index row positions and row-range views refer
to; `rows` — what `Rows()` delivers (a merged row group interleaves its members through the loser
tree, a deduplicating view drops rows, a row-range view reads the chunks of its base, a converted
view reads its source through the source's own `Rows()`). The loser-tree merge and the
deduplication enter as arbitrary functions `m` and `d`: nothing below depends on what they compute.

The theorems say when the two readings agree — exactly the hypothesis under which the planner may
take the first/last page for the bounds of a row group (`Refine.PagesOk`, MergeRefineProof.lean) and slice it by
row positions (`Refine.hasCuts`, MergeRefine.lean) — and carry witnesses for three defects: `segments` answering
"does not interleave", the conversion of a merged row group, the row-range view of a deduplicating view.

The last section is about a different input of the planner: the null count of the column index of a `Buffer`
(column_buffer.go:109), from which `Refine.PageStat.hasNulls` is read. -/
namespace PqModel.Shape

inductive Shape (α : Type) where
  /-- `*FileRowGroup`, `*Buffer`, `*GenericBuffer`: `Rows()` reads the column chunks in order -/
  | leaf (rows : List α)
  /-- `*emptyRowGroup` (a merge of no row groups): no chunks, no rows, no marker -/
  | empty
  /-- `*rowGroup` (row_group.go:155; the masked copy `ConvertRowGroup` makes of a source that reads its
      chunks in order): `Rows()` is `NewRowGroupRowReader`, but the type carries no marker -/
  | plain (rows : List α)
  /-- `*mergedRowGroup` (merge.go): loser-tree merge of the members, `drop` = `dropDuplicatedRows` -/
  | merged (drop : Bool) (ms : List (Shape α))
  /-- `*sortedSegmentRowGroup` (merge.go): the segments one after the other -/
  | segments (drop : Bool) (ss : List (Shape α))
  /-- `*multiRowGroup` (multi_row_group.go) -/
  | multi (ss : List (Shape α))
  /-- `*dedupRowGroup` (merge.go:456) -/
  | dedup (s : Shape α)
  /-- `*rowRangeRowGroup` (row_range.go:17): rows `[off, off+len)` of the chunks of the base -/
  | range (s : Shape α) (off len : Nat)
  /-- `*convertedRowGroup` (convert.go) -/
  | converted (s : Shape α)

variable {α : Type}

mutual
/-- merge.go:158-176 `rowGroupInterleavesChunks` -/
def interleaves : Shape α → Bool
  | .leaf _ => false
  | .empty => false
  | .plain _ => false
  | .merged _ _ => true
  | .segments _ ss => anyInterleaves ss
  | .multi ss => anyInterleaves ss
  | .dedup s => interleaves s
  | .range s _ _ => interleaves s
  | .converted s => interleaves s
/-- `slices.ContainsFunc(_, rowGroupInterleavesChunks)` -/
def anyInterleaves : List (Shape α) → Bool
  | [] => false
  | s :: ss => interleaves s || anyInterleaves ss
end

mutual
/-- merge_refine.go `rowGroupDropsRows` -/
def dropsRows : Shape α → Bool
  | .leaf _ => false
  | .empty => false
  | .plain _ => false
  | .merged drop _ => drop
  | .segments drop ss => drop || anyDropsRows ss
  | .multi ss => anyDropsRows ss
  | .dedup _ => true
  | .range s _ _ => dropsRows s
  | .converted s => dropsRows s
def anyDropsRows : List (Shape α) → Bool
  | [] => false
  | s :: ss => dropsRows s || anyDropsRows ss
end

mutual
/-- multi_row_group.go:149-166 `rowGroupReadsChunksInOrder`: the types that carry the
    `chunkTransparentRowGroup` marker (file row groups, buffers, row-range views) and multi row groups
    made of such -/
def readsChunksInOrder : Shape α → Bool
  | .leaf _ => true
  | .range _ _ _ => true
  | .multi ss => allReadChunksInOrder ss
  | .empty => false
  | .plain _ => false
  | .merged _ _ => false
  | .segments _ _ => false
  | .dedup _ => false
  | .converted _ => false
def allReadChunksInOrder : List (Shape α) → Bool
  | [] => true
  | s :: ss => readsChunksInOrder s && allReadChunksInOrder ss
end

/-- row_range.go:82-93 `supportsRowRanges`: `rowRangeOf` can present a range of the rows — the row
    group reads its column chunks in order (marker types, multi row groups of such, a plain
    `*rowGroup`), possibly seen through conversions -/
def supportsRowRanges : Shape α → Bool
  | .converted s => supportsRowRanges s
  | .plain _ => true
  | .leaf rows => readsChunksInOrder (.leaf rows : Shape α)
  | .empty => readsChunksInOrder (.empty : Shape α)
  | .merged drop ms => readsChunksInOrder (.merged drop ms)
  | .segments drop ss => readsChunksInOrder (.segments drop ss)
  | .multi ss => readsChunksInOrder (.multi ss)
  | .dedup s => readsChunksInOrder (.dedup s)
  | .range s off len => readsChunksInOrder (.range s off len)

/-- row_range.go:60-80 `rowRangeOf` (library fix 35e9777): the range of a converted view is taken below
    the conversion — the source is sliced and the slice converted -/
def rangeOf : Shape α → Nat → Nat → Shape α
  | .converted s, off, len => .converted (rangeOf s off len)
  | s, off, len => .range s off len

mutual
/-- the rows held by the column chunks, chunk after chunk (what `ColumnChunks()`, the page indexes
    and the offset indexes describe) -/
def chunks : Shape α → List α
  | .leaf rows => rows
  | .empty => []
  | .plain rows => rows
  | .merged _ ms => chunksL ms
  | .segments _ ss => chunksL ss
  | .multi ss => chunksL ss
  | .dedup s => chunks s
  | .range s off len => ((chunks s).drop off).take len
  | .converted s => chunks s
def chunksL : List (Shape α) → List α
  | [] => []
  | s :: ss => chunks s ++ chunksL ss
end

mutual
/-- what `Rows()` delivers. `m` = the loser-tree merge of the members' rows, `d` = deduplication, both
    arbitrary. `fixed = false` is `ConvertRowGroup` before 6a492b8: the source of a converted view was
    replaced by a plain row group over the source's column chunks. -/
def rows (fixed : Bool) (m : List (List α) → List α) (d : List α → List α) : Shape α → List α
  | .leaf rows => rows
  | .empty => []
  | .plain rows => rows
  | .merged drop ms => if drop then d (m (rowsL fixed m d ms)) else m (rowsL fixed m d ms)
  | .segments drop ss => if drop then d (rowsL fixed m d ss).flatten else (rowsL fixed m d ss).flatten
  | .multi ss => (rowsL fixed m d ss).flatten
  | .dedup s => d (rows fixed m d s)
  | .range s off len => ((chunks s).drop off).take len
  | .converted s => if fixed then rows fixed m d s else chunks s
def rowsL (fixed : Bool) (m : List (List α) → List α) (d : List α → List α) : List (Shape α) → List (List α)
  | [] => []
  | s :: ss => rows fixed m d s :: rowsL fixed m d ss
end

mutual
/-- a row group that neither interleaves its chunks nor drops rows delivers the rows of its column
    chunks, in their order — whatever the merge and the deduplication compute, however the views
    are nested. This is what `rowGroupInterleavesChunks` and `rowGroupDropsRows` have to answer for. -/
theorem rows_eq_chunks (m : List (List α) → List α) (d : List α → List α) :
    ∀ (s : Shape α), interleaves s = false → dropsRows s = false → rows true m d s = chunks s
  | .leaf _, _, _ => by simp [rows, chunks]
  | .empty, _, _ => by simp [rows, chunks]
  | .plain _, _, _ => by simp [rows, chunks]
  | .merged _ _, hi, _ => by simp [interleaves] at hi
  | .segments drop ss, hi, hd => by
    simp only [interleaves] at hi
    simp only [dropsRows, Bool.or_eq_false_iff] at hd
    simp only [rows, chunks, hd.1, Bool.false_eq_true, ↓reduceIte]
    exact rowsL_eq_chunksL m d ss hi hd.2
  | .multi ss, hi, hd => by
    simp only [interleaves] at hi
    simp only [dropsRows] at hd
    simp only [rows, chunks]
    exact rowsL_eq_chunksL m d ss hi hd
  | .dedup _, _, hd => by simp [dropsRows] at hd
  | .range _ _ _, _, _ => by simp [rows, chunks]
  | .converted s, hi, hd => by
    simp only [interleaves] at hi
    simp only [dropsRows] at hd
    simp only [rows, chunks, ↓reduceIte]
    exact rows_eq_chunks m d s hi hd
theorem rowsL_eq_chunksL (m : List (List α) → List α) (d : List α → List α) :
    ∀ (ss : List (Shape α)), anyInterleaves ss = false → anyDropsRows ss = false →
      (rowsL true m d ss).flatten = chunksL ss
  | [], _, _ => by simp [rowsL, chunksL]
  | s :: ss, hi, hd => by
    simp only [anyInterleaves, Bool.or_eq_false_iff] at hi
    simp only [anyDropsRows, Bool.or_eq_false_iff] at hd
    simp only [rowsL, chunksL, List.flatten_cons]
    rw [rows_eq_chunks m d s hi.1 hd.1, rowsL_eq_chunksL m d ss hi.2 hd.2]
end

/-- a row-range view of such a row group is the slice of its rows: the planner (merge_refine.go)
    may cut it at row positions taken from the offset index. -/
theorem range_is_slice_of_rows (m : List (List α) → List α) (d : List α → List α) (s : Shape α) (off len : Nat)
    (hi : interleaves s = false) (hd : dropsRows s = false) :
    rows true m d (.range s off len) = ((rows true m d s).drop off).take len := by
  rw [rows_eq_chunks m d s hi hd]
  simp [rows]

mutual
/-- `rowGroupReadsChunksInOrder` is sound for both versions of `ConvertRowGroup`: a row group it
    accepts delivers the rows of its chunks. (`ConvertRowGroup` masks the unused columns of exactly
    these sources; `multiRowGroup.Rows()` reads the concatenated chunks of exactly these members.) -/
theorem readsChunksInOrder_sound (fixed : Bool) (m : List (List α) → List α) (d : List α → List α) :
    ∀ (s : Shape α), readsChunksInOrder s = true → rows fixed m d s = chunks s
  | .leaf _, _ => by simp [rows, chunks]
  | .range _ _ _, _ => by simp [rows, chunks]
  | .multi ss, h => by
    simp only [readsChunksInOrder] at h
    simp only [rows, chunks]
    exact allReadChunksInOrder_sound fixed m d ss h
  | .empty, h => by simp [readsChunksInOrder] at h
  | .plain _, h => by simp [readsChunksInOrder] at h
  | .merged _ _, h => by simp [readsChunksInOrder] at h
  | .segments _ _, h => by simp [readsChunksInOrder] at h
  | .dedup _, h => by simp [readsChunksInOrder] at h
  | .converted _, h => by simp [readsChunksInOrder] at h
theorem allReadChunksInOrder_sound (fixed : Bool) (m : List (List α) → List α) (d : List α → List α) :
    ∀ (ss : List (Shape α)), allReadChunksInOrder ss = true → (rowsL fixed m d ss).flatten = chunksL ss
  | [], _ => by simp [rowsL, chunksL]
  | s :: ss, h => by
    simp only [allReadChunksInOrder, Bool.and_eq_true] at h
    simp only [rowsL, chunksL, List.flatten_cons]
    rw [readsChunksInOrder_sound fixed m d s h.1, allReadChunksInOrder_sound fixed m d ss h.2]
end

/-- the range `rowRangeOf` presents of a row group that `supportsRowRanges` accepts is the slice of
    its rows, through any number of conversions (the merge planner only cuts such row groups) -/
theorem supported_range_is_slice_of_rows (m : List (List α) → List α) (d : List α → List α) (off len : Nat) :
    ∀ (s : Shape α), supportsRowRanges s = true →
      rows true m d (rangeOf s off len) = ((rows true m d s).drop off).take len
  | .converted s, h => by
    simp only [supportsRowRanges] at h
    simp only [rangeOf, rows, ↓reduceIte]
    exact supported_range_is_slice_of_rows m d off len s h
  | .plain _, _ => by simp [rangeOf, rows, chunks]
  | .leaf _, _ => by simp [rangeOf, rows, chunks]
  | .empty, h => by simp [supportsRowRanges, readsChunksInOrder] at h
  | .merged _ _, h => by simp [supportsRowRanges, readsChunksInOrder] at h
  | .segments _ _, h => by simp [supportsRowRanges, readsChunksInOrder] at h
  | .dedup _, h => by simp [supportsRowRanges, readsChunksInOrder] at h
  | .multi ss, h => by
    simp only [supportsRowRanges] at h
    simp only [rangeOf]
    rw [readsChunksInOrder_sound true m d (.multi ss) h]
    simp [rows]
  | .range s o l, h => by
    simp only [rangeOf]
    simp [rows, chunks]

/-- `rangeOf` never wraps a conversion: the range goes below it (the defining equation) -/
theorem rangeOf_converted (s : Shape α) (off len : Nat) :
    rangeOf (.converted s) off len = .converted (rangeOf s off len) := rfl

/-- a sequence of segments is not sliced even when it neither interleaves nor drops rows: its `Rows()`
    concatenates the segments' own `Rows()`, the type carries no marker -/
theorem segments_do_not_support_row_ranges (drop : Bool) (ss : List (Shape α)) :
    supportsRowRanges (.segments drop ss) = false := by
  simp [supportsRowRanges, readsChunksInOrder]

/-- conversion commutes with `Rows()` (after 6a492b8): a converted view delivers the rows of its
    source, so a converted merge is still the merge. Before the fix it delivered the chunks. -/
theorem converted_rows (m : List (List α) → List α) (d : List α → List α) (s : Shape α) :
    rows true m d (.converted s) = rows true m d s ∧ rows false m d (.converted s) = chunks s := by
  simp [rows]

/-- a merge of sorted lists of numbers, for the witnesses: insertion of every row into the output -/
def insertNat (x : Nat) : List Nat → List Nat
  | [] => [x]
  | y :: ys => if x ≤ y then x :: y :: ys else y :: insertNat x ys

def mergeNat (ls : List (List Nat)) : List Nat := ls.flatten.foldl (fun acc x => insertNat x acc) []

/-- adjacent duplicates dropped -/
def dedupNat : List Nat → List Nat
  | [] => []
  | [x] => [x]
  | x :: y :: rest => if x = y then dedupNat (y :: rest) else x :: dedupNat (y :: rest)

/-- seed C09-4b: a sequence of segments one of which is a loser-tree merge delivers rows that are not
    in the order of its chunks, and the mirror says so (`interleaves = true`); the seeded variant
    answers `false` for every `segments`, contradicting `rows_eq_chunks`. -/
theorem segments_with_a_merged_segment_interleave :
    let s : Shape Nat := .segments false [.leaf [1, 2], .merged false [.leaf [10, 20], .leaf [15, 16]]]
    interleaves s = true ∧ dropsRows s = false ∧
    rows true mergeNat dedupNat s = [1, 2, 10, 15, 16, 20] ∧ chunks s = [1, 2, 10, 20, 15, 16] := by
  decide

/-- the conversion of a merged row group before 6a492b8: `Merge(evens, odds)` read through
    `ConvertRowGroup` came out as the evens followed by the odds -/
theorem converted_merge_before_fix_is_not_the_merge :
    let s : Shape Nat := .converted (.merged false [.leaf [0, 2, 4], .leaf [1, 3, 5]])
    rows false mergeNat dedupNat s = [0, 2, 4, 1, 3, 5] ∧ rows true mergeNat dedupNat s = [0, 1, 2, 3, 4, 5] ∧
    -- and the planner did not see that the converted view interleaves: its source had been replaced
    -- by a plain row group (a `leaf` over the chunks)
    interleaves (.converted (.leaf (chunks s)) : Shape Nat) = false ∧ interleaves s = true := by
  decide

/-- a row-range view of a deduplicating view brings the dropped rows back: the view of
    `[1,1,2,2,3,3]` delivers `[1,2,3]`, its first two rows are `[1,2]`, the range view `[0,2)` reads
    `[1,1]`. `rowGroupDropsRows` keeps the planner from slicing such a row group. -/
theorem range_of_dedup_view_brings_rows_back :
    let s : Shape Nat := .dedup (.leaf [1, 1, 2, 2, 3, 3])
    rows true mergeNat dedupNat s = [1, 2, 3] ∧
    rows true mergeNat dedupNat (.range s 0 2) = [1, 1] ∧
    ((rows true mergeNat dedupNat s).drop 0).take 2 = [1, 2] ∧
    dropsRows s = true ∧ interleaves s = false := by
  decide

example : let s : Shape Nat := .converted (.segments false [.leaf [1, 2], .range (.leaf [3, 4, 5, 6]) 1 2])
    interleaves s = false ∧ dropsRows s = false ∧ rows true mergeNat dedupNat s = [1, 2, 4, 5] := by
  decide

/-! ## the null count of an in-memory column index (column_buffer.go:109)

The planner reads `hasNulls` of a page (`PageStat`) from `ColumnIndex.NullCount`; for a `Buffer` the
index is computed from the definition levels. MIRROR `nullCount`; SPEC: a value is null iff its
definition level is below the maximum of its column (a null leaf of a present optional group has a
level that is neither 0 nor the maximum). -/

/-- column_buffer.go:109-111 `nullableColumnIndex.NullCount`: `countLevelsNotEqual(levels, max)` -/
def nullCount (maxDef : Nat) (defs : List Nat) : Nat := defs.countP (fun d => d != maxDef)

/-- the variant of seed C09-4a: `countLevelsEqual(levels, 0)` -/
def nullCountSeeded (defs : List Nat) : Nat := defs.countP (fun d => d == 0)

/-- the page "has nulls" exactly when some value is null, for any maximum definition level -/
theorem nullCount_pos_iff (maxDef : Nat) (defs : List Nat) :
    0 < nullCount maxDef defs ↔ ∃ d ∈ defs, d ≠ maxDef := by
  unfold nullCount
  rw [List.countP_pos_iff]
  constructor
  · rintro ⟨d, hd, h⟩
    exact ⟨d, hd, by simpa using h⟩
  · rintro ⟨d, hd, h⟩
    exact ⟨d, hd, by simpa using h⟩

/-- for a flat optional column (maximum level 1) the two counts coincide, which is why the seeded
    change passes every test on flat columns -/
theorem nullCountSeeded_eq_flat (defs : List Nat) (h : ∀ d ∈ defs, d ≤ 1) :
    nullCountSeeded defs = nullCount 1 defs := by
  unfold nullCountSeeded nullCount
  apply List.countP_congr
  intro d hd
  have := h d hd
  constructor <;> intro h' <;> simp at h' ⊢ <;> omega

/-- a key nested in an optional group (maximum level 2): the null leaf of a present group (level 1)
    is a null that the seeded count does not see -/
theorem nullCountSeeded_misses_null_leaf : nullCount 2 [2, 1, 2] = 1 ∧ nullCountSeeded [2, 1, 2] = 0 := by decide

end PqModel.Shape
