/-! # C12 — a converted row group keeps every source column its conversion reads

`ConvertRowGroup(...).Rows()` reads the rows of the source row group through a copy in which the
source columns the conversion does not need are MASKED (replaced by a stand-in chunk yielding one
placeholder per row), then converts them. For a column the target ADDS `Convert` stores as
source index the closest leaf sibling of the source group (its levels are the template of the
added column), so that sibling is read although no target column of that path exists: when the
target also drops it, only the un-masking loop `columns[conv.Column(i)] = rowGroupColumns[...]`
keeps it readable.

`unmasked`, `reads` are MIRRORS (convert.go:761-809 `maskMissingRowGroupColumns`, the loop over
the target columns; convert.go `conversion.Convert`, the loop over `c.columns` reading
`sourceIndex`); `readMasked` mirrors what the masked copy serves. A target column is the pair
`(conv.Column(i), the column's path is missing in the source)`. The flag `skipAdded` is the slip
of seed C12-6a ("added columns have no pages to load"). -/
namespace PqModel.Props.C12AddDrop

/-- one target column: `conv.Column(i)` (`none` = -1) and whether its path is missing in the source -/
abbrev TCol := Option Nat × Bool

/-- MIRROR convert.go:786-791: the source columns left un-masked. -/
def unmasked (skipAdded : Bool) (cols : List TCol) : List Nat :=
  cols.filterMap (fun c => if skipAdded && c.2 then none else c.1)

/-- MIRROR `conversion.Convert`: the source columns whose values and levels the conversion reads. -/
def reads (cols : List TCol) : List Nat :=
  cols.filterMap (·.1)

/-- MIRROR of the masked row group: column `j` as served to the conversion. -/
def readMasked {α : Type} (keep : List Nat) (placeholder : Nat → α) (src : Nat → α) (j : Nat) : α :=
  if j ∈ keep then src j else placeholder j

/-- Every source column the conversion reads is un-masked — added columns included. -/
theorem mask_keeps_every_column_read (cols : List TCol) (j : Nat) (h : j ∈ reads cols) :
    j ∈ unmasked false cols := by
  simpa [reads, unmasked] using h

/-- Hence converting through the masked copy is converting the source rows: for every function of
    the source columns that depends on the columns read only (what `conversion.Convert` is), every
    placeholder content and every source. -/
theorem masked_conversion_is_conversion {α β : Type} (cols : List TCol)
    (conv : (Nat → α) → β)
    (hconv : ∀ s s' : Nat → α, (∀ j, j ∈ reads cols → s j = s' j) → conv s = conv s')
    (placeholder src : Nat → α) :
    conv (readMasked (unmasked false cols) placeholder src) = conv src := by
  apply hconv
  intro j hj
  simp [readMasked, mask_keeps_every_column_read cols j hj]

/-- non-vacuity: source columns a(0), b(1); the target keeps b and adds x next to them (template:
    a), and drops a. The conversion "list the columns read" depends on the columns read only. -/
example :
    let cols : List TCol := [(some 1, false), (some 0, true)]
    (∀ s s' : Nat → Nat, (∀ j, j ∈ reads cols → s j = s' j) →
      (reads cols).map s = (reads cols).map s') ∧ reads cols = [1, 0] ∧ unmasked false cols = [1, 0] := by
  refine ⟨?_, by decide, by decide⟩
  intro s s' h
  exact List.map_congr_left (fun j hj => h j hj)

/-- The slip of seed C12-6a (skip the un-masking for columns the target adds): with a target that
    adds a column and drops its template sibling the conversion reads a masked column — it sees the
    placeholder (one null per row) instead of the sibling's levels. -/
theorem skip_added_masks_the_template_sibling :
    let cols : List TCol := [(some 1, false), (some 0, true)]
    0 ∈ reads cols ∧ 0 ∉ unmasked true cols ∧
      readMasked (unmasked true cols) (fun _ => 0) (fun j => j + 7) 0 ≠ (fun j => j + 7) 0 := by
  decide

/-- Add-only targets do not show the slip (the template is selected by the target as well): why
    "source + new field" tests never see it. -/
theorem skip_added_unseen_without_drop :
    let cols : List TCol := [(some 0, false), (some 1, false), (some 0, true)]
    ∀ j, j ∈ reads cols → j ∈ unmasked true cols := by
  decide

end PqModel.Props.C12AddDrop
