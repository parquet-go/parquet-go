import PqModel.PageValues
import PqModel.PageSliceBool
import PqModel.PageSliceBytes

/-! # C08 — `Page.Slice` of optional and repeated pages with their values, and the
`ReadValues` loops that read them back

`FilePages.ReadPage` answers a seek into a page with `page.Slice(skip, numRows)`; the row reader then
reads the slice with `Values().ReadValues`. Both are mirrored from `page_optional.go` /
`page_repeated.go` (`PqModel/PageSlice.lean`, `PqModel/PageValues.lean`). A page is the `encode` of a
stream of (repetition level, definition level, value-or-null) triples; nothing restricts the
definition levels, so the nested case (optional leaf below a repeated group, null or empty lists) is
included; a repeated page may begin inside a row (`frag`). -/
namespace PqModel.Props.C08
open PqModel.Seek PqModel.PageSlice

/-- **optional_slice_rows.** `optionalPage.Slice(i, j)` — definition levels and the base page cut
    with the null-count arithmetic `i - numNulls1`, `j - (numNulls1 + numNulls2)` — is the page of
    rows `i..j-1`, for every stream of nulls and values and every `i ≤ j ≤ NumRows`. -/
theorem optional_slice_rows (md : Nat) (s : List Triple) (h : ∀ t ∈ s, TripleWF md t) (i j : Nat)
    (hij : i ≤ j) (hj : j ≤ s.length) :
    sliceOptionalPg md (encodeOpt s) i j = encodeOpt ((s.drop i).take (j - i))  := by
  unfold sliceOptionalPg
  simp only [encodeOpt]
  have hb := null_bounds md (s.map (·.2.1)) i j hij (by simpa using hj)
  have hbase := base_slice_encode md s h i j hij
  unfold cntDef at hbase
  simp only [Prod.mk.injEq] at hb
  rw [hb.1, hb.2, hbase]
  simp [List.map_take, List.map_drop]

example : sliceOptionalPg 1 (encodeOpt [(0, 1, some 7), (0, 0, none), (0, 1, some 8), (0, 1, some 9), (0, 0, none)]) 1 4
    = encodeOpt [(0, 0, none), (0, 1, some 8), (0, 1, some 9)] := by decide

/-- **repeated_slice_rows.** `repeatedPage.Slice(i, j)` — the two scans for the `i`-th and `j`-th
    level 0, the null counts in front of them, the base page cut between the resulting value
    indexes — is the page of rows `i..j-1`: repetition levels, definition levels and stored values.
    For every page: it may begin with the tail `frag` of a row begun on the previous page (dropped
    by every slice: rows are counted from the first level 0), nulls may sit at any definition level
    below the maximum, `i ≤ j ≤ NumRows`. -/
theorem repeated_slice_rows (md : Nat) (frag : List Triple) (rows : List (List Triple))
    (hf : ∀ t ∈ frag, t.1 ≠ 0) (hr : ∀ r ∈ rows, RowT r)
    (hw : ∀ t ∈ frag ++ rows.flatten, TripleWF md t) (i j : Nat) (hij : i ≤ j) (hj : j ≤ rows.length) :
    sliceRepeatedPg md (encode (frag ++ rows.flatten)) i j = encode ((rows.drop i).take (j - i)).flatten  := by
  have hf' : ∀ x ∈ frag.map (·.1), x ≠ 0 := by
    intro x hx
    obtain ⟨t, ht, rfl⟩ := List.mem_map.mp hx
    exact hf t ht
  have hr' : ∀ r ∈ rows.map (List.map (·.1)), RowWF r := by
    intro r hx
    obtain ⟨t, ht, rfl⟩ := List.mem_map.mp hx
    exact hr t ht
  -- row `n` starts behind the fragment and the first `n` rows
  have hstart : ∀ n, PqModel.SeekUnaligned.nthZero ((frag ++ rows.flatten).map (·.1)) n = frag.length + (rows.take n).flatten.length := by
    intro n
    rw [List.map_append, List.map_flatten, frag_rows_starts _ hf' _ hr', List.length_map, ← List.map_take,
      ← List.map_flatten, List.length_map]
  rw [slice_repeated_slots md _ hw i j hij, hstart, hstart, stream_rows_slice frag rows i j hij]

/-- a page beginning inside a row, an empty list (def 0), a null element (def 1), maxDef 2 -/
example : sliceRepeatedPg 2 (encode ([(1, 2, some 5)] ++
      [[(0, 2, some 6), (1, 1, none)], [(0, 0, none)], [(0, 2, some 7), (1, 2, some 8)]].flatten)) 1 3
    = encode [(0, 0, none), (0, 2, some 7), (1, 2, some 8)] := by decide

/-- **page_stream_shape.** The hypotheses of `repeated_slice_rows` lose nothing: every stream is a
    fragment without level 0 followed by rows. -/
theorem page_stream_shape (s : List Triple) :
    ∃ (frag : List Triple) (rows : List (List Triple)),
      s = frag ++ rows.flatten ∧ (∀ t ∈ frag, t.1 ≠ 0) ∧ (∀ r ∈ rows, RowT r)  := by
  obtain ⟨h1, h2, h3⟩ := splitRows_spec (fun t : Triple => t.1) s
  refine ⟨_, _, h1, h2, ?_⟩
  intro r hr
  obtain ⟨x, t, rfl, hx, ht⟩ := h3 r hr
  refine ⟨t.map (·.1), by simp [hx], ?_⟩
  intro y hy
  obtain ⟨u, hu, rfl⟩ := List.mem_map.mp hy
  exact ht u hu

/-- **page_is_encode.** Nor do they lose a page: every page whose three arrays have consistent lengths (as many
    definition as repetition levels, as many stored values as slots at the maximum definition
    level) is the `encode` of the stream its reader delivers. -/
theorem page_is_encode (md : Nat) (rep dfn base : List Nat) (hl : dfn.length = rep.length)
    (hb : base.length = cntDef md dfn) :
    encode (weave md (rep.zip dfn) base) = ⟨rep, dfn, base⟩ ∧
      ∀ t ∈ weave md (rep.zip dfn) base, TripleWF md t :=
  encode_weave md rep dfn base hl hb

/-- **page_read_values.** One `ReadValues` call on an optional or repeated page, for any buffer
    length `room` and any short reads `caps` of the base page's reader: it terminates, delivers the
    next piece of the stream, reports `io.EOF` only when nothing is left and otherwise fills the
    buffer. -/
theorem page_read_values (md room : Nat) (st : RV) (caps : List Nat) :
    ∃ out st' caps' eof, readValues md room st caps = some (out, st', caps', eof) ∧
      out ++ weave md st'.lv st'.base = weave md st.lv st.base ∧
      (eof = true → weave md st'.lv st'.base = []) ∧
      out.length ≤ room ∧ (eof = false → out.length = room) :=
  readValues_spec md room st caps

example : readValues 2 3 ⟨[(0, 2), (1, 1), (0, 0), (0, 2)], [6, 7]⟩ [1] =
    some ([(0, 2, some 6), (1, 1, none), (0, 0, none)], ⟨[(0, 2)], [7]⟩, [], false) := by decide

/-- **page_read_all.** Calling `ReadValues` with buffers of any sizes that add up to more than the
    number of slots reaches `io.EOF` having read exactly the stream of the page. -/
theorem page_read_all (md : Nat) (szs : List Nat) (st : RV) (caps : List Nat)
    (hs : st.lv.length < szs.sum) :
    readAll md szs st caps [] = some (weave md st.lv st.base, true)  := by
  obtain ⟨res, eof, h, h1, h2⟩ := readAll_spec md szs st caps []
  cases eof with
  | true => rw [h, h1 rfl, List.nil_append]
  | false =>
    obtain ⟨l, rest, hr⟩ := h2 rfl
    have hw := weave_length_le md st.lv st.base
    have : res.length ≤ (weave md st.lv st.base).length := by
      have := congrArg List.length hr
      simp only [List.length_append, List.length_nil] at this
      omega
    simp only [List.length_nil] at l
    omega

/-- **repeated_slice_read.** Seeking inside a page, end to end at the value level: reading
    `Slice(i, j)` of a repeated page to `io.EOF`, with any buffer sizes and any short reads below,
    delivers the triples of rows `i..j-1` and nothing else. -/
theorem repeated_slice_read (md : Nat) (frag : List Triple) (rows : List (List Triple))
    (hf : ∀ t ∈ frag, t.1 ≠ 0) (hr : ∀ r ∈ rows, RowT r)
    (hw : ∀ t ∈ frag ++ rows.flatten, TripleWF md t) (i j : Nat) (hij : i ≤ j) (hj : j ≤ rows.length)
    (szs caps : List Nat) (hs : ((rows.drop i).take (j - i)).flatten.length < szs.sum) :
    let p := sliceRepeatedPg md (encode (frag ++ rows.flatten)) i j
    readAll md szs ⟨levelsOf p, p.base⟩ caps [] = some (((rows.drop i).take (j - i)).flatten, true) := by
  intro p
  have hp : p = encode ((rows.drop i).take (j - i)).flatten :=
    repeated_slice_rows md frag rows hf hr hw i j hij hj
  have hw' : ∀ t ∈ ((rows.drop i).take (j - i)).flatten, TripleWF md t := by
    intro t ht
    apply hw t
    obtain ⟨r, hr1, hr2⟩ := List.mem_flatten.mp ht
    have hr3 : r ∈ rows := List.mem_of_mem_drop (List.mem_of_mem_take hr1)
    exact List.mem_append_right _ (List.mem_flatten.mpr ⟨r, hr3, hr2⟩)
  have hlen : (levelsOf (encode ((rows.drop i).take (j - i)).flatten)).length < szs.sum := by
    simp only [levelsOf, encode, List.length_zip, List.length_map, Nat.min_self]
    exact hs
  rw [hp, page_read_all md szs _ caps hlen]
  simp only [weave_encode md _ hw']

/-- **optional_slice_read.** The same for an optional page: the values read from `Slice(i, j)` are
    rows `i..j-1` (repetition level 0 on every value). -/
theorem optional_slice_read (md : Nat) (s : List Triple) (h : ∀ t ∈ s, TripleWF md t) (i j : Nat)
    (hij : i ≤ j) (hj : j ≤ s.length) (szs caps : List Nat) (hs : j - i < szs.sum) :
    let p := sliceOptionalPg md (encodeOpt s) i j
    readAll md szs ⟨levelsOfOpt p, p.base⟩ caps [] =
      some (((s.drop i).take (j - i)).map (fun t => (0, t.2)), true) := by
  intro p
  have hp : p = encodeOpt ((s.drop i).take (j - i)) := optional_slice_rows md s h i j hij hj
  have hw' : ∀ t ∈ (s.drop i).take (j - i), TripleWF md t :=
    fun t ht => h t (List.mem_of_mem_drop (List.mem_of_mem_take ht))
  have hlen : (levelsOfOpt (encodeOpt ((s.drop i).take (j - i)))).length < szs.sum := by
    simp only [levelsOfOpt, encodeOpt, List.length_map, List.length_take, List.length_drop]
    omega
  rw [hp, page_read_all md szs _ caps hlen]
  simp only [weave_encodeOpt md _ hw']

example : readAll 1 [2, 1, 5] ⟨levelsOfOpt (sliceOptionalPg 1 (encodeOpt [(0, 1, some 7), (0, 0, none), (0, 1, some 8)]) 1 3),
      (sliceOptionalPg 1 (encodeOpt [(0, 1, some 7), (0, 0, none), (0, 1, some 8)]) 1 3).base⟩ [] []
    = some ([(0, 0, none), (0, 1, some 8)], true) := by decide

/-- outside the domain the slice is not "rows i..j-1": a page whose base holds fewer values than
    its definition levels announce (a damaged page) reads short — the reader stops with `io.EOF`
    at the first value it cannot get (`j == 0 && err == io.EOF`), it does not invent values -/
example : readAll 1 [8] ⟨[(0, 1), (0, 0), (0, 1), (0, 0)], [7]⟩ [] [] = some ([(0, 1, some 7), (0, 0, none)], true) := by
  decide

/-- **boolean_slice_values.** The base page of a boolean column slices without moving bits (shared
    bytes from `(i + offset) / 8`, new bit offset `(i + offset) % 8`): the values of `Slice(i, j)`
    are values `i..j-1`, for every page, every bit offset (slices of slices) and `i ≤ j ≤ NumValues`.
    This is `baseSlice` of the theorems above for a boolean base. -/
theorem boolean_slice_values (p : BoolPg) (i j : Nat) (hij : i ≤ j) (hj : j ≤ p.numValues) :
    boolValues (sliceBool p i j) = baseSlice (boolValues p) i j  := by
  unfold boolValues baseSlice
  rw [range_map_slice _ _ i j hij hj]
  exact List.map_congr_left fun k hk => valueAt_slice p i j k (List.mem_range.mp hk)

/-- **boolean_slice_wf.** The sliced page's bytes cover its values and its offset is below 8. -/
theorem boolean_slice_wf (p : BoolPg) (h : p.WF) (i j : Nat) (hij : i ≤ j) (hj : j ≤ p.numValues) :
    (sliceBool p i j).WF ∧ (sliceBool p i j).offset < 8  := by
  unfold BoolPg.WF at *
  unfold sliceBool
  simp only [List.length_take, List.length_drop]
  refine ⟨?_, Nat.mod_lt _ (by decide)⟩
  have he := le_mul_byteEnd (j + p.offset)
  have hL := Nat.div_add_mod (i + p.offset) 8
  generalize (if (j + p.offset) % 8 ≠ 0 then (j + p.offset) / 8 + 1 else (j + p.offset) / 8) = e at he ⊢
  omega

example : boolValues (sliceBool (sliceBool ⟨[1, 3], 0, 10⟩ 1 10) 6 9) = [0, 1, 1] := by decide
example : (⟨[1, 3], 0, 10⟩ : BoolPg).WF := by unfold BoolPg.WF; decide

/-- **boolean_slice_data_unaligned** (witness; observation, reproduced on the real page): `Data()` of
    a boolean page sliced at a value that is not a multiple of 8 is not the bit-packing of its
    values — it is the parent's bytes, its first bit is the parent's value `i - i % 8`. `Values()`
    is right (`boolean_slice_values`), and the library never encodes `Data()` of a sliced page
    (the writer encodes column buffer pages, whose offset is 0). -/
theorem boolean_slice_data_unaligned :
    dataBits (sliceBool ⟨[1], 0, 8⟩ 1 8) ≠ packBits 1 (boolValues (sliceBool ⟨[1], 0, 8⟩ 1 8)) := by decide

/-- **bytearray_slice_values.** A BYTE_ARRAY base page slices by keeping offsets `i..j` (one more than
    values) over the shared bytes: the values of `Slice(i, j)` are values `i..j-1`, for every page
    (also one that is itself a slice: first offset not 0) and `i ≤ j ≤ NumValues`. -/
theorem bytearray_slice_values (p : BaPg) (i j : Nat) (hij : i ≤ j) (hj : j ≤ baLen p)
    (hne : p.offsets ≠ []) :
    baValues (sliceBa p i j) = ((baValues p).drop i).take (j - i)  := by
  unfold baValues
  rw [range_map_slice _ _ i j hij hj, baLen_slice p i j hij hj hne]
  exact List.map_congr_left fun k hk => baIndex_slice p i j k (List.mem_range.mp hk)

example : baValues (sliceBa ⟨[1, 2, 3, 4, 5, 6], [0, 1, 1, 4, 6]⟩ 1 3) = [[], [2, 3, 4]] := by decide

end PqModel.Props.C08
