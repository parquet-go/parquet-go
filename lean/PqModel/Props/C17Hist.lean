import PqModel.ResetHistBridge

/-! # C17 — level histograms / size statistics: the bytes after `Reset` depend on the new pages only

`Props/C17.lean` proves that `Reset` returns the writer's FIELDS to a fresh writer's. Here the step from
fields to bytes is proved for the statistics that are accumulated in slices whose backing arrays survive
the reset (`pageRepetitionLevelHistograms`, `pageDefinitionLevelHistograms`: `s = s[:0]`) and in arrays
cleared in place (`repetitionLevelHistogram`, `definitionLevelHistogram`), plus the scalar
`totalUnencodedByteArrayBytes`: what `writeRowGroup` emits into `SizeStatistics` and into the
`ColumnIndex` level histograms is the SPEC's (C05 `LevelStats.chunkHists`) function of the pages
recorded since the last reset — for every earlier history, every content of the spare capacity, every
choice the runtime makes when a slice has to grow.

Mirror = `ResetHist.step true` (the library as it stands, tied to the code by the L2 sub-check `hist`:
`accumulateAndAppendPageLevelHistogram` on dirty slices, `(*ColumnWriter).reset` on the real writer);
`ResetHist.step false` = the same code without the `clear(...)` of the re-extended region, refuted. -/

namespace PqModel.Props.C17Hist
open PqModel.ResetHist PqModel.LevelStats

/-- A column writer that lived through ANY history of recorded pages and resets
(`Writer.Reset`, the per-row-group `rg.reset()`), then is reset and records `pages`, emits exactly the
spec's statistics of `pages`. -/
theorem stats_after_reset (maxRep maxDef : Nat) (history : List Op) (pages : List PageIn) :
    emit (run true (step true (run true (ColStats.fresh maxRep maxDef) history) .reset) (pages.map Op.page)) =
      specEmit maxRep maxDef pages :=
  emit_clean maxRep maxDef _
    (reset_makes_clean true maxRep maxDef _ (run_ok true maxRep maxDef history _ (fresh_ok maxRep maxDef))) pages

theorem stats_fresh (maxRep maxDef : Nat) (pages : List PageIn) :
    emit (run true (ColStats.fresh maxRep maxDef) (pages.map Op.page)) = specEmit maxRep maxDef pages :=
  emit_clean maxRep maxDef _ (fresh_clean maxRep maxDef) pages

/-- Reused and fresh writers emit the same statistics for the same pages, also
when the runtime grows their slices differently (`extraRep` / `extraDef` of the two runs are unrelated). -/
theorem hist_reset_equiv (maxRep maxDef : Nat) (history : List Op) (pages pages' : List PageIn)
    (hsame : pages.map (fun p => (p.rep, p.dfn, p.bytes)) = pages'.map (fun p => (p.rep, p.dfn, p.bytes))) :
    emit (run true (step true (run true (ColStats.fresh maxRep maxDef) history) .reset) (pages.map Op.page)) =
      emit (run true (ColStats.fresh maxRep maxDef) (pages'.map Op.page)) := by
  rw [stats_after_reset, stats_fresh]
  have h1 : pages.map (·.rep) = pages'.map (·.rep) := by
    have := congrArg (List.map (fun t : List Nat × List Nat × Nat => t.1)) hsame
    simpa [List.map_map, Function.comp_def] using this
  have h2 : pages.map (·.dfn) = pages'.map (·.dfn) := by
    have := congrArg (List.map (fun t : List Nat × List Nat × Nat => t.2.1)) hsame
    simpa [List.map_map, Function.comp_def] using this
  have h3 : pages.map (·.bytes) = pages'.map (·.bytes) := by
    have := congrArg (List.map (fun t : List Nat × List Nat × Nat => t.2.2)) hsame
    simpa [List.map_map, Function.comp_def] using this
  simp only [specEmit, h1, h2, h3]

/-- a run of `stats_after_reset`: an optional list column
(max repetition level 1, max definition level 2), a first file of two pages, a Reset, one page -/
example :
    emit (run true (step true (run true (ColStats.fresh 1 2)
        [.page ⟨[0, 1, 1], [2, 2, 1], 7, 3, 0⟩, .page ⟨[0, 0], [0, 2], 1, 0, 5⟩, .reset, .page ⟨[0], [1], 0, 0, 0⟩]) .reset)
        [.page ⟨[0, 1, 0], [2, 2, 0], 4, 0, 0⟩]) =
      { sizeUnencoded := 4, sizeRep := some [2, 1], sizeDef := some [1, 0, 2],
        indexRep := some [2, 1], indexDef := some [1, 0, 2] } := by decide +kernel

/-- The histogram fields of the field-level model (`Reset.lean`: `levelHist`,
`pageLevelHists`, `totalUnencoded`) are the live parts of this model's state (`Refines`), and the column
reset of `Reset.lean` (repaired or not) acts on those fields as this model's reset does (a fresh column
refines a fresh state: `refines_fresh`) — so `reset_equiv` (Props/C17: the fields after Reset
are a fresh writer's) and `stats_after_reset` (the bytes computed from such fields) compose. -/
theorem reset_models_agree (clr : Bool) (c : PqModel.Reset.Col) (s : ColStats) (h : Refines c.vol s) :
    Refines (PqModel.Reset.colResetFixed c).vol (step clr s .reset) ∧
    Refines (PqModel.Reset.colResetAsIs c).vol (step clr s .reset) := by
  obtain ⟨h1, _, _⟩ := h
  have key : Refines (PqModel.Reset.colResetAsIs c).vol (step clr s .reset) := by
    refine ⟨?_, ?_, rfl⟩
    · simp only [PqModel.Reset.colResetAsIs, step, optCol_reset, h1, List.map_append]
    · simp only [PqModel.Reset.colResetAsIs, step, optLive_reset, List.append_nil]
  exact ⟨(refines_resetFixed_iff c _).2 key, key⟩

example : Refines (PqModel.Reset.ColVol.fresh ⟨⟨0, 1⟩, ⟨0, 1⟩, ⟨0, 1⟩, ⟨0, 1⟩, 2, 0, 2, 0, 5⟩) (ColStats.fresh 1 2) :=
  refines_fresh _ 1 2 (by decide)

/-- the per-page block written by the clearing append is the spec's histogram of the page whatever the
slice's spare capacity holds (the function-level statement the L2 sub-check `hist` ties to the code) -/
theorem append_ignores_spare (col : List Nat) (ph : CapSlice) (levels : List Nat) (maxLevel extra : Nat) :
    (appendPage true col ph levels maxLevel extra).2.live = ph.live ++ pageHist maxLevel levels ∧
    (appendPage true col ph levels maxLevel extra).1 = accumulate col levels :=
  ⟨appendPage_live col ph levels maxLevel extra, rfl⟩

example : (appendPage true [5, 5] ⟨[1, 2], [9, 9, 9]⟩ [0, 1, 1] 1 0).2.live = [1, 2, 1, 2] := by decide +kernel

/-! ### without the `clear` the property fails -/

/-- an optional column (max definition level 1): one page, the row group ends (`rg.reset()`), the same
page again: the second row group's ColumnIndex histogram is the SUM of both -/
theorem noClear_second_row_group_sums :
    (emit (run false (ColStats.fresh 0 1) [.page ⟨[], [0, 1, 1], 0, 0, 0⟩, .reset, .page ⟨[], [0, 1, 1], 0, 0, 0⟩])).indexDef
      = some [2, 4] ∧
    (specEmit 0 1 [⟨[], [0, 1, 1], 0, 0, 0⟩]).indexDef = some [1, 2] := by decide +kernel

theorem stats_after_reset_noClear_false :
    ¬ ∀ (maxRep maxDef : Nat) (history : List Op) (pages : List PageIn),
      emit (run false (step false (run false (ColStats.fresh maxRep maxDef) history) .reset) (pages.map Op.page)) =
        specEmit maxRep maxDef pages := by
  intro h
  have := h 0 1 [.page ⟨[], [0, 1, 1], 0, 0, 0⟩] [⟨[], [0, 1, 1], 0, 0, 0⟩]
  revert this
  decide +kernel

/-- ... while a FRESH writer is right even without the `clear` when its slices only ever grow into
zeroed memory: the defect needs a reused column writer (why single-row-group tests pass); a witness. -/
example :
    emit (run false (ColStats.fresh 0 1) [.page ⟨[], [0, 1, 1], 0, 0, 0⟩, .page ⟨[], [1], 0, 0, 0⟩]) =
      specEmit 0 1 [⟨[], [0, 1, 1], 0, 0, 0⟩, ⟨[], [1], 0, 0, 0⟩] := by decide +kernel

end PqModel.Props.C17Hist
