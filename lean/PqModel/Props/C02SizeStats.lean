import PqModel.Spec.SizeStats

/-! # C02 — statistics that are functions of the decoded data

    The theorems tie the number the spec reader (`Spec/SizeStats.lean`) compares the footer with to the Dremel stream
    `file.dump` returns (the `(value, rep, def)` entries the harness compares with the rows written), and the mirror
    of the writer's dictionary branch to the spec definition. -/
namespace PqModel.Props.C02SizeStats
open PqModel.Spec PqModel.Spec.SizeStats

theorem unencodedBytes_eq_sum (vs : List Value) : unencodedBytes vs = (vs.map List.length).sum := by
  induction vs with
  | nil => rfl
  | cons v vs ih => simp only [unencodedBytes, List.map_cons, List.sum_cons, ih]

theorem unencodedBytes_reverse (a : List Value) : unencodedBytes a.reverse = unencodedBytes a := by
  simp [unencodedBytes_eq_sum]

/-- number of definition levels equal to the maximum = number of non-null entries -/
def nonNull (maxDef : Nat) : List Nat → Nat
  | [] => 0
  | x :: xs => (if x == maxDef then 1 else 0) + nonNull maxDef xs

/-- **Page level.** For every page whose decoded parts are consistent (one repetition level per
    definition level, one value per definition level equal to the maximum; the clauses
    `decodeDataPage` reports otherwise), the bytes held by the non-null values of the Dremel
    entries the spec reader builds from the page are exactly `unencodedBytes` of its values: the
    number compared with `unencoded_byte_array_data_bytes` is the one the decoded stream holds. -/
theorem streamBytes_zipTriples (maxDef : Nat) (reps defs : List Nat) (vals : List Value) (acc : List Triple)
    (hlen : reps.length = defs.length) (hvals : vals.length = nonNull maxDef defs) :
    streamBytes (zipTriples maxDef reps defs vals acc) = unencodedBytes vals + streamBytes acc := by
  -- cases of `zipTriples`: a level at the maximum with a value; at the maximum but the values ran out; below the maximum; a list ended
  fun_induction zipTriples maxDef reps defs vals acc with
  | case1 r rs dl ds acc h v vs ih =>
    simp only [nonNull, h, if_true, List.length_cons] at hlen hvals
    rw [ih (by omega) (by omega)]
    simp only [streamBytes, unencodedBytes]; omega
  | case2 r rs dl ds acc h =>
    simp [nonNull, h] at hvals; omega
  | case3 r rs dl ds vals acc h ih =>
    simp only [nonNull, h, List.length_cons, Nat.add_right_cancel_iff] at hlen hvals
    rw [ih hlen (by simpa using hvals)]
    simp [streamBytes]
  | case4 reps defs vals acc hne =>
    match reps, defs, hlen with
    | [], [], _ =>
      have : vals = [] := List.length_eq_zero_iff.mp hvals
      simp [this, unencodedBytes]
    | r :: rs, d :: ds, _ => exact absurd rfl (hne r rs d ds rfl)

def PageOk (maxDef : Nat) (pd : PageData) : Prop :=
  pd.reps.length = pd.defs.length ∧ pd.vals.length = nonNull maxDef pd.defs

/-- **Chunk level.** The sum over the pages of a chunk of `unencodedBytes` (what the spec reader
    compares with `ColumnMetaData.size_statistics.unencoded_byte_array_data_bytes`, and page by
    page with the offset index) is the number of bytes the non-null values of the chunk's
    decoded stream hold, for any number of pages. -/
theorem chunk_unencodedBytes (maxDef : Nat) (pds : List PageData) (acc : List Triple)
    (h : ∀ pd ∈ pds, PageOk maxDef pd) :
    streamBytes (chunkStream maxDef pds acc) = (pds.map fun pd => unencodedBytes pd.vals).sum + streamBytes acc := by
  induction pds generalizing acc with
  | nil => simp [chunkStream]
  | cons pd rest ih =>
    have hp := h pd (by simp)
    have := ih (zipTriples maxDef pd.reps pd.defs pd.vals acc) (fun q hq => h q (by simp [hq]))
    simp only [chunkStream, List.foldl_cons] at this ⊢
    rw [this, streamBytes_zipTriples maxDef _ _ _ _ hp.1 hp.2]
    simp only [List.map_cons, List.sum_cons]; omega

-- an optional column page `null, "ab", "ab"`
example : PageOk 1 { reps := [0, 0, 0], defs := [0, 1, 1], vals := [[97, 98], [97, 98]], rows := 3, nulls := 1 } := by
  unfold PageOk; decide

/-- `dictBranchSize_spec` for a lookup already under way: `acc` the values found so far, `s` any size to add to -/
theorem lookupAll_bytes (dict : Array Value) (idx : List Nat) (acc out : List Value) (last : Option Nat) (s : Nat)
    (h : lookupAll dict idx acc = .ok out) :
    dictBranchSize false dict idx last (s + unencodedBytes acc) = s + unencodedBytes out := by
  induction idx generalizing acc last s with
  | nil =>
    simp only [lookupAll, Except.ok.injEq] at h
    subst h
    simp [dictBranchSize, unencodedBytes_reverse]
  | cons i is ih =>
    simp only [lookupAll] at h
    cases hd : dict[i]? with
    | none => simp [hd] at h
    | some v =>
      simp only [hd] at h
      have := ih (v :: acc) (some i) s h
      simp only [unencodedBytes] at this
      simp only [dictBranchSize, Bool.false_and, Bool.false_eq_true, ↓reduceIte, hd, Option.getD_some]
      rw [← this]
      congr 1; omega

/-- **The writer's dictionary branch computes the spec number.** The mirror of the loop of
    `computeUnencodedByteArraySize` over the indexes of a dictionary-encoded page returns
    `unencodedBytes` of the values a reader obtains by looking the indexes up (`lookupAll`, the
    step of the spec decoder for PLAIN_DICTIONARY / RLE_DICTIONARY pages): runs of equal indexes
    count once per element. -/
theorem dictBranchSize_spec (dict : Array Value) (idx : List Nat) (vals : List Value)
    (h : lookupAll dict idx [] = .ok vals) :
    dictBranchSize false dict idx none 0 = unencodedBytes vals := by
  have := lookupAll_bytes dict idx [] vals none 0 h
  simpa [unencodedBytes] using this

example : lookupAll #[[1, 2], [3]] [0, 0, 1] [] = .ok [[1, 2], [1, 2], [3]] := by decide

/-- the last-index-cache variant (seed C02-7a) violates `dictBranchSize_spec`: two adjacent
    equal indexes of a two-byte value are counted as 2 bytes, the values hold 4 -/
theorem dictBranchSize_runCache_undercounts :
    lookupAll #[[1, 2]] [0, 0] [] = .ok [[1, 2], [1, 2]] ∧
    dictBranchSize true #[[1, 2]] [0, 0] none 0 = 2 ∧ unencodedBytes [[1, 2], [1, 2]] = 4 := by
  decide

theorem levelHistogram_length (maxLevel : Nat) (levels : List Nat) :
    (levelHistogram maxLevel levels).length = maxLevel + 1 := by
  simp [levelHistogram]

end PqModel.Props.C02SizeStats
