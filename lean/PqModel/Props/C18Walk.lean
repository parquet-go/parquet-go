import PqModel.EncWalk

/-! # C18, reader side — the envelope chain of the keyless module walker (`EncWalk.chain`) only accepts
    exact tilings; the footer part of `EncWalk.walk` has no theorem -/
namespace PqModel.Props.C18Walk
open PqModel.EncWalk

/-- Whatever the bytes, if the walker returns a chain of envelopes for `[pos, stop)`, the envelopes
    are consecutive, each at least prefix+nonce+tag long, the first starts at `pos` and the last
    ends at `stop`: no byte of the interval is outside a module and no two modules overlap. -/
theorem modules_tile_exactly (d : ByteArray) (stop fuel pos : Nat) (out : List Env)
    (h : chain d stop fuel pos [] = .ok out) : Tiles out pos stop :=
  chain_tiles d stop fuel pos [] pos out rfl h

/-- non-vacuity: two envelopes of 32 and 33 bytes between offsets 0 and 65 -/
example :
    let d : ByteArray := ⟨((([28, 0, 0, 0] : List UInt8) ++ List.replicate 28 7) ++ ([29, 0, 0, 0] ++ List.replicate 29 9)).toArray⟩
    (chain d 65 10 0 []).toOption = some [(0, 32), (32, 33)] := by decide +kernel

/-- a stray byte between modules is refused -/
example :
    let d : ByteArray := ⟨((([28, 0, 0, 0] : List UInt8) ++ List.replicate 28 7) ++ [1]).toArray⟩
    (chain d 33 10 0 []).toOption = none := by decide +kernel

end PqModel.Props.C18Walk
