import PqModel.Splice
import PqModel.Reencode
import PqModel.BloomWriter

/-! # C11 (continued) — the byte splice, the re-encode path on column streams, `uint` bloom sizes

Mirror: `Splice.loadCopied` / `writeCopied` / `spliceChunk` / `rowGroupMetasMixed` / `placeBlooms`
(writer_copy.go:458-540, writer.go:1573-1670), `CopyPath.bloomSizeGo` (bloom/filter.go:35-39).
Spec: `Layout.chunkMeta` + `layout_wf` (metadata describing pages laid out at an offset), list
slicing for bytes, the reader/writer of `FileModel` with the codec hypotheses `ColCodec.OK`.
Most theorems here give the property's name to a theorem proved in `Splice.lean`, `Reencode.lean` or
`BloomWriter.lean` (one-line terms); the proofs are there. -/
namespace PqModel.Props.C11Bytes
open PqModel.Layout PqModel.Splice PqModel.Reencode PqModel.FileModel PqModel.Dremel PqModel.Pages PqModel.CopyPath

/-- If the source metadata describes pages `ps` laid out at `srcStart`, the spliced metadata
    describes the same pages laid out at `dstStart`: dictionary page offset, data page offset and
    every page location rebased; sizes, value and row counts unchanged. Every page sequence, every
    source and destination position; the layout error of `loadCopiedChunk` cannot occur. -/
theorem splice_wf (srcStart dstStart : Nat) (ps : List PageOp) :
    spliceChunk (chunkMeta srcStart ps) dstStart = some (chunkMeta dstStart ps) :=
  Splice.splice_wf srcStart dstStart ps

/-- spelled out with `layout_wf`: the spliced page locations are the true (start, size, first row)
    of every data page at the destination; the totals are the sums over the pages -/
theorem splice_positional (srcStart dstStart : Nat) (ps : List PageOp) :
    ∃ m, spliceChunk (chunkMeta srcStart ps) dstStart = some m ∧
      m.locs = specLocs dstStart 0 ps ∧ m.totalCompressed = totalSize ps ∧
      m.numValues = ((dataPages ps).map (·.numValues)).sum ∧ m.numRows = ((dataPages ps).map (·.numRows)).sum :=
  ⟨_, Splice.splice_wf srcStart dstStart ps, (layout_wf dstStart ps).1, (layout_wf dstStart ps).2.1,
    (layout_wf dstStart ps).2.2.2.1, (layout_wf dstStart ps).2.2.2.2⟩

/-- the bytes streamed for the chunk are the source bytes `[srcStart, srcStart + totalSize ps)`
    (the dictionary range and the data range are adjacent), and the file offset advances by that -/
theorem splice_bytes {β : Type} (file : List β) (srcStart dstStart : Nat) (ps : List PageOp) :
    (loadCopied (chunkMeta srcStart ps)).map (copiedBytes file) = some ((file.drop srcStart).take (totalSize ps)) ∧
    (loadCopied (chunkMeta srcStart ps)).map (fun c => (writeCopied dstStart c).2) = some (dstStart + totalSize ps) :=
  ⟨copied_bytes file srcStart ps, splice_advances srcStart dstStart ps⟩

/-- so every page reads, at its rebased offset in the output, the bytes it had in the source:
    for the output `pre ++ segment ++ post` with the segment at `dstStart = pre.length`, the range
    `[dstStart + k, +z)` equals the source range `[srcStart + k, +z)` -/
theorem splice_page_bytes {β : Type} (file pre post : List β) (srcStart total k z : Nat)
    (hk : k + z ≤ total) (hlen : srcStart + total ≤ file.length) :
    (((pre ++ (file.drop srcStart).take total ++ post).drop (pre.length + k)).take z) =
      ((file.drop (srcStart + k)).take z) :=
  page_bytes_preserved file pre post srcStart total k z hk hlen

example : ∃ (file : List Nat), 4 + 6 ≤ file.length := ⟨List.range 20, by decide⟩

/-- a row group whose columns are partly written from buffered pages and partly spliced gets the
    metadata of the same pages all written directly, chunk after chunk (extends `rowGroup_wf`) -/
theorem rowGroup_wf_mixed (start : Nat) (cs : List ChunkIn) (pss : List (List PageOp))
    (hl : cs.length = pss.length)
    (hd : ∀ i (h : i < cs.length) (h' : i < pss.length), Describes cs[i] pss[i]) :
    rowGroupMetasMixed start cs =
      some ((List.zip (chunkStarts start pss) pss).map (fun sc => chunkMeta sc.1 sc.2)) := by
  rw [Splice.rowGroup_wf_mixed start cs pss hl hd, rowGroup_wf]

example : Describes (.copied (chunkMeta 4 [⟨false, 12, 30, 40, 5, 5⟩])) [⟨false, 12, 30, 40, 5, 5⟩] := ⟨4, rfl⟩

/-- bloom filter sections follow the chunks back to back: every recorded offset is the start plus
    the lengths of the sections before it -/
theorem bloom_sections_wf (off : Nat) (lens : List Nat) :
    (placeBlooms off lens).2 = off + lens.sum ∧
    ∀ i (h : i < lens.length), ((placeBlooms off lens).1)[i]? =
      some (if lens[i] = 0 then none else some (off + (lens.take i).sum, lens[i])) :=
  placeBlooms_wf off lens

/-- The re-encode path on column streams: if the source chunks decode (source codecs) to streams
    `ss`, the re-encoded chunks decode (destination codecs, any destination page cuts and
    dictionary fallback) to `ss`. Codec hypotheses as in `FileModel` / `Props.C01.roundtrip`. -/
theorem reencode_preserves_streams {β γ β' γ'} {cdA : Nat → ColCodec β γ} {cdB : Nat → ColCodec β' γ'} {B : Nat}
    (strict : Bool) (cfgB : Nat → ChunkCfg) {lvs : List (Nat × Nat)} {ss : Cols}
    (src : List (Chunk β γ)) (hsrc : readCols false cdA 0 lvs src = some ss)
    (hp : Pairs LvOK lvs ss) (hcd : ∀ i, i < lvs.length → (cdB i).OK B)
    (hB : ∀ lv ∈ lvs, lv.1 ≤ B ∧ lv.2 ≤ B)
    (hv : valsIn (fun j => (cdB j).okV) 0 ss = true)
    (ha : strict = true → colsAligned cfgB 0 ss = true) :
    (reencodeCols cdA cdB cfgB 0 lvs src).bind (readCols strict cdB 0 lvs) = some ss :=
  Reencode.reencode_preserves_streams strict cfgB src hsrc hp hcd hB hv ha

/-- satisfiable: the source hypothesis holds for every row group written by the model writer under
    any source codecs and cuts (decode ∘ encode ∘ decode ∘ encode) -/
theorem reencode_of_written {β γ β' γ'} {cdA : Nat → ColCodec β γ} {cdB : Nat → ColCodec β' γ'} {B : Nat}
    (strict : Bool) (cfgA cfgB : Nat → ChunkCfg) {lvs : List (Nat × Nat)} {ss : Cols}
    (hp : Pairs LvOK lvs ss) (hA : ∀ i, i < lvs.length → (cdA i).OK B) (hcd : ∀ i, i < lvs.length → (cdB i).OK B)
    (hB : ∀ lv ∈ lvs, lv.1 ≤ B ∧ lv.2 ≤ B)
    (hvA : valsIn (fun j => (cdA j).okV) 0 ss = true) (hvB : valsIn (fun j => (cdB j).okV) 0 ss = true)
    (ha : strict = true → colsAligned cfgB 0 ss = true) :
    (reencodeCols cdA cdB cfgB 0 lvs (writeCols cdA cfgA 0 lvs ss)).bind (readCols strict cdB 0 lvs) = some ss :=
  Reencode.reencode_of_written strict cfgA cfgB hp hA hcd hB hvA hvB ha

/-- packing several segments into one output row group (`packSegmentsByColumn`): the output decodes
    to the per-column concatenation of the segments' streams in segment order -/
theorem pack_preserves_streams {β γ β' γ'} {cdA : Nat → ColCodec β γ} {cdB : Nat → ColCodec β' γ'} {B : Nat}
    (strict : Bool) (cfgB : Nat → ChunkCfg) {lvs : List (Nat × Nat)}
    (segs : List (List (Chunk β γ))) (streams : List Cols)
    (hsrc : segs.mapM (readCols false cdA 0 lvs) = some streams)
    (hp : ∀ s ∈ streams, Pairs LvOK lvs s) (hcd : ∀ i, i < lvs.length → (cdB i).OK B)
    (hB : ∀ lv ∈ lvs, lv.1 ≤ B ∧ lv.2 ≤ B)
    (hv : valsIn (fun j => (cdB j).okV) 0 (joinSegs lvs.length streams) = true)
    (ha : strict = true → colsAligned cfgB 0 (joinSegs lvs.length streams) = true) :
    (packCols cdA cdB cfgB lvs segs).bind (readCols strict cdB 0 lvs) = some (joinSegs lvs.length streams) :=
  Reencode.pack_preserves_streams strict cfgB segs streams hsrc hp hcd hB hv ha

/-- the `Nat` formula of the cascade mirror IS the Go `uint` computation as long as
    `numValues * bitsPerValue + 7 < 2^64` … -/
theorem bloomSize_exact_below_bound (bpv nv : Nat) (h : nv * bpv + 7 < 2 ^ 64) :
    bloomSizeGo bpv nv = bloomSize bpv nv := by
  rw [BloomWriter.bloomSizeGo_eq, BloomWriter.numSplitBlocksOfGo_toNat nv bpv h]
  rfl

/-- … in particular for every chunk below 2^47 values with fewer than 2^16 bits per value -/
theorem bloomSize_exact_practical (bpv nv : Nat) (hb : bpv < 2 ^ 16) (hn : nv < 2 ^ 47) :
    bloomSizeGo bpv nv = bloomSize bpv nv := by
  apply bloomSize_exact_below_bound
  have : nv * bpv ≤ 2 ^ 47 * 2 ^ 16 := Nat.mul_le_mul (Nat.le_of_lt hn) (Nat.le_of_lt hb)
  have e : (2 : Nat) ^ 47 * 2 ^ 16 = 2 ^ 63 := by decide
  omega

/-- … and above the bound the Go computation does wrap (2^60 values at 16 bits per value: a filter
    of 0 bytes instead of 2^61), so the bound is needed -/
theorem bloomSize_wraps_above : bloomSizeGo 16 (2 ^ 60) = 0 ∧ bloomSize 16 (2 ^ 60) = 2 ^ 61 := by decide +kernel

end PqModel.Props.C11Bytes
