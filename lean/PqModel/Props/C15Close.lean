import PqModel.AsyncClose
import PqModel.AsyncExec

/-! # C15 — termination of `asyncPages.Close` (page.go:163-184)

`Props/C15.lean` proves that the protocol cannot deadlock (`async_no_deadlock`) and that `ReadPage`
returns under strong fairness of the producer's select. This file does the same for `Close`, over
the same transition system (`Async.lean`), for every wrapped reader `U` and from every state in
which the consumer is inside `Close` (`cpc = closing`).

The fairness assumption, stated exactly. A `Run` takes a step at every index: the scheduler never
stops both goroutines (a step is always available: `async_no_deadlock`). On top of that, `Close`
needs the `<-done` case of the producer's select (page.go:318-321) not to be starved forever
(`SelectFairDone`: strong fairness in its weakest form; Go's select chooses uniformly at random among
ready cases, so it holds with probability 1). Weak fairness, even of every single transition, is not
enough: the `done` case is ready at every select but disabled while the producer runs the loop body
in between, so it is never *continuously* enabled; inside the loop nothing in `readPages` looks at `done` except
that three-way select. -/
namespace PqModel.Props.C15Close
open PqModel PqModel.Async

/-- Ranking function: while `Close` has not returned, every step of either goroutine decreases
    `psi` (producer program counter, pending send, seek buffered in the 1-slot channel, pending
    `continue` of the loop body; at most 9), except the rendezvous in which `Close` receives a page
    item from the select, which raises it by at most 2. -/
theorem async_close_rank (U : Under) {g g' : G} {e : Ev} (hcl : g.cpc = .closing)
    (h : Step U g e g') (he : e ≠ .closeEnd) :
    g'.cpc = .closing ∧ psi U g ≤ 9 ∧
      (if e = .closeRecv then psi U g' ≤ psi U g + 2 else psi U g' + 1 ≤ psi U g) := by
  obtain ⟨h1, h2⟩ := psi_step hcl h (isCloseEnd_false.mpr he)
  refine ⟨h1, psi_le, ?_⟩
  by_cases hr : e = .closeRecv
  · subst hr; simpa [isCloseRecv] using h2
  · simp only [isCloseRecv_false.mpr hr] at h2
    simpa [hr] using h2

/-- Bounded form of termination: while `Close` has not returned, the number of steps taken (by
    either goroutine) is at most `9 + 3·r`, `r` = number of page items the range loop of `Close`
    has received, i.e. the number of times the producer's select sent on `read` although its `done`
    case was ready. Holds from EVERY state with the consumer in `Close`, reachable or not. -/
theorem async_close_wait_bounded (U : Under) {g g' : G} {es : List Ev} (hcl : g.cpc = .closing)
    (hp : Path U g es g') (hne : ∀ e ∈ es, e ≠ .closeEnd) :
    es.length ≤ 9 + 3 * recvs es := by
  have h := (close_bounded hcl hp (fun e he => isCloseEnd_false.mpr (hne e he))).1
  have := psi_le (U := U) (g := g)
  omega

/-- `Close` can always complete (no livelock trap): from every reachable state in which the
    consumer is in `Close` there is a path of at most 9 steps, none of which hands a page item to
    `Close`, followed by the return of `Close`. -/
theorem async_close_can_complete (U : Under) {g : G} (hr : Reachable U g) (hcl : g.cpc = .closing) :
    ∃ es g', Path U g (es ++ [.closeEnd]) g' ∧ es.length ≤ 9 ∧
      (∀ e ∈ es, isCloseRecv e = false) ∧ g'.cpc = .closed :=
  close_can_complete_aux 9 g psi_le hcl
    ((data_reachable hr).1.closing_done (Or.inl hcl)).1

/-- Termination, quantitative form: in every infinite run that starts with the consumer in `Close`,
    if `Close` receives a page item only finitely often (none from index `N` on) then `Close`
    returns before index `10 + 3·N`, with the producer exited. -/
theorem async_close_terminates_fair (U : Under) (ρ : Run U) (hcl : (ρ.st 0).cpc = .closing)
    (N : Nat) (hN : ∀ n, N ≤ n → ρ.ev n ≠ .closeRecv) :
    ∃ n, n < 10 + 3 * N ∧ ρ.ev n = .closeEnd ∧
      (ρ.st (n + 1)).cpc = .closed ∧ (ρ.st (n + 1)).ppc = .exited := by
  obtain ⟨n, h1, h2⟩ := close_returns_of_fin_recvs ρ hcl N (fun n hn => isCloseRecv_false.mpr (hN n hn))
  have hs := ρ.step n
  rw [h2] at hs
  exact ⟨n, h1, h2, closeEnd_post hs⟩

/-- Termination under STRONG fairness of the select's `done` case: in every infinite run that
    starts in a reachable state with the consumer in `Close`, if the `done` case, whenever it is
    ready infinitely often, is taken at least once, then `Close` returns. -/
theorem async_close_terminates_select_fair (U : Under) (ρ : Run U) (hr : Reachable U (ρ.st 0))
    (hcl : (ρ.st 0).cpc = .closing) (hf : SelectFairDone ρ) :
    ∃ n, ρ.ev n = .closeEnd ∧ (ρ.st (n + 1)).cpc = .closed ∧ (ρ.st (n + 1)).ppc = .exited := by
  obtain ⟨n, h2⟩ := close_returns_of_fair_done ρ hr hcl hf
  have hs := ρ.step n
  rw [h2] at hs
  exact ⟨n, h2, closeEnd_post hs⟩

/-- The whole call: `Close` called (index 0) in ANY reachable state between two calls returns under
    the same assumption. -/
theorem async_close_call_terminates (U : Under) (ρ : Run U) (hr : Reachable U (ρ.st 0))
    (h0 : ρ.ev 0 = .closeBegin) (hf : SelectFairDone ρ) :
    ∃ n, ρ.ev n = .closeEnd ∧ (ρ.st (n + 1)).cpc = .closed := by
  have hs := ρ.step 0
  rw [h0] at hs
  have hcl : ((ρ.drop 1).st 0).cpc = .closing := closeBegin_post hs
  have hr1 : Reachable U ((ρ.drop 1).st 0) := ρ.reachable hr 1
  have hf1 : SelectFairDone (ρ.drop 1) := by
    intro hinf
    have : ∀ N, ∃ n, N ≤ n ∧ DoneReady (ρ.st n) := by
      intro N
      obtain ⟨n, hn, hd⟩ := hinf N
      exact ⟨n + 1, by omega, hd⟩
    obtain ⟨n, hn⟩ := hf this
    cases n with
    | zero => rw [h0] at hn; cases hn
    | succ n => exact ⟨n, hn⟩
  obtain ⟨n, h1, h2, _⟩ := async_close_terminates_select_fair U (ρ.drop 1) hr1 hcl hf1
  exact ⟨n + 1, h1, h2⟩

/-- The exact gap: WEAK fairness is not enough. From EVERY reachable state in which the consumer is
    in `Close` and the producer is in its loop (running the body or offering in the select) there
    is an infinite run that is weakly fair for every transition (none is enabled continuously
    without being taken), in which the producer goroutine runs again and again, the `done` case of
    its select is ready infinitely often and never taken, and `Close` never returns. -/
theorem async_close_weak_fairness_insufficient_from (U : Under) {g : G} (hr : Reachable U g)
    (hcl : g.cpc = .closing) (hp : g.ppc = .top ∨ ∃ it, g.ppc = .send it) :
    ∃ ρ : Run U, ρ.st 0 = g ∧ WeakFair ρ ∧ ProducerRuns ρ ∧
      (∀ N, ∃ n, N ≤ n ∧ DoneReady (ρ.st n)) ∧ (∀ n, ρ.ev n ≠ .selDone) ∧
      (∀ n, ρ.ev n ≠ .closeEnd ∧ (ρ.st n).cpc = .closing) := by
  have hsp : Spinning g := ⟨hcl, hp⟩
  let ρ := spinRun U g hsp
  have hne : ∀ n, ρ.ev n ≠ .closeEnd := fun n => spinEv_ne.1
  have hnd : ∀ n, ρ.ev n ≠ .selDone := fun n => spinEv_ne.2
  refine ⟨ρ, rfl, spinRun_weakFair _, spinRun_producer _, ?_, hnd,
    fun n => ⟨hne n, (spinSt_spinning hsp n).1⟩⟩
  -- the `done` case is ready infinitely often: otherwise `Close` would return
  apply Classical.byContradiction
  intro hfin
  obtain ⟨n, hn⟩ := close_returns_of_fair_done ρ hr hcl (fun hinf => absurd hinf hfin)
  exact hne n hn

/-- A spinning state is reachable whatever the wrapped reader is (`Close` on a fresh reader whose
    producer passed its first select on the `init` case): the statement "Close terminates under
    weak fairness of the producer goroutine" is false for every `U`. -/
theorem async_close_weak_fairness_insufficient (U : Under) :
    ∃ ρ : Run U, Reachable U (ρ.st 0) ∧ (ρ.st 0).cpc = .closing ∧
      WeakFair ρ ∧ ProducerRuns ρ ∧
      (∀ N, ∃ n, N ≤ n ∧ DoneReady (ρ.st n)) ∧ (∀ n, ρ.ev n ≠ .selDone) ∧
      (∀ n, ρ.ev n ≠ .closeEnd ∧ (ρ.st n).cpc = .closing) := by
  obtain ⟨ρ, h0, h1, h2, h3, h4, h5⟩ :=
    async_close_weak_fairness_insufficient_from U closingTop_reachable rfl (Or.inl rfl)
  exact ⟨ρ, h0 ▸ closingTop_reachable, h0 ▸ rfl, h1, h2, h3, h4, h5⟩

/-- The length of a `Close` is unbounded already on finite paths: for every `k` there is a
    path of `2k` steps from a reachable closing state along which `Close` does not return. -/
theorem async_close_unbounded (U : Under) (k : Nat) :
    ∃ g es g', Reachable U g ∧ g.cpc = .closing ∧ Path U g es g' ∧ es.length = 2 * k ∧
      (∀ e ∈ es, e ≠ .closeEnd) ∧ g'.cpc = .closing := by
  let ρ := spinRun U closingTop closingTop_spinning
  refine ⟨ρ.st 0, ρ.prefixEvents (2 * k), ρ.st (2 * k), closingTop_reachable, rfl,
    ρ.prefix_path _, ρ.prefix_length _, ?_, (spinSt_spinning closingTop_spinning _).1⟩
  intro e he
  obtain ⟨m, _, rfl⟩ := ρ.prefix_mem _ e he
  exact spinEv_ne.1

/-- three pages of two rows each, then EOF; every seek succeeds (as in `Props/C15.lean`) -/
def U0 : Under :=
  { next := fun p => p + 2 - p % 2,
    rd := fun p => if p < 6 then .page else .eof,
    sk := fun _ => .ok }

/-- a read, then `Close` while the producer offers the prefetched page: `Close` receives one item,
    the select then takes `done` -/
def logClose : List Ev :=
  [.readBegin, .initPass, .pollEmpty, .bodyOffer (.page 0) 0, .handoff, .deliver (.page 0) 0,
   .bodyOffer (.page 2) 0, .closeBegin, .closeRecv, .bodyOffer (.page 4) 0, .selDone, .closeFinal,
   .closeEnd]

example : ∃ g, Path U0 init logClose g ∧ g.cpc = .closed ∧ g.released = [2, 1] ∧ g.handed = [0] := by
  obtain ⟨g, hp, hq⟩ := check_path (U := U0) (es := logClose)
    (p := fun g => decide (g.cpc = .closed ∧ g.released = [2, 1] ∧ g.handed = [0])) (by decide +kernel)
  exact ⟨g, hp, by simpa using hq⟩

/-- the hypotheses of the run theorems are satisfiable: a run in which `Close` is called on a fresh
    reader, the select takes `done` at once, and the closed reader is closed again forever -/
def closeRun : Run U0 :=
  { st := fun n =>
      match n with
      | 0 => closingTop
      | 1 => { closingTop with loc := ⟨2, none, none⟩, ppc := .send ⟨.page 0, 0, 0⟩, nprod := 1 }
      | 2 => { closingTop with loc := ⟨2, none, none⟩, ppc := .final, nprod := 1, released := [0] }
      | 3 => { closingTop with loc := ⟨2, none, none⟩, ppc := .exited, nprod := 1, released := [0] }
      | _ => { closingTop with loc := ⟨2, none, none⟩, ppc := .exited, nprod := 1, released := [0],
                               cpc := .closed }
    ev := fun n =>
      match n with
      | 0 => .bodyOffer (.page 0) 0
      | 1 => .selDone
      | 2 => .closeFinal
      | 3 => .closeEnd
      | _ => .closeAgain
    step := fun n =>
      match n with
      | 0 => next?_sound (by decide)
      | 1 => next?_sound (by decide)
      | 2 => next?_sound (by decide)
      | 3 => next?_sound (by decide)
      | _ + 4 => Step.closeAgain rfl }

example : Reachable U0 (closeRun.st 0) ∧ (closeRun.st 0).cpc = .closing ∧ SelectFairDone closeRun ∧
    (∀ n, 0 ≤ n → closeRun.ev n ≠ .closeRecv) :=
  ⟨closingTop_reachable, rfl, fun _ => ⟨1, rfl⟩, fun n _ =>
    match n with
    | 0 | 1 | 2 | 3 | _ + 4 => nofun⟩

example : ∃ g, Reachable U0 g ∧ g.cpc = .closing ∧ (g.ppc = .top ∨ ∃ it, g.ppc = .send it) :=
  ⟨closingTop, closingTop_reachable, rfl, Or.inl rfl⟩

end PqModel.Props.C15Close
