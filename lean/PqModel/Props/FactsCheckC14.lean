import PqModel.Generated.Facts
import PqModel.Props.C14

/-! # C14 — the site table extracted from writer.go satisfies the hypothesis of `no_silent_loss`

`Generated/Facts.lean` is rewritten by `tools/factgen` (families `writesites`, `writesites_thrift`) from
the current source on every run. A NEW call on the byte path whose error does not reach the return of its
function makes `sites_propagate` fail to build. The last part lists the discarded errors on the READ path of file.go. -/
namespace PqModel.Props.FactsCheckC14
open PqModel.Generated PqModel.IoFault

/-- Sites whose error does not flow to the return at the AST level, each with the reason why no
I/O failure of the destination can be lost there (unchanged tree: 4 entries). -/
def allowed : List String := [
  -- `defer rows.Close()` in Writer.WriteRowGroup: closes the *source* row reader of the row
  -- copy (name collision with ColumnWriter.Close in the name-based reachability); nothing is
  -- written by it.
  "Writer.WriteRowGroup:rows.Close#1",
  -- `buf.encodeRepetitionLevels(page, …)` / `buf.encodeDefinitionLevels(page, …)`: the RLE level
  -- encoder works on memory only, no I/O; dropping its error is a (reported) code smell outside
  -- this property.
  "ColumnWriter.writeDataPage:buf.encodeRepetitionLevels#1",
  "ColumnWriter.writeDataPage:buf.encodeDefinitionLevels#1",
  -- `n1, _ := output.Write(encHdr)` (encrypted page): `output` is the column's page buffer (an
  -- intermediate store, not the destination); the count is summed and `writePageTo` fails with
  -- io.ErrShortWrite when `written != size`.
  "ColumnWriter.writeDataPage:output.Write#1"
]

/-- every extracted site propagates its error, or is on the justified allow-list -/
theorem sites_propagate :
    writeSites.all (fun s => s.propagates || s.name ∈ allowed) = true := by decide +kernel

/-- the allow-list has no stale entry: each name is a site of the current source that does not
propagate (a repaired site must leave the list) -/
theorem allowed_tight :
    allowed.all (fun n => writeSites.any (fun s => s.name == n && !s.propagates)) = true := by
  -- evaluated with the flag tested first: only the names of the non-propagating sites are compared
  have h : allowed.all (fun n => writeSites.any (fun s => !s.propagates && s.name == n)) = true := by
    decide +kernel
  simpa only [Bool.and_comm] using h

def siteTable (name : String) : Bool :=
  match writeSites.find? (fun s => s.name == name) with
  | some s => s.propagates || allowed.contains s.name
  | none => false

theorem siteTable_sound (s : WriteSite) (hs : s ∈ writeSites) : siteTable s.name = true := by
  unfold siteTable
  cases h : writeSites.find? (fun t => t.name == s.name) with
  | none =>
    have := List.find?_eq_none.1 h s hs
    simp at this
  | some t =>
    have ht := List.mem_of_find?_eq_some h
    have := List.all_eq_true.1 sites_propagate t ht
    simpa using this

/-- the calls of `close` and of the offset-tracking writer that `closeSeq` stands for exist in the source
under these names and return their error (`closeSeq`'s own site strings are shorter and not names of the table) -/
theorem close_sites_known :
    siteTable "writer.writeFileHeader:w.writer.WriteString#1" = true ∧
    siteTable "writer.writeDeferredBloomFilters:w.writer.ReadFrom#1" = true ∧
    siteTable "writer.close:w.buffer.Flush#1" = true ∧
    siteTable "writer.close:w.writeFileHeader#1" = true ∧
    siteTable "writer.close:w.flush#1" = true ∧
    siteTable "writer.close:w.writeDeferredBloomFilters#1" = true ∧
    siteTable "writer.close:w.writeFileFooter#1" = true ∧
    siteTable "writer.writeRowGroup:io.Copy#1" = true ∧
    siteTable "offsetTrackingWriter.Write:w.writer.Write#1" = true ∧
    siteTable "offsetTrackingWriter.WriteString:io.WriteString#1" = true ∧
    siteTable "offsetTrackingWriter.ReadFrom:io.Copy#1" = true := by decide +kernel

/-- `no_silent_loss` for the extracted table: any plan whose operations sit at extracted sites -/
theorem no_silent_loss_extracted (f : Fault) (k : Nat) (hk : f.k = some k) (hone : f.oneshot = false)
    (cap : Option Nat)
    (calls : List (List Op)) (pre : List Op) (fs : String)
    (hsites : ∀ c ∈ calls ++ [pre ++ [Op.flushBuf fs]], ∀ op ∈ c,
      (∃ s ∈ writeSites, s.name = op.site) ∨ ∃ id p, op = Op.store id p)
    (htotal : k < (planBytes (calls ++ [pre ++ [Op.flushBuf fs]])).length) :
    ∃ r ∈ (runCalls (faultSink f) siteTable (initW false cap) (calls ++ [pre ++ [Op.flushBuf fs]])).2,
      r = true := by
  refine C14.no_silent_loss_fault f k hk hone siteTable cap calls pre fs ?_ htotal
  intro c hc op hop
  cases hsites c hc op hop with
  | inr h => exact Or.inr h
  | inl h =>
    obtain ⟨s, hs, hn⟩ := h
    exact Or.inl (by rw [← hn]; exact siteTable_sound s hs)

/-! ## The thrift encoder (family `writesites_thrift`)

With `WriteBufferSize(0)` the thrift encoder of the footer and of the page index writes byte-wise
straight to the destination, so every write of compact.go / binary.go / encode.go is a site of the
byte path (seeded change C14-3b dropped the error of one of them). -/

/-- writer-side thrift sites whose error does not flow to the return at the AST level (none on the
unchanged tree) -/
def allowedThrift : List String := []

/-- every call of an error-returning function or io leaf on the writer side of encoding/thrift
hands its error to its caller -/
theorem thrift_write_sites_propagate :
    thriftWriteSites.all (fun s => s.propagates || s.name ∈ allowedThrift) = true := by decide +kernel

/-- the table is not empty and holds the sites the long-form list header is written at -/
theorem thrift_sites_known :
    (thriftWriteSites.any (fun s => s.name == "compact.go:compactWriter.WriteList:w.binary.writeByte#2")) = true ∧
    (thriftWriteSites.any (fun s => s.name == "compact.go:compactWriter.WriteList:w.writeUvarint#1")) = true ∧
    30 ≤ thriftWriteSites.length := by decide +kernel

/-- discarded errors of the io leaves on the read path of file.go, each with the reason why no
failure of the source can be lost there -/
def allowedReadDrops : List String := [
  -- `Seek` of an `io.SectionReader`: fails only on an invalid whence / a negative position, never
  -- through the underlying io.ReaderAt (no I/O).
  "file.go:OpenFile:section.Seek#1",
  "file.go:OpenFile:section.Seek#2",
  "file.go:FileColumnChunk.readBloomFilter:section.Seek#1",
  -- `f.rbuf.Discard(…)` when an already loaded dictionary page is skipped: a failing source leaves
  -- the stream inside the dictionary page and the next page header decode reports an error (every
  -- fault of the `readat` sweep with history `dictfirst-pages` is reported), but the I/O error
  -- itself is lost; repair proposed (`fix: … Discard`). The entry is tolerated, not required:
  -- there is no tightness theorem for this list.
  "file.go:FilePages.readPageInSequence:f.rbuf.Discard#1"
]

/-- no other io leaf of file.go has its error discarded -/
theorem file_read_errors_not_dropped :
    fileReadDrops.all (fun s => s.name ∈ allowedReadDrops) = true := by decide +kernel

example : (runCalls (faultSink ⟨some 5, true, true, false⟩) siteTable (initW false (some 4))
    [[Op.store 0 [1, 2, 3]],
     closeSeq magicPAR1 [Op.drain "writer.writeRowGroup:io.Copy#1" 0 (some 2)] [] [[9]]
       "writer.close:w.buffer.Flush#1"]).2 = [false, true] := by decide +kernel

end PqModel.Props.FactsCheckC14
