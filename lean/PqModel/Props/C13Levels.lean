import PqModel.C13Levels

/-! # C13, levels — the stored checksum covers the level bytes of a data page V2

Mirror side: `C13Levels.writerCrc` / `writerHeader` (`writerBuffers.crc32` and the header fields the
column writer fills from it) with `C13Levels.wcurrent`; `PageLoad.load current` (the loaders).
Spec side: `C13Levels.specCrc`, `coveredRange`, `levelRange`, `PageLoad.Burst`.

The loader theorems of `Props/C13.lean` speak of "a page whose header carries the non-zero CRC of its
body". This file closes the write side of that hypothesis: the header a writer of this library stores
carries the CRC of the WHOLE stored body — levels first, then values — whatever the three sections
hold, in particular when the values section is empty (all-null page, page of empty lists), so a burst
inside the level bytes is rejected on every loader path; the only pages left out are those whose
true CRC-32 is 0 (F8). The variant that returns 0 for an empty values section (seed C13-7a) is shown
to violate this with a witness whose CRC is NOT 0, i.e. it is not F8. -/
namespace PqModel.Props.C13Levels
open PqModel.Crc PqModel.PageLoad PqModel.C13Levels

/-- the checksum the writer computes is the CRC-32 of the stored body
    `rep ‖ def ‖ page`, for all three sections (empty or not) -/
theorem writer_crc_is_spec_crc (b : Buffers) : writerCrc wcurrent b = specCrc b :=
  writerCrc_current b

example : writerCrc wcurrent { repetitions := [], definitions := [0xc0, 0x01, 0x00, 0x08, 0x00], page := [] }
    = 0x5f52f2ab#32 := by decide +kernel

/-- the stored header describes exactly the range `coveredRange` — size =
    end of the range = length of the stored body, the level range is a prefix of it, and the CRC is
    the CRC of the bytes in that range -/
theorem header_covers_levels (kind : PageKind) (b : Buffers) :
    (coveredRange b.repetitions.length b.definitions.length b.page.length).1 = 0 ∧
    (coveredRange b.repetitions.length b.definitions.length b.page.length).2 = b.body.length ∧
    (writerHeader wcurrent kind b).compressedSize = b.body.length ∧
    (levelRange b.repetitions.length b.definitions.length).2 ≤ b.body.length ∧
    b.body.take (levelRange b.repetitions.length b.definitions.length).2 = b.repetitions ++ b.definitions ∧
    (writerHeader wcurrent kind b).crc = crc32 ((b.body.drop 0).take b.body.length) := by
  have hl : b.body.length = b.repetitions.length + b.definitions.length + b.page.length := by
    simp [Buffers.body, Nat.add_assoc]
  refine ⟨rfl, ?_, ?_, ?_, ?_, ?_⟩
  · simp [coveredRange, hl]
  · simp [writerHeader, body_length]
  · simp only [levelRange]; omega
  · have : (levelRange b.repetitions.length b.definitions.length).2 = (b.repetitions ++ b.definitions).length := by
      simp [levelRange]
    rw [this, Buffers.body, List.take_left']
    rfl
  · simp [writerHeader, writerCrc_current]

/-- a page as the writer stores it, unless its CRC-32 is exactly 0, is
    rejected on every loader path after any burst of ≤ 32 bits anywhere in the stored body -/
theorem written_page_detects (p : Path) (kind : PageKind) (b : Buffers) (err : Bytes)
    (hlen : err.length = b.body.length) (h0 : specCrc b ≠ 0#32) (hb : Burst err) :
    load current p (writerHeader wcurrent kind b) (xorBytes b.body err) = .error .corrupted := by
  apply load_detects_of_verifies current p (verifies_current p) _ b.body err
  · simp [writerHeader, body_length]
  · exact hlen
  · simpa [writerHeader, writerCrc_current, specCrc] using h0
  · simp [writerHeader, writerCrc_current]
  · exact hb

/-- the same with the burst confined to the LEVEL bytes of the body (mask
    `lerr` over `rep ‖ def`, the values section untouched) — stated separately because this is the
    range the slipped variant leaves unprotected; the values section may be empty -/
theorem level_burst_detected (p : Path) (b : Buffers) (lerr : Bytes)
    (hlen : lerr.length = b.repetitions.length + b.definitions.length) (h0 : specCrc b ≠ 0#32)
    (hb : Burst (lerr ++ List.replicate b.page.length 0)) :
    load current p (writerHeader wcurrent .dataV2 b)
      (xorBytes b.body (lerr ++ List.replicate b.page.length 0)) = .error .corrupted :=
  written_page_detects p .dataV2 b _ (by simp [Buffers.body, hlen, Nat.add_assoc]) h0 hb

/-- the 5 definition-level bytes of a page of 100 null groups (max
    definition level 2), no values, bit 1 of byte 2 flipped (96 null groups become present) -/
example : load current .afterSeek
    (writerHeader wcurrent .dataV2 { repetitions := [], definitions := [0xc0, 0x01, 0x00, 0x08, 0x00], page := [] })
    (xorBytes [0xc0, 0x01, 0x00, 0x08, 0x00] ([0, 0, 2, 0, 0] ++ List.replicate 0 0)) = .error .corrupted :=
  level_burst_detected .afterSeek { repetitions := [], definitions := [0xc0, 0x01, 0x00, 0x08, 0x00], page := [] }
    [0, 0, 2, 0, 0] rfl (by decide +kernel) ⟨⟨17, by decide⟩, ⟨17, by decide⟩⟩

/-! ## The slipped variant (seed C13-7a): `return 0` when the values section is empty -/

/-- whatever the level bytes: with an empty values section the variant stores no CRC, and every
    loader path of either implementation then accepts any bytes of the right length -/
theorem slipped_levels_only_page_is_never_verified (impl : Impl) (p : Path) (kind : PageKind) (b : Buffers)
    (hp : b.page = []) (s : Bytes) (hs : s.length = b.body.length) :
    (writerHeader wslipped kind b).crc = 0#32 ∧
    load impl p (writerHeader wslipped kind b) s = .ok { kind := kind, body := s } := by
  have hc : (writerHeader wslipped kind b).crc = 0#32 := by simp [writerHeader, writerCrc, wslipped, hp]
  have hk : (writerHeader wslipped kind b).kind = kind := rfl
  have hn : s.length = (writerHeader wslipped kind b).compressedSize := by
    simp [writerHeader, hs, body_length]
  refine ⟨hc, ?_⟩
  rw [← hk]
  exact load_crc_zero impl p _ s hc hn

/-- the page of the seed's demonstration: no repetition levels, definition levels `c0 01 00 08 00`
    (RLE: 96 × 0, 4 × 0), no values -/
def nullPage : Buffers := { repetitions := [], definitions := [0xc0, 0x01, 0x00, 0x08, 0x00], page := [] }

/-- this page's true CRC-32 is not 0 (so it is NOT finding F8), the variant
    stores CRC 0 for it, the flipped definition level is then handed to the decoder on the verifying
    sequential path — and the code as mirrored rejects the same bytes -/
theorem slipped_witness :
    specCrc nullPage ≠ 0#32 ∧
    (writerHeader wslipped .dataV2 nullPage).crc = 0#32 ∧
    load current .sequential (writerHeader wslipped .dataV2 nullPage) (nullPage.body.set 2 0x02) =
      .ok { kind := .dataV2, body := [0xc0, 0x01, 0x02, 0x08, 0x00] } ∧
    load current .sequential (writerHeader wcurrent .dataV2 nullPage) (nullPage.body.set 2 0x02) =
      .error .corrupted := by
  decide +kernel

/-- the variant differs from the code only on pages with an empty values section -/
theorem slipped_agrees_elsewhere (b : Buffers) (hp : b.page ≠ []) : writerCrc wslipped b = writerCrc wcurrent b := by
  cases h : b.page with
  | nil => exact absurd h hp
  | cons x xs => simp [writerCrc, wslipped, wcurrent, h]

end PqModel.Props.C13Levels
