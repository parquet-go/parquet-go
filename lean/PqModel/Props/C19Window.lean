import PqModel.VariantWindowHist

/-! # C19 — the leaf windows of the columnar VariantReader

`readWindow`, `ensurePage`, `cellsOf`/`pageOK`, `starts`, `slotOf`, `step` (`Next`, `SeekToRow`, lazy
`open`) are MIRRORS of variant_column_reader.go; `specRun`, `rowOK`, `grpOK`, `offsets`, `dropRows` /
`seekLeaf` (the contract of `Pages.SeekToRow`, C08) are SPEC. A column is given by its rows
(`rows : List (List Cell)`, every row starting at repetition level 0 and nowhere else); the pages
are ANY cut of the cell stream (page boundaries inside rows, empty pages included) that passes
`checkPageValues`. -/
namespace PqModel.Props.C19Window
open PqModel.VariantWindow

/-- `readWindow(n)`: on a leaf standing at a row start, whatever the pagination of what follows, the
    window is exactly the next `n` rows and the leaf stands at the row after them. -/
theorem window_takes_rows (maxDef n : Nat) (l : Leaf) (rows : List (List Cell))
    (hok : restOK maxDef l.rest) (hs : stream maxDef l = rows.flatten)
    (hrows : ∀ row ∈ rows, rowOK row = true) (hn : 0 < n) (hle : n ≤ rows.length) :
    ∃ l', readWindow maxDef n l = .ok ((rows.take n).flatten, l') ∧
      stream maxDef l' = (rows.drop n).flatten ∧ restOK maxDef l'.rest := by
  obtain ⟨l', h2, h3, h1⟩ := readWindow_rows maxDef n l rows hok hs hrows hn
  exact ⟨l', by rw [h1, if_pos hle], h2, h3⟩

/-- a row of 3 cells cut over two pages and an empty page in between -/
example : readWindow 1 1 ⟨[], [⟨[(1, 0), (0, 1)], [7]⟩, ⟨[], []⟩, ⟨[(1, 1), (1, 0)], [8, 9]⟩]⟩
    = .ok ([⟨1, 0, some 7⟩, ⟨0, 1, none⟩, ⟨1, 1, some 8⟩], ⟨[⟨1, 0, some 9⟩], []⟩) := by rfl

/-- a column chunk that ends before the rows the window asks for (a leaf column shorter than its
    siblings / than the row group's row count) is an error ("column ended after ... rows"), never a
    short or shifted window. -/
theorem short_column_is_reported (maxDef n : Nat) (l : Leaf) (rows : List (List Cell))
    (hok : restOK maxDef l.rest) (hs : stream maxDef l = rows.flatten)
    (hrows : ∀ row ∈ rows, rowOK row = true) (hlt : rows.length < n) :
    readWindow maxDef n l = .error .ended := by
  obtain ⟨l', _, _, h1⟩ := readWindow_rows maxDef n l rows hok hs hrows (by omega)
  rw [h1, if_neg (by omega)]

example : readWindow 1 2 ⟨[], [⟨[(1, 0), (0, 1)], [7]⟩]⟩ = .error .ended := by rfl

/-- For EVERY history of `Next(n)` / `SeekToRow(k)` / cursor creation on a well-formed column chunk:
    every call answers what the position spec `specRun` says (`io.EOF` at the end, an out-of-range seek is
    refused and changes nothing), and the reader never enters its error state. In particular a leaf
    first opened after the reader has moved (`open` sets `pendingSeek = rowOffset`) and a leaf with a
    pending seek show the same rows as a leaf read from the start. -/
theorem history_windows_are_row_ranges {maxDef : Nat} {col : List Page} {rows : List (List Cell)}
    (hc : ColOK maxDef col rows) (ops : List Op) :
    run maxDef col (init rows.length) ops = specRun rows 0 false ops :=
  run_spec hc ops _ 0 false (good_init maxDef rows)

example : ColOK 1 [⟨[(1, 0), (0, 1)], [7]⟩, ⟨[(1, 1), (1, 0)], [8, 9]⟩]
    [[⟨1, 0, some 7⟩, ⟨0, 1, none⟩, ⟨1, 1, some 8⟩], [⟨1, 0, some 9⟩]] where
  ok := by intro p hp; simp at hp; rcases hp with h | h <;> subst h <;> decide
  cells := by decide
  rows := by intro r hr; simp at hr; rcases hr with h | h <;> subst h <;> decide

/-- what `Next(n)` shows at row `k` (SPEC) -/
def nextAt (rows : List (List Cell)) (k n : Nat) : Out :=
  if n = 0 then .rows 0
  else if rows.length ≤ k then .eof
  else
    let n' := if n > rows.length - k then rows.length - k else n
    .win n' ((rows.drop k).take n').flatten

/-- final position of a history (SPEC) -/
def specEnd (rows : List (List Cell)) : Nat → List Op → Nat
  | pos, [] => pos
  | pos, .attach :: ops => specEnd rows pos ops
  | pos, .seek k :: ops => if k > rows.length then specEnd rows pos ops else specEnd rows k ops
  | pos, .next n :: ops =>
    if n = 0 then specEnd rows pos ops
    else if rows.length ≤ pos then specEnd rows pos ops
    else specEnd rows (pos + (if n > rows.length - pos then rows.length - pos else n)) ops

theorem specRun_append (rows : List (List Cell)) : ∀ (h t : List Op) (pos : Nat),
    specRun rows pos true (h ++ t) = specRun rows pos true h ++ specRun rows (specEnd rows pos h) true t := by
  intro h t pos
  fun_induction specEnd rows pos h <;> simp [specRun, *]

/-- Reading from row `k` = suffix of reading everything: after ANY earlier history `h` (windows of
    any sizes, seeks forwards and backwards, end of the row group reached or not), `SeekToRow(k)`
    then `Next(n)` shows the same window a fresh reader shows after reading the first `k` rows sequentially. -/
theorem read_after_seek_is_suffix {maxDef : Nat} {col : List Page} {rows : List (List Cell)}
    (hc : ColOK maxDef col rows) (h : List Op) (k n : Nat) (hk : k ≤ rows.length) :
    (run maxDef col (init rows.length) (.attach :: (h ++ [.seek k, .next n]))).getLast? = some (nextAt rows k n) ∧
    (run maxDef col (init rows.length) [.attach, .next k, .next n]).getLast? = some (nextAt rows k n) := by
  have hk' : ¬ k > rows.length := by omega
  -- the one place where `specRun` and `nextAt`, two spellings of the window formula, meet
  have next1 : ∀ pos, specRun rows pos true [.next n] = [nextAt rows pos n] := by
    intro pos
    by_cases hn : n = 0 <;> by_cases hl : rows.length ≤ pos <;> simp [specRun, nextAt, hn, hl]
  have last : ∀ (x : Out) (l : List Out), (x :: (l ++ [nextAt rows k n])).getLast? = some (nextAt rows k n) := by
    intro x l
    rw [← List.cons_append, List.getLast?_concat]
  constructor
  · rw [history_windows_are_row_ranges hc]
    simp only [specRun]
    rw [specRun_append, show specRun rows (specEnd rows 0 h) true [.seek k, .next n] =
      [.nothing] ++ specRun rows k true [.next n] by simp only [specRun, if_neg hk']; rfl, next1,
      ← List.append_assoc]
    exact last _ _
  · rw [history_windows_are_row_ranges hc]
    have hend : specEnd rows 0 [.next k] = k := by
      simp only [specEnd]
      split
      · omega
      · split
        · omega
        · split <;> omega
    have := specRun_append rows [.next k] [.next n] 0
    rw [hend, next1] at this
    simp only [specRun, List.singleton_append] at this ⊢
    rw [this]
    exact last _ _

/-- `setPage`/`consumeSlot`/`appendValue` on a page that passes `checkPageValues`: the values taken are the
    page's first `countLevelsEqual(defs, maxDef)` values in order (`values[pdense]` never runs past the decoded data). -/
theorem page_cells (maxDef : Nat) : ∀ (lv : List (Nat × Nat)) (vals : List Nat),
    countDef maxDef lv ≤ vals.length →
    (cellsOf maxDef lv vals).map (fun c => (c.d, c.r)) = lv ∧
    (∀ c ∈ cellsOf maxDef lv vals, (c.v.isSome = true ↔ c.d = maxDef)) ∧
    winValues (cellsOf maxDef lv vals) = vals.take (countDef maxDef lv) := by
  intro lv vals h
  -- branches of `cellsOf`: 1 no slot left, 2 a slot at `maxDef` takes the next value, 3 a slot at `maxDef` with no value
  -- left (excluded by `h`), 4 a null slot
  fun_induction cellsOf maxDef lv vals
  case case1 => simp [countDef, winValues]
  case case2 r lv v vs ih =>
    obtain ⟨a, b, c⟩ := ih (by simp [countDef] at h; omega)
    simp [countDef, winValues, a, Nat.add_comm 1] at c ⊢
    exact ⟨b, c⟩
  case case3 => simp [countDef] at h
  case case4 d r lv vs hd ih =>
    obtain ⟨a, b, c⟩ := ih (by simpa [countDef, hd] using h)
    simp [countDef, winValues, a, hd] at c ⊢
    exact ⟨b, c⟩

/-- `denseIdx`: slot `i` of a window points at its own value in the dense buffers, and null slots
    carry -1 (the counter `w.dense` of `consumeSlot`, started at `k`). -/
theorem denseIdx_points_to_value : ∀ (w : List Cell) (k i : Nat) (c : Cell), w[i]? = some c →
    match c.v with
    | some x => ∃ j, (denseIdxFrom k w)[i]? = some (((k + j : Nat) : Int)) ∧ (winValues w)[j]? = some x
    | none => (denseIdxFrom k w)[i]? = some (-1) := by
  intro w
  induction w with
  | nil => intro k i c h; simp at h
  | cons c0 w ih =>
    intro k i c h
    cases i with
    | zero =>
      simp at h; subst h
      cases hv : c0.v with
      | some x => exact ⟨0, by simp [denseIdxFrom, hv], by simp [winValues, hv]⟩
      | none => simp [denseIdxFrom, hv]
    | succ i =>
      simp at h
      cases hv0 : c0.v with
      | some y =>
        have := ih (k + 1) i c h
        cases hv : c.v with
        | some x =>
          rw [hv] at this
          obtain ⟨j, h1, h2⟩ := this
          refine ⟨j + 1, ?_, by simp [winValues, hv0]; exact h2⟩
          simp [denseIdxFrom, hv0, h1]; omega
        | none => rw [hv] at this; simp [denseIdxFrom, hv0, this]
      | none =>
        have := ih k i c h
        cases hv : c.v with
        | some x =>
          rw [hv] at this
          obtain ⟨j, h1, h2⟩ := this
          exact ⟨j, by simp [denseIdxFrom, hv0, h1], by simp [winValues, hv0]; exact h2⟩
        | none => rw [hv] at this; simp [denseIdxFrom, hv0, this]

example : denseIdxFrom 0 [⟨1, 0, some 7⟩, ⟨0, 1, none⟩, ⟨1, 1, some 8⟩] = [0, -1, 1] := by decide

/-- `starts(depth)` / `slotOf(depth, g)` on a window whose repetition levels are the concatenation of depth-`d`
    groups: `slotOf(d, g)` is the number of slots of the groups before `g`, and is refused exactly from `g = #groups` on. -/
theorem slotOf_is_group_offset (depth : Nat) (gs : List (List Nat)) (hgs : gs ≠ [])
    (h : ∀ g ∈ gs, grpOK depth g = true) :
    starts gs.flatten gs.flatten.length depth = offsets 0 gs ++ [gs.flatten.length] ∧
    ∀ g, slotOf gs.flatten gs.flatten.length depth g =
      if g < gs.length then some (gs.take g).flatten.length else none := by
  have hne : gs.flatten ≠ [] := by
    cases gs with
    | nil => exact absurd rfl hgs
    | cons g gs' =>
      have hg := h g (by simp)
      cases g with
      | nil => simp [grpOK] at hg
      | cons r t => simp
  have hst : starts gs.flatten gs.flatten.length depth = offsets 0 gs ++ [gs.flatten.length] := by
    simp only [starts, hne, if_false]
    rw [startsFrom_groups depth gs 0 h]
  refine ⟨hst, ?_⟩
  intro g
  simp only [slotOf, hne, if_false, hst]
  have hl : (offsets 0 gs ++ [gs.flatten.length]).length - 1 = gs.length := by
    simp [offsets_length]
  rw [hl]
  by_cases hg : g < gs.length
  · have : ¬ g ≥ gs.length := by omega
    simp only [this, if_false, hg, if_true]
    rw [List.getElem?_append_left (by rw [offsets_length]; exact hg), offsets_get gs 0 g hg]
    simp
  · have : g ≥ gs.length := by omega
    simp [this, hg]

example : (∀ g ∈ [[0, 2], [1, 2], [1], [0, 2]], grpOK 1 g = true) ∧
    starts [0, 2, 1, 2, 1, 0, 2] 7 1 = [0, 2, 4, 5, 7] := by decide

/-- a non-repeated window (`len(w.reps) == 0`): every slot is its own group at every depth -/
theorem slotOf_flat (nslots depth g : Nat) :
    slotOf [] nslots depth g = if g < nslots then some g else none := by
  simp only [slotOf, if_true]
  split <;> split <;> first | rfl | omega

/-- the depth-0 groups of a window are its rows: after `Next`, `slotOf(0, i)` is the first slot of
    window row `i` (what `metadataFor` / `computeOwn` index with) -/
theorem window_row_slots (rows : List (List Cell)) (hne : rows ≠ []) (hrows : ∀ row ∈ rows, rowOK row = true)
    (i : Nat) :
    slotOf (rows.flatten.map (·.r)) rows.flatten.length 0 i =
      if i < rows.length then some (rows.take i).flatten.length else none := by
  have hg : ∀ g ∈ rows.map (fun row => row.map (·.r)), grpOK 0 g = true := by
    intro g hg
    simp at hg
    obtain ⟨row, hrow, rfl⟩ := hg
    obtain ⟨c, t, rfl, hc, ht⟩ := rowOK_cons (hrows row hrow)
    simp [grpOK, hc]
    intro x hx; have := ht x hx; omega
  have hfl : rows.flatten.map (·.r) = (rows.map (fun row => row.map (·.r))).flatten := by
    simp [List.map_flatten]
  have hlen : rows.flatten.length = (rows.map (fun row => row.map (·.r))).flatten.length := by
    rw [← hfl, List.length_map]
  have := (slotOf_is_group_offset 0 (rows.map (fun row => row.map (·.r))) (by simpa using hne) hg).2 i
  rw [hfl, hlen, this]
  simp only [List.length_map]
  split
  · congr 1
    rw [← List.map_take, ← List.map_flatten, List.length_map]
  · rfl

end PqModel.Props.C19Window
