import PqModel.SeekBytes
import PqModel.SeekUnaligned
import PqModel.ReaderCursor
import PqModel.ReadRowsValues

/-! # C08 — the layers above and below the page-granularity model

`Props/C08.lean` proves the property for `FilePages` at page granularity. Here:
* the readers stacked on it — row-range views (`rangePages`), several row groups back to back
  (`multiPages`), the row reader with one cursor per column (`rowGroupRows`, hence `Reader` /
  `GenericReader`) — each through its own abstraction map, over ANY readers that refine the reference
  reader, `FilePages` being the instance of the examples (`SeekLayers.lean`, `ReaderSeek.lean`);
* the byte level below it, against the offset index the writer recorded (`SeekBytes.lean`, using
  C02's `layout_wf`);
* pages that do not start on a row boundary and pages without rows (`SeekUnaligned.lean`);
* the deprecated `Reader` with its two sub-readers (`ReaderCursor.lean`) and the value level of `ReadRows`
  (`ReadRowsValues.lean`). -/
namespace PqModel.Props.C08
open PqModel.Seek (Op Chunk)
open PqModel.SeekLayers PqModel.ReaderSeek

universe u

/-- a chunk whose data pages are non-empty -/
abbrev GoodChunk := { c : Chunk // ∀ r ∈ c.rows, 0 < r }

/-- the repaired `FilePages` of a chunk as a machine (`hi`: opened with the offset index loaded) -/
def pagesOf (hi : Bool) (c : GoodChunk) : Machine := filePages c.1 c.2 hi

/-- **range_seek_refines.** A row-range view `[off, off+len)` of any reader that refines the reference
    reader (in particular `FilePages`, `pagesOf`), over the window `W = (R.drop off).take len`: the last page is
    cut at the window end, a seek is refused only beyond the window (and then what is delivered is unchanged). -/
theorem range_seek_refines {α} (b : Machine.{u}) (off len : Nat) (hwin : off + len ≤ b.total)
    (R : List α) (hR : R.length = b.total) (s : (rangeM b off len hwin).σ)
    (h : (rangeM b off len hwin).Reach s) :
    (rangeM b off len hwin).Refines ((R.drop off).take len) s :=
  Machine.seek_refines _ _ (by simp [rangeM]; omega) s (Machine.reach_inv _ s h)

theorem range_history_refines (b : Machine.{u}) (off len : Nat) (hwin : off + len ≤ b.total) (ops : List Op) :
    Machine.RunOK len (some 0) ops ((rangeM b off len hwin).outs (rangeM b off len hwin).init ops) :=
  Machine.history_refines (rangeM b off len hwin) ops

example (c : GoodChunk) (off len : Nat) (hwin : off + len ≤ Seek.total c.1) (ops : List Op) :
    Machine.RunOK len (some 0) ops
      ((rangeM (pagesOf true c) off len hwin).outs (rangeM (pagesOf true c) off len hwin).init ops) :=
  range_history_refines (pagesOf true c) off len hwin ops

/-- **multi_seek_refines.** `multiPages` over the chunk readers of any number of row groups
    (seek = locate the row group by its row count, open its chunk, seek inside it; read = go on
    with the next chunk at EOF) refines the reference reader over the concatenation `R` of all their
    rows: after any history `seek k` makes it deliver `R.drop k` (it is never refused: `multiM_lenient`). -/
theorem multi_seek_refines {α} (ms : List Machine.{u}) (R : List α) (hR : R.length = Multi.total ms)
    (s : (multiM ms).σ) (h : (multiM ms).Reach s) : (multiM ms).Refines R s :=
  Machine.seek_refines _ _ hR s (Machine.reach_inv _ s h)

theorem multi_history_refines (ms : List Machine.{u}) (ops : List Op) :
    Machine.RunOK (Multi.total ms) (some 0) ops ((multiM ms).outs (multiM ms).init ops) :=
  Machine.history_refines (multiM ms) ops

/-- the chunks of one column over several row groups, read through `FilePages` -/
example (hi : Bool) (cs : List GoodChunk) (ops : List Op) :
    Machine.RunOK (Multi.total (cs.map (pagesOf hi))) (some 0) ops
      ((multiM (cs.map (pagesOf hi))).outs (multiM (cs.map (pagesOf hi))).init ops) :=
  multi_history_refines _ ops

/-- a range view of a multi-row-group column, as the merge planner builds them -/
example (hi : Bool) (cs : List GoodChunk) (off len : Nat)
    (hwin : off + len ≤ (multiM (cs.map (pagesOf hi))).total) (ops : List Op) :
    Machine.RunOK len (some 0) ops
      ((rangeM (multiM (cs.map (pagesOf hi))) off len hwin).outs (rangeM (multiM (cs.map (pagesOf hi))) off len hwin).init ops) :=
  range_history_refines _ off len hwin ops

/-- **reader_seek_refines.** `rowGroupRows` (`RowGroup.Rows`, row-range views; below `Reader`, `GenericReader`) over
    one page reader per column — different page layouts, any machines refining the reference reader over the same
    `T` rows. That every column delivers the same range is the invariant of the proof (`ColsAt`), not something
    an output shows. `L = true`: the page readers all accept a seek beyond the last row (`FilePages` over chunks
    with pages, `multiPages`); `L = false`: all refuse it (`rangePages`; the first column refuses, nothing has moved).
    Not covered: columns that answer such a seek differently (`rowGroupRows.SeekToRow` would leave the accepted
    columns moved), readers without columns, the value level of `ReadRows` (`read_rows_values` below). -/
theorem reader_seek_refines (T : Nat) (L : Bool) (ms : List Machine.{u}) (hne : ms ≠ [])
    (hT : ∀ m ∈ ms, m.total = T) (hfar : ∀ m ∈ ms, Mode L m) (ops : List ROp) :
    RRunOK T (some 0) ops (routs (rinit ms) ops) := by
  have := rrun_refines T L ops (rinit ms) (rinit_inv T L ms hne hT hfar)
  simpa [rpos, rinit] using this

/-- a chunk that has pages -/
abbrev PagedChunk := { c : Chunk // (∀ r ∈ c.rows, 0 < r) ∧ c.rows ≠ [] }
def pagesOf' (hi : Bool) (c : PagedChunk) : Machine := filePages c.1 c.2.1 hi

/-- one row group: every column its own chunk (own page layout), all of `T` rows -/
example (hi : Bool) (T : Nat) (cols : List PagedChunk) (hne : cols ≠ [])
    (hT : ∀ c ∈ cols, Seek.total c.1 = T) (ops : List ROp) :
    RRunOK T (some 0) ops (routs (rinit (cols.map (pagesOf' hi))) ops) :=
  reader_seek_refines T true _ (by simpa using hne)
    (List.forall_mem_map.mpr hT)
    (List.forall_mem_map (f := pagesOf' hi) |>.mpr fun c _ => filePages_lenient c.1 c.2.1 hi c.2.2) ops

/-- a file of several row groups: every column is a `multiPages` over its chunks -/
example (hi : Bool) (T : Nat) (cols : List (List GoodChunk)) (hne : cols ≠ [])
    (hT : ∀ cs ∈ cols, Multi.total (cs.map (pagesOf hi)) = T) (ops : List ROp) :
    RRunOK T (some 0) ops (routs (rinit (cols.map fun cs => multiM (cs.map (pagesOf hi)))) ops) :=
  reader_seek_refines T true _ (by simpa using hne)
    (List.forall_mem_map.mpr hT)
    (List.forall_mem_map.mpr fun _ _ => multiM_lenient _) ops

/-- the rows of a row-range view `[off, off+len)` of a row group (strict page readers) -/
example (hi : Bool) (off len : Nat) (cols : List { c : GoodChunk // off + len ≤ Seek.total c.1 }) (hne : cols ≠ [])
    (ops : List ROp) :
    RRunOK len (some 0) ops (routs (rinit (cols.map fun c => rangeM (pagesOf hi c.1) off len c.2)) ops) :=
  reader_seek_refines len false _ (by simpa using hne)
    (List.forall_mem_map.mpr fun _ _ => rfl)
    (List.forall_mem_map.mpr fun _ _ => rangeM_strict _ _ _ _) ops

/-- non-vacuity of the hypotheses: two columns of 30 rows cut into pages differently -/
example : ∀ r ∈ ({ rows := [10, 10, 10], dict := false } : Chunk).rows, 0 < r := by decide
example : Seek.total { rows := [10, 10, 10], dict := false } = Seek.total { rows := [7, 23], dict := true } := by decide

/-- **seek_byte_position** (byte level, tied to C02's `layout_wf`): the statement of
    `SeekBytes.seek_byte_position`, described there. -/
theorem seek_byte_position (start : Nat) (ps : List Layout.PageOp) (k : Nat) (s : SeekBytes.Stream)
    (hs : s.unread ≤ s.pos) (hne : SeekBytes.rowsOf ps ≠ []) :
    let locs := (Layout.chunkMeta start ps).locs
    let t := SeekBytes.targetB locs k
    t = Seek.target (SeekBytes.rowsOf ps) k ∧
    ∃ loc, (Layout.specLocs start 0 ps)[t]? = some loc ∧
      start + SeekBytes.logical (SeekBytes.reposition start locs t s) = loc.offset ∧
      loc.firstRow = Seek.firstRow (SeekBytes.rowsOf ps) t ∧ loc.firstRow ≤ k :=
  SeekBytes.seek_byte_position start ps k s hs hne

/-- **unaligned_seek_refines** (v1 pages of a repeated column, no offset index; pages may begin
    with the tail of a row and may hold no row start at all): after `SeekToRow(k)` the next value
    delivered is the first value of row `k`, and every read returns the values of the stream from
    the reader's position on (`ReadOK`: a non-empty run of the stream, the position advancing by
    its length; EOF only at the end of the stream). -/
theorem unaligned_seek_refines (chunk : List (List Nat)) (hne : ∀ p ∈ chunk, p ≠ [])
    (hwf : chunk.flatten.head? = some 0 ∨ chunk.flatten = []) :
    (∀ k, SeekUnaligned.vpos chunk (SeekUnaligned.seek k) = SeekUnaligned.nthZero chunk.flatten k) ∧
    (∀ s : SeekUnaligned.St, s.pos ≤ chunk.length →
      SeekUnaligned.ReadOK chunk (SeekUnaligned.vpos chunk s) (SeekUnaligned.readPage chunk s)) :=
  ⟨fun k => SeekUnaligned.seek_spec chunk k hwf, fun s hp => SeekUnaligned.readPage_spec chunk hne s hp⟩

example : (SeekUnaligned.readPage SeekUnaligned.demo (SeekUnaligned.seek 2)).2 = .page [0] := by decide

/-! ### the deprecated `Reader`: two row readers, one cursor (`ReaderCursor.lean`) -/
open PqModel.ReaderCursor in
/-- **reader_cursor_refines.** `parquet.Reader` (and `GenericReader`, which wraps it) keeps a row
    reader for `ReadRows` and another for `Read(&v)` behind one `rowIndex`. Over any two row readers
    of the same `T` rows that refine the reference row reader and accept every seek, every history
    that mixes SeekToRow / ReadRows(n) / Read / Reset in any order is a run of ONE row counter:
    `ReadRows` after `Read` continues where `Read` stopped and vice versa, a seek moves both, and a
    failed read delivers nothing and leaves the position where it was. -/
theorem reader_cursor_refines (mf mr : RowM.{u}) (T : Nat) (hf : mf.total = T) (hr : mr.total = T)
    (ops : List XOp) :
    XRunOK T 0 ops (outs step (init mf.toRowR mr.toRowR) ops) :=
  run_refines mf mr T hf hr ops _ (init_inv mf mr)

open PqModel.ReaderCursor in
/-- `Reader` over a file of several row groups: both sub-readers are `rowGroupRows` over `multiPages` -/
example (hi : Bool) (T : Nat) (cols : List (List GoodChunk)) (hne : cols ≠ [])
    (hT : ∀ cs ∈ cols, Multi.total (cs.map (pagesOf hi)) = T) (ops : List XOp) :
    let ms := cols.map fun cs => multiM (cs.map (pagesOf hi))
    ∀ (h1 : ms ≠ []) (h2 : ∀ m ∈ ms, m.total = T) (h3 : ∀ m ∈ ms, m.Lenient),
    XRunOK T 0 ops (outs step (init (rowsM T ms h1 h2 h3).toRowR (rowsM T ms h1 h2 h3).toRowR) ops) :=
  fun h1 h2 h3 => reader_cursor_refines (rowsM T _ h1 h2 h3) (rowsM T _ h1 h2 h3) T rfl rfl ops

open PqModel.ReaderCursor in
/-- the same `Reader` with the seek taken out of `ReadRows` is refuted: `Read(&v)` then `ReadRows(1)`
    delivers row 0 twice -/
example : ¬ XRunOK 10 0 mixed (outs stepNoSeek (init (refR 10) (refR 10)) mixed) := by
  intro h
  have h0 : outs stepNoSeek (init (refR 10) (refR 10)) mixed = [.rows 0 1, .rows 0 1] := by decide
  rw [h0] at h
  cases h with
  | cons a b =>
    rcases a with ⟨_, rfl⟩ | ⟨a, _⟩
    · cases b with
      | cons c _ =>
        rcases c with ⟨c, _⟩ | ⟨c, _⟩
        · simp at c
        · cases c
    · cases a

/-! ### the value level of `ReadRows` (`ReadRowsValues.lean`) -/
open PqModel.ReadRowsValues in
/-- **read_rows_values.** The loop of `rowGroupRows.ReadRows` over one column rebuilds rows from
    repetition levels: whatever the batches `ReadValues` hands out (page ends, a value buffer of any
    size, rows spanning several refills), `ReadRows(n)` appends to row `i` exactly the values of
    the column's `i`-th remaining row for `i < min n |rows|`, counts `min n |rows|` rows and leaves
    the column on the first value of the next row. -/
theorem read_rows_values {α : Type} (rep : α → Nat) (n : Nat) (c : ColV α) (rows : List (List α))
    (hwf : ∀ r ∈ rows, RowWF rep r) (hs : c.stream = rows.flatten) (hne : ∀ b ∈ c.src, b ≠ []) :
    (colRows rep n c).2 = rows.take n ++ List.replicate (n - rows.length) [] ∧
    rowCount (colRows rep n c).2 = min n rows.length ∧
    (colRows rep n c).1.stream = (rows.drop n).flatten :=
  let h := PqModel.ReadRowsValues.read_rows_values rep n c rows hwf hs hne
  ⟨h.1, h.2.1, h.2.2.1⟩

example : (PqModel.ReadRowsValues.colRows id 2 PqModel.ReadRowsValues.demo).2 = [[0, 1, 1], [0]] := by decide

end PqModel.Props.C08
