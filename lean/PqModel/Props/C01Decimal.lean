import PqModel.LogicalDecimal

/-! # C01 — binary DECIMAL (`*big.Float` on BYTE_ARRAY / FIXED_LEN_BYTE_ARRAY) and TIME(unit) /
    `time.Duration` conversions round-trip, with their exact domains. The `*_before_fix` facts are about the typed
    and `Schema.Deconstruct` write paths before library commit 21a275d, on the old mirror `durWriteBeforeFix`. -/
namespace PqModel.Props.C01Decimal
open PqModel.Stats PqModel.LogicalDecimal

/-- the write mirror meets the SPEC: for every integer the bytes are the big-endian two's complement of it -/
theorem decimal_write_spec (i : Int) :
    IsBytes (bigIntToByteArray i) ∧ decimalValue (bigIntToByteArray i) = i :=
  ⟨(bigIntToByteArray_spec i).1, (bigIntToByteArray_spec i).2.1⟩

/-- the read mirror meets the SPEC on every byte string (also non-minimal and empty ones) -/
theorem decimal_read_spec (data : List Nat) (h : IsBytes data) : readDecimal data = decimalValue data :=
  readDecimal_eq_spec data h

/-- **BYTE_ARRAY DECIMAL: read ∘ write = id on every integer** (no domain restriction) -/
theorem decimal_bytes_read_write (i : Int) :
    ∃ b, writeDecimal none i = some b ∧ readDecimal b = i := by
  refine ⟨_, rfl, ?_⟩
  rw [readDecimal_eq_spec _ (bigIntToByteArray_spec i).1]
  exact (bigIntToByteArray_spec i).2.1
example : writeDecimal none (-129) = some [255, 127] ∧ readDecimal [255, 127] = -129 := by decide

/-- **FIXED_LEN_BYTE_ARRAY(n) DECIMAL: read ∘ write = id on `2*|i| < 256^n`**, and the page value has
    exactly `n` bytes -/
theorem decimal_flba_read_write (i : Int) (n : Nat) (h : 2 * i.natAbs < 256 ^ n) :
    ∃ b, writeDecimal (some n) i = some b ∧ b.length = n ∧ IsBytes b ∧ readDecimal b = i := by
  have ⟨hb, hv, hs⟩ := bigIntToByteArray_spec i
  have hl := (bigIntToByteArray_length_le i n).mpr h
  simp only [writeDecimal, padToFixedLen]
  split
  · rename_i he
    exact ⟨_, rfl, he, hb, by rw [readDecimal_eq_spec _ hb]; exact hv⟩
  · rw [if_neg (by omega)]
    refine ⟨_, rfl, by simp; omega, ?_, ?_⟩
    · apply isBytes_append _ hb
      apply isBytes_replicate; split <;> omega
    · have hpad := decimalValue_pad (n - (bigIntToByteArray i).length) (bigIntToByteArray i)
      rw [hs] at hpad
      rw [readDecimal_eq_spec]
      · rw [hpad]; exact hv
      · apply isBytes_append _ hb
        apply isBytes_replicate; split <;> omega
example : writeDecimal (some 3) (-2) = some [255, 255, 254] ∧ 2 * (-2 : Int).natAbs < 256 ^ 3 := by decide

/-- the domain is exact: outside it the writer panics ("decimal value requires %d bytes ...") -/
theorem decimal_flba_domain (i : Int) (n : Nat) :
    writeDecimal (some n) i = none ↔ ¬ 2 * i.natAbs < 256 ^ n := by
  rw [← bigIntToByteArray_length_le]
  simp only [writeDecimal, padToFixedLen]
  constructor
  · intro h
    split at h
    · cases h
    · split at h
      · omega
      · cases h
  · intro h
    rw [if_neg (by omega), if_pos (by omega)]
example : writeDecimal (some 1) 128 = none := by decide

/-- every unscaled value of precision `p` fits when `n` bytes can hold precision `p`
    (LogicalTypes.md: `p ≤ floor(log10(2^(8n-1) - 1))`, i.e. `10^p ≤ 2^(8n-1)`) -/
theorem decimal_flba_precision (i : Int) (n p : Nat) (hp : 2 * 10 ^ p ≤ 256 ^ n) (hi : i.natAbs < 10 ^ p) :
    ∃ b, writeDecimal (some n) i = some b ∧ b.length = n ∧ readDecimal b = i := by
  have ⟨b, h1, h2, _, h4⟩ := decimal_flba_read_write i n (by omega)
  exact ⟨b, h1, h2, h4⟩
example : 2 * 10 ^ 2 ≤ 256 ^ 1 ∧ (-99 : Int).natAbs < 10 ^ 2 := by decide

/-- outside the domain but inside the format: `-2^(8n-1)` has an `n`-byte two's complement (`0x80`), the
    writer asks for `n+1` bytes and panics (no value of a legal precision is affected) -/
theorem decimal_flba_edge :
    decimalValue [128] = -128 ∧ bigIntToByteArray (-128) = [255, 128] ∧ writeDecimal (some 1) (-128) = none := by
  decide

/-- rewriting what was read keeps the VALUE of every stored byte string, not the bytes: a non-minimal
    BYTE_ARRAY encoding is normalised -/
theorem decimal_leaf_value_exact (data : List Nat) (h : IsBytes data) :
    decimalValue (bigIntToByteArray (readDecimal data)) = decimalValue data := by
  rw [(bigIntToByteArray_spec _).2.1, readDecimal_eq_spec data h]
theorem decimal_leaf_bytes_witness : bigIntToByteArray (readDecimal [0, 1]) = [1] := by decide

/-- **Read after write**: a duration reads back cut down to whole units toward zero; for TIME(MILLIS)
    under the hypothesis that the millisecond count fits the INT32 column -/
theorem duration_read_write (u : TUnit) (d : Int) (hd : IsInt64 d)
    (hm : u = .milli → IsInt32 (quoT d 1000000)) :
    durOfLeaf u (durToLeaf u d) = truncTo u d := by
  have hleaf : durToLeaf u d = quoT d u.nanos := by
    rw [durToLeaf_eq]
    split
    · rename_i h; subst h; exact wrap32_of_isInt32 (hm rfl)
    · rfl
  rw [hleaf, durOfLeaf]
  exact wrap64_of_isInt64 (isInt64_truncTo u d hd)
example : IsInt64 (-1500000) ∧ IsInt32 (quoT (-1500000) 1000000) ∧
    durOfLeaf .milli (durToLeaf .milli (-1500000)) = -1000000 := by decide

/-- the hypothesis of TIME(MILLIS) is needed: 2^31 ms (24 d 20 h 31 min 23.648 s) is stored as -2^31 and
    reads back negative; `writeDuration` converts with `int32(...)` and reports nothing -/
theorem duration_milli_overflow :
    IsInt64 2147483648000000 ∧ durToLeaf .milli 2147483648000000 = -2147483648 ∧
    durOfLeaf .milli (durToLeaf .milli 2147483648000000) = -2147483648000000 := by decide

/-- **Leaf exactness**: a stored TIME leaf whose nanosecond count fits `int64` — every INT32 leaf of
    TIME(MILLIS) — is rebuilt into a duration that writes back to the same leaf -/
theorem time_leaf_exact (u : TUnit) (v : Int) (hv : IsInt64 (v * u.nanos))
    (hm : u = .milli → IsInt32 v) : durToLeaf u (durOfLeaf u v) = v := by
  have hn : u.nanos ≠ 0 := by cases u <;> decide
  rw [durOfLeaf, wrap64_of_isInt64 hv, durToLeaf_eq, quoT, Int.mul_tdiv_cancel _ hn]
  split
  · rename_i h; exact wrap32_of_isInt32 (hm h)
  · rfl

/-- every INT32 leaf satisfies the first hypothesis of `time_leaf_exact` -/
theorem time_leaf_milli_fits (v : Int) (h : IsInt32 v) : IsInt64 (v * TUnit.milli.nanos) := by
  simp only [IsInt32, IsInt64, TUnit.nanos] at *; omega
example : durToLeaf .milli (durOfLeaf .milli (-2147483648)) = -2147483648 := by decide

/-- an INT64 TIME(MICROS) leaf above 2^63/1000 µs (292 years; not a time of day) does not survive -/
theorem time_leaf_micro_overflow :
    IsInt64 9223372036854776 ∧ durToLeaf .micro (durOfLeaf .micro 9223372036854776) ≠ 9223372036854776 := by
  decide

/-- **All write paths agree**: on every TIME unit and every duration, `GenericWriter[T]` / `GenericBuffer[T]`
    (typed), `Writer.Write` (deconstruct) and `GenericWriter[any]` (reflect) store the leaf of `writeDuration` -/
theorem duration_paths_agree (p : DurPath) (u : TUnit) (d : Int) : durWrite p u d = some (durToLeaf u d) := by
  cases p <;> cases u <;> rfl
example : durWrite .typed .micro 5000000000 = some 5000000 := by decide

/-- **Read after write on every path**: whatever the writer, a duration reads back cut down to whole units
    toward zero (TIME(MILLIS): when the millisecond count fits the INT32 column) -/
theorem duration_read_write_all_paths (p : DurPath) (u : TUnit) (d : Int) (hd : IsInt64 d)
    (hm : u = .milli → IsInt32 (quoT d 1000000)) :
    (durWrite p u d).map (durOfLeaf u) = some (truncTo u d) := by
  rw [duration_paths_agree, Option.map_some, duration_read_write u d hd hm]
example : (durWrite .deconstruct .milli 5000000000).map (durOfLeaf .milli) = some 5000000000 := by decide

/-! ### regression facts about the code before the repair (library commit 21a275d) -/

/-- before the repair the paths agreed on TIME(NANOS) only -/
theorem duration_paths_nano_before_fix (p : DurPath) (d : Int) : durWriteBeforeFix p .nano d = some d := by
  cases p <;> rfl

/-- **Violation before the repair (typed path, `GenericWriter[T]` / `GenericBuffer[T]`)**: 5 s on a
    TIME(MICROS) column was stored as 5000000000 (its nanoseconds) and read back as 1h23m20s; on TIME(MILLIS)
    it was stored as `int32(5000000000)` = 705032704 and read back as 195h50m32.704s -/
theorem duration_typed_violation_before_fix :
    (durWriteBeforeFix .typed .micro 5000000000).map (durOfLeaf .micro) = some 5000000000000 ∧
    (durWriteBeforeFix .typed .milli 5000000000).map (durOfLeaf .milli) = some 705032704000000 ∧
    truncTo .micro 5000000000 = 5000000000 ∧ truncTo .milli 5000000000 = 5000000000 := by decide

/-- **Violation before the repair (`Writer.Write` / `Schema.Deconstruct`)**: a TIME(MILLIS) field panicked, a
    TIME(MICROS) field stored the nanoseconds -/
theorem duration_deconstruct_violation_before_fix :
    durWriteBeforeFix .deconstruct .milli 5000000000 = none ∧
    (durWriteBeforeFix .deconstruct .micro 5000000000).map (durOfLeaf .micro) = some 5000000000000 := by decide

end PqModel.Props.C01Decimal
