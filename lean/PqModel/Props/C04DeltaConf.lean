import PqModel.DeltaConfBytes
import PqModel.DeltaAmd64

/-! # C04 (part DELTA, conformance) — every spec-conformant DELTA stream is read back, by the format's
decoder and by the Go decoders.

`ConfStream n` (SPEC side; the head of PqModel/DeltaConf.lean says what it leaves free) describes every stream
a conformant writer may emit for a list of `n`-bit integers: `s.bytes` is the stream, `s.values` its
meaning, `s.OK` the decidable well-formedness condition. The second half does the same for the two byte-array
encodings over any two such length streams, also through the amd64 wrapper.

The statements quantify over all streams of the family (all lengths, geometries, widths, paddings)
and over whatever follows the stream (`tail`): DELTA_LENGTH_BYTE_ARRAY and DELTA_BYTE_ARRAY put
their value bytes right after such a stream, so "hands back exactly `tail`" is the part that
matters there. `goDecode*` are the mirrors of the Go decoders (PqModel/DeltaGo.lean), tied to the
real code by the L2 comparisons (values AND the number of unread bytes). -/
namespace PqModel.Props.C04DeltaConf
open PqModel.Delta

/-- The decoder written from the format reads every conformant INT32 stream: its meaning, and
exactly the bytes that follow. -/
theorem conformant32_spec (s : ConfStream 32) (tail : List Nat) (h : s.OK) :
    specDecode32 (s.bytes ++ tail) = .ok (s.values, tail) :=
  specDecode_conf (by decide) s tail h

theorem conformant64_spec (s : ConfStream 64) (tail : List Nat) (h : s.OK) :
    specDecode64 (s.bytes ++ tail) = .ok (s.values, tail) :=
  specDecode_conf (by decide) s tail h

/-- The Go INT32 decoder (`decodeInt32`) reads every conformant stream with a block size of at
most 65536 and fewer than 2^31 values: same values, same rest — no error alternative. In
particular the width bytes of unneeded miniblocks are skipped without consuming input whatever
their value (seeded change C04-3a breaks exactly this: L2 `delta-32-decoder-rest`, L1
`delta32-decode-conformant-foreign-rest`). -/
theorem conformant32_go (s : ConfStream 32) (tail : List Nat) (h : s.OK)
    (hbs : s.blockSize ≤ 65536) (ht : s.total < 2 ^ 31) :
    goDecode32 (s.bytes ++ tail) = .ok (s.values, tail) :=
  goDecode_conf (Or.inl rfl) s tail h hbs ht

/-- INT64 twin (`decodeInt64`). -/
theorem conformant64_go (s : ConfStream 64) (tail : List Nat) (h : s.OK)
    (hbs : s.blockSize ≤ 65536) (ht : s.total < 2 ^ 31) :
    goDecode64 (s.bytes ++ tail) = .ok (s.values, tail) :=
  goDecode_conf (Or.inr rfl) s tail h hbs ht

/-- a stream of the family with everything the library's own encoder never does: frame of
reference −1 (not the minimum), width 3 for values that need 3 bits, padding 7,7,…, stale width
bytes 17, 255, 3 for the three unneeded miniblocks -/
def exampleStream : ConfStream 32 :=
  { blockSize := 128, minis := 4, total := 3, first := 5#32,
    blocks := [{ minD := (-1 : BitVec 64), minis := [⟨3, [6, 1] ++ List.replicate 30 7⟩], stale := [17, 255, 3] }] }

example : exampleStream.OK ∧ exampleStream.blockSize ≤ 65536 ∧ exampleStream.total < 2 ^ 31 := by decide
example : exampleStream.values = [5#32, 10#32, 10#32] := by decide +kernel
example : exampleStream.bytes.take 10 = [128, 1, 4, 3, 10, 1, 3, 17, 255, 3] := by decide +kernel

/-- The grammar form: `ValidDelta n xs bs` ("bs is a conformant encoding of xs") implies that the
spec decoder returns `xs` — soundness of the oracle for every conformant writer. -/
theorem valid32_spec {xs : List (BitVec 32)} {bs : List Nat} (h : ValidDelta 32 xs bs) (tail : List Nat) :
    specDecode32 (bs ++ tail) = .ok (xs, tail) :=
  validDelta_specDecode (by decide) h tail

theorem valid64_spec {xs : List (BitVec 64)} {bs : List Nat} (h : ValidDelta 64 xs bs) (tail : List Nat) :
    specDecode64 (bs ++ tail) = .ok (xs, tail) :=
  validDelta_specDecode (by decide) h tail

example : ValidDelta 32 [5#32, 10#32, 10#32] exampleStream.bytes :=
  ⟨exampleStream, by decide, rfl, by decide +kernel⟩

/-- DELTA_LENGTH_BYTE_ARRAY: any conformant stream of the lengths, then the bytes: the spec decoder
returns the values. -/
theorem conformant_dlba_spec (s : ConfStream 32) (vs : List (List Nat)) (tail : List Nat) (hs : s.OK)
    (hv : s.values = lensOf vs) (h31 : ∀ v ∈ vs, v.length < 2 ^ 31) :
    specDecodeDLBA (s.bytes ++ (vs.flatten ++ tail)) = .ok (vs, tail) :=
  specDecodeDLBA_conf s vs tail hs hv h31

/-- DELTA_LENGTH_BYTE_ARRAY, Go decoder: the concatenated values and their offsets. -/
theorem conformant_dlba_go (s : ConfStream 32) (vs : List (List Nat)) (tail : List Nat) (hs : s.OK)
    (hv : s.values = lensOf vs) (h31 : ∀ v ∈ vs, v.length < 2 ^ 31)
    (hbs : s.blockSize ≤ 65536) (ht : s.total < 2 ^ 31) (hb : vs.flatten.length < 2 ^ 32) :
    goDecodeDLBA (s.bytes ++ (vs.flatten ++ tail)) = .ok (vs.flatten, offsetsFrom 0 vs) :=
  goDecodeDLBA_conf s vs tail hs hv h31 hbs ht hb

/-- lengths 1, 0 in a stream with stale widths after the needed miniblock -/
def exampleLens : ConfStream 32 :=
  { blockSize := 128, minis := 4, total := 2, first := 1#32,
    blocks := [{ minD := (-1 : BitVec 64), minis := [⟨1, [0] ++ List.replicate 31 1⟩], stale := [8, 8, 8] }] }

example : exampleLens.OK ∧ exampleLens.values = lensOf [[0xab], []] ∧ (∀ v ∈ [[0xab], ([] : List Nat)], v.length < 2 ^ 31) ∧
    exampleLens.blockSize ≤ 65536 ∧ exampleLens.total < 2 ^ 31 ∧ ([[0xab], []] : List (List Nat)).flatten.length < 2 ^ 32 := by
  decide +kernel

/-- DELTA_BYTE_ARRAY: any conformant prefix-length stream whose prefixes are shared with the
previous value (not necessarily the longest shared prefix), any conformant suffix-length stream,
the suffix bytes: the spec decoder returns the values. -/
theorem conformant_dba_spec (sp ss : ConfStream 32) (ps : List Nat) (vs : List (List Nat)) (tail : List Nat)
    (hsp : sp.OK) (hss : ss.OK) (hpv : sp.values = ps.map (BitVec.ofNat 32))
    (hp : prefixesOK [] ps vs) (hsv : ss.values = lensOf (cutSuffixes ps vs))
    (h31 : ∀ v ∈ vs, v.length < 2 ^ 31) :
    specDecodeDBA (sp.bytes ++ (ss.bytes ++ ((cutSuffixes ps vs).flatten ++ tail))) = .ok (vs, tail) :=
  specDecodeDBA_conf sp ss ps vs tail hsp hss hpv hp hsv h31

/-- DELTA_BYTE_ARRAY, portable Go decoder (`DecodeByteArray`, and `DecodeFixedLenByteArray` which
runs the same loop and returns the concatenation). -/
theorem conformant_dba_go (sp ss : ConfStream 32) (ps : List Nat) (vs : List (List Nat)) (tail : List Nat)
    (hsp : sp.OK) (hss : ss.OK) (hpv : sp.values = ps.map (BitVec.ofNat 32))
    (hp : prefixesOK [] ps vs) (hsv : ss.values = lensOf (cutSuffixes ps vs))
    (h31 : ∀ v ∈ vs, v.length < 2 ^ 31)
    (hb1 : sp.blockSize ≤ 65536) (ht1 : sp.total < 2 ^ 31) (hb2 : ss.blockSize ≤ 65536) (ht2 : ss.total < 2 ^ 31) :
    goDecodeDBA (sp.bytes ++ (ss.bytes ++ ((cutSuffixes ps vs).flatten ++ tail))) = .ok vs :=
  goDecodeDBA_conf sp ss ps vs tail hsp hss hpv hp hsv h31 hb1 ht1 hb2 ht2

/-- DELTA_BYTE_ARRAY as the default (assembly) build decodes it: the mirror of `DecodeByteArray` with
the amd64 Go wrapper (PqModel/DeltaAmd64.lean; AVX2 kernels by contract) returns the values of
every conformant stream that ends with its suffix bytes, as the values section of a data page does. -/
theorem conformant_dba_go_amd64 (sp ss : ConfStream 32) (ps : List Nat) (vs : List (List Nat))
    (hsp : sp.OK) (hss : ss.OK) (hpv : sp.values = ps.map (BitVec.ofNat 32))
    (hp : prefixesOK [] ps vs) (hsv : ss.values = lensOf (cutSuffixes ps vs))
    (h31 : ∀ v ∈ vs, v.length < 2 ^ 31)
    (hb1 : sp.blockSize ≤ 65536) (ht1 : sp.total < 2 ^ 31) (hb2 : ss.blockSize ≤ 65536) (ht2 : ss.total < 2 ^ 31) :
    goDecodeDBAamd64 (sp.bytes ++ (ss.bytes ++ (cutSuffixes ps vs).flatten)) = .ok vs := by
  have h := conformant_dba_go sp ss ps vs [] hsp hss hpv hp hsv h31 hb1 ht1 hb2 ht2
  simp only [List.append_nil] at h
  have h1 := goDecode_conf (Or.inl rfl) sp (ss.bytes ++ (cutSuffixes ps vs).flatten) hsp hb1 ht1
  have h2 := goDecode_conf (Or.inl rfl) ss ((cutSuffixes ps vs).flatten) hss hb2 ht2
  obtain ⟨_, hsn⟩ := natLens_ok (natLens_lensOf (cutSuffixes ps vs) (cutSuffixes_lt vs ps h31))
  refine goDecodeDBAamd64_eq _ _ _ _ _ vs h1 h2 h ?_
  rw [hsv, ← hsn, List.length_flatten]

/-- FIXED_LEN_BYTE_ARRAY(size) through DELTA_BYTE_ARRAY as the default (assembly) build decodes it:
the mirror of `DecodeFixedLenByteArray` with the amd64 Go wrapper of `decodeFixedLenByteArray`
(kernels by contract) returns the values of every conformant stream whose values have `size` bytes
(prefix length + suffix length = size at every position) and that ends with its suffix bytes. -/
theorem conformant_flba_go_amd64 (size : Nat) (sp ss : ConfStream 32) (ps : List Nat) (vs : List (List Nat))
    (hsp : sp.OK) (hss : ss.OK) (hpv : sp.values = ps.map (BitVec.ofNat 32))
    (hp : prefixesOK [] ps vs) (hsv : ss.values = lensOf (cutSuffixes ps vs))
    (h31 : ∀ v ∈ vs, v.length < 2 ^ 31)
    (hsz : allSize size (sp.values.map BitVec.toNat) (ss.values.map BitVec.toNat))
    (hb1 : sp.blockSize ≤ 65536) (ht1 : sp.total < 2 ^ 31) (hb2 : ss.blockSize ≤ 65536) (ht2 : ss.total < 2 ^ 31) :
    goDecodeFLBAamd64 size (sp.bytes ++ (ss.bytes ++ (cutSuffixes ps vs).flatten)) = .ok vs := by
  have h := conformant_dba_go sp ss ps vs [] hsp hss hpv hp hsv h31 hb1 ht1 hb2 ht2
  simp only [List.append_nil] at h
  have h1 := goDecode_conf (Or.inl rfl) sp (ss.bytes ++ (cutSuffixes ps vs).flatten) hsp hb1 ht1
  have h2 := goDecode_conf (Or.inl rfl) ss ((cutSuffixes ps vs).flatten) hss hb2 ht2
  obtain ⟨_, hsn⟩ := natLens_ok (natLens_lensOf (cutSuffixes ps vs) (cutSuffixes_lt vs ps h31))
  refine goDecodeFLBAamd64_eq size _ _ _ _ _ vs h1 h2 h hsz ?_
  rw [hsv, ← hsn, List.length_flatten]

/-- prefixes 0, 1 (the longest shared prefix of the second value would be 2) for `ab cd`, `ab cd ef` -/
example : prefixesOK [] [0, 1] [[0xab, 0xcd], [0xab, 0xcd, 0xef]] ∧
    cutSuffixes [0, 1] [[0xab, 0xcd], [0xab, 0xcd, 0xef]] = [[0xab, 0xcd], [0xcd, 0xef]] := by decide

/-- what "shared prefix" means: the value is rebuilt from the previous one -/
theorem prefixes_rebuild (vs : List (List Nat)) (ps : List Nat) (h : prefixesOK [] ps vs) :
    joinPrefix [] ps (cutSuffixes ps vs) = .ok vs :=
  joinPrefix_any vs ps [] h

end PqModel.Props.C04DeltaConf
