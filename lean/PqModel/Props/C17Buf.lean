import PqModel.ResetBuf

/-! # C17, Buffer side: column buffers reused through `Reset`

Model: `PqModel/ResetBuf.lean` (the C10 arrays of `optionalColumnBuffer` / `repeatedColumnBuffer`
plus the state `Reset()` leaves alone: `reordered`, `sortIndex`, the spare buffer `reordering`).

Statement: from ANY earlier state `b` (so in particular after every earlier history of writes /
`Swap`s / `Page()`s / `Reset`s, with every content of the memory under a re-extended `sortIndex`,
every stale flag and spare buffer), a buffer that is `Reset` and then driven through any further
history shows the observations of a fresh buffer driven through that further history:
the rows held, `Len()`, what `Page()` hands out (values and levels), every `Less(i, j)`.
For the repeated buffer `Size()` too (`rep_reset_size`).
`Size()` is NOT among them for the optional buffer: it counts the stale `sortIndex`
(`opt_size_after_reset`, witness `opt_size_reset_differs`; reproduced on the library, see the
sub-check `bufreset`). -/
namespace PqModel.ResetBuf
open PqModel.SortBuf

theorem OptBuf.fresh_inv {V : Type} (m : Nat) : (OptBuf.fresh : OptBuf V).col.Inv m := OptCol.Inv.empty m

/-- refinement: through every history (writes, swaps, pages with arbitrary dirty scratch memory,
    resets) the mirror holds exactly the rows of the abstract buffer (a list of rows: write appends,
    swap exchanges, page keeps, reset empties), and keeps the C10 invariant -/
theorem opt_refines {V : Type} (m : Nat) (ops : List (BOp V)) (hw : ∀ op ∈ ops, op.WF m) :
    ((OptBuf.fresh : OptBuf V).run m ops).col.Inv m ∧
    ((OptBuf.fresh : OptBuf V).run m ops).col.view = absRun m [] ops :=
  OptBuf.run_refines ops _ (OptBuf.fresh_inv m) hw

/-- the rows held after `Reset` and a further history are those of a fresh buffer — from ANY earlier
    state `b` (every reachable one `OptBuf.fresh.run m hist` included, whatever its flags and scratch) -/
theorem opt_reset_view {V : Type} (m : Nat) (b : OptBuf V) (next : List (BOp V)) (hn : ∀ op ∈ next, op.WF m) :
    let a := (b.reset.run m next : OptBuf V)
    let f := (OptBuf.fresh.run m next : OptBuf V)
    a.col.Inv m ∧ f.col.Inv m ∧ a.col.view = f.col.view := by
  obtain ⟨ia, va⟩ := OptBuf.run_refines next _ (b.reset_inv m).1 hn
  obtain ⟨i2, v2⟩ := opt_refines m next hn
  refine ⟨ia, i2, ?_⟩
  rw [va, v2, (b.reset_inv m).2]

/-- C17 for the optional column buffer: after `Reset`, for every earlier and every later history,
    `Len()`, the page handed out (for every scratch memory content on either side) and every
    `Less(i, j)` of a sorting column equal a fresh buffer's -/
theorem opt_reset_equiv {V : Type} (o : VOrd V) (sc : SortCol) (m : Nat) (b : OptBuf V) (next : List (BOp V))
    (hn : ∀ op ∈ next, op.WF m) (junk junk' : List Nat) :
    let a := (b.reset.run m next : OptBuf V)
    let f := (OptBuf.fresh.run m next : OptBuf V)
    a.len = f.len ∧ a.pageOut m junk = f.pageOut m junk' ∧
    ∀ i j, i < f.len → j < f.len →
      Col.less o.lt sc.desc sc.nullsFirst (.opt m a.col) i j = Col.less o.lt sc.desc sc.nullsFirst (.opt m f.col) i j := by
  intro a f
  obtain ⟨ia, i2, v⟩ := opt_reset_view m b next hn
  have hl : a.col.rows.length = f.col.rows.length := by
    rw [← OptCol.length_view ia, ← OptCol.length_view i2, v]
  refine ⟨hl, by rw [OptBuf.pageOut_spec ia, OptBuf.pageOut_spec i2, v], fun i j hi hj => ?_⟩
  have hv : (Col.opt m f.col).view.length = f.len := OptCol.length_view i2
  exact less_of_view o sc (c := .opt m a.col) (c' := .opt m f.col) ia i2 v (hv ▸ hi) (hv ▸ hj)

/-- hypotheses satisfiable, and the state after `Reset` really differs from a fresh one: a `Swap`
    followed by `Reset` leaves `reordered` set, a sorted and paged generation leaves `sortIndex` -/
example :
    let hist : List (BOp Int) := [.write (.vals [3, 1]), .write (.nulls 0 1), .write (.vals [2]), .swap 0 3, .page [], .swap 0 1]
    (∀ op ∈ hist, op.WF 1) ∧
    ((OptBuf.fresh.run 1 hist).reset : OptBuf Int) ≠ OptBuf.fresh ∧
    ((OptBuf.fresh.run 1 hist).reset : OptBuf Int).col.reordered = true ∧
    ((OptBuf.fresh.run 1 hist).reset : OptBuf Int).sortIdx = [0, 1, 2] ∧
    (((OptBuf.fresh.run 1 hist).reset.run 1 [.write (.vals [7, 5]), .write (.nulls 0 1)] : OptBuf Int).pageOut 1 [9, 9] = ([7, 5], [1, 1, 0])) := by
  exact ⟨by decide, by decide +kernel, by decide +kernel, by decide +kernel, by decide +kernel⟩

/-- `Size()` under the invariant: a function of the rows held PLUS four bytes per element of the
    scratch index, whatever generation it stems from -/
theorem opt_size_spec {V : Type} {m : Nat} {b : OptBuf V} (h : b.col.Inv m) (w : Nat) :
    b.size w = 5 * b.col.view.length + w * (cellVals b.col.view).length + 4 * b.sortIdx.length := by
  have hmem : ∀ k ∈ nn b.col.rows, k < b.col.base.length := fun k hk => List.mem_range.mp (h.perm.mem_iff.mp hk)
  obtain ⟨_, c⟩ := view_vals_levels b.col.rows b.col.defs b.col.base h.len hmem
  have h1 : (cellVals b.col.view).length = b.col.base.length := by
    have h0 : ((cellVals b.col.view).map some).length = ((nn b.col.rows).map (fun (k : Nat) => b.col.base[k]?)).length :=
      congrArg List.length c
    rw [List.length_map, List.length_map] at h0
    have h2 := h.perm.length_eq
    rw [List.length_range] at h2
    omega
  have h3 := OptCol.length_view h
  have h4 := h.len
  unfold OptBuf.size
  rw [h1, h3]
  omega

/-- `Size()` right after `Reset` is four bytes per element of the index the last sorted page left;
    a fresh buffer's is 0 -/
theorem opt_size_after_reset {V : Type} (b : OptBuf V) (w : Nat) :
    b.reset.size w = 4 * b.sortIdx.length ∧ (OptBuf.fresh : OptBuf V).size w = 0 := by
  simp [OptBuf.size, OptBuf.reset, OptBuf.fresh, OptCol.empty]

/-- FINDING (the mirror follows the code; the property "every observation after Reset equals a fresh
    buffer's" is false of `Size()`): three rows, one `Swap`, `Page()`, `Reset` — an empty buffer
    reporting 8 bytes, and 8 bytes more than a fresh buffer after the same later writes -/
theorem opt_size_reset_differs :
    let hist : List (BOp Int) := [.write (.vals [3, 1]), .write (.nulls 0 1), .swap 0 1, .page []]
    let next : List (BOp Int) := [.write (.vals [7])]
    ((OptBuf.fresh.run 1 hist).reset : OptBuf Int).size 8 = 8 ∧
    ((OptBuf.fresh.run 1 hist).reset.run 1 next : OptBuf Int).size 8 = 21 ∧
    ((OptBuf.fresh.run 1 next : OptBuf Int)).size 8 = 13 := by decide +kernel

/-- with the scratch state cleared by `Reset` (`resetFull`) the whole state, hence `Size()` too, is a
    fresh buffer's (the proposed repair: `col.sortIndex.Resize(0)` in `Reset`, or not counting the
    scratch index in `Size()`) -/
theorem opt_resetFull_state {V : Type} (b : OptBuf V) : b.resetFull = OptBuf.fresh := rfl

theorem rep_refines {V : Type} (m : Nat) (ops : List (ROp V)) (hw : ∀ op ∈ ops, op.WF m) :
    ((RepBuf.fresh : RepBuf V).run m ops).BInv m ∧
    ((RepBuf.fresh : RepBuf V).run m ops).col.view m = rabsRun [] ops :=
  RepBuf.run_refines ops _ (RepBuf.fresh_inv m) hw

/-- C17 for the repeated column buffer: after `Reset`, for every earlier and every later history,
    the rows held, `Len()`, the page handed out (base values and level arrays, whether or not the
    rewrite into the spare buffer runs) and every `Less(i, j)` equal a fresh buffer's -/
theorem rep_reset_equiv {V : Type} (o : VOrd V) (sc : SortCol) (m : Nat) (b : RepBuf V) (next : List (ROp V))
    (hn : ∀ op ∈ next, op.WF m) :
    let a := (b.reset.run m next : RepBuf V)
    let f := (RepBuf.fresh.run m next : RepBuf V)
    a.col.view m = f.col.view m ∧ a.len = f.len ∧ a.pageOut m = f.pageOut m ∧
    ∀ i j, i < f.len → j < f.len →
      a.col.less o.lt sc.desc sc.nullsFirst m i j = f.col.less o.lt sc.desc sc.nullsFirst m i j := by
  intro a f
  obtain ⟨ia, va⟩ := RepBuf.run_refines next _ (b.reset_inv m).1 hn
  obtain ⟨i2, v2⟩ := rep_refines m next hn
  have v : a.col.view m = f.col.view m := by rw [va, v2, (b.reset_inv m).2]
  refine ⟨v, by simpa [RepCol.view, RepBuf.len] using congrArg List.length v,
    by rw [RepBuf.pageOut_spec ia, RepBuf.pageOut_spec i2, v], fun i j hi hj => ?_⟩
  exact RepCol.less_of_view o sc ia.1 i2.1 v hi hj

/-- hypotheses satisfiable; the state after `Reset` differs from a fresh one (stale `reordered`, a
    spare buffer full of the previous generation) and the page is a fresh buffer's all the same -/
example :
    let hist : List (ROp Int) := [.write [(0, 1, some 3), (1, 1, some 4)], .write [(0, 0, none)], .swap 0 1, .page, .swap 0 1]
    let next : List (ROp Int) := [.write [(0, 1, some 7)], .write [(0, 0, none), (1, 1, some 8)]]
    (∀ op ∈ hist, op.WF 1) ∧ (∀ op ∈ next, op.WF 1) ∧
    ((RepBuf.fresh.run 1 hist).reset : RepBuf Int).col.reordered = true ∧
    ((RepBuf.fresh.run 1 hist).reset : RepBuf Int).spare ≠ none ∧
    ((RepBuf.fresh.run 1 hist).reset.run 1 next : RepBuf Int).pageOut 1 = ([7, 8], [(0, 1), (0, 0), (1, 1)]) := by
  exact ⟨by decide, by decide, by decide +kernel, by decide +kernel, by decide +kernel⟩

/-- `Size()` of the repeated buffer reads no scratch state: after `Reset` and every later history it
    is a fresh buffer's (`RepBuf.size_spec`: a function of the rows held, through the coverage
    invariant `RepBuf.Cov` kept by every call) -/
theorem rep_reset_size {V : Type} (m : Nat) (b : RepBuf V) (next : List (ROp V)) (hn : ∀ op ∈ next, op.WF m) (w : Nat) :
    (b.reset.run m next).size w = ((RepBuf.fresh : RepBuf V).run m next).size w := by
  have ca := RepBuf.run_cov next _ (b.reset_inv m).1 (b.reset_cov m) hn
  have cf := RepBuf.run_cov next _ (RepBuf.fresh_inv m) (RepBuf.fresh_cov m) hn
  obtain ⟨_, va⟩ := RepBuf.run_refines next _ (b.reset_inv m).1 hn
  obtain ⟨_, vf⟩ := RepBuf.run_refines next _ (RepBuf.fresh_inv (V := V) m) hn
  rw [RepBuf.size_spec ca, RepBuf.size_spec cf, va, vf, (b.reset_inv m).2]
  rfl

example : ((RepBuf.fresh.run 1 [.write [(0, 1, some 3), (1, 1, some 4)], .write [(0, 0, none)], .swap 0 1, .page] : RepBuf Int).reset.run 1
    [.write [(0, 1, some 7)]]).size 8 = 18 := by decide +kernel

end PqModel.ResetBuf
