import PqModel.FileCodecsLemmas
import PqModel.Props.C04Rle
import PqModel.Props.C04Plain
import PqModel.Props.C04Delta

/-! # C01 — the codec hypotheses of the composition theorem hold for every physical type × encoding
and for both data page layouts

Each `*_ok` theorem discharges `ValCodec.OK` (decoding the encoder's bytes returns the page's values,
for every list of values of the type's domain) from the round-trip theorem of the encoding (Props/C04*, or the
lemma under it): MIRROR encoder, SPEC decoder. The byte / `BitVec` helpers here are also what Props/C01 and C01Go use. A bare `example` after a theorem is a witness that its hypotheses can be met. -/
namespace PqModel.Props.C01Codecs
open PqModel PqModel.Bits PqModel.Dremel PqModel.FileModel

theorem natOfBytes_bytesOfNatF : ∀ (f n : Nat), n ≤ f → natOfBytes (bytesOfNatF f n) = n
  | 0, n, h => by
    have : n = 0 := by omega
    subst this; rfl
  | f + 1, 0, _ => rfl
  | f + 1, n + 1, h => by
    have hd : n / 256 ≤ f := by have := Nat.div_le_self n 256; omega
    simp only [bytesOfNatF, natOfBytes, natOfBytes_bytesOfNatF f (n / 256) hd]
    have := Nat.mod_add_div n 256
    omega

/-- every natural is the numeral of exactly the byte string `bytesOfNat` gives … -/
theorem natOfBytes_bytesOfNat (n : Nat) : natOfBytes (bytesOfNat n) = n :=
  natOfBytes_bytesOfNatF n n (Nat.le_refl _)
example : bytesOfNat 258 = [1, 0] ∧ natOfBytes [1, 0] = 258 := by decide

theorem bytesOfNatF_lt : ∀ (f n : Nat), ∀ b ∈ bytesOfNatF f n, b < 256
  | 0, _, b, h => by simp [bytesOfNatF] at h
  | f + 1, 0, b, h => by simp [bytesOfNatF] at h
  | f + 1, n + 1, b, h => by
    simp only [bytesOfNatF, List.mem_cons] at h
    rcases h with rfl | h
    · exact Nat.mod_lt _ (by decide)
    · exact bytesOfNatF_lt f _ b h

theorem bytesOfNat_lt (n : Nat) : ∀ b ∈ bytesOfNat n, b < 256 := bytesOfNatF_lt n n

theorem bytesOfNatF_natOfBytes : ∀ (bs : List Nat) (f : Nat), (∀ b ∈ bs, b < 256) → natOfBytes bs ≤ f →
    bytesOfNatF f (natOfBytes bs) = bs
  | [], f, _, _ => by cases f <;> rfl
  | b :: bs, 0, _, h => by simp only [natOfBytes] at h; omega
  | b :: bs, f + 1, hb, h => by
    have hb' : b < 256 := hb b (by simp)
    simp only [natOfBytes] at h ⊢
    have e : 1 + b + 256 * natOfBytes bs = (b + 256 * natOfBytes bs) + 1 := by omega
    rw [e]
    simp only [bytesOfNatF]
    have h1 : (b + 256 * natOfBytes bs) % 256 = b := by omega
    have h2 : (b + 256 * natOfBytes bs) / 256 = natOfBytes bs := by omega
    rw [h1, h2, bytesOfNatF_natOfBytes bs f (fun c hc => hb c (by simp [hc])) (by omega)]

/-- … and distinct byte strings have distinct numerals (left inverse on bytes `< 256`). -/
theorem bytesOfNat_natOfBytes (bs : List Nat) (h : ∀ b ∈ bs, b < 256) : bytesOfNat (natOfBytes bs) = bs :=
  bytesOfNatF_natOfBytes bs _ h (Nat.le_refl _)
example : ∀ b ∈ [0, 255, 7], b < 256 := by decide

theorem toB_toN (bs : Plain.Bytes) : toB (toN bs) = bs :=
  ListFacts.map_map_cancel fun b _ => by simp

theorem toN_toB (bs : List Nat) (h : ∀ b ∈ bs, b < 256) : toN (toB bs) = bs :=
  ListFacts.map_map_cancel fun b hb => by
    rw [UInt8.toNat_ofNat']
    exact Nat.mod_eq_of_lt (h b hb)

theorem toB_length (bs : List Nat) : (toB bs).length = bs.length := by simp [toB]

/-- PLAIN INT32/FLOAT (`k = 4`), INT64/DOUBLE (`8`), INT96 (`12`), FIXED_LEN_BYTE_ARRAY(`k`)
    (`Plain.specDecFixed_encFixed`) -/
theorem plainFixed_ok (k : Nat) (hk : 0 < k) : (plainFixed k).OK := by
  intro xs hx _
  have hlt : ∀ x ∈ xs, x < 2 ^ (8 * k) := fun x h => by simpa [plainFixed] using hx x h
  simp only [plainFixed, toB_toN, Plain.specDecFixed_encFixed k hk xs hlt, exactly, Option.bind_some,
    ↓reduceIte]
example : (0 : Nat) < 12 := by decide

/-- BYTE_STREAM_SPLIT for the `k`-byte types (`Plain.bssSpecDecFixed_bssEncFixed`) -/
theorem bssFixed_ok (k : Nat) (hk : 0 < k) : (bssFixed k).OK := by
  intro xs hx _
  have hlt : ∀ x ∈ xs, x < 2 ^ (8 * k) := fun x h => by simpa [bssFixed] using hx x h
  simp only [bssFixed, toB_toN, Plain.bssSpecDecFixed_bssEncFixed k hk xs hlt, exactly, Option.bind_some,
    ↓reduceIte]
example : (0 : Nat) < 4 := by decide

theorem ofNat_toNat_id (w : Nat) (xs : List Nat) (h : ∀ x ∈ xs, x < 2 ^ w) :
    (xs.map (BitVec.ofNat w)).map BitVec.toNat = xs :=
  ListFacts.map_map_cancel fun x hx => by rw [BitVec.toNat_ofNat, Nat.mod_eq_of_lt (h x hx)]

/-- DELTA_BINARY_PACKED INT32 (C04 `delta32_roundtrip`) -/
theorem delta32_ok : delta32.OK := by
  intro xs hx _
  have hv := ofNat_toNat_id 32 xs (fun x h => by simpa [delta32] using hx x h)
  simp only [delta32, C04Delta.delta32_roundtrip, List.length_map, ↓reduceIte, hv]
example : ∀ x ∈ [0, 0x7fffffff, 0x80000000, 0xffffffff], x < 2 ^ 32 := by decide

/-- DELTA_BINARY_PACKED INT64 (C04 `delta64_roundtrip`) -/
theorem delta64_ok : delta64.OK := by
  intro xs hx _
  have hv := ofNat_toNat_id 64 xs (fun x h => by simpa [delta64, isInt64] using hx x h)
  simp only [delta64, deltaInt64Dec, deltaInt64Enc, C04Delta.delta64_roundtrip, List.length_map,
    ↓reduceIte, hv]
example : isInt64 (2 ^ 64 - 1) = true := by decide

theorem b2n_eq1 (xs : List Nat) (h : ∀ x ∈ xs, x < 2) : (xs.map (· == 1)).map Rle.b2n = xs :=
  ListFacts.map_map_cancel fun x hx => by
    have : x = 0 ∨ x = 1 := by have := h x hx; omega
    rcases this with rfl | rfl <;> rfl

/-- PLAIN BOOLEAN (C04 `plain_roundtrip_boolean`) -/
theorem plainBool_ok : plainBool.OK := by
  intro xs hx _
  have h := (C04Plain.plain_roundtrip_boolean [] (xs.map (· == 1))).2
  rw [List.length_map] at h
  have hv := b2n_eq1 xs (fun x h => by simpa [plainBool] using hx x h)
  simp only [plainBool, toB_toN, h, Option.map_some, hv]
example : ∀ x ∈ [0, 1, 1, 0], x < 2 := by decide

/-- RLE BOOLEAN (C04 `rle_roundtrip_boolean`), for pages whose RLE body fits the `uint32` prefix -/
theorem rleBool_ok : rleBool.OK := by
  intro xs hx hp
  have hlen : (Rle.encodeBits (boolPack xs)).length < 2 ^ 32 := by simpa [rleBool] using hp
  obtain ⟨pad, hpad⟩ := bytes_bits xs.length (xs.map (· == 1)) (by simp)
  have hn : xs.length ≤ 8 * (boolPack xs).length := by
    have := congrArg List.length hpad
    rw [Rle.bytesToBits_length] at this
    simp only [List.length_append, List.length_map] at this
    unfold boolPack
    omega
  have h := C04Rle.rle_roundtrip_boolean (boolPack xs) xs.length hlen hn
  have hv : ((bytesToBits (boolPack xs)).map Rle.b2n).take xs.length = xs := by
    unfold boolPack
    rw [hpad, List.map_append, List.take_left' (by simp)]
    exact b2n_eq1 xs (fun x h => by simpa [rleBool] using hx x h)
  simp only [rleBool, h, hv]
example : rleBool.okP [1, 1, 1, 1, 1, 1, 1, 1, 1, 0, 1] = true := by decide +kernel

theorem natOfBytes_map (xs : List Nat) : (xs.map bytesOfNat).map natOfBytes = xs :=
  ListFacts.map_map_cancel fun x _ => natOfBytes_bytesOfNat x

/-- PLAIN BYTE_ARRAY (C04 `plain_roundtrip_byte_array`): values shorter than 4 GiB -/
theorem plainBA_ok : plainBA.OK := by
  intro xs hx _
  have hl : ∀ v ∈ xs.map (fun x => toB (bytesOfNat x)), v.length < 2 ^ 32 :=
    List.forall_mem_map.mpr fun x hx' => by rw [toB_length]; exact of_decide_eq_true (hx x hx')
  have hv : ((xs.map fun x => toB (bytesOfNat x)).map fun v => natOfBytes (toN v)) = xs :=
    ListFacts.map_map_cancel fun x _ => by rw [toN_toB _ (bytesOfNat_lt x), natOfBytes_bytesOfNat]
  simp only [plainBA, toB_toN, C04Plain.plain_roundtrip_byte_array _ hl, Option.map_some, hv, exactly,
    Option.bind_some, ↓reduceIte]
example : plainBA.okV (natOfBytes [0xff, 0, 0xff]) = true := by decide

/-- DELTA_LENGTH_BYTE_ARRAY (C04 `dlba_roundtrip`): values shorter than 2 GiB (INT32 lengths) -/
theorem dlba_ok : dlba.OK := by
  intro xs hx _
  have hl : ∀ v ∈ xs.map bytesOfNat, v.length < 2 ^ 31 :=
    List.forall_mem_map.mpr fun x hx' => of_decide_eq_true (hx x hx')
  simp only [dlba, C04Delta.dlba_roundtrip _ hl, List.length_map, ↓reduceIte, natOfBytes_map]
example : dlba.okV (natOfBytes []) = true := by decide

/-- DELTA_BYTE_ARRAY (C04 `dba_roundtrip`) -/
theorem dba_ok : dba.OK := by
  intro xs hx _
  have hl : ∀ v ∈ xs.map bytesOfNat, v.length < 2 ^ 31 :=
    List.forall_mem_map.mpr fun x hx' => of_decide_eq_true (hx x hx')
  simp only [dba, C04Delta.dba_roundtrip _ hl, List.length_map, ↓reduceIte, natOfBytes_map]
example : dba.okV (natOfBytes [1, 2, 3]) = true := by decide

theorem chunksOf_flatten_eq (n : Nat) (hn : 0 < n) : ∀ (vs : List (List Nat)) (f : Nat),
    (∀ v ∈ vs, v.length = n) → vs.flatten.length ≤ f → Delta.chunksOf n f vs.flatten = vs
  | [], f, _, _ => by
    cases f with
    | zero => rfl
    | succ f => simp [Delta.chunksOf, hn]
  | v :: vs, 0, h, hf => by
    have := h v (by simp)
    simp only [List.flatten_cons, List.length_append] at hf
    omega
  | v :: vs, f + 1, h, hf => by
    have hv : v.length = n := h v (by simp)
    simp only [List.flatten_cons, List.length_append] at hf
    have hc : ¬ ((v ++ vs.flatten).length < n ∨ n = 0) := by
      simp only [List.length_append]; omega
    simp only [List.flatten_cons, Delta.chunksOf, if_neg hc, List.take_left' hv, List.drop_left' hv]
    rw [chunksOf_flatten_eq n hn vs f (fun w hw => h w (by simp [hw])) (by omega)]

theorem leNat_leBytes_id (n : Nat) (xs : List Nat) (h : ∀ x ∈ xs, x < 2 ^ (8 * n)) :
    (xs.map (Rle.leBytes n)).map Rle.leNat = xs :=
  ListFacts.map_map_cancel fun x hx => by
    have e : (256 : Nat) ^ n = 2 ^ (8 * n) := by
      rw [show (256 : Nat) = 2 ^ 8 by rfl, ← Nat.pow_mul]
    rw [Rle.leNat_leBytes, e, Nat.mod_eq_of_lt (h x hx)]

/-- DELTA_BYTE_ARRAY of FIXED_LEN_BYTE_ARRAY(n) (C04 `dba_roundtrip` on the chunks of the buffer,
    as in `dba_flba_roundtrip`) -/
theorem dbaFixed_ok (n : Nat) (hn : 0 < n) (hb : n < 2 ^ 31) : (dbaFixed n).OK := by
  intro xs hx _
  have hlen : ∀ v ∈ xs.map (Rle.leBytes n), v.length = n :=
    List.forall_mem_map.mpr fun x _ => Rle.leBytes_length n x
  have hch := chunksOf_flatten_eq n hn (xs.map (Rle.leBytes n)) _ hlen (Nat.le_refl _)
  have hl : ∀ v ∈ xs.map (Rle.leBytes n), v.length < 2 ^ 31 := fun v hv => by rw [hlen v hv]; exact hb
  have hall : (xs.map (Rle.leBytes n)).all (fun v => v.length == n) = true :=
    List.all_eq_true.mpr fun v hv => beq_iff_eq.mpr (hlen v hv)
  have hv := leNat_leBytes_id n xs (fun x h => by simpa [dbaFixed] using hx x h)
  simp only [dbaFixed, Delta.mirrorEncodeFLBA, hch, C04Delta.dba_roundtrip _ hl, List.length_map, hall,
    and_self, ↓reduceIte, hv]
example : (0 : Nat) < 16 ∧ 16 < 2 ^ 31 := by decide

/-- **Every physical type × encoding parquet-go accepts** has a codec satisfying the value
    round-trip hypothesis; the PLAIN codec of the type (its dictionary page) does too, has no page
    limit, and its domain contains the column's. -/
theorem valCodecOf_ok (c : ColSpec) (h : c.supported = true) :
    c.val.OK ∧ (plainOf c.t).OK ∧ (∀ x, c.val.okV x = true → (plainOf c.t).okV x = true) ∧
      ∀ xs, (plainOf c.t).okP xs = true := by
  have hw : ∀ n, c.t = .flba n → 0 < n ∧ n < 2 ^ 31 := fun _ => supported_flba h
  have hplain : ∀ t, (∀ n, t = .flba n → 0 < n ∧ n < 2 ^ 31) → (plainOf t).OK := by
    intro t ht
    cases t with
    | boolean => exact plainBool_ok
    | int32 => exact plainFixed_ok 4 (by decide)
    | int64 => exact plainFixed_ok 8 (by decide)
    | int96 => exact plainFixed_ok 12 (by decide)
    | float => exact plainFixed_ok 4 (by decide)
    | double => exact plainFixed_ok 8 (by decide)
    | byteArray => exact plainBA_ok
    | flba n => exact plainFixed_ok n (ht n rfl).1
  refine ⟨?_, hplain c.t hw, val_okV_plainOf c, plainOf_okP c.t⟩
  exact table_cases [] (P := fun t v _ => (∀ n, t = .flba n → 0 < n ∧ n < 2 ^ 31) → v.OK)
    (plain := hplain) (rle := fun _ => rleBool_ok)
    (delta32 := fun _ => delta32_ok) (delta64 := fun _ => delta64_ok)
    (bssInt32 := fun _ => bssFixed_ok 4 (by decide)) (bssInt64 := fun _ => bssFixed_ok 8 (by decide))
    (bssFloat := fun _ => bssFixed_ok 4 (by decide)) (bssDouble := fun _ => bssFixed_ok 8 (by decide))
    (bssFlba := fun n hn => bssFixed_ok n (hn n rfl).1)
    (dlba := fun _ => dlba_ok) (dba := fun _ => dba_ok)
    (dbaFlba := fun n hn => dbaFixed_ok n (hn n rfl).1 (hn n rfl).2) c hw
example : (ColSpec.mk (.flba 16) .deltaByteArray).supported = true ∧
    (ColSpec.mk .boolean .rle).supported = true ∧ (ColSpec.mk .byteArray .deltaLengthByteArray).supported = true ∧
    (ColSpec.mk .int96 .deltaBinaryPacked).supported = false := by decide

/-- levels `≤ m ≤ 255`: nothing is stored when `m = 0`, hybrid RLE otherwise (`rleL_ok`) -/
theorem lv_ok (m : Nat) (xs : List Nat) (hm : m ≤ 255) (hx : ∀ x ∈ xs, x ≤ m) :
    lvDec m xs.length (lvEnc m xs) = some xs := by
  by_cases h0 : m = 0
  · subst h0
    simp only [lvDec, ↓reduceIte, replicate_zero_of_le hx]
  · simp only [lvDec, lvEnc, if_neg h0]
    exact rleL_ok m xs hm hx
example : ∀ x ∈ [0, 3, 3, 1], x ≤ 3 := by decide

/-- RLE_DICTIONARY index pages, indexes below `2^32` (C04 `rle_roundtrip_dict`) -/
theorem idx_ok (xs : List Nat) (hx : ∀ x ∈ xs, x < 2 ^ 32) : rleIdxDec xs.length (rleIdxEnc xs) = some xs := by
  obtain ⟨bs, he, hd⟩ := bind_ok_elim (C04Rle.rle_roundtrip_dict xs xs.length hx (Nat.le_refl _))
  simp only [rleIdxEnc, rleIdxDec, he, hd, List.take_length]
example : ∀ x ∈ [0, 7, 4000000000], x < 2 ^ 32 := by decide

theorem unsecV1_secV1 (m : Nat) (b rest : List Nat)
    (h : (if m = 0 then b.isEmpty else decide (b.length < 2 ^ 32)) = true) :
    unsecV1 m (secV1 m b ++ rest) = some (b, rest) := by
  by_cases h0 : m = 0
  · simp only [h0, ↓reduceIte, List.isEmpty_iff] at h
    simp [unsecV1, secV1, h0, h]
  · simp only [if_neg h0, decide_eq_true_eq] at h
    have h4 : (Rle.leBytes 4 b.length).length = 4 := Rle.leBytes_length _ _
    have hle : Rle.leNat (Rle.leBytes 4 b.length) = b.length := by
      rw [Rle.leNat_leBytes]; exact Nat.mod_eq_of_lt h
    have a : ¬ (Rle.leBytes 4 b.length ++ (b ++ rest)).length < 4 := by
      simp only [List.length_append]; omega
    simp only [unsecV1, secV1, if_neg h0, a, List.append_assoc, List.take_left' h4, List.drop_left' h4, hle]
    have b' : ¬ (b ++ rest).length < b.length := by simp only [List.length_append]; omega
    simp only [if_neg b', List.take_left' rfl, List.drop_left' rfl, ↓reduceIte]

/-- **Data page v1 body framing**: for every page whose level sections are admissible (absent at
    maximum level 0, shorter than 4 GiB otherwise), splitting the decompressed body at the two
    length prefixes returns the three sections, whatever the compressor (any lossless pair). -/
theorem unpackV1_packV1 (lv : Nat × Nat) (comp : List Nat → List Nat) (decomp : List Nat → Option (List Nat))
    (hcmp : ∀ b, decomp (comp b) = some b) (p : Page (List Nat)) (h : okSV1 lv p.reps p.defs = true) :
    unpackV1 lv decomp (packV1 lv comp p) = some p := by
  simp only [okSV1, Bool.and_eq_true] at h
  simp only [unpackV1, packV1, hcmp, Option.bind_some, unsecV1_secV1 lv.1 p.reps _ h.1,
    unsecV1_secV1 lv.2 p.defs _ h.2, Option.map_some]
example : okSV1 (1, 0) [2, 1] [] = true ∧ (packV1 (1, 0) id ⟨1, [2, 1], [], false, [9]⟩).vals = [2, 0, 0, 0, 2, 1, 9] := by
  decide

/-- A column assembled from a value codec and a dictionary page codec that round-trip satisfies
    every codec hypothesis of the composition theorem on admissible pages, in both page layouts;
    only the compressor stays a hypothesis (C20). -/
theorem mkCodec_ok (v d : ValCodec) (hv : v.OK) (hd : d.OK) (hvd : ∀ x, v.okV x = true → d.okV x = true)
    (hdp : ∀ xs, d.okP xs = true) (v1 : Bool) (lv : Nat × Nat) (comp : List Nat → List Nat)
    (decomp : List Nat → Option (List Nat)) (hcmp : ∀ b, decomp (comp b) = some b) :
    (mkCodec v d v1 lv comp decomp).OKOn 255 (fun _ => true) v.okP (okSOf v1 lv) := by
  refine ⟨fun m xs hm hx _ => lv_ok m xs hm hx, fun xs hx hp => hv xs hx hp,
    fun xs hx => hd xs (fun x h => hvd x (hx x h)) (hdp xs), fun xs hx _ => idx_ok xs hx, hcmp, ?_⟩
  intro p hp
  cases v1 with
  | true => exact unpackV1_packV1 lv comp decomp hcmp p (by simpa [okSOf] using hp)
  | false => exact unpackSections_packSections false hcmp p
example : ∀ b : List Nat, (some : List Nat → Option (List Nat)) (id b) = some b := fun _ => rfl

end PqModel.Props.C01Codecs
