import PqModel.PageDataOpt
import PqModel.Props.C07PageDataBatch

/-! # C07: optional columns — nulls never reach the filter, every non-null value does -/
namespace PqModel.Props.C07PageData
open PqModel.XxHash PqModel.Bloom PqModel.PageDataBuf

theorem optStep_fold (maxDef : Nat) : ∀ (xs : List LValue) (st : List (List Value) × List Value),
    (xs.foldl (optStep maxDef) st).1.flatten ++ (xs.foldl (optStep maxDef) st).2
      = st.1.flatten ++ st.2 ++ nonNull maxDef xs
  | [], st => by simp [nonNull]
  | x :: xs, st => by
    simp only [List.foldl_cons]
    rw [optStep_fold maxDef xs]
    unfold optStep nonNull
    by_cases h : x.defLevel = maxDef
    · simp [h]
    · by_cases he : st.2.isEmpty
      · simp [h, he]
      · simp [h, he]

/-- the base buffer receives exactly the non-null values, in order -/
theorem optBatches_flatten (maxDef : Nat) (xs : List LValue) : (optBatches maxDef xs).flatten = nonNull maxDef xs := by
  have := optStep_fold maxDef xs ([], [])
  simp only [List.flatten_nil, List.nil_append] at this
  unfold optBatches
  dsimp only
  split
  · rename_i he
    have h2 : (xs.foldl (optStep maxDef) ([], [])).2 = [] := by simpa using he
    rw [h2, List.append_nil] at this
    exact this
  · simpa using this

theorem specStep_writes : ∀ (bs : List (List Value)) (vs : List Value),
    (bs.map BufOp.write).foldl specStep vs = vs ++ bs.flatten
  | [], vs => by simp
  | b :: bs, vs => by
    simp only [List.map_cons, List.foldl_cons, specStep, List.flatten_cons]
    rw [specStep_writes bs, List.append_assoc]

theorem optBaseOps_values (maxDef : Nat) : ∀ (ops : List OptOp) (vs : List Value),
    (optBaseOps maxDef ops).foldl specStep vs = ops.foldl (optSpecStep maxDef) vs
  | [], _ => rfl
  | .write xs :: ops, vs => by
    simp only [optBaseOps, List.foldl_append, List.foldl_cons, optSpecStep]
    rw [specStep_writes, optBatches_flatten, optBaseOps_values maxDef ops]
  | .reset :: ops, vs => by
    simp only [optBaseOps, List.foldl_cons, optSpecStep, specStep]
    exact optBaseOps_values maxDef ops []

/-- every non-null value of every write is of the column's kind -/
def OptOk (maxDef : Nat) (kind : Kind) (ops : List OptOp) : Prop :=
  ∀ op ∈ ops, ∀ xs, op = .write xs → ∀ x ∈ xs, x.defLevel = maxDef → x.v.kindOk kind = true

theorem optBaseOps_ok (maxDef : Nat) (kind : Kind) : ∀ (ops : List OptOp), OptOk maxDef kind ops →
    OpsOk kind (optBaseOps maxDef ops)
  | [], _ => by intro op hop; simp [optBaseOps] at hop
  | .reset :: ops, h => by
    intro op hop vs hvs v hv
    simp only [optBaseOps, List.mem_cons] at hop
    rcases hop with rfl | hop
    · cases hvs
    · exact optBaseOps_ok maxDef kind ops (fun o ho => h o (by simp [ho])) op hop vs hvs v hv
  | .write xs :: ops, h => by
    intro op hop vs hvs v hv
    simp only [optBaseOps, List.mem_append, List.mem_map] at hop
    rcases hop with ⟨b, hb, rfl⟩ | hop
    · cases hvs
      have hmem : v ∈ nonNull maxDef xs := by
        rw [← optBatches_flatten]; exact List.mem_flatten.mpr ⟨_, hb, hv⟩
      simp only [nonNull, List.mem_map, List.mem_filter, decide_eq_true_eq] at hmem
      obtain ⟨x, ⟨hx, hd⟩, rfl⟩ := hmem
      exact h (.write xs) (by simp) xs rfl x hx hd
    · exact optBaseOps_ok maxDef kind ops (fun o ho => h o (by simp [ho])) op hop vs hvs v hv

/-- OPTIONAL columns, every physical type, every history of `WriteValues` (any mix of nulls and
    values, any run structure) and `Reset`: the filter receives the read-side hash of every non-null
    value written since the last `Reset`; for every kind but BOOLEAN exactly those, once each, in order
    — no null is ever hashed. -/
theorem optional_buffer_hashes (junk : UInt8) (maxDef : Nat) (kind : Kind) (ops : List OptOp)
    (hok : OptOk maxDef kind ops) :
    (∀ v ∈ ops.foldl (optSpecStep maxDef) [], hashRead v ∈ hashWriteStaged (runData junk kind (optBaseOps maxDef ops))) ∧
    (kind ≠ .boolean → hashWriteStaged (runData junk kind (optBaseOps maxDef ops))
        = (ops.foldl (optSpecStep maxDef) []).map hashRead) := by
  have hb := optBaseOps_ok maxDef kind ops hok
  have hv : runValues (optBaseOps maxDef ops) = ops.foldl (optSpecStep maxDef) [] := optBaseOps_values maxDef ops []
  refine ⟨fun v hm => buffered_value_is_hashed junk kind _ hb v (by rw [hv]; exact hm), fun hk => ?_⟩
  rw [buffer_hashes_exactly_once junk kind hk _ hb, hv]

example : OptOk 1 .int32 [.write [⟨0, .boolean false⟩, ⟨1, .int32 7⟩], .reset, .write [⟨1, .int32 9⟩]] := by
  intro op hop xs hxs x hx hd
  simp at hop
  rcases hop with rfl | rfl | rfl <;> simp at hxs <;> subst hxs <;> simp at hx
  · rcases hx with rfl | rfl
    · simp at hd
    · decide
  · subst hx; decide

end PqModel.Props.C07PageData
