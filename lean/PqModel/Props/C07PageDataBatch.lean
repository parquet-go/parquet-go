import PqModel.Props.C07PageData

/-! # C07: the batch path `booleanColumnBuffer.writeValues` packs the values (every history)

`boolean_buffer_is_packBits` of `Props/C07PageData.lean` without `NoBatch`. -/
namespace PqModel.Props.C07PageData
open PqModel.XxHash PqModel.Bloom PqModel.PageDataBuf

theorem overwrite_junk (Q new : List UInt8) (c : Nat) (junk : UInt8) (h : new.length ≤ c) :
    overwrite (Q ++ List.replicate c junk) Q.length new = Q ++ new ++ List.replicate (c - new.length) junk := by
  unfold overwrite
  rw [List.take_left' rfl, List.drop_append, List.drop_of_length_le (by omega)]
  simp only [List.nil_append, List.drop_replicate]
  congr 2; omega

theorem tailLoop_byte (Q R : List UInt8) : ∀ (rem : List Bool) (w : UInt8) (y : Nat), y + rem.length ≤ 8 →
    tailLoop (Q ++ w :: R) (8 * Q.length + y) rem = (Q ++ foldSet w y rem :: R, 8 * Q.length + y + rem.length)
  | [], w, y, _ => by simp [tailLoop, foldSet]
  | b :: rest, w, y, h => by
    simp only [List.length_cons] at h
    have hy : y < 8 := by omega
    simp only [tailLoop, Nat.mul_add_div (by decide : 0 < 8), Nat.div_eq_of_lt hy, Nat.mul_add_mod,
      Nat.mod_eq_of_lt hy, Nat.add_zero, setAt_append, foldSet, List.length_cons]
    rw [Nat.add_assoc, tailLoop_byte Q R rest _ (y + 1) (by omega)]
    simp only [Nat.add_assoc, Nat.add_comm 1]

theorem gatherBits_eq_packBits : ∀ (mid : List Bool), mid.length % 8 = 0 → gatherBits mid = packBits mid := by
  intro mid h
  refine chunks8_induction (P := fun l => gatherBits l = packBits l) rfl ?_ mid h
  intro a rest ha ih
  rw [gatherBits_chunk a rest ha, packBits_chunk a rest ha, ih, packLow_eq a (Nat.le_of_eq ha)]

theorem finish_aligned (Q : List UInt8) (rows : List Bool) (i : Nat) (junk : UInt8) (h : rows.drop i = []) :
    finishPhase (Q, 8 * Q.length, i) rows junk = { bits := Q, numValues := 8 * Q.length } := by
  have hb : byteCount (8 * Q.length) = Q.length := byteCount_add Q.length 0
  simp only [finishPhase, h, tailLoop, hb]
  rw [resize_of_le _ _ _ (Nat.le_refl _)]
  simp [clearTrailing]

/-- the batch ends inside the last byte `w0`, whose bits below the cursor are the packed `tail` -/
theorem finish_lastbyte (Q : List UInt8) (w0 : UInt8) (tail rows : List Bool) (i : Nat) (junk : UInt8)
    (rem : List Bool) (h : rows.drop i = rem) (hw : w0 &&& maskOf tail.length = UInt8.ofNat (bitsByte tail))
    (hl : tail.length + rem.length ≤ 7) (hpos : 1 ≤ tail.length + rem.length) :
    finishPhase (Q ++ [w0], 8 * Q.length + tail.length, i) rows junk =
      { bits := Q ++ packBits (tail ++ rem), numValues := 8 * Q.length + tail.length + rem.length } := by
  have hb : byteCount (8 * Q.length + tail.length + rem.length) = (Q ++ [foldSet w0 tail.length rem]).length := by
    rw [Nat.add_assoc, byteCount_add, byteCount_of_le hpos (by omega), List.length_append, List.length_singleton]
  simp only [finishPhase, h, tailLoop_byte Q [] rem w0 tail.length (by omega), hb]
  rw [resize_of_le _ _ _ (Nat.le_refl _)]
  simp only [Nat.sub_self, List.replicate_zero, List.append_nil, clearTrailing_concat]
  rw [Nat.add_assoc, Nat.mul_add_mod, Nat.mod_eq_of_lt (by omega), if_neg (by omega), foldSet_masked rem w0 tail hl hw,
    packBits_of_length_le (tail ++ rem) (by rw [List.length_append]; exact hpos) (by rw [List.length_append]; omega)]

/-- from a byte boundary on: `GatherBits` for the whole bytes, the tail loop for the rest -/
theorem aligned_cont (Q : List UInt8) (rows : List Bool) (i0 : Nat) (junk : UInt8) :
    finishPhase (gatherPhase (Q ++ List.replicate (byteCount (rows.length - i0)) junk, 8 * Q.length, i0) rows) rows junk
      = { bits := Q ++ packBits (rows.drop i0), numValues := 8 * Q.length + (rows.length - i0) } := by
  -- the rows still to write: `k` whole bytes `mid`, then `rem` (0..7 values)
  generalize hm : rows.length - i0 = m
  obtain ⟨k, mid, rem, hsplit, hmidlen, hrem8⟩ := exists_whole_bytes (rows.drop i0)
  have hmk : m = 8 * k + rem.length := by rw [← hm, ← List.length_drop, hsplit, List.length_append, hmidlen]
  have hmid8 : mid.length % 8 = 0 := by rw [hmidlen]; exact Nat.mul_mod_right 8 k
  have hn : m / 8 * 8 = mid.length := by
    rw [hmk, Nat.mul_add_div (by decide : 0 < 8), Nat.div_eq_of_lt hrem8, Nat.add_zero, hmidlen, Nat.mul_comm]
  have hG : (packBits mid).length = k := packBits_length_full mid k hmidlen
  have hQ' : 8 * Q.length + mid.length = 8 * (Q ++ packBits mid).length := by
    rw [List.length_append, hG, hmidlen, Nat.mul_add]
  -- the state after the gather phase, whichever branch was taken
  have hp1 : gatherPhase (Q ++ List.replicate (byteCount m) junk, 8 * Q.length, i0) rows
      = (Q ++ packBits mid ++ List.replicate (byteCount rem.length) junk, 8 * (Q ++ packBits mid).length,
          i0 + mid.length) := by
    have hbc : byteCount m = k + byteCount rem.length := by rw [hmk, byteCount_add]
    unfold gatherPhase
    simp only [hm, hn, hsplit, List.take_left' rfl, hbc, hQ']
    split
    · rw [Nat.mul_div_cancel_left _ (by decide : 0 < 8), gatherBits_eq_packBits mid hmid8, ← hG,
        overwrite_junk _ _ _ _ (Nat.le_add_right _ _), Nat.add_sub_cancel_left]
    · have h0 : k = 0 := by omega
      subst h0
      simp [List.eq_nil_of_length_eq_zero hmidlen, packBits]
  have hrem : rows.drop (i0 + mid.length) = rem := by rw [← List.drop_drop, hsplit, List.drop_left' rfl]
  rw [hp1, hsplit, packBits_append_full mid rem hmid8, ← List.append_assoc, hmk, ← Nat.add_assoc, ← hmidlen, hQ']
  generalize Q ++ packBits mid = Q'
  cases rem with
  | nil =>
    rw [show byteCount ([] : List Bool).length = 0 from rfl, List.replicate_zero, List.append_nil,
      finish_aligned _ _ _ _ hrem]
    simp [packBits]
  | cons a t =>
    have hfl := finish_lastbyte Q' junk [] rows _ junk (a :: t) hrem (and_maskOf_zero junk)
      (by simp only [List.length_nil]; omega) (by simp)
    simp only [List.length_nil, List.nil_append, Nat.add_zero] at hfl
    rw [byteCount_of_le (by simp) (by omega), show List.replicate 1 junk = [junk] from rfl, hfl]

theorem gatherPhase_small (bits : List UInt8) (nv i : Nat) (rows : List Bool) (h : (rows.length - i) / 8 = 0) :
    gatherPhase (bits, nv, i) rows = (bits, nv, i) := by
  unfold gatherPhase
  simp only [h, Nat.zero_mul, Nat.lt_irrefl, if_false]

/-- one batch on a packed buffer (`full`: the whole bytes, `tail`: the 0..7 values of the incomplete byte) -/
theorem writeValues_packed (full tail rows : List Bool) (junk : UInt8) (hfm : full.length % 8 = 0)
    (ht7 : tail.length ≤ 7) :
    BoolBuf.writeValues { bits := packBits (full ++ tail), numValues := (full ++ tail).length } rows junk
      = { bits := packBits (full ++ tail ++ rows), numValues := (full ++ tail).length + rows.length } := by
  have hfl : full.length = 8 * (full.length / 8) := by omega
  have hlen : (full ++ tail).length = 8 * (packBits full).length + tail.length := by
    rw [List.length_append, packBits_length_full full _ hfl, ← hfl]
  rw [List.append_assoc, packBits_append_full full (tail ++ rows) hfm, packBits_append_full full tail hfm, hlen]
  -- from here on only the bytes `P` of `full` matter
  generalize packBits full = P
  clear hlen hfl hfm
  have ht8 : tail.length < 8 := Nat.lt_succ_of_le ht7
  unfold BoolBuf.writeValues
  simp only [Nat.mul_add_mod, Nat.mod_eq_of_lt ht8, Nat.add_assoc, byteCount_add]
  by_cases ht : tail = []
  · -- the buffer ends on a byte boundary
    subst ht
    simp only [List.length_nil, Nat.zero_add, Nat.add_zero, Nat.sub_zero, List.nil_append,
      show packBits [] = [] from rfl, List.append_nil]
    rw [resize_of_le _ _ _ (Nat.le_add_right _ _), Nat.add_sub_cancel_left]
    have hp1 : (if 8 ≤ rows.length
          then gatherPhase (alignPhase (P ++ List.replicate (byteCount rows.length) junk) (8 * P.length) rows) rows
          else (P ++ List.replicate (byteCount rows.length) junk, 8 * P.length, 0))
        = gatherPhase (P ++ List.replicate (byteCount rows.length) junk, 8 * P.length, 0) rows := by
      split
      · simp [alignPhase, Nat.mul_mod_right]
      · exact (gatherPhase_small _ _ 0 rows (by omega)).symm
    rw [hp1]
    exact aligned_cont P rows 0 junk
  · -- the buffer ends inside a byte
    have htpos : 1 ≤ tail.length := List.length_pos_iff.mpr ht
    rw [packBits_of_length_le tail htpos (by omega)]
    by_cases hr : 8 - tail.length ≤ rows.length
    · -- enough rows to fill the byte: merge, then continue from the boundary
      have hnew : (rows.take (8 - tail.length)).length = 8 - tail.length := by rw [List.length_take]; omega
      have h8 : (tail ++ rows.take (8 - tail.length)).length = 8 := by rw [List.length_append, hnew]; omega
      have hmerge := merge_byte_eq tail (rows.take (8 - tail.length)) (by omega) (by omega)
      have hbc : tail.length + rows.length = 8 * 1 + (rows.length - (8 - tail.length)) := by omega
      rw [if_pos hr, hbc, byteCount_add, ← Nat.add_assoc,
        resize_of_le _ _ _ (by simp only [List.length_append, List.length_cons, List.length_nil]; omega)]
      rw [List.length_append, List.length_singleton, Nat.add_sub_cancel_left, List.append_assoc]
      have ha : ∀ R : List UInt8, alignPhase (P ++ ([UInt8.ofNat (bitsByte tail)] ++ R)) (8 * P.length + tail.length) rows
          = ((P ++ [UInt8.ofNat (bitsByte (tail ++ rows.take (8 - tail.length)))]) ++ R,
             8 * (P ++ [UInt8.ofNat (bitsByte (tail ++ rows.take (8 - tail.length)))]).length, 8 - tail.length) := by
        intro R
        have hlt : 8 - tail.length < 8 := by omega
        unfold alignPhase
        simp only [Nat.mul_add_mod, Nat.mod_eq_of_lt ht8, Nat.mul_add_div (by decide : 0 < 8), Nat.div_eq_of_lt ht8,
          Nat.add_zero, hlt, if_true, List.singleton_append, setAt_append, hmerge, List.append_assoc,
          List.length_append, List.length_singleton]
        refine Prod.ext rfl (Prod.ext ?_ rfl)
        show 8 * P.length + tail.length + (8 - tail.length) = 8 * (P.length + 1)
        omega
      rw [ha, aligned_cont _ rows (8 - tail.length) junk,
        show tail ++ rows = (tail ++ rows.take (8 - tail.length)) ++ rows.drop (8 - tail.length) by
          rw [List.append_assoc, List.take_append_drop],
        packBits_chunk _ _ h8]
      simp only [List.length_append, List.length_singleton, List.append_assoc, List.singleton_append,
        BoolBuf.mk.injEq, true_and]
      omega
    · -- the batch stays inside the byte: the tail loop only
      have hfl := finish_lastbyte P (UInt8.ofNat (bitsByte tail)) tail rows 0 junk rows rfl (bitsByte_and_maskOf tail ht7)
        (by omega) (by omega)
      rw [if_neg hr, byteCount_of_le (by omega) (by omega), resize_of_le _ _ _ (by simp), List.length_append,
        List.length_singleton, Nat.sub_self, List.replicate_zero, List.append_nil, hfl, Nat.add_assoc]

theorem writeValues_rel (st : BoolBuf) (vs rows : List Bool) (junk : UInt8) (h : BoolRel st vs) :
    BoolRel (st.writeValues rows junk) (vs ++ rows) := by
  obtain ⟨hb, hn⟩ := h
  obtain ⟨k, full, tail, rfl, hfl, ht8⟩ := exists_whole_bytes vs
  have hst : st = { bits := packBits (full ++ tail), numValues := (full ++ tail).length } := by
    cases st; exact congr (congrArg _ hb) hn
  rw [hst, writeValues_packed full tail rows junk (by omega) (by omega)]
  exact ⟨rfl, (List.length_append ..).symm⟩

/-- BOOLEAN, every history (batches through `writeValues` with its three phases, single values through
    `writeBoolean`, `Reset`s), every content of the recycled backing array: the bytes `Page().Data()`
    hands to the filter are exactly the LSB-first packing of the values written since the last
    `Reset`, padding bits zero. -/
theorem boolean_buffer_is_packBits_all (junk : UInt8) : ∀ (ops : List BoolOp) (st : BoolBuf) (vs : List Bool),
    BoolRel st vs → BoolRel (ops.foldl (BoolBuf.step junk) st) (ops.foldl boolSpecStep vs) :=
  fun _ _ _ => foldl_sim (R := BoolRel) fun st vs op _ h => by
    cases op with
    | one b => exact writeBoolean_rel st vs b junk h
    | batch rows => exact writeValues_rel st vs rows junk h
    | reset => exact ⟨rfl, rfl⟩

example : BoolRel BoolBuf.empty [] := ⟨rfl, rfl⟩

theorem boolean_run (junk : UInt8) : ∀ (ops : List BufOp) (st : BoolBuf) (vs : List Value),
    BoolRel st (vs.map valueBool) →
    ∃ st', ops.foldl (Buf.step junk .boolean) (.boolean st) = .boolean st' ∧
      BoolRel st' ((ops.foldl specStep vs).map valueBool)
  | [], st, _, h => ⟨st, rfl, h⟩
  | .reset :: ops, _, _, _ => by
    simp only [List.foldl_cons, Buf.step, specStep, Buf.empty]
    exact boolean_run junk ops BoolBuf.empty [] ⟨rfl, rfl⟩
  | .write ws :: ops, st, vs, h => by
    simp only [List.foldl_cons, Buf.step, Buf.write, specStep]
    apply boolean_run junk ops
    rw [List.map_append]
    exact writeValues_rel _ _ _ junk h

/-- the SPEC layout `pageData` is what the boolean column buffer produces, for every history -/
theorem boolean_runData (junk : UInt8) (ops : List BufOp) :
    runData junk .boolean ops = pageData .boolean (runValues ops) := by
  obtain ⟨st', hrun, hrel⟩ := boolean_run junk ops BoolBuf.empty [] ⟨rfl, rfl⟩
  unfold runData runValues
  simp only [Buf.empty] at hrun ⊢
  rw [hrun]
  simp only [Buf.data, BoolBuf.data, pageData, hrel.1]
  rfl

theorem runValues_kinds (kind : Kind) : ∀ (ops : List BufOp) (vs : List Value), OpsOk kind ops →
    (∀ v ∈ vs, v.kindOk kind = true) → ∀ v ∈ ops.foldl specStep vs, v.kindOk kind = true := by
  intro ops vs hok h v hv
  rcases mem_foldl_specStep ops vs hv with h1 | ⟨ws, hw, hvw⟩
  · exact h v h1
  · exact hok (.write ws) hw ws rfl v hvw

/-- HEADLINE (every physical type). For every history of `WriteValues` batches and `Reset`s on the
    typed column buffer of a column, every value left in the buffer has the hash the reader's `Check`
    computes (`Value.hash`) among the hashes `writePageToFilter` inserts for `Page().Data()`. -/
theorem buffered_value_is_hashed (junk : UInt8) (kind : Kind) (ops : List BufOp) (hok : OpsOk kind ops)
    (v : Value) (hm : v ∈ runValues ops) : hashRead v ∈ hashWriteStaged (runData junk kind ops) := by
  by_cases hk : kind = .boolean
  · subst hk
    rw [boolean_runData, hashWriteStaged_eq]
    exact PqModel.Props.C07.hash_sides_agree .boolean _ (runValues_kinds .boolean ops [] hok (by simp)) v hm
  · rw [buffer_hashes_exactly_once junk kind hk ops hok]
    exact List.mem_map_of_mem hm

/-- … and found by `CheckSplitBlock` in the stored bytes of a filter of any `n ≥ 1` blocks. -/
theorem buffered_value_is_found (junk : UInt8) (kind : Kind) (ops : List BufOp) (hok : OpsOk kind ops)
    (n : Nat) (hn : 1 ≤ n) (v : Value) (hm : v ∈ runValues ops) :
    checkBytes (filterBytes (build n ((hashWriteStaged (runData junk kind ops)).map UInt64.toBitVec)))
      (hashRead v).toBitVec = true := by
  apply PqModel.Props.C07.no_false_negative_bytes n hn
  exact List.mem_map_of_mem (buffered_value_is_hashed junk kind ops hok v hm)

/-- BOOLEAN, "exactly once" as far as it can hold: no hash is inserted twice, and when the buffer
    holds a multiple of 8 values nothing but the hashes of buffered values is inserted (otherwise the
    zero padding may add `hash(false)`: `boolean_padding_adds_false`). -/
theorem boolean_buffer_exact (junk : UInt8) (ops : List BufOp) :
    (hashWriteStaged (runData junk .boolean ops)).Nodup ∧
    ((runValues ops).length % 8 = 0 → ∀ h ∈ hashWriteStaged (runData junk .boolean ops),
      ∃ v ∈ runValues ops, h = hashBool (valueBool v)) := by
  rw [boolean_runData]
  refine ⟨boolean_hashes_nodup _, ?_⟩
  intro hlen h hh
  obtain ⟨b, hb, rfl⟩ := boolean_full_bytes_exact ((runValues ops).map valueBool) (by simpa using hlen) h hh
  obtain ⟨v, hv, rfl⟩ := List.mem_map.mp hb
  exact ⟨v, hv, rfl⟩

example : OpsOk .boolean [.write [.boolean true, .boolean false], .reset, .write [.boolean true]] := by
  intro op hop vs hvs v hv
  simp at hop
  rcases hop with rfl | rfl | rfl <;> simp at hvs <;> subst hvs <;> simp at hv
  · rcases hv with rfl | rfl <;> decide
  · subst hv; decide

/-- Strategy 2 (filter from the dictionary): given the dictionary contract (it holds the first
    occurrences of the inserted values), every inserted value is hashed with the read-side hash, and
    for every kind but BOOLEAN each distinct value exactly once, nothing else. -/
theorem dict_page_hashes (kind : Kind) (vs : List Value) (hv : ∀ v ∈ vs, v.kindOk kind = true) :
    (∀ v ∈ vs, hashRead v ∈ hashWriteStaged (dictData kind vs)) ∧
    (kind ≠ .boolean → hashWriteStaged (dictData kind vs) = vs.eraseDups.map hashRead) := by
  have hsub : kind ≠ .boolean → dictValues kind vs = vs.eraseDups := by
    intro hk; cases kind <;> first | exact absurd rfl hk | rfl
  have hkinds : kind ≠ .boolean → ∀ v ∈ vs.eraseDups, v.kindOk kind = true :=
    fun _ v hm => hv v (List.mem_eraseDups.mp hm)
  refine ⟨?_, fun hk => by
    unfold dictData; rw [hsub hk]; exact pageData_hashes_exactly_once kind hk _ (hkinds hk)⟩
  intro v hm
  by_cases hk : kind = .boolean
  · subst hk
    have := hv v hm
    cases v <;> simp [Value.kindOk] at this
    rename_i b
    simp only [dictData, dictValues]
    cases b <;> decide
  · unfold dictData
    rw [hsub hk, pageData_hashes_exactly_once kind hk _ (hkinds hk)]
    exact List.mem_map_of_mem (List.mem_eraseDups.mpr hm)

/-- BOOLEAN dictionaries hold both values from the first insert on: a dictionary-encoded boolean
    chunk whose values are all `true` gets `hash(false)` in its filter (a false positive, never a
    false negative). -/
theorem boolean_dictionary_holds_both :
    hashBool false ∈ hashWriteStaged (dictData .boolean [.boolean true]) := by decide

end PqModel.Props.C07PageData
