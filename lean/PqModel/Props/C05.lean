import PqModel.Stats
import PqModel.LevelStats

/-! # C05 — Statistics and page indexes bound the data they describe

The theorems are about the MIRRORS of `PqModel/Stats.lean` / `PqModel/Trunc.lean` (transliterations of
`Bounds`, `recordPageStats`, the column indexers, `truncateLarge{Min,Max}ByteArrayValue`, `orderOf*`,
`boundaryOrderOf`), of `LevelStats.lean` (histograms, unencoded bytes) and the chunk record `ChunkRecord`, and hold for
every `Lawful` column order (those of `orders_lawful`), every page, every number of pages. The mirrors follow the
REPAIRED code; the mirrors of the code before each fix and the negations proved on them are kept as regression
facts (`…_before_fix`). -/
namespace PqModel.Props.C05
open PqModel PqModel.Stats

/-- every column order the library defines is a lawful order: INT32/INT64 and DECIMAL on them (`sint`),
    UINT_8..64 logical types (`uint`), FLOAT/DOUBLE with NaN excluded (`float`), BYTE_ARRAY / FLBA / be128 /
    UUID / INTERVAL-as-FLBA (`bytes`), DECIMAL on FLBA (`decimalFixed`) and on BYTE_ARRAY (`decimalBinary`),
    INT96 (`int96`), BOOLEAN (the `ofKey` order `false < true`, whose `lt` is `Stats.boolLt`: `Stats.boolLt_eq`). The library has no FLOAT16 type. -/
theorem orders_lawful :
    (∀ w, Lawful (sint w)) ∧ (∀ w, Lawful (uint w)) ∧ (∀ e m, Lawful (float e m)) ∧
    Lawful Stats.bytes ∧ Lawful decimalFixed ∧ Lawful decimalBinary ∧ Lawful int96 ∧
    Lawful (ofKey (fun b : Bool => if b then 1 else 0) (fun _ => false)) :=
  ⟨sint_lawful, uint_lawful, float_lawful, bytes_lawful, decimalFixed_lawful, decimalBinary_lawful, int96_lawful,
   ofKey_lawful _ _⟩

/-- the library's comparison functions ARE these orders: `Int96.Less` is the signed 96-bit order, and
    `compareDecimalByteArrays` on equal widths is the sign-flipped unsigned byte order (mixed widths: `decimalCompare_spec`
    of Props/C05Ext.lean; the numeric kinds: Props/C05Compare.lean). -/
theorem orders_mirror :
    (∀ a b : I96, (a.1 < 2 ^ 32 ∧ a.2.1 < 2 ^ 32 ∧ a.2.2 < 2 ^ 32) → (b.1 < 2 ^ 32 ∧ b.2.1 < 2 ^ 32 ∧ b.2.2 < 2 ^ 32) →
      int96Less a b = int96.lt a b) ∧
    (∀ a b : List Nat, a.length = b.length → (∀ x ∈ a, x ≤ 255) → (∀ x ∈ b, x ≤ 255) →
      decide (cmpDecimal a b < 0) = decimalFixed.lt a b) := by
  refine ⟨fun a b ha hb => ?_, fun a b hlen ha hb => ?_⟩
  · obtain ⟨a0, a1, a2⟩ := a
    obtain ⟨b0, b1, b2⟩ := b
    simp only at ha hb
    -- the chain of tests says: the signs differ and `a` is the negative one, or they agree and the words, most
    -- significant first, are lexicographically smaller
    have h0 : (if a0 < b0 then true else false) = decide (a0 < b0) := by by_cases h : a0 < b0 <;> simp [h]
    simp only [int96Less, h0, lexStep, signStep, int96, ofKey, Bool.not_false, Bool.true_and]
    rw [Bool.eq_iff_iff]
    simp only [Bool.or_eq_true, Bool.and_eq_true, decide_eq_true_eq, beq_iff_eq, Bool.not_eq_true',
      decide_eq_false_iff_not, decide_eq_decide]
    -- which is the order of the 96-bit two's complement values, the words being digits to base 2^32
    simp only [int96Key]
    omega
  · match a, b, hlen, ha, hb with
    | [], [], _, _, _ => decide
    | [], _ :: _, h, _, _ => simp at h
    | _ :: _, [], h, _, _ => simp at h
    | a0 :: as, b0 :: bs, hlen, ha, hb =>
      have ha0 : a0 ≤ 255 := ha a0 (by simp)
      have hb0 : b0 ≤ 255 := hb b0 (by simp)
      have hl : as.length = bs.length := by simpa using hlen
      -- equal widths: after the sign test the mirror is the three-way `lexLt`
      have hm : cmpDecimal (a0 :: as) (b0 :: bs) =
          if decide (a0 ≥ 128) && !decide (b0 ≥ 128) then -1
          else if !decide (a0 ≥ 128) && decide (b0 ≥ 128) then 1
          else if lexLt (a0 :: as) (b0 :: bs) then -1 else if lexLt (b0 :: bs) (a0 :: as) then 1 else 0 := by
        simp only [cmpDecimal, List.length_cons, hl, Nat.lt_irrefl, if_false, Nat.sub_self, cmpPadded]
      have hthree : ∀ l g : Bool, decide ((if l then -1 else if g then 1 else (0 : Int)) < 0) = l := by decide
      -- the spec order compares the strings with the sign bits of the heads flipped
      show _ = lexLt ((if a0 < 128 then a0 + 128 else a0 - 128) :: as) ((if b0 < 128 then b0 + 128 else b0 - 128) :: bs)
      clear ha hb hlen hl
      by_cases hna : a0 < 128 <;> by_cases hnb : b0 < 128
      · rw [if_pos hna, if_pos hnb, lexLt_cons_add, hm]
        simp [Nat.not_le.mpr hna, Nat.not_le.mpr hnb, hthree]
      · rw [if_pos hna, if_neg hnb, lexLt_cons_of_gt (by omega), hm]
        simp [Nat.not_le.mpr hna, Nat.not_lt.mp hnb]
      · rw [if_neg hna, if_pos hnb, lexLt_cons_of_lt (by omega), hm]
        simp [Nat.not_le.mpr hnb, Nat.not_lt.mp hna]
      · -- both negative: both heads lose 128
        obtain ⟨a', rfl⟩ : ∃ a', a0 = a' + 128 := ⟨a0 - 128, by omega⟩
        obtain ⟨b', rfl⟩ : ∃ b', b0 = b' + 128 := ⟨b0 - 128, by omega⟩
        rw [if_neg hna, if_neg hnb, Nat.add_sub_cancel, Nat.add_sub_cancel, ← lexLt_cons_add 128 a' b', hm]
        simp [hthree]

example : int96Less (0, 0, 0x80000000) (5, 0, 0) = true ∧ cmpDecimal [0xff, 0x00] [0x00, 0x01] = -1 := by decide

/-- `Bounds()` of a page (float/double mirror, the most general one; `none` = null value): if the page
    holds a non-null non-NaN value then min and max are attained by non-null non-NaN values of the page
    and `min ≤ v ≤ max` for EVERY non-null non-NaN value `v` of the page. -/
theorem pageBounds_bound {α} {o : ColOrder α} (h : Lawful o) (vals : List (Option α))
    (hex : ∃ v, some v ∈ vals ∧ o.ok v = true) :
    ∃ mn mx, (pageStats o vals).bounds = some (mn, mx) ∧
      some mn ∈ vals ∧ some mx ∈ vals ∧ o.ok mn = true ∧ o.ok mx = true ∧
      ∀ v, some v ∈ vals → o.ok v = true → o.lt v mn = false ∧ o.lt mx v = false := by
  obtain ⟨mn, mx, hb, hib⟩ := pageStats_isBounds h vals hex
  exact ⟨mn, mx, hb, mem_nonNull.mp hib.min_mem, mem_nonNull.mp hib.max_mem, hib.min_ok, hib.max_ok,
    fun v hv hok => ⟨hib.lower v (mem_nonNull.mpr hv) hok, hib.upper v (mem_nonNull.mpr hv) hok⟩⟩

example : ∃ v, some v ∈ [none, some 0x7fc00000#32, some 0xbf800000#32, some 0x00000000#32] ∧ f32.ok v = true :=
  ⟨0xbf800000#32, by decide, by decide⟩
-- NaN first, then -1.0 and +0.0: bounds are (-1.0, +0.0)
example : (pageStats f32 [none, some 0x7fc00000#32, some 0xbf800000#32, some 0x00000000#32]).bounds
    = some (0xbf800000#32, 0x00000000#32) := by decide

/-- the integer / FLBA loops (`boundsInt32`, …, `boundsFixedLenByteArray`) and the byte-array `switch`
    loop compute the same pair as the general mirror, so `pageBounds_bound` covers them. -/
theorem pageBounds_kernels {α} {o : ColOrder α} (h : Lawful o) (hok : ∀ v, o.ok v = true) (xs : List α) :
    bounds o.lt xs = boundsNaN o xs ∧ boundsSwitch o.lt xs = boundsNaN o xs :=
  ⟨(boundsNaN_eq_bounds o hok xs).symm, by rw [boundsSwitch_eq_bounds h, boundsNaN_eq_bounds o hok]⟩

/-- all-NaN page (at least one non-null value, all NaN): both bounds are the first value, a NaN -/
theorem pageBounds_allNaN {α} (o : ColOrder α) (vals : List (Option α)) (x0 : α) (xt : List α)
    (hnn : nonNull vals = x0 :: xt) (hall : ∀ v ∈ x0 :: xt, o.ok v = false) :
    (pageStats o vals).bounds = some (x0, x0) := by
  simp only [pageStats, hnn]
  exact boundsNaN_allNaN o x0 xt hall

/-- null counts, value counts and the null-page flag are the real counts; a page has no bounds
    exactly when it is a null page -/
theorem nullCounts_exact {α} (o : ColOrder α) (vals : List (Option α)) :
    (pageStats o vals).numValues = vals.length ∧
    (pageStats o vals).numNulls = vals.countP (· = none) ∧
    ((pageStats o vals).nullPage = true ↔ ∀ v ∈ vals, v = none) ∧
    ((pageStats o vals).bounds = none ↔ ∀ v ∈ vals, v = none) := by
  refine ⟨rfl, numNulls_eq_countP o vals, ?_, ?_⟩
  · simp only [pageStats, beq_iff_eq]
    constructor
    · intro hl v hv
      have := (List.length_filter_eq_length_iff (p := Option.isNone) (l := vals)).mp hl.symm v hv
      cases v with
      | none => rfl
      | some _ => simp at this
    · intro hall
      have : vals.filter Option.isNone = vals := List.filter_eq_self.mpr (fun v hv => by simp [hall v hv])
      rw [this]
  · simp only [pageStats, boundsNaN_eq_none, nonNull, List.filterMap_eq_nil_iff, id]

/-- REGRESSION FACT (`recordPageStats` before the fix): the chunk min/max bounded every non-null non-NaN
    value only provided the FIRST page that has bounds is not an all-NaN page. -/
theorem fold_bound_before_fix {α} {o : ColOrder α} (h : Lawful o) (pgs : List (List (Option α)))
    (p0 : α × α) (pt : List (α × α))
    (hps : pairsOf (pgs.map (fun vals => (pageStats o vals).bounds)) = p0 :: pt)
    (hfirst : o.ok p0.1 = true ∧ o.ok p0.2 = true) :
    ∃ cmn cmx, foldChunk_before_fix o.lt (pgs.map (fun vals => (pageStats o vals).bounds)) = some (cmn, cmx) ∧
      o.ok cmn = true ∧ o.ok cmx = true ∧
      (∃ vals ∈ pgs, some cmn ∈ vals) ∧ (∃ vals ∈ pgs, some cmx ∈ vals) ∧
      ∀ vals ∈ pgs, ∀ v, some v ∈ vals → o.ok v = true → o.lt v cmn = false ∧ o.lt cmx v = false := by
  obtain ⟨cmn, cmx, hf, hmn, hmx⟩ := foldChunk_before_fix_spec h _ p0 pt hps hfirst
  obtain ⟨h1, h2, h3⟩ := chunkBounds_of_pages h pgs hmn hmx
  exact ⟨cmn, cmx, hf, hmn.ok, hmx.ok, h1, h2, h3⟩

/-- `recordPageStats`: as soon as the chunk holds a non-null non-NaN value, the chunk min/max are non-NaN,
    attained by values of the chunk, and bound every non-null non-NaN value of every page — whatever the
    position of null pages and all-NaN pages. -/
theorem fold_bound {α} {o : ColOrder α} (h : Lawful o) (pgs : List (List (Option α)))
    (hex : ∃ vals ∈ pgs, ∃ v, some v ∈ vals ∧ o.ok v = true) :
    ∃ cmn cmx, foldChunk o (pgs.map (fun vals => (pageStats o vals).bounds)) = some (cmn, cmx) ∧
      o.ok cmn = true ∧ o.ok cmx = true ∧
      (∃ vals ∈ pgs, some cmn ∈ vals) ∧ (∃ vals ∈ pgs, some cmx ∈ vals) ∧
      ∀ vals ∈ pgs, ∀ v, some v ∈ vals → o.ok v = true → o.lt v cmn = false ∧ o.lt cmx v = false := by
  obtain ⟨vals0, hv0, v0, hv0in, hv0ok⟩ := hex
  obtain ⟨mn0, mx0, hb0, hib⟩ := pageStats_isBounds h vals0 ⟨v0, hv0in, hv0ok⟩
  have hp0 : (mn0, mx0) ∈ pairsOf (pgs.map (fun vals => (pageStats o vals).bounds)) :=
    mem_pairsOf.mpr (List.mem_map.mpr ⟨vals0, hv0, hb0⟩)
  obtain ⟨cmn, cmx, hf, hmn, hmx⟩ := foldChunk_spec h _ ⟨mn0, List.mem_map.mpr ⟨_, hp0, rfl⟩, hib.min_ok⟩
    ⟨mx0, List.mem_map.mpr ⟨_, hp0, rfl⟩, hib.max_ok⟩
  obtain ⟨h1, h2, h3⟩ := chunkBounds_of_pages h pgs hmn hmx
  exact ⟨cmn, cmx, hf, hmn.ok, hmx.ok, h1, h2, h3⟩

-- all-NaN first page, then 1.0 and 3.0: the repaired fold yields (1.0, 3.0)
example : foldChunk f32 ([[some 0x7fc00000#32], [some 0x3f800000#32, some 0x40400000#32]].map
    (fun vals => (pageStats f32 vals).bounds)) = some (0x3f800000#32, 0x40400000#32) := by decide

-- two int32 pages, the first one with a null
example : pairsOf ([[some 3#32, none, some 1#32], [some 0xfffffffb#32]].map (fun vals => (pageStats (sint 32) vals).bounds))
    = (1#32, 3#32) :: [(0xfffffffb#32, 0xfffffffb#32)] := by decide
example : foldChunk (sint 32) ([[some 3#32, none, some 1#32], [some 0xfffffffb#32]].map
    (fun vals => (pageStats (sint 32) vals).bounds)) = some (0xfffffffb#32, 3#32) := by decide

/-- REGRESSION FACT, negation on the mirror of the code before the fix (finding `chunk-stats-nan-sticky`):
    when the first page with bounds is an all-NaN float page, the chunk statistics stayed NaN although
    later pages hold 1.0 and 3.0. -/
theorem fold_nan_first_page_sticks_before_fix :
    foldChunk_before_fix f32.lt ([[some 0x7fc00000#32], [some 0x3f800000#32, some 0x40400000#32]].map
      (fun vals => (pageStats f32 vals).bounds)) = some (0x7fc00000#32, 0x7fc00000#32) := by decide

theorem truncMin_le (v : List Nat) (n : Nat) : Trunc.lexLe (truncMin v n) v = true := Trunc.truncMin_le v n

/-- REGRESSION FACT (code before the fix): the truncated max was an upper bound EXACTLY under this
    hypothesis: nothing is truncated or the kept prefix has a byte other than 0xFF -/
theorem truncMax_ge_before_fix (v : List Nat) (n : Nat) (hb : ∀ b ∈ v, b ≤ 255)
    (hyp : v.length ≤ n ∨ ∃ b ∈ v.take n, b ≠ 255) : Trunc.lexLe v (truncMax_before_fix v n) = true := by
  simp only [truncMax_before_fix, Trunc.truncMaxBuggy]
  split
  · rename_i hlen
    have hnc : (Trunc.incr (v.take n)).2 = false := by
      cases hc : (Trunc.incr (v.take n)).2 with
      | false => rfl
      | true =>
        have hall := (Trunc.incr_carry_iff (v.take n)).mp hc
        rcases hyp with hyp | ⟨b, hbm, hbne⟩
        · omega
        · exact absurd (hall b hbm) hbne
    have := Trunc.incr_gt (v.take n) (v.drop n) hnc
    cases hi : Trunc.incr (v.take n) with
    | mk r c =>
      rw [hi] at hnc this
      simp only at hnc
      subst hnc
      simpa [List.take_append_drop] using this
  · exact Trunc.lexLe_refl v

example : (∀ b ∈ [1, 255, 255, 7], b ≤ 255) ∧ (∃ b ∈ [1, 255, 255, 7].take 3, b ≠ 255) := by decide
example : truncMax_before_fix [1, 255, 255, 7] 3 = [2, 0, 0] := by decide

/-- REGRESSION FACT, the negation on the mirror of the code before the fix (finding
    `truncmax-all-ff-prefix`): whenever the value is truncated and the kept prefix is all 0xFF, the
    recorded max was strictly below the value. -/
theorem truncMax_lt_of_allFF_before_fix (v : List Nat) (n : Nat) (hlen : n < v.length)
    (hff : ∀ b ∈ v.take n, b = 255) : Trunc.lexLe v (truncMax_before_fix v n) = false := by
  rw [truncMax_before_fix_allFF v n hlen hff]
  exact Trunc.lexLe_take_strict v n hlen

theorem truncMax_witness_before_fix :
    truncMax_before_fix [255, 255, 255, 255, 255, 255] 4 = [255, 255, 255, 255] ∧
    Trunc.lexLe [255, 255, 255, 255, 255, 255] (truncMax_before_fix [255, 255, 255, 255, 255, 255] 4) = false := by decide

/-- the truncated max (mirror of the repaired `truncateLargeMaxByteArrayValue`: keep the untruncated value
    when the increment overflows) is an upper bound of the value, for every value and limit -/
theorem truncMax_ge (v : List Nat) (n : Nat) (hb : ∀ b ∈ v, b ≤ 255) :
    Trunc.lexLe v (truncMax v n) = true := Trunc.truncMaxFixed_ge v n hb

example : truncMax [255, 255, 255, 255, 255, 255] 4 = [255, 255, 255, 255, 255, 255] := by decide

/-- REGRESSION FACT (numeric indexers before the NaN fix): the claim was only sound when no stored bound is
    NaN (hypotheses `hz`, `hok`). -/
theorem boundaryOrder_sound_before_fix {α} {o : ColOrder α} (h : Lawful o) (z : α) (pages : List (Option (α × α)))
    (hz : o.ok z = true) (hok : ∀ p ∈ pairsOf pages, o.ok p.1 = true ∧ o.ok p.2 = true) :
    (indexOrder_before_fix o z pages = 1 →
      (nonNullMins pages).Pairwise (fun a b => o.lt b a = false) ∧
      (nonNullMaxs pages).Pairwise (fun a b => o.lt b a = false)) ∧
    (indexOrder_before_fix o z pages = 2 →
      (nonNullMins pages).Pairwise (fun a b => o.lt a b = false) ∧
      (nonNullMaxs pages).Pairwise (fun a b => o.lt a b = false)) := by
  rw [← nonNullOf_storedMins z, ← nonNullOf_storedMaxs z]
  exact boundaryOrderOf_sound pages
    (orderOf_sound h _ (forall_mem_storedMins hz fun p hp => (hok p hp).1))
    (orderOf_sound h _ (forall_mem_storedMaxs hz fun p hp => (hok p hp).2))

/-- numeric indexers, int and float (null pages stored as the zero value `z`; no order claimed when a stored
    bound is NaN): a claimed ASCENDING / DESCENDING order is true of the mins and of the maxs of the non-null
    pages. No hypothesis beyond the order being lawful. -/
theorem boundaryOrder_sound {α} {o : ColOrder α} (h : Lawful o) (z : α) (pages : List (Option (α × α))) :
    (indexOrder o z pages = 1 →
      (nonNullMins pages).Pairwise (fun a b => o.lt b a = false) ∧
      (nonNullMaxs pages).Pairwise (fun a b => o.lt b a = false)) ∧
    (indexOrder o z pages = 2 →
      (nonNullMins pages).Pairwise (fun a b => o.lt a b = false) ∧
      (nonNullMaxs pages).Pairwise (fun a b => o.lt a b = false)) := by
  unfold indexOrder
  split
  · rename_i hg
    simp only [Bool.and_eq_true, List.all_eq_true] at hg
    rw [← nonNullOf_storedMins z, ← nonNullOf_storedMaxs z]
    exact boundaryOrderOf_sound pages (orderOf_sound h _ hg.1) (orderOf_sound h _ hg.2)
  · exact ⟨fun h0 => by simp at h0, fun h0 => by simp at h0⟩

example : indexOrder (sint 32) 0#32 [some (0xfffffffb#32, 0xfffffffd#32), none, some (7#32, 9#32)] = 1 := by decide

/-- the other direction is NOT sound (and not needed): non-null pages sorted, but the zero stored for the
    null page breaks the run, so the writer claims UNORDERED. Harmless for readers. -/
theorem boundaryOrder_incomplete :
    indexOrder (sint 32) 0#32 [some (0xfffffffb#32, 0xfffffffd#32), none, some (0xfffffffe#32, 0xffffffff#32)] = 0 := by
  decide

/-- byte-array indexer: the claim is about the TRUNCATED entries, which is what a reader sees -/
theorem boundaryOrder_sound_bytes (lim : Nat) (pages : List (Option (List Nat × List Nat))) :
    (bytesIndexOrder lim pages = 1 →
      (nonNullOf pages (bytesIndexMins lim pages)).Pairwise (fun a b => lexLt b a = false) ∧
      (nonNullOf pages (bytesIndexMaxs lim pages)).Pairwise (fun a b => lexLt b a = false)) ∧
    (bytesIndexOrder lim pages = 2 →
      (nonNullOf pages (bytesIndexMins lim pages)).Pairwise (fun a b => lexLt a b = false) ∧
      (nonNullOf pages (bytesIndexMaxs lim pages)).Pairwise (fun a b => lexLt a b = false)) :=
  boundaryOrderOf_sound pages (orderOfBytes_sound _) (orderOfBytes_sound _)

example : bytesIndexOrder 2 [some ([1, 2, 3], [1, 2, 9]), none, some ([1, 3], [4])] = 0 := by decide
example : bytesIndexOrder 2 [none, some ([1, 2, 3], [1, 2, 9]), some ([1, 3], [4])] = 1 := by decide

/-- boolean indexer (`orderOfBool` streak scan; null pages stored as `false`) -/
theorem boundaryOrder_sound_bool (pages : List (Option (Bool × Bool))) :
    (boolIndexOrder pages = 1 →
      (nonNullMins pages).Pairwise (fun a b => boolLt b a = false) ∧
      (nonNullMaxs pages).Pairwise (fun a b => boolLt b a = false)) ∧
    (boolIndexOrder pages = 2 →
      (nonNullMins pages).Pairwise (fun a b => boolLt a b = false) ∧
      (nonNullMaxs pages).Pairwise (fun a b => boolLt a b = false)) := by
  rw [← nonNullOf_storedMins false, ← nonNullOf_storedMaxs false]
  exact boundaryOrderOf_sound pages (orderOfBool_sound _) (orderOfBool_sound _)

example : boolIndexOrder [some (false, false), none, some (false, true), some (true, true)] = 1 := by decide

/-- REGRESSION FACT, negation on the mirror of the code before the fix (finding
    `boundary-order-false-nan-page`): pages (5,7), all-NaN, (1,3) of a FLOAT column were claimed ASCENDING
    because every comparison with the NaN bounds is false. -/
theorem boundaryOrder_nan_page_false_before_fix :
    indexOrder_before_fix f32 0#32 [some (0x40a00000#32, 0x40e00000#32), some (0x7fc00000#32, 0x7fc00000#32),
      some (0x3f800000#32, 0x40400000#32)] = 1 ∧
    f32.lt 0x3f800000#32 0x40a00000#32 = true := by decide

-- the repaired float indexer claims nothing on that input
example : indexOrder f32 0#32 [some (0x40a00000#32, 0x40e00000#32), some (0x7fc00000#32, 0x7fc00000#32),
      some (0x3f800000#32, 0x40400000#32)] = 0 := by decide

/-- REGRESSION FACT, negation on the mirror of the code before parquet-go commit 0506fde (finding
    `flba-null-page-index-short`): a FIXED_LEN_BYTE_ARRAY(2) column with pages value / null / value got 2 min
    entries for 3 pages, and the entry of page 2 sat at index 1. The be128 indexer dropped null entries too. -/
theorem flba_index_short_before_fix :
    flbaIndexMins_before_fix 2 16 [some ([1, 2], [1, 2]), none, some ([3, 4], [3, 4])] = [[1, 2], [3, 4]] ∧
    be128IndexMins_before_fix [some ([1, 2], [1, 2]), none, some ([3, 4], [3, 4])] = [[1, 2], [3, 4]] := by decide

/-- FIXED_LEN_BYTE_ARRAY / be128 indexers (as repaired: one entry per page, null pages store zero bytes):
    the lists are aligned with the pages and a claimed order is true of the entries of the non-null pages. -/
theorem boundaryOrder_sound_flba (size lim : Nat) (pages : List (Option (List Nat × List Nat))) :
    (flbaIndexMins size lim pages).length = pages.length ∧ (flbaIndexMaxs size lim pages).length = pages.length ∧
    (flbaIndexOrder size lim pages = 1 →
      (nonNullOf pages (flbaIndexMins size lim pages)).Pairwise (fun a b => lexLt b a = false) ∧
      (nonNullOf pages (flbaIndexMaxs size lim pages)).Pairwise (fun a b => lexLt b a = false)) ∧
    (flbaIndexOrder size lim pages = 2 →
      (nonNullOf pages (flbaIndexMins size lim pages)).Pairwise (fun a b => lexLt a b = false) ∧
      (nonNullOf pages (flbaIndexMaxs size lim pages)).Pairwise (fun a b => lexLt a b = false)) :=
  ⟨by simp [flbaIndexMins, storedMins], by simp [flbaIndexMaxs, storedMaxs],
    boundaryOrderOf_sound pages (orderOfBytes_sound _) (orderOfBytes_sound _)⟩

example : flbaIndexMins 2 16 [some ([1, 2], [1, 2]), none, some ([3, 4], [3, 4])] = [[1, 2], [0, 0], [3, 4]] := by decide

open PqModel.LevelStats in
/-- `histogram_exact`: for levels within `0..maxLevel` (what the Dremel shredder produces) the page histogram
    has `maxLevel+1` buckets, bucket `l` is the number of entries with level `l`, and the buckets sum to the
    number of entries (= num_values of the page). -/
theorem histogram_exact (maxLevel : Nat) (levels : List Nat) (hb : ∀ x ∈ levels, x ≤ maxLevel) :
    (pageHist maxLevel levels).length = maxLevel + 1 ∧
    (∀ l, (pageHist maxLevel levels).getD l 0 = levels.count l) ∧
    (pageHist maxLevel levels).sum = levels.length :=
  pageHist_spec maxLevel levels hb

example : PqModel.LevelStats.pageHist 2 [0, 2, 2, 1, 2] = [1, 1, 3] := by decide

open PqModel.LevelStats in
/-- chunk level: the chunk histogram (SizeStatistics) is the pointwise sum of the page histograms = the counts
    over all pages, it sums to the chunk's num_values, and the flat list stored in the column index is the
    concatenation of the page histograms, `maxLevel+1` entries per page. -/
theorem chunkHistogram_exact (maxLevel : Nat) (pages : List (List Nat)) (hb : ∀ p ∈ pages, ∀ x ∈ p, x ≤ maxLevel) :
    (∀ l, (chunkHists maxLevel pages).1.getD l 0 = (pages.map (fun p => (pageHist maxLevel p).getD l 0)).sum) ∧
    (∀ l, (chunkHists maxLevel pages).1.getD l 0 = pages.flatten.count l) ∧
    (chunkHists maxLevel pages).1.sum = (pages.map List.length).sum ∧
    (chunkHists maxLevel pages).2 = pages.flatMap (pageHist maxLevel) ∧
    (chunkHists maxLevel pages).2.length = pages.length * (maxLevel + 1) := by
  have hfl : ∀ x ∈ pages.flatten, x ≤ maxLevel := by
    intro x hx
    obtain ⟨p, hp, hxp⟩ := List.mem_flatten.mp hx
    exact hb p hp x hxp
  obtain ⟨_, hcount, hsum⟩ := pageHist_spec maxLevel pages.flatten hfl
  refine ⟨fun l => ?_, fun l => ?_, ?_, chunkHists_snd maxLevel pages, ?_⟩
  · rw [chunkHists_fst, hcount l, sum_page_counts maxLevel l pages hb]
  · rw [chunkHists_fst, hcount l]
  · rw [chunkHists_fst, hsum, List.length_flatten]
  · rw [chunkHists_snd, flatMap_pageHist_length maxLevel pages hb]

example : PqModel.LevelStats.chunkHists 1 [[1, 0, 1], [0, 0]] = ([3, 2], [1, 2, 2, 0]) := by decide

open PqModel.LevelStats in
/-- `unencoded_byte_array_data_bytes` of a chunk is the total length of its non-null byte-array values, page by
    page, dictionary-encoded or not. -/
theorem unencodedBytes_exact (pages : List (List (List Nat))) :
    chunkUnencoded pages = (pages.map (fun p => (p.map List.length).sum)).sum := by
  unfold chunkUnencoded
  rw [chunkUnencoded_fold, Nat.zero_add]
  rfl

/-- REGRESSION FACT (before the fix): a dictionary-encoded page of "abc","abc","de" counted 0 bytes, not 8 -/
theorem unencodedBytes_dict_before_fix :
    PqModel.LevelStats.pageUnencoded_before_fix true [[97, 98, 99], [97, 98, 99], [100, 101]] = 0 ∧
    PqModel.LevelStats.pageUnencoded [[97, 98, 99], [97, 98, 99], [100, 101]] = 8 := by decide

/-- The verbatim copy path is the identity on the pages and on every statistic of the chunk (it only rebases
    page offsets), so a sound source record stays sound in the destination file: every copied min/max, null
    count and null-page flag still describes the copied pages. -/
theorem copy_sound {α} {o : ColOrder α} (c : ChunkRecord α) (srcOff dstOff : Nat) (h : c.Sound o) :
    (copyVerbatim c srcOff dstOff).Sound o ∧ (copyVerbatim c srcOff dstOff).offsets.length = c.offsets.length :=
  ⟨{ aligned := h.aligned, nulls := h.nulls, nullPage := h.nullPage, bound := h.bound,
     chunkBound := h.chunkBound, chunkNullsExact := h.chunkNullsExact }, by simp [copyVerbatim]⟩

/-- `ChunkRecord.Sound` is satisfiable, and is what `pageBounds_bound` / `fold_bound` / `nullCounts_exact` give for
    a chunk written by the (repaired) writer: one int32 page with a null. -/
example : ({ pages := [[some 3#32, none]], index := [some (3#32, 3#32)], nullCounts := [1], chunk := some (3#32, 3#32),
             chunkNulls := 1, offsets := [4] } : ChunkRecord (BitVec 32)).Sound (sint 32) where
  aligned := by decide
  nulls := by
    intro i vals h
    cases i with
    | zero => simp at h; subst h; decide
    | succ i => simp at h
  nullPage := by
    intro i vals h
    cases i with
    | zero => simp at h; subst h; decide
    | succ i => simp at h
  bound := by
    intro i vals mn mx h hi v hv _
    cases i with
    | zero =>
      simp at h hi; subst h; obtain ⟨h1, h2⟩ := hi; subst h1; subst h2
      simp at hv; subst hv; decide
    | succ i => simp at h
  chunkBound := by
    intro mn mx hc vals hv v hvin _
    simp at hc hv; obtain ⟨h1, h2⟩ := hc; subst h1; subst h2; subst hv
    simp at hvin; subst hvin; decide
  chunkNullsExact := by decide

/-- For ANY recorded bounds `(rmn, rmx)` that bound the non-null non-NaN values of a page (page bounds,
    truncated index entries, chunk statistics): a reader that drops the page for probe `v` because
    `v < rmn ∨ rmx < v` drops no value equal to `v` (equal = neither below nor above, so `-0.0`
    matches `+0.0`). -/
theorem skip_safe {α} {o : ColOrder α} (h : Lawful o) (vals : List (Option α)) (rmn rmx v : α)
    (hb : ∀ x, some x ∈ vals → o.ok x = true → o.lt x rmn = false ∧ o.lt rmx x = false)
    (hskip : o.lt v rmn = true ∨ o.lt rmx v = true) :
    ∀ x, some x ∈ vals → o.ok x = true → o.lt v x = true ∨ o.lt x v = true := by
  intro x hx hxok
  obtain ⟨h1, h2⟩ := hb x hx hxok
  rcases hskip with hs | hs
  · rcases h.negtrans v x rmn hxok hs with h' | h'
    · exact Or.inl h'
    · simp [h'] at h1
  · rcases h.negtrans rmx x v hxok hs with h' | h'
    · simp [h'] at h2
    · exact Or.inr h'

theorem skip_safe_pageBounds {α} {o : ColOrder α} (h : Lawful o) (vals : List (Option α)) (mn mx v : α)
    (hbounds : (pageStats o vals).bounds = some (mn, mx))
    (hskip : o.lt v mn = true ∨ o.lt mx v = true) :
    ∀ x, some x ∈ vals → o.ok x = true → o.lt v x = true ∨ o.lt x v = true :=
  skip_safe h vals mn mx v (fun _ hx hxok => pageStats_bound h hbounds hx hxok) hskip

/-- `skip_safe` through truncation: page of byte strings, index entries `truncMin mn n` and
    `truncMax mx n` (with `truncMax_before_fix`, the code before the repair, this needs the hypothesis of `truncMax_ge_before_fix`). -/
theorem skip_safe_truncated (vals : List (Option (List Nat))) (mn mx v : List Nat) (n : Nat)
    (hbytes : ∀ b ∈ mx, b ≤ 255)
    (hb : ∀ x, some x ∈ vals → lexLt x mn = false ∧ lexLt mx x = false)
    (hskip : lexLt v (truncMin mn n) = true ∨ lexLt (truncMax mx n) v = true) :
    ∀ x, some x ∈ vals → lexLt v x = true ∨ lexLt x v = true := by
  intro x hx
  refine skip_safe bytes_lawful vals (truncMin mn n) (truncMax mx n) v (fun y hy _ => ?_) hskip x hx rfl
  obtain ⟨h1, h2⟩ := hb y hy
  -- truncMin mn n ≤ mn ≤ y ≤ mx ≤ truncMax mx n
  exact ⟨bytes_lawful.le_trans (b := mn) rfl (by simp [Stats.bytes, lexLt, truncMin_le mn n]) h1,
    bytes_lawful.le_trans (b := mx) rfl h2 (by simp [Stats.bytes, lexLt, truncMax_ge mx n hbytes])⟩

example : lexLt [9] (truncMin [9, 9, 9] 2) = true ∨ lexLt (truncMax [9, 9, 9] 2) [9, 10, 0] = true := by decide

end PqModel.Props.C05
