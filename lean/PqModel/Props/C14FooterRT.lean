import PqModel.ThriftSkipWrite
import PqModel.FileMetaTrees
import PqModel.Props.C14Footer

/-! C14, truncated footers, closing the loop with the writer: the MIRROR of the decoder's structure walk
    (`PqModel.ThriftSkip`) accepts EVERY output of the MIRROR of the encoder (`PqModel.ThriftWrite.writeStruct`:
    `compactWriter` + `structEncoder.encode`) and ends exactly at its last byte. Hence the hypothesis "the walk accepts
    `ft` in full" of `C14Footer.walk_cut_rejected` / `cut_footer_rejected` holds of every footer the writer mirror can produce. -/
namespace PqModel.Props.C14FooterRT
open PqModel.IoFault PqModel.ThriftSkip PqModel.ThriftWrite PqModel.ThriftSkipWrite
open PqModel.Props.C14Footer

/-- For every well-formed tree (`WfF`: ints within their width, lengths
within int32, list elements of the announced type, written field ids ascending in 1..32767 - the
same hypothesis as C02's `read_write_struct`; any nesting depth, any size), the decoder's walk run
on the encoder's bytes followed by ANY bytes accepts and stops right behind the struct's stop byte.
Covers `binary.Uvarint`'s 10-byte overflow rule, the int16/int32/int64 and `ReadLength` range
checks, both field-header and both list-header forms, bool fields (no bytes) vs bool elements (one
byte), omitted zero fields; the model's own fuel is enough. -/
theorem walk_accepts_writer (fs : List (FMeta × WVal)) (rest : List UInt8) (hw : WfF 0 fs = true) :
    skipStruct (writeStruct fs ++ rest) = .ok (writeStruct fs).length :=
  skipStruct_writeStruct fs rest hw

theorem walk_accepts_writer_exact (fs : List (FMeta × WVal)) (hw : WfF 0 fs = true) :
    skipStruct (writeStruct fs) = .ok (writeStruct fs).length := by
  have := walk_accepts_writer fs [] hw
  rwa [List.append_nil] at this

/-- The same anywhere inside a buffer (a struct that is not at offset 0:
page headers, index structs): from some fuel on, the walk started at the first byte of the encoding
ends right behind it. -/
theorem walk_accepts_writer_at (fs : List (FMeta × WVal)) (pre rest : List UInt8) (hw : WfF 0 fs = true) :
    ∃ f, ∀ f', f ≤ f' → skipT (pre ++ (writeStruct fs ++ rest)) f' (.fields true) pre.length =
      .ok ((), pre.length + (writeStruct fs).length) := by
  obtain ⟨f, hf⟩ := fields_writeStruct fs pre rest hw
  exact ⟨f, fun f' h => Acc.at hf h⟩

theorem walk_accepts_value (v : WVal) (pre rest : List UInt8) (hw : WfT v = true) :
    ∃ f, ∀ f', f ≤ f' → skipT (pre ++ (writeVal v ++ rest)) f' (.val (fcode v)) pre.length =
      .ok ((), pre.length + (writeVal v).length) := by
  obtain ⟨f, hf⟩ := val_write (pre ++ (writeVal v ++ rest)) v pre.length hw ⟨pre, rest, rfl, rfl⟩
  exact ⟨f, fun f' h => Acc.at hf h⟩

/-- Every footer the writer mirror can produce, cut anywhere before
its end, is rejected by the decoder's walk with `io.EOF` or `io.ErrUnexpectedEOF` (whatever followed
it); a cut at or after its end changes nothing. -/
theorem written_struct_cut_rejected (fs : List (FMeta × WVal)) (rest : List UInt8) (hw : WfF 0 fs = true) (m : Nat) :
    (m < (writeStruct fs).length →
      skipStruct ((writeStruct fs ++ rest).take m) = .error .eof ∨
      skipStruct ((writeStruct fs ++ rest).take m) = .error .ueof) ∧
    ((writeStruct fs).length ≤ m →
      skipStruct ((writeStruct fs ++ rest).take m) = .ok (writeStruct fs).length) :=
  ⟨fun hm => walk_cut_eof _ _ m (walk_accepts_writer fs rest hw) hm,
   fun hm => walk_cut_after _ _ m (walk_accepts_writer fs rest hw) hm⟩

theorem written_prefix_rejected (fs : List (FMeta × WVal)) (hw : WfF 0 fs = true) (m : Nat)
    (hm : m < (writeStruct fs).length) :
    skipStruct ((writeStruct fs).take m) = .error .eof ∨ skipStruct ((writeStruct fs).take m) = .error .ueof :=
  walk_cut_eof _ _ m (walk_accepts_writer_exact fs hw) hm

/-- A file `pre ‖ writeStruct fs ‖ le32(len) ‖ "PAR1"` passes the trailer
checks and the footer walk of the open path, which consumes the whole footer section. -/
theorem written_file_opens (enc : Bool) (pre : Bytes) (fs : List (FMeta × WVal)) (hw : WfF 0 fs = true)
    (hpre : 4 ≤ pre.length) (hmag : isMagic (pre.take 4) enc = true)
    (hlen : (writeStruct fs).length < 4294967296) :
    openWalk enc (fileWith pre (writeStruct fs)) = .ok (writeStruct fs).length := by
  unfold openWalk
  rw [openModel_fileWith enc pre _ hpre hmag hlen]
  simp [footerWalk, walk_accepts_writer_exact fs hw]

/-- The plaintext-footer mode of encrypted files: the struct followed by
a 28-byte signature (nonce + tag) is accepted when keys were given and refused without
("signed footer but no DecryptionConfig"); any other number of trailing bytes is refused. The walk
ends behind the struct whatever the trailing bytes are. -/
theorem written_file_trailing (enc : Bool) (pre sig : Bytes) (fs : List (FMeta × WVal)) (hw : WfF 0 fs = true)
    (hpre : 4 ≤ pre.length) (hmag : isMagic (pre.take 4) enc = true)
    (hlen : (writeStruct fs ++ sig).length < 4294967296) (hsig : sig ≠ []) :
    openWalk enc (fileWith pre (writeStruct fs ++ sig)) =
      if sig.length = 28 then (if enc then .ok (writeStruct fs).length else .error .signedNoKeys)
      else .error (.trailing sig.length) := by
  unfold openWalk
  rw [openModel_fileWith enc pre _ hpre hmag hlen]
  have h0 : sig.length ≠ 0 := by
    intro h; exact hsig (List.eq_nil_of_length_eq_zero h)
  simp only [footerWalk, walk_accepts_writer fs sig hw, List.length_append, Nat.add_sub_cancel_left]
  by_cases h28 : sig.length = 28 <;> simp [h0, h28]

/-- The same file with its footer cut at any `k` and the announced
length patched to the cut: magic, length and bounds pass, the decoder rejects with an end-of-input
error. `cut_footer_rejected` for every footer of the writer mirror, no acceptance hypothesis left. -/
theorem written_file_cut_rejected (enc : Bool) (pre : Bytes) (fs : List (FMeta × WVal)) (hw : WfF 0 fs = true)
    (hpre : 4 ≤ pre.length) (hmag : isMagic (pre.take 4) enc = true)
    (hlen : (writeStruct fs).length < 4294967296) (k : Nat) (hk : k < (writeStruct fs).length) :
    openWalk enc (fileWith pre ((writeStruct fs).take k)) = .error (.thrift .eof) ∨
      openWalk enc (fileWith pre ((writeStruct fs).take k)) = .error (.thrift .ueof) :=
  cut_footer_rejected enc pre _ hpre hmag hlen (walk_accepts_writer_exact fs hw) k hk

/-- On the encoder's bytes the decoder mirror (walk) and the SPEC
reader of C02 (`Spec.readStruct`, written from the protocol text) consume the same number of bytes. -/
theorem walk_agrees_with_spec_reader (fs : List (FMeta × WVal)) (rest : List UInt8) (hw : WfF 0 fs = true) :
    skipStruct (writeStruct fs ++ rest) = .ok (writeStruct fs).length ∧
    PqModel.Spec.readStruct ⟨(writeStruct fs ++ rest).toArray⟩ 0 =
      .ok (.struct (eraseF fs), (writeStruct fs).length) := by
  refine ⟨walk_accepts_writer fs rest hw, ?_⟩
  have := readStruct_writeStruct fs [] rest hw
  simpa using this

/-- The instance the property is about: the `format.FileMetaData`
tree of the unencrypted writer (`FileMetaTrees.footerFields`: version, schema, num_rows, row groups,
key/value metadata, created_by, column orders - any subtrees) is accepted in full and rejected at
every cut. -/
theorem file_metadata_cut_rejected (version : Int) (schema : List WVal) (numRows : Int) (rowGroups : List WVal)
    (kvs : List (List UInt8 × List UInt8)) (kvZero : Bool) (createdBy : List UInt8)
    (orders : List WVal) (ordersZero : Bool)
    (hw : WfF 0 (PqModel.FileMetaTrees.footerFields version schema numRows rowGroups kvs kvZero createdBy orders ordersZero) = true) :
    let ft := writeStruct (PqModel.FileMetaTrees.footerFields version schema numRows rowGroups kvs kvZero createdBy orders ordersZero)
    skipStruct ft = .ok ft.length ∧
      ∀ m, m < ft.length → skipStruct (ft.take m) = .error .eof ∨ skipStruct (ft.take m) = .error .ueof :=
  ⟨walk_accepts_writer_exact _ hw, fun m hm => written_prefix_rejected _ hw m hm⟩

/-- a tree with every constructor: both header forms (ids 1, 2, 20, 300), a short and a long list,
bool field and bool elements, an omitted zero field, a nested struct -/
def sampleTree : List (FMeta × WVal) :=
  [({id := 1, required := true}, .i32 (-5)), ({id := 2, zero := true}, .i64 0), ({id := 3}, .bool true),
   ({id := 4}, .i8 (-1)), ({id := 20}, .list 2 [.bool true, .bool false]),
   ({id := 21}, .list 4 (List.replicate 15 (.i16 (-32768)))), ({id := 22}, .double 0x7FF8000000000001),
   ({id := 300}, .struct [({id := 16}, .bin [1, 2, 3]), ({id := 17, writezero := true, zero := true}, .bin [])]),
   ({id := 32767}, .i64 9223372036854775807)]

example : WfF 0 sampleTree = true := by decide +kernel
example : skipStruct (writeStruct sampleTree ++ [0xFF, 0xFF]) = .ok (writeStruct sampleTree).length := by decide +kernel
example : (writeStruct sampleTree).length = 94 := by decide +kernel
example : ([0, 1, 2, 9, 10, 11, 12, 13, 57, 58, 66, 67, 80, 83, 84, 92, 93].all fun m =>
    (skipStruct ((writeStruct sampleTree).take m)).toBool == false) = true := by decide +kernel
example : WfF 0 (PqModel.FileMetaTrees.footerFields 2 [.struct []] 7 [] [([0x61], []), ([], [0xFF, 0])] false [0x78] [] true) = true := by
  decide +kernel
example : openWalk false (fileWith magicPAR1 (writeStruct sampleTree)) = .ok 94 := by decide +kernel
example : openWalk false (fileWith magicPAR1 ((writeStruct sampleTree).take 40)) = .error (.thrift .ueof) := by decide +kernel

/-- `WfF` is not decoration. An int outside its declared width (Go's typed ints exclude it): the
encoder mirror writes the varint, the decoder's range check refuses it. -/
example : WfF 0 [({id := 1, required := true}, .i16 40000)] = false ∧
    skipStruct (writeStruct [({id := 1, required := true}, .i16 40000)]) = .error .range := by decide +kernel
/-- field ids that do not ascend: delta 0 makes `WriteField` emit the byte `0x05`, which `ReadField`
reads as a long-form header - the walk runs off the end. -/
example : WfF 0 [({id := 1, required := true}, .i32 1), ({id := 1, required := true}, .i32 1)] = false ∧
    skipStruct (writeStruct [({id := 1, required := true}, .i32 1), ({id := 1, required := true}, .i32 1)]) =
      .error .ueof := by decide +kernel
/-- a list whose elements are not of the announced type: the walk ends elsewhere than the encoding -/
example : WfF 0 [({id := 1}, .list 3 [.i32 300])] = false ∧
    skipStruct (writeStruct [({id := 1}, .list 3 [.i32 300])]) ≠ .ok (writeStruct [({id := 1}, .list 3 [.i32 300])]).length := by
  decide +kernel

end PqModel.Props.C14FooterRT
