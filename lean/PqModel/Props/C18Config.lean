import PqModel.EncConfig

/-! # C18 — the encryption setting survives every way of combining options

Property theorems over the MIRROR of the option plumbing (`EncConfig.apply`, `run`, `runToks`)
against the SPEC `decides` (the last option that says anything about encryption decides; a
configuration struct whose field is nil says nothing). Tied to the code by the `options` sub-check
(op `enc.config`: the real `NewWriterConfig` / `NewFileConfig` on the same option structure). -/
namespace PqModel.EncConfig

theorem apply_eq_says (cur : Option Nat) (o : Opt) :
    apply cur o = orKeep (says o) cur := by
  cases o with
  | withEnc c => rfl
  | config e => cases e <;> rfl
  | other => rfl

theorem applyAll_eq_decidesFrom (opts : List Opt) (cur : Option Nat) : applyAll cur opts = decidesFrom cur opts := by
  fun_induction decidesFrom cur opts
  case case1 => rfl
  case case2 cur o rest ih => rw [← ih, ← apply_eq_says]; rfl

/-- MIRROR = SPEC: for every list of options, `NewWriterConfig` leaves in the field what the last
    option that says anything about encryption asked for -/
theorem run_eq_decides (opts : List Opt) : run opts = decides opts :=
  applyAll_eq_decidesFrom opts none

theorem applyAll_append (cur : Option Nat) (a b : List Opt) :
    applyAll cur (a ++ b) = applyAll (applyAll cur a) b := by
  simp [applyAll, List.foldl_append]

theorem apply_keeps_some {cur : Option Nat} {o : Opt} (h : cur.isSome = true) (hr : o.revokes = false) :
    (apply cur o).isSome = true :=
  match o, hr with
  | .withEnc none, hr => nomatch hr
  | .withEnc (some _), _ | .config (some _), _ => rfl
  | .config none, _ | .other, _ => h

theorem applyAll_keeps_some (b : List Opt) : ∀ {cur : Option Nat}, cur.isSome = true →
    (∀ x ∈ b, x.revokes = false) → (applyAll cur b).isSome = true :=
  fun h hb => List.foldlRecOn b apply (motive := (·.isSome = true)) h fun _ hc o ho => apply_keeps_some hc (hb o ho)

theorem apply_of_requests {cur : Option Nat} {o : Opt} {c : Nat} (h : o.requests = some c) : apply cur o = some c :=
  match o, h with
  | .withEnc (some _), h | .config (some _), h => h
  | .withEnc none, h | .config none, h | .other, h => nomatch h

/-- **The encryption request survives**: if SOME option of the list asks for encryption — as
    `WithEncryption(cfg)` or as the field of a configuration struct — and no LATER option is an
    explicit `WithEncryption(nil)`, the writer is configured to encrypt, whatever stands before,
    between and after: functional options, structs without the field, structs with it. -/
theorem requested_encryption_survives (a b : List Opt) (o : Opt) (c : Nat)
    (ho : o.requests = some c) (hb : ∀ x ∈ b, x.revokes = false) :
    (run (a ++ o :: b)).isSome = true := by
  unfold run
  rw [applyAll_append]
  simp only [applyAll, List.foldl_cons]
  rw [apply_of_requests ho]
  exact applyAll_keeps_some b rfl hb

theorem apply_of_silent {cur : Option Nat} {o : Opt} (h : says o = none) : apply cur o = cur := by
  rw [apply_eq_says, h]; rfl

theorem applyAll_of_silent (b : List Opt) : ∀ {cur : Option Nat}, (∀ x ∈ b, says x = none) → applyAll cur b = cur :=
  fun {cur} hb => List.foldlRecOn b apply (motive := (· = cur)) rfl fun _ hc o ho => by rw [apply_of_silent (hb o ho), hc]

/-- The request survives with exactly the configuration asked for last: options that say nothing about encryption
    (every functional option but `WithEncryption`, every struct whose field is nil) change nothing -/
theorem last_request_wins (a b : List Opt) (o : Opt) (c : Nat)
    (ho : o.requests = some c) (hb : ∀ x ∈ b, says x = none) :
    run (a ++ o :: b) = some c := by
  unfold run
  rw [applyAll_append]
  simp only [applyAll, List.foldl_cons]
  rw [apply_of_requests ho]
  exact applyAll_of_silent b hb

/-- the hypotheses are satisfiable: `WithEncryption(cfg)` followed by
    a struct without the field and by other options -/
example : run ([.other] ++ Opt.withEnc (some 7) :: [.config none, .other]) = some 7 :=
  last_request_wins [.other] [.config none, .other] (.withEnc (some 7)) 7 rfl (by decide)

/-- sensitivity witness (NOT the code): without `cmp.Or` in the struct merge, a struct option
    without the field erases an earlier request — the same list gives a writer that does not encrypt -/
theorem noOr_loses_the_request :
    [Opt.withEnc (some 7), .config none].foldl applyNoOr none = none ∧
    run [Opt.withEnc (some 7), .config none] = some 7 := by decide

/-! ## Nested constructions -/

theorem foldl_stepTok_opts (l : List Opt) : ∀ (cur : Option Nat) (up : List (Option Nat)),
    (l.map Tok.opt).foldl stepTok (some (cur :: up)) = some (applyAll cur l :: up) := by
  induction l with
  | nil => intro cur up; rfl
  | cons o rest ih =>
    intro cur up
    simp only [List.map_cons, List.foldl_cons, stepTok]
    rw [ih]
    simp [applyAll]

/-- a `NewWriterConfig( inner… )` group inside an option list is one struct option carrying the
    group's own result (what `Write` and `NewSortingWriter` do with their options) -/
theorem nested_group_is_struct_option (pre inner post : List Opt) :
    runToks (pre.map .opt ++ [.openG] ++ inner.map .opt ++ [.closeG] ++ post.map .opt)
      = some (run (pre ++ Opt.config (run inner) :: post)) := by
  unfold runToks
  simp only [List.foldl_append, List.foldl_cons, List.foldl_nil]
  rw [foldl_stepTok_opts pre none []]
  simp only [stepTok]
  rw [foldl_stepTok_opts inner none [applyAll none pre]]
  rw [foldl_stepTok_opts post]
  simp only [run, applyAll, List.foldl_append, List.foldl_cons]

/-- so a request made inside a group survives the group and what follows it (composition of the two
    theorems above): `Write(out, rows, WithEncryption(cfg), …)` encrypts -/
theorem request_survives_a_group (pre inner post : List Opt) (c : Nat)
    (hin : run inner = some c) (hpost : ∀ x ∈ post, x.revokes = false) :
    ∃ v, runToks (pre.map .opt ++ [.openG] ++ inner.map .opt ++ [.closeG] ++ post.map .opt) = some (some v) := by
  rw [nested_group_is_struct_option]
  have h := requested_encryption_survives pre post (.config (run inner)) c (by rw [hin]; rfl) hpost
  cases hv : run (pre ++ Opt.config (run inner) :: post) with
  | none => rw [hv] at h; simp at h
  | some v => exact ⟨v, rfl⟩

example : runToks ([Tok.opt (.withEnc (some 3))] ++ [.openG] ++ [Tok.opt .other] ++ [.closeG] ++ []) = some (some 3) := by decide

end PqModel.EncConfig
