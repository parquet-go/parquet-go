import PqModel.BloomSegments
import PqModel.Props.C07Writer

/-! # C07, several segments — packed merges on the write side, MultiRowGroup filters on the read side -/
namespace PqModel.Props.C07Segments
open PqModel.XxHash PqModel.Bloom PqModel.BloomWriter PqModel.BloomSegments PqModel.Props.C07 PqModel.Props.C07Writer

/-- A `resizeBloomFilter` forgets everything that happened before it: whatever events precede it, the
    filter afterwards holds exactly the pages flushed after it. (Why the call must not sit inside the
    segment loop.) -/
theorem resize_forgets (kind : Kind) (bits : Nat) (b : Built) (before : List FEv) (n : Nat) (pages : List WPage) :
    frun kind bits b (before ++ FEv.resize n :: pages.map FEv.page) =
      (filterSize bits n, insertedInto kind (filterSize bits n) pages) := by
  rw [frun_append]
  have e : frun kind bits (frun kind bits b before) (FEv.resize n :: pages.map FEv.page)
      = frun kind bits (filterSize bits n, []) (pages.map FEv.page) := rfl
  rw [e, frun_pages]
  simp

/-- THE PACKED PATH IS THE INCREMENTAL STRATEGY. Starting from the truncated filter of a reset column
    writer, the events of `packSegmentsByColumn` (one `configureBloomFiltersForSegments`, then the pages
    of every segment in order) leave exactly the filter that `flushFilterPages` assumes for a pre-sized
    chunk: size `packedPresize`, holding `incremental` of ALL pages of ALL segments. -/
theorem packed_filter_is_incremental (kind : Kind) (bits : Nat) (segs : List Segment)
    (dictionary : Option (List Value)) (switched : Bool) (numValues : Nat) :
    frun kind bits (0, []) (packedEvents segs) =
      (packedPresize bits segs, incremental (packedChunk kind bits segs dictionary switched numValues)) := by
  unfold packedEvents packedPresize
  cases ht : packedTotal segs with
  | some t =>
    have := resize_forgets kind bits (0, []) [] t (allPages segs)
    simp only [List.nil_append] at this
    simp only [List.cons_append, List.nil_append, this]
    rw [incremental_eq_insertedInto]
    simp [packedChunk, packedPresize, ht]
  | none =>
    simp only [List.nil_append, frun_pages]
    rw [incremental_eq_insertedInto]
    simp [packedChunk, packedPresize, ht]

/-- the filter allocated for a packed row group is a whole number of blocks (`ChunkOk.presizedBlocks`) -/
theorem packed_presize_whole_blocks (bits : Nat) (segs : List Segment) : packedPresize bits segs % 32 = 0 := by
  unfold packedPresize
  split
  · exact Nat.mul_mod_right 32 _
  · rfl

/-- … and, when allocated, it has `bits` bits for each of the `n` values of the packed row group
    (at most the total the segments announce) -/
theorem packed_presize_capacity (bits : Nat) (segs : List Segment) (n : Nat)
    (hn : n ≤ (segs.map (·.numValues)).sum) (hpos : 0 < packedPresize bits segs) :
    n * bits ≤ 8 * packedPresize bits segs := by
  unfold packedPresize at hpos ⊢
  cases ht : packedTotal segs with
  | none => rw [ht] at hpos; simp at hpos
  | some t =>
    have et : t = (segs.map (·.numValues)).sum := by
      unfold packedTotal at ht
      split at ht
      · cases ht; rfl
      · cases ht
    simp only
    have h1 := filter_size_capacity t bits
    have h2 : n * bits ≤ t * bits := Nat.mul_le_mul_right bits (by omega)
    unfold filterSize; omega

/-- END TO END for a packed row group: any number of segments, any page cuts, dictionary or not, fallen
    back or not — every value of every segment is found in the filter `flushFilterPages` leaves behind
    (which, by `packed_filter_is_incremental`, is the one the events built when it was pre-sized). -/
theorem packed_written_value_is_found (kind : Kind) (bits : Nat) (segs : List Segment)
    (dictionary : Option (List Value)) (switched : Bool) (numValues : Nat)
    (ok : ChunkOk (packedChunk kind bits segs dictionary switched numValues)) (hb : 1 ≤ bits)
    (s : Segment) (hs : s ∈ segs) (p : WPage) (hp : p ∈ s.pages) (v : Value) (hv : v ∈ p.values) :
    let c := packedChunk kind bits segs dictionary switched numValues
    checkBytes (filterBytes (build ((flushFilter c).1 / 32) ((flushFilter c).2.map UInt64.toBitVec)))
      (hashRead v).toBitVec = true := by
  intro c
  apply written_value_is_found_every_strategy c ok hb v
  show v ∈ (allPages segs).flatMap (·.values)
  exact List.mem_flatMap.mpr ⟨p, List.mem_flatMap.mpr ⟨s, hs, hp⟩, hv⟩

example : packedPresize 10 sampleSegments = 64 := by decide

set_option maxRecDepth 100000 in
example : ChunkOk sampleChunk := sampleChunk_ok

/-- values of the chunk that a filter `b` reports absent -/
def missingOf (b : Built) : Nat := missing sampleChunk b

/-- the packed path as it is misses nothing on the sample … -/
theorem packed_sample_misses_nothing :
    missingOf (frun .int64 10 (0, []) (packedEvents sampleSegments)) = 0 := by
  rw [packed_filter_is_incremental .int64 10 sampleSegments none false 40]
  exact missing_eq_zero (written_value_is_found_every_strategy sampleChunk sampleChunk_ok (by decide))

/-- … C07-4a (seeded): with the filter re-configured per segment, the pages flushed during the first
    segment are wiped by the second segment's `resizeBloomFilter`; `flushFilterPages` trusts the
    pre-sized filter: 20 of the 40 written values (all of the first segment) are reported absent. -/
theorem resize_per_segment_loses_flushed_pages :
    missingOf (frun .int64 10 (0, []) (packedEventsPerSegment sampleSegments)) = 20 := by
  decide +kernel

/-- every segment index occurs in the batches, in order: the loop drops and reorders nothing -/
theorem packLoop_flatten (maxRows : Nat) (segs : List (Nat × Bool)) (done : List (List Nat)) (pending : List Nat)
    (pr i : Nat) :
    (packLoop maxRows segs done pending pr i).flatten =
      done.reverse.flatten ++ pending.reverse ++ (List.range' i segs.length) := by
  -- closing the pending batch keeps the flattened order
  have hclose : ∀ (done : List (List Nat)) (pending : List Nat),
      (if pending = [] then done else pending.reverse :: done).reverse.flatten
        = done.reverse.flatten ++ pending.reverse := by
    intro done pending; cases pending <;> simp
  fun_induction packLoop maxRows segs done pending pr i
  case case1 => simp [hclose]
  case case2 ih => rw [ih]; simp [hclose, List.range'_succ]
  case case3 ih => rw [ih]; simp [List.range'_succ]
  case case4 ih => rw [ih]; simp [hclose, List.range'_succ]

theorem packBatches_flatten (maxRows : Nat) (segs : List (Nat × Bool)) :
    (packBatches maxRows segs).flatten = List.range segs.length := by
  unfold packBatches
  rw [packLoop_flatten]
  simp [List.range_eq_range']

example : packBatches 100 [(50, true), (50, true), (50, true), (200, false), (10, true), (10, true)]
    = [[0, 1], [2], [3], [4, 5]] := by decide

/-- the combined answer is "absent" (`false, nil`) exactly when every member that has a filter answered
    `(false, nil)`: a member's `true` or a member's read error is never turned into "absent" -/
theorem multi_absent_iff (ms : List (Option Ans)) :
    multiCheck ms = Ans.absent ↔ ∀ m ∈ ms, m = none ∨ m = some Ans.absent := by
  unfold Ans.absent
  induction ms with
  | nil => simp [multiCheck]
  | cons m ms ih =>
    cases m with
    | none => simp [multiCheck, ih]
    | some a =>
      obtain ⟨o, e⟩ := a
      cases o <;> cases e <;> simp [multiCheck, ih]

/-- NO SILENT ABSENT: if the member holding the value answers `true`, or fails to read its filter, the
    MultiRowGroup's filter does not answer `(false, nil)` -/
theorem multi_no_silent_absent (ms : List (Option Ans)) (a : Ans) (hm : some a ∈ ms) (ha : a.ok = true ∨ a.err = true) :
    multiCheck ms ≠ Ans.absent := by
  intro h
  rcases (multi_absent_iff ms).mp h (some a) hm with h1 | h1
  · cases h1
  · cases h1; simp [Ans.absent] at ha

theorem multi_healthy_is_any (ms : List (Option Ans)) (hh : ∀ a, some a ∈ ms → a.err = false) :
    multiCheck ms = ⟨ms.any (fun m => match m with | some a => a.ok | none => false), false⟩ := by
  induction ms with
  | nil => rfl
  | cons m ms ih =>
    have ih' := ih (fun a ha => hh a (List.mem_cons_of_mem _ ha))
    cases m with
    | none => simp [multiCheck, ih']
    | some a =>
      have he := hh a (List.mem_cons_self ..)
      obtain ⟨o, e⟩ := a
      simp only at he
      subst he
      cases o <;> simp [multiCheck, ih']

/-- END TO END over a MultiRowGroup: member `k` holds a chunk built by any strategy of the writer and
    stored plain or gzip; its storage works (`io = true`) or fails at Check time (`io = false`, any
    junk boolean). Whatever the other members (with or without filters, failing or not) answer, a
    value written to member `k`'s chunk is never answered `(false, nil)`. Assumed: gzip round trip. -/
theorem multi_written_value_never_absent (enc : List UInt8 → List UInt8) (dec : List UInt8 → Option (List UInt8))
    (hrt : GzipRoundTrip enc dec) (gzip : Bool) (c : ChunkWrite) (ok : ChunkOk c) (hb : 1 ≤ c.bits)
    (v : Value) (hm : v ∈ c.values) (io junk : Bool) (before after : List (Option Ans)) :
    multiCheck (before ++ some (memberAnswer dec (store enc gzip
        (filterBytes (build ((flushFilter c).1 / 32) ((flushFilter c).2.map UInt64.toBitVec)))) io junk
        (hashRead v).toBitVec) :: after) ≠ Ans.absent := by
  apply multi_no_silent_absent _ _ (List.mem_append_right _ (List.mem_cons_self ..))
  unfold memberAnswer
  cases io with
  | false => right; rfl
  | true =>
    rw [written_value_is_found_stored enc dec hrt gzip c ok hb v hm]
    left; rfl

/-- … and when no member fails it is answered `(true, nil)`, wherever the value's member stands in the list -/
theorem multi_written_value_found_when_healthy (enc : List UInt8 → List UInt8) (dec : List UInt8 → Option (List UInt8))
    (hrt : GzipRoundTrip enc dec) (gzip : Bool) (c : ChunkWrite) (ok : ChunkOk c) (hb : 1 ≤ c.bits)
    (v : Value) (hm : v ∈ c.values) (before after : List (Option Ans))
    (hh : ∀ a, some a ∈ before ++ after → a.err = false) :
    multiCheck (before ++ some (memberAnswer dec (store enc gzip
        (filterBytes (build ((flushFilter c).1 / 32) ((flushFilter c).2.map UInt64.toBitVec)))) true false
        (hashRead v).toBitVec) :: after) = ⟨true, false⟩ := by
  have hans : memberAnswer dec (store enc gzip
        (filterBytes (build ((flushFilter c).1 / 32) ((flushFilter c).2.map UInt64.toBitVec)))) true false
        (hashRead v).toBitVec = ⟨true, false⟩ := by
    unfold memberAnswer
    rw [written_value_is_found_stored enc dec hrt gzip c ok hb v hm]
    rfl
  rw [hans, multi_healthy_is_any]
  · simp
  · intro a ha
    rcases List.mem_append.mp ha with h | h
    · exact hh a (List.mem_append_left _ h)
    · rcases List.mem_cons.mp h with h | h
      · cases h; rfl
      · exact hh a (List.mem_append_right _ h)

example : multiCheck [some ⟨false, false⟩, none, some ⟨true, false⟩] = ⟨true, false⟩ := by decide
example : multiCheck [some ⟨false, true⟩, some ⟨true, false⟩] = ⟨false, true⟩ := by decide

/-- C07-4b (seeded): with the member's error dropped, a failing first member and a second member that
    does not hold the value give `(false, nil)` — "absent", although the value's own filter could not
    be consulted; the code as it is returns the error -/
theorem dropped_member_error_answers_absent :
    multiCheckDropErr [some ⟨false, true⟩, some ⟨false, false⟩] = Ans.absent ∧
    multiCheck [some ⟨false, true⟩, some ⟨false, false⟩] = ⟨false, true⟩ := by
  decide

end PqModel.Props.C07Segments
