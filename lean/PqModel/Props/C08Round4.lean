import PqModel.SeekColumn
import PqModel.MultiNest
import PqModel.Props.C08Layers

/-! # C08 — `Column.Pages()` and nested multi row groups

* `columnPages` (column.go), the reader `Column.Pages()` returns: one `FilePages` per row group
  kept for the reader's whole life; `SeekToRow` positions one of them and rewinds the later ones.
  It is a function from refining machines to a refining machine (`columnM`), like `rangePages` and
  `multiPages` (`Props/C08Layers.lean`).
* `MultiRowGroup` applied to multi row groups to any depth: `init` flattens the chunks and carries
  their row counts; the row-count walk of `multiPages.SeekToRow` is then the one of `multiPages` over
  the flattened chunks, so `multi_seek_refines` applies to it. -/
namespace PqModel.Props.C08
open PqModel.Seek (Op Chunk)
open PqModel.SeekLayers

universe u

/-- **column_seek_refines.** `columnPages` over the chunk readers of a column in any number of row
    groups — each any reader refining the reference reader, with its own position that survives
    seeks elsewhere — refines the reference reader over the concatenation `R` of all their rows: in
    every reachable state (any history of seeks forward, backward, into a row group already read
    in part or completely, to the end, and reads) `seek k` makes it deliver `R.drop k` (it is never
    refused: `column_lenient`); reads pop non-empty prefixes, EOF comes exactly at the end. -/
theorem column_seek_refines {α} (ms : List Machine.{u}) (R : List α) (hR : R.length = (columnM ms).total)
    (s : (columnM ms).σ) (h : (columnM ms).Reach s) : (columnM ms).Refines R s :=
  Machine.seek_refines _ _ hR s (Machine.reach_inv _ s h)

theorem column_history_refines (ms : List Machine.{u}) (ops : List Op) :
    Machine.RunOK (columnM ms).total (some 0) ops ((columnM ms).outs (columnM ms).init ops) :=
  Machine.history_refines (columnM ms) ops

/-- `Column.Pages()` of a file: one `FilePages` per row group -/
example (hi : Bool) (cs : List GoodChunk) (ops : List Op) :
    Machine.RunOK ((cs.map (pagesOf hi)).map (·.total)).sum (some 0) ops
      ((columnM (cs.map (pagesOf hi))).outs (columnM (cs.map (pagesOf hi))).init ops) :=
  column_history_refines _ ops

theorem column_lenient (ms : List Machine.{u}) : (columnM ms).Lenient :=
  fun s k h => (Column.seekList_spec (s.before ++ s.after) k h.2.1).1

/-- **nested_multi_wf.** Whatever `MultiRowGroup` returns, at any nesting depth: the row counts its
    column chunk carries are those of its chunks (the leaves from left to right), and `NumRows()`
    is their sum. -/
theorem nested_multi_wf {χ : Type u} (rows : χ → Nat) (g : Nest.Node χ) (h : Nest.Built rows g) :
    Nest.NodeWF rows g := Nest.built_wf rows g h

/-- one more level of `MultiRowGroup`: the chunks are the children's chunks in order -/
theorem nested_multi_chunks {χ : Type u} (rows : χ → Nat) (gs : List (Nest.Node χ)) (hne : gs ≠ [])
    (h : ∀ g ∈ gs, Nest.Built rows g) :
    Nest.WF rows (Nest.initM rows gs) ∧ (Nest.initM rows gs).chunks = (gs.map Nest.Node.leaves).flatten :=
  Nest.init_wf rows gs hne (fun g hg => Nest.built_wf rows g (h g hg))

/-- **nested_multi_seek_refines.** `multiPages` of a column of nested `MultiRowGroup` calls (the
    mirror `Nest.step`: the scan over `rowCounts` with its fallback) behaves, on every history, as
    `multiPages` over the flattened chunks — a run of the reference reader over all their rows. -/
theorem nested_multi_seek_refines (c : Nest.MCC Machine.{u}) (h : Nest.Built (·.total) (.multi c)) (ops : List Op) :
    Nest.outs c (multiM c.chunks).init ops = (multiM c.chunks).outs (multiM c.chunks).init ops ∧
    Machine.RunOK (Multi.total c.chunks) (some 0) ops (Nest.outs c (multiM c.chunks).init ops) := by
  have hw : Nest.WF (·.total) c := Nest.built_wf _ _ h
  have e := Nest.outs_eq_multi c hw.1 ops (multiM c.chunks).init
  exact ⟨e, by rw [e]; exact multi_history_refines c.chunks ops⟩

/-- three levels: `MultiRowGroup(MultiRowGroup(MultiRowGroup(a, b), c), d)` -/
example (a b c d : Machine.{u}) (ops : List Op) :
    let m := Nest.initM (·.total) [.multi (Nest.initM (·.total) [.multi (Nest.initM (·.total) [.leaf a, .leaf b]), .leaf c]), .leaf d]
    m.chunks = [a, b, c, d] ∧ m.rowCounts = [a.total, b.total, c.total, d.total] ∧
    Machine.RunOK (Multi.total m.chunks) (some 0) ops (Nest.outs m (multiM m.chunks).init ops) := by
  intro m
  have hb : Nest.Built (·.total) (.multi m) := by
    refine .multi _ (by simp) ?_
    intro g hg
    simp only [List.mem_cons, List.not_mem_nil, or_false] at hg
    rcases hg with rfl | rfl
    · refine .multi _ (by simp) ?_
      intro g hg
      simp only [List.mem_cons, List.not_mem_nil, or_false] at hg
      rcases hg with rfl | rfl
      · refine .multi _ (by simp) ?_
        intro g hg
        simp only [List.mem_cons, List.not_mem_nil, or_false] at hg
        rcases hg with rfl | rfl <;> exact .leaf _
      · exact .leaf _
    · exact .leaf _
  exact ⟨rfl, rfl, (nested_multi_seek_refines m hb ops).2⟩

/-- the variant of `init` that always recomputes the row counts from the nested row groups (seed
    C08-4a) is right for two levels and wrong at the third -/
theorem nested_multi_nocopy_refuted :
    Nest.WF id (Nest.initNoCopy id [.multi (Nest.initNoCopy id [.leaf 3, .leaf 2]), .leaf 4]) ∧
    ¬ Nest.WF id (Nest.initNoCopy id [.multi (Nest.initNoCopy id [.multi (Nest.initNoCopy id [.leaf 3, .leaf 2]), .leaf 4]), .leaf 5]) :=
  Nest.noCopy_refuted

end PqModel.Props.C08
