import PqModel.VariantElemsLemmas

/-! # C19 — element groups of a typed list in the columnar VariantReader

`skipTo`, `elemsLoop` are MIRRORS of the `LocTypedList` branch of `VariantCursor.processElements`
(variant_column_reader.go:982-1024); `cnt`, `elemsSpec`, `incFrom`
are SPEC. `startsP` / `E ++ [n]` are the `starts` arrays of the presence leaf at the depth of the list cursor and one level
deeper. That `startsP` (with its sentinel) and `E` (without `n`) increase strictly is a hypothesis (`hP`, `hE`); nothing
derives it from `starts = offsets 0 gs ++ [len]` (`slotOf_is_group_offset`, C19Window). -/
namespace PqModel.Props.C19Elems
open PqModel.VariantWindow

/-- The two-pointer walk is history-free: whatever entries came before (null lists, empty lists
    whose single slot is skipped later, entries of other kinds), an entry of slot group `g` gets
    exactly the deeper-level groups `cnt E startsP[g] .. cnt E startsP[g+1]` when its list is present,
    none otherwise, and a group beyond the presence column's group count (corrupt file) gets none. -/
theorem elements_of_entry_are_its_own_groups (startsP E : List Nat) (n : Nat) (present : Nat → Bool)
    (hP : startsP.Pairwise (· < ·)) (hE : E.Pairwise (· < ·)) (es : List (Option Nat)) (h0 : incFrom 0 es) :
    elemsLoop startsP (E ++ [n]) present es 0 = elemsSpec startsP E present es :=
  elemsLoop_spec startsP E n present hP hE es 0 0 h0 (fun _ _ _ => Nat.zero_le _)

/-- ... and those groups are the ones whose first slot lies inside the entry's slot range
    `[startsP[g], startsP[g+1])`. -/
theorem element_groups_lie_in_slot_range (E : List Nat) (hE : E.Pairwise (· < ·)) (gs ge i : Nat)
    (hi : i < E.length) :
    i ∈ List.range' (cnt E gs) (cnt E ge - cnt E gs) ↔ (gs ≤ E.getD i 0 ∧ E.getD i 0 < ge) := by
  have a := sorted_index gs E hE i hi
  have b := sorted_index ge E hE i hi
  rw [List.mem_range'_1]
  constructor
  · intro ⟨h1, h2⟩
    exact ⟨by have : ¬ i < cnt E gs := by omega
              have := mt a.1 this; omega, b.2 (by omega)⟩
  · intro ⟨h1, h2⟩
    have h3 := b.1 h2
    have h4 : ¬ i < cnt E gs := fun x => by have := a.2 x; omega
    omega

/-- rows: [a,b] / null list / [] / [c]; slots 0..4, reps 0,1,0,0,0; the null and the empty list own one
    slot each and no element -/
example : incFrom 0 [some 0, some 1, some 2, some 3] ∧
    elemsLoop [0, 2, 3, 4, 5] [0, 1, 2, 3, 4, 5] (fun s => s == 0 || s == 4) [some 0, some 1, some 2, some 3] 0
      = [[0, 1], [], [], [4]] := ⟨by simp [incFrom], by decide⟩

end PqModel.Props.C19Elems
