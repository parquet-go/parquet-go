import PqModel.ConvertViews

/-! # C12 — views composed of views (merge of a merge, multi row groups of converted
    row groups, row ranges of converted row groups)

`chunks`, `inOrder`, `rows`, `rangeOf`, `supports`, `rangeBeforeFix` are MIRRORS
(multi_row_group.go, convert.go, row_range.go; see `PqModel/ConvertViews.lean`); `sem` is SPEC.
Rows are abstract; a conversion is any pair `(f, g)` of "what Convert does to a row" and "what
the chunk face of the converted row group shows for it". -/
namespace PqModel.Props.C12Views
open PqModel.ConvertViews

/-- Reading any well-formed composition of views through `Rows()` yields the rows it stands for:
    members concatenated in order, every converted member converted row by row, every range cut
    out of the rows — for all nestings, all conversions, all row sequences. In particular a multi
    row group never reads a converted member through its column chunks, however deep it sits. -/
theorem composed_views_read_rows {α : Type} (v : View α) (h : wf v) : rows false v = sem v :=
  rows_eq_sem v h

/-- The chunk face may stand in for the rows exactly where `rowGroupReadsChunksInOrder` says so. -/
theorem chunks_are_rows_where_declared {α : Type} (v : View α) (h : wf v)
    (ht : inOrder false v = true) : chunks v = rows false v := by
  rw [chunks_eq_sem v h ht, rows_eq_sem v h]

/-- The row ranges of the merge planner (`rangeOf`: below a conversion): for every view the planner
    may slice, the range view is well formed and reads rows `[off, off+len)` of the view's rows. -/
theorem row_range_reads_the_rows {α : Type} (off len : Nat) (v : View α) (h : wf v)
    (hs : supports v = true) :
    rows false (rangeOf off len v) = ((rows false v).drop off).take len := by
  have := rangeOf_wf_sem off len v h hs
  rw [rows_eq_sem _ this.1, this.2, rows_eq_sem v h]

/-- non-vacuity: a merge of [a merge of [file in the target schema, converted file], file], and a
    range of a converted file; `f` ≠ `g` (a target that widens or adds) -/
example :
    let f : Nat → Nat := (· + 100)
    let g : Nat → Nat := (· + 200)
    let t (rs : List Nat) : View Nat := .leaf true rs rs
    let inner : View Nat := .multi (.cons (t [1, 2]) (.cons (.conv f g (t [3, 4])) .nil))
    let outer : View Nat := .multi (.cons inner (.cons (t [5]) .nil))
    wf outer ∧ rows false outer = [1, 2, 103, 104, 5] ∧
      supports (View.conv f g (t [3, 4, 5, 6])) = true ∧
      rows false (rangeOf 1 2 (.conv f g (t [3, 4, 5, 6]))) = [104, 105] := by
  refine ⟨?_, by decide, by decide, by decide⟩
  simp [wf, wfL, inOrder]

/-- "Some member reads its chunks in order" instead of "all" (the shape of
    `rowGroupInterleavesChunks`, which legitimately means "any") is NOT sound: the outer multi
    row group then reads the converted member of the inner one through its chunks (`g`, not `f`). -/
theorem any_member_in_order_is_unsound :
    let f : Nat → Nat := (· + 100)
    let g : Nat → Nat := (· + 200)
    let t (rs : List Nat) : View Nat := .leaf true rs rs
    let inner : View Nat := .multi (.cons (t [1, 2]) (.cons (.conv f g (t [3, 4])) .nil))
    let outer : View Nat := .multi (.cons inner (.cons (t [5]) .nil))
    rows true outer = [1, 2, 203, 204, 5] ∧ sem outer = [1, 2, 103, 104, 5] ∧
      rows true inner = sem inner := by decide

/-- Regression fact (`rangeBeforeFix`): a row range put directly on a converted
    row group reads its chunk face — rows 1..2 come out through `g` instead of `f`. -/
theorem row_range_over_converted_before_fix :
    let f : Nat → Nat := (· + 100)
    let g : Nat → Nat := (· + 200)
    let v : View Nat := .conv f g (.leaf true [3, 4, 5, 6] [3, 4, 5, 6])
    rows false (rangeBeforeFix 1 2 v) = [204, 205] ∧ ((rows false v).drop 1).take 2 = [104, 105] := by
  decide

/-- Regression fact about the mirror `rows` outside `wf` (`ConvertRowGroup` as it masked EVERY source):
    a source whose `Rows()` interleave its chunks (a merged row group) came out in chunk order (for
    C09: a merge of a merged row group through a conversion was unsorted). The code as it stands
    reads such a source through its own `Rows()`. -/
theorem convert_reads_the_chunks_of_its_source :
    let merged : View Nat := .leaf false [1, 2, 3, 4] [1, 3, 2, 4]
    rows false (.conv id id merged) = [1, 3, 2, 4] ∧ sem (.conv id id merged) = [1, 2, 3, 4] := by
  decide

end PqModel.Props.C12Views
