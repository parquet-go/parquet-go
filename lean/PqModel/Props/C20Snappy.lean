import PqModel.Spec.SnappyElems

/-! # C20, Snappy block part — the reader on ELEMENTS (SPEC side)

`snappyDec` (PqModel/Spec/BlockCodecs.lean, written from format_description.txt) is proved to read
every writable element list back as it means — the Snappy counterpart of
`C20Lz4.lz4_reader_inverts_every_sequence_list`. Nothing here mirrors Go code: klauspost's snappy
encoder/decoder stay third-party and SAMPLED (sub-check `C20/snappyelems`: every sampled output of
the real encoder is an `encBlock` of a writable element list that means the input; generated element
lists go through the real decoder).

OPEN (sampled, not proved): `∀ x, snappyDec (klauspost Encode x) = x` — the real matcher is not
modelled; no Lean greedy Snappy encoder either (the LZ4 one shows the pattern). -/
namespace PqModel.Props.C20Snappy
open PqModel.Spec.BlockCodecs PqModel.Spec.SnappyElems

/-- **Every writable element list is read back as it means**: literals with inline and 1..4-byte
length fields, copies with 11-bit, 16-bit and 32-bit offsets (lengths 4..11 resp. 1..64), every
offset inside the output so far — overlapping copies included — provided the total fits 32 bits
(the format's limit). -/
theorem snappy_reader_inverts_every_element_list (els : List Elem) (hok : elemsOk els #[] = true)
    (hsz : (applyElems els #[]).size < 4294967296) :
    snappyDec (encBlock els) = .ok (applyElems els #[]).toList :=
  snappyDec_encBlock els hok hsz

/-- all three copy kinds, one overlapping (offset 1, length 64) -/
example : elemsOk [.lit [1, 2, 3], .copy 1 3 11, .copy 2 1 64, .copy 4 14 5] #[] = true ∧
    (applyElems [.lit [1, 2, 3], .copy 1 3 11, .copy 2 1 64, .copy 4 14 5] #[]).size = 83 := by
  decide +kernel

/-- what a copy means: every byte it appends equals the byte `off` positions before it in the result -/
theorem snappy_copy_copies_from_offset (out : Array UInt8) (k off len : Nat)
    (hok : elemOk out.size (.copy k off len) = true) (i : Nat) (h1 : out.size ≤ i) (h2 : i < out.size + len) :
    (applyElem out (.copy k off len))[i]? = (applyElem out (.copy k off len))[i - off]? := by
  simp only [elemOk, Bool.and_eq_true, decide_eq_true_eq] at hok
  exact getElem?_copyBack off len out i (by omega) h1 h2

/-- the announced length is checked: a block announcing one byte more is rejected -/
example : snappyDec (putUvarint 10 9 ++ encElems [.lit [1, 2, 3], .copy 1 2 5]) = .error .badLength := by
  decide +kernel
/-- a copy reaching before the start is rejected -/
example : snappyDec (putUvarint 10 8 ++ encElems [.lit [1, 2, 3], .copy 1 4 5]) = .error .badOffset := by
  decide +kernel

end PqModel.Props.C20Snappy
