import PqModel.PoolGrow
import PqModel.Props.C15

/-! # C15, growing buffers that share the bucket pools (the change /verif/seeded/C15-7a)

Independent `SliceBuffer`s (column buffers, dictionaries, page buffers of unrelated Buffers /
Writers) used from different goroutines share the process-wide `slicePools`. Each generation of
storage of each buffer is a pool program (`PqModel.PoolGrow.genProg`, MIRROR of
internal/memory/slice_buffer.go); the theorems are about ALL interleavings of any number of them,
together with any other disciplined users of the same pool. -/
namespace PqModel.Props.C15Grow
open PqModel.PoolProto PqModel.PoolGrow

/-- Any number of buffer generations with any fills and endings (grow to the next bucket, overflow
    past the last bucket, AppendFunc reallocation, Reset, dropped), owned by any goroutines, next to
    any other programs that respect the discipline: in every reachable state of every interleaving
    a pooled slice may be touched by at most one goroutine, a slice inside the pool is touched by
    nobody (so the copy of a growing buffer reads storage no other goroutine can obtain), and the
    put is the owner's last action on it. -/
theorem slicebuffer_grow_exclusive (cfg : List (Nat × Ending)) (others : List (List Op))
    (ho : ∀ p ∈ others, disc p = true) {s : St}
    (hr : Reach (cfg.map (fun c => genProg c.1 c.2 false) ++ others) s) :
    Exclusive s ∧ PoolQuiet s ∧ PutLast s :=
  PqModel.Props.C15.pool_exclusive _ (by
    intro p hp
    rcases List.mem_append.mp hp with h | h
    · obtain ⟨c, _, rfl⟩ := List.mem_map.mp h
      exact genProg_disc _ _
    · exact ho p h) hr

/-- the hypotheses are satisfiable: three buffers in different phases next to a compressor call -/
example (s : St)
    (hr : Reach ([(3, Ending.grow), (0, .reset), (5, .overflow)].map (fun c => genProg c.1 c.2 false) ++ [encodeProg]) s) :
    Exclusive s ∧ PoolQuiet s ∧ PutLast s :=
  slicebuffer_grow_exclusive _ _ (by decide) hr

/-- NEGATION for put-before-copy (seed C15-7a), with a HEALTHY second buffer: goroutine 0 grows its
    buffer with the slipped order — one append into slice 0, `oldSlice.data = b.data`, put: slice 0
    is in the pool while the copy out of it is still to come (`¬ PoolQuiet`, `¬ PutLast`);
    goroutine 1, an unrelated buffer running the code as it is, obtains slice 0 for its own elements
    and appends into it while goroutine 0 copies from it (`¬ Exclusive`): goroutine 0's buffer ends
    up holding goroutine 1's elements. -/
theorem slicebuffer_grow_slip_not_exclusive :
    let slip := genProg 1 .grow true
    let healthy := genProg 1 .reset false
    (∃ s, Reach [slip, healthy] s ∧ ¬ PoolQuiet s ∧ ¬ PutLast s) ∧
    (∃ s, Reach [slip, healthy] s ∧ ¬ Exclusive s) := by
  intro slip healthy
  have h := slip_reachable 2 [.use] healthy (by decide)
  exact ⟨h.1, h.2.imp fun _ hs => ⟨hs.1, hs.2.1⟩⟩

/-- the slipped order is exactly what `disc` rejects, for every fill -/
example : ∀ nApp, disc (genProg nApp .grow true) = false := growSlip_disc

end PqModel.Props.C15Grow
