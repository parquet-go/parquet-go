import PqModel.RowsState

/-! # C13 — the row reader of a row group never assembles rows from columns that are out of step

Property theorems about the MIRROR `PqModel/RowsState.lean` of the error bookkeeping of
`rowGroupRows` (row_group.go: `ReadRows`, `SeekToRow`, `Reset`, the field `err`). The behaviour of
the column readers is a parameter (`fails`): the statements hold whatever page of whatever column is
rejected and however far a column reads ahead. Tied to the source by
`FactsCheckC13.reader_error_state_as_mirrored` / `error_cleared_only_with_reposition`, to the real
reader by the L1 retry stages of the fault enumeration (`rows-retry`: noseek / into / past / back /
through / reset; `generic-reset`, `reader-reset`). -/
namespace PqModel.Props.C13Rows
open PqModel.RowsState

/-- after ANY history of reads (failed or not), seeks and resets, a `ReadRows`
    that returns rows has taken them from the rows `rowIndex ..` of EVERY column. -/
theorem rows_are_aligned (fails : Fails) (total ncols : Nat) (ops : List Op) (n : Nat)
    (starts : List (Option Nat)) (count : Nat)
    (h : (read fails total (reach fails total ncols ops) n).2 = .rows starts count) :
    ∀ s ∈ starts, s = some (reach fails total ncols ops).rowIndex :=
  PqModel.RowsState.rows_are_aligned fails total ncols ops n starts count h

example : (read firstPageOfColumn1 100 (reach firstPageOfColumn1 100 2 [.read 50, .reset, .read 50, .seek 60]) 10).2 =
    .rows [some 60, some 60] 10 := by decide

/-- when the page load of some column fails during the call, the call
    returns the error and no rows, and the error is pending afterwards. -/
theorem failure_is_reported (fails : Fails) (total : Nat) (st : St) (n : Nat) (he : st.err = false)
    (hf : (readCols fails (min n (total - st.rowIndex)) 0 st.cols).2 = true) :
    (read fails total st n).2 = .failed ∧ (read fails total st n).1.err = true :=
  PqModel.RowsState.failure_is_reported fails total st n he hf

example : (init 2).err = false ∧ (readCols firstPageOfColumn1 (min 50 (100 - (init 2).rowIndex)) 0 (init 2).cols).2 = true := by
  decide

/-- while the error is pending, every `ReadRows` returns it and moves nothing;
    (`SeekToRow` — also to the current row — and `Reset` clear it, and both put every column on
    one row: `seek_after_failure_repositions`, `reset_repositions`). -/
theorem error_is_sticky (fails : Fails) (total : Nat) (st : St) (n : Nat) (he : st.err = true) :
    read fails total st n = (st, .failed) :=
  PqModel.RowsState.error_is_sticky fails total st n he

theorem seek_after_failure_repositions (st : St) (k : Nat) (he : st.err = true) :
    (seek st k).err = false ∧ (seek st k).rowIndex = k ∧ ∀ c ∈ (seek st k).cols, c = some k :=
  PqModel.RowsState.seek_after_failure_repositions st k he

theorem reset_repositions (st : St) :
    (reset st).err = false ∧ (reset st).rowIndex = 0 ∧ ∀ c ∈ (reset st).cols, c = some 0 :=
  PqModel.RowsState.reset_repositions st

example : (read firstPageOfColumn1 100 (init 2) 50).1.err = true := by decide

/-- **seeded/C13-4b on the mirror**: `Reset` rewinding the columns only when `rowIndex > 0` (while
    clearing the error regardless) returns rows assembled from different row numbers and no error
    after "first read fails, Reset, read". -/
theorem reset_guarded_by_rowIndex_misaligns :
    run (stepSeeded firstPageOfColumn1 100) (init 2) [.read 50, .reset, .read 50] =
      [.failed, .done, .rows [some 50, none] 50] :=
  PqModel.RowsState.reset_guarded_by_rowIndex_misaligns

end PqModel.Props.C13Rows
