import PqModel.DeltaKernel
import PqModel.DeltaUnpack
import PqModel.DeltaAmd64
import PqModel.DeltaMirrorConf

/-! # C04 (part DELTA) — DELTA_BINARY_PACKED, DELTA_LENGTH_BYTE_ARRAY and DELTA_BYTE_ARRAY are
lossless and conform to the format, for every input.

`specDecode*` are decoders written from Encodings.md (PqModel/Delta.lean, SPEC side); they reject
streams that break the format (bad block/miniblock sizes, bit widths above the physical type,
negative lengths, prefixes longer than the previous value, truncation), so `specDecode (encode xs) =
ok xs` says both "conformant" and "lossless". `mirrorEncode*` transliterate the portable Go
encoders of `encoding/delta` (MIRROR side). Every theorem quantifies over all value lists: all
lengths (0, 1, partial last block, many blocks) and all values (deltas that overflow wrap in
`BitVec`, as in Go). After the round trips: Go decoders = SPEC, the word-level kernels, the amd64 wrapper. -/
namespace PqModel.Props.C04Delta
open PqModel.Delta

/-- INT32: decoding the encoder's bytes returns the input and consumes the stream exactly. -/
theorem delta32_roundtrip (xs : List (BitVec 32)) :
    specDecode32 (mirrorEncode32 xs) = .ok (xs, []) := by
  have := specDecode_mirrorEncode (by decide : 32 ≤ 64) xs []
  simpa [specDecode32, mirrorEncode32] using this

/-- INT64 twin. -/
theorem delta64_roundtrip (xs : List (BitVec 64)) :
    specDecode64 (mirrorEncode64 xs) = .ok (xs, []) := by
  have := specDecode_mirrorEncode (by decide : 64 ≤ 64) xs []
  simpa [specDecode64, mirrorEncode64] using this

/-- Stream-length form: whatever follows the stream is handed back untouched (this is what lets
DELTA_LENGTH_BYTE_ARRAY / DELTA_BYTE_ARRAY concatenate streams and data). -/
theorem delta32_roundtrip_stream (xs : List (BitVec 32)) (tail : List Nat) :
    specDecode32 (mirrorEncode32 xs ++ tail) = .ok (xs, tail) :=
  specDecode_mirrorEncode (by decide : 32 ≤ 64) xs tail

theorem delta64_roundtrip_stream (xs : List (BitVec 64)) (tail : List Nat) :
    specDecode64 (mirrorEncode64 xs ++ tail) = .ok (xs, tail) :=
  specDecode_mirrorEncode (by decide : 64 ≤ 64) xs tail

/-- Per-block form (any previous value, any number `rem` of values still expected, the block
holding `min 128 rem` of them; the padding and the minimum computed over the padded block do not
matter). -/
theorem delta_block_roundtrip {n : Nat} (hn : n ≤ 64) (chunk : List (BitVec n)) (last : BitVec n)
    (rem : Nat) (tail : List Nat) (hk : chunk.length = min 128 rem) :
    decBlock n 32 4 rem last ((encBlock chunk last).1 ++ tail) = .ok (chunk, tail) := by
  by_cases hpos : 0 < rem
  · obtain ⟨b, hb, hbytes, hvals⟩ := encBlock_conf hn chunk last rem hk hpos
    have := decBlock_conf n 32 4 (by decide) b rem last tail hb
    rwa [hbytes, hvals] at this
  · have hr : rem = 0 := by omega
    subst hr
    have : chunk = [] := List.eq_nil_of_length_eq_zero (by simpa using hk)
    subst this
    simp only [encBlock, List.length_nil, List.take_zero, List.nil_append, Nat.sub_zero]
    generalize blockMin (blockDelta (List.replicate 128 0) last) = minD
    generalize hmbs : [0, 1, 2, 3].map (fun i => ((List.replicate 128 (0 : BitVec n)).drop (32 * i)).take 32) = mbs
    have hzero : ∀ v ∈ mbs.flatten, v = 0 := by
      subst hmbs; rw [minis_flatten _ (by simp)]; exact fun v hv => List.eq_of_mem_replicate hv
    have hmn : (mbs.map miniWidth).length = 4 := by subst hmbs; rfl
    have hnt : ¬ (mbs.map miniWidth ++ tail).length < 4 := by rw [List.length_append]; omega
    simp only [decBlock, List.append_assoc, specZigzag_varintEnc hn, packAll_zero mbs hzero, List.nil_append,
      hnt, if_false, decMinis_zero, recon, List.drop_left' hmn]

example : ∃ (chunk : List (BitVec 32)) (rem : Nat), chunk.length = min 128 rem ∧ chunk ≠ [] :=
  ⟨[0x7fffffff#32, 0x80000000#32], 2, by decide, by decide⟩

/-- DELTA_LENGTH_BYTE_ARRAY. Lengths are INT32 in the format, hence the (decidable) bound. -/
theorem dlba_roundtrip (vs : List (List Nat)) (h : ∀ v ∈ vs, v.length < 2 ^ 31) :
    specDecodeDLBA (mirrorEncodeDLBA vs) = .ok (vs, []) := by
  simpa using specDecodeDLBA_mirror vs [] h

example : ∀ v ∈ [[1, 2, 3], [], [255]], v.length < 2 ^ 31 := by decide

/-- DELTA_LENGTH_BYTE_ARRAY through the raw `(src, offsets)` entry point of the Go API, for ANY
offsets window: non-empty, non-decreasing offsets that end inside `src` (they may start after 0
and stop before `len(src)`, as `Page.Slice` builds them). The stream decodes to exactly the
values the offsets denote and nothing trails it. -/
theorem dlba_raw_roundtrip (src : List Nat) (o : Nat) (rest : List Nat)
    (hm : nondecreasing (o :: rest) = true) (hl : lastOff o rest ≤ src.length)
    (h31 : ∀ v ∈ windowValues src (o :: rest), v.length < 2 ^ 31) :
    specDecodeDLBA (mirrorEncodeDLBARaw src (o :: rest)) = .ok (windowValues src (o :: rest), []) := by
  rw [mirrorEncodeDLBARaw_eq src o rest hm hl]; exact dlba_roundtrip _ h31

example : nondecreasing (2 :: [5, 6]) = true ∧ lastOff 2 [5, 6] ≤ [0xaa, 0xaa, 1, 2, 3, 4, 0xbb].length ∧
    ∀ v ∈ windowValues [0xaa, 0xaa, 1, 2, 3, 4, 0xbb] (2 :: [5, 6]), v.length < 2 ^ 31 := by decide

/-- **Regression fact** (finding `dlba-encode-ignores-offsets-window-*`, repaired by
`fix: DELTA_LENGTH_BYTE_ARRAY encodes the offsets window, not the whole buffer`): before the
repair `EncodeByteArray` appended the whole of `src`. Witness: `src = aa 62 63`, offsets `[1,2,3]`
(the values `62`, `63`): the stream decoded to `aa`, `62` with `63` trailing. -/
theorem dlba_window_violation_before_fix :
    ∃ src offsets, specDecodeDLBA (mirrorEncodeDLBARawBeforeFix src offsets) ≠ .ok (windowValues src offsets, []) :=
  ⟨[0xaa, 0x62, 0x63], [1, 2, 3], by decide +kernel⟩

example : specDecodeDLBA (mirrorEncodeDLBARawBeforeFix [0xaa, 0x62, 0x63] [1, 2, 3]) = .ok ([[0xaa], [0x62]], [0x63]) := by
  decide +kernel

example : specDecodeDLBA (mirrorEncodeDLBARaw [0xaa, 0x62, 0x63] [1, 2, 3]) = .ok ([[0x62], [0x63]], []) := by
  decide +kernel

/-- DELTA_BYTE_ARRAY: prefix lengths found by the Go word search + suffixes give back every value. -/
theorem dba_roundtrip (vs : List (List Nat)) (h : ∀ v ∈ vs, v.length < 2 ^ 31) :
    specDecodeDBA (mirrorEncodeDBA vs) = .ok (vs, []) := by
  simpa using specDecodeDBA_mirror vs [] h

example : ∀ v ∈ [[1, 2, 3], [1, 2, 4, 5], [], [255]], v.length < 2 ^ 31 := by decide

/-- The Go prefix search (8-byte words, then bytes) is the longest common prefix: no cap, and
never longer than either value. -/
theorem dba_prefix_is_common_prefix (a b : List Nat) :
    searchPrefixLength a b = commonPrefix a b ∧
    searchPrefixLength a b ≤ a.length ∧ searchPrefixLength a b ≤ b.length ∧
    a.take (searchPrefixLength a b) = b.take (searchPrefixLength a b) := by
  rw [searchPrefixLength_eq]
  exact ⟨rfl, (commonPrefix_le a b).1, (commonPrefix_le a b).2, commonPrefix_take a b⟩

/-- FIXED_LEN_BYTE_ARRAY through DELTA_BYTE_ARRAY: decoding yields values of `size` bytes whose
concatenation is the source buffer. -/
theorem dba_flba_roundtrip (size : Nat) (src : List Nat) (hs : 0 < size) (hb : size < 2 ^ 31)
    (hm : src.length % size = 0) :
    ∃ vs, specDecodeDBA (mirrorEncodeFLBA size src) = .ok (vs, []) ∧ vs.flatten = src ∧
      ∀ v ∈ vs, v.length = size := by
  refine ⟨chunksOf size src.length src, ?_, chunksOf_flatten size _ src hs (Nat.le_refl _) hm,
    chunksOf_length size _ src⟩
  have := specDecodeDBA_mirror (chunksOf size src.length src) [] (by
    intro v hv; rw [chunksOf_length size _ src v hv]; exact hb)
  simpa [mirrorEncodeFLBA] using this

example : (0 < 2) ∧ (2 < 2 ^ 31) ∧ ([1, 2, 3, 4] : List Nat).length % 2 = 0 := by decide

/-! What the encoder emits for no value and for one value (header only, first value 0 resp. the
value, zigzag), and for two values (the minimum is taken over the zero padded block: deltas
5, then 0 - 10 = -10 for the padding, so min delta = -10, zigzag 19, width 4 for 15 = 5 - -10). -/
example : mirrorEncode32 [] = [128, 1, 4, 0, 0] := by decide
example : mirrorEncode32 [7#32] = [128, 1, 4, 1, 14] := by decide
example : (mirrorEncode32 [5#32, 10#32]).take 11 = [128, 1, 4, 2, 10, 19, 4, 0, 0, 0, 15] := by decide +kernel
example : (mirrorEncode32 [5#32, 10#32]).length = 26 := by decide +kernel

/-! ## The Go decoders (mirror of `decodeInt32/64`, `LengthByteArrayEncoding.DecodeByteArray`,
portable `ByteArrayEncoding.DecodeByteArray`, PqModel/DeltaGo.lean) against the format -/

/-- On EVERY stream the spec decoder reads — every conformant stream, any legal block/miniblock
geometry, widths, frame of reference — the Go INT32 decoder returns the same values and the same
remaining bytes, or refuses the stream with one of Go's documented limits (`GoErr.isLimit`). -/
theorem goDecode32_eq_spec (bs : List Nat) (xs : List (BitVec 32)) (r : List Nat)
    (h : specDecode32 bs = .ok (xs, r)) :
    goDecode32 bs = .ok (xs, r) ∨ ∃ e, goDecode32 bs = .error e ∧ e.isLimit = true :=
  goDecode_of_specDecode 32 h

/-- INT64 twin. -/
theorem goDecode64_eq_spec (bs : List Nat) (xs : List (BitVec 64)) (r : List Nat)
    (h : specDecode64 bs = .ok (xs, r)) :
    goDecode64 bs = .ok (xs, r) ∨ ∃ e, goDecode64 bs = .error e ∧ e.isLimit = true :=
  goDecode_of_specDecode 64 h

example : specDecode32 (mirrorEncode32 [5#32, 10#32]) = .ok ([5#32, 10#32], []) := delta32_roundtrip _

/-- Go decoder ∘ Go encoder = identity (both mirrors), for every list of fewer than 2^31 values
(Go's decoder refuses more than MaxInt32 values). -/
theorem goDecode32_mirrorEncode32 (xs : List (BitVec 32)) (tail : List Nat) (hl : xs.length < 2 ^ 31) :
    goDecode32 (mirrorEncode32 xs ++ tail) = .ok (xs, tail) :=
  goDecode_mirrorEncode (Or.inl rfl) xs tail hl

theorem goDecode64_mirrorEncode64 (xs : List (BitVec 64)) (tail : List Nat) (hl : xs.length < 2 ^ 31) :
    goDecode64 (mirrorEncode64 xs ++ tail) = .ok (xs, tail) :=
  goDecode_mirrorEncode (Or.inr rfl) xs tail hl

example : ([5#32, 10#32] : List (BitVec 32)).length < 2 ^ 31 := by decide

/-- The one place where Go accepts more than the format (besides the header checks it omits):
miniblock bodies are read as if the input were followed by zero bytes. -/
theorem go_truncated_tail_is_zero_extension (n vpm : Nat) (ws : List Nat) (tot : Nat) (src : List Nat) (k : Nat) :
    (goMinis n vpm ws tot (src ++ List.replicate k 0)).map (fun p => (p.1, p.2.1))
      = (goMinis n vpm ws tot src).map (fun p => (p.1, p.2.1)) := by
  induction ws generalizing tot src k with
  | nil => simp [goMinis, Except.map]
  | cons w ws ih =>
    simp only [goMinis]
    split
    · rfl
    · simp only [padded_take_zero_ext, drop_zero_ext]
      split
      · rfl
      · have ih := ih (tot - min vpm tot) (src.drop (vpm * w / 8)) (k - (vpm * w / 8 - src.length))
        cases h1 : goMinis n vpm ws (tot - min vpm tot)
            (src.drop (vpm * w / 8) ++ List.replicate (k - (vpm * w / 8 - src.length)) 0) with
        | error e =>
          cases h2 : goMinis n vpm ws (tot - min vpm tot) (src.drop (vpm * w / 8)) with
          | error e' => simp [h1, h2, Except.map] at ih ⊢; exact ih
          | ok q => simp [h1, h2, Except.map] at ih
        | ok q =>
          cases h2 : goMinis n vpm ws (tot - min vpm tot) (src.drop (vpm * w / 8)) with
          | error e' => simp [h1, h2, Except.map] at ih
          | ok q' =>
            simp only [h1, h2, Except.map, Except.ok.injEq, Prod.mk.injEq] at ih ⊢
            simp [ih.1, ih.2]

/-- DELTA_LENGTH_BYTE_ARRAY decoder: same values as the spec on every stream the spec reads
(values totalling less than 4 GiB: Go's offsets are `uint32`), or a documented limit. -/
theorem goDecodeDLBA_eq_spec (bs : List Nat) (vs : List (List Nat)) (r : List Nat)
    (h : specDecodeDLBA bs = .ok (vs, r)) (hb : vs.flatten.length < 2 ^ 32) :
    goDecodeDLBA bs = .ok (vs.flatten, offsetsFrom 0 vs) ∨ ∃ e, goDecodeDLBA bs = .error e ∧ e.isLimit = true := by
  obtain ⟨ls, src, hd, hpos, hsp⟩ := specDecodeDLBA_ok h
  rcases goDecode_of_specDecode 32 hd with g | ⟨e, g, he⟩
  · exact Or.inl (goDecodeDLBA_of g hpos hsp hb)
  · right; exact ⟨e, by simp only [goDecodeDLBA, g], he⟩

example : specDecodeDLBA (mirrorEncodeDLBA [[1, 2], []]) = .ok ([[1, 2], []], []) ∧
    ([[1, 2], []] : List (List Nat)).flatten.length < 2 ^ 32 :=
  ⟨dlba_roundtrip _ (by decide), by decide⟩

/-- DELTA_BYTE_ARRAY decoder (portable variant): same values as the spec on every stream the spec
reads, or a documented limit. -/
theorem goDecodeDBA_eq_spec (bs : List Nat) (vs : List (List Nat)) (r : List Nat)
    (h : specDecodeDBA bs = .ok (vs, r)) :
    goDecodeDBA bs = .ok vs ∨ ∃ e, goDecodeDBA bs = .error e ∧ e.isLimit = true := by
  obtain ⟨ps, r1, ss, hd, hppos, hl, hj⟩ := specDecodeDBA_ok h
  obtain ⟨sl, r2, hd2, hspos, hl2⟩ := specDecodeDLBA_ok hl
  rcases goDecode_of_specDecode 32 hd with g1 | ⟨e, g1, he⟩
  · rcases goDecode_of_specDecode 32 hd2 with g2 | ⟨e, g2, he⟩
    · exact Or.inl (goDecodeDBA_of g1 g2 hppos hspos hl2 hj)
    · right; exact ⟨e, by simp only [goDecodeDBA, g1, g2], he⟩
  · right; exact ⟨e, by simp only [goDecodeDBA, g1], he⟩

example : specDecodeDBA (mirrorEncodeDBA [[1, 2], [1, 3]]) = .ok ([[1, 2], [1, 3]], []) :=
  dba_roundtrip _ (by decide)

/-! ## The bit packing kernel: word-level OR = LSB-first packing -/

/-- `encodeMiniBlockInt32` (binary_packed_purego.go:9-28, mirrored word by word in
PqModel/DeltaKernel.lean) leaves in a zero-filled buffer exactly the LSB-first packing of the 32
values, for every width 1..32 and all values that fit the width. -/
theorem kernel32_is_lsb_first_packing (w L : Nat) (mb : List (BitVec 32)) (hl : mb.length = 32)
    (hw0 : 0 < w) (hw : w ≤ 32) (hv : ∀ v ∈ mb, v.toNat < 2 ^ w) (hL : w + 1 ≤ L) :
    kernelBytes w L mb = packMini w mb :=
  kernel_eq_packMini 4 rfl w L mb hw0 hw hv (by rw [hl]; omega) (by rw [hl]; omega)

/-- `encodeMiniBlockInt64` (binary_packed_purego.go:30-49), widths 1..64. -/
theorem kernel64_is_lsb_first_packing (w L : Nat) (mb : List (BitVec 64)) (hl : mb.length = 32)
    (hw0 : 0 < w) (hw : w ≤ 64) (hv : ∀ v ∈ mb, v.toNat < 2 ^ w) (hL : w / 2 + 2 ≤ L) :
    kernelBytes w L mb = packMini w mb :=
  kernel_eq_packMini 8 rfl w L mb hw0 hw hv (by rw [hl]; omega) (by rw [hl]; omega)

example : ∃ (mb : List (BitVec 32)), mb.length = 32 ∧ (∀ v ∈ mb, v.toNat < 2 ^ 3) ∧ mb ≠ List.replicate 32 0 :=
  ⟨List.replicate 32 5#32, by simp, by intro v hv; rw [List.eq_of_mem_replicate hv]; decide, by decide +kernel⟩

/-- The encoder transliterated down to the word OR-ing (`mirrorEncodeK`, what the driver runs and
L2 compares with the real bytes) is the encoder the round-trip theorems are about. -/
theorem mirrorEncodeK32_eq (xs : List (BitVec 32)) : mirrorEncodeK xs = mirrorEncode32 xs :=
  mirrorEncodeK_eq 4 rfl xs

theorem mirrorEncodeK64_eq (xs : List (BitVec 64)) : mirrorEncodeK xs = mirrorEncode64 xs :=
  mirrorEncodeK_eq 8 rfl xs

/-- end to end with nothing abstracted in the encoder: the spec decoder on the word-level encoder -/
theorem delta32_roundtrip_wordlevel (xs : List (BitVec 32)) :
    specDecode32 (mirrorEncodeK xs) = .ok (xs, []) := by
  rw [mirrorEncodeK32_eq]; exact delta32_roundtrip xs

theorem delta64_roundtrip_wordlevel (xs : List (BitVec 64)) :
    specDecode64 (mirrorEncodeK xs) = .ok (xs, []) := by
  rw [mirrorEncodeK64_eq]; exact delta64_roundtrip xs

/-! ## The unpacking kernels the decoders call: `bitpack.Unpack` (portable) = LSB-first unpacking -/

/-- `bitpack.Unpack` for int64 (portable `unpackInt64`, github.com/parquet-go/bitpack
unpack_int64_purego.go:5-27, transliterated in PqModel/DeltaUnpack.lean: 32-bit words, a value
assembled from up to three of them) returns what `Bits.unpackBits` — the function the decoder
mirror `goMinis` and the spec decoder are written with — returns, for every width up to 64, any
number of values that fit the buffer, any buffer content. -/
theorem unpack64_kernel (w n : Nat) (p : List Nat) (hw : w ≤ 64) (hb : ∀ b ∈ p, b < 256)
    (hn : n * w ≤ 8 * p.length) : goUnpackInt64 w n p = PqModel.Bits.unpackBits w n (PqModel.Bits.bytesToBits p) :=
  Rle.unpackBits_of_field n 32 p hb (goUnpackInt64Value_field w hw)

/-- INT32 twin: the kernel is shared with the RLE decoder and proved in the RLE slice
(`PqModel.Rle.goUnpackInt32_eq`); restated here because `decodeInt32` depends on it. -/
theorem unpack32_kernel (w n : Nat) (p : List Nat) (hw : w ≤ 32) (hb : ∀ b ∈ p, b < 256)
    (hn : n * w ≤ 8 * p.length) :
    PqModel.Rle.goUnpackInt32 w n p = PqModel.Bits.unpackBits w n (PqModel.Bits.bytesToBits p) :=
  PqModel.Rle.goUnpackInt32_eq w n p hw hb hn

example : (61 : Nat) ≤ 64 ∧ (∀ b ∈ List.replicate 16 0xA7, b < 256) ∧ 2 * 61 ≤ 8 * (List.replicate 16 0xA7).length := by
  decide

/-- The hypothesis `n * w ≤ 8 * p.length` holds for every call the decoders make: a miniblock of
`vpm` values (a multiple of 8, since it is a multiple of 32) at width `w` is given `vpm * w / 8`
bytes (completed with zeros when the input is shorter) and `cnt ≤ vpm` values are read. -/
theorem unpack_call_fits (vpm w cnt : Nat) (data : List Nat) (h8 : vpm % 8 = 0) (hc : cnt ≤ vpm)
    (hl : data.length = vpm * w / 8) : cnt * w ≤ 8 * data.length := by
  obtain ⟨k, hk⟩ : ∃ k, vpm = 8 * k := ⟨vpm / 8, by omega⟩
  subst hk
  have e : 8 * k * w / 8 = k * w := by rw [Nat.mul_assoc, Nat.mul_div_cancel_left _ (by omega : 0 < 8)]
  rw [hl, e, ← Nat.mul_assoc]
  exact Nat.mul_le_mul_right w hc

example : (32 : Nat) % 8 = 0 ∧ 7 ≤ 32 ∧ (List.replicate 12 0).length = 32 * 3 / 8 := by decide

/-! ## The amd64 Go wrapper of the DELTA_BYTE_ARRAY decoder (what the default build runs) -/

/-- `decodeByteArray` of byte_array_amd64.go (split scan from the end of the suffix lengths, AVX2
kernel on the first `k` values — replaced by its contract —, reconstruction of the read position
`j = len(src) - n` and of the previous value `dst[i-(prefix[k-1]+suffix[k-1]):]`, scalar loop on
the rest; transliterated in PqModel/DeltaAmd64.lean) returns the values of the portable loop
(`goJoin`, the one `goDecodeDBA_eq_spec` and `conformant_dba_go` are about) whenever that loop
accepts the lengths and the suffix bytes end where `src` ends, as they do in a data page. -/
theorem dba_amd64_wrapper_eq_portable (src : List Nat) (ps ss : List (BitVec 32)) (vs : List (List Nat))
    (hl : ps.length = ss.length) (h : goJoin [] ps ss src = .ok vs)
    (hend : (ss.map BitVec.toNat).sum = src.length) :
    amd64Vals src (ps.map BitVec.toNat) (ss.map BitVec.toNat) = vs :=
  amd64Vals_of_goJoin src ps ss vs hl h hend

example : goJoin [] [0#32, 1#32] [2#32, 1#32] [0xab, 0xcd, 0xef] = .ok [[0xab, 0xcd], [0xab, 0xef]] ∧
    (([2#32, 1#32] : List (BitVec 32)).map BitVec.toNat).sum = [0xab, 0xcd, 0xef].length := by decide

/-- The hypothesis on the end of `src` is needed — with bytes after the suffixes the amd64 wrapper
reads the values left to its scalar loop from the wrong place (observation
`maldba-trailing-bytes-change-values`): 70 one-byte values `00 01 02 …` followed by one stray byte;
the portable loop returns the 70 bytes, the wrapper shifts the last 64 by one. -/
theorem dba_amd64_wrapper_needs_exact_end :
    ∃ (src ps ss : List Nat), validLens 0 ps ss ∧ ps.length = ss.length ∧ ss.sum < src.length ∧
      amd64Vals src ps ss ≠ loopVals src [] 0 ps ss :=
  ⟨List.range 71, List.replicate 70 0, List.replicate 70 1, by decide +kernel, by decide +kernel,
    by decide +kernel, by decide +kernel⟩

/-- `decodeFixedLenByteArray` of byte_array_amd64.go (FIXED_LEN_BYTE_ARRAY values through
DELTA_BYTE_ARRAY on the default build: same split scan, kernel by contract — the 128-bit kernel for
`size == 16`, the 256-bit one otherwise —, previous value reconstructed as `dst[i-size:]`, scalar loop;
`amd64FlbaVals`, PqModel/DeltaAmd64.lean) returns the values of the portable loop whenever that loop
accepts the lengths, every value has `size` bytes (`allSize`: prefix + suffix = size, what a column
of that type holds) and the suffix bytes end where `src` ends. -/
theorem flba_amd64_wrapper_eq_portable (size : Nat) (src : List Nat) (ps ss : List (BitVec 32))
    (vs : List (List Nat)) (hl : ps.length = ss.length) (h : goJoin [] ps ss src = .ok vs)
    (hsz : allSize size (ps.map BitVec.toNat) (ss.map BitVec.toNat))
    (hend : (ss.map BitVec.toNat).sum = src.length) :
    amd64FlbaVals size src (ps.map BitVec.toNat) (ss.map BitVec.toNat) = vs :=
  amd64FlbaVals_of_goJoin size src ps ss vs hl h hsz hend

example : goJoin [] [0#32, 1#32] [2#32, 1#32] [0xab, 0xcd, 0xef] = .ok [[0xab, 0xcd], [0xab, 0xef]] ∧
    allSize 2 (([0#32, 1#32] : List (BitVec 32)).map BitVec.toNat) (([2#32, 1#32] : List (BitVec 32)).map BitVec.toNat) ∧
    (([2#32, 1#32] : List (BitVec 32)).map BitVec.toNat).sum = [0xab, 0xcd, 0xef].length := by decide

/-- The size hypothesis is needed: `DecodeFixedLenByteArray` does not check that the values have
`size` bytes, and on a stream whose values are shorter than the declared size (70 one-byte values,
size 2) the wrapper rebuilds a wrong previous value where the portable loop does not. -/
theorem flba_amd64_wrapper_needs_value_size :
    ∃ (size : Nat) (src ps ss : List Nat), validLens 0 ps ss ∧ ps.length = ss.length ∧ ss.sum = src.length ∧
      amd64FlbaVals size src ps ss ≠ loopVals src [] 0 ps ss :=
  ⟨2, List.range 6 ++ List.range 64, List.replicate 6 0 ++ List.replicate 64 1, List.replicate 6 1 ++ List.replicate 64 1,
    by decide +kernel, by decide +kernel, by decide +kernel, by decide +kernel⟩

end PqModel.Props.C04Delta
