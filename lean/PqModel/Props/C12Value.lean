import PqModel.ConvValue

/-! # Property C12, part "value": the value type conversions behind `Convert`

Theorems about the mirror `convertValue` / `convertToType` of `PqModel/ConvValue.lean`
(`targetType.ConvertValue(v, sourceType)` of the nine type implementations, applied by
`convertToType` to every value of a column whose type the target schema changes).
All statements are about ALL values of the kinds concerned (bit patterns, byte strings of any
length, every FIXED_LEN_BYTE_ARRAY size); the `decide` theorems are witnesses of information loss
and of the four defects the mirror shares with the code (reproduced on the real code by the
sub-check `value`). -/
namespace PqModel.ConvValue
open PqModel.Plain (Bytes leBytes leVal leVal_leBytes leBytes_length leBytes_leVal)

/-- `ConvertValue` between equal types hands the value back — every kind, every non-null value,
    every FIXED_LEN_BYTE_ARRAY length, STRING included. -/
theorem convert_same_type_id (t : Ty) (v : Val) (h : v.inTy t = true) :
    convertValue t t v = .ok v := by
  obtain ⟨k, s⟩ := t
  simp only [Val.inTy, Bool.and_eq_true, decide_eq_true_eq, Bool.or_eq_true, Bool.not_eq_true'] at h
  obtain ⟨⟨⟨_, hn⟩, hk⟩, hs⟩ := h
  rw [convertValue_of_ne_null hn]
  cases s with
  | true =>
    -- a STRING column is a BYTE_ARRAY column: its values are byte strings, handed back as they are
    obtain rfl : k = .byteArray := by simpa using hs
    cases v <;> first | rfl | (simp [Val.kind] at hk)
  | false =>
    cases v <;> simp only [Val.kind] at hk <;> subst hk <;>
      first | exact absurd rfl hn | rfl | simp [convertNonNull, toFixed, fitTo]

example : (Val.fixed [1, 2, 3]).inTy ⟨.flba 3, false⟩ = true := by decide
example : (Val.bytes [120]).inTy ⟨.byteArray, true⟩ = true := by decide

/-- No pair of physical types is refused, and for a non-string source the outcome depends on the
    PAIR only: every non-null value converts, except INT96 <-> FLOAT/DOUBLE where every value is an
    error; nothing panics. (INT96/FLOAT/DOUBLE -> STRING are outside the mirror and answer
    `unmodelled`: the code has no error path there.) -/
theorem convert_outcome_by_pair (tgt src : Ty) (v : Val) (hs : src.isString = false)
    (h : v.inTy src = true) :
    convertValue tgt src v ≠ .panics ∧
    (convertValue tgt src v = .invalid ↔
      tgt.isString = false ∧
      ((src.kind = .int96 ∧ (tgt.kind = .float ∨ tgt.kind = .double)) ∨
       ((src.kind = .float ∨ src.kind = .double) ∧ tgt.kind = .int96))) := by
  simp only [Val.inTy, Bool.and_eq_true, decide_eq_true_eq] at h
  obtain ⟨⟨⟨_, hn⟩, hk⟩, _⟩ := h
  obtain ⟨tk, ts⟩ := tgt
  rw [convertValue_of_ne_null hn, ← hk]
  cases ts with
  | true => cases v <;> simp [convertNonNull, toString, Val.kind]
  | false =>
    cases tk with
    | boolean => cases v <;> simp [convertNonNull, toBoolean, hs, Val.kind]
    | int32 => cases v <;> simp [convertNonNull, toInt32, hs, Val.kind]
    | int64 => cases v <;> simp [convertNonNull, toInt64, hs, Val.kind]
    | int96 => cases v <;> simp [convertNonNull, toInt96, hs, Val.kind]
    | float => cases v <;> simp [convertNonNull, toFloat, hs, Val.kind]
    | double => cases v <;> simp [convertNonNull, toDouble, hs, Val.kind]
    | byteArray => cases v <;> simp [convertNonNull, toByteArray, Val.kind]
    | flba n => cases v <;> simp [convertNonNull, toFixed, hs, Val.kind]

example : (Val.i96 5).inTy ⟨.int96, false⟩ = true := by decide

/-- A string source fails exactly on the strings the parser of the target refuses
    (BOOLEAN / INT32 / INT64 / INT96 targets; for FIXED_LEN_BYTE_ARRAY see `hex_decode_encode`). -/
theorem convert_string_invalid_iff (s : Bytes) :
    (convertValue ⟨.boolean, false⟩ ⟨.byteArray, true⟩ (.bytes s) = .invalid ↔ parseBool s = none) ∧
    (convertValue ⟨.int32, false⟩ ⟨.byteArray, true⟩ (.bytes s) = .invalid ↔ parseInt 32 s = none) ∧
    (convertValue ⟨.int64, false⟩ ⟨.byteArray, true⟩ (.bytes s) = .invalid ↔ parseInt 64 s = none) ∧
    (convertValue ⟨.int96, false⟩ ⟨.byteArray, true⟩ (.bytes s) = .invalid ↔ signedDigits s = none) := by
  refine ⟨?_, ?_, ?_, ?_⟩
  · cases hp : parseBool s <;> simp [convertValue, convertNonNull, toBoolean, hp]
  · cases hp : parseInt 32 s <;> simp [convertValue, convertNonNull, toInt32, hp]
  · cases hp : parseInt 64 s <;> simp [convertValue, convertNonNull, toInt64, hp]
  · cases hp : signedDigits s with
    | none => simp [convertValue, convertNonNull, toInt96, convertStringToInt96, hp]
    | some p => obtain ⟨a, n⟩ := p; simp [convertValue, convertNonNull, toInt96, convertStringToInt96, hp]

/-- convertToType: when it succeeds the column keeps its length and order and every entry is the
    conversion of the entry at the same place. -/
theorem convertToType_ok (tgt src : Ty) : ∀ (vs ws : List Val),
    convertToType tgt src vs = .ok ws → vs.map (convertValue tgt src) = ws.map Res.ok := by
  intro vs ws h
  -- cases of `convertToType`: end of the column / the value converts / the first failure
  fun_induction convertToType tgt src vs generalizing ws with
  | case1 => cases h; rfl
  | case2 v vs w hw ih =>
    cases hr : convertToType tgt src vs with
    | error e => rw [hr] at h; simp [Except.map] at h
    | ok ws' =>
      rw [hr] at h; simp only [Except.map] at h
      cases h
      simp [hw, ih ws' hr]
  | case3 v vs hne => cases h

/-- ... and it fails exactly when some value fails (the first one decides the error). -/
theorem convertToType_error (tgt src : Ty) : ∀ (vs : List Val) (e : Res),
    convertToType tgt src vs = .error e →
    ∃ pre v post, vs = pre ++ v :: post ∧ convertValue tgt src v = e ∧ (∀ w, e ≠ .ok w) ∧
      ∀ u ∈ pre, ∃ w, convertValue tgt src u = .ok w := by
  intro vs e h
  fun_induction convertToType tgt src vs generalizing e with
  | case1 => cases h
  | case2 v vs w hw ih =>
    cases hr : convertToType tgt src vs with
    | ok ws' => rw [hr] at h; simp [Except.map] at h
    | error e' =>
      rw [hr] at h; simp only [Except.map] at h
      cases h
      obtain ⟨pre, x, post, he, hx, hne, hpre⟩ := ih e hr
      refine ⟨v :: pre, x, post, by rw [he]; rfl, hx, hne, ?_⟩
      intro u hu
      rcases List.mem_cons.mp hu with rfl | hu
      · exact ⟨w, hw⟩
      · exact hpre u hu
  | case3 v vs hne =>
    cases h
    exact ⟨[], v, vs, rfl, rfl, fun w hw => hne w hw, by simp⟩

theorem isZero_replicate (k : Nat) : isZero (List.replicate k 0) = true := by
  simp [isZero]

theorem int32ToInt96_mod (x : Nat) (h : x < 2 ^ 32) : int32ToInt96 x % 2 ^ 32 = x := by
  rw [int32ToInt96_eq_sext]; exact sext_low 32 96 x (by decide) h

theorem int64ToInt96_mod (x : Nat) (h : x < 2 ^ 64) : int64ToInt96 x % 2 ^ 64 = x := by
  rw [int64ToInt96_eq_sext x h]; exact sext_low 64 96 x (by decide) h

theorem int32_to_int64_value (x : Nat) (h : x < 2 ^ 32) : toInt 64 (sext 32 64 x) = toInt 32 x :=
  toInt_sext 32 64 x (by decide) (by decide)

theorem int32_to_int96_value (x : Nat) (h : x < 2 ^ 32) : toInt 96 (int32ToInt96 x) = toInt 32 x := by
  rw [int32ToInt96_eq_sext]; exact toInt_sext 32 96 x (by decide) (by decide)

theorem int64_to_int96_value (x : Nat) (h : x < 2 ^ 64) : toInt 96 (int64ToInt96 x) = toInt 64 x := by
  rw [int64ToInt96_eq_sext x h]; exact toInt_sext 64 96 x (by decide) (by decide)

/-- reading `k` bytes back from a `k`-byte value stored in a FIXED_LEN_BYTE_ARRAY(n), n ≥ k -/
theorem leVal_padTo_padTo {k n x : Nat} (hx : x < 2 ^ (8 * k)) (hn : k ≤ n) :
    leVal (padTo k (padTo n (leBytes k x))) = x := by
  have hcut : padTo k (padTo n (leBytes k x)) = (padTo n (leBytes k x)).take k := by
    rw [padTo, List.take_append_of_le_length (by rw [padTo_length]; exact hn)]
  rw [hcut, take_padTo (leBytes_length k x) hn, leVal_leBytes k x hx]

/-- hex.Decode(make([]byte, n), hex.Encode(b)): the bytes come back when they fit, and the call
    PANICS when `b` is longer than the destination (convertStringToFixedLenByteArray allocates
    exactly `size` bytes, whatever the string's length). -/
theorem hex_decode_encode : ∀ (n : Nat) (b : Bytes),
    hexDecodeGo n (hexEncode b) = if b.length ≤ n then .ok b else .panics
  | _, [] => by simp [hexEncode, hexDecodeGo]
  | n, c :: b => by
    have hv : ∀ d : Nat, d < 16 → hexVal (hexChar d) = some d := by decide
    have h1 : c.toNat / 16 < 16 := by have := c.toNat_lt; omega
    have h2 : c.toNat % 16 < 16 := by omega
    have hc : UInt8.ofNat (c.toNat / 16 * 16 + c.toNat % 16) = c := by
      have : c.toNat / 16 * 16 + c.toNat % 16 = c.toNat := by omega
      rw [this]; simp
    simp only [hexEncode, hexDecodeGo, hv _ h1, hv _ h2]
    cases n with
    | zero => simp
    | succ n =>
      simp only [hex_decode_encode n b, hc, List.length_cons, Nat.add_le_add_iff_right]
      by_cases hb : b.length ≤ n <;> simp [hb]

/-- the targets that hold every value of the source (not INT32 -> FLOAT, INT64 -> DOUBLE: they round) -/
def widens (src tgt : Ty) : Bool :=
  !src.isString &&
  match src.kind, tgt.isString, tgt.kind with
  | .boolean, true, _ => true
  | .boolean, false, .flba n => decide (1 ≤ n)
  | .boolean, false, _ => true
  | .int32, true, _ | .int64, true, _ => true  -- decimal text
  | .int32, false, .int64 | .int32, false, .int96 | .int32, false, .double | .int32, false, .byteArray => true
  | .int32, false, .flba n => decide (4 ≤ n)
  | .int64, false, .int96 | .int64, false, .byteArray => true
  | .int64, false, .flba n => decide (8 ≤ n)
  | .int96, false, .byteArray => true
  | .int96, false, .flba n => decide (12 ≤ n)
  | .float, false, .byteArray => true
  | .float, false, .flba n => decide (4 ≤ n)
  | .double, false, .byteArray => true
  | .double, false, .flba n => decide (8 ≤ n)
  | .flba _, true, _ => true                  -- hex text
  | .flba _, false, .byteArray => true
  | .byteArray, true, _ => true               -- BYTE_ARRAY <-> STRING: the same bytes
  | _, _, _ => false

/-- Round trip on the widening pairs: for every pair where the target holds every source value
    (`widens`: boolean -> anything incl. the strings "true"/"false"; int32 -> int64 / int96 / double /
    bytes / fixed(n ≥ 4) / decimal string; int64 -> int96 / bytes / fixed(n ≥ 8) / decimal string; int96 -> bytes / fixed(n ≥ 12); float and
    double -> bytes / fixed (bit-exact, NaN payloads included); fixed -> hex string / bytes;
    bytes -> string) and EVERY non-null value of the source type, the conversion succeeds and
    converting back yields the value. -/
theorem widening_round_trip (src tgt : Ty) (v : Val) (hw : widens src tgt = true)
    (h : v.inTy src = true) (hts : tgt.isString = true → tgt.kind = .byteArray) :
    ∃ w, convertValue tgt src v = .ok w ∧ convertValue src tgt w = .ok v := by
  obtain ⟨tk, ts⟩ := tgt
  obtain ⟨sk, ss⟩ := src
  simp only [widens, Bool.and_eq_true, Bool.not_eq_true'] at hw
  obtain ⟨hss, hw⟩ := hw
  have hss : ss = false := hss
  subst hss
  simp only [Val.inTy, Bool.and_eq_true, decide_eq_true_eq] at h
  obtain ⟨⟨⟨hwf, hn⟩, hk⟩, _⟩ := h
  cases ts with
  | true =>
    have := hts rfl; simp only at this; subst this
    cases v with
    | null => exact absurd rfl hn
    | bool b =>
      simp only [Val.kind] at hk; subst hk
      cases b <;> exact ⟨_, rfl, by decide⟩
    | i32 x =>
      simp only [Val.kind] at hk; subst hk
      have hx : x < 2 ^ 32 := by simpa [Val.wf] using hwf
      exact ⟨_, rfl, by simp [convertValue, convertNonNull, toInt32, parseInt_appendInt32 x hx]⟩
    | i64 x =>
      simp only [Val.kind] at hk; subst hk
      have hx : x < 2 ^ 64 := by simpa [Val.wf] using hwf
      exact ⟨_, rfl, by simp [convertValue, convertNonNull, toInt64, parseInt_appendInt64 x hx]⟩
    | bytes b =>
      simp only [Val.kind] at hk; subst hk
      exact ⟨_, rfl, rfl⟩
    | fixed b =>
      simp only [Val.kind] at hk; subst hk
      exact ⟨_, rfl, by
        simp [convertValue, convertNonNull, toFixed, convertStringToFixedLenByteArray, hex_decode_encode, padTo_self]⟩
    | i96 x | f32 x | f64 x => simp only [Val.kind] at hk; subst hk; simp at hw
  | false =>
    cases v with
    | null => exact absurd rfl hn
    | bool b =>
      simp only [Val.kind] at hk; subst hk
      cases tk with
      | flba n =>
        simp only [decide_eq_true_eq] at hw
        refine ⟨_, rfl, ?_⟩
        simp only [convertValue, convertNonNull, toBoolean]
        have hp : ∀ c : UInt8, padTo n [c] = c :: List.replicate (n - 1) 0 := by
          intro c; rw [padTo_of_le (by simpa using hw)]; rfl
        cases b <;> simp [hp, isZero, boolByte]
      | _ => cases b <;> exact ⟨_, rfl, by decide⟩
    | i32 x =>
      simp only [Val.kind] at hk; subst hk
      have hx : x < 2 ^ (8 * 4) := by simpa [Val.wf] using hwf
      cases tk <;> first | (simp at hw; done) | skip
      · -- int64
        exact ⟨_, rfl, by simp [convertValue, convertNonNull, toInt32, sext_low 32 64 x (by decide) hx]⟩
      · -- int96
        exact ⟨_, rfl, by simp [convertValue, convertNonNull, toInt32, int32ToInt96_mod x hx]⟩
      · -- double
        exact ⟨_, rfl, by simp [convertValue, convertNonNull, toInt32, int32_double_round_trip x hx]⟩
      · -- byteArray
        exact ⟨_, rfl, by simp [convertValue, convertNonNull, toInt32, leVal_padTo_leBytes hx]⟩
      · -- flba
        exact ⟨_, rfl, by simp [convertValue, convertNonNull, toInt32, leVal_padTo_padTo hx (of_decide_eq_true hw)]⟩
    | i64 x =>
      simp only [Val.kind] at hk; subst hk
      have hx : x < 2 ^ (8 * 8) := by simpa [Val.wf] using hwf
      cases tk <;> first | (simp at hw; done) | skip
      · -- int96; then, as for every numeric source: byteArray, flba
        exact ⟨_, rfl, by simp [convertValue, convertNonNull, toInt64, int64ToInt96_mod x hx]⟩
      · exact ⟨_, rfl, by simp [convertValue, convertNonNull, toInt64, leVal_padTo_leBytes hx]⟩
      · exact ⟨_, rfl, by simp [convertValue, convertNonNull, toInt64, leVal_padTo_padTo hx (of_decide_eq_true hw)]⟩
    | i96 x =>
      simp only [Val.kind] at hk; subst hk
      have hx : x < 2 ^ (8 * 12) := by simpa [Val.wf] using hwf
      cases tk <;> first | (simp at hw; done) | skip
      · exact ⟨_, rfl, by simp [convertValue, convertNonNull, toInt96, leVal_padTo_leBytes hx]⟩
      · exact ⟨_, rfl, by
          simp [convertValue, convertNonNull, toInt96, fitTo_eq_padTo, leVal_padTo_padTo hx (of_decide_eq_true hw)]⟩
    | f32 x =>
      simp only [Val.kind] at hk; subst hk
      have hx : x < 2 ^ (8 * 4) := by simpa [Val.wf] using hwf
      cases tk <;> first | (simp at hw; done) | skip
      · exact ⟨_, rfl, by simp [convertValue, convertNonNull, toFloat, leVal_padTo_leBytes hx]⟩
      · exact ⟨_, rfl, by simp [convertValue, convertNonNull, toFloat, leVal_padTo_padTo hx (of_decide_eq_true hw)]⟩
    | f64 x =>
      simp only [Val.kind] at hk; subst hk
      have hx : x < 2 ^ (8 * 8) := by simpa [Val.wf] using hwf
      cases tk <;> first | (simp at hw; done) | skip
      · exact ⟨_, rfl, by simp [convertValue, convertNonNull, toDouble, leVal_padTo_leBytes hx]⟩
      · exact ⟨_, rfl, by simp [convertValue, convertNonNull, toDouble, leVal_padTo_padTo hx (of_decide_eq_true hw)]⟩
    | bytes b =>
      simp only [Val.kind] at hk; subst hk
      cases tk <;> simp at hw
    | fixed b =>
      simp only [Val.kind] at hk; subst hk
      cases tk <;> try (simp at hw; done)
      exact ⟨_, rfl, by simp [convertValue, convertNonNull, toFixed, fitTo]⟩

example : widens ⟨.int32, false⟩ ⟨.flba 7, false⟩ = true ∧ (Val.i32 0xFFFFFFFF).inTy ⟨.int32, false⟩ = true := by decide

/-- INT64 -> INT32 keeps the low 32 bits (Go `int32(x)`), and the way back restores the value
    exactly when the signed value was in the int32 range (pattern below 2^31, or from 2^64 - 2^31 up). -/
theorem int64_to_int32_wraps (x : Nat) (h : x < 2 ^ 64) :
    convertValue ⟨.int32, false⟩ ⟨.int64, false⟩ (.i64 x) = .ok (.i32 (x % 2 ^ 32)) ∧
    (convertValue ⟨.int64, false⟩ ⟨.int32, false⟩ (.i32 (x % 2 ^ 32)) = .ok (.i64 x) ↔
      (x < 2 ^ 31 ∨ 2 ^ 64 - 2 ^ 31 ≤ x)) := by
  refine ⟨rfl, ?_⟩
  have e : convertValue ⟨.int64, false⟩ ⟨.int32, false⟩ (.i32 (x % 2 ^ 32)) = .ok (.i64 (sext 32 64 (x % 2 ^ 32))) := rfl
  rw [e]
  simp only [Res.ok.injEq, Val.i64.injEq, sext]
  split <;> omega

theorem int64_in_int32_range (x : Nat) (h : x < 2 ^ 64) :
    (x < 2 ^ 31 ∨ 2 ^ 64 - 2 ^ 31 ≤ x) ↔ (-2147483648 ≤ toInt 64 x ∧ toInt 64 x < 2147483648) := by
  unfold toInt
  split <;> simp <;> omega

/-- a byte array read as a fixed-width number: the first bytes, the rest is dropped -/
theorem bytes_to_int32_truncates (b rest : Bytes) (h : b.length = 4) :
    convertValue ⟨.int32, false⟩ ⟨.byteArray, false⟩ (.bytes (b ++ rest)) =
    convertValue ⟨.int32, false⟩ ⟨.byteArray, false⟩ (.bytes b) := by
  simp only [convertValue, convertNonNull, toInt32, padTo]
  rw [List.take_append_of_le_length (by simp; omega), List.take_append_of_le_length (by omega)]
  rw [List.take_append_of_le_length (by omega)]
  simp

theorem narrowing_loses_information :
    -- INT64 -> INT32 -> INT64: 2^32 comes back as 0
    convertValue ⟨.int32, false⟩ ⟨.int64, false⟩ (.i64 (2 ^ 32)) = .ok (.i32 0) ∧
    convertValue ⟨.int64, false⟩ ⟨.int32, false⟩ (.i32 0) = .ok (.i64 0) ∧
    -- INT32 -> BOOLEAN -> INT32: 2 comes back as 1
    convertValue ⟨.boolean, false⟩ ⟨.int32, false⟩ (.i32 2) = .ok (.bool true) ∧
    convertValue ⟨.int32, false⟩ ⟨.boolean, false⟩ (.bool true) = .ok (.i32 1) ∧
    -- INT96 -> INT64 drops the high word
    convertValue ⟨.int64, false⟩ ⟨.int96, false⟩ (.i96 (2 ^ 64 + 7)) = .ok (.i64 7) ∧
    -- BYTE_ARRAY -> FIXED(2): a longer value is cut, a shorter one zero padded
    convertValue ⟨.flba 2, false⟩ ⟨.byteArray, false⟩ (.bytes [1, 2, 3]) = .ok (.fixed [1, 2]) ∧
    convertValue ⟨.flba 2, false⟩ ⟨.byteArray, false⟩ (.bytes [1]) = .ok (.fixed [1, 0]) ∧
    -- FLOAT -> BOOLEAN: -0 is false, NaN is true
    convertValue ⟨.boolean, false⟩ ⟨.float, false⟩ (.f32 0x80000000) = .ok (.bool false) ∧
    convertValue ⟨.boolean, false⟩ ⟨.float, false⟩ (.f32 0x7FC00000) = .ok (.bool true) := by
  decide +kernel

theorem f32to64_normal (x : Nat) (h1 : 1 ≤ x / 2 ^ 23 % 256) (h2 : x / 2 ^ 23 % 256 ≤ 254) :
    f32to64 x = (x / 2 ^ 31) * 2 ^ 63 + (x / 2 ^ 23 % 256 + 896) * 2 ^ 52 + (x % 2 ^ 23) * 2 ^ 29 := by
  have e1 : ¬ x / 2 ^ 23 % 256 = 255 := by omega
  have e2 : ¬ x / 2 ^ 23 % 256 = 0 := by omega
  simp only [f32to64, if_neg e1, if_neg e2]

/- exponent fields 897..1150 = 896 + (1..254): the doubles whose float image is a normal float -/
theorem f64to32_of_fields (s e m : Nat) (_hs : s < 2) (he1 : 897 ≤ e) (he2 : e ≤ 1150) (hm : m < 2 ^ 23) :
    f64to32 (s * 2 ^ 63 + e * 2 ^ 52 + m * 2 ^ 29) = s * 2 ^ 31 + (e - 896) * 2 ^ 23 + m := by
  obtain ⟨f1, f2, f3⟩ := f64_fields (x := s * 2 ^ 63 + e * 2 ^ 52 + m * 2 ^ 29) rfl (by omega) (by omega)
  -- the 52-bit mantissa is the 23-bit one shifted by 29: nothing to round
  have hr : rne (2 ^ 52 + m * 2 ^ 29) 29 = 2 ^ 23 + m := by
    rw [show (2 : Nat) ^ 52 = 2 ^ 23 * 2 ^ 29 from rfl, ← Nat.add_mul]; exact rne_mul _ _
  have e1 : ¬ e = 2047 := by omega
  have e2 : ¬ e = 0 := by omega
  simp only [f64to32, f1, f2, f3, hr, if_neg e1, if_neg e2, if_pos he1]
  omega

/-- FLOAT -> DOUBLE -> FLOAT gives the bit pattern back for every NORMAL float32 (all 2·254·2^23 of
    them), the zeros and the infinities.
    -- OPEN: the subnormal floats (the widening normalises with `Nat.log2`, the narrowing
    -- denormalises through `rne`) and the quiet NaNs; both are compared on the real code and on
    -- the mirror by the sub-check `value` (L1 round trip, L2). A signalling NaN does NOT come back:
    -- `signalling_nan_is_quieted`. -/
theorem float_double_round_trip_partial (x : Nat) (hx : x < 2 ^ 32)
    (h : (1 ≤ x / 2 ^ 23 % 256 ∧ x / 2 ^ 23 % 256 ≤ 254) ∨ x % 2 ^ 31 = 0 ∨ x % 2 ^ 31 = 0x7F800000) :
    ∃ w, convertValue ⟨.double, false⟩ ⟨.float, false⟩ (.f32 x) = .ok (.f64 w) ∧
      convertValue ⟨.float, false⟩ ⟨.double, false⟩ (.f64 w) = .ok (.f32 x) := by
  refine ⟨f32to64 x, rfl, ?_⟩
  have e : convertValue ⟨.float, false⟩ ⟨.double, false⟩ (.f64 (f32to64 x)) = .ok (.f32 (f64to32 (f32to64 x))) := rfl
  rw [e]
  congr 2
  rcases h with ⟨h1, h2⟩ | h0 | hinf
  · rw [f32to64_normal x h1 h2, f64to32_of_fields _ _ _ (by omega) (by omega) (by omega) (by omega)]
    omega
  · have : x = 0 ∨ x = 2 ^ 31 := by omega
    rcases this with rfl | rfl <;> decide
  · have : x = 0x7F800000 ∨ x = 0xFF800000 := by omega
    rcases this with rfl | rfl <;> decide

example : (1 ≤ 0x3F800000 / 2 ^ 23 % 256 ∧ 0x3F800000 / 2 ^ 23 % 256 ≤ 254) := by decide

/-- the hardware conversion quiets a signalling NaN: the payload comes back with bit 22 set -/
theorem signalling_nan_is_quieted :
    convertValue ⟨.double, false⟩ ⟨.float, false⟩ (.f32 0x7F800001) = .ok (.f64 0x7FF8000020000000) ∧
    convertValue ⟨.float, false⟩ ⟨.double, false⟩ (.f64 0x7FF8000020000000) = .ok (.f32 0x7FC00001) := by
  decide +kernel

/-- DOUBLE -> FLOAT rounds (ties to even), overflows to infinity and flushes small values to zero;
    INT64 -> DOUBLE and INT32 -> FLOAT round beyond 53 / 24 significant bits;
    FLOAT/DOUBLE -> INT32/INT64 truncates, and NaN / out-of-range values become the smallest integer
    (amd64). -/
theorem numeric_narrowing_witnesses :
    convertValue ⟨.float, false⟩ ⟨.double, false⟩ (.f64 0x3FF0000010000000) = .ok (.f32 0x3F800000) ∧
    convertValue ⟨.float, false⟩ ⟨.double, false⟩ (.f64 0x3FF0000030000000) = .ok (.f32 0x3F800002) ∧
    convertValue ⟨.float, false⟩ ⟨.double, false⟩ (.f64 0x7FEFFFFFFFFFFFFF) = .ok (.f32 0x7F800000) ∧
    convertValue ⟨.float, false⟩ ⟨.double, false⟩ (.f64 1) = .ok (.f32 0) ∧
    convertValue ⟨.double, false⟩ ⟨.int64, false⟩ (.i64 (2 ^ 53 + 1)) = .ok (.f64 0x4340000000000000) ∧
    convertValue ⟨.float, false⟩ ⟨.int32, false⟩ (.i32 (2 ^ 24 + 1)) = .ok (.f32 0x4B800000) ∧
    convertValue ⟨.int32, false⟩ ⟨.double, false⟩ (.f64 0xBFF8000000000000) = .ok (.i32 0xFFFFFFFF) ∧
    convertValue ⟨.int32, false⟩ ⟨.double, false⟩ (.f64 0x7FF8000000000000) = .ok (.i32 0x80000000) ∧
    convertValue ⟨.int32, false⟩ ⟨.double, false⟩ (.f64 0x41E0000000000000) = .ok (.i32 0x80000000) := by
  decide +kernel

/-! ## defects the mirror shares with the code (each reproduced on the real code by the
    sub-check `value`, which reports them as observations) -/

/-- convertStringToInt96 copies the BIG-endian magnitude `big.Int.Bytes()` into a buffer that is
    read as little-endian words and never looks at the sign: "256" is 1, "-5" is 5
    (INT96 -> STRING -> INT96 is not the identity on the real code). -/
theorem string_to_int96_is_wrong :
    convertValue ⟨.int96, false⟩ ⟨.byteArray, true⟩ (.bytes [50, 53, 54]) = .ok (.i96 1) ∧
    convertValue ⟨.int96, false⟩ ⟨.byteArray, true⟩ (.bytes [45, 53]) = .ok (.i96 5) := by
  decide +kernel

/-- convertStringToFixedLenByteArray: a hex string longer than 2·size panics (index out of range in
    hex.Decode) instead of returning an error; see `hex_decode_encode` for all lengths. -/
theorem string_to_fixed_panics :
    convertValue ⟨.flba 2, false⟩ ⟨.byteArray, true⟩ (.bytes [52, 49, 52, 50, 52, 51]) = .panics := by
  decide +kernel

/-- convertToType runs over the NULL values of an optional column as well: a null becomes a
    non-null zero of the target kind, fails the whole column when the source is a STRING
    (`ParseInt("")`), and panics when the source is INT96 (`makeInt96(nil)`). -/
theorem null_is_converted :
    convertValue ⟨.int64, false⟩ ⟨.int32, false⟩ .null = .ok (.i64 0) ∧
    convertValue ⟨.byteArray, false⟩ ⟨.int32, false⟩ .null = .ok (.bytes [0, 0, 0, 0]) ∧
    convertValue ⟨.int32, false⟩ ⟨.byteArray, true⟩ .null = .invalid ∧
    convertValue ⟨.boolean, false⟩ ⟨.byteArray, true⟩ .null = .invalid ∧
    convertValue ⟨.int64, false⟩ ⟨.int96, false⟩ .null = .panics ∧
    convertValue ⟨.flba 3, false⟩ ⟨.flba 3, false⟩ .null = .ok (.fixed [0, 0, 0]) := by
  decide +kernel

/-- a null stays null only on the `return val` branches -/
theorem null_kept_iff_returns_val (tgt src : Ty) (h : src.kind ≠ .int96) :
    convertValue tgt src .null = .ok .null ↔ returnsVal tgt src = true := by
  constructor
  · intro hc
    cases hr : returnsVal tgt src with
    | true => rfl
    | false =>
      -- not a `return val` branch: the method runs on the zero read from the null, and no method
      -- answers null
      obtain ⟨z, hz⟩ := nullAs_of_ne_int96 h
      simp only [convertValue, hr, hz, Bool.false_eq_true, if_false] at hc
      exact absurd hc (convertNonNull_ne_null tgt src z)
  · intro hr
    simp only [convertValue, hr, if_true]

/-- byteArrayType.ConvertValue hands a FIXED_LEN_BYTE_ARRAY value back as it is: the value in the
    BYTE_ARRAY column still says `Kind() = FIXED_LEN_BYTE_ARRAY`. -/
theorem fixed_to_bytes_keeps_kind (b : Bytes) :
    convertValue ⟨.byteArray, false⟩ ⟨.flba b.length, false⟩ (.fixed b) = .ok (.fixed b) := rfl

end PqModel.ConvValue
