import PqModel.BloomPlace
import PqModel.Props.C07Writer

/-! # C07, placement — every chunk's (BloomFilterOffset, BloomFilterLength) names its own filter, and
the reader, starting from that offset, gives the answers of the filter that was built -/
namespace PqModel.Props.C07Place
open PqModel.XxHash PqModel.Bloom PqModel.BloomWriter PqModel.BloomPlace PqModel.Props.C07 PqModel.Props.C07Writer

/-- the numbers in the footer are those the offsets-only mirror `step` computes (what L2 compares with
    the footers of real files) -/
theorem offsets_are_those_of_step (evs : List EvB) :
    (closed evs).p = run ((evs ++ [EvB.flush]).map EvB.toEv) := by
  unfold closed run
  rw [runB_p]; rfl

/-- PLACEMENT. Whatever the writer writes (pages of any number of row groups, filter sections written
    inline or deferred in any mix, copied or built, of any length, then `writeDeferredBloomFilters` at
    Close and anything after it — page indexes, footer), if no column chunk gets two filters then every
    chunk's recorded offset and length name a region of the final file that holds exactly the section
    written for that chunk. -/
theorem placement_names_own_filter (evs : List EvB) (post : List UInt8)
    (hnd : ((filtersOf evs).map bkey).Nodup) (b : Buffered) (hb : b ∈ filtersOf evs) :
    Names (closed evs).p.tab ((closed evs).out ++ post) b := by
  have inv := InvB.run (evs ++ [EvB.flush]) binit [] InvB.init
    (by simpa [filtersOf_append, filtersOf] using hnd)
  have hp := inv.placed b (by simpa [filtersOf_append, filtersOf] using hb)
  rcases hp with h | h
  · have : (closed evs).bufs = [] := closed_bufs evs
    unfold closed at this
    rw [this] at h; cases h
  · exact h.grow post

/-- two row groups × two columns, first row group inline-free (all deferred), sections of 3, 5, 2, 4 bytes -/
def sampleEvents : List EvB :=
  [.data [80, 65, 82, 49], .filter 0 0 [1, 2, 3] true, .filter 0 1 [4, 5, 6, 7, 8] true, .data [9, 9],
   .filter 1 0 [10, 11] false, .filter 1 1 [12, 13, 14, 15] true]

example : ((filtersOf sampleEvents).map bkey).Nodup := by decide

example : (closed sampleEvents).out = [80, 65, 82, 49, 9, 9, 10, 11, 1, 2, 3, 4, 5, 6, 7, 8, 12, 13, 14, 15] := by decide
example : (closed sampleEvents).p.tab 0 1 = some ⟨11, 5⟩ := by decide

/-- C07-3b (seeded): with the recorded offset never advanced in `writeDeferredBloomFilters`, the second
    deferred filter is recorded at the offset of the first: chunk (0,1) names the bytes of chunk (0,0). -/
theorem deferred_offset_not_advanced_names_another_filter :
    let s := ((sampleEvents ++ [EvB.flush]).map EvB.toEv).foldl stepStuck pinit
    s.tab 0 0 = some ⟨8, 3⟩ ∧ s.tab 0 1 = some ⟨8, 5⟩ ∧ s.tab 1 1 = some ⟨8, 4⟩ ∧
    (run ((sampleEvents ++ [EvB.flush]).map EvB.toEv)).tab 0 1 = some ⟨11, 5⟩ := by
  decide

theorem names_split {m : MetaTab} {file : List UInt8} {b : Buffered} (h : Names m file b) :
    ∃ l pre rest, m b.1 b.2.1 = some l ∧ pre.length = l.off ∧ file = pre ++ (b.2.2 ++ rest) := by
  obtain ⟨l, h1, h2, h3, h4⟩ := h
  refine ⟨l, file.take l.off, file.drop (l.off + l.len), h1, ?_, ?_⟩
  · simp only [List.length_take]; omega
  · unfold fileSection at h4
    rw [← h4, ← List.drop_drop, List.take_append_drop, List.take_append_drop]

/-- the header the writer encodes is read back by the SPEC thrift reader, wherever it lies in the file -/
theorem header_roundtrip (nb : Nat) (gz : Bool) (hnb : nb < 2147483648) (pre rest : List UInt8) :
    parseHeader ⟨(pre ++ (headerBytes nb gz ++ rest)).toArray⟩ pre.length =
      some ((nb, gz), pre.length + (headerBytes nb gz).length) :=
  parseHeader_headerBytes nb gz hnb pre rest

example : headerBytes 96 false = [0x15, 0xC0, 0x01, 0x1C, 0x1C, 0, 0, 0x1C, 0x1C, 0, 0, 0x1C, 0x1C, 0, 0, 0] := by decide
example : headerBytes 96 true = [0x15, 0xC0, 0x01, 0x1C, 0x1C, 0, 0, 0x1C, 0x1C, 0, 0, 0x1C, 0x2C, 0, 0, 0] := by decide

/-- the filter `flushFilterPages` leaves behind, serialised -/
def builtBytes (c : ChunkWrite) : List UInt8 :=
  filterBytes (build ((flushFilter c).1 / 32) ((flushFilter c).2.map UInt64.toBitVec))

/-- END TO END, unencrypted column: the chunk's filter (any build strategy), stored plain or gzip with
    its thrift header, written inline or deferred among any other sections; the reader decodes the
    header at the chunk's `BloomFilterOffset` in the finished file and probes what follows: every value
    written to the chunk is found. Assumed: gzip round trip; the stored filter is below 2 GiB
    (`NumBytes` is an int32). -/
theorem written_value_is_found_in_file (enc : List UInt8 → List UInt8) (dec : List UInt8 → Option (List UInt8))
    (hrt : GzipRoundTrip enc dec) (evs : List EvB) (post : List UInt8)
    (hnd : ((filtersOf evs).map bkey).Nodup) (rg col : Nat) (gz : Bool)
    (c : ChunkWrite) (ok : ChunkOk c) (hb : 1 ≤ c.bits)
    (hsz : (store enc gz (builtBytes c)).numBytes < 2147483648)
    (hev : (rg, col, plainSection (store enc gz (builtBytes c))) ∈ filtersOf evs)
    (v : Value) (hm : v ∈ c.values) :
    ∃ l, (closed evs).p.tab rg col = some l ∧
      (readFilterAt ((closed evs).out ++ post) l.off).bind (fun s => readCheck dec s (hashRead v).toBitVec)
        = some true := by
  obtain ⟨l, pre, rest, h1, h2, h3⟩ := names_split (placement_names_own_filter evs post hnd _ hev)
  refine ⟨l, h1, ?_⟩
  simp only at h3
  rw [h3, ← h2, read_plain_section enc dec gz _ hsz]
  exact written_value_is_found_stored enc dec hrt gz c ok hb v hm

/-- END TO END, encrypted column: header and bitset are two AES-GCM modules (envelopes with a 4-byte
    length); the reader opens both at the chunk's offset, decompresses a gzip bitset eagerly and probes
    it with the length of the decompressed bytes. Assumed: AES-GCM and gzip round trips. -/
theorem written_value_is_found_in_encrypted_file (a : Aead) (aok : AeadOk a)
    (enc : List UInt8 → List UInt8) (dec : List UInt8 → Option (List UInt8))
    (hrt : GzipRoundTrip enc dec) (evs : List EvB) (post : List UInt8)
    (hnd : ((filtersOf evs).map bkey).Nodup) (rg col : Nat) (gz : Bool)
    (c : ChunkWrite) (ok : ChunkOk c) (hb : 1 ≤ c.bits)
    (hsz : (store enc gz (builtBytes c)).numBytes < 2147483648)
    (hev : (rg, col, encSection a rg col (store enc gz (builtBytes c))) ∈ filtersOf evs)
    (v : Value) (hm : v ∈ c.values) :
    ∃ l, (closed evs).p.tab rg col = some l ∧
      readEncCheck a dec rg col ((closed evs).out ++ post) l.off (hashRead v).toBitVec = some true := by
  obtain ⟨l, pre, rest, h1, h2, h3⟩ := names_split (placement_names_own_filter evs post hnd _ hev)
  refine ⟨l, h1, ?_⟩
  simp only at h3
  rw [h3, ← h2, read_enc_section a aok enc dec gz _ hsz]
  exact written_value_is_found_stored enc dec hrt gz c ok hb v hm

/-- toy AEAD: 28 zero bytes after the plaintext -/
def toyAead : Aead :=
  { sealM := fun _ _ _ p => p ++ List.replicate 28 0,
    openM := fun _ _ _ s => some (s.take (s.length - 28)) }

theorem toy_aead_ok : AeadOk toyAead := by
  constructor
  · intro m rg col p
    simp only [toyAead, List.length_append, List.length_replicate, Nat.add_sub_cancel]
    rw [List.take_left' rfl]
  · intro m rg col p; simp [toyAead]

example : AeadOk toyAead := toy_aead_ok

/-- C07-3a (seeded): sizing the gzip branch of `newBloomFilterFromBytes` by `header.NumBytes` is, under
    the round-trip assumptions, probing the decompressed bitset with the COMPRESSED size … -/
theorem enc_gzip_sized_by_numBytes_is_compressed_size_probe (a : Aead) (aok : AeadOk a)
    (enc : List UInt8 → List UInt8) (dec : List UInt8 → Option (List UInt8)) (filter : List UInt8)
    (hsz : (store enc true filter).numBytes < 2147483648) (rg col : Nat) (pre rest : List UInt8) (h : BitVec 64) :
    readEncCheckCompressedSize a dec rg col (pre ++ (encSection a rg col (store enc true filter) ++ rest)) pre.length h
      = readCheckCompressedSize dec (store enc true filter) h := by
  unfold readEncCheckCompressedSize
  rw [read_enc_section_with _ a aok enc dec true _ hsz]
  simp only [readCheckCompressedSize, store, if_true, List.take_length]
  cases dec (enc filter) <;> rfl

/-- … which reports an inserted hash absent (`probing_with_compressed_size_misses`), while the code as
    it is (decompressed length) finds it. -/
theorem enc_gzip_sized_by_numBytes_misses :
    ∃ (a : Aead) (enc : List UInt8 → List UInt8) (dec : List UInt8 → Option (List UInt8)) (n : Nat) (h : BitVec 64),
      AeadOk a ∧ GzipRoundTrip enc dec ∧
      readEncCheck a dec 0 0 (encSection a 0 0 (store enc true (filterBytes (build n [h]))) ++ []) 0 h = some true ∧
      readEncCheckCompressedSize a dec 0 0 (encSection a 0 0 (store enc true (filterBytes (build n [h]))) ++ []) 0 h
        = some false := by
  refine ⟨toyAead, toyEnc, toyDec, 2, 0xC000000000000001#64, toy_aead_ok, toy_roundtrip, ?_, ?_⟩
  · have := read_enc_section_with (fun _ d => d.length) toyAead toy_aead_ok toyEnc toyDec true
      (filterBytes (build 2 [0xC000000000000001#64])) (by decide) 0 0 [] [] 0xC000000000000001#64
    simp only [List.nil_append, List.length_nil] at this
    unfold readEncCheck
    rw [this]
    decide
  · have := enc_gzip_sized_by_numBytes_is_compressed_size_probe toyAead toy_aead_ok toyEnc toyDec
      (filterBytes (build 2 [0xC000000000000001#64])) (by decide) 0 0 [] [] 0xC000000000000001#64
    simp only [List.nil_append, List.length_nil] at this
    rw [this]
    decide

end PqModel.Props.C07Place
