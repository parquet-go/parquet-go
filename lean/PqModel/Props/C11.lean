import PqModel.CopyPathProofs

/-! # C11 — Row-group copy and re-encode fast paths are indistinguishable from the row path

Mirror: `choosePathV`, `plan`, `pack`, `copyable`, `columnChunkIsCopyable`, … (`PqModel/CopyPath.lean`,
transliterating writer.go:549-597, writer_copy.go, writer_reencode.go) in the variants `.asIs` (the library
before the two repairs reported under C11) and `.repaired`; at the end `PackSeg` / `presizeTotal`, MIRROR of
`configureBloomFiltersForSegments` for one column.
Spec: `Conforms` (= `ConformsCore` ∧ `ConformsStats`), `RG.rowsOf` on leaves, `WellFormed`, `Step.out`.
A bare `example` shows that the hypotheses of the theorem before it can be met, or runs the mirror once. -/
namespace PqModel.Props.C11
open PqModel.CopyPath
variable {α : Type}

/-- What is assumed of a source row group backed by a file: its `EncodingStats` describe its pages
    and the chunk metadata carry the row group's row count. -/
structure SourceFaithful (rg : RG α) : Prop where
  stats : ∀ m ∈ fileMetas rg.chunks, EncStatsFaithful m
  rows  : ∀ m ∈ fileMetas rg.chunks, m.rows = rg.numRows

/-- every destination column is paired with a file chunk whose copy satisfies `P` -/
abbrev EveryColumn (g : DstCfg) (rg : RG α) (P : DstCol → ChunkMeta → Prop) : Prop :=
  Forall2 (fun d ch => ∃ m, ch = Chunk.file m ∧ P d (copied d m)) g.cols rg.chunks

/-- REPAIRED mirror: when `WriteRowGroup` splices a row group verbatim, every output chunk is what
    the row path would have produced under the destination's settings at the metadata level:
    codec, data page version and encoding of every page, dictionary presence, bloom filter
    presence/algorithm/size, row count within `MaxRowsPerRowGroup`, no encryption — AND the
    statistics settings (page-header statistics iff `DataPageStatistics`, column-index values within
    `ColumnIndexSizeLimit`, a column index and chunk bounds iff not `SkipPageBounds`, deprecated
    min/max iff configured). -/
theorem verbatim_conforms (g : DstCfg) (rg : RG α)
    (h : choosePathV .repaired g rg = .verbatim) (hs : SourceFaithful rg) :
    EveryColumn g rg (Conforms g) := by
  obtain ⟨henc, hmax, hall⟩ := copyable_parts (verbatim_copyable h)
  refine allCopyable_every (g := g) (Conforms g) ?_ g.cols rg.chunks hall ?_
  · intro d m hc hf hr
    exact ⟨copyable_col_core hc henc hr hf, copyable_col_stats hc⟩
  · intro m hm
    exact ⟨hs.stats m hm, by rw [hs.rows m hm]; exact hmax⟩

/-- AS-IS mirror, everything except the statistics conjunct (holds for both variants). -/
theorem verbatim_conforms_partial (v : Variant) (g : DstCfg) (rg : RG α)
    (h : choosePathV v g rg = .verbatim) (hs : SourceFaithful rg) :
    EveryColumn g rg (ConformsCore g) := by
  obtain ⟨henc, hmax, hall⟩ := copyable_parts (verbatim_copyable h)
  refine allCopyable_every (g := g) (ConformsCore g) ?_ g.cols rg.chunks hall ?_
  · intro d m hc hf hr
    exact copyable_col_core hc henc hr hf
  · intro m hm
    exact ⟨hs.stats m hm, by rw [hs.rows m hm]; exact hmax⟩

/-! ### F9: the as-is predicate does not look at the statistics settings -/

/-- source: BYTE_ARRAY column, DELTA_LENGTH_BYTE_ARRAY v2 pages with header statistics, column index
    values of 33 bytes (written with `ColumnIndexSizeLimit` 64) -/
def f9Source : ChunkMeta :=
  { type := 6, codec := 0, encStats := [⟨3, 6, 1⟩], columnIndexOffset := 100, offsetIndexOffset := 200,
    bloomOffset := 0, bloomLength := 0, bloomHeader := none, encrypted := false, numValues := 100,
    nullCount := 0, rows := 100, hasDictPage := false,
    pages := [⟨3, 6, true, false, 0, 33, 33⟩], hasMinMax := true, hasDeprecated := false }

/-- destination: same column, `DataPageStatistics(false)`, `ColumnIndexSizeLimit` 8 -/
def f9Col : DstCol :=
  { kind := 6, codec := 0, encoding := 6, dict := false, pageType := 3, filterBpv := none,
    filterCompressed := false, encrypted := false, pageStats := false, pageBounds := true,
    deprecatedStats := false, indexLimit := 8 }

def f9Dst : DstCfg :=
  { disableCopy := false, disableReencode := false, encrypting := false, maxRows := 1000, cols := [f9Col] }

def f9RowGroup : RG Unit := .leaf .file 100 [.file f9Source] [] []

theorem f9_sourceFaithful : SourceFaithful f9RowGroup := ⟨by decide, by decide⟩

/-- NEGATION WITNESS (F9): on the unchanged library the cascade splices the source verbatim
    although the output then carries page-header statistics the destination disabled (and
    33-byte column-index values under a limit of 8). -/
theorem verbatim_conforms_fails_asIs :
    choosePathV .asIs f9Dst f9RowGroup = .verbatim ∧ SourceFaithful f9RowGroup ∧
    ¬ EveryColumn f9Dst f9RowGroup (Conforms f9Dst) := by
  refine ⟨by decide, f9_sourceFaithful, ?_⟩
  intro h
  cases h with
  | cons hR _ =>
    obtain ⟨m, hm, hc⟩ := hR
    cases hm
    have := hc.2.pageStats ⟨3, 6, true, false, 0, 33, 33⟩ (by simp [copied, f9Col, f9Source])
    simp [f9Col] at this

/-- the same witness also breaks the `ColumnIndexSizeLimit` conjunct -/
theorem verbatim_asIs_ignores_index_limit :
    ¬ ConformsStats f9Col (copied f9Col f9Source) := by
  intro h
  have := h.indexLimit (by decide) ⟨3, 6, true, false, 0, 33, 33⟩ (by simp [copied, f9Col, f9Source])
  simp [f9Col] at this

/-- the repaired cascade demotes the F9 witness to the column-oriented re-encode path -/
theorem f9_repaired_demotes : choosePathV .repaired f9Dst f9RowGroup = .reencode := by decide +kernel

/-- `f9Source` written under the destination's own settings: still spliced by the repaired cascade -/
def okSource : ChunkMeta :=
  { f9Source with pages := [⟨3, 6, false, false, 0, 8, 8⟩] }
example : choosePathV .repaired f9Dst (.leaf .file 100 [.file okSource] ([] : List Unit) []) = .verbatim := by
  decide +kernel

/-- A row group type that does not carry the package-private transparency marker and does not
    offer at least two ordered segments always takes the row path, whatever the destination and
    the chunks look like: dedup, converted and foreign row groups, heap merges, deduplicating
    sorted merges. -/
theorem wrappers_never_bypassed (v : Variant) (g : DstCfg) (rg : RG α)
    (ht : chunkTransparent rg = false) (hs : ((segmentsOf rg).getD []).length ≤ 1) :
    choosePathV v g rg = .rows := by
  have h1 : splittable v g rg = none := splittable_opaque hs
  have h2 : copyable v g rg = false := by
    unfold copyable
    simp [ht]
  have h3 : reencodable g rg = false := by
    unfold reencodable columnOrientedRG
    simp [ht]
  simp [choosePathV, h1, h2, h3]

theorem wrapper_kinds_take_rows (v : Variant) (g : DstCfg) (k : LeafKind) (n : Nat) (cs : List Chunk)
    (cr r : List α) (hk : k = .dedup ∨ k = .converted ∨ k = .foreign ∨ k = .merged ∨ k = .sortedDedup ∨ k = .other) :
    choosePathV v g (.leaf k n cs cr r) = .rows := by
  apply wrappers_never_bypassed
  · rcases hk with rfl | rfl | rfl | rfl | rfl | rfl <;> rfl
  · rcases hk with rfl | rfl | rfl | rfl | rfl | rfl <;> simp [segmentsOf]

example : choosePathV .asIs f9Dst (.leaf .dedup 100 [.file okSource] ([] : List Unit) []) = .rows := by decide +kernel

/-- Through the whole recursion of `WriteRowGroup` over segmented row groups: only row groups
    carrying the marker are ever spliced or re-encoded column-wise, and every such output row
    group respects `MaxRowsPerRowGroup`. -/
theorem fast_steps_transparent_and_bounded (v : Variant) (g : DstCfg) :
    ∀ (fuel : Nat) (rg : RG α) (s : Step α), s ∈ plan v g fuel rg →
      match s with
      | .verbatim r => chunkTransparent r = true ∧ r.numRows ≤ g.maxRows
      | .reencode rs => (∀ r ∈ rs, chunkTransparent r = true) ∧ numRowsL rs ≤ g.maxRows
      | .rows _ => True := by
  intro fuel rg s hs
  have h := plan_steps v g fuel rg s hs
  cases s with
  | verbatim r => exact ⟨copyable_transparent h, (copyable_parts h).2.1⟩
  | reencode rs => exact ⟨fun r hr => columnOriented_transparent (h.1 r hr), h.2⟩
  | rows _ => trivial

/-- `writeSegmentsPacked` cuts the segments into consecutive batches: concatenating the batches
    gives back the segments in order (nothing dropped, duplicated or reordered). -/
theorem segments_order (g : DstCfg) (segs : List (RG α)) :
    (pack g segs).flatMap Batch.members = segs :=
  pack_members g segs

/-- MAIN: whatever path the cascade takes at every level of a (nested) segmented row group —
    splice, column-wise re-encode, packing of several segments, or the row path — the rows stored,
    in order, are exactly the rows `Rows()` yields. Wrapper row groups are unconstrained here
    (`WellFormed` only speaks about the library's own marker types), so their `Rows()` semantics
    are preserved; the disable switches are part of `g` and universally quantified. For the
    repaired library (`v = .repaired`) there is no condition on `MultiRowGroup` children; for the
    library as it was, `WellFormed .asIs` demands that they read their chunks in order. -/
theorem write_equals_rows (v : Variant) (g : DstCfg) :
    ∀ (fuel : Nat) (rg : RG α), WellFormed v rg → outputOf v (plan v g fuel rg) = rg.rowsOf v := by
  intro fuel rg
  -- cases of `plan`: no fuel; segments; copy; re-encode; row path
  fun_induction plan v g fuel rg with
  | case1 => intro _; simp [outputOf, Step.out]
  | case2 fuel rg segs hsp ih =>
    intro hw
    obtain ⟨k, rfl⟩ := splittable_segments hsp
    obtain ⟨hchildren, hrows⟩ := wellFormed_seg hw
    rw [outputOf_batches v _ (pack g segs), pack_members, hrows]
    intro b hb
    cases b with
    | single s =>
      simp only [Batch.members, List.flatMap_cons, List.flatMap_nil, List.append_nil]
      exact ih s (hchildren s (mem_pack_mem hb (by simp [Batch.members])))
    | packed ss =>
      obtain ⟨ho, _, _⟩ := pack_packed g segs ss hb
      simp only [Batch.members, outputOf, List.flatMap_cons, List.flatMap_nil, List.append_nil, Step.out,
        chunkRowsL_eq]
      apply ListFacts.flatMap_congr
      intro s hs
      exact (transparent_rows (columnOriented_transparent (ho s hs))
        (hchildren s (mem_pack_mem hb (by simpa [Batch.members] using hs)))).symm
  | case3 fuel rg _ hc =>
    intro hw
    simp [outputOf, Step.out, transparent_rows (copyable_transparent hc) hw]
  | case4 fuel rg _ _ hr =>
    intro hw
    simp [outputOf, Step.out, chunkRowsL,
      transparent_rows (columnOriented_transparent (reencodable_columnOriented hr)) hw]
  | case5 => intro _; simp [outputOf, Step.out]

-- a sorted merge of a dedup wrapper (rows 1,2 out of chunk rows 1,1,2) and a file row group: the wrapper
-- goes through the row path, the file is spliced
def exDst : DstCfg := { f9Dst with cols := [{ f9Col with pageStats := true, indexLimit := 64 }] }
def exMerge : RG Nat :=
  .seg .sorted [.leaf .dedup 3 [.file f9Source] [1, 1, 2] [1, 2], .leaf .file 2 [.file f9Source] [5, 6] [5, 6]]
example : WellFormed .repaired exMerge := by simp [exMerge, WellFormed, WellFormedL, LeafKind.marker]
example : outputOf .repaired (plan .repaired exDst 2 exMerge) = [1, 2, 5, 6] := by decide +kernel
example : copyCount (plan .repaired exDst 2 exMerge) = 1 ∧ reencodeCount (plan .repaired exDst 2 exMerge) = 0 := by
  decide +kernel

/-- a `MultiRowGroup` whose first child is a dedup wrapper (chunk rows 1,1,2, `Rows()` 1,2) -/
def exMultiWrapper : RG Nat :=
  .seg .multi [.leaf .dedup 3 [.file f9Source] [1, 1, 2] [1, 2], .leaf .file 2 [.file f9Source] [5, 6] [5, 6]]

/-- NEGATION WITNESS: on the unchanged library `multiRowGroup.Rows()` reads the
    children's column chunks (3 rows of the dedup wrapper) while the segment path of
    `WriteRowGroup` writes the wrapper through its own `Rows()` (2 rows): the file does not hold
    the rows of `Rows()`; with both fast paths disabled it does. The `WellFormed .asIs` hypothesis
    of `write_equals_rows` on `MultiRowGroup` children is therefore needed for that version. -/
theorem multi_over_wrapper_diverges :
    outputOf .asIs (plan .asIs exDst 2 exMultiWrapper) = [1, 2, 5, 6] ∧
    exMultiWrapper.rowsOf .asIs = [1, 1, 2, 5, 6] ∧
    outputOf .asIs (plan .asIs { exDst with disableCopy := true, disableReencode := true } 2 exMultiWrapper)
      = [1, 1, 2, 5, 6] := by
  decide +kernel

/-- the repaired `multiRowGroup.Rows()` agrees with what `WriteRowGroup` stores -/
example : WellFormed .repaired exMultiWrapper ∧
    outputOf .repaired (plan .repaired exDst 2 exMultiWrapper) = exMultiWrapper.rowsOf .repaired := by
  refine ⟨by simp [exMultiWrapper, WellFormed, WellFormedL, LeafKind.marker], by decide⟩

/-- with both switches on, `WriteRowGroup` is the row path -/
theorem disabled_is_row_path (v : Variant) (g : DstCfg) (h1 : g.disableCopy = true)
    (h2 : g.disableReencode = true) (fuel : Nat) (rg : RG α) : plan v g fuel rg = [.rows rg] := by
  cases fuel with
  | zero => rfl
  | succ f =>
    simp [plan, splittable_disabled h1 h2, copyable, reencodable, h1, h2]

/-- the fuel of `plan` only has to exceed the nesting depth of segmented row groups -/
theorem plan_fuel_irrelevant (v : Variant) (g : DstCfg) :
    ∀ (f f' : Nat) (rg : RG α), rg.depth < f → rg.depth < f' → plan v g f rg = plan v g f' rg := by
  intro f
  induction f with
  | zero => intro _ _ h _; cases h
  | succ f ih =>
    intro f' rg h h'
    cases f' with
    | zero => cases h'
    | succ f' =>
    simp only [plan]
    split
    · rename_i segs hsp
      obtain ⟨k, rfl⟩ := splittable_segments hsp
      apply ListFacts.flatMap_congr
      intro b hb
      cases b with
      | packed ss => rfl
      | single s =>
        have hs : s ∈ segs := mem_pack_mem hb (by simp [Batch.members])
        have := depth_le_of_mem hs
        simp only [RG.depth] at h h'
        exact ih f' s (by omega) (by omega)
    · rfl

/-! ### The pre-sized bloom filter of a packed row group

One column of `packSegmentsByColumn`: a segment is `(chunk.NumValues(), chunkNumValuesIsExact(chunk),
values the segment really yields)`. MIRROR `configureBloomFiltersForSegments`
(writer_reencode.go:177-193): `some total` = `resizeBloomFilter(total)`, `none` = the filter stays
unallocated and `flushFilterPages` sizes it from the values written. -/

structure PackSeg where
  numValues : Nat   -- `chunk.NumValues()` (an upper bound for row-range views of repeated columns)
  exact     : Bool  -- `chunkNumValuesIsExact(chunk)`
  written   : Nat   -- the values `copyColumnValues` hands to the column writer

def presizeTotal (segs : List PackSeg) : Option Nat :=
  if segs.all (·.exact) then some ((segs.map (·.numValues)).sum) else none

/-- a wrong variant of `presizeTotal` (`exact = chunkNumValuesIsExact(chunk)` in place of `exact = exact && …`:
    the last segment alone decides), refuted below -/
def presizeTotalLastOnly (segs : List PackSeg) : Option Nat :=
  if (segs.getLast?.map (·.exact)).getD true then some ((segs.map (·.numValues)).sum) else none

/-- SPEC side: a chunk announced exact yields exactly the values it announces -/
def PackSeg.Honest (s : PackSeg) : Prop := s.exact = true → s.written = s.numValues

/-- a packed row group is pre-sized only for the number of values it is going to hold (so the filter gets
    the size the bits-per-value setting prescribes for that many values) -/
theorem presize_is_values_written (segs : List PackSeg) (h : ∀ s ∈ segs, s.Honest) (t : Nat)
    (ht : presizeTotal segs = some t) : t = (segs.map (·.written)).sum := by
  unfold presizeTotal at ht
  split at ht
  · rename_i hall
    injection ht with ht
    subst ht
    induction segs with
    | nil => rfl
    | cons s rest ih =>
      simp only [List.all_cons, Bool.and_eq_true] at hall
      have hs := h s (by simp) hall.1
      simp only [List.map_cons, List.sum_cons]
      rw [ih (fun x hx => h x (by simp [hx])) hall.2, hs]
  · cases ht

example : presizeTotal [⟨7, true, 7⟩, ⟨5, true, 5⟩] = some 12 ∧ ∀ s ∈ [(⟨7, true, 7⟩ : PackSeg), ⟨5, true, 5⟩], s.Honest := by
  refine ⟨by decide, ?_⟩
  intro s hs
  simp at hs
  rcases hs with rfl | rfl <;> intro _ <;> rfl

/-- the wrong variant is refuted: a range view (12000 announced, 5856 yielded) followed by a whole row group of
    12000 values is pre-sized for 24000 values, 30016 bytes where 10 bits per value prescribe 22336 -/
theorem presize_last_only_oversizes :
    let segs : List PackSeg := [⟨12000, false, 5856⟩, ⟨12000, true, 12000⟩]
    presizeTotal segs = none ∧ presizeTotalLastOnly segs = some 24000 ∧
      bloomSize 10 24000 = 30016 ∧ bloomSize 10 ((segs.map (·.written)).sum) = 22336 := by decide +kernel

end PqModel.Props.C11
