import PqModel.IoFaultSrc
import PqModel.IoFaultRead

/-! # C14 — I/O failures and truncated files are always reported, never silently absorbed

Writer side: theorems about the MIRROR `runCalls` (write plan → offsetTrackingWriter → optional
bufio.Writer → sink) for **every** conforming sink (any deterministic state machine obeying the
`io.Writer` contract), hence for every failure offset, full or short, sticky or not.
The copy site of the verbatim column-chunk path over a failing source (`copySection`).
Reader side: the trailer checks of `OpenFile`, the `readAt` wrapper, the two-way merge reader over failing sources and
the lazy bloom probe (models in `OpenTrailer` and `IoFaultRead`). -/
namespace PqModel.Props.C14
open PqModel.IoFault

/-- the hypothesis on the site table: every site a plan goes through hands its error to the
function's return (`FactsCheckC14.sites_propagate` re-checks this on the extracted table) -/
def Propagates (table : String → Bool) (calls : List (List Op)) : Prop :=
  ∀ c ∈ calls, ∀ op ∈ c, table op.site = true ∨ ∃ id p, op = Op.store id p

/-- Buffered writer: a transfer that reports an error has set the bufio error; once
it is set every later Write / WriteString / ReadFrom / Flush through the buffer fails and changes
nothing, no later call of any history moves another byte, and a `Close` (any plan ending with
`w.buffer.Flush()` returned to the caller) returns non-nil. -/
theorem sticky {σ} (m : SinkM σ) (hm : Conforming m) (table : String → Bool) (w : W σ) :
    (∀ op, w.u.bw.isSome = true → (execOp m w op).2 = true → (execOp m w op).1.u.berr = true) ∧
    (w.u.berr = true →
      (∀ p, (uWrite m w.u p).2.err = true ∧ (uWrite m w.u p).1 = w.u) ∧
      (∀ p, (uWriteString m w.u p).2.err = true ∧ (uWriteString m w.u p).1 = w.u) ∧
      (∀ src, (uReadFrom m w.u src).2.err = true ∧ (uReadFrom m w.u src).1 = w.u) ∧
      ((uFlush m w.u).2.err = true ∧ (uFlush m w.u).1 = w.u) ∧
      (∀ calls, (runCalls m table w calls).1.u = w.u) ∧
      (∀ pre s, table s = true → (execCall m table w (pre ++ [Op.flushBuf s])).2 = true)) := by
  refine ⟨fun op hbuf he => (execOp_ok m hm w op).1.errOut he hbuf, fun hb => ⟨?_, ?_, ?_, ?_, ?_, ?_⟩⟩
  · exact fun p => ⟨uWrite_sticky m hm w.u p hb, (uWrite_ok m hm w.u p).mono hb⟩
  · exact fun p => ⟨uWriteString_sticky m w.u p hb, (uWriteString_ok m hm w.u p).mono hb⟩
  · exact fun src => ⟨uReadFrom_sticky m w.u src hb, (uReadFrom_ok m hm w.u src).mono hb⟩
  · exact ⟨(uFlush_ok m w.u).2.2 hb, (uFlush_ok m w.u).1.mono hb⟩
  · exact fun calls => (runCalls_ok hm table calls w).mono hb
  · exact fun pre s hs => close_sticky m hm table w pre s hs hb

/-- satisfiable: a 4-byte buffer over a sink that cannot store byte 5; the second write fails, the
third fails without touching the sink, Close fails -/
example :
    (runCalls (faultSink ⟨some 5, true, false, false⟩) (fun _ => true) (initW false (some 4))
      [[Op.write "a" [1, 2, 3]], [Op.write "b" [4, 5, 6, 7, 8, 9]], [Op.write "c" [8]],
       closeSeq magicPAR1 [] [] [[9]] "close"]).2 = [false, true, true, true] := by decide +kernel

/-- For every conforming sink, every history of calls that ends with a
`Close`-shaped call (a plan ending with `w.buffer.Flush()`), buffered or not: if every site of
the plan propagates its error and every call returned nil, the sink holds exactly the bytes of
the complete file, in order. -/
theorem no_silent_loss {σ} (m : SinkM σ) (hm : Conforming m) (table : String → Bool) (s0 : σ)
    (cap : Option Nat) (calls : List (List Op)) (pre : List Op) (fs : String)
    (hprop : Propagates table (calls ++ [pre ++ [Op.flushBuf fs]]))
    (hnil : ∀ r ∈ (runCalls m table (initW s0 cap) (calls ++ [pre ++ [Op.flushBuf fs]])).2, r = false) :
    (runCalls m table (initW s0 cap) (calls ++ [pre ++ [Op.flushBuf fs]])).1.u.sk.held
      = planBytes (calls ++ [pre ++ [Op.flushBuf fs]]) := by
  have hg := (runCalls_ok hm table _ (initW s0 cap)).clean
    (fun op ho => by obtain ⟨c, hc, hoc⟩ := List.mem_flatten.1 ho; exact hprop c hc op hoc) hnil
  have hfs : table fs = true := by
    cases hprop (pre ++ [Op.flushBuf fs]) (by simp) (Op.flushBuf fs) (by simp) with
    | inl h => exact h
    | inr h => obtain ⟨_, _, h⟩ := h; cases h
  rw [runCalls_append] at hnil hg ⊢
  simp only [runCalls, List.mem_append, List.mem_singleton] at hnil hg ⊢
  have hc := close_flushes m table _ pre fs hfs (hnil _ (Or.inr rfl))
  rw [← hc.2.1, hg.1]
  simp [initW, Under.deliv, planBytes, Sk.held]
  cases cap <;> simp

/-- `no_silent_loss` in the form of the fault enumeration: the sink cannot store byte `k` of a
file of `total > k` bytes (failing fully or with a short count, sticky or not) ⇒ some call of the
history returns an error. (For the transient `oneshot` sinks, which go on to accept later writes,
the statement to use is `no_silent_loss` itself: it holds for every conforming sink, so with
them too "every call nil ⇒ the sink holds the complete file".) -/
theorem no_silent_loss_fault (f : Fault) (k : Nat) (hk : f.k = some k) (hone : f.oneshot = false)
    (table : String → Bool)
    (cap : Option Nat) (calls : List (List Op)) (pre : List Op) (fs : String)
    (hprop : Propagates table (calls ++ [pre ++ [Op.flushBuf fs]]))
    (htotal : k < (planBytes (calls ++ [pre ++ [Op.flushBuf fs]])).length) :
    ∃ r ∈ (runCalls (faultSink f) table (initW false cap) (calls ++ [pre ++ [Op.flushBuf fs]])).2, r = true := by
  refine Classical.byContradiction fun hno => ?_
  have hnil : ∀ r ∈ (runCalls (faultSink f) table (initW false cap) (calls ++ [pre ++ [Op.flushBuf fs]])).2,
      r = false := by
    intro r hr
    cases r with
    | false => rfl
    | true => exact absurd ⟨true, hr, rfl⟩ hno
  have h := no_silent_loss (faultSink f) (faultSink_conforming f) table false cap calls pre fs hprop hnil
  have hr := (runCalls_ok (faultSink_conforming f) table (calls ++ [pre ++ [Op.flushBuf fs]]) (initW false cap)).reach
  have hb := faultSink_bound f k hk hone hr (by simp [initW, Sk.held]) (by simp [initW, Sk.held])
  rw [h] at hb
  omega

/-- satisfiable, and the hypothesis matters: with a site that drops its error (`table` false for
"drop"), an unbuffered writer over a full disk closes with nil and a file without its data -/
example :
    let r := runCalls (faultSink ⟨some 6, false, false, false⟩) (fun s => s != "drop") (initW false none)
      [[Op.write "drop" [1, 2, 3, 4, 5, 6, 7, 8]], closeSeq magicPAR1 [] [] [[9]] "close"]
    r.2 = [false, false] ∧ r.1.u.sk.held = [0x50, 0x41, 0x52, 0x31, 9] := by decide +kernel

/-- Close = nil ⇒ complete, for the buffered writer, *without* any hypothesis on the sites other than
that `close` returns the result of its final `w.buffer.Flush()`: if the last call of the history
is a `Close` that returns nil, then every earlier call returned nil too and the sink holds exactly
the bytes of the complete file. (The sticky error makes dropped errors resurface at Close.) -/
theorem close_nil_complete_buffered {σ} (m : SinkM σ) (hm : Conforming m) (table : String → Bool)
    (s0 : σ) (c : Nat) (calls : List (List Op)) (pre : List Op) (fs : String) (hfs : table fs = true)
    (hclose : (execCall m table (runCalls m table (initW s0 (some c)) calls).1 (pre ++ [Op.flushBuf fs])).2 = false) :
    (∀ r ∈ (runCalls m table (initW s0 (some c)) (calls ++ [pre ++ [Op.flushBuf fs]])).2, r = false) ∧
    (runCalls m table (initW s0 (some c)) (calls ++ [pre ++ [Op.flushBuf fs]])).1.u.sk.held
      = planBytes (calls ++ [pre ++ [Op.flushBuf fs]]) := by
  have hc := close_flushes m table _ pre fs hfs hclose
  have hfin : (runCalls m table (initW s0 (some c)) (calls ++ [pre ++ [Op.flushBuf fs]])).1
      = (execCall m table (runCalls m table (initW s0 (some c)) calls).1 (pre ++ [Op.flushBuf fs])).1 := by
    rw [runCalls_append]; simp [runCalls]
  have hb := (runCalls_ok hm table (calls ++ [pre ++ [Op.flushBuf fs]]) (initW s0 (some c))).buffered
    (by simp [initW]) (by rw [hfin]; exact hc.2.2)
  refine ⟨hb.1, ?_⟩
  rw [hfin, ← hc.2.1, ← hfin, hb.2.1]
  simp [initW, Under.deliv, planBytes, Sk.held]

/-- satisfiable: the same dropped error as above, but buffered: Close reports it -/
example :
    (runCalls (faultSink ⟨some 6, false, false, false⟩) (fun s => s != "drop") (initW false (some 4))
      [[Op.write "drop" [1, 2, 3, 4, 5, 6, 7, 8]], closeSeq magicPAR1 [] [] [[9]] "close"]).2
      = [false, true] := by decide +kernel

/-- the transient (`oneshot`) sinks are conforming writers, so `no_silent_loss` and
`close_nil_complete_buffered` apply to them as they stand -/
theorem oneshot_covered (k : Nat) (short : Bool) : Conforming (faultSink ⟨some k, short, false, true⟩) :=
  faultSink_conforming _

/-- why the hypothesis on the sites matters for a transient failure (the shape of a loop that
keeps one `err` across deferred bloom filters and returns the last): two stores drained at a site
that drops its error, unbuffered, the sink fails once on the first drain and then recovers —
every call returns nil and the file has a hole; with the site propagating, Close reports. -/
example :
    let plan := [[Op.store 0 [1, 2, 3], Op.store 1 [4, 5, 6]],
      closeSeq magicPAR1 [] [] [] "close" ++ [Op.drain "drop" 0 (some 8), Op.drain "drop" 1 (some 8),
        Op.write "footer" [9], Op.flushBuf "close"]]
    let bad := runCalls (faultSink ⟨some 5, false, false, true⟩) (fun s => s != "drop") (initW false none) plan
    let good := runCalls (faultSink ⟨some 5, false, false, true⟩) (fun _ => true) (initW false none) plan
    bad.2 = [false, false] ∧ bad.1.u.sk.held = [0x50, 0x41, 0x52, 0x31, 4, 5, 6, 9] ∧
      good.2 = [false, true] := by decide +kernel

/-- the call-indexed sinks (the `i`-th `Write` call of the destination fails whatever it is
offered; transient or sticky, whole or half accepted) are conforming writers -/
theorem call_faults_covered (f : CallFault) : Conforming (callSink f) := callSink_conforming f

/-- `no_silent_loss` for fault points per call: whichever `Write` call of the destination fails
(a one-byte write of the thrift encoder straight to an unbuffered destination included), if every
site of the plan propagates and every API call returned nil, the destination holds exactly the
bytes of the complete file. -/
theorem no_silent_loss_call (f : CallFault) (table : String → Bool) (cap : Option Nat)
    (calls : List (List Op)) (pre : List Op) (fs : String)
    (hprop : Propagates table (calls ++ [pre ++ [Op.flushBuf fs]]))
    (hnil : ∀ r ∈ (runCalls (callSink f) table (initW (0, false) cap) (calls ++ [pre ++ [Op.flushBuf fs]])).2,
      r = false) :
    (runCalls (callSink f) table (initW (0, false) cap) (calls ++ [pre ++ [Op.flushBuf fs]])).1.u.sk.held
      = planBytes (calls ++ [pre ++ [Op.flushBuf fs]]) :=
  no_silent_loss (callSink f) (callSink_conforming f) table (0, false) cap calls pre fs hprop hnil

/-- satisfiable, and the shape of a long-form thrift list header (`0xF0|type`, then the size as a
varint) whose first one-byte write drops its error (the change kept under /verif/seeded/C14-3b): unbuffered, the
destination rejects exactly that call and accepts the next ones — every call returns nil and the
file lacks the byte; with the site propagating the call reports; buffered, Close reports anyway. -/
example :
    let plan := [[Op.write "drop" [0xF9], Op.write "size" [0x0F]], closeSeq magicPAR1 [] [] [[9]] "close"]
    let bad := runCalls (callSink ⟨0, false, false⟩) (fun s => s != "drop") (initW (0, false) none) plan
    let good := runCalls (callSink ⟨0, false, false⟩) (fun _ => true) (initW (0, false) none) plan
    let buffered := runCalls (callSink ⟨0, false, false⟩) (fun s => s != "drop") (initW (0, false) (some 4)) plan
    bad.2 = [false, false] ∧ bad.1.u.sk.held = [0x0F, 9] ∧ good.2 = [true, false] ∧
      buffered.2 = [false, true] := by decide +kernel

/-- The copy site of the verbatim column-chunk path
(`offsetTrackingWriter.copySection`, with its `n != length` check), for every conforming
destination, buffered or not, and every behaviour of the source (complete; ending early with
io.EOF after any number of bytes; failing with another error): a nil result means the chain has
accepted exactly the bytes of the section and the offset advanced by its length — the effect of
the fault-free plan operation `Op.readFrom`. -/
theorem copy_nil_complete {σ} (m : SinkM σ) (hm : Conforming m) (w : W σ) (data : Bytes)
    (f : Option SrcFault) (s : String) (h : (copySection m true w data f).2 = false) :
    Good w (copySection m true w data f).1 [Op.readFrom s data] := by
  obtain ⟨j, hj, hd, _⟩ := srcDelivered_prefix data f
  have hp := uReadFrom_ok m hm w.u (srcDelivered data f).1
  simp only [copySection, Bool.or_eq_false_iff, Bool.true_and,
    decide_eq_false_iff_not, Decidable.not_not] at h
  obtain ⟨⟨he, _⟩, hn⟩ := h
  have hfull := hp.full he
  have hlen : (srcDelivered data f).1.length = data.length := by rw [← hfull]; exact hn
  have hall : (srcDelivered data f).1 = data := by
    rw [hd] at hlen ⊢
    simp only [List.length_take] at hlen
    rw [List.take_of_length_le (by omega)]
  refine ⟨?_, ?_, ?_⟩
  · simp only [copySection, W.track, ideal, Op.payload, List.append_nil]
    rw [hp.deliv, hfull, List.take_length, hall]
  · simp only [copySection, W.track, ideal, Op.payload]
    rw [hn]
  · simp [copySection, W.track, ideal, Op.after]

/-- A source that stops before the end of the section — with io.EOF or
with another error — makes the copy site return an error, whatever the destination does. -/
theorem copy_fault_reported {σ} (m : SinkM σ) (hm : Conforming m) (w : W σ) (data : Bytes)
    (f : SrcFault) (hcut : f.cut < data.length) :
    (copySection m true w data (some f)).2 = true := by
  have hp := uReadFrom_ok m hm w.u (srcDelivered data (some f)).1
  have hl : (srcDelivered data (some f)).1.length < data.length := by
    simp only [srcDelivered, hcut, if_true, List.length_take]; omega
  have hne : (uReadFrom m w.u (srcDelivered data (some f)).1).2.n ≠ data.length := by
    have := hp.le; omega
  simp [copySection, hne]

/-- satisfiable; and the check is what matters: WITHOUT it (`checked = false`: the count
returned by `ReadFrom` dropped) a source that ends early with io.EOF
after 2 of 5 bytes gives a nil result and a short chunk — unbuffered and buffered alike. -/
example :
    let src : Option SrcFault := some ⟨2, true⟩
    let m := faultSink ⟨none, false, false, false⟩
    (copySection m false (initW false none) [1, 2, 3, 4, 5] src).2 = false ∧
    (copySection m false (initW false none) [1, 2, 3, 4, 5] src).1.u.deliv = [1, 2] ∧
    (copySection m false (initW false (some 4)) [1, 2, 3, 4, 5] src).2 = false ∧
    (copySection m true (initW false none) [1, 2, 3, 4, 5] src).2 = true ∧
    (copySection m true (initW false (some 4)) [1, 2, 3, 4, 5] src).2 = true ∧
    (copySection m true (initW false (some 4)) [1, 2, 3, 4, 5] none).2 = false ∧
    (copySection m true (initW false (some 4)) [1, 2, 3, 4, 5] none).1.u.deliv = [1, 2, 3, 4, 5] := by decide +kernel

theorem open_ok_iff (slack : Nat) (enc : Bool) (g : Bytes) :
    (∃ ft, openWith slack enc g = .ok ft) ↔
      (4 ≤ g.length ∧ isMagic (g.take 4) enc = true ∧ Residual slack g) :=
  ⟨fun ⟨_, h⟩ => (openWith_ok.1 h).1, fun h => ⟨_, openWith_ok.2 ⟨h, rfl⟩⟩⟩

/-- For a well-formed file `f` and `n < |f|`, the trailer stage of `OpenFile`
rejects the prefix `f.take n` — unless the last 8 bytes of the prefix are themselves `len‖magic`
with `len + 8 + slack ≤ n` (inherent to the format: a byte-array value can embed a whole Parquet
file). `slack = 0` is the code (MIRROR, `openModel`), `slack = 4` the format (`openSpec`, i.e.
`len + 12 ≤ n`). The proof is `open_ok_iff` on the byte string `f.take n`; that `f` is well formed
and `n < |f|` plays no part in it. -/
theorem prefix_rejected (slack : Nat) (enc : Bool) (f : Bytes) (_hf : WellFormed enc f) (n : Nat)
    (_hn : n < f.length) :
    (∃ e, openWith slack enc (f.take n) = .error e) ∨ Residual slack (f.take n) := by
  cases h : openWith slack enc (f.take n) with
  | error e => exact Or.inl ⟨e, rfl⟩
  | ok ft => exact Or.inr ((open_ok_iff slack enc _).1 ⟨ft, h⟩).2.2

theorem prefix_rejected_model (enc : Bool) (f : Bytes) (hf : WellFormed enc f) (n : Nat)
    (hn : n < f.length) :
    (∃ e, openModel enc (f.take n) = .error e) ∨ Residual 0 (f.take n) :=
  prefix_rejected 0 enc f hf n hn

theorem prefix_rejected_spec (enc : Bool) (f : Bytes) (hf : WellFormed enc f) (n : Nat)
    (hn : n < f.length) :
    (∃ e, openSpec enc (f.take n) = .error e) ∨ Residual 4 (f.take n) :=
  prefix_rejected 4 enc f hf n hn

/-- code and format differ only in the 4-byte gap `len + 8 ≤ n < len + 12`, where the code goes on
to decode a "footer" that overlaps the header magic -/
theorem model_vs_spec (enc : Bool) (g : Bytes) :
    openModel enc g = openSpec enc g ∨
      (openSpec enc g = .error .footerBounds ∧ ∃ ft, openModel enc g = .ok ft) :=
  openWith_slack 4 enc g

/-- a well-formed 14-byte file (2-byte footer) and its strict prefixes: all rejected -/
def tinyFile : Bytes := magicPAR1 ++ [0x15, 0x00] ++ [2, 0, 0, 0] ++ magicPAR1

example : WellFormed false tinyFile := ⟨by decide, by decide, by decide, by decide⟩
example : openModel false tinyFile = .ok [0x15, 0x00] := by decide +kernel
example : ∀ n, n < tinyFile.length → (openModel false (tinyFile.take n)).toBool = false := by decide +kernel

/-- the adversarial residual case: a well-formed file whose body embeds `len‖"PAR1"`; its 13-byte
prefix passes the trailer stage with a different footer -/
def nestedFile : Bytes := magicPAR1 ++ [0xAA, 1, 0, 0, 0] ++ magicPAR1 ++ [0x15, 0x00] ++ [11, 0, 0, 0] ++ magicPAR1

example : WellFormed false nestedFile := ⟨by decide, by decide, by decide, by decide⟩
example : openSpec false (nestedFile.take 13) = .ok [0xAA] ∧ Residual 4 (nestedFile.take 13) :=
  ⟨by decide, by decide, by decide, by decide⟩
/-- and the gap: a prefix the format rejects but the code's trailer stage lets through -/
example : openSpec false ((magicPAR1 ++ [1, 0, 0, 0] ++ magicPAR1).take 12) = .error .footerBounds ∧
    openModel false (magicPAR1 ++ [1, 0, 0, 0] ++ magicPAR1) = .ok [0x31] := ⟨by decide, by decide⟩

/-- `readAt` (file.go:1792) turns a short count of a conforming `io.ReaderAt` into an error:
a nil error means the buffer was filled -/
theorem readAt_reports (want n : Nat) (err : Bool) (hconf : n < want → err = true) (hle : n ≤ want) :
    (readAtWrap want n err).2 = false → n = want := by
  unfold readAtWrap
  split
  · intro _; assumption
  · rename_i h; intro he; have : n < want := by omega
    simp only at he; rw [hconf this] at he; cases he

example : (readAtWrap 8 3 true).2 = true ∧ (readAtWrap 8 8 true).2 = false := by decide +kernel

section Readers
open PqModel.IoFault.Rd

/-- MIRROR `mergedRowReader2` over any two sources (SPEC `Src`: any rows,
a fault after any number of rows, error alone or along with rows, io.EOF eager or not) and any
sequence of buffer lengths of the consumer: if the session ends with io.EOF — no call reported an
error — then the output holds, for each input, exactly the rows of that input in their order. -/
theorem merge2_eof_complete (s0 s1 : Src) (caps : List Nat)
    (h : (session false caps (M2.new s0 s1)).2.1 = .eof) :
    proj false (session false caps (M2.new s0 s1)).1.flatten = s0.rows ∧
    proj true (session false caps (M2.new s0 s1)).1.flatten = s1.rows := by
  have := session_eof caps _ s0 s1 [] (Inv.new s0 s1) h
  simpa using ⟨this.1, this.2.1⟩

/-- A fault that bites (one of the sources fails before it has delivered
all its rows) never ends in io.EOF: the session ends with an error, or is not finished yet. -/
theorem merge2_fault_reported (s0 s1 : Src) (caps : List Nat) (hb : s0.Bites ∨ s1.Bites) :
    (session false caps (M2.new s0 s1)).2.1 ≠ .eof := by
  intro h
  have := session_eof caps _ s0 s1 [] (Inv.new s0 s1) h
  cases hb with
  | inl hb => exact this.2.2.1 hb
  | inr hb => exact this.2.2.2 hb

/-! satisfiable, and why the `err != io.EOF` test of the second input matters: input 1 holds 25 rows
and its source fails after 24 (the first fill of the 24-row buffer succeeds, the refill fails).
The code reports the error in the second call; without the test (/verif/seeded/C14-4a) the session
ends with io.EOF and row 24 of input 1 is missing. -/
def srcOne : Src := ⟨[100], none, false, false⟩
def srcFails : Src := ⟨(List.range 25).map Int.ofNat, some 24, false, false⟩

example : srcFails.Bites := ⟨24, rfl, by decide⟩
example : (session false [64, 64, 64] (M2.new srcOne srcFails)).2.1 = .err := by decide +kernel
example : (session true [64, 64, 64] (M2.new srcOne srcFails)).2.1 = .eof ∧
    (proj true (session true [64, 64, 64] (M2.new srcOne srcFails)).1.flatten).length = 24 := by decide +kernel
example : (session false [7, 64, 64, 64] (M2.new srcOne ⟨[1, 2, 100, 101], none, true, false⟩)).2.1 = .eof := by decide +kernel

/-- MIRROR `bloom.CheckSplitBlock`: over a conforming `io.ReaderAt`
(fewer bytes than asked for come with an error) a nil error means the probe was evaluated on the
block of the filter, whatever the pooled buffer held before. -/
theorem bloom_probe_nil_exact (chk : List UInt8 → Bool) (stale blk : List UInt8) (n : Nat) (r : Res)
    (hs : stale.length = blk.length) (hconf : n < blk.length → r ≠ .nil)
    (h : (probe false chk stale blk n r).2 = .nil) : (probe false chk stale blk n r).1 = chk blk := by
  simp only [probe, Bool.false_eq_true, false_and, if_false] at h ⊢
  have hn : blk.length ≤ n := Nat.le_of_not_lt fun hlt => hconf hlt h
  rw [List.take_of_length_le hn, List.drop_of_length_le (by omega), List.append_nil]

/-- with io.EOF cleared unseen (/verif/seeded/C14-4b) a short read answers "absent" with a nil error
for a key whose block says "present" -/
example : probe true (fun b => b.all (· != 0)) [0, 0, 0, 0] [1, 1, 1, 1] 2 .eof = (false, .nil) ∧
    (fun b : List UInt8 => b.all (· != 0)) [1, 1, 1, 1] = true ∧
    (probe false (fun b => b.all (· != 0)) [0, 0, 0, 0] [1, 1, 1, 1] 2 .eof).2 = .eof := by decide +kernel

end Readers

end PqModel.Props.C14
