import PqModel.Plain

/-! # C04 (part "plain") — PLAIN, BYTE_STREAM_SPLIT and dictionaries are lossless and match the spec

Every round-trip theorem composes a **spec** decoder (written from Encodings.md only) with the
**mirror** of the Go encoder (`PqModel/Plain.lean` says which is which), for every input: no bound
on lengths or values. Floats are bit patterns, so NaN payloads and -0.0 are covered by
construction. A bare `example` after a theorem shows that its hypotheses can be met (one runs `goDecByteArray`). -/
namespace PqModel.Props.C04Plain
open PqModel.Plain

theorem le_roundtrip (n x : Nat) (h : x < 2 ^ (8 * n)) :
    (leBytes n x).length = n ∧ leVal (leBytes n x) = x :=
  ⟨leBytes_length n x, leVal_leBytes n x h⟩
example : (0xDEADBEEF : Nat) < 2 ^ (8 * 4) := by decide

/-- the other direction: every byte string is the little-endian form of exactly its value -/
theorem le_roundtrip_bytes (bs : Bytes) : leVal bs < 2 ^ (8 * bs.length) ∧ leBytes bs.length (leVal bs) = bs :=
  ⟨leVal_lt bs, leBytes_leVal bs⟩

/-! ## PLAIN -/

/-- all fixed width numeric types at once (`k` bytes per value, values are bit patterns) -/
theorem plain_roundtrip_fixed (k : Nat) (hk : 0 < k) (xs : List (BitVec (8 * k))) :
    specDecFixedBV k (encFixedBV k xs) = some xs :=
  specDecFixedBV_encFixedBV k hk xs
example : (0 : Nat) < 4 := by decide

theorem plain_roundtrip_int32 (xs : List (BitVec 32)) : specDecFixedBV 4 (encFixedBV 4 xs) = some xs :=
  specDecFixedBV_encFixedBV 4 (by decide) xs

theorem plain_roundtrip_int64 (xs : List (BitVec 64)) : specDecFixedBV 8 (encFixedBV 8 xs) = some xs :=
  specDecFixedBV_encFixedBV 8 (by decide) xs

/-- FLOAT: the elements are IEEE-754 single bit patterns (NaN payloads, -0.0 are just patterns) -/
theorem plain_roundtrip_float (xs : List (BitVec 32)) : specDecFixedBV 4 (encFixedBV 4 xs) = some xs :=
  specDecFixedBV_encFixedBV 4 (by decide) xs

theorem plain_roundtrip_double (xs : List (BitVec 64)) : specDecFixedBV 8 (encFixedBV 8 xs) = some xs :=
  specDecFixedBV_encFixedBV 8 (by decide) xs

theorem plain_roundtrip_int96 (xs : List (BitVec 96)) : specDecFixedBV 12 (encFixedBV 12 xs) = some xs :=
  specDecFixedBV_encFixedBV 12 (by decide) xs

/-- BOOLEAN, for every content `stale` of the reused buffer's capacity region (dirty buffers) -/
theorem plain_roundtrip_boolean (stale : Bytes) (vs : List Bool) :
    (encBools stale vs).length = (vs.length + 7) / 8 ∧
    specDecBool vs.length (encBools stale vs) = some vs := by
  obtain ⟨h1, _, h3⟩ := encBoolsFrom_spec stale vs [] 0 rfl
  have hl : (encBools stale vs).length = (vs.length + 7) / 8 := by simpa [encBools] using h1
  refine ⟨hl, ?_⟩
  unfold specDecBool
  split
  · omega
  · congr 1
    apply List.ext_getElem
    · simp
    · intro i h1' h2'
      have := h3 i h2'
      simp only [Nat.zero_add] at this
      simp [encBools, this]

theorem plain_roundtrip_byte_array (vs : List Bytes) (h : ∀ v ∈ vs, v.length < 2 ^ 32) :
    specDecByteArray (encByteArray vs) = some vs :=
  specDecByteArrayFuel_enc vs _ h (Nat.le_refl _)
example : ∀ v ∈ [[], [1, 2, 3], [0xFF]], (v : Bytes).length < 2 ^ 32 := by decide

theorem plain_roundtrip_flba (n : Nat) (hn : 0 < n) (vs : List Bytes) (h : ∀ v ∈ vs, v.length = n) :
    specDecFixedBytes n (encFLBA vs) = some vs :=
  specDecFixedBytes_flatten n hn vs h
example : ∀ v ∈ [[1, 2, 3], [0xFF, 0, 7]], (v : Bytes).length = 3 := by decide

example : goDecByteArray [1, 0, 0, 0, 7] = .ok [[7]] := by decide

/-- the Go decoder gives back what the Go encoder was given (Decode ∘ Encode = id, mirror level) -/
theorem goDecByteArray_roundtrip (vs : List Bytes) (h : ∀ v ∈ vs, v.length < 2 ^ 32) :
    goDecByteArray (encByteArray vs) = .ok vs :=
  (goDecByteArray_iff _ vs).mpr (plain_roundtrip_byte_array vs h)
example : ∀ v ∈ [[], [1, 2, 3], [0xFF]], (v : Bytes).length < 2 ^ 32 := by decide

/-- on a malformed stream the Go decoder can panic instead of reporting an error (VIOLATION witness:
    second length prefix 5 with 1 byte left passes the `n > len(src)-4` test). -/
theorem goDecByteArray_panics_on_overrun :
    goDecByteArray [0, 0, 0, 0, 5, 0, 0, 0, 1] = .panic ∧
    specDecByteArray [0, 0, 0, 0, 5, 0, 0, 0, 1] = none := by decide

/-! ## BYTE_STREAM_SPLIT -/

/-- any element width `k` (FLBA sizes included): all elements have `k` bytes -/
theorem bss_roundtrip (k : Nat) (hk : 0 < k) (vs : List Bytes) (h : ∀ v ∈ vs, v.length = k) :
    (bssEnc k vs).length = k * vs.length ∧ bssSpecDec k (bssEnc k vs) = some vs :=
  ⟨bssEnc_length k vs, bssSpecDec_bssEnc k hk vs h⟩
example : ∀ v ∈ [[1, 2, 3], [0xFF, 0, 7]], (v : Bytes).length = 3 := by decide

/-- the same with the SPEC decoder written in index form (`byte j of value i is at j*n+i`) -/
theorem bss_roundtrip_indexed (k : Nat) (hk : 0 < k) (vs : List Bytes) (h : ∀ v ∈ vs, v.length = k) :
    bssSpecDecIdx k (bssEnc k vs) = some vs :=
  bssSpecDecIdx_bssEnc k hk vs h
example : ∀ v ∈ [[1, 2, 3, 4], [0xFF, 0, 7, 9]], (v : Bytes).length = 4 := by decide

theorem bss_roundtrip_float (xs : List (BitVec 32)) : bssSpecDecFixedBV 4 (bssEncFixedBV 4 xs) = some xs :=
  bssSpecDecFixedBV_bssEncFixedBV 4 (by decide) xs

theorem bss_roundtrip_double (xs : List (BitVec 64)) : bssSpecDecFixedBV 8 (bssEncFixedBV 8 xs) = some xs :=
  bssSpecDecFixedBV_bssEncFixedBV 8 (by decide) xs

/-! ## dictionaries -/

section
variable {α : Type} [DecidableEq α]

/-- looking up the returned indexes in the new dictionary gives back the inserted values -/
theorem dict_insert_lookup (d d' : List α) (xs : List α) (idx : List Nat)
    (h : insertAll d xs = (d', idx)) : idx.map (d'[·]?) = xs.map some := by
  have := insertAll_lookup d xs
  rwa [h] at this

/-- index stability: the old dictionary is a prefix of the new one (no entry moves or changes) -/
theorem dict_prefix (d : List α) (xs : List α) : d <+: (insertAll d xs).1 := insertAll_prefix d xs

/-- so an index handed out earlier still denotes the same value after any later batch -/
theorem dict_index_stable (d : List α) (xs ys : List α) (i : Nat) (hi : i < (insertAll d xs).1.length) :
    (insertAll (insertAll d xs).1 ys).1[i]? = (insertAll d xs).1[i]? := by
  obtain ⟨e, he⟩ := insertAll_prefix (insertAll d xs).1 ys
  rw [← he, List.getElem?_append_left hi]

/-- no duplicates are ever created -/
theorem dict_nodup (d : List α) (xs : List α) (h : d.Nodup) : (insertAll d xs).1.Nodup :=
  insertAll_nodup d xs h
example : ([3, 1, 2] : List Nat).Nodup := by decide

/-- first-occurrence order: the new dictionary is the old one followed by the first occurrences
    of the new values, in batch order -/
theorem dict_first_occurrence (d : List α) (xs : List α) (h : d.Nodup) :
    (insertAll d xs).1 = (d ++ xs).eraseDups :=
  insertAll_eraseDups d xs h

/-- every returned index is the linear-search position of the value in the new dictionary
    (what the hash tables of `hashprobe` must compute) -/
theorem dict_index_is_linear_search (d : List α) (xs : List α) :
    (insertAll d xs).2.map some = xs.map (dictFind (insertAll d xs).1) :=
  insertAll_find d xs

/-- inserting in batches is inserting the concatenation -/
theorem dict_batches (d : List α) (xs ys : List α) :
    insertAll d (xs ++ ys) =
      ((insertAll (insertAll d xs).1 ys).1, (insertAll d xs).2 ++ (insertAll (insertAll d xs).1 ys).2) :=
  insertAll_append d xs ys

/-- the table-driven Go dictionaries (mirror `GoDict`) are the abstract dictionary whenever the
    pre-loaded values have no duplicates (in particular when starting empty) -/
theorem goDict_refines (init xs : List α) (h : init.Nodup) :
    (goDictInsertAll (goDictInit init) xs).1.values = (insertAll init xs).1 ∧
    (goDictInsertAll (goDictInit init) xs).2 = (insertAll init xs).2 := by
  obtain ⟨h1, _, h3⟩ := goDictInsertAll_refines xs (goDictInit init) (goDictInit_of_nodup init h)
  exact ⟨h1, h3⟩
example : ([] : List Nat).Nodup := by decide

end

/-- the boolean dictionary (both entries are created by the first insert) still round-trips -/
theorem dict_bool_insert_lookup (d d' : List Bool) (xs : List Bool) (idx : List Nat)
    (h : insertAllBool d xs = (d', idx)) : idx.map (d'[·]?) = xs.map some ∧ d <+: d' := by
  refine ⟨dict_insert_lookup (ensureBools d) d' xs idx h, ?_⟩
  have hp := insertAll_prefix (ensureBools d) xs
  unfold insertAllBool at h
  rw [h] at hp
  refine List.IsPrefix.trans ?_ hp
  unfold ensureBools
  simp only
  split <;> split <;> simp [List.prefix_append, List.append_assoc]

/-- VIOLATION witness on the mirror: a dictionary pre-loaded with a duplicate entry ([5,5,7], as
    a dictionary page written by another implementation may hold) hands out index 1 for the value
    7 although entry 1 is 5, and index 2 for the new value 9, which is never stored. -/
theorem goDict_preloaded_duplicates_wrong_index :
    let r := goDictInsertAll (goDictInit [5, 5, 7]) [7, 9]
    r.2 = [1, 2] ∧ r.1.values = [5, 5, 7] ∧ r.1.values[1]? = some 5 ∧ r.1.values[2]? = some 7 := by
  decide

end PqModel.Props.C04Plain
