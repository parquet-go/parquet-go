import PqModel.ResetSlots

/-! # C17 — the footer's row groups do not depend on what the row-group slots held before `Reset`

`w.rowGroups` keeps its capacity across `Reset`; `writeRowGroup` reuses the retained structs. The
theorems say: for EVERY earlier history of committed row groups and resets, what the footer lists
after a `Reset` is the spec's function (`specEmit`) of the configuration and of the row groups
committed since — in particular the `sorting_columns` a writer WITHOUT sorting configuration
records for row groups that declare their own (`WriteRowGroup` of a sorted buffer / a sorted file's
row group). The code before the repair (/repo b415cc4) is refuted: fresh and reused writers differ (empty
list vs no list), and neither records the row group's sorting columns. Mirror vs spec: see
`ResetSlots.lean`. -/

namespace PqModel.Props.C17Slots
open PqModel.Reset (SortCol Str)
open PqModel.ResetSlots

/-- Repaired mirror: whatever was committed and reset before (`before`,
from a new writer), the row groups listed after a `Reset` followed by the commits `after` are the
spec's row groups of those commits: the chunks of each commit alone (nothing of the reused struct),
and as sorting columns the configured list or, without configuration, the list resolved from the
row group's own sorting columns. -/
theorem slots_after_reset (cfg : List SortCol) (leaves : List (List Str)) (before after : List Op)
    (ha : ∀ op ∈ after, op ≠ .reset) :
    emit (runWith sortingFixed cfg leaves after (reset (runWith sortingFixed cfg leaves before Slots.fresh))) =
      specEmit resolveFixed cfg leaves (commitsOf after) := by
  have hz := spareZero_reset _ (spareZero_run sortingFixed cfg leaves before Slots.fresh spareZero_fresh)
  rw [emit, run_commits cfg leaves after ha _ hz]
  rfl

theorem slots_reset_equiv (cfg : List SortCol) (leaves : List (List Str)) (before after : List Op)
    (ha : ∀ op ∈ after, op ≠ .reset) :
    emit (runWith sortingFixed cfg leaves after (reset (runWith sortingFixed cfg leaves before Slots.fresh))) =
      emit (runWith sortingFixed cfg leaves after Slots.fresh) := by
  rw [slots_after_reset cfg leaves before after ha, emit, run_commits cfg leaves after ha _ spareZero_fresh]
  rfl

example : ∀ op ∈ [Op.commit ⟨[1, 2], [⟨[[98]], true, false⟩], [7]⟩, .commit ⟨[3, 4], [], [8]⟩], op ≠ .reset := by decide +kernel

/-- the row groups a writer is given are well-formed when their sorting columns name pairwise
distinct leaves of the schema -/
def WellFormed (leaves : List (List Str)) (c : Commit) : Prop :=
  ((c.rgSorting.map (·.path)).Nodup) ∧ ∀ sc ∈ c.rgSorting, sc.path ∈ leaves

theorem specEmit_congr (leaves : List (List Str)) (hl : leaves.Nodup) (cfg : List SortCol) (cs : List Commit)
    (hw : ∀ c ∈ cs, WellFormed leaves c) :
    specEmit resolveFixed cfg leaves cs = specEmit specResolve cfg leaves cs := by
  unfold specEmit
  apply List.map_congr_left
  intro c hc
  rw [resolve_spec leaves hl c.rgSorting (hw c hc).1 (hw c hc).2]

/-- With a schema of pairwise distinct leaf paths and well-formed row
groups, the listed sorting columns are the spec's resolution (`specResolve`: one entry per sorting
column of the row group, in its order: column index of the named leaf, direction, null order). -/
theorem slots_sorting_spec (cfg : List SortCol) (leaves : List (List Str)) (hl : leaves.Nodup)
    (before after : List Op) (ha : ∀ op ∈ after, op ≠ .reset)
    (hw : ∀ c ∈ commitsOf after, WellFormed leaves c) :
    emit (runWith sortingFixed cfg leaves after (reset (runWith sortingFixed cfg leaves before Slots.fresh))) =
      specEmit specResolve cfg leaves (commitsOf after) := by
  rw [slots_after_reset cfg leaves before after ha, specEmit_congr leaves hl cfg _ hw]

example : [[[97]], [[98]], [[99], [100]]].Nodup ∧
    WellFormed [[[97]], [[98]], [[99], [100]]] ⟨[1], [⟨[[99], [100]], true, false⟩, ⟨[[97]], false, true⟩], []⟩ := by
  exact ⟨by decide, by decide, by decide⟩

/-- what the repaired code lists for such a row group: `c.d` descending is column 2, `a` column 0 -/
example : emit (runWith sortingFixed [] [[[97]], [[98]], [[99], [100]]]
      [.commit ⟨[1], [⟨[[99], [100]], true, false⟩, ⟨[[97]], false, true⟩], []⟩] Slots.fresh) =
    [⟨[1], some [⟨2, true, false⟩, ⟨0, false, true⟩], []⟩] := by decide +kernel

/-- one INT64 column `a`; a row group sorted by `a` descending -/
def sortedByA : Commit := ⟨[5], [⟨[[97]], true, false⟩], [2]⟩

/-- Before the repair a new writer lists an EMPTY sorting column list
for the row group (`make(…, 0, n)`: two bytes in the footer), a writer that committed a row group
earlier and was `Reset` lists NONE (the reused struct's nil slice): same rows, same options,
different bytes. History: `commit; reset; commit`. -/
theorem slots_asIs_reuse_differs :
    emit (runWith sortingAsIs [] [[[97]]] [.commit sortedByA] Slots.fresh) = [⟨[5], some [], [2]⟩] ∧
    emit (runWith sortingAsIs [] [[[97]]] [.commit sortedByA, .reset, .commit sortedByA] Slots.fresh) = [⟨[5], none, [2]⟩] := by
  decide +kernel

theorem slots_reset_equiv_asIs_false :
    ¬ ∀ (cfg : List SortCol) (leaves : List (List Str)) (before after : List Op), (∀ op ∈ after, op ≠ .reset) →
      emit (runWith sortingAsIs cfg leaves after (reset (runWith sortingAsIs cfg leaves before Slots.fresh))) =
        emit (runWith sortingAsIs cfg leaves after Slots.fresh) := by
  intro h
  have := h [] [[[97]]] [.commit sortedByA] [.commit sortedByA] (by decide)
  revert this
  decide +kernel

/-- ... and neither writer records the row group's sorting columns (the spec's list is `[⟨0, true, false⟩]`) -/
theorem slots_asIs_never_records :
    specEmit specResolve [] [[[97]]] [sortedByA] = [⟨[5], some [⟨0, true, false⟩], [2]⟩] ∧
    emit (runWith sortingFixed [] [[[97]]] [.commit sortedByA, .reset, .commit sortedByA] Slots.fresh) =
      [⟨[5], some [⟨0, true, false⟩], [2]⟩] := by decide +kernel

end PqModel.Props.C17Slots
