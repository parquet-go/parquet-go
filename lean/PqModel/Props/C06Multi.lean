import PqModel.SearchMultiNaN

/-! # C06 over several row groups — `multiColumnIndex` / `multiOffsetIndex` in full (multi_row_group.go)

The obligations about the two index views of a `multiColumnChunk` beyond what `Find` reads (`SearchMultiIndex.lean`:
`mapPageIndex` for any `int`, every forwarding accessor, `FirstRowIndex`) and the `Find` theorems for any members,
per member, on page values, and for FLOAT / DOUBLE members with NaN bounds (`SearchMultiNaN.lean`). -/
namespace PqModel.Props.C06Multi
open PqModel.Search PqModel.Stats

/-- Every forwarding accessor of the two multi indexes (NullCount, NullPage, MinValue, MaxValue, Offset,
    CompressedPageSize), asked for a page number in `0 .. NumPages()-1`, answers the entry of the concatenation of the
    members' own answers — any number of members, members without pages anywhere. -/
theorem multi_accessor_is_concatenation {α} (ls : List (List α)) (p : Nat) (hp : p < ls.flatten.length) :
    multiAt ls (p : Int) = ls.flatten[p]? :=
  multiAt_flatten ls p hp

/-- members (no page) (7, 8) (no page) (9): page 2 is the 9 of the fourth member -/
example : multiAt [[], [7, 8], [], [9]] 2 = some 9 ∧ ([[], [7, 8], [], [9]] : List (List Nat)).flatten[2]? = some 9 := by
  decide +kernel

/-- The accessor mirror `multiAt` of `SearchMultiIndex.lean` and the view `findMultiGo` searches (`multiMinAt` / `multiMaxAt` / `multiNullAt`
    of `SearchMulti.lean`) are two transliterations of the same code; they agree on every page `Find` reads. -/
theorem multi_accessor_is_the_view_find_reads (cs : List Chunk) (hwf : ∀ c ∈ cs, c.WF) (p : Nat) (hp : p < total cs) :
    multiAt (cs.map (·.ix.mins)) (p : Int) = some (multiMinAt cs p) ∧
    multiAt (cs.map (·.ix.maxs)) (p : Int) = some (multiMaxAt cs p) ∧
    multiAt (cs.map (·.nulls)) (p : Int) = some (multiNullAt cs p) :=
  multiAt_eq_view cs hwf p hp

/-- Every OTHER `int` page number (negative, `NumPages()` and beyond) takes the out-of-bounds branch of
    `mapPageIndex`: the last page of the last member when it has one, else page 0 of member 0 (`none` = member 0 is
    asked for a page it does not have). -/
theorem multi_accessor_out_of_range {α} (ls : List (List α)) (p : Int) (hp : p < 0 ∨ (ls.flatten.length : Int) ≤ p) :
    multiAt ls p = if ls.getLastD [] ≠ [] then (ls.getLastD []).getLast? else (ls.headD [])[0]? :=
  multiAt_fallback ls p hp

/-- OBSERVATION on mirror and code alike (outside C06: `Find` only asks for pages in range): the branch commented
    "return last valid position" answers the FIRST page of the index when the last member has no page. -/
theorem multi_fallback_is_not_the_last_page :
    multiAt [[10, 20], ([] : List Nat)] 2 = some 10 ∧ multiAt [[10, 20], ([] : List Nat)] (-1) = some 10 ∧
    multiAt [[10, 20]] 2 = some 20 ∧ multiAt [([] : List Nat), [10], []] 1 = none :=
  fallback_not_last_page

/-- `multiOffsetIndex.FirstRowIndex(p)` for a page in range = the member's own first row + the rows of all the
    members before it (SPEC `shiftedRows`), for any number of members incl. members without pages. -/
theorem multi_first_row_is_shifted_concatenation (rows : List (List Int)) (numRows : List Int)
    (hn : numRows.length = rows.length) (p : Nat) (hp : p < rows.flatten.length) :
    multiFirstRowAt rows numRows (p : Int) = (shiftedRows rows numRows 0)[p]? :=
  multiFirstRowAt_shifted rows numRows hn p hp

/-- row groups of 10, 0 and 7 rows with pages starting at rows (0,4) () (0,5): the multi index shows 0,4,10,15 -/
example : shiftedRows [[0, 4], [], [0, 5]] [10, 0, 7] 0 = [0, 4, 10, 15] ∧
    multiFirstRowAt [[0, 4], [], [0, 5]] [10, 0, 7] 3 = some 15 := by decide +kernel

/-- The first rows shown by the multi offset index are sorted whenever every member's own offset index is sane
    (first rows sorted, within `0 .. NumRows-1`): a page found by `Find` owns the rows from its `FirstRowIndex` up to
    the next page's. -/
theorem multi_first_rows_sorted (rows : List (List Int)) (numRows : List Int) (hn : numRows.length = rows.length)
    (hok : ∀ i, i < rows.length → MemberRowsOK (rows.getD i []) (numRows.getD i 0)) :
    isAsc (shiftedRows rows numRows 0) = true :=
  shiftedRows_sorted rows numRows 0 hn hok

example : MemberRowsOK [0, 4] 10 ∧ MemberRowsOK [] 0 ∧ MemberRowsOK [0, 5] 7 := by
  refine ⟨⟨by decide, ?_, by decide⟩, ⟨by decide, ?_, by decide⟩, ⟨by decide, ?_, by decide⟩⟩ <;>
    (intro x hx; simp at hx <;> omega)

/-- `multi_ascending_sound` of `Props/C06.lean` without its hypothesis `hne`: members without pages may claim
    ASCENDING (the seam loop skips them). -/
theorem multi_ascending_sound_any_members (z : Int) (cs : List Chunk)
    (hwf : ∀ c ∈ cs, c.WF)
    (hnull : (concatNulls cs).any id = false)
    (hbnd : ∀ c ∈ cs, c.nulls.any id = false → hasNull c.ix = false)
    (htruth : ∀ c ∈ cs, c.asc = true →
      isAsc (c.ix.mins.map (stored z)) = true ∧ isAsc (c.ix.maxs.map (stored z)) = true)
    (hle : ∀ c ∈ cs, ∀ i a b, i < c.n → minAt c.ix i = some a → maxAt c.ix i = some b → a ≤ b)
    (hflag : multiIsAscending z cs = true) :
    ∃ mn mx, Ascending (concat cs) mn mx :=
  multiAscending_sound_any z cs hwf hnull hbnd htruth hle hflag

/-- (0,9) (10,50) | no page, claims ASCENDING | (60,69) (70,80): the multi index is ASCENDING and the hypotheses hold -/
def mGap : List Chunk :=
  [ { nulls := [false, false], ix := { mins := [some 0, some 10], maxs := [some 9, some 50] }, asc := true, desc := false },
    { nulls := [], ix := { mins := [], maxs := [] }, asc := true, desc := true },
    { nulls := [false, false], ix := { mins := [some 60, some 70], maxs := [some 69, some 80] }, asc := true, desc := false } ]

example : (∀ c ∈ mGap, c.WF) ∧ multiIsAscending 0 mGap = true ∧ (concatNulls mGap).any id = false ∧
    (∀ c ∈ mGap, c.asc = true → isAsc (c.ix.mins.map (stored 0)) = true ∧ isAsc (c.ix.maxs.map (stored 0)) = true) ∧
    findMultiGo false 0 mGap 75 = 3 := by decide +kernel

/-- C06 for `Find` on a multi index, per member: whenever every member index is sound (`hwf`: its accessors agree
    on the page count; `hbnd`: no null bound outside a null page; `htruth`: an ASCENDING claim is truthful; `hle`:
    min ≤ max), a page `l` of the member that follows the members `pre` whose bounds contain `v` is never missed:
    `Find` answers a page at or before its number `total pre + l`, inside the index, whose bounds contain `v`.
    Any number of members before and after, members without pages and null pages anywhere. -/
theorem find_no_miss_multi_member (nf : Bool) (z : Int) (pre post : List Chunk) (c : Chunk) (l : Nat) (v : Int)
    (hwf : ∀ c' ∈ pre ++ c :: post, c'.WF)
    (hbnd : ∀ c' ∈ pre ++ c :: post, c'.nulls.any id = false → hasNull c'.ix = false)
    (htruth : ∀ c' ∈ pre ++ c :: post, c'.asc = true →
      isAsc (c'.ix.mins.map (stored z)) = true ∧ isAsc (c'.ix.maxs.map (stored z)) = true)
    (hle : ∀ c' ∈ pre ++ c :: post, ∀ i a b, i < c'.n → minAt c'.ix i = some a → maxAt c'.ix i = some b → a ≤ b)
    (hl : l < c.n) (hv : contains nf c.ix l v = true) :
    let cs := pre ++ c :: post
    let r := findMultiGo nf z cs v
    r ≤ total pre + l ∧ r < total cs ∧ contains nf (concat cs) r v = true :=
  findMulti_no_miss_member nf z pre post c l v hwf hbnd htruth hle hl hv

/-- C06 for `Find` on a multi index, on the VALUES: members given by the values of their pages, indexed by the
    writer's steps (`chunkOfPages`: null filter, bounds function `bnd`, boundary order) with ANY bounds function that
    encloses the values in the column's order. A value of page `l` of the member after `pre` is answered with a
    page at or before that page whose recorded bounds contain it. -/
theorem find_no_miss_multi_values {α} (nf : Bool) (z : Int) {bnd : List α → Option (α × α)} {key : α → Int}
    (hb : BoundsFor bnd key) (pre post : List (List (List (Option α)))) (pages : List (List (Option α)))
    (l : Nat) (hl : l < pages.length) (x : α) (hx : some x ∈ pages.getD l []) :
    let cs := (pre ++ pages :: post).map (chunkOfPages bnd key z)
    let r := findMultiGo nf z cs (key x)
    r ≤ total (pre.map (chunkOfPages bnd key z)) + l ∧ r < total cs ∧ contains nf (concat cs) r (key x) = true :=
  findMulti_no_miss_values nf z hb pre post pages l hl x hx

/-- UINT64 row groups {1,2 | 2^63+5} , (no page) , {7 | null}: 7 sits in page 0 of the third member = page 2 of
    the multi index; the members overlap, no order is claimed, `Find` answers page 2 -/
def uMembers : List (List (List (Option (BitVec 64)))) :=
  [[[some 1#64, some 2#64], [some 9223372036854775813#64]], [], [[some 7#64], [none]]]

example : findMultiGo false 0 (uMembers.map (chunkOfPages (intBounds false 64) (intKey false 64) 0))
    (intKey false 64 7#64) = 2 := by decide +kernel

example := find_no_miss_multi_values false 0 (intBounds_sound false 64)
  [[[some 1#64, some 2#64], [some 9223372036854775813#64]], []] [] [[some 7#64], [none]] 0 (by decide +kernel) 7#64 (by decide +kernel)

/-- C06 for `Find` on the multi index of FLOAT / DOUBLE members, NaN bounds included. `flag` is what
    `multiColumnIndex.IsAscending()` answered; `hall` and `hseam` are the two facts about it the theorem needs:
    it is false as soon as one member does not claim ASCENDING (multi_row_group.go:407-411), and when no bound is NaN
    it is the answer of the rank mirror `multiIsAscending` (the float comparison is then the rank comparison).
    `hflagw`: each member's own claim is the float indexer's (`writerOrderF`: no order with a NaN bound). `Find` then
    answers the first page of the concatenation whose bounds contain `v` under the float comparison. -/
theorem find_no_miss_multi_float (nf : Bool) (z : Int) (cs : List FChunk) (flag : Bool) (v : Int)
    (hwf : ∀ c ∈ cs, c.ranks.WF)
    (hbnd : ∀ c ∈ cs, c.nulls.any id = false → hasNullF c.ix = false)
    (hflagw : ∀ c ∈ cs, c.asc = (writerOrderF z c.ix == 1))
    (hle : ∀ c ∈ cs, ∀ i a b, i < c.ix.n → minAtF c.ix i = .val a → maxAtF c.ix i = .val b → a ≤ b)
    (hall : flag = true → ∀ c ∈ cs, c.asc = true)
    (hseam : (∀ c ∈ cs, hasNaN c.ix = false) → flag = multiIsAscending z (cs.map FChunk.ranks)) :
    let r := findViewF nf flag (concatNullsF cs) (concatF cs) v
    r ≤ (concatF cs).n ∧ (r < (concatF cs).n → containsF nf (concatF cs) r v = true) ∧
    (∀ p, p < (concatF cs).n → containsF nf (concatF cs) p v = true → r ≤ p) :=
  findMultiF_no_miss nf z cs flag v hwf hbnd hflagw hle hall hseam

/-- members (5,7) (NaN,NaN) | (1,3): no order is claimed by the first member, so the multi index claims none -/
def fMembers : List FChunk :=
  [ { nulls := [false, false], ix := { mins := [.val 5, .nan], maxs := [.val 7, .nan] }, asc := false, desc := false },
    { nulls := [false], ix := { mins := [.val 1], maxs := [.val 3] }, asc := false, desc := false } ]

example : findViewF false false (concatNullsF fMembers) (concatF fMembers) 2 = 1 ∧
    containsF false (concatF fMembers) 2 2 = true ∧ binarySearchF false (concatF fMembers) 2 = 3 := by decide +kernel

theorem fMembers_le : ∀ c ∈ fMembers, ∀ i a b, i < c.ix.n → minAtF c.ix i = .val a → maxAtF c.ix i = .val b → a ≤ b := by
  intro c hc i a b hi ha hb
  rcases List.mem_cons.mp hc with rfl | hc
  · match i, hi with
    | 0, _ => cases ha; cases hb; decide
    | 1, _ => cases ha
  · rcases List.mem_cons.mp hc with rfl | hc
    · match i, hi with
      | 0, _ => cases ha; cases hb; decide
    · cases hc

example := find_no_miss_multi_float false 0 fMembers false 2 (by decide +kernel) (by decide +kernel) (by decide +kernel) fMembers_le
  (by intro h; exact absurd h (by decide)) (by intro h; exact absurd (h _ (List.mem_cons_self ..)) (by decide))

end PqModel.Props.C06Multi
