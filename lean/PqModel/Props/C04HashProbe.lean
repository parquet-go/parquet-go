import PqModel.HashProbeFirstSeen
import PqModel.HashProbeGroup

/-! # C04 (part "hashprobe") — the probing tables behind dictionary `Insert`

`hashprobe/hashprobe.go` (table32 / table64 / table128: `multiProbeNNDefault`, `grow`, `probeArray`, `reset`) is
mirrored in `PqModel/HashProbe.lean` as ONE open-addressing table generic in the group size `G` (7, 4, 1).
The seeded hash function is an arbitrary function `h : α → Nat` (a new arbitrary one at every growth), the
float sizing `tableSizeAndMaxLen` an arbitrary function `sz` with `SizingOk` (power of two, room for the
requested values, threshold within the room). -/
namespace PqModel.Props.C04HashProbe
open PqModel.Plain PqModel.HashProbe

section
variable {α : Type} [DecidableEq α]

/-- one Probe call, any state, any keys, any hash function / new seed, with or without growth -/
theorem probe_refines_first_seen {G : Nat} {sz : Nat → Nat × Nat} (hsz : SizingOk G sz) (h' : α → Nat)
    (t : Table α) (d : List α) (ti : TInv G t (numbering d)) (keys : List α) :
    ∃ t', probeArray G sz h' t keys = some (t', (insertAll d keys).2)
      ∧ TInv G t' (numbering (insertAll d keys).1) := by
  have := probeArray_refines hsz h' ti keys
  rwa [specProbe_numbering] at this

/-- `NewInt32Table(cap, maxLoad)` (any of the tables) represents no key -/
theorem new_table_is_empty {G : Nat} {sz : Nat → Nat × Nat} (hsz : SizingOk G sz) (h : α → Nat) (cap : Nat) :
    TInv G (mkTable sz h cap) (numbering ([] : List α)) := mkTable_inv hsz h cap

/-- `Reset()` of any table represents no key (whatever it held) -/
theorem reset_is_empty {G : Nat} (t : Table α) (S : List (α × Nat)) (ti : TInv G t S) :
    TInv G (reset t) (numbering ([] : List α)) := reset_inv ti

/-- a whole history of Probe calls on a new table: every call terminates and the answers, call by call, are
    for each key the position of its first occurrence in the history -/
theorem session_first_seen {G : Nat} {sz : Nat → Nat × Nat} (hsz : SizingOk G sz) (h : α → Nat) (cap : Nat)
    (calls : List ((α → Nat) × List α)) :
    ∃ answers, session G sz (mkTable sz h cap) calls = some answers
      ∧ answers.map List.length = (calls.map Prod.snd).map List.length
      ∧ answers.flatten.map some
          = (calls.map Prod.snd).flatten.map (dictFind (calls.map Prod.snd).flatten.eraseDups) := by
  refine ⟨_, session_refines hsz calls _ _ (mkTable_inv hsz h cap), ?_, ?_⟩
  · exact (specSession_numbering (calls.map Prod.snd) []).2
  · have := (specSession_numbering (calls.map Prod.snd) ([] : List α)).1
    simp only [numbering, List.zipIdx_nil] at this
    rw [this, insertAll_find, insertAll_eraseDups _ _ List.nodup_nil, List.nil_append]

/-- a session continued after `Reset` answers like a new table (what `Dictionary.Reset` relies on) -/
theorem session_after_reset {G : Nat} {sz : Nat → Nat × Nat} (hsz : SizingOk G sz) (t : Table α)
    (S : List (α × Nat)) (ti : TInv G t S) (calls : List ((α → Nat) × List α)) :
    session G sz (reset t) calls = some (specSession [] (calls.map Prod.snd)) :=
  session_refines hsz calls _ _ (reset_inv ti)

/-- the batch loop of `probeArray` (256 keys at a time) is one pass of `multiProbe` over all keys -/
theorem batch_loop_is_one_pass {G : Nat} (h : α → Nat) (gs : Groups α) (n : Nat) (keys : List α) :
    probeLoop G h keys.length gs n keys = multiProbe G gs n (keys.map fun k => (h k, k)) :=
  probeLoop_eq_multiProbe h _ gs n keys (Nat.le_refl _)

/-- the group of table32/table64 as the Go struct (all `G` slots scanned, `index < OnesCount32(bits)`): its
    loop body is the step the table model takes on the occupied prefix, and keeps the group well formed -/
theorem group_step_is_prefix_step (G : Nat) (g : ArrGroup α) (hw : g.WF G) (key : α) (numKeys : Nat) :
    (arrStep G g key numKeys).map ArrGroup.abs = prefStep G g.abs key numKeys
      ∧ ∀ g', arrStep G g key numKeys = .put g' → g'.WF G := by
  have hlen := abs_length G g hw
  obtain ⟨a, b, c⟩ := hw
  have hf : gfind key g.abs
      = if scanIndex key g.keys < g.n then some (g.vals.getD (scanIndex key g.keys) 0) else none :=
    gfind_prefix g.keys g.vals g.n key (by omega) (by omega)
  unfold arrStep prefStep
  rw [hf, hlen]
  by_cases c1 : scanIndex key g.keys < g.n
  · simp only [c1, if_true, GroupStep.map]
    exact ⟨trivial, fun _ h => by cases h⟩
  · simp only [c1, if_false]
    by_cases c2 : g.n = G
    · simp only [c2, if_true, GroupStep.map]
      exact ⟨trivial, fun _ h => by cases h⟩
    · simp only [c2, if_false, GroupStep.map]
      refine ⟨?_, ?_⟩
      · have : ArrGroup.abs { keys := g.keys.set g.n key, vals := g.vals.set g.n numKeys, n := g.n + 1 }
            = g.abs ++ [(key, numKeys)] := by
          simp only [ArrGroup.abs]
          rw [take_succ_set g.keys g.n key (by omega), take_succ_set g.vals g.n numKeys (by omega),
            List.zip_append (by simp only [List.length_take]; omega)]
          rfl
        rw [this]
      · intro g' h
        cases h
        exact ⟨by simp [a], by simp [b], by simp only; omega⟩

/-- a slot of table128 (`value+1`, 0 = empty) steps like a group of one entry -/
theorem slot128_step_is_prefix_step (s : α × Nat) (key : α) (tableLen : Nat) :
    (slotStep128 s key tableLen).map abs128 = prefStep 1 (abs128 s) key tableLen := by
  obtain ⟨k, v⟩ := s
  unfold slotStep128 prefStep abs128
  by_cases c : v = 0
  · simp [c, gfind, GroupStep.map]
  · by_cases e : key = k
    · simp [c, e, gfind, GroupStep.map]
    · have e' : ¬ k = key := fun h => e h.symm
      simp [c, e, e', gfind, GroupStep.map]

end

example : ArrGroup.WF 4 ({ keys := [5, 0, 0, 0], vals := [0, 0, 0, 0], n := 1 } : ArrGroup Nat) :=
  ⟨rfl, rfl, by decide⟩

/-! ## the hypotheses are satisfiable, and the two that carry termination are necessary -/

/-- a sizing function of the required shape exists for every group size ≥ 1 (7, 4, 1 in the code) -/
example (G : Nat) (hG : 1 ≤ G) : SizingOk G (fun n => (2 ^ n, G * 2 ^ n)) := by
  intro n
  refine ⟨⟨n, rfl⟩, ?_, Nat.le_refl _⟩
  have := Nat.lt_two_pow_self (n := n)
  calc n ≤ 1 * 2 ^ n := by omega
    _ ≤ G * 2 ^ n := Nat.mul_le_mul_right _ hG

/-- a represented table exists (and the sessions below run from it) -/
example : TInv 7 (mkTable (fun n => (2 ^ n, 7 * 2 ^ n)) (fun k : Nat => k) 0) (numbering []) :=
  mkTable_inv (by
    intro n
    refine ⟨⟨n, rfl⟩, ?_, Nat.le_refl _⟩
    have := Nat.lt_two_pow_self (n := n)
    show n ≤ 7 * 2 ^ n
    omega) _ 0

/-- a concrete history with collisions (constant hash), repeats and two growths, groups of one entry -/
example : session 1 (fun n => (2 ^ n, 2 ^ n)) (mkTable (fun n => (2 ^ n, 2 ^ n)) (fun _ : Nat => 5) 0)
    [(fun _ => 7, [10, 11, 10]), (fun _ => 3, [12, 11, 0, 0, 10])] = some [[0, 1, 0], [2, 1, 3, 3, 0]] := by
  decide

/-- three groups (not a power of two): `hash & 2` never reaches group 1, the only one with room -/
theorem needs_power_of_two :
    probeKey 1 ([[(10, 0)], [], [(11, 1)]] : Groups Nat) 2 0 12 = none := by decide

/-- a full table probed with a new key never stops (the growth threshold must stay within the room) -/
theorem full_table_loops :
    probeKey 1 ([[(10, 0)], [(11, 1)]] : Groups Nat) 2 0 12 = none := by decide

end PqModel.Props.C04HashProbe
