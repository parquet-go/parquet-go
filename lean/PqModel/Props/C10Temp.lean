import PqModel.Props.C01
import PqModel.Props.C10

/-! # C10 — the temporary file of the `SortingWriter`

`sortAndWriteBufferedRows` (`sorting.go:195-229`) copies every sorted run through a generic writer
into a temporary buffer and flushes it: one row group per run. `Close` opens that buffer as a file
and hands its row groups to `MergeRowGroups` (`sorting.go:86-113`). Here the C01 file model
(`FileModel.lean`: nondeterministic writer — any page cuts at row boundaries, any dictionary
fallback point, any codecs satisfying their round-trip hypotheses — and the reader) is instantiated
with one row group per run: every row group of the temporary file, read on its own, returns
exactly the rows of its run, in order. Hence the inputs of the merge are the sorted runs, which is
what `sorting_writer_correct_history` starts from. -/
namespace PqModel.Props.C10
open PqModel.SortBuf PqModel.Dremel PqModel.Pages PqModel.FileModel PqModel.Plain

/-- the row-group configuration of the temporary file: group `i` holds run `i` (`cfg`: the writer's
    free choices for that group — page cuts, dictionary fallback) -/
def tempGroups (cfg : List Val → Nat → ChunkCfg) (runs : List (List Val)) : List GroupCfg :=
  runs.map fun run => ⟨run.length, cfg run⟩

theorem partitionRows_runs (cfg : List Val → Nat → ChunkCfg) : ∀ (runs : List (List Val)),
    partitionRows (tempGroups cfg runs) runs.flatten = runs.map (fun run => (cfg run, run))
  | [] => rfl
  | run :: runs => by
    simp only [tempGroups, List.map_cons, List.flatten_cons, partitionRows, List.take_left', List.drop_left']
    have ih := partitionRows_runs cfg runs
    simp only [tempGroups] at ih
    rw [ih]

theorem partitionRows_single (c : Nat → ChunkCfg) (run : List Val) :
    partitionRows [⟨run.length, c⟩] run = [(c, run)] := by
  simp [partitionRows]

/-- **temporary file**: for every schema, every list of runs whose rows conform to it, every choice
    of page cuts at row boundaries / dictionary fallback per run and every codecs satisfying the
    C01 round-trip hypotheses: the file with one row group per run, read row group by row group,
    returns the runs -/
theorem tempfile_rowgroups_roundtrip {β γ} (n : Node) (cd : Nat → ColCodec β γ) (B : Nat)
    (cfg : List Val → Nat → ChunkCfg) (runs : List (List Val))
    (hwf : wfN n = true) (hB : levelsBounded B n = true) (hcd : ∀ j, j < leavesN n → (cd j).OK B)
    (hconf : ∀ run ∈ runs, ∀ v ∈ run, confN n v = true)
    (hdom : ∀ run ∈ runs, ∀ v ∈ run, valsIn (fun j => (cd j).okV) 0 (shredN n 0 0 0 v) = true)
    (hcuts : ∀ run ∈ runs, cutsAligned n [⟨run.length, cfg run⟩] run = true) :
    (writeFile n cd (tempGroups cfg runs) runs.flatten).map (fun g => readFile n cd [g]) = runs.map some := by
  simp only [writeFile, partitionRows_runs, List.map_map]
  apply List.map_congr_left
  intro run hrun
  have h := PqModel.Props.C01.roundtrip n cd B [⟨run.length, cfg run⟩] run hwf (hconf run hrun) hB hcd (hdom run hrun) (hcuts run hrun)
  simpa only [writeFile, partitionRows_single, List.map_cons, List.map_nil, Function.comp] using h

/-- non-vacuity: the C01 witness (schema, rows, INT64 codecs from the C04 theorems) as a single run -/
example : ∃ (n : Node) (runs : List (List Val)), wfN n = true ∧ (∀ run ∈ runs, ∀ v ∈ run, confN n v = true) ∧ runs ≠ [] :=
  ⟨PqModel.Props.C01.witnessSchema, [PqModel.Props.C01.witnessRows], by decide, by decide, by decide⟩

/-- **the merge inputs of `Close` are the sorted runs**: for every call history on a writer with
    `sortRowCount ≥ 1` and every run sorter returning permutations, if the rows written conform to
    the schema and lie in the codecs' value domains, the row groups read back from the temporary
    file are `cutRuns … |>.map sortRun` — the runs `sorting_writer_correct_history` merges -/
theorem sorting_writer_tempfile_inputs {β γ} (n : Node) (cd : Nat → ColCodec β γ) (B : Nat)
    (cfg : List Val → Nat → ChunkCfg) (sortRun : List Val → List Val) (hperm : ∀ run, (sortRun run).Perm run)
    {maxRows : Nat} (h1 : 1 ≤ maxRows) (ops : List (SWOp Val))
    (hwf : wfN n = true) (hB : levelsBounded B n = true) (hcd : ∀ j, j < leavesN n → (cd j).OK B)
    (hconf : ∀ v ∈ written ops, confN n v = true)
    (hdom : ∀ v ∈ written ops, valsIn (fun j => (cd j).okV) 0 (shredN n 0 0 0 v) = true)
    (hcuts : ∀ run ∈ (cutRuns maxRows ops).map sortRun, cutsAligned n [⟨run.length, cfg run⟩] run = true) :
    let sorted := (cutRuns maxRows ops).map sortRun
    (writeFile n cd (tempGroups cfg sorted) sorted.flatten).filterMap (fun g => readFile n cd [g]) = sorted := by
  intro sorted
  have hmem : ∀ run ∈ sorted, ∀ v ∈ run, v ∈ written ops := by
    intro run hrun v hv
    obtain ⟨raw, hraw, rfl⟩ := List.mem_map.mp hrun
    rw [← (sorting_writer_runs_partition h1 ops).1]
    exact List.mem_flatten.mpr ⟨raw, hraw, (hperm raw).mem_iff.mp hv⟩
  have h := tempfile_rowgroups_roundtrip n cd B cfg sorted hwf hB hcd
    (fun run hrun v hv => hconf v (hmem run hrun v hv)) (fun run hrun v hv => hdom v (hmem run hrun v hv)) hcuts
  have := congrArg (List.filterMap id) h
  rwa [List.filterMap_map, List.filterMap_map, Function.id_comp, Function.id_comp, List.filterMap_some] at this

end PqModel.Props.C10
