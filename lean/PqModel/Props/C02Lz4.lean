import PqModel.Spec.FileCheck
import PqModel.Props.C20Lz4

/-! # C02, LZ4_RAW part — the file reader's decompression step (SPEC side)

The spec file reader (`Spec/FileCheck.lean`) value-decodes UNCOMPRESSED, SNAPPY, GZIP and LZ4_RAW
chunks. `partBytes` hands the stored bytes of an LZ4_RAW page (codec 7) to
`Spec.Lz4File.lz4Block`, a linear-time form of the block
reader `BlockCodecs.lz4Dec` (written from lz4_Block_format.md). The theorems below say what that
step returns, for EVERY file and EVERY conformant block, by composition with
`C20Lz4.lz4_reader_inverts_every_sequence_list`; the page decoders behind it (`decodeDictPage`,
`decodeDataPage`: levels, dictionary, PLAIN/RLE/DELTA_*/BYTE_STREAM_SPLIT) see the uncompressed
body only, so the per-encoding theorems of C04 apply to LZ4_RAW pages as they do to uncompressed
ones (`lz4raw_dict_page_is_plain_of_body` and `lz4raw_v1_data_page_decodes_as_uncompressed` spell the
composition out for the dictionary page and the v1 data page).

Nothing here mirrors Go code. The real encoder (pierrec/lz4 behind `compress/lz4`) is SAMPLED: the
sub-check `C02/lz4raw` takes every LZ4_RAW page of generated files, requires the stored block to be
the `encSeqs` of a writable, end-rule-conformant sequence list (the domain of the theorems), and
compares `partBytes` with the real decoder's output and with the rows written.

OPEN: zstd (6) and brotli (4) chunks stay structural (no Lean reader of those formats);
`∀ x, lz4Dec (real encoder x) = x` is sampled, not proved (C20Lz4). -/
namespace PqModel.Props.C02Lz4
open PqModel.Spec PqModel.Spec.BlockCodecs PqModel.Spec.Lz4Seqs PqModel.Spec.Lz4File

/-- **The reader the file check runs on LZ4_RAW pages is the block-format reader `lz4Dec`**, on
every input (conformant or not): same bytes out, same error. -/
theorem file_lz4_reader_is_lz4Dec (src : List UInt8) :
    lz4Dec src = (match lz4Block src with | .ok out => .ok out.toList | .error e => .error e) :=
  lz4Block_eq src

/-- **The file-level decompression step inverts every conformant block.** If the bytes a page
header announces, `d[pos, pos+len)`, are the encoding of a writable sequence list (literal runs
and matches of any length, every offset 1..65535 inside the output so far, overlapping matches
included, any final literal run), `partBytes` on an LZ4_RAW chunk returns exactly the bytes the
sequences mean. -/
theorem lz4raw_part_inverts_conformant_block (d : ByteArray) (pos len : Nat) (seqs : List Seq)
    (last : List UInt8) (hstored : blockAt d pos len = encSeqs seqs last)
    (hok : seqsOk seqs #[] = true) :
    partBytes d 7 true pos len = .ok (ByteArray.mk (applySeqs seqs #[] ++ last)) := by
  have h := C20Lz4.lz4_reader_inverts_every_sequence_list seqs last hok
  rw [lz4Block_eq] at h
  simp only [partBytes, hstored]
  cases hb : lz4Block (encSeqs seqs last) with
  | error e => rw [hb] at h; cases h
  | ok out =>
    rw [hb] at h
    have e : out = applySeqs seqs #[] ++ last := by
      apply Array.ext'
      simpa using h
    subst e
    rfl

/-- the block `12 12 12 9` stored between a header byte and a trailer -/
example : blockAt (ByteArray.mk #[0x15] ++ ByteArray.mk (encSeqs [⟨[1, 2], 2, 0⟩] [9]).toArray ++ ByteArray.mk #[0x50])
      1 (encSeqs [⟨[1, 2], 2, 0⟩] [9]).length = encSeqs [⟨[1, 2], 2, 0⟩] [9] ∧
    seqsOk [⟨[1, 2], 2, 0⟩] #[] = true :=
  ⟨blockAt_embedded _ _ _, by decide⟩

/-- **…wherever the block lies in the file**: for any bytes before (magic, other pages, the page
header) and after (other pages, indexes, footer). -/
theorem lz4raw_block_in_file (pre post : ByteArray) (seqs : List Seq) (last : List UInt8)
    (hok : seqsOk seqs #[] = true) :
    partBytes (pre ++ ByteArray.mk (encSeqs seqs last).toArray ++ post) 7 true pre.size
      (encSeqs seqs last).length = .ok (ByteArray.mk (applySeqs seqs #[] ++ last)) :=
  lz4raw_part_inverts_conformant_block _ _ _ seqs last (blockAt_embedded pre post _) hok

/-- **Every page body has a stored form the file reader inverts**: the block the proved greedy
matcher (any window; conformant, `C20Lz4.lz4_reader_inverts_greedy_encoder`) writes for `x`,
placed anywhere in a file, is decompressed to `x` by the file reader — the hypotheses of
`lz4raw_part_inverts_conformant_block` are met by an encoder for every input, not only by samples. -/
theorem lz4raw_every_body_has_a_readable_block (w : Nat) (x : List UInt8) (pre post : ByteArray) :
    partBytes (pre ++ ByteArray.mk (lz4Greedy w x).toArray ++ post) 7 true pre.size
      (lz4Greedy w x).length = .ok (ByteArray.mk x.toArray) := by
  have h := applySeqs_greedy w x.length #[] [] x
  unfold lz4Greedy
  rw [lz4raw_block_in_file pre post _ _ h.2, h.1]
  congr 2
  apply Array.ext'
  simp

/-- **A stored block that is not writable makes the page an error**, not data: an offset 0 or one
reaching before the start of the output (all offsets fitting the 2-byte field). -/
theorem lz4raw_part_rejects_unwritable_block (d : ByteArray) (pos len : Nat) (seqs : List Seq)
    (last : List UInt8) (hstored : blockAt d pos len = encSeqs seqs last)
    (h16 : ∀ s, s ∈ seqs → s.off < 65536) (hbad : seqsOk seqs #[] = false) :
    ∃ msg, partBytes d 7 true pos len = .error msg := by
  have h := C20Lz4.lz4_reader_rejects_unwritable_sequence_list seqs last h16 hbad
  rw [lz4Block_eq] at h
  simp only [partBytes, hstored]
  cases hb : lz4Block (encSeqs seqs last) with
  | error e => exact ⟨_, rfl⟩
  | ok out => rw [hb] at h; cases h

example : seqsOk [⟨[1, 2], 3, 0⟩] #[] = false := by decide

/-- the parts of a v2 page that are stored uncompressed (levels; values when `is_compressed` is
false) are taken as they are -/
theorem lz4raw_uncompressed_part (d : ByteArray) (pos len : Nat) :
    partBytes d 7 false pos len = .ok (d.extract pos (pos + len)) := by
  simp [partBytes]

/-- the framing of an LZ4_RAW page says nothing about its uncompressed size (v1 data pages and
dictionary pages): the size clause of the file check is decided by what the block decompresses to -/
theorem lz4raw_announces_no_size (d : ByteArray) (p : PageInfo) (hv1 : (p.ptype == 3) = false) :
    announcedSizeOk d 7 p = none := by
  simp [announcedSizeOk, hv1]

/-- **Composition with the page decoders (dictionary page)**: on an LZ4_RAW chunk whose stored
dictionary page body is a conformant block meaning `body`, the file reader's dictionary is what
the PLAIN spec decoder (C04) reads from `body` — compression has dropped out of the statement. -/
theorem lz4raw_dict_page_is_plain_of_body (d : ByteArray) (leaf : Leaf) (p : PageInfo)
    (seqs : List Seq) (last : List UInt8)
    (hstored : blockAt d p.bodyPos p.op.bodyLen = encSeqs seqs last)
    (hok : seqsOk seqs #[] = true) (henc : p.encoding = 0)
    (vals : List Value)
    (hplain : plainValues leaf.ptype leaf.typeLen p.op.numValues
      (sliceU8 (ByteArray.mk (applySeqs seqs #[] ++ last)) 0 (applySeqs seqs #[] ++ last).size []) = .ok vals) :
    ∃ soft, decodeDictPage d leaf 7 p = .ok (vals.toArray, soft) := by
  have hp := lz4raw_part_inverts_conformant_block d p.bodyPos p.op.bodyLen seqs last hstored hok
  unfold decodeDictPage
  simp only [hp, henc, bind, Except.bind]
  have hsz : (ByteArray.mk (applySeqs seqs #[] ++ last)).size = (applySeqs seqs #[] ++ last).size := rfl
  rw [hsz, hplain]
  simp only [bne_self_eq_false, Bool.false_and, Bool.false_eq_true, ↓reduceIte]
  exact ⟨_, rfl⟩

theorem uncompressed_whole_body (body : ByteArray) : partBytes body 0 true 0 body.size = .ok body := by
  simp [partBytes]

/-- **Composition with the page decoders (v1 data page)**: on an LZ4_RAW chunk, a v1 data page
whose stored body is a conformant block meaning `body`, of the size the header announces, decodes
(levels, values through whatever encoding, every count clause) EXACTLY as the page of an
UNCOMPRESSED chunk whose stored body is `body` — so every statement about the spec decoders on
uncompressed pages (C04) transfers to LZ4_RAW pages. -/
theorem lz4raw_v1_data_page_decodes_as_uncompressed (d : ByteArray) (leaf : Leaf)
    (dict : Option (Array Value)) (p : PageInfo) (seqs : List Seq) (last : List UInt8)
    (hstored : blockAt d p.bodyPos p.op.bodyLen = encSeqs seqs last)
    (hok : seqsOk seqs #[] = true) (hv1 : (p.ptype == 3) = false)
    (hsize : (applySeqs seqs #[] ++ last).size = p.op.uncompLen) :
    decodeDataPage d leaf 7 dict p =
      decodeDataPage (ByteArray.mk (applySeqs seqs #[] ++ last)) leaf 0 dict
        { p with bodyPos := 0, op := { p.op with bodyLen := p.op.uncompLen } } := by
  have hp := lz4raw_part_inverts_conformant_block d p.bodyPos p.op.bodyLen seqs last hstored hok
  have hq : partBytes (ByteArray.mk (applySeqs seqs #[] ++ last)) 0 true 0 p.op.uncompLen =
      .ok (ByteArray.mk (applySeqs seqs #[] ++ last)) := by
    rw [← hsize]; exact uncompressed_whole_body _
  have ha := lz4raw_announces_no_size d p hv1
  have hsz : (ByteArray.mk (applySeqs seqs #[] ++ last)).size = p.op.uncompLen := hsize
  unfold decodeDataPage
  simp only [hv1, hp, hq, ha, Bool.false_eq_true, ↓reduceIte, bind, Except.bind, hsz,
    beq_self_eq_true, Bool.true_or]

/-- a v1 page header announcing the 7 bytes the block `12 12 12 9` means -/
example : (applySeqs [⟨[1, 2], 2, 0⟩] #[] ++ ([9] : List UInt8)).size = 7 := by decide

-- OPEN: the same statement for v2 data pages (levels stored uncompressed in front of the block:
-- the uncompressed counterpart is a file holding levels ++ body); `decodeDataPage` reaches the
-- compressed part through `partBytes` only, so `lz4raw_part_inverts_conformant_block` is the step
-- that matters there too.

end PqModel.Props.C02Lz4
