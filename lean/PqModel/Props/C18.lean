import PqModel.AadSites

/-! # C18 — Encrypted files round-trip, leak no plaintext and authenticate every module (PARTIAL)

(1) The AAD construction of `encrypt.go` is injective over the module inventory of a file, inside the
range of its 2-byte ordinals, and across files; (2) for every write history and every read/seek history
the reader opens each module with exactly the AAD the writer sealed it with; (3) with an abstract AEAD
satisfying `Ideal` (AES-GCM itself is ASSUMED, not modelled): round trip, transplant / tamper /
wrong-key failure, "error or the original plaintext" against a storage adversary.

"No plaintext byte of an encrypted column is written outside a sealed module" is not a theorem of
this file: on the mirror of the write sites it is `C18Leak.encrypted_columns_never_raw`; on real
files it is tied by the L1 leak scan and the byte-coverage check of the `aad` sub-check. -/
namespace PqModel.Props.C18
open PqModel.Aad

/-! ## AAD injectivity -/

/-- For a fixed AAD prefix and file identifier, two modules of the inventory whose ordinals fit
    the 2-byte encoding and that have the same AAD are the same module: a sealed module can only
    be opened in the slot it was sealed for. -/
theorem aad_injective (pfx fu : Bytes) (m m' : Module) (hm : m.InRange) (hm' : m'.InRange)
    (h : m.aad pfx fu = m'.aad pfx fu) : m = m' :=
  Module.aad_inj hm hm' h

example : (Module.dataPage 3 1 200).InRange ∧ (Module.dictPage 3 1).InRange ∧
    (Module.dataPage 3 1 200).aad [7] [1, 2] ≠ (Module.dataPageHeader 3 1 200).aad [7] [1, 2] := by decide

/-- Beyond the bound the code does not fail, it wraps (`int16(c.numPages)`, `d.dataPageOrd++`,
    `int16(target)`, `int16(i)`): page 65536 of a column chunk is sealed with the AAD of page 0, so
    the two pages can be exchanged undetected. Row groups are capped at 32767 by `writeRowGroup`;
    the page ordinal is not capped anywhere. (The format stores ordinals as int16 and allows at
    most 32767 pages per chunk; the code neither refuses nor signals the overflow.) -/
theorem aad_collides_beyond_range (pfx fu : Bytes) (rg col : Nat) :
    (Module.dataPage rg col 65536).aad pfx fu = (Module.dataPage rg col 0).aad pfx fu ∧
    ¬ (Module.dataPage rg col 65536).InRange := by
  -- the low 16 bits of 65536 are those of 0
  have h : ordBytes 65536 = ordBytes 0 := rfl
  refine ⟨?_, by simp [Module.InRange, Module.ords]⟩
  simp [Module.aad, Module.used, Module.type, Used.aad, makeAAD, Module.ords, h]

/-- Files whose `(prefix, file identifier)` pairs differ (same lengths: the identifier is 8 bytes
    unless the caller supplies `FileIdentifier`, whose length the code does not check) share no
    AAD at all, whatever the modules. -/
theorem aad_injective_across_files (pfx fu pfx' fu' : Bytes) (m m' : Module)
    (hp : pfx.length = pfx'.length) (hf : fu.length = fu'.length) (hne : (pfx, fu) ≠ (pfx', fu')) :
    m.aad pfx fu ≠ m'.aad pfx' fu' := by
  intro h
  obtain ⟨rfl, rfl⟩ := makeAAD_file_inj hp hf h
  exact hne rfl

example : ([1] : Bytes).length = ([1] : Bytes).length ∧ ([2, 3] : Bytes).length = ([2, 4] : Bytes).length ∧
    (([1], [2, 3]) : Bytes × Bytes) ≠ ([1], [2, 4]) := by decide

/-- Without the length hypothesis the concatenation `prefix ‖ fileUnique ‖ type ‖ ordinals` is
    ambiguous: a column-metadata module of one file and the footer of a file with a longer prefix
    can have the same AAD (the format's construction has the same property; file identifiers
    are random, so this needs a 2^-40 coincidence or a caller-chosen `FileIdentifier`). -/
theorem aad_ambiguous_without_lengths :
    (Module.columnMeta 2 3).aad [] [10, 11, 12, 13, 14, 15, 16, 17] =
    Module.footer.aad [10, 11, 12, 13] [14, 15, 16, 17, 1, 2, 0, 3] := by decide

/-! ## The code's module numbering against the format document -/

/-- The module-type bytes of `encrypt.go` are not those of the format document for 6 of the 10
    module types, and dictionary modules carry an extra page ordinal: files are self-consistent
    but other implementations derive different AADs (outside the statement of C18; reported as an
    observation for C02). Spec side recalled offline, see `ModType.specCode`. -/
theorem mirror_deviates_from_spec :
    (Module.dataPageHeader 0 0 0).aad [] [] ≠ (Module.dataPageHeader 0 0 0).specAad [] [] ∧
    (Module.dictPage 0 0).aad [] [] ≠ (Module.dictPage 0 0).specAad [] [] ∧
    (Module.bloomHeader 0 0).aad [] [] ≠ (Module.bloomHeader 0 0).specAad [] [] ∧
    (Module.columnIndex 0 0).aad [] [] ≠ (Module.columnIndex 0 0).specAad [] [] ∧
    Module.footer.aad [] [] = Module.footer.specAad [] [] ∧
    (Module.dataPage 1 2 3).aad [] [] = (Module.dataPage 1 2 3).specAad [] [] := by decide +kernel

/-! ## Writer / reader ordinal agreement -/

/-- Every module a writer has put in the file, after ANY history of buffered writes, page flushes
    (from full buffers, `Flush`, `Close`), row-group flushes (empty ones included), rows and page
    flushes on row groups made by `BeginRowGroup`, their Commits interleaved with the writer's own
    row groups, their reuse after Commit, and `Reset`s, was sealed with the AAD arguments of the slot it
    occupies in the file. -/
theorem writer_ordinals_agree (cfg : WCfg) (ops : List WOp) :
    ∀ e ∈ wclose cfg (wrun cfg ops), e.used = e.slot.used :=
  fun e he => (wclose_good (winv_run ops) e he).1

/-- Every module of the closed file is sealed with the file identifier of the encryption state the writer holds when it closes the
    file — the one `writeFileFooter` stores as `AadFileUnique` (writer.go:1444), i.e. the one every
    reader of this file uses — whatever identifiers the column writers held in earlier files. -/
theorem writer_file_identifier_agrees (cfg : WCfg) (ops : List WOp) :
    ∀ e ∈ wclose cfg (wrun cfg ops), e.fu = some (wrun cfg ops).gen :=
  fun e he => (wclose_good (winv_run ops) e he).2

/-- the number of the encryption state is the number of `Reset`s: every file of a reused writer
    has an identifier of its own (a fresh random one unless `FileIdentifier` is configured) -/
theorem generation_counts_resets (cfg : WCfg) (ops : List WOp) :
    (wrun cfg ops).gen = (ops.filter (· == .reset)).length := by
  unfold wrun
  -- generalised over the start state: the count relates the run to `ops`, which `List.foldlRecOn` does not carry
  suffices ∀ s, (ops.foldl (wstep cfg) s).gen = s.gen + (ops.filter (· == .reset)).length by
    simpa [winit] using this winit
  induction ops with
  | nil => intro s; rfl
  | cons o ops ih =>
    intro s
    rw [List.foldl_cons, ih]
    cases o with
    | reset => simp [wstep, wstepG, wreset]; omega
    | _ => simp [wstep, wstepG, wflush_gen, wcommit_gen]

/-- In bytes: the AAD of every sealed module of the closed file is the AAD of its slot under the
    identifier of the closing generation. -/
theorem writer_aad_is_slot_aad (cfg : WCfg) (ops : List WOp) (pfx : Bytes) (fuOf : Nat → Bytes) :
    ∀ e ∈ wclose cfg (wrun cfg ops), e.aad pfx fuOf = e.slot.aad pfx (fuOf (wrun cfg ops).gen) := by
  intro e he
  simp only [WEv.aad, writer_file_identifier_agrees cfg ops e he, writer_ordinals_agree cfg ops e he]
  rfl

/-- The pages the writer reads back from its own page buffers to build bloom filters
    (`flushFilterPages`) are opened with exactly the arguments — ordinals AND file identifier —
    they were sealed with, in every history: the writer never fails on its own pages. -/
theorem writer_rereads_own_pages (cfg : WCfg) (ops : List WOp) :
    ∀ ab ∈ (wflush cfg (wrun cfg ops) []).reopened, ab.1 = ab.2 :=
  (winv_flush (winv_run ops) []).re

/-- non-vacuity: a re-read happens, of both pages of the second file of a reused writer -/
example :
    let cfg : WCfg := { ncols := 1, dict := fun _ => false, bloom := fun _ => true, plainFooter := false, reread := fun _ => true }
    ((wflush cfg (wrun cfg [.page 0, .flush [], .reset, .page 0, .page 0]) []).reopened.map (·.2)) =
      [⟨.dataPageHeader 0 0 0, ⟨.dataPageHeader, [0, 0, 0]⟩, some 1⟩, ⟨.dataPage 0 0 0, ⟨.dataPage, [0, 0, 0]⟩, some 1⟩,
       ⟨.dataPageHeader 0 0 1, ⟨.dataPageHeader, [0, 0, 1]⟩, some 1⟩, ⟨.dataPage 0 0 1, ⟨.dataPage, [0, 0, 1]⟩, some 1⟩] := by decide +kernel

/-- non-vacuity: a history with Reset and a Commit really seals pages, in row group 0 of the new file -/
example :
    let cfg : WCfg := { ncols := 1, dict := fun _ => false, bloom := fun _ => false, plainFooter := false }
    (⟨.dataPage 0 0 0, ⟨.dataPage, [0, 0, 0]⟩, some 1⟩ : WEv) ∈ wclose cfg (wrun cfg [.page 0, .flush [], .reset, .page 0]) ∧
    (⟨.dataPage 1 0 1, ⟨.dataPage, [1, 0, 1]⟩, some 0⟩ : WEv) ∈ wclose cfg (wrun cfg [.page 0, .cwrite 7, .commit 7 [0] [0, 0]]) := by decide +kernel

/-- The writer model is not vacuous: this history really produces sealed pages in two row groups. -/
example :
    let cfg : WCfg := { ncols := 2, dict := fun c => c == 0, bloom := fun c => c == 1, plainFooter := true }
    (⟨.dataPage 1 0 0, ⟨.dataPage, [1, 0, 0]⟩, some 0⟩ : WEv) ∈ wclose cfg (wrun cfg [.page 0, .page 1, .flush [0], .flush [], .page 0, .page 1]) ∧
    (⟨.dataPage 0 0 1, ⟨.dataPage, [0, 0, 1]⟩, some 0⟩ : WEv) ∈ wclose cfg (wrun cfg [.page 0, .page 1, .flush [0], .flush [], .page 0, .page 1]) ∧
    (wclose cfg (wrun cfg [.page 0, .page 1, .flush [0], .flush [], .page 0, .page 1])).length = 31 := by decide +kernel

/-- non-vacuity of the interleaving: the writer's own rows, a row group of `BeginRowGroup` whose
    flushes before Commit are no-ops, its Commit, the SAME row group reused and committed again
    after another one, and rows of the writer itself after that: five row groups, every page
    sealed for the row group it lands in -/
example :
    let cfg : WCfg := { ncols := 1, dict := fun _ => false, bloom := fun _ => false, plainFooter := false }
    let ops : List WOp := [.write, .page 0, .cwrite 3, .cpage 3 0, .commit 3 [0] [0], .cwrite 4, .commit 4 [] [0],
                           .cwrite 3, .cpage 3 0, .page 0, .commit 3 [0] [0, 0], .page 0]
    ((wclose cfg (wrun cfg ops)).filter (fun e => e.slot.type == .dataPage)).map (·.slot) =
      [.dataPage 0 0 0, .dataPage 0 0 1, .dataPage 1 0 0, .dataPage 2 0 0, .dataPage 3 0 0, .dataPage 3 0 1,
       .dataPage 4 0 0, .dataPage 4 0 1, .dataPage 5 0 0] := by decide +kernel

/-- a row group made by `BeginRowGroup` BEFORE a `Reset` and committed after it lands in the new
    file with the new file's identifier (its column writers are handed ordinal and identifier by
    `writeRowGroup`, whatever they held) -/
example :
    let cfg : WCfg := { ncols := 1, dict := fun _ => true, bloom := fun _ => false, plainFooter := false }
    (wclose cfg (wrun cfg [.cwrite 5, .page 0, .flush [], .reset, .cwrite 5, .commit 5 [] [0]])).map (fun e => (e.slot, e.fu)) =
      [(.dictPageHeader 0 0, some 1), (.dictPage 0 0, some 1), (.dataPageHeader 0 0 0, some 1), (.dataPage 0 0 0, some 1),
       (.columnIndex 0 0, some 1), (.offsetIndex 0 0, some 1), (.footer, some 1)] := by decide +kernel

/-- REGRESSION FACT on the mirror of the code BEFORE the writer's own row group was given the next
    ordinal after a Commit: `w.Write`; `rg.WriteRows`; `rg.Commit()` (row groups 0 and 1); a page
    of the writer itself spilling before Close was sealed as row group 1 and stored in row group 2. -/
theorem commit_leaves_stale_main_ordinal_before_fix :
    let cfg : WCfg := { ncols := 1, dict := fun _ => false, bloom := fun _ => false, plainFooter := false }
    (⟨.dataPage 2 0 0, ⟨.dataPage, [1, 0, 0]⟩, some 0⟩ : WEv) ∈
      wclose cfg (wrunBeforeCommitFix cfg [.write, .cwrite 0, .commit 0 [0] [0], .page 0]) := by
  decide +kernel

/-- REGRESSION FACT on the mirror of the code BEFORE the repair of `writer.reset`: after
    `Writer.Reset` the column writers kept the row-group ordinal of the previous file. A page
    flushed before `writeRowGroup` corrects the ordinal (every page of `Writer.Close`, every page of
    a full buffer) was sealed as row group 1 and landed in row group 0 of the new file: the file
    could not be read back. (And the second file kept the identifier of the first: generation 0.) -/
theorem reset_breaks_ordinal_agreement_before_fix :
    let cfg : WCfg := { ncols := 1, dict := fun _ => false, bloom := fun _ => false, plainFooter := false }
    (⟨.dataPage 0 0 0, ⟨.dataPage, [1, 0, 0]⟩, some 0⟩ : WEv) ∈ wclose cfg (wrunBefore cfg [.page 0, .flush [], .reset, .page 0]) ∧
    (wrunBefore cfg [.page 0, .flush [], .reset, .page 0]).gen = 0 := by
  decide

/-- Why `reset` must hand the new identifier to the column writers although `writeRowGroup` assigns
    it too (writer.go:1240 vs 1564): on the variant WITHOUT that line (`wresetNoHandover`, not the
    code), a page sealed between `Reset` and the next `writeRowGroup` — every page `Writer.Close`
    flushes, every page of a full buffer — carries the identifier of the PREVIOUS file (generation
    0) while the footer announces generation 1: the second file cannot be read, and with a bloom
    filter that is built from the pages the writer fails on its own re-read. -/
theorem reset_must_hand_over_identifier :
    let cfg : WCfg := { ncols := 1, dict := fun _ => false, bloom := fun _ => true, plainFooter := false, reread := fun _ => true }
    let s := wrunNoHandover cfg [.page 0, .flush [], .reset, .page 0]
    (⟨.dataPage 0 0 0, ⟨.dataPage, [0, 0, 0]⟩, some 0⟩ : WEv) ∈ wclose cfg s ∧
    (⟨.footer, ⟨.footer, []⟩, some 1⟩ : WEv) ∈ wclose cfg s ∧
    ((⟨.dataPage 0 0 0, ⟨.dataPage, [0, 0, 0]⟩, some 0⟩, ⟨.dataPage 0 0 0, ⟨.dataPage, [0, 0, 0]⟩, some 1⟩) : WEv × WEv) ∈ (wflush cfg s []).reopened := by
  decide +kernel

/-- Whatever sequence of page reads, cached-page servings, lazy dictionary reads and seeks (with
    or without offset index, to any page) a `FilePages` goes through, every module it opens is
    opened with the AAD arguments of the module the stream is actually positioned on. -/
theorem reader_ordinals_agree (c : Chunk) (ops : List ROp) :
    ∀ e ∈ (rrun c ops).log, e.used = e.slot.used :=
  (rinv_run c ops).log

/-- non-vacuity: a seek into the middle, a cached-page shortcut and a lazy dictionary read -/
example :
    let c : Chunk := { rg := 2, col := 1, hasDict := true, npages := 5 }
    ((rrun c [.seekIndexed 3, .step, .seekIndexed 3, .serveLast, .seekIndexed 1, .step, .readDict, .seekNoIndex, .step]).log.map (·.slot)) =
      [.dataPageHeader 2 1 3, .dataPage 2 1 3, .dataPageHeader 2 1 1, .dataPage 2 1 1,
       .dictPageHeader 2 1, .dictPage 2 1, .dataPageHeader 2 1 0, .dataPage 2 1 0] := by decide +kernel

/-- `ordinals_agree`: for every write history and every read/seek history, the AAD
    the reader computes for the module it is about to open equals the AAD the writer sealed the
    module in that slot with. -/
theorem ordinals_agree (cfg : WCfg) (wops : List WOp)
    (c : Chunk) (rops : List ROp) (pfx fu : Bytes)
    (ew : WEv) (hw : ew ∈ wclose cfg (wrun cfg wops)) (er : Ev) (hr : er ∈ (rrun c rops).log)
    (hslot : ew.slot = er.slot) :
    er.used.aad pfx fu = ew.used.aad pfx fu := by
  rw [writer_ordinals_agree cfg wops ew hw, reader_ordinals_agree c rops er hr, hslot]

/-- The same in bytes, with the file identifier not a free parameter as in `ordinals_agree`: `fuOf` gives the
    identifier bytes of every encryption state the reused writer went through; the file carries
    `fuOf (closing generation)` in its footer (writer.go:1444), the reader takes it from there
    (file.go:147-167, 1162) — and that is what every module was sealed with. -/
theorem aad_agree (cfg : WCfg) (wops : List WOp)
    (c : Chunk) (rops : List ROp) (pfx : Bytes) (fuOf : Nat → Bytes)
    (ew : WEv) (hw : ew ∈ wclose cfg (wrun cfg wops)) (er : Ev) (hr : er ∈ (rrun c rops).log)
    (hslot : ew.slot = er.slot) :
    er.used.aad pfx (fuOf (wrun cfg wops).gen) = ew.aad pfx fuOf := by
  rw [writer_aad_is_slot_aad cfg wops pfx fuOf ew hw, reader_ordinals_agree c rops er hr, hslot]
  rfl

/-- non-vacuity of `aad_agree` / `roundtrip_reused_writer`: the second file of a reused writer has a
    page in row group 0 that a reader of that chunk opens after a seek, and the identifier
    generations really differ between the two files -/
example :
    let cfg : WCfg := { ncols := 1, dict := fun _ => false, bloom := fun _ => false, plainFooter := false }
    let wops : List WOp := [.page 0, .flush [], .reset, .page 0, .page 0]
    let c : Chunk := { rg := 0, col := 0, hasDict := false, npages := 2 }
    (∃ ew ∈ wclose cfg (wrun cfg wops), ∃ er ∈ (rrun c [.seekIndexed 1, .step]).log, ew.slot = er.slot ∧ ew.fu = some 1) ∧
    (wrun cfg wops).gen = 1 ∧ (wrun cfg [.page 0, .flush []]).gen = 0 := by decide +kernel

/-- The modules read outside `FilePages` (footer, column metadata, column/offset index, bloom
    filter) are opened with `(rowGroup.Ordinal, column index)` taken from the footer — that is
    `Module.aad` itself (the reader is `Aad.frun` (AadFile.lean), `C18File.file_reader_ordinals_agree`); this is the
    writer's half. -/
theorem static_ordinals_agree (cfg : WCfg) (wops : List WOp)
    (pfx fu : Bytes) (ew : WEv) (hw : ew ∈ wclose cfg (wrun cfg wops)) :
    ew.slot.aad pfx fu = ew.used.aad pfx fu := by
  rw [writer_ordinals_agree cfg wops ew hw]; rfl

/-- The bloom-filter and page-index modules in particular: whatever the history, each of them is
    sealed with the row-group and column ordinals of the chunk it belongs to — the ordinals the
    reader derives from the footer (`readBloomFilter`, `readColumnIndexFrom`, `readOffsetIndex`,
    `ReadPageIndex`: file.go:474, 515, 981, 1019, 1056, 1065). -/
theorem bloom_and_index_ordinals_agree (cfg : WCfg) (wops : List WOp) (pfx fu : Bytes) (rg col : Nat)
    (ew : WEv) (hw : ew ∈ wclose cfg (wrun cfg wops))
    (hk : ew.slot = .bloomHeader rg col ∨ ew.slot = .bloomBits rg col ∨ ew.slot = .columnIndex rg col ∨ ew.slot = .offsetIndex rg col) :
    ew.used.ords = [rg, col] ∧ ew.used.aad pfx fu = ew.slot.aad pfx fu := by
  have h := writer_ordinals_agree cfg wops ew hw
  refine ⟨?_, (static_ordinals_agree cfg wops pfx fu ew hw).symm⟩
  rcases hk with hk | hk | hk | hk <;> rw [h, hk] <;> rfl

/-- In the mirror the page-index modules exist for every chunk of every committed row group: a column
    index and an offset index sealed for `(i, j)` for all `i < number of row groups`, `j < ncols`
    (the code omits the column index of a chunk without bounds, writer.go:1366: `Aad.wclose` does not). -/
theorem page_index_modules_present (cfg : WCfg) (wops : List WOp) (i j : Nat)
    (hi : i < (wflush cfg (wrun cfg wops) []).nrg) (hj : j < cfg.ncols) :
    (⟨.columnIndex i j, ⟨.columnIndex, [i, j]⟩, some (wrun cfg wops).gen⟩ : WEv) ∈ wclose cfg (wrun cfg wops) ∧
    (⟨.offsetIndex i j, ⟨.offsetIndex, [i, j]⟩, some (wrun cfg wops).gen⟩ : WEv) ∈ wclose cfg (wrun cfg wops) := by
  simp only [wclose, wflush_gen, List.mem_append, List.mem_flatMap, List.mem_map, List.mem_range, List.mem_singleton]
  exact ⟨Or.inl (Or.inl (Or.inr ⟨i, hi, j, hj, rfl⟩)), Or.inl (Or.inr ⟨i, hi, j, hj, rfl⟩)⟩

/-- non-vacuity: a bloom filter of row group 1 (after a Reset and an empty flush) -/
example :
    let cfg : WCfg := { ncols := 2, dict := fun _ => false, bloom := fun c => c == 1, plainFooter := false }
    (⟨.bloomBits 1 1, ⟨.bloomBits, [1, 1]⟩, some 1⟩ : WEv) ∈ wclose cfg (wrun cfg [.page 0, .flush [], .reset, .page 0, .flush [1], .flush [], .page 1]) := by decide +kernel

/-! ## With the ideal-AEAD hypothesis -/

section aead
variable {K N C : Type} (A : AEAD K N C)

/-- A module sealed by the writer in some slot is opened by a reader positioned on that slot,
    with the same key, and yields the plaintext (every write history, every
    read/seek history). -/
theorem roundtrip (hI : Ideal A) (cfg : WCfg) (wops : List WOp)
    (c : Chunk) (rops : List ROp) (pfx fu : Bytes)
    (ew : WEv) (hw : ew ∈ wclose cfg (wrun cfg wops)) (er : Ev) (hr : er ∈ (rrun c rops).log)
    (hslot : ew.slot = er.slot) (k : K) (n : N) (p : Bytes) :
    openModule A k (er.used.aad pfx fu) (sealModule A k n (ew.used.aad pfx fu) p) = some p := by
  rw [ordinals_agree cfg wops c rops pfx fu ew hw er hr hslot]
  exact hI.open_seal k n _ p

/-- Round trip with the identifiers of a reused writer made explicit: the module as the writer really sealed
    it (`ew.aad`: with whatever identifier its column writer held at that moment) opens for a
    reader that takes the identifier from the footer of the file. -/
theorem roundtrip_reused_writer (hI : Ideal A) (cfg : WCfg) (wops : List WOp)
    (c : Chunk) (rops : List ROp) (pfx : Bytes) (fuOf : Nat → Bytes)
    (ew : WEv) (hw : ew ∈ wclose cfg (wrun cfg wops)) (er : Ev) (hr : er ∈ (rrun c rops).log)
    (hslot : ew.slot = er.slot) (k : K) (n : N) (p : Bytes) :
    openModule A k (er.used.aad pfx (fuOf (wrun cfg wops).gen)) (sealModule A k n (ew.aad pfx fuOf) p) = some p :=
  wclose_roundtrip hI (winv_run wops) hw (reader_ordinals_agree c rops er hr) hslot pfx fuOf k n p

/-- the same for the modules opened from footer metadata -/
theorem roundtrip_static (hI : Ideal A) (cfg : WCfg) (wops : List WOp)
    (pfx fu : Bytes) (ew : WEv) (hw : ew ∈ wclose cfg (wrun cfg wops)) (k : K) (n : N) (p : Bytes) :
    openModule A k (ew.slot.aad pfx fu) (sealModule A k n (ew.used.aad pfx fu) p) = some p := by
  rw [static_ordinals_agree cfg wops pfx fu ew hw]
  exact hI.open_seal k n _ p

/-- A module sealed for slot `m'` and placed in a different slot `m` of the same file (another
    page, column, row group, or another module type) does not open, whatever the keys. -/
theorem transplant_fails (hI : Ideal A) (pfx fu : Bytes) (m m' : Module) (hm : m.InRange) (hm' : m'.InRange)
    (hne : m ≠ m') (k k' : K) (n : N) (p : Bytes) :
    openModule A k (m.aad pfx fu) (sealModule A k' n (m'.aad pfx fu) p) = none :=
  hI.open_eq_none (.inr fun h => hne (aad_injective pfx fu m m' hm hm' h.symm)) n p

/-- A module taken from another file (different prefix or file identifier of the same lengths)
    does not open in any slot. -/
theorem transplant_across_files_fails (hI : Ideal A) (pfx fu pfx' fu' : Bytes) (m m' : Module)
    (hp : pfx.length = pfx'.length) (hf : fu.length = fu'.length) (hne : (pfx, fu) ≠ (pfx', fu'))
    (k k' : K) (n : N) (p : Bytes) :
    openModule A k (m.aad pfx fu) (sealModule A k' n (m'.aad pfx' fu') p) = none :=
  hI.open_eq_none (.inr (aad_injective_across_files pfx fu pfx' fu' m m' hp hf hne).symm) n p

/-- Any envelope that is not a sealing, under this module's key and AAD, of some plaintext (a
    flipped byte anywhere in nonce, ciphertext or tag; a truncation; random bytes) does not open. -/
theorem tamper_fails (hI : Ideal A) (k : K) (aad : Bytes) (e : Env N C)
    (hforged : ∀ n p, e ≠ sealModule A k n aad p) : openModule A k aad e = none :=
  Option.eq_none_iff_forall_ne_some.2 fun _ h => hforged _ _ (hI.env_of_open h)

theorem wrong_key_fails (hI : Ideal A) (k k' : K) (hk : k ≠ k') (n : N) (aad aad' p : Bytes) :
    openModule A k' aad' (sealModule A k n aad p) = none :=
  hI.open_eq_none (.inl hk) n p

/-- "An error or the original data": `W` is everything honest writers ever sealed (all modules of
    all files under all keys); `s ∈ W` is the sealing the writer made for the module being read; no
    other honest sealing has the same key and AAD (one file: `aad_injective`; several files:
    `aad_injective_across_files`). Whatever envelope a storage adversary (`Adv`: honest envelopes
    or non-ciphertexts) puts in the slot, the reader's open either fails or returns exactly the
    plaintext the writer sealed there. -/
theorem no_altered_data (hI : Ideal A) (W : List (Sealing K N)) (s : Sealing K N)
    (huniq : ∀ s' ∈ W, s'.key = s.key → s'.aad = s.aad → s'.plain = s.plain)
    (e : Env N C) (hadv : Adv A W e) (q : Bytes) (h : openModule A s.key s.aad e = some q) : q = s.plain := by
  rcases hadv with ⟨s', hs', rfl⟩ | hnot
  · -- an honest envelope that opens here was sealed under this key and AAD: it is the writer's own
    obtain ⟨hk, ha, hp⟩ := hI.open_seal_eq h
    exact hp ▸ huniq s' hs' hk ha
  · rw [tamper_fails A hI s.key s.aad e (fun n p => hnot _ n _ p)] at h
    cases h

/-- the world of one written file: one sealing per module of a list of in-range
    modules satisfies the uniqueness hypothesis of `no_altered_data` -/
theorem file_world_unique (pfx fu : Bytes) (key : Module → K) (nonce : Module → N) (plain : Module → Bytes)
    (ms : List Module) (hr : ∀ m ∈ ms, m.InRange) (m : Module) (hm : m ∈ ms) :
    let W := ms.map (fun m => (⟨key m, nonce m, m.aad pfx fu, plain m⟩ : Sealing K N))
    ∀ s' ∈ W, s'.key = key m → s'.aad = m.aad pfx fu → s'.plain = plain m := by
  intro W s' hs' _ ha
  obtain ⟨m', hm', rfl⟩ := List.mem_map.1 hs'
  have := aad_injective pfx fu m' m (hr m' hm') (hr m hm) ha
  subst this; rfl

end aead

/-! ## Non-vacuity of the AEAD hypotheses -/

example : Ideal symAEAD := symAEAD_ideal

example : openModule symAEAD 5 ((Module.dataPage 0 1 2).aad [9] [1])
    (sealModule symAEAD 5 77 ((Module.dataPage 0 1 2).aad [9] [1]) [1, 2, 3]) = some [1, 2, 3] := by decide

example : openModule symAEAD 5 ((Module.dataPage 0 1 2).aad [9] [1])
    (sealModule symAEAD 5 77 ((Module.dataPage 0 1 3).aad [9] [1]) [1, 2, 3]) = none := by decide

example : Adv symAEAD [⟨5, 77, [1], [2]⟩] (Sealing.env symAEAD ⟨5, 77, [1], [2]⟩) := Or.inl ⟨_, List.mem_cons_self .., rfl⟩

end PqModel.Props.C18
