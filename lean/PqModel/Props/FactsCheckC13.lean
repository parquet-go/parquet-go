import PqModel.Generated.Facts
import PqModel.PageLoad
import PqModel.PageReaders

/-! # C13 — expectations about the facts `tools/factgen` extracts from file.go / writer.go

`Generated/Facts.lean` is rewritten from the source on every `./check` run; the theorems below are
`decide`d against what the code says *now*. They tie the hand-written mirror (`PageLoad.lean`) to the
source: through which function each path asks for a page body, which function fills the buffer,
whether it compares checksums, and that the comparison is skipped for a zero CRC.

`FilePages.readDictionary` obtains the body from
`FilePages.readPage`, which is the only function of file.go that fills a page buffer from the reader;
the allow-list of unverified loaders is EMPTY. A loader that forgets the comparison (a new one, or
`readDictionary` going back to a bare `io.ReadFull`) makes `loaders_verify` fail; a path of the mirror
that does not reach its loader makes `mirror_matches_code` fail. The later sections do the same one and two
layers up: the callers of the page readers (`pagereaders`), the callers of value and row readers
(`rowReaderCalls`), and the readers that remember a failed read (`readerstate`). -/
namespace PqModel.Props.FactsCheckC13
open PqModel.Generated.Facts PqModel.PageLoad PqModel.PageReaders

/-- known unverified page loaders: none -/
def allowUnverified : List String := []

/-- every function of file.go that fills a page buffer from the reader compares the checksum before
    it returns successfully — no exceptions; and there is such a function (not vacuous) -/
theorem loaders_verify :
    (pageLoaders.filter (fun l => !allowUnverified.contains l.1)).all (·.2) = true ∧
    pageLoaders.lookup "FilePages.readPage" = some true := by decide +kernel

/-- the allow-list only names loaders that exist and really do not verify (no stale excuses) -/
theorem allowUnverified_not_stale :
    allowUnverified.all (fun n => pageLoaders.lookup n == some false) = true := by decide +kernel

/-- every path of the mirror asks for the page body in a function that calls the loader the mirror
    names, that loader is an extracted page loader, and the mirror's `verifies` agrees with the code -/
theorem mirror_matches_code :
    Path.all.all (fun p => pageLoaderCalls.contains (p.entry, p.loader) &&
      pageLoaders.lookup p.loader == some (verifies current p)) = true := by decide +kernel

/-- no function of file.go other than the entries of the mirror obtains a body from a page loader -/
theorem loader_callers_known :
    pageLoaderCalls.all (fun c => (Path.all.map fun p => (p.entry, p.loader)).contains c) = true := by
  decide +kernel

/-- `Path.all` really lists every path (so the theorems above are about all of them) -/
theorem path_all_complete : ∀ p : Path, p ∈ Path.all := by intro p; cases p <;> decide

/-- every verifying loader skips the comparison when the header CRC is zero — the `h.crc != 0` test of
    the mirror `readPage` (finding F8) -/
theorem zero_crc_guard_mirrored :
    pageLoaderZeroGuard = (pageLoaders.filter (·.2)).map (fun l => (l.1, true)) := by decide +kernel

/-- the checksum comparison of the loader executes under exactly one condition, `header.CRC != 0` (the
    `h.crc != 0` test of the mirror `readPage`, finding F8) — nothing about `f.skip`, `f.desync`, an
    option or a page type. This is what `Props.C13.verify_independent_of_seek_state` rests on; it fails
    for the seeded slip `header.CRC != 0 && f.skip == 0`. -/
theorem crc_guard_is_zero_test_only :
    crcComparisonGuards = [("FilePages.readPage", ["header.CRC != 0"])] := rfl

/-- the buffer the loader reads into is the one it checksums and the one it returns, and it is
    assigned once (`page := buffers.get(...)`): the mirror `readPage` returning the compared bytes -/
theorem loader_returns_the_compared_buffer :
    loaderBufferFlow = [("FilePages.readPage", "page", "page", "page", 1)] := rfl

/-- the callers hand that very variable to the decode entry points (the only other value it ever holds
    comes from the encrypted branch, outside this property), and those pass their parameter on to
    `Column.decode*` without reassigning it: `Props.C13.decode_sees_verified_bytes` on the source -/
theorem decode_gets_the_verified_buffer :
    loaderResultFlow =
      [("FilePages.readDictionary", "FilePages.readPage", "page", ["readDictionaryPage"], ["buffers.get(len(bodyPlain))"]),
       ("FilePages.readPageInSequence", "FilePages.readPage", "data",
         ["readDataPageV1", "readDataPageV2", "readDictionaryPage"], ["f.readEncryptedPage()"])] ∧
    decodeEntryFlow =
      [("FilePages.readDataPageV1", "page", ["decodeDataPageV1"], 0),
       ("FilePages.readDataPageV2", "page", ["decodeDataPageV2"], 0),
       ("FilePages.readDictionaryPage", "page", ["decodeDictionary"], 0)] := ⟨rfl, rfl⟩

/-- no other function of file.go reads bytes from the file into a buffer: the remaining read sites are
    the bloom filter prefetch, the generic ReadAt wrappers (footer, indexes) and the encrypted-module
    envelope (authenticated by AES-GCM, outside this property) -/
theorem other_read_sites_known :
    otherReadSites.all (fun s => [("OpenFile", "bloomData"), ("optimisticFileReaderAt.ReadAt", "p"),
      ("readAt", "p"), ("readDecryptedEnvelopeFrom", "envelope[4:]"),
      ("readDecryptedEnvelopeFrom", "lenBuf[:]")].contains s) = true := by decide +kernel

/-- writer side: both page kinds get `CRC = int32(crc32(rep ‖ def ‖ page))` (what `writeHeader` and
    `Props.C13.writer_crc_is_body_crc` assume), stored in an `optional` thrift i32 of Go type `int32`
    (a zero value is omitted: finding F8) -/
theorem writer_side_as_modelled :
    crcWriteSites = [("ColumnWriter.writeDataPage", "c.header.page.CRC", "int32(buf.crc32())"),
                     ("ColumnWriter.writeDictionaryPage", "c.header.dict.CRC", "int32(buf.crc32())")] ∧
    crcWriteCovers.map (·.2) = ["wb.repetitions", "wb.definitions", "wb.page"] ∧
    pageHeaderCrcField = ("int32", "thrift:\"4,optional\"") := ⟨rfl, rfl, rfl⟩

/-! ## the callers of the page readers (family `pagereaders`)

`pageReaderCalls` lists every call in the root package to a function through which a page-load error
travels, with the decision list the caller's next statements form over the error (and page)
variable. -/

/-- **callers_hand_the_error_on**: at every call site of a page reader, a failure that is neither nil
    nor io.EOF — with or without a page next to it — takes a branch that returns the error, returns
    it wrapped, or sends it to the consumer goroutine; no call drops its error result, none decides on
    a condition about something else. Fails for seeded/C13-3a (`f.readDictionary()` as a statement:
    form "discard") and seeded/C13-3b (`if p != nil { return p, err }`: the guard is false for a
    failure that comes with a nil page). Not vacuous: the table has the 21 known sites. -/
theorem callers_hand_the_error_on :
    pageReaderCalls.all propagates = true ∧ pageReaderCalls.length = 21 := by decide +kernel

/-- the functions that call a page reader are exactly these (a new caller has to be looked at and
    given an access path in the fault enumeration; a vanished one means the mirror is stale) -/
theorem reader_callers_known :
    (pageReaderCalls.map (·.1)).eraseDups =
      ["CopyPages", "FilePages.ReadDictionary", "FilePages.ReadPage", "FilePages.readDataPageV1",
       "FilePages.readDataPageV2", "FilePages.readDictionary", "FilePages.readPageInSequence",
       "PrintColumnChunk", "columnChunkValueReader.ReadValues", "columnPages.ReadPage",
       "convertedPages.ReadPage", "missingPageValues.readWithAdjacent", "multiPages.ReadPage",
       "rangePages.ReadPage", "readPages", "variantLeafReader.ensurePage"] := by decide +kernel

/-- the guard of the returning branch of a concatenating reader, as extracted -/
def returnGuardOf (fn : String) : Option (List String) :=
  match pageReaderCalls.find? (fun s => s.1 == fn && s.2.1 == "ReadPage") with
  | some (_, _, _, (g, "return-err") :: _) => some g
  | _ => none

/-- MIRROR of `if err == nil || err != io.EOF { return p, err }` (column.go:127, multi_row_group.go:542) -/
def concatGuardRPN : List String := ["err==nil", "err!=EOF", "or"]

/-- the guard as a function of the situation -/
def concatGuard (s : Sit) : Bool := holds s concatGuardRPN == some true

/-- both concatenating readers return under exactly that guard in the source -/
theorem concat_guards_as_mirrored :
    returnGuardOf "columnPages.ReadPage" = some concatGuardRPN ∧
    returnGuardOf "multiPages.ReadPage" = some concatGuardRPN := by decide +kernel

/-- and that guard returns pages, returns failures, and moves on at io.EOF -/
theorem concatGuard_good : GoodGuard concatGuard :=
  ⟨fun _ => by simp only [sitOf]; decide, fun _ => by simp only [sitOf]; decide, by decide⟩

/-- the access paths of the fault enumeration above `FilePages` and the callers of page readers the
    error crosses on each (hand-written; `entry_chains_cover_the_callers` ties it to the table) -/
def entryChains : List (String × List String) := [
  ("pages-seq / pages-seek / rows-* / generic-* / read-func / reader-* / rowgroup-reader / copy-rows",
    ["FilePages.ReadPage", "FilePages.readPageInSequence", "FilePages.readDataPageV1", "FilePages.readDataPageV2",
     "FilePages.readDictionary", "columnChunkValueReader.ReadValues"]),
  ("read-dictionary", ["FilePages.ReadDictionary", "FilePages.readDictionary"]),
  ("column-pages-seq / column-pages-seek", ["columnPages.ReadPage"]),
  ("multi-rows-* / multi-pages-seq / merge-rows-seq / reader-* on several row groups", ["multiPages.ReadPage"]),
  ("convert-rows-seq", ["convertedPages.ReadPage", "missingPageValues.readWithAdjacent"]),
  ("async-* / async-pages-wrap", ["readPages"]),
  ("copy-pages", ["CopyPages"]),
  ("print-chunk", ["PrintColumnChunk"]),
  ("value-reader-seq / value-reader-seek", ["columnChunkValueReader.ReadValues"]),
  ("(range views of merged row groups: C08/C09 generators; variant readers: C19)",
    ["rangePages.ReadPage", "variantLeafReader.ensurePage"])]

/-- every caller in the table is on the chain of some access path, and every function named in a
    chain is a caller in the table -/
theorem entry_chains_cover_the_callers :
    (pageReaderCalls.map (·.1)).all (fun fn => entryChains.any (·.2.contains fn)) = true ∧
    entryChains.all (fun c => c.2.all (fun fn => (pageReaderCalls.map (·.1)).contains fn)) = true := by decide +kernel

/-! ## one layer further up: the callers of value / row readers (`rowReaderCalls`)

"Every call to `ReadValues` / `ReadRows` / `readRows` hands a failure on." A per-block decision
list cannot see what a caller does after it LEAVES its loop on an error, nor that
`rowGroupRows.ReadRows` keeps the error in a field: the extractor follows a
`break` and the exit of a conditional loop into the statements behind the loop, walks function
literals, sees through re-declarations (`_, err := …` in an inner block) and emits `r.err = err` as the
non-deciding step `store`; the statement is checked in the situation "failure that is
neither nil nor io.EOF, nothing delivered". -/

def verdictName : Verdict → String
  | .handsOn => "hands-on" | .swallows => "swallows" | .leaves => "leaves-loop" | .unresolved => "unresolved"
  | .failsOther => "other-error"

/-- every way the site can go (conditions about other things taken either way) -/
def siteVerdicts (site : Site) : List Verdict :=
  let form := site.2.2.1
  if form = "tail" then [.handsOn]
  else if form = "assign" || form = "if-init" then verdictsC (failed true) site.2.2.2
  else [.swallows]

/-- the caller fails whichever way it goes: with the reader's error, or (a write of the values read
    before failed first) with that other error -/
def siteFails (site : Site) : Bool :=
  (siteVerdicts site).all (fun v => v == .handsOn || v == .failsOther)

/-- the call is made on the value reader of a page that is already in memory (`x := page.Values()` in
    the same function): loaded, verified and decoded before; it ends with io.EOF and nothing else -/
def inMemory (i : Nat) : Bool :=
  match rowReaderReceivers[i]? with
  | some (_, _, src) => src == "page-values"
  | none => false

/-- **row_reader_callers_hand_the_error_on**: at every call site of a value / row reader in the
    library, a failure that is neither nil nor io.EOF and came with nothing delivered makes the caller
    fail — it returns the error (possibly wrapped; after leaving its loop; after keeping it in a
    field), or the error of a write that failed first — whatever the conditions about other things
    are; the only exceptions read the value reader of a page that is already in memory, and they are
    exactly the two bounds / bounding-box scans (functions without an error result). 34 sites. -/
theorem row_reader_callers_hand_the_error_on :
    (List.range rowReaderCalls.length).all (fun i =>
      match rowReaderCalls[i]? with
      | some site => siteFails site || inMemory i
      | none => false) = true ∧
    rowReaderCalls.length = 34 ∧ rowReaderReceivers.length = 34 ∧
    (rowReaderCalls.zip rowReaderReceivers).all (fun p => p.1.1 == p.2.1) = true ∧
    ((List.range rowReaderCalls.length).filter (fun i =>
      match rowReaderCalls[i]? with
      | some site => !siteFails site
      | none => true)).map (fun i => (rowReaderReceivers[i]?.map (·.1)).getD "") =
      ["decimalPage.Bounds", "geospatialBBoxAccumulator.accumulatePage"] := by decide +kernel

/-- the sites whose outcome depends on a condition about something else, and both ways they can go -/
theorem row_reader_forks_known :
    (rowReaderCalls.filter (fun s => (siteVerdicts s).length > 1)).map
        (fun s => (s.1, (siteVerdicts s).map verdictName)) =
      [("convertedValueReader.ReadValues", ["other-error", "hands-on"]),
       ("copyColumnValues", ["other-error", "hands-on"])] := by decide +kernel

/-- the verdict of a site (first branch taken) -/
def siteVerdict (site : Site) : String :=
  let form := site.2.2.1
  if form = "tail" then "hands-on"
  else if form = "assign" || form = "if-init" then verdictName (verdict (failed true) site.2.2.2)
  else form

/-- the verdict of every site: a site turning from handing the error on to anything else, a new
    caller, or a vanished one breaks this obligation -/
theorem row_reader_verdicts :
    rowReaderCalls.map (fun s => (s.1, s.2.1, siteVerdict s)) = [
      ("GenericReader.ReadRows", "ReadRows", "hands-on"),
      ("GenericReader.readRows", "ReadRows", "hands-on"),
      ("PrintRowGroup", "ReadRows", "hands-on"),
      ("Reader.Read", "ReadRows", "hands-on"),
      ("Reader.ReadRows", "ReadRows", "hands-on"),
      ("bufferedRowReader.read", "ReadRows", "hands-on"),
      ("bufferedRowReader.read", "ReadRows", "hands-on"),
      ("columnChunkValueReader.ReadValues", "ReadValues", "hands-on"),
      ("concatenatingRows.ReadRows", "ReadRows", "hands-on"),
      ("concatenatingRowsWrapper.ReadRows", "ReadRows", "hands-on"),
      ("concatenatingRowsWrapper.SeekToRow", "ReadRows", "hands-on"),
      ("convertedRows.ReadRows", "ReadRows", "hands-on"),
      ("convertedValueReader.ReadValues", "ReadValues", "unresolved"),
      ("copyColumnValues", "ReadValues", "unresolved"),
      ("copyRows", "ReadRows", "hands-on"),
      ("copyValues", "ReadValues", "hands-on"),
      ("decimalPage.Bounds", "ReadValues", "swallows"),
      ("dedupeRowReader.ReadRows", "ReadRows", "hands-on"),
      ("filterRowReader.ReadRows", "ReadRows", "hands-on"),
      ("forwardRowSeeker.ReadRows", "ReadRows", "hands-on"),
      ("geospatialBBoxAccumulator.accumulatePage", "ReadValues", "swallows"),
      ("mergedRowGroupRows.ReadRows", "ReadRows", "hands-on"),
      ("mergedRowGroupRows.ReadRows", "ReadRows", "hands-on"),
      ("missingPageValues.readWithAdjacent", "ReadValues", "hands-on"),
      ("optionalPageValues.ReadValues", "ReadValues", "hands-on"),
      ("printPage", "ReadValues", "hands-on"),
      ("readRowsFuncOfLeaf", "ReadValues", "hands-on"),
      ("readRowsFuncOfLeaf", "ReadValues", "hands-on"),
      ("reader.ReadRows", "ReadRows", "hands-on"),
      ("repeatedPageValues.ReadValues", "ReadValues", "hands-on"),
      ("rowGroupRows.ReadRows", "ReadValues", "hands-on"),
      ("scanRowReader.ReadRows", "ReadRows", "hands-on"),
      ("transformRowReader.ReadRows", "ReadRows", "hands-on"),
      ("variantLeafReader.extractBooleans", "ReadValues", "hands-on")] := by decide +kernel

/-! ## the readers that REMEMBER a failed read (family `readerstate`)

`FilePages.desync` (mirror: `Seek.St.lost`, set by a failed `ReadPage` only and consumed by the next
`SeekToRow` only — `Props.C13.corrupted_stays_reported` rests on it) and `rowGroupRows.err` (mirror:
`RowsState.St.err`). -/

/-- the error of `ReadValues` is kept in exactly one field, `rowGroupRows.err` (and returned at once
    as well: `row_reader_verdicts`) -/
theorem error_stores_known :
    readerErrorStores = [("rowGroupRows.ReadRows", "ReadValues", "r.err")] := rfl

/-- **reader_error_state_as_mirrored**: every write and read of the two fields, and every call on a
    column reader in `rowGroupRows`, with the conditions around it, is what the mirrors transliterate:
    `desync` is set under `err != nil && err != io.EOF` in `ReadPage` and nowhere else, cleared only by
    `SeekToRow` when it was set (and by init / Close) — seeded/C13-4a (`f.desync = err != nil && …`:
    a successful read clears it) changes the second row; `r.err` is set by the failing `ReadValues`
    branch of `ReadRows`, returned by the next `ReadRows`, and cleared only by `Reset` and by the
    branch of `SeekToRow` that repositions — and in both the column readers are repositioned under
    the SAME conditions as the field is cleared — seeded/C13-4b (`if r.rowIndex > 0 { …Reset() }`) puts
    a guard on the `Reset` row of `columnRepositions` that the `r.err = nil` row does not have. -/
theorem reader_error_state_as_mirrored :
    stateWrites = [
      ("FilePages.Close", "f.desync", "false", []),
      ("FilePages.ReadPage", "f.desync", "true", ["err != nil && err != io.EOF"]),
      ("FilePages.SeekToRow", "f.desync", "false", ["desync"]),
      ("FilePages.init", "f.desync", "false", []),
      ("rowGroupRows.ReadRows", "r.err", "err", ["c.offset == c.length", "n == 0"]),
      ("rowGroupRows.Reset", "r.err", "nil", []),
      ("rowGroupRows.SeekToRow", "r.err", "nil", ["rowIndex != r.rowIndex || r.err != nil"])] ∧
    stateReads = [
      ("FilePages.SeekToRow", "desync := f.desync"),
      ("rowGroupRows.ReadRows", "if r.err != nil"),
      ("rowGroupRows.ReadRows", "return 0, r.err"),
      ("rowGroupRows.SeekToRow", "if rowIndex != r.rowIndex || r.err != nil")] ∧
    columnRepositions = [
      ("rowGroupRows.Close", "Close", []),
      ("rowGroupRows.ReadRows", "ReadValues", ["c.offset == c.length"]),
      ("rowGroupRows.Reset", "Reset", []),
      ("rowGroupRows.SeekToRow", "SeekToRow", ["rowIndex != r.rowIndex || r.err != nil"])] := ⟨rfl, rfl, rfl⟩

/-- wherever `r.err` is cleared, the column readers are repositioned under the same conditions
    (stated on the extracted facts, independent of the pinned texts) -/
theorem error_cleared_only_with_reposition :
    (stateWrites.filter (fun w => w.2.1 == "r.err" && w.2.2.1 == "nil")).all (fun w =>
      columnRepositions.any (fun c => c.1 == w.1 && (c.2.1 == "Reset" || c.2.1 == "SeekToRow") && c.2.2 == w.2.2.2)) = true ∧
    (stateWrites.filter (fun w => w.2.1 == "r.err" && w.2.2.1 == "nil")).length = 2 := by decide +kernel

end PqModel.Props.FactsCheckC13
