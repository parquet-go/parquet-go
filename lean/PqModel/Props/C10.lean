import PqModel.SortWriter
import PqModel.SortRow
import PqModel.SortNested
import PqModel.SortCuts
import PqModel.Props.C09

/-! # C10 — Sorting buffers output a correctly ordered permutation

`sort.Sort` is abstracted as *any* sequence of `Less`/`Swap` calls after which no adjacent pair is
out of order. Every theorem is unbounded (all buffers, histories, value types with an antisymmetric
— for pairwise order: transitive — comparison). The negation witnesses `…_F13/_F14/_F23/_F24` and
`configure_own_repetition_disagrees` are about the transliterations of the code *as found*; the library was
repaired and the mirror follows it.

Not modelled: the typed/reflection ingestion into the buffers (C03), the temporary file encoding
(C01: each run is one row group of a file written and read back by the generic writer/reader, see
`Props/C10Temp.lean`), the computation of the segment cuts of `WriteRowGroup(merged)` from indexes (C09). -/
namespace PqModel.Props.C10
open PqModel.SortBuf

def intOrd : VOrd Int where
  lt := fun a b => decide (a < b)
  cmp := fun a b => a - b
  lt_iff := by intro a b; simp; omega
  anti := by intro a b; omega

theorem intOrd_trans : intOrd.Trans := by
  intro a b c h1 h2; simp only [intOrd] at *; omega

/-- rows written: 5, 3, null, 4 (max definition level 1) -/
def sampleCol : OptCol Int :=
  ((OptCol.empty.write rangeFrom 1 (.vals [5, 3])).write rangeFrom 1 (.nulls 0 1)).write rangeFrom 1 (.vals [4])

theorem sampleCol_inv : sampleCol.Inv 1 :=
  ((OptCol.Inv.empty 1).write_vals [5, 3] rfl |>.write_nulls rangeFrom (by decide) 1 (by decide)).write_vals [4] rfl

def sampleBuf : Buffer Int :=
  { cols := [.opt 1 sampleCol, .req [10, 11, 12, 13]], sorting := [⟨0, true, false⟩, ⟨1, false, false⟩] }

theorem sampleBuf_inv : sampleBuf.BInv 4 := by
  intro c hc
  simp only [sampleBuf, List.mem_cons, List.not_mem_nil, or_false] at hc
  rcases hc with rfl | rfl
  · exact ⟨sampleCol_inv, by decide⟩
  · exact ⟨trivial, by decide⟩

/-- the assembly routine (AVX2 body + scalar tail, as repaired) computes what the portable loop computes. The mirror
    `bcastAVX2` writes `base + i` in both parts, so this records the transliteration; that the routine itself does so
    is what the kernel replay of the correspondence check compares (and what `broadcast_avx2_tail_F14` refutes of the
    routine as found) -/
theorem broadcast_asm_eq_purego (base : BitVec 32) (n : Nat) : bcastAsm base n = bcastScalar base n :=
  bcastAsm_eq_scalar base n

/-- both builds append `baseLen, baseLen+1, …` to the row index (no int32 wraparound below 2^31 rows) -/
theorem kernel_ok {b n : Nat} (h : b + n ≤ 2 ^ 31) :
    kernelOf bcastAsm b n = rangeFrom b n ∧ kernelOf bcastScalar b n = rangeFrom b n :=
  ⟨kernelOf_asm h, kernelOf_scalar h⟩

example : (2 : Nat) + 9 ≤ 2 ^ 31 := by decide

/-- F14 (as found): `broadcastRangeInt32AVX2(dst[:9], 2)` stores 18 in `dst[8]` (should be 10) … -/
theorem broadcast_avx2_tail_F14 :
    bcastAsmF14 2 9 ≠ bcastScalar 2 9 ∧ (bcastAsmF14 2 9)[8]? = some 18 := by decide

/-- … so writing a run of 9 values after 2 breaks the invariant: a row points outside the base column -/
theorem inv_broken_F14 :
    ¬ ((OptCol.empty.write rangeFrom 1 (.vals [7, 5])).write (kernelOf bcastAsmF14) 1
        (.vals [100, 99, 98, 97, 96, 95, 94, 93, 92] : WOp Int)).Inv 1 := by
  intro h
  have := h.row_lt (r := 18) (by decide) (by decide)
  revert this
  decide

theorem inv_empty {V : Type} (m : Nat) : (OptCol.empty : OptCol V).Inv m := OptCol.Inv.empty m

/-- `write` keeps the invariant: null rows carry a level below the maximum; for a run of values
    the kernel must deliver `baseLen + i` (true for both builds, `kernel_ok`) -/
theorem inv_write {V : Type} {m : Nat} {c : OptCol V} {k : Kernel} (h : c.Inv m) (op : WOp V)
    (hd : ∀ d n mark, op = .nulls d n mark → d ≠ m ∧ mark < 0)
    (hk : ∀ vs, op = .vals vs → k c.base.length vs.length = rangeFrom c.base.length vs.length) :
    (c.write k m op).Inv m := by
  cases op with
  | nulls d n mark => exact h.write_nulls k (hd d n mark rfl).1 n (hd d n mark rfl).2
  | vals vs => exact h.write_vals vs (hk vs rfl)

example : (sampleCol.write rangeFrom 1 (.vals [9, 9])).Inv 1 :=
  inv_write sampleCol_inv _ (by intro d n mark h; cases h) (by intro vs _; rfl)

/-- the marks both builds store for a null row are negative -/
example : (sampleCol.write rangeFrom 1 (.nulls 0 9 (nullMark true))).Inv 1 :=
  inv_write sampleCol_inv _ (by intro d n mark h; cases h; exact ⟨by decide, nullMark_neg true⟩) (by intro vs h; cases h)

theorem inv_swap {V : Type} {m : Nat} {c : OptCol V} (h : c.Inv m) (i j : Nat) : (c.swap i j).Inv m :=
  h.swap i j

example : (sampleCol.swap 0 2).Inv 1 := inv_swap sampleCol_inv 0 2

theorem inv_indexed {V : Type} {m : Nat} {c : OptCol V} (h : c.Inv m) {i : Nat} (hi : i < c.rows.length) :
    ∃ r d, c.rows[i]? = some r ∧ c.defs[i]? = some d ∧ (d = m ↔ 0 ≤ r) ∧ (0 ≤ r → r.toNat < c.base.length) := by
  have hd : i < c.defs.length := by rw [← h.len]; exact hi
  exact ⟨c.rows[i], c.defs[i], List.getElem?_eq_getElem hi, List.getElem?_eq_getElem hd, h.lvl_getElem hi,
    fun h0 => h.row_lt (List.getElem_mem hi) h0⟩

theorem view_write {V : Type} {m : Nat} {c : OptCol V} {k : Kernel} (h : c.Inv m) (op : WOp V)
    (hm : ∀ d n mark, op = .nulls d n mark → mark < 0)
    (hk : ∀ vs, op = .vals vs → k c.base.length vs.length = rangeFrom c.base.length vs.length) :
    (c.write k m op).view = c.view ++ op.cells m :=
  OptCol.view_write h op hm hk

example : sampleCol.view = [(1, some 5), (1, some 3), (0, none), (1, some 4)] := by decide

/-- under the invariant `Page()` lists the values in row order; the cyclic reorder ends within its fuel, the number of
    values (`Reorder.inner_spec`) -/
theorem page_spec {V : Type} {m : Nat} {c : OptCol V} (h : c.Inv m) :
    (c.page m).Inv m ∧ (c.page m).reordered = false ∧ (c.page m).view = c.view ∧ (c.page m).defs = c.defs ∧
    nn (c.page m).rows = List.range (c.page m).base.length ∧
    (c.page m).base.map some = (nn c.rows).map (fun (k : Nat) => c.base[k]?) :=
  OptCol.page_spec h

example : ((sampleCol.swap 0 3).swap 1 2).page 1 =
    { base := [4, 3, 5], rows := [0, -1, 1, 2], defs := [1, 0, 1, 1], reordered := false } := by decide

/-- F24 (as found): the renumbering loop of `Page()` stored at the counter, not at the position read:
    rows `null, 5, 3` sorted to `null, 3, 5` leave `rows = [0, 1, 0]`: a null row with a non-negative
    index and two rows on the same value — the invariant is lost after the first `Page()`. -/
theorem page_renumber_F24 :
    let c : OptCol Int := { base := [5, 3], rows := [-1, 1, 0], defs := [0, 1, 1], reordered := true }
    c.Inv 1 ∧ (c.pageF24 1).rows = [0, 1, 0] ∧ ¬ (c.pageF24 1).Inv 1 ∧ (c.page 1).rows = [-1, 0, 1] := by
  refine ⟨⟨rfl, ?_, by decide, by intro h; cases h⟩, by decide, ?_, by decide⟩
  · exact List.Perm.swap 0 1 []
  · intro h
    have := h.lvl (0, 0) (by decide)
    revert this
    decide

/-- swapping rows `i` and `j` in every column swaps whole rows (values and levels) -/
theorem swap_rows_intact {V : Type} {b : Buffer V} {n : Nat} (h : b.BInv n) {i j : Nat} (hi : i < n) (hj : j < n) (k : Nat) :
    (b.swap i j).fullRow k = b.fullRow (tr i j k) ∧ (b.swap i j).BInv n :=
  ⟨Buffer.fullRow_swap h hi hj k, h.swap i j⟩

example : (sampleBuf.swap 0 2).fullRow 0 = sampleBuf.fullRow 2 :=
  (swap_rows_intact sampleBuf_inv (by decide) (by decide) 0).1

/-- `Buffer.Less(i, j)` (first sorting column that orders the rows decides; nulls first/last as
    declared; descending reverses values only) ⇔ `Schema.Comparator(sorting…)(row i, row j) < 0`,
    for asc/desc × nulls first/last on every sorting column -/
theorem less_agrees {V : Type} (o : VOrd V) {b : Buffer V} {n : Nat} (h : b.BInv n)
    (hs : ∀ sc ∈ b.sorting, sc.col < b.cols.length) {i j : Nat} (hi : i < n) (hj : j < n) :
    b.less o.lt i j = true ↔ cmpRows o.cmp b.sorting (b.row i) (b.row j) < 0 :=
  Buffer.less_agrees o h hs hi hj

example : sampleBuf.less intOrd.lt 0 2 = true ∧ cmpRows intOrd.cmp sampleBuf.sorting (sampleBuf.row 0) (sampleBuf.row 2) < 0 := by
  decide

/-- F13 (as found): with `reversedColumnBuffer` around the optional column, a descending
    nulls-last column puts the null row first: `Less(null, 5)` holds although the comparator says
    the null row is greater. -/
theorem less_disagrees_F13 :
    let b : Buffer Int := { cols := [.opt 1 { base := [5], rows := [-1, 0], defs := [0, 1] }], sorting := [⟨0, true, false⟩] }
    b.BInv 2 ∧ b.lessF13 intOrd.lt 0 1 = true ∧ ¬ (cmpRows intOrd.cmp b.sorting (b.row 0) (b.row 1) < 0) ∧
    b.less intOrd.lt 0 1 = false := by
  refine ⟨?_, by decide, by decide, by decide⟩
  intro c hc
  simp only [List.mem_cons, List.not_mem_nil, or_false] at hc
  subst hc
  refine ⟨⟨rfl, List.Perm.refl _, by decide, fun _ => rfl⟩, by decide⟩

/-- `ops` is ANY sequence of `Swap` calls (with any `Less` calls in between) that ends with no `Less(i+1, i)`;
    the rows are whole rows, all columns and levels. -/
theorem sort_adjacent {V : Type} (o : VOrd V) {b0 : Buffer V} {n : Nat} (h0 : b0.BInv n)
    (hs : ∀ sc ∈ b0.sorting, sc.col < b0.cols.length) (ops : List (Nat × Nat))
    (hfin : ∀ i, i + 1 < n → (b0.run ops).less o.lt (i + 1) i = false) :
    ((b0.run ops).rows n).Perm (b0.rows n) ∧
    ∀ i, i + 1 < n → cmpRows o.cmp b0.sorting ((b0.run ops).row i) ((b0.run ops).row (i + 1)) ≤ 0 := by
  refine ⟨Buffer.rows_run_perm ops h0, fun i hi => ?_⟩
  have hag := Buffer.less_agrees o (Buffer.BInv.run ops h0)
    (by rw [Buffer.run_sorting, Buffer.run_cols_length]; exact hs) (i := i + 1) (j := i) hi (by omega)
  -- `Less(i+1, i)` is false, so `cmp (row (i+1)) (row i)` is not negative; by antisymmetry `cmp (row i) (row (i+1)) ≤ 0`
  rw [hfin i hi, Buffer.run_sorting, cmpRows_anti o.anti] at hag
  have := mt hag.mpr Bool.false_ne_true
  omega

/-- … and with a transitive value order the rows are pairwise ordered: a sorted permutation. -/
theorem sort_correct {V : Type} (o : VOrd V) (ht : o.Trans) {b0 : Buffer V} {n : Nat} (h0 : b0.BInv n)
    (hs : ∀ sc ∈ b0.sorting, sc.col < b0.cols.length) (ops : List (Nat × Nat))
    (hfin : ∀ i, i + 1 < n → (b0.run ops).less o.lt (i + 1) i = false) :
    ((b0.run ops).rows n).Perm (b0.rows n) ∧
    ∀ i j, i < j → j < n → cmpRows o.cmp b0.sorting ((b0.run ops).row i) ((b0.run ops).row j) ≤ 0 := by
  obtain ⟨hp, hadj⟩ := sort_adjacent o h0 hs ops hfin
  exact ⟨hp, sorted_of_adjacent (fun r1 r2 => cmpRows o.cmp b0.sorting r1 r2 ≤ 0)
    (cmpRows_ok (o.cmpOk ht) b0.sorting).trans n (fun k _ => (b0.run ops).row k) hadj⟩

/-- non-vacuity: a history of two swaps sorts the sample buffer (descending, nulls last, on the
    optional column): 5, 4, 3, null -/
example : ∀ i, i + 1 < 4 → (sampleBuf.run [(1, 3), (2, 3)]).less intOrd.lt (i + 1) i = false := by
  intro i hi
  have : i = 0 ∨ i = 1 ∨ i = 2 := by omega
  rcases this with rfl | rfl | rfl <;> decide

example : (List.range 4).map (fun k => (sampleBuf.run [(1, 3), (2, 3)]).row k 0) = [some 5, some 4, some 3, none] := by decide

/-- after sorting, `Page()` on every optional column keeps every row (the written file holds the
    sorted rows): stated per column in `page_spec` (`view` unchanged). -/
theorem page_keeps_rows {V : Type} {m : Nat} {c : OptCol V} (h : c.Inv m) (k : Nat) :
    (Col.opt m (c.page m)).view[k]? = (Col.opt m c).view[k]? := by
  simp only [Col.view]; rw [(OptCol.page_spec h).2.2.1]

/-- two rows of a list column: [1, 9] and [1, 3] (max definition level 1) -/
def sampleRep : RepCol Int :=
  (RepCol.empty.writeRow [(0, 1, some 1), (1, 1, some 9)]).writeRow [(0, 1, some 1), (1, 1, some 3)]

theorem sampleRep_inv : sampleRep.RInv 1 :=
  (RepCol.view_writeRow (RepCol.view_writeRow (RepCol.RInv.empty 1) (by simp [RowWF])).2 (by simp [RowWF])).2

theorem repeated_write {V : Type} {m : Nat} {c : RepCol V} (h : c.RInv m) {row : List (RCell V)} (hw : RowWF m row) :
    (c.writeRow row).view m = c.view m ++ [row] ∧ (c.writeRow row).RInv m :=
  RepCol.view_writeRow h hw

example : sampleRep.view 1 = [[(0, 1, some 1), (1, 1, some 9)], [(0, 1, some 1), (1, 1, some 3)]] := by decide

theorem repeated_swap {V : Type} {m : Nat} {c : RepCol V} (h : c.RInv m) (i j : Nat) :
    (c.swap i j).view m = swapL (c.view m) i j ∧ (c.swap i j).RInv m :=
  ⟨RepCol.view_swap m c i j, h.swap i j⟩

/-- `Page()` of the repeated buffer: keeps the invariant and the rows held; after swaps, the level
    arrays and the base column list the rows' levels and values in row order -/
theorem repeated_page_spec {V : Type} {m : Nat} {c : RepCol V} (h : c.RInv m) :
    (c.page m).RInv m ∧ (c.page m).view m = c.view m ∧ (c.page m).reordered = false ∧
    (c.reordered = true →
      (c.page m).lv = (c.view m).flatten.map (fun x => (x.1, x.2.1)) ∧
      (c.page m).base = (c.view m).flatten.filterMap (fun x => x.2.2)) :=
  RepCol.page_spec h

example : ((sampleRep.swap 0 1).page 1).base = [1, 3, 1, 9] ∧ ((sampleRep.swap 0 1).page 1).rows = [(0, 0), (2, 2)] := by decide

/-- `repeatedColumnBuffer.Less(i, j)` (as repaired: every value of the two rows, then the shorter
    row first) ⇔ the comparator on the two rows' value lists is negative, asc/desc × nulls first/last -/
theorem repeated_less_agrees {V : Type} (o : VOrd V) (sc : SortCol) {m : Nat} {c : RepCol V} (h : c.RInv m)
    {i j : Nat} (hi : i < c.rows.length) (hj : j < c.rows.length) :
    c.less o.lt sc.desc sc.nullsFirst m i j = true ↔ cmpList (cmpCell o.cmp sc) (c.key m i) (c.key m j) < 0 :=
  RepCol.less_agrees o sc h hi hj

example : sampleRep.less intOrd.lt false false 1 1 0 = true ∧
    cmpList (cmpCell intOrd.cmp ⟨0, false, false⟩) (sampleRep.key 1 1) (sampleRep.key 1 0) < 0 := by decide

/-- F23 (as found): `Less` re-read the rows' first base value for every position, so `[1, 3] < [1, 9]`
    was not seen (nor the converse): the rows compared as equal -/
theorem repeated_less_F23 :
    sampleRep.lessF23 intOrd.lt false false 1 1 0 = false ∧ sampleRep.lessF23 intOrd.lt false false 1 0 1 = false ∧
    cmpList (cmpCell intOrd.cmp ⟨0, false, false⟩) (sampleRep.key 1 1) (sampleRep.key 1 0) < 0 := by decide

/-- `Schema.Comparator(sorting…)` (every sorting column's values position by position, proper
    prefix first; asc/desc × nulls first/last) is a total preorder whenever the value order is -/
theorem comparator_total_preorder {V : Type} (o : VOrd V) (ht : o.Trans) (s : List SortCol) : CmpOk (cmpRowsL o.cmp s) := by
  induction s with
  | nil => exact ⟨fun _ _ => rfl, fun _ _ _ _ _ => Int.le_refl 0⟩
  | cons sc rest ih =>
    have hl := cmpList_ok _ ((o.cmpOk ht).cell sc)
    exact ⟨fun a b => lex_anti (hl.anti (a sc.col) (b sc.col)) (ih.anti a b), fun a b d =>
      hl.lex_trans (a sc.col) (b sc.col) (d sc.col) (ih.trans a b d)⟩

/-- on non-repeated sorting columns it is the comparator of `less_agrees` -/
theorem comparator_singleton {V : Type} (cmp : V → V → Int) (s : List SortCol) (r1 r2 : Nat → Option V) :
    cmpRowsL cmp s (fun c => [r1 c]) (fun c => [r2 c]) = cmpRows cmp s r1 r2 := by
  induction s with
  | nil => rfl
  | cons sc rest ih =>
    simp only [cmpRowsL, cmpRows, cmpList]
    rw [ih]
    by_cases h : cmpCell cmp sc (r1 sc.col) (r2 sc.col) = 0 <;> simp [h]

/-- `RowBuffer[T]`: for ANY history of `Swap` calls after which `Less(i+1, i)` holds nowhere, the
    buffer holds a permutation of the rows written, pairwise ordered by the comparator -/
theorem rowbuffer_sort_correct {R : Type} (cmp : R → R → Int) (hc : CmpOk cmp) (b0 : RowBuf R) (ops : List (Nat × Nat))
    (hfin : ∀ i, i + 1 < (b0.run ops).rows.length → (b0.run ops).less cmp (i + 1) i = false) :
    (b0.run ops).rows.Perm b0.rows ∧ (b0.run ops).rows.Pairwise (fun a b => cmp a b ≤ 0) :=
  RowBuf.sort_correct cmp hc b0 ops hfin

theorem rowbuffer_sort_correct_schema {V : Type} (o : VOrd V) (ht : o.Trans) (s : List SortCol)
    (b0 : RowBuf (Nat → List (Option V))) (ops : List (Nat × Nat))
    (hfin : ∀ i, i + 1 < (b0.run ops).rows.length → (b0.run ops).less (cmpRowsL o.cmp s) (i + 1) i = false) :
    (b0.run ops).rows.Perm b0.rows ∧ (b0.run ops).rows.Pairwise (fun a b => cmpRowsL o.cmp s a b ≤ 0) :=
  RowBuf.sort_correct _ (comparator_total_preorder o ht s) b0 ops hfin

example : (∀ i, i + 1 < ((RowBuf.mk [3, 1, 2]).run [(0, 1), (1, 2)]).rows.length →
      ((RowBuf.mk [3, 1, 2]).run [(0, 1), (1, 2)]).less intOrd.cmp (i + 1) i = false) ∧
    ((RowBuf.mk [3, 1, 2]).run [(0, 1), (1, 2)]).rows = [1, 2, 3] := by
  refine ⟨?_, by decide⟩
  intro i hi
  have : i = 0 ∨ i = 1 := by
    have : ((RowBuf.mk [3, 1, 2]).run [(0, 1), (1, 2)]).rows.length = 3 := by decide
    omega
  rcases this with rfl | rfl <;> decide

/-! `SortingWriter`: sorted runs → C09 merge → duplicate dropping. `hsort` is `rowbuffer_sort_correct` for the library's
`RowBuffer`. `Ranked cmp rank`: on a whole value type an integer rank need not exist (`no_integer_rank_for_byte_strings`), on
the finite set of rows written it does (`ranked_on_rows_written`, `Props/C10Compare.lean`). The merge is any `IsMerge`; the
segment plans of `WriteRowGroup(merged)` are one by C09 `refined_plan_is_merge`. -/

theorem merge_output_sorted_perm {R : Type} (rank : R → Int) (ss : List (List R)) {out : List PqModel.Merge.Row}
    (hm : PqModel.Merge.IsMerge (PqModel.Merge.tagInputs (keysOf rank ss)) out) :
    (untag ss out).Perm ss.flatten ∧ (untag ss out).Pairwise (fun a b => rank a ≤ rank b) :=
  untag_isMerge rank ss hm

theorem keysOf_sorted {R : Type} {cmp : R → R → Int} {rank : R → Int} (hr : Ranked cmp rank) (ss : List (List R))
    (hs : ∀ s ∈ ss, s.Pairwise (fun a b => cmp a b ≤ 0)) : ∀ ks ∈ keysOf rank ss, ks.Pairwise (· ≤ ·) := by
  intro ks hks
  obtain ⟨s, hs', rfl⟩ := List.mem_map.mp hks
  rw [List.pairwise_map]
  exact (hs s hs').imp (fun h => (hr.le_iff _ _).mp h)

/-- `SortingWriter`, from the runs to the output of `Close`: `sortRun` is any sorter of a run, `refills` the refill pattern
    of the temporary row groups, `batches` the read sizes of the copy to the output (`hlen`: enough of them to drain). -/
theorem sorting_writer_correct {R : Type} (cmp : R → R → Int) (rank : R → Int) (hr : Ranked cmp rank)
    (sortRun : List R → List R)
    (hsort : ∀ run, (sortRun run).Perm run ∧ (sortRun run).Pairwise (fun a b => cmp a b ≤ 0))
    (runs : List (List R)) (refills : List (List Nat)) (batches : List Nat) (hpos : ∀ b ∈ batches, 1 ≤ b)
    (hlen : (PqModel.Merge.tagInputs (keysOf rank (runs.map sortRun))).flatten.length < batches.length) :
    let ss := runs.map sortRun
    let out := untag ss ((PqModel.Merge.Reader.new (PqModel.Merge.tagInputs (keysOf rank ss)) refills).session batches).1.flatten
    out.Perm runs.flatten ∧ out.Pairwise (fun a b => cmp a b ≤ 0) := by
  intro ss out
  have hks := keysOf_sorted hr ss (by
    intro s hs; obtain ⟨run, _, rfl⟩ := List.mem_map.mp hs; exact (hsort run).2)
  have hm := PqModel.Props.C09.merge_at_eof (keysOf rank ss) refills batches hks
    (PqModel.Props.C09.merge_reaches_eof (keysOf rank ss) refills batches hks hpos hlen)
  exact untag_sorted_runs (fun _ _ => (hr.le_iff _ _).mpr) (fun run => (hsort run).1) runs hm

/-- … for the runs the writer really forms: consecutive chunks of `n` rows -/
theorem sorting_writer_correct_chunks {R : Type} (cmp : R → R → Int) (rank : R → Int) (hr : Ranked cmp rank)
    (sortRun : List R → List R)
    (hsort : ∀ run, (sortRun run).Perm run ∧ (sortRun run).Pairwise (fun a b => cmp a b ≤ 0))
    (rows : List R) (n : Nat) (hn : 1 ≤ n) (refills : List (List Nat)) (batches : List Nat) (hpos : ∀ b ∈ batches, 1 ≤ b)
    (hlen : (PqModel.Merge.tagInputs (keysOf rank ((chunks n rows.length rows).map sortRun))).flatten.length < batches.length) :
    let ss := (chunks n rows.length rows).map sortRun
    let out := untag ss ((PqModel.Merge.Reader.new (PqModel.Merge.tagInputs (keysOf rank ss)) refills).session batches).1.flatten
    out.Perm rows ∧ out.Pairwise (fun a b => cmp a b ≤ 0) := by
  intro ss out
  have := sorting_writer_correct cmp rank hr sortRun hsort (chunks n rows.length rows) refills batches hpos hlen
  rw [chunks_flatten hn rows.length rows (Nat.le_refl _)] at this
  exact this

/-- `SortingWriter` with `DropDuplicatedRows`: every run is deduplicated after sorting, the merged stream again;
    exactly one row per key remains. -/
theorem sorting_writer_dedupe_correct {R : Type} (cmp : R → R → Int) (rank : R → Int) (hr : Ranked cmp rank)
    (sortRun : List R → List R)
    (hsort : ∀ run, (sortRun run).Perm run ∧ (sortRun run).Pairwise (fun a b => cmp a b ≤ 0))
    (runs : List (List R)) (refills : List (List Nat)) (batches : List Nat) (hpos : ∀ b ∈ batches, 1 ≤ b)
    (hlen : (PqModel.Merge.tagInputs (keysOf rank (runs.map (fun run => dedupRun cmp none (sortRun run))))).flatten.length < batches.length) :
    let ss := runs.map (fun run => dedupRun cmp none (sortRun run))
    let out := untag ss (PqModel.Merge.dedupeReader none
      ((PqModel.Merge.Reader.new (PqModel.Merge.tagInputs (keysOf rank ss)) refills).session batches).1)
    out.Pairwise (fun a b => cmp a b < 0) ∧ (∀ y ∈ out, y ∈ runs.flatten) ∧ (∀ x ∈ runs.flatten, ∃ y ∈ out, cmp x y = 0) := by
  intro ss out
  have hspec := fun run => dedupRun_none_spec hr (hsort run).2
  have hks := keysOf_sorted hr ss (by
    intro s hs
    obtain ⟨run, _, rfl⟩ := List.mem_map.mp hs
    exact (hspec run).2.1.imp (fun h => Int.le_of_lt (hr.lt_of_rank_lt h)))
  obtain ⟨d1, d2, d3⟩ := PqModel.Props.C09.merge_dedupe_one_row_per_key (keysOf rank ss) refills batches hks hpos hlen
  refine ⟨?_, ?_, ?_⟩
  · exact pairwise_untag rank ss (fun _ _ => hr.lt_of_rank_lt) d2 d1
  · intro y hy
    obtain ⟨r, hr', hl⟩ := List.mem_filterMap.mp hy
    have hy' : y ∈ ss.flatten := by
      rw [← tagInputs_lookup rank ss]
      exact List.mem_filterMap.mpr ⟨r, d2 r hr', hl⟩
    obtain ⟨s, hs, hys⟩ := List.mem_flatten.mp hy'
    obtain ⟨run, hrun, rfl⟩ := List.mem_map.mp hs
    exact List.mem_flatten.mpr ⟨run, hrun, (hsort run).1.mem_iff.mp ((hspec run).1.subset hys)⟩
  · -- `x`'s key survives in its own run (`y`); `y` has a tag `r`; the merge keeps some `r2` with `r`'s key
    intro x hx
    obtain ⟨run, hrun, hxr⟩ := List.mem_flatten.mp hx
    obtain ⟨y, hy, ey⟩ := (hspec run).2.2 x ((hsort run).1.mem_iff.mpr hxr)
    have hy' : y ∈ ss.flatten := List.mem_flatten.mpr ⟨_, List.mem_map.mpr ⟨run, hrun, rfl⟩, hy⟩
    rw [← tagInputs_lookup rank ss] at hy'
    obtain ⟨r, hr', hl⟩ := List.mem_filterMap.mp hy'
    obtain ⟨z, hz, ez⟩ := tagInputs_key rank ss r hr'
    rw [hl] at hz
    obtain ⟨r2, hr2, ek⟩ := d3 r hr'
    obtain ⟨z2, hz2, ez2⟩ := tagInputs_key rank ss r2 (d2 r2 hr2)
    refine ⟨z2, List.mem_filterMap.mpr ⟨r2, hr2, hz2⟩, (hr.eq_iff x z2).mpr ?_⟩
    have : z = y := by simpa using hz.symm
    subst this
    omega

/-- non-vacuity: integer rows ranked by themselves; the sorted runs `[1,3] [2,3]` -/
example : Ranked intOrd.cmp (fun x => x) := ⟨by intro a b; simp [intOrd]; omega, intOrd.anti⟩

example : untag [[1, 3], [2, 3]]
    ((PqModel.Merge.Reader.new (PqModel.Merge.tagInputs (keysOf (fun x => x) [[1, 3], [2, 3]])) []).session [2, 2, 2, 2, 2]).1.flatten
      = ([1, 2, 3, 3] : List Int) ∧
    untag [[1, 3], [2, 3]] (PqModel.Merge.dedupeReader none
      ((PqModel.Merge.Reader.new (PqModel.Merge.tagInputs (keysOf (fun x => x) [[1, 3], [2, 3]])) []).session [2, 2, 2, 2, 2]).1)
      = ([1, 2, 3] : List Int) := by decide

/-- for EVERY leaf (any levels, any own repetition type), sorting direction and null placement: the
    `Less` of the sorted column as `configure` sets it up (buffer kind from the levels, null ordering
    function, `reversedColumnBuffer` iff descending and not nullable) ⇔ the comparator is negative -/
theorem configure_less_agrees {V : Type} (o : VOrd V) (l : Leaf) (sc : SortCol) {c : Col V} (h : c.CInv)
    (hk : c.KindOf l) {i j : Nat} (hi : i < c.view.length) (hj : j < c.view.length) :
    Col.lessConf o.lt (configure l (some sc)) c i j = true ↔ cmpCell o.cmp sc (c.val i) (c.val j) < 0 := by
  rw [Col.lessConf_configure o.lt l sc hk]
  exact Col.less_agrees o h sc hi hj

/-- a required leaf (`ownOptional = ownRepeated = false`) inside an optional group, group absent in
    row 0, value 5 in row 1; descending, nulls last: `Less(1, 0)` holds and `Less(0, 1)` does not -/
example :
    let l : Leaf := { maxRep := 0, maxDef := 1 }
    let c : Col Int := .opt 1 { base := [5], rows := [-1, 0], defs := [0, 1] }
    c.KindOf l ∧ Col.lessConf intOrd.lt (configure l (some ⟨0, true, false⟩)) c 1 0 = true ∧
    Col.lessConf intOrd.lt (configure l (some ⟨0, true, false⟩)) c 0 1 = false := by
  intro l c
  exact ⟨⟨rfl, rfl, by decide⟩, by decide, by decide⟩

/-- the same for a leaf with inherited repetition (a leaf of a repeated group, or a repeated leaf):
    `configure` never reverses such a column, the configured `Less` ⇔ the comparator on the rows'
    value lists is negative -/
theorem configure_repeated_less_agrees {V : Type} (o : VOrd V) (l : Leaf) (hr : 0 < l.maxRep) (sc : SortCol) {m : Nat}
    {c : RepCol V} (h : c.RInv m) {i j : Nat} (hi : i < c.rows.length) (hj : j < c.rows.length) :
    RepCol.lessConf o.lt (configure l (some sc)) m c i j = true ↔
      cmpList (cmpCell o.cmp sc) (c.key m i) (c.key m j) < 0 := by
  rw [RepCol.lessConf_configure o.lt l sc hr]
  exact RepCol.less_agrees o sc h hi hj

example : (0 : Nat) < ({ maxRep := 1, maxDef := 1 } : Leaf).maxRep := by decide

/-- the buffer kind follows the inherited levels; the reversing wrapper is used exactly for
    descending columns that cannot hold a null -/
theorem configure_kinds (l : Leaf) (sc : SortCol) :
    ((configure l (some sc)).wrap = .plain ↔ l.maxRep = 0 ∧ l.maxDef = 0) ∧
    ((configure l (some sc)).wrap = .optional ↔ l.maxRep = 0 ∧ 0 < l.maxDef) ∧
    ((configure l (some sc)).wrap = .repeated ↔ 0 < l.maxRep) ∧
    ((configure l (some sc)).reversed = true ↔ sc.desc = true ∧ l.maxRep = 0 ∧ l.maxDef = 0) :=
  ⟨(configure_wrap l (some sc)).1, (configure_wrap l (some sc)).2.1, (configure_wrap l (some sc)).2.2, configure_reversed l sc⟩

/-- the whole `Buffer.Less` over the columns as configured from ANY schema equals the `Less` chain
    that `less_agrees`/`sort_correct` are about (hence both hold for nested sorting columns) -/
theorem buffer_less_configured {V : Type} (o : VOrd V) (leaves : Nat → Leaf) {b : Buffer V} {n : Nat} (h : b.BInv n)
    (hk : ∀ (k : Nat) (c : Col V), b.cols[k]? = some c → c.KindOf (leaves k))
    (hs : ∀ sc ∈ b.sorting, sc.col < b.cols.length) {i j : Nat} (hi : i < n) (hj : j < n) :
    b.lessConfigured o.lt leaves i j = true ↔ cmpRows o.cmp b.sorting (b.row i) (b.row j) < 0 := by
  rw [Buffer.lessConfigured_eq o.lt leaves b hk]
  exact Buffer.less_agrees o h hs hi hj

example : ∀ (k : Nat) (c : Col Int), sampleBuf.cols[k]? = some c →
    c.KindOf ((fun k => if k = 0 then ({ maxRep := 0, maxDef := 1 } : Leaf) else { maxRep := 0, maxDef := 0 }) k) := by
  intro k c hc
  match k, hc with
  | 0, hc => simp [sampleBuf] at hc; subst hc; simp [Col.KindOf]
  | 1, hc => simp [sampleBuf] at hc; subst hc; simp [Col.KindOf]
  | k + 2, hc => simp [sampleBuf] at hc

/-- NEGATION for the variant that derives `nullable` from the leaf's OWN repetition type
    (`leaf.node.Optional() || leaf.node.Repeated()`): the required leaf of an optional group is
    then wrapped in `reversedColumnBuffer`, and for a descending nulls-last column the null row
    sorts first although the comparator says it is greater -/
theorem configure_own_repetition_disagrees :
    let l : Leaf := { maxRep := 0, maxDef := 1, ownOptional := false, ownRepeated := false }
    let sc : SortCol := ⟨0, true, false⟩
    let c : Col Int := .opt 1 { base := [5], rows := [-1, 0], defs := [0, 1] }
    (configureOwn l (some sc)).reversed = true ∧ (configure l (some sc)).reversed = false ∧
    Col.lessConf intOrd.lt (configureOwn l (some sc)) c 0 1 = true ∧
    ¬ (cmpCell intOrd.cmp sc (c.val 0) (c.val 1) < 0) := by decide

/-- `ordTable` is the answer table by which the correspondence check recognises which of the four null ordering
    functions `Buffer.configure` installed -/
theorem null_ordering_probe_injective (a b c d : Bool) : ordTable a b = ordTable c d → a = c ∧ b = d := by
  revert a b c d
  decide

/-- `ops` is EVERY history of `Write`/`WriteRows`/`Flush` calls on a fresh writer, `maxRows` is `sortRowCount`. The fuel of
    `SW.step` (`len(rows)` iterations per call) is part of the claim: the `writeRows` loop ends within it. -/
theorem sorting_writer_runs_partition {R : Type} {maxRows : Nat} (h1 : 1 ≤ maxRows) (ops : List (SWOp R)) :
    (cutRuns maxRows ops).flatten = written ops ∧ (∀ r ∈ cutRuns maxRows ops, r ≠ [] ∧ r.length ≤ maxRows) ∧
    ((SW.empty.run maxRows ops).close).buf = [] := by
  obtain ⟨o, c⟩ := SW.run_spec h1 ops SW.empty (SW.Ok.empty maxRows)
  have hc := (SW.empty.run maxRows ops).flush_content
  have hb := (SW.empty.run maxRows ops).flush_buf
  refine ⟨?_, o.flush.2, hb⟩
  have : ((SW.empty.run maxRows ops).close).content = written ops := by
    rw [SW.close, hc, c]; simp [SW.content, SW.empty]
  simpa [SW.content, SW.close, hb, cutRuns] using this

example : cutRuns 3 [.write [1, 2], .write [3, 4, 5, 6, 7], .flush, .flush, .write [8]] = ([[1, 2, 3], [4, 5, 6], [7], [8]] : List (List Nat)) := by
  decide

/-- without explicit `Flush` calls the runs are the chunks of `sortRowCount` rows, whatever the
    batch sizes of the `Write` calls (this is the `chunks` of `sorting_writer_correct_chunks`) -/
theorem sorting_writer_runs_chunks {R : Type} {maxRows : Nat} (h1 : 1 ≤ maxRows) (ops : List (SWOp R))
    (hw : ∀ op ∈ ops, ∃ rows, op = .write rows) :
    cutRuns maxRows ops = chunks maxRows (written ops).length (written ops) := by
  obtain ⟨o, c⟩ := SW.run_spec h1 ops SW.empty (SW.Ok.empty maxRows)
  have hf : (SW.empty.run maxRows ops).Full maxRows := by
    refine (List.foldlRecOn ops _ (motive := fun w : SW R => w.Ok maxRows ∧ w.Full maxRows)
      ⟨SW.Ok.empty maxRows, fun r hr => by simp [SW.empty] at hr⟩ fun w hi op hop => ?_).2
    obtain ⟨rows, rfl⟩ := hw op hop
    exact ⟨(hi.1.step h1 _).1, (SW.writeLoop_spec h1 _ w rows hi.1 (Nat.le_refl _)).2.2.2 hi.2⟩
  show ((SW.empty.run maxRows ops).flush).runs = _
  generalize SW.empty.run maxRows ops = w at o c hf ⊢
  have hcont : w.runs.flatten ++ w.buf = written ops := by simpa [SW.content, SW.empty] using c
  have hch := chunks_full_runs h1 w.runs w.buf (written ops).length hf o.1 (by rw [hcont]; exact Nat.le_refl _)
  rw [hcont] at hch
  rw [hch]
  cases hb : w.buf.isEmpty <;> simp [SW.flush, hb]

example : cutRuns 3 [.write [1, 2], .write [3, 4, 5, 6, 7]] = chunks 3 7 ([1, 2, 3, 4, 5, 6, 7] : List Nat) := by decide

/-- `sortRowCount = 0` is outside the theorems: the loop never takes a row, for any fuel (the
    library's `Write` does not return) -/
theorem sorting_writer_zero_run_size_spins {R : Type} (fuel : Nat) (w : SW R) (rows : List R) :
    (w.writeLoop 0 fuel rows).2 = rows := by
  induction fuel generalizing w with
  | zero => rfl
  | succ fuel ih =>
    simp only [SW.writeLoop]
    split
    · rfl
    · simp only [Nat.zero_le, if_true, Nat.zero_sub, List.take_zero, List.append_nil, List.drop_zero]
      exact ih _

/-- `SortingWriter`, any history of `Write`/`WriteRows`/`Flush` calls: the runs the writer cuts (`cutRuns`), any sorter,
    the C09 readers -/
theorem sorting_writer_correct_history {R : Type} (cmp : R → R → Int) (rank : R → Int) (hr : Ranked cmp rank)
    (sortRun : List R → List R)
    (hsort : ∀ run, (sortRun run).Perm run ∧ (sortRun run).Pairwise (fun a b => cmp a b ≤ 0))
    {maxRows : Nat} (h1 : 1 ≤ maxRows) (ops : List (SWOp R))
    (refills : List (List Nat)) (batches : List Nat) (hpos : ∀ b ∈ batches, 1 ≤ b)
    (hlen : (PqModel.Merge.tagInputs (keysOf rank ((cutRuns maxRows ops).map sortRun))).flatten.length < batches.length) :
    let ss := (cutRuns maxRows ops).map sortRun
    let out := untag ss ((PqModel.Merge.Reader.new (PqModel.Merge.tagInputs (keysOf rank ss)) refills).session batches).1.flatten
    out.Perm (written ops) ∧ out.Pairwise (fun a b => cmp a b ≤ 0) := by
  intro ss out
  have := sorting_writer_correct cmp rank hr sortRun hsort (cutRuns maxRows ops) refills batches hpos hlen
  rw [(sorting_writer_runs_partition h1 ops).1] at this
  exact this

/-- … and when `WriteRowGroup(merged)` goes through a segment plan instead of the row readers: any plan that is `Good`
    in the sense of C09 (`refined_plan_is_merge`). That the cuts computed from the page indexes form a `Good` plan is
    C09's `cuts_form_good_plan_partial` + its correspondence check. -/
theorem sorting_writer_correct_plan {R : Type} (cmp : R → R → Int) (rank : R → Int) (hr : Ranked cmp rank)
    (sortRun : List R → List R)
    (hsort : ∀ run, (sortRun run).Perm run ∧ (sortRun run).Pairwise (fun a b => cmp a b ≤ 0))
    {maxRows : Nat} (h1 : 1 ≤ maxRows) (ops : List (SWOp R)) {k : Nat}
    (segments : List (List (List PqModel.Merge.Row))) (outs : List (List PqModel.Merge.Row))
    (hgood : PqModel.Merge.Plan.Good (k := k) segments outs)
    (hjoin : PqModel.Merge.joinSegments k segments = PqModel.Merge.tagInputs (keysOf rank ((cutRuns maxRows ops).map sortRun))) :
    let out := untag ((cutRuns maxRows ops).map sortRun) outs.flatten
    out.Perm (written ops) ∧ out.Pairwise (fun a b => cmp a b ≤ 0) := by
  intro out
  have hm := PqModel.Props.C09.refined_plan_is_merge segments outs hgood
  rw [hjoin] at hm
  have := untag_sorted_runs (fun _ _ => (hr.le_iff _ _).mpr) (fun run => (hsort run).1) (cutRuns maxRows ops) hm
  rwa [(sorting_writer_runs_partition h1 ops).1] at this

end PqModel.Props.C10
