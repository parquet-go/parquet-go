import PqModel.Pool

/-! # C16 — Values handed to the caller are not changed by later library activity (PARTIAL)

The theorems are about `PqModel.Pool`: the MIRROR of the ownership protocol of the refcounted
pooled page buffers (buffer.go, file.go FilePages, column_chunk.go columnChunkValueReader) plus ghost
ownership. They hold for ALL operation sequences (`Op`: any interleaving of page reads, seeks,
closes, Retain/Release/Slice by the application, value/row reads of any number of readers,
`Read[T]`-style copies, clones, and unrelated pool churn) and all nondeterministic choices (which
pooled buffer `get` returns, what is decoded into it, how many pages a call skips).

PARTIAL by design: Go's garbage collector and `sync.Pool` timing are replaced by the pool model
(any pooled buffer may be handed out at any later `get`, and putting a buffer poisons it — which the
verif build of the library really does, so that the harness observes the same thing). Aliasing
through `unsafe` casts outside the buffer pools and converted/variant pages are not in the model; the
async page reader is `Props/C16Async.lean`, the write path `Props/C16Write.lean`. -/
namespace PqModel.Props.C16
open PqModel.Pool

/-- the state after any history of operations; `det r` says whether reader r detaches its values
    buffers (a row reader over a byte-array column does, row_group.go:222-229) -/
def reach (det : RdrId → Bool) (ops : List Op) : State := (State.init det).run ops

theorem reach_inv (det : RdrId → Bool) (ops : List Op) : Inv (reach det ops) :=
  run_inv ops (Inv_init det)

/-- After ANY history: no refcount panic happened (no unref below zero, no ref of a
    released buffer); every buffer has been put at most once since it was last got (no double
    free); a buffer is in the pool exactly when its refcount is zero; and every caller-visible slice
    that is within its documented lifetime points into a buffer that is NOT in the pool and that
    still holds exactly the bytes the caller saw. -/
theorem alias_safe (det : RdrId → Bool) (ops : List Op) :
    (reach det ops).heap.bug = none ∧
    (∀ b, ((reach det ops).heap.bufs b).puts ≤ 1) ∧
    (∀ b, ((reach det ops).heap.bufs b).inPool = true ↔ ((reach det ops).heap.bufs b).refc = 0) ∧
    (∀ a, a ∈ (reach det ops).aliases → a.live (reach det ops) →
      ((reach det ops).heap.bufs a.buf).inPool = false ∧
      1 ≤ ((reach det ops).heap.bufs a.buf).refc ∧
      ((reach det ops).heap.bufs a.buf).data = a.snap) := by
  have i := reach_inv det ops
  refine ⟨i.nobug, fun b => (i.hw.puts b).1, i.hw.pool, fun a ha hl => ?_⟩
  have hp := live_pos i.toInv0 ha hl
  exact ⟨notPool_of_pos i.hw hp, hp, i.data a ha hl⟩

example : (reach (fun _ => true) []).heap.bug = none := (alias_safe _ _).1

/-- No later `get` can overwrite it: whatever buffer the pool hands out next (any `pick`), it is
    not one a live alias points into. -/
theorem get_never_returns_aliased (det : RdrId → Bool) (ops : List Op) (pick : BufId) (d : List UInt8)
    (a : Alias) (ha : a ∈ (reach det ops).aliases) (hl : a.live (reach det ops)) :
    ((reach det ops).heap.get pick d).2 ≠ a.buf := by
  have i := reach_inv det ops
  intro h
  have h0 := (get_spec i.hw pick d).2.2.2.1
  rw [h] at h0
  have := live_pos i.toInv0 ha hl
  omega

/-- what an operation must not be for the lifetime of alias `a` to continue: values read from a
    page live until the application itself releases that page; values returned by a plain value
    reader live until the next call on the same reader; rows of a row reader live forever -/
def outlives (a : Alias) (op : Op) : Prop :=
  match a.life with
  | .page q => op ≠ .release q
  | .call r _ => op.onReader r = false
  | .forever => True

theorem live_step {s : State} (i : Inv s) {a : Alias} (ha : a ∈ s.aliases) (hl : a.live s) (op : Op)
    (ho : outlives a op) : a ∈ (s.step op).aliases ∧ a.live (s.step op) := by
  have ok := i.ok a ha
  have hmem : ∀ {q r}, Stable q r s (s.step op) → a ∈ (s.step op).aliases := by
    intro q r st
    obtain ⟨l, hl⟩ := st.al
    rw [hl]; exact List.mem_append_right _ ha
  unfold outlives at ho
  unfold aliasOk at ok
  unfold Alias.live at hl ⊢
  cases hlife : a.life with
  | page q =>
    rw [hlife] at ho ok hl; simp only at ho ok hl ⊢
    have st := step_stable q (op.rdr + 1) s op ho (onReader_fresh op)
    exact ⟨hmem st, st.keep ok.1 hl⟩
  | call r g =>
    rw [hlife] at ho ok hl; simp only at ho ok hl ⊢
    have st := step_stable (op.pg + 1) r s op (release_fresh op) ho
    exact ⟨hmem st, by rw [st.gen]; exact hl⟩
  | forever =>
    have st := step_stable (op.pg + 1) (op.rdr + 1) s op (release_fresh op) (onReader_fresh op)
    exact ⟨hmem st, trivial⟩

/-- The lifetime ends only by the caller's own calls: from any reachable state, a live alias
    stays live, stays registered and keeps its bytes through ANY further operations (other readers
    and writers recycling the pools, reads, seeks and Close of any reader, ...) as long as the
    application does not itself end the lifetime: release the page the values were read from
    (`.page`), or call the same plain value reader again (`.call`; Read, Seek, Reset, Close). Rows returned by a row reader
    (`.forever`: `ReadRows` results) are never invalidated. -/
theorem alias_unchanged (det : RdrId → Bool) (ops : List Op) (a : Alias)
    (ha : a ∈ (reach det ops).aliases) (hl : a.live (reach det ops)) (later : List Op)
    (ho : ∀ op, op ∈ later → outlives a op) :
    a ∈ (reach det (ops ++ later)).aliases ∧ a.live (reach det (ops ++ later)) ∧
    ((reach det (ops ++ later)).heap.bufs a.buf).inPool = false ∧
    ((reach det (ops ++ later)).heap.bufs a.buf).data = a.snap := by
  rw [reach, run_append]
  have key : ∀ (later : List Op) (s : State), Inv s → a ∈ s.aliases → a.live s →
      (∀ op, op ∈ later → outlives a op) →
      a ∈ (s.run later).aliases ∧ a.live (s.run later) ∧ Inv (s.run later) := by
    intro later
    induction later with
    | nil => intro s i ha hl _; exact ⟨ha, hl, i⟩
    | cons op rest ih =>
      intro s i ha hl ho
      have st := live_step i ha hl op (ho op (by simp))
      exact ih (s.step op) (step_inv i op) st.1 st.2 (fun op' h => ho op' (by simp [h]))
  obtain ⟨h1, h2, i⟩ := key later (reach det ops) (reach_inv det ops) ha hl ho
  have hp := live_pos i.toInv0 h1 h2
  exact ⟨h1, h2, notPool_of_pos i.hw hp, i.data a h1 h2⟩

/-- Bytes copied into caller-owned memory (`AssignValue` for strings and []byte in
    `Read[T]` / `GenericReader.Read`, `Value.Clone` / `Row.Clone`) are appended as fresh objects and no
    later operation of any kind modifies or drops them: the copies made so far are a prefix of the
    copies after any continuation. -/
theorem read_copies (det : RdrId → Bool) (ops later : List Op) :
    ∃ l, (reach det (ops ++ later)).goVals = (reach det ops).goVals ++ l := by
  rw [reach, run_append]; exact run_goVals later _

/-- `Read[T]` copies: the new Go value holds the bytes of the reader's current page at the time of
    the call, and it is a new object (nothing is registered as an alias of a pooled buffer for it). -/
theorem readGo_allocates (s : State) (r : RdrId) (rounds : List Round) (p : PageId)
    (h : ((s.vrRead r rounds).rdrs r).cur = some p) :
    (s.step (.readGo r rounds)).goVals =
      (s.vrRead r rounds).goVals ++ [((s.vrRead r rounds).heap.bufs ((s.vrRead r rounds).pages p).values).data] ∧
    (s.step (.readGo r rounds)).aliases = (s.vrRead r rounds).aliases := by
  show ((s.vrRead r rounds).copyCur r).goVals = _ ∧ ((s.vrRead r rounds).copyCur r).aliases = _
  unfold State.copyCur
  rw [h]; exact ⟨rfl, rfl⟩

/-- a page of a byte-array column: values buffer, then offsets and definition levels; one scratch
    buffer for the compressed bytes; `pv po pd pt` are the pool's choices -/
def pg (v : UInt8) (pv po pd pt : BufId) : Iter :=
  { transients := [(pt, [9, 9])], page := some ⟨(pv, [v, v]), [(po, [1]), (pd, [2])], true⟩, action := .ret }

def first : List Op := [.vrRead 0 [⟨false, [pg 7 0 0 0 0], true⟩]]

/-- the reader moves to the next page (the first page is cleared; the second decode REUSES the
    pooled buffers 0, 2, 3 of the first one), is closed, and unrelated activity churns the pool -/
def later : List Op :=
  [.vrRead 0 [⟨false, [], false⟩, ⟨false, [pg 8 0 2 3 0], true⟩],
   .vrSeek 0 true, .vrReset 0 false, .vrClose 0,
   .churn [(2, [0xEE]), (3, [0xEE]), (0, [0xEE])]]

def rowAlias : Alias := ⟨0, .forever, [7, 7]⟩

/-- row reader (detach): the row handed out first is registered, buffer 0 holds its bytes -/
example : (reach (fun _ => true) first).aliases = [rowAlias] := by decide +kernel

/-- the row's buffer is not pooled and still reads 7,7 while buffers 2 and 3 were recycled -/
example : rowAlias ∈ (reach (fun _ => true) (first ++ later)).aliases ∧
    ((reach (fun _ => true) (first ++ later)).heap.bufs 0).data = [7, 7] :=
  have h := alias_unchanged (fun _ => true) first rowAlias (by decide +kernel) trivial later (fun _ _ => trivial)
  ⟨h.1, h.2.2.2⟩

example : ((reach (fun _ => true) (first ++ later)).heap.bufs 0).inPool = false ∧
    ((reach (fun _ => true) (first ++ later)).heap.bufs 2).inPool = true ∧
    ((reach (fun _ => true) (first ++ later)).heap.bufs 2).data = [poison] ∧
    ((reach (fun _ => true) (first ++ later)).heap.bufs 2).puts = 1 := by decide +kernel

/-- a plain value reader (no detach): the same history ends the lifetime of the first values at
    the next call (generation 0 → 2), and then the bytes ARE gone (poisoned): the lifetime hypothesis
    of the theorems is not idle, and the model does recycle storage -/
example : (reach (fun _ => false) (first ++ later)).aliases.map (fun a => (a.buf, a.life, a.snap)) =
      [(4, .call 0 1, [8, 8]), (0, .call 0 0, [7, 7])] ∧
    ((reach (fun _ => false) (first ++ later)).rdrs 0).gen = 2 ∧
    ((reach (fun _ => false) (first ++ later)).heap.bufs 0).data = [poison] := by decide +kernel

/-- pages API: values read from a page stay valid across Close of the reader and pool churn, as
    long as the application does not release the page ... -/
def pageHist : List Op := [.readPage 0 false [pg 5 0 0 0 0], .pageValues 0]
def pageLater : List Op := [.seekPages 0 true, .readPage 0 true [], .closePages 0, .churn [(0, [1]), (2, [1])]]

example : (⟨0, .page 0, [5, 5]⟩ : Alias) ∈ (reach (fun _ => false) (pageHist ++ pageLater)).aliases ∧
    ((reach (fun _ => false) (pageHist ++ pageLater)).heap.bufs 0).data = [5, 5] :=
  have h := alias_unchanged (fun _ => false) pageHist ⟨0, .page 0, [5, 5]⟩ (by decide +kernel)
    (by show (⟨.caller, 0⟩ : Claim) ∈ (reach (fun _ => false) pageHist).held; decide +kernel) pageLater
    (by
      intro op h
      simp only [pageLater, List.mem_cons, List.mem_nil_iff, or_false] at h
      rcases h with rfl | rfl | rfl | rfl <;> simp [outlives])
  ⟨h.1, h.2.2.2⟩

/-- the cached `lastPage` plus the Slice served after the seek kept the buffers referenced:
    refcount 2 after Close (the application's page and the slice), nothing pooled twice -/
example : ((reach (fun _ => false) (pageHist ++ pageLater)).heap.bufs 0).refc = 2 := by decide +kernel

/-- after the application releases both pages the storage is recycled -/
example : ((reach (fun _ => false) (pageHist ++ pageLater ++ [.release 0, .release 1])).heap.bufs 0).data
    = [poison, poison] := by decide +kernel

/-- `Read[T]`: the copy survives everything -/
example : (reach (fun _ => true) ([.readGo 0 [⟨false, [pg 7 0 0 0 0], true⟩]] ++ later)).goVals = [[7, 7]] := by
  decide +kernel

end PqModel.Props.C16
