import PqModel.Props.C05Compare
import PqModel.Props.C09

/-! # C09: the merge theorems on the MIRRORED comparators of every leaf type

The merge / dedupe theorems (`…_any_comparator` of Props/C09.lean) take `Compare.Lawful c` as a hypothesis;
CompareRows.lean proves the per-type comparisons of compare.go / type_*.go lawful. This file composes the two, so that
"`Type.Compare` of the key columns is an order on the decoded keys" is proved and not trusted:

MIRROR (PqModel/CompareRows.lean): `compareRowsFuncOf` over typed key columns (`KeyCol`: leaf type, descending,
nulls first, nullable, column index) with its two paths `cmpRowsIndexes` (positional arms) and `cmpRowsValues`
(`Type.Compare` + `CompareDescending` + `CompareNullsFirst/Last`), built from `typeCompare`, `armAscending`,
`armDescending` of CompareTypes.lean. SPEC-side auxiliary: `typeCompareT` (floats by their sign-magnitude key).

What is discharged: the comparator hypothesis of the merge / dedupe theorems, for single and compound keys of every
leaf type except FLOAT / DOUBLE unconditionally (be128 / UUID included: `compareBE128_lawful`), and for FLOAT / DOUBLE
keys on rows without NaN keys. What remains is stated by witnesses at the end: with a NaN key the comparator is not a
total preorder, the rank embedding (`comparator_is_rank_order`, the step that lets the reader mirror run on ranks)
is false, and "every adjacent pair ordered" does not imply sorted.

`Lawful` is `Compare.Lawful` throughout this file; `Stats.Lawful` is open too but never used bare. -/
namespace PqModel.Props.C09
open PqModel PqModel.Compare PqModel.CompareTypes PqModel.CompareRows PqModel.Merge PqModel.Stats

/-- `Type.Compare` and both positional arms are total preorders on ALL values for every leaf type that does not
    read floats — be128 / UUID included, on values of any length (closes the `is128 = false` side condition of
    `C05.typeCompare_lawful_leaf`) -/
theorem typeCompare_lawful_nonfloat (t : LeafType) (hf : t.isFloat = false) :
    Lawful (typeCompare t) ∧ Lawful (armAscending t) ∧ Lawful (armDescending t) :=
  typeCompare_arms_lawful hf (C05.arms_are_typeCompare t)

example : LeafType.uuid.isFloat = false ∧ (LeafType.int 8 false).isFloat = false ∧ LeafType.interval.isFloat = false := by
  decide

/-- the float-by-key companion is lawful for every leaf type, and IS `Type.Compare` on values that are not NaN -/
theorem typeCompareT_lawful (t : LeafType) : Lawful (typeCompareT t) := by
  have h : ∀ t' : LeafType, t'.isFloat = false → typeCompareT t' = typeCompare t' → Lawful (typeCompareT t') :=
    fun t' hf e => e ▸ (typeCompare_lawful_nonfloat t' hf).1
  cases t
  case float => exact onCol_lawful (fun v : Val => fKey 8 23 v.float) cmpInt_lawful
  case double => exact onCol_lawful (fun v : Val => fKey 11 52 v.double) cmpInt_lawful
  all_goals exact h _ rfl rfl

theorem typeCompare_is_companion_off_nan (t : LeafType) (a b : Val)
    (ha : valNaN t a = false) (hb : valNaN t b = false) : typeCompare t a b = typeCompareT t a b :=
  typeCompare_eq_T t a b ha hb

/-- the two paths of `compareRowsFuncOf` are the same function where the positional one applies (every leaf type,
    NaN included): which path the library picks never changes an answer -/
theorem positional_path_is_value_path (ks : List KeyCol) (h : ks.all (fun k => !k.optional) = true) :
    cmpRowsIndexes ks = cmpRowsValues ks := by
  induction ks with
  | nil => rfl
  | cons k ks ih =>
    simp only [List.all_cons, Bool.and_eq_true, Bool.not_eq_true'] at h
    have ih' := ih (by simpa using h.2)
    have e1 : armAscending k.typ = typeCompare k.typ :=
      funext fun a => funext fun b => (C05.arms_are_typeCompare k.typ a b).1
    have e2 : armDescending k.typ = descending (typeCompare k.typ) :=
      funext fun a => funext fun b => (C05.arms_are_typeCompare k.typ a b).2
    have hk : valueCmpWith typeCompare k =
        unwrapped (if k.desc then armDescending k.typ else armAscending k.typ) := by
      simp only [valueCmpWith, h.1, e1, e2, Bool.false_eq_true, if_false]
    funext a b
    have ihab := congrFun (congrFun ih' a) b
    unfold cmpRowsIndexes cmpRowsValues cmpRowsValuesWith at ihab ⊢
    simp only [List.map_cons]
    exact cmpLex_cons_congr (by rw [hk]) ihab

theorem compareRowsFuncOf_is_value_path (ks : List KeyCol) : compareRowsFuncOf ks = cmpRowsValues ks := by
  unfold compareRowsFuncOf
  split
  · next h => exact positional_path_is_value_path ks h
  · rfl

/-- one column: `Type.Compare` wrapped as compare.go:429-445 wraps it keeps the order laws -/
theorem valueCmp_lawful (tc : LeafType → Val → Val → Int) (k : KeyCol) (h : Lawful (tc k.typ)) :
    Lawful (valueCmpWith tc k) := by
  have hb : Lawful (if k.desc then descending (tc k.typ) else tc k.typ) := by
    split
    · exact descending_lawful h
    · exact h
  simp only [valueCmpWith]
  split
  · split
    · exact nullsFirst_lawful hb
    · exact nullsLast_lawful hb
  · exact onCol_lawful _ hb

theorem cmpRowsValuesWith_lawful (tc : LeafType → Val → Val → Int) (ks : List KeyCol)
    (h : ∀ k ∈ ks, Lawful (tc k.typ)) : Lawful (cmpRowsValuesWith tc ks) := by
  apply cmpLex_lawful
  intro c hc
  obtain ⟨k, hk, rfl⟩ := List.mem_map.mp hc
  exact onCol_lawful _ (valueCmp_lawful tc k (h k hk))

/-- the comparator hypothesis of C09, discharged: the function `compareRowsFuncOf` builds for ANY list of
    sorting columns whose leaf types read no floats — any mix of types, ascending / descending, nulls first / last,
    required / nullable, either code path — is a total preorder on all rows -/
theorem compareRowsFuncOf_total_preorder (ks : List KeyCol) (hf : ∀ k ∈ ks, k.typ.isFloat = false) :
    Lawful (compareRowsFuncOf ks) := by
  rw [compareRowsFuncOf_is_value_path]
  exact cmpRowsValuesWith_lawful typeCompare ks (fun k hk => (typeCompare_lawful_nonfloat k.typ (hf k hk)).1)

/-- a compound key over four kinds: UINT_32 descending, nullable STRING nulls first, UUID, nullable TIMESTAMP
    descending nulls last -/
def sampleKey : List KeyCol :=
  [⟨.int 32 false, true, false, false, 0⟩, ⟨.string, false, true, true, 1⟩, ⟨.uuid, false, false, false, 2⟩,
   ⟨.timestamp, true, false, true, 3⟩]

example : (∀ k ∈ sampleKey, k.typ.isFloat = false) ∧
    -- 0xFFFFFFFF is the LARGEST UINT_32, first in descending order; then null string first
    compareRowsFuncOf sampleKey [some ⟨0xFFFFFFFF#64, []⟩, none, some ⟨16#64, List.replicate 16 0⟩, none]
      [some ⟨1#64, []⟩, none, some ⟨16#64, List.replicate 16 0⟩, none] < 0 ∧
    compareRowsFuncOf sampleKey [some ⟨7#64, []⟩, none, some ⟨16#64, List.replicate 16 0⟩, none]
      [some ⟨7#64, []⟩, some ⟨1#64, [97]⟩, some ⟨16#64, List.replicate 16 0⟩, none] < 0 := by decide

/-- C09 for typed key columns: for every list of sorting columns of non-float leaf types, every number of inputs
    sorted by the library's comparator, every refill pattern and sequence of positive batch sizes, the merged rows
    are sorted by that comparator, are a permutation of the union of the inputs, and each input keeps its order.
    No hypothesis on the comparator is left. -/
theorem merge_sorted_complete_stable_typed_keys (ks : List KeyCol) (hf : ∀ k ∈ ks, k.typ.isFloat = false)
    (inputs : List (List TRow)) (refills : List (List Nat)) (batches : List Nat)
    (hs : ∀ l ∈ inputs, l.Pairwise (fun a b => compareRowsFuncOf ks a b ≤ 0)) (hpos : ∀ b ∈ batches, 1 ≤ b)
    (hlen : inputs.flatten.length < batches.length) :
    let out := mergeC (compareRowsFuncOf ks) inputs refills batches
    (out.map (orig inputs)).Pairwise (fun a b => compareRowsFuncOf ks a b ≤ 0) ∧
    (out.map (orig inputs)).Perm inputs.flatten ∧
    ∀ (i : Nat) (l : List TRow), inputs[i]? = some l → ((out.filter (fun r => r.inp == i)).map (orig inputs)) = l :=
  mergeC_sorted_complete_stable (compareRowsFuncOf_total_preorder ks hf) inputs refills batches hs hpos hlen

/-- … and duplicate dropping on typed keys: one row per key, whatever the batch boundaries -/
theorem dedupe_one_row_per_key_typed_keys (ks : List KeyCol) (hf : ∀ k ∈ ks, k.typ.isFloat = false)
    (L : List TRow) (hs : L.Pairwise (fun a b => compareRowsFuncOf ks a b ≤ 0)) (batches : List (List Row))
    (hb : batches.flatten = rankList (compareRowsFuncOf ks) L 0 L) :
    let out := (dedupeReader none batches).map (orig [L])
    out.Sublist L ∧ out.Pairwise (fun a b => compareRowsFuncOf ks a b < 0) ∧
      ∀ x ∈ L, ∃ y ∈ out, compareRowsFuncOf ks y x = 0 :=
  dedupeC_one_row_per_key (compareRowsFuncOf_total_preorder ks hf) L hs batches hb

/-- two inputs sorted by (STRING ascending, nullable INT64 descending nulls last) -/
def sampleStrKey : List KeyCol := [⟨.string, false, false, false, 0⟩, ⟨.int64, true, false, true, 1⟩]
def sampleStrInputs : List (List TRow) :=
  [[[some ⟨1#64, [97]⟩, some ⟨5#64, []⟩], [some ⟨2#64, [97, 98]⟩, none]],
   [[some ⟨1#64, [97]⟩, some ⟨0xFFFFFFFFFFFFFFFF#64, []⟩], [some ⟨1#64, [98]⟩, some ⟨0#64, []⟩]]]

example : (∀ k ∈ sampleStrKey, k.typ.isFloat = false) ∧
    (∀ l ∈ sampleStrInputs, l.Pairwise (fun a b => compareRowsFuncOf sampleStrKey a b ≤ 0)) ∧
    ((mergeC (compareRowsFuncOf sampleStrKey) sampleStrInputs [] [3, 3, 3, 3, 3]).map (fun r => (r.inp, r.seq))) =
      [(0, 0), (1, 0), (0, 1), (1, 1)] := by
  decide

/-- a row holds a NaN in one of the sorting columns -/
def rowNaN (ks : List KeyCol) (r : TRow) : Bool :=
  ks.any fun k => match cell r k.index with
    | some v => valNaN k.typ v
    | none => false

/-- rows without NaN keys -/
abbrev CleanRow (ks : List KeyCol) : Type := { r : TRow // rowNaN ks r = false }

instance (ks : List KeyCol) : Inhabited (CleanRow ks) :=
  ⟨⟨[], by
    have : ∀ l : List KeyCol, rowNaN l [] = false := by
      intro l; induction l with
      | nil => rfl
      | cons k l ih => simp only [rowNaN, List.any_cons, Bool.or_eq_false_iff] at ih ⊢; exact ⟨rfl, ih⟩
    exact this ks⟩⟩

theorem valueCmp_eq_companion (k : KeyCol) (x y : Option Val)
    (hx : ∀ v, x = some v → valNaN k.typ v = false) (hy : ∀ v, y = some v → valNaN k.typ v = false) :
    valueCmpWith typeCompare k x y = valueCmpWith typeCompareT k x y := by
  have hd : valNaN k.typ (default : Val) = false := by
    unfold valNaN; split <;> first | rfl | decide
  have e : ∀ a b : Val, valNaN k.typ a = false → valNaN k.typ b = false →
      (if k.desc then descending (typeCompare k.typ) else typeCompare k.typ) a b =
      (if k.desc then descending (typeCompareT k.typ) else typeCompareT k.typ) a b := by
    intro a b ha hb
    have := typeCompare_eq_T k.typ a b ha hb
    split <;> simp only [descending, this]
  simp only [valueCmpWith]
  split
  · split <;> cases x <;> cases y <;> simp only [nullsFirst, nullsLast] <;> exact e _ _ (hx _ rfl) (hy _ rfl)
  · simp only [unwrapped, onCol]
    apply e
    · cases x
      · exact hd
      · exact hx _ rfl
    · cases y
      · exact hd
      · exact hy _ rfl

/-- on rows without NaN keys the library's comparator IS the lawful companion, column by column -/
theorem compareRowsFuncOf_eq_companion (ks : List KeyCol) (a b : TRow)
    (ha : rowNaN ks a = false) (hb : rowNaN ks b = false) :
    compareRowsFuncOf ks a b = cmpRowsValuesWith typeCompareT ks a b := by
  rw [compareRowsFuncOf_is_value_path]
  induction ks with
  | nil => rfl
  | cons k ks ih =>
    simp only [rowNaN, List.any_cons, Bool.or_eq_false_iff] at ha hb
    have ih' := ih ha.2 hb.2
    have hk := valueCmp_eq_companion k (cell a k.index) (cell b k.index)
      (fun v hv => by have := ha.1; rw [hv] at this; exact this)
      (fun v hv => by have := hb.1; rw [hv] at this; exact this)
    unfold cmpRowsValues cmpRowsValuesWith at ih' ⊢
    simp only [List.map_cons]
    exact cmpLex_cons_congr hk ih'

/-- FLOAT / DOUBLE keys: on the rows that hold no NaN in a sorting column, `compareRowsFuncOf` is a total
    preorder for EVERY list of sorting columns (floats and doubles among them, `-0.0 = +0.0`, infinities included) -/
theorem compareRowsFuncOf_total_preorder_off_nan (ks : List KeyCol) :
    Lawful (fun a b : CleanRow ks => compareRowsFuncOf ks a.1 b.1) := by
  have hl := cmpRowsValuesWith_lawful typeCompareT ks (fun k _ => typeCompareT_lawful k.typ)
  have e : (fun a b : CleanRow ks => compareRowsFuncOf ks a.1 b.1) =
      fun a b : CleanRow ks => cmpRowsValuesWith typeCompareT ks a.1 b.1 :=
    funext fun a => funext fun b => compareRowsFuncOf_eq_companion ks a.1 b.1 a.2 b.2
  rw [e]
  exact ⟨fun a => hl.refl _, fun a b => hl.flip _ _, fun a b d => hl.trans _ _ _⟩

/-- C09 for ANY typed key columns on inputs without NaN keys -/
theorem merge_sorted_complete_stable_float_keys_off_nan (ks : List KeyCol)
    (inputs : List (List (CleanRow ks))) (refills : List (List Nat)) (batches : List Nat)
    (hs : ∀ l ∈ inputs, l.Pairwise (fun a b => compareRowsFuncOf ks a.1 b.1 ≤ 0)) (hpos : ∀ b ∈ batches, 1 ≤ b)
    (hlen : inputs.flatten.length < batches.length) :
    let out := mergeC (fun a b : CleanRow ks => compareRowsFuncOf ks a.1 b.1) inputs refills batches
    (out.map (orig inputs)).Pairwise (fun a b => compareRowsFuncOf ks a.1 b.1 ≤ 0) ∧
    (out.map (orig inputs)).Perm inputs.flatten ∧
    ∀ (i : Nat) (l : List (CleanRow ks)), inputs[i]? = some l →
      ((out.filter (fun r => r.inp == i)).map (orig inputs)) = l :=
  mergeC_sorted_complete_stable (compareRowsFuncOf_total_preorder_off_nan ks) inputs refills batches hs hpos hlen

/-- a FLOAT key descending with a nullable DOUBLE key: -0.0 / +0.0 / infinity are clean rows -/
def sampleFloatKey : List KeyCol := [⟨.float, true, false, false, 0⟩, ⟨.double, false, true, true, 1⟩]

example : rowNaN sampleFloatKey [some ⟨0x80000000#64, []⟩, some ⟨0x7ff0000000000000#64, []⟩] = false ∧
    rowNaN sampleFloatKey [some ⟨0x7f800000#64, []⟩, none] = false ∧
    rowNaN sampleFloatKey [some ⟨0x7fc00000#64, []⟩, none] = true := by decide

def f32Key : List KeyCol := [⟨.float, false, false, false, 0⟩]
def rowF32 (bits : BitVec 64) : TRow := [some ⟨bits, []⟩]

/-- with a NaN among the keys the comparator the library builds is NOT a total preorder: 2.0 = NaN = 1.0 yet
    2.0 > 1.0 — the hypothesis of every C09 theorem fails, on either code path -/
theorem nan_key_comparator_is_not_lawful :
    ¬ Lawful (compareRowsFuncOf f32Key) ∧ ¬ Lawful (cmpRowsValues f32Key) ∧ ¬ Lawful (cmpRowsIndexes f32Key) := by
  have w : ∀ c : TRow → TRow → Int, c (rowF32 0x40000000#64) (rowF32 0x7fc00000#64) ≤ 0 →
      c (rowF32 0x7fc00000#64) (rowF32 0x3f800000#64) ≤ 0 →
      ¬ c (rowF32 0x40000000#64) (rowF32 0x3f800000#64) ≤ 0 → ¬ Lawful c :=
    fun c h1 h2 h3 h => h3 (h.trans _ _ _ h1 h2)
  exact ⟨w _ (by decide) (by decide) (by decide), w _ (by decide) (by decide) (by decide),
    w _ (by decide) (by decide) (by decide)⟩

/-- … the rank embedding is false: in the list 2.0, NaN, 1.0 the rows 2.0 and NaN compare equal but have different
    ranks, so a reader mirror run on ranks does NOT take the decisions the code takes with the comparator (the L2 runs
    generate no NaN keys for this reason) -/
theorem nan_key_breaks_rank_embedding :
    let c := compareRowsFuncOf f32Key
    let L := [rowF32 0x40000000#64, rowF32 0x7fc00000#64, rowF32 0x3f800000#64]
    c (rowF32 0x40000000#64) (rowF32 0x7fc00000#64) = 0 ∧
    rankIn c L (rowF32 0x40000000#64) ≠ rankIn c L (rowF32 0x7fc00000#64) := by decide

/-- … and order by adjacent pairs is not order: 2.0, NaN, 1.0 has every adjacent pair ordered by the comparator
    (what a sort that only compares neighbours, or a sortedness check of a row group, sees) and is not sorted -/
theorem nan_key_adjacent_order_is_not_order :
    let c := compareRowsFuncOf f32Key
    let L := [rowF32 0x40000000#64, rowF32 0x7fc00000#64, rowF32 0x3f800000#64]
    (∀ i, i + 1 < L.length → c (L.getD i []) (L.getD (i + 1) []) ≤ 0) ∧ ¬ L.Pairwise (fun a b => c a b ≤ 0) := by
  refine ⟨?_, by decide⟩
  intro i hi
  have : i = 0 ∨ i = 1 := by simp only [List.length_cons, List.length_nil] at hi; omega
  rcases this with rfl | rfl <;> decide

end PqModel.Props.C09
