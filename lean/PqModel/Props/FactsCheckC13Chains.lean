import PqModel.Generated.Facts
import PqModel.Props.FactsCheckC13
import PqModel.Basics

/-! # C13 — the access-path chains, derived from the call graph (family `entrychains` of factgen)

`FactsCheckC13.entryChains` (which callers of page readers a page-load error crosses on each access
path of the fault enumeration) is written by hand. `tools/factgen/fam_entrychains.go` builds a call graph of the root package
(go/types; interface calls by class-hierarchy analysis, function values by signature: a sound
OVER-approximation of the calls inside the package) and emits

* `pageReadingFuncs` — the functions that call a page reader / the functions of file.go with a read site;
* `readerLayers` — for each of them, the ones directly below it;
* `readEntryClasses` — every function with an exported name from which a page loader is reachable,
  grouped by the page-reading functions it can reach.

The theorems below are `decide`d against what the source says now. What the graph gives exactly is
the bottom of every chain (the loader is a leaf; `ReadDictionary → readDictionary → readPage`;
`FilePages.ReadPage → readPageInSequence`; the wrappers reach `FilePages.ReadPage` only through
`Pages.ReadPage`); above the `Page` / `Pages` / `Rows` interfaces class-hierarchy analysis merges the
access paths (one class of 272 entry points that may reach every reader), so for the upper part the
statement is an inclusion: every reviewed chain lies inside the generated reach of each of its entry
points, and every generated chain ends in the verifying loader. -/
namespace PqModel.Props.FactsCheckC13Chains
open PqModel.Generated.Facts PqModel.Props.FactsCheckC13

def subset (a b : List String) : Bool := a.all b.contains
def sameSet (a b : List String) : Bool := subset a b && subset b a

/-- the generated chain of an entry point: the page-reading functions it can reach -/
def reachOf (e : String) : Option (List String) :=
  (readEntryClasses.find? (·.2.contains e)).map (·.1)

/-- the two extractors agree on what they talk about: the functions in which family `entrychains`
    sees a call to a page reader are the callers of `pageReaderCalls`, and the functions of file.go in
    which it sees a read site are the page loaders and the other read sites of family `pageloaders` -/
theorem interest_funcs_agree :
    sameSet ((pageReadingFuncs.filter (·.2.1)).map (·.1)) (pageReaderCalls.map (·.1)) = true ∧
    sameSet ((pageReadingFuncs.filter (·.2.2)).map (·.1))
      (pageLoaders.map (·.1) ++ otherReadSites.map (·.1)) = true ∧
    readerLayers.map (·.1) = pageReadingFuncs.map (·.1) := by decide +kernel

/-- the bottom of the chains, exactly: the loader calls back into nothing that reads pages; the
    dictionary path is `ReadDictionary → readDictionary → readPage` (or the encrypted envelope, C18);
    the sequential path enters through `readPageInSequence`; the data-page decoders only go back for the
    dictionary; the column / range / convert wrappers reach a file only through `Pages.ReadPage` -/
theorem loader_layers_as_reviewed :
    readerLayers.lookup "FilePages.readPage" = some [] ∧
    readerLayers.lookup "readDecryptedEnvelopeFrom" = some [] ∧
    readerLayers.lookup "FilePages.ReadDictionary" = some ["FilePages.readDictionary"] ∧
    readerLayers.lookup "FilePages.readDictionary" = some ["FilePages.readPage", "readDecryptedEnvelopeFrom"] ∧
    readerLayers.lookup "FilePages.ReadPage" = some ["FilePages.readPageInSequence"] ∧
    readerLayers.lookup "FilePages.readDataPageV1" = some ["FilePages.readDictionary"] ∧
    readerLayers.lookup "FilePages.readDataPageV2" = some ["FilePages.readDictionary"] ∧
    readerLayers.lookup "columnPages.ReadPage" = some ["FilePages.ReadPage"] ∧
    readerLayers.lookup "convertedPages.ReadPage" =
      some ["FilePages.ReadPage", "columnPages.ReadPage", "multiPages.ReadPage", "rangePages.ReadPage"] ∧
    readerLayers.lookup "rangePages.ReadPage" =
      some ["FilePages.ReadPage", "columnPages.ReadPage", "convertedPages.ReadPage", "multiPages.ReadPage"] := by
  decide +kernel

/-- every direct call to a page loader that family `pageloaders` lists (the two entries of the mirror
    `PageLoad.Path`) is an edge of the layer graph: the two extractors see the same bottom layer -/
theorem loader_calls_are_layer_edges :
    pageLoaderCalls.all (fun c => ((readerLayers.lookup c.1).getD []).contains c.2) = true ∧
    pageLoaderCalls.length = 2 := by decide +kernel

/-! ## closure recomputed in Lean

The generator emits the one-layer relation and the full reach; the reach of an entry point that is
itself a page-reading function must be the closure of the layers (computed here, fuel = number of
functions). -/

def closeStep (seen : List String) : List String :=
  (seen ++ seen.flatMap (fun f => (readerLayers.lookup f).getD [])).eraseDups

def closure (f : String) : List String := Nat.repeat closeStep readerLayers.length [f]

/-- for every entry point that is itself a page-reading function, the generated reach is the closure of
    the generated layers (10 such entry points) -/
theorem reach_is_closure_of_layers :
    ((readEntryClasses.flatMap (fun c => c.2.map (fun e => (e, c.1)))).filter
        (fun ec => (readerLayers.lookup ec.1).isSome)).all
      (fun ec => sameSet ec.2 (closure ec.1)) = true ∧
    ((readEntryClasses.flatMap (·.2)).filter (fun e => (readerLayers.lookup e).isSome)).length = 10 := by
  -- count on the paired list: both parts then filter the same term and the kernel evaluates it once
  rw [← ListFacts.length_filter_pairs]
  decide +kernel

/-! ## generated chains against the reviewed ones -/

/-- the exported functions through which each access path of `entryChains` enters the library (same
    order as `entryChains`; reviewed against `harness/props/c13_entry.go`; `Column.Pages` only builds the
    lazy `columnPages`, whose `ReadPage` is the function that reaches a file) -/
def reviewedEntries : List (List String) := [
  ["FileColumnChunk.Pages", "FilePages.ReadPage", "FileRowGroup.Rows", "GenericReader.Read", "Reader.Read",
   "Reader.ReadRows", "NewRowGroupReader", "CopyRows"],
  ["FilePages.ReadDictionary"],
  ["columnPages.ReadPage"],
  ["MultiRowGroup", "MergeRowGroups", "multiPages.ReadPage", "Reader.ReadRows"],
  ["ConvertRowGroup", "convertedPages.ReadPage"],
  ["AsyncPages"],
  ["CopyPages"],
  ["PrintColumnChunk"],
  ["columnChunkValueReader.ReadValues"],
  ["rangePages.ReadPage"]]

/-- **generated_chains_cover_reviewed**: every access path of the reviewed table enters through
    functions the generator found as read entry points, and every caller the reviewed chain says the
    error crosses lies in the generated reach of each of them (the reviewed chains are feasible in the
    call graph of the source as it stands); the dictionary path is generated EXACTLY -/
theorem generated_chains_cover_reviewed :
    reviewedEntries.length = entryChains.length ∧
    (entryChains.zip reviewedEntries).all (fun ce => !ce.2.isEmpty && ce.2.all (fun e =>
      match reachOf e with
      | some r => subset ce.1.2 r
      | none => false)) = true ∧
    reachOf "FilePages.ReadDictionary" =
      some ["FilePages.ReadDictionary", "FilePages.readDictionary", "FilePages.readPage", "readDecryptedEnvelopeFrom"] := by
  decide +kernel

/-- the other read sites of file.go a read entry point may reach: footer / index reads (`readAt`, the
    optimistic reader, the bloom prefetch of OpenFile) and the AES-GCM envelope (C18) — none fills a page
    buffer (`other_read_sites_known`) -/
def otherReaders : List String :=
  ["OpenFile", "optimisticFileReaderAt.ReadAt", "readAt", "readDecryptedEnvelopeFrom"]

/-- **every_chain_ends_in_a_verifying_loader**: every exported function from which a page body can be
    read reaches the loader that compares checksums, and every function with a read site it can reach
    is either such a verifying loader or one of the four known non-page readers; the chain never ends in
    a function that fills a page buffer without the comparison. Not vacuous: at least 200 entry points. -/
theorem every_chain_ends_in_a_verifying_loader :
    readEntryClasses.all (fun c =>
      c.1.any (fun f => pageLoaders.lookup f == some true) &&
      c.1.all (fun f =>
        match pageReadingFuncs.lookup f with
        | some (_, true) => pageLoaders.lookup f == some true || otherReaders.contains f
        | some (true, false) => true
        | _ => false)) = true ∧
    (readEntryClasses.flatMap (·.2)).length ≥ 200 := by decide +kernel

/-- every caller of a page reader is below some exported entry point (none is reachable from
    unexported code only) -/
theorem every_caller_below_an_entry :
    (pageReaderCalls.map (·.1)).all (fun fn => readEntryClasses.any (·.1.contains fn)) = true := by decide +kernel

/-- **entry_classes_as_reviewed**: the entry points fall in exactly four classes: `ReadDictionary`
    (exact chain), `CopyPages` and `PrintColumnChunk` (the common reach plus themselves), and all the
    others, which — through the `Page`, `Pages` and `Rows` interfaces — may reach every caller of a page
    reader except those two tools and `ReadDictionary`. A new class (an exported function reaching pages
    some other way) breaks this obligation and has to be given an access path in the enumeration. -/
theorem entry_classes_as_reviewed :
    readEntryClasses.map (fun c => if c.2.length ≤ 3 then c.2 else []) =
      [["FilePages.ReadDictionary"], [], ["CopyPages"], ["PrintColumnChunk"]] ∧
    (readEntryClasses.map (·.1))[1]? =
      some ((pageReadingFuncs.map (·.1)).filter
        (fun f => !["CopyPages", "PrintColumnChunk", "FilePages.ReadDictionary"].contains f)) ∧
    (readEntryClasses.map (·.1))[2]? = (readEntryClasses.map (·.1))[1]?.map (fun r => "CopyPages" :: r) := by
  decide +kernel

end PqModel.Props.FactsCheckC13Chains
