import PqModel.Reset

/-! # C17 — output bytes are a function of input and options only

The file bytes are produced from the writer state by the (deterministic) page / footer model of
C01; what can make two writes of the same rows differ is the STATE the writer starts from. The
theorems below are about that state: after `Reset`, a writer that lived through ANY history of
Write / Flush / Close / SetKeyValueMetadata / Reset — with arbitrary per-column effects, failed
flushes, failed footers, a Close that fails on the file header (`closeHeaderFailed`), chunks of a
SortingWriter (`sortChunk`) — is observationally a fresh writer. `observe` is everything the next
file's bytes depend on (slices read through the shared heap).

The one field the code keeps across `Reset` on purpose is `w.metadata` (`SetKeyValueMetadata`
edits the list the `KeyValueMetadata` option initialises; `writer.reset` does not touch it): the
theorems say "fresh writer with the metadata list the old one had" and, for histories without
`SetKeyValueMetadata`, "fresh writer".

Mirrors: `asIs` = the code before the repairs of F10 (in-place `Reset` of committed row groups
clears `columnPath` / `w.sortingColumns` arrays the live writer shares), F24 (the retained plain
fallback buffer keeps abandoned rows) and F25 (page statistics of an empty byte string read the
nil-ness of the column buffer's backing array, which Reset keeps allocated) and F26 (the live
column chunk's bloom filter length is not cleared); `fixed` = the
repaired code; `current` = the library as it stands. `observe M` is the observation for mirror `M`'s code.
A bare `example` shows that the hypotheses of the theorem before it can be met, or runs the mirror once. -/

namespace PqModel.Props.C17
open PqModel.Reset

/-- the states a writer of configuration `cfg` can be in: any history from a fresh writer (= `Reset.run`) -/
def history (M : Mirror) (cfg : Cfg) (ops : List Op) : Writer := run M cfg ops

/-- one INT64 column `a` (configuration of the header-failure example below) -/
def cfgHdr : Cfg := ⟨[⟨[[97]], 2, 0, [0], 0, 0⟩], [], []⟩

/-- The repaired mirror: for every reachable state `s` (any history, also one
ending in an error), `observe (reset s)` is the observation of a fresh writer of the same
configuration that carries `s`'s metadata list. -/
theorem reset_equiv_fixed (cfg : Cfg) (ops : List Op) :
    observe fixed (resetWith fixed (history fixed cfg ops)) =
      observe fixed (initWith cfg (history fixed cfg ops).metadata) :=
  reset_observe fixed_good cfg ops (fun _ => True) trivial (fun _ _ _ _ => trivial) (fun s _ => fixed_heap s)
    fun c _ hok => observed_resetFixed c hok

example : observe fixed (resetWith fixed (history fixed ⟨[⟨[[97]], 1, 8, [0, 3, 8], 0, 2⟩], [⟨0, true, false⟩], []⟩
    [.write 2 [{ ColVol.fresh ⟨⟨0, 1⟩, ⟨0, 3⟩, ⟨0, 1⟩, ⟨0, 3⟩, 1, 8, 1, 0, 2⟩ with
                  buffered := [5, 6], plainBuffered := [7], hasSwitchedToPlain := true, encoding := 0,
                  bufAllocated := true }],
     .sortChunk [9, 9], .close (.committed 100 [] [2]) true 180])) =
    observe fixed (init ⟨[⟨[[97]], 1, 8, [0, 3, 8], 0, 2⟩], [⟨0, true, false⟩], []⟩) := by decide +kernel

theorem reset_equiv_fixed_fresh (cfg : Cfg) (ops : List Op) (h : ∀ op ∈ ops, Op.isSetKV op = false) :
    observe fixed (resetWith fixed (history fixed cfg ops)) = observe fixed (init cfg) := by
  rw [reset_equiv_fixed, history, run, metadata_run fixed ops h]
  rfl

example : ∀ op ∈ [Op.write 1 [], .closeHeaderFailed [] 3, .flush (.failed 3 [] 0), .close (.committed 9 [1] [1]) false 12, .reset],
    Op.isSetKV op = false := by decide +kernel

/-- a Close that fails while writing the file header (sink accepts fewer than 4 bytes, no write buffer)
leaves the pages the column writers have just cut in the writer — unlike every other failed Close,
which runs the row group reset — and Reset still returns a fresh writer's observation -/
example : (history fixed cfgHdr [.write 2 [{ ColVol.fresh ⟨⟨0, 1⟩, ⟨0, 1⟩, ⟨0, 1⟩, ⟨0, 1⟩, 2, 0, 2, 0, 0⟩ with buffered := [1, 2] }],
      .closeHeaderFailed [{ ColVol.fresh ⟨⟨0, 1⟩, ⟨0, 1⟩, ⟨0, 1⟩, ⟨0, 1⟩, 2, 0, 2, 0, 0⟩ with
        pageBuffer := some [7], numPages := 1, numRows := 2 }] 3]).cols.map (·.vol.numPages) = [1] ∧
    observe fixed (resetWith fixed (history fixed cfgHdr
      [.write 2 [{ ColVol.fresh ⟨⟨0, 1⟩, ⟨0, 1⟩, ⟨0, 1⟩, ⟨0, 1⟩, 2, 0, 2, 0, 0⟩ with buffered := [1, 2] }],
       .closeHeaderFailed [{ ColVol.fresh ⟨⟨0, 1⟩, ⟨0, 1⟩, ⟨0, 1⟩, ⟨0, 1⟩, 2, 0, 2, 0, 0⟩ with
        pageBuffer := some [7], numPages := 1, numRows := 2 }] 3])) = observe fixed (init cfgHdr) := by decide +kernel

/-- The property for the library as it stands (`current` mirror, tied to the code
by the L2 `mirror` sub-check): every reachable state resets to a fresh writer's observation,
up to the metadata list the code keeps on purpose. -/
theorem reset_equiv (cfg : Cfg) (ops : List Op) :
    observe current (resetWith current (history current cfg ops)) =
      observe current (initWith cfg (history current cfg ops).metadata) :=
  reset_equiv_fixed cfg ops

theorem reset_equiv_fresh (cfg : Cfg) (ops : List Op) (h : ∀ op ∈ ops, Op.isSetKV op = false) :
    observe current (resetWith current (history current cfg ops)) = observe current (init cfg) :=
  reset_equiv_fixed_fresh cfg ops h

/-- one INT64 column `a`, no sorting columns -/
def cfgA : Cfg := ⟨[⟨[[97]], 2, 0, [0], 0, 0⟩], [], []⟩
/-- one column `b`, declared sorting column (descending) -/
def cfgSorted : Cfg := ⟨[⟨[[98]], 6, 0, [0], 0, 0⟩], [⟨0, true, false⟩], []⟩
/-- a dictionary column `s` -/
def cfgDict : Cfg := ⟨[⟨[[115]], 6, 8, [0, 8], 0, 0⟩], [], []⟩

def wrote (st : ColStable) (rows : List Nat) : ColVol := { ColVol.fresh st with buffered := rows }

/-- F10: `write; close; reset` on the as-is mirror leaves `columnPath = [""]` -/
theorem reset_equiv_asIs_false_F10 :
    observe asIs (resetWith asIs (history asIs cfgA
      [.write 2 [wrote ⟨⟨0, 1⟩, ⟨0, 1⟩, ⟨0, 1⟩, ⟨0, 1⟩, 2, 0, 2, 0, 0⟩ [1, 2]],
       .close (.committed 100 [] [2]) true 180])) ≠ observe asIs (init cfgA) := by decide +kernel

/-- ... what the next file gets as `path_in_schema`: one empty string -/
theorem F10_path_is_empty_string :
    ((observe asIs (resetWith asIs (history asIs cfgA
      [.write 2 [wrote ⟨⟨0, 1⟩, ⟨0, 1⟩, ⟨0, 1⟩, ⟨0, 1⟩, 2, 0, 2, 0, 0⟩ [1, 2]],
       .close (.committed 100 [] [2]) true 180]))).cols.map (·.path)) = [[[]]] ∧
    ((observe asIs (init cfgA)).cols.map (·.path)) = [[[97]]] := by decide +kernel

/-- F10 needs a committed row group, not a completed Close: `write; flush; reset` suffices -/
theorem reset_equiv_asIs_false_F10_flush :
    observe asIs (resetWith asIs (history asIs cfgA
      [.write 2 [wrote ⟨⟨0, 1⟩, ⟨0, 1⟩, ⟨0, 1⟩, ⟨0, 1⟩, 2, 0, 2, 0, 0⟩ [1, 2]],
       .flush (.committed 100 [] [2])])) ≠ observe asIs (init cfgA) := by decide +kernel

/-- F10, second face: the declared sorting columns are zeroed (`clear(r.SortingColumns)`) -/
theorem reset_equiv_asIs_false_F10_sorting :
    (observe asIs (resetWith asIs (history asIs cfgSorted
      [.write 2 [wrote ⟨⟨0, 1⟩, ⟨0, 1⟩, ⟨0, 1⟩, ⟨0, 1⟩, 6, 0, 6, 0, 0⟩ [1, 2]],
       .close (.committed 100 [] [2]) true 180]))).sorting = [⟨0, false, false⟩] ∧
    (observe asIs (init cfgSorted)).sorting = [⟨0, true, false⟩] := by decide +kernel

/-- F24: a writer ABANDONED (no Flush, no Close) after a dictionary overflow keeps the rows of its
plain fallback buffer -/
theorem reset_equiv_asIs_false_F24 :
    observe asIs (resetWith asIs (history asIs cfgDict
      [.write 3 [{ wrote ⟨⟨0, 1⟩, ⟨0, 2⟩, ⟨0, 1⟩, ⟨0, 2⟩, 6, 8, 6, 0, 0⟩ [] with
                    hasSwitchedToPlain := true, onPlainBuffer := true, columnType := 6, encoding := 0,
                    plainBuffered := [49], numPages := 2, numRows := 2 }]])) ≠ observe asIs (init cfgDict) := by decide +kernel

/-- F25: any write that allocates a column buffer is remembered: an ABANDONED writer differs from
a fresh one in what `makePageStatistics` reads for an empty-string bound -/
theorem reset_equiv_asIs_false_F25 :
    observe asIs (resetWith asIs (history asIs cfgA
      [.write 1 [{ wrote ⟨⟨0, 1⟩, ⟨0, 1⟩, ⟨0, 1⟩, ⟨0, 1⟩, 2, 0, 2, 0, 0⟩ [1] with bufAllocated := true }]])) ≠
      observe asIs (init cfgA) := by decide +kernel

/-- F26: a bloom filter length recorded in the live column chunk survives the reset. History: a write
that leaves `bloomLength = 47` (as a row group with a filter does), a flush that fails after the first
column's page — the per-row-group reset runs and keeps the length too — then `Reset`: the as-is
observation still shows 47 (the next file carries it when that column's dictionary stays empty). Stated
as the value of that one field, not as `≠` like its siblings. -/
theorem reset_equiv_asIs_false_F26 :
    ((observe asIs (resetWith asIs (history asIs cfgDict
      [.write 2 [{ wrote ⟨⟨0, 1⟩, ⟨0, 2⟩, ⟨0, 1⟩, ⟨0, 2⟩, 6, 8, 6, 0, 0⟩ [1, 2] with bloomLength := 47 }],
       .flush (.failed 4 [] 1)]))).cols.map (·.vol.bloomLength)) = [47] := by decide +kernel

/-- the dedupe state of a SortingWriter (`DropDuplicatedRows`): `Reset` does not clear
`dedupe.lastRow`, so the property holds only because `sortAndWriteBufferedRows` clears it after
every chunk. For a variant of the code that carries the last row to the next chunk, the last row
of the previous file survives `Reset` (and the next file silently loses a leading equal row):
history `sort a chunk ending in row [9]; close; reset`. -/
theorem reset_equiv_false_dedupeCarry :
    observe dedupeCarry (resetWith dedupeCarry (history dedupeCarry cfgA
      [.write 2 [wrote ⟨⟨0, 1⟩, ⟨0, 1⟩, ⟨0, 1⟩, ⟨0, 1⟩, 2, 0, 2, 0, 0⟩ [1, 2]], .sortChunk [9],
       .close (.committed 100 [] [2]) true 180])) ≠ observe dedupeCarry (init cfgA) := by decide +kernel

/-- the geospatial accumulator of a GEOMETRY / GEOGRAPHY column: `Reset` (and the per-row-group
reset) must clear every flag. For a variant of the code whose accumulator reset leaves `hasM` set
a writer that has seen a geometry with an M coordinate (mask 1+2+16+32+64)
differs from a fresh one after `write; close; reset` — the next chunk's bounding box carries an M
range [+Inf, -Inf] — and already after the flush inside one file. -/
theorem reset_equiv_false_geoKeepsHasM :
    observe geoKeepsHasM (resetWith geoKeepsHasM (history geoKeepsHasM cfgA
      [.write 2 [{ wrote ⟨⟨0, 1⟩, ⟨0, 1⟩, ⟨0, 1⟩, ⟨0, 1⟩, 2, 0, 2, 0, 0⟩ [1, 2] with geo := 115 }],
       .close (.committed 100 [] [2]) true 180])) ≠ observe geoKeepsHasM (init cfgA) ∧
    (history geoKeepsHasM cfgA
      [.write 2 [{ wrote ⟨⟨0, 1⟩, ⟨0, 1⟩, ⟨0, 1⟩, ⟨0, 1⟩, 2, 0, 2, 0, 0⟩ [1, 2] with geo := 115 }],
       .flush (.committed 100 [] [2])]).cols.map (·.vol.geo) = [16] ∧
    (history fixed cfgA
      [.write 2 [{ wrote ⟨⟨0, 1⟩, ⟨0, 1⟩, ⟨0, 1⟩, ⟨0, 1⟩, 2, 0, 2, 0, 0⟩ [1, 2] with geo := 115 }],
       .flush (.committed 100 [] [2])]).cols.map (·.vol.geo) = [0] := by decide +kernel

theorem reset_equiv_asIs_false :
    ¬ ∀ (cfg : Cfg) (ops : List Op),
      observe asIs (resetWith asIs (history asIs cfg ops)) = observe asIs (initWith cfg (history asIs cfg ops).metadata) := by
  intro h
  exact reset_equiv_asIs_false_F10 (h cfgA _)

/-- On the as-is mirror the property holds for histories in which no
row group was committed (no Flush/Close that completed a row group) when, at the time of the
Reset, the plain fallback buffers are empty, no column buffer has been allocated and no bloom
filter length is recorded (so: for writers that were configured, closed empty, failed before
buffering, ... but never held rows).
Without the hypotheses the statement is false: `reset_equiv_asIs_false`, `_F24`, `_F25`, `_F26`. -/
theorem reset_equiv_asIs_partial (cfg : Cfg) (ops : List Op)
    (hc : ∀ op ∈ ops, Op.commits op = false)
    (hp : ∀ c ∈ (history asIs cfg ops).cols,
      c.vol.plainBuffered = [] ∧ c.vol.bufAllocated = false ∧ c.vol.bloomLength = 0) :
    observe asIs (resetWith asIs (history asIs cfg ops)) =
      observe asIs (initWith cfg (history asIs cfg ops).metadata) :=
  reset_observe asIs_good cfg ops (fun s => s.rowGroups = []) rfl
    (fun s op hs ho => rowGroups_step_noCommit asIs s op (hc op ho) hs) (fun s hs => by rw [hs]; rfl)
    fun c hc' hok => observed_resetAsIs c hok (hp c hc').1 (hp c hc').2.1 (hp c hc').2.2

example : (∀ op ∈ [Op.write 2 [wrote ⟨⟨0, 1⟩, ⟨0, 1⟩, ⟨0, 1⟩, ⟨0, 1⟩, 2, 0, 2, 0, 0⟩ [1, 2]],
      .flush (.failed 40 [7] 1), .setKV [107] [118]], Op.commits op = false) ∧
    (∀ c ∈ (history asIs cfgA [Op.write 2 [wrote ⟨⟨0, 1⟩, ⟨0, 1⟩, ⟨0, 1⟩, ⟨0, 1⟩, 2, 0, 2, 0, 0⟩ [1, 2]],
      .flush (.failed 40 [7] 1), .setKV [107] [118]]).cols,
      c.vol.plainBuffered = [] ∧ c.vol.bufAllocated = false ∧ c.vol.bloomLength = 0) := by decide +kernel

/-- The order of the footer's key/value metadata does not depend on the order in
which the configured map was iterated (or the options were given): whatever correct sort the
code uses, two permutations of the same pairs give the same list. Spec-side statement; the
comparison is `sortKeyValueMetadata`'s (key, then value, bytewise). -/
theorem kv_sorted (in1 in2 out1 out2 : List KV) (hin : in1.Perm in2)
    (p1 : out1.Perm in1) (s1 : out1.Pairwise (fun a b => leKV a b = true))
    (p2 : out2.Perm in2) (s2 : out2.Pairwise (fun a b => leKV a b = true)) : out1 = out2 :=
  List.Perm.eq_of_pairwise (fun a b _ _ h1 h2 => leKV_antisymm a b h1 h2) s1 s2
    ((p1.trans hin).trans p2.symm)

theorem sortKV_spec (kvs : List KV) :
    (sortKV kvs).Perm kvs ∧ (sortKV kvs).Pairwise (fun a b => leKV a b = true) :=
  ⟨sortKV_perm kvs, sortKV_sorted kvs⟩

/-- so the metadata list a new writer starts with is a function of the SET of configured pairs -/
theorem kv_sorted_mirror (in1 in2 : List KV) (hin : in1.Perm in2) : cfgMetadata in1 = cfgMetadata in2 :=
  kv_sorted in1 in2 _ _ hin (sortKV_spec in1).1 (sortKV_spec in1).2 (sortKV_spec in2).1 (sortKV_spec in2).2

example : cfgMetadata [⟨[98], [1]⟩, ⟨[97], [2]⟩, ⟨[97, 0], [3]⟩] = cfgMetadata [⟨[97, 0], [3]⟩, ⟨[98], [1]⟩, ⟨[97], [2]⟩] ∧
    cfgMetadata [⟨[98], [1]⟩, ⟨[97], [2]⟩, ⟨[97, 0], [3]⟩] = [⟨[97], [2]⟩, ⟨[97, 0], [3]⟩, ⟨[98], [1]⟩] := by decide +kernel

end PqModel.Props.C17
