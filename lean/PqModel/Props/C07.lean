import PqModel.Bloom

/-! # C07 — Bloom filters never answer absent for a value that was written

In the C07 files a bare `example` after a theorem instantiates its hypotheses; labels such as C07-3a are the seeded
changes under `seeded/`. -/
namespace PqModel.Props.C07
open PqModel.XxHash PqModel.Bloom

/-- In memory, spec form of the check: a hash inserted into a filter of `n ≥ 1` blocks is found,
    whatever else was inserted before or after. -/
theorem no_false_negative (n : Nat) (hn : 1 ≤ n) (hs : List (BitVec 64)) (h : BitVec 64) (hm : h ∈ hs) :
    check (build n hs) h = true :=
  Bloom.no_false_negative (emptyFilter n) (emptyFilter_wf n hn) hs h hm

example : check (build 3 [0x1234567890abcdef#64, 5#64]) 5#64 = true :=
  no_false_negative 3 (by decide) _ _ (by simp)

theorem no_false_negative_from (f : Filter) (hf : WfFilter f) (hs : List (BitVec 64)) (h : BitVec 64)
    (hm : h ∈ hs) : check (insertBulk f hs) h = true :=
  Bloom.no_false_negative f hf hs h hm

example : WfFilter (emptyFilter 2) := emptyFilter_wf 2 (by decide)

/-- On the bytes stored in the file, with the Go form of the check (`CheckSplitBlock`: block read at
    `32 * index`, `word & mask != 0`): a hash inserted while building is found. -/
theorem no_false_negative_bytes (n : Nat) (hn : 1 ≤ n) (hs : List (BitVec 64)) (h : BitVec 64) (hm : h ∈ hs) :
    checkBytes (filterBytes (build n hs)) h = true := by
  have hw : WfFilter (build n hs) := insertBulk_wf _ _ (emptyFilter_wf n hn)
  rw [checkBytes_filterBytes _ _ hw]
  exact no_false_negative n hn hs h hm

example : checkBytes (filterBytes (build 2 [7#64, 0xffffffff00000000#64])) 0xffffffff00000000#64 = true :=
  no_false_negative_bytes 2 (by decide) _ _ (by simp)

/-- Building page after page (incremental, or re-reading pages) is building at once. -/
theorem build_incremental (f : Filter) (a b : List (BitVec 64)) :
    insertBulk (insertBulk f a) b = insertBulk f (a ++ b) := by
  simp [insertBulk, List.foldl_append]

theorem filterBytes_size (n : Nat) (hs : List (BitVec 64)) (hn : 1 ≤ n) :
    (filterBytes (build n hs)).length = 32 * n := by
  have hw : WfFilter (build n hs) := insertBulk_wf (emptyFilter n) hs (emptyFilter_wf n hn)
  rw [filterBytes_length _ hw.2, build, insertBulk_length]; simp [emptyFilter]

/-- The 64-bit wraparound expression of `fasthash1x64` stays below the block count (it is the exact
    `⌊hi32(x)·n / 2^32⌋`: `Bloom.blockIndexGo_eq`). -/
theorem block_index_in_range (x : BitVec 64) (n : Nat) (hn : 1 ≤ n) (h32 : n < 2 ^ 32) :
    blockIndexGo x n < n := by
  rw [blockIndexGo_eq x n h32]; exact blockIndex_lt x n hn

example : blockIndexGo 0xffffffffffffffff#64 5 < 5 := block_index_in_range _ 5 (by decide) (by decide)

theorem sum64Uint8_eq_xxh64 (v : UInt8) : sum64Uint8 v = xxh64 [v] := sum64Uint8_eq v

theorem sum64Uint32_eq_xxh64 (v : UInt32) : sum64Uint32 v = xxh64 (le32 v) := by
  calc sum64Uint32 v = sum64Uint32 (u32le (le32 v)) := by rw [u32le_le32]
    _ = xxh64 (le32 v) := by
      unfold le32
      simp only [leBytes]
      exact sum64Uint32_bytes _ _ _ _

theorem sum64Uint64_eq_xxh64 (v : UInt64) : sum64Uint64 v = xxh64 (le64 v) := by
  calc sum64Uint64 v = sum64Uint64 (u64le (le64 v)) := by rw [u64le_le64]
    _ = xxh64 (le64 v) := by
      unfold le64
      simp only [leBytes]
      exact sum64Uint64_bytes _ _ _ _ _ _ _ _

theorem sum64Uint128_eq_xxh64 (v : List UInt8) (h : v.length = 16) : sum64Uint128 v = xxh64 v :=
  sum64Uint128_eq v h

example : ([1, 2, 3, 4, 5, 6, 7, 8, 9, 10, 11, 12, 13, 14, 15, 16] : List UInt8).length = 16 := rfl

/-- `MultiSum64Uint8` (and below: `32/64/128`) writes, for every input position below
    `min(len dst, len src)`, the XXH64 of the little-endian bytes of that value. -/
theorem multisum_eq_sum_8 (cap : Nat) (vs : List UInt8) :
    multiSum64Uint8 cap vs = (vs.take cap).map (fun v => xxh64 [v]) := rfl

theorem multisum_eq_sum_32 (cap : Nat) (vs : List UInt32) :
    multiSum64Uint32 cap vs = (vs.take cap).map (fun v => xxh64 (le32 v)) := by
  unfold multiSum64Uint32 multiSum64
  exact List.map_congr_left (fun v _ => sum64Uint32_eq_xxh64 v)

theorem multisum_eq_sum_64 (cap : Nat) (vs : List UInt64) :
    multiSum64Uint64 cap vs = (vs.take cap).map (fun v => xxh64 (le64 v)) := by
  unfold multiSum64Uint64 multiSum64
  exact List.map_congr_left (fun v _ => sum64Uint64_eq_xxh64 v)

theorem multisum_eq_sum_128 (cap : Nat) (vs : List (List UInt8)) (h : ∀ v ∈ vs, v.length = 16) :
    multiSum64Uint128 cap vs = (vs.take cap).map xxh64 := by
  unfold multiSum64Uint128 multiSum64
  exact List.map_congr_left (fun v hv => sum64Uint128_eq_xxh64 v (h v (List.mem_of_mem_take hv)))

example : ∀ v ∈ [List.replicate 16 (0xAB : UInt8)], v.length = 16 := by simp

/-- Every kind: for a page holding `values` (all of kind `kind`; int96 = 12 bytes, fixed-length =
    `size > 0` bytes each), the hash `Value.hash` computes for a written value is among the hashes
    `splitBlockEncoding.Encode*` inserts for that page. -/
theorem hash_sides_agree (kind : Kind) (values : List Value)
    (hv : ∀ v ∈ values, v.kindOk kind = true) (v : Value) (hm : v ∈ values) :
    hashRead v ∈ hashWrite (pageData kind values) := by
  by_cases hk : kind = .boolean
  · subst hk
    have hvk := hv v hm
    cases v <;> simp [Value.kindOk] at hvk
    rename_i b
    rw [hashRead_boolean]
    exact encodeBoolean_covers _ b (List.mem_map.mpr ⟨.boolean b, hm, rfl⟩)
  · rw [hashWrite_pageData kind hk values hv]
    exact List.mem_map_of_mem hm

example : ∀ v ∈ [Value.flba (List.replicate 16 1), Value.flba (List.replicate 16 2)],
    v.kindOk (.flba 16) = true := by decide

example : ∀ v ∈ [Value.boolean true, Value.boolean true, Value.boolean false], v.kindOk .boolean = true := by decide

/-- BOOLEAN before fix 3b0d378 (finding F3): the property was FALSE. Two `true` values are written;
    the write side hashed the packed byte `0x03`, the read side hashes `0x01`. -/
theorem hash_sides_disagree_boolean_before_fix :
    ∃ (values : List Value) (v : Value), (∀ w ∈ values, w.kindOk .boolean = true) ∧ v ∈ values ∧
      hashRead v ∉ hashWriteBeforeFix (pageData .boolean values) :=
  ⟨[.boolean true, .boolean true], .boolean true, by decide, by decide, by decide⟩

/-- … and the stored one-block filter then answered "absent" for the written value. -/
theorem boolean_false_negative_before_fix :
    checkBytes (filterBytes (build 1 ((hashWriteBeforeFix (pageData .boolean [.boolean true, .boolean true])).map UInt64.toBitVec)))
      (hashRead (.boolean true)).toBitVec = false := by
  decide

/-- The staging buffers (128 hashes per `InsertBulk`) change nothing: the loop-level mirror inserts
    exactly the hashes of the value-level one. -/
theorem staging_is_transparent (pd : PageData) : hashWriteStaged pd = hashWrite pd := hashWriteStaged_eq pd

/-- Converse for every kind except BOOLEAN (where padding bits may add `false`): nothing but hashes of
    written values is inserted. -/
theorem hash_sides_exact (kind : Kind) (hk : kind ≠ .boolean) (values : List Value)
    (hv : ∀ v ∈ values, v.kindOk kind = true) (h : UInt64) (hh : h ∈ hashWrite (pageData kind values)) :
    ∃ v ∈ values, h = hashRead v := by
  rw [hashWrite_pageData kind hk values hv] at hh
  obtain ⟨v, hv, rfl⟩ := List.mem_map.mp hh
  exact ⟨v, hv, rfl⟩

/-- A column chunk whose filter (any `n ≥ 1` blocks) was filled page by page through
    `writePageToFilter` (loop-level write side): looking up any value of any of the pages in the
    stored bytes answers true. -/
theorem written_value_is_found (kind : Kind) (n : Nat) (hn : 1 ≤ n)
    (pages : List (List Value)) (hv : ∀ p ∈ pages, ∀ v ∈ p, v.kindOk kind = true)
    (p : List Value) (hp : p ∈ pages) (v : Value) (hm : v ∈ p) :
    checkBytes (filterBytes (build n ((pages.flatMap (fun p => hashWriteStaged (pageData kind p))).map UInt64.toBitVec)))
      (hashRead v).toBitVec = true := by
  apply no_false_negative_bytes n hn
  apply List.mem_map_of_mem
  refine List.mem_flatMap.mpr ⟨p, hp, ?_⟩
  rw [hashWriteStaged_eq]
  exact hash_sides_agree kind p (hv p hp) v hm

example : ∀ p ∈ [[Value.int32 7, Value.int32 9], [Value.int32 0xFFFFFFFF]], ∀ v ∈ p, v.kindOk .int32 = true := by
  decide

end PqModel.Props.C07
