import PqModel.LogicalUuid
import PqModel.StatsDecimal

/-! # C01 — UUID text on FIXED_LEN_BYTE_ARRAY(16): what is read back writes the same 16 bytes

`uuid_leaf_exact`: for EVERY 16 bytes a column holds, the string the reader builds (`UUID.String`) parses back
(`uuid.Parse`, both write paths) to the same 16 bytes. The text itself is normalised, not preserved: upper
case, `urn:uuid:`, 38-byte and 32-digit forms all read back as the lowercase hyphenated form
(`uuid_text_normalised`), the 38-byte form is accepted whatever its first and last byte are
(`uuid_braces_unchecked`), and the two write paths differ on the empty string (`uuid_empty_paths_differ`). -/
namespace PqModel.Props.C01Uuid
open PqModel.Stats PqModel.LogicalUuid

theorem uuid_leaf_exact (u : List Nat) (hl : u.length = 16) (hb : IsBytes u) :
    uuidParse (uuidString u) = some u ∧ uuidWriteTyped (uuidString u) = some u ∧
    uuidWriteReflect (uuidString u) = some u := by
  obtain ⟨b0, b1, b2, b3, b4, b5, b6, b7, b8, b9, b10, b11, b12, b13, b14, b15, rfl⟩ := length16 u hl
  have h : ∀ x ∈ [b0, b1, b2, b3, b4, b5, b6, b7, b8, b9, b10, b11, b12, b13, b14, b15], x ≤ 255 := hb
  simp only [List.mem_cons, List.not_mem_nil, or_false, forall_eq_or_imp, forall_eq] at h
  obtain ⟨h0, h1, h2, h3, h4, h5, h6, h7, h8, h9, h10, h11, h12, h13, h14, h15⟩ := h
  have key : uuidParse (uuidString [b0, b1, b2, b3, b4, b5, b6, b7, b8, b9, b10, b11, b12, b13, b14, b15]) =
      some [b0, b1, b2, b3, b4, b5, b6, b7, b8, b9, b10, b11, b12, b13, b14, b15] := by
    -- evaluation on the 16 symbolic bytes: the text is a list of 36 terms with the hyphens in place,
    -- and each pair of digits read at its offset is `xtob_hex'`
    simp only [uuidParse, uuidString, List.take_succ_cons, List.take_zero, encodeHexBytes, List.drop_succ_cons,
      List.drop_zero, List.cons_append, List.nil_append, List.length_cons, List.length_nil, Nat.zero_add,
      Nat.reduceAdd, Nat.reduceEqDiff, ↓reduceIte, List.getD_cons_succ, List.getD_cons_zero, ne_eq,
      not_true_eq_false, or_self, List.mapM_cons, List.mapM_nil, pairAt, xtob_hex', Option.pure_def,
      Option.bind_eq_bind, Option.bind_some, h0, h1, h2, h3, h4, h5, h6, h7, h8, h9, h10, h11, h12, h13, h14, h15]
  refine ⟨key, ?_, key⟩
  rw [uuidWriteTyped, if_neg (uuidString_ne_nil _)]
  exact key
example : uuidString [0, 17, 34, 51, 68, 85, 102, 119, 136, 153, 170, 187, 204, 221, 238, 255] =
    "00112233-4455-6677-8899-aabbccddeeff".toList.map Char.toNat := by decide +kernel

/-- the text is normalised: an upper-case, a `urn:uuid:`, a braced and a 32-digit text of the same UUID all
    read back as the lowercase hyphenated form -/
theorem uuid_text_normalised :
    let canon := "00112233-4455-6677-8899-aabbccddeeff".toList.map Char.toNat
    ((uuidParse ("00112233-4455-6677-8899-AABBCCDDEEFF".toList.map Char.toNat)).map uuidString = some canon) ∧
    ((uuidParse ("URN:uuid:00112233-4455-6677-8899-aabbccddeeff".toList.map Char.toNat)).map uuidString = some canon) ∧
    ((uuidParse ("{00112233-4455-6677-8899-aabbccddeeff}".toList.map Char.toNat)).map uuidString = some canon) ∧
    ((uuidParse ("00112233445566778899aabbccddeeff".toList.map Char.toNat)).map uuidString = some canon) := by
  decide +kernel

/-- `uuid.Parse` never looks at the first and last byte of a 38-byte text -/
theorem uuid_braces_unchecked :
    (uuidParse ("x00112233-4455-6677-8899-aabbccddeeffy".toList.map Char.toNat)).isSome = true := by decide +kernel

/-- the empty string is the zero UUID on the typed path (`GenericWriter[T]`) and a panic on the reflection path -/
theorem uuid_empty_paths_differ :
    uuidWriteTyped [] = some (List.replicate 16 0) ∧ uuidWriteReflect [] = none := by decide

end PqModel.Props.C01Uuid
