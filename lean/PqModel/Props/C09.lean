import PqModel.MergeGeneric
import PqModel.MergeAbstract
import PqModel.MergeRanges
import PqModel.MergeRefinePlan
import PqModel.MergeZero
import PqModel.MergeRetry
import PqModel.MergeNested
import PqModel.MergeRefineOrder
import PqModel.MergeShape

/-! # C09 — Merging sorted row groups yields a sorted, complete, per-input-stable sequence

Objects (see `PqModel/Merge.lean`, MIRROR of merge.go / dedupe.go; `PqModel/MergeSpec.lean`, SPEC):
* `Reader.new inputs refills` is what `mergeRowReaders` builds for `inputs.length` readers
  (0: empty, 1: the reader itself, 2: `mergedRowReader2`, ≥ 3: `mergedRowReader` with the loser
  tree as an array); `refills` is the parameter stream that decides how many rows every source
  `ReadRows` delivers, `Reader.session r batches` performs one `ReadRows(len = b)` per batch size
  until io.EOF. All theorems quantify over **every** `refills` and `batches`.
* rows are `(key, input, seq)`; `tagInputs keys` attaches the hidden payload.
* `IsMerge ins out`: `out` is sorted by key, a permutation of `ins.flatten`, and for every input
  `i` the rows of `out` that come from `i` are exactly `ins[i]` in their original order. -/
namespace PqModel.Props.C09
open PqModel.Merge

/-- `runLength` (gallop + binary search, merge.go:1110) on a window sorted by the comparison returns
    the length of the maximal prefix with `compare(row, bound) <= max`, for both `max = 0`
    (run mode, ties included) and `max = -1` (`emitRun`, ties excluded) and any other `max`. -/
theorem runLength_spec (window : List Row) (bound : Row) (mx : Int) (hs : SortedK window) :
    runLength window bound mx ≤ window.length ∧
    (∀ x ∈ window.take (runLength window bound mx), cmp x bound ≤ mx) ∧
    (∀ x ∈ window.drop (runLength window bound mx), ¬ cmp x bound ≤ mx) := by
  obtain ⟨h1, h2, h3⟩ := runLength_spec' window bound mx hs
  refine ⟨h1, fun x hx => leMax_iff.mp (h2 x hx), fun x hx hc => ?_⟩
  have := h3 x hx
  rw [leMax_iff.mpr hc] at this; cases this

example : SortedK [⟨1, 0, 0⟩, ⟨2, 0, 1⟩, ⟨2, 0, 2⟩, ⟨5, 0, 3⟩] ∧
    runLength [⟨1, 0, 0⟩, ⟨2, 0, 1⟩, ⟨2, 0, 2⟩, ⟨5, 0, 3⟩] ⟨2, 1, 0⟩ 0 = 3 ∧
    runLength [⟨1, 0, 0⟩, ⟨2, 0, 1⟩, ⟨2, 0, 2⟩, ⟨5, 0, 3⟩] ⟨2, 1, 0⟩ (-1) = 1 := by decide

/-- the overall winner of a valid loser tree is minimal among the heads of all live inputs -/
theorem tree_winner_min {k : Nat} {H : Heads} {losers : List Int} {win : Nat → Int}
    (h : TInv k H losers win) (x : Nat) (hx : x < k) (ha : H.alive x = true) :
    ∃ w : Nat, win 0 = (w : Int) ∧ H.alive w = true ∧ H.key w ≤ H.key x := by
  obtain ⟨w, hw, hal, _⟩ := h.winner_alive x hx ha
  have := h.tree_min x hx ha
  rw [hw, pk_nat hal, leInf_some] at this
  exact ⟨w, hw, hal, this⟩

/-- `playInitialGames` (merge.go:973) builds a valid tree over the inputs that delivered rows. -/
theorem playInitialGames_valid {bufs : List Buf} {leaves : List Int} {H : Heads}
    (hl : LeavesOk bufs leaves H) (L : List Int) (hL : L.length = bufs.length) :
    ∃ win, TInv bufs.length H (playInitialGames bufs leaves bufs.length 0 L).2 win ∧
      win 0 = (playInitialGames bufs leaves bufs.length 0 L).1 :=
  ⟨_, init_inv hl L hL⟩

/-- `replayGames` (merge.go:1004) restores the invariant after the winner's head changed, or it was exhausted and
    enters the replay as `-1` -/
theorem replayGames_preserves_tree {k : Nat} {H H' : Heads} {losers : List Int} {win : Nat → Int}
    {w0 : Nat} {bufs : List Buf} (hinv : TInv k H losers win) (hw : win 0 = (w0 : Int))
    (hag : ∀ x, x ≠ w0 → H'.alive x = H.alive x ∧ H'.key x = H.key x)
    (hb : ∀ x, H'.alive x = true → (headOf bufs (x : Int)).key = H'.key x) :
    ∃ win', TInv k H' (replayLoop bufs k ((k + w0 - 1) / 2) (if H'.alive w0 = true then (w0 : Int) else -1) losers).2 win' ∧
      win' 0 = (replayLoop bufs k ((k + w0 - 1) / 2) (if H'.alive w0 = true then (w0 : Int) else -1) losers).1 :=
  replay_inv hinv hw hag hb

/-- `runBound` (merge.go:957): the minimum over the losers stored on the winner's path is the minimum
    head among the live inputs other than the winner -/
theorem runBound_is_min {k : Nat} {H : Heads} {losers : List Int} {win : Nat → Int} {w0 : Nat}
    {bufs : List Buf} (hinv : TInv k H losers win) (hw : win 0 = (w0 : Int))
    (hb : ∀ x, x ≠ w0 → H.alive x = true → (headOf bufs (x : Int)).key = H.key x) :
    (∀ x, x < k → x ≠ w0 → H.alive x = true →
        ∃ b, runBoundLoop bufs losers k ((k + w0 - 1) / 2) none = some b ∧ b.key ≤ H.key x) ∧
    (∀ b, runBoundLoop bufs losers k ((k + w0 - 1) / 2) none = some b →
        ∃ x, x < k ∧ x ≠ w0 ∧ H.alive x = true ∧ b = headOf bufs (x : Int)) :=
  runBound_min hinv hw hb

example : let bufs : List Buf := [⟨[], [], [⟨5, 0, 0⟩], 24, false⟩, ⟨[], [], [⟨3, 1, 0⟩], 24, false⟩, ⟨[], [], [⟨4, 2, 0⟩], 24, false⟩]
    playInitialGames bufs [0, 1, 2] 3 0 [0, 0, 0] = (1, [2, 0, -1]) := by decide

/-- Safety, for every prefix of a session: whatever the number of inputs, the refill pattern of
    the sources and the batch sizes (zero included) -/
theorem merge_prefix (keys : List (List Int)) (refills : List (List Nat)) (batches : List Nat)
    (hs : ∀ ks ∈ keys, ks.Pairwise (· ≤ ·)) :
    let r := (Reader.new (tagInputs keys) refills).session batches
    let out := r.1.flatten
    SortedK out ∧
    (∀ (i : Nat) (l : List Row), (tagInputs keys)[i]? = some l →
        ∃ l', r.2.2.rem[i]? = some l' ∧ proj i out ++ l' = l) ∧
    (out ++ r.2.2.rem.flatten).Perm (tagInputs keys).flatten ∧
    (∀ x ∈ out, ∀ l ∈ r.2.2.rem, ∀ y ∈ l, x.key ≤ y.key) := by
  intro r out
  have hsort := tagInputs_sorted keys hs
  have hE := (Reader.session_emits batches (Reader.new (tagInputs keys) refills) (Reader.new_ok _ _)
    (by rw [Reader.new_rem]; exact hsort)).1
  rw [Reader.new_rem] at hE
  obtain ⟨s1, s2, _⟩ := emits_sorted hE hsort
  exact ⟨s1, emits_proj hE (tagInputs_wellTagged keys), emits_perm hE, s2⟩

/-- Completeness at io.EOF -/
theorem merge_at_eof (keys : List (List Int)) (refills : List (List Nat)) (batches : List Nat)
    (hs : ∀ ks ∈ keys, ks.Pairwise (· ≤ ·))
    (heof : ((Reader.new (tagInputs keys) refills).session batches).2.1 = true) :
    IsMerge (tagInputs keys) ((Reader.new (tagInputs keys) refills).session batches).1.flatten :=
  Reader.session_isMerge_of_eof _ refills batches (tagInputs_sorted keys hs) (tagInputs_wellTagged keys) heof

/-- Progress: a `ReadRows` call with a non-empty buffer returns rows or io.EOF, so every session
    of positive batch sizes that is longer than the number of rows reaches io.EOF. -/
theorem merge_reaches_eof (keys : List (List Int)) (refills : List (List Nat)) (batches : List Nat)
    (hs : ∀ ks ∈ keys, ks.Pairwise (· ≤ ·)) (hpos : ∀ b ∈ batches, 1 ≤ b)
    (hlen : (tagInputs keys).flatten.length < batches.length) :
    ((Reader.new (tagInputs keys) refills).session batches).2.1 = true := by
  apply Reader.session_eof batches _ (Reader.new_ok _ _)
  · rw [Reader.new_rem]; exact tagInputs_sorted keys hs
  · exact hpos
  · rw [Reader.new_size]; exact hlen

/-- C09 for the row readers (`MergeRowReaders`): any number of sorted inputs, any overlap pattern, any refill
    pattern of the sources, any sequence of positive read batch sizes long enough to drain the inputs -/
theorem merge_sorted_complete_stable (keys : List (List Int)) (refills : List (List Nat)) (batches : List Nat)
    (hs : ∀ ks ∈ keys, ks.Pairwise (· ≤ ·)) (hpos : ∀ b ∈ batches, 1 ≤ b)
    (hlen : (tagInputs keys).flatten.length < batches.length) :
    let out := ((Reader.new (tagInputs keys) refills).session batches).1.flatten
    SortedK out ∧ out.Perm (tagInputs keys).flatten ∧
    ∀ (i : Nat) (l : List Row), (tagInputs keys)[i]? = some l → out.filter (fun r => r.inp == i) = l := by
  have h := merge_at_eof keys refills batches hs (merge_reaches_eof keys refills batches hs hpos hlen)
  exact ⟨h.sorted, h.perm, h.stable⟩

/-- the two-input reader `mergedRowReader2` (streak counter, `emitRun`) -/
theorem merge2_sorted_complete_stable (a b : List Int) (refills : List (List Nat)) (batches : List Nat)
    (ha : a.Pairwise (· ≤ ·)) (hb : b.Pairwise (· ≤ ·)) (hpos : ∀ x ∈ batches, 1 ≤ x)
    (hlen : (tagInputs [a, b]).flatten.length < batches.length) :
    ∃ s : M2, Reader.new (tagInputs [a, b]) refills = .two s ∧
      IsMerge (tagInputs [a, b]) ((Reader.two s).session batches).1.flatten := by
  refine ⟨_, rfl, ?_⟩
  have hs : ∀ ks ∈ [a, b], ks.Pairwise (· ≤ ·) := by
    intro ks hks; simp at hks; rcases hks with rfl | rfl <;> assumption
  exact merge_at_eof [a, b] refills batches hs (merge_reaches_eof [a, b] refills batches hs hpos hlen)

/-- the k-way reader `mergedRowReader` (loser tree, run mode, `runLength`), k ≥ 3 -/
theorem mergeK_sorted_complete_stable (a b c : List Int) (rest : List (List Int)) (refills : List (List Nat))
    (batches : List Nat) (hs : ∀ ks ∈ a :: b :: c :: rest, ks.Pairwise (· ≤ ·)) (hpos : ∀ x ∈ batches, 1 ≤ x)
    (hlen : (tagInputs (a :: b :: c :: rest)).flatten.length < batches.length) :
    ∃ s : MK, Reader.new (tagInputs (a :: b :: c :: rest)) refills = .many s ∧
      IsMerge (tagInputs (a :: b :: c :: rest)) ((Reader.many s).session batches).1.flatten := by
  have hnew : ∃ s : MK, Reader.new (tagInputs (a :: b :: c :: rest)) refills = .many s := by
    simp only [tagInputs, List.length_cons, List.range_succ_eq_map, List.map_cons, Reader.new]
    exact ⟨_, rfl⟩
  obtain ⟨s, hs'⟩ := hnew
  refine ⟨s, hs', ?_⟩
  have := merge_at_eof (a :: b :: c :: rest) refills batches hs
    (merge_reaches_eof (a :: b :: c :: rest) refills batches hs hpos hlen)
  rwa [hs'] at this

example :
    (∀ ks ∈ [[1, 3, 3], [2, 3], [0, 3, 9]], List.Pairwise (· ≤ ·) (ks : List Int)) ∧
    (((Reader.new (tagInputs [[1, 3, 3], [2, 3], [0, 3, 9]]) [[1, 1], [2], []]).session
        [2, 2, 2, 2, 2, 2, 2, 2, 2]).1.flatten.map (fun r => (r.key, r.inp, r.seq)))
      = [(0, 2, 0), (1, 0, 0), (2, 1, 0), (3, 1, 1), (3, 0, 1), (3, 0, 2), (3, 2, 1), (9, 2, 2)] := by
  decide +kernel

/-- which of several rows with equal keys comes first is NOT independent of the read batch size
    (`mergedRowReader2` emits ties pairwise r0, r1 only while the output buffer has room): the property
    does not promise it, and refinement/dedupe must not rely on it -/
theorem merge2_tie_order_depends_on_batch_size :
    (((Reader.new (tagInputs [[0, 0], [0]]) []).session [1, 1, 1, 1]).1.flatten.map (fun r => (r.inp, r.seq)))
      ≠ (((Reader.new (tagInputs [[0, 0], [0]]) []).session [4, 4]).1.flatten.map (fun r => (r.inp, r.seq))) := by
  decide

/-- `DedupeRowReader` over any batching of a sorted sequence returns exactly one row per distinct key;
    the `lastRow` carried across batches makes the result independent of the batch boundaries. -/
theorem dedupe_one_row_per_key (batches : List (List Row)) (hs : SortedK batches.flatten) :
    let out := dedupeReader none batches
    out.Sublist batches.flatten ∧ out.Pairwise (fun a b => a.key < b.key) ∧
    (∀ x ∈ batches.flatten, ∃ y ∈ out, y.key = x.key) ∧
    out = dedupeReader none [batches.flatten] := by
  intro out
  have e : out = (dedupeBatch none batches.flatten).1 := dedupeReader_flatten batches none
  obtain ⟨h1, h2, _, h4⟩ := dedupeBatch_sorted batches.flatten none hs (by intro l hl; cases hl)
  refine ⟨e ▸ h1, e ▸ h2, ?_, ?_⟩
  · intro x hx
    rcases h4 x hx with h | ⟨l, hl, _⟩
    · exact e ▸ h
    · cases hl
  · rw [e, dedupeReader_flatten]; simp

example : SortedK ([[⟨1, 0, 0⟩, ⟨1, 1, 0⟩], [⟨1, 0, 1⟩, ⟨2, 0, 2⟩], [], [⟨2, 1, 1⟩]] : List (List Row)).flatten ∧
    (dedupeReader none [[⟨1, 0, 0⟩, ⟨1, 1, 0⟩], [⟨1, 0, 1⟩, ⟨2, 0, 2⟩], [], [⟨2, 1, 1⟩]]).map (fun r => (r.key, r.inp, r.seq))
      = [(1, 0, 0), (2, 0, 2)] := by decide

/-- merge + `DropDuplicatedRows`: exactly one row per distinct sort key of the inputs remains, for
    every refill pattern and batch-size sequence -/
theorem merge_dedupe_one_row_per_key (keys : List (List Int)) (refills : List (List Nat)) (batches : List Nat)
    (hs : ∀ ks ∈ keys, ks.Pairwise (· ≤ ·)) (hpos : ∀ b ∈ batches, 1 ≤ b)
    (hlen : (tagInputs keys).flatten.length < batches.length) :
    let out := dedupeReader none ((Reader.new (tagInputs keys) refills).session batches).1
    out.Pairwise (fun a b => a.key < b.key) ∧
    (∀ y ∈ out, y ∈ (tagInputs keys).flatten) ∧
    (∀ x ∈ (tagInputs keys).flatten, ∃ y ∈ out, y.key = x.key) := by
  intro out
  obtain ⟨m1, m2, _⟩ := merge_sorted_complete_stable keys refills batches hs hpos hlen
  obtain ⟨d1, d2, d3, _⟩ := dedupe_one_row_per_key _ m1
  refine ⟨d2, ?_, ?_⟩
  · intro y hy
    exact m2.mem_iff.mp (d1.subset hy)
  · intro x hx
    exact d3 x (m2.mem_iff.mpr hx)

/-- Any plan that cuts the inputs into consecutive parts, groups the parts into segments that are ordered in key
    space, merges every segment correctly on its own (a lone part is its own merge) and concatenates the segment
    outputs in order, is a correct merge of the whole inputs. -/
theorem refined_plan_is_merge {k : Nat} (segments : List (List (List Row))) (outs : List (List Row))
    (h : Plan.Good (k := k) segments outs) : IsMerge (joinSegments k segments) outs.flatten := by
  rw [joinSegments_eq, isMerge_iff]
  exact planBy_isMerge segments outs ((planGood_iff segments outs).mp h)

example : Plan.Good (k := 2)
    [[[⟨1, 0, 0⟩], []], [[⟨2, 0, 1⟩], [⟨2, 1, 0⟩]], [[], [⟨3, 1, 1⟩]]]
    [[⟨1, 0, 0⟩], [⟨2, 0, 1⟩, ⟨2, 1, 0⟩], [⟨3, 1, 1⟩]] := by
  have m : ∀ {s : List (List Row)} {o : List Row}, SortedK o → o.Perm s.flatten →
      (∀ i, i < s.length → o.filter (fun r => r.inp == i) = s.getD i []) → IsMerge s o :=
    fun h1 h2 h3 => isMerge_iff.mpr (.of_lt h1 h2 h3)
  exact ⟨rfl, m (by decide) (by decide) (by decide), by decide, rfl, m (by decide) (by decide) (by decide),
    by decide, rfl, m (by decide) (by decide) (by decide), by decide, trivial⟩

/-! ## F12: row-group key ranges used to ignore nulls

On the as-it-was mirror of `rowGroupRangeOfSortedColumns` / `overlappingRowGroups`
(`nullAware = false`, one page per row group): inputs `[10, null]` and `[17, 17, 18]`, both sorted
ascending with nulls last, got the key ranges `[10,10]` and `[17,18]`, were declared non-overlapping,
and the merged row group was their concatenation `10, null, 17, 17, 18`, which is not sorted
(harness key `nullable-key-ranges-ignore-nulls`). On the mirror of the code as it is now
(`nullAware = true`) the first range is `[10, null]`, the two row groups form one segment and go
through the merge reader. -/

theorem nullable_key_ranges_ignore_nulls_violates_sortedness_before_fix :
    sortedNullsLast [some 10, none] = true ∧ sortedNullsLast [some 17, some 17, some 18] = true ∧
    segmentsOf false false [[some 10, none], [some 17, some 17, some 18]] = [[(0, 2)], [(1, 3)]] ∧
    concatSingles [[some 10, none], [some 17, some 17, some 18]]
      (segmentsOf false false [[some 10, none], [some 17, some 17, some 18]]) = some [some 10, none, some 17, some 17, some 18] ∧
    sortedNullsLast [some 10, none, some 17, some 17, some 18] = false := by decide

theorem nullable_key_ranges_overlap_after_fix :
    segmentsOf true false [[some 10, none], [some 17, some 17, some 18]] = [[(0, 2), (1, 3)]] ∧
    segmentsOf true true [[none, some 10], [some 3, some 4]] = [[(0, 2), (1, 2)]] ∧
    segmentsOf true false [[some 1, some 2], [some 3, none], [some 9, none]] = [[(0, 2)], [(1, 2), (2, 2)]] ∧
    segmentsOf true false [[some 1, some 2], [some 3, none], [none]] = [[(0, 2), (1, 2), (2, 1)]] := by decide

section comparator
open PqModel.Compare

/-- the lexicographic combination of column comparators (compare.go:217-226, 478-503) is a total
    preorder as soon as every column comparator is one -/
theorem column_chain_lawful {ρ : Type} (cs : List (ρ → ρ → Int)) (h : ∀ c ∈ cs, Lawful c) : Lawful (cmpLex cs) :=
  cmpLex_lawful cs h

theorem wrappers_lawful {α : Type} {c : α → α → Int} (h : Lawful c) :
    Lawful (descending c) ∧ Lawful (nullsFirst c) ∧ Lawful (nullsLast c) :=
  ⟨descending_lawful h, nullsFirst_lawful h, nullsLast_lawful h⟩

/-- the comparator `compareRowsFuncOf` builds for any list of sorting columns (ascending or descending,
    nulls first or last, any number of columns) is a total preorder -/
theorem cmpRows_total_preorder (specs : List ColSpec) : Lawful (cmpRows specs) := cmpRows_lawful specs

example : cmpRows [⟨false, false⟩, ⟨true, true⟩] [some 1, none] [some 1, some 5] < 0 ∧
    cmpRows [⟨false, false⟩, ⟨true, true⟩] [some 1, some 9] [some 1, some 5] < 0 ∧
    cmpRows [⟨false, false⟩] [none] [some 5] > 0 := by decide

/-- on the rows of a merge a lawful comparator is the order of integer ranks: this is what lets the
    mirror run on ranks take exactly the decisions the code takes with `c` -/
theorem comparator_is_rank_order {α : Type} {c : α → α → Int} (h : Lawful c) {L : List α} {a b : α}
    (ha : a ∈ L) (hb : b ∈ L) :
    (c a b < 0 ↔ rankIn c L a < rankIn c L b) ∧ (c a b = 0 ↔ rankIn c L a = rankIn c L b) ∧
    (0 < c a b ↔ rankIn c L b < rankIn c L a) := rank_sign h ha hb

/-- C09 for an arbitrary lawful comparator on any row type; only `Lawful c` is assumed. -/
theorem merge_sorted_complete_stable_any_comparator {α : Type} [Inhabited α] {c : α → α → Int} (h : Lawful c)
    (inputs : List (List α)) (refills : List (List Nat)) (batches : List Nat)
    (hs : ∀ l ∈ inputs, l.Pairwise (fun a b => c a b ≤ 0)) (hpos : ∀ b ∈ batches, 1 ≤ b)
    (hlen : inputs.flatten.length < batches.length) :
    let out := mergeC c inputs refills batches
    (out.map (orig inputs)).Pairwise (fun a b => c a b ≤ 0) ∧
    (out.map (orig inputs)).Perm inputs.flatten ∧
    ∀ (i : Nat) (l : List α), inputs[i]? = some l → ((out.filter (fun r => r.inp == i)).map (orig inputs)) = l :=
  mergeC_sorted_complete_stable h inputs refills batches hs hpos hlen

theorem merge_sorted_complete_stable_compound_keys (specs : List ColSpec) (inputs : List (List KeyRow))
    (refills : List (List Nat)) (batches : List Nat)
    (hs : ∀ l ∈ inputs, l.Pairwise (fun a b => cmpRows specs a b ≤ 0)) (hpos : ∀ b ∈ batches, 1 ≤ b)
    (hlen : inputs.flatten.length < batches.length) :
    let out := mergeC (cmpRows specs) inputs refills batches
    (out.map (orig inputs)).Pairwise (fun a b => cmpRows specs a b ≤ 0) ∧
    (out.map (orig inputs)).Perm inputs.flatten ∧
    ∀ (i : Nat) (l : List KeyRow), inputs[i]? = some l → ((out.filter (fun r => r.inp == i)).map (orig inputs)) = l :=
  mergeC_sorted_complete_stable (cmpRows_lawful specs) inputs refills batches hs hpos hlen

example : (∀ l ∈ [[[some 1, none], [some 1, some 5]], [[some 1, some 9], [none, some 0]]],
      List.Pairwise (fun a b => cmpRows [⟨false, false⟩, ⟨true, true⟩] a b ≤ 0) (l : List KeyRow)) ∧
    ((mergeC (cmpRows [⟨false, false⟩, ⟨true, true⟩]) [[[some 1, none], [some 1, some 5]], [[some 1, some 9], [none, some 0]]]
        [] [3, 3, 3, 3, 3]).map (fun r => (r.inp, r.seq))) = [(0, 0), (1, 0), (0, 1), (1, 1)] := by decide +kernel

/-- dedupe for an arbitrary lawful comparator, whatever the batch boundaries -/
theorem dedupe_one_row_per_key_any_comparator {α : Type} [Inhabited α] {c : α → α → Int} (h : Lawful c)
    (L : List α) (hs : L.Pairwise (fun a b => c a b ≤ 0)) (batches : List (List Row))
    (hb : batches.flatten = rankList c L 0 L) :
    let out := (dedupeReader none batches).map (orig [L])
    out.Sublist L ∧ out.Pairwise (fun a b => c a b < 0) ∧ ∀ x ∈ L, ∃ y ∈ out, c y x = 0 :=
  dedupeC_one_row_per_key h L hs batches hb

theorem refined_plan_is_merge_any_order {α : Type} {le : α → α → Prop} {tag : α → Nat} {k : Nat}
    (segs : List (List (List α))) (outs : List (List α)) (h : PlanGoodBy le tag k segs outs) :
    IsMergeBy le tag (joinSegmentsG k segs) outs.flatten := planBy_isMerge segs outs h

end comparator

section planner
open PqModel.Refine PqModel.Compare

theorem cutAbove_is_conservative {desc : Bool} {t : Target} {vals : List Int} (h : PagesOk desc t vals)
    (key : KeyRow) (kv : Int) (hk : key.getD 0 none = some kv) :
    ∀ r, cutAbove desc t key ≤ r → r < t.numRows → ord desc kv < vals.getD r 0 :=
  cutAbove_conservative h key kv hk

theorem cutBelow_is_conservative {desc : Bool} {t : Target} {vals : List Int} (h : PagesOk desc t vals)
    (key : KeyRow) (kv : Int) (hk : key.getD 0 none = some kv) :
    ∀ r, r < cutBelow desc t key → vals.getD r 0 < ord desc kv :=
  cutBelow_conservative h key kv hk

example : PagesOk false
    { idx := 0, numRows := 5, cols := [[⟨false, false, some 1, some 2⟩, ⟨false, false, some 2, some 5⟩]], firstRows := [0, 3] }
    [1, 1, 2, 2, 5] := by
  refine ⟨rfl, by decide, by decide, rfl, by decide, fun p r hp h1 h2 => ?_⟩
  -- with the bound on `r` in front the statement is a finite check
  revert h1; revert h2; revert r; revert hp; revert p
  decide

/-- the per-slice step of the planner's order argument, on the merge's own comparator (all sorting
    columns, any directions and null orders): a lone slice `[off, e)` cut with `cutAbove(leftK) ≤ off`
    and `e ≤ cutBelow(rightK)` lies strictly after every row that is at most `leftK` (the row groups
    that ended) and strictly before every row that is at least `rightK` (those that start later).
    OPEN: the sweep invariant that supplies `ha` / `hb` at every slice (see `cuts_form_good_plan_partial`). -/
theorem lone_slice_lies_between_its_keys (s : ColSpec) (ss : List ColSpec) {t : Target} {vals : List Int}
    (h : PagesOk s.desc t vals) (rows : List KeyRow) (hf : FirstCol s.desc rows vals)
    (leftK rightK : KeyRow) (kl kr : Int) (hl : leftK.getD 0 none = some kl) (hr : rightK.getD 0 none = some kr)
    (off e : Nat) (ho : cutAbove s.desc t leftK ≤ off) (he : e ≤ cutBelow s.desc t rightK) (hen : e ≤ t.numRows)
    (a b : KeyRow) (ha : cmpRows (s :: ss) a leftK ≤ 0) (hb : cmpRows (s :: ss) rightK b ≤ 0) :
    ∀ r, off ≤ r → r < e →
      cmpRows (s :: ss) a (rows.getD r []) < 0 ∧ cmpRows (s :: ss) (rows.getD r []) b < 0 :=
  fun r h1 h2 =>
    ⟨rows_from_cutAbove_after s ss h rows hf leftK kl hl a ha r (by omega) (by omega),
      rows_to_cutBelow_before s ss h rows hf rightK kr hr b hb r (by omega) (by omega)⟩

example : FirstCol false [[some 1, some 0], [some 1, some 7], [some 2, some 3], [some 2, some 4], [some 5, some 0]] [1, 1, 2, 2, 5] ∧
    cutAbove false { idx := 0, numRows := 5, cols := [[⟨false, false, some 1, some 2⟩, ⟨false, false, some 2, some 5⟩]], firstRows := [0, 3] }
      [some 1, some 9] = 3 ∧
    cutBelow false { idx := 0, numRows := 5, cols := [[⟨false, false, some 1, some 2⟩, ⟨false, false, some 2, some 5⟩]], firstRows := [0, 3] }
      [some 5, some 0] = 3 ∧
    cmpRows [⟨false, false⟩, ⟨false, false⟩] [some 1, some 7] [some 1, some 9] ≤ 0 := by
  refine ⟨⟨rfl, fun r hr => ⟨([1, 1, 2, 2, 5] : List Int).getD r 0, ?_⟩⟩, by decide, by decide, by decide⟩
  revert r
  decide

/-- whatever the page statistics and keys -/
theorem refineSegment_partitions_row_groups (strict : Bool) (specs : List ColSpec) (ts : List Refine.RG) (plan : List (List Part))
    (h : refineSegment strict specs ts = some plan) :
    (∀ i, i < ts.length → Refine.walk i 0 plan.flatten = some (numRowsOf ts i)) ∧
    (∀ R ∈ plan, (R.map (·.index)).Nodup ∧ ∀ p ∈ R, p.index < ts.length) :=
  refineSegment_partition strict specs ts plan h

/-- read region after region, the slices give back every row group whole and in order -/
theorem cuts_reassemble_row_groups {α : Type} (strict : Bool) (specs : List ColSpec) (ts : List Refine.RG) (plan : List (List Part))
    (h : refineSegment strict specs ts = some plan) (rows : List (List α)) (hlen : rows.length = ts.length)
    (hrows : ∀ i, i < ts.length → (rows.getD i []).length = numRowsOf ts i) :
    joinSegmentsG ts.length (plan.map (slicesOf rows ts.length)) = rows :=
  cuts_partition_rows strict specs ts plan h rows hlen hrows

/-- `cuts_form_good_plan_partial`: with the partition and the conservative cuts proved, a refined plan
    whose regions are key-ordered and individually merged is a merge of the whole row groups.
    OPEN (the full statement): derive the key order of the regions (the `PlanGoodBy`
    hypothesis) from the event sweep of `refineSegment` and `PagesOk`; the sweep invariant tying
    `pendingLeftK` / `active` / cursors to the keys of the rows not yet planned is not proved; it is
    covered by the L1 oracle and the plan L2 on compound-key multi-page files only. -/
theorem cuts_form_good_plan_partial {α : Type} (strict : Bool) (specs : List ColSpec) (ts : List Refine.RG) (plan : List (List Part))
    (h : refineSegment strict specs ts = some plan) (rows : List (List α)) (hlen : rows.length = ts.length)
    (hrows : ∀ i, i < ts.length → (rows.getD i []).length = numRowsOf ts i)
    (le : α → α → Prop) (tag : α → Nat) (outs : List (List α))
    (hgood : PlanGoodBy le tag ts.length (plan.map (slicesOf rows ts.length)) outs) :
    IsMergeBy le tag rows outs.flatten :=
  Refine.cuts_form_good_plan_partial strict specs ts plan h rows hlen hrows le tag outs hgood

example : refineSegment false [⟨false, false⟩]
    [{ t := { idx := 0, numRows := 3000, cols := [[⟨false, false, some 0, some 9⟩, ⟨false, false, some 10, some 19⟩, ⟨false, false, some 20, some 29⟩]],
              firstRows := [0, 1200, 1800] }, lo := [some 0], hi := [some 29] },
     { t := { idx := 1, numRows := 3000, cols := [[⟨false, false, some 20, some 29⟩, ⟨false, false, some 30, some 39⟩, ⟨false, false, some 40, some 49⟩]],
              firstRows := [0, 600, 1800] }, lo := [some 20], hi := [some 49] }]
    = some [[⟨0, 0, 1800⟩], [⟨0, 1800, 1200⟩, ⟨1, 0, 600⟩], [⟨1, 600, 2400⟩]] := by decide +kernel

/-- FINDING (cut lookups ignore nulls in mixed pages): on the mirror of the code as it is
    (`strict = false`) a row group `B` = 1774 rows, keys 43..1778 followed by 38 nulls (nulls last;
    the last page holds values *and* nulls, so it is not a "null page") and a row group `A` = keys from
    3544: the ranges overlap (`B`'s upper bound is null), but `cutBelow(3544)` only sees the non-null
    bound 1778 of `B`'s last page and slices all of `B`, nulls included, in front of `A`, although
    `B`'s last row sorts after `A`'s first. With pages holding nulls refused (`strict = true`, the
    proposed fix) the two row groups go through the merge reader. Harness key
    `nullable-key-cuts-ignore-nulls`. -/
theorem cut_lookups_ignore_nulls_in_mixed_pages :
    let B : Refine.RG := { t := { idx := 0, numRows := 1774, cols := [[⟨false, false, some 43, some 1000⟩, ⟨false, true, some 1001, some 1778⟩]],
                                   firstRows := [0, 900] }, lo := [some 43], hi := [none] }
    let A : Refine.RG := { t := { idx := 1, numRows := 2281, cols := [[⟨false, true, some 3544, some 5780⟩]], firstRows := [0] },
                           lo := [some 3544], hi := [none] }
    refineSegment false [⟨false, false⟩] [B, A] = some [[⟨0, 0, 1774⟩], [⟨1, 0, 2281⟩]] ∧
    cmpRows [⟨false, false⟩] B.hi A.lo > 0 ∧
    refineSegment true [⟨false, false⟩] [B, A] = none := by decide

end planner

/-! ## sources that answer `(0, nil)`

A `RowReader` may answer `(0, nil)` (row.go: "less rows than requested and no error"): one of the
source chunkings the property quantifies over. `bufferedRowReader.read` reads again (at most 100
times). `Buf.readE` (MergeRetry.lean) mirrors the loop; in a refill stream the entry `0` is a
`(0, nil)` answer. -/

/-- `(0, nil)` answers are invisible to the merge: as long as a source does not stall (at most 100
    such answers in a row), a `read` over a stream with zero entries ends as `Buf.read` — the function
    all session theorems above are about — over the stream without them: same rows buffered, same
    remaining source, `io.EOF` in the same cases, never `io.ErrNoProgress`. (The readers reach their
    sources through `read` only; the composition to whole sessions is tied by L2,
    `merge-zero-read-skipped-mirror`.) -/
theorem zero_row_reads_are_invisible (b : Buf) (h : zeroRun b.sizes ≤ 100) :
    match b.readE with
    | .rows b' => b.squash.read = some b'.squash
    | .eof => b.squash.read = none
    | .noProgress => False := readE_squash b h

/-- a source that answers `(0, nil)` 101 times in a row ends the merge with `io.ErrNoProgress` -/
theorem stalled_source_is_an_error (b : Buf) (h : 101 ≤ zeroRun b.sizes) (hsrc : b.src ≠ []) :
    b.readE = .noProgress := readE_stall b h hsrc

example : zeroRun (Buf.fresh [⟨1, 0, 0⟩] [0, 0, 2]).sizes ≤ 100 ∧ (Buf.fresh [⟨1, 0, 0⟩] [0, 0, 2]).readE.kind = 0 := by decide

/-- BEFORE the retry existed (library commit 0f6ccd1; the seeded change C09-3b removes it again), on
    the as-is mirror `MergeZero.lean`: inputs `1,3,5,7` (second read answers `(0, nil)`) and `2,4,6,8`
    give `1 2 3 1 4 5 6 7 8`: `head()` of the empty buffer is the first row of the previous fill. -/
theorem zero_row_read_reemits_stale_row :
    (((M2Z.new (tagInputs [[1, 3, 5, 7], [2, 4, 6, 8]]).head! ((tagInputs [[1, 3, 5, 7], [2, 4, 6, 8]]).getD 1 [])
        [2, 0, 2, 2] [2, 2, 2]).session [10, 10, 10, 10, 10, 10, 10, 10]).flatten.map (fun r => r.key))
      = [1, 2, 3, 1, 4, 5, 6, 7, 8] := by decide

/-- a merge of merges is a merge of the leaves, for any order relation and any grouping `g` of the leaves into the
    inputs `mids` of the outer merge, hence (the statement composes) any merge tree -/
theorem merge_of_merges_is_merge {α : Type} {le : α → α → Prop} {tag : α → Nat} (g : Nat → Nat)
    (leaves mids : List (List α)) (out : List α)
    (hinner : ∀ j (m : List α), mids[j]? = some m → IsMergeBy le tag (maskGroup g j leaves) m)
    (hg : ∀ i, i < leaves.length → g i < mids.length)
    (houter : IsMergeBy le (fun r => g (tag r)) mids out) :
    IsMergeBy le tag leaves out := isMergeBy_nested g leaves mids out hinner hg houter

section
open PqModel.Refine PqModel.Compare

/-- the planner's range of a merged row group (pages listed member after member, rows interleaved)
    bounds every key that some non-null page bounds — whatever the order of the pages. This is the
    only thing such a page index says about the rows (`CoveredBy`); `PagesOk`, the hypothesis of the
    cut theorems, does not hold for it, and such a row group gets no cut lookups. -/
theorem interleaved_range_is_valid (s : ColSpec) (pages : List PageStat) (lo hi : Option Int)
    (hnn : pages.any (fun p => p.nullPage || p.hasNulls) = false)
    (h : colRange s pages true = some (lo, hi)) (v : Int) (hv : CoveredBy pages v) :
    ∃ a b, lo = some a ∧ hi = some b ∧ ord s.desc a ≤ ord s.desc v ∧ ord s.desc v ≤ ord s.desc b :=
  colRange_interleaved_covers s pages lo hi hnn h v hv

theorem interleaved_row_group_is_never_sliced (strict : Bool) (t : Target) (h : t.interleaved = true) :
    hasCuts strict t = false := interleaved_no_cuts strict t h

/-- FINDING (fixed in the library clone): `Merge(Merge(A[0..100], B[50..60]), C[70..80])`.
    With the first-page / last-page rule the inner merge got the range `[0, 60]` although it holds
    the key 70; `C` was appended after it. Harness keys `unsorted nested path=…`. -/
theorem nested_merge_range_misses_rows_before_fix :
    CoveredBy nestedWitnessPages 70 ∧
    colRange { desc := false, nullsFirst := false } nestedWitnessPages false = some (some 0, some 60) ∧
    colRange { desc := false, nullsFirst := false } nestedWitnessPages true = some (some 0, some 100) :=
  firstLast_misses_row

end

/-! ## which row groups the planner may read by their chunks (MergeShape.lean)

`Shape` is the tree of row-group views (`leaf` = file / buffer, `merged`, `segments`, `multi`, `dedup`,
`range`, `converted`); `interleaves`, `dropsRows`, `readsChunksInOrder` mirror
`rowGroupInterleavesChunks`, `rowGroupDropsRows`, `rowGroupReadsChunksInOrder`; `chunks s` is what the
column chunks (hence page and offset indexes and row-range views) hold, `rows fixed m d s` what
`Rows()` delivers for an arbitrary merge function `m` and deduplication `d`. -/
section
open PqModel.Shape PqModel.Refine

/-- a row group for which both `rowGroupInterleavesChunks` and `rowGroupDropsRows` answer false
    delivers exactly the rows of its column chunks, in their order, for every nesting of views and
    whatever the merge and the deduplication compute. This is the fact behind `PagesOk` (first / last
    page bound the first / last row) and behind the row positions of the cut lookups. -/
theorem rows_are_the_chunks_unless_interleaved_or_deduplicating {α : Type}
    (m : List (List α) → List α) (d : List α → List α) (s : Shape α)
    (hi : interleaves s = false) (hd : dropsRows s = false) : rows true m d s = chunks s :=
  rows_eq_chunks m d s hi hd

theorem sliced_row_group_is_the_slice_of_its_rows {α : Type}
    (m : List (List α) → List α) (d : List α → List α) (s : Shape α) (off len : Nat)
    (hi : interleaves s = false) (hd : dropsRows s = false) :
    rows true m d (.range s off len) = ((rows true m d s).drop off).take len :=
  range_is_slice_of_rows m d s off len hi hd

/-- `rowGroupReadsChunksInOrder` (the sources `ConvertRowGroup` masks, the members whose concatenated
    chunks `multiRowGroup.Rows()` reads) is sound, before and after the fix of `ConvertRowGroup` -/
theorem reads_chunks_in_order_is_sound {α : Type} (fixed : Bool)
    (m : List (List α) → List α) (d : List α → List α) (s : Shape α)
    (h : readsChunksInOrder s = true) : rows fixed m d s = chunks s :=
  readsChunksInOrder_sound fixed m d s h

/-- a converted view delivers the rows of its source (library fix 6a492b8), so the conversion of a
    merge is the merge; before the fix it delivered the chunks of the source -/
theorem conversion_keeps_the_rows {α : Type} (m : List (List α) → List α) (d : List α → List α) (s : Shape α) :
    rows true m d (.converted s) = rows true m d s ∧ rows false m d (.converted s) = chunks s :=
  converted_rows m d s

/-- planner mirror: a deduplicating view gets no cut lookups, like an interleaved row group -/
theorem deduplicating_view_is_never_sliced (strict : Bool) (t : Target) (h : t.dropsRows = true) :
    hasCuts strict t = false :=
  Bool.eq_false_iff.mpr fun hc => by rw [(hasCuts_flags hc).2.1] at h; cases h

/-- planner mirror: a row group whose rows `rowRangeOf` cannot slice (`supportsRowRanges` false: a
    sequence of segments, a deduplicating or merged view, an empty row group) gets no cut lookups -/
theorem unsupported_view_is_never_sliced (strict : Bool) (t : Target) (h : t.supportsRanges = false) :
    hasCuts strict t = false :=
  Bool.eq_false_iff.mpr fun hc => by rw [(hasCuts_flags hc).2.2] at h; cases h

/-- what the planner cuts, `rowRangeOf` slices: for every row group `supportsRowRanges` accepts (file
    row groups, buffers, range views, multi row groups of such, plain row groups, and conversions of
    these to any depth) the range is the slice of its rows, whatever merge and deduplication compute -/
theorem supported_row_group_ranges_slice_its_rows {α : Type}
    (m : List (List α) → List α) (d : List α → List α) (s : Shape α) (off len : Nat)
    (h : supportsRowRanges s = true) :
    rows true m d (rangeOf s off len) = ((rows true m d s).drop off).take len :=
  supported_range_is_slice_of_rows m d off len s h

example : supportsRowRanges (.converted (.converted (.multi [.leaf [1, 2], .range (.leaf [3, 4]) 0 1])) : Shape Nat) = true ∧
    supportsRowRanges (.segments false [.leaf [1], .leaf [2]] : Shape Nat) = false := by decide

example : interleaves (.converted (.segments false [.leaf [1, 2], .range (.leaf [3, 4, 5, 6]) 1 2]) : Shape Nat) = false ∧
    dropsRows (.converted (.segments false [.leaf [1, 2], .range (.leaf [3, 4, 5, 6]) 1 2]) : Shape Nat) = false := by decide

/-- seed C09-4b: segments one of which is a loser-tree merge do interleave their chunks (the seeded
    variant answered false for every `sortedSegmentRowGroup`) -/
theorem segments_holding_a_merge_interleave :
    let s : Shape Nat := .segments false [.leaf [1, 2], .merged false [.leaf [10, 20], .leaf [15, 16]]]
    interleaves s = true ∧ dropsRows s = false ∧
    rows true mergeNat dedupNat s = [1, 2, 10, 15, 16, 20] ∧ chunks s = [1, 2, 10, 20, 15, 16] :=
  segments_with_a_merged_segment_interleave

/-- FINDING (fixed in the library clone, 6a492b8): `Merge(evens, odds)` converted to another
    schema by an enclosing merge came out as the evens followed by the odds, and the planner took the
    converted view for a row group with its pages in row order. Harness keys `unsorted nested converted …`. -/
theorem converted_merge_was_not_the_merge_before_fix :
    let s : Shape Nat := .converted (.merged false [.leaf [0, 2, 4], .leaf [1, 3, 5]])
    rows false mergeNat dedupNat s = [0, 2, 4, 1, 3, 5] ∧ rows true mergeNat dedupNat s = [0, 1, 2, 3, 4, 5] ∧
    interleaves (.converted (.leaf (chunks s)) : Shape Nat) = false ∧ interleaves s = true :=
  converted_merge_before_fix_is_not_the_merge

/-- FINDING (fixed in the library clone): a row-range view reads the chunks of its base, so
    slicing a deduplicating view brings back the rows it dropped. Harness key
    `deduplicated-rows-reappear …`. -/
theorem slicing_a_deduplicating_view_brings_rows_back :
    let s : Shape Nat := .dedup (.leaf [1, 1, 2, 2, 3, 3])
    rows true mergeNat dedupNat s = [1, 2, 3] ∧
    rows true mergeNat dedupNat (.range s 0 2) = [1, 1] ∧
    ((rows true mergeNat dedupNat s).drop 0).take 2 = [1, 2] ∧
    dropsRows s = true ∧ interleaves s = false :=
  range_of_dedup_view_brings_rows_back

/-- the null count of an in-memory column index (`hasNulls` of the planner's page statistics): positive
    exactly when some definition level is below the maximum, for any maximum level -/
theorem buffer_null_count_sees_every_null (maxDef : Nat) (defs : List Nat) :
    0 < nullCount maxDef defs ↔ ∃ d ∈ defs, d ≠ maxDef := nullCount_pos_iff maxDef defs

example : 0 < nullCount 2 [2, 1, 2] := by decide

/-- seed C09-4a (`countLevelsEqual(levels, 0)`): equal on flat optional columns, blind to the null
    leaf of a present group (level 1 of 2) -/
theorem seeded_null_count_misses_nested_null :
    (∀ defs : List Nat, (∀ d ∈ defs, d ≤ 1) → nullCountSeeded defs = nullCount 1 defs) ∧
    nullCount 2 [2, 1, 2] = 1 ∧ nullCountSeeded [2, 1, 2] = 0 :=
  ⟨nullCountSeeded_eq_flat, nullCountSeeded_misses_null_leaf⟩

end

/-! ## the per-type arms of the positional comparator (compare.go:229-395)

The comparator theorems above take `Type.Compare` of a key column as integer order. The positional
comparator has one hand-written arm per type and direction; `armCmp32` (Compare.lean) mirrors an arm
by the two decisions it makes (accessor, minus sign). Written as in compare.go every arm is the declared
order on the numbers the keys denote; the two seeded slips are witnesses of what goes wrong otherwise.
Tie: c09CmpChecks / the merge cases run every arm on keys of its type on both sides of zero (L1 against
the declared order, L2 `merge.cmp` against `cmpRows` on the decoded keys). -/

theorem comparator_arm_is_the_declared_order (unsignedType desc : Bool) (a b : BitVec 32) :
    PqModel.Compare.armCmp32 (!unsignedType) desc a b =
      (if desc then PqModel.Compare.descending PqModel.Compare.cmpInt else PqModel.Compare.cmpInt)
        (PqModel.Compare.denote32 unsignedType a) (PqModel.Compare.denote32 unsignedType b) :=
  PqModel.Compare.armCmp32_is_declared_order unsignedType desc a b

example : PqModel.Compare.armCmp32 true true (BitVec.ofInt 32 (-3)) (BitVec.ofInt 32 4) = 1 := by decide

/-- seed C09-5b (the ascending DATE arm reads `uint32()`): -1 sorts after 1 -/
theorem seeded_date_arm_misorders_negative_keys :
    PqModel.Compare.armCmp32 false false (BitVec.ofInt 32 (-1)) (BitVec.ofInt 32 1) = 1 ∧
    PqModel.Compare.cmpInt (PqModel.Compare.denote32 false (BitVec.ofInt 32 (-1)))
      (PqModel.Compare.denote32 false (BitVec.ofInt 32 1)) = -1 :=
  PqModel.Compare.arm_read_unsigned_misorders_negative_keys

/-- seed C09-5a (the descending TIMESTAMP arm lost its minus sign): it is the ascending arm, on every pair -/
theorem seeded_descending_arm_is_ascending (signed : Bool) (a b : BitVec 32) :
    PqModel.Compare.armCmp32 signed false a b = - PqModel.Compare.armCmp32 signed true a b :=
  PqModel.Compare.descending_arm_without_negation_is_ascending signed a b

example : PqModel.Compare.armCmp32 true false (BitVec.ofInt 32 1) (BitVec.ofInt 32 2) = -1 := by decide

theorem abstract_merges_sorted {ins : List (List Int)} {out : List PqModel.MergeAbstract.Tagged}
    (h : PqModel.MergeAbstract.Merges ins out) (hs : ∀ l ∈ ins, PqModel.MergeAbstract.Sorted l) :
    PqModel.MergeAbstract.Sorted (out.map (·.2)) :=
  PqModel.MergeAbstract.merges_sorted h hs

end PqModel.Props.C09
