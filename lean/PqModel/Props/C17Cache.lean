import PqModel.SchemaCache

/-! # C17 — process-wide caches: results are a function of (type, options) iff the stores are keyed
    by everything the value depends on

"Output bytes are a function of input and options only" quantifies over the histories of the
process. A writer derives its schema through `schemaOf`, which reads and writes the package-level
`cachedSchemas`; what earlier calls with OTHER options stored there is part of the history.

Tied to the source by `Props/FactsCheckC17` (factgen family `globalcaches`: the only store into
`cachedSchemas` is under `cacheable`, keyed by `model`; `cacheable` is `len(tagReplacements) == 0`)
and to the library by sub-check `cache` (L1, fresh worker processes). -/

namespace PqModel.Props.C17Cache
open PqModel.SchemaCache

/-- Lookup results are a function of the input alone, for all histories,
    exactly when stores are keyed by everything the value depends on. -/
theorem cache_invisible_iff {I K S : Type} [DecidableEq K] (keyOf : I → Option K) (derive : I → S) :
    (∀ hist : List I, results (call keyOf derive) ([] : Cache K S) hist = hist.map derive) ↔
      KeySound keyOf derive := by
  constructor
  · intro h a b k ha hb
    -- the history `[a, b]`: the second call is a hit on what the first stored
    have h2 := h [a, b]
    simp only [results, call, ha, hb, lookup, List.map_cons, List.map_nil, if_true] at h2
    injection h2 with _ h3
    injection h3 with h4 _
  · intro hs hist
    exact results_of_good keyOf derive hs hist [] (good_nil keyOf derive)

/-- the hypotheses are satisfiable: a cache keyed by the whole input is always sound -/
example : KeySound (fun i : Nat × Nat => some i) (fun i => i.1 + i.2) := by
  intro a b k ha hb
  cases ha; cases hb; rfl

/-- the mirror of `schemaOf` IS the keyed cache with key = the Go type for calls without
    replacements, no key otherwise -/
theorem schemaOf_is_keyed_call {Ty R S : Type} [DecidableEq Ty] (derive : Ty → List R → S)
    (c : Cache Ty S) (i : Ty × List R) :
    schemaOf derive false c i = call schemaKey (fun j => derive j.1 j.2) c i := by
  unfold schemaOf call schemaKey loadOrStore
  cases he : i.2.isEmpty with
  | false => simp
  | true =>
    simp only [if_true]
    cases hl : lookup c i.1 with
    | none => simp
    | some s => simp

theorem schemaKey_sound {Ty R S : Type} (derive : Ty → List R → S) :
    KeySound (schemaKey (Ty := Ty) (R := R)) (fun j => derive j.1 j.2) := by
  intro a b k ha hb
  unfold schemaKey at ha hb
  split at ha <;> split at hb <;> simp_all

/-- Whatever the process derived before — any Go types, with any
    struct-tag replacements, in any order — every `schemaOf` call returns the derivation of its own
    (type, replacements). -/
theorem schemaOf_history_independent {Ty R S : Type} [DecidableEq Ty] (derive : Ty → List R → S)
    (hist : List (Ty × List R)) :
    results (schemaOf derive false) ([] : Cache Ty S) hist = hist.map (fun j => derive j.1 j.2) := by
  have hf : schemaOf derive false = call schemaKey (fun j => derive j.1 j.2) := by
    funext c i
    exact schemaOf_is_keyed_call derive c i
  rw [hf]
  exact (cache_invisible_iff schemaKey (fun j => derive j.1 j.2)).2 (schemaKey_sound derive) hist

/-- a derivation that shows its inputs -/
def showDerive (t : Nat) (o : List Nat) : Nat × List Nat := (t, o)

example : results (schemaOf showDerive false) [] [(0, [1]), (0, [])] = [(0, [1]), (0, [])] := by decide +kernel

/-- With the store hoisted out of `if cacheable`, the
    default derivation of a type whose FIRST derivation carried a replacement returns the
    tag-replaced schema. -/
theorem flat_store_breaks_it :
    results (schemaOf showDerive true) [] [(0, [1]), (0, [])] = [(0, [1]), (0, [1])] := by decide +kernel

theorem flat_not_history_independent :
    ¬ ∀ hist : List (Nat × List Nat),
        results (schemaOf showDerive true) [] hist = hist.map (fun j => showDerive j.1 j.2) := by
  intro h
  exact absurd (h [(0, [1]), (0, [])]) (by decide)

/-- the order of the history matters: an untagged derivation first protects the entry -/
example : results (schemaOf showDerive true) [] [(0, []), (0, [1]), (0, [])] = [(0, []), (0, [1]), (0, [])] := by
  decide +kernel

end PqModel.Props.C17Cache
