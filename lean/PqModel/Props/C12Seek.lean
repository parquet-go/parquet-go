/-! # C12 — rows that survive a mid-batch forward seek keep their own storage

`forwardRowSeeker.ReadRows` (row.go:256-281, the seek adapter under every `ConvertRowReader`) lets the
underlying reader fill the caller's `[]Row` buffer and, when the pending seek target lies inside that
batch, moves the surviving rows to the front VALUE BY VALUE: `rows[i] = append(rows[i][:0], rows[j]...)`.
The value-level statement (what the call returns) is `forward_seek_repaired` / `forward_history_refines`
in Props/C12Chunks. This file adds the STORAGE level, which the value level cannot see: a `[]Row`
buffer is a list of slots, each pointing at a backing array; every row reader refills a caller's
buffer with `rows[k] = append(rows[k][:0], ...)`, i.e. it writes INTO the array slot k points at.

MIRRORS: `fill` (what a row reader does with the caller's buffer, e.g. buffer.go / row_group.go
`ReadRows`), `copyLoop` (row.go:267-269, `i` and `j` advancing together), `seekBatch` (the branch
`skip < n` of row.go:260-272). `shiftAlias` is the slip of seed C12-7a: `copy(rows, rows[skip:n])`
shifts the slice headers, so slots `i` and `i+skip` share one array afterwards. -/
namespace PqModel.Props.C12Seek

/-- backing arrays by id -/
abbrev Heap (α : Type) := Nat → List α

def upd {α : Type} (h : Heap α) (a : Nat) (row : List α) : Heap α := fun b => if b = a then row else h b

/-- MIRROR: a row reader hands out `rows` through the caller's buffer `ptr` (slot k ↦ array id):
    `buf[k] = append(buf[k][:0], row...)` for k = 0, 1, ... -/
def fill {α : Type} : List Nat → List (List α) → Heap α → Heap α
  | p :: ps, r :: rs, h => fill ps rs (upd h p r)
  | _, _, h => h

/-- what the caller sees in the first `n` slots -/
def readout {α : Type} (ptr : List Nat) (n : Nat) (h : Heap α) : List (List α) := (ptr.take n).map h

/-- MIRROR row.go:267-269: `for i, j := 0, skip; j < n; i, j = i+1, j+1 { rows[i] = append(rows[i][:0], rows[j]...) }`
    over the destination slots `ds` and the source slots `ss` -/
def copyLoop {α : Type} : List Nat → List Nat → Heap α → Heap α
  | d :: ds, s :: ss, h => copyLoop ds ss (upd h d (h s))
  | _, _, h => h

/-- the destination written at step k is not a source of a later step -/
def NoClobber : List Nat → List Nat → Prop
  | d :: ds, _ :: ss => d ∉ ss ∧ NoClobber ds ss
  | _, _ => True

/-- SLIP (seed C12-7a) `copy(rows, rows[skip:n])`: the slice headers move, the arrays do not -/
def shiftAlias (ptr : List Nat) (skip n : Nat) : List Nat := (ptr.take n).drop skip ++ ptr.drop (n - skip)

/-- MIRROR of the branch `0 < skip < n` of `forwardRowSeeker.ReadRows`: the underlying reader fills
    the buffer with `batch`, the survivors move to the front. Returns the caller's buffer (slots)
    and the heap; `alias = true` is the slip. -/
def seekBatch {α : Type} (alias : Bool) (ptr : List Nat) (batch : List (List α)) (skip : Nat) (h : Heap α) :
    List Nat × Heap α :=
  let h1 := fill ptr batch h
  if alias then (shiftAlias ptr skip batch.length, h1)
  else (ptr, copyLoop (ptr.take (batch.length - skip)) ((ptr.take batch.length).drop skip) h1)

theorem fill_other {α : Type} (a : Nat) : ∀ (ps : List Nat) (rs : List (List α)) (h : Heap α),
    a ∉ ps → fill ps rs h a = h a := by
  intro ps
  induction ps with
  | nil => intro rs h _; cases rs <;> rfl
  | cons p ps ih =>
    intro rs h ha
    cases rs with
    | nil => rfl
    | cons r rs =>
      simp only [fill]
      rw [ih rs _ (fun hm => ha (List.mem_cons_of_mem _ hm))]
      simp only [upd]
      split
      · rename_i e; exact absurd (e ▸ List.mem_cons_self) ha
      · rfl

/-- a read into a buffer whose slots have distinct storage returns the rows read — whatever the
    buffer held before (dirty reuse) -/
theorem fill_readout {α : Type} : ∀ (ptr : List Nat) (rows : List (List α)) (h : Heap α),
    ptr.Nodup → rows.length ≤ ptr.length → readout ptr rows.length (fill ptr rows h) = rows := by
  intro ptr
  induction ptr with
  | nil => intro rows h _ hl; cases rows with
    | nil => rfl
    | cons r rs => simp at hl
  | cons p ps ih =>
    intro rows h hn hl
    cases rows with
    | nil => rfl
    | cons r rs =>
      have hp : p ∉ ps := (List.nodup_cons.mp hn).1
      have ih' := ih rs (upd h p r) (List.nodup_cons.mp hn).2 (by simpa using hl)
      simp only [readout, fill, List.length_cons, List.take_succ_cons, List.map_cons] at ih' ⊢
      rw [fill_other p ps rs _ hp, ih']
      simp [upd]

theorem copyLoop_other {α : Type} (a : Nat) : ∀ (ds ss : List Nat) (h : Heap α),
    a ∉ ds → copyLoop ds ss h a = h a := by
  intro ds
  induction ds with
  | nil => intro ss h _; cases ss <;> rfl
  | cons d ds ih =>
    intro ss h ha
    cases ss with
    | nil => rfl
    | cons s ss =>
      simp only [copyLoop]
      rw [ih ss _ (fun hm => ha (List.mem_cons_of_mem _ hm))]
      simp only [upd]
      split
      · rename_i e; exact absurd (e ▸ List.mem_cons_self) ha
      · rfl

/-- the copy loop as it is: afterwards destination slot k holds what source slot k held before —
    the rows returned after the seek are the rows `skip..` of the fetched batch — provided the
    destination slots are distinct and none is a later source (`Nodup`, `NoClobber`; for the slots
    `seekBatch` passes this is shown on one buffer by the `example` below, not in general). -/
theorem copyLoop_moves_values {α : Type} : ∀ (ds ss : List Nat) (h : Heap α),
    ds.length = ss.length → ds.Nodup → NoClobber ds ss → ds.map (copyLoop ds ss h) = ss.map h := by
  intro ds
  induction ds with
  | nil => intro ss h hl _ _; cases ss with
    | nil => rfl
    | cons s ss => simp at hl
  | cons d ds ih =>
    intro ss h hl hn hc
    cases ss with
    | nil => simp at hl
    | cons s ss =>
      have hd : d ∉ ds := (List.nodup_cons.mp hn).1
      simp only [copyLoop, List.map_cons]
      rw [copyLoop_other d ds ss _ hd, ih ss _ (by simpa using hl) (List.nodup_cons.mp hn).2 hc.2]
      congr 1
      · simp [upd]
      · apply List.map_congr_left
        intro a ha
        simp only [upd]
        split
        · rename_i e; exact absurd (e ▸ ha) hc.1
        · rfl

/-- the code as it is never touches the caller's slots: distinct storage stays distinct, so by
    `fill_readout` EVERY later read into the same buffer returns its rows -/
theorem seekBatch_keeps_slots {α : Type} (ptr : List Nat) (batch : List (List α)) (skip : Nat) (h : Heap α) :
    (seekBatch false ptr batch skip h).1 = ptr := rfl

theorem next_read_after_seek_is_right {α : Type} (ptr : List Nat) (batch next : List (List α)) (skip : Nat) (h : Heap α)
    (hn : ptr.Nodup) (hl : next.length ≤ ptr.length) :
    readout (seekBatch false ptr batch skip h).1 next.length
      (fill (seekBatch false ptr batch skip h).1 next (seekBatch false ptr batch skip h).2) = next :=
  fill_readout ptr next _ hn hl

example : [0, 1, 2, 3].Nodup ∧ NoClobber [0, 1, 2] [1, 2, 3] := ⟨by decide, by simp [NoClobber]⟩

/-- the seek batch itself, as it is: rows 1.. of the batch -/
theorem seek_batch_returns_survivors :
    (fun r => readout r.1 3 r.2) (seekBatch false [0, 1, 2, 3] [[10], [11], [12], [13]] 1 (fun _ => ([] : List Nat)))
      = [[11], [12], [13]] := by decide

/-- the slip returns the same rows from the seek batch ... -/
theorem alias_seek_batch_looks_right :
    (fun r => readout r.1 3 r.2) (seekBatch true [0, 1, 2, 3] [[10], [11], [12], [13]] 1 (fun _ => ([] : List Nat)))
      = [[11], [12], [13]] := by decide

/-- ... but leaves two slots on one array ... -/
theorem alias_slots_share_storage :
    ¬ (seekBatch true [0, 1, 2, 3] [[10], [11], [12], [13]] 1 (fun _ => ([] : List Nat))).1.Nodup := by decide

/-- ... and the NEXT read into the same buffer hands the caller another row's values (seed C12-7a) -/
theorem alias_next_read_is_wrong :
    (fun r => readout r.1 4 (fill r.1 [[14], [15], [16], [17]] r.2))
      (seekBatch true [0, 1, 2, 3] [[10], [11], [12], [13]] 1 (fun _ => ([] : List Nat)))
      = [[14], [15], [17], [17]] := by decide

theorem mirror_next_read_is_right :
    (fun r => readout r.1 4 (fill r.1 [[14], [15], [16], [17]] r.2))
      (seekBatch false [0, 1, 2, 3] [[10], [11], [12], [13]] 1 (fun _ => ([] : List Nat)))
      = [[14], [15], [16], [17]] := by decide

end PqModel.Props.C12Seek
