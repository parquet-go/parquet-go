import PqModel.PageStep
import PqModel.PageReaders

/-! # C13 — Corruption inside a checksummed page is reported, never returned as data

Spec side: `Crc.crc32` (byte-wise CRC-32/IEEE), `Crc.bitAt`/`Crc.xorBytes`, `PageLoad.Burst`,
`PageLoad.writeHeader`, `PageLoad.Intact`/`Corrupted`.
Mirror side, in the order of the sections: the loaders (`PageLoad.load` / `readAll` / `readAt`, with
`PageLoad.current`: file.go since 5000be7, which repaired F4); one turn of `readPageInSequence`
(`PageStep.pageStep`) and, through `PageStep.badOf`, the C08 seek machine; the whole-column and
multi-row-group readers (`PageReaders.drain`). Some theorems restate lemmas of `Crc` / `PageLoad`.

One hypothesis of `load_detects` remains forced by the code and is a known finding, with the negation
proved on the mirror below: the header must carry a non-zero CRC (F8: a page whose CRC-32 is 0 is
written without the field and never verified). That the path must be one that verifies is not a
hypothesis: every path does; the as-is mirror of the code before 5000be7 (`PageLoad.beforeFix`, F4: the
dictionary loader did not) has its negation under `_before_fix` names, as regression facts.
Bursts wider than 32 bits are detected with probability 1 - 2^-32 only: not claimed. -/
namespace PqModel.Props.C13
open PqModel.Crc PqModel.PageLoad PqModel.PageStep PqModel.PageReaders

/-! ## CRC-32 on bytes -/

/-- the byte-wise CRC-32 is the bit-serial register the burst argument is about -/
theorem crc32_is_bit_serial (data : List UInt8) : crc32 data = crcBits (bytesToBits data) :=
  crc32_eq_crcBits data

/-- **crc_burst on bytes**: any data, any non-zero xor mask of the same length whose set bits lie
    within 32 consecutive bit positions starting anywhere ⇒ the CRC-32 changes. -/
theorem crc_burst_bytes (data err : List UInt8) (hlen : err.length = data.length) (lo : Nat)
    (hne : ∃ k, k < 8 * err.length ∧ bitAt err k = true)
    (hw : ∀ k, k < 8 * err.length → bitAt err k = true → lo ≤ k ∧ k < lo + 32) :
    crc32 (xorBytes data err) ≠ crc32 data :=
  crc32_burst data err hlen lo hne hw

/-- a 19-bit burst straddling three bytes, starting at bit 13 -/
example : crc32 (xorBytes [1, 2, 3, 4, 5, 6] [0, 0x20, 0xA7, 0x80, 0, 0]) ≠ crc32 [1, 2, 3, 4, 5, 6] :=
  crc_burst_bytes _ _ rfl 13 ⟨13, by decide⟩ (by decide)

/-- any alteration confined to ≤ 4 consecutive bytes, at any byte position of any data -/
theorem crc_window_bytes (pre mid mid' post : List UInt8) (hl : mid'.length = mid.length)
    (h4 : mid.length ≤ 4) (hne : mid' ≠ mid) :
    crc32 (pre ++ mid' ++ post) ≠ crc32 (pre ++ mid ++ post) :=
  crc32_window pre mid mid' post hl h4 hne

example : crc32 ([9] ++ [0, 0, 0, 0] ++ [7, 7]) ≠ crc32 ([9] ++ [1, 2, 3, 4] ++ [7, 7]) :=
  crc_window_bytes [9] [1, 2, 3, 4] [0, 0, 0, 0] [7, 7] rfl (by decide) (by decide)

/-- a single flipped bit, any byte, any bit -/
theorem crc_bit_flip (pre post : List UInt8) (b : UInt8) (j : Nat) (hj : j < 8) :
    crc32 (pre ++ [b ^^^ (1 <<< UInt8.ofNat j)] ++ post) ≠ crc32 (pre ++ [b] ++ post) :=
  crc32_bit_flip pre post b j hj

/-- the writer's chained `crc32.Update` over rep, def, page is the CRC of the stored body -/
theorem writer_crc_is_body_crc (rep defs page : List UInt8) :
    crc32Update (crc32Update (crc32Update 0#32 rep) defs) page = crc32 (rep ++ defs ++ page) :=
  crc32Update_append₃ rep defs page

/-! ## Loader paths -/

/-- on *every* access path of the code as it stands, a page whose header carries the
    (non-zero) CRC of its body is rejected as corrupted after any burst ≤ 32 bits anywhere in the body
    (levels and values, compressed or not — the body is whatever bytes were checksummed). -/
theorem load_detects (p : Path) (h : Header)
    (body err : Bytes) (hsize : h.compressedSize = body.length) (hlen : err.length = body.length)
    (h0 : h.crc ≠ 0#32) (hcrc : h.crc = crc32 body) (hb : Burst err) :
    load current p h (xorBytes body err) = .error .corrupted :=
  load_detects_of_verifies current p (verifies_current p) h body err hsize hlen h0 hcrc hb

/-- a real 14-byte data page body (RLE_DICTIONARY indexes) written by
    the library, bit 3 of byte 9 flipped, on the lazy dictionary path -/
example : load current .lazyDictionary (writeHeader .dataV2 [0x02, 0x05, 0xe4, 0xe4, 0xe4, 0xe4, 0x02, 0x00, 0x02, 0x01, 0x02, 0x02, 0x02, 0x03] true)
    (xorBytes [0x02, 0x05, 0xe4, 0xe4, 0xe4, 0xe4, 0x02, 0x00, 0x02, 0x01, 0x02, 0x02, 0x02, 0x03]
              [0, 0, 0, 0, 0, 0, 0, 0, 0, 8, 0, 0, 0, 0]) = .error .corrupted :=
  load_detects .lazyDictionary _ _ _ rfl rfl (by decide +kernel) rfl
    ⟨⟨75, by decide⟩, ⟨75, by decide⟩⟩

/-- an intact page is accepted on every path of every implementation: the error of `load_detects`
    is not the loader rejecting everything -/
theorem load_intact (impl : Impl) (p : Path) (kind : PageKind) (body : Bytes) :
    load impl p (writeHeader kind body) body = .ok { kind, body } :=
  loadStored_ok impl p ⟨writeHeader kind body, body⟩ ⟨rfl, rfl⟩

/-- every path of the code as it stands compares checksums -/
theorem current_all_paths_verify : ∀ p, verifies current p = true := verifies_current

/-! ## Column chunk level -/

/-- reading a chunk from its start reports corruption if the dictionary page is corrupted -/
theorem readAll_detects_dictionary (impl : Impl) (c : Chunk) (d : Stored) (hd : c.dict = some d)
    (hc : Corrupted d) : readAll impl c = .error .corrupted := by
  unfold readAll
  rw [hd]
  simp [loadStored_corrupted impl .sequential rfl d hc]

/-- reading a chunk from its start reports corruption if a data page is corrupted (the pages before it
    and the dictionary being intact) -/
theorem readAll_detects_data_page (impl : Impl) (c : Chunk) (pre post : List Stored) (bad : Stored)
    (hp : c.pages = pre ++ bad :: post) (hpre : ∀ s ∈ pre, Intact s)
    (hdict : ∀ d, c.dict = some d → Intact d) (hc : Corrupted bad) :
    readAll impl c = .error .corrupted := by
  have hl := loadPages_corrupted impl bad post hc pre hpre
  unfold readAll
  rw [hp, hl]
  cases hd : c.dict with
  | none => rfl
  | some d =>
    simp [loadStored_ok impl .sequential d (hdict d hd)]
    rfl

/-- a read that reaches data page `k` after a seek reports corruption of that page -/
theorem readAt_detects_data_page (impl : Impl) (c : Chunk) (k : Nat) (bad : Stored)
    (hk : c.pages[k]? = some bad) (hc : Corrupted bad) : readAt impl c k = .error .corrupted := by
  unfold readAt
  rw [hk]
  simp [loadStored_corrupted impl .afterSeek rfl bad hc]

/-- a read that reaches a dictionary-encoded page after a seek reports corruption of the dictionary
    page (before 5000be7 it did not: `F4_witness_before_fix`) -/
theorem readAt_detects_dictionary (c : Chunk) (k : Nat) (s d : Stored)
    (hk : c.pages[k]? = some s) (hs : Intact s) (henc : s.hdr.dictEncoded = true)
    (hd : c.dict = some d) (hc : Corrupted d) : readAt current c k = .error .corrupted := by
  simp [readAt, hk, loadStored_ok current .afterSeek s hs, henc, hd,
    loadStored_corrupted current .lazyDictionary rfl d hc]

/-! ## The reader state around the loader: skip counter, desync flag, retries -/

/-- whether a page is rejected as corrupted does not depend on
    the seek state of the reader — not on `skip` (rows still to drop), `desync`, or `index`. -/
theorem verify_independent_of_seek_state (st : RState) (skip' index' : Nat) (desync' : Bool)
    (h : Header) (numRows : Nat) (stream : Bytes) :
    (pageStep { st with skip := skip', index := index', desync := desync' } h numRows stream).2 = .failed .corrupted ↔
    (pageStep st h numRows stream).2 = .failed .corrupted := by
  -- of the reader state, `pageStep_corrupted_iff` mentions `st.dictionary` only, which is the same on both sides
  rw [pageStep_corrupted_iff, pageStep_corrupted_iff]

/-- a page that is only decoded to be counted and dropped on the way to the row sought is verified
    like any other: in whatever state, a corrupted data page fails the step with `corrupted` and
    sets `desync` -/
theorem skipped_page_is_verified (st : RState) (s : Stored) (numRows : Nat) (hk : s.hdr.kind ≠ .dictionary)
    (hc : Corrupted s) :
    pageStep st s.hdr numRows s.body = ({ st with desync := true }, .failed .corrupted) := by
  have hr := corrupted_readPage s hc
  unfold pageStep
  simp [hk, hr]

/-- `skip` lies beyond the page: it would have been dropped -/
example : pageStep { skip := 1000, desync := false, index := 3, dictionary := none }
    (writeHeader .dataV2 [1, 2, 3, 4]) 10 [1, 2, 3, 5] =
    ({ skip := 1000, desync := true, index := 3, dictionary := none }, .failed .corrupted) := by
  decide +kernel

/-- whatever the decoder / decompressor is given (for a page that is
    returned, dropped while skipping, or a dictionary) is exactly the first `CompressedPageSize` bytes
    of the stream — the bytes whose CRC-32 was compared with the header's when it carries one. No
    second read, no other buffer. -/
theorem decode_sees_verified_bytes (st : RState) (h : Header) (numRows : Nat) (stream b : Bytes)
    (hd : (pageStep st h numRows stream).2.decoded = some b) :
    b = stream.take h.compressedSize ∧ (h.crc ≠ 0#32 → crc32 b = h.crc) := by
  unfold pageStep at hd
  split at hd
  · simp [Handed.decoded] at hd
  · cases hr : readPage h stream with
    | error e => simp [hr, Handed.decoded] at hd
    | ok data =>
      simp only [hr] at hd
      have := afterLoad_decoded st h numRows data b hd
      subst this
      exact readPage_ok_bytes h stream b hr

example : (pageStep { skip := 2, desync := false, index := 0, dictionary := none }
    (writeHeader .dataV2 [1, 2, 3, 4]) 10 [1, 2, 3, 4, 9, 9]).2.decoded = some [1, 2, 3, 4] := by
  decide +kernel

/-- a failed step raises `desync` (so the next `SeekToRow` repositions the stream), a successful one
    leaves it alone -/
theorem failed_read_sets_desync (st : RState) (h : Header) (numRows : Nat) (stream : Bytes) (e : Err)
    (hf : (pageStep st h numRows stream).2 = .failed e) : (pageStep st h numRows stream).1.desync = true := by
  unfold pageStep at hf ⊢
  by_cases hd : h.kind = .dictionary ∧ st.dictionary.isSome
  · simp [hd] at hf
  · simp only [hd, if_false] at hf ⊢
    cases hr : readPage h stream with
    | error e' => rfl
    | ok data =>
      simp only [hr] at hf
      exact absurd hf (afterLoad_not_failed st h numRows data e)

/-- the seeded slip "compare the checksum only when `f.skip == 0`" (seeded/C13-a) on its mirror:
    a corrupted page met while skipping is decoded unverified -/
theorem skip_guarded_variant_decodes_unverified :
    (skipGuardedStep { skip := 1000, desync := false, index := 3, dictionary := none }
      (writeHeader .dataV2 [1, 2, 3, 4]) 10 [1, 2, 3, 5]).2 = .dropped [1, 2, 3, 5] ∧
    (writeHeader .dataV2 [1, 2, 3, 4]).crc ≠ 0#32 ∧ crc32 [1, 2, 3, 5] ≠ (writeHeader .dataV2 [1, 2, 3, 4]).crc := by
  decide +kernel

/-- `Seek.Chunk.bad` of a stored chunk contains every page corrupted in the sense of this property -/
theorem corrupted_page_is_bad (c : Chunk) (rows : List Nat) (q : Nat) (s : Stored)
    (hq : c.pages[q]? = some s) (hc : Corrupted s) : q ∈ (seekChunk c rows).bad :=
  (mem_badOf c.pages q).mpr ⟨s, hq, corrupted_readPage s hc⟩

/-- `Seek.Chunk.bad` of a stored chunk contains no intact page -/
theorem intact_page_is_not_bad (c : Chunk) (rows : List Nat) (q : Nat) (s : Stored)
    (hq : c.pages[q]? = some s) (hi : Intact s) : q ∉ (seekChunk c rows).bad := by
  intro hb
  obtain ⟨t, h1, h2⟩ := (mem_badOf c.pages q).mp hb
  rw [hq] at h1
  cases h1
  rw [readPage_intact s.hdr s.body hi.1 hi.2] at h2
  cases h2

/-- With an intervening seek: data page `q` of a stored chunk is
    corrupted (burst ≤ 32 bits, header CRC ≠ 0). After ANY history of seeks / reads / lazy index
    loads on the repaired reader (`Seek.stepFixed`) — in particular one in which a read of page `q`
    already failed — a seek to any row `k` of page `q` succeeds and the next read reports the
    corruption again: it never returns rows. `rows` are the row counts of the data pages. -/
theorem corrupted_stays_reported (c : Chunk) (rows : List Nat) (hpos : ∀ r ∈ rows, 0 < r)
    (q : Nat) (s : Stored) (hq : c.pages[q]? = some s) (hc : Corrupted s)
    (hasIndex : Bool) (history : List Seek.Op) (k : Nat)
    (hk1 : Seek.firstRow rows q ≤ k) (hk2 : k < Seek.firstRow rows (q + 1)) :
    let st := reach (seekChunk c rows) hasIndex history
    (Seek.seekFixed (seekChunk c rows) st k).2 = .ok ∧
    (Seek.readPage rows (seekChunk c rows).bad (Seek.seekFixed (seekChunk c rows) st k).1).2 = .corrupt := by
  intro st
  obtain ⟨hinv', hseek⟩ := Seek.seekFixed_spec (seekChunk c rows) st k (reach_inv (seekChunk c rows) hpos hasIndex history)
  rcases hseek with ⟨hok, hlost, hnext⟩ | ⟨_, _, hgt⟩
  · have hspec := Seek.readPage_step_spec (seekChunk c rows) hpos _ hinv'.rinv
    rw [Seek.npos_of_lost_false _ _ hlost, hnext] at hspec
    exact ⟨hok, hspec.read_in_bad (corrupted_page_is_bad c rows q s hq hc) hk1 hk2⟩
  · have := Seek.firstRow_le_sum rows (q + 1)
    simp only [Seek.total, seekChunk] at hgt
    omega

/-- The companion of `corrupted_stays_reported` without a seek, in any state. Whatever the history — also right after
    a failed read, with `desync` raised — a read returns rows only from a page that is not corrupted,
    and they are that page's own rows `st .. st+len-1` up to its end: never the rows of a corrupted
    page, never rows presented under other row numbers. -/
theorem reads_never_return_corrupted_rows (c : Chunk) (rows : List Nat) (hpos : ∀ r ∈ rows, 0 < r)
    (hasIndex : Bool) (history : List Seek.Op) (p st len : Nat)
    (hr : (Seek.readPage rows (seekChunk c rows).bad (reach (seekChunk c rows) hasIndex history)).2 = .page p st len) :
    p ∉ badOf c.pages ∧ Seek.firstRow rows p ≤ st ∧ st + len = Seek.firstRow rows (p + 1) ∧
      ∀ s, c.pages[p]? = some s → ¬ Corrupted s := by
  have hinv := reach_inv (seekChunk c rows) hpos hasIndex history
  obtain ⟨hnb, h1, h2⟩ := (Seek.readPage_spec rows (seekChunk c rows).bad hpos _ hinv.rinv).page_own hr
  exact ⟨hnb, h1, h2, fun s hs hc => hnb (corrupted_page_is_bad c rows p s hs hc)⟩

/-- three pages of four rows, page 1 has one bit flipped; read, read (fails),
    retry seek into the page (fails again), a read without a seek (position undefined: rows of page 2
    under their own numbers), seek past it (page 2 from the row sought) -/
example :
    let pg : Bytes := [1, 2, 3, 4]
    let c : Chunk := { dict := none, pages := [⟨writeHeader .dataV2 pg, pg⟩, ⟨writeHeader .dataV2 pg, [1, 2, 3, 5]⟩,
      ⟨writeHeader .dataV2 pg, pg⟩] }
    (seekChunk c [4, 4, 4]).bad = [1] ∧
    Seek.outs (Seek.stepFixed (seekChunk c [4, 4, 4])) (Seek.init true)
      [.readPage, .readPage, .seek 5, .readPage, .readPage, .seek 9, .readPage] =
      [.page 0 0 4, .corrupt, .ok, .corrupt, .page 2 9 3, .ok, .page 2 9 3] := by
  decide +kernel

/-! ## Whole-column and multi-row-group readers (`columnPages`, `multiPages`)

`concatReadPage guard` mirrors both; `Props/FactsCheckC13.lean` shows that the guard in the source
(`err == nil || err != io.EOF`) is a `GoodGuard`. -/

/-- for a guard that returns pages and failures and moves on at io.EOF, reading
    until EOF/failure through the concatenating reader is the reference read: the chunks' pages in
    order up to the first failure, which is reported — for any number of chunks and any scripts. -/
theorem concat_refines (guard : Sit → Bool) (hg : GoodGuard guard) (cs : List Script) :
    drain guard (fuelFor cs) cs = specRead cs :=
  drain_refines guard hg cs (fuelFor cs) (Nat.le_refl _)

/-- row groups `pre` are intact; in the next one data page number
    `before.length` is corrupted (burst ≤ 32 bits, header CRC ≠ 0), the pages before it and the
    dictionary page intact. Then reading the whole column delivers exactly the pristine pages in front
    of the corrupted one and then reports the corruption: no page of that row group after it, no page
    of the row groups `post`, no clean EOF. -/
theorem whole_column_detects_data_page (impl : Impl) (guard : Sit → Bool) (hg : GoodGuard guard)
    (pre post : List Chunk) (c : Chunk) (before after : List Stored) (bad : Stored)
    (hpre : ∀ x ∈ pre, IntactChunk x) (hp : c.pages = before ++ bad :: after)
    (hbefore : ∀ s ∈ before, Intact s) (hdict : ∀ d, c.dict = some d → Intact d) (hc : Corrupted bad) :
    let cs := (pre ++ c :: post).map (chunkScript impl)
    drain guard (fuelFor cs) cs =
      ((pre.map fun x => x.pages.map toPage).flatten ++ before.map toPage, some .corrupted) := by
  intro cs
  have hscript : chunkScript impl c = cleanChunk (before.map toPage) ++ [.fail .corrupted] := by
    unfold chunkScript
    cases hd : c.dict with
    | none => simp only []; rw [hp]; exact pagesScript_corrupted impl bad after hc before hbefore
    | some d =>
      simp only [loadStored_intact impl d (hdict d hd)]
      rw [hp]; exact pagesScript_corrupted impl bad after hc before hbefore
  rw [concat_refines guard hg cs, show cs = _ from scripts_intact_prefix impl pre post c hpre, hscript]
  exact specRead_reports _ _ _ _ _

/-- When the dictionary page of a row group is corrupted,
    the read delivers the pages of the row groups before it and reports the corruption -/
theorem whole_column_detects_dictionary (impl : Impl) (guard : Sit → Bool) (hg : GoodGuard guard)
    (pre post : List Chunk) (c : Chunk) (d : Stored)
    (hpre : ∀ x ∈ pre, IntactChunk x) (hd : c.dict = some d) (hc : Corrupted d) :
    let cs := (pre ++ c :: post).map (chunkScript impl)
    drain guard (fuelFor cs) cs = ((pre.map fun x => x.pages.map toPage).flatten, some .corrupted) := by
  intro cs
  have hscript : chunkScript impl c = cleanChunk [] ++ [.fail .corrupted] := by
    simp [chunkScript, hd, loadStored_corrupted impl .sequential rfl d hc, cleanChunk]
  rw [concat_refines guard hg cs, show cs = _ from scripts_intact_prefix impl pre post c hpre, hscript,
    specRead_reports]
  simp

/-- two row groups of two pages,
    page 1 of the second has one bit flipped -/
example :
    let pg : Bytes := [1, 2, 3, 4]
    let ok : Stored := ⟨writeHeader .dataV2 pg, pg⟩
    let g0 : Chunk := { dict := none, pages := [ok, ok] }
    let g1 : Chunk := { dict := none, pages := [ok, ⟨writeHeader .dataV2 pg, [1, 2, 3, 5]⟩] }
    let good : Sit → Bool := fun s => s.errNil || !s.errEOF
    drain good 10 ([g0, g1].map (chunkScript current)) = ([toPage ok, toPage ok, toPage ok], some .corrupted) ∧
    drain good 10 ([g0, g0].map (chunkScript current)) = ([toPage ok, toPage ok, toPage ok, toPage ok], none) := by
  decide +kernel

/-- the seeded slip (seeded/C13-3b) `if p != nil { return p, err }` on the mirror: the failure comes
    with a nil page, the guard is false, the reader moves to the next row group and ends in a clean
    EOF — the rest of the row group is silently missing -/
theorem page_nonnil_guard_swallows :
    let pg : Bytes := [1, 2, 3, 4]
    let ok : Stored := ⟨writeHeader .dataV2 pg, pg⟩
    let g1 : Chunk := { dict := none, pages := [ok, ⟨writeHeader .dataV2 pg, [1, 2, 3, 5]⟩, ok] }
    let g2 : Chunk := { dict := none, pages := [ok] }
    drain (fun s => !s.pageNil) 10 ([g1, g2].map (chunkScript current)) = ([toPage ok, toPage ok], none) := by
  decide +kernel

/-! ## F4 (repaired by 5000be7) — regression facts about the code before the fix

`beforeFix` is the as-is mirror of the old `readDictionary` (bare `io.ReadFull`, no comparison). -/

/-- before the fix only the two paths through `readPage` verified -/
theorem verifying_paths_before_fix :
    Path.all.filter (verifies beforeFix) = [.sequential, .afterSeek] := by decide

/-- before the fix the dictionary loader accepted any bytes of the right length -/
theorem F4_dictionary_loader_accepts_anything_before_fix (p : Path)
    (hp : p = .lazyDictionary ∨ p = .readDictionaryAPI) (h : Header) (s : Bytes)
    (hs : s.length = h.compressedSize) : load beforeFix p h s = .ok { kind := h.kind, body := s } := by
  rw [load_eq, show verifies beforeFix p = false by rcases hp with rfl | rfl <;> rfl, ← hs, readFull_exact]
  rfl

/-- bodies of the column "name" of a file written by the library (PageBufferSize 1, page v2,
    uncompressed): PLAIN dictionary ["alpha","beta","gamma","delta"] and two index pages -/
def f4Dict : Bytes := [0x05, 0, 0, 0, 0x61, 0x6c, 0x70, 0x68, 0x61, 0x04, 0, 0, 0, 0x62, 0x65, 0x74, 0x61,
  0x05, 0, 0, 0, 0x67, 0x61, 0x6d, 0x6d, 0x61, 0x05, 0, 0, 0, 0x64, 0x65, 0x6c, 0x74, 0x61]
def f4Page : Bytes := [0x02, 0x05, 0xe4, 0xe4, 0xe4, 0xe4, 0x02, 0x00, 0x02, 0x01, 0x02, 0x02, 0x02, 0x03]
/-- bit 1 of byte 5 flipped: "alpha" becomes "anpha" -/
def f4DictBad : Bytes := f4Dict.set 5 0x6e

def f4Chunk (dict : Bytes) : Chunk :=
  { dict := some { hdr := writeHeader .dictionary f4Dict, body := dict },
    pages := [{ hdr := writeHeader .dataV2 f4Page true, body := f4Page },
              { hdr := writeHeader .dataV2 f4Page true, body := f4Page }] }

/-- **F4 before the fix**: the header CRC is the one the writer stored (0x3AECFFB6, non-zero); with one
    bit of the dictionary body flipped a sequential read reported corruption, but a read that reached
    page 1 after a seek returned the page together with the altered dictionary and no error — and so
    did `ReadDictionary()`. -/
theorem F4_witness_before_fix :
    (writeHeader .dictionary f4Dict).crc = 0x3AECFFB6#32 ∧
    readAll beforeFix (f4Chunk f4DictBad) = .error .corrupted ∧
    readAt beforeFix (f4Chunk f4DictBad) 1 =
      .ok (some { kind := .dictionary, body := f4DictBad }, { kind := .dataV2, body := f4Page }) ∧
    load beforeFix .readDictionaryAPI (writeHeader .dictionary f4Dict) f4DictBad =
      .ok { kind := .dictionary, body := f4DictBad } := by
  decide +kernel

/-- the same witness on the code as it stands: reported on all three ways to the dictionary -/
theorem F4_witness_now_detected :
    readAll current (f4Chunk f4DictBad) = .error .corrupted ∧
    readAt current (f4Chunk f4DictBad) 1 = .error .corrupted ∧
    load current .readDictionaryAPI (writeHeader .dictionary f4Dict) f4DictBad = .error .corrupted := by
  decide +kernel

/-! ## F8 — a page whose CRC-32 is 0 carries no CRC field and is never verified -/

/-- whatever the implementation and path: `header.CRC == 0` disables the comparison -/
theorem F8_crc_zero_accepts_anything (impl : Impl) (p : Path) (h : Header) (s : Bytes)
    (h0 : h.crc = 0#32) (hs : s.length = h.compressedSize) :
    load impl p h s = .ok { kind := h.kind, body := s } :=
  load_crc_zero impl p h s h0 hs

/-- PLAIN int32 values 7, -3, 2^30, 42, -2081027679 (the last one chosen to zero the CRC) -/
def f8Body : Bytes := [0x07, 0, 0, 0, 0xfd, 0xff, 0xff, 0xff, 0, 0, 0, 0x40, 0x2a, 0, 0, 0, 0xa1, 0x09, 0xf6, 0x83]

/-- F8 (known finding): the writer's header for this body has CRC 0 (so thrift drops the field),
    and the body with bit 4 of byte 1 flipped (first value 7 → 4103) is accepted on the verifying
    sequential path of the code as it stands. -/
theorem F8_witness :
    (writeHeader .dataV2 f8Body).crc = 0#32 ∧
    load current .sequential (writeHeader .dataV2 f8Body) (f8Body.set 1 0x10) =
      .ok { kind := .dataV2, body := f8Body.set 1 0x10 } := by
  decide +kernel

end PqModel.Props.C13
