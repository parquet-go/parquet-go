import PqModel.C18Pending

/-! # C18, the column-oriented write API of an encrypting writer: rows wait for the ordinal, they are
not lost

On an encrypting writer the column writers of a `BeginRowGroup()` row group cannot seal a page before
Commit (the ordinal is in the AAD). Theorems on the mirror `PqModel.C18Pending`, for EVERY history of
calls on the column writers between BeginRowGroup (or the previous Commit) and Commit; the guard
`|| c.awaitOrdinal` of `Close` is what they rest on (`slipped_guard_*`). -/
namespace PqModel.C18Pending

variable {X : Type}

/-- every history of one column writer: the rows it holds are the rows written, in order. `enc =
    true` is the awaiting column writer of an encrypting writer, `enc = false` the plaintext one
    (Close flushes a page first). -/
theorem close_before_commit_keeps_values (enc : Bool) (es : List (Ev X)) :
    held (runCol true (fresh enc) es) = Spec.written es := by
  rw [held_runCol_guarded]; simp [held, fresh]

example : held (runCol true (fresh true) [.write [1, 2], .close, .flush, .write [3], .close]) = [1, 2, 3] := by
  decide

theorem nothing_sealed_before_commit (g : Bool) (es : List (Ev X)) :
    (runCol g (fresh true) es).pages = [] ∧ (runCol g (fresh true) es).await = true :=
  List.foldlRecOn es (stepCol g) (motive := fun c => c.pages = [] ∧ c.await = true) ⟨rfl, rfl⟩
    fun c h e _ => ⟨by rw [stepCol_pages_await g c e h.2, h.1], by rw [stepCol_await, h.2]⟩

/-- events for another column do not touch a column writer; events for it are its own history -/
theorem runRg_get (g : Bool) (rg : Rg X) (es : List (Nat × Ev X)) (i : Nat) :
    (runRg g rg es)[i]? = rg[i]?.map (fun c => runCol g c (Spec.ofCol i es)) := by
  induction es generalizing rg with
  | nil => simp [runRg, runCol, Spec.ofCol]
  | cons e es ih =>
    rw [runRg, List.foldl_cons, ← runRg, ih, stepRg_get]
    by_cases h : e.1 = i <;> cases rg[i]? <;> simp [h, Spec.ofCol, runCol]

theorem runRg_length (g : Bool) (rg : Rg X) (es : List (Nat × Ev X)) :
    (runRg g rg es).length = rg.length := by
  induction es generalizing rg with
  | nil => rfl
  | cons e es ih =>
    simp only [runRg, List.foldl_cons] at ih ⊢
    rw [ih]
    unfold stepRg
    split <;> simp

/-- the column writers of a row group after any history of column-addressed calls: column `i`
    holds exactly the rows written to column `i` -/
theorem rowgroup_columns_hold_written (enc : Bool) (n : Nat) (es : List (Nat × Ev X)) (i : Nat)
    (hi : i < n) :
    ((runRg true (List.replicate n (fresh enc)) es)[i]?).map held = some (Spec.written (Spec.ofCol i es)) := by
  rw [runRg_get]
  simp [hi, close_before_commit_keeps_values]

/-- Commit after any history: when rows were written to column 0 the file receives, for every
    column, exactly the rows written to it, and the column writers are fresh again (reusable);
    when none were, nothing is written. -/
theorem commit_writes_the_written_rows (enc : Bool) (n : Nat) (es : List (Nat × Ev X)) (hn : 0 < n) :
    commitRg enc (runRg true (List.replicate n (fresh enc)) es) =
      if Spec.written (Spec.ofCol 0 es) = [] then none
      else some ((List.range n).map (fun i => Spec.written (Spec.ofCol i es)),
                 List.replicate n (fresh enc)) := by
  have hheld : (runRg true (List.replicate n (fresh enc)) es).map held
      = (List.range n).map (fun i => Spec.written (Spec.ofCol i es)) := by
    apply List.ext_getElem?
    intro i
    rw [List.getElem?_map]
    by_cases hi : i < n
    · rw [rowgroup_columns_hold_written enc n es i hi]; simp [hi]
    · rw [runRg_get]; simp [hi]
  obtain ⟨m, rfl⟩ : ∃ m, n = m + 1 := ⟨n - 1, by omega⟩
  rw [commitRg_eq, hheld, runRg_length, List.length_replicate]
  simp [List.range_succ_eq_map]

example : commitRg true (runRg true (List.replicate 2 (fresh true))
    [(0, .write [1, 2]), (1, .write [7, 8]), (0, .close), (1, .flush), (1, .close)])
    = some ([[1, 2], [7, 8]], [fresh true, fresh true]) := by decide

/-! ## the guard of Close -/

/-- WITNESS for the slipped guard (`if c.columnBuffer == nil { return nil }`): on an awaiting column
    writer Close after a write leaves nothing, and no page either -/
theorem slipped_guard_loses_values :
    held (runCol false (fresh true) [.write [1, 2, 3], .close]) = ([] : List Nat)
    ∧ held (runCol true (fresh true) [.write [1, 2, 3], .close]) = [1, 2, 3] := by decide

/-- the slipped guard on a row group: column-parallel filling, every column closed when complete, then Commit:
    0 rows by the count of column 0, nothing is written and nothing reports it -/
theorem slipped_guard_drops_row_group :
    commitRg true (runRg false (List.replicate 2 (fresh true))
      [(0, .write [1, 2]), (1, .write [7, 8]), (0, .close), (1, .close)]) = (none : Option (List (List Nat) × Rg Nat))
    ∧ commitRg true (runRg true (List.replicate 2 (fresh true))
      [(0, .write [1, 2]), (1, .write [7, 8]), (0, .close), (1, .close)])
      = some ([[1, 2], [7, 8]], [fresh true, fresh true]) := by decide

/-- why no plaintext test sees the slip: on a column writer that does not await an ordinal the two
    forms of Close are the same function -/
theorem slipped_guard_same_without_await (c : Col X) (h : c.await = false) :
    closeCol false c = closeCol true c := by
  simp [closeCol, h]

example : ∃ c : Col Nat, c.await = false := ⟨fresh false, rfl⟩

end PqModel.C18Pending
