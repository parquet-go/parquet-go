import PqModel.Lz4Encode
import PqModel.Spec.Lz4Seqs
import PqModel.Spec.SnappyElems

/-! # C20 — Compression codecs are lossless whatever was compressed before (PARTIAL)

Partial by design: DEFLATE / brotli / zstd / lz4 / snappy internals are third-party code and are
*assumed* (contracts `WriterContract`, `ReaderBase`, `WeakReset` / `StrongReset`, `ZstdContract`,
`Lz4Contract` of `PqModel/Codec.lean`).  What is proved is that the pooling / reset / buffer /
retry logic of `compress/compress.go`, `compress/zstd`, `compress/lz4` at /repo HEAD
(`Rev.fixed`: with the repairs 6e9b6da, 4d91384) turns these contracts into "Decode(Encode(x)) = x after
every history, for every dst, under every interleaving".  The theorems named `…_before_fix`
are regression facts about the previous revision (`Rev.beforeFix`): the negations F16/F17/F18.

Histories (`List Call`) contain begin/end events of calls in any interleaving (concurrent use of
one codec value), arbitrary `pick`s (what sync.Pool hands out), failing decodes, panics.

OPEN (not provable here, by design): that the third-party codecs themselves are lossless
(decode ∘ encode = id), and that the real readers meet `WeakReset` (brotli) / `StrongReset` (gzip).
Both are sampled by the L1 check on the real codecs, not proved. -/
namespace PqModel.Props.C20
open PqModel.Codec

/-- Pooled codecs (gzip, brotli), the code as it stands: under the writer contract and only the
WEAK reader-Reset contract (Reset gives a fresh reader from a reader that reached io.EOF —
what andybalholm/brotli really provides), after any history `h1` (any interleaving, picks,
failed decodes) `Encode x` returns the fresh encoding, and after any further history `h2`
decoding it returns `x` — for every dst capacity, every pool choice, as a whole call or as an
in-flight call.  `C.fuel` only has to exceed the number of Reads a fresh reader needs for
`enc x` (no hang).  Needs an invariant over the history: idle readers are resettable. -/
theorem history_independent {ω ρ} (C : Codec ω ρ) (enc : Bytes → Bytes)
    (hrev : C.rev = .fixed)
    (hW : WriterContract C.W enc) (B : ReaderBase C.R enc) (K : WeakReset C.R)
    (x : Bytes) (hfuel : ∀ s0, C.R.new (enc x) = some s0 → B.steps s0 < C.fuel)
    (h1 h2 : List Call) (pe pd : Option Nat) (ce cd : Nat) (wholeE wholeD : Bool) :
    let s1 := run C .init h1
    let e := step C s1 (if wholeE then .encode pe ce x else .encBegin pe ce x)
    let s2 := run C e.st h2
    let d := step C s2 (if wholeD then .decode pd cd (enc x) else .decBegin pd cd (enc x))
    e.out = some (.ok (enc x)) ∧ d.out = some (.ok x) := by
  intro s1 e s2 d
  have hinit : DInv K (CState.init (ω := ω) (ρ := ρ)).d := ⟨by simp [CState.init], by simp [CState.init]⟩
  have h1i : DInv K s1.d := run_inv C hrev K B.read_len h1 _ hinit
  have hei : DInv K e.st.d := step_inv C hrev K B.read_len s1 h1i _
  have h2i : DInv K s2.d := run_inv C hrev K B.read_len h2 _ hei
  exact ⟨by rw [step_enc_out, encBegin_ok hW],
    by rw [step_dec_out, decBegin_out_fresh K _ _ _ h2i, decBegin_fresh_ok B _ _ x hfuel]⟩

/-- satisfiable by the brotli-like toy reader (`keepStale = true`: unconsumed input survives
Reset), which does NOT meet the strong contract -/
example : ∃ (C : Codec ToyW ToyR) (_ : WriterContract C.W toyEnc) (B : ReaderBase C.R toyEnc)
    (_ : WeakReset C.R), C.rev = .fixed ∧ ¬ StrongReset C.R ∧
      ∀ s0, C.R.new (toyEnc [1, 2, 3]) = some s0 → B.steps s0 < C.fuel :=
  ⟨toyCodec ⟨false, true, false, 7, true, none, none⟩ .fixed 50,
   toyWriterContract _ rfl rfl, toyBase _, toyWeak _, rfl, by
     intro h
     have := h ⟨[], .excess, [9]⟩ [0xA7, 0]
     revert this
     decide, by
     intro s0 h
     have := toyOpen_enc ⟨false, true, false, 7, true, none, none⟩ [1, 2, 3]
     simp only [toyCodec, toyReader] at h
     rw [this] at h
     cases h
     decide⟩

/-- Either revision: under the STRONG Reset contract (after `Reset(src)` the reader is a fresh
reader, whatever it did before) no invariant is needed at all. -/
theorem history_independent_strong_reset {ω ρ} (C : Codec ω ρ) (enc : Bytes → Bytes)
    (hW : WriterContract C.W enc) (B : ReaderBase C.R enc) (hS : StrongReset C.R)
    (x : Bytes) (hfuel : ∀ s0, C.R.new (enc x) = some s0 → B.steps s0 < C.fuel)
    (h1 h2 : List Call) (pe pd : Option Nat) (ce cd : Nat) (wholeE wholeD : Bool) :
    let s1 := run C .init h1
    let e := step C s1 (if wholeE then .encode pe ce x else .encBegin pe ce x)
    let s2 := run C e.st h2
    let d := step C s2 (if wholeD then .decode pd cd (enc x) else .decBegin pd cd (enc x))
    e.out = some (.ok (enc x)) ∧ d.out = some (.ok x) := by
  intro s1 e s2 d
  exact ⟨by rw [step_enc_out, encBegin_ok hW],
    by rw [step_dec_out, decBegin_out_fresh (strongWeak hS) _ _ _ ⟨fun _ _ => rfl, fun _ _ _ => rfl⟩,
      decBegin_fresh_ok B _ _ x hfuel]⟩

example : ∃ (C : Codec ToyW ToyR) (_ : WriterContract C.W toyEnc) (B : ReaderBase C.R toyEnc),
    StrongReset C.R ∧ ∀ s0, C.R.new (toyEnc [1, 2, 3]) = some s0 → B.steps s0 < C.fuel :=
  ⟨toyCodec ⟨true, false, true, 1, false, none, none⟩ .beforeFix 10,
   toyWriterContract _ rfl rfl, toyBase _, toyStrong _ rfl, by
     intro s0 h
     have := toyOpen_enc ⟨true, false, true, 1, false, none, none⟩ [1, 2, 3]
     simp only [toyCodec, toyReader] at h
     rw [this] at h
     cases h
     decide⟩

/-- F18 regression fact (revision before 4d91384).  A reader that meets only the WEAK Reset
contract (andybalholm/brotli reader.go:33-46) with the old pool logic: after ONE failed decode
the next `Decode(Encode x)` on the same codec value returns wrong bytes without any error
(first witness) or an error (second witness). -/
theorem brotli_like_reader_breaks_history_before_fix :
    let cfg : ToyCfg := ⟨false, true, false, 7, true, none, none⟩
    let C := toyCodec cfg .beforeFix 50
    -- the failing decode: a valid stream followed by 4 trailing bytes → "excessive input"
    (trace C .init [.decode none 0 (toyEnc [5] ++ [0xA7, 1, 9, 1])]).map (·.1)
      = [some (.err [5])] ∧
    (step C (run C .init [.decode none 0 (toyEnc [5] ++ [0xA7, 1, 9, 1])])
        (.decode (some 0) 0 (toyEnc [7]))).out = some (.ok [9, 0xA7, 7]) ∧
    (step C (run C .init [.decode none 0 (toyEnc [5] ++ [9])])
        (.decode (some 0) 0 (toyEnc [7]))).out = some (.err []) ∧
    -- the same reader, fresh: fine
    (step C .init (.decode none 0 (toyEnc [7]))).out = some (.ok [7]) := by
  decide

/-- F18, second face, regression fact (before 4d91384): with the stale reader in the pool,
`Decode(nil, [])` — empty src, dst of capacity 0 — never returns, for any amount of fuel:
`cap(dst) = 2*len(src) = 0`, the reader has stale input to decode, and the read loop asks it
for 0 bytes for ever.  The pool state is the one the failed decode leaves (example below). -/
theorem empty_src_after_failed_decode_hangs_before_fix (fuel : Nat) :
    let cfg : ToyCfg := ⟨false, true, false, 7, true, none, none⟩
    let d : DPool ToyR := ⟨[⟨0, ⟨[], .excess, [0xA7, 1, 9, 1]⟩⟩], [], 1⟩
    (decBegin (toyReader cfg) .beforeFix fuel d (some 0) 0 []).out = .hang := by
  intro cfg d
  have hs : (toyReader cfg).read ⟨[9], .truncated, []⟩ 0 = (⟨[9], .truncated, []⟩, [], .more) := by
    simp [toyReader, cfg]
  have hl := readLoop_stuck (toyReader cfg) _ hs fuel
  have htake : take d.idle (some 0) = (some ⟨0, ⟨[], .excess, [0xA7, 1, 9, 1]⟩⟩, []) := by decide
  have hreset : (toyReader cfg).reset ⟨[], .excess, [0xA7, 1, 9, 1]⟩ (some []) =
      some ⟨[9], .truncated, []⟩ := by decide
  have hcap : decCap .beforeFix 0 ([] : Bytes) = 0 := by decide
  unfold decBegin
  simp only [htake, hreset, hcap, hl, loopOutcome]

/-- the same two histories on the code as it stands: the failed reader is dropped, the next
decodes are right; an empty src is answered at once -/
example :
    let cfg : ToyCfg := ⟨false, true, false, 7, true, none, none⟩
    let B := toyCodec cfg .beforeFix 50
    let C := toyCodec cfg .fixed 50
    (run B .init [.decode none 0 (toyEnc [5] ++ [0xA7, 1, 9, 1])]).d.idle
      = [⟨0, ⟨[], .excess, [0xA7, 1, 9, 1]⟩⟩] ∧
    (step B (run B .init [.decode none 0 (toyEnc [5] ++ [0xA7, 1, 9, 1])])
        (.decode (some 0) 0 [])).out = some .hang ∧
    (run C .init [.decode none 0 (toyEnc [5] ++ [0xA7, 1, 9, 1])]).d.idle = [] ∧
    (step C (run C .init [.decode none 0 (toyEnc [5] ++ [0xA7, 1, 9, 1])])
        (.decode (some 0) 0 (toyEnc [7]))).out = some (.ok [7]) ∧
    (step C (run C .init [.decode none 0 (toyEnc [5] ++ [0xA7, 1, 9, 1])])
        (.decode (some 0) 0 [])).out = some (.err []) := by decide

/-- F17 regression fact (before 4d91384), for every reader, pool content and dst: when the
constructor (fresh object) and Reset (pooled object) report an error for `src` — klauspost gzip
reads the header there — `Decompressor.Decode` PANICKED instead of returning the error. -/
theorem decode_panics_when_header_rejected_before_fix {ρ} (R : ReaderImpl ρ) (src : Bytes)
    (hnew : R.new src = none) (hreset : ∀ s, R.reset s (some src) = none)
    (fuel : Nat) (d : DPool ρ) (pick : Option Nat) (dstCap : Nat) :
    (decBegin R .beforeFix fuel d pick dstCap src).out = .panic := by
  unfold decBegin
  split
  · simp [hnew, initFailure]
  · simp [hreset, initFailure]

/-- the code as it stands: the same situation returns an error with an empty output; the
deferred function is not armed and a pooled reader taken for the call is not put back -/
theorem decode_returns_error_when_header_rejected {ρ} (R : ReaderImpl ρ) (src : Bytes)
    (hnew : R.new src = none) (hreset : ∀ s, R.reset s (some src) = none)
    (fuel : Nat) (d : DPool ρ) (pick : Option Nat) (dstCap : Nat) :
    (decBegin R .fixed fuel d pick dstCap src).out = .err [] ∧
    (decBegin R .fixed fuel d pick dstCap src).armed = false ∧
    (decBegin R .fixed fuel d pick dstCap src).pool.idle.length ≤ d.idle.length := by
  unfold decBegin
  split
  · simp [hnew, initFailure]
  · rename_i it idle htk
    simp only [hreset, initFailure, true_and]
    unfold take at htk
    split at htk
    · simp at htk
    · split at htk
      · simp only [Prod.mk.injEq, Option.some.injEq] at htk
        rw [← htk.2]; exact List.length_filter_le _ _
      · simp at htk

/-- gzip-like toy reader -/
example :
    let cfg : ToyCfg := ⟨true, false, false, 7, true, none, none⟩
    (step (toyCodec cfg .beforeFix 50) .init (.decode none 0 [0x1f, 0x8b])).out = some .panic ∧
    (step (toyCodec cfg .fixed 50) .init (.decode none 0 [0x1f, 0x8b])).out = some (.err []) ∧
    (run (toyCodec cfg .fixed 50) .init
      [.decode none 0 (toyEnc [1]), .decode (some 0) 0 [0x1f, 0x8b]]).d.idle.length = 0 := by
  decide

-- OPEN (not a property of inputs): `Compressor.Encode` still has `panic(err)` when the WRITER
-- constructor fails (compress.go:65). Reachable with the library's own codecs only through an
-- invalid exported `Level` (`&gzip.Codec{Level: 10}`, `&zstd.Codec{Level: 99}`; brotli and lz4
-- accept anything): then EVERY Encode panics, whatever the input — a configuration error, recorded
-- by the check as an observation (`gzip-/zstd-invalid-level-encode-panics`), hence the hypothesis
-- `hWnew`; `hlen` is io.Reader's own contract.
/-- The code as it stands: no call of any history panics, whatever the reader constructor and
`Reset` answer (errors are returned), provided the writer constructor works and Read respects
`len(p)`. -/
theorem no_panic {ω ρ} (C : Codec ω ρ) (hrev : C.rev = .fixed)
    (hWnew : C.W.new ≠ none) (hlen : ∀ s n, (C.R.read s n).2.1.length ≤ n)
    (s : CState ω ρ) (c : Call) : (step C s c).out ≠ some .panic := by
  have hdec : ∀ p dc src, (decBegin C.R C.rev C.fuel s.d p dc src).out ≠ .panic := by
    intro p dc src
    rw [hrev]
    unfold decBegin
    split
    · split
      · simp [initFailure]
      · exact loopOutcome_ne_panic (readLoop_no_oob C.R hlen C.fuel _ [] _) _
    · split
      · simp [initFailure]
      · exact loopOutcome_ne_panic (readLoop_no_oob C.R hlen C.fuel _ [] _) _
  have henc : ∀ p dc src, (encBegin C.W s.c p dc src).out ≠ .panic := by
    intro p dc src
    unfold encBegin
    split
    · split
      · rename_i h; exact absurd h hWnew
      · simp only [writeClose]; split <;> (try split) <;> simp
    · simp only [writeClose]; split <;> (try split) <;> simp
  cases c with
  | encBegin p dc src => simpa [step] using henc p dc src
  | encEnd k => simp [step]
  | decBegin p dc src => simpa [step] using hdec p dc src
  | decEnd k => simp [step]
  | encode p dc src => simp only [step]; split <;> simpa using henc p dc src
  | decode p dc src => simp only [step]; split <;> simpa using hdec p dc src

/-- satisfiable by a gzip-like reader whose constructor and Reset do reject inputs -/
example : ∃ C : Codec ToyW ToyR, C.rev = .fixed ∧ C.W.new ≠ none ∧
    (∀ s n, (C.R.read s n).2.1.length ≤ n) ∧ C.R.new [1] = none :=
  ⟨toyCodec ⟨true, false, false, 3, false, none, none⟩ .fixed 9, rfl, by simp [toyCodec, toyWriter],
   (toyBase _).read_len, by decide⟩

/-- aliasing: after every history, no idle pooled writer still refers to a caller's `dst` (or
to any sink but io.Discard), so output slices handed out earlier are never written again by the
pool (compress.go:75-79) -/
theorem idle_writers_hold_no_caller_buffer {ω ρ} (C : Codec ω ρ) (h : List Call) :
    ∀ it, it ∈ (run C .init h).c.idle → it.sink = .detached :=
  run_cinv C h _ (by intro it hit; simp [CState.init] at hit)

/-- zstd: encoder and decoder pools without reset; under the contract "EncodeAll/DecodeAll are
self-contained" any history (incl. failed decodes, which are put back) is harmless -/
theorem zstd_history_independent {ε δ} (Z : ZstdImpl ε δ) (hZ : ZstdContract Z)
    (h1 h2 : List ZCall) (x : Bytes) (pe pd : Option Nat) :
    let p1 := zRun Z ⟨[], []⟩ h1
    let e := zEncode Z p1 pe x
    let p2 := zRun Z e.2 h2
    (zDecode Z p2 pd e.1).1 = some x := by
  intro p1 e p2
  simp only [zDecode, e, zEncode]
  exact hZ _ _ x

example : ∃ Z : ZstdImpl Unit Unit, ZstdContract Z :=
  ⟨⟨(), (), fun _ x => ((), x), fun _ y => ((), some y)⟩, by intro e d x; rfl⟩

/-- lz4, the loop of `Rev.fixed` (give up beyond 255·len(src)+64, grow to 2·len+64), on VALID
input: it returns `x` after exactly `j` retries, `j` the least retry count whose buffer
`lz4Len L0 j = (L0+64)·2^j − 64` (`Codec.lz4Len_eq`) holds `need x` bytes (`L0 = max(cap dst, 3·len src)`), and
`j ≤ log₂(need x) + 1`: fuel `log₂(need x) + 2` always suffices, fuel `j` does not.  The
give-up test never fires on valid input (`Lz4Contract.ratio`). -/
theorem lz4_loop_returns_valid (L : Lz4Impl) (enc : Bytes → Bytes) (need : Bytes → Nat)
    (hL : Lz4Contract L enc need) (x : Bytes) (dstCap : Nat) :
    let L0 := reserveAtLeast dstCap (3 * (enc x).length)
    ∃ j, j ≤ Nat.log2 (need x) + 1 ∧
      lz4Decode L (Nat.log2 (need x) + 2) dstCap (enc x) = some (some x, lz4Len L0 j) ∧
      need x ≤ lz4Len L0 j ∧ (∀ i, i < j → lz4Len L0 i < need x) ∧
      lz4Loop L (enc x) j L0 = none := by
  intro L0
  have hk : need x + 64 ≤ (L0 + 64) * 2 ^ (Nat.log2 (need x) + 1) := by
    have h1 : need x < 2 ^ (Nat.log2 (need x) + 1) := Nat.lt_log2_self
    have h2 : 64 * 2 ^ (Nat.log2 (need x) + 1) ≤ (L0 + 64) * 2 ^ (Nat.log2 (need x) + 1) :=
      Nat.mul_le_mul_right _ (by omega)
    omega
  exact lz4Loop_valid_fuel hL x _ L0 hk

example : Lz4Contract toyLz4 toyLz4Enc (fun x => x.length) ∧
    -- 40 bytes behind a 1-byte tag: L0 = 3·41 = 123 fits at once
    lz4Decode toyLz4 7 0 (toyLz4Enc (List.replicate 40 7)) = some (some (List.replicate 40 7), 123) :=
  ⟨toyLz4Contract, by decide⟩

/-- lz4, the loop of `Rev.fixed`, EVERY source (valid or malformed), every block decoder,
every dst: `Codec.Decode` returns within `log₂(255·len(src) + 128) + 2` rounds. -/
theorem lz4_loop_terminates (L : Lz4Impl) (src : Bytes) (dstCap : Nat) :
    (lz4Decode L (Nat.log2 (255 * src.length + 64 + 64) + 2) dstCap src).isSome = true := by
  apply lz4Loop_terminates L src
  have h1 : 255 * src.length + 64 + 64 < 2 ^ (Nat.log2 (255 * src.length + 64 + 64) + 1) :=
    Nat.lt_log2_self
  have h2 : 1 * 2 ^ (Nat.log2 (255 * src.length + 64 + 64) + 1) ≤
      (reserveAtLeast dstCap (3 * src.length) + 64) * 2 ^ (Nat.log2 (255 * src.length + 64 + 64) + 1) :=
    Nat.mul_le_mul_right _ (by omega)
  omega

/-- …and on a source no destination size makes decodable it returns the ERROR (not data) -/
theorem lz4_malformed_returns_error (L : Lz4Impl) (src : Bytes)
    (hbad : ∀ n, ∃ e, L.ub src n = .error e) (dstCap : Nat) :
    ∃ len, lz4Decode L (Nat.log2 (255 * src.length + 64 + 64) + 2) dstCap src = some (none, len) := by
  have h := lz4_loop_terminates L src dstCap
  cases hv : lz4Decode L (Nat.log2 (255 * src.length + 64 + 64) + 2) dstCap src with
  | none => rw [hv] at h; simp at h
  | some v =>
    obtain ⟨o, len⟩ := v
    cases o with
    | none => exact ⟨len, rfl⟩
    | some out =>
      have := lz4Loop_ok_sound L src _ _ out len hv
      obtain ⟨e, he⟩ := hbad len
      rw [he] at this
      cases this

example : (∀ n, ∃ e, toyLz4.ub [0xFF, 1] n = .error e) ∧
    lz4Decode toyLz4 40 0 [0xFF, 1] = some (none, 1056) :=
  ⟨fun n => ⟨.malformed, by simp [toyLz4]⟩, by decide⟩

/-- F16 regression fact (before 6e9b6da): the loop retried on EVERY error (pierrec/lz4 reports
one `ErrInvalidSourceShortBuffer` for both causes).  On a source that no destination size makes
decodable, `Codec.Decode` never returned, for any `dst`: no fuel suffices. -/
theorem lz4_malformed_never_returns_before_fix (L : Lz4Impl) (src : Bytes)
    (hbad : ∀ n, ∃ e, L.ub src n = .error e) (fuel dstCap : Nat) :
    lz4DecodeBeforeFix L fuel dstCap src = none :=
  lz4LoopBeforeFix_rejecting L src hbad fuel _

example : (∀ n, ∃ e, toyLz4.ub [0xFF, 1] n = .error e) ∧
    lz4DecodeBeforeFix toyLz4 40 0 [0xFF, 1] = none :=
  ⟨fun n => ⟨.malformed, by simp [toyLz4]⟩, by decide⟩

/-! ## The block formats themselves (Snappy, LZ4): spec decoders and reference encoders

Not the third-party encoders (still assumed, and sampled by L1 against these very decoders), but:
the FORMATS admit lossless encoders, including ones that use overlapping back-references, and the
spec decoders `snappyDec` / `lz4Dec` of `PqModel/Spec/BlockCodecs.lean` invert them for EVERY input
(that their fuel is never exhausted on other streams is not proved). -/
open PqModel.Spec.BlockCodecs in
/-- Snappy block format: the spec decoder inverts the literal-only reference encoder and the
run-length reference encoder (one literal + overlapping copies at offset 1, split in pieces of
at most 64) on every input whose length fits the format's 32-bit preamble. -/
theorem snappy_dec_enc (x : List UInt8) (h : x.length < 4294967296) :
    snappyDec (snappyEncLit x) = .ok x ∧ snappyDec (snappyEncRle x) = .ok x := by
  have he := snappyElems_lits x.length x ((snappyLits x.length x).length + 1) #[]
    (Nat.le_refl _) (by omega)
  exact ⟨by simpa [snappyEncLit] using snappyDec_of_elems he (by simpa using h), PqModel.Spec.SnappyElems.snappyDec_encRle x h⟩

open PqModel.Spec.BlockCodecs in
example : snappyEncRle (List.replicate 70 7 ++ [1, 2, 2]) =
      [73, 0, 7, 254, 1, 0, 18, 1, 0, 0, 1, 0, 2, 2, 1, 0] ∧
    snappyDec [73, 0, 7, 254, 1, 0, 18, 1, 0, 0, 1, 0, 2, 2, 1, 0] = .ok (List.replicate 70 7 ++ [1, 2, 2]) ∧
    -- malformed streams are rejected, not guessed: offset beyond the output, wrong length
    snappyDec [3, 0, 7, 6, 5, 0] = .error .badOffset ∧ snappyDec [9, 0, 7, 6, 1, 0] = .error .badLength := by
  have h : snappyEncRle (List.replicate 70 7 ++ [1, 2, 2]) =
      [73, 0, 7, 254, 1, 0, 18, 1, 0, 0, 1, 0, 2, 2, 1, 0] := by decide +kernel
  exact ⟨h, h ▸ PqModel.Spec.SnappyElems.snappyDec_encRle _ (by decide), by decide +kernel, by decide +kernel⟩

open PqModel.Spec.BlockCodecs in
/-- LZ4 block format: the spec decoder inverts the reference encoder (literals; runs of 5 or more
as one literal and an overlapping match at offset 1, lengths with 255-extension bytes) on every
input. -/
theorem lz4_dec_enc (x : List UInt8) : lz4Dec (lz4EncSimple x) = .ok x :=
  PqModel.Spec.Lz4Seqs.lz4Dec_encSimple x

open PqModel.Spec.BlockCodecs in
example : lz4EncSimple (List.replicate 30 7 ++ [1, 2, 2]) = [31, 7, 1, 0, 10, 48, 1, 2, 2] ∧
    lz4Dec [31, 7, 1, 0, 10, 48, 1, 2, 2] = .ok (List.replicate 30 7 ++ [1, 2, 2]) ∧
    lz4Dec [] = .ok [] ∧ lz4Dec [0x10, 97, 0, 0] = .error .badOffset ∧
    lz4Dec [0x14, 97, 1, 0] = .error .truncated := by
  decide +kernel

/-! ## lz4 Encode: the destination handed to the block compressor (every dst capacity) -/

/-- lz4, `Codec.Encode` as it stands: whatever capacity the caller's dst has, the buffer handed to
`CompressBlock` has at least `CompressBlockBound(len(src))` bytes, so (contract of the
third-party compressor: it never gives up at or above the bound) Encode returns the block; and
with the decode loop (`lz4_loop_returns_valid`) `Decode(Encode(x)) = x` for EVERY pair of dst
capacities on the two sides. -/
theorem lz4_roundtrip_any_dst (E : Lz4EncImpl) (L : Lz4Impl) (enc : Bytes → Bytes) (need : Bytes → Nat)
    (hE : Lz4EncContract E enc) (hL : Lz4Contract L enc need) (x : Bytes) (capE capD : Nat) :
    (lz4Encode E capE x).1 = enc x ∧ lz4BlockBound x.length ≤ (lz4Encode E capE x).2 ∧
    ∃ len, lz4Decode L (Nat.log2 (need x) + 2) capD (lz4Encode E capE x).1 = some (some x, len) := by
  rw [lz4Encode_ok hE]
  refine ⟨rfl, reserveAtLeast_ge _ _, ?_⟩
  obtain ⟨j, _, h, _⟩ := lz4_loop_returns_valid L enc need hL x capD
  exact ⟨_, h⟩

example : Lz4EncContract toyLz4Enc2 PqModel.Spec.BlockCodecs.lz4LastSeq ∧
    lz4Encode toyLz4Enc2 1 [7] = ([16, 7], 17) :=
  ⟨toyLz4Enc2_contract, by decide⟩

/-- What the bound is for (regression fact about the variant "keep the caller's buffer when it
can hold the input" — NOT the code): a compressor that meets the contract
and gives up below the bound, as pierrec/lz4 does on incompressible data, makes that variant
return the EMPTY block, without error, for a dst of capacity `len(src)`. -/
theorem lz4_encode_keep_caller_buffer_loses_data :
    ∃ (E : Lz4EncImpl) (enc : Bytes → Bytes) (x : Bytes) (cap : Nat), Lz4EncContract E enc ∧
      x.length ≤ cap ∧ (lz4EncodeKeepCaller E cap x).1 = [] ∧ enc x ≠ [] ∧
      (lz4Encode E cap x).1 = enc x :=
  ⟨toyLz4Enc2, _, [7], 1, toyLz4Enc2_contract, by decide, by decide, by decide, by decide⟩

open PqModel.Spec.BlockCodecs in
/-- SPEC: the worst-case bound is enough. For every input there is an LZ4 block of at most
`len + len/255 + 16` bytes that the spec decoder reads back to the input (the literal-only
block), so a compressor CAN always succeed within `CompressBlockBound`. -/
theorem lz4_bound_admits_lossless_block (x : List UInt8) :
    ∃ b : List UInt8, b.length ≤ lz4BlockBound x.length ∧ lz4Dec b = .ok x :=
  ⟨lz4LastSeq x, lz4LastSeq_length_le x, lz4Dec_lastSeq x⟩

example : PqModel.Spec.BlockCodecs.lz4LastSeq (List.replicate 300 9) =
    [240, 255, 30] ++ List.replicate 300 9 ∧ lz4BlockBound 300 = 317 := by decide +kernel

end PqModel.Props.C20
