import PqModel.Generated.Facts

/-! # C16 — source-level facts: no Write entry point stores through the caller's rows; clones and
    reconstructed Go values are fresh

`Generated/Facts.lean` is rewritten by `tools/factgen` (family `callerwrites`) from the current source
on every run: for every method `WriteRows` / `WriteValues` / `WriteRowValues` of the root package taking
a `[]Row` or `[]Value`, the statements through which memory of that argument (the slice's own backing
array, or the `[]Value` arrays of the rows of a `[]Row`) may be written, found by a name-based,
flow-insensitive alias analysis over go/ast with summaries for the functions of the package
(`clearValues`, `clearRows`, `deduplicate`, ...). The repaired tree has none. Before the repair of
`filterRowWriter.WriteRows` the table was
`[("filterRowWriter.WriteRows", "clearValues(clear[i])")]` (filter.go:56).

The analysis is trusted (AST level, no types): it assumes that calls through the entry-point names and
through func-typed fields keep the documented contract, and it does not follow memory behind
`unsafe` casts or byte slices of BYTE_ARRAY values. -/
namespace PqModel.Props.FactsCheckC16
open PqModel.Generated

theorem no_caller_write_sites : callerWriteSites = [] := rfl

/-- the entry points of the reviewed source: a new `WriteRows` / `WriteValues` / `WriteRowValues`
    method changes the table and must be added to the L1 sweep (sub-check `writeside`) -/
def expectedEntryPoints : List String := [
  "Buffer.WriteRows", "ColumnWriter.WriteRowValues", "ConcurrentRowGroupWriter.WriteRows",
  "GenericBuffer.WriteRows", "GenericWriter.WriteRows", "RowBuffer.WriteRows", "RowWriterFunc.WriteRows",
  "SortingWriter.WriteRows", "ValueWriterFunc.WriteValues", "Writer.WriteRows",
  "be128ColumnBuffer.WriteValues", "booleanColumnBuffer.WriteValues", "bufferWriter.WriteRows",
  "bufferWriter.WriteValues", "byteArrayColumnBuffer.WriteValues", "dedupeRowWriter.WriteRows",
  "doubleColumnBuffer.WriteValues", "filterRowWriter.WriteRows", "fixedLenByteArrayColumnBuffer.WriteValues",
  "floatColumnBuffer.WriteValues", "indexedColumnBuffer.WriteValues", "int32ColumnBuffer.WriteValues",
  "int64ColumnBuffer.WriteValues", "int96ColumnBuffer.WriteValues", "multiRowWriter.WriteRows",
  "nullColumnBuffer.WriteValues", "optionalColumnBuffer.WriteValues", "repeatedColumnBuffer.WriteValues",
  "transformRowWriter.WriteRows", "uint32ColumnBuffer.WriteValues", "uint64ColumnBuffer.WriteValues",
  "writer.WriteRows", "writer.WriteValues"]

theorem write_entry_points_expected : writeEntryPoints = expectedEntryPoints := rfl

/-- the wrappers mirrored in `PqModel.WriteOwn` are entry points the analysis looked at -/
theorem mirrored_writers_are_entry_points :
    ∀ n ∈ ["filterRowWriter.WriteRows", "transformRowWriter.WriteRows", "dedupeRowWriter.WriteRows",
           "multiRowWriter.WriteRows", "RowBuffer.WriteRows"], n ∈ writeEntryPoints := by decide +kernel

/-! ## read side: clones and reconstructed Go values are fresh copies (family `freshcopies`)

The pool model's `clone` / `readGo` operations allocate (theorems `read_copies`, `readGo_allocates` of
`Props/C16.lean`). The two source facts that make this true of the code: -/

/-- `Value.Clone` (value.go) gives the clone its own copy of the bytes for exactly the kinds whose
    `Value` points to memory outside of it (`ByteArray`, `FixedLenByteArray`; all other kinds keep
    their payload in the `u64` field) -/
theorem clone_copies_every_pointer_kind : cloneCopiedKinds = ["ByteArray", "FixedLenByteArray"] := rfl

/-- constructors of fresh memory in package reflect -/
def freshConstructors : List String :=
  ["reflect.MakeSlice", "reflect.Zero", "reflect.New", "reflect.MakeMap", "reflect.MakeMapWithSize", "reflect.ValueOf"]

/-- every place where the Go-value reconstruction of row.go (`setMakeSlice`, `setNullSlice`,
    `reconstructFuncOf*`) sets the destination sets it to freshly constructed memory: a destination
    slice, map or pointer is never refilled in place, so rows kept from an earlier `Read` into the
    same destination cannot be reached by a later one -/
theorem destinations_are_set_to_fresh_memory :
    ∀ s ∈ destinationSetSites, s.2.1 ∈ freshConstructors := by decide +kernel

/-- the slice, the map and the pointer destinations are all among the sites (the fact is not vacuous) -/
theorem destination_sites_cover_slice_map_pointer :
    ("setMakeSlice", "reflect.MakeSlice", "v.Set(s)") ∈ destinationSetSites ∧
    ("reconstructFuncOfMap", "reflect.MakeMapWithSize", "value.Set(m)") ∈ destinationSetSites ∧
    ("reconstructFuncOfOptional", "reflect.New", "value.Set(reflect.New(value.Type().Elem()))") ∈ destinationSetSites := by
  decide +kernel

/-! ### the leaves: `Type.AssignValue` (type*.go)

The reconstruction functions above end in `typ.AssignValue(value, column[0])` (`reconstructFuncOfLeaf`),
where the leaf type of the READER'S schema meets whatever Go kind the destination field has ([]byte for
a FIXED_LEN_BYTE_ARRAY leaf when the schema is handed over explicitly). A destination slice that is
refilled in place when its capacity suffices (the change of seed C16-5a) overwrites the bytes of the
row the caller kept from the previous `Read` into the same batch. -/

theorem assign_value_sets_fresh_bytes :
    ∀ s ∈ assignValueSetBytesSites, s.2 = "copyBytes" := by decide +kernel

/-- no `AssignValue` method looks at or resizes the memory its destination already has: a slice
    destination is never refilled in place -/
theorem assign_value_never_reuses_destination : assignValueReuseSites = [] := rfl

/-- the two byte-slice cells (BYTE_ARRAY and FIXED_LEN_BYTE_ARRAY leaves) are among the sites -/
theorem assign_value_sites_cover_both_byte_leaves :
    ("byteArrayType.AssignValue", "copyBytes") ∈ assignValueSetBytesSites ∧
    ("fixedLenByteArrayType.AssignValue", "copyBytes") ∈ assignValueSetBytesSites ∧
    assignValueMethods ≥ 20 := by decide +kernel

/-- the slip of seed C16-5a on the extracted shape: a method with `SetLen` / `Bytes` on its destination
    is refused by the fact -/
example : [("fixedLenByteArrayType.AssignValue", "Cap"), ("fixedLenByteArrayType.AssignValue", "SetLen"),
           ("fixedLenByteArrayType.AssignValue", "Bytes")] ≠ ([] : List (String × String)) := by decide +kernel

end PqModel.Props.FactsCheckC16
