import PqModel.DremelLevels
import PqModel.TypedPath

/-! # C03 — All ingestion paths shred a Go value into the same Dremel column streams

A bare `example` after a theorem is a witness that the theorem's hypotheses can be met. -/
namespace PqModel.Props.C03
open PqModel.Dremel PqModel.NullScan PqModel.TypedPath

/-- Re-assembling the shredded columns of any conforming value of any well-formed schema yields the value. -/
theorem assemble_shred_roundtrip (n : Node) (v : Val) (hwf : wfN n = true) (hc : confN n v = true) :
    asmN n 0 0 (shredN n 0 0 0 v) = v :=
  assemble_shred n v hwf hc

/-- Levels are well-formed: for every schema and every value (conforming or not), column by column
in column order (`Pairs` relates the i-th stream with the i-th `(maxDef, maxRep)` pair of
`boundsN`), the stream of a row is non-empty, its first triple has repetition level 0, and every
triple has `def ≤ maxDef column` and `rep ≤ maxRep column`. -/
theorem shred_levels_wf (n : Node) (v : Val) :
    Pairs (fun (c : List Triple) (b : Nat × Nat) =>
        (∃ t ts, c = t :: ts ∧ t.rep = 0) ∧ ∀ t ∈ c, t.dfn ≤ b.1 ∧ t.rep ≤ b.2)
      (shredN n 0 0 0 v) (boundsN n 0 0) :=
  shredN_levels n 0 0 0 v (Nat.le_refl _)

/-- `boundsN` on `{ optional a; repeated group { optional b; required c } }` -/
example : boundsN (.group (.cons (.opt .leaf) (.cons (.rpt (.group (.cons (.opt .leaf) (.cons .leaf .nil)))) .nil))) 0 0
    = [(1, 0), (2, 1), (1, 1)] := by decide

/-! ## the null bitmap scan of optional non-pointer fields (typed path)

`acquireBitmap(n)` hands the scan `(n+63)/64` words when the bitmap comes from the pool and `n`
words when it is freshly allocated (`bitmap.go:29-34`), all zero, and `nullIndex` only sets bits
below `n`; the theorem needs neither the exact length nor the zero padding: `n ≤ 64 * words` is
enough, whatever the bits at and beyond `n` are. -/

/-- MIRROR `nullRuns` (the loop of `writeRowsFuncOfOptional` as repaired), for every bitmap and every
row count it can index: the loop finishes within `n` iterations without an index out of range, and
the runs it hands to `writeRows` are non-empty, contiguous, cover exactly `[0, n)`, every row of a
run is written null iff its bit is clear, and consecutive runs differ in kind. -/
theorem nullRuns_spec (ws : List (BitVec 64)) (n : Nat) (hn : n ≤ 64 * ws.length) :
    ∃ runs, nullRuns ws n = .ok runs ∧ Chain ws 0 n runs ∧ Alternates runs :=
  scan_spec ws n hn n 0 (Nat.zero_le _) (by omega)

example : (3 : Nat) ≤ 64 * [0b010#64].length := by decide

/-- The same, flattened: the kinds of the runs repeated over their lengths are the null pattern of
the rows `0 … n-1`. -/
theorem nullRuns_flatten (ws : List (BitVec 64)) (n : Nat) (hn : n ≤ 64 * ws.length) :
    ∃ runs, nullRuns ws n = .ok runs ∧
      runs.flatMap (fun r => List.replicate (r.j - r.i) r.isNull) =
        (List.range n).map (fun p => !bitAt ws p) := by
  rcases nullRuns_spec ws n hn with ⟨runs, h1, h2, _⟩
  refine ⟨runs, h1, ?_⟩
  rw [chain_flatten h2, List.range_eq_range', Nat.sub_zero]

/-- The scan before the repair (all-ones test against `(1<<y)-1`): rows null, value, null — the
third row is handed to `writeRows` as part of the non-null run. -/
theorem nullRuns_before_fix_witness :
    scanBeforeFix [0b010#64] 3 = .ok [⟨true, 0, 1⟩, ⟨false, 1, 3⟩] ∧
      bitAt [0b010#64] 2 = false ∧
      nullRuns [0b010#64] 3 = .ok [⟨true, 0, 1⟩, ⟨false, 1, 2⟩, ⟨true, 2, 3⟩] := by decide

/-- MIRROR `nullIndex` (portable kernel on a zeroed pool bitmap): `(n+63)/64` words, bit `p` set
exactly when row `p` exists and is not the zero value — so the precondition of `nullRuns_spec`
holds and the padding is zero. -/
theorem nullIndex_bits {α : Type} (nonzero : α → Bool) (vs : List α) :
    (nullIndex nonzero vs).length = (vs.length + 63) / 64 ∧
    vs.length ≤ 64 * (nullIndex nonzero vs).length ∧
    ∀ p, bitAt (nullIndex nonzero vs) p = (vs[p]?.map nonzero).getD false :=
  nullIndex_spec nonzero vs

/-- Path equivalence as a theorem about two Lean functions: for every Go type built from the
wrappers of `TNode` (required leaf, `optional` non-pointer leaf with its bitmap scan, struct,
pointer, slice, `list`, `optional`+`list`, map, `optional` map with the bitmap scan over nil-ness,
`optional` non-pointer struct with the bitmap scan over zero-ness, nested in any way; the leaf kinds with value conversions — narrow ints, time.Time, decimal, uuid
text — are leaves of the model, their payload being whatever the conversion yields) and every batch of rows — conforming
or not —, the MIRROR of the typed write path (`typedWrite`: the `writeRowsFunc` closures composed
over the level bookkeeping of the leaf column buffers, one call for the whole batch) appends to
every leaf column exactly the triples `shredN` (the reflection path; its inverse is
`assemble_shred_roundtrip`) emits for the rows, row after row. In particular the null positions of
both paths are the same. -/
theorem typed_eq_reflect (n : TNode) (batch : List Val) :
    typedWrite n batch = joinSegs (leavesN (erase n)) (batch.map (shredN (erase n) 0 0 0)) :=
  typedWrite_eq_shred n batch

/-- a conforming row of `struct { A int32 optional; B []struct{ P *int32; Q int32 optional }; C [][]int32 optional,list; D int32 }` -/
example :
    let T : TNode := .struct (.cons .optLeaf (.cons (.slice (.struct (.cons (.ptr .leaf) (.cons .optLeaf .nil))))
      (.cons (.optList (.list .leaf)) (.cons .leaf .nil))))
    let row : Val := .struct [.some (.prim 1),
      .list [.struct [.some (.prim 2), .none], .struct [.none, .some (.prim 3)]],
      .some (.struct [.list [.struct [.struct [.list [.struct [.prim 4], .struct [.prim 5]]]]]]), .prim 9]
    wfN (erase T) = true ∧ confN (erase T) row = true := by
  decide

/-- a conforming row of `struct { M map[K]V optional; L []struct{ N map[K]*V } }` -/
example :
    let T : TNode := .struct (.cons (.optMap .leaf .leaf) (.cons (.slice (.struct (.cons (.map .leaf (.ptr .leaf)) .nil))) .nil))
    let row : Val := .struct [.some (.struct [.list [.struct [.prim 1, .prim 2]]]),
      .list [.struct [.struct [.list [.struct [.prim 3, .none], .struct [.prim 4, .some (.prim 5)]]]], .struct [.struct [.list []]]]]
    wfN (erase T) = true ∧ confN (erase T) row = true := by
  decide

/-- The bitmap branch of `writeRowsFuncOfOptional` keeps any writer sound: if the wrapped
`writeRowsFunc` writes `shred` of its node, the absent node for the empty array, and one placeholder
per row for rows holding the zero value below its definition level (the three clauses of `Sound`),
then the optional wrapper — null index, run scan, one call per run — does the same for the optional
node, for every batch; in particular a null run of an ENCLOSING optional wrapper passes through it
as one null run. (Instances: the optional leaf of every kind, the optional map, the optional
non-pointer struct.) -/
theorem typed_optional_wrapper_sound {n : Node} {f : Nat → WriteRows} (h : Sound n f) :
    Sound (.opt n) (fun dm => wrOptional (leavesN n) (f (dm + 1))) :=
  wrOptional_sound h

example : Sound .leaf wrLeaf := wrLeaf_sound

/-- An `optional` map distinguishes the nil map (null: the placeholder entry of key and value sits
at the parent's definition level) from the empty non-nil map (present, no entries: one level up)
and from a populated map, on the typed path exactly as `shred` does — the three rows below give
definition levels 0, 1, 2 in the key and in the value column. -/
theorem typed_optional_map_nil_vs_empty :
    typedWrite (.struct (.cons (.optMap .leaf .leaf) .nil))
      [.struct [.none], .struct [.some (.struct [.list []])],
       .struct [.some (.struct [.list [.struct [.prim 7, .prim 8]]])]] =
    [[⟨none, 0, 0⟩, ⟨none, 0, 1⟩, ⟨some 7, 0, 2⟩], [⟨none, 0, 0⟩, ⟨none, 0, 1⟩, ⟨some 8, 0, 2⟩]] := by
  rw [typedWrite_eq_shred]
  decide

/-- Zero values below a node's definition level — what the rows of a null run of an enclosing
`optional` non-pointer field (zero scalar, nil map, zero struct) are for every field writer
underneath — are written as the absent node, once per row, by the typed writer of EVERY Go type of
`TNode`: the rows of a null run never show up as values or shift the streams of the columns below. -/
theorem typed_zero_rows_write_absent (n : TNode) (dm r k d c : Nat) (hd : d < dm) :
    tyN n dm r k d (List.replicate (c + 1) Val.none) =
      joinSegs (leavesN (erase n)) (List.replicate (c + 1) (absentN (erase n) r d)) :=
  (tyN_sound n dm r k).2.2 d hd c

example : (0 : Nat) < 1 := by decide

/-- An `optional` NON-pointer struct `struct{ X int32; Y string optional }`: the zero struct is null
(definition level 0 in both columns), any other value is present — the typed path (`typedWrite`,
bitmap scan over the struct null index) writes what `shred` writes. Rows: zero struct, `{7, ""}`,
`{0, "s"}` (the abstraction of the required zero scalar is a leaf without payload). -/
theorem typed_optional_struct_zero_is_null :
    typedWrite (.struct (.cons (.optStruct (.cons .leaf (.cons .optLeaf .nil))) .nil))
      [.struct [.none], .struct [.some (.struct [.prim 7, .none])],
       .struct [.some (.struct [.none, .some (.prim 9)])]] =
    [[⟨none, 0, 0⟩, ⟨some 7, 0, 1⟩, ⟨none, 0, 1⟩], [⟨none, 0, 0⟩, ⟨none, 0, 1⟩, ⟨some 9, 0, 2⟩]] := by
  rw [typedWrite_eq_shred]
  decide

/-- A map whose values carry the `optional` tag on a non-pointer Go type
(`map[K]V` with `parquet-value:",optional"`; `writeRowsFuncOfMap` wraps the
value writer with the optional wrapper): an entry holding the zero value is a null value one level
below an entry holding any other value, in the stream of the value column; the key column is not
affected. Rows: `{a: 0}`, `{a: 7, b: 0}`, nil map. -/
theorem typed_map_optional_value_zero_is_null :
    typedWrite (.struct (.cons (.map .leaf .optLeaf) .nil))
      [.struct [.struct [.list [.struct [.prim 1, .none]]]],
       .struct [.struct [.list [.struct [.prim 1, .some (.prim 7)], .struct [.prim 2, .none]]]],
       .struct [.none]] =
    [[⟨some 1, 0, 1⟩, ⟨some 1, 0, 1⟩, ⟨some 2, 1, 1⟩, ⟨none, 0, 0⟩],
     [⟨none, 0, 1⟩, ⟨some 7, 0, 2⟩, ⟨none, 1, 1⟩, ⟨none, 0, 0⟩]] := by
  rw [typedWrite_eq_shred]
  decide

/-- The typed path before /repo bf8591b (`nullIndexStruct` set every bit: a non-pointer
struct was never null): the zero struct of the first row is written one definition level up, as a present group,
whereas the repaired wrapper and `shred` (the reflection paths, `isNullValue`) write the null group. -/
theorem typed_optional_struct_before_fix_witness :
    wrOptionalAllPresent 2 (fun r k d vs => tyF (.cons .leaf (.cons .optLeaf .nil)) 1 r k d (vs.map fieldsOf))
        0 0 0 [.none, .some (.struct [.prim 7, .none])] =
      [[⟨none, 0, 1⟩, ⟨some 7, 0, 1⟩], [⟨none, 0, 1⟩, ⟨none, 0, 1⟩]] ∧
    wrOptional 2 (fun r k d vs => tyF (.cons .leaf (.cons .optLeaf .nil)) 1 r k d (vs.map fieldsOf))
        0 0 0 [.none, .some (.struct [.prim 7, .none])] =
      [[⟨none, 0, 0⟩, ⟨some 7, 0, 1⟩], [⟨none, 0, 0⟩, ⟨none, 0, 1⟩]] ∧
    joinSegs 2 ([Val.none, .some (.struct [.prim 7, .none])].map
        (shredN (.opt (.group (.cons .leaf (.cons (.opt .leaf) .nil)))) 0 0 0)) =
      [[⟨none, 0, 0⟩, ⟨some 7, 0, 1⟩], [⟨none, 0, 0⟩, ⟨none, 0, 1⟩]] := by
  decide +kernel

/-- `writeRowsFuncOfMap` dropping the optional wrapper for one value kind: MIRROR of the slip = `wrMap` over the bare leaf writer of the value column (maximum
definition level 2) instead of `wrOptional 1 (wrLeaf 2)`. The non-zero value 7 of the first entry
is written one definition level short, i.e. as a null, where the wrapper composition of the
unmodified code (`tyN (.map .leaf .optLeaf)`, equal to `shred` by `typed_eq_reflect`) stores it at
level 2; keys and the zero value agree. -/
theorem typed_map_value_wrapper_dropped_witness :
    wrMap 1 1 (wrLeaf 1) (wrLeaf 2) 0 0 0
        [.struct [.list [.struct [.prim 1, .some (.prim 7)], .struct [.prim 2, .none]]]] =
      [[⟨some 1, 0, 1⟩, ⟨some 2, 1, 1⟩], [⟨none, 0, 1⟩, ⟨none, 1, 1⟩]] ∧
    tyN (.map .leaf .optLeaf) 0 0 0 0
        [.struct [.list [.struct [.prim 1, .some (.prim 7)], .struct [.prim 2, .none]]]] =
      [[⟨some 1, 0, 1⟩, ⟨some 2, 1, 1⟩], [⟨some 7, 0, 2⟩, ⟨none, 1, 1⟩]] := by
  decide +kernel

end PqModel.Props.C03
