import PqModel.ColWriterRows

/-! # C11 — property theorems for the row path above `ColumnWriter` with `MaxRowsPerRowGroup`

Mirror: `PqModel.ColWriter.rgWriteRows` / `writerWriteRows` / `writeRowGroup` / `cwWrite`
(writer.go:1046-1079, 1895-1909, 1524-1572, 2419-2437), for one column of the row group (every
column is given the same rows). Spec side: `rowOK` (a row of a column starts at repetition level 0
and counts as one row) and the documented meaning of `MaxRowsPerRowGroup` (config.go:595-603: "the
maximum number of rows that a writer will produce in each row group"). -/
namespace PqModel.Props.C11ColWriterRows
open PqModel.ColWriter

theorem sum_group_rows {k : Kind} : ∀ (gs : List (Nat × List (List Val))),
    (∀ g ∈ gs, g.1 = bufLen k g.2.flatten) →
    (gs.map (·.1)).sum = bufLen k (gs.map fun g => g.2.flatten).flatten
  | [], _ => by simp [bufLen_nil]
  | g :: gs, h => by
    simp only [List.map_cons, List.sum_cons, List.flatten_cons, bufLen_append,
      sum_group_rows gs (fun g' hg' => h g' (by simp [hg'])), ← h g (by simp)]

/-- **The row path honours `MaxRowsPerRowGroup` and loses nothing**: `WriteRows(rows)` followed by
    the flush of `Close`, for every positive row limit, page buffer size, buffer kind and number of
    rows: the row groups written hold, one after the other, exactly the column's values of the rows;
    every row group holds at least one and at most `maxRows` rows, its `NumRows` is the number of
    rows of its pages, the row counts add up to the rows written, and nothing stays behind in the
    column writer. -/
theorem rowpath_honours_max_rows (k : Kind) (bufferSize maxRows : Nat) (hm : 0 < maxRows)
    (rows : List (List Val)) (hr : ∀ r ∈ rows, rowOK k r) :
    let s := writeRowGroup k (writerWriteRows k bufferSize maxRows (rows.length + 1) RGW.init rows)
    s.stream = rows.flatten ∧
    (∀ g ∈ s.groups, 0 < g.1 ∧ g.1 ≤ maxRows ∧ g.1 = bufLen k g.2.flatten) ∧
    (s.groups.map (·.1)).sum = rows.length ∧
    s.numRows = 0 ∧ s.col.pages = [] ∧ s.col.vals = [] := by
  obtain ⟨cur, hg⟩ := writerWriteRows_spec k bufferSize maxRows (rows.length + 1) RGW.init rows [] []
    (rgood_init k maxRows) hr (by simpa [RGW.init] using hm) (Nat.lt_succ_self _)
  obtain ⟨hw, h0, hp⟩ := rgood_writeRowGroup hg
  have hs := hw.stream
  rw [List.append_nil, List.nil_append] at hs
  refine ⟨hs, hw.groups, ?_, h0, hp, ?_⟩
  · rw [sum_group_rows _ (fun g hg' => (hw.groups g hg').2.2)]
    exact (congrArg (bufLen k) hs).trans (bufLen_flatten_rows rows hr)
  · have := hw.col.stream
    rw [hp] at this
    simpa using this

/-- hypotheses satisfiable, limit exercised: 5 rows of an optional column under
    `MaxRowsPerRowGroup(2)` are row groups of 2, 2 and 1 rows -/
example :
    let v : Val := ⟨true, false, 8⟩
    (writeRowGroup .optional (writerWriteRows .optional 1000 2 6 RGW.init (List.replicate 5 [v]))).groups.map (·.1)
      = [2, 2, 1] := by decide +kernel

example : ∀ r ∈ List.replicate 5 [(⟨true, false, 8⟩ : Val)], rowOK .optional r := by
  intro r h; rw [List.eq_of_mem_replicate h]; exact ⟨rfl, rfl⟩

/-- **The column-oriented path does not honour `MaxRowsPerRowGroup`** (mirror and library agree,
    reproduced on the real code by sub-check colwriter): `ColumnWriter.WriteRowValues` never looks
    at the row counter of the row group, so the same 5 rows written through the column writer under
    `MaxRowsPerRowGroup(2)` are ONE row group of 5 rows (`rg.numRows` stays 0). -/
theorem colpath_ignores_max_rows :
    let v : Val := ⟨true, false, 8⟩
    let s := cwWrite .optional 1000 RGW.init (List.replicate 5 v)
    s.numRows = 0 ∧ (writeRowGroup .optional s).groups.map (·.1) = [5] ∧
    ¬ (∀ g ∈ (writeRowGroup .optional s).groups, g.1 ≤ 2) := by decide +kernel

end PqModel.Props.C11ColWriterRows
