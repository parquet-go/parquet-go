import PqModel.ThriftSkipFuel

/-! C14, truncated and damaged footers: property theorems about the MIRROR of the footer decoder's
    structure walk (`PqModel.ThriftSkip`: `compactBytesReader` + `skipStruct` of encoding/thrift) and
    about `OpenFile`'s tail reading with that walk plugged in (`openWalk`). -/
namespace PqModel.Props.C14Footer
open PqModel.IoFault PqModel.ThriftSkip

theorem walk_rel (d : Bytes) (f m : Nat) :
    Rel 0 m (skipT d f (.fields true) 0) (skipT (d.take m) f (.fields true) 0) :=
  skipT_rel d m f _ 0

theorem skipStruct_ok_iff (d : Bytes) (e : Nat) :
    skipStruct d = .ok e ↔ skipT d (fuelFor d) (.fields true) 0 = .ok ((), e) := by
  unfold skipStruct
  split
  · rename_i u p h; rw [h]; constructor
    · intro h'; cases h'; rfl
    · intro h'; cases h'; rfl
  · rename_i e' h; rw [h]; constructor <;> intro h' <;> cases h'

/-- At any fixed fuel, the error a cut produces is one of the two end-of-input
classes (`io.EOF` / `io.ErrUnexpectedEOF`): the cut run reads the same bytes and takes the same
branches as the whole run up to the cut, so no range / overflow / type check can fire. -/
theorem walk_cut_class (d : Bytes) (f e m : Nat) (h : skipT d f (.fields true) 0 = .ok ((), e)) (hm : m < e) :
    skipT (d.take m) f (.fields true) 0 = .error .eof ∨ skipT (d.take m) f (.fields true) 0 = .error .ueof := by
  obtain ⟨err, h4, hc⟩ := ((walk_rel d f m () e h).2 (Nat.zero_le _)).2 hm
  rcases hc with hc | hc <;> subst hc
  · exact Or.inl h4
  · exact Or.inr h4

/-- at a fixed fuel the walk is local: bytes after the end of the struct do not matter, a cut at or
after the end changes nothing -/
theorem walk_local (d : Bytes) (f e m : Nat) (h : skipT d f (.fields true) 0 = .ok ((), e)) (hm : e ≤ m) :
    skipT (d.take m) f (.fields true) 0 = .ok ((), e) :=
  ((walk_rel d f m () e h).2 (Nat.zero_le _)).1 hm

/-- The fuel of the model (`4·|d| + 16`) is never exhausted: the mirror's
answer is that of the unbounded recursion. -/
theorem walk_never_out_of_fuel (d : Bytes) : skipStruct d ≠ .error .fuel := by
  unfold skipStruct
  have := skipStruct_nofuel d
  split
  · intro h; cases h
  · rename_i e he
    intro h
    injection h with h
    rw [h] at he
    exact this he

theorem skipStruct_take_fuel (d : Bytes) (m : Nat) :
    skipT (d.take m) (fuelFor d) (.fields true) 0 = skipT (d.take m) (fuelFor (d.take m)) (.fields true) 0 :=
  skipStruct_eq_of_fuel (d.take m) (fuelFor d) (by unfold fuelFor; rw [List.length_take]; omega)

/-- The cut of an accepted struct is rejected with `io.EOF` or
`io.ErrUnexpectedEOF`, nothing else. -/
theorem walk_cut_eof (d : Bytes) (e m : Nat) (h : skipStruct d = .ok e) (hm : m < e) :
    skipStruct (d.take m) = .error .eof ∨ skipStruct (d.take m) = .error .ueof := by
  rw [skipStruct_ok_iff] at h
  have hc := walk_cut_class d (fuelFor d) e m h hm
  rw [skipStruct_take_fuel] at hc
  unfold skipStruct
  rcases hc with hc | hc <;> rw [hc]
  · exact Or.inl rfl
  · exact Or.inr rfl

/-- If the decoder's structure walk accepts `d` as a struct that ends at
offset `e`, it rejects `d` cut anywhere before `e`: every proper prefix of a compact-thrift struct
encoding is an error, whatever follows the struct in `d`. No hypothesis on `d`. -/
theorem walk_cut_rejected (d : Bytes) (e m : Nat) (h : skipStruct d = .ok e) (hm : m < e) :
    ∃ err, skipStruct (d.take m) = .error err := by
  rcases walk_cut_eof d e m h hm with h' | h' <;> exact ⟨_, h'⟩

/-- A cut at or after the end of the struct changes nothing: the bytes that
follow a struct play no part in its acceptance. -/
theorem walk_cut_after (d : Bytes) (e m : Nat) (h : skipStruct d = .ok e) (hm : e ≤ m) :
    skipStruct (d.take m) = .ok e := by
  rw [skipStruct_ok_iff] at h ⊢
  rw [← skipStruct_take_fuel]
  exact walk_local d (fuelFor d) e m h hm

theorem walk_end_bounds (d : Bytes) (e : Nat) (h : skipStruct d = .ok e) : 0 < e ∧ e ≤ d.length :=
  fields_prog d _ true 0 () e ((skipStruct_ok_iff d e).1 h)

/-- `enc` is a complete struct encoding (the walk accepts it and ends
at its last byte): every strict prefix is rejected. -/
theorem encoding_prefix_rejected (enc : Bytes) (h : skipStruct enc = .ok enc.length) (m : Nat)
    (hm : m < enc.length) : ∃ err, skipStruct (enc.take m) = .error err :=
  walk_cut_rejected enc enc.length m h hm

/-- the same for the open path: a footer section that holds a proper prefix of an accepted struct makes
`footerWalk` fail with a thrift end-of-input error - never a success. -/
theorem footerWalk_cut (enc : Bool) (ft : Bytes) (e m : Nat) (h : skipStruct ft = .ok e) (hm : m < e) :
    footerWalk enc (ft.take m) = .error (.thrift .eof) ∨ footerWalk enc (ft.take m) = .error (.thrift .ueof) := by
  unfold footerWalk
  rcases walk_cut_eof ft e m h hm with he | he <;> rw [he]
  · exact Or.inl rfl
  · exact Or.inr rfl

theorem le32_le32Bytes (n : Nat) (h : n < 4294967296) : le32 (le32Bytes n) = n :=
  LE.leVal_four_bytes h

theorem openModel_fileWith (enc : Bool) (pre ft : Bytes) (hpre : 4 ≤ pre.length)
    (hmag : isMagic (pre.take 4) enc = true) (hlen : ft.length < 4294967296) :
    openModel enc (fileWith pre ft) = .ok ft := by
  have hlenf := length_fileWith pre ft
  have hhead : (fileWith pre ft).take 4 = pre.take 4 := by
    unfold fileWith
    rw [List.append_assoc, List.append_assoc, List.take_append_of_le_length hpre]
  have hn : le32 (((fileWith pre ft).drop ((fileWith pre ft).length - 8)).take 4) = ft.length := by
    rw [fileWith_trailer]
    exact le32_le32Bytes _ hlen
  -- `openWith_ok` from right to left: header magic, the residual shape of the tail, and which bytes are handed out
  refine (openWith_ok (slack := 0) (enc := enc) (f := fileWith pre ft) (ft := ft)).2
    ⟨⟨by omega, hhead ▸ hmag, by omega, ?_, by rw [hn]; omega⟩, ?_⟩
  · rw [show (fileWith pre ft).length - 4 = (fileWith pre ft).length - 8 + 4 by omega, ← List.drop_drop, fileWith_trailer]
    exact (by decide +kernel : isFooterMagic magicPAR1 = true)
  · rw [hn, hlenf, show pre.length + ft.length + 8 - 8 - ft.length = pre.length by omega]
    unfold fileWith
    rw [List.append_assoc, List.append_assoc, List.drop_left, List.take_left]

/-- Take any file whose footer section holds a struct the walk accepts in
full (`skipStruct ft = ok |ft|`), cut the footer anywhere (`k < |ft|`) and patch the announced length
to the cut: the open path reaches the decoder (magic, length and bounds all pass) and the decoder
rejects with an end-of-input error. With `prefix_rejected` (C14.lean: a file cut anywhere fails the trailer stage unless its
tail is again `len‖magic`) this covers both ways of truncating a file. -/
theorem cut_footer_rejected (enc : Bool) (pre ft : Bytes) (hpre : 4 ≤ pre.length)
    (hmag : isMagic (pre.take 4) enc = true) (hlen : ft.length < 4294967296)
    (hft : skipStruct ft = .ok ft.length) (k : Nat) (hk : k < ft.length) :
    openWalk enc (fileWith pre (ft.take k)) = .error (.thrift .eof) ∨
      openWalk enc (fileWith pre (ft.take k)) = .error (.thrift .ueof) := by
  have he := footerWalk_cut enc ft ft.length k hft hk
  unfold openWalk
  rw [openModel_fileWith enc pre (ft.take k) hpre hmag (by rw [List.length_take]; omega)]
  exact he

/-- an accepted file holds all of the footer it announces: the bytes handed to the decoder are
exactly `len` bytes long -/
theorem open_footer_length (enc : Bool) (f ft : Bytes) (h : openModel enc f = .ok ft) :
    ft.length = le32 ((f.drop (f.length - 8)).take 4) ∧ ft.length + 8 ≤ f.length := by
  obtain ⟨⟨_, _, _, _, hb⟩, rfl⟩ := openWith_ok.1 h
  rw [List.length_take, List.length_drop]
  omega

/-- The magic/length/bounds guards reject every file shorter than the
footer it announces plus the 8-byte trailer, whatever its bytes. -/
theorem short_file_rejected (enc : Bool) (f : Bytes)
    (h : f.length < le32 ((f.drop (f.length - 8)).take 4) + 8) :
    ∃ e, openModel enc f = .error e := by
  cases hr : openModel enc f with
  | error e => exact ⟨e, rfl⟩
  | ok ft =>
    exfalso
    have := open_footer_length enc f ft hr
    omega

/-- FileMetaData-shaped: `{1: i32 1, 2: list<struct>[{4: "a"}], 3: i64 0, 4: list<struct>[]}` -/
def tinyFooter : Bytes := [0x15, 0x02, 0x19, 0x1C, 0x48, 0x01, 0x61, 0x00, 0x16, 0x00, 0x19, 0x0C, 0x00]

example : skipStruct tinyFooter = .ok tinyFooter.length := by decide +kernel
example : ∀ m, m < tinyFooter.length → (skipStruct (tinyFooter.take m)).toBool = false := by decide +kernel
example : openWalk false (fileWith magicPAR1 tinyFooter) = .ok 13 := by decide +kernel
example : openWalk false (fileWith magicPAR1 (tinyFooter.take 7)) = .error (.thrift .ueof) := by decide +kernel
example : openWalk false (fileWith magicPAR1 []) = .error (.thrift .eof) := by decide +kernel
/-- trailing bytes after the struct: rejected unless they are 28 bytes and keys were given -/
example : openWalk false (fileWith magicPAR1 (tinyFooter ++ [0])) = .error (.trailing 1) := by decide +kernel
/-- damage other than a cut meets the other classes: an 11-byte varint, an i16 out of range, a type
code the decoder does not know -/
example : skipStruct [0x16, 0x80, 0x80, 0x80, 0x80, 0x80, 0x80, 0x80, 0x80, 0x80, 0x02, 0x00] = .error .overflow ∧
    skipStruct [0x14, 0xFF, 0xFF, 0x0F, 0x00] = .error .range ∧ skipStruct [0x1E, 0x00] = .error .badType := by decide +kernel
/-- a struct can end on a delta header whose type nibble is STOP (compact.go:507-509 then
decode.go:795): `0x10` closes the struct like `0x00` does — as in the code -/
example : skipStruct [0x15, 0x02, 0x10] = .ok 3 := by decide +kernel

end PqModel.Props.C14Footer
