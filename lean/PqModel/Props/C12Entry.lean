import PqModel.ConvertEntry
import PqModel.Props.C12
import PqModel.Generated.Facts

/-! # C12 — the entry points: when is the conversion skipped, and the deprecated
    `Reader` read with changing target types

`equalN`, `sameN`, `readVia`, `Rd.*` are MIRRORS (node.go, reader.go, row.go; see
`PqModel/ConvertEntry.lean`); `projN`, `shred`, `Rd.spec` are SPEC. `Generated.Facts.conv*` are
extracted from the library source by `tools/factgen` (family `convguards`) on every run. -/
namespace PqModel.Props.C12Entry
open PqModel.Dremel PqModel.Convert

/-- `EqualNodes` is equality of the named schemas (field order included). -/
theorem equal_nodes_iff (s t : PNode) : equalN s t = true ↔ s = t :=
  ⟨equalN_eq s t, fun h => h ▸ equalN_refl s⟩

/-- Projecting a conforming value onto its own schema changes nothing (unique field names). -/
theorem project_self (s : PNode) (v : Val) (hn : nodupN s = true) (hc : confN (eraseN s) v = true) :
    projN s s v = v := projN_self s v hn hc

/-- Skipping the conversion is right whenever the guard `EqualNodes(target, source)` holds: the
    stored row IS the shredded projection onto the target. -/
theorem skip_conversion_sound (src tgt : PNode) (v : Val)
    (hg : equalN tgt src = true) (hn : nodupN src = true) (hc : confN (eraseN src) v = true) :
    shred src v = shred tgt (projN src tgt v) := by
  have := equalN_eq tgt src hg
  subst this
  rw [projN_self tgt v hn hc]

/-- Every reader entry point (`if !EqualNodes(target, source) { convert }`) yields the shredded
    projection, for every target that deletes, permutes and widens fields at any depth: the guard
    never skips a conversion that was needed. All schemas, all conforming values. -/
theorem entry_read_correct (src tgt : PNode) (v : Val)
    (hsub : subN src tgt = true) (hwf : wfN (eraseN src) = true) (hn : nodupN src = true)
    (hc : confN (eraseN src) v = true) :
    readVia equalN src tgt (shred src v) = shred tgt (projN src tgt v) := by
  unfold readVia
  split
  · rename_i hg
    exact skip_conversion_sound src tgt v hg hn hc
  · exact PqModel.Props.C12.convert_shred src tgt v hsub hwf hc

example :
    let src : PNode := .group (.cons 1 .opt .leaf (.cons 2 .rpt (.group (.cons 5 .req .leaf (.cons 6 .opt .leaf .nil))) .nil))
    let tgt : PNode := .group (.cons 2 .rpt (.group (.cons 6 .opt .leaf (.cons 5 .req .leaf .nil))) (.cons 1 .opt .leaf .nil))
    let v : Val := .struct [.some (.prim 7), .list [.struct [.prim 1, .none], .struct [.prim 2, .some (.prim 3)]]]
    subN src tgt = true ∧ wfN (eraseN src) = true ∧ nodupN src = true ∧ confN (eraseN src) v = true ∧
      equalN tgt src = false ∧ sameN tgt src = true ∧
      readVia equalN src tgt (shred src v) =
        [[⟨none, 0, 1⟩, ⟨some 3, 1, 2⟩], [⟨some 1, 0, 1⟩, ⟨some 2, 1, 1⟩], [⟨some 7, 0, 1⟩]] := by decide +kernel

/-- `SameNodes` (field order ignored) is NOT a sound guard: for a target that is a pure permutation
    of the source it skips the conversion and the stored row is handed out under the target's
    column numbering — a value of column `a` comes out as column `b`. -/
theorem same_nodes_guard_unsound :
    let src : PNode := .group (.cons 1 .req .leaf (.cons 2 .req .leaf .nil))
    let tgt : PNode := .group (.cons 2 .req .leaf (.cons 1 .req .leaf .nil))
    let v : Val := .struct [.prim 10, .prim 20]
    subN src tgt = true ∧ nodupN src = true ∧ confN (eraseN src) v = true ∧ sameN tgt src = true ∧
      readVia sameN src tgt (shred src v) = [[⟨some 10, 0, 0⟩], [⟨some 20, 0, 0⟩]] ∧
      shred tgt (projN src tgt v) = [[⟨some 20, 0, 0⟩], [⟨some 10, 0, 0⟩]] := by decide +kernel

/-! ## which predicate the code uses (facts extracted from the source on every run) -/

/-- Every `if` condition of reader.go, row.go, convert.go, merge.go that compares two schemas does
    so with `EqualNodes` — the only guard `entry_read_correct` is proved for. -/
theorem entry_guards_are_equal_nodes :
    PqModel.Generated.Facts.convSchemaGuards.all (fun g => g.2 == "EqualNodes") = true := by decide +kernel

/-- Every call that installs a conversion stands under `EqualNodes` guards only (or under none:
    `Convert` and `ConvertRowGroup` decide for themselves, with `EqualNodes`). -/
theorem conversion_calls_guarded_by_equal_nodes :
    PqModel.Generated.Facts.convCalls.all (fun c => c.2.2.all (· == "EqualNodes")) = true := by decide +kernel

/-- The entry points of the property install a conversion: none of them lost its call. -/
theorem entry_points_convert :
    ["MergeRowGroups", "NewGenericReader", "NewGenericRowGroupReader", "NewReader", "NewRowGroupReader",
     "Reader.updateReadSchema", "convertRowGroupTo", "copyRows"].all
      (fun f => PqModel.Generated.Facts.convCalls.any (fun c => c.1 == f)) = true ∧
    ["Convert", "ConvertRowGroup"].all
      (fun f => PqModel.Generated.Facts.convSchemaGuards.any (fun g => g.1 == f)) = true := by
  decide +kernel

/-- a run from any state satisfying the invariant `Rd.ok` follows the specification -/
theorem run_ok {τ : Type} [DecidableEq τ] (n : Nat) : ∀ (ts : List τ) (st : Rd τ), st.ok →
    Rd.run Rd.init n st ts = Rd.spec n st.cur ts
  | [], _, _ => rfl
  | t :: ts, st, h => by
    obtain ⟨h1, h2, h3⟩ := Rd.read_ok n st t h
    simp only [Rd.run, Rd.spec, h1]
    rw [run_ok n ts _ h2, h3]

/-- The repaired reader: whatever the sequence of target types handed to `Read`, the k-th call
    yields row k seen through the target of THAT call (the row cursor is shared, the conversion is
    the current target's), then io.EOF. All histories, all file lengths. -/
theorem reader_retarget_correct {τ : Type} [DecidableEq τ] (n : Nat) (ts : List τ) :
    Rd.run Rd.init n Rd.fresh ts = Rd.spec n 0 ts :=
  run_ok n ts Rd.fresh ⟨rfl, rfl, fun _ h => by simp [Rd.fresh] at h⟩

example : Rd.run Rd.init 3 Rd.fresh ['A', 'B', 'B', 'A', 'A'] =
    [some ('A', 0), some ('B', 1), some ('B', 2), none, none] := by decide +kernel

/-- Regression fact: with `reader.init` as it stood before the repair (cached rows only rewound),
    `Read(&A)` then `Read(&B)` serves B's row through A's view. -/
theorem reader_retarget_before_fix :
    Rd.run Rd.initBeforeFix 3 Rd.fresh ['A', 'B', 'B'] = [some ('A', 0), some ('A', 1), some ('A', 2)] ∧
    Rd.spec 3 0 ['A', 'B', 'B'] = [some ('A', 0), some ('B', 1), some ('B', 2)] := by decide +kernel

end PqModel.Props.C12Entry
