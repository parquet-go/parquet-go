import PqModel.LogicalTimeLemmas

/-! # C01 — `time.Time` leaves: TIMESTAMP and DATE conversions round-trip

For every unit, every stored INT64 leaf is rebuilt into an instant that writes back to the same 64
bits (`timestamp_leaf_exact`), and every instant whose unit count fits `int64` — for MILLIS and
MICROS that is every `time.Time` Go can hold in years 1..9999 — reads back as itself cut down to the
unit (`timestamp_read_write`), hence unchanged exactly when it is a whole number of units
(`timestamp_exact_iff`). Same for DATE (`date_leaf_exact`, `date_read_write`, `date_day_holds`).
The read conversion before the repair violates this (`timestamp_old_violation`), and so did
`daysSinceUnixEpoch` (`date_old_violation`).
A bare `example` after a theorem is a witness that its hypotheses can be met. -/
namespace PqModel.Props.C01Logical
open PqModel.LogicalTime

theorem perSec_nanos (u : TUnit) : u.perSec * u.nanos = 1000000000 := perSec_mul_nanos u

/-- **Leaf exactness**: whatever 64 bits a TIMESTAMP column holds, the instant the reader builds
    from them converts back to the same bits. -/
theorem timestamp_leaf_exact (u : TUnit) (v : BitVec 64) : toUnit u (ofUnit u v) = v := by
  simp only [toUnit, unitsOf_ofUnit, BitVec.ofInt_toInt]
example : toUnit .milli (ofUnit .milli (-1#64)) = -1#64 := by decide

/-- **Read after write**: an instant whose unit count fits `int64` reads back as the instant cut
    down to the unit. -/
theorem timestamp_read_write (u : TUnit) (t : Instant) (hwf : t.nsec < 1000000000)
    (hlo : -(2 ^ 63) ≤ unitsOf u t) (hhi : unitsOf u t < 2 ^ 63) :
    ofUnit u (toUnit u t) = floorTo u t := by
  have hti : (toUnit u t).toInt = unitsOf u t := by
    rw [toUnit, BitVec.toInt_ofInt]
    exact Int.bmod_eq_of_le (by omega) (by omega)
  exact ofUnit_of_toInt u t hwf _ hti

/-- 3000-01-02T03:04:05Z -/
def year3000 : Instant := ⟨32503777445, 0⟩
example : year3000.nsec < 1000000000 ∧ -(2 ^ 63) ≤ unitsOf .milli year3000 ∧ unitsOf .milli year3000 < 2 ^ 63 := by
  simp only [year3000, unitsOf, TUnit.perSec, TUnit.nanos]; omega

/-- every instant of the years 1..9999 (`-62135596800 ≤ sec ≤ 253402300799`) fits MILLIS and MICROS -/
theorem go_time_range_fits (u : TUnit) (hu : u ≠ .nano) (t : Instant) (hwf : t.nsec < 1000000000)
    (hlo : -62135596800 ≤ t.sec) (hhi : t.sec ≤ 253402300799) :
    -(2 ^ 63) ≤ unitsOf u t ∧ unitsOf u t < 2 ^ 63 := by
  cases u <;> simp only [unitsOf, TUnit.perSec, TUnit.nanos, ne_eq, not_true_eq_false] at hu ⊢ <;> omega
example : (-62135596800 : Int) ≤ 32503777445 ∧ (32503777445 : Int) ≤ 253402300799 := by decide

/-- the instant survives unchanged exactly when it is a whole number of units -/
theorem timestamp_exact_iff (u : TUnit) (t : Instant) (hwf : t.nsec < 1000000000)
    (hlo : -(2 ^ 63) ≤ unitsOf u t) (hhi : unitsOf u t < 2 ^ 63) :
    ofUnit u (toUnit u t) = t ↔ t.nsec % u.nanos = 0 := by
  rw [timestamp_read_write u t hwf hlo hhi]
  obtain ⟨s, n⟩ := t
  simp only [floorTo, Instant.mk.injEq, true_and]
  constructor
  · intro h
    have := Nat.div_add_mod n u.nanos
    rw [Nat.mul_comm] at this
    omega
  · exact fun h => Nat.div_mul_cancel (Nat.dvd_of_mod_eq_zero h)
example : (123456000 : Nat) % TUnit.nanos .micro = 0 := by decide

/-- **Violation before the repair** (`time.Unix(0, v * unit)`): 3000-01-02T03:04:05Z on a
    TIMESTAMP(MILLIS) column is stored correctly and read back as an instant in 1830; 2300-01-01 on
    MICROS likewise. -/
theorem timestamp_old_violation :
    ofUnitOld .milli (toUnit .milli ⟨32503777445, 0⟩) = ⟨-4389710703, 580896768⟩ ∧
    ofUnit .milli (toUnit .milli ⟨32503777445, 0⟩) = ⟨32503777445, 0⟩ ∧
    ofUnitOld .micro (toUnit .micro ⟨10413792000, 0⟩) ≠ ⟨10413792000, 0⟩ := by decide

/-- whatever 32 bits a DATE column holds, the instant built from them converts back to them -/
theorem date_leaf_exact (d : BitVec 32) : toDays (ofDays d) = d := by
  have : dayOf (ofDays d) = d.toInt := by simp only [dayOf, ofDays]; omega
  simp only [toDays, this, BitVec.ofInt_toInt]
example : toDays (ofDays (-1#32)) = -1#32 := by decide

/-- an instant whose day fits `int32` reads back as the midnight (UTC) of its day … -/
theorem date_read_write (t : Instant) (hlo : -(2 ^ 31) ≤ dayOf t) (hhi : dayOf t < 2 ^ 31) :
    ofDays (toDays t) = ⟨dayOf t * 86400, 0⟩ := by
  have hti : (toDays t).toInt = dayOf t := by
    simp only [toDays]
    rw [BitVec.toInt_ofInt]
    have : (dayOf t).bmod (2 ^ 32) = dayOf t := by
      apply Int.bmod_eq_of_le <;> omega
    exact this
  simp only [ofDays, hti]

/-- … which holds the instant: before the epoch too (floor, not truncation) -/
theorem date_day_holds (t : Instant) : dayOf t * 86400 ≤ t.sec ∧ t.sec < dayOf t * 86400 + 86400 := by
  simp only [dayOf]; omega
example : dayOf ⟨-43200, 0⟩ = -1 ∧ -(2 ^ 31) ≤ dayOf ⟨-43200, 0⟩ ∧ dayOf ⟨-43200, 0⟩ < 2 ^ 31 := by decide

/-- **Violation before the repair** (`int(t.Sub(unixEpoch).Hours()) / 24`): 1969-12-31T12:00Z
    (−12 h) is day 0 instead of −1 (truncation), 2300-01-01 (2 892 720 h) is day 106 751 =
    2262-04-11 instead of 120 530 (`Sub` saturates). -/
theorem date_old_violation :
    toDaysOldHours (-12) = 0 ∧ dayOf ⟨-12 * 3600, 0⟩ = -1 ∧
    toDaysOldHours 2892720 = 106751 ∧ dayOf ⟨2892720 * 3600, 0⟩ = 120530 := by decide

end PqModel.Props.C01Logical
