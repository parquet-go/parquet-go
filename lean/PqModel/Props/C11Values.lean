import PqModel.CopyValues

/-! # C11 — property theorems for the value batches of the column-oriented re-encode path

Mirror: `PqModel.CopyValues.copyLoop` (writer_reencode.go:219-263 over column_chunk.go:123-150).
Spec: `StartsRow` (a data page starts at the beginning of a row). All statements are for every
source page structure, every buffer capacity and every row length. -/
namespace PqModel.Props.C11Values
open PqModel.CopyValues

variable {V : Type}

theorem startsRow_append_left {isStart : V → Bool} {a : List V} (b : List V)
    (h : StartsRow isStart a) : StartsRow isStart (a ++ b) := by
  obtain ⟨v, hv, hs⟩ := h
  cases a with
  | nil => simp at hv
  | cons x xs => exact ⟨v, by simpa using hv, hs⟩

theorem startsRow_of_append {isStart : V → Bool} {a b : List V}
    (h : StartsRow isStart (a ++ b)) (ha : a ≠ []) : StartsRow isStart a := by
  obtain ⟨v, hv, hs⟩ := h
  cases a with
  | nil => exact absurd rfl ha
  | cons x xs => exact ⟨v, by simpa using hv, hs⟩

theorem startsRow_take {isStart : V → Bool} {a : List V} {e : Nat}
    (h : StartsRow isStart a) (he : 0 < e) : StartsRow isStart (a.take e) := by
  obtain ⟨v, hv, hs⟩ := h
  cases a with
  | nil => simp at hv
  | cons x xs =>
    cases e with
    | zero => omega
    | succ n => exact ⟨v, by simpa using hv, hs⟩

/-- **The values written are the values read, in order**: when the loop ends on `io.EOF`, the
    batches handed to `WriteRowValues`, one after the other, are the held-back values followed by
    everything the reader had — for repeated and flat columns, every page structure of the source,
    every buffer capacity. -/
theorem copy_writes_the_stream (rep : Bool) (isStart : V → Bool) :
    ∀ (fuel : Nat) (pages : List (List V)) (cap : Nat) (pend : List V),
      (copyLoop rep isStart fuel pages cap pend).2 = .done →
      (copyLoop rep isStart fuel pages cap pend).1.flatten = pend ++ pages.flatten := by
  intro fuel pages cap pend
  -- cases of `copyLoop`: no fuel; EOF; no progress; a read (`buf`, cut `e`, new capacity, the rest `r`)
  fun_induction copyLoop rep isStart fuel pages cap pend with
  | case1 => intro h; cases h
  | case2 fuel pages cap pend hr =>
    intro _
    rw [readValues_none hr, List.append_nil]
    cases pend <;> simp
  | case3 => intro h; cases h
  | case4 fuel pages cap pend g got pages' hr buf e cap' r ih =>
    intro h
    have hs := readValues_some hr
    have := ih h
    rw [← hs, ← List.append_assoc]
    by_cases he : e > 0
    · simp only [he, if_true, List.flatten_cons]
      rw [show r.1.flatten = _ from this, ← List.append_assoc, List.take_append_drop]
    · simp only [he, if_false]
      rw [show r.1.flatten = _ from this, show e = 0 by omega, List.drop_zero]

/-- **Every batch ends at a row boundary** (repeated column): if what is to be written starts at
    the beginning of a row, every batch handed to `WriteRowValues` is non-empty and starts at the
    beginning of a row — hence so does every data page, wherever the column writer flushes. Holds
    however the loop ends. -/
theorem copy_batches_start_rows (isStart : V → Bool) :
    ∀ (fuel : Nat) (pages : List (List V)) (cap : Nat) (pend : List V),
      (pend ++ pages.flatten = [] ∨ StartsRow isStart (pend ++ pages.flatten)) →
      ∀ b ∈ (copyLoop true isStart fuel pages cap pend).1, StartsRow isStart b := by
  -- the loop ends (EOF or no progress) by writing what is held back
  have hlast : ∀ (pend rest b : List V), (pend ++ rest = [] ∨ StartsRow isStart (pend ++ rest)) →
      b ∈ (if pend.isEmpty then [] else [pend]) → StartsRow isStart b := by
    intro pend rest b h hb
    cases pend with
    | nil => simp at hb
    | cons x xs =>
      simp only [List.isEmpty_cons, Bool.false_eq_true, if_false, List.mem_singleton] at hb
      subst hb
      rcases h with h | h
      · simp at h
      · exact startsRow_of_append h (by simp)
  intro fuel pages cap pend
  fun_induction copyLoop true isStart fuel pages cap pend with
  | case1 => intro _ b hb; cases hb
  | case2 => intro h b; exact hlast _ _ b h
  | case3 => intro h b; exact hlast _ _ b h
  | case4 fuel pages cap pend g got pages' hr buf e cap' r ih =>
    intro h b hb
    have hs := readValues_some hr
    have hbuf : StartsRow isStart buf := by
      rcases h with h | h
      · rw [← hs] at h; simp at h
      · rw [← hs, ← List.append_assoc] at h
        exact startsRow_of_append h (by simp [buf])
    by_cases he : 0 < e
    · simp only [he, if_true, List.mem_cons] at hb
      rcases hb with rfl | hb
      · exact startsRow_take hbuf he
      · exact ih (Or.inr (startsRow_append_left _ (lastStart_spec isStart he).2)) b hb
    · simp only [he, if_false] at hb
      refine ih (Or.inr ?_) b hb
      rw [show e = 0 by omega, List.drop_zero]
      exact startsRow_append_left _ hbuf

/-- **The reader is always offered room, and the loop ends**: from a buffer that is not full
    (`copyColumnValues` starts with 1024 free slots) the loop never offers the reader an empty
    buffer — which would be `io.ErrNoProgress` from `columnChunkValueReader.ReadValues`, or a hang
    with a reader that answers `0, nil` — however long a single row is (the buffer doubles), and it
    ends on `io.EOF` after at most one iteration per value plus one. -/
theorem copy_terminates (rep : Bool) (isStart : V → Bool) :
    ∀ (fuel : Nat) (pages : List (List V)) (cap : Nat) (pend : List V),
      pend.length < cap → pages.flatten.length < fuel →
      (copyLoop rep isStart fuel pages cap pend).2 = .done := by
  intro fuel pages cap pend
  fun_induction copyLoop rep isStart fuel pages cap pend with
  | case1 => intro _ h; cases h
  | case2 => intro _ _; rfl
  | case3 fuel pages cap pend x hr => intro hp _; exact absurd rfl (readValues_progress (by omega) hr)
  | case4 fuel pages cap pend g got pages' hr buf e cap' r ih =>
    intro hp hf
    have hs := congrArg List.length (readValues_some hr)
    have hl := readValues_length_le hr
    simp only [List.length_append, List.length_cons] at hs hl
    apply ih
    · rw [List.length_drop]
      refine room_after_cut rep (by simp only [buf, List.length_append, List.length_cons]; omega)
        (by simp only [buf, List.length_append, List.length_cons]; omega) ?_
      cases rep
      · rfl
      · exact lastStart_lt isStart (by simp [buf])
    · omega

/-- `copyColumnValues` as a whole: with fuel beyond the number of values, the loop ends on EOF, has
    written exactly the source's values in order, and (repeated column, source starting at a row)
    every batch starts a row. -/
theorem copyColumnValues_correct (isStart : V → Bool) (pages : List (List V)) (fuel : Nat)
    (hf : pages.flatten.length < fuel)
    (h0 : pages.flatten = [] ∨ StartsRow isStart pages.flatten) :
    (copyColumnValues true isStart fuel pages).2 = .done ∧
    (copyColumnValues true isStart fuel pages).1.flatten = pages.flatten ∧
    ∀ b ∈ (copyColumnValues true isStart fuel pages).1, StartsRow isStart b := by
  have hd := copy_terminates true isStart fuel pages 1024 [] (by simp) hf
  exact ⟨hd, by simpa [copyColumnValues] using copy_writes_the_stream true isStart fuel pages 1024 [] hd,
    copy_batches_start_rows isStart fuel pages 1024 [] (by simpa using h0)⟩

/-- flat column: one batch per read, the values in order (every value is a row) -/
theorem copyColumnValues_flat (isStart : V → Bool) (pages : List (List V)) (fuel : Nat)
    (hf : pages.flatten.length < fuel) :
    (copyColumnValues false isStart fuel pages).2 = .done ∧
    (copyColumnValues false isStart fuel pages).1.flatten = pages.flatten := by
  have hd := copy_terminates false isStart fuel pages 1024 [] (by simp) hf
  exact ⟨hd, by simpa [copyColumnValues] using copy_writes_the_stream false isStart fuel pages 1024 [] hd⟩

/-- **Pages**: `ColumnWriter.WriteRowValues` cuts pages at ends of batches only, so the pages are
    the batches grouped in order; every page of every such grouping starts at the beginning of a row. -/
theorem pages_start_rows (isStart : V → Bool) (batches : List (List V))
    (hb : ∀ b ∈ batches, StartsRow isStart b) (groups : List (List (List V)))
    (hg : groups.flatten = batches) :
    ∀ g ∈ groups, g ≠ [] → StartsRow isStart g.flatten := by
  intro g hgm hne
  cases g with
  | nil => exact absurd rfl hne
  | cons b bs =>
    have : b ∈ batches := by
      rw [← hg]; exact List.mem_flatten.mpr ⟨b :: bs, hgm, by simp⟩
    simpa using startsRow_append_left bs.flatten (hb b this)

/-- The hypotheses are satisfiable and the buffer growth is exercised: capacity 2, rows of 3 and 2
    values in one source page: the first read fills the buffer with an unfinished row (the buffer
    doubles), the batches are the two rows. -/
example : copyLoop true id 10 [[true, false, false, true, false]] 2 [] =
    ([[true, false, false], [true, false]], .done) := by decide +kernel

example : StartsRow id [true, false, false, true, false] := ⟨true, rfl, rfl⟩

/-- **Holding back is necessary** (`repeated = false` is the loop of /repo before 7625e8d): the same
    source is written as batches that end in the middle of a row. -/
theorem copy_without_holdback_cuts_rows :
    ¬ ∀ b ∈ (copyLoop false id 10 [[true, false, false, true, false]] 2 []).1, StartsRow id b := by
  intro h
  have hb : [false, true] ∈ (copyLoop false id 10 [[true, false, false, true, false]] 2 []).1 := by decide +kernel
  obtain ⟨v, hv, hs⟩ := h _ hb
  simp only [List.head?_cons, Option.some.injEq] at hv
  subst hv
  simp at hs

end PqModel.Props.C11Values
