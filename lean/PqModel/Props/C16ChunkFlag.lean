import PqModel.PoolMixedTrace
/-! # C16, the per-chunk detach flag as the spy on the real reader observes it

Theorems about what sub-check `chunkflag` compares with the real `columnChunkValueReader`
(flag after every fetch, Release-versus-detach decision per page, touches of the page's values
buffer through kept rows): they tie the observable trace to `PoolMixed.chunkProgs`, the object of
`Props.C16Mixed`. -/
namespace PqModel.Props.C16ChunkFlag
open PqModel.PoolProto PqModel.PoolMixed

/-- For every chunk (any pages, any reads, any kept rows), both variants and every initial flag:
    the per-page decision read off `chunkProgs` (does the reader itself put the values buffer) is
    the negation of the traced flag, page by page. So comparing the flag after every fetch AND the
    release decision with the real reader pins down which pages `chunkProgs` lets the reader put. -/
theorem decision_is_traced_flag (slip fixedLen detach : Bool) (ps : List PageD) :
    (chunkProgs slip fixedLen detach ps).map hasPut = (flagTrace slip fixedLen detach ps).map (!·) := by
  induction ps generalizing detach with
  | nil => rfl
  | cons p ps ih => simp [chunkProgs, flagTrace, ih, hasPut_rowReaderProg]

example : (chunkProgs true true true [⟨false, 1, 1⟩, ⟨true, 1, 1⟩, ⟨false, 2, 3⟩]).map hasPut = [false, true, true] := by
  decide

/-- The code as it is, for every chunk: the flag `newRowGroupRows` set is observed unchanged after
    every fetch, no page's values buffer is put by the reader, and every page's program keeps the
    discipline (no touch after a put). -/
theorem mirror_observation (fixedLen : Bool) (ps : List PageD) :
    flagTrace false fixedLen true ps = List.replicate ps.length true ∧
    (chunkProgs false fixedLen true ps).map hasPut = List.replicate ps.length false ∧
    (chunkProgs false fixedLen true ps).map disc = List.replicate ps.length true := by
  refine ⟨flagTrace_mirror _ _ _, ?_, ?_⟩
  · rw [decision_is_traced_flag, flagTrace_mirror]; simp
  · rw [chunkProgs_mirror]
    simp only [List.map_map]
    induction ps with
    | nil => rfl
    | cons p ps ih => simp [List.replicate_succ, rowReaderProg_disc, ih]

example : (chunkProgs false true true [⟨true, 1, 1⟩, ⟨false, 2, 3⟩]).map hasPut = [false, false] := by decide

/-- The byte-carrying program with the flag down: every page is put by the reader, and the
    discipline breaks at exactly the PLAIN pages of which a row is kept. -/
theorem flag_down_observation (slip fixedLen : Bool) (ps : List PageD) :
    (chunkProgs slip fixedLen false ps).map hasPut = List.replicate ps.length true ∧
    (chunkProgs slip fixedLen false ps).map disc = ps.map fun p => p.keptTouches == 0 := by
  rw [chunkProgs_cleared]
  constructor
  · rw [List.map_map, ← List.map_const']
    exact List.map_congr_left fun p _ => hasPut_rowReaderProg false _ _
  · simp only [List.map_map]
    apply List.map_congr_left
    intro p _
    simp only [Function.comp]
    cases h : p.keptTouches with
    | zero => simp [rowReaderProg, disc, disc_replicate_append]
    | succ k => simpa using rowReaderSlip_disc p.nRead k

example : (chunkProgs false true false [⟨true, 1, 4⟩, ⟨false, 1, 0⟩, ⟨false, 2, 3⟩]).map disc = [true, true, false] := by
  decide

end PqModel.Props.C16ChunkFlag
