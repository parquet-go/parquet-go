import PqModel.SearchMultiIndex
import PqModel.SearchPagesF

/-! # C06 — Page search by value never misses a page that contains the value

The obligations of C06, in the order of the model files: a single column index (`Search.lean`: `binarySearch`,
`linearSearch`, `find` mirror search.go, where `Find` falls back to the linear search when the index has a null
page), the `multiColumnIndex` of several row groups (`SearchMulti.lean`, `SearchMultiIndex.lean`), the values of the pages
(`SearchPages.lean`), FLOAT / DOUBLE with NaN (`SearchNaN.lean`, `SearchPagesF.lean`). Values are ranks in a linear
order (`Int`), `none` = the null bound of a null page; every theorem holds for both null orderings (`nf`) a caller
may hand to `Find`. -/
namespace PqModel.Props.C06
open PqModel.Search

theorem binarySearch_first_no_null_pages (nf : Bool) {ix mn mx} (h : Ascending ix mn mx) (v : Int) :
    binarySearch nf ix v ≤ ix.n ∧
    (binarySearch nf ix v < ix.n → contains nf ix (binarySearch nf ix v) v = true) ∧
    (∀ i, i < ix.n → contains nf ix i v = true → binarySearch nf ix v ≤ i) :=
  binarySearch_first nf h v

example : Ascending { mins := [some (-5), some 7], maxs := [some (-3), some 9] }
    (fun i => if i = 0 then -5 else 7) (fun i => if i = 0 then -3 else 9) := by
  have mono : ∀ a b : Int, a ≤ b → ∀ i j : Nat, i ≤ j → (if i = 0 then a else b) ≤ (if j = 0 then a else b) :=
    fun a b hab i j hij => by
      by_cases hj : j = 0
      · rw [if_pos hj, if_pos (Nat.le_zero.mp (hj ▸ hij))]; exact Int.le_refl a
      · rw [if_neg hj]; split
        · exact hab
        · exact Int.le_refl b
  exact {
    len := rfl
    mins := by decide +kernel
    maxs := by decide +kernel
    smin := fun i j hij _ => mono (-5) 7 (by decide) i j hij
    smax := fun i j hij _ => mono (-3) 9 (by decide) i j hij
    le := fun i _ => by
      show (if i = 0 then (-5 : Int) else 7) ≤ (if i = 0 then (-3 : Int) else 9)
      split <;> decide }

/-- `linearSearch` returns the first page whose bounds contain `v`, else `n` — for EVERY index: null
    pages anywhere (they contain nothing), any order, overlapping or duplicate bounds, ragged lists. -/
theorem linear_correct (nf : Bool) (ix : Index) (v : Int) :
    linearSearch nf ix v ≤ ix.n ∧
    (linearSearch nf ix v < ix.n → contains nf ix (linearSearch nf ix v) v = true) ∧
    (∀ i, i < ix.n → contains nf ix i v = true → linearSearch nf ix v ≤ i) :=
  linearSearch_first nf ix v

example : linearSearch false f1 8 = 2 ∧ linearSearch true f1 8 = 2 := by decide +kernel

/-- `find` (the repaired dispatch of `Find`) never misses, for every index and every flag, as long as the
    flag is truthful in the only case the dispatch relies on it: flagged ascending AND no null page ⇒
    the index is ascending. Result: `find ≤ p` for every page `p` whose bounds contain `v` (so it is
    the first such page), the returned page contains `v`, else `find = n`. -/
theorem find_no_miss (nf asc : Bool) (ix : Index) (v : Int)
    (htruth : asc = true → hasNull ix = false → ∃ mn mx, Ascending ix mn mx) :
    find nf asc ix v ≤ ix.n ∧
    (find nf asc ix v < ix.n → contains nf ix (find nf asc ix v) v = true) ∧
    (∀ p, p < ix.n → contains nf ix p v = true → find nf asc ix v ≤ p) :=
  find_first nf asc ix v htruth

-- the premise holds trivially for the F1 index (it has a null page): the dispatch goes linear
example : find false true f1 8 = 2 ∧ find true true f1 8 = 2 := by decide +kernel

/-- The flag is truthful for every index the WRITER builds: `asc` is "the indexer computed ASCENDING"
    (`writerOrder z ix = 1`, null pages stored as the zero value `z`), bounds lists have equal length and
    every non-null page has `min ≤ max`. No hypothesis on null pages, truncation or duplicates. -/
theorem find_no_miss_writer (nf : Bool) (z : Int) (ix : Index) (v : Int)
    (hlen : ix.maxs.length = ix.mins.length)
    (hle : ∀ i a b, i < ix.n → minAt ix i = some a → maxAt ix i = some b → a ≤ b) :
    let r := find nf (writerOrder z ix == 1) ix v
    r ≤ ix.n ∧ (r < ix.n → contains nf ix r v = true) ∧ (∀ p, p < ix.n → contains nf ix p v = true → r ≤ p) :=
  find_first_writer nf z z ix v hlen hle

example : writerOrder 0 f1 = 1 ∧ find false (writerOrder 0 f1 == 1) f1 8 = 2 := by decide +kernel

/-- The same for the byte-array indexers with a size limit, whose null-page placeholders are truncated with the
    bounds and therefore differ between the min list (`zn`) and the max list (`zx`): BYTE_ARRAY and
    FIXED_LEN_BYTE_ARRAY with `ColumnIndexSizeLimit`. Truncated bounds are just wider bounds (`hle`). -/
theorem find_no_miss_writer_truncating (nf : Bool) (zn zx : Int) (ix : Index) (v : Int)
    (hlen : ix.maxs.length = ix.mins.length)
    (hle : ∀ i a b, i < ix.n → minAt ix i = some a → maxAt ix i = some b → a ≤ b) :
    let r := find nf (writerOrder2 zn zx ix == 1) ix v
    r ≤ ix.n ∧ (r < ix.n → contains nf ix r v = true) ∧ (∀ p, p < ix.n → contains nf ix p v = true → r ≤ p) :=
  find_first_writer nf zn zx ix v hlen hle

-- FIXED_LEN_BYTE_ARRAY(2), limit 1, pages null, (01xx..01xx): the null page stores 00 / 01, the flag is ASCENDING
example : writerOrder2 0 1 { mins := [none, some 1], maxs := [none, some 2] } = 1 ∧
    find false (writerOrder2 0 1 { mins := [none, some 1], maxs := [none, some 2] } == 1)
      { mins := [none, some 1], maxs := [none, some 2] } 2 = 1 := by decide +kernel

/-- the dispatch before the repair (binary search whenever flagged ascending) misses: F1 -/
theorem findUnguarded_misses : contains false f1 2 8 = true ∧ findUnguarded false true f1 8 = 3 := by decide +kernel

/-- the index the writer emits for an optional INT32 column sorted descending with nulls first and all values
    negative: a null page, then (-1,-2), (-3,-5); flagged DESCENDING (null pages are stored as 0). `find` with
    the nulls-first ordering finds -4 in page 2: the linear search may not stop at the null page. -/
example : writerOrder 0 { mins := [none, some (-2), some (-5)], maxs := [none, some (-1), some (-3)] } = 2 ∧
    find true false { mins := [none, some (-2), some (-5)], maxs := [none, some (-1), some (-3)] } (-4) = 2 := by decide +kernel

/-! ## The column-index view `Find` is called on for several row groups: `multiColumnIndex`

`Chunk` = one chunk's column index as the `ColumnIndex` interface shows it (null-page flags, bounds, its own
ASCENDING / DESCENDING answers). `…_before_fix` are
the adjacent-pair loops of `multiColumnIndex.IsAscending/IsDescending` before repair 5dcb05b. -/

/-- MIRROR = SPEC: reading the multi index page by page through `mapPageIndex` gives exactly the concatenation
    of the chunk indexes — bounds and null-page flags — for any number of chunks and pages (empty chunks too). -/
theorem multi_view_is_concatenation (cs : List Chunk) (hwf : ∀ c ∈ cs, c.WF) :
    multiView cs = concat cs ∧ multiViewNulls cs = concatNulls cs :=
  multiView_eq_concat cs hwf

/-- The recomputed ASCENDING answer implies the sortedness `binarySearch_first` needs, across the chunk borders
    as well. Hypotheses: `hnull` is the guard of `Find` (no null page in any chunk); `hbnd`: a chunk without null
    page has no null bound (true of `FileColumnIndex`/`formatColumnIndex`, whose bounds are decoded from bytes);
    `htruth`: the stored bounds of a chunk that claims ASCENDING pass the adjacent-pair check (true of the writer's
    flag: `writerOrder2_one`); `hle`: `min ≤ max` per page. `hne` (such a chunk has a page) is not used:
    `C06Multi.multi_ascending_sound_any_members` is this theorem without it. -/
theorem multi_ascending_sound (z : Int) (cs : List Chunk)
    (hwf : ∀ c ∈ cs, c.WF)
    (hnull : (concatNulls cs).any id = false)
    (hbnd : ∀ c ∈ cs, c.nulls.any id = false → hasNull c.ix = false)
    (hne : ∀ c ∈ cs, c.asc = true → 0 < c.n)
    (htruth : ∀ c ∈ cs, c.asc = true →
      isAsc (c.ix.mins.map (stored z)) = true ∧ isAsc (c.ix.maxs.map (stored z)) = true)
    (hle : ∀ c ∈ cs, ∀ i a b, i < c.n → minAt c.ix i = some a → maxAt c.ix i = some b → a ≤ b)
    (hflag : multiIsAscending z cs = true) :
    ∃ mn mx, Ascending (concat cs) mn mx :=
  multiAscending_sound_any z cs hwf hnull hbnd htruth hle hflag

/-- `Find` on the multi index of chunks the WRITER indexed (each chunk's ASCENDING answer is the boundary order
    the indexer computed, null pages stored as the zero value `z`) never misses: it returns the first page of the
    concatenation whose bounds contain `v`, else the total number of pages. Any number of row groups, null pages
    anywhere, overlapping / touching / disjoint chunk ranges, truncated (widened) and duplicate bounds. -/
theorem find_no_miss_multi_writer (nf : Bool) (z : Int) (cs : List Chunk) (v : Int)
    (hwf : ∀ c ∈ cs, c.WF)
    (hbnd : ∀ c ∈ cs, c.nulls.any id = false → hasNull c.ix = false)
    (hflag : ∀ c ∈ cs, c.asc = (writerOrder z c.ix == 1))
    (hle : ∀ c ∈ cs, ∀ i a b, i < c.n → minAt c.ix i = some a → maxAt c.ix i = some b → a ≤ b) :
    let r := findMultiGo nf z cs v
    r ≤ (concat cs).n ∧ (r < (concat cs).n → contains nf (concat cs) r v = true) ∧
    (∀ p, p < (concat cs).n → contains nf (concat cs) p v = true → r ≤ p) := by
  refine findMulti_no_miss_any nf z cs v hwf hbnd (fun c hc ha => ?_) hle
  have hw : writerOrder z c.ix = 1 := beq_iff_eq.mp ((hflag c hc).symm.trans ha)
  exact ⟨(writerOrder2_one z z c.ix hw).1, (writerOrder2_one z z c.ix hw).2.1⟩

/-- two row groups of two pages, (0,9) (10,50) | (60,69) (70,80): the hypotheses hold and the multi index is ASCENDING -/
def mDisjoint : List Chunk :=
  [ { nulls := [false, false], ix := { mins := [some 0, some 10], maxs := [some 9, some 50] }, asc := true, desc := false },
    { nulls := [false, false], ix := { mins := [some 60, some 70], maxs := [some 69, some 80] }, asc := true, desc := false } ]

example : (∀ c ∈ mDisjoint, c.WF) ∧ (∀ c ∈ mDisjoint, c.asc = (writerOrder 0 c.ix == 1)) ∧
    (concatNulls mDisjoint).any id = false ∧ multiIsAscending 0 mDisjoint = true ∧
    findMultiGo false 0 mDisjoint 75 = 3 := by decide +kernel

theorem mDisjoint_le : ∀ c ∈ mDisjoint, ∀ i a b, i < c.n → minAt c.ix i = some a → maxAt c.ix i = some b → a ≤ b := by
  intro c hc i a b hi ha hb
  rcases List.mem_cons.mp hc with rfl | hc
  · match i, hi with
    | 0, _ | 1, _ => cases ha; cases hb; decide
  · rcases List.mem_cons.mp hc with rfl | hc
    · match i, hi with
      | 0, _ | 1, _ => cases ha; cases hb; decide
    · cases hc

example := find_no_miss_multi_writer false 0 mDisjoint 75 (by decide +kernel) (by decide +kernel) (by decide +kernel) mDisjoint_le

/-- the layout of seeded change C06-3a, (0,9) (10,50) | (20,29) (30,60): each row group ascending, ranges overlap -/
def mOverlap : List Chunk :=
  [ { nulls := [false, false], ix := { mins := [some 0, some 10], maxs := [some 9, some 50] }, asc := true, desc := false },
    { nulls := [false, false], ix := { mins := [some 20, some 30], maxs := [some 29, some 60] }, asc := true, desc := false } ]

/-- the code's border check (max of the last page against min of the next first page) answers "not ascending",
    and `Find` (linear) returns page 1 for 50 -/
example : multiIsAscending 0 mOverlap = false ∧ findMultiGo false 0 mOverlap 50 = 1 := by decide +kernel

/-- A border check that compares the MIN of the last page with the min of the next first page ("pages may overlap as
    within a chunk") is not enough: the index is then claimed ascending and the binary search misses 50, held by page 1. -/
theorem border_check_on_min_misses :
    let crossMinMin : Chunk → Chunk → Bool := fun a b =>
      match lastNonNull a, firstNonNull b with
      | some i, some j => !decide (stored 0 (minAt a.ix i) > stored 0 (minAt b.ix j))
      | _, _ => true
    pairsAll crossMinMin mOverlap = true ∧ contains false (concat mOverlap) 1 50 = true ∧
    binarySearch false (concat mOverlap) 50 = 3 := by decide +kernel

/-- FINDING (before repair 78de8a3 in the sandbox clone): an EMPTY dictionary-encoded column buffer showed one page
    with null bounds that was NOT a null page (`indexedColumnIndex.NullPage` = false). Over the buffers (-5..-1),
    (empty), (10..12) the multi index is claimed ascending (the raw comparison reads the null bound as 0), `Find`'s
    null-page guard does not fire, and the binary search returns NumPages for 11, held by page 2. `hbnd` of
    `multi_ascending_sound` is exactly what this chunk violates. -/
theorem empty_dictionary_buffer_misses_before_fix :
    let cs : List Chunk :=
      [ { nulls := [false], ix := { mins := [some (-5)], maxs := [some (-1)] }, asc := true, desc := false },
        { nulls := [false], ix := { mins := [none], maxs := [none] }, asc := true, desc := false },
        { nulls := [false], ix := { mins := [some 10], maxs := [some 12] }, asc := true, desc := false } ]
    multiIsAscending 0 cs = true ∧ (concatNulls cs).any id = false ∧
    contains false (concat cs) 2 11 = true ∧ findMultiGo false 0 cs 11 = 3 := by decide +kernel

/-- the same buffers after the repair (the empty buffer's page is a null page): `Find` goes linear and finds page 2 -/
example :
    let cs : List Chunk :=
      [ { nulls := [false], ix := { mins := [some (-5)], maxs := [some (-1)] }, asc := true, desc := false },
        { nulls := [true], ix := { mins := [none], maxs := [none] }, asc := true, desc := false },
        { nulls := [false], ix := { mins := [some 10], maxs := [some 12] }, asc := true, desc := false } ]
    findMultiGo false 0 cs 11 = 2 := by decide +kernel

/-- REGRESSION FACT (before repair 5dcb05b; outside C06: `Find` never reads the DESCENDING answer): the old
    `multiColumnIndex.IsDescending` compared the FIRST page of a chunk with the LAST page of the next one, so
    (10,12) (1,2) | (8,9) (0,0) was claimed descending although the mins 10, 1, 8, 0 are not. The repaired loop
    (min of the last non-null page seen so far against the max of the next first one) answers false. -/
theorem multiIsDescending_unsound_before_fix :
    let cs : List Chunk :=
      [ { nulls := [false, false], ix := { mins := [some 10, some 1], maxs := [some 12, some 2] }, asc := false, desc := true },
        { nulls := [false, false], ix := { mins := [some 8, some 0], maxs := [some 9, some 0] }, asc := false, desc := true } ]
    multiIsDescending_before_fix 0 cs = true ∧ isDesc ((concat cs).mins.map (stored 0)) = false ∧
    multiIsDescending 0 cs = false := by decide +kernel

/-- REGRESSION FACT (before repair 5dcb05b): only ADJACENT chunks were compared and a chunk of null pages only was
    skipped on both sides, so (5,9) (10,12) | null null | (1,2) (3,4) was claimed ascending (`Find` was safe only
    through its null-page guard). The repaired loop carries the bound 12 across the null chunk and answers false. -/
theorem multiIsAscending_blind_across_null_chunk_before_fix :
    let cs : List Chunk :=
      [ { nulls := [false, false], ix := { mins := [some 5, some 10], maxs := [some 9, some 12] }, asc := true, desc := false },
        { nulls := [true, true], ix := { mins := [none, none], maxs := [none, none] }, asc := true, desc := false },
        { nulls := [false, false], ix := { mins := [some 1, some 3], maxs := [some 2, some 4] }, asc := true, desc := false } ]
    multiIsAscending_before_fix 0 cs = true ∧ multiIsAscending 0 cs = false ∧
    findMultiGo false 0 cs 3 = 5 ∧ findMultiGo true 0 cs 3 = 5 := by decide +kernel

/-- the repaired loops still accept what lines up: descending chunks (12,10) (9,8) | null | (7,7) (2,0) with a
    null chunk in between, and the ascending `mDisjoint` -/
example :
    let cs : List Chunk :=
      [ { nulls := [false, false], ix := { mins := [some 10, some 8], maxs := [some 12, some 9] }, asc := false, desc := true },
        { nulls := [true], ix := { mins := [none], maxs := [none] }, asc := true, desc := true },
        { nulls := [false, false], ix := { mins := [some 7, some 0], maxs := [some 7, some 2] }, asc := false, desc := true } ]
    multiIsDescending 0 cs = true ∧ multiIsAscending 0 mDisjoint = true := by decide +kernel

/-! ## C06 on the VALUES of the pages (`SearchPages.lean`)

The theorems above speak about recorded bounds. These start from what the pages hold: the index is built from
the values by the writer's steps (`indexOfPages`: null filter, `Page.Bounds`, `IndexPage`, boundary order), the
column order is the signed / unsigned comparison of bit patterns (`intKey`), and the conclusion is the property
as stated: a value held by page `p` is never answered with a page after `p`. -/

/-- For ANY bounds function that encloses the values in the column's order (`BoundsFor`: the contract of
    `Page.Bounds`, whichever kernel computes it): `Find` on the index built from the pages returns, for a value
    `x` of page `p`, a page `r ≤ p` whose recorded bounds contain `x`. Nulls anywhere, all-null pages, any number
    of pages and any arrangement of values; both null orderings of the compare function. -/
theorem find_no_miss_values {α} (nf : Bool) (z : Int) {bnd : List α → Option (α × α)} {key : α → Int}
    (hb : BoundsFor bnd key) (pages : List (List (Option α))) (p : Nat) (hp : p < pages.length) (x : α)
    (hx : some x ∈ pages.getD p []) :
    let ix := indexOfPages bnd key pages
    let r := find nf (writerOrder z ix == 1) ix (key x)
    r ≤ p ∧ r < ix.n ∧ contains nf ix r (key x) = true :=
  PqModel.Search.find_no_miss_values nf z hb pages p hp x hx

/-- The integer columns: INT32/INT64 (`signed = true`) and UINT32/UINT64 (`signed = false`) of width `w`, bounds
    by the portable loop (`Stats.bounds`, MIRROR of page_bounds_purego.go) in the column's own order. -/
theorem find_no_miss_int_values (nf signed : Bool) (w : Nat) (pages : List (List (Option (BitVec w)))) (p : Nat)
    (hp : p < pages.length) (x : BitVec w) (hx : some x ∈ pages.getD p []) :
    let ix := indexOfPages (intBounds signed w) (intKey signed w) pages
    let r := find nf (writerOrder 0 ix == 1) ix (intKey signed w x)
    r ≤ p ∧ r < ix.n ∧ contains nf ix r (intKey signed w x) = true :=
  PqModel.Search.find_no_miss_values nf 0 (intBounds_sound signed w) pages p hp x hx

/-- UINT64 pages sorted across 2^63 after an all-null page: flagged ASCENDING, searched linearly because of
    the null page, 2^63 + 5 found in page 2 -/
def uPages : List (List (Option (BitVec 64))) :=
  [[none, none], [some 1#64, some 9223372036854775807#64], [some 9223372036854775808#64, some 9223372036854775813#64]]

example : writerOrder 0 (indexOfPages (intBounds false 64) (intKey false 64) uPages) = 1 ∧
    find false true (indexOfPages (intBounds false 64) (intKey false 64) uPages) (intKey false 64 9223372036854775813#64) = 2 := by
  decide +kernel

example := find_no_miss_int_values false false 64 uPages 2 (by decide +kernel) 9223372036854775813#64 (by decide +kernel)

/-- page_bounds_amd64.go picks a kernel by the length of the page (`boundsDispatch`): as long as every kernel
    encloses the values in the column's order, the threshold is irrelevant to `Find`. -/
theorem find_no_miss_dispatched_kernels {α} (nf : Bool) (z : Int) (t : Nat) {big small : List α → Option (α × α)}
    {key : α → Int} (hbig : BoundsFor big key) (hsmall : BoundsFor small key)
    (pages : List (List (Option α))) (p : Nat) (hp : p < pages.length) (x : α) (hx : some x ∈ pages.getD p []) :
    let ix := indexOfPages (boundsDispatch t big small) key pages
    let r := find nf (writerOrder z ix == 1) ix (key x)
    r ≤ p ∧ r < ix.n ∧ contains nf ix r (key x) = true :=
  PqModel.Search.find_no_miss_values nf z (BoundsFor.dispatch t hbig hsmall) pages p hp x hx

example := find_no_miss_dispatched_kernels false 0 32113 (intBounds_sound false 64) (intBounds_sound false 64)
  uPages 1 (by decide +kernel) 1#64 (by decide +kernel)

/-- Seeded change C06-4a on the model: pages of at least `t` values of a UINT64 column get their bounds from the
    SIGNED kernel (here `t = 2`; the library's threshold is 32113). The page {1, 2^63} is recorded with
    min = 2^63 > max = 1, no page's bounds contain its values and `Find` answers NumPages for 1. The signed kernel
    does not satisfy `BoundsFor` under the unsigned key — the hypothesis `find_no_miss_dispatched_kernels` needs. -/
theorem signed_kernel_on_unsigned_column_misses :
    let pages : List (List (Option (BitVec 64))) := [[some 1#64, some 9223372036854775808#64], [some 7#64]]
    let ix := indexOfPages (boundsDispatch 2 (intBounds true 64) (intBounds false 64)) (intKey false 64) pages
    ix.mins = [some 9223372036854775808, some 7] ∧ ix.maxs = [some 1, some 7] ∧
    find false (writerOrder 0 ix == 1) ix (intKey false 64 1#64) = 2 ∧
    find false (writerOrder 0 ix == 1) ix (intKey false 64 7#64) = 1 := by decide +kernel

theorem signed_kernel_not_sound_for_unsigned_key : ¬ BoundsFor (intBounds true 64) (intKey false 64) := by
  intro h
  have := h.encloses [1#64, 9223372036854775808#64] 9223372036854775808#64 1#64 (by decide +kernel) 1#64 (by simp)
  revert this
  decide +kernel

/-! ## FLOAT / DOUBLE indexes with NaN bounds (`SearchNaN.lean`)

`Type.Compare` of the float types answers 0 against NaN, so bounds are `FB` = null | NaN | rank and the mirrors
`findF`, `binarySearchF`, `linearSearchF`, `writerOrderF` repeat search.go / column_index.go over them. They
coincide with the rank mirrors when no bound is NaN (`findF_toF`, `ranks_toF`). -/

/-- `Find` never misses on the index the FLOAT/DOUBLE indexers build, NaN pages included: same statement as
    `find_no_miss_writer`, `containsF` = the bounds test under the float comparison (a NaN bound excludes nothing). -/
theorem find_no_miss_writer_float (nf : Bool) (z : Int) (ix : FIndex) (v : Int)
    (hlen : ix.maxs.length = ix.mins.length)
    (hle : ∀ i a b, i < ix.n → minAtF ix i = .val a → maxAtF ix i = .val b → a ≤ b) :
    let r := findF nf (writerOrderF z ix == 1) ix v
    r ≤ ix.n ∧ (r < ix.n → containsF nf ix r v = true) ∧ (∀ p, p < ix.n → containsF nf ix p v = true → r ≤ p) :=
  findF_first_writer nf z ix v hlen hle

/-- pages (5,7), all-NaN, (1,3): no order is claimed; `Find` returns a page at or before page 2 for the probe 2 -/
def fNaN : FIndex := { mins := [.val 5, .nan, .val 1], maxs := [.val 7, .nan, .val 3] }

example : writerOrderF 0 fNaN = 0 ∧ findF false (writerOrderF 0 fNaN == 1) fNaN 2 = 1 ∧
    containsF false fNaN 2 2 = true := by decide +kernel

example := find_no_miss_writer_float false 0 fNaN 2 (by decide +kernel) (fun i a b hi ha hb =>
  match i, hi with
  | 0, _ | 2, _ => by cases ha; cases hb; decide
  | 1, _ => by cases ha)

/-- why the order claim must go: the binary search steps over the NaN page and misses page 2 (finding
    `boundary-order-false-nan-page`, repaired by 2854665) -/
theorem nan_page_binary_search_misses :
    containsF false fNaN 2 2 = true ∧ binarySearchF false fNaN 2 = 3 := by decide +kernel

/-- FLOAT / DOUBLE on the values (`SearchPagesF.lean`): pages of float bit patterns with NaN values among them,
    all-NaN pages and all-null pages, ANY bounds function keeping the float contract `BoundsForF` (bounds are values of
    the page; a bound that is not NaN encloses the non-NaN values on its side). A non-NaN value of page `p` is
    answered with a page `r ≤ p` whose recorded bounds contain it. -/
theorem find_no_miss_float_values {α} (nf : Bool) (z : Int) {bnd : List α → Option (α × α)} {key : α → Int}
    {nan : α → Bool} (hb : BoundsForF bnd key nan) (pages : List (List (Option α))) (p : Nat) (hp : p < pages.length)
    (x : α) (hx : some x ∈ pages.getD p []) (hxn : nan x = false) :
    let ix := indexOfPagesF bnd key nan pages
    let r := findF nf (writerOrderF z ix == 1) ix (key x)
    r ≤ p ∧ r < ix.n ∧ containsF nf ix r (key x) = true :=
  PqModel.Search.find_no_miss_float_values nf z hb pages p hp x hx hxn

/-- `floatPage.Bounds` / `doublePage.Bounds` (MIRROR `Stats.boundsNaN`: leading NaNs skipped, NaNs ignored, an all-NaN
    page reports a NaN pair) keeps the contract, for FLOAT (`e m = 8 23`) and DOUBLE (`11 52`) bit patterns -/
theorem float_bounds_keep_contract (e m : Nat) :
    BoundsForF (floatBounds e m) (PqModel.Stats.fKey e m) (PqModel.Stats.fIsNaN e m) :=
  floatBounds_sound e m

/-- DOUBLE pages {NaN, 1.0}, {NaN, NaN}, {-2.0, null}: bounds (1,1), (NaN,NaN), (-2,-2); no order is claimed, the
    linear search finds -2.0 in page 1 already (a NaN bound excludes nothing) — at or before page 2, as stated -/
def dPages : List (List (Option (BitVec 64))) :=
  [[some 0x7ff8000000000000#64, some 0x3ff0000000000000#64], [some 0x7ff8000000000000#64, some 0xfff8000000000001#64],
   [some 0xc000000000000000#64, none]]

example : (indexOfPagesF (floatBounds 11 52) (PqModel.Stats.fKey 11 52) (PqModel.Stats.fIsNaN 11 52) dPages).mins =
      [.val 4607182418800017408, .nan, .val (-4611686018427387904)] ∧
    writerOrderF 0 (indexOfPagesF (floatBounds 11 52) (PqModel.Stats.fKey 11 52) (PqModel.Stats.fIsNaN 11 52) dPages) = 0 ∧
    findF false false (indexOfPagesF (floatBounds 11 52) (PqModel.Stats.fKey 11 52) (PqModel.Stats.fIsNaN 11 52) dPages)
      (PqModel.Stats.fKey 11 52 0xc000000000000000#64) = 1 := by decide +kernel

example := find_no_miss_float_values false 0 (float_bounds_keep_contract 11 52) dPages 2 (by decide)
  0xc000000000000000#64 (by decide) (by decide)

end PqModel.Props.C06
