import PqModel.SchemaCache

/-! # C17, schema cache: the facts the L2 trace comparison of sub-check `cache` leans on

The harness (harness/props/c17_cache_l2.go) compares the real `cachedSchemas` with the MIRROR
`schemaOf` call by call, the derivation of call `n` instantiated as a fresh object. Activities that
derive inside the library (NewGenericWriter[T], NewGenericReader[T], …) may call
`schemaOf(T, replacements)` more than once; the harness feeds the mirror ONE call for them. The
theorems below are what makes that sound for every cache, every input and every pair of derivation
functions (the second call's derivation is another object): -/

namespace PqModel.Props.C17CacheTrace
open PqModel.SchemaCache

variable {Ty R S : Type} [DecidableEq Ty]

/-- a call with replacements leaves the cache alone and returns its own derivation (the code, `flat = false`) -/
theorem schemaOf_uncacheable (d : Ty → List R → S) (c : Cache Ty S) (i : Ty × List R)
    (h : i.2.isEmpty = false) : schemaOf d false c i = (d i.1 i.2, c) := by
  simp [schemaOf, h]

/-- after a call without replacements the cache holds what the call returned -/
theorem schemaOf_cacheable_entry (d : Ty → List R → S) (c : Cache Ty S) (i : Ty × List R)
    (h : i.2.isEmpty = true) :
    lookup (schemaOf d false c i).2 i.1 = some (schemaOf d false c i).1 := by
  cases hl : lookup c i.1 with
  | some s => simp [schemaOf, h, hl]
  | none => simp [schemaOf, h, hl, loadOrStore, lookup]

/-- repeating a call (its derivation being ANOTHER object) changes nothing in the cache, whether or
    not it has replacements … -/
theorem schemaOf_again_cache (d d' : Ty → List R → S) (c : Cache Ty S) (i : Ty × List R) :
    (schemaOf d' false (schemaOf d false c i).2 i).2 = (schemaOf d false c i).2 := by
  cases h : i.2.isEmpty with
  | false => simp [schemaOf_uncacheable, h]
  | true =>
    have he := schemaOf_cacheable_entry d c i h
    generalize (schemaOf d false c i).2 = c1 at he ⊢
    simp [schemaOf, h, he]

/-- … and without replacements the repeated call returns the very object of the first (a hit) -/
theorem schemaOf_again_hit (d d' : Ty → List R → S) (c : Cache Ty S) (i : Ty × List R)
    (h : i.2.isEmpty = true) :
    (schemaOf d' false (schemaOf d false c i).2 i).1 = (schemaOf d false c i).1 := by
  have he := schemaOf_cacheable_entry d c i h
  generalize (schemaOf d false c i).1 = r, (schemaOf d false c i).2 = c1 at he ⊢
  simp [schemaOf, h, he]

/-- a call never touches the entry of another type (either variant): the nested struct type of the
    harness, which no call names, never gets an entry -/
theorem schemaOf_other_key (d : Ty → List R → S) (flat : Bool) (c : Cache Ty S) (i : Ty × List R)
    (k : Ty) (hk : i.1 ≠ k) : lookup (schemaOf d flat c i).2 k = lookup c k := by
  unfold schemaOf loadOrStore
  cases i.2.isEmpty <;> cases flat <;> cases lookup c i.1 <;> simp [lookup, hk]

/-- the hypotheses are satisfiable and the statements say something: from an empty cache, a call
    with a replacement stores nothing, the default call stores object 1, its repetition returns 1 -/
example :
    let d (n : Nat) : Nat → List Nat → Nat × List Nat := fun _ rs => (n, rs)
    let c1 := (schemaOf (d 0) false ([] : Cache Nat (Nat × List Nat)) (7, [3])).2
    let c2 := (schemaOf (d 1) false c1 (7, [])).2
    c1 = [] ∧ lookup c2 7 = some (1, []) ∧ (schemaOf (d 2) false c2 (7, [])).1 = (1, []) ∧
      lookup c2 8 = none := by decide +kernel

end PqModel.Props.C17CacheTrace
