import PqModel.ThriftDecodeAlloc
import PqModel.ThriftDecodeFuel
import PqModel.ThriftDecodeCut
import PqModel.Props.C14Footer

/-! C14, the TYPED footer decoder (`PqModel.ThriftDecode`: MIRROR of `structDecoder.decode`,
    `decodeFuncSliceOf` / `Slice[T].DecodeFunc`, the scalar decoders and `unionDecoder.decode` of
    encoding/thrift over the bytes-backed compact reader, driven by a schema description).
    All theorems hold for every schema `fs`, every input `d` and every allocator `mem`. -/
namespace PqModel.Props.C14TypedDecode
open PqModel.IoFault PqModel.ThriftSkip PqModel.ThriftDecode PqModel.Props.C14Footer

theorem decT_fields_walk (mem : Option Nat) (fs : List FieldD) (d : Bytes) (f e : Nat)
    (h : decT mem d f (.fields fs true 0 []) 0 = .ok e) : skipStruct d = .ok e :=
  PqModel.ThriftSkipWrite.Acc.skipStruct (decT_walk mem d f _ 0 e h)

/-- Whatever the schema, the typed decoder accepts only inputs the
structure walk accepts and consumes exactly the bytes the walk consumes (`r.BytesRead()` is the end of
the struct): unknown fields, fields and lists of another type than the schema's, coalesced booleans,
unions and nested lists never make it read more or less than `skipStruct`. -/
theorem typed_reads_what_walk_reads (mem : Option Nat) (fs : List FieldD) (d : Bytes) (e : Nat)
    (h : decStruct mem fs d = .ok e) : skipStruct d = .ok e :=
  decT_fields_walk mem fs d _ e h

theorem typed_end_bounds (mem : Option Nat) (fs : List FieldD) (d : Bytes) (e : Nat)
    (h : decStruct mem fs d = .ok e) : 0 < e ∧ e ≤ d.length :=
  walk_end_bounds d e (typed_reads_what_walk_reads mem fs d e h)

/-- If the typed decoder accepts `d` as a struct ending at `e`, then `d`
cut anywhere before `e` is accepted by NO run of the typed decoder - at any fuel (so the statement
does not depend on the model's fuel), under any schema and any allocator. -/
theorem typed_cut_never_accepted (mem : Option Nat) (fs : List FieldD) (d : Bytes) (e m : Nat)
    (h : decStruct mem fs d = .ok e) (hm : m < e)
    (mem' : Option Nat) (fs' : List FieldD) (f e' : Nat) :
    decT mem' (d.take m) f (.fields fs' true 0 []) 0 ≠ .ok e' := by
  intro hc
  have h1 := decT_fields_walk mem' fs' (d.take m) f e' hc
  obtain ⟨err, h2⟩ := walk_cut_rejected d e m (typed_reads_what_walk_reads mem fs d e h) hm
  rw [h1] at h2
  cases h2

/-- Every strict prefix of an accepted struct is rejected. -/
theorem typed_cut_rejected (mem : Option Nat) (fs : List FieldD) (d : Bytes) (e m : Nat)
    (h : decStruct mem fs d = .ok e) (hm : m < e) :
    ∃ err, decStruct mem fs (d.take m) = .error err := by
  cases hc : decStruct mem fs (d.take m) with
  | error err => exact ⟨err, rfl⟩
  | ok e' => exact absurd hc (typed_cut_never_accepted mem fs d e m h hm mem fs _ e')

/-- `thrift.Unmarshal` (decode, then no trailing bytes) accepts no strict
prefix of an input it accepts: a footer cut anywhere is an error of the typed decoder. -/
theorem unmarshal_prefix_rejected (mem : Option Nat) (fs : List FieldD) (d : Bytes) (m : Nat)
    (h : unmarshal mem fs d = .ok ()) (hm : m < d.length) :
    ∃ err, unmarshal mem fs (d.take m) = .error (.dec err) := by
  unfold unmarshal at h
  cases hd : decStruct mem fs d with
  | error e => rw [hd] at h; cases h
  | ok e =>
    rw [hd] at h
    simp only at h
    split at h
    · cases h
    · rename_i hz
      have hb := typed_end_bounds mem fs d e hd
      have he : e = d.length := by
        have : d.length - e = 0 := by simpa using hz
        omega
      obtain ⟨err, h2⟩ := typed_cut_rejected mem fs d e m hd (by omega)
      exact ⟨err, by unfold unmarshal; rw [h2]⟩

/-- the check after STOP passes exactly when every required field of the schema was seen -/
theorem firstMissing_none_iff (fs : List FieldD) (seen : List Int) :
    firstMissing fs seen = none ↔ ∀ fd ∈ fs, fd.2.1 = true → fd.1 ∈ seen := by
  rw [firstMissing_eq_min, List.min?_eq_none_iff, missingIds, List.map_eq_nil_iff, List.filter_eq_nil_iff]
  exact forall₂_congr fun fd _ => by cases fd.2.1 <;> simp

/-- When the field loop of `structDecoder.decode` meets STOP (the reader
answers a STOP header at `pos`) while a required field of the schema has not been seen, the decoder
answers `MissingField` for a required, unseen field - whatever was read before; it accepts at a STOP
only if every required field has been seen. -/
theorem missing_required_reported (mem : Option Nat) (d : Bytes) (f : Nat) (fs : List FieldD)
    (first : Bool) (last : Int) (seen : List Int) (pos p : Nat)
    (hstop : readFieldT d pos = .ok (none, p)) :
    (∀ fd ∈ fs, fd.2.1 = true → fd.1 ∈ seen) ∧ decT mem d (f + 1) (.fields fs first last seen) pos = .ok p
    ∨ ∃ fd ∈ fs, fd.2.1 = true ∧ fd.1 ∉ seen ∧
        decT mem d (f + 1) (.fields fs first last seen) pos = .error (.missing fd.1) := by
  simp only [decT, hstop, lift]
  cases hc : firstMissing fs seen with
  | none => exact Or.inl ⟨(firstMissing_none_iff fs seen).1 hc, rfl⟩
  | some id =>
    obtain ⟨fd, hm, hr, hn, he⟩ := firstMissing_some fs seen id hc
    exact Or.inr ⟨fd, hm, hr, hn, by rw [he]⟩

/-- the empty struct is rejected by every schema that has a required field -/
theorem empty_struct_missing (mem : Option Nat) (fs : List FieldD) (fd : FieldD) (hm : fd ∈ fs)
    (hr : fd.2.1 = true) : ∃ id, decStruct mem fs [0] = .error (.missing id) := by
  have hstop : readFieldT [0] 0 = .ok (none, 1) := by decide +kernel
  rcases missing_required_reported mem [0] (fuelD [0] - 1) fs true 0 [] 0 1 hstop with ⟨hall, _⟩ | ⟨fd', _, _, _, h⟩
  · exact absurd (hall fd hm hr) (by simp)
  · exact ⟨fd'.1, h⟩

/-- a cut-down `format.FileMetaData`: 1 version i32, 2 schema list<struct>, 3 num_rows i64,
    4 row_groups list<struct{1: list<struct{}>, 2: i64, 3: i64}>, all required; 5 key/values optional -/
def miniMeta : List FieldD :=
  [(1, true, .i32), (2, true, .list (.struct [(4, true, .binary)])), (3, true, .i64),
   (4, true, .list (.struct [(1, true, .list (.struct [])), (2, true, .i64), (3, true, .i64)])),
   (5, false, .list (.struct [(1, true, .binary), (2, false, .binary)]))]

/-- version=1, schema=[{name="r"}], num_rows=0, row_groups=[] -/
def miniFooter : Bytes := [0x15, 0x02, 0x19, 0x1c, 0x48, 0x01, 0x72, 0x00, 0x16, 0x00, 0x19, 0x0c, 0x00]

example : decStruct none miniMeta miniFooter = .ok miniFooter.length := by decide +kernel
example : unmarshal none miniMeta miniFooter = .ok () := by decide +kernel
example : ∀ m, m < miniFooter.length → (decStruct none miniMeta (miniFooter.take m)).toBool = false := by decide +kernel

/-- `miniFooter` without `num_rows` (field 3) is a
well-formed struct for the walk and a `MissingField 3` for the typed decoder; with the element of
`schema` lacking its required name the nested struct reports `MissingField 4`. -/
theorem missing_field_witness :
    skipStruct [0x15, 0x02, 0x19, 0x1c, 0x48, 0x01, 0x72, 0x00, 0x29, 0x0c, 0x00] = .ok 11 ∧
    decStruct none miniMeta [0x15, 0x02, 0x19, 0x1c, 0x48, 0x01, 0x72, 0x00, 0x29, 0x0c, 0x00] = .error (.missing 3) ∧
    decStruct none miniMeta [0x15, 0x02, 0x19, 0x1c, 0x00, 0x16, 0x00, 0x19, 0x0c, 0x00] = .error (.missing 4) := by
  decide +kernel

/-- The announced list length is NOT checked against the remaining
input before the slice is allocated (decode.go:259-267 `reflect.MakeSlice(t, size, size)`, list.go:79-85
`make(Slice[T], size)`): on this 9-byte input (version, then `schema` announcing 2^31-1 structs and
nothing else) the decoder asks the allocator for 2147483647 elements - an allocator that grants at most as
many elements as the input has bytes refuses -, and only when the allocation is granted does it find the
input short (io.ErrUnexpectedEOF). -/
theorem announced_list_size_not_bounded :
    let d : Bytes := [0x15, 0x02, 0x19, 0xfc, 0xff, 0xff, 0xff, 0xff, 0x07]
    decStruct (some d.length) miniMeta d = .error (.oom 2147483647) ∧
    decStruct none miniMeta d = .error (.sk .ueof) := by
  decide +kernel

/-- The positive half: on every input the decoder ACCEPTS, every list size
it handed to the allocator was at most the number of input bytes (each element consumes at least one byte),
so the run under an allocator bounded by `d.length` elements per slice is the same accepting run. The
unbounded allocation is confined to inputs that are then rejected. -/
theorem accepted_alloc_bounded (fs : List FieldD) (d : Bytes) (e : Nat)
    (h : decStruct none fs d = .ok e) : decStruct (some d.length) fs d = .ok e :=
  decT_alloc d _ (fun n hn => by simpa [over] using hn) _ _ 0 e h

/-- The fuel of the mirror is never exhausted: `decStruct`'s answer is that of
the unbounded recursion of the Go code, for every schema, input and allocator. -/
theorem typed_never_out_of_fuel (mem : Option Nat) (fs : List FieldD) (d : Bytes) :
    decStruct mem fs d ≠ .error (.sk .fuel) :=
  decT_nofuel mem d _ _ 0 (Nat.zero_le _) (by simp only [needD, fuelD, fuelFor]; omega)

theorem typed_fuel_irrelevant (mem : Option Nat) (fs : List FieldD) (d : Bytes) (f : Nat) (h : fuelD d ≤ f) :
    decT mem d f (.fields fs true 0 []) 0 = decStruct mem fs d :=
  decT_fuel_irrelevant mem d _ 0 h (typed_never_out_of_fuel mem fs d)

theorem fuelD_take (d : Bytes) (m : Nat) : fuelD (d.take m) ≤ fuelD d := by
  unfold fuelD fuelFor; rw [List.length_take]; omega

/-- The cut of an accepted struct is rejected with io.EOF or io.ErrUnexpectedEOF and
nothing else: the cut run reads the same bytes and takes the same branches up to the cut, so neither the
required-field check (it runs at STOP only) nor a range check nor the allocator can answer first. -/
theorem typed_cut_eof (mem : Option Nat) (fs : List FieldD) (d : Bytes) (e m : Nat)
    (h : decStruct mem fs d = .ok e) (hm : m < e) :
    decStruct mem fs (d.take m) = .error (.sk .eof) ∨ decStruct mem fs (d.take m) = .error (.sk .ueof) := by
  obtain ⟨err, h4, hc⟩ := ((decT_rel mem d m (fuelD d) _ 0 e h).2 (Nat.zero_le _)).2 hm
  rw [typed_fuel_irrelevant mem fs (d.take m) (fuelD d) (fuelD_take d m)] at h4
  rcases hc with hc | hc <;> subst hc
  · exact Or.inl h4
  · exact Or.inr h4

/-- A cut at or after the end of the struct changes nothing: the bytes that follow a
struct play no part in its acceptance. -/
theorem typed_cut_after (mem : Option Nat) (fs : List FieldD) (d : Bytes) (e m : Nat)
    (h : decStruct mem fs d = .ok e) (hm : e ≤ m) : decStruct mem fs (d.take m) = .ok e := by
  have h4 := ((decT_rel mem d m (fuelD d) _ 0 e h).2 (Nat.zero_le _)).1 hm
  rw [typed_fuel_irrelevant mem fs (d.take m) (fuelD d) (fuelD_take d m)] at h4
  exact h4

example : decStruct none miniMeta (miniFooter.take 5) = .error (.sk .ueof) := by decide +kernel
example : decStruct none miniMeta (miniFooter ++ [7, 7]) = .ok miniFooter.length := by decide +kernel

end PqModel.Props.C14TypedDecode
