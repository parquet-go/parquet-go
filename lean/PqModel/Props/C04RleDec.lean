import PqModel.Props.C04Rle
import PqModel.RleBoolBytes
import PqModel.BitPackedDecode

/-! # C04 (part rle) — the Go hybrid DECODERS agree with the SPEC decoder

SPEC side: `specDecode*` (Encodings.md) and the grammars `ValidRle` / `ValidRleGoW` / `ValidRleGo` (every
conformant run segmentation, the last bit-packed run padded). MIRROR side: the Go decoders, the boolean
one at BYTE level over a destination whose spare capacity holds `stale`.
`n` is the value count the reader takes from the page header.
A bare `example … := by decide` after a theorem instantiates its hypotheses: they can be met together. -/
namespace PqModel.Props.C04RleDec
open PqModel.Rle PqModel.Bits PqModel.Props.C04Rle

theorem validGoW_valid {w : Nat} {xs bs : List Nat} (h : ValidRleGoW w xs bs) : ValidRle w xs bs := by
  obtain ⟨rs, hwf, _, hv, hs⟩ := h
  exact ⟨rs, hwf, hv, hs⟩

theorem validGo_valid {xs bs : List Nat} (h : ValidRleGo xs bs) : ValidRle 1 xs bs := by
  obtain ⟨rs, hwf, _, hv, hs⟩ := h
  exact ⟨rs, hwf, hv, hs⟩

/-- Levels (`decodeBytes`, width ≤ 8): on every conformant stream the Go decoder returns all the
values the stream holds (padding of the last bit-packed run included), and the `n` values a page
reader keeps are exactly what the SPEC decoder returns for that count. -/
theorem go_levels_eq_spec {w : Nat} {xs bs : List Nat} (hw : w ≤ 8) (h : ValidRleGoW w xs bs) (n : Nat)
    (hn : n ≤ xs.length) : (goDecodeLevels w bs).map (·.take n) = specDecode w n bs := by
  rw [goDecodeLevels_of_valid hw h, specDecode_of_valid (validGoW_valid h) n hn]; rfl

/-- INT32 (`decodeInt32`, width ≤ 32, the portable `bitpack.Unpack` inside). -/
theorem go_int32_eq_spec {w : Nat} {xs bs : List Nat} (hw : w ≤ 32) (h : ValidRleGoW w xs bs) (n : Nat)
    (hn : n ≤ xs.length) : (goDecodeInt32 w bs).map (·.take n) = specDecode w n bs := by
  rw [goDecodeInt32_of_valid hw h, specDecode_of_valid (validGoW_valid h) n hn]; rfl

/-- RLE_DICTIONARY index page (`DictionaryEncoding.DecodeInt32`): any declared width ≤ 32 — not only
`bits.Len32(max)` as this library writes it —, any segmentation. -/
theorem go_dict_eq_spec {w : Nat} {xs body : List Nat} (hw : w ≤ 32) (h : ValidRleGoW w xs body) (n : Nat)
    (hn : n ≤ xs.length) : (goDecodeDict (w :: body)).map (·.take n) = specDecodeDict n (w :: body) := by
  have a : ¬ w > 32 := by omega
  simp only [goDecodeDict, specDecodeDict, a, if_false]
  exact go_int32_eq_spec hw h n hn

example : ValidRleGoW 3 [5, 5, 5] [6, 5] ∧ 2 ≤ [5, 5, 5].length :=
  ⟨⟨[.rle 3 [5]], by simp [Run.WF], by simp [Run.GoOKW, leNat], by simp [runsValues, Run.values, leNat],
    by simp [serialize, Run.bytes, uvarint_small]⟩, by decide⟩

/-- `decodeBits` as written (byte slice, `appendBitsAt` shifting a bit-packed run in at a bit offset,
`appendBitRun` filling and masking) returns on EVERY input — conformant or malformed, errors
included — the bytes of the bit-level mirror `goDecodeBoolean`, for every content of the
destination's spare capacity: "`dst` is a bit list" (`goDecodeBitsLoop`) loses nothing. -/
theorem decodeBoolean_bytes_eq_bits (stale src : List Nat) (hb : ∀ b ∈ src, b < 256) :
    goDecodeBooleanBytes stale src = goDecodeBoolean src :=
  goDecodeBooleanBytes_eq stale src hb

/-- History independence of `DecodeBoolean`: the result does not depend on what the reused
destination buffer held. -/
theorem decodeBoolean_history_independent (stale stale' src : List Nat) (hb : ∀ b ∈ src, b < 256) :
    goDecodeBooleanBytes stale src = goDecodeBooleanBytes stale' src := by
  rw [goDecodeBooleanBytes_eq stale src hb, goDecodeBooleanBytes_eq stale' src hb]

example : ∀ b ∈ [4, 0, 0, 0, 2, 1, 0x1e, 1], b < 256 := by decide

/-- One step of it: `appendBitRun` on a
slice that holds `bits` appends `count ≥ 1` copies of the bit, whatever the bit offset
(`bits.length % 8`) and wherever the run ends, the unused high bits of the last byte zero. -/
theorem appendBitRun_appends (stale : List Nat) (bits : List Bool) (b : Bool) (count : Nat) (hc : 1 ≤ count) :
    goAppendBitRun stale (bitsToBytes bits.length bits) bits.length (b2n b) count =
      bitsToBytes (bits.length + count) (bits ++ List.replicate count b) :=
  (goAppendBitRun_bytesOf stale bits b count).trans
    (bitsToBytes_eq_bytesOf _ _ (by rw [List.length_append, List.length_replicate]; omega)).symm

theorem appendBitsAt_appends (stale : List Nat) (bits : List Bool) (src : List Nat) (hb : ∀ b ∈ src, b < 256) :
    goAppendBitsAt stale (bitsToBytes bits.length bits) bits.length src =
      bitsToBytes (bits.length + 8 * src.length) (bits ++ bytesToBits src) :=
  (goAppendBitsAt_bytesOf stale bits src hb).trans
    (bitsToBytes_eq_bytesOf _ _ (by rw [List.length_append, bytesToBits_length]; omega)).symm

/-- 3 values held, a run of 5 × true ends on the byte boundary (`total % 8 = 0`, no final mask) -/
example : goAppendBitRun [] [0x07] 3 1 5 = [0xFF] := by decide

/-- BOOLEAN pages (`DecodeBoolean`, byte level): on every conformant page — 4-byte length, then any
segmentation into RLE runs of any length ≥ 1 with any stored value byte and bit-packed runs at any
bit offset — the Go decoder returns bytes whose first `n` bits are what the SPEC decoder returns,
whatever the destination held. -/
theorem go_boolean_eq_spec {xs body : List Nat} (h : ValidRleGo xs body) (hb : ∀ b ∈ body, b < 256)
    (hlen : body.length < 2 ^ 32) (stale : List Nat) (n : Nat) (hn : n ≤ xs.length) :
    ∃ bytes, goDecodeBooleanBytes stale (leBytes 4 body.length ++ body) = .ok bytes ∧
      specDecodeBoolean n (leBytes 4 body.length ++ body) = .ok (((bytesToBits bytes).map b2n).take n) := by
  have hsrc : ∀ b ∈ leBytes 4 body.length ++ body, b < 256 := by
    intro b hb'
    rcases List.mem_append.mp hb' with h1 | h1
    · exact leBytes_lt 4 _ b h1
    · exact hb b h1
  have hspec : specDecodeBoolean n (leBytes 4 body.length ++ body) = .ok (xs.take n) := by
    simp only [specDecodeBoolean]
    rw [prefix_strip 1 n body hlen]
    exact specDecode_of_valid (validGo_valid h) n hn
  rw [decodeBoolean_bytes_eq_bits stale _ hsrc, hspec]
  by_cases he : body = []
  · subst he
    obtain ⟨rs, _, _, hv, hs⟩ := h
    have hrs := serialize_eq_nil hs
    subst hrs
    have hx : xs = [] := by rw [← hv]; rfl
    subst hx
    exact ⟨[], by simp [goDecodeBoolean, leBytes], by simp [bytesToBits]⟩
  · obtain ⟨bits, hbits, hdec⟩ := decodeBoolean_bytes_of_valid h
    refine ⟨bitsToBytes bits.length bits, by rw [goDecodeBoolean_prefix body he hlen, hdec], ?_⟩
    obtain ⟨pad, hp⟩ := bytes_bits bits.length bits (Nat.le_refl _)
    rw [hp, List.map_append, hbits, List.take_append_of_le_length hn]

/-- a foreign page the library's own writer never emits: `[3 × true][5 × true]`, values `01` -/
example : ValidRleGo [1, 1, 1, 1, 1, 1, 1, 1] [0x06, 0x01, 0x0a, 0x01] :=
  ⟨[.rle 3 [1], .rle 5 [1]], by simp [Run.WF], by simp [Run.GoOK],
    by simp [runsValues, Run.values, leNat], by simp [serialize, Run.bytes, uvarint_small]⟩

/-- A BIT_PACKED stream has no freedom: any byte string holding `n` values of width `w` is THE
encoding of the values the SPEC decoder reads from it. The Go decoder (mirror `goDecodeBitPacked`:
per value, one byte or two adjacent bytes, shifts and masks) returns exactly those as its first `n`
values (it also returns the values of the trailing partial bits, which a reader cuts off). -/
theorem go_bitpacked_eq_spec (w n : Nat) (hw1 : 1 ≤ w) (hw8 : w ≤ 8) (src : List Nat)
    (hb : ∀ b ∈ src, b < 256) (hn1 : 1 ≤ n) (hn : n * w ≤ 8 * src.length) :
    specDecodeBitPacked w n src = .ok ((goDecodeBitPacked w src).take n) := by
  have a : ¬ 8 * src.length < n * w := by omega
  simp only [specDecodeBitPacked, a, if_false]
  rw [goDecodeBitPacked_eq w n hw1 hw8 src hb hn]

example : (1 : Nat) ≤ 3 ∧ 3 ≤ 8 ∧ (∀ b ∈ [0x05, 0x39, 0x77], b < 256) ∧ 8 * 3 ≤ 8 * [0x05, 0x39, 0x77].length := by
  decide

/-- `DecodeLevels(EncodeLevels(xs))` starts with `xs` on the models of both sides, every width 1..8. -/
theorem go_bitpacked_roundtrip (w : Nat) (xs : List Nat) (hw1 : 1 ≤ w) (hw8 : w ≤ 8) (hne : xs ≠ [])
    (hx : ∀ x ∈ xs, x < 2 ^ w) : (goDecodeBitPacked w (encodeBitPacked w xs)).take xs.length = xs := by
  have hs := bitpacked_roundtrip w xs hw1 hne hx
  have hpos : 1 ≤ xs.length := by
    cases xs with
    | nil => exact absurd rfl hne
    | cons _ _ => simp
  by_cases hlen : 8 * (encodeBitPacked w xs).length < xs.length * w
  · simp [specDecodeBitPacked, hlen] at hs
  · have h2 := go_bitpacked_eq_spec w xs.length hw1 hw8 _ (encodeBitPacked_lt w xs) hpos (by omega)
    rw [hs] at h2
    injection h2 with h2
    exact h2.symm

example : (1 : Nat) ≤ 3 ∧ 3 ≤ 8 ∧ [1, 2, 3, 4, 5] ≠ ([] : List Nat) ∧ ∀ x ∈ [1, 2, 3, 4, 5], x < 2 ^ 3 := by decide

end PqModel.Props.C04RleDec
