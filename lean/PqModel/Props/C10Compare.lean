import PqModel.Props.C09Compare
import PqModel.Props.C10

/-! # C10 — the sort theorems on the MIRRORED value orders of every leaf type

The theorems of `Props/C10.lean` take the value order of a column type as a hypothesis (`VOrd V`, `VOrd.Trans`,
`CmpOk cmp` for `RowBuffer`, `Ranked cmp rank` for the `SortingWriter` composition). Here these hypotheses are
discharged on the mirrors of `PqModel/CompareRows.lean` / `CompareTypes.lean`: `bufferLess` (the `Less` of the
column buffer each leaf type creates), `typeCompare`, `compareRowsFuncOf` (the row comparator of compare.go).

The column `Buffer` model takes ONE value order for all its columns: the instances below are for buffers whose columns
share a leaf type; compound keys of mixed types are covered on the row side (`RowBuffer`, `SortingWriter`, which is
where the library sorts by `compareRowsFuncOf`) — a `Buffer` theorem with one `VOrd` per column is not stated. -/
namespace PqModel.Props.C10
open PqModel PqModel.SortBuf PqModel.CompareTypes PqModel.CompareRows

/-- the order a column of leaf type `t` is sorted by: `lt` = its column buffer's `Less`, `cmp` = its `Type.Compare`.
    Both laws of `VOrd` are theorems about the mirrors, for every leaf type and ALL values. -/
def typeOrd (t : LeafType) : VOrd Val where
  lt := bufferLess t
  cmp := typeCompare t
  lt_iff := bufferLess_iff t
  anti := fun a b => typeCompare_anti t a b

theorem typeOrd_trans (t : LeafType) (hf : t.isFloat = false) : (typeOrd t).Trans :=
  fun a b c => (C09.typeCompare_lawful_nonfloat t hf).1.trans a b c

/-- `Buffer.Less(i, j)` ⇔ `Schema.Comparator(..)(row i, row j) < 0` on columns of ANY leaf type (floats with NaN
    included): instance of `less_agrees` with no hypothesis on the order left -/
theorem less_agrees_typed (t : LeafType) {b : Buffer Val} {n : Nat} (h : b.BInv n)
    (hs : ∀ sc ∈ b.sorting, sc.col < b.cols.length) {i j : Nat} (hi : i < n) (hj : j < n) :
    b.less (bufferLess t) i j = true ↔ cmpRows (typeCompare t) b.sorting (b.row i) (b.row j) < 0 :=
  less_agrees (typeOrd t) h hs hi hj

/-- sorting a typed column buffer: for every non-float leaf type, any history of `Less` / `Swap` calls that ends
    with no adjacent inversion leaves a permutation of the rows written, pairwise ordered by the comparator built
    from `Type.Compare`. Instance of `sort_correct`; neither `VOrd` nor `Trans` is assumed. -/
theorem sort_correct_typed (t : LeafType) (hf : t.isFloat = false) {b0 : Buffer Val} {n : Nat} (h0 : b0.BInv n)
    (hs : ∀ sc ∈ b0.sorting, sc.col < b0.cols.length) (ops : List (Nat × Nat))
    (hfin : ∀ i, i + 1 < n → (b0.run ops).less (bufferLess t) (i + 1) i = false) :
    ((b0.run ops).rows n).Perm (b0.rows n) ∧
    ∀ i j, i < j → j < n → cmpRows (typeCompare t) b0.sorting ((b0.run ops).row i) ((b0.run ops).row j) ≤ 0 :=
  sort_correct (typeOrd t) (typeOrd_trans t hf) h0 hs ops hfin

/-- … and for EVERY leaf type (NaN included) at least: a permutation whose adjacent rows are ordered -/
theorem sort_adjacent_typed (t : LeafType) {b0 : Buffer Val} {n : Nat} (h0 : b0.BInv n)
    (hs : ∀ sc ∈ b0.sorting, sc.col < b0.cols.length) (ops : List (Nat × Nat))
    (hfin : ∀ i, i + 1 < n → (b0.run ops).less (bufferLess t) (i + 1) i = false) :
    ((b0.run ops).rows n).Perm (b0.rows n) ∧
    ∀ i, i + 1 < n → cmpRows (typeCompare t) b0.sorting ((b0.run ops).row i) ((b0.run ops).row (i + 1)) ≤ 0 :=
  sort_adjacent (typeOrd t) h0 hs ops hfin

/-- a UINT_32 column 1, 0xFFFFFFFF, 7 sorted descending by two swaps: 0xFFFFFFFF (the largest), 7, 1 -/
def sampleU32 : Buffer Val :=
  { cols := [.req [⟨1#64, []⟩, ⟨0xFFFFFFFF#64, []⟩, ⟨7#64, []⟩]], sorting := [⟨0, true, false⟩] }

example : (LeafType.int 32 false).isFloat = false ∧ sampleU32.BInv 3 ∧
    (∀ i, i + 1 < 3 → ((sampleU32.run [(0, 1), (1, 2)]).less (bufferLess (.int 32 false)) (i + 1) i = false)) ∧
    (List.range 3).map (fun k => ((sampleU32.run [(0, 1), (1, 2)]).row k 0).map (·.u64.toNat)) =
      [some 0xFFFFFFFF, some 7, some 1] := by
  refine ⟨rfl, ?_, ?_, by decide⟩
  · intro c hc
    simp only [sampleU32, List.mem_cons, List.not_mem_nil, or_false] at hc
    subst hc
    exact ⟨trivial, by decide⟩
  · intro i hi
    have : i = 0 ∨ i = 1 := by omega
    rcases this with rfl | rfl <;> decide

/-- the values of a column of type `t` that are not NaN (all values, for a non-float type) -/
abbrev CleanVal (t : LeafType) : Type := { v : Val // valNaN t v = false }

def typeOrdClean (t : LeafType) : VOrd (CleanVal t) where
  lt := fun a b => bufferLess t a.1 b.1
  cmp := fun a b => typeCompare t a.1 b.1
  lt_iff := fun a b => bufferLess_iff t a.1 b.1
  anti := fun a b => typeCompare_anti t a.1 b.1

/-- transitive for EVERY leaf type: `-0.0 = +0.0`, infinities and subnormals are in -/
theorem typeOrdClean_trans (t : LeafType) : (typeOrdClean t).Trans :=
  (typeCompare_lawful_on t Subtype.val (fun a => a.2)).trans

/-- sorting a FLOAT / DOUBLE column buffer that holds no NaN (any leaf type): sorted permutation -/
theorem sort_correct_off_nan (t : LeafType) {b0 : Buffer (CleanVal t)} {n : Nat} (h0 : b0.BInv n)
    (hs : ∀ sc ∈ b0.sorting, sc.col < b0.cols.length) (ops : List (Nat × Nat))
    (hfin : ∀ i, i + 1 < n → (b0.run ops).less (typeOrdClean t).lt (i + 1) i = false) :
    ((b0.run ops).rows n).Perm (b0.rows n) ∧
    ∀ i j, i < j → j < n →
      cmpRows (typeOrdClean t).cmp b0.sorting ((b0.run ops).row i) ((b0.run ops).row j) ≤ 0 :=
  sort_correct (typeOrdClean t) (typeOrdClean_trans t) h0 hs ops hfin

example : valNaN .double ⟨0x8000000000000000#64, []⟩ = false ∧ valNaN .double ⟨0xfff0000000000000#64, []⟩ = false ∧
    valNaN .float ⟨0x7fc00000#64, []⟩ = true := by decide

theorem cmpLex_anti {ρ : Type} : ∀ (cs : List (ρ → ρ → Int)), (∀ c ∈ cs, ∀ a b, c b a = - c a b) →
    ∀ a b, Compare.cmpLex cs b a = - Compare.cmpLex cs a b
  | [], _, _, _ => rfl
  | c :: cs, h, a, b => lex_anti (h c (by simp) a b) (cmpLex_anti cs (fun c' hc' => h c' (by simp [hc'])) a b)

/-- `compareRowsFuncOf` negates when its arguments are swapped, for EVERY list of sorting columns (NaN included) -/
theorem compareRowsFuncOf_anti (ks : List KeyCol) (a b : TRow) :
    compareRowsFuncOf ks b a = - compareRowsFuncOf ks a b := by
  rw [C09.compareRowsFuncOf_is_value_path]
  apply cmpLex_anti
  intro c hc x y
  obtain ⟨k, _, rfl⟩ := List.mem_map.mp hc
  have hb : ∀ u v : Val, (if k.desc then Compare.descending (typeCompare k.typ) else typeCompare k.typ) v u =
      - (if k.desc then Compare.descending (typeCompare k.typ) else typeCompare k.typ) u v := by
    split
    · exact cmpDesc_anti (typeCompare_anti k.typ)
    · exact typeCompare_anti k.typ
  show valueCmpWith typeCompare k _ _ = - valueCmpWith typeCompare k _ _
  unfold valueCmpWith
  -- from here on only the antisymmetry of the column's comparison matters
  generalize (if k.desc then Compare.descending (typeCompare k.typ) else typeCompare k.typ) = c at hb ⊢
  split
  · split
    · rw [← cmpNullsFirst_eq_compare]; exact cmpNullsFirst_anti hb _ _
    · rw [← cmpNullsLast_eq_compare]; exact cmpNullsLast_anti hb _ _
  · exact hb _ _

/-- the comparator of compare.go over non-float key columns satisfies the `CmpOk` interface of the row buffer -/
theorem compareRowsFuncOf_cmpOk (ks : List KeyCol) (hf : ∀ k ∈ ks, k.typ.isFloat = false) :
    CmpOk (compareRowsFuncOf ks) :=
  (cmpOk_iff _).mpr ⟨compareRowsFuncOf_anti ks, C09.compareRowsFuncOf_total_preorder ks hf⟩

/-- `RowBuffer` sorted by `compareRowsFuncOf` over any mix of non-float key columns: for any history of `Swap`
    calls that ends with `Less(i+1, i)` nowhere, a permutation of the rows written, pairwise ordered. Instance of
    `rowbuffer_sort_correct` with the comparator hypothesis discharged. -/
theorem rowbuffer_sort_correct_typed (ks : List KeyCol) (hf : ∀ k ∈ ks, k.typ.isFloat = false)
    (b0 : RowBuf TRow) (ops : List (Nat × Nat))
    (hfin : ∀ i, i + 1 < (b0.run ops).rows.length → (b0.run ops).less (compareRowsFuncOf ks) (i + 1) i = false) :
    (b0.run ops).rows.Perm b0.rows ∧ (b0.run ops).rows.Pairwise (fun a b => compareRowsFuncOf ks a b ≤ 0) :=
  rowbuffer_sort_correct _ (compareRowsFuncOf_cmpOk ks hf) b0 ops hfin

example : (∀ k ∈ C09.sampleStrKey, k.typ.isFloat = false) ∧
    ((RowBuf.mk (C09.sampleStrInputs.flatten)).run [(1, 2)]).rows.Pairwise
      (fun a b => compareRowsFuncOf C09.sampleStrKey a b ≤ 0) := by decide

/-- For BYTE_ARRAY / STRING keys no integer rank represents `Type.Compare` on the whole value type: the strings
    "", "\0", "\0\0", … increase without bound below "\x01". So `Ranked (typeCompare .string) rank`, the hypothesis
    the `SortingWriter` theorems of Props/C10.lean carry, is UNSATISFIABLE for string keys as stated there … -/
theorem no_integer_rank_for_byte_strings : ¬ ∃ rank : Val → Int, Ranked (typeCompare .string) rank := by
  rintro ⟨rank, hr⟩
  let z : Nat → Val := fun n => ⟨0#64, List.replicate n 0⟩
  have hlt : ∀ n, bytesCompare (List.replicate n 0) (List.replicate (n + 1) 0) = -1 := by
    intro n; induction n with
    | zero => rfl
    | succ n ih => simpa [List.replicate_succ, bytesCompare] using ih
  have hone : ∀ n, bytesCompare (List.replicate n 0) [1] = -1 := by
    intro n; cases n <;> simp [List.replicate_succ, bytesCompare]
  have hstep : ∀ n, rank (z n) + 1 ≤ rank (z (n + 1)) := by
    intro n
    have h1 : typeCompare .string (z n) (z (n + 1)) = -1 := hlt n
    have h2 := hr.le_iff (z (n + 1)) (z n)
    have h3 := hr.anti (z n) (z (n + 1))
    omega
  have hgrow : ∀ n, rank (z 0) + n ≤ rank (z n) := by
    intro n; induction n with
    | zero => simp
    | succ n ih => have := hstep n; omega
  have hbound : ∀ n, rank (z n) ≤ rank ⟨0#64, [1]⟩ := by
    intro n
    have h1 : typeCompare .string (z n) ⟨0#64, [1]⟩ = -1 := hone n
    exact (hr.le_iff _ _).mp (by omega)
  have := hgrow (rank ⟨0#64, [1]⟩ - rank (z 0) + 1).toNat
  have := hbound (rank ⟨0#64, [1]⟩ - rank (z 0) + 1).toNat
  omega

/-- … and it holds, for EVERY lawful and exactly antisymmetric comparator, on the finite set of rows written, with
    `Compare.rankIn` (how many of the rows lie strictly below) as the rank -/
theorem ranked_on_rows_written {R : Type} {cmp : R → R → Int} (hl : Compare.Lawful cmp)
    (ha : ∀ a b, cmp b a = - cmp a b) (L : List R) :
    Ranked (fun a b : { r : R // r ∈ L } => cmp a.1 b.1) (fun a => (Compare.rankIn cmp L a.1 : Int)) := by
  refine ⟨?_, fun a b => ha a.1 b.1⟩
  intro a b
  obtain ⟨h1, h2, h3⟩ := Compare.rank_sign hl a.2 b.2
  constructor
  · intro h
    by_cases h0 : cmp a.1 b.1 = 0
    · have := h2.mp h0; omega
    · have := h1.mp (by omega); omega
  · intro h
    by_cases h0 : 0 < cmp a.1 b.1
    · have := h3.mp h0; omega
    · omega

/-- SortingWriter on typed keys: `L` = the rows handed to the writer, key columns of any non-float leaf types.
    For every split into runs, every sorter of the runs that yields sorted permutations, every refill pattern and
    positive batch sizes, the output is a permutation of the rows written, pairwise ordered by `compareRowsFuncOf`.
    Instance of `sorting_writer_correct`; the `Ranked` hypothesis is discharged. -/
theorem sorting_writer_correct_typed (ks : List KeyCol) (hf : ∀ k ∈ ks, k.typ.isFloat = false) (L : List TRow)
    (sortRun : List { r : TRow // r ∈ L } → List { r : TRow // r ∈ L })
    (hsort : ∀ run, (sortRun run).Perm run ∧ (sortRun run).Pairwise (fun a b => compareRowsFuncOf ks a.1 b.1 ≤ 0))
    (runs : List (List { r : TRow // r ∈ L })) (refills : List (List Nat)) (batches : List Nat)
    (hpos : ∀ b ∈ batches, 1 ≤ b)
    (hlen : (PqModel.Merge.tagInputs (keysOf (fun a : { r : TRow // r ∈ L } =>
      (Compare.rankIn (compareRowsFuncOf ks) L a.1 : Int)) (runs.map sortRun))).flatten.length < batches.length) :
    let rank := fun a : { r : TRow // r ∈ L } => (Compare.rankIn (compareRowsFuncOf ks) L a.1 : Int)
    let ss := runs.map sortRun
    let out := untag ss ((PqModel.Merge.Reader.new (PqModel.Merge.tagInputs (keysOf rank ss)) refills).session batches).1.flatten
    out.Perm runs.flatten ∧ out.Pairwise (fun a b => compareRowsFuncOf ks a.1 b.1 ≤ 0) :=
  sorting_writer_correct _ _
    (ranked_on_rows_written (C09.compareRowsFuncOf_total_preorder ks hf) (compareRowsFuncOf_anti ks) L)
    sortRun hsort runs refills batches hpos hlen

/-- … with `DropDuplicatedRows`: exactly one row per key -/
theorem sorting_writer_dedupe_correct_typed (ks : List KeyCol) (hf : ∀ k ∈ ks, k.typ.isFloat = false) (L : List TRow)
    (sortRun : List { r : TRow // r ∈ L } → List { r : TRow // r ∈ L })
    (hsort : ∀ run, (sortRun run).Perm run ∧ (sortRun run).Pairwise (fun a b => compareRowsFuncOf ks a.1 b.1 ≤ 0))
    (runs : List (List { r : TRow // r ∈ L })) (refills : List (List Nat)) (batches : List Nat)
    (hpos : ∀ b ∈ batches, 1 ≤ b)
    (hlen : (PqModel.Merge.tagInputs (keysOf (fun a : { r : TRow // r ∈ L } =>
        (Compare.rankIn (compareRowsFuncOf ks) L a.1 : Int))
      (runs.map (fun run => dedupRun (fun a b : { r : TRow // r ∈ L } => compareRowsFuncOf ks a.1 b.1) none
        (sortRun run))))).flatten.length < batches.length) :
    let cmp := fun a b : { r : TRow // r ∈ L } => compareRowsFuncOf ks a.1 b.1
    let rank := fun a : { r : TRow // r ∈ L } => (Compare.rankIn (compareRowsFuncOf ks) L a.1 : Int)
    let ss := runs.map (fun run => dedupRun cmp none (sortRun run))
    let out := untag ss (PqModel.Merge.dedupeReader none
      ((PqModel.Merge.Reader.new (PqModel.Merge.tagInputs (keysOf rank ss)) refills).session batches).1)
    out.Pairwise (fun a b => cmp a b < 0) ∧ (∀ y ∈ out, y ∈ runs.flatten) ∧
      (∀ x ∈ runs.flatten, ∃ y ∈ out, cmp x y = 0) :=
  sorting_writer_dedupe_correct _ _
    (ranked_on_rows_written (C09.compareRowsFuncOf_total_preorder ks hf) (compareRowsFuncOf_anti ks) L)
    sortRun hsort runs refills batches hpos hlen

example : Ranked (fun a b : { r : TRow // r ∈ C09.sampleStrInputs.flatten } => compareRowsFuncOf C09.sampleStrKey a.1 b.1)
    (fun a => (Compare.rankIn (compareRowsFuncOf C09.sampleStrKey) C09.sampleStrInputs.flatten a.1 : Int)) :=
  ranked_on_rows_written (C09.compareRowsFuncOf_total_preorder _ (by decide)) (compareRowsFuncOf_anti _) _

/-- with NaN the value order of a FLOAT / DOUBLE column is a `VOrd` (the theorems up to `sort_adjacent` apply) but it
    is NOT transitive: 2.0 ≤ NaN ≤ 1.0 and 2.0 > 1.0 -/
theorem nan_value_order_is_not_transitive : ¬ (typeOrd .float).Trans ∧ ¬ (typeOrd .double).Trans := by
  constructor
  · intro h
    exact absurd (h ⟨0x40000000#64, []⟩ ⟨0x7fc00000#64, []⟩ ⟨0x3f800000#64, []⟩ (by decide) (by decide)) (by decide)
  · intro h
    have h1 : (typeOrd .double).cmp ⟨0x4000000000000000#64, []⟩ ⟨0x7ff8000000000000#64, []⟩ ≤ 0 := by decide
    have h2 : (typeOrd .double).cmp ⟨0x7ff8000000000000#64, []⟩ ⟨0x3ff0000000000000#64, []⟩ ≤ 0 := by decide
    -- 2.0 against 1.0 as doubles needs 2^1023-sized magnitudes: kernel evaluation (see `C05.compareFloat_not_lawful_with_nan`)
    have h3 : (typeOrd .double).cmp ⟨0x4000000000000000#64, []⟩ ⟨0x3ff0000000000000#64, []⟩ = 1 := by decide +kernel
    have := h _ _ _ h1 h2
    omega

/-- … and the conclusion of `sort_correct` fails: a FLOAT column holding 2.0, NaN, 1.0 has no adjacent inversion
    (`Less(i+1, i)` is false everywhere: the state in which an insertion sort stops without a single `Swap`), yet
    row 0 is above row 2 by the comparator. Sorting a float column that holds NaN is outside C10. -/
theorem nan_column_without_inversion_is_not_sorted :
    let b : Buffer Val :=
      { cols := [.req [⟨0x40000000#64, []⟩, ⟨0x7fc00000#64, []⟩, ⟨0x3f800000#64, []⟩]], sorting := [⟨0, false, false⟩] }
    (∀ i, i + 1 < 3 → b.less (bufferLess .float) (i + 1) i = false) ∧
    0 < cmpRows (typeCompare .float) b.sorting (b.row 0) (b.row 2) := by
  refine ⟨?_, by decide⟩
  intro i hi
  have : i = 0 ∨ i = 1 := by omega
  rcases this with rfl | rfl <;> decide

end PqModel.Props.C10
