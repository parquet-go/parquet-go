import PqModel.PoolMixed
/-! # C16, column chunks mixing dictionary pages and PLAIN fallback pages

The per-chunk `detach` flag of the row reader (`columnChunkValueReader`, mirror
`PqModel.PoolMixed.chunkProgs`) as reader STATE threaded through the pages of a chunk. -/
namespace PqModel.Props.C16Mixed
open PqModel.PoolProto PqModel.PoolMixed

/-- For any number of column chunks of byte-carrying columns (fixed length or not) read by row
    readers in any number of goroutines, every chunk any sequence of pages with or without a
    dictionary (dictionary pages followed by PLAIN fallback pages, pure chunks, any order), every
    number of reads per page and every number of rows the caller keeps of every page: with the flag
    as `newRowGroupRows` sets it and the page fetch as the code has it (the flag is not written), the
    values buffer of every page is touched by its goroutine only and is never inside the pool while a
    kept row points into it, under all interleavings and all choices of `sync.Pool.Get`. -/
theorem mixed_chunk_pool_exclusive (chunks : List (Bool × List PageD)) {s : St}
    (hr : Reach (chunks.flatMap fun c => chunkProgs false c.1 true c.2) s) :
    Exclusive s ∧ PoolQuiet s ∧ PutLast s :=
  pinv_exclusive (pinv_reach (by
    intro p hp
    obtain ⟨c, _, hc⟩ := List.mem_flatMap.mp hp
    rw [chunkProgs_mirror] at hc
    obtain ⟨pg, _, rfl⟩ := List.mem_map.mp hc
    exact rowReaderProg_disc _ _ _) hr)

/-- an FLBA chunk dict, dict, PLAIN, PLAIN, PLAIN with rows kept of
    every page, next to a BYTE_ARRAY chunk dict, PLAIN -/
example (s : St)
    (hr : Reach ([(true, [⟨true, 2, 3⟩, ⟨true, 1, 1⟩, ⟨false, 2, 4⟩, ⟨false, 1, 1⟩, ⟨false, 3, 2⟩]),
                  (false, [⟨true, 1, 1⟩, ⟨false, 1, 2⟩])].flatMap fun c => chunkProgs false c.1 true c.2) s) :
    Exclusive s ∧ PoolQuiet s ∧ PutLast s :=
  mixed_chunk_pool_exclusive _ hr

/-- NEGATION for the variant that clears the flag at a dictionary page of a FIXED_LEN_BYTE_ARRAY
    chunk and never re-arms it (the change /verif/seeded/C16-6a): whatever pages come first, after ONE page with a
    dictionary every later PLAIN page of which the caller keeps a row is put back into the pool while
    that row points into it: its program breaks the discipline (`put` before the last touch). -/
theorem sticky_flag_breaks_discipline (detach : Bool) (pre mid post : List PageD) (d q : PageD)
    (hd : d.hasDict = true) (hq : q.hasDict = false) (hk : 1 ≤ q.nKept) :
    ∃ prog ∈ chunkProgs true true detach (pre ++ d :: (mid ++ q :: post)), disc prog = false := by
  obtain ⟨front, h⟩ := chunkProgs_slip_after_dict detach pre d hd (mid ++ q :: post)
  refine ⟨rowReaderProg true false q.nRead q.keptTouches, ?_, ?_⟩
  · rw [h, chunkProgs_cleared]
    simp
  · obtain ⟨k, hk'⟩ : ∃ k, q.nKept = k + 1 := ⟨q.nKept - 1, by omega⟩
    simp only [PageD.keptTouches, hq, hk']
    exact rowReaderSlip_disc _ _

/-- the smallest witness, by evaluation: dictionary page then one PLAIN page with one kept row -/
example : (chunkProgs true true true [⟨true, 1, 1⟩, ⟨false, 1, 1⟩]).map disc = [true, false] := by decide

/-- the same chunk under the code as it is -/
example : (chunkProgs false true true [⟨true, 1, 1⟩, ⟨false, 1, 1⟩]).map disc = [true, true] := by decide

/-- and what the broken discipline means in the pool: two readers of such chunks; reader 0's PLAIN
    page buffer is inside the pool while the caller's row still points into it, and reader 1 obtains
    that very buffer for its own page (`¬ PoolQuiet`, `¬ Exclusive`) -/
theorem sticky_flag_not_exclusive :
    let plainProg := rowReaderProg true false 0 1
    plainProg ∈ chunkProgs true true true [⟨true, 0, 1⟩, ⟨false, 0, 1⟩] ∧
    (∃ s, Reach [plainProg, plainProg] s ∧ ¬ PoolQuiet s) ∧
    (∃ s, Reach [plainProg, plainProg] s ∧ ¬ Exclusive s) := by
  intro plain
  -- `plain` is one touch, the put, one more touch: the schedule of `slip_reachable`
  obtain ⟨⟨s, hr, hq, _⟩, ⟨s', hr', he, _⟩⟩ := slip_reachable 1 [.use] plain (List.mem_singleton.2 rfl)
  exact ⟨by decide, ⟨s, hr, hq⟩, ⟨s', hr', he⟩⟩

/-- BYTE_ARRAY chunks are not affected by that variant (its condition names the fixed-length kind) -/
theorem sticky_flag_byte_array_unaffected (detach : Bool) (ps : List PageD) :
    chunkProgs true false detach ps = chunkProgs false false detach ps :=
  chunkProgs_slip_byte_array detach ps

end PqModel.Props.C16Mixed
