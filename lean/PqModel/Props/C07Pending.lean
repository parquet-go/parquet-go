import PqModel.BloomPending
import PqModel.Props.C07Segments

/-! # C07, rows pending in the writer when `WriteRowGroup` is called -/
namespace PqModel.Props.C07Pending
open PqModel.XxHash PqModel.Bloom PqModel.BloomWriter PqModel.BloomSegments PqModel.BloomPending
open PqModel.Props.C07 PqModel.Props.C07Writer PqModel.Props.C07Segments

/-- `flushFilterPages` on the actual filter state agrees with the `presized` reading of BloomWriter.lean
    whenever the state is what that reading assumes: a filter of `c.presized` bytes that saw every page
    (`incremental`). The point of this file is that the state is NOT always that. -/
theorem flushFilterOn_of_incremental (c : ChunkWrite) :
    flushFilterOn c (c.presized, incremental c) = flushFilter c := by
  unfold flushFilterOn flushFilter
  cases c.dictionary <;> rfl

/-- AS THE CODE IS (filters configured after `w.writer.flush()`): while the pending rows' pages are
    written, early or last, the filter stays unallocated and nothing is inserted. -/
theorem pending_events_in_order (kind : Kind) (bits : Nat) (p : Pending) :
    frun kind bits (0, []) (pendingEvents p none) = (0, incremental (p.chunk kind bits)) := by
  have e : pendingEvents p none = p.pages.map FEv.page := by
    simp [pendingEvents, Pending.pages]
  rw [e, frun_pages, incremental_eq_insertedInto]
  rfl

/-- … hence the implicitly flushed row group gets exactly the filter of a chunk that was never
    pre-sized: every page, early ones included, is re-read (or covered by the dictionary). -/
theorem pending_filter_is_flushFilter (kind : Kind) (bits : Nat) (p : Pending) :
    pendingFilter kind bits p none = flushFilter (p.chunk kind bits) := by
  unfold pendingFilter
  rw [pending_events_in_order]
  exact flushFilterOn_of_incremental (p.chunk kind bits)

/-- END TO END for the rows pending when `WriteRowGroup` is called: any number of early pages, any last
    pages, dictionary or not, fallen back or not — every value of every page of the pending row group is
    found in the filter stored for that row group. -/
theorem pending_written_value_is_found (kind : Kind) (bits : Nat) (p : Pending)
    (ok : ChunkOk (p.chunk kind bits)) (hb : 1 ≤ bits)
    (pg : WPage) (hp : pg ∈ p.early ∨ pg ∈ p.last) (v : Value) (hv : v ∈ pg.values) :
    let f := pendingFilter kind bits p none
    checkBytes (filterBytes (build (f.1 / 32) (f.2.map UInt64.toBitVec))) (hashRead v).toBitVec = true := by
  intro f
  show checkBytes (filterBytes (build ((pendingFilter kind bits p none).1 / 32)
    ((pendingFilter kind bits p none).2.map UInt64.toBitVec))) (hashRead v).toBitVec = true
  rw [pending_filter_is_flushFilter]
  apply written_value_is_found_every_strategy (p.chunk kind bits) ok hb v
  show v ∈ (p.early ++ p.last).flatMap (·.values)
  exact List.mem_flatMap.mpr ⟨pg, List.mem_append.mpr hp, hv⟩

/-- THE SLIP, in general (C07-7a): with the filters configured before the flush, the pending row
    group of a column without dictionary ends with a filter sized for the INCOMING group that holds the
    last page(s) only — whatever the early pages were, they are never inserted, because
    `flushFilterPages` takes an allocated filter for a complete one. -/
theorem hoisted_filter_forgets_early_pages (kind : Kind) (bits : Nat) (p : Pending) (n : Nat)
    (hd : p.dictionary = none) (hn : 0 < filterSize bits n) :
    pendingFilter kind bits p (some n) = (filterSize bits n, insertedInto kind (filterSize bits n) p.last) := by
  unfold pendingFilter
  have e : pendingEvents p (some n) = p.early.map FEv.page ++ FEv.resize n :: p.last.map FEv.page := by
    simp [pendingEvents]
  rw [e, resize_forgets]
  unfold flushFilterOn
  simp only [Pending.chunk, hd]
  simp [hn]

/-- the incoming row group, as the code is: sized by `configureBloomFilters`, filled page by page — the
    pre-sized chunk `flushFilter` assumes -/
theorem incoming_filter_presized (c : ChunkWrite) (k : Nat) :
    incomingFilter c (some k) false = flushFilter { c with presized := filterSize c.bits k } := by
  have e : incomingEvents c (some k) false = [] ++ FEv.resize k :: c.pages.map FEv.page := by
    simp [incomingEvents]
  unfold incomingFilter
  rw [e, resize_forgets]
  have h := flushFilterOn_of_incremental { c with presized := filterSize c.bits k }
  rw [incremental_eq_insertedInto] at h
  exact h

/-- the incoming row group under the slip: `reset` truncated the early sizing, the group is re-read — a
    complete filter as well, which is why only the implicitly flushed group shows the defect -/
theorem incoming_filter_under_slip (c : ChunkWrite) (n : Option Nat) :
    incomingFilter c n true = flushFilter { c with presized := 0 } := by
  have e : incomingEvents c n true = c.pages.map FEv.page := by
    simp [incomingEvents]
  unfold incomingFilter
  rw [e, frun_pages]
  have h := flushFilterOn_of_incremental { c with presized := 0 }
  rw [incremental_eq_insertedInto] at h
  exact h

/-! ### sample: 30 distinct int64 in three PLAIN pages, two written early, one still buffered -/

set_option maxRecDepth 100000 in
example : ChunkOk samplePendingChunk := samplePendingChunk_ok

example : (1 : Nat) ≤ 10 ∧ 0 < filterSize 10 20 := by decide

/-- as the code is, the implicitly flushed row group of the sample misses nothing … -/
theorem pending_sample_misses_nothing :
    missing samplePendingChunk (pendingFilter .int64 10 samplePending none) = 0 := by
  rw [pending_filter_is_flushFilter]
  exact missing_eq_zero (written_value_is_found_every_strategy samplePendingChunk samplePendingChunk_ok (by decide))

/-- … C07-7a (seeded): `WriteRowGroup` of a 20-value row group with `configureBloomFilters` hoisted
    above `w.writer.flush()`: the 20 values of the two early pages are all reported absent. -/
theorem hoisted_configure_loses_early_pages :
    missing samplePendingChunk (pendingFilter .int64 10 samplePending (some 20)) = 20 := by
  decide +kernel

end PqModel.Props.C07Pending
