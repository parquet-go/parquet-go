import PqModel.BitPackedLemmas
import PqModel.RleDecodeLemmas
import PqModel.RlePackLemmas

/-! # C04 (part rle) — the RLE / bit-packed hybrid is lossless and matches the format

SPEC side: `specDecode*` (written from Encodings.md), `ValidRle` (every conformant segmentation); the
encoders are mirrors (`stop` = the group test of the portable code or of the AVX2 kernel).
`e >>= d = .ok v` reads: the encoder accepts the input, and the decoder returns `v` on its output.
`n` is the value count the reader takes from the page header; `n = xs.length` gives `xs` back.
A bare `example … := by decide` after a theorem instantiates its hypotheses: they can be met together. -/
namespace PqModel.Props.C04Rle
open PqModel.Rle PqModel.Bits

/-- Soundness of the oracle: the spec decoder reads every conformant encoding of `xs` (any run
segmentation, trailing padding of the last bit-packed run) back as `xs`. -/
theorem specDecode_of_valid {w : Nat} {xs bs : List Nat} (h : ValidRle w xs bs) (n : Nat)
    (hn : n ≤ xs.length) : specDecode w n bs = .ok (xs.take n) := by
  obtain ⟨rs, hwf, rfl, rfl⟩ := h
  exact specDecode_serialize w n rs hwf hn

example : ValidRle 1 [1, 1, 1] [6, 1] :=
  ⟨[.rle 3 [1]], by simp [Run.WF], by simp [runsValues, Run.values, leNat], by
    simp [serialize, Run.bytes, uvarint_small]⟩

/-- `encodeBytes` (levels) at a width `1..8` never rejects, and its output is a conformant
encoding of the input masked to the width (so: of the input itself when it fits); likewise `encodeInt32`. -/
theorem encodeLevels_valid (w : Nat) (xs : List Nat) (h1 : 1 ≤ w) (h8 : w ≤ 8) :
    ∃ bs, encodeLevels w xs = .ok bs ∧ ValidRle w (xs.map (· % 2 ^ w)) bs :=
  by rw [encodeLevels_eq_encodeWith]; exact encodeWith_valid h1 h8 (encOK_levels w h1 h8) scanLevels_le xs

example : (1 : Nat) ≤ 3 ∧ 3 ≤ 8 := by decide

theorem encodeInt32_valid (stop : List Nat → Bool) (w : Nat) (xs : List Nat) (h1 : 1 ≤ w) (h32 : w ≤ 32) :
    ∃ bs, encodeInt32With stop w xs = .ok bs ∧ ValidRle w (xs.map (· % 2 ^ w)) bs :=
  by rw [encodeInt32With_eq_encodeWith]
     exact encodeWith_valid h1 h32 (encOK_int32 w) (fun _ _ => (List.takeWhile_prefix _).length_le) xs

example : (1 : Nat) ≤ 17 ∧ 17 ≤ 32 := by decide

/-- width 0 (both encoders share the branch): all-zero input is accepted and conformant -/
theorem encodeLevels_valid_zero (xs : List Nat) (h : ∀ x ∈ xs, x = 0) :
    ∃ bs, encodeLevels 0 xs = .ok bs ∧ ValidRle 0 xs bs :=
  by rw [encodeLevels_eq_encodeWith]; exact encodeWith_valid_zero xs h

theorem encodeInt32_valid_zero (stop : List Nat → Bool) (xs : List Nat) (h : ∀ x ∈ xs, x = 0) :
    ∃ bs, encodeInt32With stop 0 xs = .ok bs ∧ ValidRle 0 xs bs :=
  by rw [encodeInt32With_eq_encodeWith]; exact encodeWith_valid_zero xs h

example : ∀ x ∈ [0, 0, 0], x = 0 := by decide

/-- `encodeBits` on a non-empty input: conformant width-1 encoding of the bits of the bytes
(LSB first). RLE runs store the packed byte `0xFF` for `true` (DESIGN.md C04, note N1): conformant only because
the grammar, like the spec decoder, reads an RLE value modulo `2^w`. -/
theorem encodeBits_valid (src : List Nat) (hne : src ≠ []) :
    ValidRle 1 ((bytesToBits src).map b2n) (encodeBits src) := by
  obtain ⟨rs, hs, hr⟩ := encodeBits_runs src hne
  exact ⟨rs, hr.bits.1, hr.bits.2.1, hs⟩

example : [0xFF, 0x12] ≠ ([] : List Nat) := by decide

/-- Levels (`EncodeLevels`, width ≤ 8): the spec decoder returns the input for every in-range list. -/
theorem rle_roundtrip_levels (w : Nat) (xs : List Nat) (n : Nat) (hw : w ≤ 8)
    (hx : ∀ x ∈ xs, x < 2 ^ w) (hn : n ≤ xs.length) :
    encodeLevels w xs >>= specDecode w n = .ok (xs.take n) :=
  by rw [encodeLevels_eq_encodeWith]
     exact encodeWith_roundtrip hw (fun h1 => encOK_levels w h1 hw) scanLevels_le xs n hx hn

example : (∀ x ∈ [0, 3, 3, 3, 3, 3, 3, 3, 3, 1], x < 2 ^ 2) ∧ 10 ≤ [0, 3, 3, 3, 3, 3, 3, 3, 3, 1].length := by decide

/-- Int32 (`EncodeInt32`, width ≤ 32), portable and AVX2 segmentation alike. -/
theorem rle_roundtrip_int32 (stop : List Nat → Bool) (w : Nat) (xs : List Nat) (n : Nat) (hw : w ≤ 32)
    (hx : ∀ x ∈ xs, x < 2 ^ w) (hn : n ≤ xs.length) :
    encodeInt32With stop w xs >>= specDecode w n = .ok (xs.take n) :=
  by rw [encodeInt32With_eq_encodeWith]
     exact encodeWith_roundtrip hw (fun _ => encOK_int32 w) (fun _ _ => (List.takeWhile_prefix _).length_le) xs n hx hn

example : (∀ x ∈ [5, 5, 5, 5, 9, 9, 9, 9, 70000], x < 2 ^ 17) := by decide

/-- Booleans (`EncodeBoolean`): 4-byte length prefix + hybrid at width 1; the spec decoder returns
the bits of the packed input (any count `n` up to `8 * len`), provided the body is shorter than
4 GiB (the prefix is a `uint32`). -/
theorem rle_roundtrip_boolean (src : List Nat) (n : Nat) (hlen : (encodeBits src).length < 2 ^ 32)
    (hn : n ≤ 8 * src.length) :
    specDecodeBoolean n (encodeBoolean src) = .ok (((bytesToBits src).map b2n).take n) := by
  simp only [specDecodeBoolean, encodeBoolean]
  rw [prefix_strip 1 n _ hlen]
  cases src with
  | nil =>
    have : n = 0 := by simpa using hn
    subst this
    simp [specDecode, decodeRuns]
  | cons a rest =>
    exact specDecode_of_valid (encodeBits_valid (a :: rest) (by simp)) n
      (by rw [List.length_map, bytesToBits_length]; exact hn)

example : (encodeBits [0xFF, 0xFF, 0x12]).length < 2 ^ 32 := by
  simp [encodeBits, bitsLoop, scanBits, serialize, Run.bytes, uvarint_small]

/-- RLE_DICTIONARY index pages (`DictionaryEncoding.EncodeInt32`): the width byte is `bits.Len32`
of the largest index, so every `uint32` list round-trips with no further hypothesis. -/
theorem rle_roundtrip_dict (xs : List Nat) (n : Nat) (hx : ∀ x ∈ xs, x < 2 ^ 32) (hn : n ≤ xs.length) :
    encodeDict xs >>= specDecodeDict n = .ok (xs.take n) := by
  have hW : maxLen xs ≤ 32 := maxLen_le xs 32 hx
  exact bind_map_cons _ (rle_roundtrip_int32 constGroup (maxLen xs) xs n hW (lt_pow_maxLen xs) hn)
    (fun bs => by simp [specDecodeDict, Nat.not_lt.mpr hW])

example : ∀ x ∈ [0, 7, 4000000000], x < 2 ^ 32 := by decide

/-- At widths `1..8` `encodeBytes` never rejects: values are silently reduced modulo `2^w`
(bit-packed runs mask; RLE runs store the whole byte, which the format reads modulo `2^w`). -/
theorem levels_out_of_range_is_masked (w : Nat) (xs : List Nat) (h1 : 1 ≤ w) (h8 : w ≤ 8) :
    encodeLevels w xs >>= specDecode w xs.length = .ok (xs.map (· % 2 ^ w)) :=
  by rw [encodeLevels_eq_encodeWith]; exact encodeWith_masked h1 h8 (encOK_levels w h1 h8) scanLevels_le xs

theorem int32_out_of_range_is_masked (stop : List Nat → Bool) (w : Nat) (xs : List Nat) (h1 : 1 ≤ w)
    (h32 : w ≤ 32) :
    encodeInt32With stop w xs >>= specDecode w xs.length = .ok (xs.map (· % 2 ^ w)) :=
  by rw [encodeInt32With_eq_encodeWith]
     exact encodeWith_masked h1 h32 (encOK_int32 w) (fun _ _ => (List.takeWhile_prefix _).length_le) xs

theorem levels_width0_rejects_nonzero (xs : List Nat) (h : ∃ x ∈ xs, x ≠ 0) :
    encodeLevels 0 xs = .error .invalidBitWidth :=
  by rw [encodeLevels_eq_encodeWith]; exact encodeWith_zero_rejects xs h

theorem int32_width0_rejects_nonzero (stop : List Nat → Bool) (xs : List Nat) (h : ∃ x ∈ xs, x ≠ 0) :
    encodeInt32With stop 0 xs = .error .invalidBitWidth :=
  by rw [encodeInt32With_eq_encodeWith]; exact encodeWith_zero_rejects xs h

example : ∃ x ∈ [0, 0, 4], x ≠ 0 := by decide

/-- with width 0 and a non-zero value above, the only rejections -/
theorem levels_width_above_8_rejects (w : Nat) (xs : List Nat) (h : 8 < w) :
    encodeLevels w xs = .error .invalidBitWidth :=
  by rw [encodeLevels_eq_encodeWith]; exact encodeWith_above xs h

theorem int32_width_above_32_rejects (stop : List Nat → Bool) (w : Nat) (xs : List Nat) (h : 32 < w) :
    encodeInt32With stop w xs = .error .invalidBitWidth :=
  by rw [encodeInt32With_eq_encodeWith]; exact encodeWith_above xs h

/-- Witness that "the encoder rejects, never truncates silently" (DESIGN C04) does NOT hold for the
code as written: width 1, values 2 and 3 are accepted and come back as 0 and 1. -/
theorem levels_silent_truncation_witness :
    encodeLevels 1 [2, 3, 2, 3, 2, 3, 2, 3] >>= specDecode 1 8 = .ok [0, 1, 0, 1, 0, 1, 0, 1] :=
  levels_out_of_range_is_masked 1 [2, 3, 2, 3, 2, 3, 2, 3] (by decide) (by decide)

/-- The lane-local group test `constGroupAVX2` (not the one of the kernel in /repo, whose output equals the
portable mirror: histogram `rle.int32-asm-bytes`) segments differently from the portable test on the
smallest possible input, a second word of shape `a,a,a,a,b,b,b,b`: the byte output depends on `stop`. -/
theorem int32_segmentations_differ :
    encodeInt32 1 [0, 1, 0, 1, 0, 1, 0, 1, 0, 0, 0, 0, 1, 1, 1, 1] ≠
    encodeInt32AVX2 1 [0, 1, 0, 1, 0, 1, 0, 1, 0, 0, 0, 0, 1, 1, 1, 1] := by
  simp [encodeInt32, encodeInt32AVX2, encodeInt32With, int32Loop, groupLoop, groups8, tailLoop,
    constGroup, constGroupAVX2, serialize, Run.bytes, uvarint_small, packBytes, packBits, toBits,
    bitsToBytes, fromBits]

/-- Mirror of `decodeBits` (RLE runs expanded per value, DESIGN.md C04 deviation 4): on every
conformant width-1 stream (any segmentation, RLE runs of any length ≥ 1 — multiples of 8 or not —,
any stored value byte: `01`, `ff`, ..., bit-packed runs at any bit offset) it returns exactly the
encoded values. `dst` is a bit list here; the byte-level mirror is `goDecodeBooleanBytes`. -/
theorem decodeBoolean_of_valid {xs bs : List Nat} (h : ValidRleGo xs bs) :
    goDecodeBitValues bs = .ok xs := by
  obtain ⟨bits, rfl, hdec⟩ := goDecodeBitsLoop_of_valid h
  simp [goDecodeBitValues, hdec, Except.map]

theorem decodeBoolean_bytes_of_valid {xs bs : List Nat} (h : ValidRleGo xs bs) :
    ∃ bits : List Bool, bits.map b2n = xs ∧ goDecodeBits bs = .ok (bitsToBytes bits.length bits) := by
  obtain ⟨bits, hb, hdec⟩ := goDecodeBitsLoop_of_valid h
  exact ⟨bits, hb, by simp [goDecodeBits, hdec, Except.map]⟩

/-- 8 × true stored as `01`, the value byte other writers use -/
example : ValidRleGo [1, 1, 1, 1, 1, 1, 1, 1] [0x10, 0x01] :=
  ⟨[.rle 8 [1]], by simp [Run.WF], by simp [Run.GoOK], by simp [runsValues, Run.values, leNat],
    by simp [serialize, Run.bytes, uvarint_small]⟩

/-- Mirror of `decodeBytes` (levels, width ≤ 8): on every conformant stream whose runs it frames like
the format (`ValidRleGoW`: no empty RLE run, canonical RLE values, run lengths ≤ MaxInt32) it
returns exactly the encoded values, bit-packed padding of the last run included. -/
theorem goDecodeLevels_of_valid {w : Nat} {xs bs : List Nat} (hw : w ≤ 8) (h : ValidRleGoW w xs bs) :
    goDecodeLevels w bs = .ok xs := by
  obtain ⟨rs, hwf, hgo, rfl, rfl⟩ := h
  have a : ¬ w > 8 := by omega
  simp only [goDecodeLevels, a, if_false]
  rw [goLevelsLoop_serialize w hw rs _ [] hwf hgo (by have := serialize_length_ge rs; omega)]
  simp

/-- Mirror of `decodeInt32` (width ≤ 32), with the portable `bitpack.Unpack` word loop inside. -/
theorem goDecodeInt32_of_valid {w : Nat} {xs bs : List Nat} (hw : w ≤ 32) (h : ValidRleGoW w xs bs) :
    goDecodeInt32 w bs = .ok xs := by
  obtain ⟨rs, hwf, hgo, rfl, rfl⟩ := h
  have a : ¬ w > 32 := by omega
  simp only [goDecodeInt32, a, if_false]
  rw [goInt32Loop_serialize w hw rs _ [] hwf hgo (by have := serialize_length_ge rs; omega)]
  simp

example : ValidRleGoW 3 [5, 5, 5] [6, 5] :=
  ⟨[.rle 3 [5]], by simp [Run.WF], by simp [Run.GoOKW, leNat], by simp [runsValues, Run.values, leNat],
    by simp [serialize, Run.bytes, uvarint_small]⟩

theorem encodeLevels_validGo (w : Nat) (xs : List Nat) (h1 : 1 ≤ w) (h8 : w ≤ 8)
    (hx : ∀ x ∈ xs, x < 2 ^ w) (hl : xs.length ≤ 2 ^ 31 - 1) :
    ∃ bs, encodeLevels w xs = .ok bs ∧ ValidRleGoW w xs bs :=
  by rw [encodeLevels_eq_encodeWith]; exact encodeWith_validGo h1 h8 (encOK_levels w h1 h8) scanLevels_le xs hx hl

theorem encodeInt32_validGo (stop : List Nat → Bool) (w : Nat) (xs : List Nat) (h1 : 1 ≤ w) (h32 : w ≤ 32)
    (hx : ∀ x ∈ xs, x < 2 ^ w) (hl : xs.length ≤ 2 ^ 31 - 1) :
    ∃ bs, encodeInt32With stop w xs = .ok bs ∧ ValidRleGoW w xs bs :=
  by rw [encodeInt32With_eq_encodeWith]
     exact encodeWith_validGo h1 h32 (encOK_int32 w) (fun _ _ => (List.takeWhile_prefix _).length_le) xs hx hl

example : (∀ x ∈ [1, 0, 1, 1, 1, 1, 1, 1, 1, 1], x < 2 ^ 1) ∧ [1, 0, 1, 1, 1, 1, 1, 1, 1, 1].length ≤ 2 ^ 31 - 1 := by decide

theorem zeroWidth_go (xs : List Nat) (hall : xs.all (· == 0) = true) (hl : xs.length ≤ 2 ^ 31 - 1) :
    goDecodeLevels 0 (uvarint (2 * xs.length)) = .ok xs ∧ goDecodeInt32 0 (uvarint (2 * xs.length)) = .ok xs := by
  by_cases he : xs = []
  · subst he
    simp [goDecodeLevels, goDecodeInt32, goDecodeLevelsLoop, goDecodeInt32Loop, uvarint_small, goUvarint]
  · have hv := validGoW_zero xs ((all_zero_iff xs).mp hall) he hl
    exact ⟨goDecodeLevels_of_valid (by omega) hv, goDecodeInt32_of_valid (by omega) hv⟩

/-- In-library round trip on the model of both sides: `decodeBytes (encodeBytes xs) = xs` for every
width ≤ 8 and every in-range list shorter than 2^31. -/
theorem go_roundtrip_levels (w : Nat) (xs : List Nat) (hw : w ≤ 8) (hx : ∀ x ∈ xs, x < 2 ^ w)
    (hl : xs.length ≤ 2 ^ 31 - 1) : encodeLevels w xs >>= goDecodeLevels w = .ok xs :=
  by rw [encodeLevels_eq_encodeWith]
     exact encodeWith_go_roundtrip (goDecodeLevels w) (fun _ _ => goDecodeLevels_of_valid hw)
       (fun h0 => by subst h0; rfl) hw (fun h1 => encOK_levels w h1 hw) scanLevels_le xs hx hl

/-- `decodeInt32 (encodeInt32 xs) = xs`, width ≤ 32, portable and AVX2 segmentation -/
theorem go_roundtrip_int32 (stop : List Nat → Bool) (w : Nat) (xs : List Nat) (hw : w ≤ 32)
    (hx : ∀ x ∈ xs, x < 2 ^ w) (hl : xs.length ≤ 2 ^ 31 - 1) :
    encodeInt32With stop w xs >>= goDecodeInt32 w = .ok xs :=
  by rw [encodeInt32With_eq_encodeWith]
     exact encodeWith_go_roundtrip (goDecodeInt32 w) (fun _ _ => goDecodeInt32_of_valid hw)
       (fun h0 => by subst h0; rfl) hw (fun _ => encOK_int32 w) (fun _ _ => (List.takeWhile_prefix _).length_le) xs hx hl

/-- dictionary index pages: `DictionaryEncoding.DecodeInt32 (EncodeInt32 xs) = xs` -/
theorem go_roundtrip_dict (xs : List Nat) (hx : ∀ x ∈ xs, x < 2 ^ 32) (hl : xs.length ≤ 2 ^ 31 - 1) :
    encodeDict xs >>= goDecodeDict = .ok xs :=
  bind_map_cons _ (go_roundtrip_int32 constGroup (maxLen xs) xs (maxLen_le xs 32 hx) (lt_pow_maxLen xs) hl)
    (fun _ => rfl)

example : (∀ x ∈ [3, 3, 70000], x < 2 ^ 32) ∧ [3, 3, 70000].length ≤ 2 ^ 31 - 1 := by decide

theorem encodeBits_validGo (src : List Nat) (hne : src ≠ []) (hl : 8 * src.length ≤ 2 ^ 31 - 1) :
    ValidRleGo ((bytesToBits src).map b2n) (encodeBits src) := by
  obtain ⟨rs, hs, hr⟩ := encodeBits_runs src hne
  exact ⟨rs, hr.bits.1, hr.bits.2.2 (by rw [bytesToBits_length]; exact hl), hr.bits.2.1, hs⟩

/-- `DecodeBoolean (EncodeBoolean src) = src` on the models of both sides: every
byte string shorter than 2^28 bytes whose encoding is shorter than 4 GiB. -/
theorem go_roundtrip_boolean (src : List Nat) (hb : ∀ b ∈ src, b < 256)
    (hl : 8 * src.length ≤ 2 ^ 31 - 1) (hlen : (encodeBits src).length < 2 ^ 32) :
    goDecodeBoolean (encodeBoolean src) = .ok src := by
  rw [encodeBoolean, goDecodeBoolean_prefix _ (encodeBits_ne_nil src) hlen]
  cases src with
  | nil => simp [encodeBits, uvarint_small, goDecodeBits, goDecodeBitsLoop, goUvarint, bitsToBytes, Except.map]
  | cons a rest =>
    obtain ⟨bits, hbits, hdec⟩ := decodeBoolean_bytes_of_valid (encodeBits_validGo (a :: rest) (by simp) hl)
    have := map_b2n_inj _ _ hbits
    subst this
    rw [hdec, bitsToBytes_bytesToBits (a :: rest) hb _ (by rw [bytesToBits_length]; omega)]

example : (∀ b ∈ [0xFF, 0xFF, 0x12], b < 256) ∧ 8 * [0xFF, 0xFF, 0x12].length ≤ 2 ^ 31 - 1 := by decide

/-- `encodeBytesBitpackDefault` (levels encoder kernel): the transliterated word loop equals the
`packBytes` the encoder mirror uses, for every width and every list of 8-value words. -/
theorem levels_pack_kernel (w : Nat) (gs : List (List Nat)) (h : ∀ g ∈ gs, g.length = 8) :
    goEncodeBytesBitpack w gs = packBytes w gs.flatten :=
  goEncodeBytesBitpack_eq w gs h

/-- `decodeBytesBitpackDefault` (levels decoder kernel) -/
theorem levels_unpack_kernel (w g : Nat) (p : List Nat) (hl : p.length = g * w) (hb : ∀ b ∈ p, b < 256) :
    goDecodeBytesBitpack w g p = unpackBits w (8 * g) (bytesToBits p) :=
  goDecodeBytesBitpack_eq w g p hb

/-- `bitpack.Unpack` for int32 (portable `unpackInt32`, 32-bit words with straddling values) -/
theorem int32_unpack_kernel (w n : Nat) (p : List Nat) (hw : w ≤ 32) (hb : ∀ b ∈ p, b < 256)
    (hn : n * w ≤ 8 * p.length) : goUnpackInt32 w n p = unpackBits w n (bytesToBits p) :=
  goUnpackInt32_eq w n p hw hb hn

example : (17 : Nat) ≤ 32 ∧ (∀ b ∈ [1, 2, 3, 255, 0, 9, 9, 9, 9], b < 256) ∧ 4 * 17 ≤ 8 * [1, 2, 3, 255, 0, 9, 9, 9, 9].length := by decide

/-- `bitpack.Pack` for int32 (portable `packInt32Default`: 64-bit accumulator flushed 32 bits at a
time, then the tail bytes), as called by `encodeInt32BitpackDefault` -/
theorem int32_pack_kernel (w : Nat) (hw : w ≤ 32) (src : List Nat) : goPackInt32 w src = packBytes w src :=
  goPackInt32_eq w hw src

example : (32 : Nat) ≤ 32 := by decide

/-- The spec decoder of the deprecated BIT_PACKED encoding (values and bytes most significant bit
first) reads back every in-range list from the model of `bitpacked.encodeLevels`, for every width
`1..` and non-empty input (for width 0 or empty input the Go code emits the single byte `00`). -/
theorem bitpacked_roundtrip (w : Nat) (xs : List Nat) (hw : 1 ≤ w) (hne : xs ≠ [])
    (hx : ∀ x ∈ xs, x < 2 ^ w) :
    specDecodeBitPacked w xs.length (encodeBitPacked w xs) = .ok xs :=
  bitpacked_roundtrip_lemma w xs hw hne hx

example : (1 : Nat) ≤ 3 ∧ [1, 2, 3, 4, 5] ≠ ([] : List Nat) ∧ ∀ x ∈ [1, 2, 3, 4, 5], x < 2 ^ 3 := by decide

end PqModel.Props.C04Rle
