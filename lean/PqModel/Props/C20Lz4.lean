import PqModel.Spec.Lz4Seqs

/-! # C20, LZ4 block part — the reader on SEQUENCES (SPEC side)

`PqModel/Spec/BlockCodecs.lean` holds the LZ4 block reader `lz4Dec` written from
lz4_Block_format.md and one reference encoder (runs as matches at offset 1).
`PqModel/Spec/Lz4Seqs.lean` proves the reader on the format's own unit, the
sequence (literals, offset, match length), for every sequence list — what `inflate_fixedBlock_tokens`
is for DEFLATE; the reference encoder is one such list (`lz4Dec_encSimple`). Nothing here mirrors Go
code: pierrec/lz4 stays third-party and SAMPLED (sub-check `C20/lz4seqs`): every sampled output of the real encoder is parsed by
`parseBlock`, must re-encode to itself, be writable (`seqsOk`) and obey the end-of-block rules
(`endOk`) — i.e. lie in the domain of `lz4_reader_inverts_every_sequence_list` — and mean the
input; every generated sequence list goes through the real decoder and must come back as
`applySeqs` says.

OPEN (sampled, not proved): `∀ x level, lz4Dec (pierrec CompressBlock x) = x` — the real
matchers (hash table of `Compressor`, chains of `CompressorHC`) are not modelled; the theorem
covers every stream ANY conformant encoder can emit, the check shows the real one is conformant
on the samples. The real DECODER (amd64 assembly `decodeBlock`) is not mirrored either. -/
namespace PqModel.Props.C20Lz4
open PqModel.Spec.BlockCodecs PqModel.Spec.Lz4Seqs

/-- **Every writable sequence list is read back as it means**: literal runs and matches of any
length (4-bit fields and 255-byte extensions), every offset 1..65535 inside the output so far —
offset < match length, the overlapping copy, included — and any final literal run. -/
theorem lz4_reader_inverts_every_sequence_list (seqs : List Seq) (last : List UInt8)
    (hok : seqsOk seqs #[] = true) :
    lz4Dec (encSeqs seqs last) = .ok ((applySeqs seqs #[]).toList ++ last) :=
  lz4Dec_encSeqs seqs last hok

/-- an overlapping match (offset 2, length 4) after two literals -/
example : seqsOk [⟨[1, 2], 2, 0⟩] #[] = true ∧
    lz4Dec (encSeqs [⟨[1, 2], 2, 0⟩] [9]) = .ok [1, 2, 1, 2, 1, 2, 9] := by decide +kernel

/-- **…and nothing else is accepted**: a sequence list with an offset of 0 or one reaching before
the start of the output is rejected as a whole (`badOffset`), whatever follows. -/
theorem lz4_reader_rejects_unwritable_sequence_list (seqs : List Seq) (last : List UInt8)
    (h16 : ∀ s, s ∈ seqs → s.off < 65536) (hbad : seqsOk seqs #[] = false) :
    lz4Dec (encSeqs seqs last) = .error .badOffset :=
  lz4Dec_encSeqs_rejects seqs last h16 hbad

example : seqsOk [⟨[1, 2], 3, 0⟩] #[] = false ∧ seqsOk [⟨[1, 2], 0, 0⟩] #[] = false := by decide

/-- what a match means (lz4_Block_format.md "copy matchlength bytes from this position"): every
byte the match appends equals the byte `off` positions before it IN THE RESULT, also when the
source runs into the copy itself. -/
theorem lz4_match_copies_from_offset (out : Array UInt8) (s : Seq) (hok : seqOk out.size s = true)
    (i : Nat) (h1 : out.size + s.lits.length ≤ i) (h2 : i < out.size + s.lits.length + (s.ml + 4)) :
    (applySeq out s)[i]? = (applySeq out s)[i - s.off]? := by
  simp only [seqOk, Bool.and_eq_true, decide_eq_true_eq] at hok
  exact getElem?_copyBack s.off (s.ml + 4) (out ++ s.lits) i
    (by rw [size_appendList]; omega) (by rw [size_appendList]; omega) (by rw [size_appendList]; omega)

/-- a sequence keeps the output so far and its literals as a prefix -/
theorem lz4_sequence_keeps_prefix (out : Array UInt8) (s : Seq) (i : Nat) (h : i < out.size + s.lits.length) :
    (applySeq out s)[i]? = (out ++ s.lits)[i]? :=
  getElem?_copyBack_of_lt s.off (s.ml + 4) (out ++ s.lits) i (by rw [size_appendList]; omega)

/-- **A conformant encoder exists and is inverted**: the greedy matcher (any window) emits a
writable list that obeys the end-of-block restrictions and means the input, so
`lz4Dec (lz4Greedy w x) = x` for every `w`, `x`. -/
theorem lz4_reader_inverts_greedy_encoder (w : Nat) (x : List UInt8) :
    lz4Dec (lz4Greedy w x) = .ok x ∧
    seqsOk (greedy w x.length #[] [] x).1 #[] = true ∧
    endOk (greedy w x.length #[] [] x).1 (greedy w x.length #[] [] x).2 = true :=
  ⟨lz4Dec_lz4Greedy w x, (applySeqs_greedy w x.length #[] [] x).2, endOk_greedy w x.length #[] [] x⟩

/-- the matcher does emit matches, overlapping ones included -/
example : greedy 32 20 #[] [] (List.replicate 20 97) = ([⟨[97], 1, 10⟩], [97, 97, 97, 97, 97]) :=
  greedy_twenty_a

/-- the end-of-block rules are not implied by writability (so checking them on the real encoder's
output says something): a match that ends the block is readable but not conformant -/
example : seqsOk [⟨[1, 2, 3, 4], 4, 0⟩] #[] = true ∧ endOk [⟨[1, 2, 3, 4], 4, 0⟩] [] = false ∧
    lz4Dec (encSeqs [⟨[1, 2, 3, 4], 4, 0⟩] []) = .ok [1, 2, 3, 4, 1, 2, 3, 4] := by decide +kernel

end PqModel.Props.C20Lz4
