import PqModel.RowBufferRows

/-! # C08 — in-memory containers: the row reader of `RowBuffer[T]`

`rowBufferRows` against the reference reader of the property (a row counter over the rows the buffer
holds): a seek to any `k ≥ 0` — the end and beyond included — is accepted and leaves exactly
`rows.drop k` to be read; a read into `b` slots pops `take b` of what remains and reports EOF exactly
when nothing remains. The variant clamping at `len - 1` is refuted by `decide`. -/
namespace PqModel.Props.C08
open PqModel.RowBufferRows

/-- **rowbuffer_seek_refines.** From every open state, `SeekToRow k` with `k ≥ 0` succeeds, keeps the
    reader open and makes it deliver exactly `rows.drop k` (nothing for `k ≥ len(rows)`). -/
theorem rowbuffer_seek_refines {α} (s : St α) (h : Open s) (k : Int) (hk : 0 ≤ k) :
    (seek false s k).2 = .ok ∧ Open (seek false s k).1 ∧ (seek false s k).1.rows = s.rows ∧
      remaining (seek false s k).1 = s.rows.drop k.toNat := by
  obtain ⟨h0, h1⟩ := h
  have hk' : ¬ k < 0 := by omega
  have hi' : ¬ s.index < 0 := by omega
  simp only [RowBufferRows.seek, hk', hi', if_false, Bool.false_eq_true, remaining, Open]
  refine ⟨trivial, ?_, trivial, ?_⟩
  · split <;> omega
  · split
    · rename_i hgt
      have : s.rows.length ≤ k.toNat := by omega
      rw [List.drop_of_length_le this]
      simp
    · rfl

example : Open ({ rows := [1, 2, 3], index := 0 } : St Nat) := by decide

/-- **rowbuffer_read_pops.** From every open state a read into `b` slots returns `take b` of the
    remaining rows, leaves `drop b` of them, stays open, and reports EOF exactly when nothing is left. -/
theorem rowbuffer_read_pops {α} (s : St α) (h : Open s) (b : Nat) :
    (read s b).2.1 = (remaining s).take b ∧ remaining (read s b).1 = (remaining s).drop b ∧
      Open (read s b).1 ∧ (read s b).1.rows = s.rows ∧
      ((read s b).2.2 = true ↔ remaining (read s b).1 = []) := by
  obtain ⟨rows, index⟩ := s
  obtain ⟨h0, h1⟩ := h
  -- an open reader's index is a natural number `i ≤ len(rows)`: from here on lists and `Nat` only
  obtain ⟨i, rfl⟩ := Int.eq_ofNat_of_zero_le h0
  have hi : i ≤ rows.length := Int.ofNat_le.mp h1
  have hneg : ¬ ((i : Int) < 0) := Int.not_lt.mpr (Int.natCast_nonneg i)
  simp only [RowBufferRows.read, hneg, if_false, remaining, Open, ← Int.natCast_add, Int.toNat_natCast,
    Int.natCast_nonneg, Int.ofNat_le, true_and, decide_eq_true_eq, List.drop_eq_nil_iff, ← List.drop_drop]
  have hlen : (rows.drop i).length = rows.length - i := List.length_drop
  clear h0 h1
  rcases Nat.le_total b (rows.length - i) with hb | hb
  · rw [Nat.min_eq_right hb]
    exact ⟨rfl, rfl, by omega, by omega⟩
  · have hb' : (rows.drop i).length ≤ b := hlen ▸ hb
    rw [Nat.min_eq_left hb, List.take_of_length_le (Nat.le_of_eq hlen), List.take_of_length_le hb',
      List.drop_eq_nil_of_le (Nat.le_of_eq hlen), List.drop_eq_nil_of_le hb', Nat.add_sub_cancel' hi]
    exact ⟨rfl, rfl, Nat.le_refl _, fun _ => Nat.le_of_eq hlen, fun _ => rfl⟩

example : Open (read ({ rows := [1, 2, 3], index := 1 } : St Nat) 5).1 := by decide

/-- **rowbuffer_short_clamp_refuted.** The variant whose clamp is `len(rows) - 1`: after
    `SeekToRow(len)` it returns the last row once more instead of nothing; and on an empty buffer
    `SeekToRow(0)` leaves it in the closed state, so the next seek is refused. -/
theorem rowbuffer_short_clamp_refuted :
    (read (seek true ({ rows := [10, 11], index := 0 } : St Nat) 2).1 1).2.1 = [11] ∧
    (read (seek false ({ rows := [10, 11], index := 0 } : St Nat) 2).1 1).2.1 = [] ∧
    (seek true (seek true ({ rows := [], index := 0 } : St Nat) 0).1 0).2 = .closed ∧
    (seek false (seek false ({ rows := [], index := 0 } : St Nat) 0).1 0).2 = .ok := by decide

end PqModel.Props.C08
