import PqModel.Props.C05
import PqModel.StatsMulti

/-! # C05: the boundary order claimed by the column index of several row groups (`MultiRowGroup`)

MIRRORS: `multiAsc`/`multiDesc` (+ `ascSeams`/`descSeams`) of the REPAIRED
`(*multiColumnIndex).IsAscending/IsDescending` (multi_row_group.go), `multiAsc_before_fix`/`multiDesc_before_fix`
of the code before the repair. SPEC: `multiPages` (the members' pages one after the other) and "sorted" as
`Pairwise` over the entries of the non-null pages (the reader's view, as in `boundaryOrder_sound`). -/
namespace PqModel.Props.C05
open PqModel PqModel.Stats

/-- A claimed order of the combined index is TRUE: if every member chunk that claims an order has bounds that take
    part in the column order with `min ≤ max` (what `pageBounds_bound` + the NaN guard of the indexers give) and its
    own claim is true of its non-null pages (`boundaryOrder_sound*`), then `IsAscending()` of the
    `multiColumnIndex` implies that the mins and the maxs of ALL non-null pages of the view are ascending, and
    `IsDescending()` that they are descending — any number of members, members without pages, members made of
    null pages only anywhere, null pages at the borders. -/
theorem multiOrder_sound {α} {o : ColOrder α} (h : Lawful o) (cs : List (MChunk α))
    (hok : ∀ c ∈ cs, (c.asc = true ∨ c.desc = true) →
      ∀ p ∈ pairsOf c.pages, o.ok p.1 = true ∧ o.ok p.2 = true ∧ o.lt p.2 p.1 = false)
    (hasc : ∀ c ∈ cs, c.asc = true →
      (nonNullMins c.pages).Pairwise (fun a b => o.lt b a = false) ∧
      (nonNullMaxs c.pages).Pairwise (fun a b => o.lt b a = false))
    (hdesc : ∀ c ∈ cs, c.desc = true →
      (nonNullMins c.pages).Pairwise (fun a b => o.lt a b = false) ∧
      (nonNullMaxs c.pages).Pairwise (fun a b => o.lt a b = false)) :
    (multiAsc o cs = true →
      (nonNullMins (multiPages cs)).Pairwise (fun a b => o.lt b a = false) ∧
      (nonNullMaxs (multiPages cs)).Pairwise (fun a b => o.lt b a = false)) ∧
    (multiDesc o cs = true →
      (nonNullMins (multiPages cs)).Pairwise (fun a b => o.lt a b = false) ∧
      (nonNullMaxs (multiPages cs)).Pairwise (fun a b => o.lt a b = false)) := by
  have hflat : pairsOf (multiPages cs) = ((cs.map (fun c => pairsOf c.pages))).flatten := by
    simp only [multiPages, pairsOf_flatten, List.map_map]; rfl
  constructor
  · intro hm
    simp only [multiAsc, Bool.and_eq_true, List.all_eq_true] at hm
    obtain ⟨⟨_, hall⟩, hseams⟩ := hm
    have := ascSeams_sound h (cs.map (fun c => pairsOf c.pages)) none
      (by
        intro l hl p hp
        obtain ⟨c, hc, rfl⟩ := List.mem_map.mp hl
        exact hok c hc (Or.inl (hall c hc)) p hp)
      (by
        intro l hl
        obtain ⟨c, hc, rfl⟩ := List.mem_map.mp hl
        rw [pairwise_pairsAsc, ← nonNullMins_eq, ← nonNullMaxs_eq]
        exact hasc c hc (hall c hc))
      hseams
    rw [nonNullMins_eq, nonNullMaxs_eq, hflat, ← pairwise_pairsAsc]
    exact this.1
  · intro hm
    simp only [multiDesc, Bool.and_eq_true, List.all_eq_true] at hm
    obtain ⟨⟨_, hall⟩, hseams⟩ := hm
    rw [descSeams_eq_flip] at hseams
    -- the descending loop is the ascending loop of the flipped order over the swapped entries
    have hs' : ascSeams o.flip.lt none
        ((cs.map (fun c => pairsOf c.pages)).map (fun l => l.map (Prod.swap (α := α) (β := α)))) = true := hseams
    have := ascSeams_sound h.flip _ none
      (by
        intro l hl p hp
        obtain ⟨l', hl', rfl⟩ := List.mem_map.mp hl
        obtain ⟨c, hc, rfl⟩ := List.mem_map.mp hl'
        obtain ⟨q, hq, rfl⟩ := List.mem_map.mp hp
        have := hok c hc (Or.inr (hall c hc)) q hq
        exact ⟨this.2.1, this.1, this.2.2⟩)
      (by
        intro l hl
        obtain ⟨l', hl', rfl⟩ := List.mem_map.mp hl
        obtain ⟨c, hc, rfl⟩ := List.mem_map.mp hl'
        have := hdesc c hc (hall c hc)
        rw [nonNullMins_eq, nonNullMaxs_eq] at this
        rw [pairwise_pairsAsc, List.map_map, List.map_map]
        exact ⟨this.2, this.1⟩)
      hs'
    rw [nonNullMins_eq, nonNullMaxs_eq, hflat]
    rw [pairwise_pairsAsc, ← List.map_flatten, List.map_map, List.map_map] at this
    exact ⟨this.1.2, this.1.1⟩

-- two ascending members that line up, a member of null pages only in between, null pages at the border
example : multiAsc (sint 32)
    [⟨[some (0#32, 5#32), some (10#32, 50#32), none], true, false⟩, ⟨[none, none], true, false⟩,
     ⟨[none, some (50#32, 51#32), some (60#32, 61#32)], true, false⟩] = true := by decide
example : multiDesc (sint 32)
    [⟨[some (10#32, 12#32), some (8#32, 9#32)], false, true⟩, ⟨[some (1#32, 8#32), some (0#32, 0#32)], false, true⟩] = true := by
  decide

/-- Members written by the numeric indexers (`indexOrder`: null pages stored as `z`, no claim when a stored bound is
    NaN): the only hypothesis left is that each recorded entry has `min ≤ max` (true of `Bounds()` by
    `pageBounds_bound`). -/
theorem multiOrder_sound_writer {α} {o : ColOrder α} (h : Lawful o) (z : α) (members : List (List (Option (α × α))))
    (hmm : ∀ pages ∈ members, ∀ p ∈ pairsOf pages, o.lt p.2 p.1 = false) :
    let cs := members.map (fun pages => (⟨pages, indexOrder o z pages == 1, indexOrder o z pages == 2⟩ : MChunk α))
    (multiAsc o cs = true →
      (nonNullMins members.flatten).Pairwise (fun a b => o.lt b a = false) ∧
      (nonNullMaxs members.flatten).Pairwise (fun a b => o.lt b a = false)) ∧
    (multiDesc o cs = true →
      (nonNullMins members.flatten).Pairwise (fun a b => o.lt a b = false) ∧
      (nonNullMaxs members.flatten).Pairwise (fun a b => o.lt a b = false)) := by
  intro cs
  have hpages : multiPages cs = members.flatten := by
    simp [cs, multiPages, Function.comp_def]
  have key := multiOrder_sound h cs
    (by
      intro c hc hclaim p hp
      obtain ⟨pages, hpg, rfl⟩ := List.mem_map.mp hc
      -- a claim is made only when every stored bound takes part in the order
      have hguard : ((storedMins z pages).all o.ok && (storedMaxs z pages).all o.ok) = true := by
        by_cases hg : ((storedMins z pages).all o.ok && (storedMaxs z pages).all o.ok) = true
        · exact hg
        · simp [indexOrder, hg] at hclaim
      simp only [Bool.and_eq_true, List.all_eq_true] at hguard
      have hmem : some p ∈ pages := mem_pairsOf.mp hp
      refine ⟨hguard.1 p.1 ?_, hguard.2 p.2 ?_, hmm pages hpg p hp⟩
      · exact List.mem_map.mpr ⟨some p, hmem, rfl⟩
      · exact List.mem_map.mpr ⟨some p, hmem, rfl⟩)
    (by
      intro c hc hclaim
      obtain ⟨pages, _, rfl⟩ := List.mem_map.mp hc
      exact (boundaryOrder_sound h z pages).1 (by simpa using hclaim))
    (by
      intro c hc hclaim
      obtain ⟨pages, _, rfl⟩ := List.mem_map.mp hc
      exact (boundaryOrder_sound h z pages).2 (by simpa using hclaim))
  rw [hpages] at key
  exact key

example : indexOrder (sint 32) 0#32 [some (0#32, 5#32), some (10#32, 50#32)] = 1 ∧
    indexOrder (sint 32) 0#32 [some (50#32, 51#32), some (60#32, 61#32)] = 1 := by decide

/-- Members indexed by the BYTE_ARRAY indexer with ANY size limit (entries truncated, `orderOfBytes` over the
    truncated entries, null pages stored as the empty string): a claim of the view is true of the TRUNCATED
    entries a reader sees. Hypotheses: the exact bounds are byte strings with `min ≤ max`. -/
theorem multiOrder_sound_bytes (lim : Nat) (members : List (List (Option (List Nat × List Nat))))
    (hb : ∀ pages ∈ members, ∀ p ∈ pairsOf pages, (∀ x ∈ p.2, x ≤ 255) ∧ Trunc.lexLe p.1 p.2 = true) :
    let cs := members.map (fun pages =>
      (⟨recordedBytes lim pages, bytesIndexOrder lim pages == 1, bytesIndexOrder lim pages == 2⟩ : MChunk (List Nat)))
    (multiAsc bytes cs = true →
      (nonNullMins (multiPages cs)).Pairwise (fun a b => lexLt b a = false) ∧
      (nonNullMaxs (multiPages cs)).Pairwise (fun a b => lexLt b a = false)) ∧
    (multiDesc bytes cs = true →
      (nonNullMins (multiPages cs)).Pairwise (fun a b => lexLt a b = false) ∧
      (nonNullMaxs (multiPages cs)).Pairwise (fun a b => lexLt a b = false)) := by
  intro cs
  refine multiOrder_sound bytes_lawful cs ?_ ?_ ?_
  · intro c hc _ p hp
    obtain ⟨pages, hpg, rfl⟩ := List.mem_map.mp hc
    -- p is the truncation of an exact entry q of the member
    obtain ⟨b, hbm, hbp⟩ := List.mem_map.mp (mem_pairsOf.mp hp)
    cases b with
    | none => cases hbp
    | some q =>
    obtain rfl : (truncMinLim q.1 lim, truncMaxLim q.2 lim) = p := Option.some.inj hbp
    have hq : q ∈ pairsOf pages := mem_pairsOf.mpr hbm
    obtain ⟨hbytes, hle⟩ := hb pages hpg q hq
    refine ⟨rfl, rfl, ?_⟩
    have h1 := truncMinLim_le q.1 lim
    have h2 := truncMaxLim_ge q.2 lim hbytes
    have := Trunc.lexLe_trans _ _ _ (Trunc.lexLe_trans _ _ _ h1 hle) h2
    simp [bytes, lexLt, this]
  · intro c hc hclaim
    obtain ⟨pages, _, rfl⟩ := List.mem_map.mp hc
    have := (boundaryOrder_sound_bytes lim pages).1 (by simpa using hclaim)
    rwa [nonNullOf_bytesIndexMins, nonNullOf_bytesIndexMaxs] at this
  · intro c hc hclaim
    obtain ⟨pages, _, rfl⟩ := List.mem_map.mp hc
    have := (boundaryOrder_sound_bytes lim pages).2 (by simpa using hclaim)
    rwa [nonNullOf_bytesIndexMins, nonNullOf_bytesIndexMaxs] at this

-- limit 2: "abc".."abz" | "ac".."b" are recorded as "ab".."ac" | "ac".."b" and line up
example : bytesIndexOrder 2 [some ([97, 98, 99], [97, 98, 122]), some ([97, 98, 122], [97, 98, 122, 1])] = 1 ∧
    multiAsc bytes [⟨recordedBytes 2 [some ([97, 98, 99], [97, 98, 122]), some ([97, 98, 122], [97, 98, 122, 1])], true, false⟩,
      ⟨recordedBytes 2 [some ([97, 99], [98]), some ([98], [98, 1])], true, false⟩] = true := by decide

/-- Regression fact (the library before the repair): `IsDescending` compared the FIRST non-null page of a member
    with the LAST one of the next, so members (10,12)(1,2) | (8,9)(0,0) — each descending — were claimed descending
    as a whole although the mins 10,1,8,0 are not. The repaired mirror refuses the claim. -/
theorem multiDesc_before_fix_unsound :
    let cs : List (MChunk (BitVec 32)) :=
      [⟨[some (10#32, 12#32), some (1#32, 2#32)], false, true⟩, ⟨[some (8#32, 9#32), some (0#32, 0#32)], false, true⟩]
    multiDesc_before_fix (sint 32) cs = true ∧
    ¬ (nonNullMins (multiPages cs)).Pairwise (fun a b => (sint 32).lt a b = false) ∧
    multiDesc (sint 32) cs = false := by
  refine ⟨by decide, ?_, by decide⟩
  intro hp
  have := (List.pairwise_cons.mp (List.pairwise_cons.mp hp).2).1 8#32 (by decide)
  exact absurd this (by decide)

/-- Regression fact: both flags compared ADJACENT members only and skipped a pair when one side had no non-null
    page, so a member made of null pages only (which claims ASCENDING itself) hid the border between its
    neighbours: (5,9)(10,20) | null,null | (0,1)(2,3) was claimed ascending. -/
theorem multiAsc_before_fix_blind_across_null_chunk :
    let cs : List (MChunk (BitVec 32)) :=
      [⟨[some (5#32, 9#32), some (10#32, 20#32)], true, false⟩, ⟨[none, none], true, false⟩,
       ⟨[some (0#32, 1#32), some (2#32, 3#32)], true, false⟩]
    multiAsc_before_fix (sint 32) cs = true ∧
    ¬ (nonNullMins (multiPages cs)).Pairwise (fun a b => (sint 32).lt b a = false) ∧
    multiAsc (sint 32) cs = false := by
  refine ⟨by decide, ?_, by decide⟩
  intro hp
  have := (List.pairwise_cons.mp hp).1 0#32 (by decide)
  exact absurd this (by decide)

/-- Why the seam loop carries the MAX of the last page: members (0,5)(10,50) | (20,30)(35,60) line up on the mins
    (10 ≤ 20), yet the maxs 5,50,30,60 are not ascending; the mirror of the real loop refuses them. (A loop carrying
    the min, the seeded slip C05-4a / C06-3a, is `border_check_on_min_misses` in C06.) -/
theorem multiAsc_seam_needs_max :
    let cs : List (MChunk (BitVec 32)) :=
      [⟨[some (0#32, 5#32), some (10#32, 50#32)], true, false⟩, ⟨[some (20#32, 30#32), some (35#32, 60#32)], true, false⟩]
    multiAsc (sint 32) cs = false ∧
    ¬ (nonNullMaxs (multiPages cs)).Pairwise (fun a b => (sint 32).lt b a = false) := by
  refine ⟨by decide, ?_⟩
  intro hp
  have := (List.pairwise_cons.mp (List.pairwise_cons.mp hp).2).1 30#32 (by decide)
  exact absurd this (by decide)

end PqModel.Props.C05
