import PqModel.VariantLevelsLemmas
import PqModel.VariantCursor

/-!
# C19 — variant values survive encoding

`encode`/`encodeMeta`/`metaOf` are the MIRROR of `variant/encoding.go` + `variant/metadata.go`;
`decode`/`decodeMeta` are the SPEC decoders (PqModel/Variant.lean). `canon` is the key-sorted normal
form: the Go `Value.Equal` ("object fields compared without regard to order") is equality of `canon`.

Hypotheses: `wf v` (strings and keys are valid UTF-8, the keys of one object are pairwise distinct —
exactly what the format demands) and the 32-bit size limit of the format (offsets are at most four
bytes), stated on the encoder's own output length.

After the codec: shredding on logical slots, the Dremel levels of one occurrence (vocabulary: VariantLevelsLemmas.lean), the
typed read by path. The `example`s instantiate the hypotheses of the theorem before them.
-/
namespace PqModel.Variant

/-- a value used to show the hypotheses are satisfiable: unsorted keys, a repeated key in a nested
    object, an empty key, nested containers, a two-byte UTF-8 string, an int8, a decimal4, a uuid, a double, a binary. -/
def exampleValue : Value :=
  .obj [([0x7a], .prim (.int8 0xFD#8)),
        ([0x61], .arr [.prim (.string [0xc3, 0xa9]), .prim .null, .prim (.bool true),
                       .prim (.double 0x3ff0000000000000#64), .arr [], .obj []]),
        ([], .obj [([0x7a], .prim (.dec4 2 0xFFFFFFFB#32)), ([0x62], .prim (.uuid 0x000102030405060708090a0b0c0d0e0f#128))]),
        ([0x6d], .prim (.binary [0, 255]))]

/-- Every primitive kind (21 type ids + short strings), any dictionary. -/
theorem decode_encode_prim (d : Dict) (p : Prim) (hw : wfPrim p = true) (hs : primSizeOk p) :
    decode d (encode d (.prim p)) = .ok (.prim p) := by
  have := decodeF_prim (encPrim p).length d p [] hw hs
  simpa [decode, encode, enc] using this

example : wfPrim (.string [0xc3, 0xa9]) = true ∧ primSizeOk (.string [0xc3, 0xa9]) :=
  ⟨by decide, by simp [primSizeOk]⟩

/-- Any dictionary `d` that interns the keys of `v` (`wfV d v`); the result is the key-sorted normal form of `v`. -/
theorem decode_encode_dict (d : Dict) (hd : d.length ≤ 2 ^ 32) (v : Value) (hwf : wfV d v = true)
    (hlen : (encode d v).length < 2 ^ 32) : decode d (encode d v) = .ok (canon v) := by
  have := decode_enc_append d hd v [] hwf hlen
  simpa [decode, encode] using this

example : wfV [[0x61], [0x62], [], [0x6d], [0x7a]] exampleValue = true := by decide

/-- **C19 (codec).** With the dictionary the encoder itself builds (`metaOf v`, the `Add` calls in
    depth-first field order): the value written, up to object field order. -/
theorem decode_encode (v : Value) (hwf : wf v = true)
    (hlen : (encode (metaOf v) v).length < 2 ^ 32) :
    decode (metaOf v) (encode (metaOf v) v) = .ok (canon v) :=
  decode_encode_dict _ (Nat.le_trans (metaOf_length_le v) (Nat.le_of_lt hlen)) v (wfV_metaOf v hwf) hlen

example : wf exampleValue = true := by decide
example : (encode (metaOf exampleValue) exampleValue).length < 2 ^ 32 := by decide

/-- Values are self-delimiting: bytes after the value do not change what is decoded (this is what
    lets object fields be decoded from their start offset only). -/
theorem decode_encode_self_delimiting (v : Value) (rest : Bytes) (hwf : wf v = true)
    (hlen : (encode (metaOf v) v).length < 2 ^ 32) :
    decode (metaOf v) (encode (metaOf v) v ++ rest) = .ok (canon v) :=
  decode_enc_append (metaOf v) (Nat.le_trans (metaOf_length_le v) (Nat.le_of_lt hlen)) v rest (wfV_metaOf v hwf) hlen

/-- The metadata dictionary survives its own encoding, with the sorted_strings flag. -/
theorem decodeMeta_encodeMeta (v : Value) (hwf : wf v = true)
    (hlen : (encodeMeta (metaOf v)).length < 2 ^ 32) :
    decodeMeta (encodeMeta (metaOf v)) = .ok ⟨metaOf v, sortedFlag (metaOf v)⟩ := by
  have hl := encodeMeta_length (metaOf v)
  apply decodeMeta_encodeMeta_dict (metaOf v) _ (by omega) (by omega)
  intro k hk
  have := (mem_collect k v []).mp hk
  simp only [List.not_mem_nil, false_or] at this
  exact utf8_allKeys v hwf k this

example : (encodeMeta (metaOf exampleValue)).length < 2 ^ 32 := by decide

/-- The literal one-pass transliteration of the Go encoder (dictionary threaded through the
    traversal, ids as returned by `Add`) produces exactly the dictionary `metaOf v` and the bytes
    `encode (metaOf v) v` the theorems above are about. -/
theorem encode_one_pass (v : Value) : encSt [] v = (metaOf v, encode (metaOf v) v) :=
  encSt_eq v [] (metaOf v) (List.prefix_refl _)

/-- **C19 (codec), on bytes.** Decoding the two byte strings the encoder emits gives back the value. -/
theorem decode_encode_bytes (v : Value) (hwf : wf v = true)
    (hlen : (encode (metaOf v) v).length < 2 ^ 32)
    (hmeta : (encodeMeta (metaOf v)).length < 2 ^ 32) :
    ∃ m, decodeMeta (encodeMeta (metaOf v)) = .ok m ∧
      decode m.strings (encode (metaOf v) v) = .ok (canon v) :=
  ⟨_, decodeMeta_encodeMeta v hwf hmeta, decode_encode v hwf hlen⟩

/-! ### two limits of the Go implementation, with witnesses -/

/-- The format (and the spec decoder) keeps all 32 bits of a float, but `variant.Value` cannot
    hold a signalling float32 NaN: the image of `0x7f800001` under the Go representation is
    `0x7fc00001`. Bytes with such a payload change under Go's Decode → Encode. -/
theorem float32_snan_witness :
    decode [] (encode [] (.prim (.float 0x7f800001#32))) = .ok (.prim (.float 0x7f800001#32)) ∧
    goFloat32Image 0x7f800001#32 = 0x7fc00001#32 ∧ goFloat32Image 0x7f800001#32 ≠ 0x7f800001#32 :=
  ⟨decode_encode_prim [] _ rfl trivial, by decide, by decide⟩

/-- Object field values are located by their start offset only, so an encoding may let fields share
    bytes; the decoders accept it (here both fields of `{a, b}` are the one null byte). Nesting such
    objects makes the number of decoded values exponential in the input size. -/
theorem overlapping_fields_accepted :
    decode [[0x61], [0x62]] [0x02, 2, 0, 1, 0, 0, 1, 0x00] =
      .ok (.obj [([0x61], .prim .null), ([0x62], .prim .null)]) := by
  rfl

/-- `canon` is a normal form (idempotent), so "equal up to field order" (`canon v = canon w`) is an
    equivalence and `decode ∘ encode` lands in the class of `v`. -/
theorem canon_idem (v : Value) : canon (canon v) = canon v := canon_idem' v

/-- `canon` only reorders fields. -/
theorem canon_obj_perm (fs : List (Key × Value)) :
    ∃ gs, canon (.obj fs) = .obj gs ∧ gs.Perm (fs.map canonField) := by
  refine ⟨isort (·.1) (fs.map canonField), ?_, isort_perm _ _⟩
  simp [canon, canonFields_eq]

/-- two objects with the same fields in a different order have the same normal form -/
theorem canon_obj_of_perm (fs gs : List (Key × Value)) (hp : fs.Perm gs) (hnd : (keysOf fs).Nodup) :
    canon (.obj fs) = canon (.obj gs) := canon_obj_congr fs gs hp hnd


/-! ## shredding (logical model: one `(value, typed_value)` slot per variant group occurrence;
    `shred`/`unshred` MIRROR `variant_shredded_write.go` / `variant_shredded_read.go`) -/

/-- **C19 (shredding).** For every shredding schema — no typed_value, a primitive column of any
    type, lists, fully or partially shredded objects, nested to any depth — and every value,
    reconstructing what the writer shredded gives the value written, up to object field order. -/
theorem unshred_shred (s : Schema) (v : Value) (hs : wfS s = true) (hv : distinctKeys v = true) :
    ∃ r, unshred s (shred s v) = some r ∧ canon r = canon v := by
  obtain ⟨r, hr, hc⟩ := shredOK s hs v hv
  exact ⟨r, by simp [unshred, hr, RRes.orNull], hc⟩

/-- Typed columns: the parquet leaf value written when `variantToParquetValue` matches (int8/int16
    widened to INT32, decimal16 byte-reversed, uuid as 16 bytes, scale taken from the column type)
    is converted back by `parquetToVariantValue` to the same primitive. -/
theorem ofCol_toCol (t : PType) (p : Prim) (c : ColVal) (h : toCol t p = some c) :
    ofCol t c = some p := by
  revert h
  fun_cases toCol t p <;> intro h <;> cases h <;> simp only [ofCol]
  case case2 => rw [setWidth_signExtend (by decide)]  -- int8
  case case3 => rw [setWidth_signExtend (by decide)]  -- int16
  case case11 x =>  -- uuid
    rw [if_pos (beN_length _ _), unLE_reverse_beN _ _ (toNat_lt_pow256 16 x), BitVec.ofNat_toNat, BitVec.setWidth_eq]
  case case17 hm => rw [scale_of_match hm]  -- decimal4
  case case19 hm => rw [scale_of_match hm]  -- decimal8
  case case21 x hm =>  -- decimal16
    rw [if_pos (Nat.le_of_eq (beN_length _ _)), be16ToNat_beN _ (toNat_lt_pow256 16 x), scale_of_match hm,
      BitVec.ofNat_toNat, BitVec.setWidth_eq]

example : toCol (.dec16 38 2) (.dec16 2 (BitVec.ofInt 128 (-12345))) ≠ none := by decide
example : toCol .int8 (.int8 0x80#8) = some (.i32 0xFFFFFF80#32) := by decide

/-- **C19 (foreign typed_value encodings).** A DECIMAL typed_value leaf written by another writer
    is a big-endian two's complement integer of ANY length `1 ≤ n ≤ 16` (minimal-length BYTE_ARRAY,
    sign-padded BYTE_ARRAY, FIXED_LEN_BYTE_ARRAY(n)); `m` is its `n`-byte two's complement image.
    The mirror of `parquetToVariantValue` / `bigEndianToLittleEndian16` reads it as the decimal16
    holding the same integer: `m` itself when the sign bit (top bit of the FIRST byte) is clear,
    `m - 256^n + 2^128` when it is set. -/
theorem ofCol_decimal_any_length (p s n m : Nat) (hn1 : 1 ≤ n) (hn : n ≤ 16) (hm : m < 256 ^ n) :
    ofCol (.dec16 p s) (.bytes (beN n m)) =
      some (.dec16 (UInt8.ofNat s) (BitVec.ofNat 128
        (if m < 128 * 256 ^ (n - 1) then m else m + (256 ^ 16 - 256 ^ n)))) := by
  have hl : (beN n m).length ≤ 16 := by simp [beN]; exact hn
  simp only [ofCol, hl, if_true, be16ToNat_short n m hn1 hn hm]

example : ofCol (.dec16 20 2) (.bytes [0x00, 0xFF]) = some (.dec16 2 255#128) := by decide
example : ofCol (.dec16 20 2) (.bytes [0xCF, 0x00]) = some (.dec16 2 (BitVec.ofInt 128 (-12544))) := by
  decide
example : (1 : Nat) ≤ 2 ∧ 2 ≤ 16 ∧ 0xCF00 < 256 ^ 2 := by decide

/-- a partially shredding schema: `a` as a list of strings, `q` untyped, `z` as int8, `` as an object group,
    while the example value also has the field `m` (residual) and an `a` that holds other types too. -/
def exampleSchema : Schema :=
  .obj [([0x61], .list (.prim .string)), ([0x71], .untyped), ([0x7a], .prim .int8),
        ([], .obj [([0x62], .prim .uuid), ([0x63], .prim .bool)])]

example : wfS exampleSchema = true := by decide
example : distinctKeys exampleValue = true := distinctKeys_of_wf _ (by decide)

/-! ## Dremel levels of one shredded group occurrence (`emit` MIRRORS the level arithmetic of
    `variant_shredded_write.go`, `readG` MIRRORS `variant_shredded_read.go` on column cursors;
    `g`/`r` = definition level / repetition depth of the variant group in the enclosing schema, i.e.
    its optional and repeated ancestors; `rep` = repetition level of the occurrence's first cell) -/

/-- **C19 (levels).** `slotFits` is shape only, so foreign writers are covered (matching primitives left in
    `value`, missing list elements); `rest` is whatever follows in the column streams (the next occurrence below the
    same repeated ancestors, the next row). The level-driven reader consumes exactly the cells of the occurrence
    and returns what the slot-level reader returns. -/
theorem read_emit (s : Schema) (hs : lvOK s = true) (sl : Slot) (hf : slotFits s sl = true)
    (g r rep : Nat) (rest : List Col) (hl : rest.length = numLeaves s) (hcap : capped r rest) :
    readG s g r (zipApp (emit s g r rep sl) rest) = expect (unshredR s sl) rest :=
  readG_emit s hs sl g r rep rest hf hl hcap

/-- **C19 (shredding, on column streams).** Reading the cells the writer emitted for `shred s v`,
    below any optional / repeated ancestors, gives the value written up to field order and leaves
    the cursors at the next occurrence. -/
theorem read_emit_shred (s : Schema) (hs : wfS s = true) (hlv : lvOK s = true) (v : Value)
    (hv : distinctKeys v = true) (g r rep : Nat) (rest : List Col)
    (hl : rest.length = numLeaves s) (hcap : capped r rest) :
    ∃ x, readG s g r (zipApp (emit s g r rep (shred s v)) rest) = some (.val x, rest) ∧
      canon x = canon v := by
  obtain ⟨x, hx, hc⟩ := shredOK s hs v hv
  refine ⟨x, ?_, hc⟩
  rw [read_emit s hlv _ (fits_shred s v) g r rep rest hl hcap, hx]
  rfl

/-- A run of occurrences (the elements of a repeated ancestor, successive rows), each starting at a
    repetition level of at most `r`: `n` calls of the reader return the `n` occurrences in order and
    exhaust the streams — the occurrences are told apart by the levels alone. -/
theorem readAll_emitAll (s : Schema) (hs : lvOK s = true) (g r : Nat) (occs : List (Nat × Slot))
    (h : ∀ o ∈ occs, slotFits s o.2 = true ∧ o.1 ≤ r ∧ unshredR s o.2 ≠ .err) :
    readAll s g r occs.length (emitAll s g r occs) =
      some (occs.map (fun o => unshredR s o.2), List.replicate (numLeaves s) []) := by
  induction occs with
  | nil => simp [readAll, emitAll]
  | cons o rest ih =>
    obtain ⟨rep, sl⟩ := o
    have h0 := h (rep, sl) (by simp)
    have hrest : ∀ o ∈ rest, slotFits s o.2 = true ∧ o.1 ≤ r ∧ unshredR s o.2 ≠ .err :=
      fun o ho => h o (by simp [ho])
    have hr := readG_emit s hs sl g r rep (emitAll s g r rest) h0.1
      (emitAll_length s g r rest (fun o ho => (hrest o ho).1))
      (emitAll_capped s g r rest (fun o ho => ⟨(hrest o ho).1, (hrest o ho).2.1⟩))
    simp only [List.length_cons, readAll, emitAll, hr]
    cases hu : unshredR s sl with
    | err => exact absurd hu h0.2.2
    | missing => simp [expect, ih hrest, hu]
    | val v => simp [expect, ih hrest, hu]

example : lvOK exampleSchema = true := by decide
example : slotFits exampleSchema (shred exampleSchema exampleValue) = true := fits_shred _ _
example : capped 1 (emit (.list (.prim .int8)) 1 1 1 (shred (.list (.prim .int8)) (.arr []))) :=
  capped_of_heads (emit_heads _ _ _ _ _ (fits_shred _ _))

/-- the levels of `[1, "x"]` shredded as a list of int8 below one repeated ancestor (`g = r = 1`),
    second occurrence of its row (`rep = 1`): the second element repeats at level 2, not 1 (seeded
    change C19-3a), and the string falls back to the element's `value` column. -/
example : emit (.list (.prim .int8)) 1 1 1
      (shred (.list (.prim .int8)) (.arr [.prim (.int8 1#8), .prim (.string [0x78])])) =
    [[⟨1, 1, .null⟩],
     [⟨3, 1, .null⟩, ⟨4, 2, .val (.prim (.string [0x78]))⟩],
     [⟨4, 1, .typ (.int8 1#8)⟩, ⟨3, 2, .null⟩]] := by
  simp [emit, shred, shredList, emitList, matchesP, zipApp, valueCell, numLeaves]

/-! ## Typed read by path (the columnar `VariantReader`): `fieldCur`/`elemsCur`/`own` MIRROR the
    per-entry logic of `variant_column_reader.go` on logical slots; `navSpec` is the SPEC of a path
    (`$.k`: the field of an object, `[*]`: the elements of an array) on the values written. -/

/-- **C19 (typed read, any path).** Rows `vs` shredded through any well-formed schema `s`: along ANY
    path of `Field` / `Elements` steps — names of the shredding schema or not, through typed
    objects, typed lists, whole residual values and the leftovers of partially shredded objects —
    the window of the cursor has one entry per entry of the path on the values written, and each
    entry stands for the value written there (`Shows`: missing exactly where the path is missing). -/
theorem cursor_path_shred (s : Schema) (hs : wfS s = true) (vs : List Value)
    (hv : ∀ v ∈ vs, distinctKeys v = true) (path : List Step) :
    All2 Shows (navPathCur path (rootWindow s vs)) (navPathSpec path (vs.map some)) :=
  shows_path path (shows_rootWindow s hs vs hv)

/-- What `Shows` gives the caller: a missing path is tagged missing; a present one is rebuilt from
    the entry (typed objects / lists through the row reader's reconstruction of that slot) as the
    value written, up to object field order. -/
theorem cursor_shows_value {c : Cur} {o : Option Value} (h : Shows c o) :
    match o with
    | none => matCur c = .missing
    | some v => ∃ r, matCur c = .val r ∧ canon r = canon v := by
  cases h with
  | missing => rfl
  | value v => exact ⟨v, matCur_ofValue v, rfl⟩
  | shredded m s v hs hv =>
    obtain ⟨r, hr, hc⟩ := shredOK s hs v hv
    exact ⟨r, by rw [matCur_own_shred, hr], hc⟩

/-- The shortcut of `processVirtualField` ("no residual state in the parent window: every entry is
    missing") is sound because residual STATE counts the leftovers of partially shredded objects as
    well as whole residual values (`hasRes`; seeded change C19-4b counted the entries tagged
    LocResidual only). -/
theorem cursor_virtual_window_shortcut (k : Key) (ps : List Cur)
    (hk : ∀ p ∈ ps, ∀ fields tfs lo, p = .typedObj fields tfs lo → lookupField k fields tfs = none) :
    virtualFieldWindow k ps = ps.map (fieldCur k) := by
  -- the `match` is the body of `virtualFieldWindow`, spelt as there so that `map_congr_left` applies
  have hentry : ∀ p ∈ ps, (match p with
      | .resid v => navValue k v
      | .typedObj _ _ (some v) => navValue k v
      | _ => Cur.missing) = fieldCur k p := by
    intro p hp
    cases p with
    | typedObj fields tfs lo =>
      have := hk _ hp fields tfs lo rfl
      cases lo <;> simp [fieldCur, this]
    | _ => simp [fieldCur]
  have hfast : ∀ p ∈ ps, hasRes p = false → fieldCur k p = .missing := by
    intro p hp hr
    cases p with
    | typedObj fields tfs lo =>
      have := hk _ hp fields tfs lo rfl
      cases lo with
      | none => simp [fieldCur, this]
      | some v => simp [hasRes] at hr
    | resid v => simp [hasRes] at hr
    | _ => simp [fieldCur]
  unfold virtualFieldWindow
  split
  · rename_i hall
    apply List.map_congr_left
    intro p hp
    have := List.all_eq_true.mp hall p hp
    exact (hfast p hp (by simpa using this)).symm
  · exact List.map_congr_left hentry

/-- `m` (0x6d) is not in `exampleSchema`: it is found in the leftover of the partially shredded object;
    `z` is shredded as int8 and written as one; a name that occurs nowhere is missing.
    (`simp`, not `decide`: `Cur` has no decidable equality.) -/
example : navPathCur [.field [0x6d]] (rootWindow exampleSchema [exampleValue]) =
    [.resid (.prim (.binary [0, 255]))] := by
  simp [navPathCur, navCur, rootWindow, exampleSchema, exampleValue, shred_obj, own, fieldCur,
    lookupField_shredFields, findSchema, findField, residualOf, schemaNames, navValue, ofValue]
example : navPathCur [.field [0x7a]] (rootWindow exampleSchema [exampleValue]) =
    [.typedPrim (.int8 0xFD#8)] := by
  simp [navPathCur, navCur, rootWindow, exampleSchema, exampleValue, shred_obj, own, fieldCur,
    lookupField_shredFields, findSchema, findField, shred_prim, matchesP]
example : navPathCur [.field [0x01]] (rootWindow exampleSchema [exampleValue]) = [.missing] := by
  simp [navPathCur, navCur, rootWindow, exampleSchema, exampleValue, shred_obj, own, fieldCur,
    lookupField_shredFields, findSchema, findField, residualOf, schemaNames, navValue]
/-- with the count of LocResidual entries in place of the residual state the shortcut would answer
    `missing` for the field `m` of the example -/
example : (rootWindow exampleSchema [exampleValue]).all (fun p => !hasRes p) = false := by
  simp [rootWindow, exampleSchema, exampleValue, shred_obj, own, hasRes, residualOf, schemaNames]

end PqModel.Variant
