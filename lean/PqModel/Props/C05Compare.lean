import PqModel.CompareRows

/-! # C05: `Type.Compare` of the column types IS the spec order the statistics theorems quantify over.

The mirrors of compare.go / type_*.go are in PqModel/CompareTypes.lean; the SPEC side is the column orders `sint`, `uint`,
`float`, `bytes` of Stats.lean and the denotations `BitVec.toInt`, `BitVec.toNat`, `fDenote`, `intTypeDenote`.
`Compare.Lawful` is the total-preorder interface of the merge / sort theorems (C09, C10). -/
namespace PqModel.Props.C05
open PqModel PqModel.Stats PqModel.CompareTypes

/-- INT32 / INT64 (and DATE, TIME, TIMESTAMP, DECIMAL on them, which delegate): the order of the signed numbers;
    UINT32 / UINT64: the order of the unsigned numbers. Any width. -/
theorem compareInt_spec {w : Nat} (a b : BitVec w) :
    compareSigned a b = three ((sint w).lt a b) ((sint w).lt b a) ∧
    compareSigned a b = Compare.cmpInt a.toInt b.toInt ∧
    compareUnsigned a b = three ((uint w).lt a b) ((uint w).lt b a) ∧
    compareUnsigned a b = Compare.cmpInt (a.toNat : Int) (b.toNat : Int) := by
  refine ⟨compareSigned_eq a b, ?_, compareUnsigned_eq a b, ?_⟩
  · simp only [compareSigned, three, BitVec.slt, Compare.cmpInt, decide_eq_true_eq]
  · simp only [compareUnsigned, three, BitVec.ult, Compare.cmpInt, decide_eq_true_eq, Int.ofNat_lt]

example : compareInt32 (BitVec.ofInt 32 (-1)) 1#32 = -1 ∧ compareUint32 (BitVec.ofInt 32 (-1)) 1#32 = 1 := by decide

/-- BOOLEAN: `false < true` -/
theorem compareBool_spec (a b : Bool) :
    compareBool a b = Compare.cmpInt (a.toNat : Int) (b.toNat : Int) := by
  cases a <;> cases b <;> decide

/-- FLOAT / DOUBLE, every IEEE binary format: Go's `<` (comparison of the numbers the bit patterns denote, false
    on NaN) is the `lt` of the sign-magnitude column order `Stats.float`, the NaN tests agree, and so
    `compareFloat32/64` is the three-way reading of that order. NaN included: no hypothesis. -/
theorem compareFloat_spec (e m : Nat) (a b : BitVec (1 + e + m)) :
    ieeeIsNaN e m a = fIsNaN e m a ∧
    ieeeLt e m a b = (float e m).lt a b ∧
    compareFloat e m a b = three ((float e m).lt a b) ((float e m).lt b a) := by
  refine ⟨ieeeIsNaN_eq e m a, ieeeLt_eq e m a b, ?_⟩
  simp only [compareFloat, ieeeLt_eq]

/-- what the order of `Stats.float` means: on non-NaN patterns it is the order of the denoted numbers -/
theorem float_order_is_ieee (e m : Nat) (a b : BitVec (1 + e + m))
    (ha : fIsNaN e m a = false) (hb : fIsNaN e m b = false) :
    (float e m).lt a b = decide (fDenote e m a < fDenote e m b) := by
  rw [← ieeeLt_eq]
  simp [ieeeLt, ieeeIsNaN_eq, ha, hb]

-- 1.0 < 2.0, -0.0 = +0.0, -inf < -1.0, smallest subnormal > 0, NaN is not below +inf
example : compareFloat32 0x3f800000#32 0x40000000#32 = -1 ∧ compareFloat32 0x80000000#32 0x00000000#32 = 0 ∧
    compareFloat32 0xff800000#32 0xbf800000#32 = -1 ∧ compareFloat32 0x00000001#32 0x00000000#32 = 1 ∧
    fIsNaN 8 23 0x3f800000#32 = false ∧ fDenote 8 23 0x3f800000#32 < fDenote 8 23 0x40000000#32 := by decide

/-- BYTE_ARRAY, FIXED_LEN_BYTE_ARRAY, STRING, JSON, BSON, ENUM: `bytes.Compare` is the unsigned lexicographic order -/
theorem bytesCompare_spec (a b : List Nat) :
    bytesCompare a b = three (Stats.bytes.lt a b) (Stats.bytes.lt b a) := bytesCompare_eq a b

example : bytesCompare [1, 2] [1, 2, 0] = -1 ∧ bytesCompare [255] [1, 2] = 1 ∧ bytesCompare [] [] = 0 := by decide

/-- be128 / UUID: comparing the two big-endian 64-bit halves is `bytes.Compare` on 16-byte values, and `lessBE128`
    is its `< 0`; so the be128 column order is `Stats.bytes` like every other fixed-length byte array. -/
theorem compareBE128_spec (a b : List Nat) (la : a.length = 16) (lb : b.length = 16)
    (ha : IsBytes a) (hb : IsBytes b) :
    compareBE128 a b = bytesCompare a b ∧ lessBE128 a b = Stats.bytes.lt a b := by
  have hta : IsBytes (a.take 8) := fun x hx => ha x (List.mem_of_mem_take hx)
  have htb : IsBytes (b.take 8) := fun x hx => hb x (List.mem_of_mem_take hx)
  have hda : IsBytes (a.drop 8) := fun x hx => ha x (List.mem_of_mem_drop hx)
  have hdb : IsBytes (b.drop 8) := fun x hx => hb x (List.mem_of_mem_drop hx)
  have e1 := bytesCompare_beNat (a.take 8) (b.take 8) (by simp [la, lb]) hta htb
  have e2 := bytesCompare_beNat (a.drop 8) (b.drop 8) (by simp [la, lb]) hda hdb
  have e3 := bytesCompare_append (a.take 8) (b.take 8) (a.drop 8) (b.drop 8) (by simp [la, lb])
  rw [List.take_append_drop, List.take_append_drop] at e3
  have hc : compareBE128 a b = bytesCompare a b := by
    rw [e3, e1, e2]
    simp only [compareBE128, three]
    by_cases h1 : beNat (a.take 8) < beNat (b.take 8)
    · simp [h1]
    · by_cases h2 : beNat (a.take 8) > beNat (b.take 8) <;> simp [h1, h2]
  refine ⟨hc, ?_⟩
  rw [Bool.eq_iff_iff, CompareRows.lessBE128_iff, hc, bytesCompare_eq]
  exact three_lt _ _

example : compareBE128 [0,0,0,0,0,0,0,1, 255,255,255,255,255,255,255,255] [0,0,0,0,0,0,0,2, 0,0,0,0,0,0,0,0] = -1 ∧
    lessBE128 [0,0,0,0,0,0,0,1, 0,0,0,0,0,0,0,5] [0,0,0,0,0,0,0,1, 0,0,0,0,0,0,0,4] = false := by decide

/-- INT(bitWidth, isSigned) logical types: `(*intType).Compare` orders by the number the bits denote under the
    logical type, for every bit width and signedness (the 8/16/32-bit types read the low 32 bits). -/
theorem intTypeCompare_spec (bitWidth : Nat) (isSigned : Bool) (a b : BitVec 64) :
    intTypeCompare bitWidth isSigned a b =
      Compare.cmpInt (intTypeDenote bitWidth isSigned a) (intTypeDenote bitWidth isSigned b) := by
  unfold intTypeCompare intTypeDenote
  by_cases hw : bitWidth = 64 <;> cases isSigned <;> simp only [hw, if_true, if_false, Bool.false_eq_true]
  · exact (compareInt_spec a b).2.2.2
  · exact (compareInt_spec a b).2.1
  · exact (compareInt_spec _ _).2.2.2
  · exact (compareInt_spec _ _).2.1

-- UINT_32 sees 0xFFFFFFFF above 1, INT_32 below; the high half of the payload is ignored by the narrow types
example : intTypeCompare 32 false 0xFFFFFFFF#64 1#64 = 1 ∧ intTypeCompare 32 true 0xFFFFFFFF#64 1#64 = -1 ∧
    intTypeCompare 8 true 0x100000005#64 5#64 = 0 ∧ intTypeCompare 64 false 0x8000000000000000#64 1#64 = 1 := by
  decide

/-- `Type.Compare` of the integer, boolean and byte-string column types is a total preorder on ALL values: the
    mirrors satisfy the comparator interface (`Compare.Lawful`) under which the merge and sort theorems are proved. -/
theorem typeCompare_lawful :
    (∀ w, Compare.Lawful (compareSigned (w := w))) ∧ (∀ w, Compare.Lawful (compareUnsigned (w := w))) ∧
    Compare.Lawful compareBool ∧ Compare.Lawful bytesCompare ∧
    (∀ bw s, Compare.Lawful (intTypeCompare bw s)) := by
  have onInt : ∀ {α} (f : α → Int), Compare.Lawful (fun a b => Compare.cmpInt (f a) (f b)) :=
    fun f => Compare.onCol_lawful f Compare.cmpInt_lawful
  refine ⟨fun w => ?_, fun w => ?_, ?_, ?_, fun bw s => ?_⟩
  · exact lawful_three (sint_lawful w) (fun _ => rfl) compareSigned_eq
  · exact lawful_three (uint_lawful w) (fun _ => rfl) compareUnsigned_eq
  · have := onInt (fun a : Bool => (a.toNat : Int))
    exact (funext fun a => funext fun b => compareBool_spec a b) ▸ this
  · exact lawful_three bytes_lawful (fun _ => rfl) bytesCompare_eq
  · have := onInt (intTypeDenote bw s)
    exact (funext fun a => funext fun b => intTypeCompare_spec bw s a b) ▸ this

/-- FLOAT / DOUBLE: `compareFloat32/64` is a total preorder on the non-NaN values (`-0.0` and `+0.0` compare
    equal and are interchangeable), for every IEEE binary format. -/
theorem compareFloat_preorder_on_non_nan (e m : Nat) :
    (∀ a, compareFloat e m a a = 0) ∧
    (∀ a b, compareFloat e m a b < 0 ↔ 0 < compareFloat e m b a) ∧
    (∀ a b d, ieeeIsNaN e m b = false → compareFloat e m a b ≤ 0 → compareFloat e m b d ≤ 0 →
      compareFloat e m a d ≤ 0) := by
  have h := float_lawful e m
  simp only [compareFloat, ieeeLt_eq]
  refine ⟨cmp_self h, cmp_flip h, fun a b d hb => cmp_trans h ?_⟩
  rw [ieeeIsNaN_eq] at hb
  simp [float, ofKey, hb]

example : ieeeIsNaN 8 23 0x3f800000#32 = false ∧ ieeeIsNaN 11 52 0x7ff0000000000000#64 = false := by decide

/-- For EVERY leaf type the hand-written arm of `compareRowsFuncOfIndexAscending` performs exactly the comparison
    of that type's `Compare` method, and the arm of `compareRowsFuncOfIndexDescending` its negation: the fast
    positional comparator used for sorting and merging orders a column the way its statistics do. -/
theorem arms_are_typeCompare (t : LeafType) (a b : Val) :
    armAscending t a b = typeCompare t a b ∧ armDescending t a b = - typeCompare t a b := by
  cases t
  case time u => cases u <;> simp only [armAscending, armDescending, typeCompare] <;> simp
  case int bw sg =>
    simp only [armAscending, armDescending, typeCompare, intTypeCompare, Val.int32, Val.int64]
    by_cases h : bw = 64 <;> cases sg <;> simp [h]
  all_goals exact ⟨rfl, rfl⟩

example : armDescending (.int 32 false) ⟨0xFFFFFFFFFFFFFFFF#64, []⟩ ⟨1#64, []⟩ = -1 ∧
    armAscending .uuid ⟨16#64, List.replicate 16 0⟩ ⟨16#64, List.replicate 15 0 ++ [1]⟩ = -1 := by decide

/-- `Type.Compare` of every leaf type that reads neither floats nor 16-byte values is a total preorder on all
    values, and so are both of its row-comparator arms (`Compare.Lawful` is the hypothesis of the C09 / C10 theorems).
    The 16-byte condition `h128` is not used: the same holds of be128 / UUID (`C09.typeCompare_lawful_nonfloat`). -/
theorem typeCompare_lawful_leaf (t : LeafType) (hf : t.isFloat = false) (h128 : t.is128 = false) :
    Compare.Lawful (typeCompare t) ∧ Compare.Lawful (armAscending t) ∧ Compare.Lawful (armDescending t) :=
  have _ := h128; CompareRows.typeCompare_arms_lawful hf (arms_are_typeCompare t)

example : (LeafType.int 16 true).isFloat = false ∧ (LeafType.int 16 true).is128 = false ∧
    LeafType.string.isFloat = false ∧ LeafType.string.is128 = false := by decide

/-- A NaN compares EQUAL to every value, in both argument positions, in every format: `Type.Compare` of a float
    column returns 0 as soon as one side is NaN. -/
theorem compareFloat_nan_equals_everything (e m : Nat) (n x : BitVec (1 + e + m)) (hn : ieeeIsNaN e m n = true) :
    compareFloat e m n x = 0 ∧ compareFloat e m x n = 0 := by
  simp [compareFloat, ieeeLt, hn, three]

/-- Hence with NaN in the domain `compareFloat32` / `compareFloat64` are NOT total preorders: 1.0 = NaN and
    NaN = 2.0 by `Compare`, yet 1.0 < 2.0. This is why the statistics theorems carry `ok` (non-NaN) and why sorting
    or merging a float column that holds NaN is outside the `Compare.Lawful` theorems. -/
theorem compareFloat_not_lawful_with_nan :
    ¬ Compare.Lawful compareFloat32 ∧ ¬ Compare.Lawful compareFloat64 := by
  constructor
  · intro h
    have h1 : compareFloat32 0x40000000#32 0x7fc00000#32 ≤ 0 := by decide
    have h2 : compareFloat32 0x7fc00000#32 0x3f800000#32 ≤ 0 := by decide
    have h3 := h.trans _ _ _ h1 h2
    exact absurd h3 (by decide)
  · intro h
    have h1 : compareFloat64 0x4000000000000000#64 0x7ff8000000000000#64 ≤ 0 := by decide
    have h2 : compareFloat64 0x7ff8000000000000#64 0x3ff0000000000000#64 ≤ 0 := by decide
    have h3 := h.trans _ _ _ h1 h2
    -- comparing 2.0 with 1.0 evaluates `magOf` with an exponent near 1023: the elaborator's `decide` does not evaluate
    -- powers above 2^256 and runs out of recursion, the kernel computes them (the NaN cases above stop at the NaN test)
    have h4 : compareFloat64 0x4000000000000000#64 0x3ff0000000000000#64 = 1 := by decide +kernel
    omega

end PqModel.Props.C05
