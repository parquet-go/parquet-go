import PqModel.ColWriterLemmas

/-! # C11 — property theorems for the column-oriented write API (`ColumnWriter`)

Mirror: `PqModel.ColWriter` (`writeRowValues`, `flush`, `close`, `writeDataPage`, `totalRowCount`
= writer.go:2145-2192, 2419-2450, 2516-2520, 2891-2896; `rowPathOps` = one column of
`ConcurrentRowGroupWriter.WriteRows`, writer.go:1015-1079). Spec side: `headOK` ("a batch / data
page of a repeated column starts at repetition level 0", the documented contract of
`WriteRowValues`: whole rows). All statements are for every buffer kind, every `PageBufferSize`,
every history of `WriteRowValues` / `Flush` / `Close` calls and every split of the column's values
into batches. -/
namespace PqModel.Props.C11ColWriter
open PqModel.ColWriter

/-- **A file written through a `ColumnWriter` holds the column stream, whatever the batch split**:
    for every history of `WriteRowValues`, `Flush` and `Close` calls on a fresh column writer whose
    batches start at rows, what the finished row group holds for the column (the pages in order,
    after the flush of `writeRowGroup`) is the concatenation of the batches, and the row count the
    row group is given (`totalRowCount`) is the number of rows in it. -/
theorem colwriter_writes_the_stream (k : Kind) (bufferSize : Nat) (ops : List Op)
    (hw : ∀ vs, Op.write vs ∈ ops → headOK k vs = true) :
    written k (run k bufferSize fresh ops) = (writesOf ops).flatten ∧
    totalRowCount k (run k bufferSize fresh ops) = bufLen k (writesOf ops).flatten := by
  have hg := good_run bufferSize ops (good_fresh k) hw
  simp only [List.nil_append] at hg
  exact ⟨hg.written, totalRowCount_good hg⟩

/-- **Column path = row path**: take the rows of a row group, per row the
    values of one column (each row starting at repetition level 0). Writing the column through
    `ColumnWriter.WriteRowValues` in ANY split into batches that start at rows, with `Flush` and
    `Close` calls anywhere in between, under any page buffer size, gives the same column stream and
    the same row count as `WriteRows` of the rows (chunks of 64 rows), under any other page buffer
    size: both are the values of the rows in order. -/
theorem colwriter_equals_rowpath (k : Kind) (bs₁ bs₂ : Nat) (rows : List (List Val))
    (hr : ∀ r ∈ rows, headOK k r = true) (ops : List Op)
    (hw : ∀ vs, Op.write vs ∈ ops → headOK k vs = true)
    (hs : (writesOf ops).flatten = rows.flatten) :
    written k (run k bs₁ fresh ops) = written k (rowPath k bs₂ fresh rows) ∧
    written k (rowPath k bs₂ fresh rows) = rows.flatten ∧
    totalRowCount k (run k bs₁ fresh ops) = totalRowCount k (rowPath k bs₂ fresh rows) := by
  have h1 := colwriter_writes_the_stream k bs₁ ops hw
  have h2 := colwriter_writes_the_stream k bs₂ (rowPathOps (rows.length + 1) rows)
    (rowPathOps_heads _ rows hr)
  rw [rowPathOps_stream _ rows (Nat.lt_succ_self _)] at h2
  rw [hs] at h1
  exact ⟨by rw [rowPath, h1.1, h2.1], h2.1, by rw [rowPath, h1.2, h2.2]⟩

/-- **Page cutting and accounting**, at every point of every history: every data page written holds
    at least one value and starts at the beginning of a row; `numRows` is the number of rows of the
    pages, `FirstRowIndex` of page i the number of rows of the pages before it (so the offset index
    is usable for seeking), `NumValues` of the chunk the number of values of the pages; and the
    values not yet in a page are in the buffer, in order. -/
theorem pages_cut_at_rows_and_accounted (k : Kind) (bufferSize : Nat) (ops : List Op)
    (hw : ∀ vs, Op.write vs ∈ ops → headOK k vs = true) :
    let c := run k bufferSize fresh ops
    (∀ p ∈ c.pages, p ≠ [] ∧ headOK k p = true) ∧
    c.pages.flatten ++ c.vals = (writesOf ops).flatten ∧
    c.numRows = bufLen k c.pages.flatten ∧
    c.numValues = c.pages.flatten.length ∧
    c.firstRow = prefixSums 0 (c.pages.map (bufLen k)) := by
  have hg := good_run bufferSize ops (good_fresh k) hw
  simp only [List.nil_append] at hg
  refine ⟨hg.pagesOK, hg.stream, by rw [hg.rows, sum_map_bufLen], ?_, hg.first⟩
  rw [hg.nvals, List.length_flatten]

/-- **The page buffer size is honoured**: after every `WriteRowValues` of such a history, what stays
    buffered is smaller than the threshold (`Size() < bufferSize`) or nothing. -/
theorem buffer_below_threshold (k : Kind) (bufferSize : Nat) (ops : List Op) (vs : List Val)
    (hw : ∀ vs', Op.write vs' ∈ ops → headOK k vs' = true) (hvs : headOK k vs = true) :
    let c := (writeRowValues k bufferSize (run k bufferSize fresh ops) vs).1
    c.vals = [] ∨ bufSize k c.vals < bufferSize := by
  have hg := good_run bufferSize ops (good_fresh k) hw
  have hc' := good_append hg hvs
  simp only [writeRowValues]
  split
  · exact Or.inl (good_flush hc').2
  · next h => exact Or.inr (by simpa [CW.vals] using h)

/-- `WriteRowValues` returns the number of rows of the batch, whatever is buffered. -/
theorem writeRowValues_returns_rows (k : Kind) (bufferSize : Nat) (c : CW) (vs : List Val) :
    (writeRowValues k bufferSize c vs).2 = bufLen k vs := by
  unfold writeRowValues
  cases hb : c.buf <;> simp [CW.vals, hb, bufLen_append] <;> split <;> simp

/-- The threshold is exercised: a repeated column, rows of 2, 1
    and 3 values written as two batches under a threshold of 30 bytes (first batch: 2*8 rows +
    2*3 levels + 3*4 values = 34 ≥ 30, flushed as one page of two rows; the second stays buffered
    until the row group is flushed). -/
example :
    let s : Val := ⟨true, false, 4⟩
    let c : Val := ⟨false, false, 4⟩
    let r := run .repeated 30 fresh [.write [s, c, s], .write [s, c, c]]
    r.pages = [[s, c, s]] ∧ r.vals = [s, c, c] ∧ r.numRows = 2 ∧ totalRowCount .repeated r = 3 ∧
    (flush .repeated r).firstRow = [0, 2] := by decide +kernel

example : ∀ vs, Op.write vs ∈ [Op.write [(⟨true, false, 4⟩ : Val)], .flush] → headOK .repeated vs = true := by
  intro vs h; simp at h; subst h; rfl

/-- row path: 130 rows of one value are three `WriteRowValues` calls (64, 64, 2 rows) -/
example : (writesOf (rowPathOps 131 (List.replicate 130 [(⟨true, false, 4⟩ : Val)]))).map List.length = [64, 64, 2] := by
  decide +kernel

/-- **The whole-rows contract is necessary (1)**: `Close` after a batch of a repeated column that
    does not start a row (nothing buffered before it) silently discards the batch: `Flush` sees
    `Len() = 0` and writes nothing, `Close` then resets the buffer. -/
theorem close_discards_headless_batch :
    let v : Val := ⟨false, false, 4⟩
    written .repeated (run .repeated 1000 fresh [.write [v], .close]) = [] ∧
    written .repeated (run .repeated 1000 fresh [.write [v]]) = [] := by decide +kernel

/-- **The whole-rows contract is necessary (2)**: a batch that ends in the middle of a row can be
    followed by a page cut, and the next data page then starts in the middle of a row. -/
theorem split_row_gives_page_starting_mid_row :
    let s : Val := ⟨true, false, 4⟩
    let c : Val := ⟨false, false, 4⟩
    (flush .repeated (run .repeated 0 fresh [.write [s, c], .write [c, s]])).pages = [[s, c], [c, s]] := by
  decide +kernel

end PqModel.Props.C11ColWriter
