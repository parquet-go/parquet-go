import PqModel.C19Carrier
import PqModel.VariantShredLemmas
import PqModel.Props.C01Decimal

/-! # C19, DECIMAL carriers: a typed_value slot is used only when the value round-trips through the carrier
    (every carrier INT32 / INT64 / FLBA(n) / BYTE_ARRAY, every precision and scale). What does not round-trip
    stays in `value`; the `slip_*` facts are about the writer variant that stores the high-order end `be[:n]`. -/
namespace PqModel.Props.C19Carrier
open PqModel.Stats PqModel.LogicalDecimal PqModel.Variant PqModel.Variant.Carrier

theorem carrier_round_trip (n : Nat) (x : Int) (b : List Nat) (h : toCarrier n x = some b) :
    b.length = n ∧ IsBytes b ∧ ofCarrier b = x := by
  have hd : 2 * x.natAbs < 256 ^ n := by
    by_cases hd : 2 * x.natAbs < 256 ^ n
    · exact hd
    · rw [toCarrier, (PqModel.Props.C01Decimal.decimal_flba_domain x n).mpr hd] at h
      cases h
  have ⟨b', h1, h2, h3, h4⟩ := PqModel.Props.C01Decimal.decimal_flba_read_write x n hd
  simp only [toCarrier] at h
  rw [h1] at h
  cases h
  exact ⟨h2, h3, h4⟩
example : toCarrier 2 (-98765 % 1000) = some [0, 235] := by decide

theorem carrier_domain (n : Nat) (x : Int) : toCarrier n x = none ↔ ¬ 2 * x.natAbs < 256 ^ n :=
  PqModel.Props.C01Decimal.decimal_flba_domain x n
example : toCarrier 2 12345 = some [48, 57] ∧ toCarrier 1 12345 = none := by decide

/-- **a decimal lands in the typed column only if the reader gives it back** (`slip = false`: the writer as it is) -/
theorem typed_slot_round_trips (c : DecCol) (p : Prim) (v : CV) (h : decToCol false c p = some v) :
    wellTyped c v = true ∧ decOfCol c v = some p := by
  revert h
  -- one goal per branch of the writer; where it answers `none` there is nothing to show
  fun_cases decToCol false c p <;> intro h <;> cases h
  case case1 hp hc => simp [wellTyped, decOfCol, hp, scale_of_match hc]  -- decimal4 on INT32
  case case4 hp hc => simp [wellTyped, decOfCol, hp, scale_of_match hc]  -- decimal8 on INT64
  case case7 hc hp =>  -- decimal16 on BYTE_ARRAY
    simp [wellTyped, decOfCol, hp, be16_length, readDecimal_be16, scale_of_match hc]
  case case8 hslip _ => cases hslip  -- the `slip = true` branch: not this writer
  case case10 hc _ hp =>  -- decimal16 on FIXED_LEN_BYTE_ARRAY(16)
    simp [wellTyped, decOfCol, hp, be16_length, readDecimal_be16, scale_of_match hc]
example : decToCol false ⟨.flba 16, 38, 2⟩ (.dec16 2 12345#128) ≠ none ∧
    decToCol false ⟨.flba 8, 18, 2⟩ (.dec16 2 12345#128) = none ∧
    decToCol false ⟨.int32, 9, 2⟩ (.dec4 2 12345#32) = some (.i32 12345#32) := by decide

/-- the carrier-aware choice is read back exactly: FLBA(n ≤ 16) holding the n-byte two's complement of a
    decimal16 reads as that decimal16 -/
theorem spec_choice_round_trips (c : DecCol) (n : Nat) (hn : n ≤ 16) (sc : UInt8) (x : BitVec 128) (b : List Nat)
    (h : specDec16Flba c n sc x = some b) :
    b.length = n ∧ decOfCol ⟨.flba n, c.prec, c.scale⟩ (.bytes b) = some (.dec16 sc x) := by
  simp only [specDec16Flba] at h
  split at h
  · rename_i hc
    simp only [Bool.and_eq_true, decide_eq_true_eq] at hc
    have ⟨hl, _, hv⟩ := carrier_round_trip n x.toInt b h
    refine ⟨hl, ?_⟩
    simp only [ofCarrier] at hv
    simp [decOfCol, hl, hn, hv, hc.1]
  · cases h
example : specDec16Flba ⟨.flba 8, 18, 2⟩ 8 2 (BitVec.ofInt 128 (-98765)) =
    some [255, 255, 255, 255, 255, 254, 126, 51] := by decide

/-- `slip` (C19-7a): the high-order slice is stored, the value reads back as 0 -/
theorem slip_breaks_round_trip :
    decToCol true ⟨.flba 8, 18, 2⟩ (.dec16 2 12345#128) = some (.bytes [0, 0, 0, 0, 0, 0, 0, 0]) ∧
    decOfCol ⟨.flba 8, 18, 2⟩ (.bytes [0, 0, 0, 0, 0, 0, 0, 0]) = some (.dec16 2 0#128) ∧
    decToCol false ⟨.flba 8, 18, 2⟩ (.dec16 2 12345#128) = none := by decide

/-- ... and -98765 as -1 -/
theorem slip_breaks_round_trip_neg :
    (decToCol true ⟨.flba 8, 18, 2⟩ (.dec16 2 (BitVec.ofInt 128 (-98765)))).bind (decOfCol ⟨.flba 8, 18, 2⟩) =
      some (.dec16 2 (BitVec.ofInt 128 (-1))) := by decide

/-- the slipped writer differs from the real one on FLBA(n < 16) decimal16 only -/
theorem slip_same_at_16 (c : DecCol) (p : Prim) (h : ∀ n, c.phys = .flba n → 16 ≤ n) :
    decToCol true c p = decToCol false c p := by
  cases p <;> simp only [decToCol]
  case dec16 sc x =>
    split
    · cases hp : c.phys <;> simp only
      case flba n =>
        have := h n hp
        simp only [if_true, Bool.false_eq_true, if_false]
        by_cases h16 : n = 16
        · subst h16; simp [be16_length, List.take_of_length_le]
        · rw [if_neg (by omega), if_neg h16]
    · rfl
example : ∀ n, (DecCol.mk (.flba 16) 38 2).phys = .flba n → 16 ≤ n := by intro n h; cases h; omega

end PqModel.Props.C19Carrier
