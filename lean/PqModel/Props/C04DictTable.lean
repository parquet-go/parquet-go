import PqModel.DictTable
import PqModel.Props.C04DictReset
import PqModel.Props.C04HashProbe

/-! # C04 (part "dicttable") — the probe-table dictionaries over the REAL table mirror

`Props/C04DictReset.lean` proves the Insert/Reset sessions of the probe-table dictionary types
(int32/int64/float/double/uint32/uint64/be128) with the hashprobe table taken as a list oracle;
`Props/C04HashProbe.lean` proves that the real open-addressing tables answer that oracle. Here the two are
composed: `PqModel/DictTable.lean` states the Go dictionary code (`init`, the chunked `insert`, `Reset`) over
the table mirror of `PqModel/HashProbe.lean` (dictionary type → table → groups), for every group size, every
sizing function with `SizingOk`, every stream of hash seeds.

The one session that does not return in the real code — a first `Insert` of an EMPTY batch on a dictionary
created over a NON-EMPTY page: `init` computes `n = min(len(values), len(indexes)) = 0` and loops
`for i := 0; i < len(values); i += n` (dictionary_int32.go:46-51; harness observation
`dict-preloaded-empty-insert-hangs`, L2 `dict-preloaded-empty-insert-termination-model`) — is the only one
excluded; the list-oracle mirror cannot see it (its `probeTable` is a closed form of `init`). -/
namespace PqModel.Props.C04DictTable
open PqModel.Plain PqModel.DictReset PqModel.HashProbe PqModel.DictTable

section
variable {α : Type} [DecidableEq α]

/-- the composed mirror (dictionary state machine over the real table) equals the list-oracle machine of
    `DictReset.lean` on every session: same indexes call by call, same page, every call returns -/
theorem table_session_eq_oracle (c : Cfg α) (hsz : SizingOk c.G c.sz) (page : List α) (tick : Nat)
    (ops : List (Op α)) (hfirst : page = [] ∨ firstOk ops) :
    ∃ s', tableRun c (tableNew page tick) ops = some (s', (probeMachine.run (probeNew page) ops).2)
      ∧ s'.values = (probeMachine.run (probeNew page) ops).1.values
      ∧ Rep c s' (probeMachine.run (probeNew page) ops).1 := by
  obtain ⟨s', e, hr⟩ := tableRun_refines c hsz ops (tableNew page tick) (probeNew page) ⟨rfl, trivial⟩
    (fun _ hne => hfirst.resolve_left hne)
  exact ⟨s', e, hr.1, hr⟩

/-- FINDING (mirror side): the `init` loop entered with an empty batch (`n = 0`) over a non-empty page does not
    end within ANY number of rounds -/
theorem init_loop_with_empty_batch_never_ends (c : Cfg α) (fuel : Nat) (t : Table α) (k : Nat) (x : α)
    (xs : List α) : initLoop c 0 fuel t k (x :: xs) = none := initLoop_zero_hangs c fuel t k x xs

/-- FINDING: a first `Insert` of an empty batch on a dictionary created over a non-empty page never returns
    (no hypothesis on the table parameters) -/
theorem first_empty_insert_on_loaded_page_never_returns (c : Cfg α) (x : α) (xs : List α) (tick : Nat)
    (cs : List (List α)) (he : cs.flatten = []) (ops : List (Op α)) :
    tableRun c (tableNew (x :: xs) tick) (.insert cs :: ops) = none := by
  simp only [tableRun, tableStep, tableInsert_empty_hangs c x xs tick cs he]

/-- exactly that session hangs, no other -/
theorem table_session_terminates_iff (c : Cfg α) (hsz : SizingOk c.G c.sz) (page : List α) (tick : Nat)
    (ops : List (Op α)) :
    tableRun c (tableNew page tick) ops ≠ none ↔ (page = [] ∨ firstOk ops) := by
  constructor
  · intro h
    cases page with
    | nil => exact Or.inl rfl
    | cons x xs =>
      right
      cases ops with
      | nil => trivial
      | cons op ops =>
        cases op with
        | reset => trivial
        | insert cs =>
          intro he
          exact h (first_empty_insert_on_loaded_page_never_returns c x xs tick cs he ops)
  · intro h
    obtain ⟨s', e, _⟩ := table_session_eq_oracle c hsz page tick ops h
    simp [e]

/-- the SPEC session (first-occurrence insert, Reset = empty dictionary) is what the composed mirror computes,
    from any duplicate-free page -/
theorem table_session_refines_spec (c : Cfg α) (hsz : SizingOk c.G c.sz) (page : List α) (hn : page.Nodup)
    (tick : Nat) (ops : List (Op α)) (hfirst : page = [] ∨ firstOk ops) :
    ∃ s', tableRun c (tableNew page tick) ops = some (s', (specRun id page ops).2)
      ∧ s'.values = (specRun id page ops).1 := by
  obtain ⟨s', e, hv, _⟩ := table_session_eq_oracle c hsz page tick ops hfirst
  obtain ⟨a1, a2⟩ := C04DictReset.probe_session_refines_spec page hn ops
  exact ⟨s', by rw [e, a2], by rw [hv, a1]⟩

/-- insert after Reset = insert into a fresh dictionary, on the composed mirror: whatever the earlier row
    groups held, however the table grew and whichever seeds were drawn (`tick'` arbitrary) -/
theorem table_insert_after_reset (c : Cfg α) (hsz : SizingOk c.G c.sz) (page : List α) (hn : page.Nodup)
    (tick tick' : Nat) (pre post : List (Op α)) (hfirst : page = [] ∨ firstOk pre) :
    ∃ s sp sf outPre outPost,
      tableRun c (tableNew page tick) pre = some (sp, outPre)
      ∧ tableRun c (tableNew [] tick') post = some (sf, outPost)
      ∧ tableRun c (tableNew page tick) (pre ++ .reset :: post) = some (s, outPre ++ [] :: outPost)
      ∧ s.values = sf.values := by
  obtain ⟨sp, e1, _⟩ := table_session_eq_oracle c hsz page tick pre hfirst
  obtain ⟨sf, e2, v2, _⟩ := table_session_eq_oracle c hsz [] tick' post (Or.inl rfl)
  obtain ⟨s, e3, v3, _⟩ := table_session_eq_oracle c hsz page tick (pre ++ .reset :: post)
    (hfirst.imp id (firstOk_append pre post))
  obtain ⟨a1, a2⟩ := C04DictReset.probe_insert_after_reset page hn pre post
  exact ⟨s, sp, sf, _, _, e1, e2, by rw [e3, a2], by rw [v3, v2, a1]⟩

/-- the row group written after any history of earlier row groups round-trips, on the composed mirror: its
    page is the first occurrences of its own values and the indexes handed out denote the values -/
theorem table_row_group_after_reset_roundtrip (c : Cfg α) (hsz : SizingOk c.G c.sz) (page : List α)
    (hn : page.Nodup) (tick : Nat) (pre gen : List (Op α)) (hfirst : page = [] ∨ firstOk pre)
    (hg : noReset gen = true) :
    ∃ s sp outPre outGen,
      tableRun c (tableNew page tick) pre = some (sp, outPre)
      ∧ tableRun c (tableNew page tick) (pre ++ .reset :: gen) = some (s, outPre ++ [] :: outGen)
      ∧ s.values = (batchesOf gen).eraseDups
      ∧ outGen.flatten.map (s.values[·]?) = (batchesOf gen).map some := by
  obtain ⟨sp, e1, _⟩ := table_session_eq_oracle c hsz page tick pre hfirst
  obtain ⟨s, e3, v3, _⟩ := table_session_eq_oracle c hsz page tick (pre ++ .reset :: gen)
    (hfirst.imp id (firstOk_append pre gen))
  obtain ⟨b1, b2, b3⟩ := C04DictReset.probe_row_group_after_reset_roundtrip page hn pre gen hg
  refine ⟨s, sp, _, _, e1, by rw [e3, b2], by rw [v3, b1], ?_⟩
  rw [v3, b1]; exact b3

/-- the invariant `ProbeInv` of the list-oracle machine, on the real table: after any session from a
    duplicate-free page the table (once created) represents exactly the numbering of the page's positions -/
theorem table_numbers_the_page (c : Cfg α) (hsz : SizingOk c.G c.sz) (page : List α) (hn : page.Nodup)
    (tick : Nat) (ops : List (Op α)) (hfirst : page = [] ∨ firstOk ops) :
    ∃ s' outs, tableRun c (tableNew page tick) ops = some (s', outs)
      ∧ s'.values.Nodup ∧ ∀ t, s'.table = some t → TInv c.G t (numbering s'.values) := by
  obtain ⟨s', e, hv, hr⟩ := table_session_eq_oracle c hsz page tick ops hfirst
  obtain ⟨hnd, htab⟩ := (run_refines probe_refines ops (probeNew page) (probeNew_inv page hn)).1
  refine ⟨s', _, e, by rw [hv]; exact hnd, ?_⟩
  intro t ht
  rcases hr.cases with ⟨hs, _⟩ | ⟨t', d, hs, hg, hti⟩
  · rw [ht] at hs; cases hs
  · rw [ht] at hs; cases hs
    rcases htab with h | h <;> rw [hg] at h <;> cases h
    rw [hv]; exact hti

/-- what a session returns depends neither on the group size, nor on the sizing function, nor on the seeds
    (two dictionary objects of different types / different runs fed the same keys agree) -/
theorem table_session_independent_of_table_parameters (c c' : Cfg α) (hsz : SizingOk c.G c.sz)
    (hsz' : SizingOk c'.G c'.sz) (page : List α) (tick tick' : Nat) (ops : List (Op α))
    (hfirst : page = [] ∨ firstOk ops) :
    (tableRun c (tableNew page tick) ops).map (fun r => (r.1.values, r.2))
      = (tableRun c' (tableNew page tick') ops).map (fun r => (r.1.values, r.2)) := by
  obtain ⟨s, e, v, _⟩ := table_session_eq_oracle c hsz page tick ops hfirst
  obtain ⟨s', e', v', _⟩ := table_session_eq_oracle c' hsz' page tick' ops hfirst
  simp only [e, e', Option.map_some, v, v']

end

/-! ## the hypotheses are satisfiable; concrete runs -/

/-- the sizing hypothesis is satisfiable (`DictTable.cfg1`: groups of two entries, colliding hash functions that
    change with every seed) -/
example : SizingOk cfg1.G cfg1.sz := cfg1_ok

example : ([] : List Nat) = [] ∨ firstOk [Op.insert [[1, 2], [2]], Op.reset, Op.insert [[]]] := Or.inl rfl
example : ([7, 8] : List Nat) = [] ∨ firstOk [Op.insert [[8, 9]], Op.insert [[]]] :=
  Or.inr (by simp [firstOk])
example : ([7, 8] : List Nat) = [] ∨ firstOk [Op.reset, (Op.insert [[]] : Op Nat)] := Or.inr trivial

/-- a session run on the composed mirror (row group 1: 1,2,2,3; Reset; row group 2: 3,1,3), pre-loaded page -/
example : (tableRun cfg1 (tableNew [5, 1] 0) [.insert [[1, 2], [2, 3]], .reset, .insert [[3, 1], [3]]]).map
    (fun r => (r.1.values, r.2)) = some ([3, 1], [[1, 2, 2, 3], [], [0, 1, 0]]) := by decide

/-- `Reset` must call `d.table.Reset()`, on the composed mirror too: without it the real table still sends 1 to
    index 0 and numbers 3 as 2, which is never stored (cf. `C04DictReset.probe_reset_keeping_table_is_wrong`) -/
theorem table_reset_keeping_table_is_wrong :
    (tableRunKeepingTable cfg1 (tableNew [] 0) [.insert [[1, 2]], .reset, .insert [[3, 1]]]).map
      (fun r => (r.1.values, r.2)) = some ([1], [[0, 1], [], [2, 0]]) := by decide

/-- the hanging call on a concrete configuration (fuel-bounded mirror: `none`) -/
example : (tableRun cfg1 (tableNew [7, 8, 9] 0) [.insert []]).isNone = true := by decide

/-- the same empty `Insert` after a `Reset`, or on an empty page, returns -/
example : (tableRun cfg1 (tableNew [7, 8, 9] 0) [.reset, .insert []]).map (fun r => (r.1.values, r.2))
    = some ([], [[], []]) := by decide
example : (tableRun cfg1 (tableNew [] 0) [.insert []]).map (fun r => (r.1.values, r.2))
    = some ([], [[]]) := by decide

end PqModel.Props.C04DictTable
