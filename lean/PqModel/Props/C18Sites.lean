import PqModel.AadSites

/-! # C18 — every call site of `makeAAD` passes the ordinals of the slot it works on, on the eager
    and on the lazy reader path alike; index and bloom modules cannot be transplanted

Theorems over `Aad.sites`, the mirror of the 26 calls of `makeAAD` (re-extracted from the source on
every run and compared in `FactsCheckC18`). AES-GCM is ASSUMED (`Ideal`), as in `Props/C18`. -/
namespace PqModel.Props.C18Sites
open PqModel.Aad

/-- Every call site, at every position, passes the module type and the ordinals — in order —
    of the slot it is working on. -/
theorem site_passes_slot_arguments (s : Site) (hs : s ∈ sites) (c : Coord) :
    s.used c = (s.slot c).used :=
  site_used_eq_slot_used hs c

/-- In bytes: the AAD a site computes is the AAD of its slot. -/
theorem site_aad_is_slot_aad (s : Site) (hs : s ∈ sites) (c : Coord) (pfx fu : Bytes) :
    (s.used c).aad pfx fu = (s.slot c).aad pfx fu := by
  rw [site_passes_slot_arguments s hs c]; rfl

example : (⟨"file.go:FileColumnChunk.readOffsetIndex", .readerLazy, .file, .offsetIndex, [.rg, .col]⟩ : Site) ∈ sites :=
  List.mem_of_getElem? (i := 19) rfl

/-- Any two sites of the same module type working on the same position compute the same
    arguments: writer and reader, eager and lazy. -/
theorem sites_of_a_type_agree (s s' : Site) (hs : s ∈ sites) (hs' : s' ∈ sites) (ht : s.t = s'.t) (c : Coord) :
    s.used c = s'.used c := by
  rw [site_passes_slot_arguments s hs c, site_passes_slot_arguments s' hs' c, Site.slot, Site.slot, ht]

def allTypes : List ModType :=
  [.footer, .columnMeta, .dataPage, .dataPageHeader, .dictPage, .dictPageHeader, .bloomHeader, .bloomBits, .columnIndex, .offsetIndex]

theorem allTypes_complete (t : ModType) : t ∈ allTypes := by cases t <;> decide

/-- Coverage: every module type has a sealing site in the writer and an opening site in the
    reader. -/
theorem every_type_sealed_and_opened (t : ModType) :
    (∃ s ∈ sites, s.t = t ∧ s.party = .writerSeal) ∧ (∃ s ∈ sites, s.t = t ∧ s.party.isReader = true) := by
  have h : allTypes.all (fun t => sites.any (fun s => s.t == t && s.party == .writerSeal) &&
      sites.any (fun s => s.t == t && s.party.isReader)) = true := by decide +kernel
  have ht := List.all_eq_true.1 h t (allTypes_complete t)
  simp only [Bool.and_eq_true, List.any_eq_true, beq_iff_eq] at ht
  exact ht

/-- The page-index modules have a reader site on the eager AND on the lazy path, the bloom modules on
    the lazy path, and the data pages are also re-opened by the writer itself. -/
theorem page_index_read_on_both_paths :
    ([ModType.columnIndex, ModType.offsetIndex]).all (fun t =>
      sites.any (fun s => s.t == t && s.party == .readerEager) && sites.any (fun s => s.t == t && s.party == .readerLazy)) = true ∧
    ([ModType.bloomHeader, ModType.bloomBits]).all (fun t => sites.any (fun s => s.t == t && s.party == .readerLazy)) = true ∧
    ([ModType.dataPage, ModType.dataPageHeader]).all (fun t => sites.any (fun s => s.t == t && s.party == .writerReopen)) = true := by
  decide +kernel

/-- Prefix and identifier come from the state of the FILE at every site but the column
    writer's (whose copies the writer state machine of `Aad.lean` tracks, `RgSt.colFu`) and the page
    reader's (copied once from the file by `FilePages.init`). -/
theorem holders_by_party :
    sites.all (fun s => match s.party with
      | .writerSeal => s.holder == .writerState || s.holder == .columnWriter
      | .writerReopen => s.holder == .columnWriter
      | .readerEager => s.holder == .cryptoMeta || s.holder == .file
      | .readerLazy => s.holder == .file
      | .readerPages => s.holder == .pages) = true := by decide +kernel

section aead
variable {K N C : Type} (A : AEAD K N C)

/-- TRANSPLANT, site level: a module sealed at ANY writer site `w` for position `cw`, placed
    where ANY reader site `r` (eager, lazy or page reader) working on position `cr` finds it, does
    not open unless it is the module of that very slot — whatever the keys. -/
theorem transplant_fails_at_every_site (hI : Ideal A) (w r : Site) (hw : w ∈ sites) (hr : r ∈ sites)
    (cw cr : Coord) (hwr : (w.slot cw).InRange) (hrr : (r.slot cr).InRange) (hne : w.slot cw ≠ r.slot cr)
    (pfx fu : Bytes) (k k' : K) (n : N) (p : Bytes) :
    openModule A k ((r.used cr).aad pfx fu) (sealModule A k' n ((w.used cw).aad pfx fu) p) = none := by
  rw [site_aad_is_slot_aad r hr, site_aad_is_slot_aad w hw]
  exact hI.open_eq_none (.inr fun h => hne (Module.aad_inj hwr hrr h)) n p

/-- The index and bloom modules in particular: a column index, offset index, bloom filter
    header or bitset sealed for chunk `(rg', col')` does not open in the place of the same kind of
    module of a different chunk `(rg, col)` — at `OpenFile` (eager) and at the per-chunk lookups
    after `SkipPageIndex` (lazy) alike. -/
theorem index_module_transplant_fails (hI : Ideal A) (w r : Site) (hw : w ∈ sites) (hr : r ∈ sites)
    (ht : w.t = r.t) (hk : r.t = .columnIndex ∨ r.t = .offsetIndex ∨ r.t = .bloomHeader ∨ r.t = .bloomBits)
    (rg col rg' col' : Nat) (hb : rg < 65536 ∧ col < 65536 ∧ rg' < 65536 ∧ col' < 65536)
    (hne : (rg, col) ≠ (rg', col')) (pfx fu : Bytes) (k k' : K) (n : N) (p : Bytes) :
    openModule A k ((r.used ⟨rg, col, 0⟩).aad pfx fu) (sealModule A k' n ((w.used ⟨rg', col', 0⟩).aad pfx fu) p) = none := by
  -- the four module types take (row group, column) and nothing else
  have hroles : r.t.roles = [.rg, .col] := by rcases hk with h | h | h | h <;> rw [h] <;> rfl
  apply transplant_fails_at_every_site A hI w r hw hr
  · rw [Site.slot, ht, slotAt_inRange, hroles]
    simpa [Role.val] using ⟨hb.2.2.1, hb.2.2.2⟩
  · rw [Site.slot, slotAt_inRange, hroles]
    simpa [Role.val] using ⟨hb.1, hb.2.1⟩
  · intro h
    have := congrArg Module.ords h
    rw [Site.slot, Site.slot, ht, slotAt_ords, slotAt_ords, hroles] at this
    exact hne (by simpa [Role.val, eq_comm] using this)

end aead

/-- non-vacuity of `index_module_transplant_fails`: the lazy offset-index reader and the writer's offset-index site -/
example :
    let w : Site := ⟨"writer.go:writer.writeFileFooter", .writerSeal, .writerState, .offsetIndex, [.rg, .col]⟩
    let r : Site := ⟨"file.go:FileColumnChunk.readOffsetIndex", .readerLazy, .file, .offsetIndex, [.rg, .col]⟩
    w ∈ sites ∧ r ∈ sites ∧
    openModule symAEAD 5 ((r.used ⟨0, 1, 0⟩).aad [9] [1]) (sealModule symAEAD 5 77 ((w.used ⟨0, 1, 0⟩).aad [9] [1]) [4, 2]) = some [4, 2] ∧
    openModule symAEAD 5 ((r.used ⟨0, 1, 0⟩).aad [9] [1]) (sealModule symAEAD 5 77 ((w.used ⟨1, 0, 0⟩).aad [9] [1]) [4, 2]) = none :=
  ⟨List.mem_of_getElem? (i := 1) rfl, List.mem_of_getElem? (i := 19) rfl, by decide, by decide⟩

/-- SENSITIVITY (not the code): a reader site that passed `(column, row group)` instead of
    `(row group, column)` would reject the authentic offset index of every chunk whose two ordinals
    differ, and ACCEPT the offset index of chunk `(1, 0)` in the place of chunk `(0, 1)`: the order
    of the arguments is what the theorems above rest on, which is why `FactsCheckC18` re-derives
    it from the source. -/
theorem swapped_ordinals_break_both_ways :
    let w : Site := ⟨"writer.go:writer.writeFileFooter", .writerSeal, .writerState, .offsetIndex, [.rg, .col]⟩
    let bad : Site := ⟨"file.go:FileColumnChunk.readOffsetIndex", .readerLazy, .file, .offsetIndex, [.col, .rg]⟩
    openModule symAEAD 5 ((bad.used ⟨0, 1, 0⟩).aad [9] [1]) (sealModule symAEAD 5 77 ((w.used ⟨0, 1, 0⟩).aad [9] [1]) [4, 2]) = none ∧
    openModule symAEAD 5 ((bad.used ⟨0, 1, 0⟩).aad [9] [1]) (sealModule symAEAD 5 77 ((w.used ⟨1, 0, 0⟩).aad [9] [1]) [4, 2]) = some [4, 2] ∧
    bad ∉ sites :=
  -- every row of the table passes its ordinals in the order of its module type; `bad` does not
  ⟨by decide, by decide, fun h => absurd (List.all_eq_true.1 sites_roles_ok _ h) (by decide)⟩

end PqModel.Props.C18Sites
