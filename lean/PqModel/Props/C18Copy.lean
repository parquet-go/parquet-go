import PqModel.CopyPathProofs

/-! # C18, copy part — the verbatim splice of `Writer.WriteRowGroup` never meets an encrypted side

`Writer.WriteRowGroup` has a byte-level fast path (writer_copy.go): the pages, page index and
bloom filter of a source *file* row group are spliced into the output as they are stored. Bytes
spliced that way are not sealed by the destination (an encrypting destination would hold the
source's plaintext while its footer declares the columns encrypted: a leak and an unreadable
file), and are not opened from the source (a plaintext destination would hold the source's
ciphertext). The property therefore needs of the cascade: *verbatim path taken → neither side is
encrypted*.

MIRROR: `PqModel.CopyPath` (the C11 mirror of the cascade: `columnChunkIsCopyable`, `allCopyable`,
`copyable`, `splittable`, `pack`, `plan`); the guards are writer_copy.go:114-116
(`w.writer.encryption != nil`) and writer_copy.go:205-212 (`src.decryptionKey != nil`,
`dst.encKey != nil`). The theorems hold for both mirror variants, every destination
configuration, every (nested, segmented) row group and every fuel.

`GuardForm` re-states the two guarded functions with the form of the guard as a parameter:
`.separate` is the code as it is, `.merged` is the "consolidated" form in which the writer-level
guard is gone and the two per-column guards are joined by `&&`; `merged_guard_splices_*` are the
witnesses that the merged form violates the theorem. -/
namespace PqModel.Props.C18Copy
open PqModel.CopyPath
variable {α : Type}

/-- the per-column loop only succeeds on plaintext file chunks and non-encrypting column writers -/
theorem allCopyable_plaintext {v : Variant} :
    ∀ (ds : List DstCol) (cs : List Chunk), allCopyable v ds cs = true →
      (∀ d ∈ ds, d.encrypted = false) ∧ (∀ c ∈ cs, ∃ m, c = Chunk.file m ∧ m.encrypted = false) := by
  intro ds cs h
  fun_induction allCopyable v ds cs
  case case1 d ds m cs ih =>
    rw [Bool.and_eq_true] at h
    have hf := copyable_col_facts h.1
    exact ⟨List.forall_mem_cons.2 ⟨hf.dstPlain, (ih h.2).1⟩, List.forall_mem_cons.2 ⟨⟨m, rfl, hf.srcPlain⟩, (ih h.2).2⟩⟩
  case case2 => exact ⟨List.forall_mem_nil _, List.forall_mem_nil _⟩
  case case3 => cases h

/-- what "neither side is encrypted" means for one spliced row group -/
def PlaintextSides (g : DstCfg) (rg : RG α) : Prop :=
  g.encrypting = false ∧ (∀ d ∈ g.cols, d.encrypted = false) ∧
  (∀ c ∈ rg.chunks, ∃ m, c = Chunk.file m ∧ m.encrypted = false)

/-- `copyableColumnChunks` answers yes only when the writer does not encrypt, no column writer holds
    a key and every source chunk is a file chunk read without a decryption key. -/
theorem copyable_implies_plaintext_sides {v : Variant} {g : DstCfg} {rg : RG α}
    (h : copyable v g rg = true) : PlaintextSides g rg := by
  obtain ⟨henc, _, hall⟩ := copyable_parts h
  obtain ⟨hd, hc⟩ := allCopyable_plaintext g.cols rg.chunks hall
  exact ⟨henc, hd, hc⟩

/-- one call of `WriteRowGroup` -/
theorem verbatim_path_implies_plaintext_sides {v : Variant} {g : DstCfg} {rg : RG α}
    (h : choosePathV v g rg = .verbatim) : PlaintextSides g rg :=
  copyable_implies_plaintext_sides (verbatim_copyable h)

/-- MAIN: through the whole recursion of `WriteRowGroup` over segmented row groups (merges,
    `MultiRowGroup`, packing of segments), every row group that is spliced verbatim has plaintext
    sides: copy path taken → neither side encrypted. -/
theorem verbatim_implies_plaintext_sides (v : Variant) (g : DstCfg) :
    ∀ (fuel : Nat) (rg : RG α) (r : RG α), Step.verbatim r ∈ plan v g fuel rg → PlaintextSides g r :=
  fun fuel rg r hs => copyable_implies_plaintext_sides (plan_steps v g fuel rg (.verbatim r) hs)

/-- an encrypting writer never splices: all of its output goes through the column writers (which
    seal every page, `C18Leak.encrypted_columns_never_raw`) -/
theorem encrypting_writer_no_verbatim_step (v : Variant) (g : DstCfg) (henc : g.encrypting = true)
    (fuel : Nat) (rg r : RG α) : Step.verbatim r ∉ plan v g fuel rg := by
  intro h
  have := (verbatim_implies_plaintext_sides v g fuel rg r h).1
  rw [henc] at this
  cases this

theorem encrypted_source_no_verbatim_step (v : Variant) (g : DstCfg) (fuel : Nat) (rg r : RG α)
    (m : ChunkMeta) (hm : Chunk.file m ∈ r.chunks) (henc : m.encrypted = true) :
    Step.verbatim r ∉ plan v g fuel rg := by
  intro h
  obtain ⟨m', hm', he⟩ := (verbatim_implies_plaintext_sides v g fuel rg r h).2.2 _ hm
  cases hm'
  rw [henc] at he
  cases he

/-! ## The form of the guard -/

/-- `.separate`: writer-level guard and two per-column guards, each refusing on its own (the code
    as it is). `.merged`: no writer-level guard, one per-column guard `src encrypted && dst
    encrypted` (what a "consolidation" of the duplicated guards can slip into). -/
inductive GuardForm | separate | merged
  deriving DecidableEq, Repr

/-- writer_copy.go:202-247 with the guard as a parameter; the clauses after the guard are those of
    `columnChunkIsCopyable` evaluated on plaintext sides -/
def columnChunkIsCopyableG (f : GuardForm) (v : Variant) (d : DstCol) (c : ChunkMeta) : Bool :=
  match f with
  | .separate => columnChunkIsCopyable v d c
  | .merged =>
    if c.encrypted && d.encrypted then false
    else columnChunkIsCopyable v { d with encrypted := false } { c with encrypted := false }

def allCopyableG (f : GuardForm) (v : Variant) : List DstCol → List Chunk → Bool
  | d :: ds, .file m :: cs => columnChunkIsCopyableG f v d m && allCopyableG f v ds cs
  | [], [] => true
  | _, _ => false

/-- writer_copy.go:106-146 with the guard as a parameter -/
def copyableG (f : GuardForm) (v : Variant) (g : DstCfg) (rg : RG α) : Bool :=
  if g.disableCopy then false
  else if (match f with | .separate => g.encrypting | .merged => false) then false
  else if rg.numRows > g.maxRows then false
  else if !chunkTransparent rg then false
  else if rg.chunks.length ≠ g.cols.length then false
  else allCopyableG f v g.cols rg.chunks

theorem allCopyableG_separate (v : Variant) :
    ∀ (ds : List DstCol) (cs : List Chunk), allCopyableG .separate v ds cs = allCopyable v ds cs := by
  intro ds cs
  fun_induction allCopyable v ds cs <;> simp [allCopyableG, columnChunkIsCopyableG, *]

/-- the `.separate` form IS the mirror: the theorems above speak about it -/
theorem copyableG_separate (v : Variant) (g : DstCfg) (rg : RG α) :
    copyableG .separate v g rg = copyable v g rg := by
  simp [copyableG, copyable, allCopyableG_separate]

theorem separate_guard_plaintext_sides {v : Variant} {g : DstCfg} {rg : RG α}
    (h : copyableG .separate v g rg = true) : PlaintextSides g rg := by
  rw [copyableG_separate] at h
  exact copyable_implies_plaintext_sides h

/-- a plaintext source chunk written under the destination's settings (non-vacuity witness) -/
def plainSource : ChunkMeta :=
  { type := 6, codec := 0, encStats := [⟨3, 6, 1⟩], columnIndexOffset := 100, offsetIndexOffset := 200,
    bloomOffset := 0, bloomLength := 0, bloomHeader := none, encrypted := false, numValues := 100,
    nullCount := 0, rows := 100, hasDictPage := false,
    pages := [⟨3, 6, false, false, 0, 8, 8⟩], hasMinMax := true, hasDeprecated := false }

def plainCol : DstCol :=
  { kind := 6, codec := 0, encoding := 6, dict := false, pageType := 3, filterBpv := none,
    filterCompressed := false, encrypted := false, pageStats := false, pageBounds := true,
    deprecatedStats := false, indexLimit := 8 }

def plainDst : DstCfg :=
  { disableCopy := false, disableReencode := false, encrypting := false, maxRows := 1000, cols := [plainCol] }

/-- the same destination created with `WithEncryption` -/
def encDst : DstCfg := { plainDst with encrypting := true, cols := [{ plainCol with encrypted := true }] }

def plainRowGroup : RG Unit := .leaf .file 100 [.file plainSource] [] []

/-- the same source opened with `WithDecryption` -/
def encRowGroup : RG Unit := .leaf .file 100 [.file { plainSource with encrypted := true }] [] []

/-- non-vacuity: with plaintext sides the verbatim path IS taken -/
example : copyCount (plan .repaired plainDst 1 plainRowGroup) = 1 := by decide
example : choosePathV .repaired plainDst plainRowGroup = .verbatim := by decide

/-- the mirror demotes both one-sided situations (and the two-sided one) -/
example : choosePathV .repaired encDst plainRowGroup = .reencode := by decide
example : choosePathV .repaired plainDst encRowGroup = .reencode := by decide
example : choosePathV .repaired encDst encRowGroup = .reencode := by decide

/-- NEGATION WITNESS for the merged form, plaintext source → encrypting destination: the predicate
    says "copy" although the writer and its column writer encrypt. -/
theorem merged_guard_splices_into_encrypting_writer :
    copyableG .merged .repaired encDst plainRowGroup = true ∧ ¬ PlaintextSides encDst plainRowGroup := by
  refine ⟨by decide, ?_⟩
  intro h
  exact absurd h.1 (by decide)

/-- NEGATION WITNESS for the merged form, encrypted source → plaintext destination. -/
theorem merged_guard_splices_ciphertext :
    copyableG .merged .repaired plainDst encRowGroup = true ∧ ¬ PlaintextSides plainDst encRowGroup := by
  refine ⟨by decide, ?_⟩
  intro h
  obtain ⟨m, hm, he⟩ := h.2.2 _ (List.mem_singleton.2 rfl)
  cases hm
  exact absurd he (by decide)

/-- the merged form still refuses when BOTH sides are encrypted, which is why it passes the
    enc → enc tests -/
example : copyableG .merged .repaired encDst encRowGroup = false := by decide

/-- dropping the writer-level guard alone (per-column `||` kept) leaves the column-level part of
    the theorem intact: `allCopyable_plaintext` does not use `g.encrypting`. (That `dst.encKey != nil`
    for every column of an encrypting writer is writer.go:889,1202, outside this mirror.) The
    writer-level guard on its own refuses every encrypting destination: -/
theorem writer_guard_refuses_encrypting_destination (v : Variant) (g : DstCfg) (rg : RG α)
    (henc : g.encrypting = true) : copyableG .separate v g rg = false := by
  simp [copyableG, henc]

end PqModel.Props.C18Copy
