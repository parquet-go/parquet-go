import PqModel.Props.C05
import PqModel.StatsDecimal
import PqModel.StatsRecord

/-! # C05: binary DECIMAL columns, the whole statistics record of a chunk, re-encoded copies, and the
    level-derived counts of nested columns.

MIRRORS: `cmpDecimal`, `orderOfDecimal`, `decimalIndex*`, `boundsDecimal`, `boundsDecimalDict` (type_decimal.go),
`writerRecord`, `reencode` (writer.go, writer_reencode.go), `pageLevelStats` (level.go, page_optional.go,
page_repeated.go, writer_statistics.go). SPEC: `decimalValue`/`decimalBinary`, `ChunkRecord.Sound`, `Entry.WF`. -/
namespace PqModel.Props.C05
open PqModel PqModel.Stats

/-- `compareDecimalByteArrays` is the comparison of the represented integers for EVERY pair of byte strings, of
    equal or different widths, the empty string (= 0) included; hence `Type.Compare`, `Less` and the `< 0` / `> 0`
    tests of the bounds loops are the spec order `decimalBinary` (which `orders_lawful` shows lawful). -/
theorem decimalCompare_spec (a b : List Nat) (ha : IsBytes a) (hb : IsBytes b) :
    cmpDecimal a b = cmpInt (decimalValue a) (decimalValue b) ∧
    decide (cmpDecimal a b < 0) = decimalBinary.lt a b ∧
    decide (cmpDecimal a b > 0) = decimalBinary.lt b a ∧
    (cmpDecimal a b = 0 ↔ decimalValue a = decimalValue b) :=
  ⟨cmpDecimal_spec a b ha hb, cmpDecimal_lt a b ha hb, cmpDecimal_gt a b ha hb, cmpDecimal_eq_zero a b ha hb⟩

-- 0xFF80 (2 bytes) = -128 = 0x80 (1 byte); 0x0100 = 256 > 0xFF = -1; the empty string is 0
example : cmpDecimal [0xff, 0x80] [0x80] = 0 ∧ cmpDecimal [0x01, 0x00] [0xff] = 1 ∧ cmpDecimal [] [0x00, 0x00] = 0 ∧
    decimalValue [0xff, 0x80] = -128 ∧ IsBytes [0xff, 0x80] := by
  refine ⟨by decide, by decide, by decide, by decide, ?_⟩
  intro x hx; simp at hx; rcases hx with h | h <;> omega

/-- `decimalPage.Bounds` (PLAIN pages) and `decimalDictionary.Bounds` (dictionary-encoded pages) return the bounds
    of the general mirror in the spec order, so `pageBounds_bound` / `fold_bound` / `skip_safe` hold for binary
    decimal pages whose values mix widths. -/
theorem pageBounds_decimal (xs : List (List Nat)) (hb : ∀ x ∈ xs, IsBytes x) :
    boundsDecimal xs = boundsNaN decimalBinary xs ∧ boundsDecimalDict xs = boundsNaN decimalBinary xs := by
  have h := boundsDecimal_eq xs hb
  have e := boundsNaN_eq_bounds decimalBinary (fun _ => rfl) xs
  exact ⟨by rw [h.1, e], by rw [h.2, e]⟩

-- -1 (one byte), 256 (two bytes), -129 (two bytes): min is FF7F, max is 0100
example : boundsDecimal [[0xff], [0x01, 0x00], [0xff, 0x7f]] = some ([0xff, 0x7f], [0x01, 0x00]) := by decide

/-- binary decimal column indexer (`decimalColumnIndexer` + `orderOfDecimalBytes`: streak of equal VALUES skipped,
    then one monotone scan; null pages stored as the empty string; never truncated): one entry per page, entries
    of non-null pages are the page bounds, and a claimed ASCENDING / DESCENDING order is true, in the order of the
    represented integers, of the mins and of the maxs of the non-null pages. -/
theorem boundaryOrder_sound_decimal (pages : List (Option (List Nat × List Nat)))
    (hb : ∀ p ∈ pairsOf pages, IsBytes p.1 ∧ IsBytes p.2) :
    (decimalIndexMins pages).length = pages.length ∧ (decimalIndexMaxs pages).length = pages.length ∧
    nonNullOf pages (decimalIndexMins pages) = nonNullMins pages ∧
    nonNullOf pages (decimalIndexMaxs pages) = nonNullMaxs pages ∧
    (decimalIndexOrder pages = 1 →
      (nonNullMins pages).Pairwise (fun a b => decimalBinary.lt b a = false) ∧
      (nonNullMaxs pages).Pairwise (fun a b => decimalBinary.lt b a = false)) ∧
    (decimalIndexOrder pages = 2 →
      (nonNullMins pages).Pairwise (fun a b => decimalBinary.lt a b = false) ∧
      (nonNullMaxs pages).Pairwise (fun a b => decimalBinary.lt a b = false)) := by
  have hnil : IsBytes [] := by intro x hx; simp at hx
  have hmins : ∀ x ∈ decimalIndexMins pages, IsBytes x := forall_mem_storedMins hnil fun p hp => (hb p hp).1
  have hmaxs : ∀ x ∈ decimalIndexMaxs pages, IsBytes x := forall_mem_storedMaxs hnil fun p hp => (hb p hp).2
  -- `orderOfDecimal` returns 1, -1 or 0 only
  have hsound : ∀ xs : List (List Nat), (∀ x ∈ xs, IsBytes x) →
      (0 < orderOfDecimal xs → xs.Pairwise (fun a b => decimalBinary.lt b a = false)) ∧
      (orderOfDecimal xs < 0 → xs.Pairwise (fun a b => decimalBinary.lt a b = false)) := by
    intro xs hxs
    have hr : orderOfDecimal xs = 1 ∨ orderOfDecimal xs = -1 ∨ orderOfDecimal xs = 0 := orderOfCmp_range cmpDecimal xs
    exact ⟨fun hpos => orderOfDecimal_asc xs hxs (by omega), fun hneg => orderOfDecimal_desc xs hxs (by omega)⟩
  refine ⟨by simp [decimalIndexMins, storedMins], by simp [decimalIndexMaxs, storedMaxs],
    nonNullOf_storedMins [] pages, nonNullOf_storedMaxs [] pages, ?_⟩
  rw [← nonNullOf_storedMins [] pages, ← nonNullOf_storedMaxs [] pages]
  exact boundaryOrderOf_sound pages (hsound _ hmins) (hsound _ hmaxs)

-- pages (-2,-1) as one byte each, a null page (stored as the empty string = 0), (0 as 00 00, 256 as 01 00):
-- ASCENDING is claimed, and it is true of the non-null pages: -2 ≤ 0 and -1 ≤ 256
example : decimalIndexOrder [some ([0xfe], [0xff]), none, some ([0x00, 0x00], [0x01, 0x00])] = 1 := by decide
-- the same values compared as unsigned bytes would be descending (FE > 00 00): the decimal scan does not claim it
example : decimalIndexOrder [some ([0xfe], [0xff]), some ([0x00, 0x00], [0x01, 0x00])] = 1 ∧
    bytesIndexOrder 0 [some ([0xfe], [0xff]), some ([0x00, 0x00], [0x01, 0x00])] = 2 := by decide

/-- Everything the writer records for one column chunk — column-index entries, null_counts, null_pages,
    chunk min/max, chunk null_count — is sound for the pages it wrote: `ChunkRecord.Sound` (C05 for one chunk) holds
    of `writerRecord` for every lawful order, every list of pages, every placement of nulls, null pages and
    all-NaN pages. -/
theorem writerRecord_sound {α} {o : ColOrder α} (h : Lawful o) (pages : List (List (Option α))) (offsets : List Nat) :
    (writerRecord o pages offsets).Sound o where
  aligned := by simp [writerRecord]
  nulls := by
    intro i vals hi
    simp only [writerRecord] at hi ⊢
    rw [List.getElem?_map, hi]
    simp [numNulls_eq_countP]
  nullPage := by
    intro i vals hi
    simp only [writerRecord] at hi ⊢
    rw [List.getElem?_map, hi]
    simp only [Option.map_some, Option.some.injEq]
    exact (nullCounts_exact o vals).2.2.2
  bound := by
    intro i vals mn mx hi hidx v hv hvok
    simp only [writerRecord] at hi hidx
    rw [List.getElem?_map, hi] at hidx
    simp only [Option.map_some, Option.some.injEq] at hidx
    exact pageStats_bound h hidx hv hvok
  chunkBound := by
    intro mn mx hc vals hvals v hv hvok
    obtain ⟨cmn, cmx, hf, _, _, _, _, hall⟩ := fold_bound h pages ⟨vals, hvals, v, hv, hvok⟩
    rw [show (writerRecord o pages offsets).chunk = _ from hf] at hc
    cases hc
    exact hall vals hvals v hv hvok
  chunkNullsExact := by
    simp only [writerRecord]
    congr 1
    apply List.map_congr_left
    intro vals _
    simp [numNulls_eq_countP]

-- a float chunk: page with a NaN and a null, an all-null page, an all-NaN page, a page with -0.0
example : (writerRecord f32 [[some 0x7fc00000#32, none, some 0x3f800000#32], [none], [some 0x7fc00000#32],
      [some 0x80000000#32]] []).index =
    [some (0x3f800000#32, 0x3f800000#32), none, some (0x7fc00000#32, 0x7fc00000#32), some (0x80000000#32, 0x80000000#32)] ∧
    (writerRecord f32 [[some 0x7fc00000#32, none, some 0x3f800000#32], [none], [some 0x7fc00000#32],
      [some 0x80000000#32]] []).chunk = some (0x80000000#32, 0x3f800000#32) := by decide

/-- Statistics of a RE-ENCODED copy (`WriteRowGroup` when the chunk cannot be spliced verbatim: column-wise
    `copyColumnValues` or the `CopyRows` fallback): whatever page cuts the destination writer chooses for the same
    value sequence, and whatever the source's own metadata said (sound or not), the new record is sound for the
    new pages, its chunk bounds bound every value of every SOURCE page, and its null count is the number of nulls
    of the source pages. -/
theorem reencode_sound {α} {o : ColOrder α} (h : Lawful o) (src : ChunkRecord α) (newPages : List (List (Option α)))
    (offsets : List Nat) (hsame : newPages.flatten = src.pages.flatten) :
    (reencode o src newPages offsets).Sound o ∧
    (∀ mn mx, (reencode o src newPages offsets).chunk = some (mn, mx) → ∀ vals ∈ src.pages, ∀ v, some v ∈ vals →
      o.ok v = true → o.lt v mn = false ∧ o.lt mx v = false) ∧
    (reencode o src newPages offsets).chunkNulls = (src.pages.map (fun vals => vals.countP (· = none))).sum ∧
    ((∃ vals ∈ src.pages, ∃ v, some v ∈ vals ∧ o.ok v = true) → ∃ mn mx, (reencode o src newPages offsets).chunk = some (mn, mx)) := by
  have hs := writerRecord_sound h newPages offsets
  refine ⟨hs, ?_, ?_, ?_⟩
  · intro mn mx hc vals hvals v hv hvok
    have hmem : some v ∈ newPages.flatten := by
      rw [hsame]; exact List.mem_flatten.mpr ⟨vals, hvals, hv⟩
    obtain ⟨vals', hvals', hv'⟩ := List.mem_flatten.mp hmem
    exact hs.chunkBound mn mx hc vals' hvals' v hv' hvok
  · have := hs.chunkNullsExact
    simp only [reencode] at this ⊢
    rw [this]
    simp only [writerRecord]
    rw [countP_none_flatten, countP_none_flatten, hsame]
  · rintro ⟨vals, hvals, v, hv, hvok⟩
    have hmem : some v ∈ newPages.flatten := by
      rw [hsame]; exact List.mem_flatten.mpr ⟨vals, hvals, hv⟩
    obtain ⟨vals', hvals', hv'⟩ := List.mem_flatten.mp hmem
    obtain ⟨cmn, cmx, hf, _⟩ := fold_bound h newPages ⟨vals', hvals', v, hv', hvok⟩
    exact ⟨cmn, cmx, hf⟩

-- source pages [3,null | 1] re-cut as [3 | null,1]: same flattening
example : ([[some 3#32], [none, some 1#32]] : List (List (Option (BitVec 32)))).flatten =
    ([[some 3#32, none], [some 1#32]] : List (List (Option (BitVec 32)))).flatten := by decide

/-- index entries may be WIDENED (what truncation of byte-array bounds does): if every entry `p` of the index is
    replaced by `f p` with `(f p).1 ≤ p.1` and `p.2 ≤ (f p).2`, the record stays sound -/
theorem widenIndex_sound {α} {o : ColOrder α} (h : Lawful o) (c : ChunkRecord α) (f : α × α → α × α)
    (hf : ∀ p : α × α, some p ∈ c.index → o.ok p.1 = true ∧ o.ok p.2 = true ∧
      o.lt p.1 (f p).1 = false ∧ o.lt (f p).2 p.2 = false)
    (hs : c.Sound o) : (widenIndex f c).Sound o where
  aligned := by simpa [widenIndex] using hs.aligned
  nulls := hs.nulls
  nullPage := by
    intro i vals hi
    have := hs.nullPage i vals hi
    simp only [widenIndex, List.getElem?_map]
    rw [← this]
    cases hc : c.index[i]? with
    | none => simp
    | some e => cases e <;> simp
  bound := by
    intro i vals mn mx hi hidx v hv hvok
    simp only [widenIndex, List.getElem?_map] at hidx
    cases hc : c.index[i]? with
    | none => rw [hc] at hidx; simp at hidx
    | some e =>
      rw [hc] at hidx
      cases e with
      | none => simp at hidx
      | some p =>
        simp only [Option.map_some, Option.some.injEq] at hidx
        obtain ⟨hp1, hp2, h1, h2⟩ := hf p (List.mem_of_getElem? hc)
        obtain ⟨b1, b2⟩ := hs.bound i vals p.1 p.2 hi hc v hv hvok
        have e1 : (f p).1 = mn := by rw [hidx]
        have e2 : (f p).2 = mx := by rw [hidx]
        rw [← e1, ← e2]
        exact ⟨h.le_trans hp1 h1 b1, h.le_trans hp2 b2 h2⟩
  chunkBound := hs.chunkBound
  chunkNullsExact := hs.chunkNullsExact

/-- the byte-array column index as written: every entry truncated with `ColumnIndexSizeLimit` (`truncMinLim` /
    `truncMaxLim`, the repaired max) — the truncated record is sound whenever the untruncated one is, for every
    limit (0 = no truncation). With `writerRecord_sound` this is C05 for the byte-array index end to end. -/
theorem truncatedIndex_sound (c : ChunkRecord (List Nat)) (lim : Nat)
    (hb : ∀ p : List Nat × List Nat, some p ∈ c.index → IsBytes p.2) (hs : c.Sound Stats.bytes) :
    (widenIndex (fun p => (truncMinLim p.1 lim, truncMaxLim p.2 lim)) c).Sound Stats.bytes := by
  apply widenIndex_sound bytes_lawful c _ _ hs
  intro p hp
  refine ⟨rfl, rfl, ?_, ?_⟩
  · simp [Stats.bytes, lexLt, truncMinLim_le p.1 lim]
  · simp [Stats.bytes, lexLt, truncMaxLim_ge p.2 lim (hb p hp)]

-- one page "zz\xff\xff\xffq", limit 3 -> entry ("zz\xff", "z{\x00")
example : (widenIndex (fun p => (truncMinLim p.1 3, truncMaxLim p.2 3))
    (writerRecord Stats.bytes [[some [122, 122, 255, 255, 255, 113]]] [])).index = [some ([122, 122, 255], [122, 123, 0])] := by
  decide

open PqModel.LevelStats in
/-- One page of an optional / repeated column as its level stream (`Entry`: definition level, repetition level,
    value iff the definition level is maximal). What the writer records — `num_values`, `null_count`
    (`countLevelsNotEqual`), `num_rows` (`countLevelsEqual(rep, 0)`), the definition/repetition level histograms and
    `unencoded_byte_array_data_bytes` — are the real counts, and they determine each other: the top definition
    bucket is the number of values present, the buckets below it sum to the null count, bucket 0 of the repetition
    histogram is the row count, both histograms sum to `num_values`. -/
theorem levelStats_exact (maxDef maxRep : Nat) (page : List (Entry (List Nat))) (hwf : ∀ e ∈ page, e.WF maxDef maxRep) :
    let s := pageLevelStats maxDef maxRep page
    s.numValues = page.length ∧
    s.numNulls = page.countP (fun e => e.val.isNone) ∧
    s.numRows = page.countP (fun e => e.rep == 0) ∧
    s.defHist.getD maxDef 0 = (page.filterMap (·.val)).length ∧
    s.defHist.getD maxDef 0 + s.numNulls = s.numValues ∧
    s.defHist.sum = s.numValues ∧ s.repHist.sum = s.numValues ∧
    s.repHist.getD 0 0 = s.numRows ∧
    (∀ l, s.defHist.getD l 0 = page.countP (fun e => e.dfn == l)) ∧
    (∀ l, s.repHist.getD l 0 = page.countP (fun e => e.rep == l)) ∧
    s.unencoded = ((page.filterMap (·.val)).map List.length).sum := by
  have hd := pageHist_spec maxDef (page.map (·.dfn)) (by
    intro x hx; obtain ⟨e, he, rfl⟩ := List.mem_map.mp hx; exact (hwf e he).1)
  have hr := pageHist_spec maxRep (page.map (·.rep)) (by
    intro x hx; obtain ⟨e, he, rfl⟩ := List.mem_map.mp hx; exact (hwf e he).2.1)
  have hc := count_dfn_eq_present maxDef maxRep page hwf
  have hcnt : ∀ (f : Entry (List Nat) → Nat) (l : Nat), (page.map f).count l = page.countP (fun e => f e == l) := by
    intro f l
    rw [List.count_eq_countP, List.countP_map]
    rfl
  simp only [pageLevelStats, countLevelsNotEqual, countLevelsEqual, List.length_map] at hd hr hc ⊢
  refine ⟨trivial, by omega, hcnt _ 0, ?_, ?_, ?_, ?_, ?_, ?_, ?_, rfl⟩
  · rw [hd.2.1 maxDef]; exact hc.1
  · rw [hd.2.1 maxDef]; omega
  · exact hd.2.2
  · exact hr.2.2
  · rw [hr.2.1 0]
  · intro l; rw [hd.2.1 l]; exact hcnt _ l
  · intro l; rw [hr.2.1 l]; exact hcnt _ l

open PqModel.LevelStats in
/-- The column index of an IN-MEMORY optional / repeated chunk (`nullableColumnIndex`, column_buffer.go) is exact:
    for every well-formed level stream its `NullCount` is the number of entries without a value and its `NullPage`
    holds exactly when the page has no value at all - at every max definition level, nulls at any level below it. -/
theorem bufferIndex_exact (maxDef maxRep : Nat) (page : List (Entry (List Nat))) (hwf : ∀ e ∈ page, e.WF maxDef maxRep) :
    bufferIndexNullCount false maxDef (page.map (·.dfn)) = page.countP (fun e => e.val.isNone) ∧
    (bufferIndexNullPage false maxDef (page.map (·.dfn)) = true ↔ page.filterMap (·.val) = []) := by
  have hc := count_dfn_eq_present maxDef maxRep page hwf
  have hle : (page.map (·.dfn)).count maxDef ≤ (page.map (·.dfn)).length := List.count_le_length
  simp only [bufferIndexNullCount, bufferIndexNullPage, countLevelsNotEqual, countLevelsEqual, List.length_map,
    Bool.false_eq_true, if_false, beq_iff_eq] at *
  refine ⟨by omega, ?_⟩
  rw [← List.length_eq_zero_iff]
  omega

open PqModel.LevelStats in
/-- The slip "count the entries at definition level 0" is NOT exact: an optional leaf in an optional group
    (maxDef 2) with rows value / parent present, leaf null / parent null / parent present, leaf null has 3 nulls,
    the slip counts 1; two rows with a present parent and a null leaf are a null page, the slip says 0 nulls and
    not a null page. For maxDef 1 the two formulas coincide on well-formed streams, hence the need for nesting. -/
theorem bufferIndex_levelZero_wrong :
    bufferIndexNullCount true 2 [2, 1, 0, 1] = 1 ∧ bufferIndexNullCount false 2 [2, 1, 0, 1] = 3 ∧
    bufferIndexNullPage true 2 [1, 1] = false ∧ bufferIndexNullPage false 2 [1, 1] = true := by decide

-- a repeated optional string column, maxDef 2, maxRep 1: rows ["ab", null], [], ["c"]
example : ∀ e ∈ ([⟨2, 0, some [97, 98]⟩, ⟨1, 1, none⟩, ⟨0, 0, none⟩, ⟨2, 0, some [99]⟩] : List (LevelStats.Entry (List Nat))),
    e.WF 2 1 := by
  intro e he
  simp only [List.mem_cons, List.not_mem_nil, or_false] at he
  rcases he with rfl | rfl | rfl | rfl <;> simp [LevelStats.Entry.WF]
example : LevelStats.pageLevelStats 2 1 [⟨2, 0, some [97, 98]⟩, ⟨1, 1, none⟩, ⟨0, 0, none⟩, ⟨2, 0, some [99]⟩] =
    { numValues := 4, numNulls := 2, numRows := 3, defHist := [1, 1, 2], repHist := [3, 1], unencoded := 3 } := by decide

end PqModel.Props.C05
