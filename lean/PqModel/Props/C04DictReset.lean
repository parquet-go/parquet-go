import PqModel.DictReset
import PqModel.Props.C04Plain

/-! # C04 (part "plain") — dictionaries reused across row groups

One dictionary object serves every row group a column writer produces: `Reset` between two row
groups, then `Insert` again. The property needs: what a row group's dictionary page and indexes are
depends on that row group's values only — "insert after Reset = insert into an empty dictionary" —
for EVERY dictionary type and every history of earlier row groups. -/
namespace PqModel.Props.C04DictReset
open PqModel.Plain PqModel.DictReset

section
variable {α : Type} [DecidableEq α]

/-! ## the Go state machines are the SPEC session -/

/-- int32/int64/float/double/uint32/uint64/be128 (`hashprobe` table, chunked insert): every session
    from a dictionary created over a duplicate-free page (empty for a writer) -/
theorem probe_session_refines_spec (page : List α) (h : page.Nodup) (ops : List (Op α)) :
    (probeMachine.run (probeNew page) ops).1.values = (specRun id page ops).1 ∧
    (probeMachine.run (probeNew page) ops).2 = (specRun id page ops).2 :=
  (run_refines probe_refines ops (probeNew page) (probeNew_inv page h)).2
example : ([3, 1, 2] : List Nat).Nodup := by decide

/-- fixed-len byte array and int96 (`byLen = false`), byte array (`byLen = true`): Go maps -/
theorem map_session_refines_spec (byLen : Bool) (page : List α) (h : page.Nodup) (ops : List (Op α)) :
    ((mapMachine byLen).run (mapNew page) ops).1.values = (specRun id page ops).1 ∧
    ((mapMachine byLen).run (mapNew page) ops).2 = (specRun id page ops).2 :=
  (run_refines (map_refines byLen) ops (mapNew page) (mapNew_inv page h)).2
example : ([] : List Nat).Nodup := by decide

end

/-- boolean: the SPEC insert first makes sure both values have an entry (`ensureBools`) -/
theorem bool_session_refines_spec (ops : List (Op Bool)) :
    (boolMachine.run boolNew ops).1.values = (specRun ensureBools [] ops).1 ∧
    (boolMachine.run boolNew ops).2 = (specRun ensureBools [] ops).2 :=
  (run_refines bool_refines ops boolNew boolNew_inv).2

section
variable {α : Type} [DecidableEq α]

/-! ## insert after Reset = insert into an empty dictionary -/

/-- SPEC level: whatever came before a `Reset` (and whatever the dictionary was created with) has no
    influence on the calls after it -/
theorem spec_reset_forgets (ensure : List α → List α) (d : List α) (pre post : List (Op α)) :
    specRun ensure d (pre ++ .reset :: post) =
      ((specRun ensure [] post).1, (specRun ensure d pre).2 ++ [] :: (specRun ensure [] post).2) := by
  rw [specRun_append]
  rfl

/-- on every machine that refines the SPEC: after any history `pre` from any good state `s`, a
    `Reset` followed by `post` gives the page and the indexes that `post` gives on a fresh empty
    dictionary `s0` -/
theorem reset_forgets {σ : Type} {m : Machine σ α} {ensure : List α → List α} {I : σ → Prop}
    (h : m.Refines ensure I) (s s0 : σ) (hs : I s) (hs0 : I s0) (h0 : m.values s0 = [])
    (pre post : List (Op α)) :
    m.values (m.run s (pre ++ .reset :: post)).1 = m.values (m.run s0 post).1 ∧
    (m.run s (pre ++ .reset :: post)).2 = (m.run s pre).2 ++ [] :: (m.run s0 post).2 := by
  obtain ⟨_, a1, a2⟩ := run_refines h (pre ++ .reset :: post) s hs
  obtain ⟨_, b1, b2⟩ := run_refines h post s0 hs0
  obtain ⟨_, _, c2⟩ := run_refines h pre s hs
  rw [a1, a2, b1, b2, c2, h0, spec_reset_forgets]
  exact ⟨rfl, rfl⟩

theorem probe_insert_after_reset (page : List α) (h : page.Nodup) (pre post : List (Op α)) :
    (probeMachine.run (probeNew page) (pre ++ .reset :: post)).1.values
      = (probeMachine.run (probeNew []) post).1.values ∧
    (probeMachine.run (probeNew page) (pre ++ .reset :: post)).2
      = (probeMachine.run (probeNew page) pre).2 ++ [] :: (probeMachine.run (probeNew []) post).2 :=
  reset_forgets probe_refines _ _ (probeNew_inv page h) (probeNew_inv [] (by simp)) rfl pre post

theorem map_insert_after_reset (byLen : Bool) (page : List α) (h : page.Nodup) (pre post : List (Op α)) :
    ((mapMachine byLen).run (mapNew page) (pre ++ .reset :: post)).1.values
      = ((mapMachine byLen).run (mapNew []) post).1.values ∧
    ((mapMachine byLen).run (mapNew page) (pre ++ .reset :: post)).2
      = ((mapMachine byLen).run (mapNew page) pre).2 ++ [] :: ((mapMachine byLen).run (mapNew []) post).2 :=
  reset_forgets (map_refines byLen) _ _ (mapNew_inv page h) (mapNew_inv [] (by simp)) rfl pre post

/-- a reset-free generation on a fresh empty dictionary (identity `ensure`): the page is the first
    occurrences of the generation's values, and the indexes handed out, looked up in that page, are
    the values — for any cut into Insert calls and chunks -/
theorem generation_roundtrip {σ : Type} {m : Machine σ α} {I : σ → Prop}
    (h : m.Refines id I) (s0 : σ) (hs0 : I s0) (h0 : m.values s0 = [])
    (gen : List (Op α)) (hg : noReset gen = true) :
    m.values (m.run s0 gen).1 = (batchesOf gen).eraseDups ∧
    (m.run s0 gen).2.flatten.map ((m.values (m.run s0 gen).1)[·]?) = (batchesOf gen).map some := by
  obtain ⟨_, b1, b2⟩ := run_refines h gen s0 hs0
  obtain ⟨n1, n2⟩ := specRun_noReset gen (m.values s0) hg
  rw [b1, b2, n1, n2, h0]
  refine ⟨?_, ?_⟩
  · rw [insertAll_eraseDups [] _ (by simp), List.nil_append]
  · exact C04Plain.dict_insert_lookup [] _ (batchesOf gen) _ rfl
example : noReset [Op.insert [[1, 2], [2]], Op.insert [[3]]] = true := by decide

/-- so the row group written after any history of earlier row groups round-trips (probe family) -/
theorem probe_row_group_after_reset_roundtrip (page : List α) (h : page.Nodup)
    (pre gen : List (Op α)) (hg : noReset gen = true) :
    let fresh := probeMachine.run (probeNew ([] : List α)) gen
    (probeMachine.run (probeNew page) (pre ++ .reset :: gen)).1.values = (batchesOf gen).eraseDups ∧
    (probeMachine.run (probeNew page) (pre ++ .reset :: gen)).2
      = (probeMachine.run (probeNew page) pre).2 ++ [] :: fresh.2 ∧
    fresh.2.flatten.map (((batchesOf gen).eraseDups)[·]?) = (batchesOf gen).map some := by
  obtain ⟨a1, a2⟩ := probe_insert_after_reset page h pre gen
  obtain ⟨g1, g2⟩ := generation_roundtrip probe_refines (probeNew ([] : List α))
    (probeNew_inv [] (by simp)) rfl gen hg
  simp only [probeMachine] at a1 a2 g1 g2 ⊢
  exact ⟨by rw [a1, g1], a2, by rw [← g1]; exact g2⟩

/-- the same for the Go-map dictionaries (fixed-len byte array, int96, byte array) -/
theorem map_row_group_after_reset_roundtrip (byLen : Bool) (page : List α) (h : page.Nodup)
    (pre gen : List (Op α)) (hg : noReset gen = true) :
    let fresh := (mapMachine byLen).run (mapNew ([] : List α)) gen
    ((mapMachine byLen).run (mapNew page) (pre ++ .reset :: gen)).1.values = (batchesOf gen).eraseDups ∧
    ((mapMachine byLen).run (mapNew page) (pre ++ .reset :: gen)).2
      = ((mapMachine byLen).run (mapNew page) pre).2 ++ [] :: fresh.2 ∧
    fresh.2.flatten.map (((batchesOf gen).eraseDups)[·]?) = (batchesOf gen).map some := by
  obtain ⟨a1, a2⟩ := map_insert_after_reset byLen page h pre gen
  obtain ⟨g1, g2⟩ := generation_roundtrip (map_refines byLen) (mapNew ([] : List α))
    (mapNew_inv [] (by simp)) rfl gen hg
  simp only [mapMachine] at a1 a2 g1 g2 ⊢
  exact ⟨by rw [a1, g1], a2, by rw [← g1]; exact g2⟩

end

/-- boolean: the calls after a Reset answer as on a fresh dictionary -/
theorem bool_insert_after_reset (pre post : List (Op Bool)) :
    (boolMachine.run boolNew (pre ++ .reset :: post)).1.values = (boolMachine.run boolNew post).1.values ∧
    (boolMachine.run boolNew (pre ++ .reset :: post)).2
      = (boolMachine.run boolNew pre).2 ++ [] :: (boolMachine.run boolNew post).2 :=
  reset_forgets bool_refines _ _ boolNew_inv boolNew_inv rfl pre post

/-! ## every `Reset` must clear its lookup accelerator

The same machines with a `Reset` that empties the page only. Row group 1 holds the values 1, 2; row
group 2 holds 3, 1. -/

/-- VIOLATION witness on the variant (mechanism of seeded change C04-4b, fixed-len byte array and
    int96): the map still sends 1 to index 0, where the new row group's page holds 3 -/
theorem flba_reset_keeping_hashmap_is_wrong :
    let r := (mapMachineKeepingMap false).run (mapNew ([] : List Nat))
      [.insert [[1, 2]], .reset, .insert [[3, 1]]]
    r.2 = [[0, 1], [], [0, 0]] ∧ r.1.values = [3] ∧ r.1.values[0]? ≠ some 1 := by
  decide

/-- and a value of the earlier row group alone gets an index past the end of the new page -/
theorem flba_reset_keeping_hashmap_index_out_of_range :
    let r := (mapMachineKeepingMap false).run (mapNew ([] : List Nat))
      [.insert [[1, 2, 3]], .reset, .insert [[3]]]
    r.2 = [[0, 1, 2], [], [2]] ∧ r.1.values = [] := by
  decide

/-- the real `Reset` on the same calls -/
theorem flba_reset_is_right :
    let r := (mapMachine false).run (mapNew ([] : List Nat)) [.insert [[1, 2]], .reset, .insert [[3, 1]]]
    r.2 = [[0, 1], [], [0, 1]] ∧ r.1.values = [3, 1] := by
  decide

/-- byte array: a map that keeps its keys numbers the new value by its stale size -/
theorem byte_array_reset_keeping_map_is_wrong :
    let r := (mapMachineKeepingMap true).run (mapNew ([] : List Nat))
      [.insert [[1, 2]], .reset, .insert [[3, 1]]]
    r.2 = [[0, 1], [], [2, 0]] ∧ r.1.values = [3] := by
  decide

/-- hashprobe family without `d.table.Reset()`: 3 is numbered 2 and never stored, the page holds 1 -/
theorem probe_reset_keeping_table_is_wrong :
    let r := probeMachineKeepingTable.run (probeNew ([] : List Nat))
      [.insert [[1, 2]], .reset, .insert [[3, 1]]]
    r.2 = [[0, 1], [], [2, 0]] ∧ r.1.values = [1] := by
  decide

/-- boolean dictionary keeping its cached indexes: index 1 into an empty page -/
theorem bool_reset_keeping_table_is_wrong :
    let r := boolMachineKeepingTable.run boolNew [.insert [[true]], .reset, .insert [[true]]]
    r.2 = [[1], [], [1]] ∧ r.1.values = [] := by
  decide

end PqModel.Props.C04DictReset
