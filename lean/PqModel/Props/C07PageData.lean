import PqModel.BoolPack
import PqModel.Props.C07

/-! # C07: from the typed column buffers (`PageDataBuf.lean`) to the hashes the filter receives -/
namespace PqModel.Props.C07PageData
open PqModel.XxHash PqModel.Bloom PqModel.PageDataBuf PqModel.Props.C07

/-- SPEC layout: for a page laid out as `pageData` says, `splitBlockEncoding.Encode*` inserts the
    read-side hash of every value exactly once and in order. -/
theorem pageData_hashes_exactly_once (kind : Kind) (hk : kind ≠ .boolean) (values : List Value)
    (hv : ∀ v ∈ values, v.kindOk kind = true) :
    hashWriteStaged (pageData kind values) = values.map hashRead := by
  rw [hashWriteStaged_eq]
  exact hashWrite_pageData kind hk values hv

def OpsOk (kind : Kind) (ops : List BufOp) : Prop :=
  ∀ op ∈ ops, ∀ vs, op = .write vs → ∀ v ∈ vs, v.kindOk kind = true

theorem flbaWrite_ok (size : Nat) (vs : List (List UInt8)) (data : List UInt8)
    (h : ∀ v ∈ vs, v.length = size) : (flbaWrite size data vs).1 = data ++ vs.flatten := by
  fun_induction flbaWrite size data vs with
  | case1 => simp
  | case2 data v vs _ ih => rw [ih (fun w hw => h w (by simp [hw])), List.flatten_cons, List.append_assoc]
  | case3 data v vs hv => exact absurd (h v (by simp)) hv

/-- the relation between the buffer's state and the values written since the last `Reset` -/
def Rel (kind : Kind) : Buf → List Value → Prop
  | .w32 xs, vs => (kind = .int32 ∨ kind = .float) ∧ xs = vs.map value32
  | .w64 xs, vs => (kind = .int64 ∨ kind = .double) ∧ xs = vs.map value64
  | .flat data, vs => (kind = .int96 ∨ ∃ n, kind = .flba n) ∧ data = (vs.map Value.payloadBytes).flatten
  | .bytes c, vs => kind = .byteArray ∧ c.BInv ∧ c.view = vs.map Value.payloadBytes
  | .boolean _, _ => False   -- BOOLEAN goes through `BoolRel` below

theorem rel_empty (kind : Kind) (hk : kind ≠ .boolean) : Rel kind (Buf.empty kind) [] := by
  cases kind <;> simp [Buf.empty, Rel] at hk ⊢
  exact ⟨SortBuf.BACol.binv_empty, rfl⟩

theorem foldl_write_spec : ∀ (ws : List (List UInt8)) (c : SortBuf.BACol UInt8), c.BInv →
    (ws.foldl SortBuf.BACol.write c).BInv ∧ (ws.foldl SortBuf.BACol.write c).view = c.view ++ ws
  | [], c, h => by simp [h]
  | w :: ws, c, h => by
    have := foldl_write_spec ws (c.write w) (SortBuf.BACol.binv_write h w)
    simp only [List.foldl_cons]
    rw [SortBuf.BACol.view_write h w] at this
    simpa [List.append_assoc] using this

theorem rel_write (junk : UInt8) (kind : Kind) (b : Buf) (vs ws : List Value)
    (hw : ∀ v ∈ ws, v.kindOk kind = true) (h : Rel kind b vs) :
    Rel kind (b.write junk kind ws) (vs ++ ws) := by
  cases b with
  | boolean st => exact h.elim
  | w32 xs => obtain ⟨hk, rfl⟩ := h; exact ⟨hk, by simp [fixedWrite]⟩
  | w64 xs => obtain ⟨hk, rfl⟩ := h; exact ⟨hk, by simp [fixedWrite]⟩
  | bytes c =>
    obtain ⟨hk, hi, hview⟩ := h
    have := foldl_write_spec (ws.map Value.payloadBytes) c hi
    exact ⟨hk, this.1, by rw [this.2, hview]; simp⟩
  | flat data =>
    obtain ⟨hk, rfl⟩ := h
    refine ⟨hk, ?_⟩
    rw [flbaWrite_ok]
    · simp
    · intro b hb
      rcases List.mem_map.mp hb with ⟨w, hwm, rfl⟩
      have := hw w hwm
      rcases hk with hk | ⟨n, hk⟩ <;> subst hk <;> cases w <;> simp [Value.kindOk] at this <;>
        simp [Value.payloadBytes, this]

theorem rel_run (junk : UInt8) (kind : Kind) (hk : kind ≠ .boolean) : ∀ (ops : List BufOp) (b : Buf) (vs : List Value),
    OpsOk kind ops → Rel kind b vs →
    Rel kind (ops.foldl (Buf.step junk kind) b) (ops.foldl specStep vs) :=
  fun _ _ _ hok => foldl_sim (R := Rel kind) fun b vs op ho h => by
    cases op with
    | reset => exact rel_empty kind hk
    | write ws => exact rel_write junk kind b vs ws (hok (.write ws) ho ws rfl) h

/-- MAIN (all kinds but BOOLEAN). For every history of `WriteValues` batches and `Reset`s on the typed
    column buffer of a column of kind `kind` (values of that kind; any stale bytes `junk`), the hashes
    `writePageToFilter` inserts for `Page().Data()` (loop-level write side, staging buffers included)
    are the read-side hashes `Value.hash` of the values written since the last `Reset`: each exactly
    once, in write order, nothing else. -/
theorem buffer_hashes_exactly_once (junk : UInt8) (kind : Kind) (hk : kind ≠ .boolean) (ops : List BufOp)
    (hok : OpsOk kind ops) :
    hashWriteStaged (runData junk kind ops) = (runValues ops).map hashRead := by
  have hrel := rel_run junk kind hk ops (Buf.empty kind) [] hok (rel_empty kind hk)
  have hvals : ∀ v ∈ runValues ops, v.kindOk kind = true := by
    intro v hv
    rcases mem_foldl_specStep ops [] hv with h | ⟨ws, hw, hvw⟩
    · cases h
    · exact hok (.write ws) hw ws rfl v hvw
  have key := pageData_hashes_exactly_once kind hk (runValues ops) hvals
  unfold runData runValues at *
  generalize ops.foldl (Buf.step junk kind) (Buf.empty kind) = b at hrel
  generalize ops.foldl specStep [] = vs at hrel key hvals
  -- two projections that agree on the values of the column's kind give the same value array
  have proj : ∀ {α : Type} (f g : Value → α), (∀ v, v.kindOk kind = true → f v = g v) → vs.map f = vs.map g :=
    fun f g h => List.map_congr_left (fun v hv => h v (hvals v hv))
  cases b with
  | boolean st => exact hrel.elim
  | w32 xs | w64 xs =>
    obtain ⟨hk2, rfl⟩ := hrel
    rw [← key]
    rcases hk2 with rfl | rfl <;>
      exact congrArg hashWriteStaged
        (congrArg _ (proj _ _ (fun v hv => by cases v <;> simp [Value.kindOk] at hv <;> rfl)))
  | flat data =>
    obtain ⟨hk2, rfl⟩ := hrel
    rw [← key]
    rcases hk2 with rfl | ⟨n, rfl⟩ <;> simp only [Buf.data, pageData, List.flatMap_def]
  | bytes c =>
    obtain ⟨rfl, hi, hview⟩ := hrel
    have hp := (SortBuf.BACol.page_spec hi).2.2
    simp only [Buf.data, hashWriteStaged, stagedAppend_eq_map]
    rw [byteArrayValues_eq_slices]
    have : SortBuf.slices c.page.values (c.page.offsets ++ c.page.endOff.toList) = c.page.pageValues := rfl
    rw [this, hp, hview]
    exact map_hash_congr _ _ _ (fun v hv => by have := hvals v hv; cases v <;> simp [Value.kindOk] at this; rfl)

example : OpsOk (.flba 2) [.write [.flba [1, 2]], .reset, .write [.flba [3, 4], .flba [5, 6]]] := by
  intro op hop vs hvs v hv
  simp at hop
  rcases hop with rfl | rfl | rfl <;> simp at hvs <;> subst hvs <;> simp at hv
  · subst hv; decide
  · rcases hv with rfl | rfl <;> decide

theorem packBits_append_full : ∀ (full tail : List Bool), full.length % 8 = 0 →
    packBits (full ++ tail) = packBits full ++ packBits tail := by
  intro full tail h
  refine chunks8_induction (P := fun l => packBits (l ++ tail) = packBits l ++ packBits tail) rfl ?_ full h
  intro a rest ha ih
  rw [List.append_assoc, packBits_chunk a _ ha, ih, packBits_chunk a rest ha, List.cons_append]

theorem packBits_length_full : ∀ (full : List Bool) (k : Nat), full.length = 8 * k → (packBits full).length = k := by
  intro full k h
  have := chunks8_induction (P := fun l => 8 * (packBits l).length = l.length) rfl
    (fun a rest ha ih => by rw [packBits_chunk a rest ha, List.length_cons, List.length_append, ha, ← ih]; omega)
    full (by omega)
  omega

theorem step_last (P : List UInt8) (w : UInt8) (n : Nat) (b : Bool) (hP : P.length = n / 8) :
    clearTrailing (setAt (P ++ [w]) (n / 8) (fun w => setBit w (n % 8) b)) (n + 1)
      = P ++ [stepByte (n % 8) w b] := by
  rw [← hP, setAt_append, clearTrailing_concat]
  have e : (n + 1) % 8 = (n % 8 + 1) % 8 := by omega
  rw [e]; rfl

def BoolRel (st : BoolBuf) (vs : List Bool) : Prop := st.bits = packBits vs ∧ st.numValues = vs.length

theorem writeBoolean_rel (st : BoolBuf) (vs : List Bool) (b : Bool) (junk : UInt8) (h : BoolRel st vs) :
    BoolRel (st.writeBoolean b junk) (vs ++ [b]) := by
  obtain ⟨hb, hn⟩ := h
  refine ⟨?_, by simp [BoolBuf.writeBoolean, hn]⟩
  obtain ⟨k, full, tail, rfl, hfl, ht8⟩ := exists_whole_bytes vs
  have hfm : full.length % 8 = 0 := by omega
  have hP : (packBits full).length = k := packBits_length_full full k hfl
  have hlen : (full ++ tail).length = 8 * k + tail.length := by rw [List.length_append, hfl]
  rw [List.append_assoc, packBits_append_full full _ hfm, packBits_of_length_le (tail ++ [b]) (by simp) (by simp; omega)]
  simp only [BoolBuf.writeBoolean, hn, hb, packBits_append_full full tail hfm, hlen, Nat.add_assoc, byteCount_add,
    byteCount_of_le (Nat.le_add_left 1 tail.length) ht8]
  -- the byte that receives the value: a fresh one (`junk`) or the incomplete last one
  obtain ⟨w, hres, hw⟩ : ∃ w, resize (packBits full ++ packBits tail) (k + 1) junk = packBits full ++ [w] ∧
      w &&& maskOf tail.length = UInt8.ofNat (bitsByte tail) := by
    cases tail with
    | nil =>
      refine ⟨junk, ?_, and_maskOf_zero junk⟩
      rw [show packBits [] = [] from rfl, List.append_nil, resize_of_le _ _ _ (by omega), hP, Nat.add_sub_cancel_left]
      rfl
    | cons a t =>
      refine ⟨_, ?_, bitsByte_and_maskOf (a :: t) (by omega)⟩
      rw [packBits_of_length_le (a :: t) (by simp) (by omega), resize_of_le _ _ _ (by simp [hP])]
      simp [hP]
  have hdiv : (8 * k + tail.length) / 8 = (packBits full).length := by
    rw [Nat.mul_add_div (by decide : 0 < 8), Nat.div_eq_of_lt ht8, Nat.add_zero, hP]
  rw [hres, ← Nat.add_assoc, step_last _ _ _ _ hdiv.symm, Nat.mul_add_mod, Nat.mod_eq_of_lt ht8,
    stepByte_masked w tail b (Nat.le_of_lt_succ ht8) hw]

/-- the histories of the per-value path: `writeBoolean` and `Reset` only -/
def NoBatch (ops : List BoolOp) : Prop := ∀ op ∈ ops, ∀ rows, op ≠ .batch rows

/-- BOOLEAN, per-value path (`writeBoolean`, used by the reflection/typed row writers), every
    history with `Reset`s, every content of the recycled backing array: the bytes `Page().Data()`
    hands to the filter are exactly the LSB-first packing of the values written since the last
    `Reset`, the padding bits of the last byte are zero (`clearTrailingBits`). -/
theorem boolean_buffer_is_packBits (junk : UInt8) : ∀ (ops : List BoolOp) (st : BoolBuf) (vs : List Bool),
    NoBatch ops → BoolRel st vs →
    BoolRel (ops.foldl (BoolBuf.step junk) st) (ops.foldl boolSpecStep vs) :=
  fun _ _ _ hnb => foldl_sim (R := BoolRel) fun st vs op ho h => by
    cases op with
    | one b => exact writeBoolean_rel st vs b junk h
    | batch rows => exact absurd rfl (hnb (.batch rows) ho rows)
    | reset => exact ⟨rfl, rfl⟩

example : NoBatch [.one true, .reset, .one false, .one true] := by
  intro op hop rows; simp at hop; rcases hop with rfl | rfl | rfl | rfl <;> simp

/-- Consequence for the filter: for every such history, the read-side hash of every value in the
    buffer is inserted. -/
theorem boolean_buffer_hashes (junk : UInt8) (ops : List BoolOp) (hnb : NoBatch ops) (b : Bool)
    (hm : b ∈ ops.foldl boolSpecStep []) :
    hashBool b ∈ hashWriteStaged (ops.foldl (BoolBuf.step junk) BoolBuf.empty).data := by
  have := boolean_buffer_is_packBits junk ops BoolBuf.empty [] hnb ⟨rfl, rfl⟩
  simp only [BoolBuf.data, hashWriteStaged, this.1]
  exact encodeBoolean_covers _ b hm

theorem boolean_hashes_nodup (bits : List UInt8) : (hashWriteStaged (.boolean bits)).Nodup := by
  simp only [hashWriteStaged, encodeBooleanHashes]
  have hne : hashBool false ≠ hashBool true := by decide
  split <;> split <;> simp [hne]

/-- The padding is the only source of a hash nobody wrote, and it needs an incomplete last byte: when the
    number of values is a multiple of 8, the inserted hashes are exactly those of written values. -/
theorem boolean_full_bytes_exact (vs : List Bool) (hfull : vs.length % 8 = 0) (h : UInt64)
    (hh : h ∈ hashWriteStaged (.boolean (packBits vs))) : ∃ b ∈ vs, h = hashBool b := by
  have hb : ∃ b, h = hashBool b := by
    simp only [hashWriteStaged, encodeBooleanHashes, List.mem_append, List.mem_ite_nil_right, List.mem_singleton] at hh
    rcases hh with ⟨_, e⟩ | ⟨_, e⟩ <;> exact ⟨_, e⟩
  obtain ⟨b, rfl⟩ := hb
  refine ⟨b, ?_, rfl⟩
  rw [← unpackAll_packBits vs hfull]
  exact (mem_encodeBooleanHashes _ b).mp hh

/-- … and with an incomplete last byte the padding does add `hash(false)`: three `true`s. -/
theorem boolean_padding_adds_false :
    hashBool false ∈ hashWriteStaged (BoolBuf.empty.writeValues [true, true, true] 0xAA).data ∧
      false ∉ [true, true, true] := by decide

/-- `booleanPage.Slice` keeps whole bytes and records the bit offset; `Data()` returns the bytes.
    The values of the slice are covered, but so are the neighbours' bits: page of 16 values, row 8 is `false`,
    rows 9..16 are all `true`, and the slice's `Data()` makes the filter insert `hash(false)`. (The column
    writer never feeds a sliced page to the filter: `writeDataPage` only sees `columnBuffer.Page()`.) -/
theorem sliced_boolean_data_has_foreign_bits :
    let p := (BoolBuf.empty.writeValues (List.replicate 8 true ++ false :: List.replicate 7 true) 0).page.slice 9 16
    p.values = List.replicate 7 true ∧ p.offset = 1 ∧
      hashBool false ∈ hashWriteStaged p.data := by decide

end PqModel.Props.C07PageData
