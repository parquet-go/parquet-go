import PqModel.Generated.Facts

/-! # C17 — source-level facts: the process-wide caches of the root package and what is stored in
    them under which key

`Generated/Facts.lean` is rewritten by `tools/factgen` (family `globalcaches`) from the current
source on every run. `Props/C17Cache` proves that a keyed cache is invisible to every history of
the process exactly when the key determines the stored value; these theorems pin the facts of the
source that make `cachedSchemas` such a cache, and the list of caches the L1 sub-check `cache` has
to cover (a new package-level cache changes the table and must be reviewed). The extraction is
trusted (AST level, no types); caches hanging off a cached value (`Schema.funcs/state/cache`,
`cacheMap`) and caches of sub-packages (encoding/thrift encoder tables, internal/memory pools) are
not in the table: the first are reached only through a schema (covered by the key of the schema),
the second hold no option-dependent values. -/
namespace PqModel.Props.FactsCheckC17
open PqModel.Generated.Facts

/-- the package-level caches of the reviewed source -/
theorem global_caches_expected : globalCaches =
    [("cachedSchemas", "sync.Map"), ("defaultCreatedByOnce", "sync.Once"),
     ("extraEncodings", "sync.Map"), ("structFieldsCache", "atomic.Value")] := rfl

/-- the only store into `cachedSchemas`: in `schemaOf`, keyed by the Go type, inside `if cacheable`
    (a store in the init statement of an `if` is not under its condition: the variant with the
    store hoisted there gives `[]` here) -/
theorem cached_schemas_stored_only_when_cacheable :
    globalCacheStores.filter (fun s => s.1 == "cachedSchemas") =
      [("cachedSchemas", "schemaOf", "LoadOrStore", "model", ["cacheable"])] := by rfl

/-- a derived schema depends on the Go type and the replacements, and `cacheable` means "no
    replacements": key `model` + guard `cacheable` = everything the value depends on
    (`SchemaCache.schemaKey`) -/
theorem schemaOf_inputs_and_guard :
    schemaOfParams = ["model", "tagReplacements"] ∧ schemaOfCacheableDefs = ["len(tagReplacements) == 0"] :=
  ⟨rfl, rfl⟩

/-- the other stores: keyed by values that do not depend on writer / schema options (the Go type of
    a struct written through a map-to-group column; the encoding's own code; a once-only build-info
    string) -/
theorem other_cache_stores_expected :
    globalCacheStores.filter (fun s => s.1 != "cachedSchemas") =
      [("defaultCreatedByOnce", "defaultCreatedBy", "Do", "func", []),
       ("extraEncodings", "RegisterEncoding", "Store", "enc.Encoding()", []),
       ("structFieldsCache", "writeValueFuncOfGroup", "Store", "cachedFields", ["!ok"])] := by rfl

end PqModel.Props.FactsCheckC17
