import PqModel.Props.C01
import PqModel.Props.C04PlainDict

/-! # C01 with the Go decoders on the read path

`Props/C01.lean` (`roundtrip_typed`) reads the written file with the SPEC decoders. Here the reader
is built from the MIRRORS of the Go decoders (`PqModel/FileCodecsGo.lean`): for every physical type
× encoding parquet-go accepts, every stale content of the recycled decode buffers, both data page
layouts, the Go read path returns exactly the written rows. Each codec statement is discharged from
the C04 theorem about that Go decoder. A bare `example` after a theorem shows that its hypotheses can be met. -/
namespace PqModel.Props.C01Go
open PqModel PqModel.Bits PqModel.Dremel PqModel.FileModel PqModel.Props PqModel.Props.C01Codecs

/-- PLAIN fixed width: the Go page reader is the SPEC page reader, on every byte string -/
theorem goPlainFixed_dec_eq (k : Nat) (hk : 0 < k) (cnt : Nat) (bs : List Nat) :
    (goPlainFixed k).dec cnt bs = (plainFixed k).dec cnt bs := by
  simp only [goPlainFixed, plainFixed, PlainDict.goDecFixed_eq_spec k hk]
  cases Plain.specDecFixed k (toB bs) <;> rfl
example : (0 : Nat) < 4 := by decide

theorem goPlainFLBA_dec_eq (n : Nat) (hn : 0 < n) (cnt : Nat) (bs : List Nat) :
    (goPlainFLBA n).dec cnt bs = (plainFixed n).dec cnt bs := by
  have hn0 : ¬ n = 0 := by omega
  simp only [goPlainFLBA, plainFixed, PlainDict.goDecFLBA, Plain.specDecFixed, Plain.specDecFixedBytes, hn0,
    if_false]
  split <;> simp [goOk, flatValues]
example : (0 : Nat) < 16 := by decide

theorem goBssFixed_dec_eq (k : Nat) (hk : 0 < k) (cnt : Nat) (bs : List Nat) :
    (goBssFixed k).dec cnt bs = (bssFixed k).dec cnt bs := by
  simp only [goBssFixed, bssFixed, PlainDict.goBssDecFixed_eq_spec k hk]
  cases Plain.bssSpecDecFixed k (toB bs) <;> rfl
example : (0 : Nat) < 8 := by decide

theorem getD_take (bs : Plain.Bytes) (m j : Nat) (h : j < m) : (bs.take m).getD j 0 = bs.getD j 0 := by
  simp [List.getD_eq_getElem?_getD, h]

/-- the boolean page over `bytes` is the SPEC reading of PLAIN BOOLEAN, on every byte string -/
theorem goBoolPage_eq (cnt : Nat) (bytes : Plain.Bytes) :
    goBoolPage cnt bytes = (Plain.specDecBool cnt bytes).map (·.map Rle.b2n) := by
  unfold goBoolPage Plain.specDecBool
  by_cases h : bytes.length < (cnt + 7) / 8
  · have : bytes.length * 8 < cnt := by omega
    simp [h, this]
  · have : ¬ bytes.length * 8 < cnt := by omega
    simp only [h, this, if_false, Option.map_some, List.map_map, Option.some.injEq]
    apply List.map_congr_left
    intro i hi
    have hi' : i < cnt := List.mem_range.mp hi
    simp only [Function.comp, Plain.bitAt]
    rw [getD_take _ _ _ (by omega)]

theorem goPlainBool_dec_eq (cnt : Nat) (bs : List Nat) : goPlainBool.dec cnt bs = plainBool.dec cnt bs := by
  simp only [goPlainBool, plainBool, goBoolPage_eq]

theorem goPlainFixed_ok (k : Nat) (hk : 0 < k) : (goPlainFixed k).OK := by
  intro xs hx hp
  rw [goPlainFixed_dec_eq k hk]
  exact plainFixed_ok k hk xs hx hp

theorem goPlainFLBA_ok (n : Nat) (hn : 0 < n) : (goPlainFLBA n).OK := by
  intro xs hx hp
  rw [goPlainFLBA_dec_eq n hn]
  exact plainFixed_ok n hn xs hx hp

theorem goBssFixed_ok (k : Nat) (hk : 0 < k) : (goBssFixed k).OK := by
  intro xs hx hp
  rw [goBssFixed_dec_eq k hk]
  exact bssFixed_ok k hk xs hx hp

theorem goPlainBool_ok : goPlainBool.OK := by
  intro xs hx hp
  rw [goPlainBool_dec_eq]
  exact plainBool_ok xs hx hp

/-- BYTE_STREAM_SPLIT FIXED_LEN_BYTE_ARRAY(n), for every former content of the destination
    (C04 `bss_go_roundtrip_flba`) -/
theorem goBssFLBA_ok (n : Nat) (hn : 0 < n) (stale : Plain.Bytes) : (goBssFLBA n stale).OK := by
  intro xs hx _
  have hlen : ∀ v ∈ xs.map (Plain.leBytes n), v.length = n :=
    List.forall_mem_map.mpr fun x _ => Plain.leBytes_length n x
  have hrt := C04PlainDict.bss_go_roundtrip_flba n hn stale (xs.map (Plain.leBytes n)) hlen
  have hfl := Plain.flatten_length_const n _ hlen
  have hd : (xs.map (Plain.leBytes n)).flatten.length / n = xs.length := by
    rw [hfl, List.length_map]; exact Nat.mul_div_cancel_left _ hn
  have hch := Plain.chunks_flatten n (xs.map (Plain.leBytes n)) [] hlen
  simp only [List.append_nil, List.length_map] at hch
  have hv : (xs.map (Plain.leBytes n)).map Plain.leVal = xs :=
    ListFacts.map_map_cancel fun x hx' => Plain.leVal_leBytes n x (of_decide_eq_true (hx x hx'))
  simp only [goBssFLBA, bssFixed, toB_toN, Plain.bssEncFixed, hrt, goOk, Option.map_some, flatValues, hd, hch, hv,
    exactly, Option.bind_some, ↓reduceIte]
example : (0 : Nat) < 16 := by decide

/-- DELTA_BINARY_PACKED INT32 through `goDecode32` (C04 `goDecode32_mirrorEncode32`) -/
theorem goDelta32_ok : goDelta32.OK := by
  intro xs hx hp
  have hl : (xs.map (BitVec.ofNat 32)).length < 2 ^ 31 := by simpa [goDelta32, okCount] using hp
  have hv := ofNat_toNat_id 32 xs (fun x h => by simpa [goDelta32, delta32] using hx x h)
  have h := C04Delta.goDecode32_mirrorEncode32 (xs.map (BitVec.ofNat 32)) [] hl
  simp only [List.append_nil] at h
  simp only [goDelta32, delta32, h, List.length_map, ↓reduceIte, hv]
example : goDelta32.okP [0, 0xffffffff] = true := by decide

theorem goDelta64_ok : goDelta64.OK := by
  intro xs hx hp
  have hl : (xs.map (BitVec.ofNat 64)).length < 2 ^ 31 := by simpa [goDelta64, okCount] using hp
  have hv := ofNat_toNat_id 64 xs (fun x h => by simpa [goDelta64, delta64, isInt64] using hx x h)
  have h := C04Delta.goDecode64_mirrorEncode64 (xs.map (BitVec.ofNat 64)) [] hl
  simp only [List.append_nil] at h
  simp only [goDelta64, delta64, deltaInt64Enc, h, List.length_map, ↓reduceIte, hv]
example : goDelta64.okP [0, 2 ^ 64 - 1] = true := by decide

/-- RLE BOOLEAN through `goDecodeBoolean` (C04 `go_roundtrip_boolean`) and the boolean page -/
theorem goRleBool_ok : goRleBool.OK := by
  intro xs hx hp
  simp only [goRleBool, Bool.and_eq_true, decide_eq_true_eq] at hp
  have hlen : (Rle.encodeBits (boolPack xs)).length < 2 ^ 32 := by simpa [rleBool] using hp.1
  have hb : ∀ b ∈ boolPack xs, b < 256 := by
    intro b hb
    unfold boolPack at hb
    exact Rle.bitsToBytes_lt _ _ b hb
  have hrt := C04Rle.go_roundtrip_boolean (boolPack xs) hb hp.2 hlen
  obtain ⟨pad, hpad⟩ := bytes_bits xs.length (xs.map (· == 1)) (by simp)
  have hbl : (boolPack xs).length = (xs.length + 7) / 8 := by
    unfold boolPack
    rw [Bits.bitsToBytes_length _ _ (by simp)]; simp
  have hv : ((bytesToBits (boolPack xs)).map Rle.b2n).take xs.length = xs := by
    unfold boolPack
    rw [hpad, List.map_append, List.take_left' (by simp)]
    exact b2n_eq1 xs (fun x h => by simpa [goRleBool, rleBool] using hx x h)
  simp only [goRleBool, rleBool, hrt, goBoolPageN, ← hbl, List.take_length, hv, Nat.lt_irrefl, if_false]
example : goRleBool.okP [1, 1, 1, 1, 1, 1, 1, 1, 1, 0, 1] = true := by decide +kernel

/-- PLAIN BYTE_ARRAY through `goDecByteArray` (C04 `goDecByteArray_roundtrip`) -/
theorem goPlainBA_ok : goPlainBA.OK := by
  intro xs hx _
  have hl : ∀ v ∈ xs.map (fun x => toB (bytesOfNat x)), v.length < 2 ^ 32 :=
    List.forall_mem_map.mpr fun x hx' => by rw [toB_length]; exact of_decide_eq_true (hx x hx')
  have hv : ((xs.map fun x => toB (bytesOfNat x)).map fun v => natOfBytes (toN v)) = xs :=
    ListFacts.map_map_cancel fun x _ => by rw [toN_toB _ (bytesOfNat_lt x), natOfBytes_bytesOfNat]
  simp only [goPlainBA, plainBA, toB_toN, C04Plain.goDecByteArray_roundtrip _ hl, goOk, Option.map_some, hv,
    exactly, Option.bind_some, ↓reduceIte]
example : goPlainBA.okV (natOfBytes [0xff, 0, 0xff]) = true := by decide

theorem sliceOffs_offsets (vs : List (List Nat)) : sliceOffs vs.flatten (Delta.offsetsFrom 0 vs) = vs := by
  rw [sliceOffs_eq_slices, offsetsFrom_eq_prefixSums]
  simpa using SortBuf.slices_flatten vs [] []

theorem goDecodeDLBA_mirrorEncodeDLBA (vs : List (List Nat)) (hl : ∀ v ∈ vs, v.length < 2 ^ 31)
    (hn : vs.length < 2 ^ 31) (hb : vs.flatten.length < 2 ^ 32) :
    Delta.goDecodeDLBA (Delta.mirrorEncodeDLBA vs) = .ok (vs.flatten, Delta.offsetsFrom 0 vs) := by
  simpa using Delta.goDecodeDLBA_mirror vs [] hl hn hb
example : (∀ v ∈ [[1, 2], []], (v : List Nat).length < 2 ^ 31) := by decide

theorem goDlba_ok : goDlba.OK := by
  intro xs hx hp
  simp only [goDlba, Bool.and_eq_true, decide_eq_true_eq, okCount] at hp
  have hl : ∀ v ∈ xs.map bytesOfNat, v.length < 2 ^ 31 :=
    List.forall_mem_map.mpr fun x hx' => of_decide_eq_true (hx x hx')
  have hgo := goDecodeDLBA_mirrorEncodeDLBA (xs.map bytesOfNat) hl (by simpa using hp.1) hp.2
  simp only [goDlba, dlba, hgo, sliceOffs_offsets, List.length_map, ↓reduceIte, natOfBytes_map]
example : goDlba.okV (natOfBytes []) = true ∧ goDlba.okP [natOfBytes [1, 2], natOfBytes []] = true := by decide

theorem goJoin_error_not_limit : ∀ (ps ss : List (BitVec 32)) (lastV src : List Nat) (e : Delta.GoErr),
    Delta.goJoin lastV ps ss src = .error e → e.isLimit = false := by
  intro ps ss lastV src e h
  -- cases of `goJoin`: its own errors (1-4: no limits), the error `e'` of the recursive call (5, `ih`), success (6), the lists end (7)
  fun_induction Delta.goJoin lastV ps ss src with
  | case1 => cases h; rfl
  | case2 => cases h; rfl
  | case3 => cases h; rfl
  | case4 => cases h; rfl
  | case5 _ _ _ _ _ _ _ _ _ _ e' he ih => cases h; exact ih he
  | case6 => cases h
  | case7 => cases h

theorem goDecodeDBA_mirrorEncodeDBA (vs : List (List Nat)) (h : ∀ v ∈ vs, v.length < 2 ^ 31)
    (hn : vs.length < 2 ^ 31) : Delta.goDecodeDBA (Delta.mirrorEncodeDBA vs) = .ok vs := by
  simpa using Delta.goDecodeDBA_mirror vs [] h hn
example : (∀ v ∈ [[1, 2], [1, 3]], (v : List Nat).length < 2 ^ 31) := by decide

/-- DELTA_BYTE_ARRAY through the portable `goDecodeDBA` -/
theorem goDba_ok : goDba.OK := by
  intro xs hx hp
  have hl : ∀ v ∈ xs.map bytesOfNat, v.length < 2 ^ 31 :=
    List.forall_mem_map.mpr fun x hx' => of_decide_eq_true (hx x hx')
  have hn : (xs.map bytesOfNat).length < 2 ^ 31 := by simpa [goDba, okCount] using hp
  simp only [goDba, dba, goDecodeDBA_mirrorEncodeDBA _ hl hn, List.length_map, ↓reduceIte, natOfBytes_map]
example : goDba.okV (natOfBytes [1, 2, 3]) = true ∧ goDba.okP [5, 6] = true := by decide

/-- DELTA_BYTE_ARRAY of FIXED_LEN_BYTE_ARRAY(n) through `goDecodeDBA`, the page re-cutting the
    concatenation -/
theorem goDbaFixed_ok (n : Nat) (hn : 0 < n) (hb : n < 2 ^ 31) : (goDbaFixed n).OK := by
  intro xs hx hp
  have hlen : ∀ v ∈ xs.map (Rle.leBytes n), v.length = n :=
    List.forall_mem_map.mpr fun x _ => Rle.leBytes_length n x
  have hch := chunksOf_flatten_eq n hn (xs.map (Rle.leBytes n)) _ hlen (Nat.le_refl _)
  have hl : ∀ v ∈ xs.map (Rle.leBytes n), v.length < 2 ^ 31 := fun v hv => by rw [hlen v hv]; exact hb
  have hcnt : (xs.map (Rle.leBytes n)).length < 2 ^ 31 := by simpa [goDbaFixed, okCount] using hp
  have hv := leNat_leBytes_id n xs (fun x h => by simpa [goDbaFixed, dbaFixed] using hx x h)
  have hmod : (xs.map (Rle.leBytes n)).flatten.length % n = 0 := by
    rw [← List.flatMap_def, Pieces.length_flatMap fun x _ => Rle.leBytes_length n x]; exact Nat.mul_mod_right _ _
  simp only [goDbaFixed, dbaFixed, Delta.mirrorEncodeFLBA, hch, goDecodeDBA_mirrorEncodeDBA _ hl hcnt, List.length_map,
    hmod, and_self, ↓reduceIte, hv]
example : (0 : Nat) < 16 ∧ 16 < 2 ^ 31 := by decide

/-- admissible pages of the Go read path: those of the SPEC reader, and below the Go decoders'
    count / size limits -/
theorem goVal_okP_le (stale : Plain.Bytes) (c : ColSpec) (xs : List Nat) (h : (c.goVal stale).okP xs = true) :
    c.val.okP xs = true := by
  revert h
  exact table_cases stale (P := fun _ v g => g.okP xs = true → v.okP xs = true)
    (plain := fun t _ => plainOf_okP t xs) (rle := fun h => ((Bool.and_eq_true _ _).mp h).1)
    (delta32 := fun _ => rfl) (delta64 := fun _ => rfl)
    (bssInt32 := fun _ => rfl) (bssInt64 := fun _ => rfl) (bssFloat := fun _ => rfl) (bssDouble := fun _ => rfl)
    (bssFlba := fun _ _ => rfl) (dlba := fun _ => rfl) (dba := fun _ => rfl) (dbaFlba := fun _ _ => rfl) c

/-- **Every physical type × encoding parquet-go accepts, read by the Go decoders**: the value codec
    round-trips on admissible pages, and so does the PLAIN codec of the type (its dictionary page),
    which has no page limit and a domain containing the column's; the value domain is the SPEC
    column's. -/
theorem goValCodecOf_ok (stale : Plain.Bytes) (c : ColSpec) (h : c.supported = true) :
    (c.goVal stale).OK ∧ (goPlainOf c.t).OK ∧ (∀ x, (c.goVal stale).okV x = true → (goPlainOf c.t).okV x = true) ∧
      (∀ xs, (goPlainOf c.t).okP xs = true) ∧ (c.goVal stale).okV = c.val.okV := by
  have hw : ∀ n, c.t = .flba n → 0 < n ∧ n < 2 ^ 31 := fun _ => supported_flba h
  have hplain : ∀ t, (∀ n, t = .flba n → 0 < n ∧ n < 2 ^ 31) → (goPlainOf t).OK := by
    intro t ht
    cases t with
    | boolean => exact goPlainBool_ok
    | int32 => exact goPlainFixed_ok 4 (by decide)
    | int64 => exact goPlainFixed_ok 8 (by decide)
    | int96 => exact goPlainFixed_ok 12 (by decide)
    | float => exact goPlainFixed_ok 4 (by decide)
    | double => exact goPlainFixed_ok 8 (by decide)
    | byteArray => exact goPlainBA_ok
    | flba n => exact goPlainFLBA_ok n (ht n rfl).1
  refine ⟨?_, hplain c.t hw, ?_, goPlainOf_okP c.t, goVal_okV stale c⟩
  · exact table_cases stale (P := fun t _ g => (∀ n, t = .flba n → 0 < n ∧ n < 2 ^ 31) → g.OK)
      (plain := hplain) (rle := fun _ => goRleBool_ok)
      (delta32 := fun _ => goDelta32_ok) (delta64 := fun _ => goDelta64_ok)
      (bssInt32 := fun _ => goBssFixed_ok 4 (by decide)) (bssInt64 := fun _ => goBssFixed_ok 8 (by decide))
      (bssFloat := fun _ => goBssFixed_ok 4 (by decide)) (bssDouble := fun _ => goBssFixed_ok 8 (by decide))
      (bssFlba := fun n hn => goBssFLBA_ok n (hn n rfl).1 stale)
      (dlba := fun _ => goDlba_ok) (dba := fun _ => goDba_ok)
      (dbaFlba := fun n hn => goDbaFixed_ok n (hn n rfl).1 (hn n rfl).2) c hw
  · intro x hx
    rw [goPlainOf_okV]
    exact val_okV_plainOf c x (goVal_okV stale c ▸ hx)
example : (ColSpec.mk (.flba 16) .byteStreamSplit).supported = true := by decide

/-- levels `≤ m ≤ 255` of a page with fewer than 2^31 entries through `goDecodeLevels`
    (C04 `go_roundtrip_levels`) -/
theorem goLv_ok (m : Nat) (xs : List Nat) (hm : m ≤ 255) (hx : ∀ x ∈ xs, x ≤ m) (hn : okCount xs.length = true) :
    goLvDec m xs.length (lvEnc m xs) = some xs := by
  by_cases h0 : m = 0
  · subst h0
    simp only [goLvDec, ↓reduceIte, replicate_zero_of_le hx]
  · obtain ⟨hw, hlt⟩ := levelWidth hm hx
    have hl : xs.length ≤ 2 ^ 31 - 1 := Nat.le_pred_of_lt (of_decide_eq_true hn)
    obtain ⟨bs, he, hd⟩ := bind_ok_elim (C04Rle.go_roundtrip_levels (Rle.maxLen [m]) xs hw hlt hl)
    simp only [goLvDec, lvEnc, if_neg h0, rleEncL, he, hd, Nat.lt_irrefl, if_false, List.take_length]
example : (∀ x ∈ [0, 3, 3, 1], x ≤ 3) ∧ okCount [0, 3, 3, 1].length = true := by decide

/-- RLE_DICTIONARY index pages through `goDecodeDict` and `newIndexedPage`, for every content of
    the pooled index buffer (C04 `go_roundtrip_dict`, `goNewIndexedPage_eq`) -/
theorem goIdx_ok (stale : List Nat) (xs : List Nat) (hx : ∀ x ∈ xs, x < 2 ^ 32) (hn : okCount xs.length = true) :
    goIdxDec stale xs.length (rleIdxEnc xs) = some xs := by
  have hl : xs.length ≤ 2 ^ 31 - 1 := Nat.le_pred_of_lt (of_decide_eq_true hn)
  obtain ⟨bs, he, hd⟩ := bind_ok_elim (C04Rle.go_roundtrip_dict xs hx hl)
  simp only [rleIdxEnc, goIdxDec, he, hd, PlainDict.goNewIndexedPage_eq, List.take_length, Nat.sub_self,
    List.replicate_zero, List.append_nil]
example : (∀ x ∈ [0, 7, 4000000000], x < 2 ^ 32) := by decide

/-- A column read by the Go decoders satisfies every codec hypothesis of the composition theorem on
    admissible pages (fewer than 2^31 entries), in both page layouts, for every stale content of the
    index buffer; only the compressor stays a hypothesis (C20). -/
theorem mkCodecGo_ok (v d : ValCodec) (hv : v.OK) (hd : d.OK) (hvd : ∀ x, v.okV x = true → d.okV x = true)
    (hdp : ∀ xs, d.okP xs = true) (staleIdx : List Nat) (v1 : Bool) (lv : Nat × Nat) (comp : List Nat → List Nat)
    (decomp : List Nat → Option (List Nat)) (hcmp : ∀ b, decomp (comp b) = some b) :
    (mkCodecGo v d staleIdx v1 lv comp decomp).OKOn 255 okCount v.okP (okSOf v1 lv) := by
  -- only the level and index decoders differ from `mkCodec`
  have h := mkCodec_ok v d hv hd hvd hdp v1 lv comp decomp hcmp
  exact ⟨fun m xs hm hx hn => goLv_ok m xs hm hx hn, h.val, h.dct,
    fun xs hx hn => goIdx_ok staleIdx xs hx hn, h.cmp, h.pg⟩
example : ∀ b : List Nat, (some : List Nat → Option (List Nat)) (id b) = some b := fun _ => rfl

/-- **C01 with the Go decoders on the read path.** Same quantification as `C01.roundtrip_typed`
    (every well-formed schema with levels `≤ 255`, conforming rows, row-group partition, page cuts
    at row boundaries, fallback points, physical type × encoding per column, v1/v2 layout, lossless
    compressor) and additionally every former content `stale` / `staleIdx` of the recycled decode
    buffers: reading the written file with the MIRRORS of the Go decoders (levels, values,
    dictionary page, dictionary indexes) returns exactly the rows, provided every written page is
    admissible for them (`pagesOK … okCount`: fewer than 2^31 entries per page, DELTA_LENGTH pages
    below 4 GiB, and the format limits of `roundtrip_typed`). -/
theorem roundtrip_typed_go (n : Node) (cols : Nat → ColSpec) (stale : Plain.Bytes) (staleIdx : List Nat)
    (v1 : Bool) (comp : List Nat → List Nat)
    (decomp : List Nat → Option (List Nat)) (hcmp : ∀ b, decomp (comp b) = some b)
    (gs : List GroupCfg) (rows : List Val)
    (hwf : wfN n = true) (hconf : ∀ v ∈ rows, confN n v = true) (hB : levelsBounded 255 n = true)
    (hsup : ∀ j, j < leavesN n → (cols j).supported = true)
    (hdom : ∀ v ∈ rows, valsIn (fun j => ((cols j).goVal stale).okV) 0 (shredN n 0 0 0 v) = true)
    (hpages : pagesOK n (typedCodecGo n cols stale staleIdx v1 comp decomp) okCount
      (fun j => ((cols j).goVal stale).okP)
      (fun j => okSOf v1 ((levelsN n 0 0).getD j (0, 0))) gs rows = true)
    (hcuts : cutsAligned n gs rows = true) :
    readFile n (typedCodecGo n cols stale staleIdx v1 comp decomp)
      (writeFile n (typedCodecGo n cols stale staleIdx v1 comp decomp) gs rows) = some rows :=
  C01.roundtrip_limits n _ 255 _ _ _ gs rows hwf hconf hB
    (fun j hj =>
      have h := goValCodecOf_ok stale (cols j) (hsup j hj)
      mkCodecGo_ok _ _ h.1 h.2.1 h.2.2.1 h.2.2.2.1 staleIdx v1 _ comp decomp hcmp)
    hdom hpages hcuts

/-! ### non-vacuity: the typed witness of `Props/C01.lean`, dirty decode buffers -/
section Witness
open C01

example : (∀ v ∈ typedRows, valsIn (fun j => ((typedCols j).goVal [0xAA, 0xBB, 0xCC]).okV) 0
      (shredN witnessSchema 0 0 0 v) = true) := by decide +kernel

example : pagesOK witnessSchema (typedCodecGo witnessSchema typedCols [0xAA, 0xBB, 0xCC] [7, 7, 7] true id some)
    okCount (fun j => ((typedCols j).goVal [0xAA, 0xBB, 0xCC]).okP)
    (fun j => okSOf true ((levelsN witnessSchema 0 0).getD j (0, 0))) witnessGroups typedRows = true := by
  decide +kernel

/-- all hypotheses at once: the theorem applies to the witness file (BOOLEAN/RLE, BYTE_ARRAY/
    DELTA_BYTE_ARRAY, FLBA(2)/BYTE_STREAM_SPLIT, DOUBLE/PLAIN; data page v1 framing) -/
example : readFile witnessSchema (typedCodecGo witnessSchema typedCols [0xAA, 0xBB, 0xCC] [7, 7, 7] true id some)
    (writeFile witnessSchema (typedCodecGo witnessSchema typedCols [0xAA, 0xBB, 0xCC] [7, 7, 7] true id some)
      witnessGroups typedRows) = some typedRows :=
  roundtrip_typed_go witnessSchema typedCols [0xAA, 0xBB, 0xCC] [7, 7, 7] true id some (fun _ => rfl)
    witnessGroups typedRows (by decide) (by decide) (by decide)
    (fun j hj => by
      have : j < 4 := hj
      match j, this with
      | 0, _ => decide
      | 1, _ => decide
      | 2, _ => decide
      | 3, _ => decide)
    (by decide +kernel) (by decide +kernel) (by decide)
end Witness

end PqModel.Props.C01Go
