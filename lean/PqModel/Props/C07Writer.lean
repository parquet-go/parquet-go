import PqModel.BloomSamples
import PqModel.Props.C07

/-! # C07, writer side — every way the writer builds, sizes, stores or copies a filter keeps every
written value findable -/
namespace PqModel.Props.C07Writer
open PqModel.XxHash PqModel.Bloom PqModel.BloomWriter PqModel.Props.C07

/-- Go's 64-bit `uint` arithmetic computes the exact value as long as `numValues*bits + 7` fits. -/
theorem filter_size_no_wraparound (n b : Nat) (h : n * b + 7 < 2 ^ 64) :
    (numSplitBlocksOfGo (UInt64.ofNat n) (UInt64.ofNat b)).toNat = numSplitBlocksOf n b :=
  numSplitBlocksOfGo_toNat n b h

example : (1000000 : Nat) * 10 + 7 < 2 ^ 64 := by decide

theorem filter_size_at_least_one_block (n b : Nat) (hn : 1 ≤ n) (hb : 1 ≤ b) : 1 ≤ numSplitBlocksOf n b := by
  unfold numSplitBlocksOf
  have : 1 ≤ n * b := Nat.mul_le_mul hn hb
  omega

theorem filter_size_monotone (n n' b b' : Nat) (hn : n ≤ n') (hb : b ≤ b') :
    numSplitBlocksOf n b ≤ numSplitBlocksOf n' b' := by
  unfold numSplitBlocksOf
  have : n * b ≤ n' * b' := Nat.mul_le_mul hn hb
  omega

/-- the filter really holds `bitsPerValue` bits per value (256 bits per block) -/
theorem filter_size_capacity (n b : Nat) : n * b ≤ 256 * numSplitBlocksOf n b := by
  unfold numSplitBlocksOf
  omega

theorem filter_size_zero (b : Nat) : numSplitBlocksOf 0 b = 0 := by simp [numSplitBlocksOf]

/-- PRE-SIZING (`WriteRowGroup` → `configureBloomFilters`): whatever the source announces, the filter
    allocated ahead of the first output row group is a whole number of blocks — the `presizedBlocks`
    hypothesis of `ChunkOk` holds for every pre-sized chunk -/
theorem presized_filter_whole_blocks (bits : Nat) (exact : Bool) (srcValues numRows maxRows : Nat) (repeated : Bool) :
    presize bits exact srcValues numRows maxRows repeated % 32 = 0 := by
  fun_cases presize bits exact srcValues numRows maxRows repeated
  · rfl
  · rfl
  · exact Nat.mul_mod_right 32 _
  · exact Nat.mul_mod_right 32 _

/-- … and it holds `bits` bits for each of the `n` values of that row group (`n` at most the source's
    count; one value per row at most unless the column is repeated — then a split input is not
    pre-sized at all) -/
theorem presized_filter_capacity (bits : Nat) (exact : Bool) (srcValues numRows maxRows : Nat) (repeated : Bool)
    (n : Nat) (hsv : n ≤ srcValues) (hrow : repeated = false → n ≤ maxRows)
    (hpos : 0 < presize bits exact srcValues numRows maxRows repeated) :
    n * bits ≤ 8 * presize bits exact srcValues numRows maxRows repeated := by
  have cap : ∀ m, n ≤ m → n * bits ≤ 8 * filterSize bits m := by
    intro m hm
    have h1 := filter_size_capacity m bits
    have h2 : n * bits ≤ m * bits := Nat.mul_le_mul_right bits hm
    unfold filterSize; omega
  revert hpos
  fun_cases presize bits exact srcValues numRows maxRows repeated
  · exact fun h => absurd h (Nat.lt_irrefl 0)
  · exact fun h => absurd h (Nat.lt_irrefl 0)
  · rename_i h3
    exact fun _ => cap _ (Nat.le_min.mpr ⟨hsv, hrow (by simpa using h3)⟩)
  · exact fun _ => cap _ hsv

example : presize 10 true 1000 1000 300 false = 384 := by decide   -- split input: sized for 300 values
example : presize 10 true 1000 1000 300 true = 0 := by decide      -- repeated column: left to flushFilterPages
example : presize 10 true 1000 1000 5000 true = 1280 := by decide

theorem mem_pageHashes (kind : Kind) (values : List Value) (hv : ∀ v ∈ values, v.kindOk kind = true)
    (v : Value) (hm : v ∈ values) : hashRead v ∈ pageHashes kind values := by
  unfold pageHashes
  rw [hashWriteStaged_eq]
  exact hash_sides_agree kind values hv v hm

theorem of_mem_pageHashes (kind : Kind) (hk : kind ≠ .boolean) (values : List Value)
    (hv : ∀ v ∈ values, v.kindOk kind = true) (h : UInt64) (hh : h ∈ pageHashes kind values) :
    ∃ v ∈ values, h = hashRead v := by
  unfold pageHashes at hh
  rw [hashWriteStaged_eq] at hh
  exact hash_sides_exact kind hk values hv h hh

/-- ⊇ (what C07 needs): whichever strategy `flushFilterPages` ends up with — incremental insertion
    into a pre-sized filter, the dictionary alone, the dictionary plus the non-dictionary pages after
    a fallback to PLAIN (pre-sized or re-read), or re-reading every page — the read-side hash of every
    value of the chunk has been inserted. -/
theorem strategies_agree (c : ChunkWrite) (ok : ChunkOk c) (v : Value) (hm : v ∈ c.values) :
    hashRead v ∈ (flushFilter c).2 := by
  rcases List.mem_flatMap.mp hm with ⟨p, hp, hvp⟩
  have hpage : hashRead v ∈ pageHashes c.kind p.values := mem_pageHashes c.kind p.values (ok.kinds p hp) v hvp
  have hne : ¬ c.pages.isEmpty = true := by
    cases hps : c.pages with
    | nil => rw [hps] at hp; cases hp
    | cons _ _ => simp
  -- the three places the hash can come from: the dictionary, a page inserted as written, a page re-read
  have hdict : ∀ d, c.dictionary = some d → p.indexed = true → hashRead v ∈ pageHashes c.kind d := fun d hd hi =>
    mem_pageHashes c.kind d (ok.dictKinds d hd) v (ok.covers d hd p hp hi v hvp)
  have hinc : p.indexed = false → c.presized > 0 → hashRead v ∈ incremental c := fun hi hz =>
    List.mem_flatMap.mpr ⟨p, hp, by simp [hi, hz, hpage]⟩
  have hrer : ∀ skip, (skip && p.indexed) = false → hashRead v ∈ reread c skip := fun skip hi =>
    List.mem_flatMap.mpr ⟨p, hp, by simp [hi, hpage]⟩
  fun_cases flushFilter c
  next d hd hs =>       -- dictionary, never fell back: the dictionary alone
    exact hdict d hd (ok.allIndexed (by simpa using hs) (by simp [hd]) p hp)
  next d hd _ hz =>     -- fell back, pre-sized: PLAIN pages as written, then the dictionary
    cases hi : p.indexed
    · exact List.mem_append_left _ (hinc hi hz)
    · exact List.mem_append_right _ (hdict d hd hi)
  next he => exact absurd he hne   -- no pages
  next d hd _ _ _ =>    -- fell back, not pre-sized: the dictionary, then the PLAIN pages re-read
    cases hi : p.indexed
    · exact List.mem_append_right _ (hrer true (by simp [hi]))
    · exact List.mem_append_left _ (hdict d hd hi)
  next hd hz => exact hinc (ok.noDict hd p hp) hz   -- no dictionary, pre-sized
  next he => exact absurd he hne                     -- no pages
  next => exact hrer false rfl                       -- no dictionary: every page re-read

/-- ⊆ (every kind except BOOLEAN, whose padding bits may add `false`): nothing but hashes of values of
    the chunk is inserted — together with `strategies_agree`, every strategy inserts the same hash
    *set*, the set of hashes of the chunk's values. -/
theorem strategies_agree_exact (c : ChunkWrite) (ok : ChunkOk c) (hk : c.kind ≠ .boolean) (h : UInt64)
    (hh : h ∈ (flushFilter c).2) : ∃ v ∈ c.values, h = hashRead v := by
  have fromPage : ∀ p ∈ c.pages, h ∈ pageHashes c.kind p.values → ∃ v ∈ c.values, h = hashRead v := by
    intro p hp hx
    rcases of_mem_pageHashes c.kind hk p.values (ok.kinds p hp) h hx with ⟨v, hv, e⟩
    exact ⟨v, List.mem_flatMap.mpr ⟨p, hp, hv⟩, e⟩
  have fromInc : h ∈ incremental c → ∃ v ∈ c.values, h = hashRead v := by
    intro hx
    rcases List.mem_flatMap.mp hx with ⟨p, hp, hx⟩
    split at hx
    · exact fromPage p hp hx
    · cases hx
  have fromReread : ∀ skip, h ∈ reread c skip → ∃ v ∈ c.values, h = hashRead v := by
    intro skip hx
    rcases List.mem_flatMap.mp hx with ⟨p, hp, hx⟩
    split at hx
    · cases hx
    · exact fromPage p hp hx
  have fromDict : ∀ d, c.dictionary = some d → h ∈ pageHashes c.kind d → ∃ v ∈ c.values, h = hashRead v := by
    intro d hd hx
    rcases of_mem_pageHashes c.kind hk d (ok.dictKinds d hd) h hx with ⟨v, hv, e⟩
    exact ⟨v, ok.dictWritten d hd v hv, e⟩
  revert hh
  fun_cases flushFilter c
  -- the branches in the order of `strategies_agree`
  next d hd _ => exact fromDict d hd
  next d hd _ _ => exact fun hh => (List.mem_append.mp hh).elim fromInc (fromDict d hd)
  next => exact fun hh => nomatch hh
  next d hd _ _ _ => exact fun hh => (List.mem_append.mp hh).elim (fromDict d hd) (fromReread true)
  next => exact fromInc
  next => exact fun hh => nomatch hh
  next => exact fromReread false

theorem strategy_filter_has_a_block (c : ChunkWrite) (ok : ChunkOk c) (hb : 1 ≤ c.bits) (v : Value)
    (hm : v ∈ c.values) : 1 ≤ (flushFilter c).1 / 32 := by
  rcases List.mem_flatMap.mp hm with ⟨p, hp, hvp⟩
  have hne : ¬ c.pages.isEmpty = true := by
    cases hps : c.pages with
    | nil => rw [hps] at hp; cases hp
    | cons _ _ => simp
  have hnum : 1 ≤ c.numValues := Nat.le_trans (List.length_pos_of_mem hm) ok.count
  have sized : ∀ n, 1 ≤ n → 1 ≤ filterSize c.bits n / 32 := by
    intro n hn
    unfold filterSize
    rw [Nat.mul_div_cancel_left _ (by decide : 0 < 32)]
    exact filter_size_at_least_one_block n c.bits hn hb
  have pres : c.presized > 0 → 1 ≤ c.presized / 32 := by
    intro hz
    have := ok.presizedBlocks
    omega
  -- the branches in the order of `strategies_agree`
  fun_cases flushFilter c
  next d hd hs =>
    have hv : v ∈ d := ok.covers d hd p hp (ok.allIndexed (by simpa using hs) (by simp [hd]) p hp) v hvp
    exact sized _ (List.length_pos_of_mem hv)
  next hz => exact pres hz
  next he => exact absurd he hne
  next => exact sized _ hnum
  next hz => exact pres hz
  next he => exact absurd he hne
  next => exact sized _ hnum

/-- END TO END, every strategy: the filter `flushFilterPages` leaves behind (its size, the hashes it
    holds), serialised as in the file and probed as the reader does, answers true for every value
    written to the chunk. -/
theorem written_value_is_found_every_strategy (c : ChunkWrite) (ok : ChunkOk c) (hb : 1 ≤ c.bits)
    (v : Value) (hm : v ∈ c.values) :
    checkBytes (filterBytes (build ((flushFilter c).1 / 32) ((flushFilter c).2.map UInt64.toBitVec)))
      (hashRead v).toBitVec = true := by
  apply no_false_negative_bytes _ (strategy_filter_has_a_block c ok hb v hm)
  exact List.mem_map_of_mem (strategies_agree c ok v hm)

/-! ### a chunk that fell back to PLAIN: 200 distinct int64, the dictionary holds the first 20 -/

set_option maxRecDepth 100000 in
example : ChunkOk fallbackChunk := fallbackChunk_ok

/-- BEFORE fix d2487f3 (finding F23) the property was FALSE: the filter was rebuilt from the dictionary
    alone and 180 of the 200 written values were reported absent (the number the real library gave). -/
theorem dict_fallback_false_negatives_before_fix :
    missing fallbackChunk (flushFilterBeforeFix fallbackChunk) = 180 := by
  decide +kernel

theorem dict_fallback_repaired_misses_nothing : missing fallbackChunk (flushFilter fallbackChunk) = 0 :=
  missing_eq_zero (written_value_is_found_every_strategy fallbackChunk fallbackChunk_ok (by decide))

/-- What is ASSUMED of gzip is exactly `GzipRoundTrip`. Under it, a gzip-stored filter read back by
    `newBloomFilter` + `Check` (block count from the DECOMPRESSED length) answers as the filter that
    was built. -/
theorem gzip_roundtrip_assumed (enc : List UInt8 → List UInt8) (dec : List UInt8 → Option (List UInt8))
    (hrt : GzipRoundTrip enc dec) (filter : List UInt8) (h : BitVec 64) :
    readCheck dec (store enc true filter) h = some (checkBytes filter h) := by
  simp only [readCheck, store, if_true, List.take_length, hrt filter, checkSplitBlock_length]

/-- toy codec: append 32 zero bytes / strip the last 32 bytes -/
def toyEnc (b : List UInt8) : List UInt8 := b ++ List.replicate 32 0
def toyDec (s : List UInt8) : Option (List UInt8) := some (s.take (s.length - 32))

theorem toy_roundtrip : GzipRoundTrip toyEnc toyDec := by
  intro b
  simp only [toyDec, toyEnc, List.length_append, List.length_replicate, Nat.add_sub_cancel]
  rw [List.take_left' rfl]

example : GzipRoundTrip toyEnc toyDec := toy_roundtrip

/-- an uncompressed filter needs no assumption -/
theorem stored_uncompressed_answers (enc : List UInt8 → List UInt8) (dec : List UInt8 → Option (List UInt8))
    (filter : List UInt8) (h : BitVec 64) :
    readCheck dec (store enc false filter) h = some (checkBytes filter h) := by
  simp only [readCheck, store, Bool.false_eq_true, if_false, List.take_length, checkSplitBlock_length]

theorem written_value_is_found_stored (enc : List UInt8 → List UInt8) (dec : List UInt8 → Option (List UInt8))
    (hrt : GzipRoundTrip enc dec) (gzip : Bool) (c : ChunkWrite) (ok : ChunkOk c) (hb : 1 ≤ c.bits)
    (v : Value) (hm : v ∈ c.values) :
    readCheck dec (store enc gzip
        (filterBytes (build ((flushFilter c).1 / 32) ((flushFilter c).2.map UInt64.toBitVec))))
      (hashRead v).toBitVec = some true := by
  cases gzip with
  | true => rw [gzip_roundtrip_assumed enc dec hrt, written_value_is_found_every_strategy c ok hb v hm]
  | false => rw [stored_uncompressed_answers, written_value_is_found_every_strategy c ok hb v hm]

/-- Why the block count must come from the decompressed length: with a codec satisfying the round
    trip, probing the decompressed bytes with the COMPRESSED size reports an inserted hash absent. -/
theorem probing_with_compressed_size_misses :
    ∃ (enc : List UInt8 → List UInt8) (dec : List UInt8 → Option (List UInt8)) (n : Nat) (h : BitVec 64),
      GzipRoundTrip enc dec ∧
      readCheck dec (store enc true (filterBytes (build n [h]))) h = some true ∧
      readCheckCompressedSize dec (store enc true (filterBytes (build n [h]))) h = some false :=
  -- 2 blocks, stored as 64 + 32 bytes: the hash's high half 0xC0000000 selects block 1 of 2 but block 2 of 3
  ⟨toyEnc, toyDec, 2, 0xC000000000000001#64, toy_roundtrip, by decide, by decide⟩

/-- VERBATIM COPY: the bytes found in the output at the recorded offset are the source's filter
    section (thrift header + bitset), whatever is written after them. Assumed: `io.Copy`/`ReadFrom`
    transfer the range unchanged, and the range lies inside the source. -/
theorem copied_filter_same_bytes (out src post : List UInt8) (off len : Nat) (hin : off + len ≤ src.length) :
    fileSection ((copyFilterSection out src off len).1 ++ post) (copyFilterSection out src off len).2 len
      = fileSection src off len := by
  have hl : (fileSection src off len).length = len := by
    simp only [fileSection, List.length_take, List.length_drop]; omega
  have h := fileSection_at_end out (fileSection src off len) post
  rwa [hl, ← List.append_assoc] at h

example : (3 : Nat) + 2 ≤ ([1, 2, 3, 4, 5, 6] : List UInt8).length := by decide

/-- … hence, however the header is decoded (`parse`), the copied filter gives the answers of the
    source's filter: it has no false negative for the (verbatim copied) values iff the source had none. -/
theorem copied_filter_same_answers (parse : List UInt8 → Option Stored)
    (dec : List UInt8 → Option (List UInt8)) (out src post : List UInt8) (off len : Nat)
    (hin : off + len ≤ src.length) (h : BitVec 64) :
    (parse (fileSection ((copyFilterSection out src off len).1 ++ post) (copyFilterSection out src off len).2 len)).map
        (fun s => readCheck dec s h)
      = (parse (fileSection src off len)).map (fun s => readCheck dec s h) := by
  rw [copied_filter_same_bytes out src post off len hin]

/-- The copy is only taken (C11's `bloomFilterIsCopyable`) for an uncompressed split-block/xxhash
    source filter that has exactly the size a freshly built one would have. -/
theorem copied_filter_has_fresh_size (d : PqModel.CopyPath.DstCol) (bpv : Nat) (c : PqModel.CopyPath.ChunkMeta)
    (hc : PqModel.CopyPath.bloomFilterIsCopyable d bpv c = true) :
    ∃ hd, c.bloomHeader = some hd ∧ hd.uncompressed = true ∧ hd.splitBlock = true ∧ hd.xxhash = true ∧
      hd.numBytes = filterSize bpv c.numValues ∧ d.filterCompressed = false := by
  revert hc
  fun_cases PqModel.CopyPath.bloomFilterIsCopyable d bpv c
  all_goals try (intro hc; cases hc)
  next _ hfc hd hh h1 h2 =>
    intro hc
    have h1' : hd.splitBlock = true ∧ hd.xxhash = true := by simpa using h1
    exact ⟨hd, hh, by simpa using h2, h1'.1, h1'.2, by simpa [filterSize_eq_copyPath] using hc, by simpa using hfc⟩

end PqModel.Props.C07Writer
