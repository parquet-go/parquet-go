import PqModel.ConvertChunksFixed
import PqModel.Props.C12

/-! # C12 — the column-chunk view of a converted row group, the sorting columns it
    declares, and reading converted rows in batches

MIRRORS: `chunkView` (`ConvertRowGroup` + `convertedColumnChunk` + `missingColumnChunk` +
`findAdjacentColumnChunk`, convert.go:604-931), `carrySorting` (convert.go:729-735), `Fwd.read`
(`forwardRowSeeker.ReadRows`, row.go:256-281), `convRead`/`drain` (`convertedRows.ReadRows` under a
batching consumer such as `CopyRows`). `rowView` is the row path proved in `convert_shred`. -/
namespace PqModel.Props.C12Chunks
open PqModel.Dremel PqModel.Convert

/-- For targets that delete and permute fields at any depth and turn
    required fields into optional ones (`subN`, everything `convert_shred` covers) the streams
    served by the column chunks of the converted row group are exactly the streams of the rows
    read through `convertedRows` (and both are the shredded projections), for every non-empty row
    group of conforming rows. (With `chunkView_before_fix` this holds for `permN` only.) -/
theorem chunk_view_eq_row_view (src tgt : PNode) (n : Nat) (v0 : Val) (vs : List Val)
    (hp : subN src tgt = true) (hwf : wfN (eraseN src) = true)
    (hconf : ∀ v ∈ v0 :: vs, confN (eraseN src) v = true) :
    chunkView src tgt (joinRows (leavesP src) ((v0 :: vs).map (shred src))) n = rowView src tgt (v0 :: vs) ∧
      rowView src tgt (v0 :: vs) = joinRows (leavesP tgt) ((v0 :: vs).map fun v => shred tgt (projN src tgt v)) := by
  have hrow : rowView src tgt (v0 :: vs) =
      joinRows (leavesP tgt) ((v0 :: vs).map fun v => shred tgt (projN src tgt v)) := by
    simp only [rowView]
    congr 1
    apply List.map_congr_left
    intro v hv
    exact PqModel.Props.C12.convert_shred src tgt v hp hwf (hconf v hv)
  exact ⟨(chunkView_rows_sub src tgt n v0 vs hp hwf hconf).trans hrow.symm, hrow⟩

example :
    let src : PNode := .group (.cons 1 .opt .leaf (.cons 2 .rpt (.group (.cons 5 .req .leaf (.cons 6 .opt .leaf .nil))) (.cons 3 .req .leaf .nil)))
    let tgt : PNode := .group (.cons 2 .rpt (.group (.cons 6 .opt .leaf (.cons 5 .opt .leaf .nil))) (.cons 1 .opt .leaf .nil))
    let rows : List Val := [.struct [.none, .list [.struct [.prim 1, .none], .struct [.prim 2, .some (.prim 3)]], .prim 9],
      .struct [.some (.prim 4), .list [], .prim 8]]
    subN src tgt = true ∧ permN src tgt = false ∧ wfN (eraseN src) = true ∧ (∀ v ∈ rows, confN (eraseN src) v = true) ∧
      chunkView src tgt (joinRows (leavesP src) (rows.map (shred src))) 2 =
        [[⟨none, 0, 1⟩, ⟨some 3, 1, 2⟩, ⟨none, 0, 0⟩], [⟨some 1, 0, 2⟩, ⟨some 2, 1, 2⟩, ⟨none, 0, 0⟩], [⟨none, 0, 0⟩, ⟨some 4, 0, 1⟩]] := by
  decide +kernel

/-- The delete/permute case as a corollary. -/
theorem chunk_view_eq_row_view_perm (src tgt : PNode) (n : Nat) (v0 : Val) (vs : List Val)
    (hp : permN src tgt = true) (hwf : wfN (eraseN src) = true)
    (hconf : ∀ v ∈ v0 :: vs, confN (eraseN src) v = true) :
    chunkView src tgt (joinRows (leavesP src) ((v0 :: vs).map (shred src))) n = rowView src tgt (v0 :: vs) :=
  (chunk_view_eq_row_view src tgt n v0 vs (perm_subN tgt src hp) hwf hconf).1

example :
    let src : PNode := .group (.cons 1 .opt .leaf (.cons 2 .rpt (.group (.cons 5 .req .leaf (.cons 6 .opt .leaf .nil))) (.cons 3 .req .leaf .nil)))
    let tgt : PNode := .group (.cons 2 .rpt (.group (.cons 6 .opt .leaf (.cons 5 .req .leaf .nil))) (.cons 1 .opt .leaf .nil))
    let rows : List Val := [.struct [.none, .list [.struct [.prim 1, .none], .struct [.prim 2, .some (.prim 3)]], .prim 9],
      .struct [.some (.prim 4), .list [], .prim 8]]
    permN src tgt = true ∧ wfN (eraseN src) = true ∧ (∀ v ∈ rows, confN (eraseN src) v = true) ∧
      chunkView src tgt (joinRows (leavesP src) (rows.map (shred src))) 2 =
        [[⟨none, 0, 1⟩, ⟨some 3, 1, 2⟩, ⟨none, 0, 0⟩], [⟨some 1, 0, 1⟩, ⟨some 2, 1, 1⟩, ⟨none, 0, 0⟩], [⟨none, 0, 0⟩, ⟨some 4, 0, 1⟩]] := by
  decide +kernel

-- OPEN: chunk_view_eq_row_view for added columns (`addN`) and for narrowed columns
--   (optional -> required). Added: false for the code as it stands, the chunk view synthesises
--   added columns from an adjacent chunk, capped at `numRows` entries (known finding
--   `added-column-chunk-mirrors-adjacent`; witnesses below). Narrowed: true since repairs
--   2c2062a + fa179c0 (`chunk_view_narrowed_is_row_view`; before them `chunk_view_narrowed_keeps_source_levels_before_fix`; L1/L2 cover
--   random narrowed targets) but not proved: `main_chunkN_sub`, like `main_convN`, needs `rpOk`.

/-- BEFORE repair 2c2062a (regression fact; finding `widened-column-keeps-source-levels`):
    required → optional, the chunk kept definition level 0 (reads as null), the row path says 1 -/
theorem chunk_view_widened_keeps_source_levels_before_fix :
    let src : PNode := .group (.cons 1 .req .leaf .nil)
    let tgt : PNode := .group (.cons 1 .opt .leaf .nil)
    let rows : List Val := [.struct [.prim 1], .struct [.prim 2]]
    subN src tgt = true ∧
      chunkView_before_fix src tgt (joinRows 1 (rows.map (shred src))) 2 = [[⟨some 1, 0, 0⟩, ⟨some 2, 0, 0⟩]] ∧
      rowView src tgt rows = [[⟨some 1, 0, 1⟩, ⟨some 2, 0, 1⟩]] := by decide +kernel

/-- the chunk of the widened column is the row view -/
theorem chunk_view_widened_is_row_view :
    let src : PNode := .group (.cons 1 .req .leaf .nil)
    let tgt : PNode := .group (.cons 1 .opt .leaf .nil)
    let rows : List Val := [.struct [.prim 1], .struct [.prim 2]]
    chunkView src tgt (joinRows 1 (rows.map (shred src))) 2 = rowView src tgt rows ∧
      rowView src tgt rows = [[⟨some 1, 0, 1⟩, ⟨some 2, 0, 1⟩]] := by decide +kernel

/-- BEFORE repair 2c2062a (regression fact; finding `narrowed-column-keeps-source-levels`):
    optional → required, the chunk kept level 1 (above the column's maximum 0) and the null -/
theorem chunk_view_narrowed_keeps_source_levels_before_fix :
    let src : PNode := .group (.cons 1 .opt .leaf .nil)
    let tgt : PNode := .group (.cons 1 .req .leaf .nil)
    let rows : List Val := [.struct [.some (.prim 1)], .struct [.none]]
    chunkView_before_fix src tgt (joinRows 1 (rows.map (shred src))) 2 = [[⟨some 1, 0, 1⟩, ⟨none, 0, 0⟩]] ∧
      rowView src tgt rows = [[⟨some 1, 0, 0⟩, ⟨some 0, 0, 0⟩]] := by decide +kernel

/-- the chunk of the narrowed column is the row view, also below
    an optional ancestor (the null becomes the typed zero at the column's maximal level) -/
theorem chunk_view_narrowed_is_row_view :
    let src : PNode := .group (.cons 1 .opt .leaf (.cons 2 .opt (.group (.cons 3 .opt .leaf .nil)) .nil))
    let tgt : PNode := .group (.cons 2 .opt (.group (.cons 3 .req .leaf .nil)) (.cons 1 .req .leaf .nil))
    let rows : List Val := [.struct [.some (.prim 1), .some (.struct [.none])], .struct [.none, .none],
      .struct [.none, .some (.struct [.some (.prim 7)])]]
    chunkView src tgt (joinRows 2 (rows.map (shred src))) 3 = rowView src tgt rows ∧
      rowView src tgt rows = [[⟨some 0, 0, 1⟩, ⟨none, 0, 0⟩, ⟨some 7, 0, 1⟩], [⟨some 1, 0, 0⟩, ⟨some 0, 0, 0⟩, ⟨some 0, 0, 0⟩]] := by decide +kernel

/-- known finding `added-column-chunk-mirrors-adjacent:*-under-repeated`: an optional leaf added
    inside a repeated group (closest sibling required, so the ROW path is right by
    `convert_shred_added_partial`): the missing chunk mirrors the adjacent column but stops after
    `numRows = 2` entries — the third entry (the empty list of row 2) is missing and every later
    row read through the chunks is misaligned -/
theorem chunk_view_added_under_repeated_truncated :
    let src : PNode := .group (.cons 1 .rpt (.group (.cons 2 .req .leaf .nil)) .nil)
    let tgt : PNode := .group (.cons 1 .rpt (.group (.cons 2 .req .leaf (.cons 3 .opt .leaf .nil))) .nil)
    let rows : List Val := [.struct [.list [.struct [.prim 5], .struct [.prim 6]]], .struct [.list []]]
    addN 0 src tgt = true ∧
      chunkView src tgt (joinRows 1 (rows.map (shred src))) 2 =
        [[⟨some 5, 0, 1⟩, ⟨some 6, 1, 1⟩, ⟨none, 0, 0⟩], [⟨none, 0, 1⟩, ⟨none, 1, 1⟩]] ∧
      rowView src tgt rows =
        [[⟨some 5, 0, 1⟩, ⟨some 6, 1, 1⟩, ⟨none, 0, 0⟩], [⟨none, 0, 1⟩, ⟨none, 1, 1⟩, ⟨none, 0, 0⟩]] := by decide +kernel

/-- known finding `added-column-chunk-mirrors-adjacent:*-flat`: an optional leaf added inside an
    optional group: without repetition the missing chunk emits `maxDef - 1` for every row, also
    for the row whose group is null (row path: level 0) -/
theorem chunk_view_added_flat_ignores_null_ancestors :
    let src : PNode := .group (.cons 1 .opt (.group (.cons 2 .req .leaf .nil)) .nil)
    let tgt : PNode := .group (.cons 1 .opt (.group (.cons 2 .req .leaf (.cons 3 .opt .leaf .nil))) .nil)
    let rows : List Val := [.struct [.none], .struct [.some (.struct [.prim 4])]]
    addN 0 src tgt = true ∧
      chunkView src tgt (joinRows 1 (rows.map (shred src))) 2 =
        [[⟨none, 0, 0⟩, ⟨some 4, 0, 1⟩], [⟨none, 0, 1⟩, ⟨none, 0, 1⟩]] ∧
      rowView src tgt rows = [[⟨none, 0, 0⟩, ⟨some 4, 0, 1⟩], [⟨none, 0, 0⟩, ⟨none, 0, 1⟩]] := by decide +kernel

/-- `ConvertRowGroup` declares the LONGEST PREFIX of the source's sorting columns whose columns
    exist in the target: a prefix, all of it survives, and it stops only at the end or at a
    column the target drops. -/
theorem converted_sorting_is_prefix {κ : Type} (survives : κ → Bool) (cs : List κ) :
    ∃ rest, cs = carrySorting survives cs ++ rest ∧ (∀ c ∈ carrySorting survives cs, survives c = true) ∧
      (rest = [] ∨ ∃ c r, rest = c :: r ∧ survives c = false) := by
  -- cases of `carrySorting`: end / the column survives / the first column the target drops
  fun_induction carrySorting survives cs with
  | case1 => exact ⟨[], rfl, by simp, Or.inl rfl⟩
  | case2 c cs h ih =>
    obtain ⟨rest, h1, h2, h3⟩ := ih
    refine ⟨rest, by rw [List.cons_append, ← h1], ?_, h3⟩
    intro x hx
    rcases List.mem_cons.mp hx with rfl | hx
    · exact h
    · exact h2 x hx
  | case3 c cs h => exact ⟨c :: cs, by simp, by simp, Or.inr ⟨c, cs, rfl, by simpa using h⟩⟩

/-- Hence it is a TRUE order of the converted rows: if the source rows are sorted by the source's
    sorting columns (`key c` compares two rows on column `c`) and conversion `f` keeps the values
    of surviving columns (`convert_shred`), the converted rows are sorted by what is declared. -/
theorem converted_sorting_is_true_order {α β κ : Type} (survives : κ → Bool) (cs : List κ)
    (key : κ → α → α → Ordering) (key' : κ → β → β → Ordering) (f : α → β) (rows : List α)
    (hkeep : ∀ c, survives c = true → ∀ a b, key' c (f a) (f b) = key c a b)
    (hsorted : SortedBy (cs.map key) rows) :
    SortedBy ((carrySorting survives cs).map key') (rows.map f) := by
  obtain ⟨rest, h1, h2, _⟩ := converted_sorting_is_prefix survives cs
  have hs : SortedBy ((carrySorting survives cs).map key) rows := by
    rw [h1, List.map_append] at hsorted
    exact sortedBy_prefix _ _ rows hsorted
  exact sortedBy_map f key key' _ (fun c hc => hkeep c (h2 c hc)) rows hs

/-- non-vacuity and the seeded slip: source sorted on (0, 1, 2), target drops the middle column.
    `break` declares (0); `continue` would declare (0, 2), which is not an order of the rows. -/
example :
    let key : Nat → List Nat → List Nat → Ordering := fun c a b => compare (a.getD c 0) (b.getD c 0)
    let rows : List (List Nat) := [[0, 0, 1], [0, 1, 0]]
    let sv : Nat → Bool := fun c => c != 1
    SortedBy ([0, 1, 2].map key) rows ∧ carrySorting sv [0, 1, 2] = [0] ∧
      carrySortingContinue sv [0, 1, 2] = [0, 2] ∧
      lexLE ((carrySortingContinue sv [0, 1, 2]).map key) [0, 0, 1] [0, 1, 0] = false := by
  refine ⟨⟨by decide, trivial⟩, by decide, by decide, by decide⟩

/-- `CopyRows` / `ReadRowsFrom` through `ConvertRowReader` (no seek): whatever buffer sizes the
    consumer uses, it receives the converted rows in order, none lost, none repeated; with enough
    calls all of them. -/
theorem copy_rows_count_order {α β : Type} (f : α → β) (caps : List Nat) (rows : List α) :
    drain f caps { rest := rows, seek := 0, index := 0 } = some ((rows.take caps.sum).map f) ∧
      (rows.length ≤ caps.sum → drain f caps { rest := rows, seek := 0, index := 0 } = some (rows.map f)) := by
  have h := drain_plain f caps { rest := rows, seek := 0, index := 0 } (Nat.le_refl _)
  refine ⟨h, fun hl => ?_⟩
  rw [h]
  rw [List.take_of_length_le hl]

/-- regression fact (before the repair c3e3444): `SeekToRow` to a row INSIDE the next batch
    panicked (the copy loop never advanced `j`) -/
theorem forward_seek_inside_batch_panics_before_fix :
    (Fwd.readBeforeFix 4 10 ({ rest := List.range 10, seek := 3, index := 0 } : Fwd Nat)).1 = .panic := by decide +kernel

/-- regression fact (before the repair): `index` was not advanced by plain reads, so a seek after
    reading was taken relative to the start: after one batch of 4, `SeekToRow 8` continued at row 12 -/
theorem forward_seek_after_read_skips_too_far_before_fix :
    (Fwd.readBeforeFix 4 10 ({ rest := (List.range 20).drop 4, seek := 8, index := 0 } : Fwd Nat)).1 = .rows [12, 13, 14, 15] := by
  decide +kernel

/-- the code as it stands (`Fwd.read`): a read returns the stream from the sought row on — batch
    plus remainder is `rest.drop (seek - index)` — and after a non-empty batch no seek is pending -/
theorem forward_seek_repaired {α : Type} (cap : Nat) (hcap : 0 < cap) (st : Fwd α) :
    ∃ xs st', Fwd.read cap (st.rest.length + 1) st = (.rows xs, st') ∧
      xs ++ st'.rest = st.rest.drop (st.seek - st.index) ∧ (xs ≠ [] → st'.seek ≤ st'.index) := by
  obtain ⟨xs, m, h1, _, h2, h3, _⟩ := read_spec cap hcap (st.rest.length + 1) st (Nat.lt_succ_self _)
  exact ⟨xs, _, h1, h2, h3⟩

example : (Fwd.read 4 30 ({ rest := (List.range 20).drop 4, seek := 8, index := 4 } : Fwd Nat)).1 = .rows [8, 9, 10, 11] := by
  decide +kernel

/-- Every history of `ReadRows(cap)` (cap > 0) and `SeekToRow(k)` calls on a fresh
    `ConvertRowReader` over the rows `all` refines the specification of a forward-seekable reader:
    each read delivers the source rows from the current position in order (possibly fewer than
    asked for, none only when the source is exhausted), `SeekToRow(k)` with `k` at or behind the
    position makes row `k` the next one. No row is lost, repeated or reordered. -/
theorem forward_history_refines {α : Type} (all : List α) (ops : List Op)
    (hcaps : ∀ cap, Op.read cap ∈ ops → 0 < cap) :
    Refines all 0 ops (runHist ops { rest := all, seek := 0, index := 0 }) :=
  hist_refines all ops { rest := all, seek := 0, index := 0 } 0 hcaps rfl (Nat.zero_le _) rfl

example :
    runHist [.read 4, .seek 8, .read 4, .read 3] ({ rest := List.range 20, seek := 0, index := 0 } : Fwd Nat) =
      [[0, 1, 2, 3], [8, 9, 10, 11], [12, 13, 14]] := by decide +kernel

/-- A slice of the stand-in page of an added column without adjacent chunk reads the rows
    `[i, j)` of the page: same entries (null at `maxDef - 1`, or the zero value for `maxDef = 0`),
    for every row count, every maximal definition level and all bounds. -/
theorem missing_slice_is_page_slice (numRows td i j : Nat) (hij : i ≤ j) (hj : j ≤ numRows) :
    missingSlice true td i j = ((missingCol numRows 0 td none).drop i).take (j - i) := by
  have h : min (j - i) (numRows - i) = j - i := by omega
  simp [missingSlice, missingCol, List.drop_replicate, List.take_replicate, h]

example : missingSlice true 1 4 10 = List.replicate 6 ⟨none, 0, 0⟩ := by decide

/-- the slip of seed C12-5b on the mirror: without `maxDefinitionLevel` the slice of an added
    OPTIONAL column yields zero VALUES where the page yields nulls -/
theorem missing_slice_forgets_max_def :
    missingSlice false 1 0 2 = [⟨some 0, 0, 0⟩, ⟨some 0, 0, 0⟩] ∧
      ((missingCol 4 0 1 none).drop 0).take 2 = [⟨none, 0, 0⟩, ⟨none, 0, 0⟩] := by decide

end PqModel.Props.C12Chunks
