import PqModel.SeekForeign
import PqModel.SeekBytes

/-! # C08, foreign chunk layouts: a dictionary page met again is stepped over by its compressed size

The index-less `SeekToRow` of a chunk without `dictionary_page_offset` rewinds the stream to the
chunk start (`data_page_offset` is the dictionary page), and so does `ReadDictionary()` before the
first `ReadPage` (it reads through a reader of its own). The next `ReadPage` must decode the header
of the first data page. -/
namespace PqModel.Props.C08Foreign
open PqModel.Layout PqModel.SeekForeign

/-- **dict_page_met_again.** For every chunk laid out from `start` (any pages: a dictionary page
    first, none, or several), whether or not the dictionary is cached, the loop of
    `readPageInSequence` started on the first byte of the chunk decodes the header of the page it
    returns exactly where the first data page is (`specLocs`), returns a data page, and leaves the
    decoder on the first byte behind that page; at the end of a chunk without data pages it reports
    the end. -/
theorem dict_page_met_again (cached : Bool) (start : Nat) (ps : List PageOp) :
    (nextPage .compressed cached start ps).map (·.1) = ((specLocs start 0 ps).head?).map (·.offset) ∧
    ∀ r, nextPage .compressed cached start ps = some r → r.2.1.isDict = false ∧ r.2.2 = r.1 + r.2.1.size :=
  ⟨nextPage_offset cached start 0 ps, fun r h => nextPage_after .compressed cached start ps r h⟩

/-- a snappy-style chunk written at offset 4: the dictionary page body is 7 bytes compressed, 20
    uncompressed -/
def demo : List PageOp := [
  { isDict := true, hdrLen := 3, bodyLen := 7, uncompLen := 20, numValues := 0, numRows := 0 },
  { isDict := false, hdrLen := 2, bodyLen := 10, uncompLen := 30, numValues := 10, numRows := 10 },
  { isDict := false, hdrLen := 2, bodyLen := 10, uncompLen := 30, numValues := 10, numRows := 10 }]

example : (nextPage .compressed true 4 demo).map (·.1) = some 14 := by decide
example : ((specLocs 4 0 demo).head?).map (·.offset) = some 14 := by decide

/-- **dict_skip_uncompressed_refuted.** The variant that hands `UncompressedPageSize` to `Discard`
    decodes the next header 13 bytes too far on `demo`: not on a page start. -/
theorem dict_skip_uncompressed_refuted :
    (nextPage .uncompressed true 4 demo).map (·.1) ≠ ((specLocs 4 0 demo).head?).map (·.offset) := by decide

/-- **dict_skip_fields_agree.** On chunks whose dictionary pages are stored uncompressed the variant
    is indistinguishable from the code: the slip needs a codec that changes the size. -/
theorem dict_skip_fields_agree (cached : Bool) (start : Nat) (ps : List PageOp)
    (h : ∀ p ∈ ps, p.isDict = true → p.uncompLen = p.bodyLen) :
    nextPage .uncompressed cached start ps = nextPage .compressed cached start ps :=
  skip_fields_agree cached start ps h

example : ∀ p ∈ PqModel.SeekBytes.demo, p.isDict = true → p.uncompLen = p.bodyLen := by decide

end PqModel.Props.C08Foreign
