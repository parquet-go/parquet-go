import PqModel.Spec.InflateTests  -- only to have its vectors built
import PqModel.Spec.InflateMatch

/-! # C20, gzip part — a DEFLATE / gzip reader written from RFC 1951 / RFC 1952 (SPEC side)

`PqModel/Spec/Inflate.lean` holds `inflateRaw` / `inflate` (stored, fixed and dynamic Huffman
blocks, overlapping back-references) and `gunzip` (members with optional header fields, CRC-32
from `PqModel/Crc.lean`, ISIZE). Nothing here mirrors Go code: the reader is the independent
judge of what the real gzip codec emits (`gzip.decode` in pqdriver, run by the L1 check on every
sampled output of the codec).

Proved below: the reader is a total function of the stream; the stored-block path for every
segmentation and the gzip frame around it; the literal and the length/distance paths on the fixed
Huffman tables, against reference encoders and for every token list.

-- OPEN (tested, not proved): `∀ stream produced by a conformant Huffman/LZ77 encoder,
-- inflate stream = the encoder's input` — the dynamic-table header (code-length code, repeat codes,
-- canonical codes of arbitrary length sets) has no Lean encoder to be stated against; the fixed-table
-- paths are proved for the two reference encoders, not for every conformant encoder (a conformant
-- encoder may choose any tokens: `inflate_fixedBlock_tokens` covers every choice on ONE final fixed
-- block). Proved of the reader alone: the canonical-code walk decodes every code of RFC 1951
-- §3.2.2's explicit assignment, on every table (`walkAgrees_of_mkHuff`). Evidence for the rest:
-- the `decide` vectors of `InflateTests.lean` (streams of Go's stdlib: fixed block
-- with overlapping match, dynamic block, gzip header options; rejected: CRC, ISIZE, reserved
-- flag, distance too far, block type 3, LEN/NLEN), and the L1 check (agreement with the input on
-- every output of klauspost gzip at every exported level).
-- OPEN (assumed): the real gzip codec is lossless — sampled by L1 only. -/
namespace PqModel.Props.C20Inflate
open PqModel.Spec.Inflate

/-- `inflateRaw` never runs out of fuel: block loop, symbol loops and the code-length loop all
terminate by consuming input, whatever the bytes. -/
theorem inflate_total (data : List UInt8) :
    inflateRaw data ≠ .error .fuel ∧ inflate data ≠ .error .fuel :=
  ⟨inflateRaw_no_fuel data, inflate_no_fuel data⟩

/-- `gunzip` never runs out of fuel (every member is at least 18 bytes long). -/
theorem gunzip_total (data : List UInt8) : gunzip data ≠ .error .fuel := gunzip_no_fuel data

/-- what `inflateRaw` hands back as "rest" is a remainder of its input, never longer -/
theorem inflate_rest_le {data out rest : List UInt8} (h : inflateRaw data = .ok (out, rest)) :
    rest.length ≤ data.length := inflateRaw_rest h

/-- Stored blocks, ANY segmentation (`cs` non-final blocks, `last` the final one, each at most
65535 bytes, empty blocks allowed), followed by arbitrary bytes: the payloads come back
concatenated and the reader stops exactly behind the final block. -/
theorem inflate_stored_any_segmentation (cs : List (List UInt8)) (last tail : List UInt8)
    (hcs : ∀ c ∈ cs, c.length ≤ 65535) (hl : last.length ≤ 65535) :
    inflateRaw (storedChunks cs last ++ tail) = .ok (cs.flatten ++ last, tail) :=
  inflateRaw_storedChunks cs last tail hcs hl

example : ∃ (cs : List (List UInt8)) (last : List UInt8),
    (∀ c ∈ cs, c.length ≤ 65535) ∧ last.length ≤ 65535 ∧ cs ≠ [] ∧
    inflateRaw (storedChunks cs last ++ [9]) = .ok ([1, 2, 3], [9]) :=
  ⟨[[1], [], [2]], [3], by decide, by decide, by decide,
    inflateRaw_storedChunks _ _ _ (by decide) (by decide)⟩

/-- `inflate ∘ storedBlocks = id` for every byte string of every length. -/
theorem inflate_storedBlocks_id (bs : List UInt8) : inflate (storedBlocks bs) = .ok bs :=
  inflate_storedBlocks bs

example : storedBlocks [104, 105] = [1, 2, 0, 253, 255, 104, 105] := by decide

/-- A gzip member around stored blocks is read back: magic, method, flags, the DEFLATE payload,
CRC-32 and ISIZE (length modulo 2^32) are all parsed and checked. -/
theorem gunzip_gzipStored_id (bs : List UInt8) : gunzip (gzipStored bs) = .ok bs :=
  gunzip_gzipStored bs

example : gzipStored [104, 105] =
    [31, 139, 8, 0, 0, 0, 0, 0, 0, 255, 1, 2, 0, 253, 255, 104, 105, 172, 42, 147, 216, 2, 0, 0, 0] := by
  decide +kernel

/-- Fixed-Huffman block, literals only (`fixedLiterals`: BFINAL=1, BTYPE=01, for every byte the
code `rfcCode fixedLitLens` gives it — 8 bits for 0..143, 9 bits for 144..255 —, the 7-bit
end-of-block code, zero padding): `inflate` returns the input, for EVERY byte string. The walk
reads the codes back by `walkBits_rfcCode` (`fixedLit_walk`); the block is one of literal tokens. -/
theorem inflate_fixedLiterals_id (bs : List UInt8) : inflate (fixedLiterals bs) = .ok bs :=
  inflate_fixedLiterals bs

example : fixedLiterals [104, 105, 200] = [203, 200, 60, 1, 0] := by decide +kernel

/-- Fixed-Huffman block of TOKENS (`fixedBlock`: BFINAL=1, BTYPE=01; a literal as its code; a
reference as length code 257+ls, the extra length bits LSB-first, the 5-bit distance code ds, the
extra distance bits LSB-first; end-of-block; zero padding). For EVERY token list whose references are
writable (ls < 29, ds < 30, extra values inside their bit widths) and reach back at most to the start
of the output produced so far (`toksOk`), `inflate` returns what the tokens mean (`applyToks`:
literal = append, reference = `copyBack dist len`). Lengths 3..258, distances 1..32768, overlapping
copies (dist < len) included. The 286 + 30 codes: `fixedLit_walk`, `fixedDist_walk`. -/
theorem inflate_fixedBlock_tokens (toks : List Tok) (hok : toksOk toks #[] = true) :
    inflate (fixedBlock toks) = .ok (applyToks toks #[]).toList :=
  inflate_fixedBlock toks hok

/-- an overlapping reference (length 9 at distance 1) and a far one -/
example : toksOk [.lit 97, .ref 6 0 0 0, .lit 98, .ref 0 0 4 1] #[] = true ∧
    (applyToks [.lit 97, .ref 6 0 0 0, .lit 98, .ref 0 0 4 1] #[]).toList =
      List.replicate 10 97 ++ [98] ++ [97, 97, 97] := by decide +kernel

/-- What a reference means (RFC 1951 §3.2.3), independent of how `copyBack` computes it: the result
keeps the old output, is `n` bytes longer, and every new byte equals the byte `d` positions before it
in the RESULT — so for `d < n` the copy reads bytes it has just written. -/
theorem reference_copies_from_distance (d n : Nat) (out : Array UInt8) (hd : 0 < d) (hfit : d ≤ out.size) :
    (PqModel.Spec.BlockCodecs.copyBack d n out).size = out.size + n ∧
    (∀ i, i < out.size → (PqModel.Spec.BlockCodecs.copyBack d n out)[i]? = out[i]?) ∧
    (∀ i, out.size ≤ i → i < out.size + n →
      (PqModel.Spec.BlockCodecs.copyBack d n out)[i]? = (PqModel.Spec.BlockCodecs.copyBack d n out)[i - d]?) :=
  ⟨copyBack_size d n out, copyBack_prefix d n out, fun i h1 h2 => copyBack_get d hd n out i hfit h1 h2⟩

/-- the greedy matcher's tokens rebuild the input and are writable, for every window and input -/
theorem lz77_tokens_rebuild_input (w : Nat) (bs : List UInt8) :
    applyToks (lz77 w bs.length #[] bs) #[] = bs.toArray ∧ toksOk (lz77 w bs.length #[] bs) #[] = true := by
  simpa using applyToks_lz77 w bs.length #[] bs

/-- `inflate ∘ deflateFixed w = id`: greedy LZ77 (longest match ≥ 3 in a window of `w` bytes, the
source running into the bytes being produced) + fixed-Huffman coding with length/distance pairs is
read back, for EVERY window and EVERY byte string. -/
theorem inflate_deflateFixed_id (w : Nat) (bs : List UInt8) : inflate (deflateFixed w bs) = .ok bs :=
  inflate_deflateFixed w bs

/-- the encoder does emit references: ten `a` = one literal + (length 9, distance 1) -/
example : lz77 32 10 #[] (List.replicate 10 97) = [.lit 97, .ref 6 0 0 0] ∧
    deflateFixed 32 (List.replicate 10 97) = [75, 132, 3, 0] := ⟨lz77_ten_a, deflateFixed_ten_a⟩

/-- On the fixed literal/length table (288 symbols) and the fixed distance table the bit-by-bit
walk `decodeSym` decodes every code of the explicit assignment of RFC 1951 §3.2.2 (`rfcCode`) to
its symbol, consuming exactly its bits (instances of `walkAgrees_of_mkHuff`, which holds for every
table with lengths up to 15). -/
theorem walk_agrees_with_rfc_on_fixed_tables :
    walkAgrees fixedLitLens = true ∧ walkAgrees fixedDistLens = true :=
  let ⟨_, hl, _⟩ := fixedLit_walk
  let ⟨_, hd, _⟩ := fixedDist_walk
  ⟨walkAgrees_of_mkHuff hl fun x hx => (fixedLitLens_bounds x hx).2,
    walkAgrees_of_mkHuff hd fun x hx => (fixedDistLens_bounds x hx).2⟩

end PqModel.Props.C20Inflate
