import PqModel.ConvertAddedTree
import PqModel.ConvertFixed

/-! # C12 — Reading through a different but compatible schema only adds or drops columns

`convertRow` is the MIRROR of `convert.go` (level tables per target column, sibling-borrowed
structure for added columns, then `zeroAtMax`: a null that the tables made present becomes the typed
zero); `convertRow_before_fix` is its STAGE ONE (`convN`; alone it is the code before /repo fa179c0):
the main theorems are about it, the `*_before_fix` facts use it alone; `projN` is the SPEC projection
of a value tree; `shred` is the Dremel shredding of `PqModel.Dremel` on the name-erased schema. -/
namespace PqModel.Props.C12
open PqModel.Dremel PqModel.Convert

/-- Stage one of `convertRow` (what `convert_shred` rests on; alone a regression fact): deleting and
    permuting fields at any depth and turning required fields into optional ones, the level tables of `Convert` give exactly the shredded projection of the value. -/
theorem convert_shred_before_fix (src tgt : PNode) (v : Val)
    (hsub : subN src tgt = true) (hwf : wfN (eraseN src) = true) (hconf : confN (eraseN src) v = true) :
    convertRow_before_fix src tgt (shred src v) = shred tgt (projN src tgt v) :=
  main_convN tgt .req lv0 src v 0 none hsub hwf hconf (Nat.le_refl _) rfl rfl

/-- Deleting and permuting fields at any depth and turning required fields into optional ones:
    converting the shredded row with the mirror of `Convert` as it stands (level tables, zero
    fix-up, typed zero for nulls at a column's maximal definition level) gives exactly the shredded
    projection of the value — every target column carries the source values and nesting,
    re-expressed against the target's levels. All schemas, all conforming values. (The last stage
    finds nothing to do here: `zeroAtMax_shred` + `conf_projN`, the shredding of a value that
    conforms to its schema holds no null at a column's maximal definition level.) -/
theorem convert_shred (src tgt : PNode) (v : Val)
    (hsub : subN src tgt = true) (hwf : wfN (eraseN src) = true) (hconf : confN (eraseN src) v = true) :
    convertRow src tgt (shred src v) = shred tgt (projN src tgt v) := by
  rw [convertRow, convert_shred_before_fix src tgt v hsub hwf hconf,
    zeroAtMax_shred tgt _ (conf_projN tgt src v hsub hwf hconf)]

-- OPEN: convert_shred for targets that also turn optional fields into required ones
--   (`optional -> required`: a null becomes the zero value). With the last stage the mirror agrees
--   with the spec on such targets (`narrowing_null_becomes_zero`; without it it does not:
--   `narrowing_null_at_max_level_before_fix`; L1 and L2 cover random narrowed targets), but
--   `main_convN` is proved for `rpOk` (no narrowing) only.

example :
    let src : PNode := .group (.cons 1 .opt .leaf (.cons 2 .rpt (.group (.cons 5 .req .leaf (.cons 6 .opt .leaf .nil))) (.cons 3 .req .leaf .nil)))
    let tgt : PNode := .group (.cons 2 .rpt (.group (.cons 6 .opt .leaf (.cons 5 .opt .leaf .nil))) (.cons 1 .opt .leaf .nil))
    let v : Val := .struct [.none, .list [.struct [.prim 1, .none], .struct [.prim 2, .some (.prim 3)]], .prim 9]
    subN src tgt = true ∧ wfN (eraseN src) = true ∧ confN (eraseN src) v = true ∧
      convertRow src tgt (shred src v) =
        [[⟨none, 0, 1⟩, ⟨some 3, 1, 2⟩], [⟨some 1, 0, 2⟩, ⟨some 2, 1, 2⟩], [⟨none, 0, 0⟩]] := by decide +kernel

/-- Row count and order: a batch is converted row by row (`conversion.Convert` loops over `rows`
    and writes `rows[n]`), so the converted batch is the list of shredded projections, in order. -/
theorem convert_rows (src tgt : PNode) (vs : List Val)
    (hsub : subN src tgt = true) (hwf : wfN (eraseN src) = true) (hconf : ∀ v ∈ vs, confN (eraseN src) v = true) :
    (vs.map (shred src)).map (convertRow src tgt) = vs.map (fun v => shred tgt (projN src tgt v)) ∧
      ((vs.map (shred src)).map (convertRow src tgt)).length = vs.length := by
  refine ⟨?_, by simp⟩
  rw [List.map_map]
  apply List.map_congr_left
  intro v hv
  exact convert_shred src tgt v hsub hwf (hconf v hv)

/-! ## Added columns

`Convert` has no level tables for a target column that the source lacks: it copies the entries of
the *closest leaf sibling* (the direct leaf child with the smallest name of the deepest source group
on the column's path) and turns their payload into null (`convertToNullOptional`, which also lowers
a definition level equal to the target's maximum by one) or zero (`convertToZero`), levels
untouched; without such a sibling it emits ONE placeholder `(null|zero, 0, 0)` per row.

The mirror is right (as Parquet streams: `canon` erases the payload below the column's maximal
definition level, which is all a writer stores) exactly when the borrowed entries happen to be the
structure of the enclosing group, i.e.
* the closest leaf sibling is REQUIRED (one entry `(x, r, d)` per instance of the group, `d` ≤ the
  group's level): every added subtree is right (`added_next_to_required_partial`, and for whole
  rows `convert_shred_added_partial`);
* the closest leaf sibling is OPTIONAL and the added column is an optional LEAF of the same group
  (`added_optional_leaf_next_to_optional_partial`);
* there is no leaf sibling and the group sits at definition level 0 (`added_without_sibling_partial`,
  also part of `convert_shred_added_partial`);
and no ancestor changed its repetition type (borrowed levels are not mapped through the tables).
Outside these cases it is wrong: `decide` witnesses below (F19: repeated or optional sibling with
any other added shape, no leaf sibling below an optional or repeated group). -/

-- OPEN: `convert_shred_added_partial` at full strength — the statement below for EVERY target that adds
--   fields. It is false for the code as it stands (F19 witnesses below). Proved:
--   `convert_shred_added_partial` (whole rows, any depth incl. below repeated groups and lists)
--   under `addN` (first and third case above; shared fields keep their repetition type). The
--   second case is proved per group instance only.

/-- ADDED columns (together with deleted and permuted ones), whole rows: when every added field
    satisfies `addOk`, the converted row is, as Parquet streams, the shredded projection put
    through the same last stage `zeroAtMax`: shared columns carry the source values and nesting,
    added columns are null / empty / zero with the structure of their own ancestors. (The
    `zeroAtMax` on the spec side is not removed: `conf_projN` is proved under `subN` only.) -/
theorem convert_shred_added_partial (src tgt : PNode) (v : Val)
    (hadd : addN 0 src tgt = true) (hwf : wfN (eraseN src) = true) (hconf : confN (eraseN src) v = true) :
    canon (maxDefsN tgt 0) (convertRow src tgt (shred src v)) =
      canon (maxDefsN tgt 0) (zeroAtMax (maxDefsN tgt 0) (shred tgt (projN src tgt v))) := by
  have h : canon (maxDefsN tgt 0) (convertRow_before_fix src tgt (shred src v)) =
      canon (maxDefsN tgt 0) (shred tgt (projN src tgt v)) :=
    main_addN tgt .req lv0 src v 0 none hadd idLv0 hwf hconf (Nat.le_refl _)
  simp only [convertRow]
  rw [canon_zeroAtMax, canon_zeroAtMax, h]

/-- non-vacuity: inside a repeated group `2 {5 required, 6 optional}` the target adds an optional
    leaf 7 and a repeated group 8 {required 9} (closest sibling: the required leaf 5), at the root
    a required leaf 4 next to the required leaf 3 (the smallest leaf name); field 10 is dropped. -/
example :
    let src : PNode := .group (.cons 10 .opt .leaf (.cons 2 .rpt (.group (.cons 5 .req .leaf (.cons 6 .opt .leaf .nil))) (.cons 3 .req .leaf .nil)))
    let tgt : PNode := .group (.cons 4 .req .leaf (.cons 2 .rpt (.group (.cons 7 .opt .leaf (.cons 6 .opt .leaf
      (.cons 8 .rpt (.group (.cons 9 .req .leaf .nil)) (.cons 5 .req .leaf .nil))))) (.cons 3 .req .leaf .nil)))
    let v : Val := .struct [.none, .list [.struct [.prim 1, .none], .struct [.prim 2, .some (.prim 3)]], .prim 9]
    addN 0 src tgt = true ∧ wfN (eraseN src) = true ∧ confN (eraseN src) v = true ∧
      canon (maxDefsN tgt 0) (convertRow src tgt (shred src v)) =
        [[⟨some 0, 0, 0⟩], [⟨none, 0, 1⟩, ⟨none, 1, 1⟩], [⟨none, 0, 1⟩, ⟨some 3, 1, 2⟩], [⟨none, 0, 1⟩, ⟨none, 1, 1⟩],
          [⟨some 1, 0, 1⟩, ⟨some 2, 1, 1⟩], [⟨some 9, 0, 0⟩]] := by decide +kernel

/-- Closest leaf sibling required: in a group instance shredded at levels `(r, d)` the sibling's
    column is the single entry `(x, r, d)`, with `d = lv.td` when the instance is present and
    `d < lv.td` when an ancestor is null/empty. For ANY added subtree `a` (leaf or group, required /
    optional / repeated, nested) the mirror then yields the stream of the subtree's default value,
    resp. of an absent subtree. -/
-- `k` is free on the right: a default value has no list element, so no entry at depth `k`
theorem added_next_to_required_partial (a : PNode) (trp : Rp) (lv : Lv) (x : Option Nat) (r k d : Nat)
    (hd : d ≤ lv.td) :
    canon (maxDefsN a (lv.td + defOf trp)) (convN a trp (lv.stepT trp) (.lost (some [⟨x, r, d⟩]))) =
      canon (maxDefsN a (lv.td + defOf trp))
        (if d = lv.td then shredN (wrap trp (eraseN a)) r k d (dfltW trp (dfltN a)) else absentN (eraseN a) r d) := by
  rw [canon_lostN a trp lv _ r d (Or.inr ⟨x, rfl⟩) hd]
  split
  · rename_i heq
    subst heq
    exact (canon_dfltW a trp r k lv.td).symm
  · exact (canon_absentN a (lv.td + defOf trp) r d (by omega)).symm

example :
    let a : PNode := .group (.cons 4 .rpt .leaf (.cons 5 .req .leaf .nil))
    canon (maxDefsN a 2) (convN a .rpt (lv0.stepT .opt |>.stepT .rpt) (.lost (some [⟨some 7, 0, 1⟩]))) =
      canon (maxDefsN a 2) (shredN (wrap .rpt (eraseN a)) 0 0 1 (.list [])) := by decide +kernel

/-- Closest leaf sibling optional (entry `(x, r, d)` with `d ≤ lv.td + 1`; `lv.td + 1` = value
    present) and the added column an optional leaf of the same group: null at the group's level. -/
theorem added_optional_leaf_next_to_optional_partial (lv : Lv) (x : Option Nat) (r d : Nat) (hd : d ≤ lv.td + 1) :
    convN .leaf .opt (lv.stepT .opt) (.lost (some [⟨x, r, d⟩])) = [[⟨none, r, min d lv.td⟩]] := by
  by_cases h : d = lv.td + 1
  · subst h
    simp [convN, leafOut, toNullOpt, fixup, Lv.stepT, defOf]
  · have : min d lv.td = d := by omega
    simp [convN, leafOut, toNullOpt, fixup, Lv.stepT, defOf, h, this]

/-- No leaf sibling: the single placeholder `(·, 0, 0)` is the stream of the default value of any
    added subtree only in a group at definition level 0 (`lv.td = 0`: all ancestors required). -/
theorem added_without_sibling_partial (a : PNode) (trp : Rp) (lv : Lv) (k : Nat) (h0 : lv.td = 0) :
    canon (maxDefsN a (defOf trp)) (convN a trp (lv.stepT trp) (.lost none)) =
      canon (maxDefsN a (defOf trp)) (shredN (wrap trp (eraseN a)) 0 k 0 (dfltW trp (dfltN a))) := by
  have hl := canon_lostN a trp lv none 0 0 (Or.inl ⟨rfl, rfl, rfl⟩) (Nat.zero_le _)
  have hd := canon_dfltW a trp 0 k 0
  rw [h0] at hl
  rw [Nat.zero_add] at hl hd
  rw [hl, hd]

/-! ### F19: the mirror of the unchanged code violates the property (negation witnesses) -/

/-- whole-row comparison as Parquet streams -/
def agrees (src tgt : PNode) (v : Val) : Bool :=
  canon (maxDefsN tgt 0) (convertRow src tgt (shred src v)) == canon (maxDefsN tgt 0) (shred tgt (projN src tgt v))

/-- F19, `repeated-next-to-optional-sibling`: source `{optional f1}`, target adds
    `repeated group n3 { repeated f4 }` at the root; row `f1 = 7`: `n3.f4` gets `(0, R0, D1)` — a list
    with one element — instead of the empty list `(null, R0, D0)`. -/
theorem f19_repeated_group_next_to_optional_sibling :
    let src : PNode := .group (.cons 1 .opt .leaf .nil)
    let tgt : PNode := .group (.cons 1 .opt .leaf (.cons 3 .rpt (.group (.cons 4 .rpt .leaf .nil)) .nil))
    let v : Val := .struct [.some (.prim 7)]
    convertRow src tgt (shred src v) = [[⟨some 7, 0, 1⟩], [⟨some 0, 0, 1⟩]] ∧
      shred tgt (projN src tgt v) = [[⟨some 7, 0, 1⟩], [⟨none, 0, 0⟩]] ∧ agrees src tgt v = false := by decide +kernel

/-- F19, `required-next-to-repeated-sibling`: target adds a required leaf inside a required group
    next to a repeated leaf holding two elements: the added column gets one zero PER ELEMENT with
    the sibling's levels (`D1` where the column's maximum is 0). -/
theorem f19_required_next_to_repeated_sibling :
    let src : PNode := .group (.cons 1 .req (.group (.cons 2 .rpt .leaf .nil)) .nil)
    let tgt : PNode := .group (.cons 1 .req (.group (.cons 2 .rpt .leaf (.cons 3 .req .leaf .nil))) .nil)
    let v : Val := .struct [.struct [.list [.prim 1, .prim 2]]]
    convertRow src tgt (shred src v) = [[⟨some 1, 0, 1⟩, ⟨some 2, 1, 1⟩], [⟨some 0, 0, 1⟩, ⟨some 0, 1, 1⟩]] ∧
      shred tgt (projN src tgt v) = [[⟨some 1, 0, 1⟩, ⟨some 2, 1, 1⟩], [⟨some 0, 0, 0⟩]] ∧ agrees src tgt v = false := by decide +kernel

/-- F19, `optional-next-to-optional-sibling` (added optional GROUP): the group comes out present
    with a null leaf (`D1`) instead of null (`D0`). -/
theorem f19_optional_group_next_to_optional_sibling :
    let src : PNode := .group (.cons 1 .opt .leaf .nil)
    let tgt : PNode := .group (.cons 1 .opt .leaf (.cons 2 .opt (.group (.cons 3 .opt .leaf .nil)) .nil))
    let v : Val := .struct [.some (.prim 7)]
    convertRow src tgt (shred src v) = [[⟨some 7, 0, 1⟩], [⟨none, 0, 1⟩]] ∧
      shred tgt (projN src tgt v) = [[⟨some 7, 0, 1⟩], [⟨none, 0, 0⟩]] ∧ agrees src tgt v = false := by decide +kernel

/-- F19, `required-next-to-no-leaf-sibling`: a required leaf added to an optional group that has
    only group children: one placeholder `(0, R0, D0)` (= group null) although the group is present. -/
theorem f19_required_without_leaf_sibling_under_optional :
    let src : PNode := .group (.cons 1 .opt (.group (.cons 2 .req (.group (.cons 3 .req .leaf .nil)) .nil)) .nil)
    let tgt : PNode := .group (.cons 1 .opt (.group (.cons 2 .req (.group (.cons 3 .req .leaf .nil)) (.cons 4 .req .leaf .nil))) .nil)
    let v : Val := .struct [.some (.struct [.struct [.prim 5]])]
    convertRow src tgt (shred src v) = [[⟨some 5, 0, 1⟩], [⟨some 0, 0, 0⟩]] ∧
      shred tgt (projN src tgt v) = [[⟨some 5, 0, 1⟩], [⟨some 0, 0, 1⟩]] ∧ agrees src tgt v = false := by decide +kernel

/-- Without the last stage (regression fact): `optional → required` below an optional ancestor, a
    null became an entry at the maximal definition level whose payload was still null (an untyped
    value; for FIXED_LEN_BYTE_ARRAY the writers rejected it). -/
theorem narrowing_null_at_max_level_before_fix :
    let src : PNode := .group (.cons 1 .opt (.group (.cons 2 .opt (.group (.cons 3 .req .leaf .nil)) .nil)) .nil)
    let tgt : PNode := .group (.cons 1 .opt (.group (.cons 2 .req (.group (.cons 3 .req .leaf .nil)) .nil)) .nil)
    let v : Val := .struct [.some (.struct [.none])]
    convertRow_before_fix src tgt (shred src v) = [[⟨none, 0, 1⟩]] ∧ shred tgt (projN src tgt v) = [[⟨some 0, 0, 1⟩]] := by decide +kernel

/-- With the last stage the same row is the shredded projection: the null that the tables made
    present is the typed zero of the column. -/
theorem narrowing_null_becomes_zero :
    let src : PNode := .group (.cons 1 .opt (.group (.cons 2 .opt (.group (.cons 3 .req .leaf .nil)) .nil)) .nil)
    let tgt : PNode := .group (.cons 1 .opt (.group (.cons 2 .req (.group (.cons 3 .req .leaf .nil)) .nil)) .nil)
    let v : Val := .struct [.some (.struct [.none])]
    convertRow src tgt (shred src v) = shred tgt (projN src tgt v) ∧ agrees src tgt v = true := by decide +kernel

/-- the second stage in general: whatever the first stage yields, no column of the converted row
    holds a null at its maximal definition level where that level is reached -/
theorem converted_row_has_no_null_at_max (td : Nat) (c : List Triple) :
    ∀ t ∈ zeroCol td c, t.val = none → t.dfn ≠ td := by
  intro t ht hn
  simp only [zeroCol, List.mem_map] at ht
  obtain ⟨u, _, rfl⟩ := ht
  split at hn
  · cases hn
  · rename_i h
    intro hd
    rw [if_neg h] at hd
    exact h (by simp [hn, hd])

/-- `repeated → optional` is accepted: a two-element list becomes two entries with repetition
    level 0 in one row of a non-repeated column (a malformed row; written to a file it is two rows). -/
theorem repeated_to_optional_accepted :
    let src : PNode := .group (.cons 1 .rpt .leaf .nil)
    let tgt : PNode := .group (.cons 1 .opt .leaf .nil)
    let v : Val := .struct [.list [.prim 1, .prim 2]]
    convertRow src tgt (shred src v) = [[⟨some 1, 0, 1⟩, ⟨some 2, 0, 1⟩]] := by decide +kernel

end PqModel.Props.C12
