import PqModel.RowsBufProofs

/-! # C13, row reader of a row group at buffer granularity (`RowsBuf`, mirror of `rowGroupRows.ReadRows`
    / `SeekToRow` / `Reset` and `columnChunkValueReader`, tied to the real reader call by call by the
    L2 sub-check C13/rowsbuf). -/
namespace PqModel.Props.C13RowsBuf
open PqModel.RowsBuf

/-- `v` was decoded from a page of the file that the loader accepted -/
def FromAcceptedPage (file : List (List Page)) (v : Val) : Prop :=
  ∃ pages ∈ file, ∃ p ∈ pages, p.bad = false ∧ v ∈ p.vals

/-- whatever the file, the size of the value buffers and the history of
    `ReadRows`, `SeekToRow` and `Reset` on a new reader — also after calls that failed with the
    corruption error — neither the buffers nor the look-ahead nor a seek back ever hand out a value of
    a page the loader rejected. -/
theorem no_row_from_a_rejected_page (file : List (List Page)) (bufsize : Nat) (ops : List Op)
    (st : St) (rs : List (List Val)) (eof : Bool)
    (h : (st, Out.rows rs eof) ∈ run file bufsize (init file) ops) :
    ∀ r ∈ rs, ∀ v ∈ r, FromAcceptedPage file v :=
  run_good (P := FromAcceptedPage file) file
    (fun pages hp p hpp hb _ hv => ⟨pages, hp, p, hpp, hb, hv⟩) bufsize ops (init file) (init_ok file)
    (st, .rows rs eof) h rs eof rfl

/-- the values of page `i` of column `j` say so -/
def WellTagged (file : List (List Page)) : Prop :=
  ∀ j < file.length, ∀ i < (file[j]?.getD []).length,
    ∀ v ∈ (((file[j]?.getD [])[i]?).map (·.vals)).getD [], v.col = j ∧ v.page = i

instance (file : List (List Page)) : Decidable (WellTagged file) := by unfold WellTagged; infer_instance

/-- the same in terms of where a value says it comes from: in a file whose values carry their column
    and page, the page a returned value names exists and is not a rejected one -/
theorem returned_values_name_accepted_pages (file : List (List Page)) (hw : WellTagged file)
    (bufsize : Nat) (ops : List Op) (st : St) (rs : List (List Val)) (eof : Bool)
    (h : (st, Out.rows rs eof) ∈ run file bufsize (init file) ops) :
    ∀ r ∈ rs, ∀ v ∈ r, ∃ pages p, file[v.col]? = some pages ∧ pages[v.page]? = some p ∧ p.bad = false := by
  intro r hr v hv
  obtain ⟨pages, hp, p, hpp, hb, hvp⟩ := no_row_from_a_rejected_page file bufsize ops st rs eof h r hr v hv
  obtain ⟨j, hj⟩ := List.getElem?_of_mem hp
  obtain ⟨i, hi⟩ := List.getElem?_of_mem hpp
  have hjl := (List.getElem?_eq_some_iff.mp hj).1
  have hil := (List.getElem?_eq_some_iff.mp hi).1
  obtain ⟨hc, hg⟩ := hw j hjl i (by simpa [hj] using hil) v (by simpa [hj, hi] using hvp)
  exact ⟨pages, p, by rw [hc]; exact hj, by rw [hg]; exact hi, hb⟩

/-- with the error pending `ReadRows` returns it and touches nothing -/
theorem error_is_sticky_buf (file : List (List Page)) (bufsize : Nat) (st : St) (n : Nat) (he : st.err = true) :
    read file bufsize st n = (st, .failed) := by
  exact read_pending file bufsize st n he

/-- a run of `ReadRows` calls on a reader whose error is pending
    returns the error every time -/
theorem pending_until_seek_or_reset (file : List (List Page)) (bufsize : Nat) (ns : List Nat) (st : St)
    (he : st.err = true) :
    run file bufsize st (ns.map .read) = ns.map fun _ => (st, .failed) := by
  induction ns with
  | nil => rfl
  | cons n ns ih => simp [run, step, error_is_sticky_buf file bufsize st n he, ih]

/-- `SeekToRow` with the error pending (also to the current row) and `Reset`
    drop every buffered value and every current page and clear the error -/
theorem seek_and_reset_clear (file : List (List Page)) (st : St) (k : Nat) (he : st.err = true) :
    (seek file st k).err = false ∧ (seek file st k).rowIndex = k ∧
    (∀ c ∈ (seek file st k).cols, c.buf = [] ∧ c.reader.values = none) ∧
    (reset file st).err = false ∧ (reset file st).rowIndex = 0 ∧
    (∀ c ∈ (reset file st).cols, c.buf = [] ∧ c.reader.values = none) := by
  simp only [seek, he, or_true, if_true, reset, true_and, List.mem_map]
  refine ⟨?_, ?_⟩ <;>
  · rintro c ⟨pages, _, rfl⟩
    exact ⟨rfl, rfl⟩

def flat (col : Nat) (bad : Bool) (page first n : Nat) : Page :=
  { bad := bad, firstRow := first, numRows := n,
    vals := (List.range n).map fun i => { col := col, row := first + i, rep := 0, page := page } }

/-- two columns of 6 rows; pages of 3 and 2 rows; page 1 of column 1 (rows 2, 3) is rejected -/
def sample : List (List Page) :=
  [[flat 0 false 0 0 3, flat 0 false 1 3 3], [flat 1 false 0 0 2, flat 1 true 1 2 2, flat 1 false 2 4 2]]

def outs (file : List (List Page)) (bufsize : Nat) (ops : List Op) : List Out :=
  (run file bufsize (init file) ops).map (·.2)

example : WellTagged sample := by decide +kernel

/-- row 0 is returned, the next read fails, so does the one after it and the one after `Reset`; a seek
    behind the rejected page returns rows 4-5 -/
example : outs sample 8 [.read 1, .read 2, .read 1, .reset, .read 3, .seek 4, .read 5] =
    [.rows [[⟨0, 0, 0, 0⟩, ⟨1, 0, 0, 0⟩]] false, .failed, .failed, .done, .failed, .done,
     .rows [[⟨0, 4, 0, 1⟩, ⟨1, 4, 0, 2⟩], [⟨0, 5, 0, 1⟩, ⟨1, 5, 0, 2⟩]] true] := by decide +kernel

/-- Behaviour of the code as it is (reproduced on the real reader by C13/rowsbuf): when the value buffer of a column ends with the last row asked for, `ReadRows` refills
    it to see whether the row goes on; if that refill meets the rejected page the call fails although
    every row it was asked for lies in accepted pages: row 1 of `sample`, the last row in front of the
    rejected page of column 1, is not returned by any call (a page ends with it, so the buffer does) —
    the failure comes one row early, never late. -/
theorem lookahead_reports_early :
    outs sample 2 [.read 1, .read 1] = [.rows [[⟨0, 0, 0, 0⟩, ⟨1, 0, 0, 0⟩]] false, .failed] ∧
    outs sample 2 [.seek 1, .read 1] = [.done, .failed] ∧
    outs sample 170 [.read 2] = [.failed] := by decide +kernel

end PqModel.Props.C13RowsBuf
