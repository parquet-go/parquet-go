import PqModel.Layout
import PqModel.ThriftWriteProofs
import PqModel.FooterLayout
import PqModel.FileMetaTrees
import PqModel.BloomPlaceLength

/-! # C02 — Every written file is well-formed Parquet: layout accounting, thrift round trip, page-index section,
footer metadata, bloom filter sections. An `example` after a theorem instantiates its hypotheses. -/
namespace PqModel.Props.C02
open PqModel.Layout

/-- For every sequence of pages of a chunk written at `start`: recorded page locations are the
    true start, size and cumulative first-row index of every data page; chunk totals are sums. -/
theorem layout_wf (start : Nat) (ps : List PageOp) :
    (chunkMeta start ps).locs = specLocs start 0 ps ∧
    (chunkMeta start ps).totalCompressed = totalSize ps ∧
    (chunkMeta start ps).totalUncompressed = ((ps.map fun p => p.hdrLen + p.uncompLen).sum) ∧
    (chunkMeta start ps).numValues = ((dataPages ps).map (·.numValues)).sum ∧
    (chunkMeta start ps).numRows = ((dataPages ps).map (·.numRows)).sum :=
  PqModel.Layout.layout_wf start ps

theorem locations_contiguous (start row : Nat) (ps : List PageOp) (h : ∀ q ∈ ps, q.isDict = false) :
    (specLocs start row ps).map (·.offset) = pageStarts start ps ∧
    (specLocs start row ps).map (·.size) = ps.map PageOp.size :=
  specLocs_contiguous start row ps h

/-- the chunks of a row group: the writer's running file offset gives every chunk the metadata of
    a chunk written at its true start -/
theorem rowGroup_wf (start : Nat) (cs : List (List PageOp)) :
    rowGroupMetas start cs = (List.zip (chunkStarts start cs) cs).map (fun sc => chunkMeta sc.1 sc.2) :=
  PqModel.Layout.rowGroup_wf start cs

example : WellOrdered [⟨true, 10, 20, 25, 3, 0⟩, ⟨false, 12, 30, 40, 5, 5⟩] := by
  intro q hq; simp at hq; subst hq; rfl

/-! ## Thrift compact protocol: the independent reader reads back what the encoder mirror writes

`ThriftWrite.writeStruct` / `writeVal` MIRROR the library's compact-protocol encoder
(`encoding/thrift/compact.go`, `encode.go`) on the typed tree `WVal`; `Spec.readStruct` / `rdVal` are
the SPEC reader (written from the protocol description) that `file.check` parses every footer, page
header and index with; `erase` forgets the integer widths and drops the fields the encoder omits. -/
section Thrift
open PqModel.Spec PqModel.ThriftWrite

/-- ULEB128: the spec reader returns the number `PutUvarint` wrote (any 64-bit value, anywhere in a
    buffer, whatever follows). -/
theorem uvarint_round_trip (x : Nat) (hx : x < 2 ^ 64) (pre rest : List UInt8) :
    uvarint ⟨(pre ++ (uvarintBytes x ++ rest)).toArray⟩ pre.length = .ok (x, pre.length + (uvarintBytes x).length) :=
  uvarint_put _ x pre.length hx ⟨pre, rest, rfl, rfl⟩

/-- zigzag: the spec reading of `PutVarint`'s bit manipulation on the int64 is the integer. -/
theorem zigzag_round_trip (i : Int) (h1 : -9223372036854775808 ≤ i) (h2 : i < 9223372036854775808) :
    zigzag (PqModel.Delta.zigzag64 (BitVec.ofInt 64 i)) = i :=
  zigzag_zigzag64 i h1 h2

/-- a zigzag varint (i16, i32, i64 and long-form field ids) reads back as the integer -/
theorem varint_round_trip (i : Int) (h1 : -9223372036854775808 ≤ i) (h2 : i < 9223372036854775808)
    (pre rest : List UInt8) :
    ∃ n, uvarint ⟨(pre ++ (varintBytes i ++ rest)).toArray⟩ pre.length = .ok (n, pre.length + (varintBytes i).length) ∧
      zigzag n = i :=
  varint_put _ i pre.length h1 h2 ⟨pre, rest, rfl, rfl⟩

/-- **Round trip of a struct** (what `thrift.Marshal` returns for `FileMetaData`, `PageHeader`,
    `ColumnIndex`, `OffsetIndex`, …): for every well-formed tree — ints within their width, lengths
    within int32, list elements of the announced element type, written field ids ascending in
    1..32767; ANY nesting depth and size (the reader's fuel `2·size + 64` is proved sufficient) —
    the spec reader applied to the mirror writer's bytes, at any offset and with arbitrary trailing
    bytes, returns exactly the tree and stops right behind the struct. -/
theorem read_write_struct (fs : List (FMeta × WVal)) (pre rest : List UInt8) (hw : WfF 0 fs = true) :
    readStruct ⟨(pre ++ (writeStruct fs ++ rest)).toArray⟩ pre.length =
      .ok (.struct (eraseF fs), pre.length + (writeStruct fs).length) :=
  readStruct_writeStruct fs pre rest hw

/-- the same for a value in field position, with explicit fuel: `2·len + 1` suffices -/
theorem read_write_val (v : WVal) (pre rest : List UInt8) (fuel : Nat) (hw : WfT v = true)
    (hf : 2 * (writeVal v).length + 1 ≤ fuel) :
    rdVal ⟨(pre ++ (writeVal v ++ rest)).toArray⟩ fuel (fcode v) pre.length =
      .ok (erase v, pre.length + (writeVal v).length) :=
  rdVal_write _ v fuel pre.length hw ⟨pre, rest, rfl, rfl⟩ hf

example : WfT (.list 12 [.struct [], .struct [({id := 16}, .i8 (-128)), ({id := 32767}, .list 9 [.list 2 []])]]) = true := by
  decide

/-- non-vacuity: a page-header-like tree with a long-form field id, a 15-element list (long list
    header), a bool list, nested structs, an omitted zero field and a kept `writezero` one -/
example : WfF 0 [({id := 1, required := true}, .i32 3), ({id := 2, zero := true}, .i32 0),
    ({id := 3, writezero := true, zero := true}, .i64 0), ({id := 4}, .bool true),
    ({id := 20}, .list 2 [.bool true, .bool false]),
    ({id := 21}, .list 6 (List.replicate 15 (.i64 (-9223372036854775808)))),
    ({id := 300}, .struct [({id := 5}, .struct []), ({id := 7}, .bin [0xFF, 0]), ({id := 8}, .double 1)])] = true := by
  decide

/-- the encoder's bytes for a small tree, computed by the kernel (field 1 i32 5 → `15 0A`; field 20
    → long form `09 28`, list header `22`; stop) -/
example : writeStruct [({id := 1, required := true}, .i32 5), ({id := 20}, .list 2 [.bool true, .bool false])] =
    [0x15, 0x0A, 0x09, 0x28, 0x22, 0x01, 0x00, 0x00] := by decide

end Thrift


section Tail
open PqModel.FooterLayout

/-- **Page-index section** (`writeFileFooter`'s two loops, mirror `indexLayout`): for every sequence
    of column chunks (any number of row groups, with or without column index) written at `start`,
    the recorded `column_index_offset/length` and `offset_index_offset/length` name exactly the
    positional regions (prefix sums of the encoded lengths: the column indexes that exist, then
    the offset indexes), and the running offset ends at
    `start` + all bytes written. -/
theorem page_index_layout_wf (start : Nat) (ops : List IdxOp) :
    ciRegions (indexLayout start ops).1 ops = specCi start ops ∧
    oiRegions (indexLayout start ops).1 = specOi (start + ciBytes ops) ops ∧
    (indexLayout start ops).1.length = ops.length ∧
    (indexLayout start ops).2 = start + ciBytes ops + oiBytes ops := by
  have h1 := writeColumnIndexes_spec start ops
  have h2 := writeOffsetIndexes_spec (writeColumnIndexes start ops).2 ops (writeColumnIndexes start ops).1 h1.2.1
  simp only [indexLayout]
  refine ⟨?_, ?_, h2.2.1, ?_⟩
  · rw [h2.2.2.2, h1.2.2.1]
  · rw [h2.2.2.1, h1.1]
  · rw [h2.1, h1.1]

/-- the regions the footer names tile `[start, end)`: no gap, and (corollary) no two page-index
    structures overlap and none leaves the section -/
theorem page_index_tiles (start : Nat) (ops : List IdxOp) :
    Tiles start (ciRegions (indexLayout start ops).1 ops ++ oiRegions (indexLayout start ops).1) (indexLayout start ops).2 := by
  have h := page_index_layout_wf start ops
  rw [h.1, h.2.1, h.2.2.2]
  have t2 := specOi_tiles (start + ciBytes ops) ops
  exact Tiles.append (specCi_tiles start ops) t2

theorem page_index_disjoint (start : Nat) (ops : List IdxOp) :
    (∀ r ∈ ciRegions (indexLayout start ops).1 ops ++ oiRegions (indexLayout start ops).1,
        start ≤ r.off ∧ r.off + r.len ≤ (indexLayout start ops).2) ∧
    (ciRegions (indexLayout start ops).1 ops ++ oiRegions (indexLayout start ops).1).Pairwise
        (fun r s => r.off + r.len ≤ s.off) :=
  (page_index_tiles start ops).sorted

-- two row groups' worth of chunks, the second chunk without column index
example : indexLayout 1000 [⟨some 30, 12⟩, ⟨none, 9⟩, ⟨some 25, 14⟩] =
    ([{ ciOff := 1000, ciLen := 30, oiOff := 1055, oiLen := 12 }, { oiOff := 1067, oiLen := 9 },
      { ciOff := 1030, ciLen := 25, oiOff := 1076, oiLen := 14 }], 1090) := by decide

end Tail

section Meta
open PqModel.Spec PqModel.ThriftWrite PqModel.FileMetaTrees

/-- **Key-value metadata and created_by**: for every footer the writer mirror encodes (any schema
    and row-group subtrees, any list of key/value byte strings — empty values included, they are
    written because the Go field is `required` —, any created_by), the spec reader applied to the
    bytes, at any offset and with arbitrary trailing bytes, yields a tree whose spec views
    (`key_value_metadata`, field 5; `created_by`, field 6) are exactly the pairs in order and the
    string (absent iff empty). -/
theorem key_value_metadata_round_trip (version : Int) (schema : List WVal) (numRows : Int) (rowGroups : List WVal)
    (kvs : List (List UInt8 × List UInt8)) (kvZero : Bool) (createdBy : List UInt8)
    (orders : List WVal) (ordersZero : Bool) (pre rest : List UInt8)
    (hz : kvZero = true → kvs = [])
    (hw : WfF 0 (footerFields version schema numRows rowGroups kvs kvZero createdBy orders ordersZero) = true) :
    ∃ t, readStruct ⟨(pre ++ (writeStruct (footerFields version schema numRows rowGroups kvs kvZero createdBy orders ordersZero) ++ rest)).toArray⟩ pre.length =
        .ok (t, pre.length + (writeStruct (footerFields version schema numRows rowGroups kvs kvZero createdBy orders ordersZero)).length) ∧
      kvsOf t = kvs.map (fun kv => some (⟨kv.1.toArray⟩, some ⟨kv.2.toArray⟩)) ∧
      createdByOf t = if createdBy.isEmpty then none else some ⟨createdBy.toArray⟩ :=
  ⟨_, readStruct_writeStruct _ pre rest hw,
    kvsOf_footer version schema numRows rowGroups kvs kvZero createdBy orders ordersZero hz,
    createdByOf_footer version schema numRows rowGroups kvs kvZero createdBy orders ordersZero⟩

example : WfF 0 (footerFields 2 [.struct []] 7 [] [([0x61], []), ([], [0xFF, 0])] false [0x78] [] true) = true := by
  decide

/-- **Sorting columns of a row group**: the spec view of field 4 of the row group the mirror
    encodes is the declared list (column index, descending, nulls first), in order. -/
theorem sorting_columns_round_trip (columns : List WVal) (totalByteSize numRows : Int)
    (scs : List (Int × Bool × Bool)) (scZero : Bool) (fileOffset totalCompressed ordinal : Int) (pre rest : List UInt8)
    (hz : scZero = true → scs = [])
    (hw : WfF 0 (rowGroupFields columns totalByteSize numRows scs scZero fileOffset totalCompressed ordinal) = true) :
    ∃ t, readStruct ⟨(pre ++ (writeStruct (rowGroupFields columns totalByteSize numRows scs scZero fileOffset totalCompressed ordinal) ++ rest)).toArray⟩ pre.length =
        .ok (t, pre.length + (writeStruct (rowGroupFields columns totalByteSize numRows scs scZero fileOffset totalCompressed ordinal)).length) ∧
      sortingOf t = scs.map some :=
  ⟨_, readStruct_writeStruct _ pre rest hw,
    sortingOf_rowGroup columns totalByteSize numRows scs scZero fileOffset totalCompressed ordinal hz⟩

example : WfF 0 (rowGroupFields [] 100 3 [(2, true, false), (0, false, true)] false 4 90 0) = true := by decide

end Meta

section BloomLength
open PqModel.BloomPlace

/-- **`bloom_filter_offset` / `bloom_filter_length` of deferred filters** (MIRROR
    `writeDeferredBloomFilters`, the code as it is): for every list of buffered sections with
    pairwise distinct (row group, column), appended to any file written so far, the metadata of each
    chunk names a region that lies inside the file, has the length of the chunk's OWN section and
    holds exactly its bytes — any number of filters, any section lengths. -/
theorem deferred_bloom_sections_named (bufs : List Buffered) (out : List UInt8) (m : MetaTab)
    (h : (bufs.map bkey).Nodup) :
    ∀ b ∈ bufs,
      Names (flushDeferred (bufs.map (fun b => (b.1, b.2.1, b.2.2.length))) out.length m).2
        (out ++ bufs.flatMap (·.2.2)) b :=
  (flushDeferred_spec bufs out m h).2.1

example : ([((0 : Nat), (0 : Nat), [(1 : UInt8), 2, 3]), (0, 1, [4, 5]), (1, 0, [6])].map bkey).Nodup := by decide

/-- C02-5a (seeded): with `bloomFilterOffset := w.writer.offset` taken once before the loop of
    `writeDeferredBloomFilters`, the offsets stay right and the first length too, but every later
    filter announces a length measured from the start of the FIRST deferred filter (3+5, 3+5+4
    instead of 5, 4): the spec reader's clause `bloom_filter_length` = header + bitset fails from
    the second filter on. Last two conjuncts: the loop as it is. -/
theorem deferred_start_taken_once_lengths_cumulative :
    let evs := [Ev.data 4, .filter 0 0 3 true, .filter 0 1 5 true, .data 4, .filter 1 1 4 true, .flush]
    let s := evs.foldl stepHoisted pinit
    s.tab 0 0 = some ⟨8, 3⟩ ∧ s.tab 0 1 = some ⟨11, 8⟩ ∧ s.tab 1 1 = some ⟨16, 12⟩ ∧
    (run evs).tab 0 1 = some ⟨11, 5⟩ ∧ (run evs).tab 1 1 = some ⟨16, 4⟩ := by
  decide

end BloomLength

end PqModel.Props.C02
