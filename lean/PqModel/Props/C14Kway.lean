import PqModel.MergeKFaultProof
import PqModel.MergeKFaultRetry

/-! # C14 (part "kway") — the k-way merge reader never turns a failing input into a regular end

MIRROR `RdK.MK` (`mergedRowReader.initialize` / `ReadRows` / `replayGames` / `playInitialGames`,
merge.go:827-1022, with `bufferedRowReader.read`, merge.go:1073-1101) over any number of SPEC sources
`Rd.Src` (any rows, a fault after any number of rows, the error alone or along with rows, io.EOF
eager or not) and any sequence of buffer lengths of the consumer. -/
namespace PqModel.Props.C14Kway
open PqModel.IoFault.Rd PqModel.IoFault.RdK

/-- A session of `mergedRowReader.ReadRows` that ends with io.EOF (no call
reported an error) has handed out, for each input, exactly the rows of that input in their order. -/
theorem kway_eof_complete (srcs : List Src) (caps : List Nat)
    (h : (session caps (MK.new srcs)).2.1 = .eof) (i : Nat) (hi : i < srcs.length) :
    projK i (session caps (MK.new srcs)).1.flatten = (srcs.getD i dsrc).rows := by
  have := (session_eof srcs caps (MK.new srcs) [] (Or.inl ⟨rfl, rfl⟩) h i hi).1
  simpa using this

/-- If one of the inputs fails before it has delivered all its rows, no
session ends with io.EOF: it ends with the error (or is not finished yet). -/
theorem kway_fault_reported (srcs : List Src) (caps : List Nat) (i : Nat) (hi : i < srcs.length)
    (hb : (srcs.getD i dsrc).Bites) : (session caps (MK.new srcs)).2.1 ≠ .eof :=
  fun h => (session_eof srcs caps (MK.new srcs) [] (Or.inl ⟨rfl, rfl⟩) h i hi).2 hb

/-- What the two theorems above rest on: `playInitialGames` stores
every live input exactly once among the winner and the losers (as many players as live leaves, and
each live leaf is one of them), whatever the heads are and whatever the `losers` slice held; and
`replayGames` permutes winner and losers. So `count` reaches 0 only when every input answered
io.EOF. -/
theorem kway_tree_keeps_players (bufs : List PqModel.Merge.Buf) (leaves L : List Int)
    (hl : leaves.length = bufs.length) (hL : L.length = bufs.length) :
    let g := PqModel.Merge.playInitialGames bufs leaves bufs.length 0 L
    nn (g.1 :: g.2) = nn leaves ∧ (∀ x, 0 ≤ x → x ∈ leaves → x ∈ g.1 :: g.2) ∧
    ∀ (f o : Nat) (w : Int) (L' : List Int),
      ((PqModel.Merge.replayLoop bufs f o w L').1 :: (PqModel.Merge.replayLoop bufs f o w L').2).Perm (w :: L') :=
  ⟨init_tree_count bufs leaves hl L hL, fun x hx hm => init_tree_mem bufs leaves hl L hL x hx hm,
   replayLoop_perm bufs⟩

/-! satisfiable. Three inputs; input 2 holds two rows and its source fails after the first: the
first call hands out row 1 of input 2 (its buffer runs empty, the call returns), the refill of the
second call meets the error and the call reports it. -/
def sA : Src := ⟨[5], none, false, false⟩
def sB : Src := ⟨[7], none, true, false⟩
def sFails : Src := ⟨[1, 2], some 1, false, false⟩
def sGood : Src := ⟨[1, 2], none, false, false⟩

example : sFails.Bites := ⟨1, rfl, by decide⟩
example : (session [8, 8, 8] (MK.new [sA, sB, sFails])).1 = [[(2, 1)], []] ∧
    (session [8, 8, 8] (MK.new [sA, sB, sFails])).2.1 = .err := by decide +kernel
example : (session [8, 8, 8, 8, 8] (MK.new [sA, sB, sGood])).2.1 = .eof ∧
    (session [8, 8, 8, 8, 8] (MK.new [sA, sB, sGood])).1.flatten = [(2, 1), (2, 2), (0, 5), (1, 7)] := by decide +kernel

/-- an error met by `initialize` sets `count = 0` (merge.go:844): the call reports it, and a
consumer that calls again is answered io.EOF with no rows. -/
example : ((MK.new [sA, ⟨[3], some 0, false, false⟩, sB]).readRows 8).1 = ([], .err) ∧
    (((MK.new [sA, ⟨[3], some 0, false, false⟩, sB]).readRows 8).2.readRows 8).1 = ([], .eof) := by decide +kernel

/-- From ANY state of the mirror: once a `ReadRows` call has answered
an error other than io.EOF, no later call hands out a row, however often and with whatever buffer
lengths the consumer calls again (the SPEC source is sticky); and when the error came from the loop
(the reader was initialised) no later call answers io.EOF: it answers the error again (nil for
`len(rows) = 0`). An error of `initialize` sets `count = 0`: the later calls answer io.EOF with no rows
(last `example` above). -/
theorem kway_no_rows_after_error (st : MK) (cap : Nat) (h : (st.readRows cap).1.2 = .err) (caps : List Nat) :
    ∀ x ∈ sessionAll caps (st.readRows cap).2, x.1 = [] ∧
      (st.initialized = true → x.2 = .nil ∨ x.2 = .err) := by
  intro x hx
  have := sessionAll_dead caps _ (readRows_err_dead st cap h) x hx
  refine ⟨this.1, fun hi => this.2 ?_⟩
  rw [readRows_of_init st cap hi] at h ⊢
  exact ((loop_err (st.fuel cap) cap st).2 h).1

example : sessionAll [8, 8, 0, 8] (MK.new [sA, sB, sFails]) =
    [([(2, 1)], .nil), ([], .err), ([], .nil), ([], .err)] := by decide +kernel

end PqModel.Props.C14Kway
