import PqModel.DictReset
import PqModel.Props.C04DictReset

/-! # C01 (part "dictgroups") — one dictionary object over all row groups of a writer

A column writer owns ONE dictionary for its whole life. Per row group it inserts that row group's
values (any number of `Insert` calls, any cut into chunks), stores the dictionary page and the
indexes handed out, and calls `Reset` (`ColumnWriter.reset`, writer.go:2085-2108; `Writer.Reset`
takes the same path, so the history continues into the next file). The file model of Props/C01.lean
builds every row group's dictionary from nothing; this file closes the gap between that model and
the stateful object: over the MIRRORS of the Go dictionary state machines (PqModel/DictReset.lean)
every row group of every history reads back as the values written.

Left out: the boolean dictionary (SPEC insert with `ensureBools`) is covered by
`C04DictReset.bool_insert_after_reset` and by the L2 comparison of sub-check `dictgroups`; its group
form is not restated here. -/
namespace PqModel.Props.C01DictGroups
open PqModel.Plain PqModel.DictReset

section
variable {α : Type} [DecidableEq α]

/-- MIRROR of the column writer's use of its dictionary: per row group a reset-free session of
    `Insert` calls, the page and the indexes that are stored, then `Reset` -/
def writeGroups {σ : Type} (m : Machine σ α) (s : σ) : List (List (Op α)) → List (List α × List Nat)
  | [] => []
  | g :: gs => (m.values (m.run s g).1, (m.run s g).2.flatten) :: writeGroups m (m.reset (m.run s g).1) gs

/-- SPEC of the reader: every stored index looked up in the row group's own dictionary page -/
def readGroup (g : List α × List Nat) : List (Option α) := g.2.map (g.1[·]?)

/-- every row group of every history reads back as its values, whatever the earlier row groups held -/
theorem groups_roundtrip {σ : Type} {m : Machine σ α} {I : σ → Prop} (h : m.Refines id I) :
    ∀ (groups : List (List (Op α))) (s : σ), I s → m.values s = [] →
    (∀ g ∈ groups, noReset g = true) →
    (writeGroups m s groups).map readGroup = groups.map (fun g => (batchesOf g).map some)
  | [], _, _, _, _ => rfl
  | g :: gs, s, hs, h0, hg => by
    obtain ⟨_, g2⟩ := C04DictReset.generation_roundtrip h s hs h0 g (hg g (by simp))
    have hI := (run_refines h g s hs).1
    obtain ⟨r1, r2⟩ := h.reset_ok _ hI
    have ih := groups_roundtrip h gs (m.reset (m.run s g).1) r1 r2 (fun x hx => hg x (by simp [hx]))
    simp only [writeGroups, List.map_cons]
    rw [ih]
    congr 1

/-- hashprobe dictionaries: int32, int64, float, double, uint32, uint64, be128 -/
theorem probe_groups_roundtrip (groups : List (List (Op α))) (hg : ∀ g ∈ groups, noReset g = true) :
    (writeGroups probeMachine (probeNew ([] : List α)) groups).map readGroup
      = groups.map (fun g => (batchesOf g).map some) :=
  groups_roundtrip probe_refines groups _ (probeNew_inv [] (by simp)) rfl hg

/-- Go-map dictionaries: fixed-len byte array and int96 (`byLen = false`), byte array (`true`) -/
theorem map_groups_roundtrip (byLen : Bool) (groups : List (List (Op α)))
    (hg : ∀ g ∈ groups, noReset g = true) :
    (writeGroups (mapMachine byLen) (mapNew ([] : List α)) groups).map readGroup
      = groups.map (fun g => (batchesOf g).map some) :=
  groups_roundtrip (map_refines byLen) groups _ (mapNew_inv [] (by simp)) rfl hg

end

example : ∀ g ∈ [[Op.insert [[1, 2], [2]], Op.insert [[3]]], [Op.insert [[3, 1]]]], noReset g = true := by
  decide

/-- VIOLATION witness on the variant (mechanism of seeded change C01-6a): `int96Dictionary.Reset`
    that keeps `d.hashmap`. Row group 1 holds 1, 2; row group 2 holds 3, 1: the stale map sends 1 to
    index 0, where row group 2's page holds 3. -/
theorem int96_reset_keeping_hashmap_breaks_groups :
    (writeGroups (mapMachineKeepingMap false) (mapNew ([] : List Nat))
        [[.insert [[1, 2]]], [.insert [[3, 1]]]]).map readGroup
      = [[some 1, some 2], [some 3, some 3]] := by
  decide

/-- the real `Reset` on the same row groups -/
theorem int96_reset_groups_right :
    (writeGroups (mapMachine false) (mapNew ([] : List Nat))
        [[.insert [[1, 2]]], [.insert [[3, 1]]]]).map readGroup
      = [[some 1, some 2], [some 3, some 1]] := by
  decide

end PqModel.Props.C01DictGroups
