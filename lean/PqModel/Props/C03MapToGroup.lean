import PqModel.MapToGroup

/-! C03: Go maps written onto GROUP schemas (`writeRowsFuncOfMapToGroup` and the per-node
value writers `writeValueFuncOf`) against the reflection path / the reference shredder
(`shredN` of the group value the map stands for). Mirrors and lemmas: `PqModel/MapToGroup.lean`. -/
namespace PqModel.Props.C03MapToGroup
open PqModel.Dremel PqModel.TypedPath PqModel.MapToGroup

/-- The per-node value writer (`writeValueFuncOf`: leaf / optional / group, the group looked up by
member name in a Go map) writes, for EVERY group schema without repeated nodes, every Go value and
at every level, exactly the Dremel shred (the mirror of `deconstructFuncOf`, the reflection path)
of the group value the map stands for (members by name, missing key = null member, extra keys
ignored). -/
theorem maptogroup_value_eq_shred (n : GNode) (r k d : Nat) (v : Val) :
    wvN n r d v = shredN (eraseG n) r k d (resolveN n v) :=
  wvN_eq_shred n r k d v

example : wvN (.group (.cons 7 (.opt .leaf) (.cons 8 .leaf .nil))) 0 0
    (.list [.struct [.prim 9, .prim 1], .struct [.prim 7, .some (.prim 5)]]) =
    [[⟨some 5, 0, 1⟩], [⟨none, 0, 0⟩]] := by decide

/-- `writeRowsFuncOfMapToGroup`, `map[string]any` and default branches, for every group schema,
every batch of maps (nil maps, missing and extra keys included) and all levels: no rows = the absent
group; otherwise the concatenation, row by row, of the shred of the group value of each map. -/
theorem maptogroup_rows_eq_reflect (fs : GFields) (r k d : Nat) (rows : List Val) :
    wrM2GVal fs r k d rows =
      if rows.isEmpty then absentF (eraseGF fs) r d
      else joinSegs (leavesF (eraseGF fs))
        (rows.map fun row => shredF (eraseGF fs) r k d (resolveF fs (elemsS row))) := by
  unfold wrM2GVal
  split
  · exact wvF_none fs r k d
  · congr 1
    exact List.map_congr_left fun row _ => wvF_some fs r k d (elemsS row)

example : wrM2GVal (.cons 7 (.opt .leaf) .nil) 0 0 0 [.none, .list [.struct [.prim 7, .some (.prim 5)]]] =
    [[⟨none, 0, 0⟩, ⟨some 5, 0, 1⟩]] := by decide

/-- one `GenericWriter[map[string]any].Write(batch)` = the reference shredder on every row -/
theorem maptogroup_write_eq_reflect (fs : GFields) (batch : List Val) :
    m2gWrite fs batch =
      joinSegs (leavesF (eraseGF fs))
        (batch.map fun row => shredF (eraseGF fs) 0 0 0 (resolveF fs (elemsS row))) := by
  unfold m2gWrite
  cases batch with
  | nil => simp [joinSegs]
  | cons b bs =>
    rw [maptogroup_rows_eq_reflect]
    simp

/-- `writeRowsFuncOfMapToGroup`, `map[string]string` branch (member-major: one `writeRows` call per
member on the column of looked-up strings, optional members through the bitmap scan of
`writeRowsFuncOfOptional`): for every list of members, every non-empty batch and all levels it
writes the concatenation, row by row, of the shred of the group value — the same streams as the
row-major value writers and the reflection path. The definition level is the members' own (`d = dm`): only
there do the leaf writers store a value; below it they are handed placeholder rows only (`Sound`, B and C). -/
theorem maptogroup_string_eq_reflect (fs : List (Nat × Bool)) (dm r k : Nat) (rows : List Val)
    (h : rows ≠ []) :
    wrM2GStr fs dm r k dm rows =
      joinSegs fs.length (rows.map fun row =>
        shredF (toFields fs) r k dm (fs.map fun f => mlookup (elemsS row) f.1)) := by
  induction fs with
  | nil =>
    simp only [wrM2GStr, List.flatMap_nil, List.length_nil, List.map_nil, toFields, shredF]
    exact (joinSegs_zero_nil rows).symm
  | cons f fs ih =>
    have hs := (tyN_sound (fieldT f.2) dm r k).1 (rows.map fun row => mlookup (elemsS row) f.1)
      (by simpa using h)
    have h1 : leavesN (erase (fieldT f.2)) = 1 := by
      cases hf : f.2 <;> simp [fieldT, erase, leavesN]
    unfold wrM2GStr at ih ⊢
    simp only [List.flatMap_cons, List.map_cons, toFields, shredF, List.length_cons]
    rw [hs, ih, List.map_map, h1, Nat.add_comm fs.length 1]
    exact (joinSegs_append_cols
      (fun row => shredN (erase (fieldT f.2)) r k dm (mlookup (elemsS row) f.1))
      (fun row => shredF (toFields fs) r k dm (fs.map fun f => mlookup (elemsS row) f.1)) rows
      (fun row _ => by rw [shredN_length, h1])
      (fun row _ => by rw [shredF_length, toFields_leaves])).symm

example : m2gWriteStr [(7, true), (8, false)]
    [.list [.struct [.prim 8, .prim 3], .struct [.prim 7, .some (.prim 5)]], .none, .list [.struct [.prim 9, .prim 1]]] =
    [[⟨some 5, 0, 1⟩, ⟨none, 0, 0⟩, ⟨none, 0, 0⟩], [⟨some 3, 0, 0⟩, ⟨none, 0, 0⟩, ⟨none, 0, 0⟩]] := by decide

/-- What the column buffer keeps: when no entry sits at the maximum definition level without a
value (`hole`) and values only occur at the maximum level, the value-writer side (`writeNull`) and
the row side (`WriteRows` of the deconstructed row) store the same levels and values. -/
theorem store_agree_of_no_hole (dm : Nat) (hdm : 0 < dm) (col : List Triple)
    (hh : ∀ t ∈ col, hole dm t = false) (hv : ∀ t ∈ col, t.val.isSome = true → t.dfn = dm) :
    storeNull dm col = storeRows dm col :=
  store_agree_of dm col fun t ht =>
    ⟨hv t ht, fun hval => Or.inr ⟨Nat.ne_of_gt hdm, dfn_ne_of_not_hole (hh t ht) hval⟩⟩

example : storeNull 1 [⟨some 4, 0, 1⟩, ⟨none, 0, 0⟩] = storeRows 1 [⟨some 4, 0, 1⟩, ⟨none, 0, 0⟩] := by decide

/-- FINDING (reproduced on the real code): a REQUIRED leaf below an OPTIONAL group whose key is
missing from the nested map (the group itself is present). The value writers send the invalid value
to `writeValueFuncOfLeaf`, which calls `optionalColumnBuffer.writeNull` at the MAXIMUM definition
level: a level without a value. Rows `{g: {a: 11}}`, `{g: {a: 12, b: 13}}` on
`g: optional group {a, b}`: column `g.b` keeps levels `[1, 1]` and ONE value, the page reads back as
`13, 0` — the value of row 1 appears in row 0 — where the row path (`Writer.Write`) stores `0, 13`.
The triples agree with the shred (`maptogroup_value_eq_shred`); the stored columns do not. -/
theorem maptogroup_missing_required_below_optional_witness :
    let fs : GFields := .cons 0 (.opt (.group (.cons 1 .leaf (.cons 2 .leaf .nil)))) .nil
    let rows : List Val :=
      [.list [.struct [.prim 0, .some (.list [.struct [.prim 1, .prim 11]])]],
       .list [.struct [.prim 0, .some (.list [.struct [.prim 1, .prim 12], .struct [.prim 2, .prim 13]])]]]
    let colB := (m2gWrite fs rows).getD 1 []
    colB = [⟨none, 0, 1⟩, ⟨some 13, 0, 1⟩] ∧
    colB.any (hole 1) = true ∧
    storeNull 1 colB = ([1, 1], [13]) ∧
    readBack 1 (storeNull 1 colB).1 (storeNull 1 colB).2 = [some 13, some 0] ∧
    readBack 1 (storeRows 1 colB).1 (storeRows 1 colB).2 = [some 0, some 13] := by decide

/-- Interface-typed struct fields on an explicit schema (`writeRowsFuncOfStruct` over
`writeRowsFuncOfInterface` over the value writers), field-major, for every group schema without
repeated nodes, all levels and every batch of structs: no rows = the absent group, else the
concatenation row by row of the shred of the group value of each struct (fields by position,
nested `map[string]any` members by name). -/
theorem iface_struct_eq_reflect : ∀ (fs : GFields) (r k d : Nat) (vss : List (List Val)),
    ifaceF fs r k d vss =
      if vss.isEmpty then absentF (eraseGF fs) r d
      else joinSegs (leavesF (eraseGF fs))
        (vss.map fun vs => shredF (eraseGF fs) r k d (resolveP fs vs))
  | .nil, r, k, d, vss => by
    cases vss with
    | nil => simp [ifaceF, absentF, eraseGF]
    | cons vs vss =>
      simp only [ifaceF, eraseGF, leavesF, resolveP, shredF, List.isEmpty_cons, Bool.false_eq_true, if_false]
      exact (joinSegs_zero_nil (vs :: vss)).symm
  | .cons name n fs, r, k, d, vss => by
    cases vss with
    | nil =>
      simp only [ifaceF, List.map_nil, List.isEmpty_nil, if_true, eraseGF, absentF]
      rw [wrInterface_empty, iface_struct_eq_reflect fs r k d []]; simp
    | cons vs vss =>
      have hne : (vs :: vss).map hd ≠ [] := by simp
      simp only [ifaceF, eraseGF, leavesF, resolveP, List.isEmpty_cons, Bool.false_eq_true, if_false]
      rw [wrInterface_rows n r k d _ hne, iface_struct_eq_reflect fs r k d ((vs :: vss).map List.tail)]
      simp only [List.map_cons, List.isEmpty_cons, Bool.false_eq_true, if_false, List.map_map]
      have := joinSegs_append_cols (m1 := leavesN (eraseG n)) (m2 := leavesF (eraseGF fs))
        (fun vs => shredN (eraseG n) r k d (resolveN n (hd vs)))
        (fun vs => shredF (eraseGF fs) r k d (resolveP fs (List.tail vs))) (vs :: vss)
        (fun x _ => shredN_length _ r k d _) (fun x _ => shredF_length _ r k d _)
      simpa [shredF, Function.comp_def] using this.symm

example : ifaceWrite (.cons 1 (.opt .leaf) (.cons 2 (.group (.cons 3 .leaf .nil)) .nil))
    [.struct [.some (.prim 5), .list [.struct [.prim 3, .prim 6]]], .struct [.none, .none]] =
    [[⟨some 5, 0, 1⟩, ⟨none, 0, 0⟩], [⟨some 6, 0, 0⟩, ⟨none, 0, 0⟩]] := by decide

/-- Stored columns, not only triples: when in every row no REQUIRED leaf is left without a value
below present optional ancestors (`okF`, decidable; the nil map, missing and null OPTIONAL members,
missing required members of a top-level required group are all allowed), every entry the value
writers emit is one the two sides of the column buffer treat alike, so
`GenericWriter[map[string]any].Write(batch)` leaves in every column buffer exactly the definition
levels and values the row path (`Writer.Write`: deconstruct + `WriteRows`) leaves there. The
hypothesis is needed: `maptogroup_missing_required_below_optional_witness`. -/
theorem maptogroup_store_eq_rowpath (fs : GFields) (batch : List Val)
    (hok : ∀ row ∈ batch, okF fs true (some (elemsS row)) = true) :
    storeAll storeNull (m2gWrite fs batch) (maxDefsF fs 0) =
      storeAll storeRows (m2gWrite fs batch) (maxDefsF fs 0) := by
  apply storeAll_agree
  unfold m2gWrite wrM2GVal
  rw [← maxDefsF_length fs 0]
  cases batch with
  | nil => simpa using colsOk_replicate (maxDefsF fs 0)
  | cons b bs =>
    simp only [List.isEmpty_cons, Bool.false_eq_true, if_false]
    apply colsOk_joinSegs
    intro s hs
    rcases List.mem_map.mp hs with ⟨row, hrow, rfl⟩
    exact wvF_colsOk fs true 0 0 0 (some (elemsS row)) (Or.inl ⟨rfl, hok row hrow, fun _ => rfl⟩)

example : ∀ row ∈ ([.none, .list [.struct [.prim 0, .some (.list [.struct [.prim 1, .prim 11], .struct [.prim 2, .prim 13]])]],
      .list [.struct [.prim 9, .prim 1]]] : List Val),
    okF (.cons 0 (.opt (.group (.cons 1 .leaf (.cons 2 .leaf .nil)))) (.cons 3 .leaf .nil)) true (some (elemsS row)) = true := by
  decide

/-- the hypothesis of `maptogroup_store_eq_rowpath` fails exactly on the witness rows -/
example : okF (.cons 0 (.opt (.group (.cons 1 .leaf (.cons 2 .leaf .nil)))) .nil) true
    (some [.struct [.prim 0, .some (.list [.struct [.prim 1, .prim 11]])]]) = false := by decide

/-- Extra keys are ignored and the entry order is irrelevant: what the group writer emits for a map
depends only on the values found under the members' names (for every schema and all levels); in
particular an entry whose key is no member's name changes nothing. -/
theorem maptogroup_only_member_keys_matter (fs : GFields) (r d : Nat) (es es' : List Val)
    (h : ∀ name ∈ namesF fs, mlookup es name = mlookup es' name) :
    wvF fs r d (some es) = wvF fs r d (some es') :=
  wvF_congr fs r d es es' h

theorem maptogroup_extra_key_ignored (fs : GFields) (r d k : Nat) (v : Val) (es : List Val)
    (hk : k ∉ namesF fs) :
    wvF fs r d (some (.struct [.prim k, v] :: es)) = wvF fs r d (some es) := by
  apply wvF_congr
  intro name hn
  have hne : k ≠ name := fun he => hk (he ▸ hn)
  simp [mlookup, hne]

example : (9 : Nat) ∉ namesF (.cons 7 (.opt .leaf) (.cons 8 .leaf .nil)) := by decide

/-- The hypothesis of `maptogroup_store_eq_rowpath` is exact: for every group schema and every map,
a row that fails `okF` makes the value writers leave, in some column of an optional buffer, an entry
at the maximum definition level without a value (the situation of the witness above). -/
theorem maptogroup_not_ok_leaves_level_without_value (fs : GFields) (r : Nat) (es : List Val)
    (h : okF fs true (some es) = false) :
    HasHole (wvF fs r 0 (some es)) (maxDefsF fs 0) :=
  wvF_hole fs true r 0 (some es) h (fun ht => by simp at ht)

example : okF (.cons 0 (.opt (.group (.cons 1 .leaf (.cons 2 .leaf .nil)))) .nil) true
    (some [.struct [.prim 0, .some (.list [])]]) = false := by decide

/-- The map as a record member on an OPTIONAL group node (`writeRowsFuncOfStruct`: the bitmap branch
of `writeRowsFuncOfOptional`, nil map = null, over `writeRowsFuncOfMapToGroup`, any / default
branches): one typed `Write` of ANY batch (nil maps, empty maps, missing and extra keys, null runs
of any length) writes, for every group schema, the concatenation row by row of the shred of the
optional group value the map stands for. Reduction: the map-to-group writer is the canonical sound
writer of the group on resolved rows (`wrM2GVal_canon`), resolving commutes with the optional
wrapper (`wrOptional_map`), then `wrOptional_sound`. -/
theorem maptogroup_optional_member_eq_reflect (fs : GFields) (batch : List Val) :
    m2gOptWrite fs batch =
      joinSegs (leavesF (eraseGF fs)) (batch.map fun row =>
        shredN (.opt (.group (eraseGF fs))) 0 0 0 (resolveN (.opt (.group fs)) row)) := by
  unfold m2gOptWrite
  cases batch with
  | nil => simp [joinSegs]
  | cons b bs =>
    simp only [List.isEmpty_cons, Bool.false_eq_true, if_false]
    have hfun : wrM2GVal fs =
        fun r k d vs => canonW (.group (eraseGF fs)) r k d (vs.map (resolveN (.group fs))) := by
      funext r k d vs; exact wrM2GVal_canon fs r k d vs
    have h1 : ∀ v, isSome (resolveN (.opt (.group fs)) v) = isSome v := by
      intro v; cases v <;> simp [resolveN, isSome]
    have h2 : ∀ v, unopt (resolveN (.opt (.group fs)) v) = resolveN (.group fs) (unopt v) := by
      intro v; cases v <;> simp [resolveN, unopt]
    rw [hfun, wrOptional_map (leavesF (eraseGF fs)) (canonW (.group (eraseGF fs)))
      (resolveN (.group fs)) (resolveN (.opt (.group fs))) h1 h2]
    have hs := (wrOptional_sound (canonW_sound (.group (eraseGF fs))) 0 0 0).1
      ((b :: bs).map (resolveN (.opt (.group fs)))) (by simp)
    simpa [leavesN, List.map_map, Function.comp_def] using hs

example : m2gOptWrite (.cons 1 .leaf (.cons 2 (.opt .leaf) .nil))
    [.some (.list [.struct [.prim 1, .prim 11]]), .none, .some (.list [.struct [.prim 2, .some (.prim 13)], .struct [.prim 1, .prim 12]])] =
    [[⟨some 11, 0, 1⟩, ⟨none, 0, 0⟩, ⟨some 12, 0, 1⟩], [⟨none, 0, 1⟩, ⟨none, 0, 0⟩, ⟨some 13, 0, 2⟩]] := by decide

end PqModel.Props.C03MapToGroup
