import PqModel.AadReader
import PqModel.Props.C18

/-! # C18 — the page reader at the level of its API (`ReadPage`, `SeekToRow`, `ReadDictionary`)

Theorems over the MIRROR `Aad.prun` (AadReader.lean): every module any API history opens — pages met on the
stream, pages opened and dropped while skipping to a row, the dictionary read out of band because a
seek jumped over it — is opened with the AAD arguments of the slot it stands in; composed with the
writer state machine and the ideal AEAD: it opens. Tied to the code by the `reader` sub-check (op
`aad.prun`): exact API histories on real `FilePages`, with one module of the chunk damaged, must fail
at exactly the call at which the model opens that module, and nowhere else. -/
namespace PqModel.Props.C18Reader
open PqModel.Aad PqModel.Props.C18

/-- Whatever sequence of `ReadPage`, `SeekToRow` (with or without offset index, to any row) and
    `ReadDictionary` calls a `FilePages` goes through, on any chunk (any page sizes, any mix of
    dictionary-encoded and plain pages), every module it opens is opened with the AAD arguments
    of the module it is positioned on. -/
theorem api_reader_ordinals_agree (pc : PChunk) (ops : List POp) :
    ∀ e ∈ (prun pc ops).1.r.log, e.used = e.slot.used := by
  obtain ⟨rops, h⟩ := prun_reach pc ops
  rw [h]
  exact reader_ordinals_agree pc.c rops

/-- in particular the dictionary modules are always opened with page ordinal 0, whatever the data
    page ordinal of the reader is at that moment -/
theorem lazy_dictionary_uses_ordinal_zero (pc : PChunk) (ops : List POp) (e : Ev)
    (he : e ∈ (prun pc ops).1.r.log) (rg col : Nat)
    (hs : e.slot = .dictPageHeader rg col ∨ e.slot = .dictPage rg col) :
    e.used.ords = [rg, col, 0] := by
  rw [api_reader_ordinals_agree pc ops e he]
  rcases hs with h | h <;> rw [h] <;> rfl

/-- non-vacuity: a seek (with offset index) into the third page of a dictionary chunk: `ReadPage`
    opens data page 2 and then — the dictionary page was jumped over — the dictionary modules, while
    the reader's data page ordinal is 3; the caller gets page 2 without its first 50 rows -/
example :
    let pc : PChunk := { c := { rg := 1, col := 4, hasDict := true, npages := 4 }, rows := [100, 100, 100, 100],
                         dictEnc := [true, true, true, false], indexed := true }
    let out := prun pc [.seek 250, .readPage]
    out.1.r.log.map (·.slot) = [.dataPageHeader 1 4 2, .dataPage 1 4 2, .dictPageHeader 1 4, .dictPage 1 4] ∧
    out.1.r.ord = 3 ∧ out.2 = [(.done, 0), (.page 2 50, 4)] := by decide +kernel

/-- sensitivity witness (NOT the code): the dictionary modules opened with the
    reader's data page ordinal are opened with other arguments than the ones they were sealed with
    as soon as one data page has been read -/
theorem dictionary_with_data_page_ordinal_is_wrong (rg col ord : Nat) (h : ord ≠ 0) :
    (Used.mk .dictPageHeader [rg, col, ord]) ≠ (Module.dictPageHeader rg col).used := by
  intro hc
  simp [Module.used, Module.type, Module.ords] at hc
  exact h hc

/-- non-vacuity: without offset index a seek rewinds, and `ReadPage` opens every page before the
    target row; `ReadDictionary` first, so the stream's dictionary page is never met and not needed -/
example :
    let pc : PChunk := { c := { rg := 0, col := 0, hasDict := true, npages := 3 }, rows := [10, 10, 10],
                         dictEnc := [true, true, true], indexed := false }
    let out := prun pc [.readDictionary, .seek 25, .readPage, .readPage]
    out.1.r.log.map (·.slot) = [.dictPageHeader 0 0, .dictPage 0 0, .dataPageHeader 0 0 0, .dataPage 0 0 0,
      .dataPageHeader 0 0 1, .dataPage 0 0 1, .dataPageHeader 0 0 2, .dataPage 0 0 2] ∧
    out.2 = [(.done, 2), (.done, 2), (.page 2 5, 8), (.eof, 8)] := by decide +kernel

/-- the cached page is served without opening anything -/
example :
    let pc : PChunk := { c := { rg := 0, col := 0, hasDict := false, npages := 3 }, rows := [10, 10, 10],
                         dictEnc := [false, false, false], indexed := true }
    (prun pc [.readPage, .readPage, .seek 17, .readPage, .readPage]).2 =
      [(.page 0 0, 2), (.page 1 0, 4), (.done, 4), (.page 1 7, 4), (.page 2 0, 6)] := by decide +kernel

section aead
variable {K N C : Type} (A : AEAD K N C)

/-- **Round trip at the level of the API**: a module sealed by the writer (any write history, Reset
    and BeginRowGroup included) in some slot is opened by a reader that reaches that slot through
    any history of API calls, and yields the plaintext. -/
theorem api_roundtrip (hI : Ideal A) (cfg : WCfg) (wops : List WOp)
    (pc : PChunk) (ops : List POp) (pfx : Bytes) (fuOf : Nat → Bytes)
    (ew : WEv) (hw : ew ∈ wclose cfg (wrun cfg wops)) (er : Ev) (hr : er ∈ (prun pc ops).1.r.log)
    (hslot : ew.slot = er.slot) (k : K) (n : N) (p : Bytes) :
    openModule A k (er.used.aad pfx (fuOf (wrun cfg wops).gen)) (sealModule A k n (ew.aad pfx fuOf) p) = some p := by
  obtain ⟨rops, h⟩ := prun_reach pc ops
  exact roundtrip_reused_writer A hI cfg wops pc.c rops pfx fuOf ew hw er (h ▸ hr) hslot k n p

end aead

example : Ideal symAEAD := symAEAD_ideal

end PqModel.Props.C18Reader
