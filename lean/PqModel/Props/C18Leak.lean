import PqModel.EncEmit

/-! # C18, leak part — values, statistics and index entries of encrypted columns never reach the file raw

Theorems over `EncEmit.emit`, the mirror of which buffers `writer.go` hands to the destination
raw and which through `encryptModule` (tied to the source by `Props/FactsCheckC18.lean`). They
hold for EVERY file structure (any number of row groups, columns, pages, dictionaries, bloom
filters, any column metadata) and every configuration (footer mode, key assignment, deferred
bloom filters). PARTIAL in one respect, stated below: `sealed_under_own_key_partial`. -/
namespace PqModel.Props.C18Leak
open PqModel.Aad PqModel.EncEmit

/-- With encryption configured and a footer key present, every region that carries values,
    statistics or index entries of a column (page header, page body, dictionary, bloom filter,
    column index, offset index, column metadata with statistics / encoding statistics / size
    histograms) goes through `encryptModule`. (Every column is an encrypted column in this API:
    a column without its own key uses the footer key.) -/
theorem encrypted_columns_never_raw (fs : FileS) (cfg : EncCfg) (he : cfg.enabled = true) (hk : cfg.footerKeySet = true) :
    ∀ p ∈ emit fs cfg, p.content.column.isSome → p.sealed.isSome := by
  intro p hp hc
  obtain ⟨col, hc⟩ := Option.isSome_iff_exists.1 hc
  rcases (emit_shape fs cfg p hp).of_column he hc with ⟨c, m, rfl⟩ | ⟨_, rg, m, rfl⟩
  · simpa [viaKey] using keyOf_isSome he hk col
  · rfl

example : (⟨true, true, fun c => c == 1, false, true⟩ : EncCfg).enabled = true ∧
    (⟨.pageBody 0 1 0, some (.column 1, .dataPage 0 1 0)⟩ : Piece) ∈
      emit ⟨[[⟨true, 1, true, ColMeta.zero⟩, ⟨false, 2, true, { ColMeta.zero with stats := some ([1], [2]) }⟩]]⟩ ⟨true, true, fun c => c == 1, false, true⟩ := by decide

/-- Plaintext-footer mode: the column metadata that stays raw in the footer carries no statistics,
    no encoding statistics and no size histograms (whatever the chunk's real metadata holds); only
    the bloom filter offset and length of a deferred bloom filter survive in it. -/
theorem raw_footer_carries_no_statistics (fs : FileS) (cfg : EncCfg) (he : cfg.enabled = true) (hk : cfg.footerKeySet = true) :
    ∀ p ∈ emit fs cfg, p.sealed = none → ∀ rg col m, p.content = .columnMeta rg col m →
      m.stats = none ∧ m.encodingStats = [] ∧ m.sizeHistograms = [] := by
  intro p hp hs rg col m hc
  have := encrypted_columns_never_raw fs cfg he hk p hp
  rw [hs, hc] at this
  simp only [Content.column, Option.isSome_none] at this
  cases hsens : m.sensitive with
  | true => simp [hsens] at this
  | false =>
    simp only [ColMeta.sensitive, Bool.or_eq_false_iff, Bool.not_eq_false', Option.isSome_eq_false_iff, Option.isNone_iff_eq_none,
      List.isEmpty_iff] at hsens
    exact ⟨hsens.1.1, hsens.1.2, hsens.2⟩

/-- non-vacuity: a chunk with statistics, plaintext footer: the raw copy is there and is empty -/
example : (⟨.columnMeta 0 0 ColMeta.zero, none⟩ : Piece) ∈
    emit ⟨[[⟨false, 1, false, { ColMeta.zero with stats := some ([1], [9]), encodingStats := [(0, 0, 1)] }⟩]]⟩ ⟨true, true, fun _ => false, false, false⟩ := by decide

/-- A sealed region is sealed for its own module (so that `C18.aad_injective` applies to it), or it
    is part of the footer envelope. -/
theorem sealed_for_own_module (fs : FileS) (cfg : EncCfg) :
    ∀ p ∈ emit fs cfg, ∀ k m, p.sealed = some (k, m) → m = .footer ∨ ∃ col, p.content.modCol = some (m, col) := by
  intro p hp k m hs
  cases emit_shape fs cfg p hp with
  | framing c h => simp [raw] at hs
  | plainMeta rg col m' h => simp [raw] at hs
  | redacted rg col ch => simp [raw] at hs
  | keyed col c m' h =>
    simp only [viaKey, Option.map_eq_some_iff] at hs
    obtain ⟨_, _, hkm⟩ := hs
    cases hkm
    exact Or.inr ⟨col, h⟩
  | inFooter c h hf => simp [viaKey] at hs; exact Or.inl hs.2.symm

/-- What the code does WITHOUT a footer key (`EncryptionConfig{ColumnKeys: …}` only; the writer
    never validates the configuration): `columnKeyFor` returns nil for the columns without a key
    of their own, `c.encKey != nil` is false, and their pages are written raw until Close fails in
    `encryptModule` on the footer. Reported as an observation: no file is completed. -/
theorem without_footer_key_pages_are_raw :
    (⟨.pageBody 0 0 0, none⟩ : Piece) ∈ emit ⟨[[⟨false, 1, false, ColMeta.zero⟩]]⟩ ⟨true, false, fun _ => false, true, false⟩ := by decide

/-- PARTIAL: a column with a key of its own has its pages, dictionary, bloom filter, page index and
    (plaintext-footer mode) column metadata sealed under THAT key.
    OPEN (false for the code as it is): "every region carrying data of a column with its own key is
    sealed under that key". In encrypted-footer mode the column metadata, statistics included, is
    sealed only inside the footer envelope, under the FOOTER key (writer.go:1450-1479; the format
    document seals it separately under the column key): see `footer_key_opens_column_key_statistics`. -/
theorem sealed_under_own_key_partial (fs : FileS) (cfg : EncCfg) (he : cfg.enabled = true) (col : Nat) (hc : cfg.hasColKey col = true) :
    ∀ p ∈ emit fs cfg, p.content.column = some col →
      (∃ m, p.sealed = some (.column col, m)) ∨ (cfg.encFooter = true ∧ ∃ rg m, p.content = .columnMeta rg col m) := by
  intro p hp hcol
  have hkey : keyOf cfg col = some (.column col) := by simp [keyOf, he, hc]
  rcases (emit_shape fs cfg p hp).of_column he hcol with ⟨c, m, rfl⟩ | ⟨hf, rg, m, rfl⟩
  · exact Or.inl ⟨m, by simp [viaKey, hkey]⟩
  · exact Or.inr ⟨hf, rg, m, rfl⟩

/-- witness for the OPEN part: encrypted footer, column 0 has its own key, its statistics are
    sealed under the footer key only -/
theorem footer_key_opens_column_key_statistics :
    (⟨.columnMeta 0 0 { ColMeta.zero with stats := some ([1], [9]) }, some (.footer, .footer)⟩ : Piece) ∈
      emit ⟨[[⟨false, 1, false, { ColMeta.zero with stats := some ([1], [9]) }⟩]]⟩ ⟨true, true, fun _ => true, true, false⟩ := by decide

end PqModel.Props.C18Leak
