import PqModel.PoolAsyncExec
import PqModel.AsyncInv
import PqModel.PoolAsyncHeap

/-! # C16, asynchronous page reader: who may touch / release a page buffer at each step

Theorems over `PqModel.PoolAsync`: the transition system of `asyncPages` (page.go:121-328, all
interleavings of the consumer's `ReadPage`/`SeekToRow`/`Close`, of the producer goroutine and of an
application that retains and releases the pages it was given at any moment) extended by the
refcounted page storage, the `lastPage` cache of the wrapped `FilePages` and the producer's /
consumer's local page variables. `OReach U o`: `o` is reachable for the wrapped reader `U` (any page
layout, any pattern of EOF / recoverable / fatal errors, any choice of which pages the wrapped
reader serves from its cache and of how many pages it decodes and skips inside one `ReadPage`). -/
namespace PqModel.Props.C16Async
open PqModel.Async PqModel.PoolAsync

/-- In every reachable state no reference count was
    ever decremented below zero and no released buffer was referenced again (`bug = false`: none of
    the panics of `buffer.ref`/`unref`), and the reference count of every page storage is exactly
    the number of its owners: the producer's `page` (page.go:290), the consumer's `p.page`
    (page.go:190), the wrapped reader's `lastPage` (file.go:1319) and the references held by the
    application; the storage is in the pool exactly when that number is zero. -/
theorem async_ownership_invariant (U : Under) {o : O} (hr : OReach U o) :
    o.h.bug = false ∧
    (∀ b, o.h.refc b = cnt o.sendB b + cnt o.gotB b + cnt o.last b + o.appc b) ∧
    (∀ b, b < o.h.nbuf → (o.h.pooled b = true ↔ o.h.refc b = 0)) := by
  have hi := oinv_reach hr
  exact ⟨hi.heap.nobug, hi.heap.count, hi.heap.pool⟩

/-- While the application holds a reference on a
    page returned by `ReadPage` (it has not released all of its own references), the storage is
    not in the pool — so no `get` of anybody can return and overwrite it — whatever the producer
    goroutine, later `SeekToRow`/`ReadPage`/`Close` calls and the wrapped reader's cache do. -/
theorem async_caller_page_never_pooled (U : Under) {o : O} (hr : OReach U o) {b : Nat}
    (hb : 0 < o.appc b) : o.h.pooled b = false ∧ o.appc b ≤ o.h.refc b ∧ b < o.h.nbuf := by
  have hi := oinv_reach hr
  have hpos : 0 < claims o b := Nat.lt_of_lt_of_le hb (Nat.le_add_left _ _)
  exact ⟨hi.heap.not_pooled hpos, hi.heap.count b ▸ Nat.le_add_left _ _, hi.heap.lt hpos⟩

/-- The page the producer offers on
    the channel (or is about to release in its `select`) and the page the consumer has received
    and not yet tested are not in the pool: the `Release` each of them performs (page.go:175, 210,
    317, 320) is the release of a reference it owns, and nobody else has returned the storage. The
    same holds of the page the wrapped reader keeps cached (`o.last`). -/
theorem async_in_flight_not_pooled (U : Under) {o : O} (hr : OReach U o) {b : Nat}
    (hb : o.sendB = some b ∨ o.gotB = some b ∨ o.last = some b) :
    o.h.pooled b = false ∧ 0 < o.h.refc b := by
  have hi := oinv_reach hr
  have hpos : 0 < claims o b := by
    rcases hb with h | h | h
    · exact claims_pos_send h
    · exact claims_pos_got h
    · exact claims_pos_last h
  exact ⟨hi.heap.not_pooled hpos, hi.heap.count b ▸ hpos⟩

theorem eff_appc_mono (o : O) (c : Bool) (n : Nat) (e : Ev) (b : Nat) :
    o.appc b ≤ (eff o c n e).appc b := by
  cases e with
  | deliver => exact Nat.le_add_right _ _
  | bodyOffer r v => exact Nat.le_of_eq (by rw [eff, offerEff_appc, skipUnder_appc])
  | _ => exact Nat.le_refl _

/-- Every step other than the
    application's `Release` of that very page leaves the application's references on it in place;
    with `async_caller_page_never_pooled` (applied to the state after the step): the page stays out
    of the pool across every step of the producer, every `ReadPage`, `SeekToRow` and `Close`. -/
theorem async_caller_page_survives_step (U : Under) {o o' : O} {l : Lbl} (hr : OReach U o)
    (hs : OStep U o l o') {b : Nat} (hb : 0 < o.appc b) (hl : l ≠ .appRelease b) :
    0 < o'.appc b ∧ o'.h.pooled b = false := by
  have hr' : OReach U o' := hr.step hs
  have hpos : 0 < o'.appc b := by
    cases hs with
    | lib c n hs => rename_i e g'; exact Nat.lt_of_lt_of_le hb (eff_appc_mono o c n e b)
    | appRetain ha => exact Nat.lt_of_lt_of_le hb (Nat.le_add_right _ _)
    | appRelease ha =>
      rename_i b'
      have hne : b' ≠ b := fun e => hl (by rw [e])
      have : ¬ some b' = some b := by intro h; cases h; exact hne rfl
      simp only [cnt, this]; exact hb
  exact ⟨hpos, (async_caller_page_never_pooled U hr' hpos).1⟩

/-- Once `Close` has returned, the library holds no reference on
    any page storage: every reference count equals the number of references the application still
    holds, and every page storage the application does not hold is back in the pool. (That `Close`
    returns: C15, `async_no_deadlock` and the fairness theorems.) -/
theorem async_close_keeps_only_caller_refs (U : Under) {o : O} (hr : OReach U o)
    (hc : o.g.cpc = .closed) :
    (∀ b, o.h.refc b = o.appc b) ∧ (∀ b, b < o.h.nbuf → o.appc b = 0 → o.h.pooled b = true) := by
  have hi := oinv_reach hr
  have hp := (ctl_reachable (oreach_proj hr)).closed_exit hc
  have hs : o.sendB = none := hi.sendB_none fun it h => by rw [hp] at h; cases h
  have hg : o.gotB = none := hi.gotB_none fun it h => by rw [hc] at h; cases h
  have hcount : ∀ b, o.h.refc b = o.appc b := fun b => by
    rw [hi.heap.count b, claims, hs, hg, hi.fin_last (.inr hp)]; simp only [cnt_none, Nat.zero_add]
  exact ⟨hcount, fun b hlt h0 => (hi.heap.pool b hlt).mpr (by rw [hcount b, h0])⟩

/-- the protocol theorems of C15 apply to the extended system: its protocol component is a
    reachable state of `PqModel.Async` -/
theorem async_ownership_projects (U : Under) {o : O} (hr : OReach U o) : Reachable U o.g :=
  oreach_proj hr

/-- the executable successor function run by `pqdriver` (op `asyncown.run`) is the relation -/
theorem async_ownership_exec_iff (U : Under) (o : O) (l : Lbl) (o' : O) :
    onext? U o l = some o' ↔ OStep U o l o' := ⟨onext?_sound, onext?_complete⟩

/-- The storage operations are `PqModel.Pool`'s buffer operations (the mirror of buffer.go
    `ref` / `unref` / `bufferPool.get` that C16's buffer-event replay `pool.trace` ties to the
    library): as long as the two heaps agree on reference counts, pool membership and panics, they
    agree after `bufferUnref`, after `bufferRef` and after the decode of a page into a new buffer
    (with and without the cache's `Retain`). Hence `pooled b = false` here is `inPool = false` there,
    and `Pool`'s `get` returns pooled buffers only. -/
theorem async_storage_ops_are_pool_ops {h : Hp} {H : Pool.Heap} (a : Agree h H) (hw : Pool.HW H) :
    (∀ b, b < h.nbuf → Agree (h.unref (some b)) (H.unref b)) ∧
    (∀ b, Agree (h.ref b) (H.ref b)) ∧
    (∀ d, Agree h.alloc1 (H.get H.nbufs d).1 ∧ Agree h.alloc ((H.get H.nbufs d).1.ref H.nbufs)) ∧
    Agree PoolAsync.init.h Pool.Heap.init :=
  ⟨fun _ _ => agree_unref a hw, fun _ => agree_ref a, fun _ => agree_alloc a hw, agree_init⟩

example : Agree PoolAsync.init.h Pool.Heap.init ∧ Pool.HW Pool.Heap.init := ⟨agree_init, Pool.HW_init⟩

/-- two pages of two rows each -/
def U2 : Under :=
  { next := fun p => if p < 2 then 2 else if p < 4 then 4 else p,
    rd := fun p => if p < 4 then .page else .eof, sk := fun _ => .ok }

/-- ReadPage delivers page 0; the producer prefetches page 1 (the wrapped reader drops its cached
    reference on page 0); the application still holds page 0: its LAST reference is the caller's,
    the storage is not pooled. Then SeekToRow makes the producer release the prefetched page, and
    Close drains: storage 1 is pooled, storage 0 still the caller's. -/
def witness : List Lbl :=
  [.lib .readBegin false 0, .lib .initPass false 0, .lib .pollEmpty false 0,
   .lib (.bodyOffer (.page 0) 0) false 0, .lib .handoff false 0, .lib (.deliver (.page 0) 0) false 0,
   .lib (.bodyOffer (.page 2) 0) false 0,
   .lib (.seekPoll false) false 0, .lib (.seekSend 0 1) false 0, .lib (.selTake 0 1) false 0,
   .lib .closeBegin false 0, .lib .bodyCont false 0, .lib (.bodyOffer (.page 0) 1) false 0,
   .lib .selDone false 0, .lib .closeFinal false 0, .lib .closeEnd false 0]

example : ocheck U2 (witness.take 7) (fun o => o.appc 0 = 1 ∧ o.h.refc 0 = 1 ∧ o.h.pooled 0 = false ∧
    o.h.refc 1 = 2 ∧ o.last = some 1 ∧ o.sendB = some 1) = true := by decide +kernel

example : ocheck U2 witness (fun o => o.g.cpc = .closed ∧ o.appc 0 = 1 ∧ o.h.refc 0 = 1 ∧
    o.h.pooled 0 = false ∧ o.h.pooled 1 = true ∧ o.h.pooled 2 = true ∧ o.h.nbuf = 3 ∧
    o.h.bug = false) = true := by decide +kernel

/-- a reachable state in which the application holds a page and Close has returned -/
example : ∃ o, OReach U2 o ∧ 0 < o.appc 0 ∧ o.g.cpc = .closed := by
  obtain ⟨o, hr, hp⟩ := ocheck_reach (U := U2) (ls := witness)
    (p := fun o => decide (0 < o.appc 0 ∧ o.g.cpc = .closed)) (by decide +kernel)
  exact ⟨o, hr, of_decide_eq_true hp⟩

/-- SeekToRow into the page the caller holds, while the producer offers the page it prefetched: the
    wrapped reader's cache has moved on to the prefetched page (storage 1) and keeps it when the
    producer's select takes the seek and releases its own reference; the caller's page (storage 0) is
    held by the caller alone and stays out of the pool. The list ends before the next offer, so no
    label takes the `cached = true` branch of `O.readUnder`. -/
def witnessCached : List Lbl :=
  [.lib .readBegin false 0, .lib .initPass false 0, .lib .pollEmpty false 0,
   .lib (.bodyOffer (.page 0) 0) false 0, .lib .handoff false 0, .lib (.deliver (.page 0) 0) false 0,
   .lib (.seekPoll false) false 0, .lib (.seekSend 1 1) false 0,
   .lib (.bodyOffer (.page 2) 0) false 0, .lib (.selTake 1 1) false 0, .lib .bodyCont false 0]

example : ocheck U2 witnessCached (fun o => o.last = some 1 ∧ o.h.pooled 0 = false ∧ o.appc 0 = 1)
    = true := by decide +kernel

/-- SeekToRow behind the last row: the wrapped `ReadPage` decodes the last page, skips it and
    answers io.EOF (`skipped = 1`): the cache now holds the skipped page (storage 2), the storage of
    the page prefetched before the seek (1) is back in the pool, the caller's page (0) untouched -/
def witnessSkip : List Lbl :=
  [.lib .readBegin false 0, .lib .initPass false 0, .lib .pollEmpty false 0,
   .lib (.bodyOffer (.page 0) 0) false 0, .lib .handoff false 0, .lib (.deliver (.page 0) 0) false 0,
   .lib (.bodyOffer (.page 2) 0) false 0,
   .lib (.seekPoll false) false 0, .lib (.seekSend 4 1) false 0, .lib (.selTake 4 1) false 0,
   .lib .bodyCont false 0, .lib (.bodyOffer .eof 1) false 1]

example : ocheck U2 witnessSkip (fun o => o.last = some 2 ∧ o.h.refc 2 = 1 ∧ o.h.pooled 1 = true ∧
    o.h.refc 0 = 1 ∧ o.appc 0 = 1 ∧ o.h.pooled 0 = false ∧ o.sendB = none) = true := by decide +kernel

/-- a Release the application does not own is not a step of the system (the assumption of C16: the
    caller releases only what it holds); with it the storage WOULD be pooled under the caller -/
example : onext? U2 PoolAsync.init (.appRelease 0) = none := by decide +kernel

end PqModel.Props.C16Async
