import PqModel.SpliceMeta

/-! # C11 — "the metadata describes the bytes" on the verbatim copy path

Mirror: `SpliceMeta.loadCopiedV` / `writeCopiedV` / `spliceChunkV` / `spliceRowGroupV` / `sortEnc`
(writer_copy.go:458-565, writer.go:1590-1616, :1750, :2981-2988) on top of `Splice.loadCopied` /
`writeCopied`. Spec: `SpliceMeta.Describes` (parquet.thrift ColumnIndex / OffsetIndex /
SizeStatistics / Statistics / PageEncodingStats over page summaries `PageV`, layout numbers by
`Layout.chunkMeta`). The column order `le` and the size limit `lim` are arbitrary: bounds are
position independent, which is what makes carrying them over correct. The proofs are in
`SpliceMeta.lean` under the same names (`splice_index_aligned` adds a conjunct,
`encStats_sorted_perm_stable` is stated here only). -/
namespace PqModel.Props.C11Meta
open PqModel.Layout PqModel.Splice PqModel.SpliceMeta

/-- If the source chunk's metadata describes pages `ps` laid out at `srcStart` — layout numbers and
    offset index, column index (null pages, bounds, null counts, level histograms), size
    statistics, chunk statistics, encoding statistics — then `loadCopiedChunk` does not fail and the
    metadata `writeRowGroup` emits for the chunk spliced at `dstStart` describes the same pages
    there. Every page sequence, order, limit, source and destination offset. The values are the
    source's; the encoding statistics are a permutation of the source's. -/
theorem splice_describes (le : Bytes → Bytes → Bool) (lim srcStart dstStart : Nat) (src : FullMeta) (ps : List PageV)
    (h : Describes le lim src srcStart ps) :
    ∃ m, spliceChunkV src dstStart = some m ∧ Describes le lim m dstStart ps ∧
      m.columnIndex = src.columnIndex ∧ m.sizeStats = src.sizeStats ∧ m.statistics = src.statistics ∧
      m.encStats.Perm src.encStats :=
  SpliceMeta.splice_describes le lim srcStart dstStart src ps h

example : Describes exLe 8 (exMeta 4) 4 exPages := exMeta_describes
example : spliceChunkV (exMeta 4) 1000 = some { exMeta 1000 with encStats := [⟨0, 8, 2⟩, ⟨2, 0, 1⟩] } := by decide +kernel

/-- Source written under one `ColumnIndexSizeLimit`, destination configured with another (`limB`):
    the length check of `statisticsSettingsMatch` on the source's column index values is enough for
    the spliced metadata to describe the pages under the DESTINATION's limit (bounds stay bounds —
    they are position and configuration independent — and no entry exceeds `limB`). Joins
    `Props.C11.verbatim_conforms` (settings, on lengths) with the value level. -/
theorem splice_describes_limit (le : Bytes → Bytes → Bool) (limA limB srcStart dstStart : Nat) (src : FullMeta) (ps : List PageV)
    (h : Describes le limA src srcStart ps)
    (hlim : limB > 0 → ∀ b ∈ src.columnIndex.minValues ++ src.columnIndex.maxValues, b.length ≤ limB) :
    ∃ m, spliceChunkV src dstStart = some m ∧ Describes le limB m dstStart ps :=
  SpliceMeta.splice_describes_limit le limA limB srcStart dstStart src ps h hlim

example : ∀ b ∈ (exMeta 4).columnIndex.minValues ++ (exMeta 4).columnIndex.maxValues, b.length ≤ 1 := by decide +kernel

/-- Offset index and column index of a spliced chunk stay aligned: the output has one rebased page
    location per data page (`specLocs` = true start, size, first row of every data page at the
    destination) and one column index entry per data page, in the same order. -/
theorem splice_index_aligned (le : Bytes → Bytes → Bool) (lim srcStart dstStart : Nat) (src : FullMeta) (ps : List PageV)
    (h : Describes le lim src srcStart ps) (hci : src.columnIndex ≠ ColumnIndex.none) :
    ∃ m, spliceChunkV src dstStart = some m ∧
      m.layout.locs = specLocs dstStart 0 (ops ps) ∧
      m.layout.locs.length = (datas ps).length ∧
      m.columnIndex.nullPages.length = (datas ps).length ∧
      m.columnIndex.minValues.length = (datas ps).length ∧
      m.columnIndex.maxValues.length = (datas ps).length := by
  obtain ⟨m, hm, hl, h1, h2, h3⟩ := SpliceMeta.splice_index_aligned le lim srcStart dstStart src ps h hci
  refine ⟨m, hm, hl, ?_, h1, h2, h3⟩
  rw [hl, specLocs_length]
  simp [dataPages, datas, ops, List.filter_map, Function.comp_def]

example : (exMeta 4).columnIndex ≠ ColumnIndex.none := by decide +kernel

/-- A row group all of whose columns are spliced: output chunk `i` describes the pages of source
    chunk `i` at the `i`-th back-to-back position from `start`, and the file offset after the
    chunks (where the bloom filter sections start, `Splice.placeBlooms`) is `start` plus the bytes
    of all chunks. -/
theorem splice_rowGroup_describes (le : Bytes → Bytes → Bool) (lim start : Nat)
    (cs : List (FullMeta × Nat)) (pss : List (List PageV)) (srcStarts : List Nat)
    (hl : cs.length = pss.length) (hl2 : cs.length = srcStarts.length)
    (hd : ∀ i (h1 : i < cs.length) (h2 : i < pss.length) (h3 : i < srcStarts.length),
        Describes le lim cs[i].1 srcStarts[i] pss[i]) :
    ∃ ms, spliceRowGroupV start cs = some (ms, start + ((pss.map fun ps => totalSize (ops ps)).sum)) ∧
      ms.length = pss.length ∧
      ∀ i (h1 : i < ms.length) (h2 : i < pss.length) (h3 : i < (chunkStarts start (pss.map ops)).length),
        Describes le lim ms[i] (chunkStarts start (pss.map ops))[i] pss[i] :=
  SpliceMeta.splice_rowGroup_describes le lim start cs pss srcStarts hl hl2 hd

example : spliceRowGroupBlooms 100 [(exMeta 4, 48), (exMeta 94, 0)] =
    some [({ exMeta 100 with encStats := [⟨0, 8, 2⟩, ⟨2, 0, 1⟩] }, some (280, 48)),
          ({ exMeta 190 with encStats := [⟨0, 8, 2⟩, ⟨2, 0, 1⟩] }, none)] := by decide +kernel

/-- The row group entry of a fully spliced row group: `file_offset` is where its first chunk
    starts, `total_compressed_size` is exactly the number of bytes up to the offset after the last
    chunk (where the bloom filter sections begin), `total_byte_size` is the sum of the pages'
    header + uncompressed sizes. -/
theorem splice_rowGroup_totals (le : Bytes → Bytes → Bool) (lim start : Nat)
    (cs : List (FullMeta × Nat)) (pss : List (List PageV)) (srcStarts : List Nat)
    (hl : cs.length = pss.length) (hl2 : cs.length = srcStarts.length)
    (hd : ∀ i (h1 : i < cs.length) (h2 : i < pss.length) (h3 : i < srcStarts.length),
        Describes le lim cs[i].1 srcStarts[i] pss[i]) :
    ∃ ms endOff, spliceRowGroupV start cs = some (ms, endOff) ∧
      (rowGroupTotals start ms).fileOffset = start ∧
      start + (rowGroupTotals start ms).totalCompressedSize = endOff ∧
      (rowGroupTotals start ms).totalByteSize =
        (pss.map fun ps => ((ops ps).map fun p => p.hdrLen + p.uncompLen).sum).sum :=
  SpliceMeta.splice_rowGroup_totals le lim start cs pss srcStarts hl hl2 hd

example : (spliceRowGroupV 100 [(exMeta 4, 48), (exMeta 94, 0)]).map (fun r => (rowGroupTotals 100 r.1, r.2)) =
    some (⟨100, 214, 180, 7⟩, 280) := by decide +kernel

/-- `sortPageEncodingStats` on a copied chunk: the result is ordered by (page type, encoding), is a
    permutation of the source's entries, and leaves already ordered statistics (every chunk written
    by this library) untouched — so a spliced chunk's encoding statistics still count its pages. -/
theorem encStats_sorted_perm_stable (es : List EncStat) :
    (sortEnc es).Pairwise (fun a b => encLe a b = true) ∧ (sortEnc es).Perm es ∧
    (es.Pairwise (fun a b => encLe a b = true) → sortEnc es = es) :=
  ⟨sortEnc_sorted es, sortEnc_perm es, sortEnc_of_sorted es⟩

example : sortEnc [⟨2, 0, 1⟩, ⟨0, 8, 2⟩, ⟨0, 0, 1⟩] = [⟨0, 0, 1⟩, ⟨0, 8, 2⟩, ⟨2, 0, 1⟩] := by decide +kernel

end PqModel.Props.C11Meta
