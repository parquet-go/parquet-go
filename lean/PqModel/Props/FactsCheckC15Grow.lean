import PqModel.Generated.Facts

/-! # C15 — source-level fact: in internal/memory a put is the last touch

`Generated/Facts.lean` is rewritten by `tools/factgen` (family `poolputs`) from the current source on
every run: for every `putSliceToPool(x, ..)` / `<pool>.Put(x)` in internal/memory, whether a
statement that runs later in the same function still names the object or storage that aliases it
(name-based forward walk over go/ast; the invariant `b.data` aliases `b.slice.data` of SliceBuffer
is assumed on entry). `Props/C15Grow.slicebuffer_grow_exclusive` needs exactly this of every
ending of a storage generation (`disc`: no touch after the put). With seed C15-7a applied the row of
reserve's growth branch reads
`("SliceBuffer.reserve", "putSliceToPool(oldSlice, elemSize)", true, "b.slice.data = append(b.slice.data, b.data...)")`.
The analysis is trusted (AST level, no types, does not follow calls). -/
namespace PqModel.Props.FactsCheckC15Grow
open PqModel.Generated.Facts

/-- no function of internal/memory touches an object, or storage aliasing it, after handing it to a
    pool -/
theorem memory_put_is_last_touch : memoryPutSites.all (fun r => !r.2.2.1) = true := by decide

/-- the put sites of the reviewed source (the endings mirrored by `PoolGrow.ending`, the chunk
    buffer's Reset, and the two layers of the pool itself): a new one changes the table and must be
    given a program in the pool model -/
def expectedPutSites : List (String × String) := [
  ("ChunkBuffer.Reset", "slicePools[bucketIndex].Put(b.chunks[i])"),
  ("Pool.Put", "p.pool.Put(v)"),
  ("SliceBuffer.reserve", "putSliceToPool(b.slice, elemSize)"),
  ("SliceBuffer.reserve", "putSliceToPool(oldSlice, elemSize)"),
  ("SliceBuffer.AppendFunc", "putSliceToPool(b.slice, int(unsafe.Sizeof(*new(T))))"),
  ("SliceBuffer.Reset", "putSliceToPool(b.slice, elemSize)"),
  ("putSliceToPool", "slicePools[bucketIndex].Put(byteSlice)")]

theorem memory_put_sites_expected :
    memoryPutSites.map (fun r => (r.1, r.2.1)) = expectedPutSites := by decide +kernel

end PqModel.Props.FactsCheckC15Grow
