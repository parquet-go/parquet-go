import PqModel.CopyPathProofs

/-! # C11 — the verbatim copy and the destination's dictionary size limit

A chunk written under `DictionaryMaxBytes(L)` that outgrew its dictionary holds a dictionary page,
dictionary-encoded data pages and PLAIN data pages (writer.go:2157-2190, `fallbackDictionaryToPlain`).
Whether the row path under the DESTINATION's configuration would write such a chunk depends on the
destination's own limit, which `columnChunkIsCopyable` never reads (it is not a field of `DstCol`).
The copy predicate is therefore only sound because `encodingStatsMatch` (writer_copy.go:378-411)
demands that EVERY data page carries the destination's configured encoding: a chunk that fell back
is never spliced, whatever the two limits are.

MIRROR: `encodingStatsLoopF` = the loop of `encodingStatsMatch` with a flag; `false` is the library
(`loopF_false_is_mirror`: identical to `CopyPath.encodingStatsLoop`), `true` the slipped variant
that also accepts PLAIN pages for a dictionary-encoded destination.
SPEC: `HonoursDictLimit` (from the documentation of `DictionaryMaxBytes`, config.go:809-820): a data
page departs from the configured encoding only as a PLAIN page of a dictionary column whose
dictionary exceeded a limit that is set. -/
namespace PqModel.Props.C11Fallback
open PqModel.CopyPath

/-- MIRROR (flagged) of writer_copy.go:378-411, the loop of `encodingStatsMatch`; `acceptPlain` =
    the variant `s.Encoding != wantEncoding && !(wantDict && s.Encoding == format.Plain)` -/
def encodingStatsLoopF (acceptPlain : Bool) (d : DstCol) : List EncStat → Bool → Bool
  | [], saw => d.dict == saw
  | s :: rest, saw =>
    if s.pageType = 2 then
      if !d.dict then false else encodingStatsLoopF acceptPlain d rest true
    else if s.pageType = 0 ∨ s.pageType = 3 then
      if s.pageType ≠ d.pageType then false
      else if s.encoding ≠ d.encoding ∧ !(acceptPlain && d.dict && s.encoding == 0) = true then false
      else encodingStatsLoopF acceptPlain d rest saw
    else false

def encodingStatsMatchF (acceptPlain : Bool) (stats : List EncStat) (d : DstCol) : Bool :=
  if stats.isEmpty then false else encodingStatsLoopF acceptPlain d stats false

theorem loopF_false_is_mirror (d : DstCol) (stats : List EncStat) (saw : Bool) :
    encodingStatsLoopF false d stats saw = encodingStatsLoop d stats saw := by
  induction stats generalizing saw with
  | nil => rfl
  | cons s rest ih =>
    simp only [encodingStatsLoopF, encodingStatsLoop, ih, Bool.false_and, Bool.false_eq_true, decide_false,
      Bool.not_false, and_true]

theorem matchF_false_is_mirror (stats : List EncStat) (d : DstCol) :
    encodingStatsMatchF false stats d = encodingStatsMatch stats d := by
  simp only [encodingStatsMatchF, encodingStatsMatch, loopF_false_is_mirror]

/-- every entry the loop accepts is a dictionary page or a data page of the destination's page
    version AND the destination's configured encoding -/
theorem loop_exact (d : DstCol) (stats : List EncStat) (saw : Bool)
    (h : encodingStatsLoop d stats saw = true) :
    ∀ s ∈ stats, s.pageType = 2 ∨ (s.pageType = d.pageType ∧ s.encoding = d.encoding) :=
  fun s hs => ((encodingStatsLoop_sound d stats saw h).1 s hs).imp And.left And.right

/-- SPEC: the data pages of a chunk honour the encoding setting of the destination column under a
    dictionary limit `limit` (0 = none), `dictBytes` being the size of the chunk's dictionary: a
    page is written in the configured encoding, or it is a PLAIN page of a dictionary column whose
    dictionary outgrew a limit that is set. -/
def HonoursDictLimit (limit dictBytes : Nat) (d : DstCol) (c : ChunkMeta) : Prop :=
  ∀ p ∈ c.pages, p.encoding = d.encoding ∨
    (d.dict = true ∧ p.encoding = 0 ∧ limit > 0 ∧ dictBytes > limit)

/-- A chunk the copy predicate accepts holds data pages of the destination's configured encoding
    only — no page written after a dictionary fallback — for either variant of the predicate. -/
theorem spliced_pages_exact (v : Variant) (d : DstCol) (c : ChunkMeta)
    (h : columnChunkIsCopyable v d c = true) (hf : EncStatsFaithful c) :
    ∀ p ∈ c.pages, p.ptype = d.pageType ∧ p.encoding = d.encoding := by
  have hl : encodingStatsLoop d c.encStats false = true :=
    (of_if_false (copyable_col_facts h).encStats).2
  intro p hp
  obtain ⟨hne, s, hs, hpt, henc⟩ := hf.1 p hp
  rcases loop_exact d c.encStats false hl s hs with h2 | ⟨h1, h2⟩
  · exact absurd (hpt ▸ h2) hne
  · exact ⟨hpt ▸ h1, henc ▸ h2⟩

/-- The spliced chunk honours the destination's encoding setting under EVERY dictionary limit the
    destination may have and whatever size the source's dictionary has: the predicate need not
    (and does not) look at the limit, because it never accepts a chunk that fell back. -/
theorem verbatim_honours_dict_limit (v : Variant) (d : DstCol) (c : ChunkMeta) (limit dictBytes : Nat)
    (h : columnChunkIsCopyable v d c = true) (hf : EncStatsFaithful c) :
    HonoursDictLimit limit dictBytes d (copied d c) := by
  intro p hp
  have hp' : p ∈ c.pages := by
    unfold copied at hp
    split at hp <;> exact hp
  exact Or.inl (spliced_pages_exact v d c h hf p hp').2

/-! ### The slipped variant: PLAIN pages accepted for a dictionary-encoded destination -/

/-- source chunk written under a small `DictionaryMaxBytes`: dictionary page (95 bytes), one
    RLE_DICTIONARY page, two PLAIN pages -/
def fallbackSource : ChunkMeta :=
  { type := 6, codec := 0, encStats := [⟨2, 0, 1⟩, ⟨0, 8, 1⟩, ⟨0, 0, 2⟩],
    columnIndexOffset := 100, offsetIndexOffset := 200,
    bloomOffset := 0, bloomLength := 0, bloomHeader := none, encrypted := false, numValues := 100,
    nullCount := 0, rows := 100, hasDictPage := true,
    pages := [⟨0, 8, false, false, 0, 2, 2⟩, ⟨0, 0, false, false, 0, 2, 2⟩, ⟨0, 0, false, false, 0, 2, 2⟩],
    hasMinMax := true, hasDeprecated := false }

/-- destination: the same column, dictionary encoded, no dictionary limit -/
def dictCol : DstCol :=
  { kind := 6, codec := 0, encoding := 8, dict := true, pageType := 0, filterBpv := none,
    filterCompressed := false, encrypted := false, pageStats := false, pageBounds := true,
    deprecatedStats := false, indexLimit := 16 }

theorem fallbackSource_faithful : EncStatsFaithful fallbackSource := by decide

/-- NEGATION WITNESS for the slipped variant: its encoding-stats check accepts a faithful source
    chunk that fell back from its dictionary, and the chunk spliced as it is does not honour the
    encoding setting of a destination without a dictionary limit (nor of one with a limit of 1000
    bytes, which the 95-byte dictionary never reached). -/
theorem slipped_accepts_fallback_chunk :
    encodingStatsMatchF true fallbackSource.encStats dictCol = true ∧
    EncStatsFaithful fallbackSource ∧
    ¬ HonoursDictLimit 0 95 dictCol (copied dictCol fallbackSource) ∧
    ¬ HonoursDictLimit 1000 95 dictCol (copied dictCol fallbackSource) := by
  refine ⟨by decide, fallbackSource_faithful, ?_, ?_⟩ <;>
  · intro h
    have := h ⟨0, 0, false, false, 0, 2, 2⟩ (by simp [copied, dictCol, fallbackSource])
    simp [dictCol] at this

theorem mirror_rejects_fallback_chunk :
    encodingStatsMatchF false fallbackSource.encStats dictCol = false ∧
    columnChunkIsCopyable .repaired dictCol fallbackSource = false := by decide +kernel

/-- non-vacuity of `spliced_pages_exact` / `verbatim_honours_dict_limit`: the same source without
    its PLAIN pages is accepted -/
def dictSource : ChunkMeta :=
  { type := 6, codec := 0, encStats := [⟨2, 0, 1⟩, ⟨0, 8, 3⟩],
    columnIndexOffset := 100, offsetIndexOffset := 200,
    bloomOffset := 0, bloomLength := 0, bloomHeader := none, encrypted := false, numValues := 100,
    nullCount := 0, rows := 100, hasDictPage := true,
    pages := [⟨0, 8, false, false, 0, 2, 2⟩, ⟨0, 8, false, false, 0, 2, 2⟩, ⟨0, 8, false, false, 0, 2, 2⟩],
    hasMinMax := true, hasDeprecated := false }
example : columnChunkIsCopyable .repaired dictCol dictSource = true := by decide +kernel
example : EncStatsFaithful dictSource := by decide

end PqModel.Props.C11Fallback
