import PqModel.RowsRefineCheck
import PqModel.Props.C13RowsBuf

/-! # C13 — the buffer-level mirror of `rowGroupRows` (`RowsBuf`) REFINES the abstract one (`RowsState`)

`RowsState` proves that the row reader of a row group never assembles a row from different row numbers,
whatever its column readers do (`fails` is a parameter). `RowsBuf` mirrors the real `ReadRows` /
`SeekToRow` / `Reset` with value buffers, look-ahead refill and repetition levels and is the mirror the
L2 sub-check C13/rowsbuf runs against the real reader. This file connects the two: the abstraction
(`RowsRefine.Rel`: same error field, same `rowIndex`, abstract column `j` on row `p` = what concrete
column `j` will still deliver — buffer, rest of the current page, pages from the cursor on — is the
rows `p, p+1, …` up to the end of the chunk or a rejected page; an abstract column of undefined
position, the one whose read failed, stands for any concrete column), the simulation (every operation of
`RowsBuf` is that operation of `RowsState` for some behaviour of the column readers) and, transferred
through it, the alignment theorem on the buffer-level mirror itself.

Hypotheses, all explicit: the file is well-formed (`WfFile`: every column chunk has the same `total`
rows in pages with consecutive row ranges, every row starts with repetition level 0), it has a
column, the value buffers are not empty, and `SeekToRow(k)` is called with `k ≤ total`. -/
namespace PqModel.Props.C13RowsRefine
open PqModel.RowsBuf PqModel.RowsRefine

/-- from related states (the abstract one aligned, as every
    reachable abstract state is), `ReadRows(n)` / `SeekToRow(k)` / `Reset` of the buffer-level mirror
    is the same operation of the abstract mirror for SOME behaviour `fails` of its column readers
    (when a column read fails depends on the buffers, which the abstract mirror leaves open): the
    states are related again and the results correspond (`OutRel`). -/
theorem every_step_is_an_abstract_step (file : List (List Page)) (total B : Nat) (hw : WfFile file total)
    (hne : file ≠ []) (hB : 0 < B) (st : St) (a : PqModel.RowsState.St) (hR : Rel file total st a)
    (hA : PqModel.RowsState.Aligned a) (op : Op) (hop : OpOk total op) :
    ∃ fails, Rel file total (step file B st op).1 (PqModel.RowsState.step fails total a (mapOp op)).1 ∧
      OutRel (step file B st op).2 (PqModel.RowsState.step fails total a (mapOp op)).2 :=
  step_refines file total B hw hne hB st a hR hA op hop

/-- a new reader is related to `RowsState.init`,
    and after EVERY history the buffer-level reader is related to an abstract state that satisfies the
    invariant `Aligned` of `RowsState`: unless the error is pending, the stream of every column starts
    with row `r.rowIndex`. -/
theorem every_history_reaches_an_aligned_abstract_state (file : List (List Page)) (total B : Nat)
    (hw : WfFile file total) (hne : file ≠ []) (hB : 0 < B) (ops : List Op) (hops : ∀ op ∈ ops, OpOk total op) :
    Rel file total (init file) (PqModel.RowsState.init file.length) ∧
    ∃ a, Rel file total (reach file B ops) a ∧ PqModel.RowsState.Aligned a :=
  ⟨init_rel file total hw, reach_rel file total B hw hne hB ops hops⟩

/-- The column-alignment theorem of `RowsState`, transferred: whatever the
    history of `ReadRows` (failed or not), `SeekToRow` and `Reset` on a new reader and whatever pages are
    rejected, a `ReadRows(n)` that returns rows returns `min n (total - r.rowIndex)` of them and no row
    is assembled from different row numbers: every value of row `i` is a value of row `r.rowIndex + i`. -/
theorem rows_are_aligned_buf (file : List (List Page)) (total B : Nat) (hw : WfFile file total)
    (hne : file ≠ []) (hB : 0 < B) (ops : List Op) (hops : ∀ op ∈ ops, OpOk total op) (n : Nat)
    (rs : List (List Val)) (eof : Bool) (h : (read file B (reach file B ops) n).2 = .rows rs eof) :
    rs.length = min n (total - (reach file B ops).rowIndex.toNat) ∧
    ∀ i r, rs[i]? = some r → ∀ v ∈ r, v.row = (reach file B ops).rowIndex.toNat + i := by
  obtain ⟨a, hR, hA⟩ := reach_rel file total B hw hne hB ops hops
  exact read_rows_aligned file total B hw hne hB _ a hR hA n rs eof h

/-- The same, executable (what the driver op `c13.rowsrefine` evaluates on the model of every file of
    the L2 sub-check C13/rowsbuf): the hypotheses are decided by the checker
    `wfFileB` / `opOkB` (proved sound), and when it accepts, the evaluator `alignedRun` of the conclusion
    over the whole history answers `true`. -/
theorem accepted_runs_are_aligned (file : List (List Page)) (total B : Nat) (ops : List Op)
    (hw : wfFileB file total = true) (hne : file ≠ []) (hB : 0 < B) (ho : ops.all (opOkB total) = true) :
    WfFile file total ∧ (∀ op ∈ ops, OpOk total op) ∧ alignedRun file B total (init file) ops = true :=
  ⟨wfFileB_sound file total hw, opOkB_sound total ops ho, alignedRun_true file total B ops hw hne hB ho⟩

/-- a failure stays what `RowsState` says it is: with the error pending both mirrors return it and
    change nothing (`error_is_sticky` / `error_is_sticky_buf`), so related states stay related -/
theorem pending_error_is_a_stutter (file : List (List Page)) (total B : Nat) (st : St)
    (a : PqModel.RowsState.St) (fails : PqModel.RowsState.Fails) (hR : Rel file total st a)
    (he : st.err = true) (n : Nat) :
    read file B st n = (st, .failed) ∧ PqModel.RowsState.read fails total a n = (a, .failed) := by
  have hae : a.err = true := by rw [hR.1, he]
  exact ⟨read_pending file B st n he, PqModel.RowsState.error_is_sticky fails total a n hae⟩

/-! the sample file of `C13RowsBuf` (two columns of 6 rows, pages
    of 3 and of 2 rows, page 1 of column 1 rejected) is well-formed -/

open PqModel.Props.C13RowsBuf in
example : wfFileB sample 6 = true ∧ sample ≠ [] ∧
    [Op.read 1, .read 2, .reset, .seek 4, .read 5].all (opOkB 6) = true := by decide +kernel

example : Rel C13RowsBuf.sample 6 (init C13RowsBuf.sample) (PqModel.RowsState.init 2) ∧
    PqModel.RowsState.Aligned (PqModel.RowsState.init 2) ∧ OpOk 6 (.seek 4) :=
  ⟨init_rel _ 6 (wfFileB_sound _ 6 (by decide)), PqModel.RowsState.init_aligned 2, by simp [OpOk]⟩

/-- the checker is not trivially true: a page whose row range does not continue the previous one, a
    row that starts with repetition level 1, a column with fewer rows -/
example : wfFileB [[C13RowsBuf.flat 0 false 0 0 3, C13RowsBuf.flat 0 false 1 4 2]] 6 = false ∧
    wfFileB [[{ bad := false, firstRow := 0, numRows := 1, vals := [⟨0, 0, 1, 0⟩] }]] 1 = false ∧
    wfFileB [[C13RowsBuf.flat 0 false 0 0 3], [C13RowsBuf.flat 1 false 0 0 2]] 3 = false := by decide +kernel

/-- a read that returns rows exists after a history with failures: rows 4 and 5 of both columns -/
example : (read C13RowsBuf.sample 8 (reach C13RowsBuf.sample 8 [.read 1, .read 2, .reset, .seek 4]) 5).2 =
    .rows [[⟨0, 4, 0, 1⟩, ⟨1, 4, 0, 2⟩], [⟨0, 5, 0, 1⟩, ⟨1, 5, 0, 2⟩]] true := by decide +kernel

/-- Why `WfFile` asks for ONE `total`: in a file whose second
    column chunk has fewer rows than the first — the footer of a real file cannot say that, a row
    group has one `NumRows` — there is no `total` for the count `min n (total - rowIndex)` to speak
    of, and the mirror returns 3 rows of which the last lacks column 1. -/
theorem short_column_yields_incomplete_rows :
    C13RowsBuf.outs [[C13RowsBuf.flat 0 false 0 0 3], [C13RowsBuf.flat 1 false 0 0 2]] 8 [.read 3] =
      [.rows [[⟨0, 0, 0, 0⟩, ⟨1, 0, 0, 0⟩], [⟨0, 1, 0, 0⟩, ⟨1, 1, 0, 0⟩], [⟨0, 2, 0, 0⟩]] true] := by decide +kernel

end PqModel.Props.C13RowsRefine
