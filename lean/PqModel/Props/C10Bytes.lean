import PqModel.SortBytes
import PqModel.SortCmp

/-! # C10 — the byte array column buffer keeps rows intact (`column_buffer_byte_array.go`)

Model: `PqModel/SortBytes.lean`. The BYTE_ARRAY column buffer (required string / `[]byte` columns,
and the base column of optional and repeated ones) describes value `i` by `offsets[i]`,
`lengths[i]`; `Swap` exchanges those, and `page()` hands out a page WITHOUT lengths (value `i` is
`values[offsets[i] : offsets[i+1]]`). "Each row intact across all its columns" therefore needs: the
page handed out lists, row by row, the value each row holds after the swaps. Theorems are unbounded
(every history of writes, swaps and `page()` calls, every byte type). -/
namespace PqModel.Props.C10
open PqModel.SortBuf

/-- after any sequence of value writes (empty values and
    nulls included), `Swap`s and `page()` calls — in any order, so also write, sort, read, write
    more, sort again — the buffer's invariant holds, row `i` holds the value that the list semantics
    of the operations (`baSpecStep`: append, swap two entries, nothing) puts at `i`, and the page
    handed out lists exactly these values in row order. With `sort.Sort` as any `Less`/`Swap`
    history this is what makes the `.req` columns of the `Buffer` model (`sort_correct`) a
    faithful description of string columns. -/
theorem bytearray_history_rows_intact {B : Type} (ops : List (BAOp B)) :
    let c := ops.foldl BACol.step BACol.empty
    c.BInv ∧ c.view = ops.foldl baSpecStep [] ∧ c.page.pageValues = ops.foldl baSpecStep [] := by
  intro c
  obtain ⟨h1, h2⟩ := BACol.run_spec ops BACol.empty BACol.binv_empty
  have hv : (BACol.empty : BACol B).view = [] := rfl
  rw [hv] at h2
  exact ⟨h1, h2, by rw [(BACol.page_spec h1).2.2]; exact h2⟩

example : (([.write [1, 2], .write [], .write [3], .swap 0 2, .page, .write [4], .swap 1 3, .page] : List (BAOp Nat)).foldl
    BACol.step BACol.empty).pageValues = [[3], [4], [1, 2], []] := by decide

/-- the value column of the `Buffer` model is the view of the byte array buffer: `Swap` on the
    buffer is `Swap` on the model column (so `swap_rows_intact`, `sort_correct` apply
    to BYTE_ARRAY columns through `view`) and `page()` does not change it -/
theorem bytearray_refines_req {B : Type} {c : BACol B} (h : c.BInv) (i j : Nat) :
    (Col.req (c.swap i j).view : Col (List B)) = (Col.req c.view).swap i j ∧
    (Col.req c.page.view : Col (List B)) = Col.req c.view := by
  constructor
  · simp only [Col.swap]; rw [BACol.view_swap h]
  · rw [(BACol.page_spec h).2.1]

example : ∃ c : BACol Nat, c.BInv ∧ c.view = [[], [7]] :=
  ⟨(BACol.empty.write []).write [7], BACol.binv_write (BACol.binv_write BACol.binv_empty _) _, by decide⟩

/-- whenever `byteArraysAreContiguous` answers yes, handing out the arrays as they are is right -/
theorem bytearray_contiguous_page_is_view {B : Type} {c : BACol B} (h : c.BInv)
    (hc : contigFrom 0 c.offsets c.lengths = true) : c.page = { c with endOff := some c.values.length } ∧
    c.page.pageValues = c.view := by
  have : c.page = { c with endOff := some c.values.length } := by
    simp [BACol.page, BACol.pageWith, hc]
  exact ⟨this, by rw [this]; exact BACol.pageValues_of_contig h hc⟩

example : ∃ c : BACol Nat, c.BInv ∧ contigFrom 0 c.offsets c.lengths = true :=
  ⟨(BACol.empty.write []).write [7], BACol.binv_write (BACol.binv_write BACol.binv_empty _) _, by decide⟩

/-- **negation, code as found** (`page()` rewrote the values only when the OFFSETS were out of
    order): write `""`, `"a"`, swap the two rows — the offsets are `[0, 0]` before and after, so no
    rewrite happens, and the page still lists `""`, `"a"` while the rows hold `"a"`, `""`. Every
    other column of the buffer did move: rows not intact. -/
theorem bytearray_page_as_found_rows_not_intact :
    ∃ ops : List (BAOp Nat),
      let c := ops.foldl BACol.stepFound BACol.empty
      c.BInv ∧ c.view = [[97], []] ∧ c.pageFound.pageValues = [[], [97]] :=
  ⟨[.write [], .write [97], .swap 0 1], by
    refine ⟨⟨by decide, by decide, by decide⟩, by decide, by decide⟩⟩

/-- … and the same history through the repaired `page()` -/
example : (([.write [], .write [97], .swap 0 1] : List (BAOp Nat)).foldl BACol.step BACol.empty).page.pageValues
    = [[97], []] := by decide

end PqModel.Props.C10
