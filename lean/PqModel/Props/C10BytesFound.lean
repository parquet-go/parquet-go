import PqModel.SortBytesFound

/-! # C10 — `byteArrayColumnBuffer.page()` as found: exactly the empty values fool it

Model: `PqModel/SortBytesFound.lean`. The defect of `page()` as found (it decided on the order of
the offsets whether the value bytes had to be rewritten in row order) is characterised from both
sides: a witness with an empty value (`bytearray_page_as_found_rows_not_intact`, `Props/C10Bytes.lean`)
and, here, correctness of the code AS FOUND on every history that writes no empty value. -/
namespace PqModel.Props.C10
open PqModel.SortBuf

/-- **code as found, no empty value written**: for every history of NON-EMPTY value writes, `Swap`s
    and (as-found) `page()` calls, the buffer's invariant holds, the rows hold what the list
    semantics says, and the page handed out by the as-found `page()` lists exactly these values in
    row order. So the defect needs an empty value next to a non-empty one — which no test of the
    library's suite ever sorted. -/
theorem bytearray_as_found_correct_without_empty_values {B : Type} (ops : List (BAOp B))
    (hne : ∀ v, BAOp.write v ∈ ops → v ≠ []) :
    let c := ops.foldl BACol.stepFound BACol.empty
    c.BInv ∧ c.view = ops.foldl baSpecStep [] ∧ c.pageFound.pageValues = ops.foldl baSpecStep [] := by
  intro c
  have h0 : (BACol.empty : BACol B).Good := ⟨BACol.binv_empty, BACol.laid_empty, by intro l hl; simp [BACol.empty] at hl⟩
  obtain ⟨hg, hv⟩ := BACol.runFound_spec ops hne BACol.empty h0
  have he : (BACol.empty : BACol B).view = [] := rfl
  rw [he] at hv
  exact ⟨hg.inv, hv, by rw [BACol.pageFound_spec_of_nonempty hg.inv hg.laid hg.pos]; exact hv⟩

example : (([.write [1, 2], .write [3], .swap 0 1, .page, .write [4], .swap 0 2] : List (BAOp Nat)).foldl
    BACol.stepFound BACol.empty).pageFound.pageValues = [[4], [1, 2], [3]] := by decide

/-- the layout fact behind it: a rearrangement of a back-to-back layout of non-empty values whose
    offsets are in non-decreasing order IS the back-to-back layout (the offsets are then pairwise
    distinct, and two sorted rearrangements of the same pairs are equal) -/
theorem bytearray_sorted_offsets_are_contiguous {B : Type} {c : BACol B} (h : c.BInv) (hl : c.Laid)
    (hpos : ∀ l ∈ c.lengths, 0 < l) (hs : c.offsets.Pairwise (· ≤ ·)) :
    contigFrom 0 c.offsets c.lengths = true :=
  BACol.contig_of_sorted_offsets h hl hpos hs

example : ∃ c : BACol Nat, c.BInv ∧ c.Laid ∧ (∀ l ∈ c.lengths, 0 < l) ∧ c.offsets.Pairwise (· ≤ ·) :=
  ⟨(BACol.empty.write [1, 2]).write [3],
   BACol.binv_write (BACol.binv_write BACol.binv_empty _) _,
   BACol.laid_write (BACol.binv_write BACol.binv_empty _) (BACol.laid_write BACol.binv_empty BACol.laid_empty _) _,
   by decide, by decide⟩

end PqModel.Props.C10
