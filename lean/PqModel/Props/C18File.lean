import PqModel.AadFile

/-! # C18 — the modules the reader opens from footer metadata (OpenFile, page index, bloom filter)

Theorems over the MIRROR `Aad.frun` (AadFile.lean), which routes every opening through the call-site table
`Aad.sites` (re-extracted from the source on every run): whatever calls a program makes, every
module is opened with the arguments of its slot; with the writer state machine and the ideal
AEAD: it opens. Tied to the code by the `modules` sub-check (op `aad.frun`): real `OpenFile`,
`ColumnIndex()`, `OffsetIndex()`, `BloomFilter()` histories with one module damaged fail at
exactly the call at which the mirror opens that module. -/
namespace PqModel.Props.C18File
open PqModel.Aad

/-- every call site the mirror goes through exists in the table (so `evAt` never drops an opening) -/
theorem sites_cover_file_reader :
    [("file.go:OpenFile", ModType.footer), ("file.go:File.decryptAllColumnMetadata", .columnMeta),
     ("file.go:File.ReadPageIndex", .columnIndex), ("file.go:File.ReadPageIndex", .offsetIndex),
     ("file.go:FileColumnChunk.readColumnIndexFrom", .columnIndex), ("file.go:FileColumnChunk.readOffsetIndex", .offsetIndex),
     ("file.go:FileColumnChunk.readBloomFilter", .bloomHeader), ("file.go:FileColumnChunk.readBloomFilter", .bloomBits)].all
      (fun p => (sites.find? (fun s => s.fn == p.1 && s.t == p.2)).isSome) = true := by decide +kernel

/-- Whatever sequence of `OpenFile` (with or without `SkipPageIndex`), `ColumnIndex()`,
    `OffsetIndex()` and `BloomFilter()` calls, on whatever file (any number of row groups and
    chunks, any of them without column index, offset index, bloom filter or sealed metadata), every
    module opened is opened with the AAD arguments of the slot it stands in. -/
theorem file_reader_ordinals_agree (f : FFile) (ops : List FOp) :
    ∀ e ∈ (frun f ops).1.log, e.used = e.slot.used :=
  frunFrom_good f ops finit [] (fun _ he => nomatch he)

/-- a lazily read index is opened once: the second call opens nothing -/
theorem lazy_column_index_opened_once (f : FFile) (s : FSt) (rg col : Nat) :
    fstep f (fstep f s (.columnIndex rg col)) (.columnIndex rg col) = fstep f s (.columnIndex rg col) := by
  simp only [fstep]
  by_cases hp : (hasAt f rg col fun x => x.hasCI) = true <;> by_cases hm : (rg, col) ∈ s.ci <;> simp [hp, hm]

/-- non-vacuity: two row groups, the second chunk of each without column index (no bounds) and
    only chunk (1,0) with a bloom filter, plaintext-footer style sealed metadata everywhere:
    `OpenFile(SkipPageIndex)` opens footer and column metadata; the lazy calls open their own
    module once; a chunk without column index opens nothing -/
example :
    let ch (ci bloom : Bool) : FChunk := { sealedMeta := true, hasCI := ci, hasOI := true, hasBloom := bloom }
    let f : FFile := [[ch true false, ch false false], [ch true true, ch false false]]
    let out := frun f [.openFile true, .columnIndex 1 0, .columnIndex 1 0, .columnIndex 0 1, .bloom 1 0, .offsetIndex 0 1]
    out.2 = [5, 6, 6, 6, 8, 9] ∧
    out.1.log.map (·.slot) = [.footer, .columnMeta 0 0, .columnMeta 0 1, .columnMeta 1 0, .columnMeta 1 1,
      .columnIndex 1 0, .bloomHeader 1 0, .bloomBits 1 0, .offsetIndex 0 1] := by decide +kernel

/-- an eager `OpenFile` opens every index present, after which the lazy calls open nothing -/
example :
    let ch (ci : Bool) : FChunk := { sealedMeta := false, hasCI := ci, hasOI := true, hasBloom := false }
    let f : FFile := [[ch true, ch false]]
    let out := frun f [.openFile false, .columnIndex 0 0, .offsetIndex 0 1]
    out.2 = [4, 4, 4] ∧
    out.1.log.map (·.slot) = [.footer, .columnIndex 0 0, .offsetIndex 0 0, .offsetIndex 0 1] := by decide +kernel

section aead
variable {K N C : Type} (A : AEAD K N C)

/-- a module sealed by the writer (any write history) in some slot is opened by the reader paths
    outside the page reader, in any history of calls, and yields the plaintext -/
theorem file_api_roundtrip (hI : Ideal A) (cfg : WCfg) (wops : List WOp)
    (f : FFile) (ops : List FOp) (pfx : Bytes) (fuOf : Nat → Bytes)
    (ew : WEv) (hw : ew ∈ wclose cfg (wrun cfg wops)) (er : Ev) (hr : er ∈ (frun f ops).1.log)
    (hslot : ew.slot = er.slot) (k : K) (n : N) (p : Bytes) :
    openModule A k (er.used.aad pfx (fuOf (wrun cfg wops).gen)) (sealModule A k n (ew.aad pfx fuOf) p) = some p :=
  wclose_roundtrip hI (winv_run wops) hw (file_reader_ordinals_agree f ops er hr) hslot pfx fuOf k n p

end aead

example : Ideal symAEAD := symAEAD_ideal

end PqModel.Props.C18File
