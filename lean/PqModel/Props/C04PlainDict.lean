import PqModel.PlainDict
import PqModel.Props.C04Plain
import PqModel.Props.C04Rle

/-! # C04 (part "plain") — the Go DECODERS of PLAIN / BYTE_STREAM_SPLIT and the
dictionary-encoded column

* the Go decoders (mirrors in `PqModel/PlainDict.lean`) return on EVERY byte string what the SPEC
  decoder returns, error included — so they read every conformant stream, whoever wrote it — and the
  BYTE_STREAM_SPLIT FIXED_LEN_BYTE_ARRAY decoder, which writes its destination by index, does so for
  every former content of that destination;
* dictionary-encoded columns: what the Go read path (dictionary page, RLE_DICTIONARY index page,
  `newIndexedPage`, lookup) returns for a conformant page is what the SPEC reader returns, for every
  segmentation of the index stream into runs, every declared bit width, padded last groups, and
  every content of the recycled index buffer; the writer's own pages round-trip through both.
* a truncated index stream (fewer ids than the page's value count) is NOT conformant: the SPEC
  reader refuses it; the Go reader accepts it and supplies id 0 — characterised below.
A bare `example` after a theorem shows that its hypotheses can be met, or runs a decoder on one input. -/
namespace PqModel.Props.C04PlainDict
open PqModel.Plain PqModel.PlainDict PqModel.Rle

/-! ## PLAIN: Go decoder = SPEC decoder on every input -/

theorem plain_go_decoder_int32 (src : Bytes) : goDecFixed 4 src = ofOption (specDecFixed 4 src) :=
  goDecFixed_eq_spec 4 (by decide) src
theorem plain_go_decoder_int64 (src : Bytes) : goDecFixed 8 src = ofOption (specDecFixed 8 src) :=
  goDecFixed_eq_spec 8 (by decide) src
theorem plain_go_decoder_int96 (src : Bytes) : goDecFixed 12 src = ofOption (specDecFixed 12 src) :=
  goDecFixed_eq_spec 12 (by decide) src
/-- FLOAT/DOUBLE are the same code on bit patterns (k = 4, 8); any width at once: -/
theorem plain_go_decoder_fixed (k : Nat) (hk : 0 < k) (src : Bytes) :
    goDecFixed k src = ofOption (specDecFixed k src) := goDecFixed_eq_spec k hk src
example : (0 : Nat) < 12 := by decide

/-- Decode ∘ Encode = id for the Go pair (mirror level), every list of `k`-byte patterns -/
theorem plain_go_roundtrip_fixed (k : Nat) (hk : 0 < k) (xs : List Nat) (h : ∀ x ∈ xs, x < 2 ^ (8 * k)) :
    goDecFixed k (encFixed k xs) = .ok xs := by
  rw [goDecFixed_eq_spec k hk, specDecFixed_encFixed k hk xs h]; rfl
example : ∀ x ∈ [0, 1, 4294967295], x < 2 ^ (8 * 4) := by decide

theorem plain_go_decoder_flba (size : Nat) (hs : 0 < size) (src : Bytes) :
    goDecFLBA size src = ofOption ((specDecFixedBytes size src).map List.flatten) := by
  unfold goDecFLBA specDecFixedBytes
  have hs0 : ¬ size = 0 := by omega
  simp only [hs0, if_false]
  split
  · simp [ofOption]
  · rename_i h
    have h' : src.length % size = 0 := by omega
    have hl : src.length = size * (src.length / size) := by
      have := Nat.div_add_mod src.length size
      omega
    simp [ofOption, chunks_flatten_self size _ src hl]
example : (0 : Nat) < 16 := by decide

/-- outside the assumption "size ≥ 1": PLAIN `DecodeFixedLenByteArray` with size 0 is a run-time
    panic (integer division by zero), where the BYTE_STREAM_SPLIT twin reports an error -/
theorem plain_go_decoder_flba_size0 (src : Bytes) :
    goDecFLBA 0 src = .panic ∧ goBssDecFLBA 0 [] src = .err := by simp [goDecFLBA, goBssDecFLBA]

/-- BYTE_ARRAY: the Go decoder (mirror of plain.go:76-94, tight source buffer) returns values exactly
    on the streams the SPEC decoder reads, and the same values; elsewhere it may panic (`goDecByteArray_panics_on_overrun`). -/
theorem plain_go_decoder_byte_array_complete (src : Bytes) (vs : List Bytes) :
    goDecByteArray src = .ok vs ↔ specDecByteArray src = some vs :=
  goDecByteArray_iff src vs
example : specDecByteArray [1, 0, 0, 0, 7] = some [[7]] := by decide

/-! ## BYTE_STREAM_SPLIT: Go decoders = SPEC decoder on every input -/

theorem bss_spec_forms_agree (k : Nat) (bs : Bytes) : bssSpecDecIdx k bs = bssSpecDec k bs :=
  bssSpecDecIdx_eq_bssSpecDec k bs

theorem bss_go_decoder_float (src : Bytes) : goBssDecFixed 4 src = ofOption (bssSpecDecFixed 4 src) :=
  goBssDecFixed_eq_spec 4 (by decide) src
theorem bss_go_decoder_double (src : Bytes) : goBssDecFixed 8 src = ofOption (bssSpecDecFixed 8 src) :=
  goBssDecFixed_eq_spec 8 (by decide) src

theorem bss_go_roundtrip_fixed (k : Nat) (hk : 0 < k) (xs : List Nat) (h : ∀ x ∈ xs, x < 2 ^ (8 * k)) :
    goBssDecFixed k (bssEncFixed k xs) = .ok xs := by
  rw [goBssDecFixed_eq_spec k hk, bssSpecDecFixed_bssEncFixed k hk xs h]; rfl
example : ∀ x ∈ [0, 1, 4294967295], x < 2 ^ (8 * 4) := by decide

/-- FIXED_LEN_BYTE_ARRAY: for every former content `stale` of the reused destination -/
theorem bss_go_decoder_flba (size : Nat) (stale src : Bytes) :
    goBssDecFLBA size stale src = ofOption ((bssSpecDec size src).map List.flatten) := by
  rw [← bssSpecDecIdx_eq_bssSpecDec]; exact goBssDecFLBA_eq_spec size stale src

/-- the result does not depend on what the destination held -/
theorem bss_go_decoder_flba_history_independent (size : Nat) (stale₁ stale₂ src : Bytes) :
    goBssDecFLBA size stale₁ src = goBssDecFLBA size stale₂ src := by
  rw [goBssDecFLBA_eq_spec, goBssDecFLBA_eq_spec]

theorem bss_go_roundtrip_flba (size : Nat) (hs : 0 < size) (stale : Bytes) (vs : List Bytes)
    (h : ∀ v ∈ vs, v.length = size) : goBssDecFLBA size stale (bssEnc size vs) = .ok vs.flatten := by
  rw [goBssDecFLBA_eq_spec, bssSpecDecIdx_bssEnc size hs vs h]; rfl
example : ∀ v ∈ [[1, 2, 3], [0xFF, 0, 7]], (v : Bytes).length = 3 := by decide

/-! ## RLE_DICTIONARY index pages and `newIndexedPage` -/

/-- the page built from the decoded ids does not depend on what the recycled buffer held -/
theorem indexed_page_history_independent (values stale₁ stale₂ : List Nat) (size : Nat) :
    goNewIndexedPage values stale₁ size = goNewIndexedPage values stale₂ size := by
  rw [goNewIndexedPage_eq, goNewIndexedPage_eq]

/-- Every conformant index page — any declared width `w ≤ 32`, any segmentation into RLE and
    bit-packed runs the Go decoder frames like the format (`ValidRleGoW`), a padded last group
    (`n ≤ ys.length`) — is read by the Go path exactly as by the SPEC reader, for every buffer
    content. -/
theorem go_index_page_of_valid {w : Nat} {ys bs : List Nat} (hw : w ≤ 32) (h : ValidRleGoW w ys bs)
    (n : Nat) (hn : n ≤ ys.length) (stale : List Nat) :
    specDecodeDict n (w :: bs) = .ok (ys.take n) ∧
    goDecodeDict (w :: bs) = .ok ys ∧ goNewIndexedPage ys stale n = ys.take n := by
  have hv : ValidRle w ys bs := by
    obtain ⟨rs, h1, _, h3, h4⟩ := h; exact ⟨rs, h1, h3, h4⟩
  refine ⟨?_, ?_, ?_⟩
  · have a : ¬ w > 32 := by omega
    simpa [specDecodeDict, a] using PqModel.Props.C04Rle.specDecode_of_valid hv n hn
  · simpa [goDecodeDict] using PqModel.Props.C04Rle.goDecodeInt32_of_valid hw h
  · rw [goNewIndexedPage_eq]
    have : n - ys.length = 0 := by omega
    simp [this]
example : ValidRleGoW 3 [5, 5, 5] [6, 5] :=
  ⟨[.rle 3 [5]], by simp [Run.WF], by simp [Run.GoOKW, leNat], by simp [runsValues, Run.values, leNat],
    by simp [serialize, Run.bytes, uvarint_small]⟩

/-- A stream that ends early (the runs hold `ys`, fewer than the `n` values of the page) is
    accepted by the Go path and read as `ys` followed by id 0, for every buffer content. -/
theorem go_short_index_stream_is_zero_extended {w : Nat} {ys bs : List Nat} (hw : w ≤ 32)
    (h : ValidRleGoW w ys bs) (n : Nat) (hn : ys.length < n) (stale : List Nat) :
    goDecodeDict (w :: bs) = .ok ys ∧
    goNewIndexedPage ys stale n = ys ++ List.replicate (n - ys.length) 0 := by
  refine ⟨by simpa [goDecodeDict] using PqModel.Props.C04Rle.goDecodeInt32_of_valid hw h, ?_⟩
  rw [goNewIndexedPage_eq, List.take_of_length_le (by omega)]
example : ValidRleGoW 2 [1, 1, 1] [6, 1] ∧ [1, 1, 1].length < 12 :=
  ⟨⟨[.rle 3 [1]], by simp [Run.WF], by simp [Run.GoOKW, leNat], by simp [runsValues, Run.values, leNat],
    by simp [serialize, Run.bytes, uvarint_small]⟩, by decide⟩

/-- … which the format does not allow: witnesses on which the SPEC reader refuses the page (the
    bit-width byte alone; one run of 5 at width 0; 3 × id 1 at width 2 — all for 12 values) while
    the Go path returns ids, whatever the buffer held (here: all 2s). -/
theorem short_index_stream_not_conformant :
    (specDecodeDict 12 [0]).toOption = none ∧
    (specDecodeDict 12 [0, 10]).toOption = none ∧
    (specDecodeDict 12 [2, 6, 1]).toOption = none ∧
    ((goDecodeDict [0]).toOption.map (goNewIndexedPage · (List.replicate 12 2) 12)) = some (List.replicate 12 0) ∧
    ((goDecodeDict [2, 6, 1]).toOption.map (goNewIndexedPage · (List.replicate 9 2) 12))
      = some ([1, 1, 1] ++ List.replicate 9 0) := by decide

/-! ## the whole column -/

section
variable {α : Type}

/-- READ side. `decS`/`decG` are the PLAIN SPEC / Go decoders of the column type; on a conformant
    dictionary page they return the same entries `d` (`plain_go_decoder_*`,
    `plain_go_decoder_byte_array_complete`). A conformant dictionary page (`numDict` values) and a conformant index page
    (`ValidRleGoW`, `n` values taken) are read by the Go path as by the SPEC reader; when the SPEC
    reader returns values (all ids inside the dictionary) the Go path returns the same values,
    for every content of the recycled index buffer. -/
theorem go_dict_column_of_valid (decS : Bytes → Option (List α)) (decG : Bytes → GoRes (List α))
    (dictPage : Bytes) (d : List α) (hd : decS dictPage = some d) (hg : decG dictPage = .ok d)
    {w : Nat} {ys bs : List Nat} (hw : w ≤ 32) (h : ValidRleGoW w ys bs) (n : Nat) (hn : n ≤ ys.length)
    (stale : List Nat) :
    specDictColumn decS d.length dictPage n (w :: bs) = lookupAll d (ys.take n) ∧
    goDictColumn decG d.length dictPage n (w :: bs) stale =
      okOrPanic (lookupAll d (ys.take n)) := by
  obtain ⟨h1, h2, h3⟩ := go_index_page_of_valid hw h n hn stale
  constructor
  · simp [specDictColumn, hd, h1]
  · simp [goDictColumn, hg, h2, h3]
example : specDecFixed 4 [7, 0, 0, 0, 9, 0, 0, 0] = some [7, 9] ∧ goDecFixed 4 [7, 0, 0, 0, 9, 0, 0, 0] = .ok [7, 9] := by
  decide

variable [DecidableEq α]

/-- WRITE then READ. The writer numbers the values by first occurrence (`insertAll`, tied to the Go
    dictionaries by `goDict_refines`), PLAIN-encodes the entries (`enc`) and
    RLE_DICTIONARY-encodes the ids (`encodeDict`, mirror of `DictionaryEncoding.EncodeInt32`). For
    every value list the SPEC reader and the Go read path give the values back, for every buffer
    content. -/
theorem dict_column_roundtrip (enc : List α → Bytes) (decS : Bytes → Option (List α))
    (decG : Bytes → GoRes (List α))
    (xs : List α) (hrt : decS (enc (insertAll [] xs).1) = some (insertAll [] xs).1)
    (hrtG : decG (enc (insertAll [] xs).1) = .ok (insertAll [] xs).1)
    (hl : xs.length ≤ 2 ^ 31 - 1) (stale : List Nat) :
    ∃ page, encodeDict (insertAll [] xs).2 = .ok page ∧
      specDictColumn decS (insertAll [] xs).1.length (enc (insertAll [] xs).1) xs.length page = some xs ∧
      goDictColumn decG (insertAll [] xs).1.length (enc (insertAll [] xs).1) xs.length page stale = .ok xs := by
  have hlen : (insertAll [] xs).2.length = xs.length := insertAll_length [] xs
  have hdl := insertAll_fst_length_le ([] : List α) xs
  simp only [List.length_nil, Nat.zero_add] at hdl
  have hx : ∀ i ∈ (insertAll [] xs).2, i < 2 ^ 32 := by
    intro i hi; have := insertAll_index_lt [] xs i hi; omega
  have hlook := lookupAll_insertAll xs ([] : List α)
  have r1 := PqModel.Props.C04Rle.rle_roundtrip_dict (insertAll [] xs).2 xs.length hx (by omega)
  have r2 := PqModel.Props.C04Rle.go_roundtrip_dict (insertAll [] xs).2 hx (by omega)
  cases he : encodeDict (insertAll [] xs).2 with
  | error e => rw [he] at r1; simp [bind, Except.bind] at r1
  | ok page =>
    rw [he] at r1 r2
    simp only [bind, Except.bind] at r1 r2
    rw [← hlen, List.take_length] at r1
    refine ⟨page, rfl, ?_, ?_⟩
    · simp [specDictColumn, hrt, hlen ▸ r1, hlook]
    · have hpage : goNewIndexedPage (insertAll [] xs).2 stale xs.length = (insertAll [] xs).2 := by
        rw [goNewIndexedPage_eq, ← hlen]; simp
      simp [goDictColumn, hrtG, r2, hpage, hlook, okOrPanic]
example : specDecFixed 4 (encFixed 4 (insertAll [] [5, 5, 6]).1) = some (insertAll [] [5, 5, 6]).1 ∧
    goDecFixed 4 (encFixed 4 (insertAll [] [5, 5, 6]).1) = .ok (insertAll [] [5, 5, 6]).1 := by decide

end

/-- instance: INT32/INT64/INT96/FLOAT/DOUBLE columns (`k`-byte bit patterns) -/
theorem dict_column_roundtrip_fixed (k : Nat) (hk : 0 < k) (xs : List Nat) (hx : ∀ x ∈ xs, x < 2 ^ (8 * k))
    (hl : xs.length ≤ 2 ^ 31 - 1) (stale : List Nat) :
    ∃ page, encodeDict (insertAll [] xs).2 = .ok page ∧
      specDictColumn (specDecFixed k) (insertAll [] xs).1.length (encFixed k (insertAll [] xs).1) xs.length page
        = some xs ∧
      goDictColumn (goDecFixed k) (insertAll [] xs).1.length (encFixed k (insertAll [] xs).1) xs.length page stale
        = .ok xs := by
  have hsub : ∀ y ∈ (insertAll [] xs).1, y < 2 ^ (8 * k) := fun y hy =>
    (mem_insertAll [] xs y hy).elim (by simp) (hx y)
  have hrt := specDecFixed_encFixed k hk (insertAll [] xs).1 hsub
  exact dict_column_roundtrip (encFixed k) (specDecFixed k) (goDecFixed k) xs hrt
    (by rw [goDecFixed_eq_spec k hk, hrt]; rfl) hl stale
example : (∀ x ∈ [7, 7, 9], x < 2 ^ (8 * 4)) ∧ [7, 7, 9].length ≤ 2 ^ 31 - 1 := by decide

/-- instance: BYTE_ARRAY columns (Go decoder = mirror of `DecodeByteArray`) -/
theorem dict_column_roundtrip_byte_array (xs : List Bytes) (hx : ∀ x ∈ xs, x.length < 2 ^ 32)
    (hl : xs.length ≤ 2 ^ 31 - 1) (stale : List Nat) :
    ∃ page, encodeDict (insertAll [] xs).2 = .ok page ∧
      specDictColumn specDecByteArray (insertAll [] xs).1.length (encByteArray (insertAll [] xs).1) xs.length page
        = some xs ∧
      goDictColumn goDecByteArray (insertAll [] xs).1.length (encByteArray (insertAll [] xs).1) xs.length page stale
        = .ok xs := by
  have hsub : ∀ y ∈ (insertAll [] xs).1, y.length < 2 ^ 32 := fun y hy =>
    (mem_insertAll [] xs y hy).elim (by simp) (hx y)
  have hrt := PqModel.Props.C04Plain.plain_roundtrip_byte_array (insertAll [] xs).1 hsub
  have hrtG := PqModel.Props.C04Plain.goDecByteArray_roundtrip (insertAll [] xs).1 hsub
  exact dict_column_roundtrip encByteArray specDecByteArray goDecByteArray xs hrt hrtG hl stale
example : (∀ x ∈ [[], [1, 2], [1, 2]], (x : Bytes).length < 2 ^ 32) := by decide

end PqModel.Props.C04PlainDict
