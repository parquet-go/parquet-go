import Driver.Proto
import PqModel.SortCmp
import PqModel.SortRep
import PqModel.SortNested
import PqModel.SortCuts
import PqModel.Dedupe
import PqModel.SortBytes

/-! C10 ops: the range kernel and the optional column buffer mirror run over a history.

`bcast <asm|purego> <base> <n>`            -> `ok <dst as signed int32 list>`
`optcol <asm|purego> <m> <nullsFirst 0/1> <desc 0/1> <op>…` -> `ok rows=… defs=… base=… less=…`
   ops: `n:<d>:<k>` k null rows of level d written one by one (-1) · `N:<d>:<k>` a null run of the
        typed path (`broadcastValueInt32`) · `v:<x;y;…>` a run of values · `s:<i>:<j>` Swap ·
        `l:<i>:<j>` Less (one result bit each, in order) · `p` Page()
`repcol <m> <nullsFirst 0/1> <desc 0/1> <op>…` -> `ok rows=<off/base,…> lv=<rep/def,…> base=… less=…`
   ops: `w:<rep/def/value|n;…>` one row · `s:<i>:<j>` · `l:<i>:<j>` · `p`

`bufconf <maxRep> <maxDef> <sorted 0/1> <desc 0/1> <nullsFirst 0/1>` -> `ok wrap=<plain|optional|repeated> reversed=<0/1> ord=<4 bits|->`
   what `Buffer.configure` sets up for a leaf with these inherited levels (`ord`: the probe table of
   the null ordering function, `ordTable`; `-` for a plain buffer)
`swcuts <sortRowCount> <dedupe 0/1> <op>…` -> `ok runs=<size,…> buf=<n>`
   ops: `w:<k;k;…>` one Write/WriteRows call with these keys · `f` Flush; `runs`: the number of rows
   of every temporary row group after `Close`'s flush (after duplicate dropping per run if asked)

`bacol <op>…` -> `ok off=<offsets> end=<end offset|n> len=<lengths> vals=<hex> page=<hex;hex;…|none|empty>`
   the byte array column buffer: ops `w:<hex|->` one value · `s:<i>:<j>` Swap · `p` page();
   `page`: the values of the page handed out by the LAST `p` (value i = values[off[i]:off[i+1]])

The definitions below select the mirror of the library *as it currently is* (after the repairs
F13/F14/F24; the as-found transliterations `bcastAsmF14`, `OptCol.pageF24`, `Col.lessF13` stay in the
model for the negation witnesses of `Props/C10.lean`). -/
namespace Driver.Ops.C10
open Driver PqModel.SortBuf

/-- mirror of `broadcastRangeInt32` in the assembly build -/
def asmKernel : BitVec 32 → Nat → List (BitVec 32) := bcastAsm
/-- mirror of `optionalColumnBuffer.Page` -/
def pageCur (m : Nat) (c : OptCol Int) : OptCol Int := c.page m
/-- mirror of the `Less` of a sorting column as `Buffer.configure` sets it up -/
def lessCur (desc nullsFirst : Bool) (c : Col Int) (i j : Nat) : Bool :=
  let leaf : Leaf := match c with
    | .req _ => { maxRep := 0, maxDef := 0 }
    | .opt m _ => { maxRep := 0, maxDef := m }
  Col.lessConf (fun a b => decide (a < b)) (configure leaf (some ⟨0, desc, nullsFirst⟩)) c i j
/-- mirror of `Buffer.configure` for one leaf -/
def configureCur (l : Leaf) (sc : Option SortCol) : Conf := configure l sc

def kernelFn (variant : String) : Option (BitVec 32 → Nat → List (BitVec 32)) :=
  if variant == "asm" then some asmKernel
  else if variant == "purego" then some bcastScalar
  else none

structure St where
  col : OptCol Int
  less : List Bool

def parse2 (a b : String) : Option (Nat × Nat) :=
  match a.toNat?, b.toNat? with
  | some x, some y => some (x, y)
  | _, _ => none

def stepOp (k : Kernel) (purego : Bool) (m : Nat) (desc nf : Bool) (st : St) (tok : String) : Option St :=
  match tok.splitOn ":" with
  | ["n", d, n] => (parse2 d n).map fun (d, n) => { st with col := st.col.write k m (.nulls d n) }
  | ["N", d, n] => (parse2 d n).map fun (d, n) => { st with col := st.col.write k m (.nulls d n (nullMark purego)) }
  | ["v", vs] => ((vs.splitOn ";").mapM parseInt?).map fun vs => { st with col := st.col.write k m (.vals vs) }
  | ["s", i, j] => (parse2 i j).map fun (i, j) => { st with col := st.col.swap i j }
  | ["l", i, j] => (parse2 i j).map fun (i, j) => { st with less := lessCur desc nf (.opt m st.col) i j :: st.less }
  | ["p"] => some { st with col := pageCur m st.col }
  | _ => none

def showInts (xs : List Int) : String := showList (fun (x : Int) => toString x) xs


/-! ### repeated column buffer -/

structure RSt where
  col : RepCol Int
  less : List Bool

def parseCell (t : String) : Option (RCell Int) :=
  match t.splitOn "/" with
  | [r, d, v] =>
    match r.toNat?, d.toNat?, (if v == "n" then some none else (v.toInt?).map some) with
    | some r, some d, some v => some (r, d, v)
    | _, _, _ => none
  | _ => none

/-- mirror of the `Less` of a repeated sorting column as `Buffer.configure` sets it up -/
def repLessCur (m : Nat) (desc nf : Bool) (c : RepCol Int) (i j : Nat) : Bool :=
  let leaf : Leaf := { maxRep := 1, maxDef := m }
  RepCol.lessConf (fun a b => decide (a < b)) (configureCur leaf (some ⟨0, desc, nf⟩)) m c i j

def rstepOp (m : Nat) (desc nf : Bool) (st : RSt) (tok : String) : Option RSt :=
  match tok.splitOn ":" with
  | ["w", cs] => ((cs.splitOn ";").mapM parseCell).map fun row => { st with col := st.col.writeRow row }
  | ["s", i, j] => (parse2 i j).map fun (i, j) => { st with col := st.col.swap i j }
  | ["l", i, j] => (parse2 i j).map fun (i, j) =>
      { st with less := repLessCur m desc nf st.col i j :: st.less }
  | ["p"] => some { st with col := st.col.page m }
  | _ => none

def showPairs (xs : List (Nat × Nat)) : String := showList (fun (p : Nat × Nat) => s!"{p.1}/{p.2}") xs

def handleRep (toks : List String) : Option String :=
  match toks with
  | "repcol" :: m :: nf :: desc :: ops => some <|
    match parseNat? m with
    | some m =>
      match ops.foldlM (rstepOp m (desc == "1") (nf == "1")) { col := RepCol.empty, less := [] } with
      | some st =>
        let bits := if st.less.isEmpty then "-" else String.ofList (st.less.reverse.map fun b => if b then '1' else '0')
        s!"ok rows={showPairs st.col.rows} lv={showPairs st.col.lv} base={showInts st.col.base} less={bits}"
      | none => "bad-op"
    | none => "bad-op"
  | _ => none

/-! ### `Buffer.configure` and the `SortingWriter` run cuts -/

def showBits (bs : List Bool) : String := String.ofList (bs.map fun b => if b then '1' else '0')

def parseCutOp (tok : String) : Option (SWOp Int) :=
  match tok.splitOn ":" with
  | ["f"] => some .flush
  | ["w", ks] => if ks == "" then some (.write []) else ((ks.splitOn ";").mapM parseInt?).map .write
  | _ => none

def handleConf (toks : List String) : Option String :=
  match toks with
  | ["bufconf", mr, md, sorted, desc, nf] => some <|
    match parseNat? mr, parseNat? md with
    | some mr, some md =>
      let sc : Option SortCol := if sorted == "1" then some ⟨0, desc == "1", nf == "1"⟩ else none
      let cf := configureCur { maxRep := mr, maxDef := md } sc
      let wrap := match cf.wrap with | .plain => "plain" | .optional => "optional" | .repeated => "repeated"
      let ord := match cf.wrap with | .plain => "-" | _ => showBits (ordTable cf.nullsFirst cf.descValues)
      s!"ok wrap={wrap} reversed={if cf.reversed then 1 else 0} ord={ord}"
    | _, _ => "bad-op"
  | "swcuts" :: maxRows :: dedupe :: ops => some <|
    match parseNat? maxRows, ops.mapM parseCutOp with
    | some maxRows, some ops =>
      let w := (SW.empty.run maxRows ops).close
      let size := fun (run : List Int) =>
        if dedupe == "1" then (dedupRun (fun a b => a - b) none (run.mergeSort (fun a b => decide (a ≤ b)))).length else run.length
      s!"ok runs={showList (fun (n : Nat) => toString n) (w.runs.map size)} buf={w.buf.length}"
    | _, _ => "bad-op"
  | _ => none

/-! ### byte array column buffer -/

/-- mirror of `byteArrayColumnBuffer.page` (as repaired) -/
def baPageCur (c : BACol UInt8) : BACol UInt8 := c.page

structure BSt where
  col : BACol UInt8
  page : Option (List (List UInt8))

def bstepOp (st : BSt) (tok : String) : Option BSt :=
  match tok.splitOn ":" with
  | ["w", h] => (parseHex? h).map fun v => { st with col := st.col.write v }
  | ["s", i, j] => (parse2 i j).map fun (i, j) => { st with col := st.col.swap i j }
  | ["p"] => let c := baPageCur st.col; some { col := c, page := some c.pageValues }
  | _ => none

def handleBA (toks : List String) : Option String :=
  match toks with
  | "bacol" :: ops => some <|
    match ops.foldlM bstepOp { col := BACol.empty, page := none } with
    | some st =>
      let nat := fun (n : Nat) => toString n
      let e := match st.col.endOff with | some n => toString n | none => "n"
      let pg := match st.page with
        | none => "none"
        | some [] => "empty"
        | some vs => ";".intercalate (vs.map toHex)
      s!"ok off={showList nat st.col.offsets} end={e} len={showList nat st.col.lengths} vals={toHex st.col.values} page={pg}"
    | none => "bad-op"
  | _ => none

def handle (toks : List String) : Option String :=
  match handleBA toks with
  | some r => some r
  | none =>
  match handleRep toks with
  | some r => some r
  | none =>
  match handleConf toks with
  | some r => some r
  | none =>
  match toks with
  | ["bcast", variant, base, n] => some <|
    match kernelFn variant, parseInt? base, parseNat? n with
    | some f, some b, some n => s!"ok {showInts ((f (BitVec.ofInt 32 b) n).map BitVec.toInt)}"
    | _, _, _ => "bad-op"
  | "optcol" :: variant :: m :: nf :: desc :: ops => some <|
    match kernelFn variant, parseNat? m with
    | some f, some m =>
      match ops.foldlM (stepOp (kernelOf f) (variant == "purego") m (desc == "1") (nf == "1")) { col := OptCol.empty, less := [] } with
      | some st =>
        let bits := if st.less.isEmpty then "-" else String.ofList (st.less.reverse.map fun b => if b then '1' else '0')
        s!"ok rows={showInts st.col.rows} defs={showList (fun (d : Nat) => toString d) st.col.defs} base={showInts st.col.base} less={bits}"
      | none => "bad-op"
    | _, _ => "bad-op"
  | _ => none

end Driver.Ops.C10
