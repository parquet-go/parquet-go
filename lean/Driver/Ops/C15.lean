import Driver.Proto
import PqModel.AsyncTrace
import PqModel.AsyncExec
import PqModel.RowGroupProto
import PqModel.LazyInit

/-! Ops for C15: trace validation of the async page reader against `PqModel.Async`.

    The wrapped reader `U` is described by five tokens:
      `<numRows> <pageStarts> <rdFatal> <skSoft> <skFatal>`
    (page start rows ascending; positions whose read fails fatally; seek targets that fail
    recoverably / fatally). A position is a row index; the page read at row p ends at the next
    page start (or numRows); p >= numRows reads EOF.

    Events (comma separated, `-` = empty log):
      rb ho dl:<res>:<v> dr:<v> rc spd spb ss:<k>:<v> sc cb cr cf ce ca
      pi pd pt:<k>:<v> pe bc bo:<res>:<v> st:<k>:<v> sd
    Results: `p<row>` page read from row, `eof`, `s<code>` recoverable error, `f<code>` fatal error.

    `async.validate U… <events>` -> `ok <nprod> <handed> <released>` if the log is a path of the
       transition system from `init`, else `illegal <index of the first illegal event>`
    `async.seq U… <ops>` (ops: `s<k>` SeekToRow, `r` ReadPage) -> `ok <results>`: the sequential
       reference run (SPEC side)

    `rgproto.run <restore 0|1> <events>`: the ConcurrentRowGroupWriter protocol (`PqModel.RowGroupProto`).
       Events: `b` BeginRowGroup, `f<i>:<x>` one row x into row group writer i, `l<i>` page boundary
       (rg_i.Flush), `c<i>` rg_i.Commit, `w:<x>` one row through the parent writer, `lo` page boundary
       in the parent's row group, `W` parent Flush.
       -> `ok <state after each event, '|' separated> file=<rows of each row group of the MIRROR>
          spec=<rows of each row group of the SPEC> readable=<0|1>`; a state is
          `g<row groups>;<own>;<rg 0>;<rg 1>...`, a row group writer is
          `<await 0|1>.<ordinal>.<buffered rows>.<rows in sealed pages>.<sealed pages>`

    `once.run <wait 0|1> <k> <v> <acts>`: the once-guarded lazy load (`PqModel.OnceLoad`), k callers,
       loaded content v. Acts: `e<i>` caller i reaches the guard, `f<i>` the loader of caller i
       completes, `p<i>` caller i reads the variables and answers.
       -> `ok <outcome per act> loads=<n>`; outcomes: `load` (entered the loader), `pass` (went past the
          guard), `blocked` (waits inside once.Do; the state is unchanged), `ok`, `r<v>` / `rnil` (answered
          from the loaded content / from the zero values), `bad` (not enabled) -/
namespace Driver.Ops.C15
open Driver PqModel.Async

def mkUnder (numRows : Nat) (starts rdFatal skSoft skFatal : List Nat) : Under :=
  { next := fun p => if p < numRows then ((starts.find? (fun s => p < s)).getD numRows) else p,
    rd := fun p => if rdFatal.contains p then .fatal 1 else if p < numRows then .page else .eof,
    sk := fun k => if skFatal.contains k then .fatal 2 else if skSoft.contains k then .soft 3 else .ok }

def parseRes? (s : String) : Option Res :=
  if s == "eof" then some .eof else
  match s.toList with
  | 'p' :: r => (String.ofList r).toNat?.map .page
  | 's' :: r => (String.ofList r).toNat?.map .soft
  | 'f' :: r => (String.ofList r).toNat?.map .fatal
  | _ => none

def showRes : Res → String
  | .page p => s!"p{p}"
  | .eof => "eof"
  | .soft c => s!"s{c}"
  | .fatal c => s!"f{c}"

def parseEv? (s : String) : Option Ev :=
  match s.splitOn ":" with
  | ["rb"] => some .readBegin
  | ["ho"] => some .handoff
  | ["dl", r, v] => do some (.deliver (← parseRes? r) (← parseNat? v))
  | ["dr", v] => do some (.drop (← parseNat? v))
  | ["rc"] => some .readClosed
  | ["spd"] => some (.seekPoll true)
  | ["spb"] => some (.seekPoll false)
  | ["ss", k, v] => do some (.seekSend (← parseNat? k) (← parseNat? v))
  | ["sc"] => some .seekClosed
  | ["cb"] => some .closeBegin
  | ["cr"] => some .closeRecv
  | ["cf"] => some .closeFinal
  | ["ce"] => some .closeEnd
  | ["ca"] => some .closeAgain
  | ["pi"] => some .initPass
  | ["pd"] => some .initDone
  | ["pt", k, v] => do some (.pollTake (← parseNat? k) (← parseNat? v))
  | ["pe"] => some .pollEmpty
  | ["bc"] => some .bodyCont
  | ["bo", r, v] => do some (.bodyOffer (← parseRes? r) (← parseNat? v))
  | ["st", k, v] => do some (.selTake (← parseNat? k) (← parseNat? v))
  | ["sd"] => some .selDone
  | _ => none

def parseOp? (s : String) : Option Op :=
  if s == "r" then some .read else
  match s.toList with
  | 's' :: r => (String.ofList r).toNat?.map .seek
  | _ => none

def parseUnder? (n st rf ss sf : String) : Option Under := do
  some (mkUnder (← parseNat? n) (← parseList? parseNat? st) (← parseList? parseNat? rf)
    (← parseList? parseNat? ss) (← parseList? parseNat? sf))

namespace Rgp
open PqModel.RowGroupProto

def parseEv? (s : String) : Option (Ev Nat) :=
  if s == "b" then some .begin else
  if s == "lo" then some .flushOwn else
  if s == "W" then some .wflush else
  match s.splitOn ":" with
  | ["w", x] => (parseNat? x).map .write
  | [f, x] =>
    match f.toList with
    | 'f' :: r => do some (.fill (← (String.ofList r).toNat?) (← parseNat? x))
    | _ => none
  | [t] =>
    match t.toList with
    | 'l' :: r => (String.ofList r).toNat?.map .flush
    | 'c' :: r => (String.ofList r).toNat?.map .commit
    | _ => none
  | _ => none

def showRg (r : Rg Nat) : String :=
  let sealed := r.pages.foldl (fun n p => n + p.2.length) 0
  s!"{if r.await then 1 else 0}.{r.ord}.{r.buf.length}.{sealed}.{r.pages.length}"

def showW (w : W Nat) : String :=
  String.intercalate ";" (s!"g{w.groups.length}" :: showRg w.own :: w.rgs.map showRg)

def showGroups (gs : List (List Nat)) : String :=
  if gs.isEmpty then "-" else String.intercalate "/" (gs.map (fun g => String.intercalate "." (g.map toString)))

def states (restore : Bool) : W Nat → List (Ev Nat) → List String
  | _, [] => []
  | w, e :: es => let w' := step restore w e; showW w' :: states restore w' es

end Rgp

def parseAct? (s : String) : Option PqModel.OnceLoad.Act :=
  match s.toList with
  | 'e' :: r => (String.ofList r).toNat?.map .enter
  | 'f' :: r => (String.ofList r).toNat?.map .finish
  | 'p' :: r => (String.ofList r).toNat?.map .probe
  | _ => none

def handle (toks : List String) : Option String :=
  match toks with
  | ["once.run", wait, k, v, acts] => some <|
    match parseNat? k, parseNat? v, parseList? parseAct? acts with
    | some k, some v, some as =>
      let r := PqModel.OnceLoad.runActs (wait == "1") v (PqModel.OnceLoad.init k) as
      s!"ok {showList id r.1} loads={r.2.loads}"
    | _, _, _ => "bad-op"
  | ["rgproto.run", restore, evs] => some <|
    match parseList? Rgp.parseEv? evs with
    | some es =>
      let r := restore == "1"
      let w := PqModel.RowGroupProto.run r es
      let s := PqModel.RowGroupProto.srun es
      let sts := Rgp.states r PqModel.RowGroupProto.init es
      s!"ok {if sts.isEmpty then "-" else String.intercalate "|" sts} file={Rgp.showGroups (w.groups.map PqModel.RowGroupProto.content)} spec={Rgp.showGroups s.out} readable={if PqModel.RowGroupProto.readable w.groups then 1 else 0}"
    | none => "bad-op"
  | ["async.validate", n, st, rf, ss, sf, evs] => some <|
    match parseUnder? n st rf ss sf, parseList? parseEv? evs with
    | some U, some es =>
      match validate U es with
      | .ok g => s!"ok {g.nprod} {showList toString g.handed} {showList toString g.released}"
      | .error i => s!"illegal {i}"
    | _, _ => "bad-op"
  | ["async.seq", n, st, rf, ss, sf, ops] => some <|
    match parseUnder? n st rf ss sf, parseList? parseOp? ops with
    | some U, some os => s!"ok {showList showRes (seqRun U ⟨0, none, none⟩ os)}"
    | _, _ => "bad-op"
  | _ => none

end Driver.Ops.C15
